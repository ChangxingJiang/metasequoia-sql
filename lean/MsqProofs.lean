import MsqProofs.Lemmas.LexSem
import MsqProofs.Lemmas.LexInv
import MsqProofs.Lemmas.LexWK
import MsqProofs.Lemmas.LexLossless
import MsqProofs.Lemmas.ParseTextInv
import MsqProofs.Lemmas.StmtDispatch
import MsqProofs.Props.C04
import MsqProofs.Props.C02
import MsqProofs.Props.C03
import MsqProofs.Props.C14
import MsqProofs.Props.C20
import MsqProofs.Props.C19
import MsqProofs.Props.C19P
import MsqProofs.Props.C19T
import MsqProofs.Lemmas.CacheLemmas
import MsqProofs.Props.C17
import MsqProofs.Props.C12
import MsqProofs.Props.C15
import MsqProofs.Lemmas.ValPred
import MsqProofs.Props.C11
import MsqProofs.Props.C16
import MsqProofs.Props.C18
import MsqProofs.Props.C05
import MsqProofs.Lemmas.PrintLemmas
import MsqProofs.Props.C13
import MsqProofs.Props.C06
import MsqProofs.Props.C06b
import MsqProofs.Props.C06P
import MsqProofs.Props.C09
import MsqProofs.Lemmas.ParseNoPyPrim
import MsqProofs.Lemmas.ParseNoPy
import MsqProofs.Lemmas.ParseNoPyStmt
import MsqProofs.Lemmas.LexNoPy
import MsqProofs.Oblig.LexNoPyCfg
import MsqProofs.Props.C07
import MsqProofs.Props.C10
import MsqProofs.Lemmas.ParseEntriesMono
import MsqProofs.Props.C07Fuel
import MsqProofs.Props.C08
import MsqProofs.Props.C08A
import MsqProofs.Props.C08D
import MsqProofs.Props.C04b
import MsqProofs.Props.C04c
import MsqProofs.Props.C02T
import MsqProofs.Props.C03T
import MsqProofs.Props.C01T
import MsqProofs.Lemmas.ParseAdq
import MsqProofs.Lemmas.ParseAdqStmt
import MsqProofs.Props.C07Adq
import MsqProofs.Props.C03L
import MsqProofs.Lemmas.Dict
import MsqProofs.Lemmas.ExceptLemmas
import MsqProofs.Lemmas.LineageStore
import MsqProofs.Lemmas.LineageLevel
import MsqProofs.Lemmas.LineageNest
import MsqProofs.Props.C16b
import MsqProofs.Props.C02T2
import MsqProofs.Lemmas.LineageSet
import MsqProofs.Props.C16c
import MsqProofs.Lemmas.LineageSetStar
import MsqProofs.Props.C03Q
import MsqProofs.Props.C03QL
import MsqProofs.Props.C03QL2
import MsqProofs.Props.C10T
import MsqProofs.Lemmas.LexScriptPrinted
import MsqProofs.Props.C09S
import MsqProofs.Props.C18T
import MsqProofs.Props.C18L
import MsqProofs.Props.C03D
import MsqProofs.Props.C03Q2
import MsqProofs.Props.C07E2
import MsqProofs.Lemmas.TQuery2I
import MsqProofs.Props.C14T
import MsqProofs.Props.C15T
import MsqProofs.Props.C09P
import MsqProofs.Props.C02W
import MsqProofs.Props.C03R
import MsqProofs.Props.C03RL
import MsqProofs.Props.C03R3
import MsqProofs.Props.C03RL2
import MsqProofs.Props.C09K
