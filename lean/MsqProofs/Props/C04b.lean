import MsqProofs.Props.C04
import MsqProofs.Props.C05
import MsqProofs.Lemmas.LexScan
import MsqProofs.Oblig.ScanCfg0
import MsqProofs.Oblig.ScanCfg1
import MsqProofs.Oblig.ScanCfg2
import MsqProofs.Oblig.ScanCfg3
import MsqProofs.Oblig.ScanCfg4
import MsqProofs.Oblig.ScanCfg5
import MsqProofs.Oblig.ScanCfg6
import MsqProofs.Oblig.ScanCfg7
/-!
# C04 (b), (c) — bracket structure

(b)+(c) `C04.bracket_skeleton`: for all 8 settings and every accepted text, the bracket skeleton of the token tree
(pre-order: `opn`, the children, `cls k` for a group of kind `k`) IS the bracket skeleton of the pre-processed input as
seen by a structural scanner (`Scan.bracketSkeleton`, `MsqProofs/Lemmas/LexScan.lean`) that knows only quotes, comments,
brackets and where a bare token ends — no table, no windows, no stack.  Read as a statement about the lexer:
every `(` / `[` outside quotes and comments opens exactly one group, every `)` / `]` closes exactly the innermost open
one, groups nest as the brackets do, the depth never goes negative and is zero at the end.

The two findings stay visible:
* F-C04-1: the event of an opening bracket is the kind-less `Ev.opn`, the kind of a group is that of its CLOSING
  bracket (`cls paren` for `)`, `cls slice` for `]`): mixed pairs are accepted (`witness_kind_of_closing`);
* F-C04-2 concerns rendering and is visible in (d), `C04c.lean`.

`C04.unbalanced_rejected_all`: a text whose bracket skeleton is unbalanced is not accepted (any setting).
-/
namespace C04
open Lex Scan

theorem mem_allCls (c : Gen.Cls) : c ∈ Gen.allCls := by cases c <;> decide

theorem cfgOf_eq (i : Fin 8) : cfgOf i = C05.cfgOf i := by
  match i with
  | 0 => rfl | 1 => rfl | 2 => rfl | 3 => rfl | 4 => rfl | 5 => rfl | 6 => rfl | 7 => rfl

theorem summarizable (i : Fin 8) (c : Gen.Cls) : (summarize ((cfgOf i).code c)).isSome = true := by
  have h : ∀ (cfg : Cfg Gen.Cls), Gen.allCls.all (fun c => (summarize (cfg.code c)).isSome) = true →
      (summarize (cfg.code c)).isSome = true := fun cfg h => (List.all_eq_true.mp h) c (mem_allCls c)
  exact forall_settings (P := fun i => (summarize ((cfgOf i).code c)).isSome = true) (h _ Oblig.summarizable_cfg0)
    (h _ Oblig.summarizable_cfg1) (h _ Oblig.summarizable_cfg2) (h _ Oblig.summarizable_cfg3) (h _ Oblig.summarizable_cfg4)
    (h _ Oblig.summarizable_cfg5) (h _ Oblig.summarizable_cfg6) (h _ Oblig.summarizable_cfg7) i

theorem scanSim : ∀ i : Fin 8, simCheck (cfgOf i) = true :=
  forall_settings Oblig.scanSim_cfg0 Oblig.scanSim_cfg1 Oblig.scanSim_cfg2 Oblig.scanSim_cfg3 Oblig.scanSim_cfg4 Oblig.scanSim_cfg5
    Oblig.scanSim_cfg6 Oblig.scanSim_cfg7

/-- the table does not distinguish characters the grammar does not distinguish (from the C05 agreement) -/
theorem lookup_norm (i : Fin 8) (s : S) (n : Nat) :
    Spec.lookupN (cfgOf i) s n = Spec.lookupN (cfgOf i) s (Spec.norm n) := by
  rw [cfgOf_eq]; exact Spec.lookupN_norm _ _ (C05.agreeFin_all i) s n

/-- **C04.bracket_skeleton** (b, c): all 8 settings, every accepted text. -/
theorem bracket_skeleton (i : Fin 8) (raw : List Char) (ts : List Tok) (h : lex (cfgOf i) raw = .ok ts) :
    skelL ts = bracketSkeleton ((cfgOf i).pre raw) :=
  lex_scan (cfgOf i) (summarizable i) (lookup_norm i) (scanSim i) (depth_le i) raw ts h

/-- … hence the brackets of an accepted text (outside quotes and comments) are balanced: never more closing than opening
ones, none left open -/
theorem accepted_balanced (i : Fin 8) (raw : List Char) (ts : List Tok) (h : lex (cfgOf i) raw = .ok ts) :
    depthOK 0 (bracketSkeleton ((cfgOf i).pre raw)) = true := by
  rw [← bracket_skeleton i raw ts h]; exact depthOK_tree ts

/-- **C04.unbalanced_rejected_all**: a text whose bracket skeleton is unbalanced — a closing bracket with no open
group, or a group left open at the end — is not accepted, under any setting. -/
theorem unbalanced_rejected_all (i : Fin 8) (raw : List Char)
    (hu : depthOK 0 (bracketSkeleton ((cfgOf i).pre raw)) = false) : ∀ ts, lex (cfgOf i) raw ≠ .ok ts :=
  lex_scan_unbalanced (cfgOf i) (summarizable i) (lookup_norm i) (scanSim i) (depth_le i) raw hu

/-- what the scanner does with the four bracket characters between tokens: `(` and `[` are the same kind-less opening
event (F-C04-1), `)` and `]` close a group of their own kind -/
theorem bracket_events : fresh '('.toNat = (.N, [.opn]) ∧ fresh '['.toNat = (.N, [.opn]) ∧
    fresh ')'.toNat = (.N, [.cls .paren]) ∧ fresh ']'.toNat = (.N, [.cls .slice]) := by decide

/-- F-C04-1 on the model: the kind of a group is the kind of its closing bracket -/
theorem witness_kind_of_closing :
    lexesTo (lex (cfgOf 7) "(a]".toList) [.group .slice [.single ['a'] 2] 512] = true ∧
    lexesTo (lex (cfgOf 7) "[a)".toList) [.group .paren [.single ['a'] 2] 4] = true ∧
    bracketSkeleton "(a]".toList = [.opn, .cls .slice] ∧ bracketSkeleton "[a)".toList = [.opn, .cls .paren] := by
  decide +kernel

/-- non-vacuity: nested mixed brackets, brackets inside quotes and comments (invisible), the `#` quirk (`b#(`: the `(`
is a bracket), a bit literal; the tree the kernel computes has exactly that skeleton -/
example :
    bracketSkeleton "f(a[1], '(' /* [ */ \")\" `]` (b#c) -- )\n) x'1F' b'01'".toList =
      [.opn, .opn, .cls .slice, .opn, .cls .paren, .cls .paren] ∧
    (match lex (cfgOf 7) "f(a[1], '(' /* [ */ \")\" `]` (b#c) -- )\n) x'1F' b'01'".toList with
      | .ok ts => skelL ts == [.opn, .opn, .cls .slice, .opn, .cls .paren, .cls .paren] | .error _ => false) = true ∧
    depthOK 0 (bracketSkeleton "f(a[1]".toList) = false ∧ depthOK 0 (bracketSkeleton "a)(".toList) = false ∧
    depthOK 0 (bracketSkeleton "')' /* ( */".toList) = true := by decide +kernel

end C04
