import MsqProofs.Lemmas.TQuery2I
import MsqModel.Parse.Entry
import MsqModel.Driver.ShowVal
/-!
# C02 / C01 — T-parse on the LARGER expression fragment: qualified columns, wildcards, function calls, CASE, IN lists

**Fragment** `TP2.Frag2 d e ⊇ TP.Frag d e` (`frag_sub`; on `Frag` the token printers agree: `toksE2_eq`).  Closed under everything
`Frag` is closed under (unary, all binary compute operators, comparisons, `IS` / `LIKE` / `RLIKE` / `REGEXP` / `BETWEEN`, `NOT`, `AND`,
`XOR`, `OR`) and additionally:
* qualified columns `` `t`.`c` `` (`qcolOK`: every pair of plain names, `qcolOK_of_plain`), the wildcards `*` and `t.*`;
* normal function calls `f(a₁, …, aₙ)` and `s.f(a₁, …, aₙ)`, n ≥ 0, arguments in `Frag2`; the name is none of the special forms by the
  model's own tests (`fnNameOK`: not CAST / EXTRACT / IF, not SUBSTRING, no aggregate) and its token is an identifier that is no word of
  the expression grammar (`nmOK`, a decidable check on the printed token);
* aggregate calls `AGG([DISTINCT] a₁, …, aₙ)` for the names of `Gen.aggNames` (so `COUNT(*)`, `COUNT(DISTINCT x)`, `SUM(a + b)`);
* `CASE WHEN c THEN v … [ELSE w] END` and `CASE x WHEN a THEN v … [ELSE w] END`, ≥ 1 arms, all operands in `Frag2`;
* `[NOT] IN (v₁, …, vₙ)`, n ≥ 1, values in `Frag2`, each value with at most 20 TOP-LEVEL tokens (`shortL`; what stands inside brackets
  and calls does not count).  The restriction is one of the FUEL BOUND, not of the parser: the comma splitter spends one unit of fuel per
  token before a value is parsed, which a uniform bound `20 × tokens` covers only for short values; lifting it needs a per-tree bound.
Not in the fragment: CAST / EXTRACT / IF / SUBSTRING … FROM, window expressions, array index, EXISTS, sub-queries.

**Token printer** `TP2.toksE2 d ch e` (brackets by `PR.wrap`'s rule with the bounds of `PR.prE`; `ch`: any set of sub-terms wrapped
redundantly — except the value list of `IN`, where a second bracket means something else).  The link `lex (prE d e) = toksE2 d noX e` is
the lexer's business (proved on the larger fragment in Props/C03QL.lean: `C02.lex_prE3`); `#guard`s below check it by compiled evaluation in several dialects.

**Continuations**: `TP2.stops2 d rest` = `TP.stops d rest` and the head is not `OVER` (a call followed by `OVER` is a window expression).

The C08-style accounting reading is NOT stated: `C08.stored_or_keyword`
is about the plain fragment of C08 (no calls), so it is not a two-line corollary.
-/
open Lex PM Ast TP TP2

namespace TP2
/-- every pair of plain names is a qualified column of the fragment -/
theorem qcolOK_of_plain (d : Gen.D) (t c : String) (ht : PR.isPlainName t = true) (hc : PR.isPlainName c = true) : qcolOK d t c = true := by
  have h1 := colOK_of_plain d t ht
  have h2 := colOK_of_plain d c hc
  simp only [colOK, Bool.and_eq_true, Bool.not_eq_true', beq_iff_eq] at h1 h2
  obtain ⟨a1, a2, a3⟩ := name_facts t
  obtain ⟨b1, b2, b3⟩ := name_facts c
  obtain ⟨m1, m2, m3⟩ := nameTok_marks t
  obtain ⟨n1, _, _⟩ := nameTok_marks c
  simp only [qcolOK, nmOK, nm2OK, h1.1.1.1, a1, m1, m2, m3, h1.1.1.2, h1.1.2, h1.2, a2, a3, n1, h2.2, b2, beq_self_eq_true]; rfl
end TP2

namespace C02
/-- the record of a `Frag2` expression: that of the third fragment at the same tree, through `Frag2 ⊆ FragE3 ⊆ FragE4 ⊆ FragE5` with equal
renderings -/
theorem rt2 (d : Gen.D) (ch : Expr → Bool) (e : Expr) (hf : Frag2 d e = true) : RT2 d ch e := by
  obtain ⟨a1, a2, a3⟩ := TQ.frag2_sub (d := d) (ch := ch) (sz2 e) e (Nat.le_refl _) hf
  obtain ⟨b1, b2, b3⟩ := ((TQ2.inc_all d ch (TQ.szE3 e)).1 e (Nat.le_refl _) a1).1
  obtain ⟨c1, c2⟩ := TQ3.incE b1
  have r := TQ3.rt4 (ch := ch) e c1
  have ht : TQ3.toksE5 d ch e = toksE2 d ch e := by rw [c2, b2, a2]
  have hl : TQ3.tl4 e = tl e := by rw [TQ3.tl4_eq, b3, a3]
  obtain ⟨t, ts', h1, h2, h3⟩ := r.head
  rw [ht] at h1
  refine ⟨ht ▸ r.own, ht ▸ r.wrapped, ⟨t, ts', h1, h2, fun h => h3 (by rw [TQ.lvlH_eq (TQ.frag2_notExists hf)]; exact h)⟩, ?_, ?_⟩
  · have := r.nocomma; rw [ht] at this; exact this
  · have := r.len; rw [ht, hl] at this; exact this

/-- **T-parse, larger expression fragment** -/
theorem tparse2 (d : Gen.D) (ch : Expr → Bool) (e : Expr) (hf : Frag2 d e = true) (rest : List Tok) (hr : stops2 d rest = true)
    (fuel : Nat) (hfuel : 20 * sizeL (toksE2 d ch e) + 15 ≤ fuel) : pOr d fuel (toksE2 d ch e ++ rest) = .ok (e, rest) :=
  (rt2 d ch e hf).own.s14 rest hr fuel hfuel
/-- with the fuel the public entry points compute from the token list -/
theorem tparse2_entry_fuel (d : Gen.D) (ch : Expr → Bool) (e : Expr) (hf : Frag2 d e = true) (rest : List Tok) (hr : stops2 d rest = true) :
    pOr d (fuelFor (toksE2 d ch e ++ rest)) (toksE2 d ch e ++ rest) = .ok (e, rest) :=
  tparse2 d ch e hf rest hr _ (by simp only [fuelFor, sizeL_append]; omega)
/-- at the compute level (function arguments of other productions, GROUP BY / ORDER BY keys …) -/
theorem tparse2_compute (d : Gen.D) (ch : Expr → Bool) (e : Expr) (hf : Frag2 d e = true) (hl : PR.lvl e ≤ 8) (rest : List Tok)
    (hr : stopLE2 d 8 rest = true) (fuel : Nat) (hfuel : 20 * sizeL (toksE2 d ch e) + 2 ≤ fuel) :
    pCompute d fuel (toksE2 d ch e ++ rest) = .ok (e, rest) := (rt2 d ch e hf).own.s8 hl rest hr fuel hfuel

/-- **redundant brackets do not change the tree**: two choices of redundantly wrapped sub-terms give the same parse (the tree), and so
does a bracket around the whole expression -/
theorem redundant_brackets2 (d : Gen.D) (ch ch' : Expr → Bool) (e : Expr) (hf : Frag2 d e = true) (rest : List Tok) (hr : stops2 d rest = true)
    (fuel : Nat) (h1 : 20 * sizeL (toksE2 d ch e) + 35 ≤ fuel) (h2 : 20 * sizeL (toksE2 d ch' e) + 15 ≤ fuel) :
    pOr d fuel (toksE2 d ch e ++ rest) = pOr d fuel (toksE2 d ch' e ++ rest) ∧
    pOr d fuel (grp (toksE2 d ch e) :: rest) = pOr d fuel (toksE2 d ch' e ++ rest) := by
  have a := tparse2 d ch e hf rest hr fuel (by omega)
  have b := tparse2 d ch' e hf rest hr fuel h2
  have c : pOr d fuel ([grp (toksE2 d ch e)] ++ rest) = .ok (e, rest) :=
    (rt2 d ch e hf).wrapped.s14 rest hr fuel (by simp only [sizeL, size_grp]; omega)
  exact ⟨by rw [a, b], by rw [b]; exact c⟩
/-- **the rendering determines the tree** (so brackets that change the grouping change the tree) -/
theorem rendering_determines_tree2 (d : Gen.D) (ch ch' : Expr → Bool) (e e' : Expr) (hf : Frag2 d e = true) (hf' : Frag2 d e' = true)
    (h : toksE2 d ch e = toksE2 d ch' e') : e = e' :=
  C01.eq_of_read_back (tparse2 d ch e hf [] rfl) (tparse2 d ch' e' hf' [] rfl) (by rw [h])
end C02

namespace C01
/-- **print / parse round trip of expressions of the larger fragment, token level** -/
theorem expr_round_trip_tokens2 (d : Gen.D) (e : Expr) (hf : Frag2 d e = true) (fuel : Nat) (hfuel : 20 * sizeL (toksE2 d noX e) + 15 ≤ fuel) :
    pOr d fuel (toksE2 d noX e) = .ok (e, []) := by
  have := C02.tparse2 d noX e hf [] rfl fuel hfuel
  simpa using this
end C01

/-! ### non-vacuity (compiled evaluation) -/
namespace C02
def agrees2 (d : Gen.D) (e : Expr) : Bool :=
  match PR.prE d e with
  | .ok s => eqbL (lexed s) (toksE2 d noX e) && Frag2 d e
  | .error _ => false
def roundTrips2 (d : Gen.D) (ch : Expr → Bool) (e : Expr) : Bool :=
  match pOr d (20 * sizeL (toksE2 d ch e) + 15) (toksE2 d ch e) with
  | .ok (e', []) => Drv.showVal e'.toVal == Drv.showVal e.toVal
  | _ => false

def g1 : Expr := .func none "f" [.column (some "t") "c", .compute (col "a") "PLUS" (lit "1"), .func (some "s") "g" []]
def g2 : Expr := .agg "COUNT" [.wildcard none] false
def g3 : Expr := .compute (.agg "sum" [.compute (col "a") "MULTIPLE" (.column (some "t") "b")] true) "DIVIDE" (.agg "COUNT" [.wildcard (some "t")] false)
def g4 : Expr := .caseCond [(.compare "GT" (col "a") (lit "1"), lit "'x'"), (.kw .is true (col "b") (lit "NULL"), .func none "upper" [col "b"])]
  (some (.caseVal (col "k") [(lit "1", lit "'one'"), (lit "2", lit "'two'")] none))
def g5 : Expr := .and_ (.kw .in_ true (col "a") (.subValue [lit "1", .compute (col "b") "PLUS" (lit "2"), .func none "f" [col "c"]]))
  (.kw .in_ false (.func none "lower" [.column (some "t") "x"]) (.subValue [lit "'a'"]))
def g6 : Expr := .or_ (.compare "EQ" (.caseVal (.func none "f" [col "a"]) [(lit "1", col "b")] (some (col "c"))) (lit "0"))
  (.not_ (.kw .like false (.func none "concat" [col "a", lit "'%'"]) (lit "'z%'")))

#guard [g1, g2, g3, g4, g5, g6, e1, e4, e7].all (agrees2 .MYSQL) && [g1, g2, g3, g4, g5, g6, e1, e4].all (agrees2 .HIVE) &&
  [g1, g2, g3, g4, g5, g6].all (agrees2 .ORACLE) && [g1, g2, g3, g4, g5, g6].all (agrees2 .DEFAULT)
#guard [g1, g2, g3, g4, g5, g6].all (roundTrips2 .MYSQL noX) && [g1, g2, g3, g4, g5, g6].all (roundTrips2 .HIVE noX)
-- redundant brackets around EVERY sub-term at once
#guard [g1, g2, g3, g4, g5, g6].all (roundTrips2 .MYSQL (fun _ => true))
-- outside the fragment: the special forms, a call followed by OVER is not a continuation
#guard !Frag2 .MYSQL (.func none "cast" [col "a"]) && !Frag2 .MYSQL (.func none "if" [col "a"]) && !Frag2 .MYSQL (.func none "count" [col "a"]) &&
  Frag2 .MYSQL (.func (some "s") "f" [col "a"]) && !stops2 .MYSQL (lexed "OVER (x)") && stops2 .MYSQL (lexed "FROM t") && stops2 .MYSQL (lexed ", b")
/-- instances of the theorems (hypotheses decided, conclusions the theorems') -/
example : pOr .MYSQL (fuelFor (toksE2 .MYSQL noX g1 ++ lexed "FROM t")) (toksE2 .MYSQL noX g1 ++ lexed "FROM t") = .ok (g1, lexed "FROM t") :=
  tparse2_entry_fuel .MYSQL noX g1 (by decide) _ (by decide)
example : pOr .HIVE 2000 (toksE2 .HIVE noX g4) = .ok (g4, []) := C01.expr_round_trip_tokens2 .HIVE g4 (by decide) 2000 (by decide)
example : pOr .MYSQL 2000 (toksE2 .MYSQL noX g5) = .ok (g5, []) := C01.expr_round_trip_tokens2 .MYSQL g5 (by decide) 2000 (by decide)
end C02
