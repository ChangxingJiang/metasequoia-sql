import MsqProofs.Lemmas.ParseCostBndS5
import MsqProofs.Lemmas.LexSize2
import MsqProofs.Props.C19
/-!
# C19 — the whole pipeline makes a number of steps linear in the length of the text

**Steps** = calls of `FSMMachine.handle` (lexer; `MsqModel/Lex/Count.lean`, driver command `LC`) + cursor operations of `parse_statements`
(parser; the cost model `MsqModel/Parse/Cost*.lean`, generated from the parser model, compared EXACTLY with the `TokenScanner` method calls
of the implementation by the driver command `PC`).

Proved here, for EVERY token list / EVERY text (accepted or rejected by the parser), every dialect:

* `cursor_steps_linear` — `parse_statements` on a token list `ts` makes at most `5000 · sizeL ts + 482` cursor operations
  (`sizeL` = number of tokens, nested ones and bracket groups included); `cursor_steps_weight` is the same in the potential of the proof,
  `250 · adqWL ts + 482`, for every fuel and every start value of the counter; `cursor_steps_statement` is the amortised form for one
  statement (what is not consumed is not paid, and a statement that succeeds leaves 600 units).
  The potential argument (`Lemmas/ParseCostBndS*.lean`, generated by `tools/gen_cost.py`): for each of the 56 functions of the statement level
  `cost + 250·weight(rest) ≤ 250·weight(cursor) + c_f`, on top of the 80-function expression / SELECT block (`70·weight`, `C19.cursor_steps_block`).
* `tokens_linear` — the shipped lexer table produces at most `2·|text| + 1` tokens and groups (`Lemmas/LexSize2.lean`: at most one node per
  `handle` call, since no operation of the shipped table both emits a leaf and closes a group — `OneNode`, decided by the kernel over every
  cell; `Lemmas/LexSize.lean`: `4·|text| + 2` for every table under `TableOK`).
* `total_steps_linear` — handle calls + cursor operations of `parseStatementsText d text` are at most `10002·|text| + 5483`.
* `doubling` — the doubling clause in the form that follows from a linear bound: the steps on `t ++ t` are at most TWICE THE BOUND for `t`
  (not twice the steps on `t`: that is false in general, a text rejected early is cheap and its double need not be).
NOT modelled: the steps of a lexing run that the lexer REJECTS (`handleCalls` answers the error); the parser does not run then.
-/
namespace C19
open Lex PM

/-- in the potential of the proof: every fuel, every start value of the counter -/
theorem cursor_steps_weight (d : Gen.D) (f : Nat) (ts : List Tok) (κ : Nat) :
    (pStatements_k d f ts κ).1 ≤ κ + 250 * adqWL ts + 482 := pStatements_bnd2 d f ts κ

/-- **cursor operations of `parse_statements` are linear in the number of tokens** — every dialect, every token list, accepted or rejected
(counts `TokenScanner` method calls + children walked by comma splits; the cost model's count equals the implementation's on every compared
request) -/
theorem cursor_steps_linear (d : Gen.D) (ts : List Tok) :
    (pStatements_k d (fuelFor ts) ts 0).1 ≤ 5000 * sizeL ts + 482 := by
  have h := pStatements_bnd2 d (fuelFor ts) ts 0
  have := adqWL_le ts
  omega

/-- one statement, amortised: the operations are paid by the tokens consumed; a statement that succeeds leaves 600 units (they pay the
look-ahead of the statement loop) -/
theorem cursor_steps_statement (d : Gen.D) (f : Nat) (ts : List Tok) (s : Ast.Stmt) (r : List Tok)
    (h : (pStatement_k d f ts 0).2 = .ok (s, r)) : (pStatement_k d f ts 0).1 + 250 * adqWL r + 600 ≤ 250 * adqWL ts + 479 := by
  have h1 := pStatement_bnd2 d f ts 0
  rw [h, remS2_ok] at h1
  simp only [Nat.zero_add, Nat.add_assoc] at h1 ⊢      -- (`omega` runs into the recursion limit on these numerals)
  exact h1

/-- the cost model is a model OF the parser model (restated from `C19.cost_model_projection`): what is counted is `parse_statements` -/
theorem counted_is_parse_statements (d : Gen.D) (text : List Char) (ts : List Tok) (h : lex Gen.cfgS (dialectPre d text) = .ok ts) :
    (pStatements_k d (fuelFor ts) ts 0).2 = parseStatementsText d text := by
  rw [pStatements_proj]; simp [parseStatementsText, h]

theorem cfgS_pre_length_le (raw : List Char) : (Gen.cfgS.pre raw).length ≤ raw.length :=
  preWith_length_le Gen.preChain (by simp [Gen.preChain]) raw

/-- **the shipped lexer produces at most `2·|text| + 1` tokens and groups** -/
theorem tokens_linear (raw : List Char) (ts : List Tok) (h : lex Gen.cfgS raw = .ok ts) : sizeL ts ≤ 2 * raw.length + 1 := by
  have h1 := lex_size1 Gen.Cfg7.cfg Gen.Cfg7.advSt Gen.Cfg7.wk Oblig.tableOK_cfg7 oneNode_cfg7 raw ts h
  have h2 := cfgS_pre_length_le raw
  have : (Gen.Cfg7.cfg.pre raw).length ≤ raw.length := h2
  omega

theorem dialectPre_length_le (d : Gen.D) (text : List Char) : (dialectPre d text).length ≤ text.length := by
  have hdb : (if d == .DB2 then
      Py.replace "CURRENT TIMESTAMP".toList "CURRENT_TIMESTAMP".toList
        (Py.replace "CURRENT TIME".toList "CURRENT_TIME".toList
          (Py.replace "CURRENT DATE".toList "CURRENT_DATE".toList text))
      else text).length ≤ text.length := by
    split
    · exact Nat.le_trans (replace_length_le _ _ _ (by simp))
        (Nat.le_trans (replace_length_le _ _ _ (by simp)) (replace_length_le _ _ _ (by simp)))
    · exact Nat.le_refl _
  unfold dialectPre
  dsimp only
  by_cases hH : (d == Gen.D.HIVE) = true
  · rw [if_pos hH]
    exact Nat.le_trans (replace_length_le _ _ _ (by simp)) hdb
  · rw [if_neg hH]
    exact hdb

/-- **handle calls of the lexer + cursor operations of the parser are linear in the length of the text** — `parse_statements(text)` of every
dialect, on every text the lexer accepts, whether the parser accepts or rejects it -/
theorem total_steps_linear (d : Gen.D) (text : List Char) (n : Nat) (ts : List Tok)
    (hn : handleCalls Gen.cfgS (dialectPre d text) = .ok n) (hl : lex Gen.cfgS (dialectPre d text) = .ok ts) :
    n + (pStatements_k d (fuelFor ts) ts 0).1 ≤ 10002 * text.length + 5483 := by
  have h1 := handleCalls_linear Gen.cfgS (dialectPre d text) n hn
  have h2 := cfgS_pre_length_le (dialectPre d text)
  have h3 := dialectPre_length_le d text
  have h4 := tokens_linear (dialectPre d text) ts hl
  have h5 := cursor_steps_linear d ts
  omega

/-- the bound of `total_steps_linear` as a function of the length -/
def stepBound (len : Nat) : Nat := 10002 * len + 5483

/-- **doubling**: the steps on `t ++ t` are at most twice the bound for `t` (in fact `2 · stepBound |t| - 5483`) -/
theorem doubling (d : Gen.D) (t : List Char) (n : Nat) (ts : List Tok)
    (hn : handleCalls Gen.cfgS (dialectPre d (t ++ t)) = .ok n) (hl : lex Gen.cfgS (dialectPre d (t ++ t)) = .ok ts) :
    n + (pStatements_k d (fuelFor ts) ts 0).1 + 5483 ≤ 2 * stepBound t.length := by
  have h := total_steps_linear d (t ++ t) n ts hn hl
  simp only [List.length_append, stepBound] at *; omega

/-! non-vacuity (evaluated tests: `String` functions do not reduce in the kernel) -/
namespace TCost
def steps (d : Gen.D) (s : String) : Option (Nat × Nat) :=
  match handleCalls Gen.cfgS (dialectPre d s.toList), lex Gen.cfgS (dialectPre d s.toList) with
  | .ok n, .ok ts => some (n, (pStatements_k d (fuelFor ts) ts 0).1)
  | _, _ => none
def within (d : Gen.D) (s : String) : Bool := match steps d s with | some (n, k) => n + k ≤ stepBound s.length | none => false
end TCost
#guard TCost.steps .MYSQL "SELECT 1" == some (10, 68)
#guard TCost.within .MYSQL "INSERT INTO t (a, b) VALUES (1, 2), (3, 4); UPDATE t SET a = 1 WHERE b = 2"
#guard TCost.within .HIVE "CREATE TABLE t (a INT COMMENT 'x', b STRING) PARTITIONED BY (dt STRING) STORED AS TEXTFILE"
#guard TCost.within .MYSQL "ALTER TABLE t ADD COLUMN"      -- rejected by the parser: counted all the same
#guard TCost.steps .MYSQL "SELECT 1; SELECT 1" == some (22, 137)

end C19
