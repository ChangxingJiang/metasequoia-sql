import MsqProofs.Lemmas.LineageNest
import MsqProofs.Props.C16
/-!
# C16 (extended) — unqualified references, ambiguity and unknown = analysis error, derived tables and WITH tables at any
# depth by composition of flows, INSERT pairing

`Flow.flowQ` (MsqModel/Analyze/LineageFlow.lean) is the specification; `LN.selectLineage` / `LN.insertLineage` the model of
`TableLineageAnalyzer`.  The theorems hold for every query `flowQ` answers: SELECT levels without LATERAL VIEW and set operations of
such (branches under `Flow.branchOK`: F-C16-7), whose FROM / JOIN items are base tables, references to WITH tables, or aliased derived
tables (F-C16-12), named pairwise distinctly; select items aliased or plain columns, `*` / `x.*` over items referred to by their own name
(F-C16-6); references `t.c`, `c`, or an aggregate without column argument; sub-queries in expressions contribute nothing (F-C16-5); the
query is `Flow.Hygienic` (F-C16-8).  Nesting depth, number of WITH tables and of derived tables are arbitrary.  What the specification says
for set operations, such aggregates and `*` is stated in `Props/C16c.lean`.
-/
namespace C16
open Ast AN LN Spec Flow LineageL

/-! ## 1. references: qualified, unqualified; unknown and ambiguous are the analysis error -/

/-- an unqualified column that NO upstream table of the level has is refused -/
theorem unknown_is_error {cat : Cat} {st : St} {tn : List (String × StdTable)} {scope : Scope} (hres : Resolves cat st tn scope)
    (n : String) (hn : n ≠ "*") (h : ∀ p ∈ scope, relHas p.2 n = false) :
    analyzeQuoteColumn cat tn ⟨none, some n, none⟩ st = .error .analyzer := by
  have := agrees_def .. ▸ unqualified_spec hres n (by simpa using hn) st (Same.refl st)
  have hf : (scope.map (·.2)).filter (fun R => relHas R n) = [] := by
    rw [List.filter_eq_nil_iff]
    intro R hR
    obtain ⟨p, hp, e⟩ := List.mem_map.mp hR
    rw [← e]; simp [h p hp]
  simpa [refU, hf] using this

/-- an unqualified column that TWO (or more) upstream tables of the level have — counted per FROM / JOIN item, so also the same
table under two aliases, and whatever base sources the matching columns carry (a constant column of a derived table counts) — is
refused: "a table matched", not "any sources yet" (the clause attacked by the seeded changes C16-2 and C16-7) -/
theorem ambiguous_is_error {cat : Cat} {st : St} {tn : List (String × StdTable)} {scope : Scope} (hres : Resolves cat st tn scope)
    (n : String) (hn : n ≠ "*") (h : 2 ≤ ((scope.map (·.2)).filter (fun R => relHas R n)).length) :
    analyzeQuoteColumn cat tn ⟨none, some n, none⟩ st = .error .analyzer := by
  have := agrees_def .. ▸ unqualified_spec hres n (by simpa using hn) st (Same.refl st)
  cases hf : (scope.map (·.2)).filter (fun R => relHas R n) with
  | nil => simp [hf] at h
  | cons a r =>
    cases r with
    | nil => simp [hf] at h
    | cons b r2 => simpa [refU, hf] using this

/-- exactly one upstream table has the column: its sources, whatever they are (possibly none) -/
theorem unique_resolves {cat : Cat} {st : St} {tn : List (String × StdTable)} {scope : Scope} (hres : Resolves cat st tn scope)
    (n : String) (hn : n ≠ "*") (R : Rel) (h : (scope.map (·.2)).filter (fun R => relHas R n) = [R]) :
    ∃ s st', dictGet? R n = some s ∧ analyzeQuoteColumn cat tn ⟨none, some n, none⟩ st = .ok (s, st') ∧ Same st st' := by
  have := agrees_def .. ▸ unqualified_spec hres n (by simpa using hn) st (Same.refl st)
  have hR : relHas R n = true := by
    have : R ∈ (scope.map (·.2)).filter (fun R => relHas R n) := by simp [h]
    exact (List.mem_filter.mp this).2
  obtain ⟨s, hs⟩ := dictGet_of_has R n hR
  simp only [refU, h, hs] at this
  obtain ⟨st', e, hsame⟩ := this
  exact ⟨s, st', hs, e, hsame⟩

/-- an unknown qualifier, or a column the qualified table does not have, is refused -/
theorem unknown_qualified_is_error {cat : Cat} {st : St} {tn : List (String × StdTable)} {scope : Scope} (hres : Resolves cat st tn scope)
    (t n : String) (hn : n ≠ "*") (h : ∀ R, dictGet? scope t = some R → dictGet? R n = none) :
    analyzeQuoteColumn cat tn ⟨some t, some n, none⟩ st = .error .analyzer := by
  have := agrees_def .. ▸ qualified_spec hres t n (by simpa using hn) st (Same.refl st)
  unfold refQ at this
  cases h1 : dictGet? scope t with
  | none => simpa [h1] using this
  | some R => simpa [h1, h R h1] using this

/-! ## 2. + 3. derived tables and WITH tables at any depth -/

theorem hyg_empty {f : Nat} {q : Query} (hy : Hygienic f q) (st : St) (h1 : st.subq = []) (h2 : st.withT = []) :
    Hyg st [] [] (bound f q) (reads f [] q) :=
  ⟨fun n => by simp [dictGet?], hy.1, by simp, hy.2, fun n _ => by simp [h1, h2, dictGet?], fun n _ => by simp [h1, h2, dictGet?],
    fun n R h => by simp [dictGet?] at h⟩

/-! ## from any state with empty stores (the provider's request log may be non-empty) -/

theorem lineage_eq_flow_from (cat : Cat) (f : Nat) (q : Query) (hy : Hygienic f q) (R : Rel) (h : flowQ cat f [] q = .ok R)
    (st : St) (h1 : st.subq = []) (h2 : st.withT = []) :
    ∃ st', selectLineage cat f q st = .ok (mkLineage (number R 1) Lineage.empty, st') := by
  have := (nest cat f).1 q [] [] st (hyg_empty hy st h1 h2)
  rw [h] at this
  obtain ⟨⟨L, st'⟩, e, hL, _⟩ := this
  exact ⟨st', by rw [e]; simp at hL; rw [hL]⟩

/-- **C16, extended.**  For a hygienic query of the fragment, at any nesting depth (budget `f`): if the specification gives the flow
`R`, the lineage object the analysis builds (from empty stores) is the one built from `R` — output columns in order, numbered from
1, each with exactly (as a list, in reading order) the base columns that reach it through derived tables and WITH tables by
composition. -/
theorem lineage_eq_flow (cat : Cat) (f : Nat) (q : Query) (hy : Hygienic f q) (R : Rel) (h : flowQ cat f [] q = .ok R) :
    ∃ st', selectLineage cat f q {} = .ok (mkLineage (number R 1) Lineage.empty, st') :=
  lineage_eq_flow_from cat f q hy R h {} rfl rfl

/-- … and if the specification says "analysis error" — an unknown or ambiguous reference at ANY level, inside any derived table or
WITH table — the analysis raises the library's analysis error (it does not guess). -/
theorem analysis_error_raised (cat : Cat) (f : Nat) (q : Query) (hy : Hygienic f q) (h : flowQ cat f [] q = .error .analysis) :
    selectLineage cat f q {} = .error .analyzer := by
  have := (nest cat f).1 q [] [] {} (hyg_empty hy {} rfl rfl)
  rw [h] at this
  exact this

theorem lineage_columns (R : Rel) : (mkLineage (number R 1) Lineage.empty).allColumns = number R 1 := by
  simp [Lineage.allColumns, mk_data, Lineage.empty]

/-! ## INSERT … SELECT: pairing by position -/

theorem number_idx_ge : ∀ (R : Rel) (i : Nat), ∀ x ∈ (number R i).map (fun p => p.1.idx), (Int.ofNat i) ≤ x
  | [], _, x, h => by simp [number] at h
  | (n, s) :: r, i, x, h => by
    simp only [number, List.map_cons, List.mem_cons] at h
    rcases h with e | e
    · subst e; simp
    · have := number_idx_ge r (i + 1) x e
      simp at this ⊢; omega

theorem number_idx_nodup : ∀ (R : Rel) (i : Nat), ((number R i).map (fun p => p.1.idx)).Nodup
  | [], _ => by simp [number]
  | (n, s) :: r, i => by
    simp only [number, List.map_cons]
    refine List.nodup_cons.mpr ⟨?_, number_idx_nodup r (i + 1)⟩
    intro h
    have := number_idx_ge r (i + 1) _ h
    simp at this; omega

theorem srcByIdx_number (R : Rel) (i k : Nat) (p : String × List SrcCol) (hk : R[k]? = some p) :
    (mkLineage (number R i) Lineage.empty).srcByIdx (Int.ofNat (i + k)) = .ok p.2 := by
  unfold Lineage.srcByIdx
  rw [mk_idxSrc]
  have key : (number R i).foldl (fun m p => dictSet m p.1.idx p.2) ([] : List (Int × List SrcCol))
      = ((number R i).map (fun p => (p.1.idx, p.2))).foldl (fun m p => dictSet m p.1 p.2) [] := by
    rw [List.foldl_map]
  simp only [Lineage.empty]
  rw [key, foldl_dictSet_fresh _ [] (by
    rw [List.map_map]
    exact number_idx_nodup R i) (by simp)]
  simp only [List.nil_append]
  -- find the entry
  have : ∀ (R : Rel) (i k : Nat), R[k]? = some p →
      dictGet? ((number R i).map (fun p => (p.1.idx, p.2))) (Int.ofNat (i + k)) = some p.2 := by
    intro R
    induction R with
    | nil => intro i k h; simp at h
    | cons a r ih =>
      intro i k h
      obtain ⟨n, s⟩ := a
      cases k with
      | zero =>
        simp at h; subst h
        simp [number, dictGet?]
      | succ k =>
        simp at h
        have hne : ((Int.ofNat i) == Int.ofNat (i + (k + 1))) = false := by simp; omega
        simp only [number, List.map_cons, dictGet?, List.find?_cons, hne]
        have := ih (i + 1) k h
        simp only [dictGet?] at this
        rw [show i + (k + 1) = i + 1 + k by omega]
        exact this
  rw [this R i k hk]

theorem nodup_map_some {α : Type} : ∀ (l : List α), l.Nodup → (l.map some).Nodup
  | [], _ => by simp
  | a :: r, h => by
    have h' := List.nodup_cons.mp h
    rw [List.map_cons]
    refine List.nodup_cons.mpr ⟨?_, nodup_map_some r h'.2⟩
    intro hm
    obtain ⟨x, hx, e⟩ := List.mem_map.mp hm
    have : x = a := by simpa using e
    exact h'.1 (this ▸ hx)

theorem mapM_positions (L : Lineage) (R : Rel) (hL : ∀ k p, R[k]? = some p → L.srcByIdx (Int.ofNat (1 + k)) = .ok p.2)
    (f : SrcCol × Nat → Except Err (SrcCol × List SrcCol))
    (hf : ∀ x v, L.srcByIdx (Int.ofNat x.2) = .ok v → f x = .ok (x.1, v)) :
    ∀ (down : List SrcCol) (k : Nat), down.length = (R.drop k).length →
      (down.zipIdx (1 + k)).mapM f = .ok (List.zipWith (fun d r => (d, r.2)) down (R.drop k))
  | [], k, h => by
    have : R.drop k = [] := by
      cases hd : R.drop k with
      | nil => rfl
      | cons a b => simp [hd] at h
    simp [this]; rfl
  | d :: ds, k, h => by
    cases hd : R.drop k with
    | nil => simp [hd] at h
    | cons p rest =>
      have hk : R[k]? = some p := by
        have := congrArg List.head? hd
        simpa [List.head?_drop] using this
      have hrest : R.drop (k + 1) = rest := by
        have := congrArg List.tail hd
        simpa [List.tail_drop] using this
      have ih := mapM_positions L R hL f hf ds (k + 1) (by simp [hd] at h; simp [hrest, h])
      simp only [List.zipIdx_cons, List.mapM_cons, hf (d, 1 + k) p.2 (hL k p hk), bind, Except.bind, pure, Except.pure, List.zipWith_cons_cons]
      rw [show 1 + k + 1 = 1 + (k + 1) by omega, ih, hrest]

theorem number_length : ∀ (R : Rel) (i : Nat), (number R i).length = R.length
  | [], _ => rfl
  | (a, b) :: r, i => by simp [number, number_length r]

/-- **pairing by position**: the i-th target column receives exactly the sources of the i-th output column (target column names
pairwise distinct: the result object is keyed by the target column's name) -/
theorem pairUp_ok (R : Rel) (down : List SrcCol) (st : St) (hlen : down.length = R.length) (hnd : (down.map (·.col)).Nodup) :
    pairUp (mkLineage (number R 1) Lineage.empty) down st = .ok (List.zipWith (fun d r => (d, r.2)) down R, st) := by
  simp only [pairUp, Lineage.allColumns, mk_data, Lineage.empty, List.nil_append, bind, Except.bind, pure, Except.pure]
  have hlen' : (down.length != (number R 1).length) = false := by simp [number_length, hlen]
  simp only [hlen', Bool.false_eq_true, if_false]
  have hm := fun f hf => mapM_positions (mkLineage (number R 1) Lineage.empty) R (fun k p hk => srcByIdx_number R 1 k p hk) f hf
    down 0 (by simp [hlen])
  simp only [Nat.add_zero, List.drop_zero, Lineage.empty] at hm
  rw [hm _ (fun x v hv => by simp only [Int.ofNat_eq_natCast] at hv; simp [hv])]
  simp only
  generalize hdef : List.zipWith (fun d (r : String × List SrcCol) => (d, r.2)) down R = data
  have hcols : data.map (fun p => p.1.col) = down.map (·.col) := by
    rw [← hdef]
    clear hm hdef hnd hlen'
    induction down generalizing R with
    | nil => simp
    | cons d r ih =>
      cases R with
      | nil => simp at hlen
      | cons p rest => simp [ih rest (by simpa using hlen)]
  have hkeys : (data.map (fun p => p.1.col)).Nodup := by rw [hcols]; exact hnd
  have hfold : data.foldl (fun m p => dictSet m p.1.col p.2) ([] : List (Option String × List SrcCol))
      = data.map (fun p => (p.1.col, p.2)) := by
    have key : data.foldl (fun m p => dictSet m p.1.col p.2) ([] : List (Option String × List SrcCol))
        = (data.map (fun p => (p.1.col, p.2))).foldl (fun m p => dictSet m p.1 p.2) [] := by
      rw [List.foldl_map]
    rw [key]
    have := foldl_dictSet_fresh (data.map (fun p => (p.1.col, p.2))) [] (by simpa [List.map_map, Function.comp_def] using hkeys) (by simp)
    simpa using this
  rw [hfold]
  have : ∀ p ∈ data, (p.1, (dictGet? (data.map (fun p => (p.1.col, p.2))) p.1.col).getD []) = p := by
    intro p hp
    have : dictGet? (data.map (fun p => (p.1.col, p.2))) p.1.col = some p.2 :=
      dictGet?_of_mem (p := (p.1.col, p.2)) (by simpa [List.map_map, Function.comp_def] using hkeys) (List.mem_map_of_mem hp)
    rw [this]
    rfl
  have hmap : data.map (fun p => (p.1, (dictGet? (data.map (fun p => (p.1.col, p.2))) p.1.col).getD [])) = data := by
    conv => rhs; rw [← List.map_id data]
    exact List.map_congr_left this
  rw [hmap]

theorem pairUp_arity (R : Rel) (down : List SrcCol) (st : St) (h : down.length ≠ R.length) :
    pairUp (mkLineage (number R 1) Lineage.empty) down st = .error .analyzer := by
  have : (down.length != (number R 1).length) = true := by simpa [number_length] using h
  simp [pairUp, Lineage.allColumns, mk_data, Lineage.empty, this]

theorem nodup_map_some' {α : Type} (l : List α) (h : l.Nodup) : (l.map some).Nodup := nodup_map_some l h

/-- **INSERT … SELECT with an explicit column list**: the i-th listed target column receives exactly the sources of the i-th output
column of the SELECT (target column names pairwise distinct) -/
theorem insert_pairing_ok (cat : Cat) (h : InsertHead) (cs : List (Option String × String)) (hc : h.columns = some cs)
    (q : Query) (R : Rel) (st' : St)
    (hsel : selectLineage cat (fuelFor (setWiths h.withs q)) (setWiths h.withs q) {} = .ok (mkLineage (number R 1) Lineage.empty, st'))
    (hlen : cs.length = R.length) (hnd : (cs.map (·.2)).Nodup) :
    insertLineage cat h q {} = .ok (List.zipWith (fun c r => (({ schema := h.table.schema, table := h.table.name, col := some c.2 } : SrcCol), r.2)) cs R, st') := by
  simp only [insertLineage, hc, bind, Except.bind, pure, Except.pure, hsel]
  rw [pairUp_ok R _ st' (by simpa using hlen) (by simpa [List.map_map, Function.comp_def] using nodup_map_some _ hnd)]
  simp [List.zipWith_map_left]

/-- … with a different number of columns it is refused -/
theorem insert_pairing (cat : Cat) (h : InsertHead) (cs : List (Option String × String)) (hc : h.columns = some cs)
    (q : Query) (R : Rel) (st' : St)
    (hsel : selectLineage cat (fuelFor (setWiths h.withs q)) (setWiths h.withs q) {} = .ok (mkLineage (number R 1) Lineage.empty, st'))
    (hlen : cs.length ≠ R.length) : insertLineage cat h q {} = .error .analyzer := by
  simp only [insertLineage, hc, bind, Except.bind, pure, Except.pure, hsel]
  exact pairUp_arity R _ st' (by simpa using hlen)

/-! ## instances (kernel-evaluated): the specification and the model on concrete (catalogue, query) pairs -/

def cat2 : Cat := [("t1", mkTable none "t1" ["a", "b"]), ("t2", mkTable none "t2" ["c", "x", "d"]), ("t", mkTable none "t" ["a", "b", "c"]),
  ("u", mkTable none "u" ["a", "d"])]

def run2 (q : Query) : Except Err (List (String × Int × List (Option String × String × Option String))) :=
  match selectLineage cat2 (fuelFor q) q {} with
  | .error e => .error e
  | .ok (l, _) => .ok (l.allColumns.map fun (c, s) => (c.name, c.idx, s.map fun x => (x.schema, x.table, x.col)))

def specOf (q : Query) : Except FErr (List (String × List (Option String × String × Option String))) :=
  (flowQ cat2 (fuelFor q) [] q).map fun R => R.map fun p => (p.1, p.2.map fun x => (x.schema, x.table, x.col))

def specErr (q : Query) : Bool := match flowQ cat2 (fuelFor q) [] q with | .error .analysis => true | _ => false
def specOk (q : Query) (v : List (String × List (Option String × String × Option String))) : Bool :=
  match specOf q with | .ok r => r == v | .error _ => false
theorem specErr_sound (q : Query) (h : specErr q = true) : flowQ cat2 (fuelFor q) [] q = .error .analysis := by
  unfold specErr at h
  split at h
  · assumption
  · simp at h

def hyg (q : Query) : Bool := decide (bound (fuelFor q) q).Nodup && (reads (fuelFor q) [] q).all (fun n => !(bound (fuelFor q) q).contains n)

theorem hyg_sound (q : Query) (h : hyg q = true) : Hygienic (fuelFor q) q := by
  simp only [hyg, Bool.and_eq_true, decide_eq_true_eq, List.all_eq_true, Bool.not_eq_true', List.contains_eq_mem,
    decide_eq_false_iff_not] at h
  exact ⟨h.1, fun n hn => by simpa using h.2 n hn⟩

def joinOn (t : FromTable) (l r : Expr) : Join := .mk "JOIN" t (some (.on (.compare "EQUAL_TO" l r)))
def selJ (cols : List (Expr × Option String)) (fr : List FromTable) (js : List Join) (ws : List WithTable := []) : Select :=
  .mk (some ws) false cols (some fr) [] js none none none none none none none none
def der (q : Query) (a : String) : FromTable := .mk (.sub q) (some a)

/-- the demo of seeded change C16-2 (patch NOT applied): `SELECT x FROM (SELECT 1 AS x, a FROM t1) s JOIN t2 ON s.a = t2.c`, `t2(c, x, d)` —
`x` exists in the derived table (as a constant, no base sources) and in `t2`: specification and analysis both say "analysis error" -/
def demoC16_2 : Query :=
  .single (selJ [(.column none "x", none)]
    [der (.single (selJ [(.literal "1", some "x"), (.column none "a", none)] [tbl "t1"] [])) "s"]
    [joinOn (tbl "t2") (.column (some "s") "a") (.column (some "t2") "c")])
theorem demo_C16_2_spec : specErr demoC16_2 = true := by decide +kernel
theorem demo_C16_2_hyg : hyg demoC16_2 = true := by decide +kernel
theorem demo_C16_2 : selectLineage cat2 (fuelFor demoC16_2) demoC16_2 {} = .error .analyzer :=
  analysis_error_raised cat2 _ demoC16_2 (hyg_sound _ demo_C16_2_hyg) (specErr_sound _ demo_C16_2_spec)

/-- the same through a WITH table: `WITH w AS (SELECT a, 0 AS x FROM t1) SELECT a, x FROM w JOIN t2 ON w.a = t2.c` -/
def demoC16_2w : Query :=
  .single (selJ [(.column none "a", none), (.column none "x", none)] [tbl "w"]
    [joinOn (tbl "t2") (.column (some "w") "a") (.column (some "t2") "c")]
    [.mk "w" (.single (selJ [(.column none "a", none), (.literal "0", some "x")] [tbl "t1"] []))])
example : specErr demoC16_2w = true := by decide +kernel
example : hyg demoC16_2w = true := by decide +kernel
example : isErr .analyzer (run2 demoC16_2w) = true := by decide +kernel

/-- the demo of seeded change C16-7 (patch NOT applied): a self-join `SELECT a FROM t x JOIN t y ON x.b = y.b` — the same table under two
aliases counts twice: "analysis error" -/
def demoC16_7 : Query :=
  .single (selJ [(.column none "a", none)] [tbl "t" (some "x")] [joinOn (tbl "t" (some "y")) (.column (some "x") "b") (.column (some "y") "b")])
theorem demo_C16_7_spec : specErr demoC16_7 = true := by decide +kernel
example : hyg demoC16_7 = true := by decide +kernel
example : isErr .analyzer (run2 demoC16_7) = true := by decide +kernel

/-- composition through two levels of derived tables, a WITH table read inside a derived table, an unqualified unique reference:
`WITH w AS (SELECT a + b AS s FROM t) SELECT o.k, d FROM (SELECT q.s AS k FROM (SELECT s FROM w) q) o JOIN u ON o.k = u.a` -/
def nested : Query :=
  .single (selJ [(.column (some "o") "k", none), (.column none "d", none)]
    [der (.single (selJ [(.column (some "q") "s", some "k")] [der (.single (selJ [(.column none "s", none)] [tbl "w"] [])) "q"] [])) "o"]
    [joinOn (tbl "u") (.column (some "o") "k") (.column (some "u") "a")]
    [.mk "w" (.single (selJ [(.compute (.column none "a") "PLUS" (.column none "b"), some "s")] [tbl "t"] []))])
theorem nested_spec : specOk nested [("k", [(none, "t", some "a"), (none, "t", some "b")]), ("d", [(none, "u", some "d")])] = true := by
  decide +kernel
example : hyg nested = true := by decide +kernel
example : isOk [("k", 1, [(none, "t", some "a"), (none, "t", some "b")]), ("d", 2, [(none, "u", some "d")])] (run2 nested) = true := by
  decide +kernel

/-- the control of the ambiguity family: the name is unique, the flow is the constant's (no base sources) -/
example : specOk (.single (selJ [(.column none "x", none)]
    [der (.single (selJ [(.literal "1", some "x"), (.column none "a", none)] [tbl "t1"] [])) "s"] [joinOn (tbl "u") (.column (some "s") "a") (.column (some "u") "a")]))
    [("x", [])] = true := by decide +kernel

/-- not hygienic (F-C16-8): an inner derived table takes the name of a base table the outer level reads — excluded, and the analysis is wrong there -/
example : hyg (.single (selJ [(.column (some "o") "v1", none), (.column (some "u") "d", none)]
    [der (.single (selJ [(.column (some "u") "a", some "v1")] [der (.single (selJ [(.column none "a", none)] [tbl "t"] [])) "u"] [])) "o", tbl "u"] [])) = false := by
  decide +kernel

end C16
