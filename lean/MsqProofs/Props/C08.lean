import MsqProofs.Lemmas.ParseAccountTexts
import MsqModel.Parse.Entry
/-!
# C08 — nothing accepted is silently ignored (parser half, token level)

Three layers, each for the parser MODEL (`MsqModel/Parse/*.lean`), each function by function, unbounded (induction on the fuel):

1. `consumes_prefix` — every function whose result carries a cursor returns a REST of the cursor it was given:
   `f … ts = ok (v, r) → ∃ used, ts = used ++ r`.  The parser never skips, reorders, duplicates or invents a token.
   All 74 cursor-returning functions of the 80-function mutual block (`PM.ConsF`, `PM.consF_all`; plain forms `PM.<f>_consumes` in
   `MsqProofs/Lemmas/ParseAccount.lean`), all 53 functions of the statement level (`PM.cons_<f>`, `PM.<f>_consumes` in
   `ParseAccountStmt.lean`), the cursor primitives by hand (`ParseAccount0.lean`).  Generated: `tools/gen_out.py` (read off the family `ParseOut*.lean`).
   The two-cursor functions are stated for the cursor the rest belongs to (`pJoins` / `pLaterals` / `pSelectBody` / `pSelectRest`: the
   inner one; `pSingleParen`: the outer one).  `statements_covered`: the loop of `parse_statements` returns only at the end of the
   list, its input is cut into the consumed prefixes of its statements and the `;` between them.
2. `children_closed` — every function that opens a child cursor (`t.children`, `headChildren`, `popSplit`, `splitBy`) succeeds only
   if every sub-call on that child cursor returned `(_, [])`, or every comma-separated segment did (`Each2 … segments results`)
   (`MsqProofs/Lemmas/ParseAccountClosed.lean`, one inversion lemma per function: 23 of the mutual block and its helpers, 12 of the
   statement level).  NO function of the model leaves a child cursor unchecked.  What the lemmas make visible instead:
   * where the model takes `g.children` WITHOUT testing that `g` is a bracket group, the token `g` is bound with no `g.has PAREN`
     conjunct: a WORD standing there is consumed as an empty group and dropped — class F-C08-6 of `known_findings.json`, at more
     sites than the one registered there (all confirmed on the code): `a IN b`, `f(x) OVER w`, `GROUPING SETS x`, `JOIN u USING x`,
     `LATERAL VIEW explode x v AS c`, `CREATE TABLE t x`, `PRIMARY KEY x`, `FOREIGN KEY x REFERENCES t y`, `TBLPROPERTIES x`,
     `PARTITIONED BY x`, `PARTITION x`;
   * `splitBy_flatten` / `splitBy_nonempty`: splitting at commas loses the commas only, but EMPTY segments vanish —
     `IN (1,,2)`, `VALUES (1,,2)`, `GROUPING SETS ((a,,b))` are accepted as if the second comma were not there (no identifier or
     literal is lost, so this is outside the accounting clause of C08; the code does the same, `scanner.py:223-236`);
   * `closed_pSingleParen`: the bracket loop of `_parse_single_select_statement` pops the NEXT token of the outer cursor instead of
     descending; because `close()` is then called on every cursor it opened, a run that entered the loop never succeeds
     (`((SELECT 1))` is a parse error in model and code), a run that did not has parsed the whole group.
3. `stored_or_keyword` — the accounting theorem for the PLAIN fragment of the expression grammar (`PM.Plain`: columns, literals,
   wildcards, array indexing, unary / binary compute operators, comparisons, `IS` / `LIKE` / `RLIKE` / `REGEXP` / `BETWEEN`,
   `NOT` / `AND` / `XOR` / `OR`, both forms of `CASE`, bracketed sub-expressions, at any nesting):
   `pOr d n ts = ok (v, r) → Plain v → ∃ used, ts = used ++ r ∧ ∀ t ∈ used, Acc (tE v) t` where `tE v` is EVERY string stored in the
   tree (`Val.texts (Expr.toVal v)`: what the canonical dump shows) and `Acc T t` says: `t.src ∈ T`, or `unifyName t.src ∈ T`, or the
   (upper-cased) source is one of the 51 entries of the fixed word list `PM.KW`, or `t` is a bracket group whose children are all
   accounted for.  Proved for all 38 functions of the expression grammar at once (`PM.AccF`, `PM.accF_all`), with accumulators
   (`T ⊇ texts of what the function was handed`); the functions that build function calls, windows, `IN`, `EXISTS` and sub-queries
   are proved never to return a plain tree (`NotPlain`), so they need no accounting statement.
   Why those are NOT in the fragment (what is missing): their accounting statements are FALSE without hypotheses on the token list —
   * F-C08-6 class: `a IN b`, `f(x) OVER w` (a word where the bracket is expected is dropped);
   * found by stating this theorem, confirmed on the code, since REPAIRED in code and model (`/repo` 3f05ecd): the schema qualifier
     of `CAST` / `EXTRACT` / `IF` was dropped — `SELECT foo.cast(a AS int) FROM t` was accepted with `foo` nowhere in the tree
     (`pFunc` dispatched on the upper-cased name alone and the three special parsers never see the schema); now `foo.cast(…)` is an
     ordinary call of `foo.cast` (`#guard`s at the end);
   * a dotted name in ONE token (`` `foo.bar`(a) ``) is stored as its two halves, which needs one more alternative in `Acc`.
   `call_arguments_accounted` covers the arguments of ONE call level under the visible hypothesis that a bracket follows the name.
   A bracket group can also be accounted for AS A WHOLE by the name rule (`SELECT [1] FROM t` is accepted with the column name
   `(1)`, `WITH (a b) AS (…)` with the table name `(ab)`: class F-C08-5), which is why the theorem is stated on the token tree
   (`Acc` descends only where the parser did) and not on the flattened list of leaves.
   SELECT statements and DML are `C08A.lean`'s, DDL is `C08D.lean`'s.

The lexer half (every character of the text is in some token) is C04's; printing (what is stored is printed) is C01 / C13's.
-/
open Lex PM Ast
namespace C08

/-! ### 1. the parser consumes a prefix of its cursor -/
/-- every cursor-returning function of the expression / SELECT parser, at every fuel (one field per function) -/
theorem consumes_prefix (d : Gen.D) (n : Nat) : ConsF d n := consF_all d n
theorem consumes_prefix_expr (d : Gen.D) (n : Nat) (ts : List Tok) (v : Expr) (r : List Tok) (h : pOr d n ts = .ok (v, r)) :
    ∃ used, ts = used ++ r := pOr_consumes d n ts v r h
/-- one statement of any kind -/
theorem consumes_prefix_statement (d : Gen.D) (f : Nat) (ts : List Tok) (s : Stmt) (r : List Tok) (h : pStatement d f ts = .ok (s, r)) :
    ∃ used, ts = used ++ r := pStatement_consumes d f ts s r h

/-- the token list is cut into statements: each is parsed from where the previous one (and the optional `;`) ended -/
inductive Covered (d : Gen.D) (f : Nat) : List Tok → List Stmt → Prop
  | nil : Covered d f [] []
  | cons {ts s r ss} : pStatement d f ts = .ok (s, r) → Covered d f (moveStr r ";").2 ss → Covered d f ts (s :: ss)

/-- `parse_statements` has consumed the whole text: it returns at the end of the token list only -/
theorem statements_covered (d : Gen.D) (f : Nat) : ∀ g acc ts ss, statementsLoop d f g acc ts = .ok ss →
    ∃ ss', ss = acc ++ ss' ∧ Covered d f ts ss' := by
  intro g
  induction g with
  | zero => intro acc ts ss h; simp [statementsLoop] at h
  | succ g ih =>
    intro acc ts ss h
    rcases closed_statementsLoop (g + 1) acc ts ss h with ⟨rfl, rfl⟩ | ⟨s, r, hs, hl⟩
    · exact ⟨[], by simp, .nil⟩
    · obtain ⟨ss', rfl, hc⟩ := ih _ _ _ hl
      exact ⟨s :: ss', by simp, .cons hs hc⟩
/-- … and between two statements nothing but one optional `;` is skipped -/
theorem between_statements (r : List Tok) : (moveStr r ";").2 = r ∨ ∃ t, r = t :: (moveStr r ";").2 ∧ t.srcEq ";" = true := by
  unfold moveStr
  split
  · rename_i h; right
    cases r with
    | nil => simp [searchStr] at h
    | cons t r' => exact ⟨t, rfl, by simpa [searchStr] using h⟩
  · left; rfl

/-! ### 2. every opened bracket group is parsed to its end -/
/-- the inversion lemmas of the functions of the mutual block that open a child cursor, bundled (statements: `#check` the parts, or
`MsqProofs/Lemmas/ParseAccountClosed.lean`) -/
theorem children_closed (d : Gen.D) (n : Nat) :
    type_of% (@closed_pParen d n) ∧ type_of% (@closed_pIndex d n) ∧ type_of% (@closed_pIfCall d n) ∧ type_of% (@closed_pCall d n) ∧
    type_of% (@closed_pSplit d) ∧ type_of% (@closed_pInBody d n) ∧ type_of% (@closed_pSubQuery d n) ∧ type_of% (@closed_pCast d n) ∧
    type_of% (@closed_castTail) ∧ type_of% (@closed_castParams) ∧ type_of% (@closed_pExtract d n) ∧ type_of% (@closed_pExtractTail d n) ∧
    type_of% (@closed_pWindow d n) ∧ type_of% (@closed_pWindowBody d n) ∧ type_of% (@closed_pTableExpr d n) ∧
    type_of% (@closed_pGroupingSets d n) ∧ type_of% (@closed_pGroupingElems d) ∧ type_of% (@closed_pGroupingElem d n) ∧
    type_of% (@closed_pClosedEach d) ∧ type_of% (@closed_pWithBody d n) ∧ type_of% (@closed_pSingle d n) ∧
    type_of% (@closed_pSingleParen d) :=
  ⟨closed_pParen, closed_pIndex, closed_pIfCall, closed_pCall, closed_pSplit, closed_pInBody, closed_pSubQuery, closed_pCast,
   closed_castTail, closed_castParams, closed_pExtract, closed_pExtractTail, closed_pWindow, closed_pWindowBody, closed_pTableExpr,
   closed_pGroupingSets, closed_pGroupingElems, closed_pGroupingElem, closed_pClosedEach, closed_pWithBody, closed_pSingle,
   closed_pSingleParen⟩
/-- the same for the statement level -/
theorem children_closed_stmt (d : Gen.D) (f : Nat) :
    type_of% (@closed_eachClosed) ∧ type_of% (@closed_pColType d f) ∧ type_of% (@closed_pPartition d f) ∧ type_of% (@closed_pNameList) ∧
    type_of% (@closed_pIndexCol) ∧ type_of% (@closed_pIndexCols) ∧ type_of% (@closed_pGenerated d f) ∧ type_of% (@closed_valuesLoop d f) ∧
    type_of% (@closed_pOptColumns) ∧ type_of% (@closed_createElems d f) ∧ type_of% (@closed_createOpts_partitioned d f) ∧
    type_of% (@closed_pCreateTable d f) ∧ type_of% (@closed_statementsLoop d f) :=
  ⟨closed_eachClosed, closed_pColType, closed_pPartition, closed_pNameList, closed_pIndexCol, closed_pIndexCols, closed_pGenerated,
   closed_valuesLoop, closed_pOptColumns, closed_createElems, closed_createOpts_partitioned, closed_pCreateTable, closed_statementsLoop⟩
/-- the bracketed sub-expression, in full: the group is parsed by `pOr` to its end, or it is a sub-query parsed to its end -/
theorem paren_closed (d : Gen.D) (n : Nat) (g : Tok) (r0 : List Tok) (v : Expr) (r : List Tok) (h : pParen d (n+2) g r0 = .ok (v, r)) :
    r = r0 ∧ (pOr d (n+1) g.children = .ok (v, []) ∨ ∃ q, pSelectStmt d n none g.children = .ok (q, []) ∧ v = .subQuery q) := by
  rcases closed_pParen h with ⟨_, hq⟩ | ⟨_, rfl, ho⟩
  · obtain ⟨g', q, hg, hq', rfl⟩ := closed_pSubQuery hq
    simp only [List.cons.injEq] at hg
    obtain ⟨rfl, rfl⟩ := hg
    exact ⟨rfl, Or.inr ⟨q, hq', rfl⟩⟩
  · exact ⟨rfl, Or.inl ho⟩
/-- comma-separated lists: the segments are the children without the commas, none of them empty -/
theorem segments (cs : List Tok) :
    (splitBy "," cs [] []).flatten = cs.filter (fun t => !t.equalsStr ",") ∧ ∀ sg ∈ splitBy "," cs [] [], sg ≠ [] :=
  ⟨by simpa using splitBy_flatten "," cs [] [], splitBy_nonempty "," cs [] [] (by simp)⟩

/-! ### 3. every consumed token is stored in the tree or is a word of the grammar -/
/-- all 38 functions of the expression grammar (one field per function, with accumulators) -/
theorem stored_or_keyword_all (d : Gen.D) (n : Nat) : AccF d n := accF_all d n
/-- what `Acc` says, unfolded once -/
theorem acc_cases {T : List String} {t : Tok} (h : Acc T t) :
    t.src ∈ T ∨ unifyName t.src ∈ T ∨ up t.src ∈ KW ∨ t.src ∈ KW ∨
      ((t.has PAREN = true ∨ t.has ARRAY = true) ∧ ∀ c ∈ t.children, Acc T c) := by
  cases h with
  | text h => exact Or.inl h
  | name h => exact Or.inr (Or.inl h)
  | kw h =>
    simp only [KwTok, isKW, Bool.or_eq_true, List.contains_eq_mem, decide_eq_true_eq] at h
    exact h.elim (fun h => Or.inr (Or.inr (Or.inl h))) (fun h => Or.inr (Or.inr (Or.inr (Or.inl h))))
  | group hb hc =>
    simp only [IsBracket, Bool.or_eq_true] at hb
    exact Or.inr (Or.inr (Or.inr (Or.inr ⟨hb, hc⟩)))
/-- the accounting theorem at the top of the expression grammar -/
theorem stored_or_keyword (d : Gen.D) (n : Nat) (ts : List Tok) (v : Expr) (r : List Tok)
    (h : pOr d n ts = .ok (v, r)) (hp : Plain v = true) :
    ∃ used, ts = used ++ r ∧ ∀ t ∈ used, Acc (tE v) t := by
  have := (accF_all d n).pOr ts v r h hp
  exact (this.2 (tE v) (fun _ h => h)).1
/-- the same for every precedence level the public entry points expose -/
theorem stored_or_keyword_levels (d : Gen.D) (n : Nat) (ts : List Tok) (v : Expr) (r : List Tok) (hp : Plain v = true)
    (h : pElement d n ts = .ok (v, r) ∨ pUnary d n ts = .ok (v, r) ∨ pCompute d n ts = .ok (v, r) ∨ pKeyword d n none ts = .ok (v, r) ∨
      pCompare d n ts = .ok (v, r) ∨ pNot d n ts = .ok (v, r) ∨ pAnd d n ts = .ok (v, r) ∨ pXor d n ts = .ok (v, r) ∨ pCase d n ts = .ok (v, r)) :
    ∃ used, ts = used ++ r ∧ ∀ t ∈ used, Acc (tE v) t := by
  have F := accF_all d n
  have hs : PM.Sub (tE v) (tE v) := fun _ h => h
  rcases h with h | h | h | h | h | h | h | h | h
  · exact ((F.pElement ts v r h hp).2 _ hs).1
  · exact ((F.pUnary ts v r h hp).2 _ hs).1
  · exact ((F.pCompute ts v r h hp).2 _ hs).1
  · exact ((F.pKeyword none ts v r h hp).2 _ hs).1
  · exact ((F.pCompare ts v r h hp).2 _ hs).1
  · exact ((F.pNot ts v r h hp).2 _ hs).1
  · exact ((F.pAnd ts v r h hp).2 _ hs).1
  · exact ((F.pXor ts v r h hp).2 _ hs).1
  · exact ((F.pCase ts v r h hp).2 _ hs).1
/-- the excluded constructs are exactly what the excluded functions build: none of them returns a plain tree -/
theorem not_plain (d : Gen.D) (n : Nat) (ts : List Tok) (v : Expr) (r : List Tok)
    (h : pFuncIdx d n ts = .ok (v, r) ∨ pWindow d n ts = .ok (v, r) ∨ pSubQuery d n ts = .ok (v, r) ∨ pCast d n ts = .ok (v, r) ∨
      pExtract d n ts = .ok (v, r) ∨ pIfCall d n ts = .ok (v, r)) : Plain v = false := by
  have F := accF_all d n
  rcases h with h | h | h | h | h | h
  · exact F.pFuncIdx ts v r h
  · exact F.pWindow ts v r h
  · exact F.pSubQuery ts v r h
  · exact F.pCast ts v r h
  · exact F.pExtract ts v r h
  · exact F.pIfCall ts v r h

/-- function call arguments, one call level: if a bracket follows the name (the hypothesis F-C08-6 makes necessary) and the
arguments are plain, every token of the argument list — after `SUBSTRING`'s `FROM` / `FOR` have been turned into commas and an
aggregate's `DISTINCT` has been recorded in the flag — is accounted for by the texts of the arguments -/
theorem call_arguments_accounted (d : Gen.D) (n : Nat) (schema : Option String) (name : String) (g : Tok) (r' : List Tok) (v : Expr) (r : List Tok)
    (h : pCall d (n+1) schema name (g :: r') = .ok (v, r)) :
    r = r' ∧ ∃ ps, v = callNode schema name (callPrep name g).1 (callPrep name g).2.1 ps ∧
      (PlainL ps = true → ∀ t ∈ (callPrep name g).2.2, Acc (tEs ps) t) := by
  obtain ⟨g', acc, r2, ps, hg, h1, h2, rfl⟩ := closed_pCall h
  simp only [List.cons.injEq] at hg
  obtain ⟨rfl, rfl⟩ := hg
  refine ⟨rfl, ps, rfl, fun hp => ?_⟩
  have F := accF_all d n
  obtain ⟨hacc, h3⟩ := F.pArgs acc r2 ps [] h2 hp
  obtain ⟨a3, s3⟩ := h3 (tEs ps) (fun _ h => h)
  obtain ⟨_, h4⟩ := F.pFirstArg _ acc r2 h1 hacc
  obtain ⟨a4, _⟩ := h4 (tEs ps) s3
  exact acc3_all (a4.trans a3)

/-! ### non-vacuity on lexed texts (`String` operations do not reduce by `decide`: `#guard`) -/
def toks (s : String) : List Tok := match Lex.lex Gen.cfgS s.toList with | .ok ts => ts | .error _ => []
mutual
def accB (T : List String) : Tok → Bool
  | .single s m => T.contains (Tok.src (.single s m)) || T.contains (unifyName (Tok.src (.single s m))) || KwTok (.single s m)
  | .group k cs m => T.contains (Tok.src (.group k cs m)) || T.contains (unifyName (Tok.src (.group k cs m))) ||
      (IsBracket (.group k cs m) && accBL T cs)
def accBL (T : List String) : List Tok → Bool
  | [] => true
  | t :: ts => accB T t && accBL T ts
end
/-- the hypotheses of `stored_or_keyword` hold, nothing is left, and every consumed token passes the evaluated `Acc` -/
def holds (s : String) : Bool :=
  match pOr .MYSQL 400 (toks s) with
  | .ok (v, []) => Plain v && accBL (tE v) (toks s) && !(toks s).isEmpty
  | _ => false
def textsOf (s : String) : List String := match pOr .MYSQL 400 (toks s) with | .ok (v, _) => tE v | .error _ => []

#guard holds "a + b * 2 > c AND NOT d IS NOT NULL OR x LIKE 'p%' XOR y BETWEEN 1 AND -z"
#guard holds "CASE WHEN a = 1 THEN 'one' WHEN a = 2 THEN t.`two` ELSE c[1 + i] END <> (x || (y && t.*))"
#guard holds "CASE k WHEN 1 THEN a ELSE b END DIV 3 MOD 2 <=> ~ `q`"
-- a consumed token IS in the texts: names after `unifyName`, literals verbatim; the keywords are not
#guard (textsOf "a + `b` * 2 > 'x'").contains "a" && (textsOf "a + `b` * 2 > 'x'").contains "b" && (textsOf "a + `b` * 2 > 'x'").contains "2"
#guard (textsOf "a + `b` * 2 > 'x'").contains "'x'" && !(textsOf "a AND b").contains "AND"
-- outside the fragment the tree is not plain …
#guard !holds "f(a)" && !holds "a IN (1, 2)" && !holds "CAST(a AS int)" && !holds "a + (SELECT 1)"
-- … and the accounting statement is really false there: the word after IN is dropped (F-C08-6)
#guard (match pOr .MYSQL 400 (toks "a IN b") with | .ok (v, []) => !(tE v).contains "b" | _ => false)
-- the schema qualifier of a call is kept, also before IF / CAST (repaired: it used to be dropped there)
#guard (match pOr .MYSQL 400 (toks "foo.bar(a)") with | .ok (v, []) => (tE v).contains "foo" && (tE v).contains "bar" | _ => false)
#guard (match pOr .MYSQL 400 (toks "foo.if(a, b, c)") with | .ok (v, []) => (tE v).contains "foo" && (tE v).contains "if" | _ => false)
#guard (match pOr .MYSQL 400 (toks "foo.cast(a AS int)") with | .error _ => true | _ => false)
-- consumes_prefix / children_closed are about successful runs: there are some, with and without a rest, with brackets
#guard (match pOr .MYSQL 400 (toks "(a + (b)) c") with | .ok (_, r) => r.length == 1 | _ => false)
#guard (match pStatement .MYSQL 400 (toks "SELECT f(a, (b)) FROM (t) WHERE x IN (1, 2)") with | .ok (_, []) => true | _ => false)
-- a child cursor that is not exhausted is an error; an empty segment is not
#guard (match pOr .MYSQL 400 (toks "(a b)") with | .error _ => true | _ => false)
#guard (match pOr .MYSQL 400 (toks "a IN (1,,2)"), pOr .MYSQL 400 (toks "a IN (1,2)") with
  | .ok (v, []), .ok (w, []) => tE v == tE w | _, _ => false)

end C08
