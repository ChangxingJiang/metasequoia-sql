import MsqModel.Gen.WriteSet
import MsqModel.Parse.Entry
/-!
# C12 — results depend only on the input text and dialect

The models are functions, so in the model a result cannot depend on history, order or schedule; the
implementation has the property iff it agrees with the model under every history (that is what the check's
shuffled / threaded / multi-seed correspondence samples).  What is proved here: (1) a frame theorem for an
abstract system whose calls never write the shared state — history-, order- and schedule-independence
follow; (2) the frame FACT for the code as far as syntax shows it: the generated write-set report of the
modelled modules is empty (`decide`, regenerated on every run).
-/
namespace C12

/-- a system whose calls read a shared state and an input, and return an output and the new shared state -/
structure System (Shared In Out : Type) where
  run : Shared → In → Out × Shared

variable {Shared In Out : Type}

/-- no call writes the shared state -/
def System.Framed (S : System Shared In Out) : Prop := ∀ σ i, (S.run σ i).2 = σ

/-- sequential execution of a history -/
def System.exec (S : System Shared In Out) : Shared → List In → List Out × Shared
  | σ, [] => ([], σ)
  | σ, i :: is => let r := S.run σ i; let rest := S.exec r.2 is; (r.1 :: rest.1, rest.2)

/-- a history of a framed system: the stand-alone outputs, call by call, and the state it started in -/
theorem exec_eq (S : System Shared In Out) (hF : S.Framed) (σ : Shared) (hist : List In) :
    S.exec σ hist = (hist.map fun i => (S.run σ i).1, σ) := by
  induction hist with
  | nil => rfl
  | cons i is ih => simp [System.exec, hF σ i, ih]

theorem exec_state (S : System Shared In Out) (hF : S.Framed) (σ : Shared) (hist : List In) : (S.exec σ hist).2 = σ := by
  rw [exec_eq S hF]

/-- history independence: after ANY history (valid or failing calls alike) a call returns what it returns on a fresh system -/
theorem history_independent (S : System Shared In Out) (hF : S.Framed) (σ : Shared) (hist : List In) (i : In) :
    (S.run (S.exec σ hist).2 i).1 = (S.run σ i).1 := by rw [exec_state S hF]

/-- the outputs of a history are the stand-alone outputs, call by call -/
theorem exec_outputs (S : System Shared In Out) (hF : S.Framed) (σ : Shared) (hist : List In) :
    (S.exec σ hist).1 = hist.map fun i => (S.run σ i).1 := by
  rw [exec_eq S hF]

/-- order independence: running the calls in another order permutes the outputs accordingly -/
theorem order_independent (S : System Shared In Out) (hF : S.Framed) (σ : Shared) (h1 h2 : List In) (hp : h1.Perm h2) :
    ((S.exec σ h1).1).Perm ((S.exec σ h2).1) := by
  rw [exec_outputs S hF, exec_outputs S hF]; exact hp.map _

/-- schedule independence: an interleaving of atomic calls of several threads is a sequential history, so every
call returns its stand-alone output whatever the schedule (a schedule = a merge of the threads' call lists) -/
theorem schedule_independent (S : System Shared In Out) (hF : S.Framed) (σ : Shared) (schedule : List In) :
    ∀ k (hk : k < schedule.length), ((S.exec σ schedule).1)[k]? = some (S.run σ schedule[k]).1 := by
  intro k hk; simp [exec_outputs S hF, hk]

/-- the parser model as a system with a trivial shared state: it is framed by construction -/
def parserSystem : System Unit (String × Gen.D × List Char) (Except Err (Val × Nat)) :=
  ⟨fun _ i => (PM.parseText i.1 i.2.1 i.2.2, ())⟩
theorem parserSystem_framed : parserSystem.Framed := fun _ _ => rfl

/-- frame fact for the code (syntactic): no modelled module stores to a module global, a class attribute, an
operation object outside `__init__`, uses `global`/`nonlocal`, calls a mutating method on a shared object, or has
a mutable default argument -/
theorem write_set_empty : Gen.writeSet = [] := by decide

end C12
