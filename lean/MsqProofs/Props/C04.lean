import MsqProofs.Lemmas.LexLossless
import MsqProofs.Oblig.LexCfg0
import MsqProofs.Oblig.LexCfg1
import MsqProofs.Oblig.LexCfg2
import MsqProofs.Oblig.LexCfg3
import MsqProofs.Oblig.LexCfg4
import MsqProofs.Oblig.LexCfg5
import MsqProofs.Oblig.LexCfg6
import MsqProofs.Oblig.LexCfg7
/-!
# C04 — tokenisation is lossless and brackets are faithfully nested

Property theorems only; helper lemmas live in `MsqProofs/Lemmas`, table obligations in `MsqProofs/Oblig`.
-/
namespace C04
open Lex

/-- the 8 option settings, `i = 4·IGNORE_SPACE + 2·IGNORE_LINEBREAK + IGNORE_COMMENT` -/
def cfgOf : Fin 8 → Cfg Gen.Cls
  | 0 => Gen.Cfg0.cfg | 1 => Gen.Cfg1.cfg | 2 => Gen.Cfg2.cfg | 3 => Gen.Cfg3.cfg
  | 4 => Gen.Cfg4.cfg | 5 => Gen.Cfg5.cfg | 6 => Gen.Cfg6.cfg | 7 => Gen.Cfg7.cfg

theorem forall_settings {P : Fin 8 → Prop} (h0 : P 0) (h1 : P 1) (h2 : P 2) (h3 : P 3) (h4 : P 4) (h5 : P 5) (h6 : P 6)
    (h7 : P 7) (i : Fin 8) : P i := by
  match i with
  | 0 => exact h0 | 1 => exact h1 | 2 => exact h2 | 3 => exact h3 | 4 => exact h4 | 5 => exact h5 | 6 => exact h6 | 7 => exact h7

theorem tableOK_all : ∀ i : Fin 8, ∃ (advSt : List S) (wk : S → WK), TableOK (cfgOf i) advSt wk = true :=
  forall_settings ⟨_, _, Oblig.tableOK_cfg0⟩ ⟨_, _, Oblig.tableOK_cfg1⟩ ⟨_, _, Oblig.tableOK_cfg2⟩ ⟨_, _, Oblig.tableOK_cfg3⟩
    ⟨_, _, Oblig.tableOK_cfg4⟩ ⟨_, _, Oblig.tableOK_cfg5⟩ ⟨_, _, Oblig.tableOK_cfg6⟩ ⟨_, _, Oblig.tableOK_cfg7⟩

theorem depth_le : ∀ i : Fin 8, (cfgOf i).depthLimit ≤ 1 :=
  forall_settings Oblig.depth_cfg0 Oblig.depth_cfg1 Oblig.depth_cfg2 Oblig.depth_cfg3 Oblig.depth_cfg4 Oblig.depth_cfg5
    Oblig.depth_cfg6 Oblig.depth_cfg7

/-- C04(a): for every option setting and every text the lexer accepts, the leaf tokens in order are
consecutive, non-overlapping slices of the pre-processed input, and everything between them is
empty, a blank, a bracket character, or text beginning with a comment opener. -/
theorem cover (i : Fin 8) (raw : List Char) (toks : List Tok) (h : lex (cfgOf i) raw = .ok toks) :
    ∃ segs : List Seg, (segs.map Seg.text).flatten = (cfgOf i).pre raw ∧ tokTexts segs = leavesL toks
      ∧ ∀ g ∈ gapTexts segs, gapOKb g = true := by
  obtain ⟨advSt, wk, hT⟩ := tableOK_all i
  exact lex_lossless _ advSt wk hT (depth_le i) raw toks h

/-- non-vacuity: a non-trivial text is accepted under the shipped setting -/
example : (lex (cfgOf 7) "SELECT a, (b + 1) FROM `t` -- x".toList).isOk = true := by decide +kernel

/-! ## Known findings: the model exhibits each violation on the recorded witness (kernel-evaluated) -/

/-- F-C04-1: the bracket stack is untyped — `(a]` is accepted, as one *slice* group (`fsm_operate.py:290-337`) -/
theorem witness_mixed_brackets :
    lexesTo (lex (cfgOf 7) "(a]".toList) [.group .slice [.single ['a'] 2] 512] = true := by decide +kernel

/-- F-C04-2: a slice group renders with round brackets (`amt_node.py:115`): `a[1]` has source `a(1)` -/
theorem witness_slice_renders_round :
    (match lex (cfgOf 7) "a[1]".toList with | .ok ts => sourceL ts == "a(1)".toList | .error _ => false) = true := by
  decide +kernel

/-- F-C04-3: with every retention option on, a TAB does not come back (it is rewritten by the pre-pass) -/
theorem witness_tab_not_retained :
    (match lex (cfgOf 0) "a\tb".toList with | .ok ts => sourceL ts == "a b".toList | .error _ => false) = true := by
  decide +kernel

end C04
