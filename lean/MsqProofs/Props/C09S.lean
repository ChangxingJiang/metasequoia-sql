import MsqProofs.Props.C03Q
/-!
# C09 / C13 — spelling-generalised T-parse: the spellings the parser treats alike give the SAME tree

**Fragment**: exactly the nested fragment of Props/C03Q.lean — `TQ.FragQ d q` (queries: SELECTs over nested expressions, set operations,
derived tables, sub-queries in expressions, any depth), `TQ.FragE3 d e` (expressions).

**Spelled printer** (Lemmas/TSpell0.lean): `TSP.toksQ d sp q` / `TSP.toksE3 d sp e` (`C09.toksQsp` / `C09.toksEsp`) — the token rendering of
`q` in which the record `sp : TSP.Sp` of choice functions picks, node by node, among the spellings the parser accepts:
`!=` / `<>` (`sp.ne`), `AND` / `&&` (`sp.amp`), `OR` / `||` (`sp.bar`), `/` / `DIV` and `%` / `MOD` (`sp.word`, keyed by the operand
after the operator), prefix `NOT` / `!` (`sp.bang`; Hive only: `SpOK.bang`), alias with / without `AS` (`sp.bareC` select items, `sp.bareT`
FROM and JOIN items), `ASC` written or not (`sp.asc`), `LIMIT m, n` / `LIMIT n OFFSET m` (`sp.offs`), redundant brackets (`sp.ch`).
`TSP.plainCh ch` is the printer's own spelling with bracket choice `ch`: `TSP.toksQ d (plainCh ch) q = TQ.toksQ d ch q` (`C09.plain_is_printer`,
Lemmas/TSpellP.lean), so `C03.tquery_ch` is the special case in which nothing but brackets is chosen (`C09.tquery_ch_instance`) and every
admissible spelling parses like the printer's own token output (`C09.spelled_like_printed`).

**Side conditions** `TSP.SpOK d sp` (Lemmas/TSpellM.lean): `bang` — `!` only for `d = HIVE`; `bareC` / `bareT` — an alias is written without `AS`
only if it is no word that would continue the expression before it or that `_parse_alias_expression` refuses (`TSP.bareOK d a`: `DIV`, `MOD`,
`AND`, `OR`, `IN`, `CROSS`, `USING`, … must keep their `AS`); `grouping` — the first-word condition of the fragment (no leading `GROUPING` in the
first GROUP BY key) for the chosen rendering.  `TSP.spOK_of` discharges it from the same condition about the bracket choice alone
(`TQ.ChOK d sp.ch`, trivial for `noX`): no spelling changes whether a rendering starts with that word (`TSP.head_word`, stated for `DISTINCT`
as well, the other first-word condition of `TQ.ChOK`).

The tree stores member names, never the spelling (`!=` / `<>` ↦ `"NEQ"`, `&&` ↦ `.and_`, `||` ↦ `.or_`, `DIV` ↦ `"DIVIDE"`, `MOD` ↦ `"MOD"`); aliases
without `AS`, explicit `ASC` and `LIMIT n OFFSET m` are covered by the general theorem (records `TSP.bareSp`, `TSP.altSp`).  NOT alike (separating
instances, kernel-checked): `INNER JOIN` is stored as `INNER_JOIN`, `JOIN` as `JOIN`; `UNION DISTINCT` is rejected; `BETWEEN a && b` is an error
(the `AND` of BETWEEN is matched by word).

Finding candidate (F-C13-bang): `C13.witness_hive_bang_before_in` — in the Hive dialect `a ! IN (1)` / `a ! LIKE b` / `a ! BETWEEN …` the
  `!` in the keyword-predicate NOT position (`parser.py:902` asks `get_not_operator_set`) is never reached: the compute level before it has
  already taken `!` as a BINARY operator (`COMPUTE_OPERATOR_HASH` has `"!"`), the result is `a ! IN(1)` with `IN` a function call.

Not covered: keyword letter case (Props/C09P, another family — not composed here); `IS ! NULL` (no choice: `IS NOT` is matched by word);
`!` in the keyword-predicate position (false of the code, see the witness); `INNER JOIN` / `JOIN`, `UNION DISTINCT` (not alike: separating
instances); the link lexer ↔ spelled token printer for arbitrary trees (checked by `#guard` on texts; proved only for the printer's own
spelling in Props/C03L / C03QL).
-/
open Lex PM Ast TP TS TQ

namespace TSP
/-! ### no spelling changes whether a rendering starts with `DISTINCT` / `GROUPING` -/
def keyOf (k : String) (ts : List Tok) : Option Bool := ts.head?.map (fun t => t.srcEqUp k)
theorem searchStrUp_key (ts : List Tok) (k : String) : searchStrUp ts k = (keyOf k ts).getD false := by cases ts <;> rfl
theorem keyOf_append (k : String) (a b : List Tok) : keyOf k (a ++ b) = (keyOf k a).or (keyOf k b) := by cases a <;> simp [keyOf]
theorem keyOf_cons (k : String) (t : Tok) (a : List Tok) : keyOf k (t :: a) = some (t.srcEqUp k) := rfl
theorem keyOf_grp {k : String} (hk : k = "DISTINCT" ∨ k = "GROUPING") (cs : List Tok) : (grp cs).srcEqUp k = false := by
  have h2 : (up (grp cs).src).toList.head? = some '(' := by simp [toList_up_grp]
  simp only [Tok.srcEqUp, beq_eq_false_iff_ne, ne_eq]
  rcases hk with rfl | rfl <;> exact ne_of_head h2 (by decide)
theorem keyOf_wrapT {k : String} (hk : k = "DISTINCT" ∨ k = "GROUPING") (x : Bool) (e : Expr) (L : Nat) (ts : List Tok) :
    keyOf k (wrapT x e L ts) = if PR.lvl e > L ∨ x = true then some false else keyOf k ts := by
  unfold wrapT; split
  · simp [keyOf, keyOf_grp hk]
  · rfl
theorem tok_keys {k : String} (hk : k = "DISTINCT" ∨ k = "GROUPING") (b : Bool) :
    (andTok b).srcEqUp k = (opTok "AND").srcEqUp k ∧ (orTok b).srcEqUp k = (opTok "OR").srcEqUp k ∧
    (notTok b).srcEqUp k = (opTok "NOT").srcEqUp k := by rcases hk with rfl | rfl <;> cases b <;> decide
theorem cmp_key {k : String} (hk : k = "DISTINCT" ∨ k = "GROUPING") (b : Bool) (o : String) :
    (cmpTok b o).srcEqUp k = (opTok (cmpVal o)).srcEqUp k := by
  unfold cmpTok; split
  · rename_i h; simp only [Bool.and_eq_true, beq_iff_eq] at h; rw [h.2]; rcases hk with rfl | rfl <;> decide
  · rfl
theorem cval_key {k : String} (hk : k = "DISTINCT" ∨ k = "GROUPING") (b : Bool) (o : String) :
    (opTok (cvalSp b o)).srcEqUp k = (opTok (cval o)).srcEqUp k := by
  unfold cvalSp; split
  · rename_i h; simp only [Bool.and_eq_true, beq_iff_eq] at h; rw [h.2]; rcases hk with rfl | rfl <;> decide
  · split
    · rename_i h; simp only [Bool.and_eq_true, beq_iff_eq] at h; rw [h.2]; rcases hk with rfl | rfl <;> decide
    · rfl

/-- the first token of a spelled rendering is `DISTINCT` / `GROUPING` iff the first token of the rendering with the same brackets and the
printer's own spellings is -/
theorem head_word (d : Gen.D) (sp : Sp) {k : String} (hk : k = "DISTINCT" ∨ k = "GROUPING") :
    ∀ e : Expr, keyOf k (toksE3 d sp e) = keyOf k (TQ.toksE3 d sp.ch e)
  | .column t c => by cases t <;> simp only [toksE3, TQ.toksE3]
  | .literal .. | .cast .. | .extract .. | .window .. | .index .. | .mybatis .. => by simp only [toksE3, TQ.toksE3]
  | .wildcard t => by cases t <;> simp only [toksE3, TQ.toksE3]
  | .func s n ps => by cases s <;> simp only [toksE3, TQ.toksE3, List.nil_append, List.cons_append, keyOf_cons]
  | .agg .. | .caseCond .. | .caseVal .. | .exists_ .. | .unary .. => by simp only [toksE3, TQ.toksE3, keyOf_cons]
  | .subValue .. | .subQuery .. => by simp only [toksE3, TQ.toksE3, keyOf_cons, keyOf_grp hk]
  | .compute l o r => by
      have ih := head_word d sp hk l
      simp only [toksE3, TQ.toksE3, keyOf_append, keyOf_cons, keyOf_wrapT hk, ih, cval_key hk]
  | .kw kk n l r => by
      have ih := head_word d sp hk l
      simp only [toksE3, TQ.toksE3, keyOf_append, keyOf_wrapT hk, ih]
      cases kk <;> cases n <;> simp [kwToks, keyOf]
  | .between n b f t => by
      have ih := head_word d sp hk b
      simp only [toksE3, TQ.toksE3, keyOf_append, keyOf_cons, keyOf_wrapT hk, ih]
  | .compare o l r => by
      have ih := head_word d sp hk l
      simp only [toksE3, TQ.toksE3, keyOf_append, keyOf_cons, keyOf_wrapT hk, ih, cmp_key hk]
  | .not_ e => by simp only [toksE3, TQ.toksE3, keyOf_cons, (tok_keys hk _).2.2]
  | .and_ l r => by
      have ih := head_word d sp hk l
      simp only [toksE3, TQ.toksE3, keyOf_append, keyOf_cons, keyOf_wrapT hk, ih, (tok_keys hk _).1]
  | .xor l r => by
      have ih := head_word d sp hk l
      simp only [toksE3, TQ.toksE3, keyOf_append, keyOf_cons, keyOf_wrapT hk, ih]
  | .or_ l r => by
      have ih := head_word d sp hk l
      simp only [toksE3, TQ.toksE3, keyOf_append, keyOf_cons, keyOf_wrapT hk, ih, (tok_keys hk _).2.1]

theorem head_word_key (d : Gen.D) (sp : Sp) (e : Expr) : searchStrUp (W3 d sp e 8) "GROUPING" = searchStrUp (TQ.W3 d sp.ch e 8) "GROUPING" := by
  have hk : "GROUPING" = "DISTINCT" ∨ "GROUPING" = "GROUPING" := Or.inr rfl
  simp only [searchStrUp_key, W3, TQ.W3, keyOf_wrapT hk, head_word d sp hk e]

/-- **discharging `SpOK`**: the first-word condition from the same condition about the bracket choice alone (`TQ.ChOK`, trivial for `noX`) -/
theorem spOK_of {d : Gen.D} {sp : Sp} (hch : TQ.ChOK d sp.ch) (hbang : ∀ e, sp.bang e = true → d = .HIVE)
    (hC : ∀ c, optBareOK d (sp.bareC c) c.2 = true) (hT : ∀ t a, optBareOK d (sp.bareT (.mk t a)) a = true) : SpOK d sp :=
  ⟨fun e h => by rw [head_word_key]; exact hch.grouping e h, hbang, hC, hT⟩
theorem spOK_free {d : Gen.D} {sp : Sp} (hch : sp.ch = noX) (hbang : sp.bang = fun _ => false) (hC : sp.bareC = fun _ => false)
    (hT : sp.bareT = fun _ => false) : SpOK d sp := by
  refine spOK_of (by rw [hch]; exact TQ.chOK_noX) (fun e h => by simp [hbang] at h) (fun c => ?_) (fun t a => ?_)
  · rw [hC]; cases c.2 <;> rfl
  · rw [hT]; cases a <;> rfl
end TSP

namespace TSP
/-- every alternative spelling that is admissible in every dialect and for every alias: `<>`, `&&`, `||`, `DIV` / `MOD`, `ASC`, `OFFSET` -/
def altSp : Sp := ⟨noX, fun _ => true, fun _ => true, fun _ => true, fun _ => false, fun _ => true, fun _ => false, fun _ => false,
  fun _ => true, fun _ _ => true⟩
/-- the printer's spellings, except `!` at EVERY `NOT` node -/
def bangAll : Sp := { plain with bang := fun _ => true }
/-- the printer's spellings, except that `AS` is dropped wherever `bareOK` allows it -/
def bareSp (d : Gen.D) : Sp :=
  { plain with bareC := fun c => match c.2 with | some a => bareOK d a | none => false,
               bareT := fun t => match t with | .mk _ (some a) => bareOK d a | .mk _ none => false }
theorem spOK_alt (d : Gen.D) : SpOK d altSp := spOK_free rfl rfl rfl rfl
theorem spOK_plain (d : Gen.D) : SpOK d plain := spOK_free rfl rfl rfl rfl
theorem spOK_bangAll : SpOK .HIVE bangAll :=
  spOK_of TQ.chOK_noX (fun _ _ => rfl) (fun c => by cases c.2 <;> rfl) (fun t a => by cases a <;> rfl)
theorem spOK_bare (d : Gen.D) : SpOK d (bareSp d) := by
  refine spOK_of TQ.chOK_noX (fun e h => by simp [bareSp, plain, plainCh] at h) (fun c => ?_) (fun t a => ?_)
  · obtain ⟨e, a⟩ := c
    cases a with
    | none => rfl
    | some a => cases h : bareOK d a <;> simp [bareSp, optBareOK, h]
  · cases a with
    | none => rfl
    | some a => cases h : bareOK d a <;> simp [bareSp, optBareOK, h]
end TSP

namespace C09
/-- the spelled token printers -/
abbrev toksQsp := TSP.toksQ
abbrev toksEsp := TSP.toksE3

/-- **spelling-generalised T-parse, queries.**  Whatever admissible choice `sp` of operator spellings, noise words and redundant brackets
the rendering of a fragment query is written with, the parser returns exactly that tree -/
theorem tquery_spellings (d : Gen.D) (sp : TSP.Sp) (hsp : TSP.SpOK d sp) (q : Query) (hq : FragQ d q = true) (rest : List Tok)
    (hr : stopsQ d rest = true) (fuel : Nat) (hfuel : 20 * sizeL (TSP.toksQ d sp q) + 9 ≤ fuel) :
    pSelectStmt d fuel none (TSP.toksQ d sp q ++ rest) = .ok (q, rest) :=
  (TSP.qt hsp q hq).parse rest hr fuel hfuel
/-- the fuel the public entry points compute from the token list dominates the bound -/
theorem tquery_spellings_entry_fuel (d : Gen.D) (sp : TSP.Sp) (hsp : TSP.SpOK d sp) (q : Query) (hq : FragQ d q = true) (rest : List Tok)
    (hr : stopsQ d rest = true) : pSelectStmt d (fuelFor (TSP.toksQ d sp q ++ rest)) none (TSP.toksQ d sp q ++ rest) = .ok (q, rest) :=
  tquery_spellings d sp hsp q hq rest hr _ (by simp only [fuelFor, sizeL_append]; omega)
/-- the expression half -/
theorem texpr_spellings (d : Gen.D) (sp : TSP.Sp) (hsp : TSP.SpOK d sp) (e : Expr) (hf : FragE3 d e = true) (rest : List Tok)
    (hr : TP2.stops2 d rest = true) (fuel : Nat) (hfuel : 20 * sizeL (TSP.toksE3 d sp e) + 15 ≤ fuel) :
    pOr d fuel (TSP.toksE3 d sp e ++ rest) = .ok (e, rest) :=
  (TSP.rt3 hsp e hf).own.s14 rest hr fuel hfuel

/-- **any two spellings, equal results**: the tree AND the remaining tokens -/
theorem spelling_invariance (d : Gen.D) (sp sp' : TSP.Sp) (hsp : TSP.SpOK d sp) (hsp' : TSP.SpOK d sp') (q : Query) (hq : FragQ d q = true)
    (rest : List Tok) (hr : stopsQ d rest = true) :
    pSelectStmt d (fuelFor (TSP.toksQ d sp q ++ rest)) none (TSP.toksQ d sp q ++ rest) =
      pSelectStmt d (fuelFor (TSP.toksQ d sp' q ++ rest)) none (TSP.toksQ d sp' q ++ rest) := by
  rw [tquery_spellings_entry_fuel d sp hsp q hq rest hr, tquery_spellings_entry_fuel d sp' hsp' q hq rest hr]
theorem spelling_invariance_expr (d : Gen.D) (sp sp' : TSP.Sp) (hsp : TSP.SpOK d sp) (hsp' : TSP.SpOK d sp') (e : Expr) (hf : FragE3 d e = true)
    (rest : List Tok) (hr : TP2.stops2 d rest = true) :
    pOr d (fuelFor (TSP.toksE3 d sp e ++ rest)) (TSP.toksE3 d sp e ++ rest) = pOr d (fuelFor (TSP.toksE3 d sp' e ++ rest)) (TSP.toksE3 d sp' e ++ rest) := by
  rw [texpr_spellings d sp hsp e hf rest hr _ (by simp only [fuelFor, sizeL_append]; omega),
    texpr_spellings d sp' hsp' e hf rest hr _ (by simp only [fuelFor, sizeL_append]; omega)]
/-- a spelled rendering determines the tree: two fragment queries with equal renderings (under whatever two spelling choices) are equal -/
theorem spelling_determines_nothing (d : Gen.D) (sp sp' : TSP.Sp) (hsp : TSP.SpOK d sp) (hsp' : TSP.SpOK d sp') (q q' : Query)
    (hq : FragQ d q = true) (hq' : FragQ d q' = true) (h : TSP.toksQ d sp q = TSP.toksQ d sp' q') : q = q' := by
  have a := tquery_spellings_entry_fuel d sp hsp q hq [] rfl
  have b := tquery_spellings_entry_fuel d sp' hsp' q' hq' [] rfl
  rw [h, b] at a
  simp only [Except.ok.injEq, Prod.mk.injEq, and_true] at a
  exact a.symm

/-- **the same through the statement level**: one iteration of the loop of `parse_statements` -/
theorem tquery_spellings_statement (d : Gen.D) (sp : TSP.Sp) (hsp : TSP.SpOK d sp) (q : Query) (hq : FragQ d q = true) (rest : List Tok)
    (hr : stopsQ d rest = true) (fuel : Nat) (hfuel : 20 * sizeL (TSP.toksQ d sp q) + 9 ≤ fuel) :
    pStatement d fuel (TSP.toksQ d sp q ++ rest) = .ok (.select q, rest) :=
  pStatement_of_select d (TSP.toksQ_head hsp q hq) (by omega) (TSP.stmt_some hsp q hq rest hr fuel (by omega))

/-! ### what the spelled printer writes at the productions with a choice (the normal form is the tree on the right of the theorems) -/
theorem toks_compare (d : Gen.D) (sp : TSP.Sp) (o : String) (l r : Expr) :
    TSP.toksE3 d sp (.compare o l r) = TSP.W3 d sp l 10 ++ TSP.cmpTok (sp.ne (.compare o l r)) o :: TSP.W3 d sp r 9 := by
  simp only [TSP.toksE3, TSP.W3]
theorem toks_and (d : Gen.D) (sp : TSP.Sp) (l r : Expr) :
    TSP.toksE3 d sp (.and_ l r) = TSP.W3 d sp l 12 ++ TSP.andTok (sp.amp (.and_ l r)) :: TSP.W3 d sp r 11 := by simp only [TSP.toksE3, TSP.W3]
theorem toks_or (d : Gen.D) (sp : TSP.Sp) (l r : Expr) :
    TSP.toksE3 d sp (.or_ l r) = TSP.W3 d sp l 14 ++ TSP.orTok (sp.bar (.or_ l r)) :: TSP.W3 d sp r 13 := by simp only [TSP.toksE3, TSP.W3]
theorem toks_not (d : Gen.D) (sp : TSP.Sp) (x : Expr) :
    TSP.toksE3 d sp (.not_ x) = TSP.notTok (sp.bang (.not_ x)) :: TSP.W3 d sp x 11 := by simp only [TSP.toksE3, TSP.W3]
theorem spelled_tokens : TSP.cmpTok true "NEQ" = opTok "<>" ∧ TSP.cmpTok false "NEQ" = opTok "!=" ∧ TSP.andTok true = opTok "&&" ∧
    TSP.andTok false = opTok "AND" ∧ TSP.orTok true = opTok "||" ∧ TSP.orTok false = opTok "OR" ∧ TSP.notTok true = opTok "!" ∧
    TSP.notTok false = opTok "NOT" ∧ TSP.cvalSp true "DIVIDE" = "DIV" ∧ TSP.cvalSp false "DIVIDE" = "/" ∧ TSP.cvalSp true "MOD" = "MOD" ∧
    TSP.cvalSp false "MOD" = "%" := by
  have h : cmpVal "NEQ" = "!=" := by decide
  exact ⟨by simp [TSP.cmpTok], by simp [TSP.cmpTok, h], rfl, rfl, rfl, rfl, rfl, rfl, by decide, by decide, by decide, by decide⟩

/-- `l != r` and `l <> r` are the SAME comparison node `NEQ` (the tree stores the member name, never the spelling) -/
theorem neq_spellings (d : Gen.D) (sp : TSP.Sp) (hsp : TSP.SpOK d sp) (l r : Expr) (hf : FragE3 d (.compare "NEQ" l r) = true) (b : Bool)
    (hb : sp.ne (.compare "NEQ" l r) = b) (rest : List Tok) (hr : TP2.stops2 d rest = true) (fuel : Nat)
    (hfuel : 20 * sizeL (TSP.toksE3 d sp (.compare "NEQ" l r)) + 15 ≤ fuel) :
    pOr d fuel (TSP.W3 d sp l 10 ++ (if b then opTok "<>" else opTok "!=") :: (TSP.W3 d sp r 9 ++ rest)) = .ok (.compare "NEQ" l r, rest) := by
  have := texpr_spellings d sp hsp _ hf rest hr fuel hfuel
  rw [toks_compare, hb] at this
  cases b <;> simpa [spelled_tokens.1, spelled_tokens.2.1] using this
/-- `l AND r` / `l && r` ↦ `.and_ l r` -/
theorem and_spellings (d : Gen.D) (sp : TSP.Sp) (hsp : TSP.SpOK d sp) (l r : Expr) (hf : FragE3 d (.and_ l r) = true) (b : Bool)
    (hb : sp.amp (.and_ l r) = b) (rest : List Tok) (hr : TP2.stops2 d rest = true) (fuel : Nat)
    (hfuel : 20 * sizeL (TSP.toksE3 d sp (.and_ l r)) + 15 ≤ fuel) :
    pOr d fuel (TSP.W3 d sp l 12 ++ (if b then opTok "&&" else opTok "AND") :: (TSP.W3 d sp r 11 ++ rest)) = .ok (.and_ l r, rest) := by
  have := texpr_spellings d sp hsp _ hf rest hr fuel hfuel
  rw [toks_and, hb] at this
  cases b <;> simpa [TSP.andTok] using this
/-- `l OR r` / `l || r` ↦ `.or_ l r` -/
theorem or_spellings (d : Gen.D) (sp : TSP.Sp) (hsp : TSP.SpOK d sp) (l r : Expr) (hf : FragE3 d (.or_ l r) = true) (b : Bool)
    (hb : sp.bar (.or_ l r) = b) (rest : List Tok) (hr : TP2.stops2 d rest = true) (fuel : Nat)
    (hfuel : 20 * sizeL (TSP.toksE3 d sp (.or_ l r)) + 15 ≤ fuel) :
    pOr d fuel (TSP.W3 d sp l 14 ++ (if b then opTok "||" else opTok "OR") :: (TSP.W3 d sp r 13 ++ rest)) = .ok (.or_ l r, rest) := by
  have := texpr_spellings d sp hsp _ hf rest hr fuel hfuel
  rw [toks_or, hb] at this
  cases b <;> simpa [TSP.orTok] using this
end C09

namespace C13
/-- **Hive: `! x` is `NOT x`.**  In the Hive dialect the word `!` in front of (the rendering at the NOT level of) any fragment expression
parses to the logical negation of that expression — the same tree as `NOT x` -/
theorem hive_bang_is_not (sp : TSP.Sp) (hsp : TSP.SpOK .HIVE sp) (x : Expr) (hf : FragE3 .HIVE x = true) (b : Bool)
    (hb : sp.bang (.not_ x) = b) (rest : List Tok) (hr : TP2.stops2 .HIVE rest = true) (fuel : Nat)
    (hfuel : 20 * sizeL (TSP.toksE3 .HIVE sp (.not_ x)) + 15 ≤ fuel) :
    pOr .HIVE fuel ((if b then opTok "!" else opTok "NOT") :: (TSP.W3 .HIVE sp x 11 ++ rest)) = .ok (.not_ x, rest) := by
  have := C09.texpr_spellings .HIVE sp hsp (.not_ x) (by simpa [FragE3] using hf) rest hr fuel hfuel
  rw [C09.toks_not, hb] at this
  cases b <;> simpa [TSP.notTok] using this
/-- **the dialect's spelling is honoured at every depth**: with `!` written at EVERY `NOT` node of a nested fragment query — in select
items, conditions, sub-queries in expressions, derived tables, branches of set operations, to any depth — the Hive parser returns the
tree: the dialect is the same `d` in every recursive call of the parser -/
theorem dialect_governs_nested (q : Query) (hq : FragQ .HIVE q = true) (rest : List Tok) (hr : stopsQ .HIVE rest = true) (fuel : Nat)
    (hfuel : 20 * sizeL (TSP.toksQ .HIVE TSP.bangAll q) + 9 ≤ fuel) :
    pSelectStmt .HIVE fuel none (TSP.toksQ .HIVE TSP.bangAll q ++ rest) = .ok (q, rest) :=
  C09.tquery_spellings .HIVE TSP.bangAll TSP.spOK_bangAll q hq rest hr fuel hfuel
/-- under `bangAll` every `NOT` node is written with `!` -/
theorem bangAll_writes_bang (d : Gen.D) (x : Expr) : TSP.toksE3 d TSP.bangAll (.not_ x) = opTok "!" :: TSP.W3 d TSP.bangAll x 11 := by
  rw [C09.toks_not]; rfl
/-- `!` is a NOT word of the Hive dialect and of no other; it is a unary operator of every dialect but Hive -/
theorem bang_word_hive_only : Gen.allD.all (fun d => (Gen.notSet d).contains "!" == (d == .HIVE) && (Gen.unarySet d).contains "!" == (d != .HIVE)) = true := by
  decide
def isNotASp (r : Except Err (Expr × List Tok)) : Bool := match r with | .ok (.not_ (.column none "a"), []) => true | _ => false
def isInvASp (r : Except Err (Expr × List Tok)) : Bool :=
  match r with | .ok (.unary "LOGICAL_INVERSION" (.column none "a"), []) => true | _ => false
/-- **separating instance**: `! a` is `NOT a` for Hive and the unary operator `LOGICAL_INVERSION` applied to `a` in every other dialect -/
theorem bang_not_hive_only :
    Gen.allD.all (fun d => if d == .HIVE then isNotASp (pOr d 60 [opTok "!", nameTok "a"]) else isInvASp (pOr d 60 [opTok "!", nameTok "a"])) = true := by
  decide
def isBangInSp (r : Except Err (Expr × List Tok)) : Bool :=
  match r with | .ok (.compute (.column none "a") "LOGICAL_INVERSION" (.func none "IN" [.literal "1"]), []) => true | _ => false
def isNotInSp (r : Except Err (Expr × List Tok)) : Bool :=
  match r with | .ok (.kw .in_ true (.column none "a") (.subValue [.literal "1"]), []) => true | _ => false
/-- **witness (finding candidate)**: in the Hive dialect `a NOT IN (1)` is the negated IN predicate, but `a ! IN (1)` is NOT: the compute
level takes `!` as a binary operator and `IN (1)` as a function call — the `!` of `get_not_operator_set` in the keyword-predicate position
(`parser.py:902`) is dead code -/
theorem witness_hive_bang_before_in :
    isNotInSp (pOr .HIVE 80 [nameTok "a", opTok "NOT", opTok "IN", grp [litTok "1"]]) = true ∧
    isBangInSp (pOr .HIVE 80 [nameTok "a", opTok "!", opTok "IN", grp [litTok "1"]]) = true := by decide
end C13

namespace C09
def isJoinTySp (r : Option (String × List Tok)) (ty : String) : Bool := match r with | some (n, []) => n == ty | _ => false
/-- **not alike**: `INNER JOIN` is stored as join type `INNER_JOIN`, `JOIN` as `JOIN` — two different trees -/
theorem inner_join_is_not_join : isJoinTySp (firstEnum Gen.joinTypes [opTok "INNER", opTok "JOIN"]) "INNER_JOIN" = true ∧
    isJoinTySp (firstEnum Gen.joinTypes [opTok "JOIN"]) "JOIN" = true := by decide
def isParseErrSp {α : Type} (r : Except Err α) : Bool := match r with | .error .parse => true | _ => false
/-- **not alike**: `UNION DISTINCT` is no set operator of the table: `SELECT a UNION DISTINCT SELECT b` is a parse error -/
theorem union_distinct_rejected :
    isParseErrSp (pSelectStmt .MYSQL 200 none [opTok "SELECT", nameTok "a", opTok "UNION", opTok "DISTINCT", opTok "SELECT", nameTok "b"]) = true := by decide
/-- **not alike**: the `AND` of `BETWEEN … AND …` is matched by word: `a BETWEEN 1 && 2` is a parse error, `&&` is only the conjunction -/
theorem amp_is_not_between_and :
    isParseErrSp (pOr .MYSQL 100 [nameTok "a", opTok "BETWEEN", litTok "1", opTok "&&", litTok "2"]) = true := by decide
end C09

namespace C09
theorem toks_compute (d : Gen.D) (sp : TSP.Sp) (l r : Expr) (o : String) :
    TSP.toksE3 d sp (.compute l o r) =
      TSP.W3 d sp l (binLevel o) ++ opTok (TSP.cvalSp (sp.word (TSP.opdAfter sp.ch r (binLevel o - 1))) o) :: TSP.W3 d sp r (binLevel o - 1) := by
  simp only [TSP.toksE3, TSP.W3, lvl_compute]
/-- `l / r` and `l DIV r` are the SAME node `DIVIDE`, `l % r` and `l MOD r` the same node `MOD` -/
theorem div_mod_spellings (d : Gen.D) (sp : TSP.Sp) (hsp : TSP.SpOK d sp) (l r : Expr) (o : String) (ho : o = "DIVIDE" ∨ o = "MOD")
    (hf : FragE3 d (.compute l o r) = true) (b : Bool) (hb : sp.word (TSP.opdAfter sp.ch r 3) = b) (rest : List Tok)
    (hr : TP2.stops2 d rest = true) (fuel : Nat) (hfuel : 20 * sizeL (TSP.toksE3 d sp (.compute l o r)) + 15 ≤ fuel) :
    pOr d fuel (TSP.W3 d sp l 4 ++ opTok (if b then (if o = "DIVIDE" then "DIV" else "MOD") else cval o) :: (TSP.W3 d sp r 3 ++ rest)) =
      .ok (.compute l o r, rest) := by
  have := texpr_spellings d sp hsp _ hf rest hr fuel hfuel
  have h4 : binLevel "DIVIDE" = 4 ∧ binLevel "MOD" = 4 := by decide
  rw [toks_compute] at this
  rcases ho with rfl | rfl
  · rw [h4.1] at this; simp only [show (4 : Nat) - 1 = 3 from rfl, hb] at this
    cases b <;> simpa [TSP.cvalSp] using this
  · rw [h4.2] at this; simp only [show (4 : Nat) - 1 = 3 from rfl, hb] at this
    cases b <;> simpa [TSP.cvalSp] using this

/-! ### non-vacuity (compiled evaluation: `String` functions do not reduce in the kernel) -/
open C03 in
/-- a query that uses every production with a choice -/
def spQs : Query := .single (.mk (some []) false
  [(col "a", some "x"), (.compute (col "b") "MOD" (lit "2"), none), (.subQuery (.single (sel [(.not_ (.compare "NEQ" (col "p") (lit "1")), some "y")] (some [tb "w" (some "k")]))), none)]
  (some [tb "t" (some "u")]) []
  [.mk "JOIN" (tb "v") (some (.on (.or_ (.and_ (.compare "NEQ" (col "a") (col "b")) (.not_ (col "c")))
      (.compare "GT" (.compute (col "d") "DIVIDE" (col "e")) (lit "0")))))]
  none none none (some [.mk (col "a") false false false, .mk (col "b") true false false]) none none none (some (5, some 2)))
/-- the tokens of a text, the spelled token printer and the fragment agree -/
def agreesSp (d : Gen.D) (sp : TSP.Sp) (q : Query) (text : String) : Bool := eqbL (C03.lexed text) (TSP.toksQ d sp q) && FragQ d q
def roundTripsSp (d : Gen.D) (sp : TSP.Sp) (q : Query) : Bool :=
  match pSelectStmt d (20 * sizeL (TSP.toksQ d sp q) + 9) none (TSP.toksQ d sp q) with
  | .ok (p, []) => Drv.showVal p.toVal == Drv.showVal q.toVal
  | _ => false
/-- the REAL parser model on a text (lexer, dialect pre-pass, `parse_statements`) returns exactly the SELECT statement of `q` -/
def textParsesToSp (d : Gen.D) (text : String) (q : Query) : Bool :=
  match PM.parseStatementsText d text.toList with
  | .ok [.select p] => Drv.showVal p.toVal == Drv.showVal q.toVal
  | _ => false
-- the printer's own spelling, every alternative spelling (all dialects), `!` everywhere (Hive), `AS` dropped where allowed
#guard agreesSp .MYSQL TSP.plain spQs
  "SELECT `a` AS x, `b` % 2, (SELECT NOT `p` != 1 AS y FROM `w` AS k) FROM `t` AS u JOIN `v` ON `a` != `b` AND NOT `c` OR `d` / `e` > 0 ORDER BY `a`, `b` DESC LIMIT 2, 5"
#guard agreesSp .MYSQL TSP.altSp spQs
  "SELECT `a` AS x, `b` MOD 2, (SELECT NOT `p` <> 1 AS y FROM `w` AS k) FROM `t` AS u JOIN `v` ON `a` <> `b` && NOT `c` || `d` DIV `e` > 0 ORDER BY `a` ASC, `b` DESC LIMIT 5 OFFSET 2"
#guard agreesSp .HIVE TSP.bangAll spQs
  "SELECT `a` AS x, `b` % 2, (SELECT ! `p` != 1 AS y FROM `w` AS k) FROM `t` AS u JOIN `v` ON `a` != `b` AND ! `c` OR `d` / `e` > 0 ORDER BY `a`, `b` DESC LIMIT 2, 5"
#guard agreesSp .MYSQL (TSP.bareSp .MYSQL) spQs
  "SELECT `a` x, `b` % 2, (SELECT NOT `p` != 1 y FROM `w` k) FROM `t` u JOIN `v` ON `a` != `b` AND NOT `c` OR `d` / `e` > 0 ORDER BY `a`, `b` DESC LIMIT 2, 5"
#guard Gen.allD.all (fun d => roundTripsSp d TSP.plain spQs && roundTripsSp d TSP.altSp spQs && roundTripsSp d (TSP.bareSp d) spQs) && roundTripsSp .HIVE TSP.bangAll spQs
-- the real parser model (lexer + pre-pass + statement loop) on the four texts: one tree
#guard textParsesToSp .MYSQL "SELECT `a` AS x, `b` % 2, (SELECT NOT `p` != 1 AS y FROM `w` AS k) FROM `t` AS u JOIN `v` ON `a` != `b` AND NOT `c` OR `d` / `e` > 0 ORDER BY `a`, `b` DESC LIMIT 2, 5" spQs &&
  textParsesToSp .MYSQL "select a x, b mod 2, (select not p <> 1 y from w k) from t u join v on a <> b && not c || d div e > 0 order by a asc, b desc limit 5 offset 2" spQs &&
  textParsesToSp .HIVE "SELECT a x, b % 2, (SELECT ! p <> 1 y FROM w k) FROM t u JOIN v ON a != b && ! c OR d DIV e > 0 ORDER BY a ASC, b DESC LIMIT 5 OFFSET 2" spQs
-- for MySQL the text with `!` is ANOTHER tree (the unary operator), and `bangAll` is not admissible outside Hive
#guard !textParsesToSp .MYSQL "SELECT a x, b % 2, (SELECT ! p <> 1 y FROM w k) FROM t u JOIN v ON a != b && ! c OR d DIV e > 0 ORDER BY a ASC, b DESC LIMIT 5 OFFSET 2" spQs
#guard !roundTripsSp .MYSQL TSP.bangAll spQs
-- aliases that must keep their `AS`: operator and keyword words, the words the alias parser refuses; ordinary words may drop it
#guard !TSP.bareOK .MYSQL "div" && !TSP.bareOK .MYSQL "MOD" && !TSP.bareOK .MYSQL "and" && !TSP.bareOK .MYSQL "IN" && !TSP.bareOK .MYSQL "cross" &&
  !TSP.bareOK .MYSQL "using" && !TSP.bareOK .MYSQL "over" && !TSP.bareOK .MYSQL "as" && TSP.bareOK .MYSQL "x" && TSP.bareOK .HIVE "total"
-- Hive `==` (text level, through the dialect pre-pass): the same tree as `=`; no other dialect reads it so
open C03 in
def spQe : Query := .single (sel [(.compare "EQ" (col "a") (col "b"), none)] (some [tb "t"]))
#guard textParsesToSp .HIVE "SELECT a == b FROM t" spQe && textParsesToSp .HIVE "SELECT a = b FROM t" spQe && textParsesToSp .MYSQL "SELECT a = b FROM t" spQe &&
  !textParsesToSp .MYSQL "SELECT a == b FROM t" spQe
-- instances of the theorems (hypotheses decided by the kernel, conclusions the theorems'; the kernel does not evaluate `toString` of the
-- LIMIT numbers, hence a query without LIMIT)
open C03 in
def spQk : Query := .single (.mk (some []) false
  [(col "a", some "x"), (.compute (col "b") "MOD" (lit "2"), none), (.subQuery (.single (sel [(.not_ (.compare "NEQ" (col "p") (lit "1")), some "y")] (some [tb "w" (some "k")]))), none)]
  (some [tb "t" (some "u")]) []
  [.mk "JOIN" (tb "v") (some (.on (.or_ (.and_ (.compare "NEQ" (col "a") (col "b")) (.not_ (col "c")))
      (.compare "GT" (.compute (col "d") "DIVIDE" (col "e")) (lit "0")))))]
  none none none (some [.mk (col "a") false false false, .mk (col "b") true false false]) none none none none)
set_option maxRecDepth 100000 in
example : pSelectStmt .MYSQL (fuelFor (TSP.toksQ .MYSQL TSP.altSp spQk ++ C03.lexed "; x")) none (TSP.toksQ .MYSQL TSP.altSp spQk ++ C03.lexed "; x") =
    .ok (spQk, C03.lexed "; x") :=
  tquery_spellings_entry_fuel .MYSQL TSP.altSp (TSP.spOK_alt _) spQk (by decide) _ (by decide)
set_option maxRecDepth 100000 in
example : pSelectStmt .HIVE 4000 none (TSP.toksQ .HIVE TSP.bangAll spQk ++ C03.lexed ";") = .ok (spQk, C03.lexed ";") :=
  C13.dialect_governs_nested spQk (by decide) _ (by decide) 4000 (by decide)
end C09

/-! ### C13 at text level: the spellings the dialect PRE-PASS normalises (Hive `==`, DB2 `CURRENT DATE` …)

`SQLParser._unify_input_scanner` rewrites the TEXT before lexing (`PM.dialectPre`: for Hive every `==` becomes `=`, for DB2 the two-word forms
`CURRENT DATE / TIME / TIMESTAMP` become the one-word forms).  So a text and its pre-passed form are read alike by EVERY entry point —
for every text, not only the fragment — as soon as the pre-pass has nothing left to do on its own output (no `==` remains, i.e. the source
has no run of three `=`; no two-word form remains).  The limits of the pre-pass are the known findings F-C06-2 / F-C06-3 (it also rewrites
inside quoted regions) and F-C09-1 (only upper case and exactly one blank): the theorem speaks about `dialectPre`, so it inherits them. -/
namespace C13
/-- the text contains nothing the dialect pre-pass would rewrite -/
def preClean (d : Gen.D) (t : List Char) : Bool :=
  (d != .HIVE || noOccP "==".toList t) &&
    (d != .DB2 || (noOccP "CURRENT DATE".toList t && noOccP "CURRENT TIME".toList t && noOccP "CURRENT TIMESTAMP".toList t))
theorem dialectPre_clean (d : Gen.D) (t : List Char) (h : preClean d t = true) : dialectPre d t = t := by
  cases d <;> simp_all [dialectPre, preClean, replace_noOcc]
/-- **a text and its pre-passed form parse alike** (statement entry point; every text whose pre-passed form is clean) -/
theorem pre_pass_spelling (d : Gen.D) (t : List Char) (h : preClean d (dialectPre d t) = true) :
    PM.parseStatementsText d t = PM.parseStatementsText d (dialectPre d t) := by
  unfold PM.parseStatementsText; rw [dialectPre_clean d _ h]
/-- the same for every entry point `SQLParser.parse_<entry>(text, sql_type)` -/
theorem pre_pass_spelling_entry (entry : String) (d : Gen.D) (t : List Char) (h : preClean d (dialectPre d t) = true) :
    PM.parseText entry d t = PM.parseText entry d (dialectPre d t) := by
  unfold PM.parseText; rw [dialectPre_clean d _ h]
/-- Hive: the text with `==` and the text in which every `==` is written `=` parse alike -/
theorem hive_eqeq_is_eq (t : List Char) (h : noOccP "==".toList (Py.replace "==".toList "=".toList t) = true) :
    PM.parseStatementsText .HIVE t = PM.parseStatementsText .HIVE (Py.replace "==".toList "=".toList t) := by
  have e : dialectPre .HIVE t = Py.replace "==".toList "=".toList t := by simp [dialectPre]
  have := pre_pass_spelling .HIVE t (by rw [e]; simpa [preClean] using h)
  rwa [e] at this
/-- in the five dialects without a pre-pass nothing is normalised: `==` stays what the lexer makes of it -/
theorem no_pre_pass_elsewhere (d : Gen.D) (h1 : d ≠ .DB2) (h2 : d ≠ .HIVE) (t : List Char) : dialectPre d t = t :=
  C01.dialectPre_id d h1 h2 t
-- non-vacuity (compiled evaluation)
#guard preClean .HIVE (dialectPre .HIVE "SELECT a == b FROM t WHERE c==1".toList) && String.ofList (dialectPre .HIVE "SELECT a == b FROM t WHERE c==1".toList) == "SELECT a = b FROM t WHERE c=1"
#guard !preClean .HIVE (dialectPre .HIVE "SELECT a === b".toList)
#guard preClean .DB2 (dialectPre .DB2 "SELECT CURRENT DATE, CURRENT TIMESTAMP FROM t".toList) &&
  String.ofList (dialectPre .DB2 "SELECT CURRENT DATE, CURRENT TIMESTAMP FROM t".toList) == "SELECT CURRENT_DATE, CURRENT_TIMESTAMP FROM t"
-- F-C09-1: lower case / two blanks are not normalised (the hypothesis holds trivially, the two texts are the same text)
#guard String.ofList (dialectPre .DB2 "SELECT current date, CURRENT  DATE FROM t".toList) == "SELECT current date, CURRENT  DATE FROM t"
#guard (match PM.parseStatementsText .DB2 "SELECT CURRENT DATE FROM t".toList, PM.parseStatementsText .DB2 "SELECT CURRENT_DATE FROM t".toList with
  | .ok [.select p], .ok [.select q] => Drv.showVal p.toVal == Drv.showVal q.toVal | _, _ => false)
end C13

/-! ### the prefix NOT position, for EVERY token list (not only the fragment) -/
namespace C13
/-- Hive: at the NOT level the word `!` and the word `NOT` are treated alike, whatever follows -/
theorem hive_bang_prefix_any (f : Nat) (ts : List Tok) : pNot .HIVE f (opTok "!" :: ts) = pNot .HIVE f (opTok "NOT" :: ts) := by
  cases f with
  | zero => rfl
  | succ g =>
    have h1 : (Gen.notSet .HIVE).contains (up (opTok "!").src) = true := by decide
    have h2 : (Gen.notSet .HIVE).contains (up (opTok "NOT").src) = true := by decide
    conv => lhs; unfold pNot
    conv => rhs; unfold pNot
    simp only [h1, h2, if_true]
/-- every other dialect: at the NOT level `!` is no NOT word — the whole token list goes on to the comparison level (where `!` is the unary
operator of the compute level) -/
theorem bang_is_no_not_elsewhere (d : Gen.D) (h : d ≠ .HIVE) (f : Nat) (ts : List Tok) :
    pNot d (f + 1) (opTok "!" :: ts) = pCompare d f (opTok "!" :: ts) := by
  have h1 : (Gen.notSet d).contains (up (opTok "!").src) = false := by cases d <;> first | exact absurd rfl h | decide
  conv => lhs; unfold pNot
  simp only [h1, Bool.false_eq_true, if_false]
/-- the look-ahead of the keyword-predicate level treats `!` and `NOT` alike in Hive too (`parser.py:902`) — but see
`witness_hive_bang_before_in`: the compute level in front of it never leaves a `!` for it -/
theorem hive_skipNot_bang (r : List Tok) : skipNot .HIVE (opTok "!" :: r) = (true, r) ∧ skipNot .HIVE (opTok "NOT" :: r) = (true, r) := by
  have h1 : (Gen.notSet .HIVE).contains (up (opTok "!").src) = true := by decide
  have h2 : (Gen.notSet .HIVE).contains (up (opTok "NOT").src) = true := by decide
  simp only [skipNot, h1, h2, if_true, and_self]
/-- why it is never reached: `!` is a compute operator, so the compute loop in front of the keyword level always consumes it -/
theorem bang_is_compute_operator : computeOp? (up (opTok "!").src) = some ("LOGICAL_INVERSION", 2) := by decide
end C13


namespace C09
/-- with the printer's own spellings the spelled printer is the token printer of Props/C03Q.lean -/
theorem plain_is_printer (d : Gen.D) (ch : Expr → Bool) (q : Query) : TSP.toksQ d (TSP.plainCh ch) q = TQ.toksQ d ch q := TSP.plainQ d ch q
theorem plain_is_printer_expr (d : Gen.D) (ch : Expr → Bool) (e : Expr) : TSP.toksE3 d (TSP.plainCh ch) e = TQ.toksE3 d ch e := TSP.plainE d ch e
/-- `C03.tquery_ch` (hence `C03.tquery`) as the instance `sp = plainCh ch` of the spelling-generalised theorem -/
theorem tquery_ch_instance (d : Gen.D) (ch : Expr → Bool) (hch : TQ.ChOK d ch) (q : Query) (hq : FragQ d q = true) (rest : List Tok)
    (hr : stopsQ d rest = true) (fuel : Nat) (hfuel : 20 * sizeL (TQ.toksQ d ch q) + 9 ≤ fuel) :
    pSelectStmt d fuel none (TQ.toksQ d ch q ++ rest) = .ok (q, rest) := by
  rw [← plain_is_printer] at hfuel ⊢
  exact tquery_spellings d _ (TQ.spOK_plainCh hch) q hq rest hr fuel hfuel
/-- **every admissible spelling parses like the printer's own token output** `TQ.toksQ d noX q` (= the lexed printed text on the fragment
of Props/C03L / C03QL) -/
theorem spelled_like_printed (d : Gen.D) (sp : TSP.Sp) (hsp : TSP.SpOK d sp) (q : Query) (hq : FragQ d q = true) (rest : List Tok)
    (hr : stopsQ d rest = true) :
    pSelectStmt d (fuelFor (TSP.toksQ d sp q ++ rest)) none (TSP.toksQ d sp q ++ rest) =
      pSelectStmt d (fuelFor (TQ.toksQ d noX q ++ rest)) none (TQ.toksQ d noX q ++ rest) := by
  rw [tquery_spellings_entry_fuel d sp hsp q hq rest hr, C03.tquery_entry_fuel d q hq rest hr]
end C09
