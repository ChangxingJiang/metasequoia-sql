import MsqProofs.Lemmas.ParseWNSkelK
import MsqProofs.Lemmas.ParseWNCovStmt2
import MsqProofs.Lemmas.ParseMono
import MsqProofs.Lemmas.ParseTextInv
import MsqModel.Driver.ShowVal
/-!
# C02 — for EVERY accepted token list: the returned tree is the one the documented grammar derives from the consumed tokens

`WNG.Derives d L ts e` (MsqProofs/Lemmas/ParseWN0.lean, ~130 lines, written from the property text, no reference to the recursive
parser functions) is the documented expression grammar as an inductive relation between a token list and a tree:
one production per precedence level, `left : L`, `right : L - 1` (left associativity), a bracket group re-enters at the top level.

* `C02.parse_derives` : `pOr d f ts = ok (e, rest) → ∃ used, ts = used ++ rest ∧ Derives d 14 used e` — every dialect, every fuel, every
  token list, every result; no fragment.  `parse_derives_xor` … `parse_derives_element`: the same for every public entry point of
  the expression block (`parse_logical_xor_level_expression` … `parse_element_level_expression`) at its own level; `parse_derives_case`,
  `…_function`, `…_function_index`, `…_window`: the element entry points.  Since the statements hold for EVERY call (all `f`, `ts`), they
  apply to every call the SELECT / statement level makes (`pOr` for select columns, WHERE, ON, HAVING, CASE arms, call arguments;
  `pCompute` for GROUP BY / ORDER BY / PARTITION BY items, IN lists, BETWEEN bounds, partition specs, column defaults).
* `C02.brackets_reenter`, `C02.redundant_brackets_parse` : a bracket group whose content is accepted as a whole with tree `e` is an
  element with the SAME tree `e` (at the parser: `pElement d (f+2) (g :: rest) = ok (e, rest)`), whatever the level of `e`:
  brackets only change where the tree may stand, never the tree.
* `C02.parse_text_derives` : the same from the TEXT (pre-pass, lexer, entry-point fuel) for `parse_logical_or_level_expression`.
* `C02.derives_shape` : `Derives d L ts e → PR.lvl e ≤ max L 2 ∨ ts is one bracket group` — the operand invariant in terms of the
  printer's level function, valid at every sub-derivation; `parse_shape_*`: at the parser.
* `C02.parse_deterministic` : the tree and the rest do not depend on the fuel.
Deviations of the code from the documented table that `Derives` has to admit (each with the Python line) are listed in
ParseWN0.lean (DEVIATION 1–5); the `#guard`s at the end of this file evaluate the model on a witness of each (`a ~ b ^ c`, `a ! b`, `a + AND`, …).
* `C02.derives_unique_logic`, `derives_unique_keyword`, `derives_unique_compute` (+ `logic_skeleton_exists` / `_derives`, `keyword_…`, `compute_…`,
  `parse_unique_over_operands`, `parse_tree_well_nested`, `parse_compute_tree_well_nested`):
  uniqueness for the operator layers — once it is fixed which token runs are the operands (level 9 resp. elements), the documented
  levels leave exactly one tree (`OPG.unique`, MsqProofs/Lemmas/OpGrammar.lean: an operator grammar with prefix and left-associative
  binary levels over opaque operands is unambiguous).
* `C02.select_exprs_derive`, `subquery_exprs_derive`, `window_items_derive`, `where_clause_derives` … : the opaque leaves opened — every
  expression at a clause position of a parsed SELECT (recursively through FROM sub-queries, WITH tables, set operations) is derived
  by `Derives` from a contiguous run of tokens inside the cursor (`WNG.Cov`; MsqProofs/Lemmas/ParseWNCov*.lean, 42 functions).
* `C02.statements_exprs_derive`, `statements_text_exprs_derive`, `partition_spec_derives`, `column_definition_derives`: the same for every
  statement of a script (`parse_statements`): partition specs, column defaults, VALUES rows, UPDATE … SET values, … (`WNG.exprsStmt`).
What is NOT here: uniqueness of `Derives` as a whole (see `derives_not_unique_witness`: WHICH tokens are elements is not determined
where an operator sign is read as a column name; the three skeleton theorems are not composed into ONE statement over elements), a SELECT / statement GRAMMAR (which clause a token run belongs
to is C03's T-parse, not stated here).
-/
open Lex PM Ast WNG

namespace C02

/-- **C02, every accepted token list.**  Whatever `_parse_logical_or_level_expression` returns, the documented grammar derives it at
level 14 from exactly the tokens that were consumed. -/
theorem parse_derives (d : Gen.D) (f : Nat) (ts : List Tok) (e : Expr) (rest : List Tok) (h : pOr d f ts = .ok (e, rest)) :
    ∃ used, ts = used ++ rest ∧ Derives d 14 used e :=
  (wf_all d f).pOr ts e rest h

/-- a cursor that was consumed completely (`close()`): the whole token list derives the tree -/
theorem parse_derives_closed (d : Gen.D) (f : Nat) (ts : List Tok) (e : Expr) (h : pOr d f ts = .ok (e, [])) : Derives d 14 ts e := by
  obtain ⟨u, hu, hd⟩ := parse_derives d f ts e [] h
  simp only [List.append_nil] at hu
  exact hu ▸ hd

theorem parse_derives_xor (d : Gen.D) (f : Nat) (ts : List Tok) (e : Expr) (rest : List Tok) (h : pXor d f ts = .ok (e, rest)) :
    ∃ used, ts = used ++ rest ∧ Derives d 13 used e :=
  (wf_all d f).pXor ts e rest h
theorem parse_derives_and (d : Gen.D) (f : Nat) (ts : List Tok) (e : Expr) (rest : List Tok) (h : pAnd d f ts = .ok (e, rest)) :
    ∃ used, ts = used ++ rest ∧ Derives d 12 used e :=
  (wf_all d f).pAnd ts e rest h
theorem parse_derives_not (d : Gen.D) (f : Nat) (ts : List Tok) (e : Expr) (rest : List Tok) (h : pNot d f ts = .ok (e, rest)) :
    ∃ used, ts = used ++ rest ∧ Derives d 11 used e :=
  (wf_all d f).pNot ts e rest h
theorem parse_derives_compare (d : Gen.D) (f : Nat) (ts : List Tok) (e : Expr) (rest : List Tok) (h : pCompare d f ts = .ok (e, rest)) :
    ∃ used, ts = used ++ rest ∧ Derives d 10 used e :=
  (wf_all d f).pCompare ts e rest h
theorem parse_derives_keyword (d : Gen.D) (f : Nat) (ts : List Tok) (e : Expr) (rest : List Tok) (h : pKeyword d f none ts = .ok (e, rest)) :
    ∃ used, ts = used ++ rest ∧ Derives d 9 used e :=
  (wf_all d f).pKeyword none [] ts rfl e rest h
/-- `_parse_compute_expression`: also every GROUP BY / ORDER BY / PARTITION BY item, IN-list member, BETWEEN bound, CAST operand -/
theorem parse_derives_compute (d : Gen.D) (f : Nat) (ts : List Tok) (e : Expr) (rest : List Tok) (h : pCompute d f ts = .ok (e, rest)) :
    ∃ used, ts = used ++ rest ∧ Derives d 8 used e :=
  (wf_all d f).pCompute ts e rest h
theorem parse_derives_unary (d : Gen.D) (f : Nat) (ts : List Tok) (e : Expr) (rest : List Tok) (h : pUnary d f ts = .ok (e, rest)) :
    ∃ used, ts = used ++ rest ∧ Derives d 1 used e :=
  (wf_all d f).pUnary ts e rest h
theorem parse_derives_element (d : Gen.D) (f : Nat) (ts : List Tok) (e : Expr) (rest : List Tok) (h : pElement d f ts = .ok (e, rest)) :
    ∃ used, ts = used ++ rest ∧ Derives d 0 used e :=
  (wf_all d f).pElement ts e rest h
theorem parse_derives_case (d : Gen.D) (f : Nat) (ts : List Tok) (e : Expr) (rest : List Tok) (h : pCase d f ts = .ok (e, rest)) :
    ∃ used, ts = used ++ rest ∧ Derives d 0 used e :=
  (wf_all d f).pCase ts e rest h
theorem parse_derives_function (d : Gen.D) (f : Nat) (ts : List Tok) (e : Expr) (rest : List Tok) (h : pFunc d f ts = .ok (e, rest)) :
    ∃ used, ts = used ++ rest ∧ Derives d 0 used e :=
  (wf_all d f).pFunc ts e rest h
theorem parse_derives_function_index (d : Gen.D) (f : Nat) (ts : List Tok) (e : Expr) (rest : List Tok) (h : pFuncIdx d f ts = .ok (e, rest)) :
    ∃ used, ts = used ++ rest ∧ Derives d 0 used e :=
  (wf_all d f).pFuncIdx ts e rest h
theorem parse_derives_window (d : Gen.D) (f : Nat) (ts : List Tok) (e : Expr) (rest : List Tok) (h : pWindow d f ts = .ok (e, rest)) :
    ∃ used, ts = used ++ rest ∧ Derives d 0 used e :=
  (wf_all d f).pWindow ts e rest h
/-- the members of an IN list (`_parse_sub_value_expression`): one compute-level derivation per comma-separated segment -/
theorem parse_derives_in_list (d : Gen.D) (f : Nat) (cs : List Tok) (vs : List Expr) (h : pSplit d f [] [] cs = .ok vs) :
    Segs d (splitBy "," cs [] []) vs := by
  obtain ⟨vs', hv, hs⟩ := (wf_all d f).pSplit [] [] cs vs h
  simp only [List.nil_append] at hv
  exact hv ▸ hs

/-! ### explicit brackets -/

/-- **brackets re-enter at the top level**: if the content of a bracket group is accepted as a whole with the tree `e`
(of ANY level), the group is an ELEMENT with the tree `e` -/
theorem brackets_reenter (d : Gen.D) (f : Nat) (g : Tok) (e : Expr) (hl : g.has LITERAL = false) (hp : g.has PAREN = true)
    (hs : startsSelect g.children = false) (h : pOr d f g.children = .ok (e, [])) : Derives d 0 [g] e :=
  .paren hl hp hs (parse_derives_closed d f _ e h)

/-- the same at the parser: the bracket group parses, as an element and therefore at every level and in every operand position,
to the tree of its content -/
theorem redundant_brackets_parse (d : Gen.D) (f : Nat) (g : Tok) (e : Expr) (rest : List Tok) (hl : g.has LITERAL = false)
    (hp : g.has PAREN = true) (hs : startsSelect g.children = false) (h : pOr d f g.children = .ok (e, [])) :
    pElement d (f + 2) (g :: rest) = .ok (e, rest) := by
  simp only [pElement, hl, hp, pParen, hs, h]
  simp

/-- on the side of the grammar: whatever derives at any level from `ts` derives at level 0 from the group around `ts` (redundant brackets) -/
theorem redundant_brackets_derive (d : Gen.D) (L : Nat) (g : Tok) (e : Expr) (hl : g.has LITERAL = false) (hp : g.has PAREN = true)
    (hs : startsSelect g.children = false) (hL : L ≤ 14) (h : Derives d L g.children e) : Derives d 0 [g] e :=
  .paren hl hp hs (h.up hL)

/-- the result does not depend on the fuel: the tree is a function of the token list -/
theorem parse_deterministic (d : Gen.D) (f f' : Nat) (ts : List Tok) (e e' : Expr) (r r' : List Tok)
    (h : pOr d f ts = .ok (e, r)) (h' : pOr d f' ts = .ok (e', r')) : e = e' ∧ r = r' :=
  Prod.mk.inj (det_of_mono (run := fun f => pOr d f ts) (fun f f' r hle h => (monoF d f).pOr ts r f' h hle) h h')


/-! ### `Derives` and the printer's level function: the shape of every operand -/

/-- **shape of an operand** (restated from `WNG.derives_shape`): a tree derived at level `L` has `PR.lvl ≤ L` (≤ 2 at the prefix
level 1) unless the whole token list is ONE bracket group.  Read at the operand positions of the productions of `Derives`: the
right operand of an OR node derives at level 13 — it is no OR node unless it was written in brackets; the left one may be
(left associativity); the same at every level of the table. -/
theorem derives_shape (d : Gen.D) (L : Nat) (ts : List Tok) (e : Expr) (h : Derives d L ts e) :
    PR.lvl e ≤ max L 2 ∨ ∃ g, ts = [g] ∧ g.has PAREN = true := WNG.derives_shape h

/-- at the parser, e.g. for `_parse_compute_expression` (GROUP BY / ORDER BY items, IN-list members, BETWEEN bounds …): the tree is
of a compute level, or the consumed tokens are one bracket group -/
theorem parse_shape_compute (d : Gen.D) (f : Nat) (ts : List Tok) (e : Expr) (rest : List Tok) (h : pCompute d f ts = .ok (e, rest)) :
    ∃ used, ts = used ++ rest ∧ (PR.lvl e ≤ 8 ∨ ∃ g, used = [g] ∧ g.has PAREN = true) := by
  obtain ⟨u, hu, hd⟩ := parse_derives_compute d f ts e rest h
  exact ⟨u, hu, by simpa using WNG.derives_shape hd⟩
theorem parse_shape_keyword (d : Gen.D) (f : Nat) (ts : List Tok) (e : Expr) (rest : List Tok) (h : pKeyword d f none ts = .ok (e, rest)) :
    ∃ used, ts = used ++ rest ∧ (PR.lvl e ≤ 9 ∨ ∃ g, used = [g] ∧ g.has PAREN = true) := by
  obtain ⟨u, hu, hd⟩ := parse_derives_keyword d f ts e rest h
  exact ⟨u, hu, by simpa using WNG.derives_shape hd⟩
theorem parse_shape_not (d : Gen.D) (f : Nat) (ts : List Tok) (e : Expr) (rest : List Tok) (h : pNot d f ts = .ok (e, rest)) :
    ∃ used, ts = used ++ rest ∧ (PR.lvl e ≤ 11 ∨ ∃ g, used = [g] ∧ g.has PAREN = true) := by
  obtain ⟨u, hu, hd⟩ := parse_derives_not d f ts e rest h
  exact ⟨u, hu, by simpa using WNG.derives_shape hd⟩

/-! ### uniqueness for the operator layers: given the operands, the table dictates the tree

`Derives` as a whole is not functional (`derives_not_unique_witness` below: WHICH tokens are elements is not determined where the
code accepts an operator sign as a column name).  What the precedence table, left associativity and the brackets are
responsible for is determined: -/

/-- every level-14 derivation has a LOGICAL SKELETON: a segmentation of its tokens into operands of the keyword level (token run +
tree, each derived at level 9) and OR / XOR / AND / NOT / comparison tokens along which the operator grammar `OPG.G` with the
documented levels derives the tree (`WNG.SkelL`) — and conversely every skeleton is a derivation -/
theorem logic_skeleton_exists (d : Gen.D) (L : Nat) (ts : List Tok) (e : Expr) (h : Derives d L ts e) :
    ∃ items, SkelL d ts e items :=
  let ⟨i, x, f, g, he, a⟩ := skelL_of h; ⟨i, L, x, f, g, he, a⟩
theorem logic_skeleton_derives (d : Gen.D) (ts : List Tok) (e : Expr) (items : List It) (h : SkelL d ts e items) :
    ∃ L, Derives d L ts e := by
  obtain ⟨L, x, f, g, he, ha⟩ := h
  exact ⟨max L 9, f ▸ he ▸ derives_of_GL g ha⟩
/-- **`derives_unique` for the logical layers**: two derivations with the same operands (same items) have the same tree — no
other nesting of OR / XOR / AND / NOT / comparison operators over these operands is derivable -/
theorem derives_unique_logic (d : Gen.D) (ts ts' : List Tok) (e e' : Expr) (items : List It)
    (h : SkelL d ts e items) (h' : SkelL d ts' e' items) : e = e' ∧ ts = ts' := skel_unique h h'

/-- the same for the COMPUTE layers: operands are elements (level 0), operators the prefix signs and the binary operators of
levels 2 … 8 -/
theorem compute_skeleton_exists (d : Gen.D) (L : Nat) (ts : List Tok) (e : Expr) (h : Derives d L ts e) (hL : L ≤ 8) :
    ∃ items, SkelC d ts e items :=
  let ⟨i, x, f, g, he, a⟩ := skelC_of h hL; ⟨i, L, x, f, g, he, a⟩
theorem compute_skeleton_derives (d : Gen.D) (ts : List Tok) (e : Expr) (items : List It) (h : SkelC d ts e items) :
    ∃ L, Derives d L ts e := by
  obtain ⟨L, x, f, g, he, ha⟩ := h
  exact ⟨L, f ▸ he ▸ derives_of_GC g ha⟩
theorem derives_unique_compute (d : Gen.D) (ts ts' : List Tok) (e e' : Expr) (items : List It)
    (h : SkelC d ts e items) (h' : SkelC d ts' e' items) : e = e' ∧ ts = ts' := skel_unique h h'

/-- the same for the KEYWORD-PREDICATE layer (level 9): operands are compute-level expressions (and the bracket groups of IN /
EXISTS with what they stand for), operators the keyword tokens; a chain of predicate tails `[NOT] BETWEEN f AND t`, `[NOT] IS a`,
`IS NOT a`, `[NOT] LIKE / RLIKE / REGEXP a`, `[NOT] IN g`, each taking everything to its left as its left operand -/
theorem keyword_skeleton_exists (d : Gen.D) (L : Nat) (ts : List Tok) (e : Expr) (h : Derives d L ts e) (hL : L ≤ 9) :
    ∃ items, flatI items = ts ∧ KD d items e ∧ ∀ u a, OPG.Item.atom (u, a) ∈ items → AtomK d u a := skelK_of h hL
theorem derives_unique_keyword (d : Gen.D) (items : List It) (e e' : Expr) (h : KD d items e) (h' : KD d items e') : e = e' :=
  h.unique h'

/-- **the returned tree is THE well-nested operator tree over its operands** (the tree-level form, `OPG.Tr.WN`: at every binary
node of level k the left operand has level ≤ k and the right operand level < k, under NOT the operand has level ≤ 11; an operand —
whatever it is: a bracket group, a keyword predicate … — has level 0): the tree `pOr` returns is the image of an operator tree `x`
over operands of the keyword level that is well nested w.r.t. the documented levels (OR 14, XOR 13, AND 12, NOT 11, comparison 10),
whose items are exactly the consumed tokens, and every well-nested tree with the same items is `x` -/
theorem parse_tree_well_nested (d : Gen.D) (f : Nat) (ts : List Tok) (e : Expr) (rest : List Tok) (h : pOr d f ts = .ok (e, rest)) :
    ∃ (x : OPG.Tr Atom Tok), ts = flatI x.flat ++ rest ∧ embL x = e ∧ x.WN (logicSig d) ∧
      (∀ u a, OPG.Item.atom (u, a) ∈ x.flat → Derives d 9 u a) ∧ ∀ y : OPG.Tr Atom Tok, y.WN (logicSig d) → y.flat = x.flat → y = x := by
  obtain ⟨u, hu, hd⟩ := parse_derives d f ts e rest h
  obtain ⟨items, x, hf, hg, he, ha⟩ := skelL_of hd
  have hx := hg.flat_eq
  exact ⟨x, by rw [hx, hf]; exact hu, he, hg.wn, by rw [hx]; exact ha, fun y hy hyf => OPG.WN_unique hy hg.wn hyf⟩
/-- the same for `_parse_compute_expression`: operands are elements, levels are the table's (prefix signs 1, binary 2 … 8) — this is
`C02.precedence_tree_unique` for the run of the parser itself, prefix operators included -/
theorem parse_compute_tree_well_nested (d : Gen.D) (f : Nat) (ts : List Tok) (e : Expr) (rest : List Tok) (h : pCompute d f ts = .ok (e, rest)) :
    ∃ (x : OPG.Tr Atom Tok), ts = flatI x.flat ++ rest ∧ embC x = e ∧ x.WN (computeSig d) ∧
      (∀ u a, OPG.Item.atom (u, a) ∈ x.flat → Derives d 0 u a) ∧ ∀ y : OPG.Tr Atom Tok, y.WN (computeSig d) → y.flat = x.flat → y = x := by
  obtain ⟨u, hu, hd⟩ := parse_derives_compute d f ts e rest h
  obtain ⟨items, x, hf, hg, he, ha⟩ := skelC_of hd (Nat.le_refl _)
  have hx := hg.flat_eq
  exact ⟨x, by rw [hx, hf]; exact hu, he, hg.wn, by rw [hx]; exact ha, fun y hy hyf => OPG.WN_unique hy hg.wn hyf⟩

/-- for the parser: what `pOr` returns is the ONLY tree over the operands of its logical skeleton -/
theorem parse_unique_over_operands (d : Gen.D) (f : Nat) (ts : List Tok) (e : Expr) (rest : List Tok) (h : pOr d f ts = .ok (e, rest)) :
    ∃ used items, ts = used ++ rest ∧ SkelL d used e items ∧ ∀ us e', SkelL d us e' items → e' = e := by
  obtain ⟨u, hu, hd⟩ := parse_derives d f ts e rest h
  obtain ⟨items, hs⟩ := logic_skeleton_exists d _ _ _ hd
  exact ⟨u, items, hu, hs, fun us e' h' => (skel_unique h' hs).1⟩

/-! ### every expression CONTAINED in a parsed SELECT (the opaque leaves of `Derives`, opened)

`WNG.Cov d T e`: `e` is derived by `Derives`, at some level, from a CONTIGUOUS run of tokens of `T` or of the content of a bracket
group inside `T` (any depth: `WNG.Sub`).  `WNG.exprsQ q`: the expressions at the clause positions of `q` — select items, ON
conditions / USING calls, LATERAL VIEW calls, WHERE, GROUP BY columns and grouping sets, HAVING, ORDER / SORT / DISTRIBUTE /
CLUSTER BY items — recursively through sub-queries in FROM, WITH tables and the branches of set operations. -/

/-- **C02 at every expression position of a SELECT statement** (`_parse_select_statement`, any dialect / fuel / tokens) -/
theorem select_exprs_derive (d : Gen.D) (f : Nat) (ts : List Tok) (q : Query) (rest : List Tok)
    (h : pSelectStmt d f none ts = .ok (q, rest)) : ∀ e ∈ exprsQ q, Cov d ts e :=
  (cv_all d f).pSelectStmt ts none ts q rest .refl (by simpa [exprsOW] using CovL.nil) h
/-- a sub-query element / `IN (SELECT …)` / `EXISTS (SELECT …)` (the leaf `SubQ` of `Derives`): the same for its clauses -/
theorem subquery_exprs_derive (d : Gen.D) (g : Tok) (q : Query) (h : SubQ d g q) : ∀ e ∈ exprsQ q, Cov d g.children e :=
  subQ_covered h
/-- the specification of a window (the leaf `WinSpec`): its PARTITION BY and ORDER BY items -/
theorem window_items_derive (d : Gen.D) (fn w : Expr) (cs : List Tok) (h : WinSpec d fn cs w) :
    ∃ part ord rows, w = .window fn part ord rows ∧ ∀ e ∈ part ++ ord.map oiE, Cov d cs e := winSpec_covered h
/-- clause entry points: `parse_where_clause` / HAVING, `parse_group_by_clause`, `parse_order_by_clause`, `parse_join_clause` -/
theorem where_clause_derives (d : Gen.D) (f : Nat) (kw : String) (ts : List Tok) (v : Option Expr) (rest : List Tok)
    (h : pOptOr d f kw ts = .ok (v, rest)) : ∀ e ∈ v.toList, Cov d ts e := (cv_all d f).pOptOr ts kw ts v rest .refl h
theorem group_by_clause_derives (d : Gen.D) (f : Nat) (ts : List Tok) (v : Option GroupBy) (rest : List Tok)
    (h : pGroupBy d f ts = .ok (v, rest)) : ∀ e ∈ ogbE v, Cov d ts e := (cv_all d f).pGroupBy ts ts v rest .refl h
theorem order_by_clause_derives (d : Gen.D) (f : Nat) (ts : List Tok) (v : Option (List OrderItem)) (rest : List Tok)
    (h : pOrderByOpt d f ts = .ok (v, rest)) : ∀ e ∈ oiEs v, Cov d ts e := (cv_all d f).pOrderByOpt ts ts v rest .refl h
theorem join_clause_derives (d : Gen.D) (f : Nat) (ts : List Tok) (v : Join) (rest : List Tok)
    (h : pJoin d f ts = .ok (v, rest)) : ∀ e ∈ exprsJ v, Cov d ts e := (cv_all d f).pJoin ts ts v rest .refl h

/-! ### every expression contained in a parsed STATEMENT (`parse_statements`)

`WNG.exprsStmt s`: the expressions of `s` — everything `exprsQ` collects for the queries inside (SELECT, INSERT … SELECT, CREATE TABLE …
AS, WITH tables of INSERT / UPDATE), plus partition specifications (INSERT, ANALYZE, ALTER … ADD / DROP PARTITION), VALUES rows,
UPDATE … SET values, WHERE / ORDER BY of UPDATE and DELETE, SHOW COLUMNS … WHERE, and of every column definition (CREATE TABLE
columns and PARTITIONED BY columns, ALTER … ADD / MODIFY / CHANGE) its type parameters, DEFAULT, ON UPDATE and GENERATED ALWAYS AS
expressions. -/

/-- **C02 at every expression position of every statement of a script** (token level) -/
theorem statements_exprs_derive (d : Gen.D) (f : Nat) (ts : List Tok) (ss : List Stmt) (h : pStatements d f ts = .ok ss) :
    ∀ s ∈ ss, ∀ e ∈ exprsStmt s, Cov d ts e :=
  cv_statementsLoop _ [] ts ss .refl (fun s hs => by cases hs) h
/-- one statement (`pStatement`: the body of the loop of `parse_statements`) -/
theorem statement_exprs_derive (d : Gen.D) (f : Nat) (ts : List Tok) (s : Stmt) (rest : List Tok) (h : pStatement d f ts = .ok (s, rest)) :
    ∀ e ∈ exprsStmt s, Cov d ts e := cv_pStatement .refl h
/-- the same from the TEXT: `SQLParser.parse_statements(text, sql_type)` -/
theorem statements_text_exprs_derive (d : Gen.D) (text : List Char) (ss : List Stmt) (h : parseStatementsText d text = .ok ss) :
    ∃ ts, lex Gen.cfgS (dialectPre d text) = .ok ts ∧ ∀ s ∈ ss, ∀ e ∈ exprsStmt s, Cov d ts e := by
  obtain ⟨ts, hl, hp⟩ := parseStatementsText_ok h
  exact ⟨ts, hl, statements_exprs_derive d _ ts ss hp⟩
/-- partition specifications: `PARTITION (a = 1, b)` — the comparison node is built outside the expression block
(`_parse_partition_expression`), from two compute-level operands: it derives at level 10 -/
theorem partition_spec_derives (d : Gen.D) (f : Nat) (already : Bool) (ts : List Tok) (v : List Expr) (rest : List Tok)
    (h : pPartition d f already ts = .ok (v, rest)) : ∀ e ∈ v, Cov d ts e := cv_pPartition .refl h
/-- column definitions: type parameters, DEFAULT, ON UPDATE, GENERATED ALWAYS AS -/
theorem column_definition_derives (d : Gen.D) (f : Nat) (ts : List Tok) (v : DefCol) (rest : List Tok)
    (h : pDefCol d f ts = .ok (v, rest)) : ∀ e ∈ exprsDC v, Cov d ts e := (cv_pDefCol .refl h).covL

/-! ### at text level: the public entry point, lexer included -/
theorem W02.entry_or : (entries.find? (·.1 == "logical_or_level_expression")).map (·.2) = some (exprEntry pOr) := by
  rfl
/-- **C02 for every accepted TEXT** (`SQLParser.parse_logical_or_level_expression(text, sql_type)` = dialect pre-pass ∘ lexer ∘ parser
with the fuel the entry point computes): whatever value it returns is the tree the documented grammar derives from the tokens the
lexer produced, minus the `k` unconsumed ones. -/
theorem parse_text_derives (d : Gen.D) (text : List Char) (v : Val) (k : Nat)
    (h : parseText "logical_or_level_expression" d text = .ok (v, k)) :
    ∃ ts used rest e, lex Gen.cfgS (dialectPre d text) = .ok ts ∧ ts = used ++ rest ∧ rest.length = k ∧ v = e.toVal ∧
      Derives d 14 used e := by
  obtain ⟨ts, r, hl, hp, hn⟩ := parseText_find_ok W02.entry_or h
  simp only [exprEntry] at hp
  cases hq : pOr d (fuelFor ts) ts with
  | error x => rw [hq] at hp; cases hp
  | ok er =>
    rw [hq] at hp
    cases hp
    obtain ⟨u, hu, hd⟩ := parse_derives d _ ts er.1 er.2 hq
    exact ⟨ts, u, er.2, er.1, hl, hu, hn, rfl, hd⟩

/-! ### non-vacuity and witnesses -/
namespace W02
def ta : Tok := Tok.single "a".toList 2
def tb : Tok := Tok.single "b".toList 2
def tor : Tok := Tok.single "OR".toList 0
def tmi : Tok := Tok.single "-".toList 0
def ca : Expr := .column none "a"
def cb : Expr := .column none "b"
theorem da : Derives .MYSQL 0 [ta] ca := Derives.column (t := ta) (by rfl) (by rfl)
theorem db : Derives .MYSQL 0 [tb] cb := Derives.column (t := tb) (by rfl) (by rfl)
end W02
open W02

/-- non-vacuity of `parse_derives` (kernel-checked run of the model on tokens) and of `Derives` (a derivation built by hand) -/
example : ∃ used, [ta, tor, tb] = used ++ [] ∧ Derives .MYSQL 14 used (.or_ ca cb) :=
  parse_derives .MYSQL 30 [ta, tor, tb] _ [] (by rfl)
example : Derives .MYSQL 14 [ta, tor, tb] (.or_ ca cb) :=
  Derives.or_ (l := [ta]) (da.up (by omega)) (by rfl) (db.up (by omega))

/-- non-vacuity of `select_exprs_derive` (kernel-checked run of the model on the tokens of `SELECT a OR b WHERE a`) -/
def W02.tsel : Tok := Tok.single "SELECT".toList 0
def W02.twh : Tok := Tok.single "WHERE".toList 0
def W02.q0 : Query := .single (.mk (some []) false [(.or_ ca cb, none)] none [] [] (some ca) none none none none none none none)
example : Cov .MYSQL [W02.tsel, ta, tor, tb, W02.twh, ta] (.or_ ca cb) :=
  select_exprs_derive .MYSQL 40 _ W02.q0 [] (by rfl) _ (by simp [W02.q0, exprsQ, exprsS])

/-- **`Derives` is not functional** (why there is no `derives_unique` for the relation as it stands): the code accepts ANY token as
a column name (DEVIATION 2), so `a - - - b` also derives `(a - "-") - b`, with the second `-` read as a column; the parser
returns `a - (-(-b))` (`parse_derives` only says the returned tree is ONE of the derivable ones). -/
theorem derives_not_unique_witness :
    ∃ (ts : List Tok) (e e' : Expr), Derives .MYSQL 8 ts e ∧ Derives .MYSQL 8 ts e' ∧ e ≠ e' := by
  have hop : computeOp? (up tmi.src) = some ("SUBTRACT", 5) := by rfl
  have hun : isUnary .MYSQL tmi = true := by rfl
  have u1 : Derives .MYSQL 1 [tmi, tb] (.unary "SUBTRACT" cb) := .unary hun hop (db.up (by omega))
  have u2 : Derives .MYSQL 1 [tmi, tmi, tb] (.unary "SUBTRACT" (.unary "SUBTRACT" cb)) := .unary hun hop u1
  have d1 : Derives .MYSQL 5 ([ta] ++ tmi :: [tmi, tmi, tb]) (.compute ca "SUBTRACT" (.unary "SUBTRACT" (.unary "SUBTRACT" cb))) :=
    .compute hop (da.up (by omega)) (u2.up (by omega))
  have cm : Derives .MYSQL 0 [tmi] (.column none (unifyName tmi.src)) := .column (by rfl) (by rfl)
  have i2 : Derives .MYSQL 5 ([ta] ++ tmi :: [tmi]) (.compute ca "SUBTRACT" (.column none (unifyName tmi.src))) :=
    .compute hop (da.up (by omega)) (cm.up (by omega))
  have d2 : Derives .MYSQL 5 (([ta] ++ tmi :: [tmi]) ++ tmi :: [tb]) (.compute (.compute ca "SUBTRACT" (.column none (unifyName tmi.src))) "SUBTRACT" cb) :=
    .compute hop i2 (db.up (by omega))
  refine ⟨[ta, tmi, tmi, tmi, tb], _, _, d1.up (by omega), d2.up (by omega), ?_⟩
  intro h
  injection h with h1 _ _
  simp [ca] at h1

/-! evaluated witnesses on the model (tests: `String` functions do not reduce in the kernel), each confirmed on the real code:
DEVIATION 1 — `a ~ b ^ c` is `(a ~ b) ^ c`, `a ! b` is accepted (MySQL); DEVIATION 2 — `a + AND` is `a + "AND"`;
DEVIATION 3 — `a NOT IS NOT b` stops after `a IS NOT "NOT"` (one token left); DEVIATION 4 — `a IN (1,,2)` = `a IN (1,2)`. -/
private def showOr (d : Gen.D) (s : String) : String :=
  match parseText "logical_or_level_expression" d s.toList with | .ok (v, k) => Drv.showVal v ++ s!" /{k}" | .error e => "ERR " ++ e.show
#guard showOr .MYSQL "a ~ b ^ c" == showOr .MYSQL "(a ~ b) ^ c"
#guard showOr .MYSQL "a ~ b ^ c" != showOr .MYSQL "a ~ (b ^ c)"
#guard (showOr .MYSQL "a ! b").startsWith "ASTComputeExpression"
#guard showOr .MYSQL "a + AND" == showOr .MYSQL "a + `AND`"
#guard (showOr .MYSQL "a NOT IS NOT b").endsWith " /1"
#guard showOr .MYSQL "a IN (1,,2)" == showOr .MYSQL "a IN (1,2)"
#guard showOr .MYSQL "a - - - b" == showOr .MYSQL "a - (-(-b))"
#guard showOr .MYSQL "(a)" == showOr .MYSQL "a" && showOr .MYSQL "((a OR b))" == showOr .MYSQL "a OR b"
#guard showOr .MYSQL "(a OR b) AND c" != showOr .MYSQL "a OR b AND c" && showOr .MYSQL "a OR (b AND c)" == showOr .MYSQL "a OR b AND c"

end C02
