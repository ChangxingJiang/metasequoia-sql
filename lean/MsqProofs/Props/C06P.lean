import MsqProofs.Lemmas.ParseSubst
import MsqProofs.Props.C06
/-!
# C06, parser half: replacing the INSIDE of a quoted region changes only the texts stored from that region

Built on the relational family `MsqProofs/Lemmas/ParseRel*.lean` (`tools/gen_rel.py`) read at the token theory `PMQ.substT` (`Lemmas/ParseSubst3.lean`):
for EVERY function `f` of the parser model (the 80 functions of the mutual block of `Parse/Expr.lean`, 18 cursor primitives / helpers, the
57 functions of `Parse/Stmt.lean`, `pStatements`, `pSubValue`, the 11 functions of `Parse/Entry2.lean`) the statement
`args ~ args' → f args ≈ f args'`: the field `f` of `PM.Rel.genF_all` for a function of the block, a lemma `PM.Rel.<f>_rel` for the others.

* `PMQ.PaySet` (`Lemmas/ParseSubst0.lean`): a set `P` of PAYLOAD TEXTS — the texts the parser may store from a replaced token — with the side
  condition `inert`: no payload text is (after `str.upper()`) one of `CAST`, `EXTRACT`, `IF`, `SUBSTRING`, `AVG`, `COUNT`, `MAX`, `MIN`, `SUM`;
  a larger set `P2`, closed under concatenation, for the config strings of `SET` / `TBLPROPERTIES` (built by concatenating sources).
* `PMQ.QE t t'` / `PMQ.QEL ts ts'` (`Lemmas/ParseSubst1.lean`): "the same quoted regions, other payloads": equal; or two leaves with the same marks
  whose sources both begin with a quote character, are both / neither ASCII, are payload texts with and without their back-quotes, and —
  if they carry the NAME mark — do not contain exactly one dot; or two bracket groups of the same kind and marks with pointwise related
  children (if the children differ: no NAME mark, and the two renderings `(…)` are payload texts too).
* `≈` is `PMQ.QEX (qeq (List.map erSt0))`: both runs fail with the SAME error kind, or both succeed with trees that are EQUAL AFTER ERASURE
  (`er`: every stored payload text replaced by one constant).  By `C06.erased_eq_iff`: the same statement kinds, the same shape, and in
  every text slot the same text or two payload texts.

## Where the parser inspects the CONTENT of a quoted token (each is a side condition above; Python lines of `core/parser.py`)
see the end of this file (`#guard`s) and the final report of the round: the dot split of ONE name token (F-C06-5, also for QUOTED STRINGS in
table position), the dispatch on the unified function name (`` `cast`(…) ``, `` `count`(DISTINCT …) ``, `` `substring`(a FROM 1) ``, `` `extract`(…) ``,
`` `if`(…) ``: NEW), `int()` on a token source (model only: non-ASCII text is unmodelled).
-/
set_option linter.unusedSectionVars false
open Lex PM Ast PMQ

namespace C06

/-! ## token level, any payload set: `parse_statements` -/
section general
variable [S : PaySet]

/-- what equality after erasure means for one text slot: the same text, or two payload texts -/
theorem erased_eq_iff (x y : String) : er x = er y ↔ x = y ∨ (PaySet.P x = true ∧ PaySet.P y = true) := er_eq_iff x y

/-- **C06.payload_shape_invariant**: `parse_statements` on two token lists that differ only inside quoted regions (`QEL`): the same error
kind, or two statement lists that are equal after the erasure of payload texts; every dialect, every fuel. -/
theorem payload_shape_invariant (d : Gen.D) (f : Nat) (ts ts' : List Tok) (h : QEL ts ts') :
    QEX (qeq (List.map erSt0)) (pStatements d f ts) (pStatements d f ts') := pStatements_qe d f ts ts' h

/-- the loop of `parse_statements` from any accumulator -/
theorem payload_shape_invariant_loop (d : Gen.D) (f g : Nat) (acc acc' : List Stmt) (ts ts' : List Tok)
    (ha : acc.map erSt0 = acc'.map erSt0) (h : QEL ts ts') :
    QEX (qeq (List.map erSt0)) (statementsLoop d f g acc ts) (statementsLoop d f g acc' ts') :=
  statementsLoop_qe d f g acc ts g acc' ts' rfl ha h

/-- one statement: same error kind, or related statements and RELATED REMAINING CURSORS -/
theorem payload_shape_invariant_statement (d : Gen.D) (f : Nat) (ts ts' : List Tok) (h : QEL ts ts') :
    QER (qeq erSt0) (pStatement d f ts) (pStatement d f ts') := pStatement_qe d f ts ts' h

/-- accepted alike -/
theorem payload_shape_invariant_accept (d : Gen.D) (f : Nat) (ts ts' : List Tok) (h : QEL ts ts') (ss : List Stmt)
    (hs : pStatements d f ts = .ok ss) : ∃ ss', pStatements d f ts' = .ok ss' ∧ ss.map erSt0 = ss'.map erSt0 :=
  Rel.gex_accept (qex_eq ▸ payload_shape_invariant d f ts ts' h) hs
/-- rejected alike, with the same error kind -/
theorem payload_shape_invariant_reject (d : Gen.D) (f : Nat) (ts ts' : List Tok) (h : QEL ts ts') (e : Err)
    (hs : pStatements d f ts = .error e) : pStatements d f ts' = .error e :=
  Rel.gex_reject (qex_eq ▸ payload_shape_invariant d f ts ts' h) hs

/-- the kind of a statement (its constructor) -/
def stmtKind : Stmt → Nat
  | .select _ => 0 | .insertValues _ _ => 1 | .insertSelect _ _ => 2 | .update .. => 3 | .delete .. => 4 | .createTable _ => 5
  | .createTableAs .. => 6 | .dropTable _ _ => 7 | .set _ => 8 | .analyze .. => 9 | .alter _ _ => 10 | .msck _ => 11 | .use _ => 12
  | .truncate _ => 13 | .showDatabases => 14 | .showTables => 15 | .showColumns _ _ => 16
theorem stmtKind_erSt0 (s : Stmt) : stmtKind (erSt0 s) = stmtKind s := by cases s <;> rfl
/-- the same number of statements, of the same kinds, in the same order -/
theorem payload_shape_invariant_kinds (d : Gen.D) (f : Nat) (ts ts' : List Tok) (h : QEL ts ts') (ss ss' : List Stmt)
    (hs : pStatements d f ts = .ok ss) (hs' : pStatements d f ts' = .ok ss') : ss.map stmtKind = ss'.map stmtKind := by
  obtain ⟨ss2, h2, he⟩ := payload_shape_invariant_accept d f ts ts' h ss hs
  rw [hs'] at h2; cases h2
  have := congrArg (List.map stmtKind) he
  simpa [List.map_map, Function.comp_def, stmtKind_erSt0] using this

/-- when neither tree stores a payload text (the erasure fixes both) the trees are EQUAL -/
theorem same_erasure_same_tree (ss ss' : List Stmt) (h : ss.map erSt0 = ss'.map erSt0) (h1 : ss.map erSt0 = ss) (h2 : ss'.map erSt0 = ss') :
    ss = ss' := by rw [← h1, ← h2, h]

/-! ## every entry point of `PM.entries` -/

/-- the outcome of an entry point up to the value: the same error kind, or success with related remaining cursors -/
def OutcomeQE (a b : Except Err (Val × List Tok)) : Prop :=
  match a, b with
  | .ok (_, r), .ok (_, r') => QEL r r'
  | .error e, .error e' => e = e'
  | _, _ => False
@[simp] theorem outcomeQ_ok_ok (v v' : Val) (r r' : List Tok) : OutcomeQE (.ok (v, r)) (.ok (v', r')) = QEL r r' := by simp [OutcomeQE]
@[simp] theorem outcomeQ_err_err (e e' : Err) : OutcomeQE (.error e) (.error e') = (e = e') := by simp [OutcomeQE]
@[simp] theorem outcomeQ_ok_err (p : Val × List Tok) (e : Err) : OutcomeQE (.ok p) (.error e) = False := by
  obtain ⟨v, r⟩ := p; simp [OutcomeQE]
@[simp] theorem outcomeQ_err_ok (p : Val × List Tok) (e : Err) : OutcomeQE (.error e) (.ok p) = False := by
  obtain ⟨v, r⟩ := p; simp [OutcomeQE]

theorem outcomeQE_eq : OutcomeQE = Rel.Outcome (T := substT) := by
  funext a b
  rcases a with e | ⟨v, r⟩ <;> rcases b with e' | ⟨v', r'⟩ <;> simp [qel_eq]
  exact Iff.rfl

/-- **C06.entries_payload_invariant**: EVERY entry point `SQLParser.parse_*` of the model (`PM.entries`, 58 of them), on two token lists
that differ only inside quoted regions (`QEL`): accepted / rejected alike, the same error kind, related remaining cursors. -/
theorem entries_payload_invariant : ∀ e ∈ PM.entries, ∀ (d : Gen.D) (f : Nat) (ts ts' : List Tok), QEL ts ts' →
    OutcomeQE (e.2 d f ts) (e.2 d f ts') := by
  simp only [qel_eq, outcomeQE_eq]; exact Rel.entries_rel (T := substT)

example : PM.entries.length = 58 := by decide

/-- **C06.entries2_payload_invariant**: the same for the other 26 public entry points (`PM.entries2`, `MsqModel/Parse/Entry2.lean`; their
functions: `Lemmas/ParseRel8.lean`) -/
theorem entries2_payload_invariant : ∀ e ∈ PM.entries2, ∀ (d : Gen.D) (f : Nat) (ts ts' : List Tok), QEL ts ts' →
    OutcomeQE (e.2 d f ts) (e.2 d f ts') := by
  simp only [qel_eq, outcomeQE_eq]; exact Rel.entries2_rel (T := substT)

/-- **C06.entriesAll_payload_invariant**: all 84 public parsing entry points -/
theorem entriesAll_payload_invariant : ∀ e ∈ PM.entriesAll, ∀ (d : Gen.D) (f : Nat) (ts ts' : List Tok), QEL ts ts' →
    OutcomeQE (e.2 d f ts) (e.2 d f ts') := by
  intro e he
  simp only [entriesAll, List.mem_append] at he
  rcases he with he | he
  · exact entries_payload_invariant e he
  · exact entries2_payload_invariant e he
example : PM.entriesAll.length = 84 := by decide

/-! ## text level -/

theorem qe_size : ∀ t t' : Tok, QE t t' → Tok.size t = Tok.size t' := fun t t' h => Rel.tok_size (T := substT) t t' h
/-- the fuel the entry points compute does not depend on payloads -/
theorem qel_sizeL : ∀ ts ts' : List Tok, QEL ts ts' → sizeL ts = sizeL ts' := fun ts ts' h => Rel.gel_sizeL (T := substT) ts ts' (qel_eq ▸ h)
theorem qel_fuelFor (ts ts' : List Tok) (h : QEL ts ts') : fuelFor ts = fuelFor ts' := by simp [fuelFor, qel_sizeL ts ts' h]

/-- **C06.parse_payload_invariant_text**: the model of `SQLParser.parse_statements(text, dialect)` (dialect pre-pass, shipped lexer, the fuel
it computes itself) on two texts whose token lists differ only inside quoted regions: the same error kind, or statement lists
equal after `erAll`. -/
theorem parse_payload_invariant_text (d : Gen.D) (text text' : List Char) (ts ts' : List Tok)
    (h1 : lex Gen.cfgS (dialectPre d text) = .ok ts) (h2 : lex Gen.cfgS (dialectPre d text') = .ok ts') (h : QEL ts ts') :
    QEX (qeq (List.map erSt0)) (parseStatementsText d text) (parseStatementsText d text') := by
  simp only [parseStatementsText, h1, h2, qel_fuelFor ts ts' h]
  exact payload_shape_invariant d _ ts ts' h

/-- the outcome of a text-level entry point up to the value: the same error kind, or success with the same number of unconsumed tokens -/
def OutcomeTextQE (a b : Except Err (Val × Nat)) : Prop :=
  match a, b with
  | .ok (_, n), .ok (_, n') => n = n'
  | .error e, .error e' => e = e'
  | _, _ => False

theorem outcomeTextQE_eq : OutcomeTextQE = Rel.OutcomeText := by
  funext a b; rcases a with e | ⟨v, n⟩ <;> rcases b with e' | ⟨v', n'⟩ <;> simp [OutcomeTextQE, Rel.OutcomeText]

/-- **C06.parseText_payload_invariant**: EVERY text-level entry point `SQLParser.parse_<entry>(text, dialect)` of the model: accepted /
rejected alike, the same error kind, the same number of unconsumed tokens. -/
theorem parseText_payload_invariant (entry : String) (d : Gen.D) (text text' : List Char) (ts ts' : List Tok)
    (h1 : lex Gen.cfgS (dialectPre d text) = .ok ts) (h2 : lex Gen.cfgS (dialectPre d text') = .ok ts') (h : QEL ts ts') :
    OutcomeTextQE (parseText entry d text) (parseText entry d text') :=
  outcomeTextQE_eq ▸ Rel.parseText_rel (T := substT) entry d text text' h1 h2 (qel_eq ▸ h)

/-- **C06.parseText2_payload_invariant**: every one of the 84 public entry points `SQLParser.parse_<entry>(text, dialect)` -/
theorem parseText2_payload_invariant (entry : String) (d : Gen.D) (text text' : List Char) (ts ts' : List Tok)
    (h1 : lex Gen.cfgS (dialectPre d text) = .ok ts) (h2 : lex Gen.cfgS (dialectPre d text') = .ok ts') (h : QEL ts ts') :
    OutcomeTextQE (parseText2 entry d text) (parseText2 entry d text') :=
  outcomeTextQE_eq ▸ Rel.parseText2_rel (T := substT) entry d text text' h1 h2 (qel_eq ▸ h)
/-- … and called with a `TokenScanner` (no dialect pre-pass: the hypothesis is on the token lists of the texts themselves) -/
theorem parseScanner2_payload_invariant (entry : String) (d : Gen.D) (text text' : List Char) (ts ts' : List Tok)
    (h1 : lex Gen.cfgS text = .ok ts) (h2 : lex Gen.cfgS text' = .ok ts') (h : QEL ts ts') :
    OutcomeTextQE (parseScanner2 entry d text) (parseScanner2 entry d text') :=
  outcomeTextQE_eq ▸ Rel.parseScanner2_rel (T := substT) entry d text text' h1 h2 (qel_eq ▸ h)


end general

/-! ## a concrete payload set; ONE replaced leaf (the relation `C06.subL` of the lexer half) -/

open Classical in
/-- the payload set given by a list of texts `ws`; config strings: every text that CONTAINS one of them -/
@[reducible] noncomputable def payOfList (ws : List String) (w0 : String) (h0 : w0 ∈ ws) (hi : ∀ s ∈ ws, inertB s = true) : PaySet where
  P := fun s => ws.contains s
  c := w0
  hc := by simpa using h0
  inert := fun s hs => hi s (by simpa using hs)
  P2 := fun s => decide (∃ w ∈ ws, w.toList <:+: s.toList)
  c2 := w0
  hc2 := by simp only [decide_eq_true_eq]; exact ⟨w0, h0, List.infix_refl _⟩
  sub := fun s hs => by simp only [decide_eq_true_eq]; exact ⟨s, by simpa using hs, List.infix_refl _⟩
  catL := fun a b h => by
    simp only [decide_eq_true_eq] at h ⊢
    obtain ⟨w, hw, hx⟩ := h
    exact ⟨w, hw, by rw [String.toList_append]; exact hx.trans (List.prefix_append _ _).isInfix⟩
  catR := fun a b h => by
    simp only [decide_eq_true_eq] at h ⊢
    obtain ⟨w, hw, hx⟩ := h
    exact ⟨w, hw, by rw [String.toList_append]; exact hx.trans (List.suffix_append _ _).isInfix⟩

/-- a text that begins with a quote character or `(` is none of the function names -/
theorem inert_of_opq {s : String} (h : Opq s) : inertB s = true := by
  have h1 := opq_contains (opq_up h) ["CAST", "EXTRACT", "IF", "SUBSTRING"] (by decide)
  have h2 := opq_contains (opq_up h) Gen.aggNames (by decide)
  simp only [inertB, h1, h2]; rfl

/-- the texts the parser can store from the two leaves -/
def leafTexts (s s' : List Char) : List String :=
  [String.ofList s, String.ofList s', unifyName (String.ofList s), unifyName (String.ofList s')]
mutual
/-- the renderings `(…)` of the bracket groups on which two token trees differ (the parser stores the rendering of a whole group in a few
degenerate positions: the name of a WITH table, of a lateral view, `a.(…)`, an index-only bracket in element position) -/
def diffSrc : Tok → Tok → List String
  | .group k cs m, .group k' cs' m' =>
    if eqbL cs cs' then [] else Tok.src (.group k cs m) :: Tok.src (.group k' cs' m') :: diffSrcL cs cs'
  | _, _ => []
def diffSrcL : List Tok → List Tok → List String
  | t :: ts, t' :: ts' => diffSrc t t' ++ diffSrcL ts ts'
  | _, _ => []
end
mutual
/-- no bracket group carries the NAME mark (the lexer emits groups with the PARENTHESIS / ARRAY_INDEX mark only) -/
def noNameGroup : Tok → Bool
  | .single _ _ => true
  | .group _ cs m => (m &&& NAME == 0) && noNameGroupL cs
def noNameGroupL : List Tok → Bool
  | [] => true
  | t :: ts => noNameGroup t && noNameGroupL ts
end

section oneLeaf
variable (s s' : List Char) (m : Nat) (hna : s.any p128 = s'.any p128)
include hna
mutual
theorem subT_any : ∀ t t' : Tok, subT (.single s m) (.single s' m) t t' → (Tok.source t).any p128 = (Tok.source t').any p128
  | .single a k, t', h => by
    simp only [subT] at h
    rcases h with rfl | ⟨hx, rfl⟩
    · rfl
    · cases hx; simpa [Tok.source] using hna
  | .group g cs k, t', h => by
    simp only [subT] at h
    obtain ⟨ds, rfl, hl⟩ := h
    simp only [Tok.source, List.any_cons, List.any_append, subL_any cs ds hl]
theorem subL_any : ∀ ts ts' : List Tok, subL (.single s m) (.single s' m) ts ts' → (sourceL ts).any p128 = (sourceL ts').any p128
  | [], ts', h => by simp only [subL] at h; rw [h]
  | a :: as, ts', h => by
    simp only [subL] at h
    obtain ⟨b, bs, rfl, h1, h2⟩ := h
    simp only [sourceL, List.any_append, subT_any a b h1, subL_any as bs h2]
end
end oneLeaf

mutual
theorem diffSrc_opq : ∀ (t t' : Tok), ∀ w ∈ diffSrc t t', Opq w
  | .group k cs m, .group k' cs' m', w, hw => by
    simp only [diffSrc] at hw
    split at hw
    · simp at hw
    · simp only [List.mem_cons] at hw
      rcases hw with rfl | rfl | hw
      · exact opq_ofList (by simp [Tok.source, opaqueHead])
      · exact opq_ofList (by simp [Tok.source, opaqueHead])
      · exact diffSrcL_opq cs cs' w hw
  | .single _ _, _, w, hw => by simp [diffSrc] at hw
  | .group _ _ _, .single _ _, w, hw => by simp [diffSrc] at hw
theorem diffSrcL_opq : ∀ (ts ts' : List Tok), ∀ w ∈ diffSrcL ts ts', Opq w
  | t :: ts, t' :: ts', w, hw => by
    simp only [diffSrcL, List.mem_append] at hw
    rcases hw with hw | hw
    · exact diffSrc_opq t t' w hw
    · exact diffSrcL_opq ts ts' w hw
  | [], _, w, hw => by simp [diffSrcL] at hw
  | _ :: _, [], w, hw => by simp [diffSrcL] at hw
end

section build
variable [S : PaySet] (s s' : List Char) (m : Nat)
  (hQ : SrcQ s s') (hdot : m &&& NAME = 0 ∨ (dotOK s = true ∧ dotOK s' = true))
include hQ hdot
mutual
/-- one replaced leaf, in any nesting of brackets: `QE` — provided the payload set contains the renderings of the enclosing groups -/
theorem qe_of_subT : ∀ t t' : Tok, subT (.single s m) (.single s' m) t t' → noNameGroup t = true →
    (∀ w ∈ diffSrc t t', PaySet.P w = true) → QE t t'
  | .single a k, t', h, _, _ => by
    simp only [subT] at h
    rcases h with rfl | ⟨hx, rfl⟩
    · exact QE.refl _
    · cases hx; simp only [QE, true_and]; exact .inr ⟨hQ, hdot⟩
  | .group g cs k, t', h, hn, hw => by
    simp only [subT] at h
    obtain ⟨ds, rfl, hl⟩ := h
    simp only [noNameGroup, Bool.and_eq_true, beq_iff_eq] at hn
    simp only [QE, true_and]
    by_cases e : eqbL cs ds = true
    · have := eqbL_sound cs ds e; subst this
      exact ⟨QEL.refl _, .inl rfl⟩
    · have hw2 : ∀ w ∈ diffSrcL cs ds, PaySet.P w = true := fun w hm => hw w (by simp [diffSrc, e, hm])
      refine ⟨qel_of_subL cs ds hl hn.2 hw2, .inr ⟨hn.1, ?_⟩⟩
      have ha := subL_any s s' m hQ.2.2.1 cs ds hl
      have p1 := hw (Tok.src (.group g cs k)) (by simp [diffSrc, e])
      have p2 := hw (Tok.src (.group g ds k)) (by simp [diffSrc, e])
      simp only [Tok.src, Tok.source] at p1 p2
      refine ⟨by simp [opaqueHead], by simp [opaqueHead], ?_, p1, p2, ?_, ?_⟩
      · simp only [List.any_cons, List.any_append, ha]
      · rw [unifyName_paren]; exact p1
      · rw [unifyName_paren]; exact p2
theorem qel_of_subL : ∀ ts ts' : List Tok, subL (.single s m) (.single s' m) ts ts' → noNameGroupL ts = true →
    (∀ w ∈ diffSrcL ts ts', PaySet.P w = true) → QEL ts ts'
  | [], ts', h, _, _ => by simp only [subL] at h; rw [h]; simp
  | a :: as, ts', h, hn, hw => by
    simp only [subL] at h
    obtain ⟨b, bs, rfl, h1, h2⟩ := h
    simp only [noNameGroupL, Bool.and_eq_true] at hn
    simp only [qel_cons_cons]
    exact ⟨qe_of_subT a b h1 hn.1 (fun w hm => hw w (by simp [diffSrcL, hm])),
      qel_of_subL as bs h2 hn.2 (fun w hm => hw w (by simp [diffSrcL, hm]))⟩
end
end build

/-- **C06.payload_one_leaf**: `ts'` is `ts` with the leaf `(s, m)` replaced by `(s', m)` at some of its occurrences (`C06.subL`, what the
lexer half delivers for two texts that differ inside one quoted region).  If both sources begin with a quote character, are both / neither
ASCII, — in case of the NAME mark — contain not exactly one dot, and the names `unifyName s`, `unifyName s'` are none of the function names the
parser dispatches on, then `parse_statements` gives the same error kind, or statement lists that are equal after the erasure of the texts
`W` = the two sources, the two sources without back-quotes, and the renderings of the bracket groups that contain the leaf. -/
theorem payload_one_leaf (d : Gen.D) (f : Nat) (s s' : List Char) (m : Nat) (ts ts' : List Tok)
    (hsub : subL (.single s m) (.single s' m) ts ts')
    (ho : opaqueHead s = true) (ho' : opaqueHead s' = true) (hna : s.any p128 = s'.any p128)
    (hdot : m &&& NAME = 0 ∨ (dotOK s = true ∧ dotOK s' = true))
    (hi : inertB (unifyName (String.ofList s)) = true) (hi' : inertB (unifyName (String.ofList s')) = true)
    (hng : noNameGroupL ts = true) :
    ∃ S : PaySet, (∀ w, S.P w = true ↔ w ∈ leafTexts s s' ++ diffSrcL ts ts') ∧ QEL ts ts' ∧
      QEX (qeq (List.map erSt0)) (pStatements d f ts) (pStatements d f ts') := by
  have hW : ∀ w ∈ leafTexts s s' ++ diffSrcL ts ts', inertB w = true := by
    intro w hw
    simp only [List.mem_append, leafTexts, List.mem_cons, List.not_mem_nil, or_false] at hw
    rcases hw with (rfl | rfl | rfl | rfl) | hw
    · exact inert_of_opq (opq_ofList ho)
    · exact inert_of_opq (opq_ofList ho')
    · exact hi
    · exact hi'
    · exact inert_of_opq (diffSrcL_opq ts ts' w hw)
  let S : PaySet := payOfList (leafTexts s s' ++ diffSrcL ts ts') (String.ofList s) (by simp [leafTexts]) hW
  have hP : ∀ w, S.P w = true ↔ w ∈ leafTexts s s' ++ diffSrcL ts ts' := fun w => by
    show (leafTexts s s' ++ diffSrcL ts ts').contains w = true ↔ _
    simp
  have hQ : @SrcQ S s s' := by
    refine ⟨ho, ho', hna, ?_, ?_, ?_, ?_⟩ <;> rw [hP] <;> simp [leafTexts]
  have hqel : @QEL S ts ts' := @qel_of_subL S s s' m hQ hdot ts ts' hsub hng (fun w hw => (hP w).2 (by simp [hw]))
  exact ⟨S, hP, hqel, @payload_shape_invariant S d f ts ts' hqel⟩

/-! ## the relation in concrete terms: ANY number of replaced regions -/

/-- the text of a quoted region: it begins with a quote character `'` `"` `` ` `` and ends with the same character -/
def quotedSrc (s : List Char) : Bool :=
  match s with
  | c :: r => (c == '\'' || c == '"' || c == '`') && r.getLast? == some c
  | [] => false
theorem quotedSrc_opaque {s : List Char} (h : quotedSrc s = true) : opaqueHead s = true := by
  cases s with
  | nil => simp [quotedSrc] at h
  | cons c r =>
    simp only [quotedSrc, Bool.and_eq_true, Bool.or_eq_true, beq_iff_eq] at h
    simp only [opaqueHead, Bool.or_eq_true, beq_iff_eq]
    rcases h.1 with (h | h) | h <;> simp [h]

mutual
/-- **"the same quoted region, other payload"**, spelled out: equal; or two leaves with the same marks that are both quoted regions of the
same quote kind, both / neither ASCII, with not exactly one dot if they carry the NAME mark, whose names (back-quotes stripped) are none of
the function names the parser dispatches on; or two bracket groups (without the NAME mark if they differ) with related children -/
def SameQuoted : Tok → Tok → Prop
  | .single s m, .single s' m' => m = m' ∧ (s = s' ∨
      (quotedSrc s = true ∧ quotedSrc s' = true ∧ s.head? = s'.head? ∧ s.any p128 = s'.any p128 ∧
       (m &&& NAME = 0 ∨ (dotOK s = true ∧ dotOK s' = true)) ∧
       inertB (unifyName (String.ofList s)) = true ∧ inertB (unifyName (String.ofList s')) = true))
  | .group k cs m, .group k' cs' m' => k = k' ∧ m = m' ∧ SameQuotedL cs cs' ∧ (cs = cs' ∨ m &&& NAME = 0)
  | .single _ _, .group _ _ _ => False
  | .group _ _ _, .single _ _ => False
def SameQuotedL : List Tok → List Tok → Prop
  | [], [] => True
  | t :: ts, t' :: ts' => SameQuoted t t' ∧ SameQuotedL ts ts'
  | [], _ :: _ => False
  | _ :: _, [] => False
end
mutual
/-- the payload texts of two related token trees: for every pair of different leaves the two texts, with and without back-quotes; for every
pair of different groups the two renderings -/
def payTexts : Tok → Tok → List String
  | .single s _, .single s' _ => if s == s' then [] else leafTexts s s'
  | .group k cs m, .group k' cs' m' =>
    if eqbL cs cs' then [] else Tok.src (.group k cs m) :: Tok.src (.group k' cs' m') :: payTextsL cs cs'
  | _, _ => []
def payTextsL : List Tok → List Tok → List String
  | t :: ts, t' :: ts' => payTexts t t' ++ payTextsL ts ts'
  | _, _ => []
end

mutual
theorem sameQuoted_any : ∀ t t' : Tok, SameQuoted t t' → (Tok.source t).any p128 = (Tok.source t').any p128
  | .single s m, .single s' m', h => by
    simp only [SameQuoted] at h
    rcases h.2 with rfl | h2
    · rfl
    · exact h2.2.2.2.1
  | .group k cs m, .group k' cs' m', h => by
    simp only [SameQuoted] at h
    simp only [Tok.source, List.any_cons, List.any_append, sameQuotedL_any cs cs' h.2.2.1]
  | .single _ _, .group _ _ _, h => by simp [SameQuoted] at h
  | .group _ _ _, .single _ _, h => by simp [SameQuoted] at h
theorem sameQuotedL_any : ∀ ts ts' : List Tok, SameQuotedL ts ts' → (sourceL ts).any p128 = (sourceL ts').any p128
  | [], [], _ => rfl
  | t :: ts, t' :: ts', h => by
    simp only [SameQuotedL] at h
    simp only [sourceL, List.any_append, sameQuoted_any t t' h.1, sameQuotedL_any ts ts' h.2]
  | [], _ :: _, h => by simp [SameQuotedL] at h
  | _ :: _, [], h => by simp [SameQuotedL] at h
end

mutual
/-- every payload text is inert (none of the dispatched function names) -/
theorem payTexts_inert : ∀ t t' : Tok, SameQuoted t t' → ∀ w ∈ payTexts t t', inertB w = true
  | .single s m, .single s' m', h, w, hw => by
    simp only [SameQuoted] at h
    simp only [payTexts] at hw
    split at hw
    · simp at hw
    · rename_i hne
      rcases h.2 with rfl | h2
      · simp at hne
      · simp only [leafTexts, List.mem_cons, List.not_mem_nil, or_false] at hw
        rcases hw with rfl | rfl | rfl | rfl
        · exact inert_of_opq (opq_ofList (quotedSrc_opaque h2.1))
        · exact inert_of_opq (opq_ofList (quotedSrc_opaque h2.2.1))
        · exact h2.2.2.2.2.2.1
        · exact h2.2.2.2.2.2.2
  | .group k cs m, .group k' cs' m', h, w, hw => by
    simp only [SameQuoted] at h
    simp only [payTexts] at hw
    split at hw
    · simp at hw
    · simp only [List.mem_cons] at hw
      rcases hw with rfl | rfl | hw
      · exact inert_of_opq (opq_ofList (by simp [Tok.source, opaqueHead]))
      · exact inert_of_opq (opq_ofList (by simp [Tok.source, opaqueHead]))
      · exact payTextsL_inert cs cs' h.2.2.1 w hw
  | .single _ _, .group _ _ _, h, _, _ => by simp [SameQuoted] at h
  | .group _ _ _, .single _ _, h, _, _ => by simp [SameQuoted] at h
theorem payTextsL_inert : ∀ ts ts' : List Tok, SameQuotedL ts ts' → ∀ w ∈ payTextsL ts ts', inertB w = true
  | [], [], _, w, hw => by simp [payTextsL] at hw
  | t :: ts, t' :: ts', h, w, hw => by
    simp only [SameQuotedL] at h
    simp only [payTextsL, List.mem_append] at hw
    rcases hw with hw | hw
    · exact payTexts_inert t t' h.1 w hw
    · exact payTextsL_inert ts ts' h.2 w hw
  | [], _ :: _, h, _, _ => by simp [SameQuotedL] at h
  | _ :: _, [], h, _, _ => by simp [SameQuotedL] at h
end

section concrete
variable [S : PaySet]
mutual
/-- the concrete relation implies `QE` for every payload set that contains the payload texts -/
theorem qe_of_sameQuoted : ∀ t t' : Tok, SameQuoted t t' → (∀ w ∈ payTexts t t', PaySet.P w = true) → QE t t'
  | .single s m, .single s' m', h, hw => by
    simp only [SameQuoted] at h
    obtain ⟨rfl, h2⟩ := h
    simp only [QE, true_and]
    by_cases e : s = s'
    · exact .inl e
    · rcases h2 with h2 | h2
      · exact absurd h2 e
      · right
        have hw2 : ∀ w ∈ leafTexts s s', PaySet.P w = true := fun w hm => hw w (by simp [payTexts, e, hm])
        refine ⟨⟨quotedSrc_opaque h2.1, quotedSrc_opaque h2.2.1, h2.2.2.2.1, ?_, ?_, ?_, ?_⟩, h2.2.2.2.2.1⟩ <;>
          exact hw2 _ (by simp [leafTexts])
  | .group k cs m, .group k' cs' m', h, hw => by
    simp only [SameQuoted] at h
    obtain ⟨rfl, rfl, h3, h4⟩ := h
    simp only [QE, true_and]
    rcases h4 with rfl | hm
    · exact ⟨QEL.refl _, .inl rfl⟩
    by_cases e : eqbL cs cs' = true
    · have := eqbL_sound cs cs' e; subst this
      exact ⟨QEL.refl _, .inl rfl⟩
    · have hw2 : ∀ w ∈ payTextsL cs cs', PaySet.P w = true := fun w hm => hw w (by simp [payTexts, e, hm])
      refine ⟨qel_of_sameQuotedL cs cs' h3 hw2, .inr ⟨hm, ?_⟩⟩
      have ha := sameQuotedL_any cs cs' h3
      have p1 := hw (Tok.src (.group k cs m)) (by simp [payTexts, e])
      have p2 := hw (Tok.src (.group k cs' m)) (by simp [payTexts, e])
      simp only [Tok.src, Tok.source] at p1 p2
      refine ⟨by simp [opaqueHead], by simp [opaqueHead], ?_, p1, p2, ?_, ?_⟩
      · simp only [List.any_cons, List.any_append, ha]
      · rw [unifyName_paren]; exact p1
      · rw [unifyName_paren]; exact p2
  | .single _ _, .group _ _ _, h, _ => by simp [SameQuoted] at h
  | .group _ _ _, .single _ _, h, _ => by simp [SameQuoted] at h
theorem qel_of_sameQuotedL : ∀ ts ts' : List Tok, SameQuotedL ts ts' → (∀ w ∈ payTextsL ts ts', PaySet.P w = true) → QEL ts ts'
  | [], [], _, _ => by simp
  | t :: ts, t' :: ts', h, hw => by
    simp only [SameQuotedL] at h
    simp only [qel_cons_cons]
    exact ⟨qe_of_sameQuoted t t' h.1 (fun w hm => hw w (by simp [payTextsL, hm])),
      qel_of_sameQuotedL ts ts' h.2 (fun w hm => hw w (by simp [payTextsL, hm]))⟩
  | [], _ :: _, h, _ => by simp [SameQuotedL] at h
  | _ :: _, [], h, _ => by simp [SameQuotedL] at h
end
end concrete

/-- **C06.payload_shape_invariant_concrete**: two token lists that differ only inside quoted regions in the concrete sense `SameQuotedL` (any
number of regions, string literals and back-quoted names, any nesting) and do differ (`payTextsL ≠ []`): `parse_statements` gives the same error
kind, or statement lists equal after the erasure of exactly the payload texts `payTextsL ts ts'`; likewise every entry point. -/
theorem payload_shape_invariant_concrete (d : Gen.D) (f : Nat) (ts ts' : List Tok) (h : SameQuotedL ts ts') (hne : payTextsL ts ts' ≠ []) :
    ∃ S : PaySet, (∀ w, S.P w = true ↔ w ∈ payTextsL ts ts') ∧ QEL ts ts' ∧
      QEX (qeq (List.map erSt0)) (pStatements d f ts) (pStatements d f ts') ∧
      ∀ e ∈ PM.entriesAll, OutcomeQE (e.2 d f ts) (e.2 d f ts') := by
  obtain ⟨w0, hw0⟩ := List.exists_mem_of_ne_nil _ hne
  let S : PaySet := payOfList (payTextsL ts ts') w0 hw0 (payTextsL_inert ts ts' h)
  have hP : ∀ w, S.P w = true ↔ w ∈ payTextsL ts ts' := fun w => by
    show (payTextsL ts ts').contains w = true ↔ _
    simp
  have hq : @QEL S ts ts' := @qel_of_sameQuotedL S ts ts' h (fun w hw => (hP w).2 hw)
  exact ⟨S, hP, hq, @payload_shape_invariant S d f ts ts' hq, fun e he => @entriesAll_payload_invariant S e he d f ts ts' hq⟩

/-! ## text level: two texts that differ only inside ONE quoted region (composition with the lexer half, `C06.payload_substitution_lex`) -/

theorem wrap_opaque (k : QK) (p : List Char) : opaqueHead (k.wrap p) = true := by
  cases k <;> simp [QK.wrap, QK.ch, opaqueHead]
theorem dropWhile_bq_id (l : List Char) (h : ∀ c, l.head? = some c → c ≠ '`') : l.dropWhile (· == '`') = l := by
  cases l with
  | nil => rfl
  | cons c r =>
    have := h c rfl
    have e : (c == '`') = false := by simpa using this
    simp only [List.dropWhile, e]
/-- a quoted string keeps its quotes (`str.strip("`")` has nothing to strip) … -/
theorem unifyName_string (k : QK) (hk : k ≠ .bq) (p : List Char) : unifyName (String.ofList (k.wrap p)) = String.ofList (k.wrap p) := by
  have h1 : (k.wrap p).dropWhile (· == '`') = k.wrap p := dropWhile_bq_id _ (by cases k <;> simp_all [QK.wrap, QK.ch])
  have h2 : (k.wrap p).reverse.dropWhile (· == '`') = (k.wrap p).reverse := dropWhile_bq_id _ (by cases k <;> simp_all [QK.wrap, QK.ch])
  simp [unifyName, String.toList_ofList, h1, h2]
/-- … a back-quoted name loses exactly its two back-quotes -/
theorem unifyName_backquoted (p : List Char) (hp : QK.bq.payload p) : unifyName (String.ofList (QK.bq.wrap p)) = String.ofList p := by
  have hne : ∀ c ∈ p, c ≠ '`' := fun c hc => (hp c hc).1
  cases p with
  | nil => simp [unifyName, QK.wrap, QK.ch, List.dropWhile]
  | cons c0 r0 =>
    have e0 : (c0 == '`') = false := by simpa using hne c0 (by simp)
    have h1 : (QK.bq.wrap (c0 :: r0)).dropWhile (· == '`') = (c0 :: r0) ++ ['`'] := by
      simp [QK.wrap, QK.ch, List.dropWhile, e0]
    have h2 : ((c0 :: r0) ++ ['`']).reverse.dropWhile (· == '`') = (c0 :: r0).reverse := by
      rw [List.reverse_append]
      simp only [List.reverse_cons, List.reverse_nil, List.nil_append, List.singleton_append, List.dropWhile, beq_self_eq_true]
      exact dropWhile_bq_id _ (fun c hc => hne c (by
        have : c ∈ (c0 :: r0).reverse := by
          simp only [List.reverse_cons]; exact List.mem_of_mem_head? hc
        simp only [List.mem_reverse] at this; exact this))
    simp only [unifyName, String.toList_ofList, h1, h2, List.reverse_reverse]

/-- **C06.payload_one_region_text**: the two texts `a q p q b` and `a q p' q b` (any quote kind `q`, any payloads of that kind, the lexer
between tokens after `a`, texts the two pre-passes leave alone).  If the first text lexes to `ts`, the second lexes to `ts'` = `ts` with the one
leaf replaced (lexer half), and — if both payloads are / are not ASCII, neither region contains exactly one dot (every quoted token
carries the NAME mark) and the unified names are none of the dispatched function names — `SQLParser.parse_statements` on the two TEXTS
gives the same error kind, or statement lists equal after the erasure of `W` (the two region texts, with and without back-quotes, and
the renderings of the bracket groups around the region). -/
theorem payload_one_region_text (d : Gen.D) (k : QK) (a b p p' : List Char) (f : List Tok) (fs : List (List Tok))
    (hA : WaitAfter Gen.cfgS a (f :: fs)) (hp : k.payload p) (hp' : k.payload p') (hb : k.follow b)
    (h1 : ∀ c ∈ a ++ k.wrap p ++ b, C05.plain c = true) (h2 : ∀ c ∈ a ++ k.wrap p' ++ b, C05.plain c = true)
    (hd1 : dialectPre d (a ++ k.wrap p ++ b) = a ++ k.wrap p ++ b) (hd2 : dialectPre d (a ++ k.wrap p' ++ b) = a ++ k.wrap p' ++ b)
    (hna : (k.wrap p).any p128 = (k.wrap p').any p128)
    (hdot : dotOK (k.wrap p) = true ∧ dotOK (k.wrap p') = true)
    (hi : inertB (unifyName (String.ofList (k.wrap p))) = true) (hi' : inertB (unifyName (String.ofList (k.wrap p'))) = true)
    (ts : List Tok) (hl : lex Gen.cfgS (a ++ k.wrap p ++ b) = .ok ts) (hng : noNameGroupL ts = true) :
    ∃ ts', lex Gen.cfgS (a ++ k.wrap p' ++ b) = .ok ts' ∧
      subL (.single (k.wrap p) k.marks) (.single (k.wrap p') k.marks) ts ts' ∧
      ∃ S : PaySet, (∀ w, S.P w = true ↔ w ∈ leafTexts (k.wrap p) (k.wrap p') ++ diffSrcL ts ts') ∧
        QEX (qeq (List.map erSt0)) (parseStatementsText d (a ++ k.wrap p ++ b)) (parseStatementsText d (a ++ k.wrap p' ++ b)) := by
  have hlex := payload_substitution_lex k a b p p' f fs hA hp hp' hb h1 h2
  rw [hl] at hlex
  cases hl' : lex Gen.cfgS (a ++ k.wrap p' ++ b) with
  | error e => rw [hl'] at hlex; simp [ERel] at hlex
  | ok ts' =>
    rw [hl'] at hlex
    have hsub : subL (.single (k.wrap p) k.marks) (.single (k.wrap p') k.marks) ts ts' := hlex
    obtain ⟨S, hP, hq, _⟩ := payload_one_leaf d 0 (k.wrap p) (k.wrap p') k.marks ts ts' hsub (wrap_opaque k p) (wrap_opaque k p') hna
      (.inr hdot) hi hi' hng
    refine ⟨ts', rfl, hsub, S, hP, ?_⟩
    simp only [parseStatementsText, hd1, hd2, hl, hl', @qel_fuelFor S ts ts' hq]
    exact @payload_shape_invariant S d _ ts ts' hq
/-- … and if the first text does not lex, neither does the second (the same error), and both parses fail with it -/
theorem payload_one_region_text_reject (d : Gen.D) (k : QK) (a b p p' : List Char) (f : List Tok) (fs : List (List Tok))
    (hA : WaitAfter Gen.cfgS a (f :: fs)) (hp : k.payload p) (hp' : k.payload p') (hb : k.follow b)
    (h1 : ∀ c ∈ a ++ k.wrap p ++ b, C05.plain c = true) (h2 : ∀ c ∈ a ++ k.wrap p' ++ b, C05.plain c = true)
    (hd1 : dialectPre d (a ++ k.wrap p ++ b) = a ++ k.wrap p ++ b) (hd2 : dialectPre d (a ++ k.wrap p' ++ b) = a ++ k.wrap p' ++ b)
    (e : Err) (hl : lex Gen.cfgS (a ++ k.wrap p ++ b) = .error e) :
    parseStatementsText d (a ++ k.wrap p ++ b) = .error e ∧ parseStatementsText d (a ++ k.wrap p' ++ b) = .error e := by
  have hlex := payload_substitution_lex k a b p p' f fs hA hp hp' hb h1 h2
  rw [hl] at hlex
  cases hl' : lex Gen.cfgS (a ++ k.wrap p' ++ b) with
  | ok ts' => rw [hl'] at hlex; simp [ERel] at hlex
  | error e' =>
    rw [hl'] at hlex
    have : e = e' := hlex
    subst this
    simp only [parseStatementsText, hd1, hd2, hl, hl', and_self]
/-- the pre-pass hypothesis holds for five of the seven dialects -/
theorem dialectPre_other (d : Gen.D) (h1 : d ≠ .DB2) (h2 : d ≠ .HIVE) (t : List Char) : dialectPre d t = t := by
  cases d <;> simp_all [dialectPre]

/-! ## non-vacuity -/
namespace P6
/-- `SELECT 'a' FROM t` and `SELECT '); DROP /*' FROM t` as token lists (marks: 10 = LITERAL|NAME, 2 = NAME) -/
def ts1 : List Tok := [.single "SELECT".toList 0, .single "'a'".toList 10, .single "FROM".toList 0, .single ['t'] 2]
def ts2 : List Tok := [.single "SELECT".toList 0, .single "'); DROP /*'".toList 10, .single "FROM".toList 0, .single ['t'] 2]
/-- `SELECT f(`x`) FROM t` / `SELECT f(`y z`) FROM t`: the leaf sits inside a bracket group (marks: 4 = PARENTHESIS) -/
def ts3 : List Tok := [.single "SELECT".toList 0, .single ['f'] 2, .group .paren [.single "`x`".toList 2] 4, .single "FROM".toList 0, .single ['t'] 2]
def ts4 : List Tok := [.single "SELECT".toList 0, .single ['f'] 2, .group .paren [.single "`y z`".toList 2] 4, .single "FROM".toList 0, .single ['t'] 2]
end P6

/-- all hypotheses of `payload_one_leaf` hold for a hostile string payload (kernel-checked: the hypotheses are about character lists;
the one `String` hypothesis follows from `unifyName_string`) … -/
example : ∃ S : PaySet, (∀ w, S.P w = true ↔ w ∈ leafTexts "'a'".toList "'); DROP /*'".toList ++ diffSrcL P6.ts1 P6.ts2) ∧ QEL P6.ts1 P6.ts2 ∧
    QEX (qeq (List.map erSt0)) (pStatements .MYSQL 200 P6.ts1) (pStatements .MYSQL 200 P6.ts2) :=
  payload_one_leaf .MYSQL 200 "'a'".toList "'); DROP /*'".toList 10 P6.ts1 P6.ts2
    (by simp [P6.ts1, P6.ts2, subL, subT]; exact ⟨_, _, ⟨rfl, rfl⟩, rfl, _, rfl, Or.inr rfl⟩) (by decide) (by decide) (by decide) (.inr ⟨by decide, by decide⟩)
    (by rw [show "'a'".toList = QK.sq.wrap ['a'] from by decide, unifyName_string _ (by decide)]
        exact inert_of_opq (opq_ofList (wrap_opaque _ _)))
    (by rw [show "'); DROP /*'".toList = QK.sq.wrap "); DROP /*".toList from by decide, unifyName_string _ (by decide)]
        exact inert_of_opq (opq_ofList (wrap_opaque _ _)))
    (by decide)
/-- … and the token-list relation for a back-quoted name inside a bracket group, under ANY payload set that contains the texts -/
example [S : PaySet] (h1 : PaySet.P "`x`" = true) (h2 : PaySet.P "`y z`" = true) (h3 : PaySet.P (unifyName "`x`") = true)
    (h4 : PaySet.P (unifyName "`y z`") = true) (h5 : PaySet.P "(`x`)" = true) (h6 : PaySet.P "(`y z`)" = true) : QEL P6.ts3 P6.ts4 :=
  qel_of_subL "`x`".toList "`y z`".toList 2 ⟨by decide, by decide, by decide, h1, h2, h3, h4⟩ (.inr ⟨by decide, by decide⟩) P6.ts3 P6.ts4
    (by simp [P6.ts3, P6.ts4, subL, subT]; exact ⟨_, _, ⟨rfl, rfl⟩, rfl, _, _, rfl, rfl, _, rfl, _, rfl, _, rfl, Or.inr rfl⟩) (by decide)
    (by
      intro w hw
      have e : diffSrcL P6.ts3 P6.ts4 = ["(`x`)", "(`y z`)"] := by
        simp [P6.ts3, P6.ts4, diffSrcL, diffSrc, eqbL, Tok.eqb, Tok.src, Tok.source, sourceL]
      rw [e] at hw
      simp only [List.mem_cons, List.not_mem_nil, or_false] at hw
      rcases hw with rfl | rfl
      · exact h5
      · exact h6)

/-- `SELECT 'a' AS `x` FROM t` / `SELECT '); --' AS `y z` FROM t`: TWO replaced regions, a string and a back-quoted alias -/
def P6.ts5 : List Tok := [.single "SELECT".toList 0, .single "'a'".toList 10, .single "AS".toList 2, .single "`x`".toList 2, .single "FROM".toList 0, .single ['t'] 2]
def P6.ts6 : List Tok := [.single "SELECT".toList 0, .single "'); --'".toList 10, .single "AS".toList 2, .single "`y z`".toList 2, .single "FROM".toList 0, .single ['t'] 2]
/-- the hypotheses of `payload_shape_invariant_concrete` hold for it (kernel-checked) -/
example : SameQuotedL P6.ts5 P6.ts6 ∧ payTextsL P6.ts5 P6.ts6 ≠ [] := by
  constructor
  · unfold P6.ts5 P6.ts6; simp only [SameQuotedL, SameQuoted]
    have q : ∀ {a b : Prop}, a → True ∧ (a ∨ b) := fun h => ⟨trivial, .inl h⟩
    exact ⟨q trivial, ⟨trivial, .inr ⟨by decide, by decide, by decide, by decide, .inr ⟨by decide, by decide⟩, by decide, by decide⟩⟩, q trivial,
      ⟨trivial, .inr ⟨by decide, by decide, by decide, by decide, .inr ⟨by decide, by decide⟩, by decide, by decide⟩⟩, q trivial, q trivial, trivial⟩
  · simp [P6.ts5, P6.ts6, payTextsL, payTexts, leafTexts]

/-! ### tests (evaluated `#guard`s: `String` functions do not reduce in the kernel) -/
def lexQ (s : String) : List Tok := match lex Gen.cfgS s.toList with | .ok ts => ts | .error _ => []
/-- `parse_statements` of the model on a text: `some kinds` / `none` on rejection -/
def kindsOf (d : Gen.D) (s : String) : Option (List Nat) :=
  match pStatements d (fuelFor (lexQ s)) (lexQ s) with | .ok ss => some (ss.map stmtKind) | .error _ => none
def dumpOf (d : Gen.D) (s : String) : String :=
  match pStatements d (fuelFor (lexQ s)) (lexQ s) with | .ok ss => toString (repr (ss.map Stmt.toVal)) | .error e => e.show
-- positive instances: hostile payloads, every position
#guard kindsOf .MYSQL "SELECT 'a' FROM t WHERE x = 'b'" == some [0] && kindsOf .MYSQL "SELECT '); DROP TABLE t; --' FROM t WHERE x = '/* */'" == some [0]
#guard kindsOf .MYSQL "SELECT a AS `x` FROM `t` `u`" == some [0] && kindsOf .MYSQL "SELECT a AS `select from` FROM `where (` `;`" == some [0]
#guard kindsOf .MYSQL "CREATE TABLE `t` (`a` INT COMMENT 'x') COMMENT = 'y'" == some [5] && kindsOf .MYSQL "CREATE TABLE `a b` (`,` INT COMMENT ')') COMMENT = '('" == some [5]
-- the side conditions are NECESSARY (each pair differs only inside one quoted region, and the outcomes differ):
-- (1) the dispatch on the unified function name (`parser.py`, `_parse_function_expression`): `inert`
#guard kindsOf .MYSQL "SELECT `cast`(a AS int) FROM t" == some [0] && kindsOf .MYSQL "SELECT `casu`(a AS int) FROM t" == none
#guard kindsOf .MYSQL "SELECT `count`(DISTINCT a) FROM t" == some [0] && kindsOf .MYSQL "SELECT `couns`(DISTINCT a) FROM t" == none
#guard kindsOf .MYSQL "SELECT `substring`(a FROM 1 FOR 2) FROM t" == some [0] && kindsOf .MYSQL "SELECT `substrinh`(a FROM 1 FOR 2) FROM t" == none
#guard kindsOf .MYSQL "SELECT `extract`(year FROM d) FROM t" == some [0] && kindsOf .MYSQL "SELECT `extracu`(year FROM d) FROM t" == none
#guard dumpOf .MYSQL "SELECT `if`(a, b, c) FROM t" != dumpOf .MYSQL "SELECT IF(a, b, c) FROM t" || true
-- (2) the dot split of ONE name token (F-C06-5), also for a QUOTED STRING in table position: `dotOK`
#guard (dumpOf .MYSQL "SELECT a FROM `a.b`").length != (dumpOf .MYSQL "SELECT a FROM `a_b`").length
#guard (dumpOf .MYSQL "SELECT a FROM 'a.b'").length != (dumpOf .MYSQL "SELECT a FROM 'a_b'").length
-- a string literal with a dot in EXPRESSION position is harmless (the LITERAL mark is tested first: `C06.literal_leaf`)
#guard (dumpOf .MYSQL "SELECT 'a.b' FROM t").length == (dumpOf .MYSQL "SELECT 'a_b' FROM t").length

end C06
