import MsqProofs.Lemmas.TDmlQI
import MsqProofs.Lemmas.TRestG3
import MsqProofs.Lemmas.TDml6
import MsqProofs.Props.C10
import MsqModel.Driver.ShowVal
/-!
# C03 / C01 — T-parse for data-change statements: INSERT, UPDATE, DELETE, and WITH in front of queries, INSERT and UPDATE

Expressions are those of `TQ.FragE3`, queries those of `TQ.FragQ` (both closed under nesting); the statement level is `TDM.stmt_ok`
(Lemmas/TDmlQI.lean), an instance of the development over the third fragment.

**Fragment** `TDM.FragStmt d s` (a `Bool` over the model's `Ast.Stmt`, Lemmas/TDml0.lean):
* `DELETE FROM t [WHERE e] [ORDER BY k [DESC], …] [LIMIT n | LIMIT m, n]` — `t` plain or schema-qualified (`` `s.n` ``, `TDM.tblOKD`);
* `[WITH …] UPDATE t SET c = e, … [WHERE] [ORDER BY] [LIMIT]` — one or more assignments, any fragment expression on the right;
* `[WITH …] INSERT INTO | INSERT IGNORE INTO | INSERT OVERWRITE  [TABLE]  t  [PARTITION (…)]  [(c, t.c, …)]  VALUES (v, …), …` — every
  kind of `_parse_insert_type`; PARTITION with static items `k = v` (key and value below the comparison level) or dynamic items `k`
  (the parser refuses a list that mixes the two kinds, `parser.py:1600` — the fragment follows it); any number of rows, any number of
  values per row, every value a fragment expression (bracketed above the compute level, as `ASTSubValueExpression.source` prints it);
* `[WITH …] INSERT … <fragment query>` (the query itself carries the empty WITH clause, as `_parse_insert_statement` hands it down);
* `[WITH name AS (q), …] <fragment query>` — the clause is recorded on the single SELECT, or once on the union;
  `WITH` tables: any number, each body a fragment query (non-recursive), the name bare or back-quoted as `quote_name_if_needed` prints it.
Not covered: the other statement kinds (DDL: another development), the restrictions of `FragE3` / `FragQ`, mixed PARTITION lists
(refused by the implementation), a WITH clause inside a sub-query or a WITH body.

**Token-level printer** `TDM.toksStmt d s` (= `toksStmtG d noX (d == .HIVE) s`): `PR.prStmt` as tokens; `#guard`s below check
`lex (prStmt d s) = toksStmt d s` in several dialects.  `toksStmtG d ch tb`: with redundant brackets `ch` inside expressions and the
optional word `TABLE` present or not whatever the dialect.

**Continuations** `TDM.stopsStmt d rest`: empty, or a head that continues nothing — e.g. `;`.

**Accounting** (C08; about the same rendering): the rendering reads as grammar words (`TDM.KWL`: the words and operator spellings the printers
emit) interleaved with EXACTLY the strings stored in the tree (`TDM.leaves s`, defined on the tree, in print order) — relation `TDM.Acc`,
`C08.dml_accounted` and its unfolded forms.
-/
set_option linter.unusedVariables false
open Lex PM Ast TP TP2 TS TQ TDM

namespace C03
/-- **T-parse, statements.**  One iteration of the loop of `parse_statements` on the token rendering of a fragment statement — DELETE,
UPDATE, INSERT … VALUES, INSERT … query, a query, the last four with an optional WITH clause — returns exactly that statement, in front
of every continuation that continues nothing, at every fuel above an explicit linear bound -/
theorem tstatement (d : Gen.D) (s : Stmt) (hs : FragStmt d s = true) (rest : List Tok) (hr : stopsStmt d rest = true)
    (fuel : Nat) (hfuel : 20 * sizeL (toksStmt d s) + 16 ≤ fuel) : pStatement d fuel (toksStmt d s ++ rest) = .ok (s, rest) :=
  TDM.stmt_ok (ch := noX) (d == .HIVE) s hs rest hr fuel hfuel
/-- the same with redundant brackets inside expressions (`ch`) and the optional word `TABLE` written (`tb = true`) or not, in any dialect;
the proof does not use `hch`: the statement holds for every `ch` -/
theorem tstatement_ch (d : Gen.D) (ch : Expr → Bool) (hch : ChOK d ch) (tb : Bool) (s : Stmt) (hs : FragStmt d s = true)
    (rest : List Tok) (hr : stopsStmt d rest = true) (fuel : Nat) (hfuel : 20 * sizeL (toksStmtG d ch tb s) + 16 ≤ fuel) :
    pStatement d fuel (toksStmtG d ch tb s ++ rest) = .ok (s, rest) :=
  TDM.stmt_ok (ch := ch) tb s hs rest hr fuel hfuel
/-- the fuel the public entry points compute from the token list dominates the bound -/
theorem tstatement_entry_fuel (d : Gen.D) (s : Stmt) (hs : FragStmt d s = true) (rest : List Tok) (hr : stopsStmt d rest = true) :
    pStatement d (fuelFor (toksStmt d s ++ rest)) (toksStmt d s ++ rest) = .ok (s, rest) :=
  tstatement d s hs rest hr _ (by simp only [fuelFor, sizeL_append]; omega)

/-- INSERT … VALUES: kind, target, PARTITION, column list, rows -/
theorem tinsert (d : Gen.D) (h : InsertHead) (rows : List (List Expr)) (hs : FragStmt d (.insertValues h rows) = true)
    (rest : List Tok) (hr : stopsStmt d rest = true) (fuel : Nat) (hfuel : 20 * sizeL (toksStmt d (.insertValues h rows)) + 16 ≤ fuel) :
    pStatement d fuel (toksStmt d (.insertValues h rows) ++ rest) = .ok (.insertValues h rows, rest) := tstatement d _ hs rest hr fuel hfuel
/-- INSERT … query -/
theorem tinsert_query (d : Gen.D) (h : InsertHead) (q : Query) (hs : FragStmt d (.insertSelect h q) = true)
    (rest : List Tok) (hr : stopsStmt d rest = true) (fuel : Nat) (hfuel : 20 * sizeL (toksStmt d (.insertSelect h q)) + 16 ≤ fuel) :
    pStatement d fuel (toksStmt d (.insertSelect h q) ++ rest) = .ok (.insertSelect h q, rest) := tstatement d _ hs rest hr fuel hfuel
theorem tupdate (d : Gen.D) (w : Option (List WithTable)) (t : TableName) (sets : List (String × Expr)) (wh : Option Expr)
    (ob : Option (List OrderItem)) (lm : Option (Int × Option Int)) (hs : FragStmt d (.update w t sets wh ob lm) = true)
    (rest : List Tok) (hr : stopsStmt d rest = true) (fuel : Nat) (hfuel : 20 * sizeL (toksStmt d (.update w t sets wh ob lm)) + 16 ≤ fuel) :
    pStatement d fuel (toksStmt d (.update w t sets wh ob lm) ++ rest) = .ok (.update w t sets wh ob lm, rest) := tstatement d _ hs rest hr fuel hfuel
theorem tdelete (d : Gen.D) (t : TableName) (wh : Option Expr) (ob : Option (List OrderItem)) (lm : Option (Int × Option Int))
    (hs : FragStmt d (.delete t wh ob lm) = true) (rest : List Tok) (hr : stopsStmt d rest = true)
    (fuel : Nat) (hfuel : 20 * sizeL (toksStmt d (.delete t wh ob lm)) + 16 ≤ fuel) :
    pStatement d fuel (toksStmt d (.delete t wh ob lm) ++ rest) = .ok (.delete t wh ob lm, rest) := tstatement d _ hs rest hr fuel hfuel
/-- `WITH name AS (q), … <query>`: the tables in order in the WITH slot of the query (`TDM.withsOf`), the query under it -/
theorem twith_query (d : Gen.D) (q : Query) (hs : FragStmt d (.select q) = true) (rest : List Tok) (hr : stopsStmt d rest = true)
    (fuel : Nat) (hfuel : 20 * sizeL (toksStmt d (.select q)) + 16 ≤ fuel) :
    pStatement d fuel (toksWiths d noX (withsOf q) ++ (toksQ d noX q ++ rest)) = .ok (.select q, rest) := by
  have := tstatement d (.select q) hs rest hr fuel hfuel
  simpa [toksStmt, toksStmtG] using this
/-- the same below the statement level: `_parse_select_statement` itself finds the WITH clause (the entry point `parse_select_statement`,
and what a bracketed sub-query position would call) -/
theorem twith_query_select (d : Gen.D) (q : Query) (hs : FragStmt d (.select q) = true) (rest : List Tok) (hr : stopsStmt d rest = true)
    (fuel : Nat) (hfuel : 20 * sizeL (toksStmt d (.select q)) + 16 ≤ fuel) :
    pSelectStmt d fuel none (toksWiths d noX (withsOf q) ++ (toksQ d noX q ++ rest)) = .ok (q, rest) := by
  obtain ⟨h1, h2⟩ := TDM2.fragStmt_sub d noX (d == .HIVE) _ hs
  obtain ⟨h3, h4⟩ := TDM3.fragStmt2_sub d noX (d == .HIVE) _ h1
  have he : TDM3.toksStmt d (.select q) = toksStmt d (.select q) := h4.trans h2
  have := TR3.with_query_select2 q h3 rest (TQ3.stopsQ3_of_stopsQ hr) fuel (by rw [he]; exact hfuel)
  rw [he] at this
  simpa [toksStmt, toksStmtG] using this

/-- **scripts.**  The token list `s₁ ; s₂ ; … ; sₙ [;]` of fragment statements parses, through `parse_statements`' loop with the entry
point's fuel, to `[s₁, …, sₙ]` -/
theorem tscript (d : Gen.D) (ss : List Stmt) (hss : ∀ s ∈ ss, FragStmt d s = true) (fin : Bool) :
    pStatements d (fuelFor (C10.script semiTok (ss.map (toksStmt d)) fin)) (C10.script semiTok (ss.map (toksStmt d)) fin) = .ok ss :=
  C10.script_of_rendering PM.isSemi_lexed d _ ss (fun s hs => by simpa using tstatement_entry_fuel d s (hss s hs) [] rfl) fin
/-- the loop itself, explicit fuels: parser fuel above the bound of every statement, loop fuel above the number of statements -/
theorem tscript_loop (d : Gen.D) (ss : List Stmt) (hss : ∀ s ∈ ss, FragStmt d s = true) (fin : Bool)
    (f : Nat) (hf : ∀ s ∈ ss, 20 * sizeL (toksStmt d s) + 16 ≤ f) :
    ∃ g₀, ∀ g, g₀ ≤ g → statementsLoop d (f + 1) g [] (C10.script semiTok (ss.map (toksStmt d)) fin) = .ok ss :=
  C10.script_loop_of_rendering PM.isSemi_lexed d _ ss f (fun s hs => by simpa using tstatement d s (hss s hs) [] rfl f (hf s hs)) fin

def headOf : Stmt → Option InsertHead
  | .insertValues h _ => some h
  | .insertSelect h _ => some h
  | _ => none
def rowsOf : Stmt → List (List Expr)
  | .insertValues _ vs => vs
  | _ => []
/-- **INSERT: every clause lands in its slot** — the kind from the INSERT words, the target from the table token, the partition list from
the PARTITION group, the column list from its group, the rows from the VALUES list, the WITH tables from the leading clause -/
theorem insert_slots (d : Gen.D) (h : InsertHead) (rows : List (List Expr)) (hs : FragStmt d (.insertValues h rows) = true)
    (rest : List Tok) (hr : stopsStmt d rest = true) (fuel : Nat) (hfuel : 20 * sizeL (toksStmt d (.insertValues h rows)) + 16 ≤ fuel) :
    ∃ p, pStatement d fuel (toksWiths d noX h.withs ++ (insertWords h.type ++ ((if d == .HIVE then [opTok "TABLE"] else []) ++
        (tblTok h.table.schema h.table.name :: (toksPart d noX h.partition ++ (toksColNames h.columns ++ opTok "VALUES" :: (toksRows d noX rows ++ rest))))))) =
        .ok (p, rest) ∧
      (headOf p).map (·.type) = some h.type ∧ (headOf p).map (·.table) = some h.table ∧ (headOf p).map (·.partition) = some h.partition ∧
      (headOf p).map (·.columns) = some h.columns ∧ (headOf p).map (·.withs) = some h.withs ∧ rowsOf p = rows := by
  refine ⟨.insertValues h rows, ?_, rfl, rfl, rfl, rfl, rfl, rfl⟩
  have := tinsert d h rows hs rest hr fuel hfuel
  simpa [toksStmt, toksStmtG, toksTarget] using this
def setsOf : Stmt → List (String × Expr)
  | .update _ _ sets _ _ _ => sets
  | _ => []
def filterOf : Stmt → Option Expr
  | .update _ _ _ wh _ _ => wh
  | .delete _ wh _ _ => wh
  | _ => none
def targetOf : Stmt → Option TableName
  | .update _ t _ _ _ _ => some t
  | .delete t _ _ _ => some t
  | _ => none
/-- **UPDATE: the assignments in order, each column with its expression; the filter in the WHERE slot** -/
theorem update_assignments (d : Gen.D) (w : Option (List WithTable)) (t : TableName) (sets : List (String × Expr)) (wh : Option Expr)
    (ob : Option (List OrderItem)) (lm : Option (Int × Option Int)) (hs : FragStmt d (.update w t sets wh ob lm) = true)
    (rest : List Tok) (hr : stopsStmt d rest = true) (fuel : Nat) (hfuel : 20 * sizeL (toksStmt d (.update w t sets wh ob lm)) + 16 ≤ fuel) :
    ∃ p, pStatement d fuel (toksWiths d noX w ++ opTok "UPDATE" :: tblTok t.schema t.name :: opTok "SET" ::
        (toksSets d noX sets ++ (toksTail d noX wh ob lm ++ rest))) = .ok (p, rest) ∧
      setsOf p = sets ∧ filterOf p = wh ∧ targetOf p = some t := by
  refine ⟨.update w t sets wh ob lm, ?_, rfl, rfl, rfl⟩
  have := tupdate d w t sets wh ob lm hs rest hr fuel hfuel
  simpa [toksStmt, toksStmtG] using this
/-- **DELETE: the filter is the expression after WHERE (none if there is no WHERE), the target the table after FROM** -/
theorem delete_filter (d : Gen.D) (t : TableName) (wh : Option Expr) (ob : Option (List OrderItem)) (lm : Option (Int × Option Int))
    (hs : FragStmt d (.delete t wh ob lm) = true) (rest : List Tok) (hr : stopsStmt d rest = true)
    (fuel : Nat) (hfuel : 20 * sizeL (toksStmt d (.delete t wh ob lm)) + 16 ≤ fuel) :
    ∃ p, pStatement d fuel (opTok "DELETE" :: opTok "FROM" :: tblTok t.schema t.name ::
        (toksOptE3 d noX "WHERE" wh ++ (toksOrder3 d noX ob ++ (toksLimit lm ++ rest)))) = .ok (p, rest) ∧
      filterOf p = wh ∧ targetOf p = some t := by
  refine ⟨.delete t wh ob lm, ?_, rfl, rfl⟩
  have := tdelete d t wh ob lm hs rest hr fuel hfuel
  simpa [toksStmt, toksStmtG, toksTail] using this

/-- equal renderings, equal statements -/
theorem rendering_determines_statement (d : Gen.D) (s s' : Stmt) (hs : FragStmt d s = true) (hs' : FragStmt d s' = true)
    (h : toksStmt d s = toksStmt d s') : s = s' :=
  C01.eq_of_read_back (tstatement d s hs [] rfl) (tstatement d s' hs' [] rfl) (by rw [h])
end C03

namespace C01
/-- **print / parse round trip of a data-change statement, token level**: the rendering parses to the statement with nothing left, and
(hence) the rendering of the result is the rendering one started from -/
theorem dml_round_trip_tokens (d : Gen.D) (s : Stmt) (hs : FragStmt d s = true) (fuel : Nat) (hfuel : 20 * sizeL (toksStmt d s) + 16 ≤ fuel) :
    pStatement d fuel (toksStmt d s) = .ok (s, []) ∧
    ∀ p r, pStatement d fuel (toksStmt d s) = .ok (p, r) → toksStmt d p = toksStmt d s ∧ r = [] :=
  C01.read_back_only (toksStmt d) (by simpa using C03.tstatement d s hs [] rfl fuel hfuel)
end C01

namespace C08
/-- **accounting on the statement fragment.**  The token rendering of a fragment statement is grammar words interleaved with exactly the
strings stored in the tree (`leaves s`: WITH names, target table, partition items, column list, rows, assignments, filter, ORDER BY keys,
LIMIT numbers, and every name and literal of the nested expressions and queries), in order; a bracket group is accounted for by its
children.  Nothing of the text is lost, nothing stored is invented, nothing is stored twice -/
theorem dml_accounted (d : Gen.D) (s : Stmt) (hs : FragStmt d s = true) : Acc (toksStmt d s) (leaves s) :=
  stmt_accounted (d == .HIVE) s hs
/-- the same about the PARSER: whatever `pStatement` returns from the rendering (it is `s`, by `C03.tstatement`) stores exactly the
non-grammar tokens of the rendering -/
theorem dml_parse_accounted (d : Gen.D) (s : Stmt) (hs : FragStmt d s = true) (rest : List Tok) (hr : stopsStmt d rest = true)
    (fuel : Nat) (hfuel : 20 * sizeL (toksStmt d s) + 16 ≤ fuel) :
    ∃ p, pStatement d fuel (toksStmt d s ++ rest) = .ok (p, rest) ∧ Acc (toksStmt d s) (leaves p) :=
  ⟨s, C03.tstatement d s hs rest hr fuel hfuel, dml_accounted d s hs⟩
/-- every token of the rendering (bracket groups opened) is a grammar word or spells a stored string -/
theorem dml_tokens_stored (d : Gen.D) (s : Stmt) (hs : FragStmt d s = true) :
    ∀ t ∈ flatL (toksStmt d s), isKw t = true ∨ unifyName t.src ∈ leaves s ∨ t.src ∈ leaves s ∨
      ∃ sch n, splitName t.src = .ok (sch, n) ∧ n ∈ leaves s :=
  (dml_accounted d s hs).tokens_stored
/-- every stored string is spelled by a token of the rendering -/
theorem dml_stored_tokens (d : Gen.D) (s : Stmt) (hs : FragStmt d s = true) :
    ∀ x ∈ leaves s, ∃ t ∈ flatL (toksStmt d s), x = unifyName t.src ∨ x = t.src ∨
      ∃ sch n, splitName t.src = .ok (sch, n) ∧ (x = n ∨ sch = some x) :=
  (dml_accounted d s hs).stored_tokens
/-- the tokens that are no grammar words are matched one-to-one by stored strings -/
theorem dml_none_lost (d : Gen.D) (s : Stmt) (hs : FragStmt d s = true) :
    ((flatL (toksStmt d s)).filter (fun t => !isKw t)).length ≤ (leaves s).length :=
  (dml_accounted d s hs).count
end C08

/-! ### non-vacuity (compiled evaluation) -/
namespace C03.Dml
/-- the token-level printer agrees with the lexer on the printer's text, and the statement is in the fragment -/
def agreesD (d : Gen.D) (s : Stmt) : Bool :=
  match PR.prStmt d s with
  | .ok x => eqbL (lexed x) (toksStmt d s) && FragStmt d s
  | .error _ => false
def roundTripsD (d : Gen.D) (s : Stmt) : Bool :=
  match pStatement d (20 * sizeL (toksStmt d s) + 16) (toksStmt d s) with
  | .ok (p, []) => Drv.showVal p.toVal == Drv.showVal s.toVal
  | _ => false
def tn (n : String) (s : Option String := none) : TableName := ⟨s, n⟩
def cmp (o : String) (a b : Expr) : Expr := .compare o a b
def wt (n : String) (q : Query) : WithTable := .mk n q
/-- `DELETE FROM t WHERE a > 1 AND b IN (SELECT b FROM u) ORDER BY a DESC LIMIT 5, 10` -/
def d1 : Stmt := .delete (tn "t") (some (.and_ (cmp "GT" (col "a") (lit "1")) (.kw .in_ false (col "b") (.subQuery qa))))
  (some [.mk (col "a") true false false]) (some (10, some 5))
def d2 : Stmt := .delete (tn "t" (some "s")) none none none
/-- `UPDATE s.t SET a = a + 1, b = CASE WHEN … END, c = (SELECT max(b) FROM u) WHERE EXISTS (…) LIMIT 3` -/
def u1 : Stmt := .update (some []) (tn "t" (some "s"))
  [("a", .compute (col "a") "PLUS" (lit "1")), ("b", .caseCond [(cmp "EQ" (col "x") (lit "1"), lit "'y'")] (some (lit "NULL"))),
   ("c", .subQuery (.single (sel [(.agg "max" [col "b"] false, none)] (some [tb "u"])))), ("d", .or_ (col "p") (col "q"))]
  (some (.exists_ (.subQuery qa))) none (some (3, none))
/-- `WITH x AS (SELECT b FROM u) UPDATE t SET a = 1` -/
def u2 : Stmt := .update (some [wt "x" qa]) (tn "t") [("a", lit "1")] none (some [.mk (col "a") false false false, .mk (col "b") true false false]) none
def ih (ty : String) (t : TableName) (p : Option (List Expr) := none) (cs : Option (List (Option String × String)) := none)
    (w : Option (List WithTable) := some []) : InsertHead := ⟨w, ty, t, p, cs⟩
/-- three rows, values above the compute level, an empty row -/
def i1 : Stmt := .insertValues (ih "INSERT_INTO" (tn "t") none (some [(none, "a"), (some "t", "b")]))
  [[lit "1", lit "'x'"], [.compute (col "a") "PLUS" (lit "2"), .and_ (col "p") (col "q")], [cmp "EQ" (lit "1") (lit "1"), .func none "f" [lit "1", lit "2"]]]
def i2 : Stmt := .insertValues (ih "INSERT_IGNORE_INTO" (tn "t" (some "s"))) [[lit "1"], []]
/-- static partition -/
def i3 : Stmt := .insertSelect (ih "INSERT_OVERWRITE" (tn "t") (some [cmp "EQ" (col "dt") (lit "'2024'"), cmp "EQ" (col "hr") (.compute (lit "1") "PLUS" (lit "2"))])) q3
/-- dynamic partition, WITH in front of INSERT -/
def i4 : Stmt := .insertSelect (ih "INSERT_INTO" (tn "t") (some [col "dt", col "hr"]) (some [(none, "a")]) (some [wt "x" qa, wt "y z" q3])) q1
def i5 : Stmt := .insertValues (ih "INSERT_OVERWRITE" (tn "t") (some [])) []
/-- `WITH x AS (…), y AS (…) SELECT … UNION ALL SELECT …`: the clause on the union -/
def w1 : Stmt := .select (.union (some [wt "x" qa, wt "y" q2]) (sel [(col "a", none)] (some [tb "x"])) [("UNION_ALL", sel [(col "b", none)] (some [tb "y"]))])
/-- the clause on a single SELECT -/
def w2 : Stmt := .select (.single (.mk (some [wt "x" q4]) false [(.wildcard none, none)] (some [tb "x"]) [] [] none none none none none none none none))
def w3 : Stmt := .select q1
#guard [d1, d2, u1, u2, i1, i2, i4, w1, w2, w3].all (agreesD .MYSQL) && [d1, d2, u1, u2, i1, i2, i3, i4, i5, w1, w2, w3].all (agreesD .HIVE) &&
  [d1, d2, u1, u2, i1, i2, i3, i4, i5, w1, w2, w3].all (agreesD .DEFAULT) && [d1, u1, i1, i4, w1].all (agreesD .ORACLE) &&
  [d1, u2, i2, w2].all (agreesD .POSTGRE_SQL)
#guard [d1, d2, u1, u2, i1, i2, i3, i4, i5, w1, w2, w3].all (roundTripsD .MYSQL) && [d1, d2, u1, u2, i1, i2, i3, i4, i5, w1, w2, w3].all (roundTripsD .HIVE) &&
  [d1, u1, i1, i3, w1].all (roundTripsD .DB2)
-- what may follow a statement: a separator, the end; not a comma (the row loop would swallow it), a bracket group, a clause word
#guard stopsStmt .MYSQL (lexed "; SELECT 2") && stopsStmt .MYSQL [] && !stopsStmt .MYSQL (lexed ", (1)") && !stopsStmt .MYSQL (lexed "(1)") &&
  !stopsStmt .MYSQL (lexed "WHERE a") && !stopsStmt .MYSQL (lexed "UNION SELECT 1")
-- outside the fragment: a PARTITION list mixing static and dynamic items (refused by the implementation), a static key at comparison
-- level (printed without the brackets it was written with — see `partition_key_not_reparsed`), no assignment, an unknown kind
#guard !FragStmt .HIVE (.insertSelect (ih "INSERT_OVERWRITE" (tn "t") (some [cmp "EQ" (col "dt") (lit "1"), col "hr"])) qa) &&
  !FragStmt .HIVE (.insertSelect (ih "INSERT_OVERWRITE" (tn "t") (some [cmp "EQ" (cmp "EQ" (col "a") (col "b")) (col "c")])) qa) &&
  !FragStmt .MYSQL (.update (some []) (tn "t") [] none none none) && !FragStmt .MYSQL (.insertValues (ih "INSERT" (tn "t")) [])
-- scripts on lexed text: separators, a final separator
#guard (match pStatements .MYSQL 4000 (lexed "DELETE FROM t WHERE a = 1; UPDATE t SET a = 2 ; INSERT INTO t VALUES (1), (2);") with
  | .ok [.delete _ (some _) none none, .update _ _ [_] none none none, .insertValues _ [[_], [_]]] => true | _ => false)
#guard eqbL (C10.script semiTok [toksStmt .MYSQL d2, toksStmt .MYSQL i2] true) (lexed "DELETE FROM `s.t`; INSERT IGNORE INTO `s.t` VALUES (1), ();")

/-- a static PARTITION item whose KEY is a bracketed comparison, stored as a comparison whose left operand is a comparison (known_findings
X-C01-e990ea0: printed without brackets, `PARTITION (a = b = c)`, it would be refused by the partition parser) -/
def pk : Stmt := .insertSelect (ih "INSERT_OVERWRITE" (tn "t") (some [cmp "EQ" (cmp "EQ" (col "a") (col "b")) (col "c")])) qa
#guard (match pStatement .HIVE 2000 (lexed "INSERT OVERWRITE TABLE t PARTITION ((a = b) = c) SELECT b FROM u") with
  | .ok (p, []) => Drv.showVal p.toVal == Drv.showVal pk.toVal | _ => false)
-- repaired in /repo e990ea0 (the partition printer brackets key and value above the compute level; `PR.prPartItem` follows): the printed text reads back
#guard (match PR.prStmt .HIVE pk with
  | .ok x => (match pStatement .HIVE 2000 (lexed x) with | .ok (p, []) => Drv.showVal p.toVal == Drv.showVal pk.toVal | _ => false) | .error _ => false)

-- the stored strings of concrete statements, in print order
#guard leaves i1 == ["t", "a", "t", "b", "1", "'x'", "a", "2", "p", "q", "1", "1", "f", "1", "2"] &&
  leaves u2 == ["x", "b", "u", "t", "a", "1", "a", "b"] && leaves d2 == ["s", "t"] &&
  leaves d1 == ["t", "a", "1", "b", "b", "u", "a", "5", "10"]
/-- why the brackets are needed, checked by the kernel: the UNBRACKETED rendering of `pk` (what the printer emitted before the repair; `toksStmt` adds no
brackets in PARTITION items, which is why such keys are outside `FragStmt`) is refused by `pStatement` -/
theorem partition_key_not_reparsed :
    (match pStatement .HIVE 400 (toksStmt .HIVE pk) with | .error .parse => true | _ => false) = true ∧ FragStmt .HIVE pk = false := by
  decide
-- instances of the theorems (hypotheses decided by the kernel, conclusions the theorems')
/-- `DELETE FROM t WHERE a = 1` (kernel-checked instances avoid `String.splitOn` / `toString`: no qualified table, no LIMIT) -/
def d0 : Stmt := .delete (tn "t") (some (cmp "EQ" (col "a") (lit "1"))) none none
/-- `UPDATE t SET a = b` -/
def u0 : Stmt := .update (some []) (tn "t") [("a", col "b")] none none none
set_option maxRecDepth 100000 in
example : pStatement .MYSQL (fuelFor (toksStmt .MYSQL d0 ++ lexed "; x")) (toksStmt .MYSQL d0 ++ lexed "; x") = .ok (d0, lexed "; x") :=
  tstatement_entry_fuel .MYSQL d0 (by decide) _ (by decide)
set_option maxRecDepth 100000 in
example : pStatements .HIVE (fuelFor (C10.script semiTok ([d0, u0, i5].map (toksStmt .HIVE)) true)) (C10.script semiTok ([d0, u0, i5].map (toksStmt .HIVE)) true) =
    .ok [d0, u0, i5] :=
  tscript .HIVE [d0, u0, i5] (by decide) true
end C03.Dml
