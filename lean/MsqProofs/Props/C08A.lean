import MsqProofs.Lemmas.ParseAccountAllStmt
import MsqProofs.Lemmas.ParseTextInv
/-!
# C08 — accounting for EVERY accepted token list (parser model, token level and text level)

`parse_accounted_partial`: if `parse_statements` accepts the token list `ts` with the statements `ss` (in the fragment `FullStmts`,
a condition on the RESULT only), then EVERY token of `ts` is accounted for by the strings stored in `ss`
(`tStmts ss = Val.texts (list of the canonical values)`: every `str` field, enum member name and integer of the dump):

  `Acc T t`:  `t.src ∈ T`  |  `unifyName t.src ∈ T`  |  `t` is a dotted name in one token and both halves are in `T`  |
              `t` is an integer literal and the decimal text of its value is in `T`  |
              `t` is a grammar word (`KwTok`: its source, upper-cased / unquoted, is in the finite set `PA.KWA`)  |
              `t` is a bracket group and all its children are accounted for (recursively).

Proved function by function for all 80 functions of the expression / SELECT mutual block (`PA.AccA`, `PA.accA_all`, one field per
function with its accumulators; generated by `tools/gen_account_all.py`, template `unfold f at h; split_run <;> grind`, two step
lemmas by hand) and the 30 functions of the statement level that build statements of the fragment (`PA.accS_<f>`).
`PA.kwOf` (generated from the model source) lists, per function `f`, the string constants `f` compares token sources with;
`PA.KWA` is their union with the keys of the generated operator / enum tables.

Where the generated proofs needed something (the exceptions, each with a `#guard` witness below — `String` operations do not reduce in
the kernel, so these are evaluated tests, the theorems are kernel-checked):

* **F-C08-6** (a word where a bracket group is expected is consumed as an empty group): excluded by `FullE` / `FullStmt` ON THE RESULT:
  a call has ≥ 1 argument, `IN (…)` ≥ 1 value, `OVER (…)` at least one of PARTITION BY / ORDER BY / ROWS, `GROUPING SETS` ≥ 1 set,
  a `PARTITION` list ≥ 1 element.  No hypothesis on the token list: where the result is not degenerate the token was a group.
  Price: `f()`, `OVER ()` are outside the fragment although they lose nothing.
* **F-C08-5** (a bracket group where a name is expected: its concatenated text becomes the name): NOT excluded — the rules `text` /
  `name` apply to a group token as a whole; `acc_inside` makes it visible (every token at any depth lies in a token that is accounted
  for AS A WHOLE), `stray_accounted_partial` has the hypothesis `NoGroupWhole`.
* **F-C08-4** (a repeated column attribute / table option overwrites the earlier one), `PARTITIONED BY x` / `TBLPROPERTIES x` (a
  dropped word that leaves no trace in the result), and the DDL name positions: `CREATE TABLE … (…)` and `ALTER TABLE … ADD / MODIFY /
  CHANGE` are outside `FullStmt` (MISSING here; the printed renderings are covered by `C18T`).
* Found by stating the theorem: the name of `SET a.b-c = v` (`_parse_config_string`) is stored as ONE string concatenated from
  the tokens, so no token of it is in the texts: `SET` is outside `FullStmt` (would need a substring rule in `Acc`);
  `` `cast`(a AS int) `` (a back-quoted special function name) is a grammar word only after `unifyName` (third disjunct of `KwTok`).
* `IF()`: the model (and the code) accept it with no argument; the result is degenerate, outside `FullE`.

Multiplicities: NOT proved (set level: `t.src ∈ T`); `C08.dml_accounted` has them for renderings.  The fragment is a condition on
results, so the theorems quantify over every accepted token list / text, not over renderings.
-/
open Lex PM Ast PA
namespace C08

/-! ### 1. the expression block and the SELECT level -/
/-- all 80 functions of the mutual block, at every fuel, for every set of texts `T` (one field per function) -/
theorem accounted_all (d : Gen.D) (T : List String) (n : Nat) : AccA d T n := accA_all d T n

/-- the top of the expression grammar: every consumed token is accounted for by the strings stored in the tree -/
theorem expr_accounted (d : Gen.D) (n : Nat) (ts : List Tok) (v : Expr) (r : List Tok)
    (h : pOr d n ts = .ok (v, r)) (hf : FullE v = true) :
    ∃ used, ts = used ++ r ∧ ∀ t ∈ used, PA.Acc (tE v) t :=
  (((accA_all d (tE v) n).pOr ts v r h hf).2 (fun _ h => h)).1

/-- a SELECT statement (with its WITH clause, unions, sub-queries at any depth) -/
theorem select_accounted (d : Gen.D) (n : Nat) (ts : List Tok) (q : Query) (r : List Tok)
    (h : pSelectStmt d n none ts = .ok (q, r)) (hf : FullQ q = true) :
    ∃ used, ts = used ++ r ∧ ∀ t ∈ used, PA.Acc (tQ q) t :=
  (((accA_all d (tQ q) n).pSelectStmt none ts q r h hf).2 (fun _ h => h)).1

/-! ### 2. statements -/
/-- one statement of any kind of the fragment -/
theorem statement_accounted_partial (d : Gen.D) (f : Nat) (ts : List Tok) (s : Stmt) (r : List Tok)
    (h : pStatement d f ts = .ok (s, r)) (hf : FullStmt s = true) :
    ∃ used, ts = used ++ r ∧ ∀ t ∈ used, PA.Acc (tStmt s) t :=
  ((accS_pStatement (tStmt s) d f ts s r h hf).2 (fun _ h => h)).1

/-- every token of an accepted token list is accounted for -/
def Accounted (ts : List Tok) (ss : List Stmt) : Prop := ∀ t ∈ ts, PA.Acc (tStmts ss) t
/-- `tStmts ss` is every string of the canonical value of the result -/
theorem tStmts_eq (ss : List Stmt) : tStmts ss = Val.texts (.list (ss.map Stmt.toVal)) := by simp [tStmts, Val.texts]

/-- FULL STATEMENT (not proved): `pStatements d f ts = .ok ss → Accounted ts ss`.  False as it stands: F-C08-4 / -6, `SET a.b = c`
(witnesses below).  Proved with the hypothesis `FullStmts ss` on the RESULT. -/
theorem parse_accounted_partial (d : Gen.D) (f : Nat) (ts : List Tok) (ss : List Stmt)
    (h : pStatements d f ts = .ok ss) (hf : FullStmts ss = true) : Accounted ts ss := by
  have := accS_statementsLoop (tStmts ss) d f (ts.length + 1) [] ts ss h hf
  exact (this.2 (fun _ h => h)).1

/-- the same through the lexer: every token the lexer produced from the (pre-processed) text is accounted for; that every
character of the text is in some token is C04's -/
theorem parse_text_accounted_partial (d : Gen.D) (text : List Char) (ss : List Stmt)
    (h : parseStatementsText d text = .ok ss) (hf : FullStmts ss = true) :
    ∃ ts, lex Gen.cfgS (dialectPre d text) = .ok ts ∧ Accounted ts ss := by
  obtain ⟨ts, hl, hp⟩ := parseStatementsText_ok h
  exact ⟨ts, hl, parse_accounted_partial d _ ts ss hp hf⟩

/-! ### 3. what `Acc` says, at any depth -/
/-- accounted for as a whole: stored (verbatim, unquoted, as a dotted pair, as an integer value) or a grammar word -/
def Whole (T : List String) (t : Tok) : Prop :=
  t.src ∈ T ∨ unifyName t.src ∈ T ∨ (∃ a b, splitName t.src = .ok (some a, b) ∧ a ∈ T ∧ b ∈ T) ∨
    (∃ n, pyInt t.src = .ok n ∧ toString n ∈ T) ∨ PA.KwTok t = true
/-- `x` occurs in `t` at some depth (or is `t`) -/
inductive Inside : Tok → Tok → Prop
  | self (t : Tok) : Inside t t
  | child {x c t : Tok} : c ∈ t.children → Inside x c → Inside x t
theorem Inside.trans {a b c : Tok} (h1 : Inside a b) (h2 : Inside b c) : Inside a c := by
  induction h2 with
  | self => exact h1
  | child hc _ ih => exact .child hc ih

theorem Inside.in_child {x t : Tok} (hx : Inside x t) (hl : Groupish x = false) (hb : Groupish t = true) :
    ∃ c ∈ t.children, Inside x c := by
  cases hx with
  | self => rw [hb] at hl; cases hl
  | child hcx hxc => exact ⟨_, hcx, hxc⟩

theorem acc_all_cases {T : List String} {t : Tok} (h : PA.Acc T t) :
    Whole T t ∨ (Groupish t = true ∧ ∀ c ∈ t.children, PA.Acc T c) := by
  cases h with
  | text h => exact Or.inl (Or.inl h)
  | name h => exact Or.inl (Or.inr (Or.inl h))
  | dotted h ha hb => exact Or.inl (Or.inr (Or.inr (Or.inl ⟨_, _, h, ha, hb⟩)))
  | int h hn => exact Or.inl (Or.inr (Or.inr (Or.inr (Or.inl ⟨_, h, hn⟩))))
  | kw h => exact Or.inl (Or.inr (Or.inr (Or.inr (Or.inr h))))
  | group hb hc => exact Or.inr ⟨hb, hc⟩
/-- every LEAF token (no bracket mark, no children) at any depth of an accounted token lies in (or is) a token that is accounted
for AS A WHOLE.  `g ≠ x` only when a bracket group was taken as a name (class F-C08-5). -/
theorem acc_inside {T : List String} {t : Tok} (h : PA.Acc T t) :
    ∀ x, Inside x t → Groupish x = false → ∃ g, Inside x g ∧ Inside g t ∧ Whole T g := by
  induction h with
  | text h => intro x hx _; exact ⟨_, hx, .self _, Or.inl h⟩
  | name h => intro x hx _; exact ⟨_, hx, .self _, Or.inr (Or.inl h)⟩
  | dotted h ha hb => intro x hx _; exact ⟨_, hx, .self _, Or.inr (Or.inr (Or.inl ⟨_, _, h, ha, hb⟩))⟩
  | int h hn => intro x hx _; exact ⟨_, hx, .self _, Or.inr (Or.inr (Or.inr (Or.inl ⟨_, h, hn⟩)))⟩
  | kw h => intro x hx _; exact ⟨_, hx, .self _, Or.inr (Or.inr (Or.inr (Or.inr h)))⟩
  | group hb hc ih =>
    intro x hx hl
    obtain ⟨c, hcx, hxc⟩ := hx.in_child hl hb
    obtain ⟨g, h1, h2, h3⟩ := ih _ hcx x hxc hl
    exact ⟨g, h1, .child hcx h2, h3⟩

theorem Inside.eq_or_groupish {x g : Tok} (h : Inside x g) : g = x ∨ Groupish g = true := by
  cases h with
  | self => exact .inl rfl
  | child hc _ =>
    cases hcg : g.children with
    | nil => rw [hcg] at hc; cases hc
    | cons a b => exact .inr (by simp [Groupish, hcg])

/-! ### 4. the stray-token clause -/
/-- no bracket group of the token list (at any depth) is accounted for as a whole: excludes class F-C08-5 -/
def NoGroupWhole (T : List String) (ts : List Tok) : Prop := ∀ t ∈ ts, ∀ g, Inside g t → Groupish g = true → ¬ Whole T g
/-- a fresh identifier: no grammar word (`PA.KWA`, finite), no integer literal, no dotted name -/
def FreshName (x : Tok) : Prop :=
  Groupish x = false ∧ PA.KwTok x = false ∧ (∀ n, pyInt x.src ≠ .ok n) ∧ (∀ a b, splitName x.src ≠ .ok (some a, b))

/-- a fresh identifier that is accounted for as a whole is stored, verbatim or without its back-quotes -/
theorem FreshName.whole {T : List String} {x : Tok} (hfr : FreshName x) (h : Whole T x) : x.src ∈ T ∨ unifyName x.src ∈ T := by
  obtain ⟨_, hk, hi, hd⟩ := hfr
  rcases h with h | h | ⟨a, b, h, _⟩ | ⟨n, h, _⟩ | h
  · exact .inl h
  · exact .inr h
  · exact absurd h (hd a b)
  · exact absurd h (hi n)
  · rw [hk] at h; cases h

/-- FULL STATEMENT (not proved; false because of F-C08-4 / -5 / -6): an accepted token list that contains the fresh token `x` at any
depth yields statements whose texts contain `x`.  Proved for results in `FullStmts` and token lists without a bracket group taken
as a name.  `x` is stored verbatim or without its back-quotes. -/
theorem stray_accounted_partial (d : Gen.D) (f : Nat) (ts : List Tok) (ss : List Stmt) (x t : Tok)
    (h : pStatements d f ts = .ok ss) (hf : FullStmts ss = true) (hg : NoGroupWhole (tStmts ss) ts)
    (ht : t ∈ ts) (hx : Inside x t) (hfr : FreshName x) :
    x.src ∈ tStmts ss ∨ unifyName x.src ∈ tStmts ss := by
  obtain ⟨g, h1, h2, h3⟩ := acc_inside (parse_accounted_partial d f ts ss h hf t ht) x hx hfr.1
  obtain rfl := h1.eq_or_groupish.resolve_right fun hgr => hg t ht g h2 hgr h3
  exact hfr.whole h3

/-- `ts'` is `ts` with the token `x` inserted at some position at some depth -/
inductive Inserted (x : Tok) : List Tok → List Tok → Prop
  | here (pre post : List Tok) : Inserted x (pre ++ post) (pre ++ x :: post)
  | deep (pre post : List Tok) (k : GK) (m : Nat) {cs cs' : List Tok} : Inserted x cs cs' →
      Inserted x (pre ++ Tok.group k cs m :: post) (pre ++ Tok.group k cs' m :: post)
theorem Inserted.inside {x : Tok} {ts ts' : List Tok} (h : Inserted x ts ts') : ∃ t ∈ ts', Inside x t := by
  induction h with
  | here pre post => exact ⟨x, by simp, .self x⟩
  | @deep pre post k m cs cs' _ ih =>
    obtain ⟨t, ht, hin⟩ := ih
    exact ⟨Tok.group k cs' m, by simp, .child (by simpa [Tok.children] using ht) hin⟩
/-- the stray-token clause in the form of the property: a valid token list with a fresh identifier inserted anywhere, if accepted,
yields a tree that contains it (the run on `ts` plays no role) -/
theorem stray_inserted_partial (d : Gen.D) (f : Nat) (ts ts' : List Tok) (ss' : List Stmt) (x : Tok) (hi : Inserted x ts ts')
    (h : pStatements d f ts' = .ok ss') (hf : FullStmts ss' = true) (hg : NoGroupWhole (tStmts ss') ts') (hfr : FreshName x) :
    x.src ∈ tStmts ss' ∨ unifyName x.src ∈ tStmts ss' := by
  obtain ⟨t, ht, hin⟩ := hi.inside
  exact stray_accounted_partial d f ts' ss' x t h hf hg ht hin hfr


/-! ### non-vacuity and the witnesses of the exceptions (`String` operations do not reduce by `decide`: `#guard`, evaluated tests) -/
namespace All
def toks (s : String) : List Tok := match Lex.lex Gen.cfgS s.toList with | .ok ts => ts | .error _ => []
mutual
/-- `PA.Acc`, evaluated -/
def accB (T : List String) : Tok → Bool
  | .single s m =>
    let t := Tok.single s m
    T.contains t.src || T.contains (unifyName t.src) || PA.KwTok t ||
      (match splitName t.src with | .ok (some a, b) => T.contains a && T.contains b | _ => false) ||
      (match pyInt t.src with | .ok n => T.contains (toString n) | _ => false)
  | .group k cs m =>
    let t := Tok.group k cs m
    T.contains t.src || T.contains (unifyName t.src) || (Groupish t && accBL T cs)
def accBL (T : List String) : List Tok → Bool
  | [] => true
  | t :: ts => accB T t && accBL T ts
end
/-- accepted, in the fragment, and every token passes the evaluated `Acc` (hypotheses and conclusion of `parse_accounted_partial`) -/
def holds (d : Gen.D) (s : String) : Bool :=
  match pStatements d 4000 (toks s) with
  | .ok ss => FullStmts ss && accBL (tStmts ss) (toks s) && !(toks s).isEmpty
  | _ => false
/-- accepted, but NOT in the fragment -/
def outside (d : Gen.D) (s : String) : Bool :=
  match pStatements d 4000 (toks s) with | .ok ss => !FullStmts ss | _ => false
/-- accepted and the word `w` is in none of the stored strings -/
def lost (d : Gen.D) (s w : String) : Bool :=
  match pStatements d 4000 (toks s) with | .ok ss => !(tStmts ss).contains w | _ => false

-- the theorem is not vacuous: statements of every kind of the fragment
#guard holds .MYSQL "SELECT a, f(b, 1) AS x, count(DISTINCT c), t.* FROM t1 JOIN (SELECT 1 AS u FROM d) s ON t1.a = s.u WHERE a IN (1, 2) AND b BETWEEN 1 AND 2 GROUP BY a HAVING x > 1 ORDER BY a DESC LIMIT 010"
#guard holds .MYSQL "WITH w AS (SELECT a FROM t) SELECT CAST(a AS DECIMAL(10, 2)), CASE WHEN a = 1 THEN 'x' ELSE b[1] END, sum(a) OVER (PARTITION BY a ORDER BY b ROWS BETWEEN 1 PRECEDING AND CURRENT ROW) FROM w UNION ALL SELECT 1, 2, 3"
#guard holds .MYSQL "SELECT `db.f`(a), substring(a FROM 1 FOR 2), EXISTS (SELECT 1 FROM t), `cast`(a AS int), IF(a, b, c) FROM t"
#guard holds .HIVE "INSERT OVERWRITE TABLE t PARTITION (dt = '2020') SELECT a FROM s LATERAL VIEW explode(x) v AS c GROUP BY a GROUPING SETS ((a), ()) SORT BY a"
#guard holds .MYSQL "INSERT INTO t (a, t.b) VALUES (1, 'x'), (2, f(3)); UPDATE t SET a = 1, b = b + 1 WHERE c = 2 ORDER BY a LIMIT 3; DELETE FROM db.t WHERE a = 1"
#guard holds .MYSQL "DROP TABLE IF EXISTS a.b; TRUNCATE TABLE t; USE db; SHOW TABLES; SHOW COLUMNS FROM t WHERE x = 1; CREATE TABLE t2 AS SELECT a FROM t"
#guard holds .HIVE "ALTER TABLE t ADD PARTITION (dt = 1), DROP COLUMN c, RENAME COLUMN a TO b; ANALYZE TABLE t PARTITION (dt = 1) COMPUTE STATISTICS; MSCK REPAIR TABLE t"
-- what is stored: names after `unifyName`, literals verbatim, integers by value
#guard !lost .MYSQL "SELECT `a` FROM t LIMIT 010" "a" && !lost .MYSQL "SELECT `a` FROM t LIMIT 010" "10" && lost .MYSQL "SELECT `a` FROM t LIMIT 010" "010"
-- F-C08-6: a word where a bracket group is expected is dropped; the result is degenerate, outside the fragment
#guard outside .MYSQL "SELECT a IN zzq9 FROM t" && lost .MYSQL "SELECT a IN zzq9 FROM t" "zzq9"
#guard outside .MYSQL "INSERT INTO t PARTITION zzq9 (a) VALUES (1)" && lost .MYSQL "INSERT INTO t PARTITION zzq9 (a) VALUES (1)" "zzq9"
#guard outside .MYSQL "SELECT f(x) OVER zzq9 FROM t" && lost .MYSQL "SELECT f(x) OVER zzq9 FROM t" "zzq9"
#guard outside .HIVE "SELECT a FROM t LATERAL VIEW explode zzq9 v AS c" && lost .HIVE "SELECT a FROM t LATERAL VIEW explode zzq9 v AS c" "zzq9"
-- … the price: an empty argument list / window is outside the fragment although nothing is lost; `IF()` is accepted with no argument
#guard outside .MYSQL "SELECT now() FROM t" && outside .MYSQL "SELECT count(a) OVER () FROM t" && outside .MYSQL "SELECT IF() FROM t"
-- F-C08-5: a bracket group taken as a name is accounted for AS A WHOLE (its text is stored), its children are not
#guard holds .MYSQL "ALTER TABLE t DROP COLUMN (zzq9)" && !lost .MYSQL "ALTER TABLE t DROP COLUMN (zzq9)" "(zzq9)" && lost .MYSQL "ALTER TABLE t DROP COLUMN (zzq9)" "zzq9"
#guard holds .MYSQL "WITH (a zzq9) AS (SELECT 1) SELECT 2" && lost .MYSQL "WITH (a zzq9) AS (SELECT 1) SELECT 2" "zzq9"
-- F-C08-4 and the traceless drops of the option loop: CREATE TABLE ( … ) is outside the fragment, and the statement is really false there
#guard outside .MYSQL "CREATE TABLE t (a int DEFAULT 1 DEFAULT 2)" && lost .MYSQL "CREATE TABLE t (a int DEFAULT 1 DEFAULT 2)" "1"
#guard outside .HIVE "CREATE TABLE t (a int) PARTITIONED BY zzq9" && lost .HIVE "CREATE TABLE t (a int) PARTITIONED BY zzq9" "zzq9"
#guard outside .HIVE "CREATE TABLE t (a int) TBLPROPERTIES zzq9" && lost .HIVE "CREATE TABLE t (a int) TBLPROPERTIES zzq9" "zzq9"
-- the configuration name of SET is ONE string concatenated from its tokens
#guard outside .HIVE "SET hive.exec-mode = x" && lost .HIVE "SET hive.exec-mode = x" "exec" && !lost .HIVE "SET hive.exec-mode = x" "hive.exec-mode"
end All

end C08
