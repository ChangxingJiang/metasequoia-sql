import MsqProofs.Lemmas.LexLinkAny
import MsqProofs.Props.C03R
import MsqProofs.Props.C18L
/-!
# C03 / C01 / C10 at TEXT level for the WHOLE union fragment `TR.FragAny`

`Props/C03R.lean` proves T-parse on TOKENS for every statement class (`C03.tstatement_any`: the rendering `TR.toksAny d s` parses to `s`).
Here the link to TEXT for every class, and ONE script theorem on texts:

* `C03.lex_prStmt2` : DELETE / UPDATE / INSERT … VALUES / INSERT … query / a query, each with an optional `WITH name AS (q), …` in front,
  over the LARGER query fragment (`TDM2.FragStmt` over `TQ2.FragQ2` / `FragE4`: window functions, CAST, GROUPING SETS, LATERAL VIEW … inside
  data-change statements and under WITH): the printer succeeds, prints the mirror `LL2.Any.stmtL d s`, lexing gives `TDM2.toksStmt d s`
  (Lemmas/LexLinkAnyD0-2.lean);
* `C03.lex_prRest` : the classes of `TR.FragRest` — ALTER TABLE with every clause, DROP / TRUNCATE / MSCK REPAIR TABLE, USE, SHOW DATABASES /
  TABLES, SET, ANALYZE TABLE, SHOW COLUMNS, CREATE TABLE [IF NOT EXISTS] … AS [WITH …] query (Lemmas/LexLinkAnyR0-3.lean);
* `C03.lex_prAny` : the union (with CREATE TABLE from `C18.lex_prCreate`): `FragAny d s → printableAny d s → LeafAny d s →
  ∃ str, PR.prStmt d s = ok str ∧ str.toList = anyL d s ∧ lex str = toksAny d s`; `lex_prAny_in_context`; `printed_any_not_open`;
* `C03.tstatement_any_text` : text → dialect pre-pass → lexer → `pStatement` (entry fuel) gives `s`, nothing left, and the model of
  `parse_statements(text, dialect)` returns `[s]`;
* `C01.statement_round_trip_text_any` : printing the parsed statement gives the same text (print ∘ parse ∘ print = print);
* `C03.tscript_any_text` / `C10.script_of_printed_statements` : the printed texts of ANY list of fragment statements, each followed by a
  separator text of `Props/C10T.lean` (blanks / line breaks around one `;`; after the last one possibly only blanks or nothing), parse through
  the model of `parse_statements` to exactly that list (every dialect but DB2; `tscript_any_text_prep` for DB2 with the commutation of the
  pre-passes as a hypothesis).  CREATE TABLE swallows the `;` behind it itself (`parser.py:2017`; `TR.restAfter`): the loop of `C10.script_concat`
  handles both shapes, so nothing special is visible in the statement;
* `C03.hive_pre_stmt2` : for HIVE the pre-pass hypothesis of the statements over `FragQ2` holds when no payload contains `==`; for the other
  classes it is `C01.hivePre_no_occ` on the concrete text (`hive_pre_of_occ`); for every dialect but HIVE and DB2 it holds outright (`pre_any_id`).

**Hypotheses** besides the fragment: `LL2.Any.printableAny d s` (a `Bool`: what the PRINTER needs — `INSERT OVERWRITE` only for HIVE / DEFAULT,
CREATE TABLE only for MYSQL / HIVE, ANALYZE TABLE only for HIVE / MYSQL: the printer raises otherwise, there is no text) and the payload
hypotheses `LL2.Any.LeafAny d s` (none assumes the link; `C03.AnyText.leafAnyB` is a decidable sufficient condition):
queries / data-change statements `On2 (leafOK2 d) (leavesStmt s)` as in Props/C03QL2.lean (incl. the guards of the Q2 link: array index and
SORT BY … for HIVE only, LATERAL VIEW for HIVE / DEFAULT, index expressions complete before `]`, single grouping-set elements); CREATE TABLE
`LD.LeafC` as in Props/C18L.lean; target tables `nameLex` (no back-quote, no TAB / CR / U+3000); `USE s`: `s` a raw-source payload
(`LD.srcLex`: digits, a quoted string, a back-quoted name, a plain word — at token level `C03.tuse` takes any string, but the lexer must
read it as ONE token); ALTER clauses: partition items as in INSERT, column names `nameLex`, column definitions / keys / foreign keys as in
CREATE TABLE (`LD.LeafCol` / `LeafIdx` / `LeafFk`; column definitions for EVERY dialect: `LL2.Any.prDefCol_other`); SHOW COLUMNS: the
payloads of its tables and filter.

**SET (restriction, stated):** `LL2.Any.cfgLex` on key and value — every piece between `.` / `-` a plain word, or the whole string ONE
raw-source token.  Excluded at text level: decimal numbers (`0.5`; no lexer lemma for floats) and strings such as `x-1.5`, where the
token-level printer's split (`TR.toksCfg`: ONE token, because the piece `1` is no word) differs from the lexer's (`x`, `-`, `1.5`): the
rendering of Props/C03R.lean is then NOT what the lexer makes of the printed text.  The PARSER still rebuilds the same string from the lexer's
pieces (evaluated below: `SET a=x-1.5` round-trips on the model), so this is a gap of the token-level rendering, not a defect of the code.
-/
open Lex PM Ast TP TS LexLink TQ2 LL2 LL2.Any TR

namespace LL2.Any
instance : QWc occKit := ⟨qw2_occ⟩

def LeafStmt2 (d : Gen.D) (s : Stmt) : Prop := On2 (leafOK2 d) (leavesStmt s)
def NoEqStmt2 (s : Stmt) : Prop := On2 noEq2 (leavesStmt s)
end LL2.Any

namespace C03

/-- **C03.lex_prAny**: on every statement of the union fragment that the printer prints, with lexable payloads, `PR.prStmt d s` succeeds,
prints the mirror `anyL d s`, and lexing the text gives exactly the token rendering `toksAny d s` of Props/C03R.lean. -/
theorem lex_prAny (d : Gen.D) (s : Stmt) (hs : FragAny d s = true) (hp : printableAny d s = true) (hl : LeafAny d s) :
    ∃ str : String, PR.prStmt d s = .ok str ∧ str.toList = anyL d s ∧ Lex.lex Gen.cfgS str.toList = .ok (toksAny d s) := by
  have g := good_any d s hs hp hl
  exact C01.lex_printed g.pr g.q g.lx

/-- the link in context: inside any text, between tokens, before a delimiter, under any bracket nesting -/
theorem lex_prAny_in_context (d : Gen.D) (s : Stmt) (hs : FragAny d s = true) (hp : printableAny d s = true) (hl : LeafAny d s) :
    Lx (anyL d s) (toksAny d s) := (good_any d s hs hp hl).lx

theorem any_text_plain (d : Gen.D) (s : Stmt) (hs : FragAny d s = true) (hp : printableAny d s = true) (hl : LeafAny d s) :
    allP (anyL d s) = true := (good_any d s hs hp hl).q

/-- the printed text of a statement never ends inside a line comment -/
theorem printed_any_not_open (d : Gen.D) (s : Stmt) (hs : FragAny d s = true) (hp : printableAny d s = true) (hl : LeafAny d s) :
    C10.EndsOpen Gen.cfgS (anyL d s) = false :=
  C10.not_open_of_lx (lex_prAny_in_context d s hs hp hl) (any_text_plain d s hs hp hl)

/-- **C03.lex_prStmt2**: data-change statements and WITH over the larger query fragment -/
theorem lex_prStmt2 (d : Gen.D) (s : Stmt) (hs : TDM2.FragStmt d s = true) (hp : LLD.printableStmt d s = true) (hl : LeafStmt2 d s) :
    ∃ str : String, PR.prStmt d s = .ok str ∧ str.toList = stmtL d s ∧ Lex.lex Gen.cfgS str.toList = .ok (TDM2.toksStmt d s) := by
  have g := good_stmt (K := plainKit) LLD.dw_plain s hs hp (lv2_plain hl)
  exact C01.lex_printed g.pr g.q g.lx
theorem lex_prStmt2_in_context (d : Gen.D) (s : Stmt) (hs : TDM2.FragStmt d s = true) (hp : LLD.printableStmt d s = true)
    (hl : LeafStmt2 d s) : Lx (stmtL d s) (TDM2.toksStmt d s) := (good_stmt (K := plainKit) LLD.dw_plain s hs hp (lv2_plain hl)).lx

/-- the classes of `FragRest` are in the union, with their own rendering -/
theorem fragAny_of_fragRest (d : Gen.D) (s : Stmt) (hs : FragRest d s = true) : FragAny d s = true ∧ toksAny d s = toksRest d s := by
  refine ⟨by simp only [FragAny, hs, Bool.or_true], ?_⟩
  cases s <;> first | rfl | simp [FragRest] at hs

/-- **C03.lex_prRest**: ALTER TABLE, DROP / TRUNCATE / MSCK REPAIR TABLE, USE, SHOW DATABASES / TABLES / COLUMNS, SET, ANALYZE TABLE,
CREATE TABLE … AS -/
theorem lex_prRest (d : Gen.D) (s : Stmt) (hs : FragRest d s = true) (hp : printableAny d s = true) (hl : LeafAny d s) :
    ∃ str : String, PR.prStmt d s = .ok str ∧ str.toList = anyL d s ∧ Lex.lex Gen.cfgS str.toList = .ok (toksRest d s) := by
  obtain ⟨h1, h2⟩ := fragAny_of_fragRest d s hs
  rw [← h2]
  exact lex_prAny d s h1 hp hl

/-- **C03.tstatement_any_text**: T-parse of every statement class at TEXT level, with the entry points' own fuel. -/
theorem tstatement_any_text (d : Gen.D) (s : Stmt) (hs : FragAny d s = true) (hp : printableAny d s = true) (hl : LeafAny d s)
    (hpre : dialectPre d (anyL d s) = anyL d s) :
    ∃ (str : String) (ts : List Tok), PR.prStmt d s = .ok str ∧
      Lex.lex Gen.cfgS (dialectPre d str.toList) = .ok ts ∧ ts = toksAny d s ∧
      pStatement d (fuelFor ts) ts = .ok (s, []) ∧
      parseStatementsText d str.toList = .ok [s] :=
  printed_stmt_text (lex_prAny d s hs hp hl) hpre (by simpa [restAfter_nil] using tstatement_any_entry_fuel d s hs [] rfl)

/-- the dialect pre-pass is the identity for every dialect but DB2 and HIVE -/
theorem pre_any_id (d : Gen.D) (h1 : d ≠ .DB2) (h2 : d ≠ .HIVE) (s : Stmt) : dialectPre d (anyL d s) = anyL d s :=
  C01.dialectPre_id d h1 h2 _
/-- for HIVE it leaves a text without `==` alone (a decidable condition on the concrete text) -/
theorem hive_pre_of_occ (s : Stmt) (h : C01.occ (anyL .HIVE s) = false) : dialectPre .HIVE (anyL .HIVE s) = anyL .HIVE s :=
  C01.hivePre_no_occ _ h
/-- … which holds for statements over `FragQ2` whenever no payload contains `==` -/
theorem hive_pre_stmt2 (s : Stmt) (hs : TDM2.FragStmt .HIVE s = true) (hp : LLD.printableStmt .HIVE s = true) (hl : LeafStmt2 .HIVE s)
    (hno : NoEqStmt2 s) : dialectPre .HIVE (stmtL .HIVE s) = stmtL .HIVE s :=
  C01.hivePre_no_occ _ (good_stmt (K := occKit) LLD.dw_occ s hs hp (lv2_occ hl hno)).q

/-! ### scripts -/

def anyPart (d : Gen.D) (it : Stmt × List Char) : C10.Part := ⟨anyL d it.1, it.2, toksAny d it.1, it.1⟩

/-- **C03.tscript_any_text**: the printed texts of ANY fragment statements — queries, data-change statements, WITH, CREATE TABLE, ALTER TABLE,
DROP / TRUNCATE / MSCK, USE, SET, ANALYZE, SHOW …, CREATE TABLE AS, in any mixture — each followed by a separator (blanks and line breaks
around one `;`; the last one possibly without `;`), parse through the model of `parse_statements(text, dialect)` to exactly the statements -/
theorem tscript_any_text (d : Gen.D) (hd : d ≠ .DB2) (items : List (Stmt × List Char))
    (h : ∀ it ∈ items, FragAny d it.1 = true ∧ printableAny d it.1 = true ∧ LeafAny d it.1 ∧
      dialectPre d (anyL d it.1) = anyL d it.1 ∧ ∀ c ∈ it.2, C10.isSepChar c = true)
    (hseps : C10.SepsOK (items.map (anyPart d))) :
    (∀ it ∈ items, PR.prStmt d it.1 = .ok (String.ofList (anyL d it.1))) ∧
    parseStatementsText d (C10.scriptOf C10.Part.text (items.map (anyPart d))) = .ok (items.map (·.1)) := by
  refine ⟨fun it hit => (good_any d it.1 (h it hit).1 (h it hit).2.1 (h it hit).2.2.1).pr, ?_⟩
  refine C10.script_of_printed d hd (anyL d) (toksAny d) items (fun it hit => ?_) hseps
  obtain ⟨hs, hpr, hl, hpre, hsep⟩ := h it hit
  exact ⟨lex_prAny_in_context d it.1 hs hpr hl, any_text_plain d it.1 hs hpr hl, hpre,
    by simpa [restAfter_nil] using tstatement_any_entry_fuel d it.1 hs [] rfl, hsep⟩

/-- the same for every dialect (DB2 included), the commutation of the pre-passes with cutting the script at the separators as a hypothesis
(a decidable equation on each concrete script) -/
theorem tscript_any_text_prep (d : Gen.D) (items : List (Stmt × List Char))
    (h : ∀ it ∈ items, FragAny d it.1 = true ∧ printableAny d it.1 = true ∧ LeafAny d it.1 ∧
      dialectPre d (anyL d it.1) = anyL d it.1 ∧ ∀ c ∈ it.2, C10.isSepChar c = true)
    (hseps : C10.SepsOK (items.map (anyPart d)))
    (hprep : C10.prep d (C10.scriptOf C10.Part.text (items.map (anyPart d))) =
      C10.scriptOf (fun p => C10.prep d p.text) (items.map (anyPart d))) :
    parseStatementsText d (C10.scriptOf C10.Part.text (items.map (anyPart d))) = .ok (items.map (·.1)) := by
  refine C10.script_of_printed_prep d (anyL d) (toksAny d) items (fun it hit => ?_) hseps hprep
  obtain ⟨hs, hpr, hl, hpre, hsep⟩ := h it hit
  exact ⟨lex_prAny_in_context d it.1 hs hpr hl, any_text_plain d it.1 hs hpr hl, hpre,
    by simpa [restAfter_nil] using tstatement_any_entry_fuel d it.1 hs [] rfl, hsep⟩

end C03

namespace C10
/-- the text the printer writes for `s` (empty where it raises) -/
def printedText (d : Gen.D) (s : Stmt) : List Char := match PR.prStmt d s with | .ok x => x.toList | .error _ => []

/-- **C10.script_of_printed_statements**: print every statement of a list of fragment statements, write the texts one after the other, each
followed by its separator text: `parse_statements` returns exactly that list — stated on the printer's own output -/
theorem script_of_printed_statements (d : Gen.D) (hd : d ≠ .DB2) (items : List (Stmt × List Char))
    (h : ∀ it ∈ items, FragAny d it.1 = true ∧ printableAny d it.1 = true ∧ LeafAny d it.1 ∧
      dialectPre d (anyL d it.1) = anyL d it.1 ∧ ∀ c ∈ it.2, C10.isSepChar c = true)
    (hseps : C10.SepsOK (items.map (C03.anyPart d))) :
    parseStatementsText d (C10.scriptOf C10.Part.text (items.map fun it => ⟨printedText d it.1, it.2, toksAny d it.1, it.1⟩)) =
      .ok (items.map (·.1)) := by
  obtain ⟨h1, h2⟩ := C03.tscript_any_text d hd items h hseps
  have e : (items.map fun it => (⟨printedText d it.1, it.2, toksAny d it.1, it.1⟩ : C10.Part)) = items.map (C03.anyPart d) := by
    refine List.map_congr_left fun it hit => ?_
    simp only [C03.anyPart, printedText, h1 it hit, String.toList_ofList]
  rw [e]; exact h2
end C10

namespace C01

/-- **C01.statement_round_trip_text_any**: print, then the text pipeline (dialect pre-pass, lexer, parser) gives the statement back; printing
what was parsed gives the same text again — for every statement class of the union fragment -/
theorem statement_round_trip_text_any (d : Gen.D) (s : Stmt) (hs : FragAny d s = true) (hp : printableAny d s = true) (hl : LeafAny d s)
    (hpre : dialectPre d (anyL d s) = anyL d s) :
    ∃ (str : String) (ts : List Tok), PR.prStmt d s = .ok str ∧ Lex.lex Gen.cfgS (dialectPre d str.toList) = .ok ts ∧
      pStatement d (fuelFor ts) ts = .ok (s, []) ∧
      (∀ s', pStatement d (fuelFor ts) ts = .ok (s', []) → PR.prStmt d s' = .ok str) ∧
      parseStatementsText d str.toList = .ok [s] ∧
      (∀ sts, parseStatementsText d str.toList = .ok sts → sts.map (PR.prStmt d) = [.ok str]) := by
  obtain ⟨str, ts, h1, h2, _, h3, h5⟩ := C03.tstatement_any_text d s hs hp hl hpre
  exact ⟨str, ts, h1, h2, h3, fun s' hs' => by rw [same_of_ok h3 hs']; exact h1, h5, stmts_print h5 h1⟩

end C01

/-! ## a decidable form of the payload hypotheses, non-vacuity -/
namespace C03.AnyText
open C03.Rest C03.Q2Text

def tblLeafB (t : TableName) : Bool := C18.optB C03.nameLexB t.schema && C03.nameLexB t.name
def cfgLexB (s : String) : Bool :=
  (plainL (cfgSplit s).1.toList && (cfgSplit s).2.all fun x => plainL x.2.toList) ||
  ((cfgSplit s).2.isEmpty && C18.srcLexB (cfgSplit s).1 && !isDecimal (cfgSplit s).1)
def coiLeafB (d : Gen.D) : ColOrIdx → Bool
  | .col c => C18.leafColB d c
  | .idx i => C18.leafIdxB i
  | .fk k => C18.leafFkB k
def opLeafB (d : Gen.D) : AlterOp → Bool
  | .addPartition _ p => (leavesL4 p).all (leafOK2B d)
  | .add x => coiLeafB d x
  | .modify x => coiLeafB d x
  | .change f t => C03.nameLexB f && coiLeafB d t
  | .renameColumn f t => C03.nameLexB f && C03.nameLexB t
  | .dropColumn c => C03.nameLexB c
  | .dropPartition _ p => (leavesL4 p).all (leafOK2B d)
/-- `LeafAny d s`, decidable -/
def leafAnyB (d : Gen.D) : Stmt → Bool
  | .createTable c => C18.leafCB d c
  | .dropTable _ t => tblLeafB t
  | .truncate t => tblLeafB t
  | .msck t => tblLeafB t
  | .use s => C18.srcLexB s
  | .set c => cfgLexB c.name && cfgLexB c.value
  | .analyze t p _ _ _ => tblLeafB t && (leavesPart p).all (leafOK2B d)
  | .alter t ops => tblLeafB t && ops.all (opLeafB d)
  | .showDatabases => true
  | .showTables => true
  | .showColumns fr wh => (leavesTables4 fr ++ leavesO4 wh).all (leafOK2B d)
  | .createTableAs t _ q => tblLeafB t && (leavesStmt (.select q)).all (leafOK2B d)
  | s => (leavesStmt s).all (leafOK2B d)

theorem on2_of_B (d : Gen.D) (l : List Leaf2) (h : l.all (leafOK2B d) = true) : On2 (leafOK2 d) l :=
  fun x hx => leafOK2_of_B d x ((List.all_eq_true.mp h) x hx)
theorem tblLeaf_of_B (t : TableName) (h : tblLeafB t = true) : tblLeaf t := by
  simp only [tblLeafB, Bool.and_eq_true] at h
  refine ⟨?_, C03.nameLex_of_B _ h.2⟩
  cases hs : t.schema with
  | none => trivial
  | some x => rw [hs] at h; exact C03.nameLex_of_B _ h.1
theorem cfgLex_of_B (s : String) (h : cfgLexB s = true) : cfgLex s := by
  simp only [cfgLexB, Bool.or_eq_true, Bool.and_eq_true, List.all_eq_true, List.isEmpty_iff, Bool.not_eq_true'] at h
  rcases h with h | h
  · exact Or.inl h
  · exact Or.inr ⟨h.1.1, C18.srcLex_of_B _ h.1.2, h.2⟩
theorem coiLeaf_of_B (d : Gen.D) (x : ColOrIdx) (h : coiLeafB d x = true) : coiLeaf d x := by
  cases x with
  | col c => exact C18.leafCol_of_B d c h
  | idx i => exact C18.leafIdx_of_B i h
  | fk k => exact C18.leafFk_of_B k h
theorem opLeaf_of_B (d : Gen.D) (o : AlterOp) (h : opLeafB d o = true) : opLeaf d o := by
  cases o with
  | addPartition b p => exact on2_of_B d _ h
  | dropPartition b p => exact on2_of_B d _ h
  | add x => exact coiLeaf_of_B d x h
  | modify x => exact coiLeaf_of_B d x h
  | change f t =>
    simp only [opLeafB, Bool.and_eq_true] at h
    exact ⟨C03.nameLex_of_B _ h.1, coiLeaf_of_B d t h.2⟩
  | renameColumn f t =>
    simp only [opLeafB, Bool.and_eq_true] at h
    exact ⟨C03.nameLex_of_B _ h.1, C03.nameLex_of_B _ h.2⟩
  | dropColumn c => exact C03.nameLex_of_B _ h
theorem leafAny_of_B (d : Gen.D) (s : Stmt) (h : leafAnyB d s = true) : LeafAny d s := by
  cases s with
  | select q => exact on2_of_B d _ h
  | insertValues hd vs => exact on2_of_B d _ h
  | insertSelect hd q => exact on2_of_B d _ h
  | update ws t sets wh ob lm => exact on2_of_B d _ h
  | delete t wh ob lm => exact on2_of_B d _ h
  | createTable c => exact C18.leafC_of_B d c h
  | dropTable b t => exact tblLeaf_of_B t h
  | truncate t => exact tblLeaf_of_B t h
  | msck t => exact tblLeaf_of_B t h
  | use s => exact C18.srcLex_of_B s h
  | set c =>
    simp only [leafAnyB, Bool.and_eq_true] at h
    exact ⟨cfgLex_of_B _ h.1, cfgLex_of_B _ h.2⟩
  | analyze t p fc cm ns =>
    simp only [leafAnyB, Bool.and_eq_true] at h
    exact ⟨tblLeaf_of_B t h.1, on2_of_B d _ h.2⟩
  | alter t ops =>
    simp only [leafAnyB, Bool.and_eq_true] at h
    exact ⟨tblLeaf_of_B t h.1, fun o ho => opLeaf_of_B d o ((List.all_eq_true.mp h.2) o ho)⟩
  | showDatabases => trivial
  | showTables => trivial
  | showColumns fr wh => exact on2_of_B d _ h
  | createTableAs t ine q =>
    simp only [leafAnyB, Bool.and_eq_true] at h
    exact ⟨tblLeaf_of_B t h.1, on2_of_B d _ h.2⟩

/-- the mirror is the printer's text, the hypotheses hold, the lexer gives the rendering, the text has no `==` (compiled evaluation, a test) -/
def agreesA (d : Gen.D) (s : Stmt) : Bool :=
  FragAny d s && printableAny d s && leafAnyB d s &&
    (match PR.prStmt d s with | .ok x => x.toList == anyL d s && eqbL (lexed x) (toksAny d s) | .error _ => false)
/-- the model of the public entry point on the printed text gives the statement back -/
def parsesBack (d : Gen.D) (s : Stmt) : Bool :=
  match PM.parseStatementsText d (anyL d s) with
  | .ok [st] => Drv.showVal st.toVal == Drv.showVal s.toVal
  | _ => false
-- every class, MYSQL and HIVE (`a1`: every kind of ALTER clause; `st1`–`st3`: dotted / dashed / quoted configuration strings; `l1`–`l6`:
-- data-change statements and WITH over the larger query fragment; `C18.t1` / `t2`: CREATE TABLE)
#guard [a1, a3, dr1, dr2, tr1, ms1, us1, us2, st1, st2, st3, an2, sc1, sc2, ca1, ca2, ca3, .showDatabases, .showTables, l1, l2, C03.Dml.d1, C03.Dml.u1,
    C03.Dml.i1, C03.Dml.w1, .select q2w1, .select q2w2, .createTable C18.t2].all (agreesA .MYSQL) &&
  [a2, a3, dr1, dr2, tr1, ms1, us1, us2, st1, st2, st3, an1, an2, an3, an4, sc1, sc2, ca1, ca2, ca3, .showDatabases, .showTables, l1, l2, l3, l5,
    C03.Dml.d1, C03.Dml.i3, C03.Dml.w1, .select q2w2, .createTable C18.t1].all (agreesA .HIVE) &&
  [a2, dr1, st1, sc1, ca1, l2].all (agreesA .ORACLE) && [a2, dr1, us1, sc2, ca2, l1].all (agreesA .POSTGRE_SQL)
#guard [a1, a3, dr1, tr1, ms1, us1, us2, st1, st2, st3, an2, sc1, sc2, ca1, ca3, .showDatabases, l1, l2, .createTable C18.t2].all (parsesBack .MYSQL) &&
  [a2, dr2, us1, st1, an1, an3, an4, sc1, ca1, ca3, .showTables, l3, l5, .createTable C18.t1].all (parsesBack .HIVE)
-- what the printer writes
#guard anyL .MYSQL a3 == "ALTER TABLE `t` \nDROP COLUMN `c`".toList && anyL .HIVE an4 == "ANALYZE TABLE `t`  COMPUTE STATISTICS FOR COLUMNS".toList &&
  anyL .HIVE an1 == "ANALYZE TABLE `t` PARTITION (`dt` = '1')  COMPUTE STATISTICS FOR COLUMNS CACHE METADATA NOSCAN".toList &&
  anyL .MYSQL st1 == "SET hive.exec.dynamic-partition.mode=nonstrict".toList && anyL .MYSQL dr1 == "DROP TABLE IF EXISTS `s.t`".toList &&
  anyL .MYSQL sc2 == "SHOW COLUMNS FROM `t`".toList
-- outside: the printer raises (ANALYZE for ORACLE, CREATE TABLE for ORACLE); SET values the lexer splits differently from the token printer
#guard !printableAny .ORACLE an2 && (match PR.prStmt .ORACLE an2 with | .error .notSupported => true | _ => false) &&
  !printableAny .ORACLE (.createTable C18.t2) && (match PR.prStmt .ORACLE (.createTable C18.t2) with | .error _ => true | _ => false) &&
  FragAny .MYSQL st4 && !leafAnyB .MYSQL st4 && !cfgLexB "x-1.5" && cfgOK "x-1.5" && cfgLexB "a_b.c-d" && cfgLexB "'x.y'" && cfgLexB "12"
/-- **the SET restriction is needed (the token rendering, not the code):** `SET a=x-1.5` — the token-level printer renders the value as ONE
token, the lexer reads three (`x`, `-`, `1.5`); the parser rebuilds the same string from them, so the statement round-trips all the same -/
def stX : Stmt := .set ⟨"a", "x-1.5"⟩
#guard FragAny .MYSQL stX && (match PR.prStmt .MYSQL stX with | .ok x => !eqbL (lexed x) (toksAny .MYSQL stX) && (lexed x).length == 6 | _ => false) &&
  (match PM.parseStatementsText .MYSQL "SET a=x-1.5".toList with | .ok [.set c] => c.name == "a" && c.value == "x-1.5" | _ => false)
-- a script mixing nine classes, separators with layout; the printer's own output (`C10.printedText`)
def mix : List (Stmt × List Char) :=
  [(us1, ";\n".toList), (st1, " ; ".toList), (.createTable C18.t2, ";\n\n".toList), (a1, "\n;\n".toList), (l1, ";".toList),
   (an2, " ;".toList), (C03.Dml.u1, ";\n".toList), (sc1, ";".toList), (ca3, ";  ".toList), (dr1, "\n".toList)]
#guard (match PM.parseStatementsText .MYSQL (C10.scriptOf C10.Part.text (mix.map fun it => ⟨C10.printedText .MYSQL it.1, it.2, toksAny .MYSQL it.1, it.1⟩)) with
  | .ok sts => sts.length == 10 && (sts.zip mix).all fun p => Drv.showVal p.1.toVal == Drv.showVal p.2.1.toVal
  | _ => false)
#guard (match PM.parseStatementsText .HIVE (C10.scriptOf C10.Part.text ([(us1, ";\n".toList), (.createTable C18.t1, " ;\n".toList), (a2, ";".toList),
    (l5, ";\n".toList), (an1, ";".toList), (ms1, ";".toList), (ca1, [])].map (C03.anyPart .HIVE))) with
  | .ok [.use _, .createTable _, .alter _ _, .insertValues _ _, .analyze _ (some _) true true true, .msck _, .createTableAs _ true _] => true
  | _ => false)


/-! instances of the theorems (hypotheses decided by the kernel, conclusions the theorems'): no qualified table, no LIMIT, no SET
(`String.splitOn`, `toString` of integers do not reduce in the kernel) -/
set_option maxRecDepth 100000 in
example : ∃ str ts, PR.prStmt .HIVE k1 = .ok str ∧ Lex.lex Gen.cfgS (dialectPre .HIVE str.toList) = .ok ts ∧ ts = toksAny .HIVE k1 ∧
    pStatement .HIVE (fuelFor ts) ts = .ok (k1, []) ∧ parseStatementsText .HIVE str.toList = .ok [k1] :=
  C03.tstatement_any_text .HIVE k1 (by decide) (by decide) (leafAny_of_B _ _ (by decide +kernel)) (C03.hive_pre_of_occ _ (by decide +kernel))
/-- the five hypotheses on one item of a script, for HIVE / for a dialect without pre-pass patterns -/
macro "hive_item" : tactic =>
  `(tactic| exact ⟨by decide, by decide, leafAny_of_B _ _ (by decide +kernel), C03.hive_pre_of_occ _ (by decide +kernel), by decide⟩)
macro "my_item" : tactic =>
  `(tactic| exact ⟨by decide, by decide, leafAny_of_B _ _ (by decide +kernel), C03.pre_any_id _ (by decide) (by decide) _, by decide⟩)
/-- the items of a script mixing eight classes: ALTER TABLE, DROP TABLE, a DELETE, CREATE TABLE (which swallows its `;` itself), a query of
`FragQ2`, ANALYZE TABLE, SHOW COLUMNS, CREATE TABLE … AS — separators with layout, the last statement without `;` -/
def kmix : List (Stmt × List Char) :=
  [(k1, " ;\n".toList), (k2, ";".toList), (C03.Dml.d0, ";\n".toList), (.createTable C18.t1, "\n;\n".toList), (.select q2w2c, ";".toList),
   (k3, "; ".toList), (k4, ";".toList), (k5, "\n".toList)]
set_option maxRecDepth 100000 in
example : parseStatementsText .HIVE (C10.scriptOf C10.Part.text (kmix.map (C03.anyPart .HIVE))) = .ok (kmix.map (·.1)) :=
  (C03.tscript_any_text .HIVE (by decide) kmix
    (by
      intro it hit
      simp only [kmix, List.mem_cons, List.not_mem_nil, or_false] at hit
      rcases hit with rfl | rfl | rfl | rfl | rfl | rfl | rfl | rfl <;> hive_item)
    ⟨by decide, by decide, by decide, by decide, by decide, by decide, by decide, (by decide : (C10.semis "\n".toList).length ≤ 1)⟩).2
set_option maxRecDepth 100000 in
/-- `C01.statement_round_trip_text_any` on an ALTER TABLE for MYSQL (a column with attributes, a key, a foreign key) and on a data-change
statement over the larger fragment (`DELETE … WHERE m['k'] = 1` is HIVE-only: here `DELETE … WHERE EXTRACT(year FROM ts) > 2000`) -/
def k6 : Stmt := .alter (tn "t") [.add (.col { name := "a", type := ⟨"int", none⟩, notNull := true, comment := some "'x'" }),
  .add (.idx ⟨.normal, some "k", [⟨"a", none⟩], some "BTREE", none, none⟩), .add (.fk ⟨"fk", ["a"], "p", ["x"], some "CASCADE", none⟩),
  .renameColumn "c" "d"]
set_option maxRecDepth 100000 in
example : ∃ str ts, PR.prStmt .MYSQL k6 = .ok str ∧ Lex.lex Gen.cfgS (dialectPre .MYSQL str.toList) = .ok ts ∧
    pStatement .MYSQL (fuelFor ts) ts = .ok (k6, []) ∧ (∀ s', pStatement .MYSQL (fuelFor ts) ts = .ok (s', []) → PR.prStmt .MYSQL s' = .ok str) ∧
    parseStatementsText .MYSQL str.toList = .ok [k6] ∧
    (∀ sts, parseStatementsText .MYSQL str.toList = .ok sts → sts.map (PR.prStmt .MYSQL) = [.ok str]) :=
  C01.statement_round_trip_text_any .MYSQL k6 (by decide) (by decide) (leafAny_of_B _ _ (by decide +kernel)) (C03.pre_any_id _ (by decide) (by decide) _)
set_option maxRecDepth 100000 in
example : parseStatementsText .MYSQL (C10.scriptOf C10.Part.text ([(k6, ";\n".toList), (l7, " ; ".toList), (k2, [])].map
    fun it => ⟨C10.printedText .MYSQL it.1, it.2, toksAny .MYSQL it.1, it.1⟩)) = .ok [k6, l7, k2] :=
  C10.script_of_printed_statements .MYSQL (by decide) [(k6, ";\n".toList), (l7, " ; ".toList), (k2, [])]
    (by
      intro it hit
      simp only [List.mem_cons, List.not_mem_nil, or_false] at hit
      rcases hit with rfl | rfl | rfl <;> my_item)
    ⟨by decide, by decide, (by decide : (C10.semis []).length ≤ 1)⟩
end C03.AnyText
