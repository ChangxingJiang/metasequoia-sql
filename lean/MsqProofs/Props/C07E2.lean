import MsqProofs.Lemmas.ParseEntry2
import MsqProofs.Lemmas.ParseEntry2Mono
import MsqProofs.Props.C07Adq
import MsqProofs.Props.C07Fuel
/-!
# C07 / C19 — every public parsing entry point: the other 26, and all 84 together

Property C07 quantifies over EVERY public `parse_*` method of `SQLParser`.  `PM.entries` (Parse/Entry.lean) has 58 of them;
`PM.entries2` (Parse/Entry2.lean) has the other 26 (`parse_insert_type`, `parse_join_type`, `parse_order_type`,
`parse_union_type`, `parse_compare_operator`, `parse_compute_operator`, `parse_cast_data_type`, `parse_window_row_item`,
`parse_window_row`, `parse_wildcard_expression`, `parse_alias_expression`, `parse_multi_alias_expression`,
`parse_join_on_expression`, `parse_join_using_expression`, `parse_join_expression`, `parse_select_column`,
`parse_select_clause`, `parse_from_clause`, `parse_grouping_sets`, `parse_having_clause`, `parse_sort_by_clause`,
`parse_distribute_by_clause`, `parse_cluster_by_clause`, `parse_with_table`, `parse_update_set_column`,
`parse_update_set_clause`); `PM.entriesAll = entries ++ entries2` is all 84, `PM.parseText2` looks an entry up there.

Proved here, for the MODEL, as `C07.entries_error_kinds` / `parser_no_foreign` / `entries_fuel_adequate` / `fuel_mono_entries` /
`entry_outcomes` do for `entries`:

* `entries2_error_kinds`, `entries2_no_foreign` — no entry of `entries2` returns a foreign exception kind (every dialect, every
  fuel, every token list): an error is `.parse`, `.fuel` or `.unmodelled _`;
* `entries2_fuel_adequate` — none answers `.fuel` with the budget `fuelFor` (nor with `20 + weight`, nor with any larger budget);
* `entries2_fuel_mono` — more fuel never changes a result;
* `all_entries_no_foreign`, `all_entries_fuel_adequate`, `all_entries_fuel_mono` — the three for `entriesAll` = all 84;
* `entry2_outcomes` — `parse_<entry>(text, sql_type)` for every entry NAME, dialect and text: a tree, `LexicalParseError`,
  `SqlParseError`, or a named exit from the modelled fragment (never `.fuel`, never a foreign exception);
  `scanner_argument_outcomes`, `other_argument_outcome` — the two other argument kinds of `_unify_input_scanner`;
* `parseText2_extends` — on the 58 names of `entries`, `parseText2` IS `parseText`; `all_entries_count`: 58 + 26 = 84.
-/
namespace C07
open Lex PM

/-! ## 1. the 26 -/

/-- every entry of `entries2`, every dialect, fuel, token list: the error, if any, is `.parse`, `.fuel` or `.unmodelled _` -/
theorem entries2_error_kinds (name : String) (p : Entry) (hp : (name, p) ∈ entries2) (d : Gen.D) (f : Nat) (ts : List Tok) (x : Err)
    (h : p d f ts = .error x) : x = .parse ∨ x = .fuel ∨ ∃ w, x = .unmodelled w := by
  rw [← Err.parserKind_iff]
  exact (entries2_err _ hp d f ts x h).1

/-- **C07.entries2_no_foreign**: no entry of `entries2` returns a foreign Python exception -/
theorem entries2_no_foreign (d : Gen.D) (f : Nat) : ∀ p ∈ entries2, ∀ ts e, p.2 d f ts ≠ .error (.py e) :=
  fun p hp ts _ h => Bool.false_ne_true (entries2_err p hp d f ts _ h).1

theorem entries2_fuel_adequate_weight (name : String) (p : Entry) (hp : (name, p) ∈ entries2) (d : Gen.D) (f : Nat) (ts : List Tok)
    (hf : 20 + adqWL ts ≤ f) : p d f ts ≠ .error .fuel :=
  fun h => Nat.not_lt.2 hf ((entries2_err _ hp d f ts _ h).2 rfl)

/-- **C07.entries2_fuel_adequate**: no entry of `entries2` runs out of the shipped budget, on any token list -/
theorem entries2_fuel_adequate (name : String) (p : Entry) (hp : (name, p) ∈ entries2) (d : Gen.D) (ts : List Tok) :
    p d (fuelFor ts) ts ≠ .error .fuel :=
  entries2_fuel_adequate_weight name p hp d _ ts (by have := adqWL_fuelFor ts; omega)

theorem entries2_fuel_adequate_ge (name : String) (p : Entry) (hp : (name, p) ∈ entries2) (d : Gen.D) (ts : List Tok) (f : Nat)
    (hf : fuelFor ts ≤ f) : p d f ts ≠ .error .fuel :=
  entries2_fuel_adequate_weight name p hp d _ ts (by have := adqWL_fuelFor ts; omega)

/-- more fuel never changes a successful result of an entry of `entries2` -/
theorem entries2_fuel_mono (name : String) (p : Entry) (hp : (name, p) ∈ entries2) (d : Gen.D) (f f' : Nat) (hle : f ≤ f')
    (ts : List Tok) (r : Val × List Tok) (h : p d f ts = .ok r) : p d f' ts = .ok r :=
  entries2_mono _ hp d f f' ts r hle h

/-! ## 2. all 84 -/

theorem mem_entriesAll {q : String × Entry} : q ∈ entriesAll ↔ q ∈ entries ∨ q ∈ entries2 := by
  unfold entriesAll; exact List.mem_append

/-- 58 + 26 -/
theorem all_entries_count : entries.length = 58 ∧ entries2.length = 26 ∧ entriesAll.length = 84 := by
  refine ⟨rfl, rfl, ?_⟩
  unfold entriesAll; rw [List.length_append]; rfl

/-- **C07.all_entries_no_foreign**: every public parsing entry point (all 84), every dialect, every fuel, every token list:
the error, if any, is `.parse`, `.fuel` or `.unmodelled _` — in particular never a foreign exception -/
theorem all_entries_no_foreign (name : String) (p : Entry) (hp : (name, p) ∈ entriesAll) (d : Gen.D) (f : Nat) (ts : List Tok) :
    (∀ x, p d f ts = .error x → x = .parse ∨ x = .fuel ∨ ∃ w, x = .unmodelled w) ∧ (∀ e, p d f ts ≠ .error (.py e)) := by
  rcases mem_entriesAll.1 hp with h | h
  · exact ⟨fun x hx => entries_error_kinds name p h d f ts x hx, fun e => entries_nopy _ h d f ts (.py e) rfl⟩
  · exact ⟨fun x hx => entries2_error_kinds name p h d f ts x hx, entries2_no_foreign d f _ h ts⟩

/-- **C07.all_entries_fuel_adequate**: no public parsing entry point (all 84) runs out of the shipped budget `fuelFor`, nor of
any larger one, on any token list; `20 + weight` already suffices -/
theorem all_entries_fuel_adequate (name : String) (p : Entry) (hp : (name, p) ∈ entriesAll) (d : Gen.D) (ts : List Tok) :
    p d (fuelFor ts) ts ≠ .error .fuel ∧ (∀ f, fuelFor ts ≤ f → p d f ts ≠ .error .fuel) ∧
    (∀ f, 20 + adqWL ts ≤ f → p d f ts ≠ .error .fuel) := by
  rcases mem_entriesAll.1 hp with h | h
  · exact ⟨entries_fuel_adequate name p h d ts, fun f hf => entries_fuel_adequate_ge name p h d ts f hf,
      fun f hf => fuel_adequate_weight name p h d f ts hf⟩
  · exact ⟨entries2_fuel_adequate name p h d ts, fun f hf => entries2_fuel_adequate_ge name p h d ts f hf,
      fun f hf => entries2_fuel_adequate_weight name p h d f ts hf⟩

/-- the depth of the recursion of every entry point is linear in the size of the token tree (C19) -/
theorem all_entries_recursion_depth_linear (name : String) (p : Entry) (hp : (name, p) ∈ entriesAll) (d : Gen.D) (ts : List Tok)
    (f : Nat) (hf : 20 * sizeL ts + 20 ≤ f) : p d f ts ≠ .error .fuel :=
  (all_entries_fuel_adequate name p hp d ts).2.2 f (by have := adqWL_le ts; omega)

/-- **C07.all_entries_fuel_mono**: for all 84, a result obtained with fuel `f` is the result with every `f' ≥ f`; two budgets
never give two different results -/
theorem all_entries_fuel_mono (name : String) (p : Entry) (hp : (name, p) ∈ entriesAll) (d : Gen.D) (f f' : Nat) (hle : f ≤ f')
    (ts : List Tok) (r : Val × List Tok) (h : p d f ts = .ok r) : p d f' ts = .ok r := by
  rcases mem_entriesAll.1 hp with hm | hm
  · exact entries_mono _ hm d f f' ts r hle h
  · exact entries2_mono _ hm d f f' ts r hle h

theorem all_entries_fuel_deterministic (name : String) (p : Entry) (hp : (name, p) ∈ entriesAll) (d : Gen.D) (f₁ f₂ : Nat)
    (ts : List Tok) (r₁ r₂ : Val × List Tok) (h₁ : p d f₁ ts = .ok r₁) (h₂ : p d f₂ ts = .ok r₂) : r₁ = r₂ :=
  det_of_mono (run := fun f => p d f ts) (fun f f' r hle h => all_entries_fuel_mono name p hp d f f' hle ts r h) h₁ h₂

/-! ## 3. text level: `SQLParser.parse_<entry>(x, sql_type)` for the three kinds of `x` -/

/-- what a run of an entry on a lexed text can answer (shared by the string and the scanner argument) -/
theorem run_outcomes (name : String) (p : Entry) (hp : (name, p) ∈ entriesAll) (d : Gen.D) (src : List Char) (x : Err)
    (h : (match lex Gen.cfgS src with
          | .error e => (.error e : Except Err (Val × Nat))
          | .ok ts => match p d (fuelFor ts) ts with
            | .ok (v, r) => .ok (v, r.length)
            | .error e => .error e) = .error x) :
    x = .lexical ∨ x = .parse ∨ ∃ w, x = .unmodelled w := by
  split at h
  · rename_i e he
    cases h
    exact .inl (lex_error_lexical Oblig.noPyOK_shipped _ _ he)
  · rename_i ts _
    split at h
    · cases h
    · rename_i e he
      cases h
      rcases (all_entries_no_foreign name p hp d _ ts).1 x he with rfl | rfl | hw
      · exact .inr (.inl rfl)
      · exact absurd he (all_entries_fuel_adequate name p hp d ts).1
      · exact .inr (.inr hw)

/-- **C07.entry2_outcomes**: `SQLParser.parse_<entry>(text, sql_type)`, every entry-point NAME (a name outside the 84 is
`.unmodelled`), every dialect, every text: the error, if any, is the lexical error, the parse error, or a named exit from the
modelled fragment — never `.fuel` (the recursion terminates within the budget), never a foreign exception -/
theorem entry2_outcomes (entry : String) (d : Gen.D) (text : List Char) (x : Err) (h : parseText2 entry d text = .error x) :
    x = .lexical ∨ x = .parse ∨ ∃ w, x = .unmodelled w := by
  unfold parseText2 at h
  split at h
  · cases h; exact .inr (.inr ⟨_, rfl⟩)
  · rename_i name p hf
    exact run_outcomes name p (List.mem_of_find?_eq_some hf) d _ x h

theorem entry2_no_foreign (entry : String) (d : Gen.D) (text : List Char) :
    (∀ e, parseText2 entry d text ≠ .error (.py e)) ∧ parseText2 entry d text ≠ .error .fuel := by
  refine ⟨fun e h => ?_, fun h => ?_⟩
  · have := entry2_outcomes entry d text _ h; simp at this
  · have := entry2_outcomes entry d text _ h; simp at this

/-- a `TokenScanner` argument (`_unify_input_scanner` returns it as it is: no dialect pre-pass): same outcomes -/
theorem scanner_argument_outcomes (entry : String) (d : Gen.D) (text : List Char) (x : Err) (h : parseScanner2 entry d text = .error x) :
    x = .lexical ∨ x = .parse ∨ ∃ w, x = .unmodelled w := by
  unfold parseScanner2 at h
  split at h
  · cases h; exact .inr (.inr ⟨_, rfl⟩)
  · rename_i name p hf
    exact run_outcomes name p (List.mem_of_find?_eq_some hf) d _ x h

/-- an argument that is neither a scanner nor a string: the library's parse error, for every one of the 84 -/
theorem other_argument_outcome (name : String) (p : Entry) (hp : (name, p) ∈ entriesAll) (d : Gen.D) : parseOther2 name d = .error .parse := by
  unfold parseOther2
  cases hf : entriesAll.find? (·.1 == name) with
  | some q => rfl
  | none =>
    have := List.find?_eq_none.1 hf (name, p) hp
    simp at this

/-- the string argument and the scanner argument differ only by the dialect pre-pass -/
theorem scanner_argument_is_string_without_prepass (entry : String) (d : Gen.D) (text : List Char)
    (hpre : dialectPre d text = text) : parseScanner2 entry d text = parseText2 entry d text := by
  unfold parseScanner2 parseText2; rw [hpre]

/-- on the 58 names of `entries`, `parseText2` is `parseText` (so every theorem about `parseText` is about `parseText2` there) -/
theorem parseText2_extends (entry : String) (d : Gen.D) (text : List Char) (h : (entries.find? (·.1 == entry)).isSome = true) :
    parseText2 entry d text = parseText entry d text := by
  unfold parseText2 parseText entriesAll
  rw [List.find?_append]
  cases hf : entries.find? (·.1 == entry) with
  | none => simp [hf] at h
  | some q => rfl

/-! ## non-vacuity -/

/-- kernel-evaluated: accepted and rejected inputs of the new entry points (`String` literals are turned into `List Char` by the
lexer input only; the comparisons inside are on token sources) -/
example : (match parseText2 "join_type" .MYSQL "LEFT OUTER JOIN t".toList with | .ok (_, n) => n == 1 | .error _ => false) = true := by decide +kernel
example : (match parseText2 "join_type" .MYSQL "OUTER JOIN t".toList with | .error .parse => true | _ => false) = true := by decide +kernel
example : (match parseText2 "union_type" .MYSQL "SELECT".toList with | .error .parse => true | _ => false) = true := by decide +kernel
example : (match parseText2 "compare_operator" .MYSQL "+ 1".toList with | .error .parse => true | _ => false) = true := by decide +kernel
example : (match parseText2 "compute_operator" .MYSQL "= 1".toList with | .error .parse => true | _ => false) = true := by decide +kernel
example : (match parseText2 "join_expression" .MYSQL "WHERE a".toList with | .error .parse => true | _ => false) = true := by decide +kernel
example : (match parseText2 "wildcard_expression" .MYSQL "t.* x".toList with | .ok (_, n) => n == 1 | .error _ => false) = true := by decide +kernel
example : (match parseText2 "wildcard_expression" .MYSQL "t.a".toList with | .error .parse => true | _ => false) = true := by decide +kernel
example : (match parseText2 "select_clause" .MYSQL "SELECT DISTINCT a b, c FROM t".toList with | .ok (_, n) => n == 2 | .error _ => false) = true := by decide +kernel
example : (match parseText2 "with_table" .MYSQL "w AS (SELECT a FROM t".toList with | .error .lexical => true | _ => false) = true := by decide +kernel
example : (match parseText2 "order_type" .MYSQL "".toList with | .ok (_, n) => n == 0 | .error _ => false) = true := by decide +kernel
example : (match parseText2 "no_such_entry" .MYSQL "a".toList with | .error (.unmodelled _) => true | _ => false) = true := by decide +kernel

/-- compiled evaluation: the 84 names are distinct; every name of `entries` is found by `parseText2`; the dialect pre-pass is
what separates the scanner argument from the string argument (Hive `==`) -/
def names : List String := entriesAll.map (·.1)
#guard names.length == 84
#guard names.eraseDups.length == 84
#guard (entries.map (·.1)).all fun n => (entries.find? (·.1 == n)).isSome
#guard (match parseText2 "where_clause" .HIVE "WHERE a == b".toList, parseScanner2 "where_clause" .HIVE "WHERE a == b".toList with
        | .ok (_, 0), .ok (_, 1) => true | _, _ => false)
#guard names.all fun n => (match parseOther2 n .MYSQL with | .error .parse => true | _ => false)
#guard (match parseText2 "cast_data_type" .MYSQL "varchar (10)".toList with | .ok (_, 1) => true | _ => false)
#guard (match parseText2 "window_row_item" .MYSQL "x PRECEDING".toList with | .error .parse => true | _ => false)
#guard (match parseText2 "grouping_sets" .MYSQL "GROUPING SETS ((a, b), c)".toList with | .ok (_, 0) => true | _ => false)
#guard (match parseText2 "update_set_clause" .MYSQL "SET a = 1, b".toList with | .error .parse => true | _ => false)

end C07
