import MsqProofs.Lemmas.ValPred
import MsqModel.Helpers
import MsqProofs.Lemmas.ParseTextInv
import MsqModel.Driver.ShowVal
/-!
# C11 — trees are immutable, hashable values with structural equality

(a) schema (S, kernel-evaluated on the class table regenerated from `/repo`): every AST dataclass is frozen, uses slots, is hashable
and has exactly the generated `__eq__` / `__hash__` / `__setattr__` (no special method written by hand);
(b) values (H): the generic value of EVERY typed tree — so of everything the parser model returns — contains no list
(`Val.immutable`) and has, at every node, exactly the dataclass fields of its class in order (`Val.wellShaped` against
the regenerated table);
(c) of the property (`toVal` injective, so `==` and `hash` are structural) has no theorem: it is validated on real objects (`IMM`);
(d) helpers: `set_with_clauses`, `set_table_name`, `append_column`, `append_partition_by_column` return a node of the
same class whose fields are immutable when the receiver's and the argument are, and leave the receiver as it was;
and so does `change_type` since /repo 0d6c89d (it stored a list before: F-C11-1, and `append_column` then extended the receiver's
own list: F-C11-2; both are kept as regression examples).

Assumed, not modelled (trusted base, validated on every node by the `IMM` command): CPython rejects attribute assignment on
a frozen dataclass, and hashes / compares dataclasses, tuples, strings and enums structurally.
-/
namespace C11
open Ast Help

/-! ## (a) the class table -/

/-- every dataclass of `core/node.py` (abstract ones included) is `frozen ∧ eq ∧ slots`, is hashable, and writes none of the special
methods `__eq__ / __ne__ / __hash__ / __setattr__ / __delattr__ / __lt__ … / __getattr(ibute)__` by hand: equality, hash and attribute
protection are exactly the ones the dataclass decorator generates from the fields (a hand-written `__eq__` would be kept by the decorator
while `__hash__` is still generated from the raw fields) -/
theorem schema_frozen :
    (Gen.schema.all fun c => c.frozen && c.eq && c.slots && !c.ownSetattr && c.ownSpecial.isEmpty && c.hashable) = true := by decide +kernel

/-- the (class, field names) pairs built by `toVal` are exactly the dataclass fields of the regenerated class table -/
theorem shapes_ok : (shapes.all fun p => Gen.fieldsOf p.1 == some p.2) = true := by decide +kernel

theorem accepts_shape : (shapePred Gen.fieldsOf).Accepts := by
  intro c ns h
  exact List.all_eq_true.1 shapes_ok (c, ns) h

theorem accepts_imm : immPred.Accepts := fun _ _ _ => rfl

/-! ## (b) every tree -/

/-- **C11(b)**: the value of every statement tree holds no mutable container, at any depth -/
theorem stmt_immutable (s : Stmt) : Val.immutable s.toVal = true := ValPred.stmt_sat (Q := immPred) accepts_imm s

/-- every node of every statement tree has exactly the fields of its dataclass, in order -/
theorem stmt_wellShaped (s : Stmt) : Val.wellShaped Gen.fieldsOf s.toVal = true :=
  ValPred.stmt_sat (Q := shapePred Gen.fieldsOf) accepts_shape s

theorem expr_immutable (e : Expr) : Val.immutable e.toVal = true := ValPred.expr_sat (Q := immPred) accepts_imm e
theorem expr_wellShaped (e : Expr) : Val.wellShaped Gen.fieldsOf e.toVal = true :=
  ValPred.expr_sat (Q := shapePred Gen.fieldsOf) accepts_shape e
theorem query_immutable (q : Query) : Val.immutable q.toVal = true := ValPred.query_sat (Q := immPred) accepts_imm q
theorem createTable_immutable (c : CreateTable) : Val.immutable c.toVal = true := ValPred.createTable_sat (Q := immPred) accepts_imm c
theorem defCol_immutable (c : DefCol) : Val.immutable c.toVal = true := ValPred.defCol_sat (Q := immPred) accepts_imm c

/-- **C11(b) on the parser model**: every statement `parse_statements` returns, for every text and dialect -/
theorem parsed_immutable (d : Gen.D) (text : List Char) (ss : List Stmt) (_h : PM.parseStatementsText d text = .ok ss) :
    ∀ s ∈ ss, Val.immutable s.toVal = true ∧ Val.wellShaped Gen.fieldsOf s.toVal = true :=
  fun s _ => ⟨stmt_immutable s, stmt_wellShaped s⟩

/-- **C11(b) on every public entry point** (`SQLParser.parse_<entry>(text, dialect)`: the 57 entries of `PM.entries` other than `statements`): whatever node the parser
model returns is immutable and well-shaped.  (`parse_statements` itself returns a Python list of statements by design; its
elements are covered by `parsed_immutable`.) -/
theorem entry_immutable (entry : String) (d : Gen.D) (text : List Char) (v : Val) (n : Nat)
    (h : PM.parseText entry d text = .ok (v, n)) (hne : entry ≠ "statements") :
    Val.immutable v = true ∧ Val.wellShaped Gen.fieldsOf v = true := by
  obtain ⟨p, ts, r, hmem, -, hp, -⟩ := PM.parseText_ok h
  exact ⟨ValPred.entries_sat (Q := immPred) accepts_imm _ hmem hne _ _ _ _ _ hp,
         ValPred.entries_sat (Q := shapePred Gen.fieldsOf) accepts_shape _ hmem hne _ _ _ _ _ hp⟩

/-- non-vacuity: a text with every statement family is accepted … -/
example : (match PM.parseStatementsText .MYSQL
    "SELECT a, COUNT(*) FROM s.t x JOIN u ON x.a = u.a WHERE b IN (1, 2) GROUP BY a; INSERT INTO t (a) VALUES (1); CREATE TABLE t (a INT(11) NOT NULL COMMENT 'x', PRIMARY KEY (a)) ENGINE=InnoDB; ALTER TABLE t DROP COLUMN a; UPDATE t SET a = 1 WHERE b = 2".toList
    with | .ok ss => ss.length == 5 | .error _ => false) = true := by decide +kernel

/-! ## (d) the copy-and-modify helpers -/

theorem immutableF_dictSet (fs : Fields) (k : String) (v : Val) (hf : Val.immutableF fs = true) (hv : Val.immutable v = true) :
    Val.immutableF (dictSet fs k v) = true := by
  induction fs with
  | nil => simp [dictSet, Val.immutableF, hv]
  | cons p r ih =>
    obtain ⟨n, x⟩ := p
    simp only [Val.immutableF, Bool.and_eq_true] at hf
    unfold dictSet
    split
    · simp [Val.immutableF, hv, hf.2]
    · simp [Val.immutableF, hf.1, ih hf.2]

theorem immutable_dictGet (fs : Fields) (k : String) (v : Val) (hf : Val.immutableF fs = true) (hg : dictGet fs k = some v) :
    Val.immutable v = true := by
  induction fs with
  | nil => simp [dictGet] at hg
  | cons p r ih =>
    obtain ⟨n, x⟩ := p
    simp only [Val.immutableF, Bool.and_eq_true] at hf
    unfold dictGet at hg
    split at hg
    · injection hg with hg
      rw [← hg]
      exact hf.1
    · exact ih hf.2 hg

theorem not_immutableF_dictSet (fs : Fields) (k : String) (v : Val) (hv : Val.immutable v = false) :
    Val.immutableF (dictSet fs k v) = false := by
  induction fs with
  | nil => simp [dictSet, Val.immutableF, hv]
  | cons p r ih =>
    obtain ⟨n, x⟩ := p
    unfold dictSet
    split
    · simp [Val.immutableF, hv]
    · simp [Val.immutableF, ih]

/-- `set_with_clauses`: same class, and immutable when receiver and argument are -/
theorem setWithClauses_spec (self w r : Val) (h : setWithClauses self w = .ok r) :
    clsOf r = clsOf self ∧ (Val.immutable self = true → Val.immutable w = true → Val.immutable r = true) := by
  unfold setWithClauses at h
  split at h
  · split at h
    · injection h with h
      subst h
      refine ⟨rfl, ?_⟩
      intro hs hw
      simp only [Val.immutable] at hs ⊢
      exact immutableF_dictSet _ _ _ hs hw
    · cases h
  · cases h

/-- `set_table_name`: same class, and immutable when receiver and argument are -/
theorem setTableName_spec (self t r : Val) (h : setTableName self t = .ok r) :
    clsOf r = clsOf self ∧ (Val.immutable self = true → Val.immutable t = true → Val.immutable r = true) := by
  unfold setTableName at h
  split at h
  · split at h
    · injection h with h
      subst h
      refine ⟨rfl, ?_⟩
      intro hs hw
      simp only [Val.immutable] at hs ⊢
      exact immutableF_dictSet _ _ _ hs hw
    · cases h
  · cases h

theorem immutableL_append (xs : List Val) (c : Val) (hx : Val.immutableL xs = true) (hc : Val.immutable c = true) :
    Val.immutableL (xs ++ [c]) = true := by
  induction xs with
  | nil => simp [Val.immutableL, hc]
  | cons x r ih =>
    simp only [Val.immutableL, Bool.and_eq_true] at hx
    simp [Val.immutableL, hx.1, ih hx.2]

/-- `append_column` / `append_partition_by_column` on an immutable receiver: same class, the receiver is left as it was, the
result is immutable -/
theorem appendTo_spec (field : String) (self col r self' : Val) (h : appendTo field self col = .ok (r, self'))
    (hs : Val.immutable self = true) (hc : Val.immutable col = true) :
    clsOf r = clsOf self ∧ self' = self ∧ Val.immutable r = true := by
  unfold appendTo at h
  split at h
  · rename_i cls fs
    split at h
    · simp only [Val.immutable] at hs
      split at h
      · rename_i xs hg
        injection h with h
        injection h with h1 h2
        subst h1; subst h2
        refine ⟨rfl, rfl, ?_⟩
        have hx := immutable_dictGet _ _ _ hs hg
        simp only [Val.immutable] at hx ⊢
        exact immutableF_dictSet _ _ _ hs (by simp only [Val.immutable]; exact immutableL_append _ _ hx hc)
      · rename_i xs hg
        have hx := immutable_dictGet _ _ _ hs hg
        simp [Val.immutable] at hx
      · cases h
    · cases h
  · cases h

theorem appendColumn_spec (self col r self' : Val) (h : appendColumn self col = .ok (r, self'))
    (hs : Val.immutable self = true) (hc : Val.immutable col = true) :
    clsOf r = clsOf self ∧ self' = self ∧ Val.immutable r = true := appendTo_spec _ _ _ _ _ h hs hc

theorem appendPartitionByColumn_spec (self col r self' : Val) (h : appendPartitionByColumn self col = .ok (r, self'))
    (hs : Val.immutable self = true) (hc : Val.immutable col = true) :
    clsOf r = clsOf self ∧ self' = self ∧ Val.immutable r = true := appendTo_spec _ _ _ _ _ h hs hc

theorem changeTypeWith_cls (mk : List Val → Val) (self r : Val) (hm : List (String × String)) (rp : Bool)
    (h : changeTypeWith mk self hm rp = .ok r) : clsOf r = clsOf self := by
  unfold changeTypeWith at h
  split at h
  · split at h
    · split at h
      · split at h
        · cases h
        · injection h with h; subst h; rfl
      · split at h
        · cases h
        · injection h with h; subst h; rfl
      · cases h
    · cases h
  · cases h

theorem changeColumn_immutable (hm : List (String × String)) (rp : Bool) (old new : Val) (ho : Val.immutable old = true)
    (h : changeColumn hm rp old = .ok new) : Val.immutable new = true := by
  unfold changeColumn at h
  split at h
  · rename_i ccls cfs
    simp only [Val.immutable] at ho
    split at h
    · rename_i tcls tfs hct
      have ht := immutable_dictGet _ _ _ ho hct
      simp only [Val.immutable] at ht
      split at h
      · split at h
        · cases h
        · injection h with h; subst h
          simp only [Val.immutable]
          apply immutableF_dictSet _ _ _ ho
          cases rp with
          | true => simp [Val.immutable, Val.immutableF]
          | false =>
            cases hp : dictGet tfs "params" with
            | none => simp [Val.immutable, Val.immutableF]
            | some pv =>
              have := immutable_dictGet _ _ _ ht hp
              simp [Val.immutable, Val.immutableF, this]
      · cases h
    · cases h
  · cases h

theorem changeColumns_immutable (hm : List (String × String)) (rp : Bool) :
    ∀ (cols new : List Val), Val.immutableL cols = true → changeColumns hm rp cols = .ok new → Val.immutableL new = true
  | [], new, _, h => by
    simp only [changeColumns] at h
    injection h with h; subst h; rfl
  | c :: r, new, hc, h => by
    simp only [Val.immutableL, Bool.and_eq_true] at hc
    unfold changeColumns at h
    split at h
    · cases h
    · rename_i c' hc'
      split at h
      · cases h
      · rename_i r' hr'
        injection h with h; subst h
        simp [Val.immutableL, changeColumn_immutable hm rp c c' hc.1 hc', changeColumns_immutable hm rp r r' hc.2 hr']

/-- `change_type` (every map, both values of `remove_param`): the result of an immutable receiver is immutable -/
theorem changeType_immutable (self r : Val) (hm : List (String × String)) (rp : Bool)
    (hs : Val.immutable self = true) (h : changeType self hm rp = .ok r) : Val.immutable r = true := by
  unfold changeType changeTypeWith at h
  split at h
  · rename_i cls fs
    simp only [Val.immutable] at hs
    split at h
    · split at h
      · rename_i cols hg
        have hx := immutable_dictGet _ _ _ hs hg
        simp only [Val.immutable] at hx
        split at h
        · cases h
        · rename_i cols' hc'
          injection h with h; subst h
          simp only [Val.immutable]
          exact immutableF_dictSet _ _ _ hs (by simp only [Val.immutable]; exact changeColumns_immutable hm rp _ _ hx hc')
      · rename_i cols hg
        have hx := immutable_dictGet _ _ _ hs hg
        simp [Val.immutable] at hx
      · cases h
    · cases h
  · cases h

/-! ### witnesses on a parsed table -/

/-- the parsed statement `CREATE TABLE t (a INT(11), b VARCHAR(8) COMMENT 'x')` -/
def sample : Val :=
  match PM.parseStatementsText .MYSQL "CREATE TABLE t (a INT(11), b VARCHAR(8) COMMENT 'x')".toList with
  | .ok [s] => s.toVal
  | _ => .none

def zCol : Val := (DefCol.toVal { name := "z", type := ⟨"BIGINT", none⟩ })

/-- `append_column` after `change_type`: the receiver (the result of `change_type`) is left as it was and the result is immutable —
for every immutable table, every map and every column -/
theorem append_after_change_type (self c col r c' : Val) (hm : List (String × String)) (rp : Bool)
    (hs : Val.immutable self = true) (hcol : Val.immutable col = true)
    (h1 : changeType self hm rp = .ok c) (h2 : appendColumn c col = .ok (r, c')) :
    c' = c ∧ Val.immutable r = true ∧ clsOf r = clsOf self := by
  have hc := changeType_immutable self c hm rp hs h1
  obtain ⟨e1, e2, e3⟩ := appendColumn_spec c col r c' h2 hc hcol
  exact ⟨e2, e3, by rw [e1, changeTypeWith_cls _ self c hm rp h1]⟩

/-- regression example for F-C11-1 (fixed in /repo 0d6c89d): `change_type(HASHMAP_MYSQL_TO_HIVE)` on the parsed sample gives an
immutable, well-shaped statement (no list at `columns`) -/
theorem regress_change_type_hashable :
    (match changeType sample Gen.mysqlToHive true with
     | .ok r => clsOf r == some "ASTCreateTableStatement" && Val.immutable r && firstList r == none && Val.wellShaped Gen.fieldsOf r
     | .error _ => false) = true := by decide +kernel

/-- regression example for F-C11-2 (fixed in /repo 0d6c89d): `append_column` on a result of `change_type` leaves it with its two columns -/
theorem regress_append_keeps_receiver :
    (match changeType sample Gen.mysqlToHive true with
     | .ok c =>
       (match appendColumn c zCol with
        | .ok (r, c') => Drv.showVal c' == Drv.showVal c && Drv.showVal r != Drv.showVal c && Val.immutable r
        | .error _ => false)
     | .error _ => false) = true := by decide +kernel

/-- non-vacuity of `appendColumn_spec` / `setTableName_spec`: on the parsed (immutable) sample the helpers succeed -/
example : (match appendColumn sample zCol with | .ok (r, s') => Val.immutable r && Drv.showVal s' == Drv.showVal sample | .error _ => false) = true := by
  decide +kernel
example : (match setTableName sample (tableNameVal (some "db") "u") with | .ok r => Val.immutable r | .error _ => false) = true := by
  decide +kernel

end C11
