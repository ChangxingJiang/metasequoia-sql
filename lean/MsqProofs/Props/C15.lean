import MsqModel.Analyze.Columns
import MsqModel.Analyze.ColumnsSpec
import MsqProofs.Lemmas.Dict
/-!
# C15 — per-clause column usage is exact, level-local and resolves aliases and ordinals
-/
namespace C15
open Ast AN Spec

abbrev R (l : List QCol) : Except Err (List QCol) := .ok l

/-- the model's test (`column_name.upper()` in the repository's `GLOBAL_VARIABLE_NAME_SET`, no qualifier) is the
specification's: an unqualified dialect variable in any letter case -/
theorem isGlobalVariable_eq (t : Option String) (c : String) : isGlobalVariable t c = isGlobal t c :=
  -- the repository's list is the three names with a blank followed by the three with `_`, the specification's the reverse
  congrArg (t.isNone && ·) (List.Perm.contains_eq
    (List.perm_append_comm (l₁ := ["CURRENT DATE", "CURRENT TIME", "CURRENT TIMESTAMP"])))

/-- the class of a CASE arm is none of the special-cased classes -/
def plainClass (cls : String) : Bool :=
  !(cls == "ASTAggregationFunction" || cls == "ASTWildcardExpression" || cls == "ASTColumnNameExpression"
    || cls == "ASTGroupByClause" || cls == "ASTOrderByClause" || cls == "ASTSubQueryExpression" || cls == "ASTWithClause")

/-! ## the reflective walk: a node of a class that is not special is the concatenation over its fields (the combinators of `Props/C14.lean`, for `nodeColsV`) -/

theorem fnil : nodeColsF [] = R [] := rfl
theorem fcons {n : String} {v : Val} {r : List (String × Val)} {x y : List QCol}
    (h1 : nodeColsV v = R x) (h2 : nodeColsF r = R y) : nodeColsF ((n, v) :: r) = R (x ++ y) := by
  simp only [nodeColsF, h1, h2, R, bind, Except.bind, pure, Except.pure]
theorem fskip {n : String} {v : Val} {r : List (String × Val)} {y : List QCol}
    (h1 : nodeColsV v = R []) (h2 : nodeColsF r = R y) : nodeColsF ((n, v) :: r) = R y := fcons h1 h2
theorem flast {n : String} {v : Val} {r : List (String × Val)} {x : List QCol}
    (h1 : nodeColsV v = R x) (h2 : nodeColsF r = R []) : nodeColsF ((n, v) :: r) = R x :=
  (fcons h1 h2).trans (congrArg R (List.append_nil x))
theorem lnil : nodeColsL [] = R [] := rfl
theorem lcons {v : Val} {r : List Val} {x y : List QCol}
    (h1 : nodeColsV v = R x) (h2 : nodeColsL r = R y) : nodeColsL (v :: r) = R (x ++ y) := by
  simp only [nodeColsL, h1, h2, R, bind, Except.bind, pure, Except.pure]
theorem tuple_ok {xs : List Val} {x : List QCol} (h : nodeColsL xs = R x) : nodeColsV (.tuple xs) = R x := h
/-- the class test is left to `simp`, which compares string literals directly (`decide` and `rfl` unfold the comparison) -/
theorem node_ok {cls : String} {fs : List (String × Val)} {x : List QCol}
    (h2 : nodeColsF fs = R x) (h : plainClass cls = true := by simp [plainClass]) : nodeColsV (.node cls fs) = R x := by
  simp only [plainClass, Bool.not_eq_true', Bool.or_eq_false_iff] at h
  rw [nodeColsV]
  simp only [h, Bool.false_eq_true, if_false, Bool.or_false, h2]

theorem ints_ok : ∀ l : List Int, nodeColsL (l.map Val.int) = .ok []
  | [] => lnil
  | a :: r => lcons (v := .int a) rfl (ints_ok r)
theorem strs_ok : ∀ l : List String, nodeColsL (l.map Val.str) = .ok []
  | [] => lnil
  | a :: r => lcons (v := .str a) rfl (strs_ok r)

theorem optStr_nil : ∀ s : Option String, nodeColsV (Val.optStr s) = R []
  | none | some _ => rfl
theorem fnName_nil (s : Option String) (n : String) : nodeColsV (fnName s n) = R [] :=
  node_ok (fskip (optStr_nil s) (fskip rfl fnil))
theorem enumNode_nil {cls e o : String} (h : plainClass cls = true := by simp [plainClass]) :
    nodeColsV (.node cls [("enum", .enum e o)]) = R [] :=
  node_ok (fskip rfl fnil) h
theorem rowItem_nil : ∀ a : RowItem, nodeColsV a.toVal = R []
  | .current | .unbounded _ | .num _ _ => node_ok (fskip rfl (fskip rfl (fskip rfl fnil)))

attribute [local simp] nodeColsV nodeColsL nodeColsF getattr bind Except.bind pure Except.pure
  Val.optStr Val.ofOpt optStrOf

theorem columnNode_ok (t : Option String) (n : String) :
    nodeColsV (.node "ASTColumnNameExpression" [("table_name", Val.optStr t), ("column_name", .str n)])
      = R (if isGlobal t n then [] else [⟨t, some n, none⟩]) := by
  cases t <;> simp [isGlobalVariable_eq] <;> split <;> simp_all
theorem wildcardNode_ok (t : Option String) :
    nodeColsV (.node "ASTWildcardExpression" [("table_name", Val.optStr t)]) = R [⟨t, some "*", none⟩] := by
  cases t <;> simp
theorem aggNode_ok {fs : List (String × Val)} {x : List QCol} (h : nodeColsF fs = R x) :
    nodeColsV (.node "ASTAggregationFunction" fs) = R (if x.length > 0 then x else [anon]) := by
  simp [h, anon]
  split <;> rfl
theorem subQueryNode_nil (fs : List (String × Val)) : nodeColsV (.node "ASTSubQueryExpression" fs) = R [] := by
  simp

mutual
theorem expr_ok : ∀ e : Expr, nodeColsV e.toVal = R (colsE e)
  | .column t n => columnNode_ok t n
  | .literal _ | .mybatis _ => node_ok (fskip rfl fnil)
  | .wildcard t => wildcardNode_ok t
  | .func s n ps => node_ok (fskip (fnName_nil s n) (flast (tuple_ok (exprs_ok ps)) fnil))
  | .agg n ps _ => aggNode_ok (fskip (fnName_nil none n) (flast (tuple_ok (exprs_ok ps)) (fskip rfl fnil)))
  | .cast e _ _ none => node_ok (fskip (fnName_nil _ _) (flast (expr_ok e)
      (fskip (node_ok (fskip rfl (fskip rfl (fskip rfl fnil)))) fnil)))
  | .cast e _ _ (some l) => node_ok (fskip (fnName_nil _ _) (flast (expr_ok e)
      (fskip (node_ok (fskip rfl (fskip rfl (fskip (tuple_ok (ints_ok l)) fnil)))) fnil)))
  | .extract n e => node_ok (fskip (fnName_nil _ _) (fcons (expr_ok n) (flast (expr_ok e) fnil)))
  | .window fn part ord none =>
    (node_ok (fcons (expr_ok fn) (fcons (tuple_ok (exprs_ok part)) (flast (tuple_ok (orders_ok ord)) (fskip rfl fnil))))).trans
      (congrArg R (List.append_assoc ..).symm)
  | .window fn part ord (some (a, b)) =>
    (node_ok (fcons (expr_ok fn) (fcons (tuple_ok (exprs_ok part)) (flast (tuple_ok (orders_ok ord))
      (fskip (node_ok (fskip (rowItem_nil a) (fskip (rowItem_nil b) fnil))) fnil))))).trans
      (congrArg R (List.append_assoc ..).symm)
  | .caseCond cs els => node_ok (fcons (tuple_ok (arms_ok "ASTCaseConditionItem" (by simp [plainClass]) cs)) (flast (optExpr_ok els) fnil))
  | .caseVal v cs els =>
    (node_ok (fcons (expr_ok v) (fcons (tuple_ok (arms_ok "ASTCaseValueItem" (by simp [plainClass]) cs)) (flast (optExpr_ok els) fnil)))).trans
      (congrArg R (List.append_assoc ..).symm)
  | .subValue vs => node_ok (flast (tuple_ok (exprs_ok vs)) fnil)
  | .subQuery _ => subQueryNode_nil _
  | .exists_ e | .not_ e => node_ok (flast (expr_ok e) fnil)
  | .unary _ e => node_ok (fskip enumNode_nil (flast (expr_ok e) fnil))
  | .index l r | .and_ l r | .xor l r | .or_ l r => node_ok (fcons (expr_ok l) (flast (expr_ok r) fnil))
  | .compute l _ r | .compare _ l r => node_ok (fcons (expr_ok l) (flast (expr_ok r) (fskip enumNode_nil fnil)))
  | .kw k _ l r => node_ok (fskip rfl (fcons (expr_ok l) (flast (expr_ok r) fnil))) (by cases k <;> simp [plainClass, KwKind.cls])
  | .between _ b f t =>
    (node_ok (fskip rfl (fcons (expr_ok b) (fcons (expr_ok f) (flast (expr_ok t) fnil))))).trans
      (congrArg R (List.append_assoc ..).symm)
theorem exprs_ok : ∀ es : List Expr, nodeColsL (exprs es) = R (colsEs es)
  | [] => lnil
  | e :: r => lcons (expr_ok e) (exprs_ok r)
theorem optExpr_ok : ∀ e : Option Expr, nodeColsV (optExpr e) = R (colsOE e)
  | none => rfl
  | some e => expr_ok e
theorem arms_ok (cls : String) (hc : plainClass cls = true) :
    ∀ cs : List (Expr × Expr), nodeColsL (arms cls cs) = R (colsArms cs)
  | [] => lnil
  | (w, t) :: r => lcons (node_ok (fcons (expr_ok w) (flast (expr_ok t) fnil)) hc) (arms_ok cls hc r)
theorem order_ok : ∀ o : OrderItem, nodeColsV o.toVal = R (colsO o)
  | .mk e _ _ _ => node_ok (flast (expr_ok e) (fskip enumNode_nil (fskip rfl (fskip rfl fnil))))
theorem orders_ok : ∀ os : List OrderItem, nodeColsL (orders os) = R (colsOs os)
  | [] => lnil
  | o :: r => lcons (order_ok o) (orders_ok r)
end

/-! ## clause level -/

theorem exprLists_ok : ∀ l : List (List Expr), nodeColsL (exprLists l) = R (colsEss l)
  | [] => lnil
  | g :: r => lcons (tuple_ok (exprs_ok g)) (exprLists_ok r)

theorem alias_nil : ∀ a : Option String, nodeColsV (alias a) = R []
  | none => rfl
  | some _ => node_ok (fskip rfl fnil)

theorem selectCols_ok : ∀ cs : List (Expr × Option String), nodeColsL (selectCols cs) = R (colsSelectItems cs)
  | [] => lnil
  | (e, a) :: r => lcons (node_ok (flast (expr_ok e) (fskip (alias_nil a) fnil))) (selectCols_ok r)

theorem selectClause_ok (dist : Bool) (cols : List (Expr × Option String)) :
    nodeColsV (selectClauseVal dist cols) = R (colsSelectItems cols) :=
  node_ok (fskip rfl (flast (tuple_ok (selectCols_ok cols)) fnil))

/-- a FROM / JOIN table reference contributes no column: a table name has none, a derived table is a nested query -/
theorem fromTable_nil : ∀ t : FromTable, nodeColsV t.toVal = R []
  | .mk (.table s _) a => node_ok (fskip (node_ok (fskip (optStr_nil s) (fskip rfl fnil))) (fskip (alias_nil a) fnil))
  | .mk (.sub _) a => node_ok (fskip (subQueryNode_nil _) (fskip (alias_nil a) fnil))

theorem fromTables_nil : ∀ ts : List FromTable, nodeColsL (fromTables ts) = R []
  | [] => lnil
  | t :: r => lcons (fromTable_nil t) (fromTables_nil r)

theorem join_ok : ∀ j : Join, nodeColsV j.toVal = R (colsJoin j)
  | .mk _ t none => node_ok (fskip enumNode_nil (fskip (fromTable_nil t) (fskip rfl fnil)))
  | .mk _ t (some (.on e)) | .mk _ t (some (.using e)) =>
    node_ok (fskip enumNode_nil (fskip (fromTable_nil t) (flast (node_ok (flast (expr_ok e) fnil)) fnil)))

theorem joins_ok : ∀ js : List Join, nodeColsL (joins js) = R (colsJoins js)
  | [] => lnil
  | j :: r => lcons (join_ok j) (joins_ok r)

theorem where_ok : ∀ wh : Option Expr, nodeColsV (whereClauseVal wh) = R (colsOE wh)
  | none => rfl
  | some e => node_ok (flast (expr_ok e) fnil)

theorem having_ok : ∀ hv : Option Expr, nodeColsV (havingClauseVal hv) = R (colsOE hv)
  | none => rfl
  | some e => node_ok (flast (expr_ok e) fnil)

/-- the only texts outside the modelled fragment: an integer-looking literal written with non-ASCII digits (Python's `\d`
and `int()` accept them).  Every other item — in particular every non-literal — satisfies this. -/
def OrdinalFaithful : Expr → Prop
  | .literal v => ∃ k, ordinalOfSource v = .ok k
  | _ => True

theorem ordinalOrCols_ok (e : Expr) (v : Val) (h : OrdinalFaithful e) (hv : nodeColsV v = R (colsE e)) :
    ordinalOrCols e v = R (itemRefs e) := by
  unfold ordinalOrCols itemRefs
  cases e with
  | literal s =>
    obtain ⟨k, hk⟩ := h
    simp only [hk, ordinalOfExpr, bind, Except.bind]
    cases k <;> simp [hv]
  | _ => exact hv

theorem groupItems_ok : ∀ es : List Expr, (∀ e ∈ es, OrdinalFaithful e) → groupItems es = R (colsGroupItems es)
  | [], _ => by simp [groupItems, colsGroupItems]
  | e :: r, h => by
    have h1 := ordinalOrCols_ok e e.toVal (h e (by simp)) (expr_ok e)
    have h2 := groupItems_ok r (fun x hx => h x (by simp [hx]))
    simp [groupItems, colsGroupItems, h1, h2]

def groupItemsOf : Option GroupBy → List Expr
  | none => []
  | some (.mk cols _ _ _) => cols

theorem group_ok : ∀ gb : Option GroupBy, (∀ e ∈ groupItemsOf gb, OrdinalFaithful e) → nodeColsGroup gb = R (colsGroup gb)
  | none, _ => by simp [nodeColsGroup, colsGroup]
  | some (.mk cols none _ _), h => by simp [nodeColsGroup, colsGroup, groupItems_ok cols h]
  | some (.mk cols (some l) _ _), h => by simp [nodeColsGroup, colsGroup, groupItems_ok cols h, exprLists_ok l]

def orderExprs : Option (List OrderItem) → List Expr
  | none => []
  | some l => l.map fun | .mk e _ _ _ => e

theorem orderItems_ok : ∀ os : List OrderItem, (∀ e ∈ orderExprs (some os), OrdinalFaithful e) → orderItems os = R (colsOrderItems os)
  | [], _ => by simp [orderItems, colsOrderItems]
  | .mk e d nf nl :: r, h => by
    have h1 := ordinalOrCols_ok e (OrderItem.mk e d nf nl).toVal (h e (by simp [orderExprs])) (order_ok (.mk e d nf nl))
    have h2 := orderItems_ok r (fun x hx => h x (by simp [orderExprs] at hx ⊢; exact Or.inr hx))
    simp [orderItems, colsOrderItems, h1, h2]

theorem order_clause_ok : ∀ ob : Option (List OrderItem), (∀ e ∈ orderExprs ob, OrdinalFaithful e) → nodeColsOrder ob = R (colsOrder ob)
  | none, _ => by simp [nodeColsOrder, colsOrder]
  | some l, h => by simp [nodeColsOrder, colsOrder, orderItems_ok l h]

/-! ## alias / ordinal substitution -/

def aliasStep (c : QCol) (a : Option (List QCol)) (it : Expr × Option String) : Option (List QCol) :=
  match it.2 with
  | some al => if (⟨none, some al, none⟩ : QCol) == c then some (colsE it.1) else a
  | none => a

theorem aliasHash_ok : ∀ (items : List (Expr × Option String)) (acc : List (QCol × List QCol)),
    ∃ d, aliasHash items acc = .ok d ∧ ∀ c, dictGet? d c = items.foldl (aliasStep c) (dictGet? acc c)
  | [], acc => ⟨acc, by simp [aliasHash], by simp⟩
  | (e, none) :: r, acc => by
    obtain ⟨d, h1, h2⟩ := aliasHash_ok r acc
    exact ⟨d, by simp [aliasHash, h1], by intro c; simp [h2 c, aliasStep]⟩
  | (e, some a) :: r, acc => by
    obtain ⟨d, h1, h2⟩ := aliasHash_ok r (dictSet acc ⟨none, some a, none⟩ (colsE e))
    refine ⟨d, by simp [aliasHash, expr_ok e, h1], ?_⟩
    intro c
    rw [h2 c, dictGet?_dictSet]
    simp [aliasStep]

theorem key_ne {t n : Option String} {ix : Option Int} (c : QCol) (h : c.table ≠ t ∨ c.name ≠ n ∨ c.idx ≠ ix) :
    ((⟨t, n, ix⟩ : QCol) == c) = false := by
  rw [beq_eq_false_iff_ne]
  rintro rfl
  simp at h

/-- the ordinal step: the item at (0-based) position `i` answers for key `i + 1` -/
theorem indexHash_ok : ∀ (items : List (Expr × Option String)) (i : Nat) (acc : List (QCol × List QCol)),
    ∃ d, indexHash items i acc = .ok d ∧
      (∀ k : Int, dictGet? d ⟨none, none, some k⟩ =
        if (i : Int) < k then ((items[(k - i - 1).toNat]?).map (fun it => colsE it.1)).or (dictGet? acc ⟨none, none, some k⟩)
        else dictGet? acc ⟨none, none, some k⟩) ∧
      (∀ c : QCol, (c.table ≠ none ∨ c.name ≠ none ∨ c.idx = none) → dictGet? d c = dictGet? acc c)
  | [], i, acc => ⟨acc, by simp [indexHash], by intro k; simp, by simp⟩
  | (e, a) :: r, i, acc => by
    obtain ⟨d, h1, h2, h3⟩ := indexHash_ok r (i + 1) (dictSet acc ⟨none, none, some (Int.ofNat (i + 1))⟩ (colsE e))
    refine ⟨d, ?_, ?_, ?_⟩
    · unfold indexHash
      simp only [expr_ok e, R, bind, Except.bind]
      exact h1
    · intro k
      rw [h2 k, dictGet?_dictSet]
      by_cases hk : k = (i : Int) + 1
      · subst hk
        have : ((i : Int) + 1 - i - 1).toNat = 0 := by omega
        simp [this]
        omega
      · rw [key_ne _ (by simp; omega)]
        simp only [Bool.false_eq_true, if_false]
        by_cases hlt : ((i + 1 : Nat) : Int) < k
        · have : (k - (i : Int) - 1).toNat = (k - ((i + 1 : Nat) : Int) - 1).toNat + 1 := by omega
          rw [if_pos hlt, if_pos (by omega), this, List.getElem?_cons_succ]
        · rw [if_neg hlt, if_neg (by omega)]
    · intro c hc
      rw [h3 c hc, dictGet?_dictSet, key_ne c (by rcases hc with h | h | h <;> simp [h])]
      simp

theorem aliasStep_alias (n : String) :
    aliasStep ⟨none, some n, none⟩ = fun acc it => if it.2 == some n then some (colsE it.1) else acc := by
  funext acc ⟨e, a⟩
  cases a <;> simp [aliasStep]

theorem aliasFold_other (c : QCol) (hc : c.table ≠ none ∨ c.name = none ∨ c.idx ≠ none) :
    ∀ (items : List (Expr × Option String)) (init : Option (List QCol)), items.foldl (aliasStep c) init = init
  | [], _ => rfl
  | (_, none) :: r, init => aliasFold_other c hc r init
  | (_, some al) :: r, init => by
    simp only [List.foldl_cons, aliasStep]
    rw [key_ne c (by rcases hc with h | h | h <;> simp [h])]
    exact aliasFold_other c hc r init

theorem dictGet_nil (c : QCol) : dictGet? ([] : List (QCol × List QCol)) c = none := rfl

theorem formatOne_other {items : List (Expr × Option String)} {da di : List (QCol × List QCol)}
    (ha : ∀ c, dictGet? da c = items.foldl (aliasStep c) none)
    (hi : ∀ c : QCol, (c.table ≠ none ∨ c.name ≠ none ∨ c.idx = none) → dictGet? di c = none) (c : QCol)
    (h1 : c.table ≠ none ∨ c.name = none ∨ c.idx ≠ none) (h2 : c.table ≠ none ∨ c.name ≠ none ∨ c.idx = none) :
    formatOne da di c = [c] := by
  simp only [formatOne, ha, aliasFold_other c h1, hi c h2]

/-- **`_format_quote_columns` is `resolve`**: alias lookup (last item carrying the alias), then position lookup, else unchanged -/
theorem format_ok (s : Select) (q : List QCol) : formatQuoteColumns q s = .ok (resolve (Select.cols s) q) := by
  obtain ⟨da, ha1, ha2⟩ := aliasHash_ok (Select.cols s) []
  obtain ⟨di, hi1, hi2, hi3⟩ := indexHash_ok (Select.cols s) 0 []
  unfold formatQuoteColumns
  simp only [ha1, hi1, bind, Except.bind, pure, Except.pure]
  congr 1
  have hstep : ∀ c, formatOne da di c = resolve1 (Select.cols s) c
    | ⟨some _, _, _⟩ | ⟨none, some _, some _⟩ | ⟨none, none, none⟩ => formatOne_other ha2 hi3 _ (by simp) (by simp)
    | ⟨none, some n, none⟩ => by
      rw [formatOne, ha2, aliasStep_alias, dictGet_nil, hi3 _ (by simp), dictGet_nil]
      simp only [resolve1, aliasRefs]
      cases List.foldl (fun acc it => if it.2 == some n then some (colsE it.1) else acc) none (Select.cols s) <;> simp
    | ⟨none, none, some k⟩ => by
      rw [formatOne, ha2, aliasFold_other _ (by simp), dictGet_nil, hi2 k, dictGet_nil]
      have : k - ((0 : Nat) : Int) - 1 = k - 1 := by omega
      simp only [resolve1, ordinalRefs, Option.or_none, this]
      by_cases h1 : 1 ≤ k
      · rw [if_pos h1, if_pos (by omega)]
        cases (Select.cols s)[(k - 1).toNat]? <;> rfl
      · rw [if_neg h1, if_neg (by omega)]
        rfl
  induction q with
  | nil => rfl
  | cons c r ih =>
    simp only [formatLoop, resolve, List.flatMap_cons] at ih ⊢
    rw [hstep, ih]

/-- the top-level SELECT branches of a query (`Spec.branches`, which `TablesSpec.lean` defines for C14: `branchesOf_eq` in `Props/C15T.lean`) -/
def branchesOf : Query → List Select
  | .single s => [s]
  | .union _ s us => s :: us.map (·.2)

/-! ## the statements -/

/-- the ordinal test is faithful on the GROUP BY items of `s` (true whenever they are literals or do not print as integers) -/
def GroupFaithful : Select → Prop
  | .mk _ _ _ _ _ _ _ gb _ _ _ _ _ _ => ∀ e ∈ groupItemsOf gb, OrdinalFaithful e
def OrderFaithful : Select → Prop
  | .mk _ _ _ _ _ _ _ _ _ ob _ _ _ _ => ∀ e ∈ orderExprs ob, OrdinalFaithful e

/-- **the excluded case of F-C15-1**: no reference written in clause `c` is rewritten by the alias / position
substitution, i.e. none is an unqualified name equal to a select-list alias -/
def Clean (c : Clause) (s : Select) : Prop := ∀ r ∈ colsOf c s, resolve1 (Select.cols s) r = [r]

/-- **the excluded Hive clauses**: the SELECT has no LATERAL VIEW, SORT BY, DISTRIBUTE BY or CLUSTER BY (their references are
reported by the all-clauses analyzer although they belong to none of the six clauses).  WITH tables are no longer excluded:
since bed929d the collection does not enter the WITH clause (F-C15-2, fixed). -/
def Plain : Select → Prop
  | .mk _ _ _ _ lats _ _ _ _ _ sb db cb _ => lats = [] ∧ sb = none ∧ db = none ∧ cb = none

/-- what each clause analyzer passes to the substitution: exactly the references written in that clause
(level-local: `colsOf` never looks into a sub-query) -/
theorem clause_select (s : Select) : clauseCols .select s = .ok (colsOf .select s) := by
  cases s with
  | mk _ dist cols => exact selectClause_ok dist cols
theorem clause_join (s : Select) : clauseCols .join s = .ok (colsOf .join s) := by
  cases s; exact tuple_ok (joins_ok _)
theorem clause_where (s : Select) : clauseCols .where_ s = .ok (colsOf .where_ s) := by
  cases s; exact where_ok _
theorem clause_having (s : Select) : clauseCols .having s = .ok (colsOf .having s) := by
  cases s; exact having_ok _
theorem clause_group (s : Select) (h : GroupFaithful s) : clauseCols .group s = .ok (colsOf .group s) := by
  cases s; exact group_ok _ h
theorem clause_order (s : Select) (h : OrderFaithful s) : clauseCols .order s = .ok (colsOf .order s) := by
  cases s; exact order_clause_ok _ h

theorem resolve_clean (items : List (Expr × Option String)) :
    ∀ refs : List QCol, (∀ r ∈ refs, resolve1 items r = [r]) → resolve items refs = refs
  | [], _ => rfl
  | r :: rest, h => by
    have h1 := h r (by simp)
    have h2 := resolve_clean items rest (fun x hx => h x (by simp [hx]))
    simp only [resolve, List.flatMap_cons] at h2 ⊢
    rw [h1, h2]; rfl

theorem resolve_append (items : List (Expr × Option String)) (a b : List QCol) :
    resolve items (a ++ b) = resolve items a ++ resolve items b := by
  simp [resolve, List.flatMap_append]

theorem run_ok (c : Clause) (s : Select) (h : clauseCols c s = .ok (colsOf c s)) :
    currentColsSelect c s = .ok (resolve (Select.cols s) (colsOf c s)) := by
  simp [currentColsSelect, h, format_ok]

/-- **GROUP BY, HAVING, ORDER BY**: exactly the references written in the clause, aliases and positions replaced by the
references of the select item they denote -/
theorem group_exact (s : Select) (h : GroupFaithful s) : currentColsSelect .group s = .ok (spec .group s) :=
  run_ok _ s (clause_group s h)
theorem having_exact (s : Select) : currentColsSelect .having s = .ok (spec .having s) :=
  run_ok _ s (clause_having s)
theorem order_exact (s : Select) (h : OrderFaithful s) : currentColsSelect .order s = .ok (spec .order s) :=
  run_ok _ s (clause_order s h)

/-- **select list, JOIN, WHERE** — partial: the implementation applies the substitution here too (F-C15-1), so the result
is the specified one only if no reference of the clause clashes with a select alias -/
theorem select_exact_partial (s : Select) (h : Clean .select s) : currentColsSelect .select s = .ok (spec .select s) := by
  rw [run_ok _ s (clause_select s), resolve_clean _ _ h]; rfl
theorem join_exact_partial (s : Select) (h : Clean .join s) : currentColsSelect .join s = .ok (spec .join s) := by
  rw [run_ok _ s (clause_join s), resolve_clean _ _ h]; rfl
theorem where_exact_partial (s : Select) (h : Clean .where_ s) : currentColsSelect .where_ s = .ok (spec .where_ s) := by
  rw [run_ok _ s (clause_where s), resolve_clean _ _ h]; rfl

/-- what the implementation returns for the select list / JOIN / WHERE in general: the substituted list -/
theorem where_actual (s : Select) : currentColsSelect .where_ s = .ok (resolve (Select.cols s) (colsOf .where_ s)) :=
  run_ok _ s (clause_where s)
theorem select_actual (s : Select) : currentColsSelect .select s = .ok (resolve (Select.cols s) (colsOf .select s)) :=
  run_ok _ s (clause_select s)
theorem join_actual (s : Select) : currentColsSelect .join s = .ok (resolve (Select.cols s) (colsOf .join s)) :=
  run_ok _ s (clause_join s)

theorem fromClause_nil : ∀ fr : Option (List FromTable), nodeColsV (fromClauseVal fr) = R []
  | none => rfl
  | some l => node_ok (fskip (tuple_ok (fromTables_nil l)) fnil)

theorem limit_nil : ∀ lm : Option (Int × Option Int), nodeColsV (limitVal lm) = R []
  | none => rfl
  | some (_, none) | some (_, some _) => node_ok (fskip rfl (fskip rfl fnil))

theorem clause_all (s : Select) (hp : Plain s) (hg : GroupFaithful s) (ho : OrderFaithful s) :
    clauseCols .all s = .ok (colsOf .all s) := by
  cases s with
  | mk ws dist cols fr lats js wh gb hv ob sb db cb lm =>
    obtain ⟨hl, hsb, hdb, hcb⟩ := hp
    subst hl; subst hsb; subst hdb; subst hcb
    simp only [clauseCols, nodeColsSelect, selectClause_ok, fromClause_nil, joins_ok js, where_ok, group_ok gb hg, having_ok,
      order_clause_ok ob ho, limit_nil, laterals, sortByClauseVal, distributeByClauseVal, clusterByClauseVal, nodeColsV, nodeColsL,
      R, bind, Except.bind, pure, Except.pure]
    simp [colsOf, colsOf.colsOf']

/-- **the union of the six clauses** — partial: a plain SELECT (no WITH tables / Hive clauses, F-C15-2) without alias
clashes in the select list, JOIN and WHERE (F-C15-1) -/
theorem all_exact_partial (s : Select) (hp : Plain s) (hg : GroupFaithful s) (ho : OrderFaithful s)
    (h1 : Clean .select s) (h2 : Clean .join s) (h3 : Clean .where_ s) :
    currentColsSelect .all s = .ok (spec .all s) := by
  rw [run_ok _ s (clause_all s hp hg ho)]
  cases s with
  | mk ws dist cols fr lats js wh gb hv ob sb db cb lm =>
    simp only [colsOf, colsOf.colsOf', spec, resolve_append]
    have e1 := resolve_clean _ _ h1
    have e2 := resolve_clean _ _ h2
    have e3 := resolve_clean _ _ h3
    simp only [colsOf] at e1 e2 e3
    rw [e1, e2, e3]

/-- the hypotheses under which clause `c` of a branch is analysed as specified -/
def Good (c : Clause) (s : Select) : Prop :=
  match c with
  | .select | .join | .where_ => Clean c s
  | .having => True
  | .group => GroupFaithful s
  | .order => OrderFaithful s
  | .all => Plain s ∧ GroupFaithful s ∧ OrderFaithful s ∧ Clean .select s ∧ Clean .join s ∧ Clean .where_ s

theorem branch_ok (c : Clause) (s : Select) (h : Good c s) : currentColsSelect c s = .ok (spec c s) := by
  cases c with
  | all => obtain ⟨a, b, c', d, e, f⟩ := h; exact all_exact_partial s a b c' d e f
  | select => exact select_exact_partial s h
  | join => exact join_exact_partial s h
  | where_ => exact where_exact_partial s h
  | group => exact group_exact s h
  | having => exact having_exact s
  | order => exact order_exact s h

theorem union_ok (c : Clause) : ∀ us : List (String × Select), (∀ p ∈ us, Good c p.2) →
    currentColsUnion c us = .ok (us.flatMap fun p => spec c p.2)
  | [], _ => by simp [currentColsUnion]
  | (t, s) :: r, h => by
    have h1 := branch_ok c s (h (t, s) (by simp))
    have h2 := union_ok c r (fun p hp => h p (by simp [hp]))
    simp [currentColsUnion, h1, h2]

/-- **C15 on a query**: every top-level branch is analysed on its own and the results are concatenated -/
theorem query_exact_partial (c : Clause) (q : Query) (h : ∀ s ∈ branchesOf q, Good c s) :
    currentCols c q = .ok (specQuery c q) := by
  cases q with
  | single s => exact branch_ok c s (h s (by simp [branchesOf]))
  | union ws s us =>
    have h1 := branch_ok c s (h s (by simp [branchesOf]))
    have h2 := union_ok c us (fun p hp => h p.2 (by simp [branchesOf]; exact Or.inr ⟨p.1, hp⟩))
    simp [currentCols, specQuery, h1, h2]

/-- every literal whose ordinal test does not leave the modelled fragment is faithful; every non-literal is -/
theorem literal_faithful (v : String) (h : ∃ k, ordinalOfSource v = .ok k) : OrdinalFaithful (.literal v) := h
theorem nonliteral_faithful (e : Expr) (h : ∀ v, e ≠ .literal v) : OrdinalFaithful e := by
  cases e <;> simp [OrdinalFaithful] at h ⊢

/-! ## level-locality: the references of an expression do not depend on the bodies of its sub-queries -/

mutual
/-- replace the body of every sub-query of an expression by `q0` -/
def eraseE (q0 : Query) : Expr → Expr
  | .column t n => .column t n
  | .literal v => .literal v
  | .wildcard t => .wildcard t
  | .func s n ps => .func s n (eraseEs q0 ps)
  | .agg n ps d => .agg n (eraseEs q0 ps) d
  | .cast e sg ty ps => .cast (eraseE q0 e) sg ty ps
  | .extract n e => .extract (eraseE q0 n) (eraseE q0 e)
  | .window fn part ord rows => .window (eraseE q0 fn) (eraseEs q0 part) (eraseOs q0 ord) rows
  | .caseCond cs els => .caseCond (eraseArms q0 cs) (eraseOE q0 els)
  | .caseVal v cs els => .caseVal (eraseE q0 v) (eraseArms q0 cs) (eraseOE q0 els)
  | .subValue vs => .subValue (eraseEs q0 vs)
  | .subQuery _ => .subQuery q0
  | .exists_ v => .exists_ (eraseE q0 v)
  | .index a i => .index (eraseE q0 a) (eraseE q0 i)
  | .unary o e => .unary o (eraseE q0 e)
  | .compute l o r => .compute (eraseE q0 l) o (eraseE q0 r)
  | .kw k n l r => .kw k n (eraseE q0 l) (eraseE q0 r)
  | .between n b f t => .between n (eraseE q0 b) (eraseE q0 f) (eraseE q0 t)
  | .compare o l r => .compare o (eraseE q0 l) (eraseE q0 r)
  | .not_ e => .not_ (eraseE q0 e)
  | .and_ l r => .and_ (eraseE q0 l) (eraseE q0 r)
  | .xor l r => .xor (eraseE q0 l) (eraseE q0 r)
  | .or_ l r => .or_ (eraseE q0 l) (eraseE q0 r)
  | .mybatis s => .mybatis s
def eraseEs (q0 : Query) : List Expr → List Expr
  | [] => []
  | e :: r => eraseE q0 e :: eraseEs q0 r
def eraseOE (q0 : Query) : Option Expr → Option Expr
  | none => none
  | some e => some (eraseE q0 e)
def eraseArms (q0 : Query) : List (Expr × Expr) → List (Expr × Expr)
  | [] => []
  | (w, t) :: r => (eraseE q0 w, eraseE q0 t) :: eraseArms q0 r
def eraseO (q0 : Query) : OrderItem → OrderItem
  | .mk e d nf nl => .mk (eraseE q0 e) d nf nl
def eraseOs (q0 : Query) : List OrderItem → List OrderItem
  | [] => []
  | o :: r => eraseO q0 o :: eraseOs q0 r
end

theorem append_congr {α : Type} {a a' b b' : List α} (h1 : a = a') (h2 : b = b') : a ++ b = a' ++ b' := h1 ▸ h2 ▸ rfl

mutual
/-- **level-locality**: whatever the nested queries contain, the references reported for the expression are the same -/
theorem colsE_erase (q0 : Query) : ∀ e : Expr, colsE (eraseE q0 e) = colsE e
  | .column _ _ | .literal _ | .wildcard _ | .subQuery _ | .mybatis _ => rfl
  | .func _ _ ps | .subValue ps => colsEs_erase q0 ps
  | .agg _ ps _ => congrArg (fun x : List QCol => if x.length > 0 then x else [anon]) (colsEs_erase q0 ps)
  | .cast e _ _ _ | .exists_ e | .unary _ e | .not_ e => colsE_erase q0 e
  | .extract l r | .index l r | .compute l _ r | .kw _ _ l r | .compare _ l r | .and_ l r | .xor l r | .or_ l r =>
    append_congr (colsE_erase q0 l) (colsE_erase q0 r)
  | .window fn part ord _ => append_congr (append_congr (colsE_erase q0 fn) (colsEs_erase q0 part)) (colsOs_erase q0 ord)
  | .caseCond cs els => append_congr (colsArms_erase q0 cs) (colsOE_erase q0 els)
  | .caseVal v cs els => append_congr (append_congr (colsE_erase q0 v) (colsArms_erase q0 cs)) (colsOE_erase q0 els)
  | .between _ b f t => append_congr (append_congr (colsE_erase q0 b) (colsE_erase q0 f)) (colsE_erase q0 t)
theorem colsEs_erase (q0 : Query) : ∀ es : List Expr, colsEs (eraseEs q0 es) = colsEs es
  | [] => rfl
  | e :: r => append_congr (colsE_erase q0 e) (colsEs_erase q0 r)
theorem colsOE_erase (q0 : Query) : ∀ e : Option Expr, colsOE (eraseOE q0 e) = colsOE e
  | none => rfl
  | some e => colsE_erase q0 e
theorem colsArms_erase (q0 : Query) : ∀ cs : List (Expr × Expr), colsArms (eraseArms q0 cs) = colsArms cs
  | [] => rfl
  | (w, t) :: r => append_congr (append_congr (colsE_erase q0 w) (colsE_erase q0 t)) (colsArms_erase q0 r)
theorem colsO_erase (q0 : Query) : ∀ o : OrderItem, colsO (eraseO q0 o) = colsO o
  | .mk e _ _ _ => colsE_erase q0 e
theorem colsOs_erase (q0 : Query) : ∀ os : List OrderItem, colsOs (eraseOs q0 os) = colsOs os
  | [] => rfl
  | o :: r => append_congr (colsO_erase q0 o) (colsOs_erase q0 r)
end

/-- and so does the analyzer: the collection over an expression is unchanged when its sub-queries are replaced -/
theorem nodeCols_level_local (q0 : Query) (e : Expr) : nodeColsV (eraseE q0 e).toVal = nodeColsV e.toVal := by
  rw [expr_ok, expr_ok, colsE_erase]

/-! ## Known findings on the model -/

/-- `SELECT b AS a FROM t WHERE a > 0` -/
def wAlias : Select :=
  .mk (some []) false [(.column none "b", some "a")] (some [.mk (.table none "t") none]) [] []
    (some (.compare "GREATER" (.column none "a") (.literal "0"))) none none none none none none none

/-- **F-C15-1**: the WHERE analysis of `SELECT b AS a FROM t WHERE a > 0` reports `b`; the clause reads column `a` -/
theorem witness_where_alias :
    currentColsSelect .where_ wAlias = .ok [⟨none, some "b", none⟩] ∧ spec .where_ wAlias = [⟨none, some "a", none⟩] := by
  rw [where_actual]
  refine ⟨congrArg _ ?_, ?_⟩ <;> decide +kernel

/-- `WITH w AS (SELECT x FROM t) SELECT a FROM w` -/
def wWith : Select :=
  .mk (some [.mk "w" (.single (.mk (some []) false [(.column none "x", none)] (some [.mk (.table none "t") none]) [] []
      none none none none none none none none))]) false [(.column none "a", none)] (some [.mk (.table none "w") none]) [] []
    none none none none none none none none

/-- **F-C15-2 (fixed by bed929d)**: the all-clauses analysis of `WITH w AS (SELECT x FROM t) SELECT a FROM w` reports `a` only -/
theorem fixed_with_leak :
    (match currentColsSelect .all wWith with | .ok l => l | .error _ => []) = [⟨none, some "a", none⟩]
      ∧ spec .all wWith = [⟨none, some "a", none⟩] := by
  decide +kernel

/-- **F-C15-3 (fixed by 07335d7)**: a dialect variable is not a column in any letter case -/
theorem fixed_lower_case_variable :
    nodeColsV (Expr.column none "current_date").toVal = .ok [] ∧ nodeColsV (Expr.column none "CURRENT_DATE").toVal = .ok []
      ∧ nodeColsV (Expr.column (some "t") "current_date").toVal = .ok [⟨some "t", some "current_date", none⟩] := by
  rw [expr_ok, expr_ok, expr_ok]
  refine ⟨congrArg _ ?_, congrArg _ ?_, congrArg _ ?_⟩ <;> decide +kernel

/-- `SELECT a FROM t ORDER BY e[1]` -/
def wIndex : Select :=
  .mk (some []) false [(.column none "a", none)] (some [.mk (.table none "t") none]) [] [] none none none
    (some [.mk (.index (.column none "e") (.literal "1")) false false false]) none none none none

/-- **F-C15-4 (fixed by ed4e409)**: the ORDER BY analysis of `SELECT a FROM t ORDER BY e[1]` reports `e`; no hypothesis on the
item is needed any more (`OrderFaithful` holds of every non-literal) -/
theorem fixed_array_index_order : currentColsSelect .order wIndex = .ok [⟨none, some "e", none⟩] := by
  rw [order_exact wIndex (by simp [OrderFaithful, orderExprs, wIndex, OrdinalFaithful])]
  exact congrArg _ (by decide +kernel)

/-! ## non-vacuity -/

/-- `SELECT b AS a, c FROM t JOIN u ON t.k = u.k WHERE c > 0 GROUP BY 1, c HAVING COUNT(1) > 2 ORDER BY a, 2` -/
def sample : Select :=
  .mk (some []) false [(.column none "b", some "a"), (.column none "c", none)] (some [.mk (.table none "t") none]) []
    [.mk "JOIN" (.mk (.table none "u") none) (some (.on (.compare "EQUAL_TO" (.column (some "t") "k") (.column (some "u") "k"))))]
    (some (.compare "GREATER" (.column none "c") (.literal "0")))
    (some (.mk [.literal "1", .column none "c"] none false false))
    (some (.compare "GREATER" (.agg "COUNT" [.literal "1"] false) (.literal "2")))
    (some [.mk (.column none "a") false false false, .mk (.literal "2") false false false]) none none none none

example : spec .group sample = [⟨none, some "b", none⟩, ⟨none, some "c", none⟩] := by decide +kernel
example : spec .having sample = [⟨none, none, none⟩] := by decide +kernel
example : spec .order sample = [⟨none, some "b", none⟩, ⟨none, some "c", none⟩] := by decide +kernel
example : spec .join sample = [⟨some "t", some "k", none⟩, ⟨some "u", some "k", none⟩] := by decide +kernel
example : Clean .where_ sample := by unfold Clean; decide +kernel

end C15
