import MsqProofs.Props.C03Q
import MsqProofs.Props.C03L
/-!
# C03 / C01 / C02 at TEXT level: the lexer link for nested queries — the whole fragment `TQ.FragQ`

`Props/C03Q.lean` proves T-parse for nested queries on TOKENS (`C03.tquery`: the rendering `TQ.toksQ d noX q` parses to `q`).  Here the
link to TEXT is proved on the shipped (regenerated) lexer table for the WHOLE nested fragment, every dialect: besides everything of
`Props/C03L.lean` (single SELECT over operators) the productions qualified columns `` `t`.`c` ``, wildcards `*` / `t.*`, calls
`f(a, b)` / `` `s`.f(…) `` (name written directly before the bracket), aggregates `COUNT(DISTINCT x)`, both CASE forms (the `CASE x`
form is printed on several indented lines), `[NOT] IN (v, …)` (the printer writes two blanks after `NOT IN`), bracketed sub-queries
`(SELECT …)`, `[NOT] IN (SELECT …)`, `EXISTS (SELECT …)`, derived tables `(q) AS a`, schema-qualified tables `` `s.n` ``, and chains
over every set operator of `Gen.unionTypes` (operator words on their own lines).

* `C03.lex_prQ` : the printer succeeds on every fragment query with lexable payloads, prints the mirror `LexLink.prQL d q`, and lexing
  the text gives exactly `TQ.toksQ d noX q`; `C03.lex_prQ_in_context` : the same inside any text, under any bracket nesting;
* `C03.tquery_text` : text → dialect pre-pass → lexer → parser gives exactly `q`, nothing left — through `pSelectStmt`, `pStatement` and
  the model of the public entry point `parse_statements(text, dialect)` (`PM.parseStatementsText`), with the entry point's own fuel;
* `C01.query_round_trip_text` : print ∘ parse ∘ print = print (fixed point) on the nested fragment;
* `C02.lex_prE3`, `C02.tparse3_text`, `C02.tparse2_text` : the expression half (calls, CASE, IN lists, sub-queries) at text level
  through `pOr` and the public entry point `parse_logical_or_level_expression`; `C02.text_determines_tree3` : two fragment expressions
  with the same printed text are equal (nesting, brackets, argument lists all matter);
* `C03.hive_pre_query` / `C02.hive_pre_expr3` : for HIVE the pre-pass hypothesis holds whenever no payload contains `==`;
* `C03.tselect_text_instance` : the single SELECT of `Props/C03L.lean` as an instance.

**Hypotheses** besides the fragment (`LexLink.LeafQ d q` = every payload of the tree satisfies `LexLink.leafOK d`; none assumes the
link): column names printed back-quoted verbatim without back-quote / pre-pass characters (`colLex`, `qcolLex`: true of every plain
name except the pseudo columns, dialect not DB2); literal payloads the lexer reads back as ONE literal token (`litLex`: digit strings,
escape-grammar strings, literal words); names of `t.*`, functions, schemas, tables without back-quote and TAB / CR / U+3000
(`nameLex`; printed bare or back-quoted as `quoteName` decides — both are covered); aggregate names plain words; aliases plain
non-keywords (`aliasLex`).  `leafOKB` is a decidable sufficient condition.  The dialect pre-pass as in `Props/C03L.lean`: identity
for five dialects, for HIVE discharged by `hive_pre_query`, for DB2 a hypothesis (finding F-C06-1).
-/
open Lex PM Ast TP TS TQ LexLink

namespace C03

/-- **C03.lex_prQ**: the printer succeeds on every fragment query with lexable payloads, prints `prQL d q`, and lexing the text gives
exactly the token rendering `toksQ d noX q`. -/
theorem lex_prQ (d : Gen.D) (q : Query) (hq : FragQ d q = true) (hl : LeafQ d q) :
    ∃ str : String, PR.prQ d q = .ok str ∧ str.toList = prQL d q ∧ Lex.lex Gen.cfgS str.toList = .ok (toksQ d noX q) := by
  have g := good_query d plainKit q hq (lv_plain hl)
  exact C01.lex_printed g.pr g.q g.lx

/-- the link in context: inside any text, between tokens, before a delimiter (end of text, blank, `)`, `,`, line break), with any
current frame and frame stack — so also for the query in brackets -/
theorem lex_prQ_in_context (d : Gen.D) (q : Query) (hq : FragQ d q = true) (hl : LeafQ d q) : Lx (prQL d q) (toksQ d noX q) :=
  (good_query d plainKit q hq (lv_plain hl)).lx

/-- **C03.tquery_text**: T-parse of nested queries at TEXT level, with the entry points' own fuel. -/
theorem tquery_text (d : Gen.D) (q : Query) (hq : FragQ d q = true) (hl : LeafQ d q)
    (hpre : dialectPre d (prQL d q) = prQL d q) :
    ∃ (str : String) (ts : List Tok), PR.prQ d q = .ok str ∧
      Lex.lex Gen.cfgS (dialectPre d str.toList) = .ok ts ∧ ts = toksQ d noX q ∧
      pSelectStmt d (fuelFor ts) none ts = .ok (q, []) ∧
      pStatement d (fuelFor ts) ts = .ok (.select q, []) ∧
      parseStatementsText d str.toList = .ok [.select q] := by
  obtain ⟨str, ts, h1, h2, rfl, h4, h5⟩ := printed_stmt_text (lex_prQ d q hq hl) hpre
    (by simpa using tquery_statement d q hq [] rfl _ (by simp only [fuelFor]; omega))
  exact ⟨str, _, h1, h2, rfl, by simpa using tquery_entry_fuel d q hq [] rfl, h4, h5⟩

/-- for HIVE the pre-pass hypothesis holds whenever no payload (column name, literal, call / table / alias name) contains `==` -/
theorem hive_pre_query (q : Query) (hq : FragQ .HIVE q = true) (hl : LeafQ .HIVE q) (hno : NoEqQ q) :
    dialectPre .HIVE (prQL .HIVE q) = prQL .HIVE q :=
  C01.hivePre_no_occ _ (good_query .HIVE occKit q hq (lv_occ hl hno)).q

/-- the single SELECT of `Props/C03L.lean` (fragment `TS.FragS`) as an instance, with the leaf hypotheses of this file -/
theorem tselect_text_instance (d : Gen.D) (s : Select) (hs : FragS d s = true) (hl : LeafQ d (.single s))
    (hpre : dialectPre d (prQL d (.single s)) = prQL d (.single s)) :
    ∃ (str : String) (ts : List Tok), PR.prS d s = .ok str ∧ Lex.lex Gen.cfgS (dialectPre d str.toList) = .ok ts ∧ ts = toksS d s ∧
      parseStatementsText d str.toList = .ok [.select (.single s)] := by
  obtain ⟨h1, h2⟩ := fragS_sub_query d s hs
  obtain ⟨str, ts, a, b, c, _, _, e⟩ := tquery_text d (.single s) h1 hl hpre
  exact ⟨str, ts, by simpa [PR.prQ] using a, b, by rw [c, h2], e⟩

end C03

namespace C01

/-- **C01.query_round_trip_text**: print, then the text pipeline (dialect pre-pass, lexer, parser) gives the query back; and printing
what was parsed gives the same text again — also through the statement level (`PR.prStmt` of the parsed statement). -/
theorem query_round_trip_text (d : Gen.D) (q : Query) (hq : FragQ d q = true) (hl : LeafQ d q)
    (hpre : dialectPre d (prQL d q) = prQL d q) :
    ∃ (str : String) (ts : List Tok), PR.prQ d q = .ok str ∧ Lex.lex Gen.cfgS (dialectPre d str.toList) = .ok ts ∧
      pSelectStmt d (fuelFor ts) none ts = .ok (q, []) ∧
      (∀ q', pSelectStmt d (fuelFor ts) none ts = .ok (q', []) → PR.prQ d q' = .ok str) ∧
      (∀ sts, parseStatementsText d str.toList = .ok sts → sts.map (PR.prStmt d) = [.ok str]) := by
  obtain ⟨str, ts, h1, h2, _, h3, _, h5⟩ := C03.tquery_text d q hq hl hpre
  exact ⟨str, ts, h1, h2, h3, fun q' hq' => by rw [same_of_ok h3 hq']; exact h1, stmts_print h5 (by simp [PR.prStmt, h1])⟩

end C01

namespace C02

/-- **C02.lex_prE3**: the expression half of the link — calls, aggregates, CASE, IN lists, qualified columns, wildcards, sub-queries. -/
theorem lex_prE3 (d : Gen.D) (e : Expr) (hf : FragE3 d e = true) (hl : LeafE3 d e) :
    ∃ s : String, PR.prE d e = .ok s ∧ s.toList = prE3L d e ∧ Lex.lex Gen.cfgS s.toList = .ok (toksE3 d noX e) := by
  have g := good_expr d plainKit e hf (lv_plain hl)
  exact C01.lex_printed g.pr g.q g.lx

theorem lex_prE3_in_context (d : Gen.D) (e : Expr) (hf : FragE3 d e = true) (hl : LeafE3 d e) : Lx (prE3L d e) (toksE3 d noX e) :=
  (good_expr d plainKit e hf (lv_plain hl)).lx

/-- **C02.tparse3_text**: T-parse of nested expressions at TEXT level: text → pre-pass → lexer → `pOr` with the entry point's fuel
gives the tree back, nothing left; the model of the public entry point `parse_logical_or_level_expression(text, dialect)` returns
`(e, 0)`; printing the result gives the same text. -/
theorem tparse3_text (d : Gen.D) (e : Expr) (hf : FragE3 d e = true) (hl : LeafE3 d e)
    (hpre : dialectPre d (prE3L d e) = prE3L d e) :
    ∃ (s : String) (ts : List Tok), PR.prE d e = .ok s ∧ Lex.lex Gen.cfgS (dialectPre d s.toList) = .ok ts ∧ ts = toksE3 d noX e ∧
      pOr d (fuelFor ts) ts = .ok (e, []) ∧
      PM.parseText "logical_or_level_expression" d s.toList = .ok (e.toVal, 0) ∧
      (∀ e', pOr d (fuelFor ts) ts = .ok (e', []) → PR.prE d e' = .ok s) :=
  C01.expr_text (lex_prE3 d e hf hl) hpre (tparse3 d e hf [] rfl) (by omega)

/-- `C02.tparse2` (Props/C02T2.lean: calls, CASE, IN lists, qualified columns, wildcards over the operator fragment) lifted to TEXT -/
theorem tparse2_text (d : Gen.D) (e : Expr) (hf : TP2.Frag2 d e = true) (hl : LeafE3 d e)
    (hpre : dialectPre d (prE3L d e) = prE3L d e) :
    ∃ (s : String) (ts : List Tok), PR.prE d e = .ok s ∧ Lex.lex Gen.cfgS (dialectPre d s.toList) = .ok ts ∧ ts = TP2.toksE2 d noX e ∧
      pOr d (fuelFor ts) ts = .ok (e, []) ∧ PM.parseText "logical_or_level_expression" d s.toList = .ok (e.toVal, 0) := by
  obtain ⟨h1, h2⟩ := frag2_sub_all d noX e hf
  obtain ⟨s, ts, a, b, c, p, en, _⟩ := tparse3_text d e h1 hl hpre
  exact ⟨s, ts, a, b, by rw [c, h2], p, en⟩

theorem rendering_determines_expr3 (d : Gen.D) (e e' : Expr) (hf : FragE3 d e = true) (hf' : FragE3 d e' = true)
    (h : toksE3 d noX e = toksE3 d noX e') : e = e' :=
  C01.eq_of_read_back (tparse3 d e hf [] rfl) (tparse3 d e' hf' [] rfl) (by rw [h])

/-- **C02.text_determines_tree3**: two expressions of the nested fragment with the same printed TEXT are equal — brackets, argument
lists, CASE arms, sub-queries all are read back -/
theorem text_determines_tree3 (d : Gen.D) (e e' : Expr) (hf : FragE3 d e = true) (hf' : FragE3 d e' = true)
    (hl : LeafE3 d e) (hl' : LeafE3 d e') (h : PR.prE d e = PR.prE d e') : e = e' := by
  obtain ⟨s, hs, _, hlex⟩ := lex_prE3 d e hf hl
  obtain ⟨s', hs', _, hlex'⟩ := lex_prE3 d e' hf' hl'
  exact rendering_determines_expr3 d e e' hf hf' (C01.toks_of_same_text hs hs' hlex hlex' h)

/-- … and queries -/
theorem text_determines_query (d : Gen.D) (q q' : Query) (hq : FragQ d q = true) (hq' : FragQ d q' = true)
    (hl : LeafQ d q) (hl' : LeafQ d q') (h : PR.prQ d q = PR.prQ d q') : q = q' := by
  obtain ⟨s, hs, _, hlex⟩ := C03.lex_prQ d q hq hl
  obtain ⟨s', hs', _, hlex'⟩ := C03.lex_prQ d q' hq' hl'
  exact C03.rendering_determines_query d q q' hq hq' (C01.toks_of_same_text hs hs' hlex hlex' h)

theorem hive_pre_expr3 (e : Expr) (hf : FragE3 .HIVE e = true) (hl : LeafE3 .HIVE e) (hno : NoEqE3 e) :
    dialectPre .HIVE (prE3L .HIVE e) = prE3L .HIVE e :=
  C01.hivePre_no_occ _ (good_expr .HIVE occKit e hf (lv_occ hl hno)).q

end C02

/-! ## a decidable form of the leaf hypotheses -/
namespace C03

def optNameLexB : Option String → Bool | none => true | some s => nameLexB s
def leafOKB (d : Gen.D) : LeafItem → Bool
  | .col none c => C01.colLexB d c
  | .col (some t) c => nameLexB t && nameLexB c && !C01.specialsL.contains c.toList && d != .DB2
  | .lit v => C01.litLexB v
  | .wild t => nameLexB t
  | .fn s n => optNameLexB s && nameLexB n
  | .agg n => PR.isPlainName n
  | .alias a => aliasLexB a
  | .tbl s n => optNameLexB s && nameLexB n
def leafQB (d : Gen.D) (q : Query) : Bool := (leavesQ q).all (leafOKB d)
def leafEB (d : Gen.D) (e : Expr) : Bool := (leavesE e).all (leafOKB d)
def noEqB (l : List LeafItem) : Bool := l.all fun x => (strs x).all fun s => !C01.occ s.toList

theorem optNameLex_of_B (s : Option String) (h : optNameLexB s = true) : optNameLex s := by
  cases s with
  | none => trivial
  | some s => exact nameLex_of_B s h

theorem qcolLex_of_B (d : Gen.D) (t c : String) (h1 : nameLexB t = true) (h2 : nameLexB c = true)
    (h3 : C01.specialsL.contains c.toList = false) (h4 : d ≠ .DB2) : qcolLex d t c := by
  refine ⟨?_, nameLex_of_B t h1, nameLex_of_B c h2⟩
  have hd' : (d == Gen.D.DB2) = false := by cases d <;> first | rfl | exact absurd rfl h4
  have hs : ["*", "CURRENT_DATE", "CURRENT_TIME", "CURRENT_TIMESTAMP"].contains c = false := by
    simp only [List.contains_eq_mem, decide_eq_false_iff_not] at h3 ⊢
    intro hm
    apply h3
    simp only [C01.specialsL, List.mem_cons, List.mem_nil_iff, or_false] at hm ⊢
    rcases hm with e | e | e | e <;> simp [e]
  have : PR.columnSrc d (some t) c = s!"`{t}`.`{c}`" := by
    unfold PR.columnSrc
    simp only [hs, hd', Bool.false_eq_true, if_false]
  rw [this]
  simp [toString, String.toList_append]

theorem leafOK_of_B (d : Gen.D) (x : LeafItem) (h : leafOKB d x = true) : leafOK d x := by
  cases x with
  | col t c =>
    cases t with
    | none => exact C01.colLex_of_B d c h
    | some t =>
      simp only [leafOKB, Bool.and_eq_true, Bool.not_eq_eq_eq_not, Bool.not_true, bne_iff_ne, ne_eq] at h
      exact qcolLex_of_B d t c h.1.1.1 h.1.1.2 h.1.2 h.2
  | lit v => exact C01.litLex_of_B v h
  | wild t => exact nameLex_of_B t h
  | fn s n =>
    simp only [leafOKB, Bool.and_eq_true] at h
    exact ⟨optNameLex_of_B s h.1, nameLex_of_B n h.2⟩
  | agg n => exact h
  | alias a => exact aliasLex_of_B a h
  | tbl s n =>
    simp only [leafOKB, Bool.and_eq_true] at h
    exact ⟨optNameLex_of_B s h.1, nameLex_of_B n h.2⟩

theorem leafQ_of_B (d : Gen.D) (q : Query) (h : leafQB d q = true) : LeafQ d q :=
  fun x hx => leafOK_of_B d x ((List.all_eq_true.mp h) x hx)
theorem leafE3_of_B (d : Gen.D) (e : Expr) (h : leafEB d e = true) : LeafE3 d e :=
  fun x hx => leafOK_of_B d x ((List.all_eq_true.mp h) x hx)
theorem noEq_of_B (l : List LeafItem) (h : noEqB l = true) : On noEqItem l := by
  intro x hx s hs
  have := (List.all_eq_true.mp ((List.all_eq_true.mp h) x hx)) s hs
  simpa using this

/-! ## non-vacuity -/

/-- calls, aggregates with DISTINCT, both CASE forms, IN list, qualified column, `t.*`, schema-qualified function -/
def ex1 : Expr := .and_ (.compare "GT" (.func none "coalesce" [qcol "t" "a", lit "0"]) (.agg "COUNT" [col "b"] true))
  (.kw .in_ true (.caseVal (col "k") [(lit "1", lit "'x'")] (some (.caseCond [(.compare "EQ" (col "a") (lit "2"), lit "3")] none)))
    (.subValue [lit "1", .func (some "s") "f" [], .unary "SUBTRACT" (lit "4")]))
def qx : Query := .single (sel [(.wildcard (some "t"), none), (ex1, some "v")] (some [.mk (.table (some "db") "tab") (some "t")]))

-- the mirror is the printer's text; the leaf hypotheses hold; the lexer gives the rendering (compiled evaluation, a test)
#guard [q1, q2, q3, q4, q5, q6, qa, qx].all fun q => [Gen.D.MYSQL, .ORACLE, .POSTGRE_SQL, .SQL_SERVER, .DEFAULT, .HIVE].all fun d =>
  (!FragQ d q) || (leafQB d q && (match PR.prQ d q with | .ok x => x.toList == prQL d q | .error _ => false) && agreesQ d q)
#guard [q1, q2, q3, q4, q5, q6, qx].all fun q => FragQ .MYSQL q && FragQ .HIVE q && noEqB (leavesQ q)
#guard FragE3 .MYSQL ex1 && leafEB .MYSQL ex1 && (match PR.prE .MYSQL ex1 with | .ok x => x.toList == prE3L .MYSQL ex1 | _ => false)
#guard (match PM.parseStatementsText .MYSQL (prQL .MYSQL q1) with
  | .ok [st] => Drv.showVal st.toVal == Drv.showVal (Stmt.select q1).toVal | _ => false)
#guard (match PM.parseStatementsText .HIVE (prQL .HIVE qx) with
  | .ok [st] => Drv.showVal st.toVal == Drv.showVal (Stmt.select qx).toVal | _ => false)
-- what the printer writes: the doubled blank after NOT IN, the indented CASE form, names directly before brackets
#guard prE3L .MYSQL (.kw .in_ true (col "a") (.subValue [lit "1", lit "2"])) == "`a` NOT IN  (1, 2)".toList &&
  prE3L .MYSQL (.caseVal (col "a") [(lit "1", lit "2")] (some (lit "3"))) == "CASE\n`a`\n    WHEN 1 THEN 2\n    ELSE 3\nEND".toList &&
  prE3L .MYSQL (.func (some "s") "select" [.wildcard none]) == "`s`.`select`(*)".toList
-- outside the hypotheses: a back-quote in a name, an alias that is a keyword
#guard !leafOKB .MYSQL (.tbl none "a`b") && !leafOKB .MYSQL (.alias "select") && leafOKB .MYSQL (.fn (some "s") "select") &&
  !leafOKB .DB2 (.col (some "t") "c")

-- instances of the theorems, hypotheses decided by the kernel: sub-queries in expressions, a derived table, a set operation
set_option maxRecDepth 100000 in
example : ∃ str ts, PR.prQ .MYSQL q5 = .ok str ∧ Lex.lex Gen.cfgS (dialectPre .MYSQL str.toList) = .ok ts ∧ ts = toksQ .MYSQL noX q5 ∧
    pSelectStmt .MYSQL (fuelFor ts) none ts = .ok (q5, []) ∧ pStatement .MYSQL (fuelFor ts) ts = .ok (.select q5, []) ∧
    parseStatementsText .MYSQL str.toList = .ok [.select q5] :=
  tquery_text .MYSQL q5 (by decide) (leafQ_of_B _ _ (by decide +kernel)) (C01.dialectPre_id _ (by decide) (by decide) _)
set_option maxRecDepth 100000 in
example : ∃ str ts, PR.prQ .HIVE q6 = .ok str ∧ Lex.lex Gen.cfgS (dialectPre .HIVE str.toList) = .ok ts ∧
    pSelectStmt .HIVE (fuelFor ts) none ts = .ok (q6, []) ∧ (∀ q', pSelectStmt .HIVE (fuelFor ts) none ts = .ok (q', []) → PR.prQ .HIVE q' = .ok str) ∧
    (∀ sts, parseStatementsText .HIVE str.toList = .ok sts → sts.map (PR.prStmt .HIVE) = [.ok str]) :=
  C01.query_round_trip_text .HIVE q6 (by decide) (leafQ_of_B _ _ (by decide +kernel))
    (hive_pre_query q6 (by decide) (leafQ_of_B _ _ (by decide +kernel)) (noEq_of_B _ (by decide +kernel)))
set_option maxRecDepth 100000 in
example : ∃ s ts, PR.prE .ORACLE ex1 = .ok s ∧ Lex.lex Gen.cfgS (dialectPre .ORACLE s.toList) = .ok ts ∧ ts = toksE3 .ORACLE noX ex1 ∧
    pOr .ORACLE (fuelFor ts) ts = .ok (ex1, []) ∧ PM.parseText "logical_or_level_expression" .ORACLE s.toList = .ok (ex1.toVal, 0) ∧
    (∀ e', pOr .ORACLE (fuelFor ts) ts = .ok (e', []) → PR.prE .ORACLE e' = .ok s) :=
  C02.tparse3_text .ORACLE ex1 (by decide) (leafE3_of_B _ _ (by decide +kernel)) (C01.dialectPre_id _ (by decide) (by decide) _)

end C03

namespace C01
/-- `C01.lex_prE` (Props/C01T.lean) once more: the bottom fragment's link, named beside those of the larger fragments -/
theorem lex_prE_instance (d : Gen.D) (e : Expr) (hf : Frag d e = true) (hl : Leaf d e) :
    ∃ s : String, PR.prE d e = .ok s ∧ s.toList = prEL d e ∧ Lex.lex Gen.cfgS s.toList = .ok (toksE d noX e) :=
  lex_prE d e hf hl
end C01
