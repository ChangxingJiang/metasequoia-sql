import MsqProofs.Lemmas.LexLinkKits
/-!
# C01 / C02 at TEXT level: the lexer link of T-parse

`C02T.lean` proves T-parse on TOKENS: `pOr d fuel (TP.toksE d TP.noX e) = ok (e, [])` for every tree `e` of the operator
fragment `TP.Frag d e`.  Here the link to TEXT is proved, on the shipped (regenerated) lexer table:

* `C01.lex_prE`   : the printer succeeds on `e`, and lexing its text gives exactly `TP.toksE d TP.noX e`;
* `C01.lex_prE_in_context` : the same inside any text — between tokens, before a delimiter, under any bracket nesting;
* `C01.expr_round_trip_text` : text → dialect pre-pass → lexer → `pOr` (with the fuel the entry point computes) gives `e`
  back with nothing left, and printing the result gives the same text again (print ∘ parse ∘ print = print);
* `C01.expr_round_trip_entry` : the model of the public entry point `parse_logical_or_level_expression(text, dialect)`
  returns `(e, 0)` on the printed text;
* `C02.tparse_text` : T-parse at text level (explicit fuel); `C02.text_determines_tree`.

**Covered**: the WHOLE fragment of `C02T.lean` — atoms, brackets, unary and binary compute operators, comparisons,
`NOT` / `AND` / `XOR` / `OR`, `IS [NOT]`, `[NOT] LIKE / RLIKE / REGEXP`, `[NOT] BETWEEN … AND …` — for every dialect.

**Hypotheses** besides `TP.Frag d e` (all about leaf payloads, `LexLink.Leaf d e`; none assumes the link):
* every column name is printed back-quoted verbatim and contains no back-quote and no character of the lexer's pre-pass
  (`colLex`; `colLex_of_plain`: true of every plain name `PR.isPlainName` except the pseudo columns `CURRENT_DATE`,
  `CURRENT_TIME`, `CURRENT_TIMESTAMP` — and, for DB2, names the DB2 printer rewrites);
* every literal payload is one the lexer reads back as ONE literal token (`litLex`): a non-empty digit string, a quoted
  string whose body obeys the escape grammar `C06.strBody` (this is exactly what the lexer ACCEPTS as one string token,
  so it is what the parser stores) without TAB / CR / U+3000, or a literal word (`TRUE` / `FALSE` / `NULL`);
* for DB2 and HIVE only: the dialect pre-pass (`CURRENT DATE` → `CURRENT_DATE` …, `==` → `=`: whole-text replacements,
  findings F-C06-1/2) leaves the printed text alone — `PM.dialectPre d text = text`; for the five other dialects this
  holds unconditionally (`dialectPre_id`), for HIVE it holds whenever no column name and no literal payload contains
  `==` (`hive_pre`: the printer itself never writes `==`); for DB2 it is a hypothesis.
-/
open Lex PM Ast TP LexLink

namespace C01

/-- **C01.lex_prE**: the printer succeeds on every fragment tree with lexable leaves, and lexing the printed text gives
exactly the token rendering `toksE d noX e`. -/
theorem lex_prE (d : Gen.D) (e : Expr) (hf : Frag d e = true) (hl : Leaf d e) :
    ∃ s : String, PR.prE d e = .ok s ∧ s.toList = prEL d e ∧ Lex.lex Gen.cfgS s.toList = .ok (toksE d noX e) := by
  exact lex_printed (prE_eq d e hf hl) (plain_prEL d e hf hl) (lx_prE d e hf hl)

/-- **the link in context**: inside any text `pre ++ text ++ rest` in which the lexer is between tokens before `text`
and `rest` is empty or begins with a blank or `)`, with any current frame `f` and frame stack `fs` (so under any bracket
nesting), the printed text appends exactly `toksE d noX e` and the lexer continues between tokens at `rest`. -/
theorem lex_prE_in_context (d : Gen.D) (e : Expr) (hf : Frag d e = true) (hl : Leaf d e) : Lx (prEL d e) (toksE d noX e) :=
  lx_prE d e hf hl

/-- **C01.expr_round_trip_text**: print, then the text pipeline of the public entry point (dialect pre-pass, lexer with
its own pre-pass, `pOr` with the fuel computed from the token list), gives the tree back with nothing left; and
printing the result gives the same text again. -/
theorem expr_round_trip_text (d : Gen.D) (e : Expr) (hf : Frag d e = true) (hl : Leaf d e)
    (hpre : dialectPre d (prEL d e) = prEL d e) :
    ∃ (s : String) (ts : List Tok), PR.prE d e = .ok s ∧
      Lex.lex Gen.cfgS (dialectPre d s.toList) = .ok ts ∧
      pOr d (fuelFor ts) ts = .ok (e, []) ∧
      (∀ e', pOr d (fuelFor ts) ts = .ok (e', []) → PR.prE d e' = .ok s) := by
  obtain ⟨s, ts, a, b, rfl, c, _, f⟩ := expr_text (lex_prE d e hf hl) hpre (C02.tparse d noX e hf [] rfl) (by omega)
  exact ⟨s, _, a, b, c, f⟩

/-- … and the public entry point `SQLParser.parse_logical_or_level_expression(text, sql_type)` of the model returns the tree -/
theorem expr_round_trip_entry (d : Gen.D) (e : Expr) (hf : Frag d e = true) (hl : Leaf d e)
    (hpre : dialectPre d (prEL d e) = prEL d e) :
    ∃ s : String, PR.prE d e = .ok s ∧ PM.parseText "logical_or_level_expression" d s.toList = .ok (e.toVal, 0) := by
  obtain ⟨s, ts, a, _, _, _, c, _⟩ := expr_text (lex_prE d e hf hl) hpre (C02.tparse d noX e hf [] rfl) (by omega)
  exact ⟨s, a, c⟩

end C01

namespace C02

/-- **C02.tparse_text**: T-parse at text level — for every fragment tree with lexable leaves, the printed text lexes to
a token list on which the parser (any sufficient fuel) returns exactly the tree, nothing left. -/
theorem tparse_text (d : Gen.D) (e : Expr) (hf : Frag d e = true) (hl : Leaf d e) (fuel : Nat)
    (hfuel : 120 * sz e + 15 ≤ fuel) :
    ∃ (s : String) (ts : List Tok), PR.prE d e = .ok s ∧ Lex.lex Gen.cfgS s.toList = .ok ts ∧ pOr d fuel ts = .ok (e, []) := by
  obtain ⟨s, hs, _, hlex⟩ := C01.lex_prE d e hf hl
  refine ⟨s, toksE d noX e, hs, hlex, ?_⟩
  have := tparse_size d noX e hf [] rfl fuel hfuel
  simpa using this

/-- two fragment trees with the same printed TEXT are equal: brackets that change the grouping change the tree -/
theorem text_determines_tree (d : Gen.D) (e e' : Expr) (hf : Frag d e = true) (hf' : Frag d e' = true)
    (hl : Leaf d e) (hl' : Leaf d e') (h : PR.prE d e = PR.prE d e') : e = e' := by
  obtain ⟨s, hs, _, hlex⟩ := C01.lex_prE d e hf hl
  obtain ⟨s', hs', _, hlex'⟩ := C01.lex_prE d e' hf' hl'
  exact grouping_brackets_honoured d noX noX e e' hf hf' (C01.toks_of_same_text hs hs' hlex hlex' h)

end C02

namespace C01

/-- for HIVE the pre-pass hypothesis of `expr_round_trip_text` holds whenever no column name and no literal payload contains `==` -/
theorem hive_pre (e : Expr) (hf : Frag .HIVE e = true) (hl : Leaf .HIVE e) (hq : noEqEq e) :
    dialectPre .HIVE (prEL .HIVE e) = prEL .HIVE e :=
  hivePre_no_occ _ (occ_prEL .HIVE e hf hl hq)

-- non-vacuity (compiled evaluation): the concrete trees of `C02T.lean` satisfy the hypotheses, and the conclusion of the
-- link is what the lexer computes on the printer's text
#guard [C02.e1, C02.e2, C02.e3, C02.e4, C02.e5, C02.e6, C02.e7].all fun e => Frag .MYSQL e && leafB .MYSQL e
#guard [C02.e1, C02.e2, C02.e3, C02.e4, C02.e5, C02.e6].all fun e => Frag .ORACLE e && leafB .ORACLE e
#guard [C02.e1, C02.e2, C02.e3, C02.e4, C02.e5, C02.e6].all fun e =>
  Frag .POSTGRE_SQL e && leafB .POSTGRE_SQL e && Frag .SQL_SERVER e && leafB .SQL_SERVER e && Frag .DEFAULT e && leafB .DEFAULT e
#guard [C02.e1, C02.e2, C02.e3, C02.e4, C02.e5, C02.e6, C02.e7].all fun e => Frag .HIVE e && leafB .HIVE e &&
  (match PR.prE .HIVE e with | .ok s => dialectPre .HIVE s.toList == s.toList | .error _ => false)
#guard [C02.e1, C02.e4, C02.e7].all fun e =>
  (match PR.prE .MYSQL e with | .ok s => s.toList == prEL .MYSQL e && C02.agrees .MYSQL e | .error _ => false)
#guard (match PM.parseText "logical_or_level_expression" .MYSQL (prEL .MYSQL C02.e4) with
  | .ok (v, 0) => Drv.showVal v == Drv.showVal C02.e4.toVal | _ => false)
-- `- -x` gets a blank, `-~x` and `!-x` do not; string payloads with escapes and hostile characters
#guard leafB .MYSQL (.unary "SUBTRACT" (.unary "SUBTRACT" (C02.col "x"))) &&
  prEL .MYSQL (.unary "SUBTRACT" (.unary "SUBTRACT" (C02.col "x"))) == "- -`x`".toList &&
  prEL .MYSQL (.unary "SUBTRACT" (.unary "BITWISE_INVERSION" (C02.lit "1"))) == "-~1".toList
#guard litLexB "'it''s; -- /* ('" && litLexB "\"a\\\"b\"" && litLexB "007" && litLexB "null" && !litLexB "'abc" && !litLexB "1.5"

/-- an instance of the theorem, hypotheses decided by the kernel -/
example : ∃ s ts, PR.prE .MYSQL C02.e2 = .ok s ∧ Lex.lex Gen.cfgS (dialectPre .MYSQL s.toList) = .ok ts ∧
    pOr .MYSQL (fuelFor ts) ts = .ok (C02.e2, []) ∧ (∀ e', pOr .MYSQL (fuelFor ts) ts = .ok (e', []) → PR.prE .MYSQL e' = .ok s) :=
  expr_round_trip_text .MYSQL C02.e2 (by decide +kernel) (leaf_of_B _ _ _ (Nat.le_refl _) (by decide +kernel))
    (dialectPre_id _ (by decide) (by decide) _)

/-- an instance for HIVE: the pre-pass hypothesis is discharged by `hive_pre` -/
example : ∃ s, PR.prE .HIVE C02.e3 = .ok s ∧ PM.parseText "logical_or_level_expression" .HIVE s.toList = .ok (C02.e3.toVal, 0) :=
  expr_round_trip_entry .HIVE C02.e3 (by decide +kernel) (leaf_of_B _ _ _ (Nat.le_refl _) (by decide +kernel))
    (hive_pre _ (by decide +kernel) (leaf_of_B _ _ _ (Nat.le_refl _) (by decide +kernel))
      (by simp only [C02.e3, C02.col, noEqEq]; decide +kernel))

end C01
