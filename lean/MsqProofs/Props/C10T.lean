import MsqProofs.Lemmas.LexScript
import MsqProofs.Lemmas.LexScriptPre
import MsqProofs.Props.C04b
import MsqProofs.Props.C10
import MsqProofs.Lemmas.ParseTextInv
/-!
# C10 at TEXT level — the lexer half, and the composition with `C10.script_concat`

No fragment restriction: every theorem is about ALL texts.

**Lexer half** (all 8 option settings `C04.cfgOf i`, on the regenerated tables).

* `C10.lex_script`: if `t1` is accepted with tokens `ts1` and does not END OPEN, then for EVERY `t2`
  `lex (t1 ++ ";" ++ t2) = (lex t2).map (ts1 ++ [;] ++ ·)`: the script lexes to the tokens of `t1`, the separator token
  `Tok.single [';'] 0`, the tokens of `t2` — and is rejected, with the same error, exactly when `t2` is
  (`lex_script_accepted_iff`).  `lex_script_list`: the n-ary version.
* `EndsOpen cfg t1`: the state at the end of `t1` is in `openStates cfg ';'`.  The open states are FOUND by the table:
  `openStates cfg c` is the list of states whose END cell does not raise but whose `c` cell does not end what is pending
  exactly as the END cell does (`closesWith`); `open_states`: for all 8 settings this list is `[IN_EXPLAIN_1]` for `;`
  (and for a blank), and EMPTY for a line break (`open_states_newline`).  So the only exception is a text that ends inside
  a line comment (`-- …` / `# …`), where END is accepted but `;` is comment text.
* `ends_open_iff_scanner`: on an accepted text, `EndsOpen` says exactly that the structural scanner of C04b
  (`Scan.scanAll`, which knows only quotes, comments, brackets and token ends) ends in line-comment mode.
  `not_open_of_newline`: a text that ends with a line break never ends open.
* `line_comment_swallows`: the witness — `SELECT 1 -- c;SELECT 2` is ONE statement (the tokens of `SELECT 1`).

**Composition** (shipped setting `Gen.cfgS`, the one `parse_statements` uses): `C10.script_text` — for texts `t1 … tn`,
each accepted alone as ONE statement by the model of `parse_statements` (`lex` succeeds, `pStatement` consumes all tokens)
and not ending open, the model of `parse_statements` on `t1 sep1 t2 sep2 … tn sepn` (each `sep` = blanks and line breaks
around one `;`; the last one may also be only blanks, or empty) returns exactly the statements of the parts, in order.
A part MAY end open if its separator begins with a line break (a line break closes a line comment: `open_states_newline`).
The pre-passes (the dialect's whole-text replacements and the lexer's CR LF / TAB / U+3000 replacements) act on the
script as a whole; that they commute with cutting it at the separators is the hypothesis `hprep`, PROVED (`prep_script`,
`script_text_std`) for every dialect except DB2 (whose patterns `CURRENT DATE` … contain a blank) when no part ends with
a CR; for DB2 it is a decidable equation on each concrete script (instance at the end).

`MsqProofs/Lemmas/LexScriptPrinted.lean` continues: printed fragment expressions / SELECTs never end open
(`C10.printed_select_not_open`), and a script of printed SELECTs parses back to the SELECTs (`C10.script_printed`).

Machinery: `MsqProofs/Lemmas/LexScript.lean` (`PfxRel` — a simulation between two runs that differ by tokens in front of
the bottom frame —, `closesWith`, `sepToks`, the generic separator theorem `Lex.lexText_sep`),
`MsqProofs/Lemmas/LexScriptPre.lean` (`str.replace` and cutting a text at a character).
-/
namespace C10
open Lex PM Ast

abbrev cfgOf := C04.cfgOf


theorem code_eq (i : Fin 8) : (cfgOf i).code = Gen.Cls.code := by
  match i with
  | 0 => rfl | 1 => rfl | 2 => rfl | 3 => rfl | 4 => rfl | 5 => rfl | 6 => rfl | 7 => rfl

theorem chain_eq (i : Fin 8) : (cfgOf i).preChain = Gen.preChain := by
  match i with
  | 0 => rfl | 1 => rfl | 2 => rfl | 3 => rfl | 4 => rfl | 5 => rfl | 6 => rfl | 7 => rfl

theorem tableOK (i : Fin 8) : ∃ (advSt : List S) (wk : S → WK), TableOK (cfgOf i) advSt wk = true := by
  match i with
  | 0 => exact ⟨_, _, Oblig.tableOK_cfg0⟩ | 1 => exact ⟨_, _, Oblig.tableOK_cfg1⟩
  | 2 => exact ⟨_, _, Oblig.tableOK_cfg2⟩ | 3 => exact ⟨_, _, Oblig.tableOK_cfg3⟩
  | 4 => exact ⟨_, _, Oblig.tableOK_cfg4⟩ | 5 => exact ⟨_, _, Oblig.tableOK_cfg5⟩
  | 6 => exact ⟨_, _, Oblig.tableOK_cfg6⟩ | 7 => exact ⟨_, _, Oblig.tableOK_cfg7⟩

theorem lexText_sep_all (i : Fin 8) (u1 u2 : List Char) (c : Char) (ts1 tc : List Tok)
    (h1 : lexText (cfgOf i) u1 = .ok ts1) (hcl : closesWith (cfgOf i) c (endState (cfgOf i) u1) = true)
    (hs : sepToks (cfgOf i) c = some tc) :
    lexText (cfgOf i) (u1 ++ c :: u2) = (lexText (cfgOf i) u2).map (fun ts2 => ts1 ++ tc ++ ts2) := by
  obtain ⟨advSt, wk, hT⟩ := tableOK i
  exact lexText_sep (code_eq i) (C04.summarizable i) hT (C04.depth_le i) u1 u2 c ts1 tc h1 hcl hs

/-! ## the open states, found by the table -/

/-- the END cell of `s` exists and is not the raising one: a text may end in `s` -/
def endAccepting (cfg : Cfg Gen.Cls) (s : S) : Bool :=
  match cfg.lookup s .eof with | some o => o != Spec.reject | none => false

/-- the states in which a text may end, but in which `c` does not end the pending token the way the end of the text does -/
def openStates (cfg : Cfg Gen.Cls) (c : Char) : List S :=
  allS.filter fun s => endAccepting cfg s && !closesWith cfg c s

/-- **the table obligation**: under every setting, a text may end in 20 states, and in all of them but one `;` ends the
pending token exactly as the end of the text does.  The exception is the line comment. -/
theorem open_states (i : Fin 8) : openStates (cfgOf i) ';' = [.IN_EXPLAIN_1] := by
  revert i
  decide +kernel

theorem open_states_blank (i : Fin 8) : openStates (cfgOf i) ' ' = [.IN_EXPLAIN_1] := by
  revert i
  decide +kernel

theorem open_states_newline (i : Fin 8) : openStates (cfgOf i) '\n' = [] := by
  revert i
  decide +kernel

theorem sep_semi_mark (i : Fin 8) : sepMark (cfgOf i) ';' = some (some 0) := by
  revert i
  decide +kernel

theorem sep_semi (i : Fin 8) : sepToks (cfgOf i) ';' = some [semi0] := sepToks_of_mark (sep_semi_mark i)

/-- **`t` ends open**: at the end of `t` the lexer is in a state where the end of the text is accepted but `;` does not
end the token the same way -/
def EndsOpen (cfg : Cfg Gen.Cls) (t : List Char) : Bool := (openStates cfg ';').contains (endState cfg (cfg.pre t))

theorem endsOpen_eq (i : Fin 8) (t : List Char) :
    EndsOpen (cfgOf i) t = (endState (cfgOf i) ((cfgOf i).pre t) == .IN_EXPLAIN_1) := by
  simp only [EndsOpen, open_states]
  cases endState (cfgOf i) ((cfgOf i).pre t) <;> rfl

theorem accepted_endAccepting (i : Fin 8) (u : List Char) (ts : List Tok) (h : lexText (cfgOf i) u = .ok ts) :
    endAccepting (cfgOf i) (endState (cfgOf i) u) = true := by
  simp only [lexText] at h
  cases e1 : feedAllWith (handle (cfgOf i) u) u {} with
  | error x => rw [e1] at h; cases h
  | ok m1 =>
    rw [e1] at h
    simp only at h
    have hst : m1.status = endState (cfgOf i) u := (feedAllWith_skel (cfgOf i) (C04.summarizable i) u u {} m1 e1 (by simp)).1
    rw [← hst]
    simp only [endAccepting]
    cases ho : (cfgOf i).lookup m1.status .eof with
    | none => simp [handle, ho] at h
    | some o =>
      by_cases hr : o = Spec.reject
      · rw [handle_reject (code_eq i) (by rw [ho, hr])] at h; cases h
      · simpa using hr

theorem closes_of_not_open (i : Fin 8) (c : Char) (u : List Char) (ts : List Tok) (h : lexText (cfgOf i) u = .ok ts)
    (hno : endState (cfgOf i) u ∉ openStates (cfgOf i) c) : closesWith (cfgOf i) c (endState (cfgOf i) u) = true := by
  have ha := accepted_endAccepting i u ts h
  cases hc : closesWith (cfgOf i) c (endState (cfgOf i) u) with
  | true => rfl
  | false =>
    exfalso; apply hno
    simp only [openStates, List.mem_filter]
    exact ⟨mem_allS _, by simp [ha, hc]⟩


/-- **C10.lex_script** (all 8 settings, all texts): an accepted text that does not end open, `;`, any text -/
theorem lex_script (i : Fin 8) (t1 t2 : List Char) (ts1 : List Tok) (h1 : lex (cfgOf i) t1 = .ok ts1)
    (hopen : EndsOpen (cfgOf i) t1 = false) :
    lex (cfgOf i) (t1 ++ ';' :: t2) = (lex (cfgOf i) t2).map (fun ts2 => ts1 ++ semi0 :: ts2) := by
  rw [lex_eq_lexText] at h1
  rw [lex_eq_lexText, lex_eq_lexText]
  have hpre : (cfgOf i).pre (t1 ++ ';' :: t2) = (cfgOf i).pre t1 ++ ';' :: (cfgOf i).pre t2 := by
    simp only [Cfg.pre, chain_eq]
    exact preWith_sep ';' Gen.preChain (by decide) t1 t2
  rw [hpre]
  have hno : endState (cfgOf i) ((cfgOf i).pre t1) ∉ openStates (cfgOf i) ';' := by
    intro hm
    have : EndsOpen (cfgOf i) t1 = true := by simpa [EndsOpen] using hm
    rw [this] at hopen; cases hopen
  rw [lexText_sep_all i _ _ ';' ts1 [semi0] h1 (closes_of_not_open i ';' _ ts1 h1 hno) (sep_semi i)]
  cases lexText (cfgOf i) ((cfgOf i).pre t2) <;> simp [Except.map]

/-- the same on strings -/
theorem lex_script_str (i : Fin 8) (t1 t2 : String) (ts1 : List Tok) (h1 : lex (cfgOf i) t1.toList = .ok ts1)
    (hopen : EndsOpen (cfgOf i) t1.toList = false) :
    lex (cfgOf i) (t1 ++ ";" ++ t2).toList = (lex (cfgOf i) t2.toList).map (fun ts2 => ts1 ++ semi0 :: ts2) := by
  have : (t1 ++ ";" ++ t2).toList = t1.toList ++ ';' :: t2.toList := by
    simp [String.toList_append]
  rw [this]; exact lex_script i _ _ ts1 h1 hopen

theorem lex_script_ok (i : Fin 8) (t1 t2 : List Char) (ts1 ts2 : List Tok) (h1 : lex (cfgOf i) t1 = .ok ts1)
    (hopen : EndsOpen (cfgOf i) t1 = false) (h2 : lex (cfgOf i) t2 = .ok ts2) :
    lex (cfgOf i) (t1 ++ ';' :: t2) = .ok (ts1 ++ semi0 :: ts2) := by
  rw [lex_script i t1 t2 ts1 h1 hopen, h2]; rfl

/-- the script is rejected exactly when its second part is, with the same error -/
theorem lex_script_err (i : Fin 8) (t1 t2 : List Char) (ts1 : List Tok) (h1 : lex (cfgOf i) t1 = .ok ts1)
    (hopen : EndsOpen (cfgOf i) t1 = false) (e : Err) :
    lex (cfgOf i) (t1 ++ ';' :: t2) = .error e ↔ lex (cfgOf i) t2 = .error e := by
  rw [lex_script i t1 t2 ts1 h1 hopen]
  cases lex (cfgOf i) t2 <;> simp [Except.map]

theorem lex_script_accepted_iff (i : Fin 8) (t1 t2 : List Char) (ts1 : List Tok) (h1 : lex (cfgOf i) t1 = .ok ts1)
    (hopen : EndsOpen (cfgOf i) t1 = false) :
    (∃ ts, lex (cfgOf i) (t1 ++ ';' :: t2) = .ok ts) ↔ ∃ ts2, lex (cfgOf i) t2 = .ok ts2 := by
  rw [lex_script i t1 t2 ts1 h1 hopen]
  cases lex (cfgOf i) t2 <;> simp [Except.map]

theorem lexesTo_sound {r : Except Err (List Tok)} {ts : List Tok} (h : lexesTo r ts = true) : r = .ok ts := by
  cases r with
  | error e => cases h
  | ok xs => rw [eqbL_sound xs ts h]

theorem lexesTo_nil (i : Fin 8) : lexesTo (lex (cfgOf i) []) [] = true := by
  revert i
  decide +kernel

/-- `t1;t2;…;tn` -/
def joinSemi : List (List Char) → List Char
  | [] => []
  | [t] => t
  | t :: t2 :: r => t ++ ';' :: joinSemi (t2 :: r)

/-- **n-ary version** (all 8 settings): texts accepted alone, none ending open (the last one may) -/
theorem lex_script_list (i : Fin 8) : ∀ (parts : List (List Char × List Tok)),
    (∀ p ∈ parts, lex (cfgOf i) p.1 = .ok p.2) → (∀ p ∈ parts.dropLast, EndsOpen (cfgOf i) p.1 = false) →
    lex (cfgOf i) (joinSemi (parts.map (·.1))) = .ok (script semi0 (parts.map (·.2)) false)
  | [], _, _ => lexesTo_sound (lexesTo_nil i)
  | [p], h, _ => by simpa [joinSemi, script] using h p (by simp)
  | p :: q :: r, h, ho => by
    have ih := lex_script_list i (q :: r) (fun x hx => h x (by simp [hx]))
      (fun x hx => ho x (by simp only [List.dropLast_cons_cons]; exact List.mem_cons_of_mem _ hx))
    simp only [List.map_cons, joinSemi, script] at ih ⊢
    exact lex_script_ok i p.1 _ p.2 _ (h p (by simp)) (ho p (by simp)) ih

/-! ## what "ends open" means on the text -/

/-- on an accepted text, `EndsOpen` says exactly that the structural scanner of C04b — quotes, comments, brackets, token
ends; no table — ends in line-comment mode: the text ends inside a `-- …` or `# …` comment -/
theorem ends_open_iff_scanner (i : Fin 8) (t : List Char) (ts : List Tok) (h : lex (cfgOf i) t = .ok ts) :
    EndsOpen (cfgOf i) t = true ↔ (Scan.scanAll .N ((cfgOf i).pre t)).1 = .LC := by
  rw [lex_eq_lexText] at h
  simp only [lexText] at h
  cases e1 : feedAllWith (handle (cfgOf i) ((cfgOf i).pre t)) ((cfgOf i).pre t) {} with
  | error x => rw [e1] at h; cases h
  | ok m1 =>
    have hst : m1.status = endState (cfgOf i) ((cfgOf i).pre t) :=
      (feedAllWith_skel (cfgOf i) (C04.summarizable i) _ _ {} m1 e1 (by simp)).1
    have hsc := (Scan.feedAllWith_scan (cfgOf i) (C04.summarizable i) (C04.lookup_norm i) (C04.scanSim i) _ _ {} m1 .N e1
      (by simp) (by simp [Scan.rho])).1
    rw [endsOpen_eq, ← hst]
    constructor
    · intro hs
      have : m1.status = .IN_EXPLAIN_1 := by simpa using hs
      rw [this] at hsc
      simpa [Scan.rho] using hsc
    · intro hm
      rw [hm] at hsc
      revert hsc
      cases m1.status <;> simp [Scan.rho]

theorem newline_leaves (i : Fin 8) : allS.all (fun s => (traceFeed (cfgOf i) s '\n').1 != .IN_EXPLAIN_1) = true := by
  revert i
  decide +kernel

theorem trace_snoc {Cls : Type} (cfg : Cfg Cls) (c : Char) : ∀ (u : List Char) (s : S),
    (trace cfg s (u ++ [c])).1 = (traceFeed cfg (trace cfg s u).1 c).1
  | [], s => by simp [trace]
  | x :: u, s => by simp [trace, trace_snoc cfg c u]

/-- a text whose last character is a line break does not end open (CR LF is a line break as well: the pre-pass makes
it LF) -/
theorem not_open_of_newline (i : Fin 8) (t : List Char) (u : List Char) (h : (cfgOf i).pre t = u ++ ['\n']) :
    EndsOpen (cfgOf i) t = false := by
  rw [endsOpen_eq, h, endState, trace_snoc]
  have := (List.all_eq_true.mp (newline_leaves i)) (trace (cfgOf i) .WAIT u).1 (mem_allS _)
  simpa using this

/-! ## the witness: a text that ends open -/

/-- **the exception is real**: `SELECT 1 -- c` is accepted and ends open; with `;SELECT 2` behind it the text is still
ONE statement — exactly the tokens of `SELECT 1`, no separator token, nothing of `SELECT 2` -/
theorem line_comment_swallows :
    EndsOpen Gen.cfgS "SELECT 1 -- c".toList = true ∧
    lex Gen.cfgS "SELECT 1 -- c".toList = .ok [.single "SELECT".toList 0, .single ['1'] 72] ∧
    lex Gen.cfgS "SELECT 1 -- c;SELECT 2".toList = .ok [.single "SELECT".toList 0, .single ['1'] 72] ∧
    lex Gen.cfgS "SELECT 1 -- c\n;SELECT 2".toList =
      .ok [.single "SELECT".toList 0, .single ['1'] 72, semi0, .single "SELECT".toList 0, .single ['2'] 72] :=
  ⟨by decide +kernel, lexesTo_sound (by decide +kernel), lexesTo_sound (by decide +kernel),
    lexesTo_sound (by decide +kernel)⟩

/-! ## the script as text: separators with layout -/

/-- the lexer's view of a text handed to `parse_statements`: the dialect's replacements, then the lexer's own -/
def prep (d : Gen.D) (t : List Char) : List Char := Gen.cfgS.pre (dialectPre d t)

theorem parseStatementsText_eq (d : Gen.D) (t : List Char) :
    parseStatementsText d t =
      (match lexText Gen.cfgS (prep d t) with | .error e => .error e | .ok ts => pStatements d (fuelFor ts) ts) := rfl

/-- a character of a separator: `;`, blank, line break -/
def isSepChar (c : Char) : Bool := c == ';' || c == ' ' || c == '\n'

/-- the separator tokens of a run of separator characters: one per `;` -/
def semis : List Char → List Tok
  | [] => []
  | c :: r => if c = ';' then semi0 :: semis r else semis r

theorem semis_eq_replicate : ∀ sp, semis sp = List.replicate (semis sp).length semi0
  | [] => rfl
  | c :: r => by
    have := semis_eq_replicate r
    by_cases hc : c = ';'
    · simp only [semis, hc, if_true, List.length_cons, List.replicate_succ]; rw [← this]
    · simp only [semis, hc, if_false]; exact this

theorem sepchar_cases {c : Char} (h : isSepChar c = true) : c = ';' ∨ c = ' ' ∨ c = '\n' := by
  simpa [isSepChar, or_assoc] using h

theorem sep_blank_mark : sepMark Gen.cfgS ' ' = some none ∧ sepMark Gen.cfgS '\n' = some none := by decide +kernel

theorem wait_closes : closesWith Gen.cfgS ';' .WAIT = true ∧ closesWith Gen.cfgS ' ' .WAIT = true ∧
    closesWith Gen.cfgS '\n' .WAIT = true := by decide +kernel

theorem sepToks_shipped {c : Char} (h : isSepChar c = true) : sepToks Gen.cfgS c = some (semis [c]) := by
  rcases sepchar_cases h with rfl | rfl | rfl
  · exact sep_semi 7
  · exact sepToks_of_mark sep_blank_mark.1
  · exact sepToks_of_mark sep_blank_mark.2

theorem semis_cons (c : Char) (r : List Char) : semis (c :: r) = semis [c] ++ semis r := by
  by_cases hc : c = ';' <;> simp [semis, hc]

theorem lexText_sep_shipped (u1 u2 : List Char) (c : Char) (ts1 tc : List Tok)
    (h1 : lexText Gen.cfgS u1 = .ok ts1) (hcl : closesWith Gen.cfgS c (endState Gen.cfgS u1) = true)
    (hs : sepToks Gen.cfgS c = some tc) :
    lexText Gen.cfgS (u1 ++ c :: u2) = (lexText Gen.cfgS u2).map (fun ts2 => ts1 ++ tc ++ ts2) :=
  lexText_sep_all 7 u1 u2 c ts1 tc h1 hcl hs

theorem closes_shipped (c : Char) (hc : isSepChar c = true) (u : List Char) (ts : List Tok)
    (h : lexText Gen.cfgS u = .ok ts) (hno : endState Gen.cfgS u ≠ .IN_EXPLAIN_1 ∨ c = '\n') :
    closesWith Gen.cfgS c (endState Gen.cfgS u) = true := by
  apply closes_of_not_open 7 c u ts h
  show endState Gen.cfgS u ∉ openStates (cfgOf 7) c
  rcases hno with hno | rfl
  · rcases sepchar_cases hc with rfl | rfl | rfl
    · rw [open_states 7]; simpa using hno
    · rw [open_states_blank 7]; simpa using hno
    · rw [open_states_newline 7]; simp
  · rw [open_states_newline 7]; simp

theorem endsOpen_shipped (t : List Char) :
    EndsOpen Gen.cfgS t = (endState Gen.cfgS (Gen.cfgS.pre t) == .IN_EXPLAIN_1) := endsOpen_eq 7 t

theorem lexText_sepRun : ∀ (sp : List Char), (∀ c ∈ sp, isSepChar c = true) → ∀ rest : List Char,
    lexText Gen.cfgS (sp ++ rest) = (lexText Gen.cfgS rest).map (fun ts => semis sp ++ ts)
  | [], _, rest => by
    show lexText Gen.cfgS rest = _
    cases lexText Gen.cfgS rest <;> simp [semis, Except.map]
  | c :: sp, h, rest => by
    have hc := h c (by simp)
    have ih := lexText_sepRun sp (fun x hx => h x (by simp [hx])) rest
    have hcl : closesWith Gen.cfgS c (endState Gen.cfgS []) = true := by
      rcases sepchar_cases hc with rfl | rfl | rfl
      · exact wait_closes.1
      · exact wait_closes.2.1
      · exact wait_closes.2.2
    have := lexText_sep_shipped [] (sp ++ rest) c [] (semis [c]) rfl hcl (sepToks_shipped hc)
    simp only [List.nil_append] at this
    rw [List.cons_append, this, ih, semis_cons c sp]
    cases lexText Gen.cfgS rest <;> simp [Except.map]

theorem lexText_part (u : List Char) (ts : List Tok) (h : lexText Gen.cfgS u = .ok ts) (c : Char) (sp : List Char)
    (hno : endState Gen.cfgS u ≠ .IN_EXPLAIN_1 ∨ c = '\n') (hsp : ∀ x ∈ c :: sp, isSepChar x = true)
    (rest : List Char) :
    lexText Gen.cfgS (u ++ (c :: sp) ++ rest) = (lexText Gen.cfgS rest).map (fun ts2 => ts ++ semis (c :: sp) ++ ts2) := by
  have hc := hsp c (by simp)
  have hcl := closes_shipped c hc u ts h hno
  have := lexText_sep_shipped u (sp ++ rest) c ts (semis [c]) h hcl (sepToks_shipped hc)
  rw [List.append_assoc, List.cons_append, this, lexText_sepRun sp (fun x hx => hsp x (by simp [hx])) rest, semis_cons c sp]
  cases lexText Gen.cfgS rest <;> simp [Except.map]

/-- one part of a script: its text, the separator text behind it, its tokens, its statement -/
structure Part where
  text : List Char
  sep : List Char
  toks : List Tok
  stmt : Stmt

/-- the script: every part followed by its separator -/
def scriptOf (f : Part → List Char) : List Part → List Char
  | [] => []
  | p :: r => f p ++ p.sep ++ scriptOf f r

/-- every separator but the last contains exactly one `;`, the last one at most one -/
def SepsOK : List Part → Prop
  | [] => True
  | [p] => (semis p.sep).length ≤ 1
  | p :: q :: r => (semis p.sep).length = 1 ∧ SepsOK (q :: r)

def finOf : List Part → Bool
  | [] => false
  | [p] => (semis p.sep).length == 1
  | _ :: q :: r => finOf (q :: r)

theorem lexText_nil : lexText Gen.cfgS [] = .ok [] := rfl

/-- **the lexer half for scripts with layout** (after the pre-passes): the tokens of the parts with one separator token
between them -/
theorem lexText_script (f : Part → List Char) : ∀ (parts : List Part),
    (∀ p ∈ parts, lexText Gen.cfgS (f p) = .ok p.toks ∧
      (endState Gen.cfgS (f p) ≠ .IN_EXPLAIN_1 ∨ p.sep.head? = some '\n') ∧
      ∀ c ∈ p.sep, isSepChar c = true) → SepsOK parts →
    lexText Gen.cfgS (scriptOf f parts) = .ok (script semi0 (parts.map Part.toks) (finOf parts))
  | [], _, _ => rfl
  | [p], h, hs => by
    obtain ⟨h1, h2, h3⟩ := h p (by simp)
    simp only [scriptOf, List.map_cons, List.map_nil, script, finOf]
    cases hsep : p.sep with
    | nil => simpa [semis] using h1
    | cons c sp =>
      have h2' : endState Gen.cfgS (f p) ≠ .IN_EXPLAIN_1 ∨ c = '\n' := by
        rw [hsep] at h2; simpa using h2
      rw [lexText_part (f p) p.toks h1 c sp h2' (by rw [← hsep]; exact h3) [], lexText_nil]
      simp only [SepsOK, hsep] at hs
      have hr := semis_eq_replicate (c :: sp)
      by_cases h1' : (semis (c :: sp)).length = 1
      · rw [h1'] at hr; simp [Except.map, hr]
      · have h0 : (semis (c :: sp)).length = 0 := by omega
        rw [h0] at hr; simp [Except.map, hr]
  | p :: q :: r, h, hs => by
    obtain ⟨h1, h2, h3⟩ := h p (by simp)
    have ih := lexText_script f (q :: r) (fun x hx => h x (by simp [hx])) hs.2
    have hlen := hs.1
    have hr := semis_eq_replicate p.sep
    rw [hlen] at hr
    cases hsep : p.sep with
    | nil => rw [hsep] at hlen; simp [semis] at hlen
    | cons c sp =>
      have h2' : endState Gen.cfgS (f p) ≠ .IN_EXPLAIN_1 ∨ c = '\n' := by
        rw [hsep] at h2; simpa using h2
      simp only [scriptOf, hsep] at ih ⊢
      rw [lexText_part (f p) p.toks h1 c sp h2' (by rw [← hsep]; exact h3) _, ih, ← hsep, hr]
      simp [Except.map, script, finOf]

/-! ## the pre-passes and the separators -/

theorem replace_nil (pat rep : List Char) : Py.replace pat rep [] = [] := by
  unfold Py.replace
  split
  · rfl
  · exact replaceGo_nil pat rep _

theorem dialectPre_nil (d : Gen.D) : dialectPre d [] = [] := by
  simp only [dialectPre, replace_nil, ite_self]

theorem preWith_nil (chain : List (List Char × List Char)) : preWith chain [] = [] := by
  induction chain with
  | nil => rfl
  | cons p r ih => simpa [preWith, replace_nil] using ih

theorem prep_nil (d : Gen.D) : prep d [] = [] := by
  unfold prep
  rw [dialectPre_nil]
  exact preWith_nil _

/-- cutting at a separator character commutes with the pre-passes (every dialect but DB2, whose patterns contain a
blank; a line break must not follow a CR, or the pre-pass would join them) -/
theorem prep_sep (d : Gen.D) (hd : d ≠ .DB2) (a b : List Char) (c : Char) (hc : isSepChar c = true)
    (hcr : (dialectPre d a).getLast? ≠ some '\r') : prep d (a ++ c :: b) = prep d a ++ c :: prep d b := by
  have h1 : dialectPre d (a ++ c :: b) = dialectPre d a ++ c :: dialectPre d b := by
    cases d with
    | DB2 => exact absurd rfl hd
    | HIVE =>
      have : c ∉ "==".toList := by rcases sepchar_cases hc with rfl | rfl | rfl <;> decide
      simpa [dialectPre] using replace_sep "==".toList "=".toList c this a b
    | _ => rfl
  simp only [prep, h1, Cfg.pre, C05.shipped_pre]
  rcases sepchar_cases hc with rfl | rfl | rfl
  · exact preWith_sep ';' Gen.preChain (by decide) _ _
  · exact preWith_sep ' ' Gen.preChain (by decide) _ _
  · exact preWith_newline _ _ hcr

theorem prep_sepRun (d : Gen.D) (hd : d ≠ .DB2) : ∀ (sp : List Char), (∀ c ∈ sp, isSepChar c = true) → ∀ rest : List Char,
    prep d (sp ++ rest) = sp ++ prep d rest
  | [], _, _ => rfl
  | c :: sp, h, rest => by
    have := prep_sep d hd [] (sp ++ rest) c (h c (by simp)) (by rw [dialectPre_nil]; simp)
    simp only [List.nil_append, prep_nil] at this
    rw [List.cons_append, this, prep_sepRun d hd sp (fun x hx => h x (by simp [hx])) rest]
    rfl

/-- **the pre-passes commute with cutting the script at its separators** (every dialect but DB2; no part ends with CR) -/
theorem prep_script (d : Gen.D) (hd : d ≠ .DB2) : ∀ (parts : List Part),
    (∀ p ∈ parts, (dialectPre d p.text).getLast? ≠ some '\r' ∧ ∀ c ∈ p.sep, isSepChar c = true) → SepsOK parts →
    prep d (scriptOf Part.text parts) = scriptOf (fun p => prep d p.text) parts
  | [], _, _ => prep_nil d
  | [p], h, _ => by
    obtain ⟨h1, h2⟩ := h p (by simp)
    simp only [scriptOf, List.append_nil]
    cases hsep : p.sep with
    | nil => simp
    | cons c sp =>
      rw [hsep] at h2
      have := prep_sep d hd p.text (sp ++ []) c (h2 c (by simp)) h1
      rw [List.append_nil] at this
      rw [this, ← List.append_nil sp, prep_sepRun d hd sp (fun x hx => h2 x (by simp [hx])) [], prep_nil]
  | p :: q :: r, h, hs => by
    obtain ⟨h1, h2⟩ := h p (by simp)
    have ih := prep_script d hd (q :: r) (fun x hx => h x (by simp [hx])) hs.2
    have hlen := hs.1
    cases hsep : p.sep with
    | nil => rw [hsep] at hlen; simp [semis] at hlen
    | cons c sp =>
      rw [hsep] at h2
      simp only [scriptOf, hsep] at ih ⊢
      rw [List.append_assoc, List.cons_append, prep_sep d hd p.text _ c (h2 c (by simp)) h1,
        prep_sepRun d hd sp (fun x hx => h2 x (by simp [hx])) _, ih]
      simp


/-- **C10.script_text**: texts `t1 … tn`, each accepted alone as ONE statement by the model of `parse_statements` and
not ending open, written one after the other with separators (blanks and line breaks around one `;`; after the last text:
the same, or only blanks, or nothing): the model of `parse_statements` returns exactly the statements of the parts, in order. -/
theorem script_text (d : Gen.D) (parts : List Part)
    (hpart : ∀ p ∈ parts, lex Gen.cfgS (dialectPre d p.text) = .ok p.toks ∧
      pStatement d (fuelFor p.toks) p.toks = .ok (p.stmt, []) ∧
      (EndsOpen Gen.cfgS (dialectPre d p.text) = false ∨ p.sep.head? = some '\n') ∧ ∀ c ∈ p.sep, isSepChar c = true)
    (hseps : SepsOK parts)
    (hprep : prep d (scriptOf Part.text parts) = scriptOf (fun p => prep d p.text) parts) :
    parseStatementsText d (scriptOf Part.text parts) = .ok (parts.map Part.stmt) := by
  rw [parseStatementsText_eq, hprep]
  have hl := lexText_script (fun p => prep d p.text) parts (fun p hp => by
    obtain ⟨h1, _, h3, h4⟩ := hpart p hp
    refine ⟨by rw [← h1]; rfl, ?_, h4⟩
    rcases h3 with h3 | h3
    · left
      intro he
      have : EndsOpen Gen.cfgS (dialectPre d p.text) = true := by
        rw [endsOpen_shipped]; simpa [prep] using he
      rw [this] at h3; cases h3
    · exact Or.inr h3) hseps
  rw [hl]
  simp only
  have := script_concat_entry isSemi_lexed d (parts.map fun p => (p.toks, p.stmt))
    (by
      intro x hx
      obtain ⟨p, hp, rfl⟩ := List.mem_map.mp hx
      exact (hpart p hp).2.1) (finOf parts)
  simpa [List.map_map, Function.comp_def, semi0] using this

/-- the same with the pre-pass hypothesis discharged: every dialect but DB2, no part ending with a CR -/
theorem script_text_std (d : Gen.D) (hd : d ≠ .DB2) (parts : List Part)
    (hpart : ∀ p ∈ parts, lex Gen.cfgS (dialectPre d p.text) = .ok p.toks ∧
      pStatement d (fuelFor p.toks) p.toks = .ok (p.stmt, []) ∧
      (EndsOpen Gen.cfgS (dialectPre d p.text) = false ∨ p.sep.head? = some '\n') ∧
      (∀ c ∈ p.sep, isSepChar c = true) ∧ (dialectPre d p.text).getLast? ≠ some '\r')
    (hseps : SepsOK parts) :
    parseStatementsText d (scriptOf Part.text parts) = .ok (parts.map Part.stmt) :=
  script_text d parts (fun p hp => ⟨(hpart p hp).1, (hpart p hp).2.1, (hpart p hp).2.2.1, (hpart p hp).2.2.2.1⟩) hseps
    (prep_script d hd parts (fun p hp => ⟨(hpart p hp).2.2.2.2, (hpart p hp).2.2.2.1⟩) hseps)

/-- one part, no separator: "accepted alone as ONE statement" is what the hypotheses of `script_text` say -/
theorem alone (d : Gen.D) (t : List Char) (ts : List Tok) (s : Stmt) (h1 : lex Gen.cfgS (dialectPre d t) = .ok ts)
    (h2 : pStatement d (fuelFor ts) ts = .ok (s, [])) : parseStatementsText d t = .ok [s] :=
  (parseStatementsText_lex_ok h1).trans (pStatements_single h2)


theorem isOne_sound {r : Except Err (Stmt × List Tok)} (h : isOne r = true) : ∃ s, r = .ok (s, []) := by
  match r, h with
  | .ok (s, []), _ => exact ⟨s, rfl⟩

/-- texts that end in a string, a back-quoted name, a number, a bracket, a block comment, a hex literal, an operator, a
line comment closed by a line break: all accepted, none ends open — under the shipped setting and under the setting that
retains comments and blanks -/
example : (["SELECT 'a;b'", "SELECT `x;y`", "SELECT 1.5", "SELECT f(a;b)", "SELECT 1 /* c; */", "x = 0x1F", "a <=",
    "SELECT a -- c\n", ""].all fun t =>
      !EndsOpen Gen.cfgS t.toList && (lex Gen.cfgS t.toList).toBool &&
      !EndsOpen (cfgOf 0) t.toList && (lex (cfgOf 0) t.toList).toBool) = true := by decide +kernel

/-- … and texts that end inside a line comment end open, under every setting -/
example : (List.finRange 8).all (fun i => EndsOpen (cfgOf i) "SELECT a -- c".toList && EndsOpen (cfgOf i) "SELECT a # c".toList
    && EndsOpen (cfgOf i) "#".toList && !EndsOpen (cfgOf i) "SELECT '-- c'".toList
    && !EndsOpen (cfgOf i) "SELECT a /* -- */".toList) = true := by decide +kernel

def errIs (r : Except Err (List Tok)) (e : Err) : Bool := match r with | .error x => x == e | .ok _ => false
theorem errIs_sound {r : Except Err (List Tok)} {e : Err} (h : errIs r e = true) : r = .error e := by
  cases r with
  | ok x => cases h
  | error x => simp only [errIs, beq_iff_eq] at h; rw [h]

/-- instances of `lex_script`: a `;` in a string, in a back-quoted name, after a block comment -/
example : lex Gen.cfgS ("SELECT 'a;b'".toList ++ ';' :: "SELECT `x;y`".toList) =
    .ok [.single "SELECT".toList 0, .single "'a;b'".toList 10, semi0, .single "SELECT".toList 0, .single "`x;y`".toList 2] :=
  lex_script_ok 7 "SELECT 'a;b'".toList "SELECT `x;y`".toList
    [.single "SELECT".toList 0, .single "'a;b'".toList 10] [.single "SELECT".toList 0, .single "`x;y`".toList 2]
    (lexesTo_sound (by decide +kernel)) (by decide +kernel) (lexesTo_sound (by decide +kernel))

example : lex (cfgOf 0) ("SELECT 1 /* c; */".toList ++ ';' :: "USE db".toList) =
    .ok [.single "SELECT".toList 0, .single [' '] 1, .single ['1'] 72, .single [' '] 1, .single "/* c; */".toList 256, semi0,
      .single "USE".toList 2, .single [' '] 1, .single "db".toList 2] :=
  lex_script_ok 0 "SELECT 1 /* c; */".toList "USE db".toList
    [.single "SELECT".toList 0, .single [' '] 1, .single ['1'] 72, .single [' '] 1, .single "/* c; */".toList 256]
    [.single "USE".toList 2, .single [' '] 1, .single "db".toList 2]
    (lexesTo_sound (by decide +kernel)) (by decide +kernel) (lexesTo_sound (by decide +kernel))

/-- … the second part rejected: the script is rejected with the same error -/
example : lex Gen.cfgS ("SELECT f(a)".toList ++ ';' :: "SELECT 'open".toList) = .error .lexical :=
  (lex_script_err 7 "SELECT f(a)".toList "SELECT 'open".toList
    [.single "SELECT".toList 0, .single ['f'] 2, .group .paren [.single ['a'] 2] 4] (lexesTo_sound (by decide +kernel))
    (by decide +kernel) .lexical).mpr (errIs_sound (by decide +kernel))

-- the same by evaluation, independently of the theorems
#guard ["SELECT 'a;b'", "SELECT `x;y`", "SELECT 1.5", "SELECT f(a;b)", "SELECT 1 /* c; */", "x = 0x1F", "SELECT a -- c\n"].all
  fun t1 => ["SELECT 2", "", "USE db; x"].all fun t2 => eqbL (toks (t1 ++ ";" ++ t2)) (toks t1 ++ semi0 :: toks t2)
#guard eqbL (toks "SELECT 1 -- c;SELECT 2") (toks "SELECT 1")
#guard count (parseStatementsText .MYSQL "SELECT 1 -- c;SELECT 2".toList) == some 1
#guard count (parseStatementsText .MYSQL "SELECT 1 -- c\n;SELECT 2".toList) == some 2

def X1 : List Tok := [.single "SELECT".toList 0, .single "'a;b'".toList 10]
def X2 : List Tok := [.single "USE".toList 2, .single "db".toList 2]
def X3 : List Tok := [.single "SELECT".toList 0, .single ['f'] 2, .group .paren [.single ['x'] 2] 4]

/-- the decidable hypotheses of `script_text_std` about one part -/
def partOK (d : Gen.D) (t sep : List Char) (ts : List Tok) : Bool :=
  lexesTo (lex Gen.cfgS (dialectPre d t)) ts && (!EndsOpen Gen.cfgS (dialectPre d t) || sep.head? == some '\n') &&
  sep.all isSepChar && (dialectPre d t).getLast? != some '\r'

theorem partOK_sound {d : Gen.D} {t sep : List Char} {ts : List Tok} (h : partOK d t sep ts = true) :
    lex Gen.cfgS (dialectPre d t) = .ok ts ∧ (EndsOpen Gen.cfgS (dialectPre d t) = false ∨ sep.head? = some '\n') ∧
    (∀ c ∈ sep, isSepChar c = true) ∧ (dialectPre d t).getLast? ≠ some '\r' := by
  simp only [partOK, Bool.and_eq_true, Bool.or_eq_true, Bool.not_eq_true', beq_iff_eq, List.all_eq_true, bne_iff_ne] at h
  exact ⟨lexesTo_sound h.1.1.1, h.1.1.2, h.1.2, h.2⟩

/-- an instance of `script_text_std`, every hypothesis decided by the kernel: three statements — the first ends in a string
that contains a `;`, the third ends OPEN (line comment) and is followed by a line break —, separators with blanks and
line breaks, a final `;` -/
example : ∃ s1 s2 s3,
    parseStatementsText .MYSQL ("SELECT 'a;b'".toList ++ " ;\n ".toList ++ ("USE db".toList ++ ";".toList ++
      ("SELECT f(x) -- c".toList ++ "\n ; ".toList ++ []))) = .ok [s1, s2, s3] := by
  obtain ⟨s1, h1⟩ := isOne_sound (r := pStatement .MYSQL (fuelFor X1) X1) (by decide +kernel)
  obtain ⟨s2, h2⟩ := isOne_sound (r := pStatement .MYSQL (fuelFor X2) X2) (by decide +kernel)
  obtain ⟨s3, h3⟩ := isOne_sound (r := pStatement .MYSQL (fuelFor X3) X3) (by decide +kernel)
  have p1 := partOK_sound (d := .MYSQL) (t := "SELECT 'a;b'".toList) (sep := " ;\n ".toList) (ts := X1) (by decide +kernel)
  have p2 := partOK_sound (d := .MYSQL) (t := "USE db".toList) (sep := ";".toList) (ts := X2) (by decide +kernel)
  have p3 := partOK_sound (d := .MYSQL) (t := "SELECT f(x) -- c".toList) (sep := "\n ; ".toList) (ts := X3) (by decide +kernel)
  have e1 : (semis " ;\n ".toList).length = 1 := by decide
  have e2 : (semis ";".toList).length = 1 := by decide
  have e3 : (semis "\n ; ".toList).length ≤ 1 := by decide
  exact ⟨s1, s2, s3, script_text_std .MYSQL (by decide)
    [⟨"SELECT 'a;b'".toList, " ;\n ".toList, X1, s1⟩, ⟨"USE db".toList, ";".toList, X2, s2⟩,
     ⟨"SELECT f(x) -- c".toList, "\n ; ".toList, X3, s3⟩]
    (List.forall_mem_cons.2 ⟨⟨p1.1, h1, p1.2⟩, List.forall_mem_cons.2 ⟨⟨p2.1, h2, p2.2⟩,
      List.forall_mem_cons.2 ⟨⟨p3.1, h3, p3.2⟩, fun _ h => nomatch h⟩⟩⟩)
    ⟨e1, e2, e3⟩⟩

def X4 : List Tok := [.single "SELECT".toList 0, .single ['a'] 2, .single ['='] 0, .single ['b'] 2]

/-- HIVE (`==` is replaced by `=` on the whole text) -/
example : ∃ s1 s2, parseStatementsText .HIVE ("SELECT a == b".toList ++ " ; ".toList ++ ("USE db".toList ++ [] ++ [])) =
    .ok [s1, s2] := by
  obtain ⟨s1, h1⟩ := isOne_sound (r := pStatement .HIVE (fuelFor X4) X4) (by decide +kernel)
  obtain ⟨s2, h2⟩ := isOne_sound (r := pStatement .HIVE (fuelFor X2) X2) (by decide +kernel)
  have p1 := partOK_sound (d := .HIVE) (t := "SELECT a == b".toList) (sep := " ; ".toList) (ts := X4) (by decide +kernel)
  have p2 := partOK_sound (d := .HIVE) (t := "USE db".toList) (sep := []) (ts := X2) (by decide +kernel)
  have e1 : (semis " ; ".toList).length = 1 := by decide
  have e2 : (semis []).length ≤ 1 := by decide
  exact ⟨s1, s2, script_text_std .HIVE (by decide)
    [⟨"SELECT a == b".toList, " ; ".toList, X4, s1⟩, ⟨"USE db".toList, [], X2, s2⟩]
    (List.forall_mem_cons.2 ⟨⟨p1.1, h1, p1.2⟩, List.forall_mem_cons.2 ⟨⟨p2.1, h2, p2.2⟩, fun _ h => nomatch h⟩⟩)
    ⟨e1, e2⟩⟩

/-- DB2: the pre-pass hypothesis of `script_text` is a decidable equation on a concrete script -/
example : ∃ s1 s2, parseStatementsText .DB2 ("USE db".toList ++ " ;\n".toList ++ ("USE db".toList ++ [] ++ [])) =
    .ok [s1, s2] := by
  obtain ⟨s2, h2⟩ := isOne_sound (r := pStatement .DB2 (fuelFor X2) X2) (by decide +kernel)
  have p1 := partOK_sound (d := .DB2) (t := "USE db".toList) (sep := " ;\n".toList) (ts := X2) (by decide +kernel)
  have p2 := partOK_sound (d := .DB2) (t := "USE db".toList) (sep := []) (ts := X2) (by decide +kernel)
  have e1 : (semis " ;\n".toList).length = 1 := by decide
  have e2 : (semis []).length ≤ 1 := by decide
  have hp : prep .DB2 ("USE db".toList ++ " ;\n".toList ++ ("USE db".toList ++ [] ++ [])) =
      prep .DB2 "USE db".toList ++ " ;\n".toList ++ (prep .DB2 "USE db".toList ++ [] ++ []) := by decide +kernel
  exact ⟨s2, s2, script_text .DB2 [⟨"USE db".toList, " ;\n".toList, X2, s2⟩, ⟨"USE db".toList, [], X2, s2⟩]
    (List.forall_mem_cons.2 ⟨⟨p1.1, h2, p1.2.1, p1.2.2.1⟩,
      List.forall_mem_cons.2 ⟨⟨p2.1, h2, p2.2.1, p2.2.2.1⟩, fun _ h => nomatch h⟩⟩)
    ⟨e1, e2⟩ hp⟩

-- the conclusion by evaluation
#guard reprs (parseStatementsText .MYSQL "SELECT 'a;b' ;\n USE db;SELECT f(x) -- c\n ; ".toList) ==
  (stmtOf (pStatement .MYSQL (fuelFor X1) X1) ++ stmtOf (pStatement .MYSQL (fuelFor X2) X2) ++
    stmtOf (pStatement .MYSQL (fuelFor X3) X3))
#guard count (parseStatementsText .MYSQL "SELECT 'a;b' ;\n USE db;SELECT f(x) -- c\n ; ".toList) == some 3

end C10
