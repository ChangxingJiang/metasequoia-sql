import MsqModel.Analyze.Tables
import MsqModel.Analyze.TablesSpec
import MsqModel.Gen.Schema
import MsqModel.Driver.CmdAnalyze
/-!
# C14 — table-usage analysis reports exactly the tables a query reads

`AN.allUsedTables` is the reflective walk of `analyzer/base.py` over the generic value; `Spec.tablesOf` is the
specification on the typed tree.  The theorems say that for **every** query tree the walk over `toVal q`
returns exactly the specified list (no error, no extra, no missing entry, same order), and likewise for the
FROM-only and JOIN-only variants.
-/
namespace C14
open Ast AN Spec

/-- the class facts behind the model's name comparisons hold of the class table regenerated from `/repo` -/
theorem schema_ok : AN.schemaOK Gen.schema = true := by decide +kernel

abbrev R (l : List Tbl) : Except Err (List Val) := .ok (l.map Tbl.toVal)

attribute [local simp] allUsedTables allUsedTablesL allUsedTablesF getattr bind Except.bind pure Except.pure
  List.map_append Tbl.toVal Val.optStr Val.ofOpt

theorem ints_ok : ∀ l : List Int, allUsedTablesL (l.map Val.int) = .ok []
  | [] => by simp
  | _ :: r => by simp [ints_ok r]
theorem strs_ok : ∀ l : List String, allUsedTablesL (l.map Val.str) = .ok []
  | [] => by simp
  | _ :: r => by simp [strs_ok r]

/-! A node whose class is not the table-name class contributes what its fields contribute, in order; a tuple what its
elements contribute.  Every case of the walk below is such a term. -/
theorem fnil : allUsedTablesF [] = R [] := rfl
theorem fcons {n : String} {v : Val} {r : List (String × Val)} {x y : List Tbl}
    (h1 : allUsedTables v = R x) (h2 : allUsedTablesF r = R y) : allUsedTablesF ((n, v) :: r) = R (x ++ y) := by
  simp_all
theorem fskip {n : String} {v : Val} {r : List (String × Val)} {y : List Tbl}
    (h1 : allUsedTables v = R []) (h2 : allUsedTablesF r = R y) : allUsedTablesF ((n, v) :: r) = R y := fcons h1 h2
theorem flast {n : String} {v : Val} {r : List (String × Val)} {x : List Tbl}
    (h1 : allUsedTables v = R x) (h2 : allUsedTablesF r = R []) : allUsedTablesF ((n, v) :: r) = R x :=
  (fcons h1 h2).trans (congrArg R (List.append_nil x))
theorem lnil : allUsedTablesL [] = R [] := rfl
theorem lcons {v : Val} {r : List Val} {x y : List Tbl}
    (h1 : allUsedTables v = R x) (h2 : allUsedTablesL r = R y) : allUsedTablesL (v :: r) = R (x ++ y) := by
  simp_all
theorem tuple_ok {xs : List Val} {x : List Tbl} (h : allUsedTablesL xs = R x) : allUsedTables (.tuple xs) = R x := h
theorem node_ok {cls : String} {fs : List (String × Val)} {x : List Tbl} (h2 : allUsedTablesF fs = R x)
    (h : (cls == "ASTTableNameExpression") = false := by simp) : allUsedTables (.node cls fs) = R x := by
  simp_all
theorem optStr_nil (t : Option String) : allUsedTables (Val.optStr t) = R [] := by cases t <;> rfl
theorem fnName_nil (s : Option String) (n : String) : allUsedTables (fnName s n) = R [] := node_ok (fskip (optStr_nil s) (fskip rfl fnil))
theorem alias_nil (a : Option String) : allUsedTables (alias a) = R [] := by cases a <;> rfl
theorem rowItem_nil (a : RowItem) : allUsedTables a.toVal = R [] := by cases a <;> rfl
theorem limit_nil : ∀ lm : Option (Int × Option Int), allUsedTables (limitVal lm) = R []
  | none => rfl
  | some (_, none) => rfl
  | some (_, some _) => rfl

mutual
theorem expr_ok : ∀ e : Expr, allUsedTables e.toVal = R (tablesE e)
  | .column t _ => node_ok (fskip (optStr_nil t) (fskip rfl fnil))
  | .literal _ | .mybatis _ => node_ok (fskip rfl fnil)
  | .wildcard t => node_ok (fskip (optStr_nil t) fnil)
  | .func s n ps => node_ok (fskip (fnName_nil s n) (flast (tuple_ok (exprs_ok ps)) fnil))
  | .agg n ps _ => node_ok (fskip (fnName_nil none n) (flast (tuple_ok (exprs_ok ps)) rfl))
  | .cast e _ _ ps => by
    refine node_ok (fskip (fnName_nil none "CAST") (flast (expr_ok e) (fskip (node_ok (fskip rfl (fskip rfl (fskip ?_ fnil)))) fnil)))
    cases ps with
    | none => rfl
    | some l => exact tuple_ok (ints_ok l)
  | .extract n e => node_ok (fskip (fnName_nil none "EXTRACT") (fcons (expr_ok n) (flast (expr_ok e) fnil)))
  | .window fn part ord rows => by
    refine (node_ok (fcons (expr_ok fn) (fcons (tuple_ok (exprs_ok part)) (flast (tuple_ok (orders_ok ord)) (fskip ?_ fnil))))).trans
      (congrArg R (List.append_assoc ..).symm)
    rcases rows with _ | ⟨a, b⟩
    · rfl
    · exact node_ok (fskip (rowItem_nil a) (fskip (rowItem_nil b) fnil))
  | .caseCond cs els => node_ok (fcons (tuple_ok (arms_ok "ASTCaseConditionItem" (by simp) cs)) (flast (optExpr_ok els) fnil))
  | .caseVal v cs els =>
    (node_ok (fcons (expr_ok v) (fcons (tuple_ok (arms_ok "ASTCaseValueItem" (by simp) cs)) (flast (optExpr_ok els) fnil)))).trans
      (congrArg R (List.append_assoc ..).symm)
  | .subValue vs => node_ok (flast (tuple_ok (exprs_ok vs)) fnil)
  | .subQuery q => node_ok (flast (query_ok q) fnil)
  | .exists_ e | .not_ e => node_ok (flast (expr_ok e) fnil)
  | .unary _ e => node_ok (fskip rfl (flast (expr_ok e) fnil))
  | .index l r | .and_ l r | .xor l r | .or_ l r => node_ok (fcons (expr_ok l) (flast (expr_ok r) fnil))
  | .compute l _ r | .compare _ l r => node_ok (fcons (expr_ok l) (flast (expr_ok r) rfl))
  | .kw k _ l r => node_ok (fskip rfl (fcons (expr_ok l) (flast (expr_ok r) fnil))) (by cases k <;> simp [KwKind.cls])
  | .between _ b f t =>
    (node_ok (fskip rfl (fcons (expr_ok b) (fcons (expr_ok f) (flast (expr_ok t) fnil))))).trans (congrArg R (List.append_assoc ..).symm)
theorem exprs_ok : ∀ es : List Expr, allUsedTablesL (exprs es) = R (tablesEs es)
  | [] => lnil
  | e :: r => lcons (expr_ok e) (exprs_ok r)
theorem optExpr_ok : ∀ e : Option Expr, allUsedTables (optExpr e) = R (tablesOE e)
  | none => rfl
  | some e => expr_ok e
theorem arms_ok (cls : String) (hc : (cls == "ASTTableNameExpression") = false) :
    ∀ cs : List (Expr × Expr), allUsedTablesL (arms cls cs) = R (tablesArms cs)
  | [] => lnil
  | (w, t) :: r => lcons (node_ok (fcons (expr_ok w) (flast (expr_ok t) fnil)) hc) (arms_ok cls hc r)
theorem order_ok : ∀ o : OrderItem, allUsedTables o.toVal = R (tablesO o)
  | .mk e _ _ _ => node_ok (flast (expr_ok e) rfl)
theorem orders_ok : ∀ os : List OrderItem, allUsedTablesL (orders os) = R (tablesOs os)
  | [] => lnil
  | o :: r => lcons (order_ok o) (orders_ok r)
theorem ref_ok : ∀ t : TableRef, allUsedTables t.toVal = R (tablesRef t)
  | .table s n => by cases s <;> rfl
  | .sub q => node_ok (flast (query_ok q) fnil)
theorem fromTable_ok : ∀ t : FromTable, allUsedTables t.toVal = R (tablesFT t)
  | .mk t a => node_ok (flast (ref_ok t) (fskip (alias_nil a) fnil))
theorem fromTables_ok : ∀ ts : List FromTable, allUsedTablesL (fromTables ts) = R (tablesFTs ts)
  | [] => lnil
  | t :: r => lcons (fromTable_ok t) (fromTables_ok r)
theorem rule_ok : ∀ r : JoinRule, allUsedTables r.toVal = R (tablesRule r)
  | .on e | .using e => node_ok (flast (expr_ok e) fnil)
theorem join_ok : ∀ j : Join, allUsedTables j.toVal = R (tablesJ j)
  | .mk _ t none => node_ok (fskip rfl (fcons (y := []) (fromTable_ok t) rfl))
  | .mk _ t (some r) => node_ok (fskip rfl (fcons (fromTable_ok t) (flast (rule_ok r) fnil)))
theorem joins_ok : ∀ js : List Join, allUsedTablesL (joins js) = R (tablesJs js)
  | [] => lnil
  | j :: r => lcons (join_ok j) (joins_ok r)
theorem exprLists_ok : ∀ l : List (List Expr), allUsedTablesL (exprLists l) = R (tablesEss l)
  | [] => lnil
  | g :: r => lcons (tuple_ok (exprs_ok g)) (exprLists_ok r)
theorem group_ok : ∀ g : GroupBy, allUsedTables g.toVal = R (tablesG g)
  | .mk cols none _ _ => node_ok (fcons (y := []) (tuple_ok (exprs_ok cols)) rfl)
  | .mk cols (some l) _ _ => node_ok (fcons (tuple_ok (exprs_ok cols)) (flast (node_ok (flast (tuple_ok (exprLists_ok l)) fnil)) rfl))
theorem lateral_ok : ∀ l : Lateral, allUsedTables l.toVal = R (tablesLat l)
  | .mk _ fn _ as => node_ok (fskip rfl (flast (expr_ok fn) (fskip rfl (fskip (node_ok (fskip (tuple_ok (strs_ok as)) fnil)) fnil))))
theorem laterals_ok : ∀ ls : List Lateral, allUsedTablesL (laterals ls) = R (tablesLats ls)
  | [] => lnil
  | l :: r => lcons (lateral_ok l) (laterals_ok r)
theorem withTable_ok : ∀ w : WithTable, allUsedTables w.toVal = R (tablesW w)
  | .mk _ q => node_ok (fskip rfl (flast (query_ok q) fnil))
theorem withTables_ok : ∀ ws : List WithTable, allUsedTablesL (withTables ws) = R (tablesWs ws)
  | [] => lnil
  | w :: r => lcons (withTable_ok w) (withTables_ok r)
theorem withs_ok : ∀ ws : Option (List WithTable), allUsedTables (withsVal ws) = R (tablesWiths ws)
  | none => rfl
  | some ws => node_ok (flast (tuple_ok (withTables_ok ws)) fnil)
theorem cols_ok : ∀ cs : List (Expr × Option String), allUsedTablesL (selectCols cs) = R (tablesCols cs)
  | [] => lnil
  | (e, a) :: r => lcons (node_ok (flast (expr_ok e) (fskip (alias_nil a) fnil))) (cols_ok r)
theorem fromClause_ok : ∀ fr : Option (List FromTable), allUsedTables (fromClauseVal fr) = R (tablesOFTs fr)
  | none => rfl
  | some l => node_ok (flast (tuple_ok (fromTables_ok l)) fnil)
theorem whereClause_ok : ∀ wh : Option Expr, allUsedTables (whereClauseVal wh) = R (tablesOE wh)
  | none => rfl
  | some e => node_ok (flast (expr_ok e) fnil)
theorem groupByClause_ok : ∀ gb : Option GroupBy, allUsedTables (groupByClauseVal gb) = R (tablesOG gb)
  | none => rfl
  | some g => group_ok g
theorem havingClause_ok : ∀ hv : Option Expr, allUsedTables (havingClauseVal hv) = R (tablesOE hv)
  | none => rfl
  | some e => node_ok (flast (expr_ok e) fnil)
theorem orderByClause_ok : ∀ ob : Option (List OrderItem), allUsedTables (orderByClauseVal ob) = R (tablesOOs ob)
  | none => rfl
  | some l => node_ok (flast (tuple_ok (orders_ok l)) fnil)
theorem sortByClause_ok : ∀ sb : Option (List OrderItem), allUsedTables (sortByClauseVal sb) = R (tablesOOs sb)
  | none => rfl
  | some l => node_ok (flast (tuple_ok (orders_ok l)) fnil)
theorem distributeByClause_ok : ∀ db : Option (List Expr), allUsedTables (distributeByClauseVal db) = R (tablesOEs db)
  | none => rfl
  | some l => node_ok (flast (tuple_ok (exprs_ok l)) fnil)
theorem clusterByClause_ok : ∀ cb : Option (List Expr), allUsedTables (clusterByClauseVal cb) = R (tablesOEs cb)
  | none => rfl
  | some l => node_ok (flast (tuple_ok (exprs_ok l)) fnil)
theorem select_ok : ∀ s : Select, allUsedTables s.toVal = R (tablesS s)
  | .mk ws _ cols fr lats js wh gb hv ob sb db cb lm =>
    (node_ok (fcons (withs_ok ws) (fcons (node_ok (fskip rfl (flast (tuple_ok (cols_ok cols)) fnil))) (fcons (fromClause_ok fr)
      (fcons (tuple_ok (laterals_ok lats)) (fcons (tuple_ok (joins_ok js)) (fcons (whereClause_ok wh) (fcons (groupByClause_ok gb)
      (fcons (havingClause_ok hv) (fcons (orderByClause_ok ob) (fcons (sortByClause_ok sb) (fcons (distributeByClause_ok db)
      (flast (clusterByClause_ok cb) (fskip (limit_nil lm) fnil)))))))))))))).trans (by simp only [R, tablesS, List.append_assoc])
theorem union_ok : ∀ us : List (String × Select), allUsedTablesL (unionElems us) = R (tablesU us)
  | [] => lnil
  | (_, s) :: r => lcons (x := []) rfl (lcons (select_ok s) (union_ok r))
theorem query_ok : ∀ q : Query, allUsedTables q.toVal = R (tablesQ q)
  | .single s => select_ok s
  | .union ws s us =>
    (node_ok (fcons (withs_ok ws) (flast (tuple_ok (lcons (select_ok s) (union_ok us))) fnil))).trans (congrArg R (List.append_assoc ..).symm)
end

/-- **C14, all levels.**  For every query tree the reflective walk returns exactly the tables the specification
lists: every table named in a FROM or JOIN at any depth, once per occurrence, in textual order, schema and name
separated, and nothing else.  (No hypothesis: it holds of the model for every tree.) -/
theorem all_tables_exact (q : Query) : allUsedTables q.toVal = .ok ((tablesOf q).map Tbl.toVal) := query_ok q

/-- the same for a SELECT given as a statement -/
theorem all_tables_exact_stmt (q : Query) : allUsedTables (Stmt.select q).toVal = .ok ((tablesOf q).map Tbl.toVal) := by
  simpa [Stmt.toVal, tablesOf] using query_ok q

theorem from_single (s : Select) : fromClauseTables s.toVal = R (fromOfSelect s) := by
  cases s with
  | mk ws dist cols fr lats js wh gb hv ob sb db cb lm =>
    simp [fromClauseTables, selectToList, Select.toVal, fromOfSelect, fromClause_ok fr]

theorem join_single (s : Select) : joinClauseTables s.toVal = R (joinOfSelect s) := by
  cases s with
  | mk ws dist cols fr lats js wh gb hv ob sb db cb lm =>
    simp [joinClauseTables, selectToList, Select.toVal, joinOfSelect, joins_ok js]

theorem selectToList_select (single : List (String × Val) → Except Err (List Val)) (s : Select) :
    ∃ fs, s.toVal = .node "ASTSingleSelectStatement" fs ∧ selectToList single s.toVal = single fs := by
  cases s with
  | mk ws dist cols fr lats js wh gb hv ob sb db cb lm =>
    simp only [Select.toVal]
    exact ⟨_, rfl, by simp [selectToList]⟩

theorem unionLoop_elems (single : List (String × Val) → Except Err (List Val)) (f : Select → List Tbl)
    (h : ∀ s : Select, selectToList single s.toVal = R (f s)) :
    ∀ us : List (String × Select), unionLoop single (unionElems us) = R (us.flatMap fun p => f p.2)
  | [] => by simp [unionElems, unionLoop]
  | (t, s) :: r => by
    obtain ⟨fs, h1, h2⟩ := selectToList_select single s
    have h3 := h s
    rw [h2] at h3
    simp [unionElems, unionLoop, h1, h3, unionLoop_elems single f h r]

theorem selectToList_query (single : List (String × Val) → Except Err (List Val)) (f : Select → List Tbl)
    (h : ∀ s : Select, selectToList single s.toVal = R (f s)) :
    ∀ q : Query, selectToList single q.toVal = R ((branches q).flatMap f)
  | .single s => by simpa [Query.toVal, branches] using h s
  | .union ws s us => by
    obtain ⟨fs, h1, h2⟩ := selectToList_select single s
    have h3 := h s
    rw [h2] at h3
    have h4 := unionLoop_elems single f h us
    simp [Query.toVal, selectToList, unionLoop, h1, h3, h4, branches, List.flatMap_map]

/-- **C14, FROM-only variant.**  For each top-level SELECT branch, the tables reachable through its FROM clause. -/
theorem from_tables_exact (q : Query) : fromClauseTables q.toVal = .ok ((fromTablesOf q).map Tbl.toVal) :=
  selectToList_query _ fromOfSelect from_single q

/-- **C14, JOIN-only variant.** -/
theorem join_tables_exact (q : Query) : joinClauseTables q.toVal = .ok ((joinTablesOf q).map Tbl.toVal) :=
  selectToList_query _ joinOfSelect join_single q

/-- the FROM-only and JOIN-only variants never report a table the all-levels analysis does not report -/
theorem from_sub_all (s : Select) : ∀ t ∈ fromOfSelect s, t ∈ tablesS s := by
  cases s with
  | mk ws dist cols fr lats js wh gb hv ob sb db cb lm => intro t h; simp [fromOfSelect] at h; simp [tablesS, h]
theorem join_sub_all (s : Select) : ∀ t ∈ joinOfSelect s, t ∈ tablesS s := by
  cases s with
  | mk ws dist cols fr lats js wh gb hv ob sb db cb lm => intro t h; simp [joinOfSelect] at h; simp [tablesS, h]

/-- `WITH w AS (SELECT a FROM base) SELECT (SELECT 1 FROM s1) FROM s.t, (SELECT * FROM d1) x JOIN u ON u.a IN (SELECT b FROM p1)
    WHERE EXISTS (SELECT 1 FROM p2) UNION SELECT a FROM w` -/
def sample : Query :=
  let sel (cols : List (Expr × Option String)) (fr : List FromTable) (js : List Join) (wh : Option Expr) : Select :=
    .mk (some []) false cols (some fr) [] js wh none none none none none none none
  let q1 (t : String) : Query := .single (sel [(.literal "1", none)] [.mk (.table none t) none] [] none)
  .union (some [.mk "w" (q1 "base")])
    (sel [(.subQuery (q1 "s1"), none)] [.mk (.table (some "s") "t") none, .mk (.sub (q1 "d1")) (some "x")]
      [.mk "JOIN" (.mk (.table none "u") none) (some (.on (.kw .in_ false (.column (some "u") "a") (.subQuery (q1 "p1")))))]
      (some (.exists_ (.subQuery (q1 "p2")))))
    [("UNION", sel [(.column none "a", none)] [.mk (.table none "w") none] [] none)]

example : (tablesOf sample).map (fun t => (t.schema, t.name)) =
    [(none, "base"), (none, "s1"), (some "s", "t"), (none, "d1"), (none, "u"), (none, "p1"), (none, "p2"), (none, "w")] := by decide
example : (fromTablesOf sample).map (fun t => (t.schema, t.name)) = [(some "s", "t"), (none, "d1"), (none, "w")] := by decide
example : (joinTablesOf sample).map (fun t => (t.schema, t.name)) = [(none, "u"), (none, "p1")] := by decide

/-! ## Known finding F-C14-1 (composition with the parser)

The theorems above are exact on trees.  On *text* the property also needs the parser to separate schema and name
correctly, and it does not for one back-quoted name containing a dot: `_parse_table_name_expression`
(`parser.py:316-318`) splits the token text at the dot.  `String.splitOn` does not reduce in the kernel, so the
witness is an evaluation of the model (it fails the build if the model stops exhibiting the defect), not a theorem. -/

/-- the tables the model reports for the first statement of a text -/
def tablesOfText (d : Gen.D) (t : String) : Option (List (Option String × String)) :=
  match Drv.firstStmt d t.toList with
  | .ok s => match AN.allUsedTables s.toVal with
    | .ok vs => some (vs.filterMap fun v => match v with
      | .node _ [(_, .none), (_, .str t)] => some (none, t)
      | .node _ [(_, .str s), (_, .str t)] => some (some s, t)
      | _ => none)
    | .error _ => none
  | .error _ => none

def quotedDotSplits : Bool := tablesOfText .MYSQL "SELECT a FROM `a.b`" == some [(some "a", "b")]
#guard quotedDotSplits
#guard tablesOfText .MYSQL "SELECT a FROM `x.y.z`, `s`.`t`, s2.t2, `plain`" == some [(none, "x.y.z"), (some "s", "t"), (some "s2", "t2"), (none, "plain")]

end C14
