import MsqProofs.Lemmas.TQuery2M
import MsqModel.Driver.ShowVal
/-!
# C03 / C02 / C01 — T-parse on the LARGER nested fragment: CAST / EXTRACT / IF / array index / window functions; JOIN … USING,
GROUPING SETS / WITH CUBE / WITH ROLLUP, NULLS FIRST / LAST, SORT / DISTRIBUTE / CLUSTER BY, LATERAL VIEW

The development of Props/C03Q.lean (namespace `TQ`) over a larger fragment; `TQ.FragQ ⊆ TQ2.FragQ2` with equal renderings (Lemmas/TQuery2I.lean).  **Fragment** (mutually recursive `Bool`s, Lemmas/TQuery2_0.lean; any size, any
nesting depth):
* `TQ2.FragE4 d e` — everything of `TQ.FragE3` (operators, predicates, calls, CASE, the three sub-query positions) and in addition
  - `IF(a, …)` (`ifOK`: the tree stores the name `IF`);
  - `CAST(e AS [SIGNED] type [(p, …)])`, `type` any member of the regenerated table `Gen.castTypes` (`all_cast_types_ok`), parameters
    non-negative integers (also the empty list `()`), `e` any fragment expression (printed at bound 8);
  - `EXTRACT(n FROM e)`, `n` and `e` any fragment expressions;
  - `a[i]` with `a` a column, a qualified column or a plain call `f(…)`, `i` any fragment expression (the printer prints it for HIVE only;
    the parser reads it in every dialect);
  - window functions `fn OVER ([PARTITION BY e, …] [ORDER BY item, …] [ROWS BETWEEN a AND b])` with `fn` a plain call `f(…)` or an aggregate
    call `AGG([DISTINCT] …)`, order items with `DESC` / `NULLS FIRST` / `NULLS LAST`, frame bounds `CURRENT ROW`, `UNBOUNDED PRECEDING |
    FOLLOWING`, `n PRECEDING | FOLLOWING` (`n ≥ 0`, also 0).
* `TQ2.FragS4 d s` — a single SELECT with, in addition to `TQ.FragS3`: `JOIN t USING (…)` (the rule is read as a CALL; the tree keeps the
  spelling of the word, F-C09-2), `LATERAL VIEW [OUTER] f(…) v AS a, b, …` (any number, between FROM and the JOINs),
  `GROUP BY [keys] [GROUPING SETS (set, …)] [WITH CUBE] [WITH ROLLUP]` (sets: `()`, a bare element, `(e)` doubly bracketed when its
  rendering starts with a bracket, `(e₁, …, eₙ)`), order items with `NULLS FIRST` / `NULLS LAST` (not both), and after ORDER BY the Hive
  clauses `SORT BY items`, `DISTRIBUTE BY e, …`, `CLUSTER BY e, …` (the printer prints them for HIVE only; the parser reads them in every
  dialect).
* `TQ2.FragQ2 d q` — single SELECT or set-operation chain, as `TQ.FragQ`.
Not covered here: WITH clauses (`TDM3.query_ws`, Lemmas/TDmlR3.lean, over the third fragment; over `FragQ2` it is `C03.tstatement2`, Props/C03R.lean), window functions over
schema-qualified calls / CAST / IF, `LIMIT n OFFSET m` as an input spelling (the printer never prints it; `C03.limit_offset` in Props/C03.lean
is the slot theorem), an index applied to CAST / EXTRACT / aggregate calls, bracketed SELECTs as branches of a set operation.

**Continuations** `TQ2.stopsQ2 d rest`, implied by `TQ.stopsQ d rest` (`TQ2.stopsQ2_of_stopsQ`).
-/
set_option linter.unusedVariables false
open Lex PM Ast TP TS TQ2

namespace TQ2
/-- every member of the regenerated tables satisfies the side conditions of the fragment, in every dialect -/
theorem all_union_types_ok4 : Gen.allD.all (fun d => Gen.unionTypes.all (fun e => unionTyOK4 d e.1)) = true := by
  simpa only [TQ3.unionTyOK4_eq] using TQ3.all_union_types_ok4
theorem all_join_types_ok4 : Gen.allD.all (fun d => Gen.joinTypes.all (fun e => joinTyOK4 d e.1)) = true := by
  simpa only [TQ3.joinTyOK4_eq] using TQ3.all_join_types_ok4
theorem all_cast_types_ok : Gen.castTypes.all (fun e => castTyOK e.1) = true := by
  simpa only [TQ3.castTyOK_eq] using TQ3.all_cast_types_ok

/-- whatever may follow a query of `TQ.FragQ` (`TQ.stopsQ`) may follow a query of the larger fragment -/
theorem stopsQ2_of_stopsQ {d : Gen.D} {rest : List Tok} (h : TQ.stopsQ d rest = true) : stopsQ2 d rest = true :=
  TQ3.stopsQ3_of_stopsQ h

/-- the slots the corollaries speak about (`TS.groupOf`, `TS.joinsOf`, `TS.orderOf` are those of Props/C03T.lean) -/
def firstSelect : Query → Select
  | .single s => s
  | .union _ s _ => s
def lateralsOf : Select → List Lateral | .mk _ _ _ _ lats _ _ _ _ _ _ _ _ _ => lats
def hiveOf : Select → Option (List OrderItem) × Option (List Expr) × Option (List Expr) | .mk _ _ _ _ _ _ _ _ _ _ sb db cb _ => (sb, db, cb)
end TQ2

namespace C03
/-- **T-parse, queries of the larger fragment.**  Parsing the token rendering of a fragment query returns exactly that tree, in front
of every continuation that continues neither a SELECT nor a set operation, at every fuel above an explicit linear bound -/
theorem tquery2 (d : Gen.D) (q : Query) (hq : FragQ2 d q = true) (rest : List Tok) (hr : stopsQ2 d rest = true)
    (fuel : Nat) (hfuel : 20 * sizeL (toksQ2 d noX q) + 9 ≤ fuel) : pSelectStmt d fuel none (toksQ2 d noX q ++ rest) = .ok (q, rest) := by
  obtain ⟨h1, h2⟩ := TQ3.incQ hq
  rw [← h2 noX] at hfuel ⊢
  exact tquery3 d q h1 rest hr fuel hfuel
/-- the same for any choice of redundant brackets around sub-expressions; the hypothesis `hch` is not a restriction: `ChOK d ch` holds of every
`ch` (`TQ3.chOK`, Lemmas/TQuery3M.lean), and the proof does not use it -/
theorem tquery2_ch (d : Gen.D) (ch : Expr → Bool) (hch : ChOK d ch) (q : Query) (hq : FragQ2 d q = true) (rest : List Tok) (hr : stopsQ2 d rest = true)
    (fuel : Nat) (hfuel : 20 * sizeL (toksQ2 d ch q) + 9 ≤ fuel) : pSelectStmt d fuel none (toksQ2 d ch q ++ rest) = .ok (q, rest) := by
  obtain ⟨h1, h2⟩ := TQ3.incQ hq
  rw [← h2 ch] at hfuel ⊢
  exact tquery3_ch d ch (TQ3.chOK d ch) q h1 rest hr fuel hfuel
/-- the fuel the public entry points compute from the token list dominates the bound -/
theorem tquery2_entry_fuel (d : Gen.D) (q : Query) (hq : FragQ2 d q = true) (rest : List Tok) (hr : stopsQ2 d rest = true) :
    pSelectStmt d (fuelFor (toksQ2 d noX q ++ rest)) none (toksQ2 d noX q ++ rest) = .ok (q, rest) :=
  tquery2 d q hq rest hr _ (by simp only [fuelFor, sizeL_append]; omega)
/-- in front of the continuations of `TQ` (`TQ.stopsQ`) -/
theorem tquery2_stopsQ (d : Gen.D) (q : Query) (hq : FragQ2 d q = true) (rest : List Tok) (hr : TQ.stopsQ d rest = true)
    (fuel : Nat) (hfuel : 20 * sizeL (toksQ2 d noX q) + 9 ≤ fuel) : pSelectStmt d fuel none (toksQ2 d noX q ++ rest) = .ok (q, rest) :=
  tquery2 d q hq rest (stopsQ2_of_stopsQ hr) fuel hfuel

/-- **the same through the statement level**: one iteration of the loop of `parse_statements` (before the optional `;`) -/
theorem tquery2_statement (d : Gen.D) (q : Query) (hq : FragQ2 d q = true) (rest : List Tok) (hr : stopsQ2 d rest = true)
    (fuel : Nat) (hfuel : 20 * sizeL (toksQ2 d noX q) + 9 ≤ fuel) :
    pStatement d fuel (toksQ2 d noX q ++ rest) = .ok (.select q, rest) := by
  obtain ⟨h1, h2⟩ := TQ3.incQ hq
  rw [← h2 noX] at hfuel ⊢
  exact tquery3_statement d q h1 rest hr fuel hfuel

/-- equal renderings, equal trees -/
theorem rendering_determines_query2 (d : Gen.D) (q q' : Query) (hq : FragQ2 d q = true) (hq' : FragQ2 d q' = true)
    (h : toksQ2 d noX q = toksQ2 d noX q') : q = q' :=
  C01.eq_of_read_back (tquery2 d q hq [] rfl) (tquery2 d q' hq' [] rfl) (by rw [h])

/-- **clause slots.**  The parse of the rendering of a fragment query has the GROUP BY slot of the query: keys, grouping sets (each set
with its elements in order), the CUBE and ROLLUP flags -/
theorem grouping_sets_slots (d : Gen.D) (q : Query) (hq : FragQ2 d q = true) (rest : List Tok) (hr : stopsQ2 d rest = true)
    (fuel : Nat) (hfuel : 20 * sizeL (toksQ2 d noX q) + 9 ≤ fuel) :
    ∃ p, pSelectStmt d fuel none (toksQ2 d noX q ++ rest) = .ok (p, rest) ∧ groupOf (firstSelect p) = groupOf (firstSelect q) :=
  ⟨q, tquery2 d q hq rest hr fuel hfuel, rfl⟩
/-- the JOIN slots, in particular the USING rule with its columns -/
theorem using_slot (d : Gen.D) (q : Query) (hq : FragQ2 d q = true) (rest : List Tok) (hr : stopsQ2 d rest = true)
    (fuel : Nat) (hfuel : 20 * sizeL (toksQ2 d noX q) + 9 ≤ fuel) :
    ∃ p, pSelectStmt d fuel none (toksQ2 d noX q ++ rest) = .ok (p, rest) ∧ joinsOf (firstSelect p) = joinsOf (firstSelect q) :=
  ⟨q, tquery2 d q hq rest hr fuel hfuel, rfl⟩
/-- the LATERAL VIEW slots: OUTER flag, generator call, view name, column aliases in order -/
theorem lateral_view_slots (d : Gen.D) (q : Query) (hq : FragQ2 d q = true) (rest : List Tok) (hr : stopsQ2 d rest = true)
    (fuel : Nat) (hfuel : 20 * sizeL (toksQ2 d noX q) + 9 ≤ fuel) :
    ∃ p, pSelectStmt d fuel none (toksQ2 d noX q ++ rest) = .ok (p, rest) ∧ lateralsOf (firstSelect p) = lateralsOf (firstSelect q) :=
  ⟨q, tquery2 d q hq rest hr fuel hfuel, rfl⟩
/-- SORT BY / DISTRIBUTE BY / CLUSTER BY, and ORDER BY with its NULLS flags -/
theorem hive_clause_slots (d : Gen.D) (q : Query) (hq : FragQ2 d q = true) (rest : List Tok) (hr : stopsQ2 d rest = true)
    (fuel : Nat) (hfuel : 20 * sizeL (toksQ2 d noX q) + 9 ≤ fuel) :
    ∃ p, pSelectStmt d fuel none (toksQ2 d noX q ++ rest) = .ok (p, rest) ∧ hiveOf (firstSelect p) = hiveOf (firstSelect q) ∧
      orderOf (firstSelect p) = orderOf (firstSelect q) :=
  ⟨q, tquery2 d q hq rest hr fuel hfuel, rfl, rfl⟩
/-- the JOIN … USING rule spelled out: `SELECT items FROM t JOIN u USING (a, …)` parses to the join whose rule is the call -/
theorem using_rule (d : Gen.D) (cols : List (Expr × Option String)) (t u : FromTable) (ty n : String) (ps : List Expr)
    (hs : FragS4 d (.mk (some []) false cols (some [t]) [] [.mk ty u (some (.using (.func none n ps)))] none none none none none none none none) = true)
    (rest : List Tok) (hr : stopsQ2 d rest = true) (fuel : Nat)
    (hfuel : 20 * sizeL (opTok "SELECT" :: (toksCols4 d noX cols ++ opTok "FROM" :: (toksTable4 d noX t ++ (joinWords ty ++ (toksTable4 d noX u ++
      [TP2.qTok n, grp (toksArgs4 d noX 14 ps)]))))) + 9 ≤ fuel) :
    pSelectStmt d fuel none (opTok "SELECT" :: (toksCols4 d noX cols ++ opTok "FROM" :: (toksTable4 d noX t ++ (joinWords ty ++ (toksTable4 d noX u ++
      (TP2.qTok n :: grp (toksArgs4 d noX 14 ps) :: rest)))))) =
      .ok (.single (.mk (some []) false cols (some [t]) [] [.mk ty u (some (.using (.func none n ps)))] none none none none none none none none), rest) := by
  have e : toksQ2 d noX (.single (.mk (some []) false cols (some [t]) [] [.mk ty u (some (.using (.func none n ps)))] none none none none none none none none)) =
      opTok "SELECT" :: (toksCols4 d noX cols ++ opTok "FROM" :: (toksTable4 d noX t ++ (joinWords ty ++ (toksTable4 d noX u ++
        [TP2.qTok n, grp (toksArgs4 d noX 14 ps)])))) := by
    simp [toksQ2, toksS4, toksFrom4, toksTablesTail4, toksLats4, toksJoins4, toksJoin4, toksRule4, toksE4, toksOptE4, toksGroup4, toksOrder4,
      toksSort4, toksBy4, toksLimit]
  have := tquery2 d (.single (.mk (some []) false cols (some [t]) [] [.mk ty u (some (.using (.func none n ps)))] none none none none none none none none))
    (by simpa [FragQ2] using hs) rest hr fuel (by rw [e]; exact hfuel)
  rw [e] at this
  simpa using this
end C03

namespace C02
/-- **T-parse, expressions of the larger fragment** (the expression half of the mutual induction) -/
theorem tparse4 (d : Gen.D) (e : Expr) (hf : FragE4 d e = true) (rest : List Tok) (hr : TP2.stops2 d rest = true)
    (fuel : Nat) (hfuel : 20 * sizeL (toksE4 d noX e) + 15 ≤ fuel) : pOr d fuel (toksE4 d noX e ++ rest) = .ok (e, rest) := by
  obtain ⟨h1, h2⟩ := TQ3.incE hf
  rw [← h2 noX] at hfuel ⊢
  exact tparse5 d e h1 rest hr fuel hfuel
/-- window functions: the function, the PARTITION BY keys, the ORDER BY items and the frame land in their slots -/
theorem window_slots (d : Gen.D) (fn : Expr) (part : List Expr) (ord : List OrderItem) (rows : Option (RowItem × RowItem))
    (hf : FragE4 d (.window fn part ord rows) = true) (rest : List Tok) (hr : TP2.stops2 d rest = true) (fuel : Nat)
    (hfuel : 20 * sizeL (toksE4 d noX fn ++ [opTok "OVER", grp (((if part.isEmpty then [] else [opTok "PARTITION", opTok "BY"]) ++ toksArgs4 d noX 8 part) ++
      (((if ord.isEmpty then [] else [opTok "ORDER", opTok "BY"]) ++ toksOrdList4 d noX ord) ++ toksRows rows))]) + 15 ≤ fuel) :
    pOr d fuel (toksE4 d noX fn ++ (opTok "OVER" :: grp (((if part.isEmpty then [] else [opTok "PARTITION", opTok "BY"]) ++ toksArgs4 d noX 8 part) ++
      (((if ord.isEmpty then [] else [opTok "ORDER", opTok "BY"]) ++ toksOrdList4 d noX ord) ++ toksRows rows)) :: rest)) =
      .ok (.window fn part ord rows, rest) := by
  have := tparse4 d (.window fn part ord rows) hf rest hr fuel (by simpa [toksE4] using hfuel)
  simpa [toksE4] using this
/-- `CAST(e AS [SIGNED] type [(p, …)])`: operand, SIGNED flag, type member, parameters -/
theorem cast_slots (d : Gen.D) (e : Expr) (sg : Bool) (ty : String) (ps : Option (List Int)) (hf : FragE4 d (.cast e sg ty ps) = true)
    (rest : List Tok) (hr : TP2.stops2 d rest = true) (fuel : Nat)
    (hfuel : 20 * sizeL [opTok "CAST", grp (W4 d noX e 8 ++ opTok "AS" :: ((if sg then [opTok "SIGNED"] else []) ++ opTok (castVal ty) :: castParamToks ps))] + 15 ≤ fuel) :
    pOr d fuel (opTok "CAST" :: grp (W4 d noX e 8 ++ opTok "AS" :: ((if sg then [opTok "SIGNED"] else []) ++ opTok (castVal ty) :: castParamToks ps)) :: rest) =
      .ok (.cast e sg ty ps, rest) := by
  have := tparse4 d (.cast e sg ty ps) hf rest hr fuel (by simpa [toksE4, W4] using hfuel)
  simpa [toksE4, W4] using this
/-- `EXTRACT(n FROM e)` -/
theorem extract_slots (d : Gen.D) (n e : Expr) (hf : FragE4 d (.extract n e) = true) (rest : List Tok) (hr : TP2.stops2 d rest = true) (fuel : Nat)
    (hfuel : 20 * sizeL [opTok "EXTRACT", grp (W4 d noX n 8 ++ opTok "FROM" :: W4 d noX e 8)] + 15 ≤ fuel) :
    pOr d fuel (opTok "EXTRACT" :: grp (W4 d noX n 8 ++ opTok "FROM" :: W4 d noX e 8) :: rest) = .ok (.extract n e, rest) := by
  have := tparse4 d (.extract n e) hf rest hr fuel (by simpa [toksE4, W4] using hfuel)
  simpa [toksE4, W4] using this
/-- `a[i]`: base and index -/
theorem index_slots (d : Gen.D) (a i : Expr) (hf : FragE4 d (.index a i) = true) (rest : List Tok) (hr : TP2.stops2 d rest = true) (fuel : Nat)
    (hfuel : 20 * sizeL (toksE4 d noX a ++ [arr (W4 d noX i 8)]) + 15 ≤ fuel) :
    pOr d fuel (toksE4 d noX a ++ (arr (W4 d noX i 8) :: rest)) = .ok (.index a i, rest) := by
  have := tparse4 d (.index a i) hf rest hr fuel (by simpa [toksE4, W4] using hfuel)
  simpa [toksE4, W4] using this
end C02

namespace C01
/-- **print / parse round trip of a query of the larger fragment, token level** -/
theorem query_round_trip_tokens2 (d : Gen.D) (q : Query) (hq : FragQ2 d q = true) (fuel : Nat) (hfuel : 20 * sizeL (toksQ2 d noX q) + 9 ≤ fuel) :
    pSelectStmt d fuel none (toksQ2 d noX q) = .ok (q, []) := by
  have := C03.tquery2 d q hq [] rfl fuel hfuel
  simpa using this
end C01

/-! ### non-vacuity (compiled evaluation) -/
namespace C03
/-- the token-level printer agrees with the lexer on the printer's text, and the tree is in the fragment -/
def agreesQ2 (d : Gen.D) (q : Query) : Bool :=
  match PR.prQ d q with
  | .ok x => eqbL (lexed x) (toksQ2 d noX q) && FragQ2 d q
  | .error _ => false
def roundTripsQ2 (d : Gen.D) (q : Query) : Bool :=
  match pSelectStmt d (20 * sizeL (toksQ2 d noX q) + 9) none (toksQ2 d noX q) with
  | .ok (p, []) => Drv.showVal p.toVal == Drv.showVal q.toVal
  | _ => false
def q2sel2 (cols : List (Expr × Option String)) (fr : Option (List FromTable)) (wh : Option Expr := none) (js : List Join := [])
    (gb : Option GroupBy := none) (ob : Option (List OrderItem) := none) (lats : List Lateral := []) (sb : Option (List OrderItem) := none)
    (db cb : Option (List Expr) := none) : Select :=
  .mk (some []) false cols fr lats js wh gb none ob sb db cb none
/-- window functions with every kind of frame bound, CAST with parameters, EXTRACT, IF -/
def q2w1 : Query := .single (q2sel2
  [(.window (.func none "row_number" []) [col "a", col "b"] [.mk (col "c") true false true, .mk (col "e") false true false]
      (some (.num 0 true, .current)), some "rn"),
   (.window (.agg "sum" [col "x"] false) [] [.mk (col "c") false false false] (some (.unbounded true, .num 3 false)), none),
   (.window (.agg "count" [.wildcard none] false) [] [] none, none),
   (.cast (.compute (col "a") "PLUS" (lit "1")) false "DECIMAL" (some [10, 2]), some "k"),
   (.cast (col "a") true "INT" none, none), (.cast (col "a") false "CHAR" (some []), none),
   (.extract (col "year") (col "ts"), none), (.func none "IF" [.compare "GT" (col "a") (lit "0"), lit "1", lit "2"], none)]
  (some [tb "t"]))
/-- USING, GROUPING SETS with the four shapes of a set, WITH CUBE / ROLLUP, NULLS -/
def q2w2 : Query := .single (q2sel2 [(col "a", none), (.agg "count" [.wildcard none] false, some "n")] (some [tb "t" (some "x")]) none
  [.mk "LEFT_JOIN" (tb "u" (some "y")) (some (.using (.func none "USING" [col "a", col "b"])))]
  (some (.mk [col "a", col "b"] (some [[], [col "a"], [.subQuery qa], [col "a", .compute (col "b") "PLUS" (lit "1")]]) true true))
  (some [.mk (col "a") true true false, .mk (col "b") false false true]))
def q2w2b : Query := .single (q2sel2 [(col "a", none)] (some [tb "t"]) none [] (some (.mk [] (some [[col "a"], [col "b"]]) false false)))
def q2w2c : Query := .single (q2sel2 [(col "a", none)] (some [tb "t"]) none [] (some (.mk [col "a"] none false true)))
/-- LATERAL VIEW [OUTER], the Hive clauses, an array index -/
def q2w3 : Query := .single (q2sel2 [(.index (col "a") (lit "1"), some "f"), (.index (.func none "split" [col "s", lit "','"]) (.compute (col "i") "PLUS" (lit "1")), none),
    (.index (.column (some "t") "m") (lit "'k'"), none)]
  (some [tb "t"]) (some (.compare "GT" (col "x") (lit "0"))) [.mk "JOIN" (tb "u") (some (.on (.compare "EQ" (col "a") (col "b"))))] none none
  [.mk false (.func none "explode" [col "arr"]) "v" ["x"], .mk true (.func none "posexplode" [col "m"]) "w" ["k", "val"]]
  (some [.mk (col "a") true false false]) (some [col "a", col "b"]) (some [col "c"]))
def q2w4 : Query := .union (some []) (q2sel2 [(.window (.func none "rank" []) [] [.mk (col "c") false false false] none, none)]
    (some [.mk (.sub q2w2c) (some "d")])) [("UNION_ALL", q2sel2 [(.cast (col "a") false "BIGINT" none, none)] none)]
#guard [q2w1, q2w2, q2w2b, q2w2c, q2w4].all (agreesQ2 .MYSQL) && [q2w1, q2w2, q2w2b, q2w2c, q2w3, q2w4].all (agreesQ2 .HIVE) && [q2w1, q2w2, q2w4].all (agreesQ2 .ORACLE) &&
  [q2w1, q2w2, q2w2c, q2w4].all (agreesQ2 .DEFAULT) && [q2w1, q2w2].all (agreesQ2 .POSTGRE_SQL)
#guard [q2w1, q2w2, q2w2b, q2w2c, q2w3, q2w4].all (roundTripsQ2 .MYSQL) && [q2w1, q2w2, q2w2b, q2w2c, q2w3, q2w4].all (roundTripsQ2 .HIVE) && [q2w1, q2w2, q2w3].all (roundTripsQ2 .DB2)
-- the printer refuses the Hive constructs for other dialects (C13.printable_iff); the token-level theorem holds for every dialect
#guard (match PR.prQ .MYSQL q2w3 with | .error _ => true | .ok _ => false) && FragQ2 .MYSQL q2w3
-- what may follow: the continuations of `TQ`, e.g. `;`
#guard stopsQ2 .MYSQL (lexed "; SELECT 2") && stopsQ2 .MYSQL [] && !stopsQ2 .MYSQL (lexed "SORT BY a") && !stopsQ2 .MYSQL (lexed "LATERAL VIEW f(x) t AS a")
-- outside the fragment: both NULLS phrases, a negative frame bound, a window over a qualified call, an index on an index
#guard !FragQ2 .HIVE (.single (q2sel2 [(col "a", none)] none none [] none (some [.mk (col "a") false true true]))) &&
  !FragE4 .HIVE (.window (.func none "f" []) [] [] (some (.num (-1) true, .current))) &&
  !FragE4 .HIVE (.window (.func (some "s") "f" []) [] [] none) && !FragE4 .HIVE (.index (.index (col "a") (lit "1")) (lit "2"))
-- F-C09-2 as seen by the fragment: the spelling of USING is part of the tree, both spellings are in the fragment and parse to different trees
#guard FragQ2 .MYSQL (.single (q2sel2 [(col "a", none)] (some [tb "t"]) none [.mk "JOIN" (tb "u") (some (.using (.func none "using" [col "a"])))])) &&
  (match pSelectStmt .MYSQL 2000 none (lexed "SELECT a FROM t JOIN u using(a)"), pSelectStmt .MYSQL 2000 none (lexed "SELECT a FROM t JOIN u USING(a)") with
   | .ok (p, []), .ok (p', []) => Drv.showVal p.toVal != Drv.showVal p'.toVal | _, _ => false)
-- instances of the theorems (hypotheses decided by the kernel, conclusions the theorems')
set_option maxRecDepth 100000 in
example : pSelectStmt .HIVE (fuelFor (toksQ2 .HIVE noX q2w2c ++ lexed "; x")) none (toksQ2 .HIVE noX q2w2c ++ lexed "; x") = .ok (q2w2c, lexed "; x") :=
  tquery2_entry_fuel .HIVE q2w2c (by decide) _ (by decide)
end C03
