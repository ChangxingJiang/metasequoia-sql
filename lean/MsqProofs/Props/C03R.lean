import MsqProofs.Lemmas.TRest3
import MsqProofs.Props.C03D
/-!
# C03 / C01 — T-parse for the remaining statement classes, and ONE theorem over the union of all statement fragments

Stands next to Props/C03Q2.lean (queries, `TQ2`), Props/C03D.lean (data-change statements and WITH over `FragQ`, `TDM`) and Props/C18T.lean
(CREATE TABLE, `TD`) and takes their union; definitions in Lemmas/TRest0.lean (namespace `TR`), proofs in Lemmas/TRest3.lean (those of the
development over `FragQ3`, Lemmas/TRestG1–3.lean, through `FragAny ⊆ TR3.FragAny`).  The data-change development over the larger
query fragment: Lemmas/TDmlQ0.lean, TDmlQ1.lean, TDmlQ4.lean (namespace `TDM2`; `TDM2.FragStmt ⊆ TDM3.FragStmt` with equal renderings: Lemmas/TDmlRI.lean), and
Lemmas/TDmlQI.lean proves `TDM.FragStmt ⊆ TDM2.FragStmt` with equal renderings.

**New classes** — fragment `TR.FragRest d s`, token printer `TR.toksRest d s` (mirrors `PR.prStmt`; `#guard`s below check
`lex (prStmt d s) = toksRest d s` for every class in MYSQL and HIVE):
* `ALTER TABLE t clause, …` (one or more clauses, EVERY `AlterOp` of the model): `ADD [IF NOT EXISTS] PARTITION (…)`,
  `DROP [IF EXISTS] PARTITION (…)` (static items `k = v` or dynamic items `k`, as in INSERT: `TDM.partOK`); `ADD x`, `MODIFY x`,
  ``CHANGE `old` x`` with `x` a column definition of `TD.colOK` (for MYSQL every attribute the printer writes, for the other dialects
  type and COMMENT — what `prDefCol` prints), a key `PRIMARY KEY | UNIQUE KEY n | KEY n | FULLTEXT KEY n (cols) [USING] [COMMENT]
  [KEY_BLOCK_SIZE=n]` (`TD.idxOK`) or a foreign key `CONSTRAINT n FOREIGN KEY (…) REFERENCES t (…) [ON DELETE a] [ON UPDATE a]`
  (`TD.fkOK`); ``RENAME COLUMN `a` TO `b` ``; ``DROP COLUMN `c` ``.  The model (and the parser) has no `RENAME TO` and no `ADD COLUMN`.
* `DROP TABLE [IF EXISTS] t`, `TRUNCATE TABLE t`, `MSCK REPAIR TABLE t` (`t` plain or schema-qualified: `TDM.tblOKD`), `USE s` (any raw
  string), `SHOW DATABASES`, `SHOW TABLES`;
* `SET k=v`: `k` and `v` configuration strings — words joined by `.` and `-` (`hive.exec.dynamic.partition`), or ONE token of any
  other shape (a quoted string, a decimal number) — `TR.cfgOK`: the parser's concatenation of the pieces is the stored string;
* `ANALYZE TABLE t [PARTITION (…)] COMPUTE STATISTICS [FOR COLUMNS] [CACHE METADATA] [NOSCAN]` for HIVE (every combination of the
  three flags); for the other dialects the bare `ANALYZE TABLE t` the MySQL printer writes — partition and flags must be unset, the
  MySQL rendering does not state them (see the note on the information loss at the end);
* `SHOW COLUMNS FROM t [alias], … [WHERE e]`: tables (also derived tables) and filter of the larger query fragment (`TQ2.fromOK4`, `TQ2.FragO4`);
  the model (and the parser) has no second `FROM db`;
* `CREATE TABLE t AS [WITH name AS (q), …] <query of FragQ2>` (`TR.selOK`; `_parse_select_statement` finds the WITH clause itself there:
  `TR3.with_query_select2`, Lemmas/TRestG3.lean).

**The union** `TR.FragAny d s` = a query of `FragQ2` ∨ a statement of `TDM2.FragStmt` (DELETE / UPDATE / INSERT / WITH … over `FragQ2` and
`FragE4`: window functions, CAST, GROUPING SETS, LATERAL VIEW … inside data-change statements and under WITH; it contains
`TDM.FragStmt`, the same over `FragQ`, with the same rendering: `C03.fragStmt_sub_fragStmt2`, `fragAny_of_fragStmt`) ∨ a CREATE TABLE of
`TD.FragCreate` ∨ `FragRest`; printer `TR.toksAny`; continuation `TR.stopsAny d rest`: empty, or a head with source `;`
that continues nothing (`sa_nil`, `sa_semi`); `TR.restAfter s rest`: CREATE TABLE swallows one `;` itself (`parser.py:2017`, C10), every
other statement leaves it to the loop.

Not covered: the restrictions of the component fragments (a WITH clause inside a sub-query or a WITH body, bracketed SELECTs as branches
of a set operation, …); the accounting theorem `C08.dml_accounted` stays over `TDM.FragStmt`.
-/
set_option linter.unusedVariables false
open Lex PM Ast TP TS TR

namespace C03
/-- **T-parse, the remaining statement classes.**  One iteration of the loop of `parse_statements` on the token rendering of an
ALTER TABLE, DROP TABLE, TRUNCATE TABLE, MSCK REPAIR TABLE, USE, SET, ANALYZE TABLE, SHOW DATABASES / TABLES / COLUMNS or CREATE TABLE … AS
statement of the fragment returns exactly that statement, in front of the end of input or a `;`, at every fuel above a linear bound -/
theorem tstatement_rest (d : Gen.D) (s : Stmt) (hs : FragRest d s = true) (rest : List Tok) (hr : stopsAny d rest = true) (fuel : Nat)
    (hfuel : 20 * sizeL (toksRest d s) + 16 ≤ fuel) : pStatement d fuel (toksRest d s ++ rest) = .ok (s, rest) :=
  rest_ok s hs rest hr fuel hfuel

theorem talter (d : Gen.D) (t : TableName) (ops : List AlterOp) (hs : FragRest d (.alter t ops) = true) (rest : List Tok)
    (hr : stopsAny d rest = true) (fuel : Nat) (hfuel : 20 * sizeL (toksAlter d t ops) + 16 ≤ fuel) :
    pStatement d fuel (toksAlter d t ops ++ rest) = .ok (.alter t ops, rest) := tstatement_rest d _ hs rest hr fuel hfuel
theorem tdrop_table (d : Gen.D) (b : Bool) (t : TableName) (hs : FragRest d (.dropTable b t) = true) (rest : List Tok)
    (hr : stopsAny d rest = true) (fuel : Nat) : pStatement d fuel (toksDrop b t ++ rest) = .ok (.dropTable b t, rest) :=
  drop_ok b t hs rest hr fuel
theorem ttruncate (d : Gen.D) (t : TableName) (hs : FragRest d (.truncate t) = true) (rest : List Tok) (hr : stopsAny d rest = true)
    (fuel : Nat) : pStatement d fuel (toksTruncate t ++ rest) = .ok (.truncate t, rest) := truncate_ok t hs rest hr fuel
theorem tmsck (d : Gen.D) (t : TableName) (hs : FragRest d (.msck t) = true) (rest : List Tok) (hr : stopsAny d rest = true)
    (fuel : Nat) : pStatement d fuel (toksMsck t ++ rest) = .ok (.msck t, rest) := msck_ok t hs rest hr fuel
/-- `USE s`: any stored string, any continuation, any fuel -/
theorem tuse (d : Gen.D) (s : String) (rest : List Tok) (fuel : Nat) : pStatement d fuel (toksUse s ++ rest) = .ok (.use s, rest) :=
  use_ok s rest fuel
theorem tset (d : Gen.D) (c : ConfigStr) (hs : FragRest d (.set c) = true) (rest : List Tok) (hr : stopsAny d rest = true) (fuel : Nat) :
    pStatement d fuel (toksSet c ++ rest) = .ok (.set c, rest) := by
  simp only [FragRest, Bool.and_eq_true] at hs
  exact set_ok c hs.1 hs.2 rest hr fuel
theorem tanalyze (d : Gen.D) (t : TableName) (p : Option (List Expr)) (fc cm ns : Bool) (hs : FragRest d (.analyze t p fc cm ns) = true)
    (rest : List Tok) (hr : stopsAny d rest = true) (fuel : Nat) (hfuel : 20 * sizeL (toksAnalyze d t p fc cm ns) + 16 ≤ fuel) :
    pStatement d fuel (toksAnalyze d t p fc cm ns ++ rest) = .ok (.analyze t p fc cm ns, rest) := tstatement_rest d _ hs rest hr fuel hfuel
theorem tshow_columns (d : Gen.D) (fr : List FromTable) (wh : Option Expr) (hs : FragRest d (.showColumns fr wh) = true)
    (rest : List Tok) (hr : stopsAny d rest = true) (fuel : Nat) (hfuel : 20 * sizeL (toksShowColumns d fr wh) + 16 ≤ fuel) :
    pStatement d fuel (toksShowColumns d fr wh ++ rest) = .ok (.showColumns fr wh, rest) := tstatement_rest d _ hs rest hr fuel hfuel
theorem tcreate_table_as (d : Gen.D) (t : TableName) (ine : Bool) (q : Query) (hs : FragRest d (.createTableAs t ine q) = true)
    (rest : List Tok) (hr : stopsAny d rest = true) (fuel : Nat) (hfuel : 20 * sizeL (toksCreateAs d t ine q) + 16 ≤ fuel) :
    pStatement d fuel (toksCreateAs d t ine q ++ rest) = .ok (.createTableAs t ine q, rest) := tstatement_rest d _ hs rest hr fuel hfuel

def alterOpsOf : Stmt → List AlterOp
  | .alter _ ops => ops
  | _ => []
def alterTableOf : Stmt → Option TableName
  | .alter t _ => some t
  | _ => none
/-- **ALTER TABLE: every clause in order, each with its kind and its arguments; the target from the table token** -/
theorem alter_slots (d : Gen.D) (t : TableName) (ops : List AlterOp) (hs : FragRest d (.alter t ops) = true) (rest : List Tok)
    (hr : stopsAny d rest = true) (fuel : Nat) (hfuel : 20 * sizeL (toksAlter d t ops) + 16 ≤ fuel) :
    ∃ p, pStatement d fuel (opTok "ALTER" :: opTok "TABLE" :: tbl t :: (toksAlterOps d ops ++ rest)) = .ok (p, rest) ∧
      alterOpsOf p = ops ∧ alterTableOf p = some t := by
  refine ⟨.alter t ops, ?_, rfl, rfl⟩
  have := talter d t ops hs rest hr fuel hfuel
  simpa [toksAlter] using this
/-- one clause, through `_parse_alter_expression`: followed by the `,` of the next clause or by the end of the statement -/
theorem alter_clause (d : Gen.D) (o : AlterOp) (ho : alterOpOK d o = true) (r : List Tok)
    (hr : (∃ x, r = commaTok :: x) ∨ stopsAny d r = true) (fuel : Nat) (hfuel : 20 * sizeL (toksAlterOp d o) + 2 ≤ fuel) :
    pAlterExpr d fuel (toksAlterOp d o ++ r) = .ok (o, r) := alterOp_ok o ho r hr fuel hfuel
/-- a column definition / key / foreign key inside a clause, through `_parse_column_or_index` -/
theorem alter_column_or_index (d : Gen.D) (x : ColOrIdx) (hx : colOrIdxOK d x = true) (r : List Tok)
    (hr : (∃ y, r = commaTok :: y) ∨ stopsAny d r = true) (fuel : Nat) (hfuel : 20 * sizeL (toksColOrIdx d x) + 2 ≤ fuel) :
    pColOrIdx d fuel (toksColOrIdx d x ++ r) = .ok (x, r) := colOrIdx_ok x hx r hr fuel hfuel
def analyzeOf : Stmt → Option (TableName × Option (List Expr) × Bool × Bool × Bool)
  | .analyze t p fc cm ns => some (t, p, fc, cm, ns)
  | _ => none
/-- **ANALYZE TABLE (Hive rendering): the partition list and each of the three flags from its own words** -/
theorem analyze_slots (t : TableName) (p : Option (List Expr)) (fc cm ns : Bool) (hs : FragRest .HIVE (.analyze t p fc cm ns) = true)
    (rest : List Tok) (hr : stopsAny .HIVE rest = true) (fuel : Nat) (hfuel : 20 * sizeL (toksAnalyze .HIVE t p fc cm ns) + 16 ≤ fuel) :
    ∃ s, pStatement .HIVE fuel (opTok "ANALYZE" :: opTok "TABLE" :: tbl t :: (TDM2.toksPart .HIVE noX p ++ (opTok "COMPUTE" :: opTok "STATISTICS" ::
        (TD.flag fc [opTok "FOR", opTok "COLUMNS"] ++ (TD.flag cm [opTok "CACHE", opTok "METADATA"] ++ (TD.flag ns [opTok "NOSCAN"] ++ rest)))))) =
        .ok (s, rest) ∧ analyzeOf s = some (t, p, fc, cm, ns) := by
  refine ⟨.analyze t p fc cm ns, ?_, rfl⟩
  have := tanalyze .HIVE t p fc cm ns hs rest hr fuel hfuel
  simpa [toksAnalyze] using this
def configOf : Stmt → Option ConfigStr
  | .set c => some c
  | _ => none
/-- **SET: key and value are the concatenations of the pieces on either side of `=`** -/
theorem set_slots (d : Gen.D) (k v : String) (hk : cfgOK k = true) (hv : cfgOK v = true) (rest : List Tok) (hr : stopsAny d rest = true)
    (fuel : Nat) : ∃ s, pStatement d fuel (opTok "SET" :: (toksCfg k ++ TD.eqTok :: (toksCfg v ++ rest))) = .ok (s, rest) ∧
      configOf s = some ⟨k, v⟩ := by
  refine ⟨.set ⟨k, v⟩, ?_, rfl⟩
  have := set_ok (d := d) ⟨k, v⟩ hk hv rest hr fuel
  simpa [toksSet] using this
def showOf : Stmt → Option (List FromTable × Option Expr)
  | .showColumns fr wh => some (fr, wh)
  | _ => none
/-- **SHOW COLUMNS: the tables after FROM in order, the filter after WHERE** -/
theorem show_columns_slots (d : Gen.D) (fr : List FromTable) (wh : Option Expr) (hs : FragRest d (.showColumns fr wh) = true)
    (rest : List Tok) (hr : stopsAny d rest = true) (fuel : Nat) (hfuel : 20 * sizeL (toksShowColumns d fr wh) + 16 ≤ fuel) :
    ∃ s, pStatement d fuel (opTok "SHOW" :: opTok "COLUMNS" :: (TQ2.toksFrom4 d noX (some fr) ++ (TQ2.toksOptE4 d noX "WHERE" wh ++ rest))) =
      .ok (s, rest) ∧ showOf s = some (fr, wh) := by
  refine ⟨.showColumns fr wh, ?_, rfl⟩
  have := tshow_columns d fr wh hs rest hr fuel hfuel
  simpa [toksShowColumns] using this

/-! ### data-change statements over the larger query fragment -/
/-- **T-parse, data-change statements over `FragQ2` / `FragE4`** (`C03.tstatement` is its instance on `TDM.FragStmt`): DELETE, UPDATE, INSERT … VALUES, INSERT … query,
a query, the last four with an optional WITH clause — expressions and queries of the LARGER fragment -/
theorem tstatement2 (d : Gen.D) (s : Stmt) (hs : TDM2.FragStmt d s = true) (rest : List Tok) (hr : TDM2.stopsStmt d rest = true)
    (fuel : Nat) (hfuel : 20 * sizeL (TDM2.toksStmt d s) + 16 ≤ fuel) : pStatement d fuel (TDM2.toksStmt d s ++ rest) = .ok (s, rest) :=
  TDM2.stmt_ok (d == .HIVE) s hs rest hr fuel hfuel
/-- the same with redundant brackets inside expressions and the optional word `TABLE` written or not; the proof does not use `hch`:
the statement holds for every `ch` -/
theorem tstatement2_ch (d : Gen.D) (ch : Expr → Bool) (hch : TQ2.ChOK d ch) (tb : Bool) (s : Stmt) (hs : TDM2.FragStmt d s = true)
    (rest : List Tok) (hr : TDM2.stopsStmt d rest = true) (fuel : Nat) (hfuel : 20 * sizeL (TDM2.toksStmtG d ch tb s) + 16 ≤ fuel) :
    pStatement d fuel (TDM2.toksStmtG d ch tb s ++ rest) = .ok (s, rest) :=
  TDM2.stmt_ok tb s hs rest hr fuel hfuel
/-- **`TDM.FragStmt ⊆ TDM2.FragStmt`** with equal renderings (any redundant brackets, `TABLE` written or not): `C03.tstatement` is an
instance of `C03.tstatement2` -/
theorem fragStmt_sub_fragStmt2 (d : Gen.D) (ch : Expr → Bool) (tb : Bool) (s : Stmt) (hs : TDM.FragStmt d s = true) :
    TDM2.FragStmt d s = true ∧ TDM2.toksStmtG d ch tb s = TDM.toksStmtG d ch tb s := TDM2.fragStmt_sub d ch tb s hs

/-! ### the union of all statement fragments -/
/-- **T-parse, every statement class.**  One iteration of the loop of `parse_statements` on the token rendering of ANY statement of
the union fragment — a query (`FragQ2`), DELETE / UPDATE / INSERT / WITH … (`TDM2.FragStmt`), CREATE TABLE (`TD.FragCreate`), or one of
the classes above — returns exactly that statement and leaves the continuation (CREATE TABLE: without its leading `;`) -/
theorem tstatement_any (d : Gen.D) (s : Stmt) (hs : FragAny d s = true) (rest : List Tok) (hr : stopsAny d rest = true) (fuel : Nat)
    (hfuel : 20 * sizeL (toksAny d s) + 16 ≤ fuel) : pStatement d fuel (toksAny d s ++ rest) = .ok (s, restAfter s rest) :=
  any_ok s hs rest hr fuel hfuel
/-- the fuel the public entry points compute from the token list dominates the bound -/
theorem tstatement_any_entry_fuel (d : Gen.D) (s : Stmt) (hs : FragAny d s = true) (rest : List Tok) (hr : stopsAny d rest = true) :
    pStatement d (fuelFor (toksAny d s ++ rest)) (toksAny d s ++ rest) = .ok (s, restAfter s rest) :=
  tstatement_any d s hs rest hr _ (by simp only [fuelFor, sizeL_append]; omega)
/-- the union contains the data-change fragment of Props/C03D.lean, with its rendering -/
theorem fragAny_of_fragStmt (d : Gen.D) (s : Stmt) (hs : TDM.FragStmt d s = true) : FragAny d s = true ∧ toksAny d s = TDM.toksStmt d s :=
  any_of_fragStmt s hs
/-- … and the queries of `FragQ2`, with their rendering -/
theorem fragAny_of_fragQ2 (d : Gen.D) (q : Query) (hq : TQ2.FragQ2 d q = true) :
    FragAny d (.select q) = true ∧ toksAny d (.select q) = TQ2.toksQ2 d noX q := any_of_fragQ2 q hq
theorem restAfter_nil (s : Stmt) : restAfter s [] = [] := by cases s <;> rfl
/-- the two continuations the statement loop produces -/
theorem stopsAny_nil (d : Gen.D) : stopsAny d [] = true := rfl
theorem stopsAny_semi (d : Gen.D) (x : List Tok) : stopsAny d (TDM.semiTok :: x) = true := sa_semi x

/-- **scripts that mix every statement class.**  The token list `s₁ ; s₂ ; … ; sₙ [;]` of statements of the union fragment parses,
through `parse_statements`' loop with the entry point's own fuel, to `[s₁, …, sₙ]` -/
theorem tscript_any (d : Gen.D) (ss : List Stmt) (hss : ∀ s ∈ ss, FragAny d s = true) (fin : Bool) :
    pStatements d (fuelFor (C10.script TDM.semiTok (ss.map (toksAny d)) fin)) (C10.script TDM.semiTok (ss.map (toksAny d)) fin) = .ok ss :=
  C10.script_of_rendering PM.isSemi_lexed d _ ss (fun s hs => by
    simpa [restAfter_nil] using tstatement_any_entry_fuel d s (hss s hs) [] rfl) fin
/-- the loop itself, explicit fuels: parser fuel above the bound of every statement, loop fuel above the number of statements -/
theorem tscript_any_loop (d : Gen.D) (ss : List Stmt) (hss : ∀ s ∈ ss, FragAny d s = true) (fin : Bool)
    (f : Nat) (hf : ∀ s ∈ ss, 20 * sizeL (toksAny d s) + 16 ≤ f) :
    ∃ g₀, ∀ g, g₀ ≤ g → statementsLoop d (f + 1) g [] (C10.script TDM.semiTok (ss.map (toksAny d)) fin) = .ok ss :=
  C10.script_loop_of_rendering PM.isSemi_lexed d _ ss f
    (fun s hs => by simpa [restAfter_nil] using tstatement_any d s (hss s hs) [] rfl f (hf s hs)) fin

/-- equal renderings, equal statements — across all classes -/
theorem rendering_determines_statement_any (d : Gen.D) (s s' : Stmt) (hs : FragAny d s = true) (hs' : FragAny d s' = true)
    (h : toksAny d s = toksAny d s') : s = s' :=
  C01.eq_of_read_back (tstatement_any d s hs [] rfl) (tstatement_any d s' hs' [] rfl) (by rw [h])
end C03

namespace C01
/-- **print / parse round trip of any fragment statement, token level**: the rendering parses to the statement with nothing left, and
(hence) the rendering of whatever the parser returns is the rendering one started from -/
theorem statement_round_trip_tokens_any (d : Gen.D) (s : Stmt) (hs : FragAny d s = true) (fuel : Nat)
    (hfuel : 20 * sizeL (toksAny d s) + 16 ≤ fuel) :
    pStatement d fuel (toksAny d s) = .ok (s, []) ∧
    ∀ p r, pStatement d fuel (toksAny d s) = .ok (p, r) → toksAny d p = toksAny d s ∧ r = [] :=
  C01.read_back_only (toksAny d) (by simpa [C03.restAfter_nil] using C03.tstatement_any d s hs [] rfl fuel hfuel)
end C01

/-! ### non-vacuity (compiled evaluation: `String` operations do not reduce in the kernel) -/
namespace C03.Rest
/-- the token-level printer agrees with the lexer on the printer's text, and the statement is in the union fragment -/
def agreesAny (d : Gen.D) (s : Stmt) : Bool :=
  match PR.prStmt d s with
  | .ok x => eqbL (lexed x) (toksAny d s) && FragAny d s
  | .error _ => false
/-- the conclusion of `tstatement_any`, evaluated -/
def roundTripsAny (d : Gen.D) (s : Stmt) : Bool :=
  match pStatement d (20 * sizeL (toksAny d s) + 16) (toksAny d s ++ lexed "; SELECT 1") with
  | .ok (p, r) => Drv.showVal p.toVal == Drv.showVal s.toVal && eqbL r (restAfter s (lexed "; SELECT 1"))
  | _ => false
def tn (n : String) (s : Option String := none) : TableName := ⟨s, n⟩
def eqp (k v : String) : Expr := .compare "EQ" (col k) (lit v)
/-- every kind of clause: column with attributes, DROP / RENAME COLUMN, partitions, CHANGE, keys, a foreign key -/
def a1 : Stmt := .alter (tn "t")
  [.add (.col { name := "a", type := ⟨"int", none⟩, notNull := true, default := some (lit "1"), comment := some "'x'" }), .dropColumn "b",
   .renameColumn "c" "d", .addPartition true [eqp "dt" "'1'", eqp "hr" "2"], .dropPartition false [col "dt"],
   .change "a" (.col { name := "b", type := ⟨"varchar", some [lit "3"]⟩, unsigned := true, charset := some "utf8" }),
   .modify (.idx ⟨.normal, some "k", [⟨"a", some 3⟩, ⟨"b", none⟩], some "BTREE", some "'c'", some 4⟩),
   .add (.idx ⟨.primary, none, [⟨"a", none⟩], none, none, none⟩), .add (.idx ⟨.unique, some "u", [⟨"a", none⟩], none, none, none⟩),
   .add (.idx ⟨.fulltext, some "ft", [⟨"a", none⟩], none, some "'f'", none⟩),
   .add (.fk ⟨"fk", ["a"], "p", ["x", "y"], some "CASCADE", some "SET NULL"⟩), .add (.fk ⟨"fk2", ["a"], "p", ["x"], none, none⟩),
   .addPartition false [eqp "dt" "'3'"], .dropPartition true [eqp "dt" "'1'"]]
/-- what the Hive printer can state of a column: type and comment -/
def a2 : Stmt := .alter (tn "t" (some "s")) [.add (.col { name := "a", type := ⟨"decimal", some [lit "10", lit "2"]⟩, comment := some "'x'" }),
  .dropPartition true [eqp "dt" "'1'"], .modify (.col { name := "select", type := ⟨"string", none⟩ })]
def a3 : Stmt := .alter (tn "t") [.dropColumn "c"]
def dr1 : Stmt := .dropTable true (tn "t" (some "s"))
def dr2 : Stmt := .dropTable false (tn "t")
def tr1 : Stmt := .truncate (tn "t")
def ms1 : Stmt := .msck (tn "t" (some "db"))
def us1 : Stmt := .use "db"
def us2 : Stmt := .use "`my db`"
def st1 : Stmt := .set ⟨"hive.exec.dynamic-partition.mode", "nonstrict"⟩
def st2 : Stmt := .set ⟨"a", "'x.y'"⟩
def st3 : Stmt := .set ⟨"mapred.job.name", "a-b.c"⟩
def st4 : Stmt := .set ⟨"hive.map.aggr.hash.percentmemory", "0.5"⟩
def an1 : Stmt := .analyze (tn "t") (some [eqp "dt" "'1'"]) true true true
def an2 : Stmt := .analyze (tn "t") none false false false
def an3 : Stmt := .analyze (tn "t" (some "s")) (some [col "dt"]) false false true
def an4 : Stmt := .analyze (tn "t") none true false false
def sc1 : Stmt := .showColumns [tb "t", .mk (.table (some "s") "u") (some "x")] (some (eqp "a" "1"))
def sc2 : Stmt := .showColumns [tb "t"] none
def ca1 : Stmt := .createTableAs (tn "t" (some "s")) true q2w2
def ca2 : Stmt := .createTableAs (tn "t") false q3
/-- `CREATE TABLE t AS WITH x AS (…), y AS (…) SELECT … UNION ALL SELECT …` -/
def ca3 : Stmt := match C03.Dml.w1 with | .select q => .createTableAs (tn "t") false q | s => s
-- every new class in MYSQL and HIVE
#guard [a1, a3, dr1, dr2, tr1, ms1, us1, us2, st1, st2, st3, st4, an2, sc1, sc2, ca1, ca2, ca3, .showDatabases, .showTables].all (agreesAny .MYSQL) &&
  [a2, a3, dr1, dr2, tr1, ms1, us1, us2, st1, st2, st3, st4, an1, an2, an3, an4, sc1, sc2, ca1, ca2, ca3, .showDatabases, .showTables].all (agreesAny .HIVE)
#guard [a1, a2, a3, dr1, dr2, tr1, ms1, us1, us2, st1, st2, st3, an2, sc1, sc2, ca1, ca2, .showDatabases, .showTables].all (roundTripsAny .MYSQL) &&
  [a2, a3, dr1, dr2, tr1, ms1, us1, us2, st1, st2, st3, an1, an2, an3, an4, sc1, sc2, ca1, ca2, ca3, .showDatabases, .showTables].all (roundTripsAny .HIVE) &&
  [a2, dr1, st1, an2, sc1, ca1].all (roundTripsAny .ORACLE)
-- the classes of Props/C03Q2, C03D, C18T through the union printer: queries of the larger fragment, data-change statements, WITH, CREATE TABLE
#guard [.select q2w1, .select q2w2, .select q2w4, C03.Dml.d1, C03.Dml.u1, C03.Dml.i1, C03.Dml.i4, C03.Dml.w1, C03.Dml.w2, .createTable C18.t2].all (agreesAny .MYSQL) &&
  [.select q2w3, C03.Dml.d1, C03.Dml.u2, C03.Dml.i3, C03.Dml.w1, .createTable C18.t1].all (agreesAny .HIVE)
#guard [.select q2w1, C03.Dml.d1, C03.Dml.u1, C03.Dml.i1, C03.Dml.w1, .createTable C18.t2].all (roundTripsAny .MYSQL) &&
  [.select q2w3, C03.Dml.d1, C03.Dml.i3, C03.Dml.w2, .createTable C18.t1].all (roundTripsAny .HIVE)
/-- data-change statements over the LARGER fragment: INSERT … a query with window functions / CAST / EXTRACT; UPDATE with CAST, an array index
and a window-free IF; DELETE with EXTRACT; WITH over a query with USING / GROUPING SETS; INSERT … VALUES with CAST -/
def l1 : Stmt := .insertSelect (C03.Dml.ih "INSERT_INTO" (tn "t")) q2w1
def l2 : Stmt := .update (some []) (tn "t") [("a", .cast (col "b") false "DECIMAL" (some [10, 2])), ("c", .func none "IF" [eqp "a" "1", lit "1", lit "2"])]
  (some (.compare "GT" (.extract (col "year") (col "ts")) (lit "2000"))) none none
def l3 : Stmt := .delete (tn "t") (some (.compare "EQ" (.index (col "m") (lit "'k'")) (lit "1"))) none none
def l4 : Stmt := .select (.single (.mk (some [.mk "x" q2w2, .mk "y" q2w3]) false [(.wildcard none, none)] (some [tb "x"]) [] [] none none none none none none none none))
def l5 : Stmt := .insertValues (C03.Dml.ih "INSERT_OVERWRITE" (tn "t") (some [eqp "dt" "'1'"])) [[.cast (lit "1") true "INT" none, lit "2"]]
def l6 : Stmt := .createTableAs (tn "t") true (match l4 with | .select q => q | _ => qa)
#guard [l1, l2].all (agreesAny .MYSQL) && [l1, l2, l3, l4, l5, l6].all (agreesAny .HIVE) && [l1, l2, l3, l4, l5, l6].all (roundTripsAny .HIVE) &&
  [l1, l2, l3, l4, l5, l6].all (roundTripsAny .MYSQL) && !TDM.FragStmt .HIVE l1 && !TDM.FragStmt .HIVE l2 && !TDM.FragStmt .HIVE l4
-- what may follow a statement of the union: the end, a `;`; nothing else
#guard stopsAny .MYSQL (lexed "; SELECT 2") && stopsAny .HIVE [] && !stopsAny .MYSQL (lexed "SELECT 2") && !stopsAny .MYSQL (lexed ", x") &&
  !stopsAny .MYSQL (lexed ". x")
-- a mixed script on lexed text: the script printer of C10 on `toksAny` is what the lexer makes of the printed texts joined by `;`
#guard eqbL (C10.script TDM.semiTok ([dr1, C03.Dml.d2, us1, a3].map (toksAny .MYSQL)) true)
  (lexed "DROP TABLE IF EXISTS `s.t`; DELETE FROM `s.t`; USE db; ALTER TABLE `t` \nDROP COLUMN `c`;")
#guard (match pStatements .HIVE 4000 (lexed ("USE db; SET hive.exec.dynamic.partition=true; CREATE TABLE t (a int) COMMENT 'c'; " ++
    "ALTER TABLE t ADD PARTITION (dt='1'); INSERT INTO t PARTITION (dt='1') VALUES (1); ANALYZE TABLE t PARTITION (dt='1') COMPUTE STATISTICS NOSCAN; " ++
    "SELECT a FROM t; MSCK REPAIR TABLE t; TRUNCATE TABLE t; DROP TABLE IF EXISTS t")) with
  | .ok [.use _, .set _, .createTable _, .alter _ [.addPartition false _], .insertValues _ _, .analyze _ (some _) false false true, .select _, .msck _,
      .truncate _, .dropTable true _] => true
  | _ => false)
-- outside the fragment: no clause, a mixed partition list, the MySQL rendering of an ANALYZE with a flag (the printer drops it), a key
-- whose kind has no name where one is needed, a configuration string the parser would rebuild differently
#guard !FragAny .MYSQL (.alter (tn "t") []) && !FragAny .HIVE (.alter (tn "t") [.addPartition false [eqp "dt" "1", col "hr"]]) &&
  !FragAny .MYSQL an1 && FragAny .HIVE an1 && !FragAny .MYSQL (.alter (tn "t") [.add (.idx ⟨.normal, none, [⟨"a", none⟩], none, none, none⟩)])
#guard cfgOK "hive.exec-x" && cfgOK "'a.b'" && cfgOK "1.5" && eqbL (toksCfg "1.5") [cfgTok "1.5"] && (toksCfg "a.b-c").length == 5

/-! **information loss of the MySQL rendering of ANALYZE TABLE (C01; on the real code).**  `ANALYZE TABLE t CACHE METADATA` (also with
`PARTITION (…)`, `FOR COLUMNS`, `NOSCAN`) parses to a statement with the flag set; `source(SQLType.MYSQL)` prints `` ANALYZE TABLE `t` ``,
which parses to the statement with every flag unset: print → parse is not the identity on these trees (the Hive rendering keeps them;
the MySQL fragment excludes them).  Evaluated on the model: the printed text of `an4` for MYSQL reads back as `an2` -/
#guard (match PR.prStmt .MYSQL an4 with
  | .ok x => (match pStatement .MYSQL 2000 (lexed x) with
    | .ok (p, []) => Drv.showVal p.toVal == Drv.showVal an2.toVal && Drv.showVal p.toVal != Drv.showVal an4.toVal | _ => false)
  | .error _ => false)

/-! instances of the theorems (hypotheses decided by the kernel, conclusions the theorems'): no qualified table, no LIMIT, no SET
(`String.splitOn`, `toString`, `String.toList` do not reduce in the kernel) -/
def k1 : Stmt := .alter (tn "t") [.add (.col { name := "a", type := ⟨"int", none⟩, comment := some "'x'" }), .dropColumn "b",
  .addPartition true [eqp "dt" "'1'"], .renameColumn "c" "d"]
def k2 : Stmt := .dropTable true (tn "t")
def k3 : Stmt := .analyze (tn "t") (some [eqp "dt" "'1'"]) true false true
def k4 : Stmt := .showColumns [tb "t"] (some (eqp "a" "1"))
def k5 : Stmt := .createTableAs (tn "t") true qa
set_option maxRecDepth 100000 in
example : pStatement .HIVE (fuelFor (toksAny .HIVE k1 ++ lexed "; x")) (toksAny .HIVE k1 ++ lexed "; x") = .ok (k1, lexed "; x") :=
  tstatement_any_entry_fuel .HIVE k1 (by decide) _ (by decide)
set_option maxRecDepth 100000 in
/-- a script mixing eight classes: ALTER, DROP, a DELETE of the DML fragment, a CREATE TABLE of the DDL fragment, a query of `FragQ2`,
ANALYZE, SHOW COLUMNS, CREATE TABLE AS -/
example : pStatements .HIVE (fuelFor (C10.script TDM.semiTok ([k1, k2, C03.Dml.d0, .createTable C18.t1, .select q2w2c, k3, k4, k5].map (toksAny .HIVE)) true))
    (C10.script TDM.semiTok ([k1, k2, C03.Dml.d0, .createTable C18.t1, .select q2w2c, k3, k4, k5].map (toksAny .HIVE)) true) =
    .ok [k1, k2, C03.Dml.d0, .createTable C18.t1, .select q2w2c, k3, k4, k5] :=
  tscript_any .HIVE _ (by decide) true
def l7 : Stmt := .delete (tn "t") (some (.compare "GT" (.extract (col "year") (col "ts")) (lit "2000"))) none none
set_option maxRecDepth 100000 in
/-- data-change statements outside `TDM.FragStmt`: `DELETE FROM t WHERE m['k'] = 1` (an array index), `DELETE … WHERE EXTRACT(year FROM ts) > 2000` -/
example : pStatements .HIVE (fuelFor (C10.script TDM.semiTok ([l3, l7].map (toksAny .HIVE)) false)) (C10.script TDM.semiTok ([l3, l7].map (toksAny .HIVE)) false) =
    .ok [l3, l7] :=
  tscript_any .HIVE _ (by decide) false
end C03.Rest
