import MsqProofs.Props.C03RL
/-!
# C03 / C01 — a WEAKER decidable sufficient condition for the payload hypotheses `LeafAny` of the text-level theorems

An unqualified column name need not be a plain name (`` `k y` ``, `é1`, `` `a.b` ``): `C01.colLexB` asks `PR.isPlainName c`, the hypothesis `colLex d c` of the theorems only
asks that the printer writes the name back-quoted verbatim and that it contains no back-quote and no character the lexer's pre-pass rewrites.
`colLexB2` decides exactly that; `leafAnyB2` is `leafAnyB` with it, `leafAny_of_B2 : leafAnyB2 d s = true → LeafAny d s`.  So
`C01.statement_round_trip_text_any` / `C03.tstatement_any_text` apply wherever `FragAny`, `printableAny`, `leafAnyB2` and the pre-pass condition
evaluate to `true` (`C01.statement_round_trip_text_any_B2`). -/
open Lex PM Ast TP TS LexLink TQ2 LL2 LL2.Any TR

namespace C03.AnyText
open C03.Rest C03.Q2Text

/-- `colLex d c`, decided directly: the printer's text is the back-quoted name, no back-quote and no pre-pass character inside -/
def colLexB2 (d : Gen.D) (c : String) : Bool :=
  (PR.columnSrc d none c).toList == '`' :: (c.toList ++ ['`']) && c.toList.all (fun x => x != '`' && C05.plain x)
theorem colLex_of_B2 (d : Gen.D) (c : String) (h : colLexB2 d c = true) : colLex d c := by
  simp only [colLexB2, Bool.and_eq_true, beq_iff_eq, List.all_eq_true, bne_iff_ne, ne_eq] at h
  exact ⟨h.1, fun x hx => h.2 x hx⟩
/-- `C03.leafOKB` with the weaker column condition -/
def leafOKB2 (d : Gen.D) : LeafItem → Bool
  | .col none c => colLexB2 d c
  | x => C03.leafOKB d x
theorem leafOK_of_B2 (d : Gen.D) (x : LeafItem) (h : leafOKB2 d x = true) : leafOK d x := by
  cases x with
  | col t c =>
    cases t with
    | none => exact colLex_of_B2 d c h
    | some t => exact C03.leafOK_of_B d _ h
  | _ => exact C03.leafOK_of_B d _ h
def leafOK2B2 (d : Gen.D) : Leaf2 → Bool
  | .old x => leafOKB2 d x
  | .guard p => p d
theorem leafOK2_of_B2 (d : Gen.D) (x : Leaf2) (h : leafOK2B2 d x = true) : leafOK2 d x := by
  cases x with
  | old y => exact leafOK_of_B2 d y h
  | guard p => exact h
def opLeafB2 (d : Gen.D) : AlterOp → Bool
  | .addPartition _ p => (leavesL4 p).all (leafOK2B2 d)
  | .add x => coiLeafB d x
  | .modify x => coiLeafB d x
  | .change f t => C03.nameLexB f && coiLeafB d t
  | .renameColumn f t => C03.nameLexB f && C03.nameLexB t
  | .dropColumn c => C03.nameLexB c
  | .dropPartition _ p => (leavesL4 p).all (leafOK2B2 d)
/-- `leafAnyB` (Props/C03RL.lean) with the weaker item test `leafOK2B2` in the place of `leafOK2B` -/
def leafAnyB2 (d : Gen.D) : Stmt → Bool
  | .createTable c => C18.leafCB d c
  | .dropTable _ t => tblLeafB t
  | .truncate t => tblLeafB t
  | .msck t => tblLeafB t
  | .use s => C18.srcLexB s
  | .set c => cfgLexB c.name && cfgLexB c.value
  | .analyze t p _ _ _ => tblLeafB t && (leavesPart p).all (leafOK2B2 d)
  | .alter t ops => tblLeafB t && ops.all (opLeafB2 d)
  | .showDatabases => true
  | .showTables => true
  | .showColumns fr wh => (leavesTables4 fr ++ leavesO4 wh).all (leafOK2B2 d)
  | .createTableAs t _ q => tblLeafB t && (leavesStmt (.select q)).all (leafOK2B2 d)
  | s => (leavesStmt s).all (leafOK2B2 d)

theorem on2_of_B2 (d : Gen.D) (l : List Leaf2) (h : l.all (leafOK2B2 d) = true) : On2 (leafOK2 d) l :=
  fun x hx => leafOK2_of_B2 d x ((List.all_eq_true.mp h) x hx)
theorem opLeaf_of_B2 (d : Gen.D) (o : AlterOp) (h : opLeafB2 d o = true) : opLeaf d o := by
  cases o with
  | addPartition b p => exact on2_of_B2 d _ h
  | dropPartition b p => exact on2_of_B2 d _ h
  | add x => exact coiLeaf_of_B d x h
  | modify x => exact coiLeaf_of_B d x h
  | change f t =>
    simp only [opLeafB2, Bool.and_eq_true] at h
    exact ⟨C03.nameLex_of_B _ h.1, coiLeaf_of_B d t h.2⟩
  | renameColumn f t =>
    simp only [opLeafB2, Bool.and_eq_true] at h
    exact ⟨C03.nameLex_of_B _ h.1, C03.nameLex_of_B _ h.2⟩
  | dropColumn c => exact C03.nameLex_of_B _ h
theorem leafAny_of_B2 (d : Gen.D) (s : Stmt) (h : leafAnyB2 d s = true) : LeafAny d s := by
  cases s with
  | select q => exact on2_of_B2 d _ h
  | insertValues hd vs => exact on2_of_B2 d _ h
  | insertSelect hd q => exact on2_of_B2 d _ h
  | update ws t sets wh ob lm => exact on2_of_B2 d _ h
  | delete t wh ob lm => exact on2_of_B2 d _ h
  | createTable c => exact C18.leafC_of_B d c h
  | dropTable b t => exact tblLeaf_of_B t h
  | truncate t => exact tblLeaf_of_B t h
  | msck t => exact tblLeaf_of_B t h
  | use s => exact C18.srcLex_of_B s h
  | set c =>
    simp only [leafAnyB2, Bool.and_eq_true] at h
    exact ⟨cfgLex_of_B _ h.1, cfgLex_of_B _ h.2⟩
  | analyze t p fc cm ns =>
    simp only [leafAnyB2, Bool.and_eq_true] at h
    exact ⟨tblLeaf_of_B t h.1, on2_of_B2 d _ h.2⟩
  | alter t ops =>
    simp only [leafAnyB2, Bool.and_eq_true] at h
    exact ⟨tblLeaf_of_B t h.1, fun o ho => opLeaf_of_B2 d o ((List.all_eq_true.mp h.2) o ho)⟩
  | showDatabases => trivial
  | showTables => trivial
  | showColumns fr wh => exact on2_of_B2 d _ h
  | createTableAs t ine q =>
    simp only [leafAnyB2, Bool.and_eq_true] at h
    exact ⟨tblLeaf_of_B t h.1, on2_of_B2 d _ h.2⟩

end C03.AnyText

namespace C01
open C03.AnyText
/-- **`C01.statement_round_trip_text_any` with every hypothesis a `Bool`** (the weaker payload condition `leafAnyB2`) -/
theorem statement_round_trip_text_any_B2 (d : Gen.D) (s : Stmt) (hs : FragAny d s = true) (hp : printableAny d s = true) (hl : leafAnyB2 d s = true)
    (hpre : dialectPre d (anyL d s) = anyL d s) :
    ∃ (str : String) (ts : List Tok), PR.prStmt d s = .ok str ∧ Lex.lex Gen.cfgS (dialectPre d str.toList) = .ok ts ∧
      pStatement d (fuelFor ts) ts = .ok (s, []) ∧
      (∀ s', pStatement d (fuelFor ts) ts = .ok (s', []) → PR.prStmt d s' = .ok str) ∧
      parseStatementsText d str.toList = .ok [s] ∧
      (∀ sts, parseStatementsText d str.toList = .ok sts → sts.map (PR.prStmt d) = [.ok str]) :=
  statement_round_trip_text_any d s hs hp (leafAny_of_B2 d s hl) hpre
end C01

namespace C03.AnyText
open C03.Rest
/-- `SELECT \`k y\`, \`é1\` FROM \`t\` WHERE \`a.b\` = 1`: back-quoted column names that are no plain names -/
def c2 : Stmt := .select (.single (.mk (some []) false [(col "k y", none), (col "é1", none)] (some [tb "t"]) [] [] (some (eqp "a.b" "1")) none none none none none none none))
#guard FragAny .MYSQL c2 && !leafAnyB .MYSQL c2 && leafAnyB2 .MYSQL c2 && leafAnyB2 .HIVE c2 && agreesA .MYSQL c2 == false &&
  (match PR.prStmt .MYSQL c2 with | .ok x => x.toList == anyL .MYSQL c2 && eqbL (lexed x) (toksAny .MYSQL c2) | .error _ => false) && parsesBack .MYSQL c2 &&
  !leafAnyB2 .MYSQL (.select (.single (.mk (some []) false [(col "a`b", none)] none [] [] none none none none none none none none))) &&
  !leafAnyB2 .DB2 (.select (.single (.mk (some []) false [(col "CURRENT_DATE", none)] none [] [] none none none none none none none none)))
end C03.AnyText
