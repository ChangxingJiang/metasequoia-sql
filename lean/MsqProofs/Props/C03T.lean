import MsqProofs.Lemmas.TSelectMain
import MsqModel.Driver.ShowVal
import MsqProofs.Lemmas.StmtDispatch
/-!
# C03 / C01 — T-parse for the SELECT skeleton: every clause of a single SELECT lands in its slot, for ALL trees of a fragment

**Fragment** (`TS.FragS d s : Bool` over the model's `Ast.Select`; any number of items / tables / joins / keys, any expression depth):
* `WITH` slot `some []` (what `_parse_single_select_statement` is handed for a plain SELECT), optional `DISTINCT`;
* ≥ 1 select items, each an expression of the operator fragment (`TP.Frag`, see Props/C02T.lean) with an optional alias that the
  printer prints bare after `AS` (`aliasOK`: every plain name that is no word of `Gen.wordMarks`, `aliasOK_of_plain`);
* optional `FROM` with ≥ 1 unqualified table names (`tableOK`: every plain name, `tableOK_of_plain`), each with optional alias;
* any number of JOINs of EVERY join type of the regenerated table `Gen.joinTypes` (`all_join_types_ok`), each on an unqualified table
  with optional alias, with `ON <fragment expression>` or without a rule;
* optional `WHERE`, `HAVING` (fragment expressions); optional `GROUP BY` (plain list of ≥ 1 fragment expressions, no GROUPING SETS /
  CUBE / ROLLUP); optional `ORDER BY` with ≥ 1 keys, each ascending (printed without a word) or `DESC`, no `NULLS FIRST / LAST`;
  optional `LIMIT n` / `LIMIT m, n` (the printer's only spelling; `n`, `m` non-negative integers whose decimal text `asInt` reads
  back — `limOK`, a decidable check, true below Python's 4300-digit limit);
* no LATERAL VIEW, no SORT / DISTRIBUTE / CLUSTER BY, no `USING`, no sub-queries, no schema-qualified tables.
Two decidable side conditions that hold for every rendering but are checked rather than proved: the first select item does not begin
with the word DISTINCT (when the statement has none) and the first GROUP BY key does not begin with the word GROUPING.

**Token-level printer** `TS.toksS d s`: `PR.prS d s` clause by clause as tokens (expressions by `TP.toksE d TP.noX`; GROUP BY / ORDER BY
keys at the printer's bound 8).  The link `lex (prS d s) = toksS d s` is the lexer's business (proved in Props/C03L.lean: `C03.lex_prS`); `#guard`s below check it by compiled
evaluation for concrete SELECTs in four dialects.

**Continuations** `TS.stopsS d rest`: empty, or the head does not continue an expression, carries no NAME or PARENTHESIS mark and is none of
the clause / continuation words — e.g. `;`, `UNION`, a closing context.
-/
open Lex PM Ast TP TS

namespace TS
/-! ### the operator-free side conditions hold for plain names and for the whole join table -/
theorem all_join_types_ok : Gen.allD.all (fun d => Gen.joinTypes.all (fun e => joinTyOK d e.1)) = true := by decide +kernel

theorem unifyName_plain (a : String) (h : PR.isPlainName a = true) : unifyName a = a := by
  obtain ⟨p1, p2, p3⟩ := plain_chars a h
  unfold unifyName
  rw [dropWhile_bq_plain _ p2, dropWhile_bq_plain _ p3, List.reverse_reverse, String.ofList_toList]
theorem plain_all (a : String) (h : PR.isPlainName a = true) : isWordS a = true ∧ ∀ x ∈ a.toList, (x == '.') = false := by
  unfold PR.isPlainName at h
  unfold isWordS
  cases hc : a.toList with
  | nil => rw [hc] at h; cases h
  | cons c r =>
    rw [hc] at h
    simp only [Bool.and_eq_true, List.all_eq_true] at h
    refine ⟨by simpa using h.1, fun x hx => ?_⟩
    cases hq : (x == '.') with
    | false => rfl
    | true =>
      rw [beq_iff_eq.1 hq] at hx
      rcases List.mem_cons.1 hx with rfl | hx
      · exact absurd h.1 (by decide)
      · exact absurd (h.2 _ hx) (by decide)
theorem aliasOK_of_plain (a : String) (h : PR.isPlainName a = true) (hw : Gen.wordMarks.any (·.1 == Gen.pyUpperS a) = false) :
    aliasOK a = true := by
  have hq : PR.quoteName a = a := by simp [PR.quoteName, h, hw]
  have hfind : Gen.wordMarks.find? (·.1 == up a) = none := by
    rw [List.find?_eq_none]
    intro x hx
    have := List.any_eq_false.1 hw x hx
    simpa [up] using this
  have hword := (plain_all a h).1
  have hm : (opTok a).has NAME = true := by
    simp only [opTok, wordMark, hfind, hword, if_true, Tok.has, Tok.marks]; decide
  simp only [aliasOK, hm, src_opTok, unifyName_plain a h, hq, beq_self_eq_true]; rfl
theorem tableOK_of_plain (n : String) (a : Option String) (h : PR.isPlainName n = true) (ha : optAliasOK a = true) :
    tableOK (.mk (.table none n) a) = true := by
  obtain ⟨p1, p2, p3⟩ := plain_chars n h
  have hnodot := (plain_all n h).2
  have hfil : ((nameTok n).src.toList.filter (· == '.')) = [] := by
    rw [toList_src_nameTok]
    simp only [List.filter_cons, List.filter_append, List.filter_nil]
    have : n.toList.filter (· == '.') = [] := List.filter_eq_nil_iff.2 (fun x hx => by simpa using hnodot x hx)
    simp [this]
  have hs : splitName (nameTok n).src = .ok (none, n) := by
    unfold splitName
    simp [hfil, unifyName_nameTok n p1 p2 p3]
  simp only [tableOK, hs, isOkNone, ha, beq_self_eq_true]; rfl

def distinctOf : Select → Bool | .mk _ x _ _ _ _ _ _ _ _ _ _ _ _ => x
def itemsOf : Select → List (Expr × Option String) | .mk _ _ x _ _ _ _ _ _ _ _ _ _ _ => x
def fromOf : Select → Option (List FromTable) | .mk _ _ _ x _ _ _ _ _ _ _ _ _ _ => x
def joinsOf : Select → List Join | .mk _ _ _ _ _ x _ _ _ _ _ _ _ _ => x
def whereOf : Select → Option Expr | .mk _ _ _ _ _ _ x _ _ _ _ _ _ _ => x
def groupOf : Select → Option GroupBy | .mk _ _ _ _ _ _ _ x _ _ _ _ _ _ => x
def havingOf : Select → Option Expr | .mk _ _ _ _ _ _ _ _ x _ _ _ _ _ => x
def orderOf : Select → Option (List OrderItem) | .mk _ _ _ _ _ _ _ _ _ x _ _ _ _ => x
def limitOf : Select → Option (Int × Option Int) | .mk _ _ _ _ _ _ _ _ _ _ _ _ _ x => x

theorem FragS_inv {d : Gen.D} {s : Select} (hs : FragS d s = true) : ∃ dist c cs fr js wh gb hv ob lm,
    s = .mk (some []) dist (c :: cs) fr [] js wh gb hv ob none none none lm ∧ colOKS d c = true ∧ (∀ c' ∈ cs, colOKS d c' = true) ∧
      (dist || !searchStrUp (toksE d noX c.1) "DISTINCT") = true ∧ fromOK fr = true ∧ (∀ j ∈ js, joinOK d j = true) ∧
      optFrag d wh = true ∧ groupOK d gb = true ∧ optFrag d hv = true ∧ orderOK d ob = true ∧ limitOK lm = true := by
  unfold FragS at hs
  split at hs
  · simp only [Bool.and_eq_true, List.all_eq_true] at hs
    obtain ⟨⟨⟨⟨⟨⟨⟨⟨⟨hc, hcs⟩, hdist⟩, hfr⟩, hjs⟩, hwh⟩, hgb⟩, hhv⟩, hob⟩, hlm⟩ := hs
    exact ⟨_, _, _, _, _, _, _, _, _, _, rfl, hc, hcs, hdist, hfr, hjs, hwh, hgb, hhv, hob, hlm⟩
  · cases hs
end TS

namespace C03
/-- **T-parse, single SELECT.**  Parsing the token rendering of a fragment SELECT returns exactly that tree — every clause in its slot
with its content — in front of every continuation that does not continue a SELECT, at every fuel above an explicit linear bound -/
theorem tselect (d : Gen.D) (s : Select) (hs : FragS d s = true) (rest : List Tok) (hr : stopsS d rest = true)
    (fuel : Nat) (hfuel : 20 * sizeL (toksS d s) + 30 ≤ fuel) : pSingle d fuel [] (toksS d s ++ rest) = .ok (s, rest) := by
  obtain ⟨dist, c, cs, fr, js, wh, gb, hv, ob, lm, rfl, hc, hcs, hdist, hfr, hjs, hwh, hgb, hhv, hob, hlm⟩ := FragS_inv hs
  exact single dist c cs fr js wh gb hv ob lm hc hcs hdist hfr hjs hwh hgb hhv hob hlm rest hr fuel hfuel
/-- with the fuel the public entry points compute from the token list -/
theorem tselect_entry_fuel (d : Gen.D) (s : Select) (hs : FragS d s = true) (rest : List Tok) (hr : stopsS d rest = true) :
    pSingle d (fuelFor (toksS d s ++ rest)) [] (toksS d s ++ rest) = .ok (s, rest) :=
  tselect d s hs rest hr _ (by simp only [fuelFor, sizeL_append]; omega)

theorem toksS_head (d : Gen.D) (s : Select) (hs : FragS d s = true) : ∃ x, toksS d s = opTok "SELECT" :: x := by
  obtain ⟨dist, c, cs, fr, js, wh, gb, hv, ob, lm, rfl, _⟩ := FragS_inv hs
  exact ⟨_, rfl⟩

/-- **the same through the statement level**: one iteration of the loop of `parse_statements` (before the optional `;`) on the
rendering of a fragment SELECT returns the SELECT statement with that tree, when no set operator follows -/
theorem tselect_statement (d : Gen.D) (s : Select) (hs : FragS d s = true) (rest : List Tok) (hr : stopsS d rest = true)
    (hu : setOpHead rest = false) (fuel : Nat) (hfuel : 20 * sizeL (toksS d s) + 31 ≤ fuel) :
    pStatement d fuel (toksS d s ++ rest) = .ok (.select (.single s), rest) := by
  obtain ⟨x, hx⟩ := toksS_head d s hs
  obtain ⟨g, rfl⟩ : ∃ g, fuel = g + 1 := ⟨fuel - 1, by omega⟩
  have h1 := tselect d s hs rest hr g (by omega)
  rw [hx] at h1 ⊢
  simp only [List.cons_append] at h1 ⊢
  have hun : pUnions d g [] [] rest = .ok ([], rest) := by
    obtain ⟨g', rfl⟩ : ∃ g', g = g' + 1 := ⟨g - 1, by omega⟩
    unfold pUnions
    simp [hu]
  have hsel : pSelectStmt d (g + 1) (some []) (opTok "SELECT" :: (x ++ rest)) = .ok (.single s, rest) := by
    unfold pSelectStmt
    simp only [h1, hun]
    rfl
  rw [pStatement_select, hsel]

/-- **every clause in its slot**: the parse of the rendering has, slot by slot, the content of the tree -/
theorem clause_slots (d : Gen.D) (s : Select) (hs : FragS d s = true) (rest : List Tok) (hr : stopsS d rest = true)
    (fuel : Nat) (hfuel : 20 * sizeL (toksS d s) + 30 ≤ fuel) :
    ∃ p, pSingle d fuel [] (toksS d s ++ rest) = .ok (p, rest) ∧ distinctOf p = distinctOf s ∧ itemsOf p = itemsOf s ∧ fromOf p = fromOf s ∧
      joinsOf p = joinsOf s ∧ whereOf p = whereOf s ∧ groupOf p = groupOf s ∧ havingOf p = havingOf s ∧ orderOf p = orderOf s ∧
      limitOf p = limitOf s :=
  ⟨s, tselect d s hs rest hr fuel hfuel, rfl, rfl, rfl, rfl, rfl, rfl, rfl, rfl, rfl⟩
/-- two fragment SELECTs that differ in the WHERE clause only have parses that differ in the where slot only (the other clauses
likewise: `clause_slots`) -/
theorem where_slot_only (d : Gen.D) (s s' : Select) (hs : FragS d s = true) (hs' : FragS d s' = true)
    (hsame : distinctOf s = distinctOf s' ∧ itemsOf s = itemsOf s' ∧ fromOf s = fromOf s' ∧ joinsOf s = joinsOf s' ∧ groupOf s = groupOf s' ∧
      havingOf s = havingOf s' ∧ orderOf s = orderOf s' ∧ limitOf s = limitOf s')
    (fuel : Nat) (hfuel : 20 * sizeL (toksS d s) + 30 ≤ fuel) (hfuel' : 20 * sizeL (toksS d s') + 30 ≤ fuel) :
    ∃ p p', pSingle d fuel [] (toksS d s) = .ok (p, []) ∧ pSingle d fuel [] (toksS d s') = .ok (p', []) ∧
      whereOf p = whereOf s ∧ whereOf p' = whereOf s' ∧
      distinctOf p = distinctOf p' ∧ itemsOf p = itemsOf p' ∧ fromOf p = fromOf p' ∧ joinsOf p = joinsOf p' ∧ groupOf p = groupOf p' ∧
      havingOf p = havingOf p' ∧ orderOf p = orderOf p' ∧ limitOf p = limitOf p' := by
  have a := tselect d s hs [] rfl fuel hfuel
  have b := tselect d s' hs' [] rfl fuel hfuel'
  simp only [List.append_nil] at a b
  exact ⟨s, s', a, b, rfl, rfl, hsame.1, hsame.2.1, hsame.2.2.1, hsame.2.2.2.1, hsame.2.2.2.2.1, hsame.2.2.2.2.2.1, hsame.2.2.2.2.2.2.1,
    hsame.2.2.2.2.2.2.2⟩
/-- **an omitted optional clause gives the empty slot**, never a default from another clause: when the rendering has no tokens for a
clause (`toksFrom`, `toksOpt`, `toksGroup`, `toksOrder`, `toksLimit` of the slot are empty) the parsed slot is empty -/
theorem clause_absent (d : Gen.D) (s : Select) (hs : FragS d s = true) (rest : List Tok) (hr : stopsS d rest = true)
    (fuel : Nat) (hfuel : 20 * sizeL (toksS d s) + 30 ≤ fuel) :
    ∃ p, pSingle d fuel [] (toksS d s ++ rest) = .ok (p, rest) ∧
      (toksFrom (fromOf s) = [] → fromOf p = none) ∧ (toksJoins d (joinsOf s) = [] → joinsOf p = []) ∧
      (toksOpt d "WHERE" (whereOf s) = [] → whereOf p = none) ∧ (toksGroup d (groupOf s) = [] → groupOf p = none) ∧
      (toksOpt d "HAVING" (havingOf s) = [] → havingOf p = none) ∧ (toksOrder d (orderOf s) = [] → orderOf p = none) ∧
      (toksLimit (limitOf s) = [] → limitOf p = none) := by
  refine ⟨s, tselect d s hs rest hr fuel hfuel, ?_⟩
  obtain ⟨dist, c, cs, fr, js, wh, gb, hv, ob, lm, rfl, hc, hcs, hdist, hfr, hjs, hwh, hgb, hhv, hob, hlm⟩ := FragS_inv hs
  simp only [fromOf, joinsOf, whereOf, groupOf, havingOf, orderOf, limitOf]
  refine ⟨?_, ?_, ?_, ?_, ?_, ?_, ?_⟩
  · intro h
    cases fr with
    | none => rfl
    | some l => cases l with
      | nil => simp [fromOK] at hfr
      | cons t ts => simp [toksFrom] at h
  · intro h
    cases js with
    | nil => rfl
    | cons j js =>
      have := sizeL_toksJoin_pos (d := d) j
      simp only [toksJoins, List.append_eq_nil_iff] at h
      rw [h.1] at this; simp [sizeL] at this
  · intro h; cases wh with | none => rfl | some e => simp [toksOpt] at h
  · intro h
    cases gb with
    | none => rfl
    | some g =>
      obtain ⟨gc, x1, x2, x3⟩ := g
      cases gc with
      | nil => simp [groupOK] at hgb
      | cons e es => simp [toksGroup] at h
  · intro h; cases hv with | none => rfl | some e => simp [toksOpt] at h
  · intro h
    cases ob with
    | none => rfl
    | some l => cases l with
      | nil => simp [orderOK] at hob
      | cons o os => simp [toksOrder] at h
  · intro h
    cases lm with
    | none => rfl
    | some p => obtain ⟨n, o⟩ := p; cases o <;> simp [toksLimit] at h
/-- equal renderings, equal trees: the token rendering determines every slot -/
theorem rendering_determines_select (d : Gen.D) (s s' : Select) (hs : FragS d s = true) (hs' : FragS d s' = true)
    (h : toksS d s = toksS d s') : s = s' :=
  C01.eq_of_read_back (tselect d s hs [] rfl) (tselect d s' hs' [] rfl) (by rw [h])
end C03

namespace C01
/-- **print / parse round trip of a single SELECT, token level** -/
theorem select_round_trip_tokens (d : Gen.D) (s : Select) (hs : FragS d s = true) (fuel : Nat) (hfuel : 20 * sizeL (toksS d s) + 30 ≤ fuel) :
    pSingle d fuel [] (toksS d s) = .ok (s, []) := by
  have := C03.tselect d s hs [] rfl fuel hfuel
  simpa using this
end C01

/-! ### non-vacuity (compiled evaluation) -/
namespace C03
def lexed (s : String) : List Tok := match Lex.lex Gen.cfgS s.toList with | .ok ts => ts | .error _ => []
def col (c : String) : Expr := .column none c
def lit (v : String) : Expr := .literal v
def tb (n : String) (a : Option String := none) : FromTable := .mk (.table none n) a
/-- the token-level printer agrees with the lexer on the printer's text, and the tree is in the fragment -/
def agrees (d : Gen.D) (s : Select) : Bool :=
  match PR.prS d s with
  | .ok x => eqbL (lexed x) (toksS d s) && FragS d s
  | .error _ => false
def roundTrips (d : Gen.D) (s : Select) : Bool :=
  match pSingle d (20 * sizeL (toksS d s) + 30) [] (toksS d s) with
  | .ok (p, []) => Drv.showVal p.toVal == Drv.showVal s.toVal
  | _ => false

def s1 : Select := .mk (some []) true [(.compute (col "a") "PLUS" (lit "1"), some "x"), (col "b", none)]
  (some [tb "t" (some "u"), tb "v"])
  [] [.mk "LEFT_OUTER_JOIN" (tb "w" (some "ww")) (some (.on (.compare "EQ" (col "a") (col "c")))), .mk "CROSS_JOIN" (tb "z") none,
      .mk "JOIN" (tb "y") (some (.on (.or_ (col "p") (.not_ (col "q")))))]
  (some (.and_ (.compare "GT" (col "a") (lit "1")) (.kw .is true (col "b") (lit "NULL"))))
  (some (.mk [col "a", .compute (col "b") "MULTIPLE" (lit "2")] none false false))
  (some (.compare "LT" (col "a") (lit "9")))
  (some [.mk (col "a") true false false, .mk (.compute (col "b") "PLUS" (lit "1")) false false false])
  none none none (some (10, some 5))
def s2 : Select := .mk (some []) false [(lit "1", none)] none [] [] none none none none none none none none                -- SELECT 1
def s3 : Select := .mk (some []) false [(col "a", some "k"), (lit "'x'", some "v")] (some [tb "t"]) [] [] (some (.kw .like true (col "a") (lit "'%z'")))
  none none (some [.mk (.and_ (col "a") (col "b")) true false false]) none none none (some (3, none))
def s4 : Select := .mk (some []) false [(.unary "SUBTRACT" (col "a"), none)] (some [tb "t"]) []
  [.mk "INNER_JOIN" (tb "u") (some (.on (lit "TRUE"))), .mk "RIGHT_SEMI_JOIN" (tb "v" (some "vv")) none, .mk "FULL_OUTER_JOIN" (tb "w") none]
  none (some (.mk [.or_ (col "a") (col "b")] none false false)) (some (.between true (col "a") (lit "1") (lit "2"))) none none none none none

def s5 : Select := .mk (some []) true [(col "a", some "k"), (lit "'x'", none)] (some [tb "t" (some "u")]) []
  [.mk "LEFT_JOIN" (tb "v") (some (.on (.compare "EQ" (col "a") (col "b"))))] (some (.kw .like true (col "a") (lit "'%z'")))
  none none (some [.mk (.compute (col "a") "PLUS" (col "b")) true false false, .mk (col "c") false false false]) none none none none
#guard [s1, s2, s3, s4].all (agrees .MYSQL) && [s1, s2, s3, s4].all (agrees .HIVE) && [s1, s2, s3, s4].all (agrees .ORACLE) &&
  [s1, s2, s3, s4].all (agrees .DEFAULT)
#guard [s1, s2, s3, s4, s5].all (roundTrips .MYSQL) && [s1, s2, s3, s4, s5].all (roundTrips .HIVE) && agrees .MYSQL s5 && agrees .DB2 s5
-- what may follow: a separator, a set operator, the end; not a clause word, an alias, a comma
#guard stopsS .MYSQL (lexed "; SELECT 2") && stopsS .MYSQL (lexed "UNION ALL SELECT 2") && stopsS .MYSQL [] &&
  !stopsS .MYSQL (lexed "WHERE a") && !stopsS .MYSQL (lexed "x") && !stopsS .MYSQL (lexed ", b") && !stopsS .MYSQL (lexed "OFFSET 3")
-- LIMIT arguments, aliases, tables
#guard limOK 0 && limOK 10 && limOK 123456789012345678901234567890 && !limOK (-1) && aliasOK "x" && !aliasOK "from" && !aliasOK "a b"
-- the slots are not swapped: LIMIT m, n stores count n and offset m
#guard (match pSingle .MYSQL 400 [] (lexed "SELECT `a` FROM `t` LIMIT 5, 10") with | .ok (p, []) => limitOf p == some (10, some 5) | _ => false)
/-- instances of the theorems (hypotheses decided, conclusions the theorems') -/
-- (the kernel does not evaluate `toString` on integers: the kernel-checked instances have no LIMIT; `s1`, `s3` above are evaluated)
example : pSingle .MYSQL (fuelFor (toksS .MYSQL s5 ++ lexed "; x")) [] (toksS .MYSQL s5 ++ lexed "; x") = .ok (s5, lexed "; x") :=
  tselect_entry_fuel .MYSQL s5 (by decide) _ (by decide)
example : pStatement .HIVE 2000 (toksS .HIVE s4 ++ lexed ";") = .ok (.select (.single s4), lexed ";") :=
  tselect_statement .HIVE s4 (by decide) _ (by decide) (by decide) 2000 (by decide)
end C03
