import MsqProofs.Lemmas.ParseAccountDdl7
import MsqProofs.Props.C08A
/-!
# C08 — accounting for every accepted token list, ALL statement classes (CREATE TABLE ( … ), ALTER … ADD / MODIFY / CHANGE, SET included)

`C08A` (`parse_accounted_partial`) leaves CREATE TABLE with column definitions, ALTER TABLE … ADD / MODIFY / CHANGE and SET outside its
fragment `FullStmt`.  Here they are inside (`FullDStmt`), under hypotheses that are exactly the places where the proofs need them:

1. **Runs** (SET, TBLPROPERTIES): `_parse_config_string` stores `name ("." | "-") name …` as ONE string.  The relation `AccD T ctx t`
   (`Lemmas/ParseAccountDdl0.lean`) has every rule of `PA.Acc` (rule `whole`) plus
     `part`: `ctx = pre ++ us ++ post`, `t ∈ us`, `catSrc us ∈ T` — `t` lies in a run of CONSECUTIVE tokens of the list it is read
     from, and the concatenation of the sources of EXACTLY that run is a stored string.  (Indexed by the list, so the rule cannot be
     satisfied by inventing neighbours; produced only by `pConfigString_run`.)  No hypothesis: `set_accounted`.
2. **F-C08-4, overwriting loops** (`defColLoop`, `createOpts`): hypothesis on the CONSUMED RUN of tokens:
   `NoRep used` — none of `CHARACTER` (SET), `COLLATE`, `DEFAULT`, `COMMENT`, (ON) `UPDATE`, `GENERATED` twice among the top-level
   tokens of a column definition;  `NoRepO used` — none of the twelve text-bearing option keywords twice in the option list.
   Flags (`NOT NULL`, `AUTO_INCREMENT` …, `STORED AS TEXTFILE`) may repeat.  Witness: `a int DEFAULT 1 DEFAULT 2` loses `1`.
   Another site of the same defect, found by the proof: a second `PRIMARY KEY ( … )` element overwrites the first (`pkOnce`).
3. **F-C08-6** (a word where a bracket group is expected): on the RESULT where the result shows it — `FullIdx` (an index has a
   column: `PRIMARY KEY x`), `FullFK` (`FOREIGN KEY x REFERENCES t y`), `HasElem` (`CREATE TABLE t x`) — and on the TOKENS where it
   leaves no trace: `groupAt used` (the token after `TBLPROPERTIES`, the second token after `PARTITIONED`, is a bracket group).
   Witness: `PARTITIONED BY x`.
4. `parse_accounted_ddl_partial` for `pStatements` over ALL classes; the token hypotheses are collected in `runsOK d f g ts` (Bool):
   the statement loop is followed only to DELIMIT the statements (and `alterLoop` to delimit the operations of an ALTER TABLE): the
   token run of every statement whose result is a CREATE TABLE ( … ) satisfies `ddlRunOK` (2. and the token half of 3.), the run of
   every operation of an ALTER TABLE satisfies `NoRep` (`alterOK`).  `stmtOK` chooses by the class of the result; nothing is asked
   of the other classes.

Missing (the `_partial`): the count of attribute keywords is over ALL top-level tokens of the run, also those inside a DEFAULT
expression (`DEFAULT comment COMMENT 'x'` is excluded although nothing is lost); multiplicities are not proved (set level, as in `C08A`); F-C08-5 (a
bracket group taken as a name) is accounted for as a whole (`stray_inserted_ddl_partial` excludes it by `NoGroupWholeD`).
`String` operations do not reduce in the kernel: the witnesses are `#guard`s (evaluated tests); the theorems are kernel-checked.
-/
open Lex PM Ast PA PA.Ddl
namespace C08

/-! ### 1. SET -/
/-- SET: every consumed token is the keyword or lies in one of the two runs whose concatenations are the stored name / value -/
theorem set_accounted (ts : List Tok) (s : Stmt) (r : List Tok) (h : pSet ts = .ok (s, r)) :
    ∃ used, ts = used ++ r ∧ AccAllD (tStmt s) used := by
  obtain ⟨u, e, k⟩ := pSet_acc (tStmt s) ts s r h
  exact ⟨u, e, k (fun _ h => h)⟩
/-- the run rule is not vacuous: the stored string of `_parse_config_string` IS the concatenation of exactly the consumed run -/
theorem config_string_run (ts : List Tok) (s : String) (r : List Tok) (h : pConfigString ts = .ok (s, r)) :
    ∃ us, ts = us ++ r ∧ us ≠ [] ∧ s = catSrc us := pConfigString_run h

/-! ### 2. column definitions -/
/-- FULL STATEMENT (false: F-C08-4): without `NoRep`.  A column definition whose run has no text-bearing attribute keyword twice -/
theorem defcol_accounted_partial (d : Gen.D) (f : Nat) (ts : List Tok) (c : DefCol) (r : List Tok) (h : pDefCol d f ts = .ok (c, r)) :
    ∃ used, ts = used ++ r ∧ (NoRep used = true → FullDC c = true → AccAll (tDC c) used) := by
  obtain ⟨u, e, k⟩ := pDefCol_acc (tDC c) d f ts c r h
  exact ⟨u, e, fun h1 h2 => k h1 h2 (fun _ h => h)⟩
/-- the attribute loop with an arbitrary accumulator: the invariant behind `NoRep` -/
theorem defcol_loop_accounted_partial (T : List String) (d : Gen.D) (f g : Nat) (c : DefCol) (ts : List Tok) (c' : DefCol) (r : List Tok)
    (h : defColLoop d f g c ts = .ok (c', r)) :
    ∃ used, ts = used ++ r ∧ (AttrOK c used → FullDC c' = true → FullDC c = true ∧ (Sub (tDC c') T → AccAll T used ∧ Sub (tDC c) T)) :=
  defColLoop_acc T d f g c ts c' r h

/-! ### 3. CREATE TABLE: elements, options -/
theorem create_opts_accounted_partial (T : List String) (d : Gen.D) (f g : Nat) (c : CreateTable) (ts : List Tok) (c' : CreateTable)
    (r : List Tok) (h : createOpts d f g c ts = .ok (c', r)) :
    ∃ used, ts = used ++ r ∧ (OptOK c used → FullCT c' = true → FullCT c = true ∧ (Sub (tCTb c') T → AccAllD T used ∧ Sub (tCTb c) T)) :=
  createOpts_acc T d f g c ts c' r h
theorem create_table_accounted_partial (d : Gen.D) (f : Nat) (ts : List Tok) (s : Stmt) (r : List Tok) (h : pCreateTable d f ts = .ok (s, r)) :
    ∃ used, ts = used ++ r ∧ (stmtOK d f ts s used = true → FullDStmt s = true → AccAllD (tStmt s) used) := by
  obtain ⟨u, e, k⟩ := pCreateTable_acc (tStmt s) d f ts s r h
  exact ⟨u, e, fun h1 h2 => k h1 h2 (fun _ h => h)⟩
/-- what `stmtOK` asks: of a CREATE TABLE ( … ) result `ddlRunOK` of its run, of an ALTER TABLE result `alterOK` at its cursor -/
theorem stmtOK_createTable (d : Gen.D) (f : Nat) (ts : List Tok) (c : CreateTable) (used : List Tok) :
    stmtOK d f ts (.createTable c) used = ddlRunOK used := rfl
theorem stmtOK_alter (d : Gen.D) (f : Nat) (ts : List Tok) (t : TableName) (ops : List AlterOp) (used : List Tok) :
    stmtOK d f ts (.alter t ops) used = alterOK d f ts := rfl

/-! ### 4. ALTER TABLE … ADD / MODIFY / CHANGE -/
theorem alter_accounted_partial (d : Gen.D) (f : Nat) (ts : List Tok) (s : Stmt) (r : List Tok) (h : pAlter d f ts = .ok (s, r)) :
    ∃ used, ts = used ++ r ∧ (stmtOK d f ts s used = true → FullDStmt s = true → AccAllD (tStmt s) used) := by
  obtain ⟨u, e, k⟩ := pAlter_acc (tStmt s) d f ts s r h
  exact ⟨u, e, fun h1 h2 => k h1 h2 (fun _ h => h)⟩

/-! ### 5. every statement class -/
/-- every token of an accepted token list is accounted for (relation with runs) -/
def AccountedD (ts : List Tok) (ss : List Stmt) : Prop := ∀ t ∈ ts, AccD (tStmts ss) ts t
/-- `C08A`'s conclusion implies this one -/
theorem accountedD_of_accounted {ts : List Tok} {ss : List Stmt} (h : Accounted ts ss) : AccountedD ts ss := fun t ht => .whole (h t ht)

/-- FULL STATEMENT (not proved; false: F-C08-4, F-C08-6, witnesses below): `pStatements d f ts = .ok ss → AccountedD ts ss`.
Proved for results in `FullDStmts` (a Bool on the result; ALL statement classes) and token lists whose CREATE TABLE / ALTER TABLE
statements satisfy `stmtOK` (`runsOK`, a Bool on the tokens, the parser is used to delimit the statements / ALTER operations only). -/
theorem parse_accounted_ddl_partial (d : Gen.D) (f : Nat) (ts : List Tok) (ss : List Stmt)
    (h : pStatements d f ts = .ok ss) (hf : FullDStmts ss = true) (hr : runsOK d f (ts.length + 1) ts = true) : AccountedD ts ss :=
  ((statementsLoop_acc (tStmts ss) d f (ts.length + 1) [] ts ss h hr hf).2 (fun _ h => h)).1

theorem fullDAOs_of : ∀ ops : List AlterOp, FullAOs ops = true → FullDAOs ops = true
  | [], _ => rfl
  | o :: l, h => by
    simp only [FullAOs, Bool.and_eq_true] at h
    simp only [FullDAOs, Bool.and_eq_true]
    exact ⟨by cases o <;> simp_all [FullDAO, FullAO], fullDAOs_of l h.2⟩
/-- the fragment of `C08A` is inside this one, and needs no token hypothesis -/
theorem fullD_of_full : ∀ ss : List Stmt, FullStmts ss = true → FullDStmts ss = true := by
  intro ss
  induction ss with
  | nil => intro _; rfl
  | cons s l ih =>
    intro h
    simp only [FullStmts, Bool.and_eq_true] at h
    simp only [FullDStmts, Bool.and_eq_true]
    refine ⟨?_, ih h.2⟩
    have h1 := h.1
    cases s with
    | alter t ops => exact fullDAOs_of ops h1
    | _ => simp_all [FullDStmt, FullStmt]

/-- the same through the lexer -/
theorem parse_text_accounted_ddl_partial (d : Gen.D) (text : List Char) (ss : List Stmt)
    (h : parseStatementsText d text = .ok ss) (hf : FullDStmts ss = true) :
    ∃ ts, lex Gen.cfgS (dialectPre d text) = .ok ts ∧ (runsOK d (fuelFor ts) (ts.length + 1) ts = true → AccountedD ts ss) := by
  obtain ⟨ts, hl, hp⟩ := parseStatementsText_ok h
  exact ⟨ts, hl, fun hr => parse_accounted_ddl_partial d _ ts ss hp hf hr⟩

/-! ### 6. the stray-token clause, restated -/
/-- accounted for as a whole, or inside a run of its token list whose concatenation is stored -/
def WholeD (T : List String) (ctx : List Tok) (g : Tok) : Prop :=
  Whole T g ∨ ∃ pre us post, ctx = pre ++ us ++ post ∧ g ∈ us ∧ catSrc us ∈ T
theorem accD_inside {T : List String} {ctx : List Tok} {t : Tok} (h : AccD T ctx t) :
    ∀ x, Inside x t → Groupish x = false → ∃ g c, Inside x g ∧ Inside g t ∧ WholeD T c g := by
  induction h with
  | whole h =>
    intro x hx hl
    obtain ⟨g, h1, h2, h3⟩ := acc_inside h x hx hl
    exact ⟨g, [], h1, h2, Or.inl h3⟩
  | @part ctx t pre us post e hm hs => intro x hx _; exact ⟨t, ctx, hx, .self _, Or.inr ⟨pre, us, post, e, hm, hs⟩⟩
  | group hb hc ih =>
    intro x hx hl
    obtain ⟨k, hcx, hxc⟩ := hx.in_child hl hb
    obtain ⟨g, c, h1, h2, h3⟩ := ih _ hcx x hxc hl
    exact ⟨g, c, h1, .child hcx h2, h3⟩
/-- no bracket group of the token list (at any depth) is accounted for as a whole or as part of a run: excludes class F-C08-5 -/
def NoGroupWholeD (T : List String) (ts : List Tok) : Prop :=
  ∀ t ∈ ts, ∀ g, Inside g t → Groupish g = true → ∀ c, ¬ WholeD T c g
theorem catSrc_mem {x : Tok} {us : List Tok} (h : x ∈ us) : ∃ a b, catSrc us = catSrc a ++ x.src ++ catSrc b := by
  obtain ⟨a, b, rfl⟩ := List.append_of_mem h
  exact ⟨a, b, by simp [catSrc_append, catSrc, String.append_assoc]⟩

/-- FULL STATEMENT (not proved; false because of F-C08-4 / -5 / -6): a token list with a fresh identifier `x` inserted anywhere at any
depth, if accepted, yields statements whose texts contain `x`.  Proved for ALL statement classes under the hypotheses of
`parse_accounted_ddl_partial` and `NoGroupWholeD`: `x` is stored verbatim, or without its back-quotes, or as a CONTIGUOUS PART of a
stored string that is the concatenation of the sources of a run of consecutive tokens around `x` (SET / TBLPROPERTIES). -/
theorem stray_inserted_ddl_partial (d : Gen.D) (f : Nat) (ts ts' : List Tok) (ss' : List Stmt) (x : Tok) (hi : Inserted x ts ts')
    (h : pStatements d f ts' = .ok ss') (hf : FullDStmts ss' = true) (hr : runsOK d f (ts'.length + 1) ts' = true)
    (hg : NoGroupWholeD (tStmts ss') ts') (hfr : FreshName x) :
    x.src ∈ tStmts ss' ∨ unifyName x.src ∈ tStmts ss' ∨ ∃ a b : List Tok, catSrc a ++ x.src ++ catSrc b ∈ tStmts ss' := by
  obtain ⟨t, ht, hin⟩ := hi.inside
  obtain ⟨g, c, h1, h2, h3⟩ := accD_inside (parse_accounted_ddl_partial d f ts' ss' h hf hr t ht) x hin hfr.1
  obtain rfl := h1.eq_or_groupish.resolve_right fun hgr => hg t ht g h2 hgr c h3
  rcases h3 with h3 | ⟨pre, us, post, _, hm, hs⟩
  · exact (hfr.whole h3).imp_right .inl
  · obtain ⟨a, b, e⟩ := catSrc_mem hm
    exact .inr (.inr ⟨a, b, e ▸ hs⟩)

/-! ### non-vacuity and the witnesses of the hypotheses (`#guard`: evaluated tests) -/
namespace DdlW
open All (toks)
/-- all contiguous runs of `ctx` that contain position `i` -/
def runsAt (ctx : List Tok) (i : Nat) : List (List Tok) :=
  (List.range (i + 1)).flatMap fun a => (List.range (ctx.length - i)).map fun k => (ctx.drop a).take (i - a + 1 + k)
mutual
/-- `AccD`, evaluated (`ctx`, position `i` of the token) -/
def accDB (T : List String) (ctx : List Tok) (i : Nat) : Tok → Bool
  | .single s m =>
    let t := Tok.single s m
    T.contains t.src || T.contains (unifyName t.src) || PA.KwTok t ||
      (match splitName t.src with | .ok (some a, b) => T.contains a && T.contains b | _ => false) ||
      (match pyInt t.src with | .ok n => T.contains (toString n) | _ => false) ||
      (runsAt ctx i).any fun us => T.contains (catSrc us)
  | .group k cs m =>
    let t := Tok.group k cs m
    T.contains t.src || T.contains (unifyName t.src) || (Groupish t && accDBL T cs 0 cs)
def accDBL (T : List String) (ctx : List Tok) (i : Nat) : List Tok → Bool
  | [] => true
  | t :: ts => accDB T ctx i t && accDBL T ctx (i + 1) ts
end
/-- accepted, in the fragment, the token hypothesis holds, and every token passes the evaluated `AccD` -/
def holds (d : Gen.D) (s : String) : Bool :=
  match pStatements d 4000 (toks s) with
  | .ok ss => FullDStmts ss && runsOK d 4000 ((toks s).length + 1) (toks s) && accDBL (tStmts ss) (toks s) 0 (toks s) && !(toks s).isEmpty
  | _ => false
/-- accepted, the result is in the fragment, the TOKEN hypothesis fails, and the word `w` is in none of the stored strings -/
def needsRuns (d : Gen.D) (s w : String) : Bool :=
  match pStatements d 4000 (toks s) with
  | .ok ss => FullDStmts ss && !runsOK d 4000 ((toks s).length + 1) (toks s) && !(tStmts ss).any (fun x => (x.splitOn w).length > 1)
  | _ => false
/-- accepted, the token hypothesis holds, the RESULT is outside the fragment, and the word `w` is in none of the stored strings -/
def needsFull (d : Gen.D) (s w : String) : Bool :=
  match pStatements d 4000 (toks s) with
  | .ok ss => !FullDStmts ss && runsOK d 4000 ((toks s).length + 1) (toks s) && !(tStmts ss).any (fun x => (x.splitOn w).length > 1)
  | _ => false

-- the theorem is not vacuous: SET, CREATE TABLE with every kind of element / attribute / option, ALTER ADD / MODIFY / CHANGE
#guard holds .HIVE "SET hive.exec-mode = a.b-c; SET x = 1"
#guard holds .MYSQL "CREATE TABLE IF NOT EXISTS db.t (a int NOT NULL AUTO_INCREMENT COMMENT 'x', b varchar(10) CHARACTER SET utf8 COLLATE utf8_bin DEFAULT 'q' NULL, c decimal(10, 2) UNSIGNED ZEROFILL DEFAULT 1 ON UPDATE now(1), g int GENERATED ALWAYS AS (a + 1) STORED, PRIMARY KEY (a), UNIQUE KEY uk (b(5), c) USING BTREE COMMENT 'k', KEY k2 (c) KEY_BLOCK_SIZE = 4, FULLTEXT KEY ft (b), CONSTRAINT fk1 FOREIGN KEY (a) REFERENCES p (id) ON DELETE CASCADE ON UPDATE SET NULL) ENGINE = InnoDB AUTO_INCREMENT = 7 DEFAULT CHARSET = utf8 ROW_FORMAT = DYNAMIC COLLATE = utf8_bin COMMENT = 'tbl' STATS_PERSISTENT = 1;"
#guard holds .HIVE "CREATE TABLE t (a int COMMENT 'c', b string) COMMENT 'x' PARTITIONED BY (dt string COMMENT 'd') ROW FORMAT SERDE 'org.S' STORED AS INPUTFORMAT 'i' OUTPUTFORMAT 'o' LOCATION '/p' TBLPROPERTIES ('k.x' = 'v', a.b-c = d)"
#guard holds .HIVE "CREATE TABLE t (a int) ROW FORMAT DELIMITED FIELDS TERMINATED BY ',' STORED AS TEXTFILE; CREATE TABLE u (b int COMMENT 'y') COMMENT 'z'"
#guard holds .MYSQL "ALTER TABLE t ADD c int DEFAULT 1 COMMENT 'x', MODIFY d varchar(3) NOT NULL COMMENT 'y', CHANGE e f bigint DEFAULT 2, ADD KEY k (c), DROP COLUMN z; SELECT a FROM t"
-- F-C08-4: the token hypothesis is needed (the result is in the fragment, the value is lost)
#guard needsRuns .MYSQL "CREATE TABLE t (a int DEFAULT 17 DEFAULT 2)" "17"
#guard needsRuns .MYSQL "CREATE TABLE t (a int) ENGINE = zzq9 ENGINE = b" "zzq9"
#guard needsRuns .MYSQL "ALTER TABLE t ADD a int COMMENT 'zzq9' COMMENT 'b'" "zzq9"
#guard needsRuns .MYSQL "ALTER TABLE t DROP COLUMN z, MODIFY a int DEFAULT 17 DEFAULT 2" "17"
-- the same defect at a new site: a second PRIMARY KEY element overwrites the first
#guard needsRuns .MYSQL "CREATE TABLE t (a int, b int, PRIMARY KEY (a(17)), PRIMARY KEY (b))" "17"
-- F-C08-6 on the tokens: PARTITIONED BY x / TBLPROPERTIES x leave no trace in the result
#guard needsRuns .HIVE "CREATE TABLE t (a int) PARTITIONED BY zzq9" "zzq9"
#guard needsRuns .HIVE "CREATE TABLE t (a int) TBLPROPERTIES zzq9" "zzq9"
-- F-C08-6 on the result: an index / a foreign key without a column, a CREATE TABLE without an element
#guard needsFull .MYSQL "CREATE TABLE t (a int, PRIMARY KEY zzq9)" "zzq9"
#guard needsFull .MYSQL "CREATE TABLE t (a int, CONSTRAINT c FOREIGN KEY zzq9 REFERENCES p (id))" "zzq9"
#guard needsFull .MYSQL "CREATE TABLE t zzq9" "zzq9"
-- flags may repeat; a repeated keyword inside a bracket group of another element does not count
#guard holds .MYSQL "CREATE TABLE t (a int NOT NULL NOT NULL UNSIGNED UNSIGNED DEFAULT f(1, 2), b int DEFAULT 3)"
-- the price of counting all top-level tokens of the run
#guard !holds .MYSQL "CREATE TABLE t (a int DEFAULT comment COMMENT 'x')"
end DdlW

end C08
