import MsqModel.Lex.Count
import MsqProofs.Props.C20
import MsqProofs.Lemmas.LexLossless
import MsqProofs.Oblig.LexCfg7
/-!
# C19 — work grows linearly with input size

(a) lexer: at most two `handle` calls per character and one for END — and, from the table obligation, the
pointer advances by exactly one per character, so every character is handled and none is revisited;
(b) cursor: every operation moves the cursor forward only (`C20.match_forward`, `pop_spec`, `andMove_*`);
(c) parser: the cursor-operation count of the cost model is proved linear in `C19P.lean` / `C19T.lean`; that the model counts
what the implementation does is validated by measurement (see the check).
-/
namespace C19
open Lex

variable {Cls : Type}

theorem feedWithC_le (h : Mem → Sym → Except Err (Mem × Bool)) (m m' : Mem) (c : Char) (k : Nat)
    (hk : feedWithC h m c = .ok (m', k)) : k ≤ 2 ∧ feedWith h m c = .ok m' := by
  unfold feedWithC at hk
  unfold feedWith
  split at hk
  · simp at hk
  · rename_i m1 h1; simp at hk; obtain ⟨rfl, rfl⟩ := hk; simp [h1]
  · rename_i m1 h1
    split at hk
    · simp at hk
    · rename_i m2 b h2; simp at hk; obtain ⟨rfl, rfl⟩ := hk; simp [h1, h2]

theorem feedAllWithC_le (h : Mem → Sym → Except Err (Mem × Bool)) (cs : List Char) (m m' : Mem) (n n' : Nat)
    (hk : feedAllWithC h cs m n = .ok (m', n')) : n' ≤ n + 2 * cs.length ∧ feedAllWith h cs m = .ok m' := by
  induction cs generalizing m n with
  | nil => simp [feedAllWithC] at hk; obtain ⟨rfl, rfl⟩ := hk; simp [feedAllWith]
  | cons c cs ih =>
    simp only [feedAllWithC] at hk
    split at hk
    · simp at hk
    · rename_i m1 k h1
      obtain ⟨hle, hf⟩ := feedWithC_le h m m1 c k h1
      obtain ⟨h2, h3⟩ := ih m1 (n + k) hk
      refine ⟨by simp; omega, ?_⟩
      simp [feedAllWith, hf, h3]

/-- C19(a): for every table and every text, lexing makes at most `2·|text| + 1` calls of `handle`
(`|text|` after the pre-pass, which never lengthens the text for the generated chain: `C19.cfgS_pre_length_le`,
`Props/C19T.lean`) -/
theorem handleCalls_linear (cfg : Cfg Cls) (raw : List Char) (n : Nat) (h : handleCalls cfg raw = .ok n) :
    n ≤ 2 * (cfg.pre raw).length + 1 := by
  unfold handleCalls at h
  simp only at h
  split at h
  · simp at h
  · rename_i m k hk
    have := (feedAllWithC_le _ _ _ _ _ _ hk).1
    split at h
    · simp at h
    · split at h
      · simp at h
      · simp at h; omega

/-- the counter does not change what is computed: the counting driver reaches the same memory as `feedAll` -/
theorem counter_transparent (cfg : Cfg Cls) (text : List Char) (m' : Mem) (k : Nat)
    (h : feedAllWithC (handle cfg text) text {} 0 = .ok (m', k)) : feedAll cfg text text {} = .ok m' :=
  (feedAllWithC_le _ _ _ _ _ _ h).2

/-- every character is consumed exactly once: after the loop the pointer stands at the end of the text
(shipped table; from the table obligation `TableOK`, re-decided on every run) -/
theorem pointer_advances_once_per_char (text : List Char) (m' : Mem)
    (h : feedAll Gen.Cfg7.cfg text text {} = .ok m') : m'.now = text.length := by
  obtain ⟨_, _, hn⟩ := feedAll_inv Gen.Cfg7.cfg Gen.Cfg7.advSt Gen.Cfg7.wk text Oblig.tableOK_cfg7 text {} m' []
    (Inv2.init _ _ text (TableOK.wait Oblig.tableOK_cfg7)) (by simp) h
  simpa using hn

/-- C19(b): the cursor only moves forward (restated from C20) -/
theorem cursor_forward (s : Scan.Scanner) (ps : List Scan.Pat) :
    s.pos ≤ (s.matchPats ps).2.pos ∧ (s.matchPats ps).2.pos ≤ s.pos + ps.length := ⟨(C20.match_forward s ps).1, (C20.match_forward s ps).2.1⟩

/-- non-vacuity: an accepted text and its count -/
example : (match handleCalls Gen.Cfg7.cfg "SELECT a".toList with | .ok n => n == 10 | .error _ => false) = true := by decide +kernel

end C19
