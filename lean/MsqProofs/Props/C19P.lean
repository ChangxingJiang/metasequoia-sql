import MsqProofs.Lemmas.ParseCostBnd
import MsqProofs.Lemmas.ParseCostProjStmt
/-!
# C19, parser half — a cost model of the parser, tied to the code's counters, and the linear bound

**Cost model** (`MsqModel/Parse/Cost*.lean`, generated by `tools/gen_cost.py` from the Lean source of the parser model): every function
`pX` of the parser model (147: 11 helpers, the 80-function mutual block of `Parse/Expr.lean`, 56 functions of `Parse/Stmt.lean` and
`pStatements`) has a companion `pX_k … κ : Nat × (result of pX)` — the SAME term with an accumulator threaded through it; the accumulator
grows by the number of `TokenScanner` method calls (nested ones included) the Python method makes at that place, plus one per child that a
comma split walks over.  Driver command `PC`; the C19 check compares it with the same count taken on the implementation from outside
(`tools/harness/canon_ext_pc.py`) — EXACT equality on accepted and rejected texts.

Proved here:
* `cost_model_projection*` — the companion computes the result of the function it counts (all 147 functions; here the entry points);
* `cursor_steps_block` — for EVERY function of the expression / SELECT block, every fuel, every cursor, accepted or rejected:
  `cost + 70 · adqWL(rest) ≤ 70 · adqWL(cursor) + c_f` (amortised: what is not consumed is not paid);
* `cursor_steps_linear_select`, `cursor_steps_linear_expr` — in `sizeL` (number of tokens, nested ones included).
The same bound for the statement level (`pStatement_k`, DML / DDL, `pStatements_k`) and the composition with the lexer bound on texts:
`Props/C19T.lean` (`C19.cursor_steps_linear`, `C19.total_steps_linear`).
-/
namespace C19
open Lex PM

/-- the cost model is a model OF the parser model: `parse_statements` -/
theorem cost_model_projection (d : Gen.D) (f : Nat) (ts : List Tok) (κ : Nat) :
    (pStatements_k d f ts κ).2 = pStatements d f ts := pStatements_proj d f ts κ
/-- … and every function of the expression / SELECT block (record of 80 equations) -/
theorem cost_model_projection_block (d : Gen.D) (n : Nat) : ProjF d n := projF_all d n
/-- … and one statement -/
theorem cost_model_projection_statement (d : Gen.D) (f : Nat) (ts : List Tok) (κ : Nat) :
    (pStatement_k d f ts κ).2 = pStatement d f ts := pStatement_proj d f ts κ

/-- **the potential argument, whole expression / SELECT block**: for each of the 80 functions, `cost + 70·weight(rest) ≤ 70·weight(cursor) + c_f`
(the record `BndF` lists the 80 statements with their constants; `adqWL` = `ParseAdq0.lean`) -/
theorem cursor_steps_block (d : Gen.D) (n : Nat) : BndF d n := bndF_all d n

/-- **cursor operations of a SELECT statement are linear in the number of tokens** — every dialect, every fuel, every token list, accepted or
rejected (`_parse_select_statement`; counts `TokenScanner` method calls + children walked by comma splits) -/
theorem cursor_steps_linear_select (d : Gen.D) (n : Nat) (ts : List Tok) :
    (pSelectStmt_k d n none ts 0).1 ≤ 1400 * sizeL ts + 21 := by
  have h := pSelectStmt_bnd d n none ts 0
  have := adqWL_le ts
  omega
/-- amortised form: the operations are paid by the tokens actually consumed -/
theorem cursor_steps_amortised_select (d : Gen.D) (n : Nat) (ts : List Tok) (q : Ast.Query) (r : List Tok)
    (h : (pSelectStmt_k d n none ts 0).2 = .ok (q, r)) : (pSelectStmt_k d n none ts 0).1 + 70 * adqWL r ≤ 70 * adqWL ts + 21 := by
  have h1 := pSelectStmt_bnd d n none ts 0
  rw [h, rem_ok] at h1; omega
/-- **cursor operations of an expression are linear in the number of tokens** (`_parse_logical_or_level_expression`) -/
theorem cursor_steps_linear_expr (d : Gen.D) (n : Nat) (ts : List Tok) :
    (pOr_k d n ts 0).1 ≤ 1400 * sizeL ts + 209 := by
  have h := pOr_bnd d n ts 0
  have := adqWL_le ts
  omega
/-! non-vacuity (evaluated tests: `String` functions do not reduce in the kernel) -/
namespace PCost
def toks (s : String) : List Tok := match lex Gen.cfgS s.toList with | .ok ts => ts | .error _ => []
def cost (s : String) : Nat := (pStatements_k .MYSQL (fuelFor (toks s)) (toks s) 0).1
end PCost
#guard PCost.cost "SELECT 1" == 68
#guard PCost.cost "SELECT a FROM t WHERE a IN (1, 2, 3)" == 137
#guard (pSelectStmt_k .MYSQL 400 none (PCost.toks "SELECT a FROM t WHERE a IN (1, 2, 3)") 0).1 ≤ 1400 * sizeL (PCost.toks "SELECT a FROM t WHERE a IN (1, 2, 3)") + 21
#guard (pSelectStmt_k .MYSQL 400 none (PCost.toks "SELECT a FROM") 0).2.toBool == false

end C19
