import MsqProofs.Props.C14T
import MsqProofs.Lemmas.AnalyzeText3f
/-!
# C15 / C14 on the TOKENS of the text: the clause segments are cut by the clause words, the column references are read off the tokens

`Props/C14T.lean` composed the tree theorems with `C03.tquery_text` (the printed text of a query `q` of the nested fragment `TQ.FragQ`
lexes to the token rendering `toksQ d noX q` and parses back to `q`).  Here the specified answers are characterised on those tokens:

* `C14.segments_cut` : the FROM segment and the JOIN segment of a SELECT branch are cut out of the branch's token list by the clause
  words at bracket depth 0 (`CT.cutFrom`, `CT.cutJoins`: `Lemmas/AnalyzeText3.lean`), so the FROM-only / JOIN-only variants read on the
  token list itself (`C14.variant_tokens_cut`).
* `C15.columns_are_clause_tokens` : for every top-level branch `s` and every clause `c` (select list, JOIN, WHERE, GROUP BY, HAVING,
  ORDER BY, their union), the references the specification lists for that clause BEFORE the alias / position substitution
  (`Spec.colsOf c s`) are exactly what the token scanner `CT.clauseColumnTokens c` reads off the clause's segment
  (`CT.clauseSeg c`) of the branch's token rendering: current level only (a bracket group starting with `SELECT` is never entered), a
  word in front of a bracket group is a function name, a `*` is the wildcard exactly where an operand is expected, an aggregate whose
  arguments contain no reference is ONE anonymous reference, the dialect variables are skipped, a lone integer literal in GROUP BY /
  ORDER BY is a position.
* `C15.spec_of_tokens` / `C15.columns_of_text_tokens` : the substitution step is stated as the specification states it
  (`Spec.resolve (items s)` on the scanned references for GROUP BY / HAVING / ORDER BY, nothing for the select list / JOIN / WHERE), and
  the answer of the driver's `AN columns` command on the printed TEXT is that list (hypotheses of `C15.columns_of_text`).

Fragment: `TQ.FragQ` (no restriction beyond it: aliases, function names and wildcard qualifiers may be any word the fragment allows,
including `AS`, `CROSS` and the reserved words, because the scanner decides by position), rendering without redundant brackets (`noX`:
what the printer writes) for the clause level — with a redundant bracket `GROUP BY (1)` would be read as an expression by the scanner,
as a position by the implementation (the parser drops the bracket).
-/
open Lex PM Ast TP TS TQ LexLink Spec
open AN (QCol)

namespace C14

theorem fromSeg_eq (d : Gen.D) (s : Select) : fromSeg d s = CT.seg d noX 1 s := by cases s; rfl
theorem joinSeg_eq (d : Gen.D) (s : Select) : joinSeg d s = CT.seg d noX 2 s := by cases s; rfl

/-- **C14.segments_cut**: the FROM segment and the JOIN segment of the rendering of a fragment SELECT are what the cut by the clause
words at bracket depth 0 returns (`CT.cut`: FROM starts clause 1; JOIN / INNER / LEFT / RIGHT / FULL / CROSS JOIN start clause 2, ON its
sub-clause 8; WHERE, GROUP, HAVING, ORDER, LIMIT end both; the token after AS is an alias) -/
theorem segments_cut (d : Gen.D) (s : Select) (h : FragS3 d s = true) :
    CT.cutFrom (toksS3 d noX s) = fromSeg d s ∧ CT.cutJoins (toksS3 d noX s) = joinSeg d s :=
  ⟨by rw [fromSeg_eq]; exact CT.cut_toksS3 noX s h 1 (by decide) (by decide), by rw [joinSeg_eq]; exact CT.cutJoins_toksS3 noX s h⟩

/-- **the two variants on the token list itself**: for every top-level branch, the FROM-only tables are the table tokens of the FROM
segment cut out of the branch's tokens, the JOIN-only tables those of its JOIN segment -/
theorem variant_tokens_cut (d : Gen.D) (q : Query) (hq : FragQ d q = true) :
    fromTablesOf q = (branches q).flatMap (fun s => AT.tableNames (CT.cutFrom (toksS3 d noX s))) ∧
    joinTablesOf q = (branches q).flatMap (fun s => AT.tableNames (CT.cutJoins (toksS3 d noX s))) := by
  obtain ⟨h1, h2⟩ := variant_tokens d q hq
  have key := fun s hs => segments_cut d s (frag_branches q hq s hs)
  exact ⟨h1.trans (flatMap_congr_mem fun s hs => by rw [(key s hs).1]),
    h2.trans (flatMap_congr_mem fun s hs => by rw [(key s hs).2])⟩

end C14

namespace C15
open AN

theorem branchesOf_eq (q : Query) : branchesOf q = branches q := by cases q <;> rfl

/-- **C15.columns_are_clause_tokens**: for every top-level branch `s` of a query of the nested fragment and every clause `c`, the raw
references of clause `c` (what the specification lists before the alias / position substitution) are what the token scanner reads off
the segment of clause `c` of the branch's token rendering -/
theorem columns_are_clause_tokens (d : Gen.D) (q : Query) (hq : FragQ d q = true) :
    ∀ s ∈ branchesOf q, ∀ c : AN.Clause, colsOf c s = CT.clauseColumnTokens c (CT.clauseSeg c (toksS3 d noX s)) := by
  intro s hs c
  rw [branchesOf_eq] at hs
  exact CT.clause_cols s (C14.frag_branches q hq s hs) c

/-- the scanned references of clause `c` of the branch `s` -/
def raw (d : Gen.D) (s : Select) (c : AN.Clause) : List QCol := CT.clauseColumnTokens c (CT.clauseSeg c (toksS3 d noX s))
/-- the specified answer for one branch, from the tokens: the substitution step as `Spec.spec` states it -/
def specOfTokens (d : Gen.D) (c : AN.Clause) (s : Select) : List QCol :=
  match c with
  | .select | .join | .where_ => raw d s c
  | .group | .having | .order => resolve (Select.cols s) (raw d s c)
  | .all => raw d s .select ++ raw d s .join ++ raw d s .where_ ++ resolve (Select.cols s) (raw d s .group)
      ++ resolve (Select.cols s) (raw d s .having) ++ resolve (Select.cols s) (raw d s .order)

theorem spec_branch_of_tokens (d : Gen.D) (s : Select) (h : FragS3 d s = true) (c : AN.Clause) : spec c s = specOfTokens d c s := by
  have e := fun c' => CT.clause_cols (d := d) s h c'
  cases c <;> simp only [spec, specOfTokens, raw, e]

/-- **C15.spec_of_tokens**: the specified per-clause answer of a fragment query is, branch by branch, the scanned references of the
clause's token segment with the alias / position substitution of the specification applied (GROUP BY, HAVING, ORDER BY) -/
theorem spec_of_tokens (d : Gen.D) (q : Query) (hq : FragQ d q = true) (c : AN.Clause) :
    specQuery c q = (branchesOf q).flatMap (specOfTokens d c) := by
  have h := C14.flatMap_congr_mem (l := branches q) fun s hs => spec_branch_of_tokens d s (C14.frag_branches q hq s hs) c
  rw [branchesOf_eq, ← h]
  cases q <;> simp [specQuery, branches, List.flatMap_map]

/-- **C15.columns_of_text_tokens**: for a query of the nested fragment, on the TEXT the printer writes: the text lexes to the token
rendering `toksQ d noX q`, `parse_statements(text)[0]` is the query, and the per-clause column analysis of the parsed text (the driver's
`AN columns <clause>` call) returns, branch by branch, what the token scanner reads off the clause's segment of the branch's tokens,
aliases and positions substituted as the specification says.  `Good c s`: the hypotheses of the tree theorem (for the select list, JOIN
and WHERE: no clash with a select alias, finding F-C15-1). -/
theorem columns_of_text_tokens (d : Gen.D) (q : Query) (hq : FragQ d q = true) (hl : LeafQ d q)
    (hpre : dialectPre d (prQL d q) = prQL d q) (c : AN.Clause) (hg : ∀ s ∈ branchesOf q, Good c s) :
    ∃ (str : String), PR.prQ d q = .ok str ∧ Lex.lex Gen.cfgS (dialectPre d str.toList) = .ok (toksQ d noX q) ∧
      Drv.firstStmt d str.toList = .ok (.select q) ∧
      (Drv.firstStmt d str.toList >>= currentColsStmt c) = .ok ((branchesOf q).flatMap (specOfTokens d c)) ∧
      ∀ kind, kind ≠ "hash" → AN.Clause.ofName? kind = some c →
        Drv.anColumns kind d str.toList = Drv.showAn (.ok (((branchesOf q).flatMap (specOfTokens d c)).map QCol.toVal)) := by
  obtain ⟨str, h1, h2, _⟩ := C14.text_reads_back d q hq hl hpre
  obtain ⟨str', h1', hf, hc, hk⟩ := columns_of_text d q hq hl hpre c hg
  cases h1.symm.trans h1'
  rw [← spec_of_tokens d q hq c]
  exact ⟨str, h1, h2, hf, hc, hk⟩

end C15

/-! ## non-vacuity -/
namespace C15T
open C03 (q1 q2 q3 q4 q5 q6 qx leafQ_of_B leafQB col lit tb qcol)
open C14T (lexOf nested)

/-- `SELECT b AS a, c, COUNT(1), t.*, f(c) * 2 FROM t AS cross LEFT JOIN u ON t.k = u.k AND u.z IN (1, y) CROSS JOIN (SELECT q FROM w) AS v
WHERE c > (SELECT max(z) FROM t7) AND current_date IS NOT NULL GROUP BY 1, c HAVING COUNT(1) > 2 AND SUM(c) < 9 ORDER BY a DESC, 2, c + 1` -/
def sample : Select :=
  .mk (some []) false
    [(col "b", some "a"), (col "c", none), (.agg "COUNT" [lit "1"] false, none), (.wildcard (some "t"), none),
     (.compute (.func none "f" [col "c"]) "MULTIPLE" (lit "2"), none)]
    (some [.mk (.table none "t") (some "cross")]) []
    [.mk "LEFT_JOIN" (.mk (.table none "u") none)
       (some (.on (.and_ (.compare "EQ" (qcol "t" "k") (qcol "u" "k")) (.kw .in_ false (qcol "u" "z") (.subValue [lit "1", col "y"]))))),
     .mk "CROSS_JOIN" (.mk (.sub (.single (C03.sel [(col "q", none)] (some [tb "w"])))) (some "v")) none]
    (some (.and_ (.compare "GT" (col "c") (.subQuery (.single (C03.sel [(.agg "max" [col "z"] false, none)] (some [tb "t7"])))))
      (.kw .is true (col "current_date") (lit "NULL"))))
    (some (.mk [lit "1", col "c"] none false false))
    (some (.and_ (.compare "GT" (.agg "COUNT" [lit "1"] false) (lit "2")) (.compare "LT" (.agg "SUM" [col "c"] false) (lit "9"))))
    (some [.mk (col "a") true false false, .mk (lit "2") false false false, .mk (.compute (col "c") "PLUS" (lit "1")) false false false])
    none none none none
def sampleQ : Query := .single sample

def clauses : List (String × AN.Clause) :=
  [("select", .select), ("join", .join), ("where", .where_), ("group", .group), ("having", .having), ("order", .order), ("all", .all)]

-- tests (compiled evaluation): the sample is in the fragment, its leaves are lexable
#guard [Gen.D.MYSQL, .HIVE, .ORACLE].all fun d => FragQ d sampleQ && leafQB d sampleQ
-- what the scanner reads off the LEXED printed text, clause by clause (before the substitution)
#guard (match PR.prQ .MYSQL sampleQ with
  | .ok str => clauses.map (fun (_, c) => (CT.branchColumnTokens c (lexOf .MYSQL str)).map fun r => (r.table, r.name, r.idx)) ==
      [ [(none, some "b", none), (none, some "c", none), (none, none, none), (some "t", some "*", none), (none, some "c", none)],
        [(some "t", some "k", none), (some "u", some "k", none), (some "u", some "z", none), (none, some "y", none)],
        [(none, some "c", none)],
        [(none, none, some 1), (none, some "c", none)],
        [(none, none, none), (none, some "c", none)],
        [(none, some "a", none), (none, none, some 2), (none, some "c", none)],
        [(none, some "b", none), (none, some "c", none), (none, none, none), (some "t", some "*", none), (none, some "c", none),
         (some "t", some "k", none), (some "u", some "k", none), (some "u", some "z", none), (none, some "y", none), (none, some "c", none),
         (none, none, some 1), (none, some "c", none), (none, none, none), (none, some "c", none),
         (none, some "a", none), (none, none, some 2), (none, some "c", none)] ]
  | _ => false)
-- the driver command `AN columns` on the printed text answers with the token-level specification, every clause, three dialects;
-- the sample queries of C03 (sub-queries in every position, set operations) likewise
#guard [sampleQ, q1, q2, q3, q4, q5, q6, qx, nested].all fun q => [Gen.D.MYSQL, .HIVE, .ORACLE].all fun d =>
  (!FragQ d q) || (match PR.prQ d q with
    | .ok str => clauses.all fun (k, c) =>
        Drv.anColumns k d str.toList == Drv.showAn (.ok (((C15.branchesOf q).flatMap (C15.specOfTokens d c)).map QCol.toVal)) &&
        (C15.branchesOf q).all (fun s => colsOf c s == CT.branchColumnTokens c (toksS3 d noX s))
    | _ => false)
-- … and the cut of the LEXED text of each single-branch sample returns the printer's segments
#guard [sampleQ, q1, q2, q4, q6, qx, nested].all fun q => [Gen.D.MYSQL, .HIVE].all fun d =>
  match q, PR.prQ d q with
  | .single s, .ok str => (CT.cutFrom (lexOf d str)).map Tok.source == (C14.fromSeg d s).map Tok.source &&
      (CT.cutJoins (lexOf d str)).map Tok.source == (C14.joinSeg d s).map Tok.source
  | _, _ => false
#guard Drv.anColumns "order" .MYSQL (prQL .MYSQL sampleQ) ==
  "OK L[QuoteColumn{table_name=None,column_name=\"b\",column_idx=None},QuoteColumn{table_name=None,column_name=\"c\",column_idx=None},QuoteColumn{table_name=None,column_name=\"c\",column_idx=None}]"

/-- the scanner on a HAND-WRITTEN text (bare names, aliases without …, a function called `cross`, `AS cross`, wildcards next to
multiplications, COUNT(1) / COUNT(*), a dialect variable, positions with ASC / DESC): what it reads, with the substitution the
implementation applies in every clause, is what the model of the analyzer reports -/
def viaTokens (c : AN.Clause) (d : Gen.D) (text : String) : String :=
  match Drv.firstStmt d text.toList with
  | .ok (.select (.single s)) => Drv.showAn (.ok ((resolve (AN.Select.cols s) (CT.branchColumnTokens c (lexOf d text))).map QCol.toVal))
  | _ => "?"
def handTexts : List String := [
  "SELECT a, t.b, f(c, d) AS x, COUNT(1), COUNT(*), t.*, *, a * b, `s`.g(h), MAX(DISTINCT i + 1), cross(j) FROM t1 AS cross JOIN u ON t1.k = u.k AND u.z IN (1, y) LEFT OUTER JOIN (SELECT q FROM w) AS v ON v.q = t1.q CROSS JOIN z WHERE a > (SELECT max(zz) FROM t7) AND CASE WHEN b = 1 THEN c ELSE d END IS NOT NULL AND e BETWEEN 1 AND f GROUP BY 1, a + 2, g HAVING COUNT(1) > 2 AND SUM(h) < CURRENT_DATE ORDER BY 2 DESC, i, x ASC, 3 LIMIT 10",
  "SELECT CURRENT_DATE, current_timestamp, t.current_date, - a * - b, (a + b) * (c), NOT EXISTS (SELECT 1 FROM t) FROM t",
  "SELECT 1 * 2, 'x', TRUE, NULL, a.b * c.d, CASE x WHEN 1 THEN * END FROM t WHERE a IN (SELECT b FROM u) OR b IN (1, c) ORDER BY 1 + 1"]
#guard handTexts.all fun t => clauses.all fun (k, c) => viaTokens c .MYSQL t == Drv.anColumns k .MYSQL t.toList
#guard (CT.branchColumnTokens .select (lexOf .MYSQL "SELECT a * b, *, t.*, COUNT(1), COUNT(*), f(x), CURRENT_DATE FROM t")).map
    (fun r => (r.table, r.name)) =
  [(none, some "a"), (none, some "b"), (none, some "*"), (some "t", some "*"), (none, none), (none, some "*"), (none, some "x")]
-- outside the rendering without redundant brackets: a bracketed position is an expression for the scanner, a position for the
-- implementation (the parser drops the bracket) — an observation, see the final report of this development
#guard viaTokens .order .MYSQL "SELECT a FROM t ORDER BY (1)" == "OK L[]" &&
  Drv.anColumns "order" .MYSQL "SELECT a FROM t ORDER BY (1)".toList == "OK L[QuoteColumn{table_name=None,column_name=\"a\",column_idx=None}]"

-- instances of the theorems, every hypothesis decided by the kernel
example : CT.cutFrom (toksS3 .MYSQL noX sample) = C14.fromSeg .MYSQL sample ∧ CT.cutJoins (toksS3 .MYSQL noX sample) = C14.joinSeg .MYSQL sample :=
  C14.segments_cut .MYSQL sample (by decide +kernel)
example : ∀ c : AN.Clause, colsOf c sample = CT.clauseColumnTokens c (CT.clauseSeg c (toksS3 .MYSQL noX sample)) :=
  C15.columns_are_clause_tokens .MYSQL sampleQ (by decide +kernel) sample (by simp [C15.branchesOf, sampleQ])
example : specQuery .order sampleQ = (C15.branchesOf sampleQ).flatMap (C15.specOfTokens .MYSQL .order) :=
  C15.spec_of_tokens .MYSQL sampleQ (by decide +kernel) .order
/-- the scanner itself in the kernel: the JOIN segment of the sample, cut out of the rendering and scanned -/
example : (CT.clauseColumnTokens .join (CT.cutJoins (toksS3 .MYSQL noX sample))).map (fun r => (r.table, r.name)) =
    [(some "t", some "k"), (some "u", some "k"), (some "u", some "z"), (none, some "y")] := by decide +kernel
example : (CT.cutFrom (toksS3 .MYSQL noX sample)).map Tok.source = ["FROM".toList, "`t`".toList, "AS".toList, "cross".toList] := by
  decide +kernel
set_option maxRecDepth 100000 in
example : ∃ (str : String), PR.prQ .MYSQL q1 = .ok str ∧ Lex.lex Gen.cfgS (dialectPre .MYSQL str.toList) = .ok (toksQ .MYSQL noX q1) ∧
    Drv.firstStmt .MYSQL str.toList = .ok (.select q1) ∧
    (Drv.firstStmt .MYSQL str.toList >>= AN.currentColsStmt .having) = .ok ((C15.branchesOf q1).flatMap (C15.specOfTokens .MYSQL .having)) ∧
    ∀ kind, kind ≠ "hash" → AN.Clause.ofName? kind = some .having →
      Drv.anColumns kind .MYSQL str.toList =
        Drv.showAn (.ok (((C15.branchesOf q1).flatMap (C15.specOfTokens .MYSQL .having)).map QCol.toVal)) :=
  C15.columns_of_text_tokens .MYSQL q1 (by decide +kernel) (leafQ_of_B _ _ (by decide +kernel)) (C01.dialectPre_id _ (by decide) (by decide) _) .having
    (fun _ _ => trivial)

end C15T
