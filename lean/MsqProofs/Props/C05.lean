import MsqProofs.Lemmas.LexTok
import MsqProofs.Oblig.SpecCfg0
import MsqProofs.Oblig.SpecCfg1
import MsqProofs.Oblig.SpecCfg2
import MsqProofs.Oblig.SpecCfg3
import MsqProofs.Oblig.SpecCfg4
import MsqProofs.Oblig.SpecCfg5
import MsqProofs.Oblig.SpecCfg6
import MsqProofs.Oblig.SpecCfg7
import MsqModel.Gen.LexShipped
/-!
# C05 — token boundaries and token classes agree with the SQL token grammar

1. `C05.agree_cfgN` (N = 0..7): the generated transition table of option setting N answers EVERY (state, symbol) —
   every character of Unicode and the end of the text — exactly as the specification automaton `Spec.cellD N`
   (`MsqModel/Lex/Spec.lean`: the token grammar written down a second time as rules over character classes, plus the
   explicit list `Spec.deviations` of cells where the code departs from it).  The finite part is re-decided by the
   kernel against the regenerated tables (`Oblig.specAgree_cfgN`), the infinite rest is `Spec.agree_of_fin`.
2. `C05.lex_eq_spec`: hence, for every setting and every text, the table-driven lexer is the specification lexer.
3. Token-grammar theorems about the shipped configuration `Gen.cfgS`, each for all inputs of its shape.

The pre-pass (`preproc_sql`: CR LF → LF, TAB → blank, U+3000 → blank) is the subject of C04/C06; payloads here are
assumed `Lex.Plain` (free of the characters a replacement pattern begins with), so that `lex` sees the text as written.
-/
namespace C05
open Lex Spec

/-- the 8 option settings, `i = 4·IGNORE_SPACE + 2·IGNORE_LINEBREAK + IGNORE_COMMENT` -/
def cfgOf : Fin 8 → Cfg Gen.Cls
  | 0 => Gen.Cfg0.cfg | 1 => Gen.Cfg1.cfg | 2 => Gen.Cfg2.cfg | 3 => Gen.Cfg3.cfg
  | 4 => Gen.Cfg4.cfg | 5 => Gen.Cfg5.cfg | 6 => Gen.Cfg6.cfg | 7 => Gen.Cfg7.cfg

/-! ## 1. cell-wise agreement, all states × all of Unicode ∪ {end of text} -/

theorem agree_cfg0 (s : S) (sym : Sym) : Gen.Cfg0.cfg.lookup s sym = lookupD 0 s sym := lookup_eq _ _ Oblig.specAgree_cfg0 s sym
theorem agree_cfg1 (s : S) (sym : Sym) : Gen.Cfg1.cfg.lookup s sym = lookupD 1 s sym := lookup_eq _ _ Oblig.specAgree_cfg1 s sym
theorem agree_cfg2 (s : S) (sym : Sym) : Gen.Cfg2.cfg.lookup s sym = lookupD 2 s sym := lookup_eq _ _ Oblig.specAgree_cfg2 s sym
theorem agree_cfg3 (s : S) (sym : Sym) : Gen.Cfg3.cfg.lookup s sym = lookupD 3 s sym := lookup_eq _ _ Oblig.specAgree_cfg3 s sym
theorem agree_cfg4 (s : S) (sym : Sym) : Gen.Cfg4.cfg.lookup s sym = lookupD 4 s sym := lookup_eq _ _ Oblig.specAgree_cfg4 s sym
theorem agree_cfg5 (s : S) (sym : Sym) : Gen.Cfg5.cfg.lookup s sym = lookupD 5 s sym := lookup_eq _ _ Oblig.specAgree_cfg5 s sym
theorem agree_cfg6 (s : S) (sym : Sym) : Gen.Cfg6.cfg.lookup s sym = lookupD 6 s sym := lookup_eq _ _ Oblig.specAgree_cfg6 s sym
theorem agree_cfg7 (s : S) (sym : Sym) : Gen.Cfg7.cfg.lookup s sym = lookupD 7 s sym := lookup_eq _ _ Oblig.specAgree_cfg7 s sym

theorem agreeFin_all (i : Fin 8) : agreeFin (cfgOf i) i.val = true := by
  match i with
  | 0 => exact Oblig.specAgree_cfg0 | 1 => exact Oblig.specAgree_cfg1 | 2 => exact Oblig.specAgree_cfg2
  | 3 => exact Oblig.specAgree_cfg3 | 4 => exact Oblig.specAgree_cfg4 | 5 => exact Oblig.specAgree_cfg5
  | 6 => exact Oblig.specAgree_cfg6 | 7 => exact Oblig.specAgree_cfg7

/-- agreement, stated on character CODES: every state, every natural number (so every code point) -/
theorem agree_codes (i : Fin 8) (s : S) (c : Nat) : lookupN (cfgOf i) s c = cellD i.val s c :=
  (agree_of_fin _ _ (agreeFin_all i) s).1 c

/-- every listed deviation is a real one (its representative is selected by its own entry, and the code's behaviour
there differs from the grammar's): the list contains no padding -/
theorem deviations_real : Spec.devsReal = true := by decide +kernel

/-- non-vacuity of the override: `cellD` differs from `cell` (on `a#b`, the `#`), and equals it elsewhere (`a+b`) -/
example : cellD 7 .IN_WORD '#'.toNat ≠ cell 7 .IN_WORD '#'.toNat ∧ cellD 7 .IN_WORD '+'.toNat = cell 7 .IN_WORD '+'.toNat := by
  decide +kernel

/-! ## 2. the two lexers are the same function -/

/-- for every option setting and EVERY text, lexing with the generated table = lexing with the specification automaton
(same micro-code, same driver, cells from `Spec.cellD`) -/
theorem lex_eq_spec (i : Fin 8) (raw : List Char) : Lex.lex (cfgOf i) raw = Spec.lex (cfgOf i) i.val raw :=
  Spec.lex_eq _ _ (agreeFin_all i) raw

example : (Spec.lex (cfgOf 7) 7 "SELECT a, (b + 1) FROM `t` -- x".toList).isOk = true := by decide +kernel

/-! ## 3. token-grammar theorems about the shipped configuration -/

/-- facts about the generated data that the statements below rely on (`rfl`: re-checked on every regeneration) -/
theorem shipped_code : Gen.cfgS.code = Gen.Cls.code := rfl
theorem shipped_depth : Gen.cfgS.depthLimit = 1 := rfl
theorem shipped_end : Gen.cfgS.endStatus = .END := rfl
theorem shipped_pre : Gen.cfgS.preChain = Gen.preChain := rfl

/-- the class marks of a bare word: `HANDLE_WORD_TO_MARK_HASH.get(source.upper(), NAME)` — the model's own `Marks.word` -/
def wordMark (w : List Char) : Nat := resolveMarks Gen.cfgS.upper Gen.cfgS.wordMarks 0 w (.word Gen.mark_NAME)

/-- a character the pre-pass leaves alone -/
abbrev plain (c : Char) : Bool := Plain Gen.preChain c

/-- lookup of the shipped table on a character, through the specification; `7` is `Gen.shippedIdx`: `Gen.cfgS` is
`Gen.Cfg7.cfg` (an `abbrev`, `Gen/LexShipped.lean`), so `agree_cfg7` speaks of it -/
theorem look {s : S} {c : Char} {o : Op} (h : cellD 7 s c.toNat = some o) : Gen.cfgS.lookup s (.ch c) = some o :=
  (agree_cfg7 s (.ch c)).trans h

theorem lookEnd {s : S} {o : Op} (h : atEndD 7 s = some o) : Gen.cfgS.lookup s .eof = some o :=
  (agree_cfg7 s .eof).trans h

theorem lookClass (s : S) (P : Nat → Bool) (o : Op)
    (h : (ascii.all fun n => !P n || cellD 7 s n == some o) = true)
    (h' : (cellD 7 s other == some o) = true ∨ ∀ n, n ∉ ascii → P n = false)
    (c : Char) (hc : P c.toNat = true) : Gen.cfgS.lookup s (.ch c) = some o :=
  look (cellD_class 7 s P (some o) h h' c.toNat hc)

/-- `X_ascii`: a code outside `ascii` is not of the class `X` (the classes of the grammar are ASCII) -/
theorem digit_ascii (n : Nat) (h : n ∉ ascii) : isDigit n = false := by
  cases hd : isDigit n with
  | false => rfl
  | true =>
    refine absurd ((isAscii_iff n).mp ?_) h
    simp only [isDigit, between, Bool.and_eq_true, Nat.ble_eq] at hd
    simp only [isAscii, Bool.or_eq_true, Bool.and_eq_true, Nat.beq_eq, Nat.ble_eq]
    have h0 : '0'.toNat = 48 := by decide
    have h9 : '9'.toNat = 57 := by decide
    omega

/-- a class of characters none of which begins a pattern of the pre-pass (`Gen.preChain`: today CR LF, TAB, U+3000) -/
theorem plain_of_class (P : Char → Bool)
    (h : (Gen.preChain.all fun pr => match pr.1 with | [] => true | p0 :: _ => !P p0) = true) (c : Char) (hc : P c = true) :
    plain c = true := by
  simp only [plain, Plain, List.all_eq_true] at h ⊢
  intro pr hpr
  have hp := h pr hpr
  cases hq : pr.1 with
  | nil => rfl
  | cons p0 ps =>
    simp only [hq, Bool.not_eq_eq_eq_not, Bool.not_true] at hp
    simp only [bne_iff_ne, ne_eq]
    rintro rfl
    rw [hc] at hp; cases hp

theorem digit_plain (c : Char) (h : isDigit c.toNat = true) : plain c = true :=
  plain_of_class (fun c => isDigit c.toNat) (by decide) c h

theorem wait_blank : Gen.cfgS.lookup .WAIT (.ch ' ') = some skip := look (by decide +kernel)
theorem wait_newline : Gen.cfgS.lookup .WAIT (.ch '\n') = some skip := look (by decide +kernel)
theorem wait_end : Gen.cfgS.lookup .WAIT .eof = some Spec.finish := lookEnd (by decide +kernel)

theorem plain_app {a b : List Char} (ha : ∀ c ∈ a, plain c = true) (hb : ∀ c ∈ b, plain c = true) :
    ∀ c ∈ a ++ b, plain c = true := by
  intro c hc
  rcases List.mem_append.mp hc with h | h
  · exact ha c h
  · exact hb c h

/-! ### integer literals -/

/-- the two states in which the window holds a non-empty string of digits -/
def intSt (q : S) : Prop := q = .AFTER_0 ∨ q = .IN_INT

theorem int_first (c : Char) (h : isDigit c.toNat = true) :
    ∃ q, intSt q ∧ Gen.cfgS.lookup .WAIT (.ch c) = some (addTo q) := by
  by_cases h0 : c = '0'
  · subst h0; exact ⟨.AFTER_0, Or.inl rfl, look (by decide +kernel)⟩
  · refine ⟨.IN_INT, Or.inr rfl, lookClass .WAIT (fun n => isDigit n && !(n =ᶜ '0')) _ (by decide +kernel)
      (Or.inr fun n hn => by simp [digit_ascii n hn]) c ?_⟩
    simp [h, isCh_toNat, h0]

theorem int_next (q : S) (hq : intSt q) (c : Char) (h : isDigit c.toNat = true) :
    Gen.cfgS.lookup q (.ch c) = some (addTo .IN_INT) := by
  rcases hq with rfl | rfl
  · exact lookClass .AFTER_0 isDigit _ (by decide +kernel) (Or.inr digit_ascii) c h
  · exact lookClass .IN_INT isDigit _ (by decide +kernel) (Or.inr digit_ascii) c h

theorem int_path_from (ds : List Char) (hd : ∀ c ∈ ds, isDigit c.toNat = true) (q : S) (hq : intSt q) :
    ∃ q', intSt q' ∧ addPath Gen.cfgS q ds = some q' := by
  induction ds generalizing q with
  | nil => exact ⟨q, hq, rfl⟩
  | cons c cs ih =>
    obtain ⟨q', hq', h⟩ := ih (fun d hm => hd d (by simp [hm])) .IN_INT (Or.inr rfl)
    exact ⟨q', hq', by rw [addPath_cons (int_next q hq c (hd c (by simp)))]; exact h⟩

theorem int_path (ds : List Char) (hne : ds ≠ []) (hd : ∀ c ∈ ds, isDigit c.toNat = true) :
    ∃ q, intSt q ∧ addPath Gen.cfgS .WAIT ds = some q := by
  cases ds with
  | nil => exact absurd rfl hne
  | cons c cs =>
    obtain ⟨q0, hq0, hl⟩ := int_first c (hd c (by simp))
    obtain ⟨q, hq, h⟩ := int_path_from cs (fun d hm => hd d (by simp [hm])) q0 hq0
    exact ⟨q, hq, by rw [addPath_cons hl]; exact h⟩

/-- every non-empty string of digits lexes to exactly one leaf token, whose source is the whole
string and whose marks are LITERAL|LITERAL_INT — at the end of the text and before a blank alike. -/
theorem int_literal (ds : List Char) (hne : ds ≠ []) (hd : ∀ c ∈ ds, isDigit c.toNat = true) :
    lex Gen.cfgS ds = .ok [.single ds (Gen.mark_LITERAL ||| Gen.mark_LITERAL_INT)] ∧
    lex Gen.cfgS (ds ++ [' ']) = .ok [.single ds (Gen.mark_LITERAL ||| Gen.mark_LITERAL_INT)] := by
  obtain ⟨q, hq, hp⟩ := int_path ds hne hd
  have hpl : ∀ c ∈ ds, plain c = true := fun c hc => digit_plain c (hd c hc)
  constructor
  · rw [lex_plain _ _ hpl]
    exact lexText_pending_eof shipped_code hp shipped_depth shipped_end (o := emitAtEnd mInt)
      (by rcases hq with rfl | rfl <;> exact lookEnd (by decide +kernel)) rfl
  · rw [lex_plain _ _ (plain_app hpl (by decide))]
    exact lexText_pending_skip shipped_code hp shipped_depth shipped_end (o := emitBefore mInt)
      (by rcases hq with rfl | rfl <;> exact look (by decide +kernel)) rfl wait_blank wait_end

/-- non-vacuity: `0`, `007` and `42` are such strings; the result is what the kernel computes -/
example : lexesTo (lex Gen.cfgS "42".toList) [.single "42".toList 72] = true ∧
    lexesTo (lex Gen.cfgS "007 ".toList) [.single "007".toList 72] = true ∧
    (∀ c ∈ "007".toList, isDigit c.toNat = true) := by decide +kernel

/-! ### words -/

/-- a character that can be part of a bare word: not a blank, bracket, quote, operator / punctuation character or `#`
(so: letters, digits, `_ $ @ ? : \ { }`, control characters, everything non-ASCII) -/
def wordChar (c : Char) : Bool := isWordChar c.toNat
/-- … and can begin a plain word: not a digit (that begins a number) and not `b B x X` (those may begin `b'01'`, `x'1F'`) -/
def startsWord (c : Char) : Bool := isWordChar c.toNat && !isDigit c.toNat && !isBitPrefix c.toNat && !isHexPrefix c.toNat
/-- the exact side condition of `word_token` -/
def isWord : List Char → Bool
  | [] => false
  | c :: cs => startsWord c && cs.all wordChar
/-- a character at which a word ends: blank, bracket, quote, operator / punctuation — `#` excepted (KNOWN deviation:
the code does not end a word at `#`, see `Spec.deviations`) -/
def endsWord (d : Char) : Bool := isWordEnd d.toNat && !(d.toNat =ᶜ '#')

theorem wordEnd_ascii (n : Nat) (h : n ∉ ascii) : isWordEnd n = false := by
  cases hd : isWordEnd n with
  | false => rfl
  | true =>
    refine absurd ((isAscii_iff n).mp ?_) h
    simp [isWordEnd, isBlank, isBracket, isQuote, isOpChar, oneOf, isCh] at hd
    simp only [isAscii, Bool.or_eq_true, Bool.and_eq_true, Nat.beq_eq, Nat.ble_eq]
    omega

theorem word_first (c : Char) (h : startsWord c = true) : Gen.cfgS.lookup .WAIT (.ch c) = some (addTo .IN_WORD) :=
  lookClass .WAIT (fun n => isWordChar n && !isDigit n && !isBitPrefix n && !isHexPrefix n) _ (by decide +kernel)
    (Or.inl (by decide +kernel)) c h

theorem word_next (c : Char) (h : wordChar c = true) : Gen.cfgS.lookup .IN_WORD (.ch c) = some (addTo .IN_WORD) :=
  lookClass .IN_WORD isWordChar _ (by decide +kernel) (Or.inl (by decide +kernel)) c h

theorem word_stop (d : Char) (h : endsWord d = true) : Gen.cfgS.lookup .IN_WORD (.ch d) = some emitWordBefore :=
  lookClass .IN_WORD (fun n => isWordEnd n && !(n =ᶜ '#')) _ (by decide +kernel)
    (Or.inr fun n hn => by simp [wordEnd_ascii n hn]) d h

theorem word_path (w : List Char) (hw : isWord w = true) : addPath Gen.cfgS .WAIT w = some .IN_WORD := by
  cases w with
  | nil => cases hw
  | cons c cs =>
    simp only [isWord, Bool.and_eq_true, List.all_eq_true] at hw
    rw [addPath_cons (word_first c hw.1)]
    exact addPath_loop (P := fun c => wordChar c = true) word_next cs hw.2

/-- Maximal munch, both directions: a word that begins between tokens extends over ALL its word
characters and ends EXACTLY at the first character `d` that ends a word: after `w` and `d` the lexer is where it would
be had it read `d` afresh between tokens at that position, with the one token `w` (marks: the model's own `Marks.word`
— keyword table, default NAME) appended to the current frame. -/
theorem word_boundary (pfx w rest : List Char) (d : Char) (hw : isWord w = true) (hd : endsWord d = true)
    (f : List Tok) (fs : List (List Tok)) :
    feedAllWith (handle Gen.cfgS (pfx ++ w ++ d :: rest)) (w ++ [d]) ⟨pfx.length, pfx.length, .WAIT, f :: fs⟩ =
      (match handle Gen.cfgS (pfx ++ w ++ d :: rest)
          ⟨pfx.length + w.length, pfx.length + w.length, .WAIT, (f ++ [.single w (wordMark w)]) :: fs⟩ (.ch d) with
        | .error e => .error e
        | .ok (m, _) => .ok m) :=
  feed_pending shipped_code (word_path w hw) (word_stop d hd) rfl pfx rest f fs

/-- every word (`isWord`: non-empty, word characters only, not beginning with a digit or `b B x X`)
lexes to exactly one token, whose source is the word and whose marks are the keyword's marks / NAME. -/
theorem word_token (w : List Char) (hw : isWord w = true) (hp : ∀ c ∈ w, plain c = true) :
    lex Gen.cfgS w = .ok [.single w (wordMark w)] := by
  rw [lex_plain _ _ hp]
  exact lexText_pending_eof shipped_code (word_path w hw) shipped_depth shipped_end (o := emitWordAtEnd)
    (lookEnd (by decide +kernel)) rfl

/-- a word that is no keyword is a NAME -/
example : wordMark "tbl_1".toList = Gen.mark_NAME ∧ isWord "tbl_1".toList = true ∧ isWord "naïve_表".toList = true := by
  decide +kernel

/-- maximal munch on `ab+cd`: `ab`, `+`, `cd` (and the hypotheses of `word_boundary` hold of it) -/
example : lexesTo (lex Gen.cfgS "ab+cd".toList) [.single "ab".toList 2, .single "+".toList 0, .single "cd".toList 2] = true ∧
    isWord "ab".toList = true ∧ endsWord '+' = true := by decide +kernel

/-- the side condition is exact in the direction that matters: `#` does not end a word (KNOWN deviation) — `a#b` is one word -/
theorem witness_hash_in_word : lexesTo (lex Gen.cfgS "a#b".toList) [.single "a#b".toList 2] = true := by decide +kernel

/-! ### quoted strings and back-quoted names -/

theorem ne_of_isCh {c ch : Char} (h : c ≠ ch) : (c.toNat =ᶜ ch) = false := by simp [isCh_toNat, h]

theorem sq_body (c : Char) (h : c ≠ '\'' ∧ c ≠ '\\') : Gen.cfgS.lookup .IN_SINGLE_QUOTE (.ch c) = some (addTo .IN_SINGLE_QUOTE) :=
  lookClass .IN_SINGLE_QUOTE (fun n => !(n =ᶜ '\'') && !(n =ᶜ '\\')) _ (by decide +kernel) (Or.inl (by decide +kernel)) c
    (by simp [ne_of_isCh h.1, ne_of_isCh h.2])

theorem dq_body (c : Char) (h : c ≠ '"' ∧ c ≠ '\\') : Gen.cfgS.lookup .IN_DOUBLE_QUOTE (.ch c) = some (addTo .IN_DOUBLE_QUOTE) :=
  lookClass .IN_DOUBLE_QUOTE (fun n => !(n =ᶜ '"') && !(n =ᶜ '\\')) _ (by decide +kernel) (Or.inl (by decide +kernel)) c
    (by simp [ne_of_isCh h.1, ne_of_isCh h.2])

theorem bq_body (c : Char) (h : c ≠ '`') : Gen.cfgS.lookup .IN_BACK_QUOTE (.ch c) = some (addTo .IN_BACK_QUOTE) :=
  lookClass .IN_BACK_QUOTE (fun n => !(n =ᶜ '`')) _ (by decide +kernel) (Or.inl (by decide +kernel)) c (by simp [ne_of_isCh h])

theorem line_body (c : Char) (h : c ≠ '\n') : Gen.cfgS.lookup .IN_EXPLAIN_1 (.ch c) = some (addTo .IN_EXPLAIN_1) :=
  lookClass .IN_EXPLAIN_1 (fun n => !(n =ᶜ '\n')) _ (by decide +kernel) (Or.inl (by decide +kernel)) c (by simp [ne_of_isCh h])

/-- a literal closed by a quote character `q`: `pre` leads into the state `sLoop`, in which every character of class
`P` is taken and `q` completes the token; the unterminated text is rejected -/
theorem lit_closed {pre : List Char} {sLoop : S} (P : Char → Prop) {k : Nat} {q : Char}
    (hpre : addPath Gen.cfgS .WAIT pre = some sLoop)
    (hloop : ∀ c, P c → Gen.cfgS.lookup sLoop (.ch c) = some (addTo sLoop))
    (hclose : Gen.cfgS.lookup sLoop (.ch q) = some (emitWith k))
    (hopenEnd : Gen.cfgS.lookup sLoop .eof = some reject)
    (body : List Char) (hb : ∀ c ∈ body, P c) (hpl : ∀ c ∈ pre ++ body ++ [q], plain c = true) :
    lex Gen.cfgS (pre ++ body ++ [q]) = .ok [.single (pre ++ body ++ [q]) k] ∧
    lex Gen.cfgS (pre ++ body) = .error .lexical := by
  have hp : addPath Gen.cfgS .WAIT (pre ++ body) = some sLoop := by
    rw [addPath_append, hpre]; exact addPath_loop hloop body hb
  constructor
  · rw [lex_plain _ _ hpl]
    exact lexText_complete shipped_code hp shipped_depth shipped_end hclose wait_end
  · rw [lex_plain _ _ fun c hc => hpl c (List.mem_append_left _ hc)]
    exact lexText_pending_reject shipped_code hp hopenEnd

/-- the common shape of the two string kinds: `q` opens (`sIn`), any character but `q` and the backslash is payload,
`q` closes (`sAfter`), and the decision "complete" is taken at the next symbol -/
theorem string_shape (q : Char) (sIn sAfter : S)
    (hopen : Gen.cfgS.lookup .WAIT (.ch q) = some (addTo sIn))
    (hbody : ∀ c : Char, (c ≠ q ∧ c ≠ '\\') → Gen.cfgS.lookup sIn (.ch c) = some (addTo sIn))
    (hclose : Gen.cfgS.lookup sIn (.ch q) = some (addTo sAfter))
    (hend : Gen.cfgS.lookup sAfter .eof = some (emitAtEnd (mString ||| mName)))
    (hopenEnd : Gen.cfgS.lookup sIn .eof = some reject)
    (hq : plain q = true)
    (p : List Char) (hp : ∀ c ∈ p, c ≠ q ∧ c ≠ '\\') (hpl : ∀ c ∈ p, plain c = true) :
    lex Gen.cfgS (q :: (p ++ [q])) = .ok [.single (q :: (p ++ [q])) (Gen.mark_LITERAL ||| Gen.mark_NAME)] ∧
    lex Gen.cfgS (q :: p) = .error .lexical := by
  have hin : addPath Gen.cfgS .WAIT (q :: p) = some sIn := by
    rw [addPath_cons hopen]; exact addPath_loop hbody p hp
  have hq1 : ∀ c ∈ [q], plain c = true := by simpa using hq
  constructor
  · rw [lex_plain _ _ (plain_app (a := q :: p) (plain_app hq1 hpl) hq1)]
    exact lexText_pending_eof shipped_code (addPath_snoc hin hclose) shipped_depth shipped_end hend rfl
  · rw [lex_plain _ _ (plain_app hq1 hpl)]
    exact lexText_pending_reject shipped_code hin hopenEnd

/-- for every payload `p` that contains neither the quote nor a backslash, `'p'` is one token
whose source is the whole text, marked LITERAL (and NAME: a HARMLESS deviation, see `Spec.deviations`); the unterminated
`'p` is rejected. -/
theorem single_quoted (p : List Char) (hp : ∀ c ∈ p, c ≠ '\'' ∧ c ≠ '\\') (hpl : ∀ c ∈ p, plain c = true) :
    lex Gen.cfgS ('\'' :: (p ++ ['\''])) = .ok [.single ('\'' :: (p ++ ['\''])) (Gen.mark_LITERAL ||| Gen.mark_NAME)] ∧
    lex Gen.cfgS ('\'' :: p) = .error .lexical :=
  string_shape '\'' .IN_SINGLE_QUOTE .IN_SINGLE_QUOTE_AFTER_27 (look (by decide +kernel))
    sq_body
    (look (by decide +kernel)) (lookEnd (by decide +kernel)) (lookEnd (by decide +kernel)) (by decide) p hp hpl

/-- the same for `"p"` -/
theorem double_quoted (p : List Char) (hp : ∀ c ∈ p, c ≠ '"' ∧ c ≠ '\\') (hpl : ∀ c ∈ p, plain c = true) :
    lex Gen.cfgS ('"' :: (p ++ ['"'])) = .ok [.single ('"' :: (p ++ ['"'])) (Gen.mark_LITERAL ||| Gen.mark_NAME)] ∧
    lex Gen.cfgS ('"' :: p) = .error .lexical :=
  string_shape '"' .IN_DOUBLE_QUOTE .IN_DOUBLE_QUOTE_AFTER_22 (look (by decide +kernel))
    dq_body
    (look (by decide +kernel)) (lookEnd (by decide +kernel)) (lookEnd (by decide +kernel)) (by decide) p hp hpl

/-- for every payload without a back-quote (a backslash is an ordinary character here), `` `p` `` is
one NAME token whose source is the whole text; the unterminated `` `p `` is rejected. -/
theorem back_quoted (p : List Char) (hp : ∀ c ∈ p, c ≠ '`') (hpl : ∀ c ∈ p, plain c = true) :
    lex Gen.cfgS ('`' :: (p ++ ['`'])) = .ok [.single ('`' :: (p ++ ['`'])) Gen.mark_NAME] ∧
    lex Gen.cfgS ('`' :: p) = .error .lexical :=
  lit_closed (pre := ['`']) (· ≠ '`') (addPath_cons (look (by decide +kernel)) [])
    bq_body
    (look (by decide +kernel)) (lookEnd (by decide +kernel)) p hp
    (plain_app (a := '`' :: p) (plain_app (a := ['`']) (by decide) hpl) (by decide))

/-- non-vacuity: payloads with blanks, operators, comment openers, the other quote kinds and non-ASCII text -/
example : (∀ c ∈ "it`s \"x\" -- /* 表".toList, (c ≠ '\'' ∧ c ≠ '\\') ∧ plain c = true) ∧
    lexesTo (lex Gen.cfgS "'it`s \"x\" -- /* 表'".toList) [.single "'it`s \"x\" -- /* 表'".toList 10] = true ∧
    lexesTo (lex Gen.cfgS "`a b`".toList) [.single "`a b`".toList 2] = true := by decide +kernel

/-! ### comments -/

/-- `closesFrom star p`: reading `p` inside a block comment (`star`: the previous body character was a `*`) meets the
terminator `*/` -/
def closesFrom : Bool → List Char → Bool
  | _, [] => false
  | star, c :: r => (star && c == '/') || closesFrom (c == '*') r
/-- the comment body `p` contains `*/` -/
def hasBlockEnd (p : List Char) : Bool := closesFrom false p

def blkSt (star : Bool) : S := if star then .IN_EXPLAIN_2_AFTER_2A else .IN_EXPLAIN_2

theorem blk_step (star : Bool) (c : Char) (h : (star && c == '/') = false) :
    Gen.cfgS.lookup (blkSt star) (.ch c) = some (addTo (blkSt (c == '*'))) := by
  by_cases hs : c = '*'
  · subst hs
    cases star
    · exact look (by decide +kernel)
    · exact look (by decide +kernel)
  · have hs' : (c == '*') = false := by simpa using hs
    rw [hs']
    cases star with
    | false =>
      exact lookClass .IN_EXPLAIN_2 (fun n => !(n =ᶜ '*')) _ (by decide +kernel) (Or.inl (by decide +kernel)) c
        (by simp [ne_of_isCh hs])
    | true =>
      have hn : c ≠ '/' := by simpa using h
      exact lookClass .IN_EXPLAIN_2_AFTER_2A (fun n => !(n =ᶜ '*') && !(n =ᶜ '/')) _ (by decide +kernel)
        (Or.inl (by decide +kernel)) c (by simp [ne_of_isCh hs, ne_of_isCh hn])

theorem blk_path (p : List Char) (star : Bool) (h : closesFrom star p = false) :
    ∃ star', addPath Gen.cfgS (blkSt star) p = some (blkSt star') := by
  induction p generalizing star with
  | nil => exact ⟨star, rfl⟩
  | cons c cs ih =>
    simp only [closesFrom, Bool.or_eq_false_iff] at h
    obtain ⟨star', hrun⟩ := ih (c == '*') h.2
    exact ⟨star', by rw [addPath_cons (blk_step star c h.1)]; exact hrun⟩

/-- `/*` followed by any text without `*/` is rejected. -/
theorem block_comment_unterminated (p : List Char) (h : hasBlockEnd p = false) (hpl : ∀ c ∈ p, plain c = true) :
    lex Gen.cfgS ('/' :: '*' :: p) = .error .lexical := by
  rw [lex_plain _ _ (plain_app (a := ['/', '*']) (by decide) hpl)]
  obtain ⟨star', hrun⟩ := blk_path p false h
  have hp : addPath Gen.cfgS .WAIT ('/' :: '*' :: p) = some (blkSt star') := by
    rw [addPath_cons (q := .AFTER_2F) (look (by decide +kernel)),
      addPath_cons (q := blkSt false) (look (by decide +kernel))]
    exact hrun
  exact lexText_pending_reject shipped_code hp (by cases star' <;> exact lookEnd (by decide +kernel))

/-- non-vacuity: a body with stars and slashes but no terminator; and with the terminator the comment is removed -/
example : hasBlockEnd "* a / ** b".toList = false ∧ hasBlockEnd "a */".toList = true ∧
    lexesTo (lex Gen.cfgS "/*** a / ** b **/ x".toList) [.single ['x'] 2] = true := by decide +kernel

/-- the configuration that ignores blanks and line breaks but RETAINS comments -/
abbrev cfgKeep : Cfg Gen.Cls := Gen.Cfg6.cfg

theorem look6 {s : S} {c : Char} {o : Op} (h : cellD 6 s c.toNat = some o) : cfgKeep.lookup s (.ch c) = some o :=
  (agree_cfg6 s (.ch c)).trans h

/-- for every `p` without a line break, `--p⏎` and `#p⏎` (so in particular `-- p⏎`) produce no
token under the shipped configuration (comments removed) and exactly one COMMENT token, whose source is the comment
without the line break, under the configuration that retains comments. -/
theorem line_comment (p : List Char) (hp : ∀ c ∈ p, c ≠ '\n') (hpl : ∀ c ∈ p, plain c = true) :
    lex Gen.cfgS ("--".toList ++ p ++ ['\n']) = .ok [] ∧ lex Gen.cfgS ("#".toList ++ p ++ ['\n']) = .ok [] ∧
    lex cfgKeep ("--".toList ++ p ++ ['\n']) = .ok [.single ("--".toList ++ p) Gen.mark_COMMENT] ∧
    lex cfgKeep ("#".toList ++ p ++ ['\n']) = .ok [.single ("#".toList ++ p) Gen.mark_COMMENT] := by
  have body6 : ∀ c : Char, c ≠ '\n' → cfgKeep.lookup .IN_EXPLAIN_1 (.ch c) = some (addTo .IN_EXPLAIN_1) :=
    fun c hc => look6 (cellD_class 6 .IN_EXPLAIN_1 (fun n => !(n =ᶜ '\n')) _ (by decide +kernel)
      (Or.inl (by decide +kernel)) c.toNat (by simp [ne_of_isCh hc]))
  have fin6 : cfgKeep.lookup .WAIT .eof = some Spec.finish := (agree_cfg6 .WAIT .eof).trans (by decide +kernel)
  -- the opener leads into the comment state, every character but the line break is body
  have dash7 : addPath Gen.cfgS .WAIT ("--".toList ++ p) = some .IN_EXPLAIN_1 := by
    show addPath _ _ ('-' :: '-' :: p) = _
    rw [addPath_cons (q := .AFTER_2D) (look (by decide +kernel)), addPath_cons (q := .IN_EXPLAIN_1) (look (by decide +kernel))]
    exact addPath_loop line_body p hp
  have hash7 : addPath Gen.cfgS .WAIT ("#".toList ++ p) = some .IN_EXPLAIN_1 := by
    show addPath _ _ ('#' :: p) = _
    rw [addPath_cons (q := .IN_EXPLAIN_1) (look (by decide +kernel))]; exact addPath_loop line_body p hp
  have dash6 : addPath cfgKeep .WAIT ("--".toList ++ p) = some .IN_EXPLAIN_1 := by
    show addPath _ _ ('-' :: '-' :: p) = _
    rw [addPath_cons (q := .AFTER_2D) (look6 (by decide +kernel)), addPath_cons (q := .IN_EXPLAIN_1) (look6 (by decide +kernel))]
    exact addPath_loop body6 p hp
  have hash6 : addPath cfgKeep .WAIT ("#".toList ++ p) = some .IN_EXPLAIN_1 := by
    show addPath _ _ ('#' :: p) = _
    rw [addPath_cons (q := .IN_EXPLAIN_1) (look6 (by decide +kernel))]; exact addPath_loop body6 p hp
  have hd : ∀ c ∈ "--".toList, plain c = true := by decide
  have hh : ∀ c ∈ "#".toList, plain c = true := by decide
  have hn : ∀ c ∈ ['\n'], plain c = true := by decide
  refine ⟨?_, ?_, ?_, ?_⟩
  · rw [lex_plain _ _ (plain_app (plain_app hd hpl) hn)]
    exact lexText_pending_skip shipped_code dash7 shipped_depth shipped_end (o := dropBefore) (look (by decide +kernel)) rfl
      wait_newline wait_end
  · rw [lex_plain _ _ (plain_app (plain_app hh hpl) hn)]
    exact lexText_pending_skip shipped_code hash7 shipped_depth shipped_end (o := dropBefore) (look (by decide +kernel)) rfl
      wait_newline wait_end
  · rw [lex_plain _ _ (plain_app (plain_app hd hpl) hn)]
    exact lexText_pending_skip (cfg := cfgKeep) rfl dash6 rfl rfl (o := emitBefore mComment) (look6 (by decide +kernel)) rfl
      (look6 (by decide +kernel)) fin6
  · rw [lex_plain _ _ (plain_app (plain_app hh hpl) hn)]
    exact lexText_pending_skip (cfg := cfgKeep) rfl hash6 rfl rfl (o := emitBefore mComment) (look6 (by decide +kernel)) rfl
      (look6 (by decide +kernel)) fin6

example : lexesTo (lex Gen.cfgS "-- a 'b /* c\n".toList) [] = true ∧
    lexesTo (lex cfgKeep "# a 'b\n".toList) [.single "# a 'b".toList 256] = true := by decide +kernel

/-! ### operators and punctuation -/

/-- the multi-character operators and the single-character operators / punctuation of the property -/
def operatorList : List String :=
  ["<=>", "<=", ">=", "<>", "!=", "<<", ">>", "&&", "||",
   "=", "<", ">", "+", "-", "*", "/", "%", "^", "&", "|", "~", "!", ",", ";", "."]

/-- each operator, written between two words WITHOUT separators, lexes to exactly: word, that one
operator token (no class marks), word — in particular no multi-character operator is split (maximal munch: `<=>` is
one token, not `<=` `>` or `<` `=>`), and no word swallows an operator character. -/
theorem operators : (operatorList.all fun o =>
    lexesTo (lex Gen.cfgS ("ab".toList ++ o.toList ++ "cd".toList))
      [.single "ab".toList Gen.mark_NAME, .single o.toList Gen.mark_NONE, .single "cd".toList Gen.mark_NAME]) = true := by
  decide +kernel

/-- … and likewise at the very end of the text (an operator may be the last token) and between numbers -/
theorem operators_at_end : (operatorList.all fun o =>
    lexesTo (lex Gen.cfgS ("1".toList ++ o.toList)) [.single "1".toList 72, .single o.toList Gen.mark_NONE] &&
    lexesTo (lex Gen.cfgS ("1".toList ++ o.toList ++ "2".toList))
      [.single "1".toList 72, .single o.toList Gen.mark_NONE, .single "2".toList 72] || o == ".") = true := by
  decide +kernel

/-- the excluded case of `operators_at_end`: a point after an integer continues a decimal literal (`1.` and `1.2` are
one LITERAL_FLOAT token each: the property lists decimal literals in all spellings) -/
example : lexesTo (lex Gen.cfgS "1.".toList) [.single "1.".toList 136] = true ∧
    lexesTo (lex Gen.cfgS "1.2".toList) [.single "1.2".toList 136] = true := by decide +kernel

/-- maximal munch continues after the longest operator: `<=>>` is `<=>` `>`, `<<<` is `<<` `<`, `|||` is `||` `|` -/
example : lexesTo (lex Gen.cfgS "a<=>>b".toList) [.single ['a'] 2, .single "<=>".toList 0, .single ">".toList 0, .single ['b'] 2] = true ∧
    lexesTo (lex Gen.cfgS "a<<<b".toList) [.single ['a'] 2, .single "<<".toList 0, .single "<".toList 0, .single ['b'] 2] = true ∧
    lexesTo (lex Gen.cfgS "a|||b".toList) [.single ['a'] 2, .single "||".toList 0, .single "|".toList 0, .single ['b'] 2] = true := by
  decide +kernel

/-! ### TRUE / FALSE / NULL in any letter case -/

/-- all letter-case variants of a word -/
def caseVariants : List Char → List (List Char)
  | [] => [[]]
  | c :: r => (caseVariants r).flatMap fun v => [c.toLower :: v, c.toUpper :: v]

/-- every letter-case variant of TRUE (2⁴), FALSE (2⁵), NULL (2⁴) lexes to exactly one token
carrying the LITERAL mark (and not NAME). -/
theorem literal_words : (["TRUE", "FALSE", "NULL"].all fun w =>
    (caseVariants w.toList).all fun v => lexesTo (lex Gen.cfgS v) [.single v Gen.mark_LITERAL]) = true := by
  decide +kernel

example : (caseVariants "TRUE".toList).length = 16 ∧ (caseVariants "FALSE".toList).length = 32 ∧
    "tRuE".toList ∈ caseVariants "TRUE".toList ∧ "null".toList ∈ caseVariants "NULL".toList := by decide +kernel

/-- … via the general theorem: they are words, so `word_token` applies and the marks are the keyword table's -/
example : isWord "nUlL".toList = true ∧ wordMark "nUlL".toList = Gen.mark_LITERAL ∧ wordMark "nul".toList = Gen.mark_NAME := by
  decide +kernel

/-! ### unbalanced brackets -/

theorem plain_of_word_paren : plain '(' = true ∧ plain ')' = true := by decide

/-- for every word `w`, the texts `(w` (bracket never closed) and `w)` (bracket never
opened) are rejected. -/
theorem unbalanced_rejected (w : List Char) (hw : isWord w = true) (hp : ∀ c ∈ w, plain c = true) :
    lex Gen.cfgS ('(' :: w) = .error .lexical ∧ lex Gen.cfgS (w ++ [')']) = .error .lexical := by
  have hpath := word_path w hw
  constructor
  · rw [lex_plain _ _ (plain_app (a := ['(']) (by decide) hp)]
    have h1 := handle_openParen shipped_code (text := '(' :: w) (m := ({} : Mem)) (sym := .ch '(') (look (by decide +kernel))
    have h0 : feedAllWith (handle Gen.cfgS ('(' :: w)) ('(' :: w) {} = .ok ⟨1, 1 + w.length, .IN_WORD, [[], []]⟩ := by
      rw [feedAllWith_cons_adv h1]; exact addPath_run shipped_code _ w _ _ hpath 1 1 [[], []]
    have h2 : handle Gen.cfgS ('(' :: w) ⟨1, 1 + w.length, .IN_WORD, [[], []]⟩ .eof = _ :=
      handle_pending_eof shipped_code (u := w) (o := emitWordAtEnd) (lookEnd (by decide +kernel)) rfl ['('] [] [[]]
    rw [lexText_ok h0 h2]
    exact finish_open _ shipped_depth shipped_end _ _ _ _ _
  · rw [lex_plain _ _ (plain_app hp (by decide))]
    apply lexText_err_feed
    have hclose : Gen.cfgS.lookup .WAIT (.ch ')') = some closeParen := look (by decide +kernel)
    have := feed_pending shipped_code hpath (word_stop ')' (by decide +kernel)) rfl [] [] [] []
    simp only [List.nil_append, List.length_nil, Nat.zero_add] at this
    rw [this, handle_closeParen_top shipped_code hclose rfl]
    rfl

/-- `r` is the lexical error -/
def rejected (r : Except Err (List Tok)) : Bool := match r with | .error .lexical => true | _ => false

example : rejected (lex Gen.cfgS "(a".toList) = true ∧ rejected (lex Gen.cfgS "a)".toList) = true ∧
    (lex Gen.cfgS "(a)".toList).isOk = true := by decide +kernel

/-! ### decimal, hex and bit literals -/

/-- a literal that runs to the end of the text: `pre` leads into the state `sLoop`, in which every character of class
`P` is taken; at the end of the text the window is emitted with marks `k` -/
theorem lit_at_end {pre : List Char} {sLoop : S} (P : Char → Prop) {k : Nat}
    (hpre : addPath Gen.cfgS .WAIT pre = some sLoop)
    (hloop : ∀ c, P c → Gen.cfgS.lookup sLoop (.ch c) = some (addTo sLoop))
    (hend : Gen.cfgS.lookup sLoop .eof = some (emitAtEnd k))
    (body : List Char) (hb : ∀ c ∈ body, P c) (hpl : ∀ c ∈ pre ++ body, plain c = true) :
    lex Gen.cfgS (pre ++ body) = .ok [.single (pre ++ body) k] := by
  rw [lex_plain _ _ hpl]
  refine lexText_pending_eof shipped_code ?_ shipped_depth shipped_end hend (endsAtEnd_emitAtEnd k)
  rw [addPath_append, hpre]; exact addPath_loop hloop body hb

theorem two_steps {a b : Char} {s1 s2 : S} (h1 : Gen.cfgS.lookup .WAIT (.ch a) = some (addTo s1))
    (h2 : Gen.cfgS.lookup s1 (.ch b) = some (addTo s2)) : addPath Gen.cfgS .WAIT [a, b] = some s2 := by
  rw [addPath_cons h1, addPath_cons h2]; rfl

theorem hex_ascii (n : Nat) (h : n ∉ ascii) : isHexDigit n = false := by
  cases hd : isHexDigit n with
  | false => rfl
  | true =>
    refine absurd ((isAscii_iff n).mp ?_) h
    simp only [isHexDigit, isDigit, between, Bool.or_eq_true, Bool.and_eq_true, Nat.ble_eq] at hd
    simp only [isAscii, Bool.or_eq_true, Bool.and_eq_true, Nat.beq_eq, Nat.ble_eq]
    have : '0'.toNat = 48 ∧ '9'.toNat = 57 ∧ 'A'.toNat = 65 ∧ 'F'.toNat = 70 ∧ 'a'.toNat = 97 ∧ 'f'.toNat = 102 := by decide
    omega

theorem bit_ascii (n : Nat) (h : n ∉ ascii) : isBit n = false := by
  cases hd : isBit n with
  | false => rfl
  | true =>
    refine absurd ((isAscii_iff n).mp ?_) h
    simp only [isBit, isCh, Bool.or_eq_true, Nat.beq_eq] at hd
    simp only [isAscii, Bool.or_eq_true, Bool.and_eq_true, Nat.beq_eq, Nat.ble_eq]
    have : '0'.toNat = 48 ∧ '1'.toNat = 49 := by decide
    omega

theorem hex_plain (c : Char) (h : isHexDigit c.toNat = true) : plain c = true :=
  plain_of_class (fun c => isHexDigit c.toNat) (by decide) c h

theorem bit_hex (n : Nat) (h : isBit n = true) : isHexDigit n = true := by
  simp only [isBit, isCh, Bool.or_eq_true, Nat.beq_eq] at h
  rcases h with rfl | rfl <;> decide

/-- digits, a point, digits (possibly none: `1.` is a decimal literal) lex to exactly one
LITERAL|LITERAL_FLOAT token. -/
theorem decimal_literal (ds fs : List Char) (hne : ds ≠ []) (hd : ∀ c ∈ ds, isDigit c.toNat = true)
    (hf : ∀ c ∈ fs, isDigit c.toNat = true) :
    lex Gen.cfgS (ds ++ ['.'] ++ fs) = .ok [.single (ds ++ ['.'] ++ fs) (Gen.mark_LITERAL ||| Gen.mark_LITERAL_FLOAT)] := by
  obtain ⟨q, hq, hrun⟩ := int_path ds hne hd
  exact lit_at_end (fun c => isDigit c.toNat = true)
    (addPath_snoc hrun (by rcases hq with rfl | rfl <;> exact look (by decide +kernel)))
    (fun c hc => lookClass .IN_FLOAT isDigit _ (by decide +kernel) (Or.inr digit_ascii) c hc)
    (lookEnd (by decide +kernel)) fs hf
    (plain_app (plain_app (fun c hc => digit_plain c (hd c hc)) (by decide)) (fun c hc => digit_plain c (hf c hc)))

/-- `x'…'` / `b"…"`: the prefix letter and the quote lead into a state in which the digits of the base are taken and
the quote completes the literal -/
theorem quoted_num {x q : Char} {sx sq : S} (P : Nat → Bool) (k : Nat) (hP : ∀ c : Char, P c.toNat = true → plain c = true)
    (hx : Gen.cfgS.lookup .WAIT (.ch x) = some (addTo sx)) (hq : Gen.cfgS.lookup sx (.ch q) = some (addTo sq))
    (hloop : ∀ c : Char, P c.toNat = true → Gen.cfgS.lookup sq (.ch c) = some (addTo sq))
    (hclose : Gen.cfgS.lookup sq (.ch q) = some (emitWith k)) (hopenEnd : Gen.cfgS.lookup sq .eof = some reject)
    (hxq : ∀ c ∈ [x, q], plain c = true) (body : List Char) (hb : ∀ c ∈ body, P c.toNat = true) :
    lex Gen.cfgS ([x, q] ++ body ++ [q]) = .ok [.single ([x, q] ++ body ++ [q]) k] ∧
    lex Gen.cfgS ([x, q] ++ body) = .error .lexical :=
  lit_closed (fun c => P c.toNat = true) (two_steps hx hq) hloop hclose hopenEnd body hb
    (plain_app (plain_app hxq fun c hc => hP c (hb c hc)) fun c hc => hxq c (by simp_all))

/-- `0x` + hex digits is one LITERAL|LITERAL_HEX token; so are `x'…'`, `X'…'`, `x"…"`, `X"…"` around
hex digits, and the unterminated forms of the latter are rejected.  (KNOWN: the digits may be none — `0x` alone is
accepted as a literal, see `Spec.notExpressible`.) -/
theorem hex_literal (hs : List Char) (hh : ∀ c ∈ hs, isHexDigit c.toNat = true) :
    lex Gen.cfgS ("0x".toList ++ hs) = .ok [.single ("0x".toList ++ hs) (Gen.mark_LITERAL ||| Gen.mark_LITERAL_HEX)] ∧
    (∀ x ∈ ['x', 'X'], ∀ q ∈ ['\'', '"'],
      lex Gen.cfgS ([x, q] ++ hs ++ [q]) = .ok [.single ([x, q] ++ hs ++ [q]) (Gen.mark_LITERAL ||| Gen.mark_LITERAL_HEX)] ∧
      lex Gen.cfgS ([x, q] ++ hs) = .error .lexical) := by
  constructor
  · exact lit_at_end (fun c => isHexDigit c.toNat = true)
      (two_steps (s1 := .AFTER_0) (look (by decide +kernel)) (look (by decide +kernel)))
      (fun c hc => lookClass .IN_HEX_LITERAL_AFTER_0X isHexDigit _ (by decide +kernel) (Or.inr hex_ascii) c hc)
      (lookEnd (by decide +kernel)) hs hh (plain_app (by decide) fun c hc => hex_plain c (hh c hc))
  · intro x hx q hq
    have hsq := fun c hc => lookClass .IN_HEX_LITERAL_OF_SINGLE_QUOTE isHexDigit (addTo .IN_HEX_LITERAL_OF_SINGLE_QUOTE)
      (by decide +kernel) (Or.inr hex_ascii) c hc
    have hdq := fun c hc => lookClass .IN_HEX_LITERAL_OF_DOUBLE_QUOTE isHexDigit (addTo .IN_HEX_LITERAL_OF_DOUBLE_QUOTE)
      (by decide +kernel) (Or.inr hex_ascii) c hc
    simp only [List.mem_cons, List.mem_nil_iff, or_false] at hx hq
    rcases hx with rfl | rfl <;> rcases hq with rfl | rfl
    · exact quoted_num (sx := .AFTER_X) isHexDigit _ hex_plain (look (by decide +kernel)) (look (by decide +kernel)) hsq
        (look (by decide +kernel)) (lookEnd (by decide +kernel)) (by decide) hs hh
    · exact quoted_num (sx := .AFTER_X) isHexDigit _ hex_plain (look (by decide +kernel)) (look (by decide +kernel)) hdq
        (look (by decide +kernel)) (lookEnd (by decide +kernel)) (by decide) hs hh
    · exact quoted_num (sx := .AFTER_X) isHexDigit _ hex_plain (look (by decide +kernel)) (look (by decide +kernel)) hsq
        (look (by decide +kernel)) (lookEnd (by decide +kernel)) (by decide) hs hh
    · exact quoted_num (sx := .AFTER_X) isHexDigit _ hex_plain (look (by decide +kernel)) (look (by decide +kernel)) hdq
        (look (by decide +kernel)) (lookEnd (by decide +kernel)) (by decide) hs hh

/-- `0b` + binary digits is one LITERAL|LITERAL_BIT token; so are `b'…'`, `B'…'`, `b"…"`, `B"…"`
around binary digits, and the unterminated forms of the latter are rejected. -/
theorem bit_literal (bs : List Char) (hb : ∀ c ∈ bs, isBit c.toNat = true) :
    lex Gen.cfgS ("0b".toList ++ bs) = .ok [.single ("0b".toList ++ bs) (Gen.mark_LITERAL ||| Gen.mark_LITERAL_BIT)] ∧
    (∀ x ∈ ['b', 'B'], ∀ q ∈ ['\'', '"'],
      lex Gen.cfgS ([x, q] ++ bs ++ [q]) = .ok [.single ([x, q] ++ bs ++ [q]) (Gen.mark_LITERAL ||| Gen.mark_LITERAL_BIT)] ∧
      lex Gen.cfgS ([x, q] ++ bs) = .error .lexical) := by
  have bit_plain : ∀ c : Char, isBit c.toNat = true → plain c = true := fun c hc => hex_plain c (bit_hex _ hc)
  constructor
  · exact lit_at_end (fun c => isBit c.toNat = true)
      (two_steps (s1 := .AFTER_0) (look (by decide +kernel)) (look (by decide +kernel)))
      (fun c hc => lookClass .IN_BIT_LITERAL_AFTER_0B isBit _ (by decide +kernel) (Or.inr bit_ascii) c hc)
      (lookEnd (by decide +kernel)) bs hb (plain_app (by decide) fun c hc => bit_plain c (hb c hc))
  · intro x hx q hq
    have hsq := fun c hc => lookClass .IN_BIT_LITERAL_OF_SINGLE_QUOTE isBit (addTo .IN_BIT_LITERAL_OF_SINGLE_QUOTE)
      (by decide +kernel) (Or.inr bit_ascii) c hc
    have hdq := fun c hc => lookClass .IN_BIT_LITERAL_OF_DOUBLE_QUOTE isBit (addTo .IN_BIT_LITERAL_OF_DOUBLE_QUOTE)
      (by decide +kernel) (Or.inr bit_ascii) c hc
    simp only [List.mem_cons, List.mem_nil_iff, or_false] at hx hq
    rcases hx with rfl | rfl <;> rcases hq with rfl | rfl
    · exact quoted_num (sx := .AFTER_B) isBit _ bit_plain (look (by decide +kernel)) (look (by decide +kernel)) hsq
        (look (by decide +kernel)) (lookEnd (by decide +kernel)) (by decide) bs hb
    · exact quoted_num (sx := .AFTER_B) isBit _ bit_plain (look (by decide +kernel)) (look (by decide +kernel)) hdq
        (look (by decide +kernel)) (lookEnd (by decide +kernel)) (by decide) bs hb
    · exact quoted_num (sx := .AFTER_B) isBit _ bit_plain (look (by decide +kernel)) (look (by decide +kernel)) hsq
        (look (by decide +kernel)) (lookEnd (by decide +kernel)) (by decide) bs hb
    · exact quoted_num (sx := .AFTER_B) isBit _ bit_plain (look (by decide +kernel)) (look (by decide +kernel)) hdq
        (look (by decide +kernel)) (lookEnd (by decide +kernel)) (by decide) bs hb

/-- non-vacuity, and the marks as numbers: FLOAT 136, HEX 24, BIT 40 -/
example : lexesTo (lex Gen.cfgS "3.14".toList) [.single "3.14".toList 136] = true ∧
    lexesTo (lex Gen.cfgS "0x1fA".toList) [.single "0x1fA".toList 24] = true ∧
    lexesTo (lex Gen.cfgS "X\"1F\"".toList) [.single "X\"1F\"".toList 24] = true ∧
    lexesTo (lex Gen.cfgS "b'0110'".toList) [.single "b'0110'".toList 40] = true ∧
    lexesTo (lex Gen.cfgS "0b01".toList) [.single "0b01".toList 40] = true ∧
    rejected (lex Gen.cfgS "x'1F".toList) = true ∧ rejected (lex Gen.cfgS "x'1G'".toList) = true := by decide +kernel

/-- KNOWN departures that are not cells of the automaton (`Spec.notExpressible`), exhibited on the model: `.5` is two
tokens, `1e5` is a NAME word, `0x` without digits is a hex literal, and the bracket stack is untyped (`(a]`) -/
theorem witness_not_expressible :
    lexesTo (lex Gen.cfgS ".5".toList) [.single ['.'] 0, .single ['5'] 72] = true ∧
    lexesTo (lex Gen.cfgS "1e5".toList) [.single "1e5".toList 2] = true ∧
    lexesTo (lex Gen.cfgS "0x".toList) [.single "0x".toList 24] = true ∧
    rejected (lex Gen.cfgS "1.5e3".toList) = true ∧
    lexesTo (lex Gen.cfgS "(a]".toList) [.group .slice [.single ['a'] 2] 512] = true := by decide +kernel

end C05
