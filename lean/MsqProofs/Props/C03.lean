import MsqModel.Parse.Entry
/-!
# C03 — clauses and elements land in the right slot: slot theorems on the parser model

The oracle of C03 is the tree-first check (generated trees → print → parse → same tree, `props/c03.py`); what is *proved* here are
the slot facts that hold for every token list, without any bound:

* `limit_comma`, `limit_offset`, `limit_plain`, `limit_absent` — the two spellings of LIMIT put count and offset into the same
  slots (`LIMIT m, n` ≡ `LIMIT n OFFSET m`), whatever follows;
* `firstEnum_spec` — the keyword-phrase tables (`Gen.joinTypes`, `Gen.unionTypes`, regenerated from the live enums) are matched
  *longest phrase first*: the constant returned is the one whose words stand at the cursor, exactly those words are consumed, and
  no longer phrase of the table stands there.  The hypothesis `prefixSafe` (no phrase is listed before a phrase it is a proper
  prefix of) is a decidable obligation on the regenerated tables (`joinTypes_safe`, `unionTypes_safe`): listing `UNION` before
  `UNION ALL`, or `LEFT JOIN` before `LEFT OUTER JOIN` with a shared prefix, breaks it;
* `insert_into`, `insert_ignore_into`, `insert_overwrite` — the three INSERT kinds are told apart.
-/
namespace C03
open Lex PM


theorem limit_absent (ts : List Tok) (h : searchStrUp ts "LIMIT" = false) : pLimit ts = .ok (none, ts) := by
  simp [pLimit, h]

theorem limit_comma (kw a c b : Tok) (rest : List Tok) (m n : Int)
    (hk : kw.srcEqUp "LIMIT" = true) (ha : asInt a.src = .ok m) (hc : c.srcEq "," = true) (hb : asInt b.src = .ok n) :
    pLimit (kw :: a :: c :: b :: rest) = .ok (some (n, some m), rest) := by
  simp [pLimit, searchStrUp, searchStr, popAsInt, hk, ha, hc, hb]

theorem limit_offset (kw a o b : Tok) (rest : List Tok) (m n : Int)
    (hk : kw.srcEqUp "LIMIT" = true) (ha : asInt a.src = .ok n) (hnc : o.srcEq "," = false) (ho : o.srcEqUp "OFFSET" = true)
    (hb : asInt b.src = .ok m) :
    pLimit (kw :: a :: o :: b :: rest) = .ok (some (n, some m), rest) := by
  simp [pLimit, searchStrUp, searchStr, popAsInt, hk, ha, hnc, ho, hb]

/-- both spellings fill the same slots -/
theorem limit_spellings_agree (kw a b c o : Tok) (rest : List Tok) (m n : Int)
    (hk : kw.srcEqUp "LIMIT" = true) (ha : asInt a.src = .ok m) (hb : asInt b.src = .ok n)
    (hc : c.srcEq "," = true) (hnc : o.srcEq "," = false) (ho : o.srcEqUp "OFFSET" = true) :
    pLimit (kw :: a :: c :: b :: rest) = pLimit (kw :: b :: o :: a :: rest) := by
  rw [limit_comma kw a c b rest m n hk ha hc hb, limit_offset kw b o a rest m n hk hb hnc ho ha]

theorem limit_plain (kw a : Tok) (rest : List Tok) (n : Int)
    (hk : kw.srcEqUp "LIMIT" = true) (ha : asInt a.src = .ok n) (h1 : searchStr rest "," = false) (h2 : searchStrUp rest "OFFSET" = false) :
    pLimit (kw :: a :: rest) = .ok (some (n, none), rest) := by
  have hl : searchStrUp (kw :: a :: rest) "LIMIT" = true := by simp [searchStrUp, hk]
  unfold pLimit
  simp [hl, popAsInt, ha, h1, h2]

/-- a count that is not an integer literal is an error, never a default -/
theorem limit_bad_count (kw a : Tok) (rest : List Tok) (e : Err)
    (hk : kw.srcEqUp "LIMIT" = true) (ha : asInt a.src = .error e) : pLimit (kw :: a :: rest) = .error e := by
  simp [pLimit, searchStrUp, popAsInt, hk, ha]

def w (s : String) (m : Nat := 2) : Tok := .single s.toList m
-- non-vacuity (evaluated, not kernel-checked: `String` operations do not reduce in the kernel): the hypotheses are met by real token lists
#guard (match pLimit [w "limit", w "10" 72, w "," 0, w "5" 72, w "x"] with
    | .ok (some (n, some m), r) => n == 5 && m == 10 && r.length == 1 | _ => false)
#guard (match pLimit [w "LIMIT", w "5" 72, w "offset", w "10" 72] with
    | .ok (some (n, some m), r) => n == 5 && m == 10 && r.length == 0 | _ => false)
#guard (w "limit").srcEqUp "LIMIT" && (w "," 0).srcEq "," && (w "offset").srcEqUp "OFFSET" && !(w "offset").srcEq ","
#guard (match asInt (w "10" 72).src with | .ok n => n == 10 | _ => false)

/-! ## keyword-phrase tables: longest phrase first -/

def shadows (a b : List String) : Bool := (a.map up).isPrefixOf (b.map up) && a.length < b.length

def prefixSafe : List (String × List String) → Bool
  | [] => true
  | (_, ks) :: rest => rest.all (fun e => !shadows ks e.2) && prefixSafe rest

theorem equalsStr_up (t : Tok) (k k' : String) (h : t.equalsStr k = true) (h' : t.equalsStr k' = true) : up k = up k' := by
  cases t with
  | single s m => simp [Tok.equalsStr] at h h'; rw [← h, ← h']
  | group g cs m => simp [Tok.equalsStr] at h

theorem searchSeq_shadows (ts : List Tok) (a b : List String) (ha : searchSeq ts a = true) (hb : searchSeq ts b = true)
    (hl : a.length < b.length) : shadows a b = true := by
  induction a generalizing ts b with
  | nil => cases b with
    | nil => simp at hl
    | cons k ks => simp [shadows]
  | cons k ks ih =>
    cases b with
    | nil => simp at hl
    | cons k' ks' =>
      cases ts with
      | nil => simp [searchSeq] at ha
      | cons t tr =>
        simp [searchSeq] at ha hb
        have hu := equalsStr_up t k k' ha.1 hb.1
        have := ih tr ks' ha.2 hb.2 (by simpa using hl)
        simp [shadows] at this ⊢
        exact ⟨⟨hu, this.1⟩, by omega⟩

theorem firstEnum_spec (tbl : List (String × List String)) (ts : List Tok) (n : String) (r : List Tok)
    (hs : prefixSafe tbl = true) (h : firstEnum tbl ts = some (n, r)) :
    ∃ ks, (n, ks) ∈ tbl ∧ searchSeq ts ks = true ∧ r = ts.drop ks.length ∧
      ∀ e ∈ tbl, searchSeq ts e.2 = true → e.2.length ≤ ks.length := by
  induction tbl with
  | nil => simp [firstEnum] at h
  | cons e rest ih =>
    obtain ⟨n0, ks0⟩ := e
    simp only [prefixSafe, Bool.and_eq_true, List.all_eq_true] at hs
    unfold firstEnum at h
    by_cases hm : searchSeq ts ks0 = true
    · simp [hm] at h
      refine ⟨ks0, ?_, hm, h.2.symm, ?_⟩
      · simp [h.1]
      · intro e he hse
        rcases List.mem_cons.1 he with rfl | her
        · exact Nat.le_refl _
        · apply Nat.le_of_not_lt
          intro hlt
          have := searchSeq_shadows ts ks0 e.2 hm hse hlt
          have h2 := hs.1 e her
          simp [this] at h2
    · simp [hm] at h
      obtain ⟨ks, hmem, hsk, hr, hmax⟩ := ih hs.2 h
      refine ⟨ks, List.mem_cons_of_mem _ hmem, hsk, hr, ?_⟩
      intro e he hse
      rcases List.mem_cons.1 he with rfl | her
      · exact absurd hse hm
      · exact hmax e her hse

theorem firstEnum_none (tbl : List (String × List String)) (ts : List Tok) (h : firstEnum tbl ts = none) :
    ∀ e ∈ tbl, searchSeq ts e.2 = false := by
  induction tbl with
  | nil => simp
  | cons e rest ih =>
    obtain ⟨n0, ks0⟩ := e
    unfold firstEnum at h
    by_cases hm : searchSeq ts ks0 = true
    · simp [hm] at h
    · simp [hm] at h
      intro e he
      rcases List.mem_cons.1 he with rfl | her
      · simpa using hm
      · exact ih h e her

/-- the obligations on the regenerated tables -/
theorem joinTypes_safe : prefixSafe Gen.joinTypes = true := by decide +kernel
theorem unionTypes_safe : prefixSafe Gen.unionTypes = true := by decide +kernel
theorem joinTypes_names_distinct : (Gen.joinTypes.map (·.1)).Nodup := by decide +kernel
theorem unionTypes_names_distinct : (Gen.unionTypes.map (·.1)).Nodup := by decide +kernel

/-- every JOIN spelling is read as its own constant, longest phrase first, for every continuation -/
theorem join_type_slot (ts : List Tok) (n : String) (r : List Tok) (h : firstEnum Gen.joinTypes ts = some (n, r)) :
    ∃ ks, (n, ks) ∈ Gen.joinTypes ∧ searchSeq ts ks = true ∧ r = ts.drop ks.length ∧
      ∀ e ∈ Gen.joinTypes, searchSeq ts e.2 = true → e.2.length ≤ ks.length :=
  firstEnum_spec _ ts n r joinTypes_safe h

theorem union_type_slot (ts : List Tok) (n : String) (r : List Tok) (h : firstEnum Gen.unionTypes ts = some (n, r)) :
    ∃ ks, (n, ks) ∈ Gen.unionTypes ∧ searchSeq ts ks = true ∧ r = ts.drop ks.length ∧
      ∀ e ∈ Gen.unionTypes, searchSeq ts e.2 = true → e.2.length ≤ ks.length :=
  firstEnum_spec _ ts n r unionTypes_safe h

#guard (match firstEnum Gen.unionTypes [w "union", w "ALL", w "SELECT"] with
    | some (n, r) => n == "UNION_ALL" && r.length == 1 | none => false)
#guard (match firstEnum Gen.joinTypes [w "left", w "outer", w "join", w "t"] with
    | some (n, r) => n == "LEFT_OUTER_JOIN" && r.length == 1 | none => false)
/-- the obligation is not vacuous: the table in the wrong order is refused -/
example : prefixSafe [("UNION", ["UNION"]), ("UNION_ALL", ["UNION", "ALL"])] = false := by decide +kernel


theorem srcEqUp_ne {t : Tok} {a : String} (h : t.srcEqUp a = true) (b : String) (hab : a ≠ b := by decide) : t.srcEqUp b = false := by
  simp only [Tok.srcEqUp, beq_iff_eq] at h
  simpa [Tok.srcEqUp, h] using hab

theorem insert_into (a b : Tok) (rest : List Tok) (ha : a.srcEqUp "INSERT" = true) (hb : b.srcEqUp "INTO" = true) :
    pInsertType (a :: b :: rest) = .ok ("INSERT_INTO", rest) := by
  simp [pInsertType, searchTwoUp, ha, hb]

theorem insert_ignore_into (a b c : Tok) (rest : List Tok) (ha : a.srcEqUp "INSERT" = true) (hb : b.srcEqUp "IGNORE" = true)
    (hc : c.srcEqUp "INTO" = true) : pInsertType (a :: b :: c :: rest) = .ok ("INSERT_IGNORE_INTO", rest) := by
  simp [pInsertType, searchTwoUp, searchThreeUp, ha, hb, srcEqUp_ne hb "INTO", hc]

theorem insert_overwrite (a b : Tok) (rest : List Tok) (ha : a.srcEqUp "INSERT" = true) (hb : b.srcEqUp "OVERWRITE" = true) :
    pInsertType (a :: b :: rest) = .ok ("INSERT_OVERWRITE", rest) := by
  have hb' := srcEqUp_ne hb "INTO"
  have hb'' := srcEqUp_ne hb "IGNORE"
  cases rest with
  | nil => simp [pInsertType, searchTwoUp, searchThreeUp, ha, hb, hb']
  | cons c r => simp [pInsertType, searchTwoUp, searchThreeUp, ha, hb, hb', hb'']

end C03
