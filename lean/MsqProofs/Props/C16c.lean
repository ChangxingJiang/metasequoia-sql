import MsqProofs.Props.C16b
/-!
# C16 (extended, 2) — set operations, aggregates without a column argument, INSERT from the target's schema

`C16.lineage_eq_flow` and `C16.analysis_error_raised` (Props/C16b.lean) are stated for every query the specification `Flow.flowQ`
covers; `flowQ` covers set operations (at any level of the nesting: as the statement, as a derived table, as a WITH table)
and aggregates without a column argument, so both theorems speak about them.  This file states what the specification says there,
the hypotheses, the refused cases, and the INSERT pairing with the target's catalogue columns.
-/
namespace C16
open Ast AN LN Spec Flow LineageL

/-! ## set operations: column-wise -/

theorem refs_append (scope : Scope) : ∀ (a b : List QCol),
    refs scope (a ++ b) = (do let x ← refs scope a; let y ← refs scope b; pure (x ++ y))
  | [], b => by
    simp only [List.nil_append, refs, bind, Except.bind, pure, Except.pure]
    cases refs scope b <;> simp
  | r :: a, b => by
    simp only [List.cons_append, refs, refs_append scope a b, bind, Except.bind, pure, Except.pure]
    cases ref scope r with
    | error e => rfl
    | ok x =>
      simp only
      cases refs scope a with
      | error e => rfl
      | ok y =>
        simp only
        cases refs scope b with
        | error e => rfl
        | ok z => simp

/-- **column-wise**: when both branches have a flow over the scope, into column i of `q1 UNION q2` flows what flows into column i of
`q1` followed by what flows into column i of `q2`; the names (and positions) are those of the first branch -/
theorem union_columnwise (scope : Scope) : ∀ (its1 its2 : List (Expr × Option String)) (i : Nat) (R1 R2 : Rel),
    its1.length = its2.length → itemsGo scope its1 = .ok R1 → itemsGo scope its2 = .ok R2 →
    curFlow scope (List.zipWith (fun x y => (x.1, x.2 ++ y.2)) (Flow.curOf its1 i) (Flow.curOf its2 i))
      = .ok (number (List.zipWith (fun a b => (a.1, a.2 ++ b.2)) R1 R2) i)
  | [], [], i, R1, R2, _, h1, h2 => by
    simp [itemsGo] at h1 h2; subst h1; subst h2; rfl
  | [], _ :: _, _, _, _, h, _, _ => by simp at h
  | _ :: _, [], _, _, _, h, _, _ => by simp at h
  | a :: r1, b :: r2, i, R1, R2, h, h1, h2 => by
    simp only [itemsGo, bind, Except.bind] at h1 h2
    cases ha : refs scope (colsE a.1) with
    | error e => simp [ha] at h1
    | ok sa =>
      cases hb : refs scope (colsE b.1) with
      | error e => simp [hb] at h2
      | ok sb =>
        simp only [ha] at h1
        simp only [hb] at h2
        cases hr1 : itemsGo scope r1 with
        | error e => simp [hr1] at h1
        | ok t1 =>
          cases hr2 : itemsGo scope r2 with
          | error e => simp [hr2] at h2
          | ok t2 =>
            simp [hr1, pure, Except.pure] at h1
            simp [hr2, pure, Except.pure] at h2
            subst h1; subst h2
            have ih := union_columnwise scope r1 r2 (i + 1) t1 t2 (by simpa using h) hr1 hr2
            simp only [Flow.curOf, List.zipWith_cons_cons, curFlow, refs_append, ha, hb, ih, bind, Except.bind, pure, Except.pure, number]

/-- branches with a different number of columns: the analysis fails its `assert` (an `AssertionError`, not the analysis error — and
nothing at all under `python -O`); the specification does not cover the case -/
theorem union_arity_refused (cat : Cat) (tn : List (String × StdTable)) (st : St) (ws : Option (List WithTable)) (s s2 : Select) (t : String)
    (h1 : ∀ it ∈ Select.cols s, (itemName it).isSome = true) (h2 : ∀ it ∈ Select.cols s2, (itemName it).isSome = true)
    (hlen : (Select.cols s).length ≠ (Select.cols s2).length) :
    currentLevel cat tn (.union ws s [(t, s2)]) st = .error (.py .AssertionError) := by
  have hl : ∀ (its : List (Expr × Option String)) (i : Nat), (Flow.curOf its i).length = its.length := by
    intro its; induction its with
    | nil => intro i; rfl
    | cons a r ih => intro i; simp [Flow.curOf, ih]
  have : ((Flow.curOf (Select.cols s) 1).length != (Flow.curOf (Select.cols s2) 1).length) = true := by simpa [hl] using hlen
  have this' : ¬ (Flow.curOf (Select.cols s) 1).length = (Flow.curOf (Select.cols s2) 1).length := by simpa using this
  simp [currentLevel, currentLevelSingle_named cat tn _ 1 st h1, currentLevelSingle_named cat tn _ 1 st h2, bind, Except.bind,
    mergeByPos, this']

/-! ## INSERT … SELECT without a column list: the target's catalogue columns, by position -/

/-- without a column list the analysis pairs the lineage of the SELECT with the target's catalogue columns -/
theorem insertLineage_schema (cat : Cat) (h : InsertHead) (hc : h.columns = none) (c : CreateTable)
    (hcat : catLookup cat (h.table.schema, h.table.name) = some c)
    (q : Query) (R : Rel) (hy : Hygienic (fuelFor (setWiths h.withs q)) (setWiths h.withs q))
    (hflow : flowQ cat (fuelFor (setWiths h.withs q)) [] (setWiths h.withs q) = .ok R) :
    ∃ st', insertLineage cat h q {} = pairUp (mkLineage (number R 1) Lineage.empty)
      (c.columns.map fun d => (⟨h.table.schema, h.table.name, some d.name⟩ : SrcCol)) st' := by
  unfold catLookup at hcat
  cases hf : cat.find? (·.1 == PM.unifyName (StdTable.source (h.table.schema, h.table.name))) with
  | none => simp [hf] at hcat
  | some p =>
    obtain ⟨k, c'⟩ := p
    simp [hf] at hcat
    subst hcat
    obtain ⟨st', e⟩ := lineage_eq_flow_from cat _ _ hy R hflow
      { asked := [StdTable.source (h.table.schema, h.table.name)] } rfl rfl
    refine ⟨st', ?_⟩
    simp only [insertLineage, hc, getStatement, hf, bind, Except.bind, pure, Except.pure,
      List.contains_nil, Bool.false_eq_true, if_false, List.nil_append]
    rw [e]

/-- the i-th column of the target table (as the catalogue declares it) receives exactly the sources of the i-th output column;
a different number of columns is refused (`insert_schema_arity`) -/
theorem insert_schema_pairing_ok (cat : Cat) (h : InsertHead) (hc : h.columns = none) (c : CreateTable)
    (hcat : catLookup cat (h.table.schema, h.table.name) = some c)
    (q : Query) (R : Rel) (hy : Hygienic (fuelFor (setWiths h.withs q)) (setWiths h.withs q))
    (hflow : flowQ cat (fuelFor (setWiths h.withs q)) [] (setWiths h.withs q) = .ok R)
    (hlen : c.columns.length = R.length) (hnd : (c.columns.map (·.name)).Nodup) :
    ∃ st', insertLineage cat h q {} = .ok (List.zipWith (fun (d : DefCol) (r : String × List SrcCol) =>
      (({ schema := h.table.schema, table := h.table.name, col := some d.name } : SrcCol), r.2)) c.columns R, st') := by
  obtain ⟨st', e⟩ := insertLineage_schema cat h hc c hcat q R hy hflow
  refine ⟨st', ?_⟩
  rw [e, pairUp_ok R _ st' (by simpa using hlen) (by simpa [List.map_map, Function.comp_def] using nodup_map_some _ hnd)]
  simp [List.zipWith_map_left]

theorem insert_schema_arity (cat : Cat) (h : InsertHead) (hc : h.columns = none) (c : CreateTable)
    (hcat : catLookup cat (h.table.schema, h.table.name) = some c)
    (q : Query) (R : Rel) (hy : Hygienic (fuelFor (setWiths h.withs q)) (setWiths h.withs q))
    (hflow : flowQ cat (fuelFor (setWiths h.withs q)) [] (setWiths h.withs q) = .ok R)
    (hlen : c.columns.length ≠ R.length) : insertLineage cat h q {} = .error .analyzer := by
  obtain ⟨st', e⟩ := insertLineage_schema cat h hc c hcat q R hy hflow
  rw [e]
  exact pairUp_arity R _ st' (by simpa using hlen)

/-! ## aggregates without a column argument -/

/-- `COUNT(1)` and the like: one source without column name per upstream table of every FROM / JOIN item, item by item — what the
analysis returns (with the stores untouched) for any level whose table names resolve to the scope -/
theorem anonymous_aggregate_sources {cat : Cat} {st : St} {tn : List (String × StdTable)} {scope : Scope} (hres : Resolves cat st tn scope) :
    ∃ st', analyzeQuoteColumn cat tn ⟨none, none, none⟩ st = .ok (anonOf scope, st') ∧ Same st st' := by
  have := ref_spec hres ⟨none, none, none⟩ st (Same.refl st)
  simpa [agrees_def, ref] using this

/-! ## wildcards -/

/-- **`x.*`**: for a relation with pairwise distinct column names (none of them `*`) bound to `x`, the expansion gives one output
column per column of the relation, in order, **each with its own sources** -/
theorem star_each_own_sources (scope : Scope) (x : String) (R : Rel) (hx : dictGet? scope x = some R) (hn : (R.map (·.1)).Nodup)
    (hs : ∀ p ∈ R, p.1 ≠ "*") : ∀ (S : Rel) (i : Nat), (∀ p ∈ S, p ∈ R) → curFlow scope (expandRel x S i) = .ok (number S i)
  | [], i, _ => rfl
  | p :: r, i, h => by
    have hp := h p (by simp)
    have hstar : (p.1 == "*") = false := by simpa using hs p hp
    have ih := star_each_own_sources scope x R hx hn hs r (i + 1) (fun q hq => h q (by simp [hq]))
    obtain ⟨n, srcs⟩ := p
    simp only [expandRel, List.zipIdx_cons, List.map_cons] at ih ⊢
    simp only [curFlow, refs, ref, hstar, Bool.false_eq_true, if_false, refQ, hx, dictGet?_of_mem hn hp, bind, Except.bind,
      pure, Except.pure, List.append_nil, ih, number]

/-! ## instances -/

def selU (cols : List (Expr × Option String)) (fr : List FromTable) : Select :=
  .mk (some []) false cols (some fr) [] [] none none none none none none none none

/-- `SELECT x.a AS k, x.b FROM t x UNION ALL SELECT y.d, y.a FROM u y`: names of the first branch, sources column-wise -/
def unionOK : Query :=
  .union (some []) (selU [(.column (some "x") "a", some "k"), (.column (some "x") "b", none)] [tbl "t" (some "x")])
    [("UNION_ALL", selU [(.column (some "y") "d", none), (.column (some "y") "a", none)] [tbl "u" (some "y")])]
theorem unionOK_spec : specOk unionOK [("k", [(none, "t", some "a"), (none, "u", some "d")]), ("b", [(none, "t", some "b"), (none, "u", some "a")])] = true := by
  decide +kernel
example : hyg unionOK = true := by decide +kernel
example : isOk [("k", 1, [(none, "t", some "a"), (none, "u", some "d")]), ("b", 2, [(none, "t", some "b"), (none, "u", some "a")])] (run2 unionOK) = true := by
  decide +kernel

/-- a set operation as a derived table, read through an unqualified name -/
example : specOk (.single (selJ [(.column none "k", none)] [der unionOK "q"] [])) [("k", [(none, "t", some "a"), (none, "u", some "d")])] = true := by
  decide +kernel

/-- the excluded case (F-C16-7, `C16.witness_7`): `SELECT b FROM t UNION SELECT a FROM u` — unqualified references: outside the
specification (`branchOK` fails), and the analysis refuses it although each branch alone is unambiguous -/
def unionBad : Query := .union (some []) (selU [(.column none "b", none)] [tbl "t"]) [("UNION", selU [(.column none "a", none)] [tbl "u"])]
example : (match flowQ cat2 (fuelFor unionBad) [] unionBad with | .error .outside => true | _ => false) = true := by decide +kernel
example : isErr .analyzer (run2 unionBad) = true := by decide +kernel
/-- the same alias in two branches: outside the specification (`levelOK` fails) -/
example : (match flowQ cat2 (fuelFor unionBad) [] (.union (some []) (selU [(.column (some "x") "a", none)] [tbl "t" (some "x")])
    [("UNION", selU [(.column (some "x") "a", none)] [tbl "u" (some "x")])]) with | .error .outside => true | _ => false) = true := by decide +kernel

/-- `SELECT COUNT(1) AS n, SUM(x.a) AS s FROM t x JOIN (SELECT a + d AS k FROM u) q ON x.a = q.k`: `n` depends on `t` and (through `q`) on `u` -/
def countOne : Query :=
  .single (selJ [(.agg "COUNT" [.literal "1"] false, some "n"), (.agg "SUM" [.column (some "x") "a"] false, some "s")]
    [tbl "t" (some "x")]
    [joinOn (der (.single (selJ [(.compute (.column none "a") "PLUS" (.column none "d"), some "k")] [tbl "u"] [])) "q") (.column (some "x") "a") (.column (some "q") "k")])
theorem countOne_spec : specOk countOne [("n", [(none, "t", none), (none, "u", none)]), ("s", [(none, "t", some "a")])] = true := by decide +kernel
example : hyg countOne = true := by decide +kernel
example : isOk [("n", 1, [(none, "t", none), (none, "u", none)]), ("s", 2, [(none, "t", some "a")])] (run2 countOne) = true := by decide +kernel

/-- `SELECT q.*, t.c FROM t JOIN (SELECT a + b AS k, a FROM t) q ON t.a = q.a`: the derived table's columns with their own sources -/
def starQ : Query :=
  .single (selJ [(.wildcard (some "q"), none), (.column (some "t") "c", none)] [tbl "t"]
    [joinOn (der (.single (selJ [(.compute (.column none "a") "PLUS" (.column none "b"), some "k"), (.column none "a", none)] [tbl "t"] [])) "q")
      (.column (some "t") "a") (.column (some "q") "a")])
theorem starQ_spec : specOk starQ [("k", [(none, "t", some "a"), (none, "t", some "b")]), ("a", [(none, "t", some "a")]), ("c", [(none, "t", some "c")])] = true := by
  decide +kernel
example : hyg starQ = true := by decide +kernel
example : isOk [("k", 1, [(none, "t", some "a"), (none, "t", some "b")]), ("a", 2, [(none, "t", some "a")]), ("c", 3, [(none, "t", some "c")])] (run2 starQ) = true := by
  decide +kernel

/-- `SELECT * FROM t1, t2`: the columns of every item, item after item -/
def starAll : Query := .single (selJ [(.wildcard none, none)] [tbl "t1", tbl "t2"] [])
theorem starAll_spec : specOk starAll [("a", [(none, "t1", some "a")]), ("b", [(none, "t1", some "b")]), ("c", [(none, "t2", some "c")]),
    ("x", [(none, "t2", some "x")]), ("d", [(none, "t2", some "d")])] = true := by decide +kernel
example : isOk [("a", 1, [(none, "t1", some "a")]), ("b", 2, [(none, "t1", some "b")]), ("c", 3, [(none, "t2", some "c")]),
    ("x", 4, [(none, "t2", some "x")]), ("d", 5, [(none, "t2", some "d")])] (run2 starAll) = true := by decide +kernel

/-- an unknown `z.*` is the analysis error -/
example : specErr (.single (selJ [(.wildcard (some "z"), none)] [tbl "t1"] [])) = true := by decide +kernel
example : isErr .analyzer (run2 (.single (selJ [(.wildcard (some "z"), none)] [tbl "t1"] []))) = true := by decide +kernel

/-- the excluded case (F-C16-6, `C16.witness_6`): `SELECT x.* FROM t x` — an aliased base table: outside the specification
(`plainKey` fails), and the analysis refuses a valid query -/
example : (match flowQ cat2 8 [] (.single (selJ [(.wildcard (some "x"), none)] [tbl "t" (some "x")] [])) with | .error .outside => true | _ => false) = true := by
  decide +kernel
example : isErr .analyzer (run2 (.single (selJ [(.wildcard (some "x"), none)] [tbl "t" (some "x")] []))) = true := by decide +kernel

end C16
