import MsqProofs.Lemmas.TQueryM
import MsqProofs.Lemmas.TQueryJ
import MsqProofs.Lemmas.StmtDispatch
import MsqModel.Driver.ShowVal
/-!
# C03 / C02 / C01 — T-parse closed under nesting: queries and expressions, one mutually recursive fragment

**Fragment** (three mutually recursive `Bool`s over the model's `Ast`, Lemmas/TQuery0.lean; any size, any nesting depth):
* `TQ.FragE3 d e` — expressions: everything of `TP2.Frag2` (Props/C02T2.lean: names, qualified columns, literals, `*`, `t.*`, unary and
  binary operators of the regenerated tables, comparisons, `[NOT] LIKE / RLIKE / REGEXP / IS / BETWEEN`, `[NOT] IN (v, …)` with short
  values, NOT / AND / XOR / OR, calls `f(…)`, `s.f(…)`, aggregates, both CASE forms) and in addition the three bracketed sub-query
  positions: scalar sub-query `(q)`, `e [NOT] IN (q)`, `EXISTS (q)`, with `q` a fragment QUERY.  One restriction: the left operand of
  a comparison / keyword operator / BETWEEN is not itself an `EXISTS` (its first word is no operand token).
* `TQ.FragS3 d s` — a single SELECT: the clauses of `TS.FragS` (Props/C03T.lean) with fragment expressions at every expression
  position (items incl. wildcard items, ON, WHERE, GROUP BY keys, HAVING, ORDER BY keys), FROM / JOIN items additionally
  schema-qualified tables (`` `s.n` ``, `tblOK`) and DERIVED TABLES `(q) [AS alias]` with `q` a fragment query.
* `TQ.FragQ d q` — a query: a single SELECT, or a left-nested chain `s UNION [ALL] / EXCEPT / INTERSECT / MINUS s₁ …` of single SELECTs
  over EVERY set operator of the regenerated table `Gen.unionTypes` (`all_union_types_ok`), WITH slot `some []`.
Not covered: WITH clauses, `JOIN … USING`, LATERAL VIEW, SORT / DISTRIBUTE / CLUSTER BY, window functions, CAST / EXTRACT / IF,
bracketed SELECTs as branches of a set operation.

**Token-level printer** `TQ.toksQ d ch q` / `toksS3` / `toksE3`: `PR.prQ` / `prS` / `prE` as tokens; a sub-query is ONE bracket group
holding the tokens of the query.  `#guard`s below check `lex (prQ d q) = toksQ d noX q` for nested queries in several dialects.

**Continuations** `TQ.stopsQ d rest`: empty, or the head continues neither an expression nor a SELECT nor a set operation — e.g. `;`, a
closing context.
-/
open Lex PM Ast TP TS TQ

namespace TQ
/-- every set operator of the regenerated table, in every dialect, satisfies the side condition of the fragment -/
theorem all_union_types_ok : Gen.allD.all (fun d => Gen.unionTypes.all (fun e => unionTyOK d e.1)) = true := by decide

def branchesOf : Query → List Select
  | .single s => [s]
  | .union _ s us => s :: us.map (·.2)
def operatorsOf : Query → List String
  | .single _ => []
  | .union _ _ us => us.map (·.1)
end TQ

namespace C03
/-- **T-parse, queries.**  Parsing the token rendering of a fragment query — SELECTs over nested expressions, set operations, derived
tables, sub-queries in expressions, to any depth — returns exactly that tree, in front of every continuation that continues neither a
SELECT nor a set operation, at every fuel above an explicit linear bound -/
theorem tquery (d : Gen.D) (q : Query) (hq : FragQ d q = true) (rest : List Tok) (hr : stopsQ d rest = true)
    (fuel : Nat) (hfuel : 20 * sizeL (toksQ d noX q) + 9 ≤ fuel) : pSelectStmt d fuel none (toksQ d noX q ++ rest) = .ok (q, rest) :=
  (qt chOK_noX q hq).parse rest hr fuel hfuel
/-- the same for any choice of redundant brackets around sub-expressions that keeps the two first-word side conditions -/
theorem tquery_ch (d : Gen.D) (ch : Expr → Bool) (hch : ChOK d ch) (q : Query) (hq : FragQ d q = true) (rest : List Tok) (hr : stopsQ d rest = true)
    (fuel : Nat) (hfuel : 20 * sizeL (toksQ d ch q) + 9 ≤ fuel) : pSelectStmt d fuel none (toksQ d ch q ++ rest) = .ok (q, rest) :=
  (qt hch q hq).parse rest hr fuel hfuel
/-- the fuel the public entry points compute from the token list dominates the bound -/
theorem tquery_entry_fuel (d : Gen.D) (q : Query) (hq : FragQ d q = true) (rest : List Tok) (hr : stopsQ d rest = true) :
    pSelectStmt d (fuelFor (toksQ d noX q ++ rest)) none (toksQ d noX q ++ rest) = .ok (q, rest) :=
  tquery d q hq rest hr _ (by simp only [fuelFor, sizeL_append]; omega)

/-- **the same through the statement level**: one iteration of the loop of `parse_statements` (before the optional `;`) on the
rendering of a fragment query returns the SELECT statement with that tree -/
theorem tquery_statement (d : Gen.D) (q : Query) (hq : FragQ d q = true) (rest : List Tok) (hr : stopsQ d rest = true)
    (fuel : Nat) (hfuel : 20 * sizeL (toksQ d noX q) + 9 ≤ fuel) :
    pStatement d fuel (toksQ d noX q ++ rest) = .ok (.select q, rest) :=
  pStatement_of_select d (toksQ_head chOK_noX q hq) (by omega) (stmt_some chOK_noX q hq rest hr fuel (by omega))

/-- **set operations: branches in order, each operator in its slot.**  The rendering `s op₁ s₁ op₂ s₂ …` (each `opᵢ` the words of a set
operator of the regenerated table, each branch a fragment SELECT) parses to the union of `s` with the list `[(op₁, s₁), (op₂, s₂), …]` -/
theorem set_operation_chain (d : Gen.D) (s : Select) (us : List (String × Select)) (hs : FragS3 d s = true) (hus : FragUn d us = true)
    (hne : us.isEmpty = false) (rest : List Tok) (hr : stopsQ d rest = true)
    (fuel : Nat) (hfuel : 20 * sizeL (toksS3 d noX s ++ toksUn d noX us) + 9 ≤ fuel) :
    pSelectStmt d fuel none (toksS3 d noX s ++ (toksUn d noX us ++ rest)) = .ok (.union (some []) s us, rest) := by
  have := stmt_core none (Or.inl rfl) s us (srec_of chOK_noX s hs) (unrec_of chOK_noX us hus) rest hr fuel hfuel
  simpa [hne] using this
/-- one more branch at the end of a chain: the rendering grows by the operator's words and the branch, the tree by one entry at the end -/
theorem toksUn_append (d : Gen.D) (ch : Expr → Bool) (us : List (String × Select)) (t : String) (s : Select) :
    toksUn d ch (us ++ [(t, s)]) = toksUn d ch us ++ (unionWords t ++ toksS3 d ch s) := by
  induction us with
  | nil => simp [toksUn]
  | cons p r ih => obtain ⟨t', s'⟩ := p; simp only [List.cons_append, toksUn, ih, List.append_assoc]
theorem set_operation_slots (d : Gen.D) (q : Query) (hq : FragQ d q = true) (rest : List Tok) (hr : stopsQ d rest = true)
    (fuel : Nat) (hfuel : 20 * sizeL (toksQ d noX q) + 9 ≤ fuel) :
    ∃ p, pSelectStmt d fuel none (toksQ d noX q ++ rest) = .ok (p, rest) ∧ branchesOf p = branchesOf q ∧ operatorsOf p = operatorsOf q :=
  ⟨q, tquery d q hq rest hr fuel hfuel, rfl, rfl⟩

/-- **derived tables: body and alias.**  `SELECT items FROM (q) [AS a]` — the bracket group holds exactly the tokens of `q` — parses to
the SELECT whose FROM slot is the derived table with body `q` and alias `a` -/
theorem derived_table (d : Gen.D) (cols : List (Expr × Option String)) (q : Query) (a : Option String)
    (hs : FragS3 d (.mk (some []) false cols (some [.mk (.sub q) a]) [] [] none none none none none none none none) = true)
    (rest : List Tok) (hr : stopsQ d rest = true) (fuel : Nat)
    (hfuel : 20 * sizeL (opTok "SELECT" :: (toksCols3 d noX cols ++ opTok "FROM" :: grp (toksQ d noX q) :: aliasToks a)) + 9 ≤ fuel) :
    pSelectStmt d fuel none (opTok "SELECT" :: (toksCols3 d noX cols ++ opTok "FROM" :: grp (toksQ d noX q) :: (aliasToks a ++ rest))) =
      .ok (.single (.mk (some []) false cols (some [.mk (.sub q) a]) [] [] none none none none none none none none), rest) := by
  have e : toksQ d noX (.single (.mk (some []) false cols (some [.mk (.sub q) a]) [] [] none none none none none none none none)) =
      opTok "SELECT" :: (toksCols3 d noX cols ++ opTok "FROM" :: grp (toksQ d noX q) :: aliasToks a) := by
    simp [toksQ, toksS3, toksFrom3, toksTable3, toksRef3, toksTablesTail3, toksJoins3, toksOptE3, toksGroup3, toksOrder3, toksLimit]
  have := tquery d (.single (.mk (some []) false cols (some [.mk (.sub q) a]) [] [] none none none none none none none none))
    (by simpa [FragQ] using hs) rest hr fuel (by rw [e]; exact hfuel)
  rw [e] at this
  simpa using this

/-- equal renderings, equal trees -/
theorem rendering_determines_query (d : Gen.D) (q q' : Query) (hq : FragQ d q = true) (hq' : FragQ d q' = true)
    (h : toksQ d noX q = toksQ d noX q') : q = q' :=
  C01.eq_of_read_back (tquery d q hq [] rfl) (tquery d q' hq' [] rfl) (by rw [h])
end C03

namespace C02
/-- **T-parse, expressions with sub-queries** (the expression half of the mutual induction) -/
theorem tparse3 (d : Gen.D) (e : Expr) (hf : FragE3 d e = true) (rest : List Tok) (hr : TP2.stops2 d rest = true)
    (fuel : Nat) (hfuel : 20 * sizeL (toksE3 d noX e) + 15 ≤ fuel) : pOr d fuel (toksE3 d noX e ++ rest) = .ok (e, rest) :=
  (rt3 chOK_noX e hf).own.s14 rest hr fuel hfuel
/-- scalar sub-query: a bracket group holding exactly the tokens of a fragment query is the sub-query expression of that query -/
theorem scalar_subquery (d : Gen.D) (q : Query) (hq : FragQ d q = true) (rest : List Tok) (hr : TP2.stops2 d rest = true)
    (fuel : Nat) (hfuel : 20 * sizeL [grp (toksQ d noX q)] + 15 ≤ fuel) :
    pOr d fuel (grp (toksQ d noX q) :: rest) = .ok (.subQuery q, rest) := by
  have := tparse3 d (.subQuery q) (by simpa [FragE3] using hq) rest hr fuel (by simpa [toksE3] using hfuel)
  simpa [toksE3] using this
/-- `EXISTS (q)` -/
theorem exists_subquery (d : Gen.D) (q : Query) (hq : FragQ d q = true) (rest : List Tok) (hr : TP2.stops2 d rest = true)
    (fuel : Nat) (hfuel : 20 * sizeL [opTok "EXISTS", grp (toksQ d noX q)] + 15 ≤ fuel) :
    pOr d fuel (opTok "EXISTS" :: grp (toksQ d noX q) :: rest) = .ok (.exists_ (.subQuery q), rest) := by
  have := tparse3 d (.exists_ (.subQuery q)) (by simpa [FragE3, isSubQ] using hq) rest hr fuel (by simpa [toksE3] using hfuel)
  simpa [toksE3] using this
/-- `l [NOT] IN (q)`: the left operand and the query land in their slots, the negation flag is kept -/
theorem in_subquery (d : Gen.D) (n0 : Bool) (l : Expr) (q : Query) (hf : FragE3 d (.kw .in_ n0 l (.subQuery q)) = true)
    (rest : List Tok) (hr : TP2.stops2 d rest = true) (fuel : Nat)
    (hfuel : 20 * sizeL (toksE3 d noX (.kw .in_ n0 l (.subQuery q))) + 15 ≤ fuel) :
    pOr d fuel (toksE3 d noX (.kw .in_ n0 l (.subQuery q)) ++ rest) = .ok (.kw .in_ n0 l (.subQuery q), rest) :=
  tparse3 d _ hf rest hr fuel hfuel
end C02

namespace TQ
/-- the nested expression fragment contains the larger expression fragment of Props/C02T2.lean (hence the operator fragment of
Props/C02T.lean: `TP2.frag_sub_all`), and on it the token printers agree -/
theorem frag2_sub_all (d : Gen.D) (ch : Expr → Bool) (e : Expr) (h : TP2.Frag2 d e = true) :
    FragE3 d e = true ∧ toksE3 d ch e = TP2.toksE2 d ch e :=
  let r := frag2_sub (d := d) (ch := ch) (TP2.sz2 e) e (Nat.le_refl _) h
  ⟨r.1, r.2.1⟩
end TQ
namespace C03
/-- **`FragS ⊆ FragQ`**: every SELECT of the fragment of `C03.tselect` is (as a single-SELECT query) in the nested fragment, with the same
rendering -/
theorem fragS_sub_query (d : Gen.D) (s : Select) (hs : FragS d s = true) :
    FragQ d (.single s) = true ∧ toksQ d noX (.single s) = toksS d s := by
  obtain ⟨h1, h2⟩ := fragS_sub s hs
  exact ⟨by simpa [FragQ] using h1, by simpa [toksQ] using h2⟩
/-- `C03.tselect` (Props/C03T.lean) as an instance of the SELECT half of the nested development, with the smaller fuel bound `+ 6`
(continuations of the nested fragment: additionally not `OVER`) -/
theorem tselect_instance (d : Gen.D) (s : Select) (hs : FragS d s = true) (rest : List Tok) (hr : Bd3 d 7 rest = true)
    (fuel : Nat) (hfuel : 20 * sizeL (toksS d s) + 6 ≤ fuel) : pSingle d fuel [] (toksS d s ++ rest) = .ok (s, rest) := by
  obtain ⟨h1, h2⟩ := fragS_sub s hs
  rw [← h2] at hfuel ⊢
  exact (srec_of chOK_noX s h1).parse rest hr fuel hfuel
/-- `C03.tselect_statement` as an instance of `tquery_statement` -/
theorem tselect_statement_instance (d : Gen.D) (s : Select) (hs : FragS d s = true) (rest : List Tok) (hr : stopsQ d rest = true)
    (fuel : Nat) (hfuel : 20 * sizeL (toksS d s) + 9 ≤ fuel) : pStatement d fuel (toksS d s ++ rest) = .ok (.select (.single s), rest) := by
  obtain ⟨h1, h2⟩ := fragS_sub_query d s hs
  rw [← h2] at hfuel ⊢
  exact tquery_statement d (.single s) h1 rest hr fuel hfuel
end C03

namespace C02
/-- `C02.tparse2` (Props/C02T2.lean, without redundant brackets) as an instance of `tparse3` -/
theorem tparse2_instance (d : Gen.D) (e : Expr) (hf : TP2.Frag2 d e = true) (rest : List Tok) (hr : TP2.stops2 d rest = true)
    (fuel : Nat) (hfuel : 20 * sizeL (TP2.toksE2 d noX e) + 15 ≤ fuel) : pOr d fuel (TP2.toksE2 d noX e ++ rest) = .ok (e, rest) := by
  obtain ⟨h1, h2⟩ := frag2_sub_all d noX e hf
  rw [← h2] at hfuel ⊢
  exact tparse3 d e h1 rest hr fuel hfuel
end C02

namespace C01
/-- **print / parse round trip of a query, token level** -/
theorem query_round_trip_tokens (d : Gen.D) (q : Query) (hq : FragQ d q = true) (fuel : Nat) (hfuel : 20 * sizeL (toksQ d noX q) + 9 ≤ fuel) :
    pSelectStmt d fuel none (toksQ d noX q) = .ok (q, []) := by
  have := C03.tquery d q hq [] rfl fuel hfuel
  simpa using this
end C01

/-! ### non-vacuity (compiled evaluation) -/
namespace C03
/-- the token-level printer agrees with the lexer on the printer's text, and the tree is in the fragment -/
def agreesQ (d : Gen.D) (q : Query) : Bool :=
  match PR.prQ d q with
  | .ok x => eqbL (lexed x) (toksQ d noX q) && FragQ d q
  | .error _ => false
def roundTripsQ (d : Gen.D) (q : Query) : Bool :=
  match pSelectStmt d (20 * sizeL (toksQ d noX q) + 9) none (toksQ d noX q) with
  | .ok (p, []) => Drv.showVal p.toVal == Drv.showVal q.toVal
  | _ => false
def sel (cols : List (Expr × Option String)) (fr : Option (List FromTable)) (wh : Option Expr := none) (js : List Join := []) : Select :=
  .mk (some []) false cols fr [] js wh none none none none none none none
def qcol (t c : String) : Expr := .column (some t) c
/-- `SELECT b FROM u` -/
def qa : Query := .single (sel [(col "b", none)] (some [tb "u"]))
/-- scalar sub-query, `IN (q)`, `EXISTS (q)` with a correlated condition, `NOT IN (q)` -/
def q1 : Query := .single (sel [(col "a", none), (.subQuery (.single (sel [(.agg "max" [col "b"] false, none)] (some [tb "u"]))), some "m")]
  (some [tb "t"])
  (some (.and_ (.kw .in_ false (col "a") (.subQuery (.single (sel [(col "c", none)] (some [tb "v"])))))
    (.and_ (.exists_ (.subQuery (.single (sel [(.wildcard none, none)] (some [tb "w"]) (some (.compare "EQ" (qcol "w" "x") (qcol "t" "a")))))))
      (.kw .in_ true (col "b") (.subQuery qa))))))
/-- derived table whose body is a set operation, joined with a schema-qualified table -/
def q2 : Query := .single (sel [(.wildcard (some "d"), none), (.wildcard none, none)]
  (some [.mk (.sub (.union (some []) (sel [(col "a", none)] (some [tb "t"])) [("UNION_ALL", sel [(col "b", none)] (some [tb "u"]))])) (some "d")])
  none [.mk "LEFT_JOIN" (.mk (.table (some "s") "tbl") (some "x")) (some (.on (.compare "EQ" (qcol "d" "a") (qcol "x" "a")))),
        .mk "JOIN" (.mk (.sub qa) (some "y")) none])
/-- a chain over every set operator -/
def q3 : Query := .union (some []) (sel [(col "a", none)] (some [tb "t"]))
  [("UNION", sel [(col "b", none)] (some [tb "u"])), ("UNION_ALL", sel [(lit "1", none)] none), ("EXCEPT", sel [(col "c", some "k")] (some [tb "v"])),
   ("INTERSECT", sel [(col "d", none)] (some [tb "w"]) (some (.compare "GT" (col "d") (lit "0")))), ("MINUS", sel [(col "e", none)] (some [tb "z"]))]
/-- three levels: a sub-query in a derived table in a sub-query -/
def q4 : Query := .single (sel [(.compute (.subQuery (.single (sel [(.agg "count" [.wildcard none] false, none)]
    (some [.mk (.sub (.single (sel [(col "a", none)] (some [tb "t"]) (some (.not_ (.exists_ (.subQuery qa))))))) (some "i")])))) "PLUS" (lit "1"), some "n")] none)
def q5 : Query := .union (some []) (sel [(col "a", none)] (some [.mk (.sub qa) (some "d")]) (some (.kw .in_ false (col "a") (.subQuery qa))))
  [("UNION", sel [(lit "1", none)] none)]
def q6 : Query := .single (sel [(.exists_ (.subQuery qa), some "e")] none)
#guard [q1, q2, q3, q4, q5, q6, qa].all (agreesQ .MYSQL) && [q1, q2, q3, q4, q5, q6].all (agreesQ .HIVE) && [q1, q2, q3, q4, q5, q6].all (agreesQ .ORACLE) &&
  [q1, q2, q3, q4, q5, q6].all (agreesQ .DEFAULT) && [q1, q2, q3, q4].all (agreesQ .POSTGRE_SQL)
#guard [q1, q2, q3, q4, q5, q6, qa].all (roundTripsQ .MYSQL) && [q1, q2, q3, q4, q5, q6].all (roundTripsQ .HIVE) && [q1, q2, q3, q4].all (roundTripsQ .DB2)
-- what may follow a query: a separator, the end; not a set operator, a clause word, OVER, a comma
#guard stopsQ .MYSQL (lexed "; SELECT 2") && stopsQ .MYSQL [] && !stopsQ .MYSQL (lexed "UNION ALL SELECT 2") && !stopsQ .MYSQL (lexed "WHERE a") &&
  !stopsQ .MYSQL (lexed "OVER (x)") && !stopsQ .MYSQL (lexed ", b")
-- outside the fragment: EXISTS as the left operand of a comparison, JOIN … USING, a WITH slot that is not `some []`, an unknown operator
#guard !FragQ .MYSQL (.single (sel [(.compare "EQ" (.exists_ (.subQuery qa)) (lit "1"), none)] none)) &&
  !FragQ .MYSQL (.single (sel [(col "a", none)] (some [tb "t"]) none [.mk "JOIN" (tb "u") (some (.using (col "a")))])) &&
  !FragQ .MYSQL (.union none (sel [(col "a", none)] none) [("UNION", sel [(col "a", none)] none)]) &&
  !FragQ .MYSQL (.union (some []) (sel [(col "a", none)] none) [("UNION DISTINCT", sel [(col "a", none)] none)])
-- operators and branches in order, on lexed text
#guard (match pSelectStmt .MYSQL 2000 none (lexed "SELECT `a` FROM (SELECT `b` FROM `u`) AS d UNION ALL SELECT 1 EXCEPT SELECT 2") with
  | .ok (p, []) => operatorsOf p == ["UNION_ALL", "EXCEPT"] && (branchesOf p).length == 3 | _ => false)
-- instances of the theorems (hypotheses decided by the kernel, conclusions the theorems')
set_option maxRecDepth 100000 in
example : pSelectStmt .MYSQL (fuelFor (toksQ .MYSQL noX q5 ++ lexed "; x")) none (toksQ .MYSQL noX q5 ++ lexed "; x") = .ok (q5, lexed "; x") :=
  tquery_entry_fuel .MYSQL q5 (by decide) _ (by decide)
set_option maxRecDepth 100000 in
example : pStatement .HIVE 2000 (toksQ .HIVE noX q6 ++ lexed ";") = .ok (.select q6, lexed ";") :=
  tquery_statement .HIVE q6 (by decide) _ (by decide) 2000 (by decide)
end C03
