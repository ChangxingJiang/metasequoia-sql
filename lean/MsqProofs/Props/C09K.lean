import MsqProofs.Props.C09P
import MsqProofs.Lemmas.ParseKCase
/-!
# C09, parser half — the SHARP form for the lexer's RESERVED WORDS: their letter case does not change the tree

`Props/C09P.lean` proves the `≈` form: token lists that differ in the letter case of ANY words (`CEL`) give results that are equal after
mapping EVERY stored text through `str.upper()`.  This file is about the words whose letter case a reader expects to be irrelevant
altogether: the RESERVED WORDS of the lexer — the entries of its keyword table that get no mark (`PM.reservedL`, 24 of the 27:
SELECT FROM LATERAL VIEW LEFT RIGHT INNER OUTER FULL JOIN ON WHERE GROUP BY HAVING ORDER LIMIT UNION EXCEPT MINUS INTERSECT AND NOT OR;
the other three entries, TRUE FALSE NULL, are LITERAL tokens and the parser stores them as written, see C09P).

## Relations (`Lemmas/ParseKCase0.lean`, `ParseKCase1.lean`)
* `KE t t'`: the tokens are equal, or both are single tokens WITHOUT the NAME and LITERAL marks, with the same marks, both plain words
  with the same `str.upper()`, which is a reserved word; bracket groups: same kind and marks, children related pointwise (a group with a
  NAME / LITERAL mark — the lexer emits none — must be the same).  `KEL` on lists.  `KE ⊆ CE` (`PM.ke_ce`).
* `km s`: the text `s`, except that a text which IS a reserved word (case-insensitively) or starts like the rendering `(`…`)` of a bracket
  group is upper-cased.  `kmSt0`, `kmE`, `kmQ` …: the tree with every stored text mapped through `km` (the two texts of a SET /
  TBLPROPERTIES config string, which are CONCATENATIONS of popped sources, through `up`).  So `kmSt0 s = kmSt0 s'` says: the trees are
  EQUAL, except that a stored text that is a reserved word / a bracket text (/ a config string) may differ in letter case.

## Theorems
* `C09.reserved_case_same_tree_upto` (no hypothesis): `KEL ts ts' →` `parse_statements` fails alike or returns lists equal after `kmSt0`;
  `…_statement` for one statement (with `KEL` remaining cursors), `…_loop`; the same relational lemma for EVERY function of the parser model
  (169: the fields of `PM.Rel.genF_all` and the lemmas `PM.Rel.<function>_rel` of the generic family `Lemmas/ParseRel*.lean` at the theory `PM.kcaseT`,
  `Lemmas/ParseKCase3.lean`; in the vocabulary of this file `PM.<function>_ke`, `Lemmas/ParseKCase.lean`).
* `C09.reserved_case_same_tree_partial`: … and the statement lists are EQUAL when neither of them stores a reserved word in another than
  upper case, a bracket text or a lower-case config string (`NoReservedStored ss := ss.map kmSt0 = ss`).  THE FULL STATEMENT
  `KEL ts ts' → pStatements d f ts = pStatements d f ts'` IS FALSE of the model and of the code: the parser stores a token it has NOT
  checked to be a NAME / LITERAL at the sites listed below, and accepts a reserved word there (`SELECT from FROM t` parses, with a column
  named `from`): `C09.Sharp.full_statement_false` (evaluated witness), real code: see the final report.
* all 84 entry points: `C09.entriesAll_reserved_case` (accepted / rejected alike, same error kind, `KEL` remaining cursors; the values
  are the `toVal` images of typed results related by the `PM.Rel.<function>_rel` lemma of the function the entry wraps).
* text level: `C09.reserved_case_text`, `C09.reserved_case_text_partial`, `C09.parseText2_reserved_case`; the hypothesis `KEL ts ts'` on the
  token lists is what the lexer half delivers: `C09.keyword_variants_ke` (composition with `C09.keyword_case`: every letter-case variant of
  every reserved word lexes to ONE token that is `KE`-related to the token of the upper-case spelling) and `C09.reserved_recase` (in every
  delimiter context).

## The exclusion: sites that store a token WITHOUT checking its NAME / LITERAL mark (model line ↦ `core/parser.py` line)
Expression / SELECT level (`MsqModel/Parse/Expr.lean`):
* `pNamed` 194-195: an unqualified column name — ANY token that is no literal, bracket, CASE or `*` (`parser.py:805-806` →
  `_parse_column_name_expression_without_table` 285-290);
* `pQualified` 204-205: the qualifier `x` of `x.name` / `x.*` (`parser.py:795-803` → 274-282, 424-428);
* `pTableName` 93: the table name after `schema.` (`parser.py:305-313`: line 308 re-checks `node_0` instead of `node_2` — a copy/paste slip,
  so `FROM s.(b)` and `FROM s.select` are accepted);
* `pWithTable` 681: the name of a CTE (`parser.py:1405`);
* `pLateral` 802: the view name of LATERAL VIEW (`parser.py:1190`);
* entry `literal_expression` (`Entry.lean:45`, `parser.py:365`).
DDL / DML level (`MsqModel/Parse/Stmt.lean`): `configStringLoop` / `pConfigString` 38-43 (`parser.py:119-130`, the only site that
CONCATENATES popped sources: `≈` form only), `pColType` 56 (type name, `parser.py:1554`), `pNameList` 106 and `pForeignKey` 112 / 120
(constraint name, column lists, master table: `parser.py:1615-1625`), `pIndexCol` 132 (`parser.py:1664`), `pOptSrc` 148 (USING / COMMENT of
an index: `parser.py:1693-1694, 1713-1714, 1733-1734, 1752-1753`), `pNamedIndex` 167 (index name: `parser.py:1711, 1731, 1750`),
`defColLoop` 196 / 198 / 202 (CHARACTER SET, COLLATE, COMMENT: `parser.py:1811-1817`), `pDefCol` 216 (column name: `parser.py:1790`),
`optEqSrc` 312 in `createOpts` (eleven table options: `parser.py:1999-2038`), `pAlterExpr` 432-443 (CHANGE / RENAME COLUMN / DROP COLUMN
names: `parser.py:2168-2184`), `pUse` 478 (`parser.py:2243`), `pUpdateSetCol` 482 (`parser.py:2270`).
(`pPartitionItem` 72 and `pGenerated` 181 pop a source only to LOOK IT UP: nothing of it is stored.)
At all other sites the stored source is that of a token checked to carry the NAME or LITERAL mark (`getAliasName`, `pAlias`, `pFuncName`,
`pTableName` first part, `pQualified` second part, `pColumnName`, `pElement` literal) or a constant from a table.

## What is missing
* the hypothesis `NoReservedStored` of the `_partial` theorems is on the RESULTS and slightly stronger than "no reserved word at an
  exclusion site": it also excludes a back-quoted reserved word used as a name in lower case (`` `select` `` is stored as `select`) and
  lower-case config strings; a hypothesis on the token list itself would need an instrumented parser;
* the 84 entry points: value level only through the typed lemmas (no `km` on `Val`).
-/
open Lex PM Ast

namespace C09

/-! ## token level: `parse_statements` -/

/-- **C09.reserved_case_same_tree_upto**: `parse_statements` on two token lists that differ only in the letter case of reserved words: the
same error kind, or two statement lists that are EQUAL except that a stored reserved word / bracket text / config string may differ in letter
case (equal after `kmSt0`); every dialect, every fuel.  No hypothesis. -/
theorem reserved_case_same_tree_upto (d : Gen.D) (f : Nat) (ts ts' : List Tok) (h : KEL ts ts') :
    KEX (ceq (List.map kmSt0)) (pStatements d f ts) (pStatements d f ts') := pStatements_ke d f ts ts' h

/-- the loop of `parse_statements` from any accumulator -/
theorem reserved_case_same_tree_upto_loop (d : Gen.D) (f g : Nat) (acc acc' : List Stmt) (ts ts' : List Tok)
    (ha : acc.map kmSt0 = acc'.map kmSt0) (h : KEL ts ts') :
    KEX (ceq (List.map kmSt0)) (statementsLoop d f g acc ts) (statementsLoop d f g acc' ts') :=
  statementsLoop_ke d f g acc ts g acc' ts' rfl ha h

/-- one statement: same error kind, or related statements and `KEL` remaining cursors -/
theorem reserved_case_same_tree_upto_statement (d : Gen.D) (f : Nat) (ts ts' : List Tok) (h : KEL ts ts') :
    KER (ceq kmSt0) (pStatement d f ts) (pStatement d f ts') := pStatement_ke d f ts ts' h
/-- one SELECT statement (with or without WITH / UNION) -/
theorem reserved_case_select_upto (d : Gen.D) (f : Nat) (ts ts' : List Tok) (h : KEL ts ts') :
    KER (ceq kmQ) (pSelectStmt d f none ts) (pSelectStmt d f none ts') := pSelectStmt_ke d f none ts none ts' rfl h
/-- one expression (`parse_logical_or_level_expression`) -/
theorem reserved_case_expression_upto (d : Gen.D) (f : Nat) (ts ts' : List Tok) (h : KEL ts ts') :
    KER (ceq kmE) (pOr d f ts) (pOr d f ts') := pOr_ke d f ts ts' h

/-- accepted alike -/
theorem reserved_case_accept (d : Gen.D) (f : Nat) (ts ts' : List Tok) (h : KEL ts ts') (ss : List Stmt)
    (hs : pStatements d f ts = .ok ss) : ∃ ss', pStatements d f ts' = .ok ss' ∧ ss.map kmSt0 = ss'.map kmSt0 :=
  Rel.gex_accept (kex_eq ▸ reserved_case_same_tree_upto d f ts ts' h) hs
/-- rejected alike, with the same error kind -/
theorem reserved_case_reject (d : Gen.D) (f : Nat) (ts ts' : List Tok) (h : KEL ts ts') (e : Err)
    (hs : pStatements d f ts = .error e) : pStatements d f ts' = .error e :=
  Rel.gex_reject (kex_eq ▸ reserved_case_same_tree_upto d f ts ts' h) hs

/-- the exclusion, on the RESULT: no statement of the list stores a reserved word in another than upper case, the text of a bracket group
containing a lower-case letter, or a config string with one (what a parser site that stores an UNCHECKED token can put into the tree) -/
def NoReservedStored (ss : List Stmt) : Prop := ss.map kmSt0 = ss

/-- **C09.reserved_case_same_tree_partial** — the sharp form under the exclusion.  Full statement (FALSE, see the header and
`Sharp.full_statement_false`): `KEL ts ts' → pStatements d f ts = pStatements d f ts'`.  Proved: token lists that differ only in the letter
case of reserved words are accepted / rejected alike (`reserved_case_reject`), and when accepted with statement lists neither of which stores
a reserved word (…) at a site that stores an unchecked token, the statement lists are EQUAL. -/
theorem reserved_case_same_tree_partial (d : Gen.D) (f : Nat) (ts ts' : List Tok) (h : KEL ts ts') (ss ss' : List Stmt)
    (hs : pStatements d f ts = .ok ss) (hs' : pStatements d f ts' = .ok ss') (h1 : NoReservedStored ss) (h2 : NoReservedStored ss') :
    ss = ss' := by
  obtain ⟨ss2, e2, he⟩ := reserved_case_accept d f ts ts' h ss hs
  rw [hs'] at e2; cases e2
  rw [← h1, ← h2, he]
/-- the same as an equation between the two runs -/
theorem reserved_case_same_run_partial (d : Gen.D) (f : Nat) (ts ts' : List Tok) (h : KEL ts ts')
    (h1 : ∀ ss, pStatements d f ts = .ok ss → NoReservedStored ss) (h2 : ∀ ss, pStatements d f ts' = .ok ss → NoReservedStored ss) :
    pStatements d f ts = pStatements d f ts' := by
  cases hs : pStatements d f ts with
  | error e => rw [reserved_case_reject d f ts ts' h e hs]
  | ok ss =>
    obtain ⟨ss', e2, _⟩ := reserved_case_accept d f ts ts' h ss hs
    rw [e2, reserved_case_same_tree_partial d f ts ts' h ss ss' hs e2 (h1 ss hs) (h2 ss' e2)]
/-- one statement, one SELECT, one expression: equal trees under the exclusion -/
theorem reserved_case_same_statement_partial (d : Gen.D) (f : Nat) (ts ts' : List Tok) (h : KEL ts ts') (s s' : Stmt) (r r' : List Tok)
    (hs : pStatement d f ts = .ok (s, r)) (hs' : pStatement d f ts' = .ok (s', r')) (h1 : kmSt0 s = s) (h2 : kmSt0 s' = s') :
    s = s' ∧ KEL r r' := by
  have := reserved_case_same_tree_upto_statement d f ts ts' h
  rw [hs, hs'] at this; simp at this
  exact ⟨by rw [← h1, ← h2, this.1], this.2⟩
theorem reserved_case_same_select_partial (d : Gen.D) (f : Nat) (ts ts' : List Tok) (h : KEL ts ts') (q q' : Query) (r r' : List Tok)
    (hs : pSelectStmt d f none ts = .ok (q, r)) (hs' : pSelectStmt d f none ts' = .ok (q', r')) (h1 : kmQ q = q) (h2 : kmQ q' = q') :
    q = q' ∧ KEL r r' := by
  have := reserved_case_select_upto d f ts ts' h
  rw [hs, hs'] at this; simp at this
  exact ⟨by rw [← h1, ← h2, this.1], this.2⟩
theorem reserved_case_same_expression_partial (d : Gen.D) (f : Nat) (ts ts' : List Tok) (h : KEL ts ts') (e e' : Expr) (r r' : List Tok)
    (hs : pOr d f ts = .ok (e, r)) (hs' : pOr d f ts' = .ok (e', r')) (h1 : kmE e = e) (h2 : kmE e' = e') :
    e = e' ∧ KEL r r' := by
  have := reserved_case_expression_upto d f ts ts' h
  rw [hs, hs'] at this; simp at this
  exact ⟨by rw [← h1, ← h2, this.1], this.2⟩

theorem kind_kmSt0 (s : Stmt) : kind (kmSt0 s) = kind s := by cases s <;> rfl
/-- the same number of statements, of the same kinds, in the same order -/
theorem reserved_case_kinds (d : Gen.D) (f : Nat) (ts ts' : List Tok) (h : KEL ts ts') (ss ss' : List Stmt)
    (hs : pStatements d f ts = .ok ss) (hs' : pStatements d f ts' = .ok ss') : ss.map kind = ss'.map kind := by
  obtain ⟨ss2, h2, he⟩ := reserved_case_accept d f ts ts' h ss hs
  rw [hs'] at h2; cases h2
  have := congrArg (List.map kind) he
  simpa [List.map_map, Function.comp_def, kind_kmSt0] using this

/-! ## every entry point of `PM.entries` -/

/-- the outcome of an entry point up to the value: the same error kind, or success with case-equivalent remaining cursors -/
def OutcomeKE (a b : Except Err (Val × List Tok)) : Prop :=
  match a, b with
  | .ok (_, r), .ok (_, r') => KEL r r'
  | .error e, .error e' => e = e'
  | _, _ => False
@[simp, grind =] theorem outcomeK_ok_ok (v v' : Val) (r r' : List Tok) : OutcomeKE (.ok (v, r)) (.ok (v', r')) = KEL r r' := by simp [OutcomeKE]
@[simp, grind =] theorem outcomeK_err_err (e e' : Err) : OutcomeKE (.error e) (.error e') = (e = e') := by simp [OutcomeKE]
@[simp, grind =] theorem outcomeK_ok_err (p : Val × List Tok) (e : Err) : OutcomeKE (.ok p) (.error e) = False := by
  obtain ⟨v, r⟩ := p; simp [OutcomeKE]
@[simp, grind =] theorem outcomeK_err_ok (p : Val × List Tok) (e : Err) : OutcomeKE (.error e) (.ok p) = False := by
  obtain ⟨v, r⟩ := p; simp [OutcomeKE]

theorem outcomeKE_eq : OutcomeKE = Rel.Outcome (T := kcaseT) := by
  funext a b
  rcases a with e | ⟨v, r⟩ <;> rcases b with e' | ⟨v', r'⟩ <;> simp [kel_eq]
  exact Iff.rfl

/-- **C09.entries_reserved_case**: EVERY entry point `SQLParser.parse_*` of the model (`PM.entries`, 58 of them), on two token lists
that differ only in the letter case of words: accepted / rejected alike, the same error kind, case-equivalent remaining cursors. -/
theorem entries_reserved_case : ∀ e ∈ PM.entries, ∀ (d : Gen.D) (f : Nat) (ts ts' : List Tok), KEL ts ts' →
    OutcomeKE (e.2 d f ts) (e.2 d f ts') := by
  simp only [kel_eq, outcomeKE_eq]; exact Rel.entries_rel (T := kcaseT)

example : PM.entries.length = 58 := by decide

/-- **C09.entries2_reserved_case**: the same for the other 26 public entry points (`PM.entries2`, `MsqModel/Parse/Entry2.lean`; their
functions: `Lemmas/ParseRel8.lean`) -/
theorem entries2_reserved_case : ∀ e ∈ PM.entries2, ∀ (d : Gen.D) (f : Nat) (ts ts' : List Tok), KEL ts ts' →
    OutcomeKE (e.2 d f ts) (e.2 d f ts') := by
  simp only [kel_eq, outcomeKE_eq]; exact Rel.entries2_rel (T := kcaseT)

/-- **C09.entriesAll_reserved_case**: all 84 public parsing entry points -/
theorem entriesAll_reserved_case : ∀ e ∈ PM.entriesAll, ∀ (d : Gen.D) (f : Nat) (ts ts' : List Tok), KEL ts ts' →
    OutcomeKE (e.2 d f ts) (e.2 d f ts') := by
  intro e he
  simp only [entriesAll, List.mem_append] at he
  rcases he with he | he
  · exact entries_reserved_case e he
  · exact entries2_reserved_case e he
example : PM.entriesAll.length = 84 := by decide

/-! ## text level -/

theorem ke_size : ∀ t t' : Tok, KE t t' → Tok.size t = Tok.size t' := fun t t' h => Rel.tok_size (T := kcaseT) t t' h
/-- the fuel the entry points compute does not depend on letter case -/
theorem kel_sizeL : ∀ ts ts' : List Tok, KEL ts ts' → sizeL ts = sizeL ts' := fun ts ts' h => Rel.gel_sizeL (T := kcaseT) ts ts' (kel_eq ▸ h)
theorem kel_fuelFor (ts ts' : List Tok) (h : KEL ts ts') : fuelFor ts = fuelFor ts' := by simp [fuelFor, kel_sizeL ts ts' h]

/-- **C09.reserved_case_text**: the model of `SQLParser.parse_statements(text, dialect)` (dialect pre-pass, shipped lexer, the fuel
it computes itself) on two texts whose token lists differ only in the letter case of words: the same error kind, or statement lists
equal after `kmAll`. -/
theorem reserved_case_text (d : Gen.D) (text text' : List Char) (ts ts' : List Tok)
    (h1 : lex Gen.cfgS (dialectPre d text) = .ok ts) (h2 : lex Gen.cfgS (dialectPre d text') = .ok ts') (h : KEL ts ts') :
    KEX (ceq (List.map kmSt0)) (parseStatementsText d text) (parseStatementsText d text') := by
  simp only [parseStatementsText, h1, h2, kel_fuelFor ts ts' h]
  exact reserved_case_same_tree_upto d _ ts ts' h

/-- the outcome of a text-level entry point up to the value: the same error kind, or success with the same number of unconsumed tokens -/
def OutcomeTextKE (a b : Except Err (Val × Nat)) : Prop :=
  match a, b with
  | .ok (_, n), .ok (_, n') => n = n'
  | .error e, .error e' => e = e'
  | _, _ => False

theorem outcomeTextKE_eq : OutcomeTextKE = Rel.OutcomeText := by
  funext a b; rcases a with e | ⟨v, n⟩ <;> rcases b with e' | ⟨v', n'⟩ <;> simp [OutcomeTextKE, Rel.OutcomeText]

/-- **C09.parseText_reserved_case**: EVERY text-level entry point `SQLParser.parse_<entry>(text, dialect)` of the model: accepted /
rejected alike, the same error kind, the same number of unconsumed tokens. -/
theorem parseText_reserved_case (entry : String) (d : Gen.D) (text text' : List Char) (ts ts' : List Tok)
    (h1 : lex Gen.cfgS (dialectPre d text) = .ok ts) (h2 : lex Gen.cfgS (dialectPre d text') = .ok ts') (h : KEL ts ts') :
    OutcomeTextKE (parseText entry d text) (parseText entry d text') :=
  outcomeTextKE_eq ▸ Rel.parseText_rel (T := kcaseT) entry d text text' h1 h2 (kel_eq ▸ h)

/-- **C09.parseText2_reserved_case**: every one of the 84 public entry points `SQLParser.parse_<entry>(text, dialect)` -/
theorem parseText2_reserved_case (entry : String) (d : Gen.D) (text text' : List Char) (ts ts' : List Tok)
    (h1 : lex Gen.cfgS (dialectPre d text) = .ok ts) (h2 : lex Gen.cfgS (dialectPre d text') = .ok ts') (h : KEL ts ts') :
    OutcomeTextKE (parseText2 entry d text) (parseText2 entry d text') :=
  outcomeTextKE_eq ▸ Rel.parseText2_rel (T := kcaseT) entry d text text' h1 h2 (kel_eq ▸ h)
/-- … and called with a `TokenScanner` (no dialect pre-pass: the hypothesis is on the token lists of the texts themselves) -/
theorem parseScanner2_reserved_case (entry : String) (d : Gen.D) (text text' : List Char) (ts ts' : List Tok)
    (h1 : lex Gen.cfgS text = .ok ts) (h2 : lex Gen.cfgS text' = .ok ts') (h : KEL ts ts') :
    OutcomeTextKE (parseScanner2 entry d text) (parseScanner2 entry d text') :=
  outcomeTextKE_eq ▸ Rel.parseScanner2_rel (T := kcaseT) entry d text text' h1 h2 (kel_eq ▸ h)


/-- **C09.reserved_case_text_partial**: two texts whose token lists differ only in the letter case of reserved words (`KEL`; delivered by
`keyword_variants_ke` / `reserved_recase`) parse — with the dialect pre-pass, the shipped lexer and the fuel the entry computes itself — to
EQUAL statement lists, provided neither result stores a reserved word (…) taken from an unchecked token (`NoReservedStored`). -/
theorem reserved_case_text_partial (d : Gen.D) (text text' : List Char) (ts ts' : List Tok)
    (h1 : lex Gen.cfgS (dialectPre d text) = .ok ts) (h2 : lex Gen.cfgS (dialectPre d text') = .ok ts') (h : KEL ts ts') (ss ss' : List Stmt)
    (hs : parseStatementsText d text = .ok ss) (hs' : parseStatementsText d text' = .ok ss')
    (n1 : NoReservedStored ss) (n2 : NoReservedStored ss') : ss = ss' := by
  simp only [parseStatementsText, h1, h2] at hs hs'
  rw [← kel_fuelFor ts ts' h] at hs'
  exact reserved_case_same_tree_partial d _ ts ts' h ss ss' hs hs' n1 n2

/-! ## the link to the lexer half (`C09.keyword_case`) -/

/-- two spellings of one reserved word (decidable form) -/
def keWordB (s s' : List Char) : Bool := ceWordB s s' && reservedL.contains (Gen.pyUpper s)
theorem has0 (s : List Char) (m : Nat) : (Tok.single s 0).has m = false := by simp [Tok.has, Tok.marks]
theorem ke_of_keWordB (s s' : List Char) (h : keWordB s s' = true) : KE (.single s 0) (.single s' 0) := by
  simp only [keWordB, ceWordB, Bool.and_eq_true, beq_iff_eq] at h
  simp only [KE, true_and]
  exact .inr ⟨has0 s _, has0 s _, h.1.1.1, h.1.1.2, h.1.2, h.2⟩
/-- every letter-case variant of every UNMARKED keyword-table entry is a spelling of that reserved word … -/
theorem keyword_variants_reserved :
    (Gen.wordMarks.all fun e => e.2 != 0 || (C05.caseVariants e.1.toList).all fun v => keWordB e.1.toList v) = true := by
  decide +kernel
/-- the reserved words are the 24 unmarked entries of the table -/
example : reservedL.length = 24 ∧ (Gen.wordMarks.filter (·.2 != 0)).map (·.1) = ["TRUE", "FALSE", "NULL"] := by decide +kernel
/-- **C09.keyword_variants_ke** — composition with `C09.keyword_case`: every letter-case variant `v` of every reserved word (an entry of the
lexer's keyword table with no mark) lexes to ONE token, and that token is `KE`-related to the token of the upper-case spelling: the
hypothesis `KEL ts ts'` of the theorems above is what the lexer half delivers for the letter case of reserved words. -/
theorem keyword_variants_ke (e : String × Nat) (he : e ∈ Gen.wordMarks) (h0 : e.2 = 0) (v : List Char) (hv : v ∈ C05.caseVariants e.1.toList) :
    KEL [.single e.1.toList e.2] [.single v e.2] ∧ lexesTo (lex Gen.cfgS v) [.single v e.2] = true := by
  have h1 := keyword_variants_reserved
  simp only [List.all_eq_true] at h1
  have h1' := h1 e he
  simp only [h0, bne_self_eq_false, Bool.false_or, List.all_eq_true] at h1'
  refine ⟨?_, (keyword_variants_ce e he v hv).2⟩
  rw [h0]; simp [ke_of_keWordB _ _ (h1' v hv)]
/-- **C09.reserved_recase**: two spellings `v`, `w` of one reserved word (not beginning with `b B x X`: `BY` is the one reserved word this
in-context lemma leaves to `keyword_variants_ke`), in every delimiter context (`LexLink.Lx`): each lexes to ONE unmarked token, and the two
tokens are `KE`-related — so re-casing a reserved word in a text changes the token list within `KEL`, position by position. -/
theorem reserved_recase (e : String × Nat) (he : e ∈ Gen.wordMarks) (h0 : e.2 = 0) (v w : List Char)
    (hv : v ∈ C05.caseVariants e.1.toList) (hw : w ∈ C05.caseVariants e.1.toList) (iv : C05.isWord v = true) (iw : C05.isWord w = true) :
    LexLink.Lx v [.single v 0] ∧ LexLink.Lx w [.single w 0] ∧ KE (.single v 0) (.single w 0) := by
  have hk := keyword_case
  simp only [List.all_eq_true] at hk
  have hk' := hk e he
  simp only [caseOK, List.all_eq_true, Bool.and_eq_true, beq_iff_eq] at hk'
  have mv : C05.wordMark v = 0 := by rw [(hk' v hv).1, h0]
  have mw : C05.wordMark w = 0 := by rw [(hk' w hw).1, h0]
  have h1 := keyword_variants_reserved
  simp only [List.all_eq_true] at h1
  have h1' := h1 e he
  simp only [h0, bne_self_eq_false, Bool.false_or, List.all_eq_true] at h1'
  have kv := h1' v hv; have kw := h1' w hw
  simp only [keWordB, ceWordB, Bool.and_eq_true, beq_iff_eq] at kv kw
  refine ⟨mv ▸ LexLink.lx_word v iv, mw ▸ LexLink.lx_word w iw, ?_⟩
  simp only [KE, true_and]
  exact .inr ⟨has0 v _, has0 v _, kv.1.1.2, kw.1.1.2, kv.1.2.symm.trans kw.1.2, by rw [← kv.1.2]; exact kv.2⟩
example : ("WHERE", 0) ∈ Gen.wordMarks ∧ "wHeRe".toList ∈ C05.caseVariants "WHERE".toList ∧ "where".toList ∈ C05.caseVariants "WHERE".toList ∧
    C05.isWord "wHeRe".toList = true ∧ C05.isWord "where".toList = true := by decide +kernel

/-! ## non-vacuity (tests: `String` functions do not reduce in the kernel, so these are evaluated `#guard`s) -/
namespace Sharp

mutual
/-- decidable mirror of `KE` / `KEL` for the tests -/
def keB : Tok → Tok → Bool
  | .single s m, .single s' m' => m == m' && (s == s' || (!(Tok.has (.single s m) NAME) && !(Tok.has (.single s m) LITERAL) && keWordB s s'))
  | .group k cs m, .group k' cs' m' => k == k' && m == m' && kelB cs cs' && ((m &&& NAME == 0 && m &&& LITERAL == 0) || eqbL cs cs')
  | _, _ => false
def kelB : List Tok → List Tok → Bool
  | [], [] => true
  | t :: ts, t' :: ts' => keB t t' && kelB ts ts'
  | _, _ => false
end
def dump (ss : List Stmt) : String := toString (repr (ss.map Stmt.toVal))
/-- both texts lex, to `KEL`-related token lists that are NOT equal; `parse_statements` returns two statement lists that are literally EQUAL
and satisfy the exclusion hypothesis `NoReservedStored` (all compared through the canonical dump) -/
def pairEQ (d : Gen.D) (a b : String) : Bool :=
  let ta := lexS a; let tb := lexS b
  !ta.isEmpty && kelB ta tb && !(eqbL ta tb) &&
  match pStatements d (fuelFor ta) ta, pStatements d (fuelFor tb) tb with
  | .ok x, .ok y => !x.isEmpty && dump x == dump y && dump (x.map kmSt0) == dump x && dump (y.map kmSt0) == dump y
  | _, _ => false
/-- an excluded pair: `KEL`-related token lists, both accepted, trees DIFFERENT but equal after `kmSt0` -/
def pairUPTO (d : Gen.D) (a b : String) : Bool :=
  let ta := lexS a; let tb := lexS b
  kelB ta tb && !(eqbL ta tb) &&
  match pStatements d (fuelFor ta) ta, pStatements d (fuelFor tb) tb with
  | .ok x, .ok y => dump x != dump y && dump (x.map kmSt0) == dump (y.map kmSt0)
  | _, _ => false
/-- both rejected with the same error kind -/
def pairERR (d : Gen.D) (a b : String) : Bool :=
  let ta := lexS a; let tb := lexS b
  kelB ta tb && !(eqbL ta tb) &&
  match pStatements d (fuelFor ta) ta, pStatements d (fuelFor tb) tb with
  | .error x, .error y => x.show == y.show
  | _, _ => false

-- every statement kind in which a reserved word can occur at a keyword position
#guard pairEQ .MYSQL "SELECT a FROM t WHERE b IS NOT NULL" "select a from t where b IS nOt NULL"
#guard pairEQ .HIVE "SELECT a, b FROM t x LEFT OUTER JOIN u y ON x.a = y.a WHERE a BETWEEN 1 AND 2 OR c GROUP BY a HAVING a > 1 ORDER BY a DESC LIMIT 3"
                    "sElEcT a, b fRoM t x left outer join u y on x.a = y.a where a BETWEEN 1 and 2 or c group By a having a > 1 order bY a DESC limit 3"
#guard pairEQ .HIVE "SELECT a FROM t x INNER JOIN u RIGHT JOIN v FULL JOIN w" "select a from t x inner join u right join v full join w"
#guard pairEQ .MYSQL "SELECT a FROM t UNION ALL SELECT b FROM u EXCEPT SELECT c FROM v" "select a from t union ALL select b from u except select c from v"
#guard pairEQ .HIVE "SELECT a FROM t MINUS SELECT b FROM u INTERSECT SELECT c FROM v" "select a from t minus select b from u intersect select c from v"
#guard pairEQ .HIVE "SELECT a FROM t LATERAL VIEW OUTER explode(b) v AS c" "select a from t lateral view outer explode(b) v AS c"
#guard pairEQ .MYSQL "WITH w AS (SELECT a FROM t) SELECT a FROM w" "WITH w AS (select a from t) select a from w"
#guard pairEQ .MYSQL "SELECT (SELECT 1), CASE WHEN a AND NOT b THEN 1 ELSE 2 END FROM (SELECT 1 FROM t) x" "select (select 1), CASE WHEN a and not b THEN 1 ELSE 2 END from (select 1 from t) x"
#guard pairEQ .MYSQL "INSERT INTO t (a, b) VALUES ((SELECT 1 FROM u), 2)" "INSERT INTO t (a, b) VALUES ((select 1 from u), 2)"
#guard pairEQ .HIVE "INSERT OVERWRITE TABLE t PARTITION (a = 1) SELECT b FROM u" "INSERT OVERWRITE TABLE t PARTITION (a = 1) select b from u"
#guard pairEQ .MYSQL "UPDATE t SET a = 1 WHERE b = 2 ORDER BY a LIMIT 1" "UPDATE t SET a = 1 where b = 2 order by a limit 1"
#guard pairEQ .MYSQL "DELETE FROM t WHERE a = 1 AND b = 2" "DELETE from t where a = 1 and b = 2"
#guard pairEQ .MYSQL "CREATE TABLE IF NOT EXISTS t (a INT NOT NULL DEFAULT 1 ON UPDATE 2, PRIMARY KEY (a))" "CREATE TABLE IF not EXISTS t (a INT not NULL DEFAULT 1 on UPDATE 2, PRIMARY KEY (a))"
#guard pairEQ .MYSQL "CREATE TABLE t AS SELECT a FROM u" "CREATE TABLE t AS select a from u"
#guard pairEQ .MYSQL "ALTER TABLE t ADD a INT NOT NULL, ADD IF NOT EXISTS PARTITION (b = 1)" "ALTER TABLE t ADD a INT not NULL, ADD IF not EXISTS PARTITION (b = 1)"
#guard pairEQ .MYSQL "SHOW COLUMNS FROM t WHERE a = 1" "SHOW COLUMNS from t where a = 1"
#guard pairEQ .MYSQL "SELECT a FROM t; DELETE FROM u" "select a from t; DELETE from u"
#guard pairERR .MYSQL "SELECT a FROM t WHERE" "select a from t where"
#guard pairERR .MYSQL "SELECT a FROM t GROUP a" "select a from t group a"
-- (DROP TABLE, SET, ANALYZE, MSCK, USE, TRUNCATE, SHOW DATABASES / TABLES contain no reserved word at a keyword position)

/-- **the full statement is FALSE**: `SELECT from FROM t` / `SELECT FROM FROM t` — `KEL`-related token lists (the second token is the
reserved word `FROM` without a mark), both ACCEPTED (the element-level parser takes ANY token as a column name), different trees (column
`from` / `FROM`), equal after `kmSt0`.  The same at the other exclusion sites. -/
def full_statement_false : Bool := pairUPTO .MYSQL "SELECT from FROM t" "SELECT FROM FROM t"
#guard full_statement_false
#guard pairUPTO .MYSQL "SELECT where.a, on.* FROM t" "SELECT WHERE.a, ON.* FROM t"                       -- qualifier of a column / wildcard
#guard pairUPTO .MYSQL "SELECT a FROM s.select" "SELECT a FROM s.SELECT"                                  -- table name after `schema.` (parser.py:308)
#guard pairUPTO .MYSQL "WITH select AS (SELECT 1) SELECT 2" "WITH SELECT AS (SELECT 1) SELECT 2"          -- CTE name
#guard pairUPTO .HIVE "SELECT a FROM t LATERAL VIEW explode(b) from AS c" "SELECT a FROM t LATERAL VIEW explode(b) FROM AS c"   -- view name
#guard pairUPTO .MYSQL "USE select" "USE SELECT"
#guard pairUPTO .MYSQL "USE (select a)" "USE (SELECT a)"                                                   -- a bracket group stored as text
#guard pairUPTO .MYSQL "SET a.select = from" "SET a.SELECT = FROM"                                         -- config string: concatenation
#guard pairUPTO .MYSQL "UPDATE t SET where = 1" "UPDATE t SET WHERE = 1"
#guard pairUPTO .MYSQL "CREATE TABLE t (select from COMMENT where, KEY by (on)) ENGINE = or" "CREATE TABLE t (SELECT FROM COMMENT WHERE, KEY BY (ON)) ENGINE = OR"
#guard pairUPTO .MYSQL "ALTER TABLE t DROP COLUMN select, RENAME COLUMN from TO where" "ALTER TABLE t DROP COLUMN SELECT, RENAME COLUMN FROM TO WHERE"
end Sharp

end C09
