import MsqProofs.Lemmas.TRestG3
import MsqProofs.Props.C03R
/-!
# C03 / C02 / C01 — T-parse over the THIRD fragment: back-quoted aliases, decimal / hexadecimal / bit literals (token level)

Two restrictions of `TR.FragAny` are restrictions of the PROOF (not of the grammar, not of the printer) and are lifted here:
1. `TR.FragAny` asks that an alias is printed BARE (`TS.aliasOK`: `quoteName a = a`), so `AS \`q r\``, `AS \`select\`` (what `quoteName`
   back-quotes) are outside it;
2. it asks that a literal is an integer, a quoted string or a literal word (`TP.litMark`), so `2.5`, `x'1F'`, `0x1F`, `b'01'`, `0b01` are outside it.

The developments over `FragQ2` / `FragE4` with other leaves: namespaces `TQ3` (Lemmas/TQuery3*.lean), `TDM3` (Lemmas/TDmlR0–4.lean),
`TR3` (Lemmas/TRestG0–3.lean) have the clauses of `TQ2` / `TDM2` / `TR` over the four leaf definitions `litTok`, `litOK`, `aliasToks`,
`optAliasOK` of their own; `TQ2.FragQ2 ⊆ TQ3.FragQ3` with equal renderings (Lemmas/TQuery3I.lean).
* `TQ3.litTok v` : the marks of `TP.litTok`, and LITERAL ||| LITERAL_FLOAT for `digits.digits`, LITERAL ||| LITERAL_HEX for `0x…` / `x'…'` /
  `X'…'`, LITERAL ||| LITERAL_BIT for `0b…` / `b'…'` / `B'…'` (`TQ3.numMark`; the marks the lexer gives: `#guard`s below);
* `TQ3.aliasToks (some a) = [AS, qTok a]` (bare or back-quoted, as `quoteName` decides), `TQ3.aliasOK a` : the token is a NAME and reads back;
* `TQ3.FragQ3` / `FragE5` / `FragS5`, `TQ3.toksQ3` / `toksE5`: the definitions of `TQ2` over these leaves; `TDM3.FragStmt`, `TR3.FragRest`,
  `TR3.FragAny`, `TR3.toksAny`: the statement level over them.

The union with the other fragment: `C03.FragU3 d s = TR.FragAny d s || TR3.FragAny d s`, printer `toksU3` (`TR.toksAny` on `TR.FragAny`,
`TR3.toksAny` elsewhere).
`TR.FragAny d s → TR3.FragAny d s ∧ TR3.toksAny d s = TR.toksAny d s` is `TR.incAny` (Lemmas/TRest3.lean); `C03.tstatement_any` is obtained through it.
NOT proved: the TEXT level for the new
leaves (the lexer link for back-quoted aliases and the three literal shapes: the `#guard`s below evaluate it on samples).
-/
open Lex PM Ast TP TS

namespace C03
/-- **T-parse, every statement class, third fragment.** -/
theorem tstatement_any3 (d : Gen.D) (s : Stmt) (hs : TR3.FragAny d s = true) (rest : List Tok) (hr : TR3.stopsAny d rest = true) (fuel : Nat)
    (hfuel : 20 * sizeL (TR3.toksAny d s) + 16 ≤ fuel) : pStatement d fuel (TR3.toksAny d s ++ rest) = .ok (s, TR3.restAfter s rest) :=
  TR3.any_ok s hs rest hr fuel hfuel
/-- the fuel the public entry points compute from the token list dominates the bound -/
theorem tstatement_any3_entry_fuel (d : Gen.D) (s : Stmt) (hs : TR3.FragAny d s = true) (rest : List Tok) (hr : TR3.stopsAny d rest = true) :
    pStatement d (fuelFor (TR3.toksAny d s ++ rest)) (TR3.toksAny d s ++ rest) = .ok (s, TR3.restAfter s rest) :=
  tstatement_any3 d s hs rest hr _ (by simp only [fuelFor, sizeL_append]; omega)
theorem restAfter3_nil (s : Stmt) : TR3.restAfter s [] = [] := by cases s <;> rfl
/-- the continuations and what is left are those of the registered theorem -/
theorem stopsAny3_eq (d : Gen.D) (rest : List Tok) : TR3.stopsAny d rest = TR.stopsAny d rest := rfl
theorem restAfter3_eq (s : Stmt) (rest : List Tok) : TR3.restAfter s rest = TR.restAfter s rest := by cases s <;> rfl
/-- **scripts over the third fragment**: the token list `s₁ ; s₂ ; … ; sₙ [;]` parses, through `parse_statements`' loop with the entry
point's own fuel, to `[s₁, …, sₙ]` -/
theorem tscript_any3 (d : Gen.D) (ss : List Stmt) (hss : ∀ s ∈ ss, TR3.FragAny d s = true) (fin : Bool) :
    pStatements d (fuelFor (C10.script TDM.semiTok (ss.map (TR3.toksAny d)) fin)) (C10.script TDM.semiTok (ss.map (TR3.toksAny d)) fin) = .ok ss :=
  C10.script_of_rendering PM.isSemi_lexed d _ ss (fun s hs => by
    simpa [restAfter3_nil] using tstatement_any3_entry_fuel d s (hss s hs) [] rfl) fin

/-! ### the union with the registered fragment -/
/-- the registered union fragment, or the third one -/
def FragU3 (d : Gen.D) (s : Stmt) : Bool := TR.FragAny d s || TR3.FragAny d s
/-- the registered rendering on the registered fragment, the third one's elsewhere -/
def toksU3 (d : Gen.D) (s : Stmt) : List Tok := if TR.FragAny d s then TR.toksAny d s else TR3.toksAny d s
/-- **`TR.FragAny ⊆ FragU3`** with the same rendering: `C03.tstatement_any` is an instance of `C03.tstatement_union3` -/
theorem fragAny_sub_fragU3 (d : Gen.D) (s : Stmt) (hs : TR.FragAny d s = true) : FragU3 d s = true ∧ toksU3 d s = TR.toksAny d s := by
  simp [FragU3, toksU3, hs]
/-- the third fragment is in the union; outside the registered fragment with its own rendering -/
theorem fragAny3_sub_fragU3 (d : Gen.D) (s : Stmt) (hs : TR3.FragAny d s = true) :
    FragU3 d s = true ∧ (TR.FragAny d s = false → toksU3 d s = TR3.toksAny d s) := by
  refine ⟨by simp [FragU3, hs], fun h => by simp [toksU3, h]⟩
/-- **T-parse over the union of the registered and the third fragment** -/
theorem tstatement_union3 (d : Gen.D) (s : Stmt) (hs : FragU3 d s = true) (rest : List Tok) (hr : TR.stopsAny d rest = true) (fuel : Nat)
    (hfuel : 20 * sizeL (toksU3 d s) + 16 ≤ fuel) : pStatement d fuel (toksU3 d s ++ rest) = .ok (s, TR.restAfter s rest) := by
  by_cases h1 : TR.FragAny d s = true
  · simp only [toksU3, h1, if_true] at hfuel ⊢
    exact C03.tstatement_any d s h1 rest hr fuel hfuel
  · have h3 : TR3.FragAny d s = true := by simpa [FragU3, h1] using hs
    simp only [toksU3, h1, Bool.false_eq_true, if_false] at hfuel ⊢
    rw [← restAfter3_eq]
    exact tstatement_any3 d s h3 rest hr fuel hfuel
end C03

namespace C01
/-- **print / parse round trip of any statement of the third fragment, token level** -/
theorem statement_round_trip_tokens_any3 (d : Gen.D) (s : Stmt) (hs : TR3.FragAny d s = true) (fuel : Nat)
    (hfuel : 20 * sizeL (TR3.toksAny d s) + 16 ≤ fuel) :
    pStatement d fuel (TR3.toksAny d s) = .ok (s, []) ∧
    ∀ p r, pStatement d fuel (TR3.toksAny d s) = .ok (p, r) → TR3.toksAny d p = TR3.toksAny d s ∧ r = [] :=
  C01.read_back_only (TR3.toksAny d) (by simpa [C03.restAfter3_nil] using C03.tstatement_any3 d s hs [] rfl fuel hfuel)
end C01

/-! ### non-vacuity (compiled evaluation: `String` operations do not reduce in the kernel) -/
namespace C03.Third
open C03.Rest
/-- the token-level printer of the third fragment agrees with the LEXER on the printer's text, and the statement is in the third fragment -/
def agrees3 (d : Gen.D) (s : Stmt) : Bool :=
  match PR.prStmt d s with
  | .ok x => eqbL (lexed x) (TR3.toksAny d s) && TR3.FragAny d s
  | .error _ => false
/-- the conclusion of `tstatement_any3`, evaluated -/
def roundTrips3 (d : Gen.D) (s : Stmt) : Bool :=
  match pStatement d (20 * sizeL (TR3.toksAny d s) + 16) (TR3.toksAny d s ++ lexed "; SELECT 1") with
  | .ok (p, r) => Drv.showVal p.toVal == Drv.showVal s.toVal && eqbL r (TR3.restAfter s (lexed "; SELECT 1"))
  | _ => false
def sel (cols : List (Expr × Option String)) (fr : Option (List FromTable)) (wh : Option Expr := none) : Select :=
  .mk (some []) false cols fr [] [] wh none none none none none none none
/-- `SELECT 2.5 AS \`q r\`, x'1F' AS \`select\`, b'01' AS al, 0x1F, 0b01 FROM \`t\` AS \`z z\` WHERE \`a\` < 00.50` -/
def g1 : Stmt := .select (.single (sel [(lit "2.5", some "q r"), (lit "x'1F'", some "select"), (lit "b'01'", some "al"), (lit "0x1F", none), (lit "0b01", none)]
  (some [.mk (.table none "t") (some "z z")]) (some (.compare "LT" (col "a") (lit "00.50")))))
/-- a derived table with a back-quoted alias, `X'…'` / `B'…'` -/
def g2 : Stmt := .select (.single (sel [(.wildcard none, none)]
  (some [.mk (.sub (.single (sel [(lit "X'ab'", some "from"), (lit "B'1'", some "a b")] none))) (some "q 2")])))
def g3 : Stmt := .update (some []) (tn "t") [("a", lit "2.5"), ("b", .compute (col "b") "PLUS" (lit "x'0F'"))] (some (.compare "EQ" (col "c") (lit "b'01'"))) none none
def g4 : Stmt := .delete (tn "t") (some (.kw .in_ false (col "a") (.subValue [lit "1.5", lit "0x1F", lit "3"]))) none none
def g5 : Stmt := .insertValues (C03.Dml.ih "INSERT_INTO" (tn "t")) [[lit "2.5", lit "b'0'"], [lit "0.0", lit "x''"]]
def g6 : Stmt := .createTableAs (tn "t") true (match g1 with | .select q => q | _ => qa)
def g7 : Stmt := .insertSelect (C03.Dml.ih "INSERT_INTO" (tn "t")) (match g2 with | .select q => q | _ => qa)
def g8 : Stmt := .showColumns [.mk (.table none "t") (some "my t")] (some (eqp "a" "1.5"))
#guard [g1, g2, g3, g4, g5, g6, g7, g8].all (agrees3 .MYSQL) && [g1, g2, g3, g4, g5, g6, g7, g8].all (agrees3 .HIVE) &&
  [g1, g2, g3, g4, g5, g6, g7, g8].all (roundTrips3 .MYSQL) && [g1, g2, g3, g4, g5, g6, g7, g8].all (roundTrips3 .HIVE) && [g1, g3, g8].all (roundTrips3 .ORACLE)
-- none of them is in the registered fragment
#guard [g1, g2, g3, g4, g5, g6, g7, g8].all (fun s => !TR.FragAny .MYSQL s && !TR.FragAny .HIVE s && FragU3 .MYSQL s)
-- the registered samples are in the third fragment too, with the same rendering (the inclusion, evaluated)
#guard [a1, a3, dr1, dr2, tr1, ms1, us1, us2, st1, st2, st3, an2, sc1, sc2, ca1, ca2, ca3, .showDatabases, .showTables, l1, l2, l3, l4, l5, l6, .select q2w1,
    .select q2w2, .select q2w4, C03.Dml.d1, C03.Dml.u1, C03.Dml.i1, C03.Dml.w1, .createTable C18.t2].all
  (fun s => TR.FragAny .MYSQL s == TR3.FragAny .MYSQL s && eqbL (TR.toksAny .MYSQL s) (TR3.toksAny .MYSQL s) &&
            TR.FragAny .HIVE s == TR3.FragAny .HIVE s && eqbL (TR.toksAny .HIVE s) (TR3.toksAny .HIVE s))
-- the literal shapes: what the lexer gives is `TQ3.litTok`; not a literal: `0X1F` (the lexer reads a NAME), `1.2.3`, `x'1G'`, `1e5`
#guard ["2.5", "00.50", "5.", "0x1F", "x'1F'", "X'1f'", "x''", "0b01", "b'01'", "B'01'", "b''", "12", "'a'", "\"b\"", "NULL", "true"].all
    (fun v => eqbL (lexed v) [TQ3.litTok v] && TQ3.litOK .MYSQL v && TQ3.litOK .HIVE v) &&
  ["0X1F", "0B01", "1.2.3", "x'1G'", "b'12'", "1e5", ".5", "-1", "a"].all (fun v => !TQ3.litOK .MYSQL v)
-- aliases: bare, back-quoted because of a blank / a keyword / a dot (a back-quote inside is fine at token level: no lexer produces that
-- token, the text level has to exclude it)
#guard ["al", "q r", "select", "a.b", "é1", "From"].all TQ3.aliasOK && !TS.aliasOK "q r" && !TS.aliasOK "select"
-- still outside: a WITH clause inside a sub-query, `EXISTS (…) = 1`, SUBSTRING(…)
#guard !TR3.FragAny .MYSQL (.select (.single (sel [(.func none "SUBSTRING" [col "a", lit "1"], none)] none)))

/-! an instance of the theorem (hypotheses decided by the kernel): a script of the third fragment -/
def k6 : Stmt := .select (.single (sel [(lit "2.5", some "q r"), (lit "x'1F'", some "select")] (some [.mk (.table none "t") (some "z z")])))
def k7 : Stmt := .delete (tn "t") (some (.compare "EQ" (col "c") (lit "b'01'"))) none none
set_option maxRecDepth 100000 in
example : pStatements .HIVE (fuelFor (C10.script TDM.semiTok ([k6, k7, k2].map (TR3.toksAny .HIVE)) true))
    (C10.script TDM.semiTok ([k6, k7, k2].map (TR3.toksAny .HIVE)) true) = .ok [k6, k7, k2] :=
  tscript_any3 .HIVE _ (by decide) true
end C03.Third
