import MsqModel.Analyze.Lineage
import MsqModel.Analyze.LineageSpec
import MsqModel.Analyze.LineageFlow
import MsqProofs.Props.C15
import MsqProofs.Lemmas.LineageStore
/-!
# C16 — column lineage maps each output column to exactly its base-table sources
-/
namespace C16
open Ast AN LN Spec

/-! ## the witnesses' catalogue: `t (a, b, c)`, `u (a, d)`, `s.v (x, y)` -/
def cat : Cat := [("t", mkTable none "t" ["a", "b", "c"]), ("u", mkTable none "u" ["a", "d"]), ("s.v", mkTable (some "s") "v" ["x", "y"])]

def sel (cols : List (Expr × Option String)) (fr : List FromTable) : Select :=
  .mk (some []) false cols (some fr) [] [] none none none none none none none none
def tbl (n : String) (a : Option String := none) : FromTable := .mk (.table none n) a

/-- observable outcome of the model: error kind, or (name, position, sources) per output column -/
def run (q : Query) : Except Err (List (String × Int × List (Option String × String × Option String))) :=
  match selectLineage cat (fuelFor q) q {} with
  | .error e => .error e
  | .ok (l, _) => .ok (l.allColumns.map fun (c, s) => (c.name, c.idx, s.map fun x => (x.schema, x.table, x.col)))

def isErr (e : Err) : Except Err α → Bool
  | .error x => x == e
  | .ok _ => false
def isOk [BEq α] (v : α) : Except Err α → Bool
  | .ok x => x == v
  | .error _ => false

/-! ### repaired defects: the model, synced with the repaired code, on the former witnesses -/

/-- F-C16-1 (fixed by 8d14f08): `SELECT a FROM t` — the source of a table without schema carries no schema -/
theorem fixed_1 : isOk [("a", 1, [(none, "t", some "a")])] (run (.single (sel [(.column none "a", none)] [tbl "t"]))) = true := by
  decide +kernel
/-- F-C16-2 (fixed by b2a1289): `WITH w AS (SELECT a FROM t) SELECT a FROM w` -/
theorem fixed_2 : isOk [("a", 1, [(none, "t", some "a")])] (run (.single (.mk (some [.mk "w" (.single (sel [(.column none "a", none)] [tbl "t"]))]) false
    [(.column none "a", none)] (some [tbl "w"]) [] [] none none none none none none none none))) = true := by
  decide +kernel
/-- F-C16-3 (fixed by 4d1b950): `SELECT COUNT(1) AS n FROM t` depends on the table `t` as a whole -/
theorem fixed_3 : isOk [("n", 1, [(none, "t", none)])] (run (.single (sel [(.agg "COUNT" [.literal "1"] false, some "n")] [tbl "t"]))) = true := by
  decide +kernel
/-- F-C16-4 (fixed by c4b6f51): `SELECT t.a, u.a FROM t, u` — each entry with its own position and sources -/
theorem fixed_4 : isOk [("a", 1, [(none, "t", some "a")]), ("a", 2, [(none, "u", some "a")])]
    (run (.single (sel [(.column (some "t") "a", none), (.column (some "u") "a", none)] [tbl "t", tbl "u"]))) = true := by
  decide +kernel
/-- F-C16-9 (fixed by 8a4415a): `SELECT t.zz FROM t` is an analysis error -/
theorem fixed_9 : isErr .analyzer (run (.single (sel [(.column (some "t") "zz", none)] [tbl "t"]))) = true := by
  decide +kernel
/-- F-C16-10 (fixed by 6137bf1): `SELECT zz.a FROM t` is an analysis error -/
theorem fixed_10 : isErr .analyzer (run (.single (sel [(.column (some "zz") "a", none)] [tbl "t"]))) = true := by
  decide +kernel
/-- F-C16-11 (fixed by 9d2d3e4): `SELECT CURRENT_DATE, a FROM t` — nothing flows into the variable -/
theorem fixed_11 : isOk [("CURRENT_DATE", 1, []), ("a", 2, [(none, "t", some "a")])]
    (run (.single (sel [(.column none "CURRENT_DATE", none), (.column none "a", none)] [tbl "t"]))) = true := by
  decide +kernel
/-- F-C16-13 (fixed by eca5612): `SELECT COUNT(*) AS n FROM t, u` reads every column of both tables -/
theorem fixed_13 : isOk [("n", 1, [(none, "t", some "a"), (none, "t", some "b"), (none, "t", some "c"), (none, "u", some "a"), (none, "u", some "d")])]
    (run (.single (sel [(.agg "COUNT" [.wildcard none] false, some "n")] [tbl "t", tbl "u"]))) = true := by
  decide +kernel

/-! ### open findings -/

/-- F-C16-5: `SELECT (SELECT d FROM u) AS sq, a FROM t` — nothing flows into `sq` -/
theorem witness_5 : isOk [("sq", 1, []), ("a", 2, [(none, "t", some "a")])]
    (run (.single (sel [(.subQuery (.single (sel [(.column none "d", none)] [tbl "u"])), some "sq"), (.column none "a", none)] [tbl "t"]))) = true := by
  decide +kernel
/-- F-C16-6: `SELECT x.* FROM t x` is refused: the expanded references carry the table's name, which is no alias of the level -/
theorem witness_6 : isErr .analyzer (run (.single (sel [(.wildcard (some "x"), none)] [tbl "t" (some "x")]))) = true := by
  decide +kernel
/-- F-C16-7: `SELECT b FROM t UNION SELECT a FROM u` is refused as ambiguous -/
theorem witness_7 : isErr .analyzer (run (.union (some []) (sel [(.column none "b", none)] [tbl "t"])
    [("UNION", sel [(.column none "a", none)] [tbl "u"])])) = true := by
  decide +kernel
/-- F-C16-8: `SELECT o.v1, u.d FROM (SELECT u.a AS v1 FROM (SELECT a FROM t) u) o, u` — the base table `u` is answered from the
stale entry of the inner derived table `u`, which has no column `d` -/
theorem witness_8 : isErr .analyzer (run (.single (sel [(.column (some "o") "v1", none), (.column (some "u") "d", none)]
    [.mk (.sub (.single (sel [(.column (some "u") "a", some "v1")] [.mk (.sub (.single (sel [(.column none "a", none)] [tbl "t"]))) (some "u")]))) (some "o"),
     tbl "u"]))) = true := by
  decide +kernel
/-- F-C16-12: `SELECT 1 AS one FROM (SELECT a FROM t)` raises `AttributeError` -/
theorem witness_12 : isErr (.py .AttributeError) (run (.single (sel [(.literal "1", some "one")]
    [.mk (.sub (.single (sel [(.column none "a", none)] [tbl "t"]))) none]))) = true := by
  decide +kernel

/-! non-vacuity: the model on queries that work — joins with qualified references, a derived table, `*` -/
example : isOk [("a", 1, [(none, "t", some "a")]), ("s", 2, [(none, "t", some "b"), (none, "u", some "d")])]
    (run (.single (sel [(.column (some "x") "a", none), (.compute (.column (some "x") "b") "PLUS" (.column (some "y") "d"), some "s")]
      [tbl "t" (some "x"), tbl "u" (some "y")]))) = true := by decide +kernel
example : isOk [("k", 1, [(none, "t", some "a"), (none, "t", some "b")])]
    (run (.single (sel [(.column (some "q") "k", none)]
      [.mk (.sub (.single (sel [(.compute (.column none "a") "PLUS" (.column none "b"), some "k")] [tbl "t"]))) (some "q")]))) = true := by decide +kernel
example : isOk [("x", 1, [(some "s", "v", some "x")]), ("y", 2, [(some "s", "v", some "y")])]
    (run (.single (sel [(.wildcard none, none)] [.mk (.table (some "s") "v") none]))) = true := by decide +kernel

/-! ## `lineage = Flow` on the fragment: one SELECT over base tables, qualified references, no wildcard

This section works over the Option-valued specification of `MsqModel/Analyze/LineageSpec.lean` (`Spec.flowRef`, `flowItems` over `scopeRel`) and
ends in `lineage_eq_flow_partial`; the general development (`Lemmas/Lineage*.lean`, `Props/C16b.lean`, `C16c.lean`) works over `Flow` of
`LineageFlow.lean` and ends in `lineage_eq_flow`.  The theorem here is NOT an instance of the general one: `Flow` answers `.outside` for a level
that names a table the catalogue lacks or binds a name twice, even if no reference touches it (`SELECT t.a FROM t, zz`, `SELECT t.a FROM t, t`),
while `lineage_eq_flow_partial` only asks that the references resolve. -/

/-- the stores of WITH tables and derived tables are empty (the fragment has neither) -/
def Inv (st : St) : Prop := st.subq = [] ∧ st.withT = []

theorem getTableLineage_base (cat : Cat) (t : StdTable) (c : CreateTable) (st : St) (hs : Inv st)
    (hc : catLookup cat t = some c) : ∃ st', getTableLineage cat t st = .ok (byCreateTable c, st') ∧ Inv st' := by
  unfold catLookup at hc
  unfold getTableLineage getStatement
  simp only [hs.1, hs.2, dictGet?, List.find?]
  cases hf : cat.find? (·.1 == PM.unifyName (StdTable.source t)) with
  | none => simp [hf] at hc
  | some p =>
    obtain ⟨k, c'⟩ := p
    simp [hf] at hc
    subst hc
    refine ⟨_, rfl, ?_⟩
    unfold Inv
    split <;> simp [hs.1, hs.2]

theorem analyzeQuoteColumn_ok (cat : Cat) (tn : List (String × StdTable)) (t n : String) (hn : (n != "*") = true) (st : St) (hs : Inv st)
    (src : List SrcCol) (h : flowRef (scopeRel cat tn) ⟨some t, some n, none⟩ = some src) :
    ∃ st', analyzeQuoteColumn cat tn ⟨some t, some n, none⟩ st = .ok (src, st') ∧ Inv st' := by
  simp only [flowRef, scopeRel] at h
  cases htn : dictGet? tn t with
  | none => simp [htn] at h
  | some std =>
    simp only [htn, Option.bind_some] at h
    cases hc : catLookup cat std with
    | none => simp [hc] at h
    | some c =>
      simp only [hc, Option.map_some, Option.bind_some] at h
      obtain ⟨st', h1, h2⟩ := getTableLineage_base cat std c st hs hc
      refine ⟨st', ?_, h2⟩
      have hmem : n ∈ c.columns.map (·.name) := by
        have e : baseRel c = (c.columns.map (·.name)).map fun k => (k, [(⟨c.table.schema, c.table.name, some k⟩ : SrcCol)]) := by
          simp [baseRel]
        rw [e, dictGet_map_const] at h
        by_cases hne : n ∈ c.columns.map (·.name)
        · exact hne
        · simp [hne] at h
      have hhas : (byCreateTable c).hasColumn n = true := by
        simp only [Lineage.hasColumn, byCreate_names]
        simp [hmem]
      simp only [analyzeQuoteColumn, htn, h1, bind, Except.bind, hhas, Bool.not_true, Bool.false_eq_true, if_false,
        Lineage.srcByName, hn, if_true, byCreate_srcOf, h, pure, Except.pure]

theorem analyzeQuoteColumns_ok (cat : Cat) (tn : List (String × StdTable)) :
    ∀ (qs : List QCol) (st : St), Inv st →
      (∀ r ∈ qs, r.idx = none ∧ r.name ≠ some "*") →
      ∀ src, flowRefs (scopeRel cat tn) qs = some src →
      ∃ st', analyzeQuoteColumns cat tn qs st = .ok (src, st') ∧ Inv st'
  | [], st, hs, _, src, h => by
    simp [flowRefs] at h; subst h
    exact ⟨st, by simp [analyzeQuoteColumns], hs⟩
  | r :: rest, st, hs, hq, src, h => by
    simp only [flowRefs, bind, Option.bind] at h
    cases h1 : flowRef (scopeRel cat tn) r with
    | none => simp [h1] at h
    | some a =>
      cases h2 : flowRefs (scopeRel cat tn) rest with
      | none => simp [h1, h2] at h
      | some b =>
        simp [h1, h2] at h
        subst h
        obtain ⟨t, n, ix⟩ := r
        have hr := hq ⟨t, n, ix⟩ (by simp)
        simp at hr
        obtain ⟨hix, hstar⟩ := hr
        subst hix
        cases t with
        | none => simp [flowRef] at h1
        | some t =>
          cases n with
          | none => simp [flowRef] at h1
          | some n =>
            have hn : (n != "*") = true := by simpa using hstar
            obtain ⟨st1, e1, s1⟩ := analyzeQuoteColumn_ok cat tn t n hn st hs a h1
            obtain ⟨st2, e2, s2⟩ := analyzeQuoteColumns_ok cat tn rest st1 s1 (fun x hx => hq x (by simp [hx])) b h2
            exact ⟨st2, by simp [analyzeQuoteColumns, e1, e2, bind, Except.bind, pure, Except.pure], s2⟩

/-- what flows into each output column, given the references each one reads -/
def flowCurOpt (scope : String → Option Rel) : List (SCol × List QCol) → Option (List (SCol × List SrcCol))
  | [] => some []
  | (c, qs) :: r => do
    let s ← flowRefs scope qs
    let b ← flowCurOpt scope r
    pure ((c, s) :: b)

theorem sourcesLoop_ok (cat : Cat) (tn : List (String × StdTable)) :
    ∀ (cur : List (SCol × List QCol)) (st : St), Inv st →
      (∀ p ∈ cur, ∀ r ∈ p.2, r.idx = none ∧ r.name ≠ some "*") →
      ∀ data, flowCurOpt (scopeRel cat tn) cur = some data →
      ∃ st', sourcesLoop cat tn [] cur st = .ok (data, st') ∧ Inv st' 
  | [], st, hs, _, data, h => by
    simp [flowCurOpt] at h; subst h
    exact ⟨st, by simp [sourcesLoop], hs⟩
  | (c, qs) :: r, st, hs, hq, data, h => by
    simp only [flowCurOpt, bind, Option.bind] at h
    cases h1 : flowRefs (scopeRel cat tn) qs with
    | none => simp [h1] at h
    | some a =>
      cases h2 : flowCurOpt (scopeRel cat tn) r with
      | none => simp [h1, h2] at h
      | some b =>
        simp [h1, h2] at h
        subst h
        obtain ⟨st1, e1, s1⟩ := analyzeQuoteColumns_ok cat tn qs st hs (fun x hx => hq (c, qs) (by simp) x hx) a h1
        obtain ⟨st2, e2, s2⟩ := sourcesLoop_ok cat tn r st1 s1 (fun p hp => hq p (by simp [hp])) b h2
        exact ⟨st2, by simp [sourcesLoop, LineageL.mapLateral_nil, e1, e2, bind, Except.bind, pure, Except.pure], s2⟩

/-- the select items of the fragment: an aliased expression, or a qualified column -/
def FragItem : Expr × Option String → Prop
  | (_, some _) => True
  | (.column (some _) _, none) => True
  | _ => False

theorem FragItem.named : ∀ {it : Expr × Option String}, FragItem it → (itemName it).isSome = true
  | (_, some _), _ => rfl
  | (.column (some _) _, none), _ => rfl

theorem currentLevelSingle_ok (cat : Cat) (tn : List (String × StdTable)) (items : List (Expr × Option String)) (idx : Nat) (st : St)
    (h : ∀ it ∈ items, FragItem it) : currentLevelSingle cat tn items idx st = .ok (Flow.curOf items idx, st) :=
  LineageL.currentLevelSingle_named cat tn items idx st fun it hit => (h it hit).named

theorem flowCurOpt_of_items (scope : String → Option Rel) :
    ∀ (items : List (Expr × Option String)) (idx : Nat) (out : List (String × List SrcCol)),
      flowItems scope items = some out → flowCurOpt scope (Flow.curOf items idx) = some (number out idx)
  | [], idx, out, h => by simp [flowItems] at h; subst h; simp [Flow.curOf, flowCurOpt, number]
  | it :: r, idx, out, h => by
    simp only [flowItems, bind, Option.bind] at h
    cases h0 : itemName it with
    | none => simp [h0] at h
    | some n =>
      cases h1 : flowRefs scope (colsE it.1) with
      | none => simp [h0, h1] at h
      | some a =>
        cases h2 : flowItems scope r with
        | none => simp [h0, h1, h2] at h
        | some b =>
          simp [h0, h1, h2] at h
          subst h
          have ih := flowCurOpt_of_items scope r (idx + 1) b h2
          simp [Flow.curOf, flowCurOpt, number, h0, h1, ih, bind, Option.bind]

def isBase : FromTable → Bool
  | .mk (.table _ _) _ => true
  | .mk (.sub _) _ => false

theorem subQueries_base : ∀ (fts : List FromTable) (acc : List (String × Query)),
    (∀ ft ∈ fts, isBase ft = true) → subQueries fts acc = acc
  | [], _, _ => rfl
  | .mk (.table s n) a :: r, acc, h => by
    simp [subQueries, subQueries_base r acc (fun ft hft => h ft (by simp [hft]))]
  | .mk (.sub q) a :: r, acc, h => by
    have := h (.mk (.sub q) a) (by simp)
    simp [isBase] at this

theorem curOf_mem : ∀ (items : List (Expr × Option String)) (idx : Nat) (p : SCol × List QCol),
    p ∈ Flow.curOf items idx → ∃ it ∈ items, p.2 = colsE it.1
  | [], _, p, h => by simp [Flow.curOf] at h
  | it :: r, idx, p, h => by
    simp only [Flow.curOf, List.mem_cons] at h
    rcases h with h | h
    · exact ⟨it, by simp, by rw [h]⟩
    · obtain ⟨it', h1, h2⟩ := curOf_mem r (idx + 1) p h
      exact ⟨it', by simp [h1], h2⟩

/-- **C16 on the fragment (partial).**  One SELECT without WITH tables and LATERAL VIEW whose FROM / JOIN items are base
tables, whose select items are aliased expressions or qualified columns, and whose references are all resolvable
(`flowItems … = some out`: every reference `t.c` names a table in scope that the catalogue knows and a column of it):
the lineage object the model builds is exactly the one built from the specified flow — output columns in order, numbered
from 1, each with exactly the base columns reaching it (an absent schema stays absent: F-C16-1 is fixed).
Everything outside the hypotheses is covered by the correspondence and the oracle only. -/
theorem lineage_eq_flow_partial (cat : Cat) (dist : Bool) (cols : List (Expr × Option String)) (fr : List FromTable) (js : List Join)
    (wh : Option Expr) (gb : Option GroupBy) (hv : Option Expr) (ob sb : Option (List OrderItem)) (db cb : Option (List Expr))
    (lm : Option (Int × Option Int)) (f : Nat)
    (hbase : ∀ ft ∈ fr ++ js.map (fun | .mk _ t _ => t), isBase ft = true)
    (tn : List (String × StdTable)) (htn : tableNames (fr ++ js.map (fun | .mk _ t _ => t)) [] = .ok tn)
    (hfrag : ∀ it ∈ cols, FragItem it)
    (hq : ∀ it ∈ cols, ∀ r ∈ colsE it.1, r.idx = none ∧ r.name ≠ some "*")
    (out : List (String × List SrcCol)) (hflow : flowItems (scopeRel cat tn) cols = some out) :
    ∃ st', selectLineage cat (f + 2) (.single (.mk (some []) dist cols (some fr) [] js wh gb hv ob sb db cb lm)) {}
      = .ok (mkLineage (number out 1) Lineage.empty, st') := by
  have hcur := flowCurOpt_of_items (scopeRel cat tn) cols 1 out hflow
  obtain ⟨st', h1, _⟩ := sourcesLoop_ok cat tn (Flow.curOf cols 1) {} ⟨rfl, rfl⟩
    (fun p hp r hr => by
      obtain ⟨it, hit, e⟩ := curOf_mem cols 1 p hp
      exact hq it hit r (e ▸ hr))
    (number out 1) hcur
  refine ⟨st', ?_⟩
  have hfts : levelFromTables (.single (.mk (some []) dist cols (some fr) [] js wh gb hv ob sb db cb lm))
      = fr ++ js.map (fun | .mk _ t _ => t) := by
    simp [levelFromTables, branches, fromTablesOfSelect]
    intro a _; cases a; rfl
  simp only [selectLineage, Query.withs, withLineages, hfts, subQueries_base _ [] hbase, subQueryLineages, htn,
    lateralColumns, lateralSingle, Select.laterals, List.foldlM_nil, dictOfPairs, List.foldl_nil, currentLevel, Select.cols,
    currentLevelSingle_ok cat tn cols 1 _ hfrag, h1, bind, Except.bind, pure, Except.pure]

/-- **output columns in order**: the lineage built from the specified flow lists the specified names, in order -/
theorem flow_names (out : List (String × List SrcCol)) : (mkLineage (number out 1) Lineage.empty).names = out.map (·.1) := by
  rw [mk_names, LineageL.number_names]; simp [Lineage.empty]

/-! non-vacuity of the fragment theorem: `SELECT x.a, x.b + y.d AS s FROM t x JOIN u y ON x.a = y.a` satisfies every
hypothesis, and its specified flow is `a ← t.a`, `s ← t.b, u.d` -/
def exTn : List (String × StdTable) := [("x", (none, "t")), ("y", (none, "u"))]
def exCols : List (Expr × Option String) :=
  [(.column (some "x") "a", none), (.compute (.column (some "x") "b") "PLUS" (.column (some "y") "d"), some "s")]
example : tableNames ([tbl "t" (some "x")] ++ [Join.mk "JOIN" (tbl "u" (some "y")) none].map (fun | .mk _ t _ => t)) [] = .ok exTn := by
  simp [tableNames, tbl, dictSet, exTn]
example : ∀ it ∈ exCols, FragItem it := by simp [exCols, FragItem]
example : (flowItems (scopeRel cat exTn) exCols).map (fun l => l.map fun p => (p.1, p.2.map fun x => (x.schema, x.table, x.col)))
    = some [("a", [(none, "t", some "a")]), ("s", [(none, "t", some "b"), (none, "u", some "d")])] := by decide +kernel

end C16
