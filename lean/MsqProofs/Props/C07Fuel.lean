import MsqProofs.Lemmas.ParseEntriesMono
import MsqProofs.Lemmas.ParseTextInv
/-!
# C07, fuel: a successful parse does not depend on the budget

The parser model is fuel-indexed; `PM.parseStatementsText` / `PM.parseText` run it with `PM.fuelFor ts = 20 · size + 40`.
`C07.text_no_foreign` (in `C07.lean`) leaves `.fuel` among the possible errors.  What is proved here is the other half of
"exhaustion can never masquerade as a result": a result obtained with SOME fuel is the result with EVERY larger fuel
(`fuel_mono_*`, for `parse_statements` and for every entry of `PM.entries`), hence two budgets never give two different
trees (`fuel_deterministic`): the trees the model returns are not artefacts of the budget.  Fuel ADEQUACY (the shipped
budget never answers `.fuel`) is proved in `C07Adq.lean`.

Built on `PM.monoF` (ParseMono, the 80-function block) and the statement-level `mono_*` lemmas of `ParseFrameStmt.lean`.
-/
namespace C07
open Lex PM

theorem fuel_mono_statements (d : Gen.D) (f f' : Nat) (hle : f ≤ f') (ts : List Tok) (ss : List Ast.Stmt)
    (h : pStatements d f ts = .ok ss) : pStatements d f' ts = .ok ss := pStatements_mono d hle ts ss h

/-- every entry point of the model on tokens -/
theorem fuel_mono_entries (name : String) (p : Entry) (hp : (name, p) ∈ entries) (d : Gen.D) (f f' : Nat) (hle : f ≤ f')
    (ts : List Tok) (r : Val × List Tok) (h : p d f ts = .ok r) : p d f' ts = .ok r :=
  entries_mono _ hp d f f' ts r hle h

/-- two budgets never produce two different results -/
theorem fuel_deterministic (name : String) (p : Entry) (hp : (name, p) ∈ entries) (d : Gen.D) (f₁ f₂ : Nat) (ts : List Tok)
    (r₁ r₂ : Val × List Tok) (h₁ : p d f₁ ts = .ok r₁) (h₂ : p d f₂ ts = .ok r₂) : r₁ = r₂ :=
  det_of_mono (run := fun f => p d f ts) (fun f f' r hle h => entries_mono _ hp d f f' ts r hle h) h₁ h₂

/-- **C07.fuel_mono_text**: if `parse_statements(text)` succeeds with the shipped budget, every larger budget gives the same
statements; -/
theorem fuel_mono_text (d : Gen.D) (text : List Char) (ss : List Ast.Stmt) (h : parseStatementsText d text = .ok ss) :
    ∃ ts, lex Gen.cfgS (dialectPre d text) = .ok ts ∧ ∀ f', fuelFor ts ≤ f' → pStatements d f' ts = .ok ss :=
  let ⟨ts, hl, hp⟩ := parseStatementsText_ok h
  ⟨ts, hl, fun _ hle => pStatements_mono d hle ts ss hp⟩

/-- … and the same for every `parse_<entry>(text)` (value and number of unconsumed tokens) -/
theorem fuel_mono_text_entry (entry : String) (d : Gen.D) (text : List Char) (v : Val) (n : Nat)
    (h : parseText entry d text = .ok (v, n)) :
    ∃ p ts, (entry, p) ∈ entries ∧ lex Gen.cfgS (dialectPre d text) = .ok ts ∧
      ∀ f', fuelFor ts ≤ f' → ∃ rest, p d f' ts = .ok (v, rest) ∧ rest.length = n :=
  let ⟨p, ts, rest, hmem, hl, hp, hn⟩ := parseText_ok h
  ⟨p, ts, hmem, hl, fun f' hle => ⟨rest, entries_mono _ hmem d _ f' ts _ hle hp, hn⟩⟩

/-- non-vacuity: an accepted text (kernel-evaluated), to which `fuel_mono_text` applies -/
example : ∃ ss, parseStatementsText .MYSQL "SELECT a FROM t WHERE b = c".toList = .ok ss ∧ ss.length = 1 := by
  have : (match parseStatementsText .MYSQL "SELECT a FROM t WHERE b = c".toList with | .ok ss => ss.length == 1 | .error _ => false) = true := by
    decide +kernel
  cases h : parseStatementsText .MYSQL "SELECT a FROM t WHERE b = c".toList with
  | ok ss => rw [h] at this; exact ⟨ss, rfl, by simpa using this⟩
  | error e => rw [h] at this; cases this

end C07
