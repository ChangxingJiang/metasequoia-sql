import MsqModel.Convert
import MsqModel.Helpers
import MsqModel.Val
import MsqModel.Parse.Entry
import MsqModel.Print
import MsqModel.Driver.ShowVal
import MsqModel.Driver.CmdConv
/-!
# C18 — MySQL → Hive table conversion preserves the schema

(a) tables (G, kernel-evaluated on the data regenerated from `common/static.py`): every catalogued MySQL type is a key of the
shipped map, every image is a Hive type, `DECIMAL` is the only image whose parameters Hive keeps;
(b) helpers on typed trees: `change_type` succeeds on every table whose column types are catalogued, maps exactly the type
component of the view and nothing else; `set_table_name`, `append_column`, `append_partition_by_column` change exactly their
component; the typed helpers ARE the `Val`-level helpers of C11 on trees (so what the `HELP` correspondence validates carries over);
(c) printing: the Hive column printer states name, type and comment only, with parameters exactly where Hive has them;
print-for-Hive / re-parse examples are evaluated in the kernel on the full parser and printer models.
The general print → re-parse theorems for DDL are in `C18T.lean` (on the token rendering) and `C18L.lean` (on texts, with the lexer link);
on the implementation the conversion is validated by the `CONV` correspondence and oracle.
-/
namespace C18
open Ast Conv Help

/-! ## (a) the shipped tables -/

/-- every type of `MYSQL_DATA_TYPE` is a key of `HASHMAP_MYSQL_TO_HIVE` -/
theorem catalogue_covered : (Gen.mysqlDataTypes.all fun t => Gen.mysqlToHive.any (·.1 == t.1)) = true := by decide +kernel

/-- … also through the `.upper()` lookup `change_type` performs -/
theorem catalogue_lookup : (Gen.mysqlDataTypes.all fun t => (Gen.mysqlToHive.find? (·.1 == t.1)).isSome) = true := by
  simp only [List.isSome_find?]; exact catalogue_covered

/-- every image of the map is a Hive type -/
theorem images_are_hive_types : (Gen.mysqlToHive.all fun p => hiveTypes.contains p.2) = true := by decide +kernel

/-- among the images, `DECIMAL` is the only type whose parameters the Hive printer keeps -/
theorem images_keeping_params : (Gen.mysqlToHive.all fun p => hiveKeepsParams p.2 == (p.2 == "DECIMAL")) = true := by decide +kernel

/-- the map has no duplicate keys (a dict cannot, the generated list must not) -/
theorem map_keys_distinct : (Gen.mysqlToHive.map (·.1)).eraseDups.length = Gen.mysqlToHive.length := by decide +kernel

/-! ## (b) the helpers on typed trees -/

theorem lookup_catalogued (n : String) (h : Gen.mysqlDataTypes.any (·.1 == Gen.pyUpperS n) = true) :
    ∃ x, lookup Gen.mysqlToHive n = some x := by
  obtain ⟨t, ht, he⟩ := List.any_eq_true.1 h
  have he' : t.1 = Gen.pyUpperS n := by simpa using he
  have := List.all_eq_true.1 catalogue_lookup t ht
  unfold lookup
  rw [← he']
  cases hf : List.find? (fun x => x.1 == t.1) Gen.mysqlToHive with
  | none => simp [hf] at this
  | some x => exact ⟨x.2, rfl⟩

/-- a column type is catalogued (letter case ignored, as `change_type` does) -/
def Catalogued (col : DefCol) : Prop := Gen.mysqlDataTypes.any (·.1 == Gen.pyUpperS col.type.name) = true

theorem changeColsT_total (rp : Bool) : ∀ cols : List DefCol, (∀ col ∈ cols, Catalogued col) →
    ∃ cols', changeColsT Gen.mysqlToHive rp cols = .ok cols'
  | [], _ => ⟨[], rfl⟩
  | c :: r, h => by
    obtain ⟨x, hx⟩ := lookup_catalogued c.type.name (h c (by simp))
    obtain ⟨r', hr'⟩ := changeColsT_total rp r (fun col hc => h col (by simp [hc]))
    simp only [changeColsT, changeColT, hx, hr']
    exact ⟨_, rfl⟩

/-- **C18(a)⇒(b)**: `change_type(HASHMAP_MYSQL_TO_HIVE)` never raises `KeyError` on a table whose column types are all in the
parser's catalogue -/
theorem changeTypeT_total (rp : Bool) (c : CreateTable) (h : ∀ col ∈ c.columns, Catalogued col) :
    ∃ c', changeTypeT Gen.mysqlToHive rp c = .ok c' := by
  obtain ⟨cols', hc⟩ := changeColsT_total rp c.columns h
  simp only [changeTypeT, hc]
  exact ⟨_, rfl⟩

theorem changeColsT_view (hm : List (String × String)) (rp : Bool) : ∀ (cols cols' : List DefCol),
    changeColsT hm rp cols = .ok cols' → mapCols hm rp (cols.map colView) = some (cols'.map colView)
  | [], cols', h => by
    simp only [changeColsT] at h
    injection h with h; subst h; rfl
  | c :: r, cols', h => by
    unfold changeColsT changeColT at h
    cases hl : lookup hm c.type.name with
    | none => simp [hl] at h
    | some x =>
      simp only [hl] at h
      cases hr : changeColsT hm rp r with
      | error e => simp [hr] at h
      | ok r' =>
        simp only [hr] at h
        injection h with h; subst h
        have := changeColsT_view hm rp r r' hr
        simp only [List.map_cons, mapCols, mapCol, colView, hl, Option.map_some, this]

/-- **`change_type` changes the type component of the view exactly as the map says, and nothing else**: table name, column
names, order and comments, partition columns and the table comment are kept -/
theorem changeTypeT_view (hm : List (String × String)) (rp : Bool) (c c' : CreateTable) (h : changeTypeT hm rp c = .ok c') :
    mapCols hm rp (view c).cols = some (view c').cols ∧ (view c').schema = (view c).schema ∧ (view c').table = (view c).table
      ∧ (view c').parts = (view c).parts ∧ (view c').comment = (view c).comment := by
  unfold changeTypeT at h
  cases hc : changeColsT hm rp c.columns with
  | error e => simp [hc] at h
  | ok cols =>
    simp only [hc] at h
    injection h with h; subst h
    exact ⟨changeColsT_view hm rp _ _ hc, rfl, rfl, rfl, rfl⟩

/-- `set_table_name` changes the name and nothing else -/
theorem setTableNameT_view (t : TableName) (c : CreateTable) :
    view (setTableNameT t c) = { view c with schema := t.schema, table := t.name } := rfl
/-- `append_column` appends one column and nothing else -/
theorem appendColumnT_view (col : DefCol) (c : CreateTable) :
    view (appendColumnT col c) = { view c with cols := (view c).cols ++ [colView col] } := by
  simp [view, appendColumnT]
/-- `append_partition_by_column` appends one partition column and nothing else -/
theorem appendPartitionByColumnT_view (col : DefCol) (c : CreateTable) :
    view (appendPartitionByColumnT col c) = { view c with parts := (view c).parts ++ [colView col] } := by
  simp [view, appendPartitionByColumnT]

/-! ### the typed helpers are the `Val`-level helpers of C11 on trees -/

def defColFields (col : DefCol) : Fields :=
  [("column_name", .str col.name), ("column_type", col.type.toVal), ("is_unsigned", .bool col.unsigned),
    ("is_zerofill", .bool col.zerofill), ("character_set", Val.optStr col.charset), ("collate", Val.optStr col.collate),
    ("generated_always_as", Val.ofOpt GenCol.toVal col.generated), ("is_allow_null", .bool col.allowNull), ("is_not_null", .bool col.notNull),
    ("is_auto_increment", .bool col.autoInc), ("default", optExpr col.default), ("on_update", optExpr col.onUpdate), ("comment", Val.optStr col.comment)]

theorem defCol_toVal (col : DefCol) : DefCol.toVal col = .node "ASTDefineColumnExpression" (defColFields col) := rfl

theorem get_column_type (col : DefCol) : dictGet (defColFields col) "column_type" = some col.type.toVal := by
  simp [defColFields, dictGet]

theorem set_column_type (col : DefCol) (t : ColType) : dictSet (defColFields col) "column_type" t.toVal = defColFields { col with type := t } := by
  simp [defColFields, dictSet]

theorem colType_fields (t : ColType) : t.toVal = .node "ASTColumnTypeExpression" [("name", .str t.name), ("params", match t.params with | .none => Val.none | .some l => .tuple (exprs l))] := rfl

theorem changeColumn_typed (hm : List (String × String)) (rp : Bool) (col : DefCol) :
    changeColumn hm rp (DefCol.toVal col) = (changeColT hm rp col).map DefCol.toVal := by
  rw [defCol_toVal]
  unfold changeColumn
  simp only [get_column_type, colType_fields]
  simp only [dictGet, Conv.lookup, changeColT]
  simp only [beq_self_eq_true, ↓reduceIte]
  cases hf : List.find? (fun x => x.1 == Gen.pyUpperS col.type.name) hm with
  | none => simp [Except.map]
  | some h =>
    have hs := set_column_type col ⟨h.2, if rp then none else col.type.params⟩
    simp only [colType_fields] at hs
    cases rp
    · simp only [Bool.false_eq_true, ↓reduceIte, Except.map, Option.map_some, defCol_toVal] at hs ⊢
      rw [← hs]
      simp
    · simp only [↓reduceIte, Except.map, Option.map_some, defCol_toVal] at hs ⊢
      rw [← hs]

theorem changeColumns_typed (hm : List (String × String)) (rp : Bool) : ∀ cols : List DefCol,
    changeColumns hm rp (cols.map DefCol.toVal) = (changeColsT hm rp cols).map (List.map DefCol.toVal)
  | [] => rfl
  | c :: r => by
    simp only [List.map_cons, changeColumns, changeColsT, changeColumn_typed, changeColumns_typed hm rp r]
    cases changeColT hm rp c with
    | error e => rfl
    | ok c' =>
      cases changeColsT hm rp r with
      | error e => rfl
      | ok r' => rfl

def ctFields (c : CreateTable) : Fields :=
  [("table_name", c.table.toVal), ("if_not_exists", .bool c.ifNotExists),
    ("columns", .tuple (c.columns.map DefCol.toVal)), ("primary_key", Val.ofOpt Index.toVal c.primaryKey),
    ("unique_key", .tuple (c.uniqueKey.map Index.toVal)), ("key", .tuple (c.key.map Index.toVal)),
    ("fulltext_key", .tuple (c.fulltextKey.map Index.toVal)), ("foreign_key", .tuple (c.foreignKey.map ForeignKey.toVal)),
    ("partitioned_by", .tuple (c.partitionedBy.map DefCol.toVal)), ("comment", Val.optStr c.comment), ("engine", Val.optStr c.engine),
    ("auto_increment", Val.optInt c.autoIncrement), ("default_charset", Val.optStr c.defaultCharset), ("collate", Val.optStr c.collate),
    ("row_format", Val.optStr c.rowFormat), ("states_persistent", Val.optStr c.statesPersistent), ("row_format_serde", Val.optStr c.rowFormatSerde),
    ("row_format_delimited_fields_terminated_by", Val.optStr c.rowFormatDelimited), ("stored_as_inputformat", Val.optStr c.storedAsInputformat),
    ("stored_as_textfile", .bool c.storedAsTextfile), ("outputformat", Val.optStr c.outputformat), ("location", Val.optStr c.location),
    ("tblproperties", .tuple (c.tblproperties.map ConfigStr.toVal))]

theorem createTable_toVal (c : CreateTable) : c.toVal = .node "ASTCreateTableStatement" (ctFields c) := rfl
theorem get_columns (c : CreateTable) : dictGet (ctFields c) "columns" = some (.tuple (c.columns.map DefCol.toVal)) := by
  simp [ctFields, dictGet]
theorem set_columns (c : CreateTable) (cols : List DefCol) :
    dictSet (ctFields c) "columns" (.tuple (cols.map DefCol.toVal)) = ctFields { c with columns := cols } := by
  simp [ctFields, dictSet]

theorem changeType_typed (hm : List (String × String)) (rp : Bool) (c : CreateTable) :
    changeType c.toVal hm rp = (changeTypeT hm rp c).map CreateTable.toVal := by
  rw [createTable_toVal]
  unfold changeType changeTypeWith changeTypeT
  simp only [beq_self_eq_true, ↓reduceIte, get_columns, changeColumns_typed]
  cases changeColsT hm rp c.columns with
  | error e => rfl
  | ok cols => simp only [Except.map, set_columns, createTable_toVal]

theorem get_partitioned_by (c : CreateTable) : dictGet (ctFields c) "partitioned_by" = some (.tuple (c.partitionedBy.map DefCol.toVal)) := by
  simp [ctFields, dictGet]
theorem set_partitioned_by (c : CreateTable) (cols : List DefCol) :
    dictSet (ctFields c) "partitioned_by" (.tuple (cols.map DefCol.toVal)) = ctFields { c with partitionedBy := cols } := by
  simp [ctFields, dictSet]
theorem set_table_name (c : CreateTable) (t : TableName) : dictSet (ctFields c) "table_name" t.toVal = ctFields { c with table := t } := by
  simp [ctFields, dictSet]

theorem setTableName_typed (t : TableName) (c : CreateTable) : setTableName c.toVal t.toVal = .ok (setTableNameT t c).toVal := by
  rw [createTable_toVal]
  unfold setTableName setTableNameT
  simp only [beq_self_eq_true, ↓reduceIte, set_table_name, createTable_toVal]

/-- `appendTo` on a field that holds the columns `cols`; `c'` is the table with `col` appended there -/
theorem appendTo_typed (field : String) (col : DefCol) (c c' : CreateTable) (cols : List DefCol)
    (hget : dictGet (ctFields c) field = some (.tuple (cols.map DefCol.toVal)))
    (hset : dictSet (ctFields c) field (.tuple ((cols ++ [col]).map DefCol.toVal)) = ctFields c') :
    appendTo field c.toVal col.toVal = .ok (c'.toVal, c.toVal) := by
  rw [createTable_toVal]
  unfold appendTo
  simp only [List.map_append, List.map_cons, List.map_nil] at hset
  simp only [beq_self_eq_true, ↓reduceIte, hget, hset, createTable_toVal]

theorem appendColumn_typed (col : DefCol) (c : CreateTable) :
    appendColumn c.toVal col.toVal = .ok ((appendColumnT col c).toVal, c.toVal) :=
  appendTo_typed "columns" col c _ _ (get_columns c) (set_columns c _)

theorem appendPartitionByColumn_typed (col : DefCol) (c : CreateTable) :
    appendPartitionByColumn c.toVal col.toVal = .ok ((appendPartitionByColumnT col c).toVal, c.toVal) :=
  appendTo_typed "partitioned_by" col c _ _ (get_partitioned_by c) (set_partitioned_by c _)

/-! ## (c) printing -/

/-- the Hive column-type printer drops the parameters of every type outside DECIMAL / VARCHAR / CHAR … -/
theorem prColType_hive_drops (t : ColType) (h : hiveKeepsParams t.name = false) : PR.prColType .HIVE t = .ok t.name := by
  unfold PR.prColType
  unfold hiveKeepsParams at h
  cases t.params with
  | none => rfl
  | some ps => simp only [h, beq_self_eq_true, Bool.not_false, Bool.and_self, ↓reduceIte]

/-- … and keeps them for these three -/
theorem prColType_hive_keeps (t : ColType) (ps : List Expr) (l : List String) (h : hiveKeepsParams t.name = true)
    (hp : t.params = some ps) (hl : PR.prList8 .HIVE ps = .ok l) :
    PR.prColType .HIVE t = .ok s!"{t.name}({PR.joinS "," l})" := by
  unfold PR.prColType
  unfold hiveKeepsParams at h
  simp only [hp, h, hl, Except.map, Bool.not_true, Bool.and_false, Bool.false_eq_true, ↓reduceIte]

/-- a type without parameters prints as its name in every dialect -/
theorem prColType_plain (d : Gen.D) (t : ColType) (h : t.params = none) : PR.prColType d t = .ok t.name := by
  unfold PR.prColType
  simp [h]

/-- **the Hive column printer states the column's name, type and comment and nothing else**: every MySQL-only attribute
(UNSIGNED, ZEROFILL, CHARACTER SET, COLLATE, GENERATED, NULL, NOT NULL, AUTO_INCREMENT, DEFAULT, ON UPDATE) is dropped, the
comment is kept verbatim -/
theorem prDefCol_hive (c : DefCol) (ty : String) (h : PR.prColType .HIVE c.type = .ok ty) :
    PR.prDefCol .HIVE c = .ok (s!"`{c.name}` {ty}" ++ (match c.comment with | some s => s!" COMMENT {s}" | none => "")) := by
  unfold PR.prDefCol
  simp only [h, bind, Except.bind, pure, Except.pure]
  cases c.generated <;> cases c.default <;> cases c.onUpdate <;> cases c.charset <;> cases c.collate <;> cases c.comment <;> simp

/-! ### print for Hive, re-parse with Hive: kernel-evaluated on the full lexer, parser and printer models -/

/-- parse as MySQL, apply `change_type(HASHMAP_MYSQL_TO_HIVE, remove_param)`, print for Hive, re-parse as Hive:
(the Hive view of the edited tree, the view of the re-parsed tree), both in canonical form -/
def convert (ddl : String) (removeParam : Bool) : Option (String × String) :=
  match PM.parseStatementsText .MYSQL ddl.toList with
  | .ok [.createTable c] =>
    match changeTypeT Gen.mysqlToHive removeParam c with
    | .ok c' =>
      match PR.prStmt .HIVE (.createTable c') with
      | .ok text =>
        match PM.parseStatementsText .HIVE text.toList with
        | .ok [.createTable c''] => some (Drv.showView (view c').hive, Drv.showView (view c''))
        | _ => none
      | .error _ => none
    | .error _ => none
  | _ => none

def sampleDDL : String :=
  "CREATE TABLE `o` (`id` bigint(20) unsigned NOT NULL COMMENT 'pk', `n` varchar(32) DEFAULT NULL, `p` decimal(10,2), PRIMARY KEY (`id`)) ENGINE=InnoDB COMMENT='c'"

/-- regression example: with `remove_param=False` the re-parsed Hive table declares exactly the mapped view
(table name, three columns in order with comments, mapped types, DECIMAL(10,2) kept, table comment) -/
example : (match convert sampleDDL false with | some (want, got) => want == got | none => false) = true := by decide +kernel

/-- … and the same with the default `remove_param=True` (here `want` is the view of the edited tree, see F-C18-2 for what it lost) -/
example : (match convert sampleDDL true with | some (want, got) => want == got | none => false) = true := by decide +kernel

/-- direct printing for Hive (no mapping): the re-parsed table keeps name, columns, comments; parameters only where Hive has them -/
example : (match PM.parseStatementsText .MYSQL sampleDDL.toList with
    | .ok [.createTable c] =>
      (match PR.prStmt .HIVE (.createTable c) with
       | .ok text => (match PM.parseStatementsText .HIVE text.toList with
         | .ok [.createTable c'] => Drv.showView (view c).hive == Drv.showView (view c')
         | _ => false)
       | .error _ => false)
    | _ => false) = true := by decide +kernel

/-- helper edits show up in the printed Hive DDL: rename, added column and added partition column are declared by the re-parsed table -/
example : (match PM.parseStatementsText .MYSQL "CREATE TABLE t (a INT(11), b VARCHAR(8) COMMENT 'x')".toList with
    | .ok [.createTable c] =>
      let c1 := appendPartitionByColumnT { name := "dt", type := ⟨"string", none⟩ }
                  (appendColumnT { name := "z", type := ⟨"BIGINT", none⟩, comment := some "'added'" } (setTableNameT ⟨none, "t_h"⟩ c))
      (match PR.prStmt .HIVE (.createTable c1) with
       | .ok text => (match PM.parseStatementsText .HIVE text.toList with
         | .ok [.createTable c'] => Drv.showView (view c1).hive == Drv.showView (view c')
         | _ => false)
       | .error _ => false)
    | _ => false) = true := by decide +kernel

/-! ### witnesses -/

/-- F-C18-1: a column type outside the map — `NUMERIC`, a standard MySQL type the catalogue does not list — makes
`change_type` raise `KeyError` -/
theorem witness_keyerror :
    (match PM.parseStatementsText .MYSQL "CREATE TABLE t (a NUMERIC(10,2))".toList with
     | .ok [.createTable c] => (match changeTypeT Gen.mysqlToHive true c with | .error (.py .KeyError) => true | _ => false)
     | _ => false) = true := by decide +kernel

/-- F-C18-2: with the default `remove_param=True`, `DECIMAL(10,2)` becomes a bare `DECIMAL` although Hive has the parameters -/
theorem witness_decimal_params_lost :
    (match PM.parseStatementsText .MYSQL "CREATE TABLE t (p DECIMAL(10,2))".toList with
     | .ok [.createTable c] =>
       (match changeTypeT Gen.mysqlToHive true c with
        | .ok c' => (view c').cols.all (fun x => x.type == "DECIMAL" && x.params.isNone) && (view c).cols.all (fun x => x.params.isSome)
        | .error _ => false)
     | _ => false) = true := by decide +kernel

/-- F-C18-3: a table name with a dot inside its quoted part is printed as one back-quoted dotted name and re-parses as a
different table (no schema, table `s.a.b`) -/
theorem witness_dotted_table_name :
    (match PM.parseStatementsText .MYSQL "CREATE TABLE `s`.`a.b` (a int)".toList with
     | .ok [.createTable c] =>
       (match PR.prStmt .HIVE (.createTable c) with
        | .ok text => (match PM.parseStatementsText .HIVE text.toList with
          | .ok [.createTable c'] => c.table.schema == some "s" && c.table.name == "a.b" && c'.table.schema == none && c'.table.name == "s.a.b"
          | _ => false)
        | .error _ => false)
     | _ => false) = true := by decide +kernel

/-- the Hive DDL starts with a blank (`node.py:1702`), harmless for re-parsing -/
theorem witness_hive_leading_blank :
    (match PM.parseStatementsText .MYSQL "CREATE TABLE t (a int)".toList with
     | .ok [.createTable c] => (match PR.prStmt .HIVE (.createTable c) with | .ok text => text.startsWith " CREATE TABLE" | .error _ => false)
     | _ => false) = true := by decide +kernel

end C18
