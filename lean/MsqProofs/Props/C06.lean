import MsqProofs.Props.C05
import MsqProofs.Lemmas.LexSim
/-!
# C06 — quoted text is opaque (lexer half)

All statements are about the shipped table `Gen.cfgS`, for ALL contexts: any text before (as long as the lexer is between
tokens after it), any text after, any frame stack, any position.  They are stated about `lexText` — the lexer after the
pre-pass, `lex cfg raw = lexText cfg (cfg.pre raw)` — with corollaries for `lex` on texts the pre-pass leaves alone
(`plain`); what the pre-pass does to TAB / CR LF / U+3000 inside quotes is finding F-C04-3 / F-C06 and not repeated here.

* `quoted_in_context`: read from between tokens, `q p q` becomes exactly ONE token, whatever the payload contains;
* `payload_substitution`: replacing the payload changes only that one leaf of the token tree (or both texts are rejected
  with the same error);
* `gap_block`, `gap_line`, `comment_body_irrelevant`: a comment leaves no trace; two texts that differ only in a comment lex
  identically.

The two ingredients (`MsqProofs/Lemmas/LexSim.lean`) hold for any table whose operations have a normal form: the part
of a run before the quoted region does not depend on what follows (`feedAllWith_context`), and the part after it depends
on the frame stack only up to a congruence on tokens and on the text only through the windows it slices (`runTail_ctx`).
-/
namespace C06
open Lex Spec C05

theorem shipped_good : GoodCode Gen.cfgS := by
  intro c; cases c <;> decide

/-! ## the three quote kinds -/

inductive QK | sq | dq | bq deriving DecidableEq, Repr

def QK.ch : QK → Char | .sq => '\'' | .dq => '"' | .bq => '`'
/-- the class marks of the token: strings LITERAL (|NAME: HARMLESS deviation of C05), back-quoted names NAME -/
def QK.marks : QK → Nat | .bq => Gen.mark_NAME | _ => Gen.mark_LITERAL ||| Gen.mark_NAME
/-- the quoted region as written -/
def QK.wrap (k : QK) (p : List Char) : List Char := k.ch :: (p ++ [k.ch])
/-- a payload: free of the quote character and — in strings, where it escapes — of the backslash; anything else goes:
comment openers, brackets, semicolons, operators, keywords, the other quote characters, non-ASCII -/
def QK.payload (k : QK) (p : List Char) : Prop := ∀ c ∈ p, c ≠ k.ch ∧ (k ≠ .bq → c ≠ '\\')
/-- what may follow the region: for strings not the same quote again (that would be the doubled-quote escape, i.e. the
region is not over) -/
def QK.follow (k : QK) (b : List Char) : Prop := k = .bq ∨ b.head? ≠ some k.ch
/-- the state inside the region / after its closing quote (strings: the token is emitted at the next symbol) -/
def QK.inside : QK → S | .sq => .IN_SINGLE_QUOTE | .dq => .IN_DOUBLE_QUOTE | .bq => .IN_BACK_QUOTE
def QK.pending : QK → S | .sq => .IN_SINGLE_QUOTE_AFTER_27 | .dq => .IN_DOUBLE_QUOTE_AFTER_22 | .bq => .WAIT

theorem QK.marks_string {k : QK} (hk : k ≠ .bq) : k.marks = (mString ||| mName) := by
  cases k <;> first | rfl | exact absurd rfl hk

/-! ## table facts (through the specification automaton, `C05.look`), and: between tokens one character is one `handle` call -/

theorem q_open (k : QK) : Gen.cfgS.lookup .WAIT (.ch k.ch) = some (addTo k.inside) := by
  cases k <;> exact look (by decide +kernel)

theorem q_body (k : QK) (c : Char) (h : c ≠ k.ch ∧ (k ≠ .bq → c ≠ '\\')) :
    Gen.cfgS.lookup k.inside (.ch c) = some (addTo k.inside) := by
  cases k with
  | sq => exact sq_body c ⟨h.1, h.2 (by decide)⟩
  | dq => exact dq_body c ⟨h.1, h.2 (by decide)⟩
  | bq => exact bq_body c h.1

theorem s_close (k : QK) (hk : k ≠ .bq) : Gen.cfgS.lookup k.inside (.ch k.ch) = some (addTo k.pending) := by
  cases k with
  | sq => exact look (by decide +kernel)
  | dq => exact look (by decide +kernel)
  | bq => exact absurd rfl hk

theorem b_close : Gen.cfgS.lookup .IN_BACK_QUOTE (.ch '`') = some (emitWith mName) := look (by decide +kernel)

theorem s_next (k : QK) (hk : k ≠ .bq) (d : Char) (hd : d ≠ k.ch) :
    Gen.cfgS.lookup k.pending (.ch d) = some (emitBefore (mString ||| mName)) := by
  cases k with
  | sq =>
    exact lookClass .IN_SINGLE_QUOTE_AFTER_27 (fun n => !(n =ᶜ '\'')) (emitBefore (mString ||| mName)) (by decide +kernel)
      (Or.inl (by decide +kernel)) d (by simp [ne_of_isCh (ch := '\'') hd])
  | dq =>
    exact lookClass .IN_DOUBLE_QUOTE_AFTER_22 (fun n => !(n =ᶜ '"')) (emitBefore (mString ||| mName)) (by decide +kernel)
      (Or.inl (by decide +kernel)) d (by simp [ne_of_isCh (ch := '"') hd])
  | bq => exact absurd rfl hk

theorem s_end (k : QK) (hk : k ≠ .bq) : Gen.cfgS.lookup k.pending .eof = some (emitAtEnd (mString ||| mName)) := by
  cases k with
  | sq => exact lookEnd (by decide +kernel)
  | dq => exact lookEnd (by decide +kernel)
  | bq => exact absurd rfl hk

/-- between tokens no operation asks for a retry: every cell of the WAIT row returns `True` (or raises) -/
theorem wait_no_retry (c : Char) :
    ∃ o sm, Gen.cfgS.lookup .WAIT (.ch c) = some o ∧ summarize (Gen.Cls.code o.cls) = some sm ∧ sm.ret = true := by
  have h := cellD_all 7 .WAIT (fun o => match o with
    | some o => (match summarize (Gen.Cls.code o.cls) with | some sm => sm.ret | none => false)
    | none => false) (by decide +kernel) c.toNat
  have hl : Gen.cfgS.lookup .WAIT (.ch c) = cellD 7 .WAIT c.toNat := agree_cfg7 .WAIT (.ch c)
  rw [← hl] at h
  cases ho : Gen.cfgS.lookup .WAIT (.ch c) with
  | none => rw [ho] at h; cases h
  | some o =>
    rw [ho] at h
    cases hs : summarize (Gen.Cls.code o.cls) with
    | none => simp [hs] at h
    | some sm => exact ⟨o, sm, rfl, hs, by simpa [hs] using h⟩

theorem feedWith_wait (T : List Char) (st nw : Nat) (stk : List (List Tok)) (d : Char) :
    feedWith (handle Gen.cfgS T) ⟨st, nw, .WAIT, stk⟩ d = dropFlag (handle Gen.cfgS T ⟨st, nw, .WAIT, stk⟩ (.ch d)) := by
  simp only [feedWith, dropFlag]
  cases e : handle Gen.cfgS T ⟨st, nw, .WAIT, stk⟩ (.ch d) with
  | error x => rfl
  | ok x =>
    obtain ⟨m1, b⟩ := x
    cases b with
    | true => rfl
    | false =>
      obtain ⟨o, sm, ho, hs, hr⟩ := wait_no_retry d
      rw [Lex.handle_eq Gen.cfgS T _ _ o sm ho hs] at e
      have := (execCore_ok _ _ _ (execS_ok _ _ _ sm _ _ _ e).2).1
      rw [hr] at this; cases this

theorem open_path (k : QK) (p : List Char) (hp : k.payload p) : addPath Gen.cfgS .WAIT (k.ch :: p) = some k.inside := by
  rw [addPath_cons (q_open k)]; exact addPath_loop (q_body k) p hp

/-! ## a quoted region read from between tokens, with the doubled-quote and backslash escapes -/

/-- the grammar of a string body between quotes `q`: a backslash takes the next character with it (whatever it is), a
quote must be doubled, anything else stands for itself -/
def strBody (q : Char) : List Char → Bool
  | [] => true
  | [c] => c != '\\' && c != q
  | c :: d :: r => if c == '\\' then strBody q r else if c == q then d == q && strBody q r else strBody q (d :: r)

-- `.bq`: never used (there is no escape in a back-quoted name; every lemma about it carries `k ≠ .bq`)
def QK.escaped : QK → S | .sq => .IN_SINGLE_QUOTE_AFTER_5C | .dq => .IN_DOUBLE_QUOTE_AFTER_5C | .bq => .WAIT

theorem s_backslash (k : QK) (hk : k ≠ .bq) : Gen.cfgS.lookup k.inside (.ch '\\') = some (addTo k.escaped) := by
  cases k with
  | sq => exact look (by decide +kernel)
  | dq => exact look (by decide +kernel)
  | bq => exact absurd rfl hk

theorem s_escaped (k : QK) (hk : k ≠ .bq) (c : Char) : Gen.cfgS.lookup k.escaped (.ch c) = some (addTo k.inside) := by
  cases k with
  | sq =>
    exact lookClass .IN_SINGLE_QUOTE_AFTER_5C (fun _ => true) (addTo .IN_SINGLE_QUOTE) (by decide +kernel)
      (Or.inl (by decide +kernel)) c rfl
  | dq =>
    exact lookClass .IN_DOUBLE_QUOTE_AFTER_5C (fun _ => true) (addTo .IN_DOUBLE_QUOTE) (by decide +kernel)
      (Or.inl (by decide +kernel)) c rfl
  | bq => exact absurd rfl hk

theorem s_doubled (k : QK) (hk : k ≠ .bq) : Gen.cfgS.lookup k.pending (.ch k.ch) = some (addTo k.inside) := by
  cases k with
  | sq => exact look (by decide +kernel)
  | dq => exact look (by decide +kernel)
  | bq => exact absurd rfl hk

theorem ch_ne_backslash (k : QK) : k.ch ≠ '\\' := by cases k <;> decide

theorem body_path (k : QK) (hk : k ≠ .bq) : ∀ (n : Nat) (body : List Char), body.length ≤ n → strBody k.ch body = true →
    addPath Gen.cfgS k.inside body = some k.inside := by
  intro n
  induction n with
  | zero =>
    intro body hl _
    have : body = [] := List.eq_nil_of_length_eq_zero (by omega)
    subst this; rfl
  | succ n ih =>
    intro body hl hb
    match body, hl, hb with
    | [], _, _ => rfl
    | [c], _, hb =>
      simp only [strBody, Bool.and_eq_true, bne_iff_ne, ne_eq] at hb
      rw [addPath_cons (q_body k c ⟨hb.2, fun _ => hb.1⟩)]; rfl
    | c :: d :: r, hl, hb =>
      simp only [List.length_cons] at hl
      simp only [strBody] at hb
      by_cases hc : c = '\\'
      · subst hc
        simp only [beq_self_eq_true, if_true] at hb
        rw [addPath_cons (s_backslash k hk), addPath_cons (s_escaped k hk d)]
        exact ih r (by omega) hb
      · have hc' : (c == '\\') = false := by simpa using hc
        simp only [hc', Bool.false_eq_true, if_false] at hb
        by_cases hq : c = k.ch
        · subst hq
          simp only [beq_self_eq_true, if_true, Bool.and_eq_true, beq_iff_eq] at hb
          obtain ⟨hd, hr⟩ := hb
          subst hd
          rw [addPath_cons (s_close k hk), addPath_cons (s_doubled k hk)]
          exact ih r (by omega) hr
        · have hq' : (c == k.ch) = false := by simpa using hq
          simp only [hq', Bool.false_eq_true, if_false] at hb
          rw [addPath_cons (q_body k c ⟨hq, fun _ => hc⟩)]
          exact ih (d :: r) (by simp only [List.length_cons]; omega) hb

theorem wrap_path (k : QK) (hk : k ≠ .bq) (body : List Char) (hb : strBody k.ch body = true) :
    addPath Gen.cfgS .WAIT (k.wrap body) = some k.pending := by
  show addPath _ _ (k.ch :: (body ++ [k.ch])) = _
  rw [addPath_cons (q_open k), addPath_append, body_path k hk _ body (Nat.le_refl _) hb]
  exact addPath_cons (s_close k hk) []

/-- a string whose body obeys the escape grammar `strBody` (doubled quotes, backslash + any
character) read from between tokens, in any context, is ONE token: the whole region is pending after its closing
quote, and at the next character other than the quote — or at the end of the text — exactly one token with the whole
region as its source is appended. -/
theorem escaped_quote (k : QK) (hk : k ≠ .bq) (pfx body rest : List Char) (hb : strBody k.ch body = true)
    (f : List Tok) (fs : List (List Tok)) :
    let T := pfx ++ k.wrap body ++ rest
    let n' := pfx.length + (k.wrap body).length
    feedAllWith (handle Gen.cfgS T) (k.wrap body) ⟨pfx.length, pfx.length, .WAIT, f :: fs⟩ =
      .ok ⟨pfx.length, n', k.pending, f :: fs⟩ ∧
    (∀ d : Char, d ≠ k.ch → handle Gen.cfgS T ⟨pfx.length, n', k.pending, f :: fs⟩ (.ch d) =
      .ok (⟨n', n', .WAIT, (f ++ [.single (k.wrap body) k.marks]) :: fs⟩, false)) ∧
    handle Gen.cfgS T ⟨pfx.length, n', k.pending, f :: fs⟩ .eof =
      .ok (⟨n', n', .END, (f ++ [.single (k.wrap body) k.marks]) :: fs⟩, true) := by
  intro T n'
  have hm := QK.marks_string hk
  have hw : win T ⟨pfx.length, n', k.pending, f :: fs⟩ n' = k.wrap body := win_mid pfx (k.wrap body) rest n' _ _
  refine ⟨addPath_run shipped_code T _ _ _ (wrap_path k hk body hb) _ _ _, fun d hd => ?_, ?_⟩
  · rw [handle_emitBefore shipped_code (m := ⟨pfx.length, n', k.pending, f :: fs⟩) (s_next k hk d hd) rfl, hw, hm]
  · rw [handle_emitAtEnd shipped_code (m := ⟨pfx.length, n', k.pending, f :: fs⟩) (s_end k hk) rfl, hw, hm]

theorem strBody_payload_append (k : QK) (p r : List Char) (hp : ∀ c ∈ p, c ≠ k.ch ∧ c ≠ '\\')
    (hr : strBody k.ch r = true) : strBody k.ch (p ++ r) = true := by
  induction p with
  | nil => exact hr
  | cons c p' ih =>
    have hc := hp c (by simp)
    have ih' := ih fun d hd => hp d (by simp [hd])
    cases h : p' ++ r with
    | nil => simp [strBody, hc.1, hc.2, h]
    | cons d r' =>
      rw [h] at ih'
      have h1 : (c == '\\') = false := by simpa using hc.2
      have h2 : (c == k.ch) = false := by simpa using hc.1
      simp [strBody, h, h1, h2, ih']

theorem strBody_of_payload {k : QK} (hk : k ≠ .bq) {p : List Char} (hp : k.payload p) : strBody k.ch p = true := by
  simpa using strBody_payload_append k p [] (fun c hc => ⟨(hp c hc).1, (hp c hc).2 hk⟩) rfl

/-- `quoted_in_context` for strings with a plain payload.  For every text before (`pfx`), every text after (`rest`), every frame stack
`f :: fs`, and every payload: from between tokens at position `|pfx|`, reading `q p q`
(1) puts the whole region into the window and waits for one more symbol (`'a''b'` is one string);
(2) on any next character `d ≠ q` exactly ONE token `q p q` is appended to the current frame and `d` is read again
    between tokens;
(3) at the end of the text the same token is appended and the lexer finishes. -/
theorem string_in_context (k : QK) (hk : k ≠ .bq) (pfx p rest : List Char) (hp : k.payload p)
    (f : List Tok) (fs : List (List Tok)) :
    let T := pfx ++ k.wrap p ++ rest
    let n' := pfx.length + (k.wrap p).length
    feedAllWith (handle Gen.cfgS T) (k.wrap p) ⟨pfx.length, pfx.length, .WAIT, f :: fs⟩ =
      .ok ⟨pfx.length, n', k.pending, f :: fs⟩ ∧
    (∀ d : Char, d ≠ k.ch → handle Gen.cfgS T ⟨pfx.length, n', k.pending, f :: fs⟩ (.ch d) =
      .ok (⟨n', n', .WAIT, (f ++ [.single (k.wrap p) k.marks]) :: fs⟩, false)) ∧
    handle Gen.cfgS T ⟨pfx.length, n', k.pending, f :: fs⟩ .eof =
      .ok (⟨n', n', .END, (f ++ [.single (k.wrap p) k.marks]) :: fs⟩, true) := by
  exact escaped_quote k hk pfx p rest
    (strBody_of_payload hk hp) f fs

/-- `quoted_in_context` for back-quoted names: reading `` `p` `` from between tokens appends exactly ONE NAME token
and returns between tokens — in any context, whatever the payload contains. -/
theorem backquote_in_context (pfx p rest : List Char) (hp : QK.bq.payload p) (f : List Tok) (fs : List (List Tok)) :
    feedAllWith (handle Gen.cfgS (pfx ++ QK.bq.wrap p ++ rest)) (QK.bq.wrap p) ⟨pfx.length, pfx.length, .WAIT, f :: fs⟩ =
      .ok ⟨pfx.length + (QK.bq.wrap p).length, pfx.length + (QK.bq.wrap p).length, .WAIT,
        (f ++ [.single (QK.bq.wrap p) Gen.mark_NAME]) :: fs⟩ :=
  feed_complete shipped_code (open_path .bq p hp) b_close pfx rest f fs

/-- In the form of `C05.word_boundary`: after the region and one more character `d` (not the
same quote again, for strings) the lexer is where it would be had it read `d` afresh between tokens right after the
region, with the ONE token `q p q` appended to the current frame. -/
theorem quoted_in_context (k : QK) (pfx p rest : List Char) (d : Char) (hp : k.payload p) (hd : k = .bq ∨ d ≠ k.ch)
    (f : List Tok) (fs : List (List Tok)) :
    feedAllWith (handle Gen.cfgS (pfx ++ k.wrap p ++ d :: rest)) (k.wrap p ++ [d]) ⟨pfx.length, pfx.length, .WAIT, f :: fs⟩ =
      dropFlag (handle Gen.cfgS (pfx ++ k.wrap p ++ d :: rest)
        ⟨pfx.length + (k.wrap p).length, pfx.length + (k.wrap p).length, .WAIT, (f ++ [.single (k.wrap p) k.marks]) :: fs⟩
        (.ch d)) := by
  by_cases hk : k = .bq
  · subst hk
    rw [feedAllWith_append_ok (backquote_in_context pfx p (d :: rest) hp f fs), feedAllWith_one]
    exact feedWith_wait _ _ _ _ _
  · have hd' : d ≠ k.ch := by rcases hd with h | h; exact absurd h hk; exact h
    have hm := QK.marks_string hk
    rw [hm]
    exact feed_pending shipped_code
      (wrap_path k hk p (strBody_of_payload hk hp))
      (s_next k hk d hd') (endsBefore_emitBefore _) pfx rest f fs

/-- non-vacuity: a payload full of things that mean something outside quotes -/
example : QK.sq.payload "; DROP /* -- ( ] \"x\" `y` <=> SELECT 表".toList ∧ QK.bq.payload "a\\b 'c'".toList := by
  constructor <;> intro c hc <;> revert c <;> decide

/-! ## replacing the payload changes only that one leaf -/

mutual
/-- `subT x y t t'`: `t'` is `t` with leaves equal to `x` replaced by `y` (or left alone) — the least relation that
contains `(x, y)`, all pairs of equal leaves, and is a congruence for groups -/
def subT (x y : Tok) : Tok → Tok → Prop
  | .single a m, t' => t' = .single a m ∨ (x = .single a m ∧ t' = y)
  | .group k cs m, t' => ∃ ds, t' = .group k ds m ∧ subL x y cs ds
/-- the same for token lists, position by position -/
def subL (x y : Tok) : List Tok → List Tok → Prop
  | [], l' => l' = []
  | a :: as, l' => ∃ b bs, l' = b :: bs ∧ subT x y a b ∧ subL x y as bs
end

theorem subL_of_all₂ {x y : Tok} {l1 l2 : List Tok} (h : All₂ (subT x y) l1 l2) : subL x y l1 l2 := by
  induction h with
  | nil => simp [subL]
  | cons hab _ ih => exact ⟨_, _, rfl, hab, ih⟩

theorem subT_tokRel (x y : Tok) : TokRel (subT x y) :=
  ⟨fun s k => by simp [subT], fun g k cs ds h => ⟨ds, rfl, subL_of_all₂ h⟩⟩

theorem subT_swap (s s' : List Char) (k : Nat) : subT (.single s k) (.single s' k) (.single s k) (.single s' k) := by
  simp [subT]

theorem stack_rel (x y : Tok) (hxy : subT x y x y) (f : List Tok) (fs : List (List Tok)) :
    All₂ (All₂ (subT x y)) ((f ++ [x]) :: fs) ((f ++ [y]) :: fs) :=
  .cons (((subT_tokRel x y).reflL f).append (.cons hxy .nil)) ((subT_tokRel x y).reflS fs)

/-- the run on `a w b` once `a` has been read (what follows `a` does not matter to that part, `feedAllWith_context`) -/
theorem lexText_after {a : List Char} {m : Mem} (hA : feedAllWith (handle Gen.cfgS a) a {} = .ok m) (w b : List Char) :
    lexText Gen.cfgS (a ++ w ++ b) = runTail Gen.cfgS (a ++ w ++ b) (w ++ b) m := by
  have hA' : feedAllWith (handle Gen.cfgS (a ++ w ++ b)) a {} = .ok m := by
    rw [List.append_assoc, feedAllWith_context _ shipped_good, hA]
  rw [lexText_eq_runTail]
  conv => lhs; arg 3; rw [List.append_assoc]
  exact runTail_append_ok hA' _

/-- Let the lexer be between tokens after the text `a` (hypothesis `hA`, about `a` alone:
what follows `a` is irrelevant by `feedAllWith_context`).  Then for any two payloads `p`, `p'` of the quote kind `k` and
any continuation `b` (for strings: not beginning with the same quote again), the texts `a q p q b` and `a q p' q b` are
both rejected with the same error, or both accepted, and then the token trees are equal position by position except
that the leaf `q p q` is replaced by `q p' q` (same marks). -/
theorem payload_substitution (k : QK) (a b p p' : List Char) (f : List Tok) (fs : List (List Tok))
    (hA : WaitAfter Gen.cfgS a (f :: fs)) (hp : k.payload p) (hp' : k.payload p') (hb : k.follow b) :
    ERel (subL (.single (k.wrap p) k.marks) (.single (k.wrap p') k.marks))
      (lexText Gen.cfgS (a ++ k.wrap p ++ b)) (lexText Gen.cfgS (a ++ k.wrap p' ++ b)) := by
  have hR := subT_tokRel (.single (k.wrap p) k.marks) (.single (k.wrap p') k.marks)
  have hswap := subT_swap (k.wrap p) (k.wrap p') k.marks
  rw [lexText_after hA, lexText_after hA]
  refine ERel.mono (fun _ _ => subL_of_all₂) ?_
  by_cases hk : k = .bq
  · -- back-quote: the token is complete after the closing quote
    subst hk
    apply runTail_ctx hR Gen.cfgS shipped_good (a ++ QK.bq.wrap p) (a ++ QK.bq.wrap p') b
    rw [backquote_in_context a p b hp f fs, backquote_in_context a p' b hp' f fs]
    exact .at_ends (by simp) (by simp) (stack_rel _ _ hswap f fs)
  · -- strings: the token is emitted at the next symbol
    obtain ⟨g1, g2, g3⟩ := string_in_context k hk a p b hp f fs
    obtain ⟨g1', g2', g3'⟩ := string_in_context k hk a p' b hp' f fs
    cases b with
    | nil =>
      simp only [List.append_nil] at g1 g3 g1' g3' ⊢
      simp only [runTail, g1, g1', g3, g3']
      exact finish_sim Gen.cfgS (a ++ k.wrap p) (a ++ k.wrap p') _ _ (.at_ends (by simp) (by simp) (stack_rel _ _ hswap f fs))
    | cons d b' =>
      have hd : d ≠ k.ch := by
        rcases hb with h | h
        · exact absurd h hk
        · intro e; exact h (by simp [e])
      have hsplit : ∀ w : List Char, w ++ d :: b' = (w ++ [d]) ++ b' := by intro w; simp
      rw [hsplit (k.wrap p), hsplit (k.wrap p')]
      apply runTail_ctx hR Gen.cfgS shipped_good (a ++ k.wrap p) (a ++ k.wrap p') (d :: b')
      rw [feedAllWith_append_ok g1, feedAllWith_append_ok g1', feedAllWith_one, feedAllWith_one,
        feedWith_retry' (g2 d hd), feedWith_retry' (g2' d hd)]
      apply dropFlag_sim
      exact handle_sim hR Gen.cfgS shipped_good (a ++ k.wrap p) (a ++ k.wrap p') (d :: b') _ _ (.ch d)
        (.at_ends (by simp) (by simp) (stack_rel _ _ hswap f fs))

/-- the same for `lex` on texts the pre-pass leaves alone -/
theorem payload_substitution_lex (k : QK) (a b p p' : List Char) (f : List Tok) (fs : List (List Tok))
    (hA : WaitAfter Gen.cfgS a (f :: fs)) (hp : k.payload p) (hp' : k.payload p') (hb : k.follow b)
    (h1 : ∀ c ∈ a ++ k.wrap p ++ b, plain c = true) (h2 : ∀ c ∈ a ++ k.wrap p' ++ b, plain c = true) :
    ERel (subL (.single (k.wrap p) k.marks) (.single (k.wrap p') k.marks))
      (lex Gen.cfgS (a ++ k.wrap p ++ b)) (lex Gen.cfgS (a ++ k.wrap p' ++ b)) := by
  rw [lex_plain _ _ h1, lex_plain _ _ h2]
  exact payload_substitution k a b p p' f fs hA hp hp' hb

/-- non-vacuity: `WHERE x = '…' AND y` with a harmless and a hostile payload; the hypotheses hold (the kernel runs the
lexer on `a`), and the two results are what the theorem says -/
example : WaitAfter Gen.cfgS "WHERE (x = ".toList [[.single ['x'] 2, .single ['='] 0], [.single "WHERE".toList 0]] ∧
    QK.sq.follow ") AND y".toList ∧
    lexesTo (lex Gen.cfgS "WHERE (x = 'a') AND y".toList)
      [.single "WHERE".toList 0, .group .paren [.single ['x'] 2, .single ['='] 0, .single "'a'".toList 10] 4,
       .single "AND".toList 0, .single ['y'] 2] = true ∧
    lexesTo (lex Gen.cfgS "WHERE (x = '); -- /*') AND y".toList)
      [.single "WHERE".toList 0, .group .paren [.single ['x'] 2, .single ['='] 0, .single "'); -- /*'".toList 10] 4,
       .single "AND".toList 0, .single ['y'] 2] = true :=
  ⟨waitAfterB_sound _ _ _ (by decide +kernel), Or.inr (by decide), by decide +kernel, by decide +kernel⟩

/-! ## comments leave no trace -/

/-- `u` is a *gap*: read from between tokens — at any position of any text, with any frame stack — it is consumed
entirely, the lexer is between tokens again, and the frame stack is unchanged -/
def Gap (u : List Char) : Prop :=
  ∀ (T : List Char) (n : Nat) (stk : List (List Tok)),
    feedAllWith (handle Gen.cfgS T) u ⟨n, n, .WAIT, stk⟩ = .ok ⟨n + u.length, n + u.length, .WAIT, stk⟩

theorem gap_nil : Gap [] := fun _ _ _ => rfl

theorem gap_append {u v : List Char} (hu : Gap u) (hv : Gap v) : Gap (u ++ v) := by
  intro T n stk
  rw [feedAllWith_append_ok (hu T n stk), hv T _ stk]
  simp only [List.length_append]
  congr 2 <;> omega

theorem gap_of_skipWith {u : List Char} {p : S} {c : Char} (hp : addPath Gen.cfgS .WAIT u = some p)
    (hl : Gen.cfgS.lookup p (.ch c) = some skipWith) : Gap (u ++ [c]) := by
  intro T n stk
  rw [feedAllWith_append_ok (addPath_run shipped_code T u _ _ hp n n stk), feedAllWith_one,
    feedWith_adv (handle_skipWith shipped_code hl)]
  simp [Nat.add_assoc]

theorem gap_of_dropBefore {u : List Char} {p : S} {d : Char} (hp : addPath Gen.cfgS .WAIT u = some p)
    (hl : Gen.cfgS.lookup p (.ch d) = some dropBefore) (hs : Gen.cfgS.lookup .WAIT (.ch d) = some skip) : Gap (u ++ [d]) := by
  intro T n stk
  rw [feedAllWith_append_ok (addPath_run shipped_code T u _ _ hp n n stk), feedAllWith_one,
    feedWith_retry (handle_dropBefore shipped_code hl), handle_skip shipped_code hs]
  simp [Nat.add_assoc]

/-- a comment in any context, block comments: `/* p */` with any body `p` that does not contain `*/` is a gap -/
theorem gap_block (p : List Char) (h : hasBlockEnd p = false) : Gap ('/' :: '*' :: (p ++ ['*', '/'])) := by
  obtain ⟨star', hrun⟩ := blk_path p false h
  have hp : addPath Gen.cfgS .WAIT ('/' :: '*' :: (p ++ ['*'])) = some (blkSt true) := by
    rw [addPath_cons (q := .AFTER_2F) (look (by decide +kernel)), addPath_cons (q := blkSt false) (look (by decide +kernel)),
      addPath_append, hrun]
    exact addPath_cons (blk_step star' '*' (by simp)) []
  have := gap_of_skipWith hp (c := '/') (look (by decide +kernel))
  simpa using this

/-- a comment in any context, line comments: `--p⏎` and `#p⏎` with any body `p` without a line break are gaps -/
theorem gap_line (p : List Char) (hp : ∀ c ∈ p, c ≠ '\n') :
    Gap ('-' :: '-' :: (p ++ ['\n'])) ∧ Gap ('#' :: (p ++ ['\n'])) := by
  have hnl : Gen.cfgS.lookup .IN_EXPLAIN_1 (.ch '\n') = some dropBefore := look (by decide +kernel)
  have h1 : addPath Gen.cfgS .WAIT ('-' :: '-' :: p) = some .IN_EXPLAIN_1 := by
    rw [addPath_cons (q := .AFTER_2D) (look (by decide +kernel)), addPath_cons (q := .IN_EXPLAIN_1) (look (by decide +kernel))]
    exact addPath_loop line_body p hp
  have h2 : addPath Gen.cfgS .WAIT ('#' :: p) = some .IN_EXPLAIN_1 := by
    rw [addPath_cons (q := .IN_EXPLAIN_1) (look (by decide +kernel))]; exact addPath_loop line_body p hp
  exact ⟨gap_of_dropBefore h1 hnl wait_newline, gap_of_dropBefore h2 hnl wait_newline⟩

/-- the **gap lemma**: two texts that differ only in a gap read from between tokens lex identically -/
theorem gap_irrelevant (a b u1 u2 : List Char) (stk : List (List Tok)) (hA : WaitAfter Gen.cfgS a stk)
    (h1 : Gap u1) (h2 : Gap u2) : lexText Gen.cfgS (a ++ u1 ++ b) = lexText Gen.cfgS (a ++ u2 ++ b) := by
  rw [lexText_after hA, lexText_after hA]
  apply ERel.eq_of_all₂
  apply runTail_ctx TokRel.eq Gen.cfgS shipped_good (a ++ u1) (a ++ u2) b
  rw [h1, h2]
  exact .at_ends (by simp) (by simp) (TokRel.eq.reflS stk)

/-- two texts that differ only in the body of a block comment, or only in the body of
a line comment, lex identically — whatever the bodies contain (quotes, brackets, semicolons, `/*`, …). -/
theorem comment_body_irrelevant (a b p p' : List Char) (stk : List (List Tok)) (hA : WaitAfter Gen.cfgS a stk) :
    (hasBlockEnd p = false → hasBlockEnd p' = false →
      lexText Gen.cfgS (a ++ '/' :: '*' :: (p ++ ['*', '/']) ++ b) = lexText Gen.cfgS (a ++ '/' :: '*' :: (p' ++ ['*', '/']) ++ b)) ∧
    ((∀ c ∈ p, c ≠ '\n') → (∀ c ∈ p', c ≠ '\n') →
      lexText Gen.cfgS (a ++ '-' :: '-' :: (p ++ ['\n']) ++ b) = lexText Gen.cfgS (a ++ '-' :: '-' :: (p' ++ ['\n']) ++ b) ∧
      lexText Gen.cfgS (a ++ '#' :: (p ++ ['\n']) ++ b) = lexText Gen.cfgS (a ++ '#' :: (p' ++ ['\n']) ++ b)) :=
  ⟨fun h h' => gap_irrelevant a b _ _ stk hA (gap_block p h) (gap_block p' h'),
   fun h h' => ⟨gap_irrelevant a b _ _ stk hA (gap_line p h).1 (gap_line p' h').1,
                gap_irrelevant a b _ _ stk hA (gap_line p h).2 (gap_line p' h').2⟩⟩

/-- non-vacuity -/
example : WaitAfter Gen.cfgS "SELECT a ".toList [[.single "SELECT".toList 0, .single ['a'] 2]] ∧
    hasBlockEnd " x'; ( ".toList = false ∧
    lexesTo (lex Gen.cfgS "SELECT a /* x'; ( */, b".toList)
      [.single "SELECT".toList 0, .single ['a'] 2, .single [','] 0, .single ['b'] 2] = true ∧
    lexesTo (lex Gen.cfgS "SELECT a /**/, b".toList)
      [.single "SELECT".toList 0, .single ['a'] 2, .single [','] 0, .single ['b'] 2] = true :=
  ⟨waitAfterB_sound _ _ _ (by decide +kernel), by decide +kernel, by decide +kernel, by decide +kernel⟩

/-! ## shapes the escape grammar covers -/

theorem strBody_shapes (k : QK) (p1 p2 : List Char) (c : Char) (h1 : ∀ c ∈ p1, c ≠ k.ch ∧ c ≠ '\\')
    (h2 : ∀ c ∈ p2, c ≠ k.ch ∧ c ≠ '\\') :
    strBody k.ch (p1 ++ [k.ch, k.ch] ++ p2) = true ∧ strBody k.ch (p1 ++ ['\\', c] ++ p2) = true := by
  have hp2 : strBody k.ch p2 = true := by
    have := strBody_payload_append k p2 [] h2 rfl
    simpa using this
  constructor
  · rw [List.append_assoc]
    apply strBody_payload_append k p1 _ h1
    have hq : (k.ch == '\\') = false := by simpa using ch_ne_backslash k
    cases p2 with
    | nil => simp [strBody, hq]
    | cons d r => simpa [strBody, hq] using hp2
  · rw [List.append_assoc]
    apply strBody_payload_append k p1 _ h1
    cases p2 with
    | nil => simp [strBody]
    | cons d r => simpa [strBody] using hp2

/-- non-vacuity: `'it''s'`, `'a\'b'`, `"x\\"` are single tokens; `'a'b'` is not of the grammar -/
example : strBody '\'' "it''s".toList = true ∧ strBody '\'' "a\\'b".toList = true ∧ strBody '"' "x\\\\".toList = true ∧
    strBody '\'' "a'b".toList = false ∧
    lexesTo (lex Gen.cfgS "'it''s' x".toList) [.single "'it''s'".toList 10, .single ['x'] 2] = true ∧
    lexesTo (lex Gen.cfgS "'a\\'b'".toList) [.single "'a\\'b'".toList 10] = true := by decide +kernel

end C06
