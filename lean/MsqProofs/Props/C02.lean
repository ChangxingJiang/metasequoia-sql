import MsqProofs.Lemmas.SR
import MsqProofs.Lemmas.ParseMono
/-!
# C02 — expression trees follow the documented operator precedence and grouping

`SR.shiftReduce_spec` is the abstract result (the loop returns THE tree that is
well nested w.r.t. the level table and has the given in-order sequence); `compute_eq_shiftReduce`
transfers it to the parser model at token level; the `decide` obligations tie the level numbers to the
documented order on the GENERATED tables.
-/
open Lex
namespace C02
open PM SR Ast

/-- levels of the compute operators, as generated from `EnumComputeOperator.level` -/
def levelOf (name : String) : Option Nat := (Gen.computeEnum.find? (·.1 == name)).map (·.2.2)

/-- unary (2) ≺ ^ (3) ≺ * / % (4) ≺ + - (5) ≺ << >> (6) ≺ & (7) ≺ | (8): members and strict order -/
theorem level_table :
    (Gen.computeEnum.map fun e => (e.2.1, e.2.2)) =
      [("~", 2), ("!", 2), ("^", 3), ("*", 4), ("/", 4), ("%", 4), ("+", 5), ("-", 5), ("<<", 6), (">>", 6), ("&", 7), ("|", 8)] := by
  decide

/-- both spellings map to one operator: DIV ≡ /, MOD ≡ % (`COMPUTE_OPERATOR_HASH`) -/
theorem spellings : computeOp? "DIV" = computeOp? "/" ∧ computeOp? "MOD" = computeOp? "%" := by decide

/-- every key of the operator table resolves to a member with a level -/
theorem hash_total : Gen.computeHash.all (fun e => (computeOp? e.1).isSome) = true := by decide

/-- Hive's `!` is a NOT-level prefix and not a unary operator; everywhere else it is unary -/
theorem hive_bang : (Gen.unarySet .HIVE).contains "!" = false ∧ (Gen.notSet .HIVE).contains "!" = true
    ∧ Gen.allD.all (fun d => d == .HIVE || ((Gen.unarySet d).contains "!" && !(Gen.notSet d).contains "!")) = true := by decide

/-- an operator token: a leaf whose upper-cased source is a key of `COMPUTE_OPERATOR_HASH` -/
structure OpTok where
  tok : Tok
  name : String
  level : Nat
  ok : computeOp? (up tok.src) = some (name, level)

def OpTok.op (o : OpTok) : Op := ⟨o.name, o.level⟩

def embed : T Expr → Expr
  | .leaf e => e
  | .node l o r => .compute (embed l) o.name (embed r)

def embSt (st : List (T Expr × Op)) : List (Expr × String × Nat) := st.map fun e => (embed e.1, e.2.name, e.2.level)

theorem reduceWhile_embed (lvl : Nat) (st : List (T Expr × Op)) (top : T Expr) :
    PM.reduceWhile lvl (embSt st) (embed top) =
      (embSt (SR.reduceWhile lvl st top).1, embed (SR.reduceWhile lvl st top).2) := by
  induction st generalizing top with
  | nil => simp [PM.reduceWhile, SR.reduceWhile, embSt]
  | cons e st ih =>
    obtain ⟨l, o⟩ := e
    simp only [embSt, List.map_cons, PM.reduceWhile, SR.reduceWhile]
    split
    · have := ih (T.node l o top)
      simp only [embSt, embed] at this
      simp [this]
    · simp

theorem collapse_embed (st : List (T Expr × Op)) (top : T Expr) :
    PM.collapse (embSt st) (embed top) = embed (SR.collapse st top) := by
  induction st generalizing top with
  | nil => simp [PM.collapse, SR.collapse, embSt]
  | cons e st ih =>
    obtain ⟨l, o⟩ := e
    simp only [embSt, List.map_cons, PM.collapse, SR.collapse]
    have := ih (T.node l o top)
    simp only [embSt, embed] at this
    exact this

/-- tokens of `o₁ u₁ o₂ u₂ …` given a rendering for every operand -/
def renderTail : List (OpTok × List Tok) → List Tok
  | [] => []
  | (o, r) :: xs => o.tok :: r ++ renderTail xs

def NoComputeHead : List Tok → Prop
  | t :: _ => computeOp? (up t.src) = none
  | [] => True

theorem follow_tail {Follow : List Tok → Prop} (hF : ∀ (o : OpTok) r, Follow (o.tok :: r)) (xs : List (OpTok × List Tok × Expr))
    {rest : List Tok} (hfr : Follow rest) : Follow (renderTail (xs.map fun x => (x.1, x.2.1)) ++ rest) := by
  cases xs with
  | nil => simpa [renderTail] using hfr
  | cons y ys => simp only [List.map_cons, renderTail, List.cons_append]; exact hF _ _

variable (d : Gen.D)

/-- an operand rendering `r` parses at the unary level to `u` in front of anything that does not extend it -/
def Operand (Follow : List Tok → Prop) (r : List Tok) (u : Expr) : Prop :=
  ∀ rest, Follow rest → ∃ f, pUnary d f (r ++ rest) = .ok (u, rest)

theorem loop_stop (st : List (Expr × String × Nat)) (top : Expr) (rest : List Tok) (h : NoComputeHead rest) :
    ∃ f, pComputeLoop d f st top rest = .ok (PM.collapse st top, rest) := by
  refine ⟨1, ?_⟩
  unfold pComputeLoop
  cases rest with
  | nil => rfl
  | cons t r => simp only [NoComputeHead] at h; simp [h]

theorem loop_step (st : List (Expr × String × Nat)) (top u : Expr) (o : OpTok) (ts rest : List Tok) (res)
    (hu : ∃ f, pUnary d f ts = .ok (u, rest))
    (hl : ∃ f, pComputeLoop d f (((PM.reduceWhile o.level st top).2, o.name, o.level) :: (PM.reduceWhile o.level st top).1) u rest = .ok res) :
    ∃ f, pComputeLoop d f st top (o.tok :: ts) = .ok res := by
  obtain ⟨f1, h1⟩ := hu
  obtain ⟨f2, h2⟩ := hl
  refine ⟨max f1 f2 + 1, ?_⟩
  unfold pComputeLoop
  simp only [o.ok]
  rw [(monoF d f1).pUnary _ _ _ h1 (Nat.le_max_left _ _)]
  exact (monoF d f2).pComputeLoop _ _ _ _ _ h2 (Nat.le_max_right _ _)

theorem loop_go (Follow : List Tok → Prop) (hF : ∀ (o : OpTok) r, Follow (o.tok :: r))
    (xs : List (OpTok × List Tok × Expr)) (hx : ∀ x ∈ xs, Operand d Follow x.2.1 x.2.2)
    (st : List (T Expr × Op)) (top : T Expr) (rest : List Tok) (hrest : NoComputeHead rest) (hfr : Follow rest) :
    ∃ f, pComputeLoop d f (embSt st) (embed top) (renderTail (xs.map fun x => (x.1, x.2.1)) ++ rest) =
      .ok (embed (go st top (xs.map fun x => (x.1.op, x.2.2))), rest) := by
  induction xs generalizing st top with
  | nil =>
    simp only [List.map_nil, renderTail, List.nil_append, go]
    rw [← collapse_embed]
    exact loop_stop d _ _ _ hrest
  | cons x xs ih =>
    obtain ⟨o, r, u⟩ := x
    simp only [List.map_cons, renderTail, List.cons_append, List.append_assoc, go]
    have hop : Operand d Follow r u := hx (o, r, u) (by simp)
    have hfollow := follow_tail hF xs hfr
    have hu := hop _ hfollow
    apply loop_step d _ _ u o _ _ _ hu
    have := ih (fun x hm => hx x (by simp [hm])) (((SR.reduceWhile o.level st top).2, o.op) :: (SR.reduceWhile o.level st top).1) (T.leaf u)
    rw [reduceWhile_embed]
    simpa [embSt, embed, OpTok.op] using this

/-- **C02, compute levels, token form.**  For operands that each parse at the unary level and operator
tokens of the generated table, `_parse_compute_expression` returns the tree of the abstract shift/reduce —
which by `SR.shiftReduce_spec` is the unique tree with that in-order sequence that is well nested with
respect to the level table (left child's level ≤, right child's level <: left associativity). -/
theorem compute_eq_shiftReduce (Follow : List Tok → Prop) (hF : ∀ (o : OpTok) r, Follow (o.tok :: r))
    (r0 : List Tok) (u0 : Expr) (h0 : Operand d Follow r0 u0)
    (xs : List (OpTok × List Tok × Expr)) (hx : ∀ x ∈ xs, Operand d Follow x.2.1 x.2.2)
    (rest : List Tok) (hrest : NoComputeHead rest) (hfr : Follow rest) :
    ∃ f, pCompute d f (r0 ++ renderTail (xs.map fun x => (x.1, x.2.1)) ++ rest) =
      .ok (embed (shiftReduce u0 (xs.map fun x => (x.1.op, x.2.2))), rest) := by
  have hfollow := follow_tail hF xs hfr
  obtain ⟨f1, h1⟩ := h0 _ hfollow
  obtain ⟨f2, h2⟩ := loop_go d Follow hF xs hx [] (T.leaf u0) rest hrest hfr
  refine ⟨max f1 f2 + 1, ?_⟩
  unfold pCompute
  rw [List.append_assoc, (monoF d f1).pUnary _ _ _ h1 (Nat.le_max_left _ _)]
  simp only []
  have := (monoF d f2).pComputeLoop _ _ _ _ _ h2 (Nat.le_max_right f1 f2)
  simpa [embSt, embed, shiftReduce] using this

/-- the abstract loop returns the unique well-nested tree over the sequence (restated from `SR`) -/
theorem precedence_tree_unique {α : Type} (e0 : α) (rest : List (Op × α)) (t : T α) :
    (t.flat = (e0, rest) ∧ t.WN) ↔ t = shiftReduce e0 rest := SR.shiftReduce_spec e0 rest t

/-- non-vacuity: a plain column followed by a non-operator token satisfies `Operand` -/
example : Operand .MYSQL (fun rest => rest = [Tok.single "FROM".toList 0]) [Tok.single "a".toList 2] (.column none "a") := by
  intro rest h; subst h
  exact ⟨4, by rfl⟩

end C02
