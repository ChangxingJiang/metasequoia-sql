import MsqProofs.Props.C04b
import MsqProofs.Lemmas.LexRetain2
import MsqProofs.Lemmas.LexRetain2Text
import MsqProofs.Oblig.RetCfg0
import MsqProofs.Oblig.RetCfg1
import MsqProofs.Oblig.RetCfg2
import MsqProofs.Oblig.RetCfg3
import MsqProofs.Oblig.RetCfg4
import MsqProofs.Oblig.RetCfg5
import MsqProofs.Oblig.RetCfg6
import MsqProofs.Oblig.RetCfg7
/-!
# C04 (d) — retention under all 8 option settings, and group rendering

The structural scanner of `LexScan.lean` (quotes with their escapes, the three comment forms, where a bare token ends —
no table, no windows, no stack) plus ONE character of look-ahead classifies every character occurrence of a text
(`Scan.classes`, `Scan.classOf`): `bracket e` (a bracket read as a bracket, with its event), `comment`, `blank`,
`lbreak` (between tokens), `tok` (everything else).  A setting `i = 4·IGNORE_SPACE + 2·IGNORE_LINEBREAK + IGNORE_COMMENT`
ignores the classes `ign i`.

**`C04.retained_marked`** (all 8 settings, every accepted text): the rendering of the token list in the *marked*
alphabet (`msrcL`: `AMTBase.source`, the brackets of a group written as the events `opn … cls k`) IS the pre-processed
input with exactly the characters of the ignored classes removed (`Scan.eraseM`), every other character in place, the
brackets read as brackets replaced by their events.  Projections:

* `retained_all` — `sourceL ts = erase (ign i) (pre raw)`: the concatenated token texts are the input without the
  ignored classes, brackets read as brackets in ROUND form (F-C04-2; brackets inside quotes and comments as written);
  under setting 0 (nothing ignored) this is `retained_concat`: the pre-processed input with exactly the bracket
  characters that were read as brackets put in their round form (`roundBrackets`); on raw text this is modulo the
  pre-pass (F-C04-3: TAB, CR LF, U+3000 do not come back).  Corollaries: equality up to the kind of bracket characters
  (`retained_concat_map`), exact reproduction of every input without square brackets (`retained_concat_exact`);
* `leaves_all` / `leaves_are_the_covered_characters` — the concatenation of the LEAF token texts is exactly the
  subsequence of the characters whose class is neither a bracket nor ignored: what is not covered by a token is
  bracket characters and, per setting, exactly the ignored ones of blank / line break / comment;
* `skeleton_of_marked` — the events of the marked text are the bracket skeleton of the tree (C04.bracket_skeleton again);
* `erase_removes_exactly_ignored` — `eraseM` as a filter on the classified text.

Group rendering (`group_rendering`, `group_in_text`): every group of the tree, at any depth, renders as `(` children
`)` whatever its kind, and its marked rendering `opn … cls k` is a contiguous piece of the marked erased text, balanced
inside: the group starts at a character read as an opening bracket (`(` or `[` — the kind of the opening bracket is not
recorded, F-C04-1), ends at the matching closing one whose kind is the group's (`)`: paren, `]`: slice), and everything
between them that is not ignored is inside the group.

Findings visible: F-C04-1 (`Ev.opn` is kind-less, `cls k` is the kind of the CLOSING bracket), F-C04-2 (`MC.round`
renders `cls slice` as `)` and an `opn` that was `[` as `(`: `witness_square_comes_back_round`), F-C04-3 (the statement
is about `pre raw`: `witness_tab_erased`).
-/
namespace C04
open Lex Scan Spec

/-- the classes setting `i` ignores -/
def ign (i : Fin 8) : Ign := Ign.ofBits i.val

/-- the eight settings, spelled out: (blank, line break, comment) ignored -/
theorem ign_table : ign 0 = ⟨false, false, false⟩ ∧ ign 1 = ⟨false, false, true⟩ ∧ ign 2 = ⟨false, true, false⟩ ∧
    ign 3 = ⟨false, true, true⟩ ∧ ign 4 = ⟨true, false, false⟩ ∧ ign 5 = ⟨true, false, true⟩ ∧
    ign 6 = ⟨true, true, false⟩ ∧ ign 7 = ⟨true, true, true⟩ := by decide

theorem retSim : ∀ i : Fin 8, retCheck (ign i) (cfgOf i) = true :=
  forall_settings Oblig.retSim_cfg0 Oblig.retSim_cfg1 Oblig.retSim_cfg2 Oblig.retSim_cfg3 Oblig.retSim_cfg4 Oblig.retSim_cfg5
    Oblig.retSim_cfg6 Oblig.retSim_cfg7

/-- **C04.retained_marked** (d): all 8 settings, every accepted text. -/
theorem retained_marked (i : Fin 8) (raw : List Char) (ts : List Tok) (h : lex (cfgOf i) raw = .ok ts) :
    msrcL ts = eraseM (ign i) ((cfgOf i).pre raw) := by
  obtain ⟨advSt, wk, hT⟩ := tableOK_all i
  exact lex_mretained _ advSt wk _ hT (summarizable i) (retSim i) (lookup_norm i) (scanSim i) (depth_le i) raw ts h

/-- **C04.retained_all** (d): under every setting the rendered token texts concatenate to the pre-processed input with
exactly the characters of the ignored classes removed and the brackets read as brackets in round form. -/
theorem retained_all (i : Fin 8) (raw : List Char) (ts : List Tok) (h : lex (cfgOf i) raw = .ok ts) :
    sourceL ts = erase (ign i) ((cfgOf i).pre raw) := by
  rw [erase, ← retained_marked i raw ts h, msrcL_round]

/-- the leaf token texts concatenate to the characters kept as written (no structural brackets) -/
theorem leaves_all (i : Fin 8) (raw : List Char) (ts : List Tok) (h : lex (cfgOf i) raw = .ok ts) :
    (leavesL ts).flatten = (eraseM (ign i) ((cfgOf i).pre raw)).filterMap MC.ch? := by
  rw [← retained_marked i raw ts h, msrcL_leaves]

/-- the bracket events of the marked erased text are the bracket skeleton of the tree -/
theorem skeleton_of_marked (i : Fin 8) (raw : List Char) (ts : List Tok) (h : lex (cfgOf i) raw = .ok ts) :
    skelL ts = (eraseM (ign i) ((cfgOf i).pre raw)).filterMap MC.ev? := by
  rw [← retained_marked i raw ts h, msrcL_skel]

/-! ## exactly the ignored classes -/

/-- `eraseM` is a filter on the classified text: a bracket read as a bracket becomes its event, a character of an
ignored class is removed, every other character is kept as written -/
theorem erase_removes_exactly_ignored (ig : Ign) (text : List Char) :
    eraseM ig text = ((text.zip (classes text)).map fun p =>
      match p.2 with
      | .bracket e => [MC.ev e]
      | k => if ig.drops k then [] else [MC.ch p.1]).flatten := by
  rw [eraseM, eraseA_eq_classes, classes]
  congr 1
  apply List.map_congr_left
  intro p _
  obtain ⟨c, k⟩ := p
  cases k <;> simp only [outK] <;> first | rfl | (split <;> simp_all [OutK.out])

/-- a character occurrence is covered by a (leaf) token: it is no bracket read as a bracket and its class is not
ignored -/
def covered (ig : Ign) : CC → Bool
  | .bracket _ => false
  | k => !ig.drops k

theorem out_ch (ig : Ign) (c : Char) (k : CC) :
    ((outK ig k).out c).filterMap MC.ch? = if covered ig k then [c] else [] := by
  obtain ⟨sp, lb, cm⟩ := ig
  cases k <;> cases sp <;> cases lb <;> cases cm <;> rfl

theorem filterMap_ch_flatten (ig : Ign) (l : List (Char × CC)) :
    ((l.map fun p => (outK ig p.2).out p.1).flatten).filterMap MC.ch? = (l.filter fun p => covered ig p.2).map (·.1) := by
  induction l with
  | nil => rfl
  | cons p l ih =>
    simp only [List.map_cons, List.flatten_cons, List.filterMap_append, ih, out_ch, List.filter_cons]
    split <;> simp

/-- **C04.leaves_are_the_covered_characters**: the concatenation of the leaf token texts is exactly the subsequence of
the characters of the pre-processed input that are no brackets (read as brackets) and whose class is not ignored.
Hence what no token covers is: bracket characters, and — per setting exactly — the ignored ones among blanks, line
breaks and comment characters. -/
theorem leaves_are_the_covered_characters (i : Fin 8) (raw : List Char) (ts : List Tok)
    (h : lex (cfgOf i) raw = .ok ts) :
    (leavesL ts).flatten =
      ((((cfgOf i).pre raw).zip (classes ((cfgOf i).pre raw))).filter fun p => covered (ign i) p.2).map (·.1) := by
  rw [leaves_all i raw ts h, eraseM, eraseA_eq_classes, classes, filterMap_ch_flatten]

/-- under setting 0 every character that is no bracket is covered; under setting 7 exactly the `tok` characters -/
theorem covered_cfg0 (k : CC) : covered (ign 0) k = (match k with | .bracket _ => false | _ => true) := by
  cases k <;> rfl

theorem covered_cfg7 (k : CC) : covered (ign 7) k = (k == .tok) := by
  cases k <;> rfl

/-- consistency with `retained_concat` (setting 0): with nothing ignored the erasure is `roundBrackets`, for EVERY
text (so `retained_concat` is the instance `i = 0` of `retained_all`) -/
theorem erase_cfg0_roundBrackets (text : List Char) : erase (ign 0) text = roundBrackets text :=
  erase_none_roundBrackets text

/-! ## nothing ignored (setting 0) -/

/-- the table of setting 0 never drops a window silently: the only operations that discard characters are the bracket
operations, which advance, between tokens, on a bracket character of their direction -/
theorem retainOK_cfg0 : retainOK Gen.Cfg0.cfg = true := by decide +kernel

/-- … and it is the only such setting (every other one ignores blanks, line breaks or comments) -/
example : retainOK Gen.Cfg1.cfg = false ∧ retainOK Gen.Cfg2.cfg = false ∧ retainOK Gen.Cfg4.cfg = false ∧
    retainOK Gen.Cfg7.cfg = false := by decide +kernel

/-- **C04.retained_concat** (d): under setting 0, for every accepted text, the rendered token texts concatenate to the
pre-processed input with the brackets that were read as brackets in round form. -/
theorem retained_concat (raw : List Char) (ts : List Tok) (h : lex (cfgOf 0) raw = .ok ts) :
    sourceL ts = roundBrackets ((cfgOf 0).pre raw) := by
  rw [← erase_cfg0_roundBrackets]; exact retained_all 0 raw ts h

/-- … hence equality up to the kind of the bracket characters -/
theorem retained_concat_map (raw : List Char) (ts : List Tok) (h : lex (cfgOf 0) raw = .ok ts) :
    (sourceL ts).map nbc = ((cfgOf 0).pre raw).map nbc := by
  rw [retained_concat raw ts h]; exact rbAll_map _ _

theorem roundBrackets_id (μ : Scan.Mode) (t : List Char) (h : ∀ c ∈ t, c ≠ '[' ∧ c ≠ ']') : (rbAll μ t).2 = t := by
  induction t generalizing μ with
  | nil => rfl
  | cons c cs ih =>
    have hc := h c (by simp)
    have : nbc c = c := by simp [nbc, hc.1, hc.2]
    simp only [rbAll, this, ite_self]
    rw [ih _ fun d hd => h d (by simp [hd])]

/-- … and exact reproduction ("concatenating the token texts reproduces the input") of every accepted input that
contains no square bracket -/
theorem retained_concat_exact (raw : List Char) (ts : List Tok) (h : lex (cfgOf 0) raw = .ok ts)
    (hsq : ∀ c ∈ (cfgOf 0).pre raw, c ≠ '[' ∧ c ≠ ']') : sourceL ts = (cfgOf 0).pre raw := by
  rw [retained_concat raw ts h]; exact roundBrackets_id _ _ hsq

/-- non-vacuity, F-C04-2 and F-C04-3 on the model: nested mixed brackets render round, brackets inside quotes and
comments come back as written, blanks and comments are retained, a TAB comes back as a blank -/
example :
    roundBrackets "f(a[1], '[' /* ] */ \"[\" `]` (b]) -- [\n".toList = "f(a(1), '[' /* ] */ \"[\" `]` (b)) -- [\n".toList ∧
    (match lex (cfgOf 0) "f(a[1], '[' /* ] */ \"[\" `]` (b]) -- [\n".toList with
      | .ok ts => sourceL ts == "f(a(1), '[' /* ] */ \"[\" `]` (b)) -- [\n".toList | .error _ => false) = true ∧
    (match lex (cfgOf 0) "a\t[1]".toList with | .ok ts => sourceL ts == "a (1)".toList | .error _ => false) = true := by
  decide +kernel

/-! ## group rendering -/

/-- the token `g` occurs in the token list, at any depth -/
inductive Occ (g : Tok) : List Tok → Prop
  | here (a b : List Tok) : Occ g (a ++ g :: b)
  | inside (a b : List Tok) (k : GK) (cs : List Tok) (mk : Nat) : Occ g cs → Occ g (a ++ .group k cs mk :: b)

theorem occ_marked (g : Tok) (ts : List Tok) (h : Occ g ts) : ∃ p q, msrcL ts = p ++ Tok.msrc g ++ q := by
  induction h with
  | here a b => exact ⟨msrcL a, msrcL b, by simp [msrcL_append, msrcL]⟩
  | inside a b k cs mk _ ih =>
    obtain ⟨p, q, e⟩ := ih
    exact ⟨msrcL a ++ .ev .opn :: p, q ++ .ev (.cls k) :: msrcL b, by simp [msrcL_append, msrcL, Tok.msrc, e]⟩

/-- **C04.group_rendering**: a group of either kind renders with ROUND brackets around the rendering of its children
(`amt_node.py:115`; F-C04-2 for `[ … ]`), and its marked rendering is `opn`, the children, `cls k`, balanced inside. -/
theorem group_rendering (k : GK) (cs : List Tok) (mk : Nat) :
    Tok.source (.group k cs mk) = '(' :: (sourceL cs ++ [')']) ∧
    Tok.msrc (.group k cs mk) = .ev .opn :: (msrcL cs ++ [.ev (.cls k)]) ∧
    (msrcL cs).map MC.round = sourceL cs ∧
    depthOK 0 ((msrcL cs).filterMap MC.ev?) = true := by
  refine ⟨rfl, rfl, msrcL_round cs, ?_⟩
  rw [msrcL_skel]; exact depthOK_tree cs

/-- **C04.group_in_text**: every group of the tree of an accepted text, at any depth, is a contiguous piece of the
marked erased input: it starts at a bracket event `opn` (a `(` or `[` read as a bracket), ends at the event `cls k` of
its own kind (F-C04-1: the kind of the CLOSING bracket), and the piece between them — balanced — is exactly its
children; rendered, the piece is `(` … `)`. -/
theorem group_in_text (i : Fin 8) (raw : List Char) (ts : List Tok) (h : lex (cfgOf i) raw = .ok ts)
    (k : GK) (cs : List Tok) (mk : Nat) (ho : Occ (.group k cs mk) ts) :
    ∃ p q, eraseM (ign i) ((cfgOf i).pre raw) = p ++ (.ev .opn :: (msrcL cs ++ [.ev (.cls k)])) ++ q ∧
      sourceL ts = p.map MC.round ++ ('(' :: (sourceL cs ++ [')'])) ++ q.map MC.round ∧
      depthOK 0 ((msrcL cs).filterMap MC.ev?) = true := by
  obtain ⟨p, q, e⟩ := occ_marked _ ts ho
  refine ⟨p, q, ?_, ?_, (group_rendering k cs mk).2.2.2⟩
  · rw [← retained_marked i raw ts h, e]; rfl
  · rw [← msrcL_round ts, e]
    simp [Tok.msrc, MC.round, msrcL_round]

/-- the class `bracket e` is only ever given to a bracket CHARACTER, and the event says which: `opn` for `(` and `[`
(kind-less: F-C04-1), `cls paren` for `)`, `cls slice` for `]` -/
theorem bracket_class_is_bracket_char (μ : Mode) (c : Char) (nx : Option Nat) (e : Ev)
    (h : classOf μ (norm c.toNat) nx = .bracket e) :
    (e = .opn ∧ (c = '(' ∨ c = '[')) ∨ (e = .cls .paren ∧ c = ')') ∨ (e = .cls .slice ∧ c = ']') :=
  bracket_class_char μ c nx e h

/-- the closing bracket character of a group kind -/
def closer : GK → Char
  | .paren => ')'
  | .slice => ']'

/-- **C04.group_span** (text level): every group of the tree of an accepted text, at any depth, sits on a piece
`o t2 c` of the pre-processed input: `o` is a `(` or a `[` read as a bracket (either, whatever the kind of the group:
F-C04-1), `c` is the closing bracket character of the group's kind, read as a bracket, and the marked rendering of the
children is exactly the erasure of the text `t2` between the two (read in the mode the scanner is in after `o`, with
`c` as the character that follows); rendered: `(`, that erased text with round brackets, `)` (F-C04-2). -/
theorem group_span (i : Fin 8) (raw : List Char) (ts : List Tok) (h : lex (cfgOf i) raw = .ok ts)
    (k : GK) (cs : List Tok) (mk : Nat) (ho : Occ (.group k cs mk) ts) :
    ∃ t1 o t2 c t3, (cfgOf i).pre raw = t1 ++ o :: (t2 ++ c :: t3) ∧ (o = '(' ∨ o = '[') ∧ c = closer k ∧
      msrcL cs = eraseA (ign i) (step (scanAll .N t1).1 (norm o.toNat)).1 t2 (some (norm c.toNat)) ∧
      Tok.source (.group k cs mk) =
        '(' :: ((eraseA (ign i) (step (scanAll .N t1).1 (norm o.toNat)).1 t2 (some (norm c.toNat))).map MC.round ++ [')']) := by
  obtain ⟨p, q, e1, _, _⟩ := group_in_text i raw ts h k cs mk ho
  have e2 : eraseA (ign i) .N ((cfgOf i).pre raw) none = p ++ .ev .opn :: (msrcL cs ++ .ev (.cls k) :: q) := by
    rw [← eraseM, e1]; simp
  obtain ⟨t1, o, b, hb, _, hco, hrest⟩ := eraseA_split (ign i) none .opn _ _ .N p e2
  obtain ⟨t2, c, t3, hb2, hmid, hcc, _⟩ := eraseA_split (ign i) none (.cls k) q b _ (msrcL cs) hrest
  refine ⟨t1, o, t2, c, t3, by rw [hb, hb2], ?_, ?_, hmid.symm, ?_⟩
  · rcases bracket_class_char _ o _ _ hco with ⟨_, ho'⟩ | ⟨he, _⟩ | ⟨he, _⟩
    · exact ho'
    · cases he
    · cases he
  · rcases bracket_class_char _ c _ _ hcc with ⟨he, _⟩ | ⟨he, hc⟩ | ⟨he, hc⟩
    · cases he
    · cases he; exact hc
    · cases he; exact hc
  · rw [hmid, msrcL_round]; rfl

/-! ## non-vacuity and the findings on the model (kernel-evaluated) -/

/-- the classes of a small text: a blank, a line comment up to (not including) its line break, brackets, a block
comment, a quoted `#`, a `-` that opens no comment -/
example : classes "a -- x\n(b) /**/ '#' -1".toList =
    [.tok, .blank, .comment, .comment, .comment, .comment, .lbreak, .bracket .opn, .tok, .bracket (.cls .paren), .blank,
     .comment, .comment, .comment, .comment, .blank, .tok, .tok, .tok, .blank, .tok, .tok] := by decide +kernel

/-- the same text under four settings: what the lexer renders is the erased text -/
example :
    erase (ign 0) "a -- x\n[b) /**/ '#' -1".toList = "a -- x\n(b) /**/ '#' -1".toList ∧
    erase (ign 1) "a -- x\n[b) /**/ '#' -1".toList = "a \n(b)  '#' -1".toList ∧
    erase (ign 6) "a -- x\n[b) /**/ '#' -1".toList = "a-- x(b)/**/'#'-1".toList ∧
    erase (ign 7) "a -- x\n[b) /**/ '#' -1".toList = "a(b)'#'-1".toList ∧
    (match lex (cfgOf 7) "a -- x\n[b) /**/ '#' -1".toList with
      | .ok ts => sourceL ts == "a(b)'#'-1".toList | .error _ => false) = true ∧
    (match lex (cfgOf 1) "a -- x\n[b) /**/ '#' -1".toList with
      | .ok ts => sourceL ts == "a \n(b)  '#' -1".toList | .error _ => false) = true := by decide +kernel

/-- F-C04-2 on the model, through the erasure: square brackets read as brackets come back round, inside quotes they
stay (shipped setting) -/
theorem witness_square_comes_back_round :
    erase (ign 7) "a[1] '[' ".toList = "a(1)'['".toList ∧
    eraseM (ign 7) "[a)".toList = [.ev .opn, .ch 'a', .ev (.cls .paren)] := by decide +kernel

/-- F-C04-3 on the model: the statement is about the pre-processed text — a TAB is a blank there and is erased or
comes back as a blank -/
theorem witness_tab_erased :
    (cfgOf 7).pre "a\tb".toList = "a b".toList ∧ erase (ign 7) ((cfgOf 7).pre "a\tb".toList) = "ab".toList ∧
    erase (ign 0) ((cfgOf 0).pre "a\tb".toList) = "a b".toList := by decide +kernel

/-- each table satisfies the obligation of its own setting only (a sample of the 56 other pairs) -/
example : retCheck (ign 7) (cfgOf 0) = false ∧ retCheck (ign 0) (cfgOf 7) = false ∧ retCheck (ign 3) (cfgOf 1) = false ∧
    retCheck (ign 5) (cfgOf 4) = false ∧ retCheck (ign 6) (cfgOf 7) = false :=
  -- one failing cell each: a blank between tokens, a line break between tokens, the line break that ends a line comment
  ⟨retCheck.false_of_cell .WAIT .N (by decide) 32 (by decide +kernel),
   retCheck.false_of_cell .WAIT .N (by decide) 32 (by decide +kernel),
   retCheck.false_of_cell .WAIT .N (by decide) 10 (by decide +kernel),
   retCheck.false_of_cell .IN_EXPLAIN_1 .LC (by decide) 10 (by decide +kernel),
   retCheck.false_of_cell .IN_EXPLAIN_1 .LC (by decide) 10 (by decide +kernel)⟩

/-- a group inside a group: the occurrence relation is inhabited on a real tree -/
example : Occ (.group .slice [.single ['1'] 72] 512)
    [.single ['f'] 2, .group .paren [.single ['a'] 2, .group .slice [.single ['1'] 72] 512] 4] :=
  .inside [.single ['f'] 2] [] .paren _ 4 (.here [.single ['a'] 2] [])

/-- the span of the inner group of `f(a[1 ], 2)` under the shipped setting: the text between `[` and `]` is `1 `, its
erasure `1` -/
example : eraseA (ign 7) (step (scanAll .N "f(a".toList).1 (norm '['.toNat)).1 "1 ".toList (some (norm ']'.toNat)) =
    [.ch '1'] ∧ lexesTo (lex (cfgOf 7) "f(a[1 ], 2)".toList)
      [.single ['f'] 2, .group .paren [.single ['a'] 2, .group .slice [.single ['1'] 72] 512, .single [','] 0,
        .single ['2'] 72] 4] = true := by decide +kernel

end C04
