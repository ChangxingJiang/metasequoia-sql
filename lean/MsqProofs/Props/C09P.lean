import MsqProofs.Lemmas.ParseCase
import MsqProofs.Props.C09
import MsqProofs.Lemmas.LexLink
/-!
# C09, parser half: the letter case of WORD tokens never changes what the parser does

Built on the relational family `MsqProofs/Lemmas/ParseRel*.lean` (`tools/gen_rel.py`) read at the token theory `PM.caseT` (`Lemmas/ParseCase3.lean`): for EVERY function `f` of the parser
model (the 80 functions of the mutual block of `Parse/Expr.lean`, the 19 cursor primitives / helpers, the 57 functions of
`Parse/Stmt.lean` and `pStatements`, `pSubValue` of `Parse/Entry.lean`: 158 in all; four fuel steps — `pSplit`, `pSelectStmt`, `pUnions`, `pTableExpr` — by hand
in `Lemmas/ParseRel7.lean`) the statement `args ~ args' → f args ≈ f args'`: the field `f` of `PM.Rel.genF_all` for a function of the block, a lemma
`PM.Rel.<f>_rel` for the others; read at `caseT` it is `PM.<f>_ce` (`Lemmas/ParseCase.lean`).

* `PM.CE t t'` / `PM.CEL ts ts'` (`Lemmas/ParseCase1.lean`): the two tokens (token lists) differ at most in the LETTER CASE OF WORDS — same
  shape, same marks, and a leaf is literally the same or both leaves are case words (`caseWord`: ASCII letters, digits, `_`, at least one
  letter: no quote, no back-quote, no dot, no operator character) with the same `str.upper()`.
* `PM.upSt0` … (`Lemmas/ParseCase0.lean`, `ParseCase4.lean`): `upAll`, the tree with EVERY stored string mapped through `str.upper()`.
* `≈` is `PM.CEX (ceq (List.map upSt0))`: both runs fail with the SAME error kind, or both succeed with trees whose `upAll` are equal
  (same statement kinds, same clause slots, same shape, every stored text equal up to letter case).

## What is proved here
* `C09.parse_case_invariant` (+ `_accept`, `_reject`, `_kinds`, `_loop`, `_statement`): `parse_statements` on case-equivalent token lists.
* `C09.entries_case_invariant`, `entries2_case_invariant`, `entriesAll_case_invariant`: EVERY public entry point (`PM.entries` 58 + `PM.entries2`
  26 = 84): same accept / reject, same error kind, case-equivalent remaining
  cursors (hence the same number of unconsumed tokens) — the typed `≈` form for each entry is the lemma `PM.<function>_ce` of the function it wraps.
* text level: `C09.parse_case_invariant_text`, `C09.parseText_case_invariant` (the entry points on text, with the fuel they compute
  themselves: `fuelFor` does not depend on letter case, `cel_sizeL`), composed with the lexer half through `C09.keyword_variants_ce`
  (every one of the 1292 letter-case variants of the 27 keyword-table entries lexes to a token `CE`-related to the upper-case one) and
  `C09.word_recase` (any word not beginning with `b B x X`, in any delimiter context: `LexLink.lx_word` + `wordMark_upper`).

## What the `≈` form leaves open (the sharp form)
`≈` does not say WHICH stored texts may differ.  The sharp statement "if the differing tokens are keywords in keyword position the trees
are EQUAL" needs an instrumented parser (which tokens end up in the tree is a property of the parse, not of the token: `SELECT a AS select`
stores a keyword) and is NOT proved in general.  What is known:
* literal equality holds on the T-query fragment for the ONE spelling the printer emits (`C03.tquery`) and for the operator / noise-word
  spellings of `C09.tquery_spellings`; the letter case of the keyword tokens of `toksQ` is not among the spelling choices there;
* words that ARE stored with their letter case although a reader would call them keywords (each checked on the real code, see the
  `#guard`s at the end): the literal words `NULL` / `TRUE` / `FALSE`, function names (`COUNT`; the type of a CAST is
  normalised to the enum member, function names are not), `USING` of a join (F-C09-2: parsed as a function call), `CURRENT_DATE` (a
  column name), column type names of CREATE TABLE (`a int` / `a INT`), option values (`ENGINE = innodb`), `CHARACTER SET` / `COLLATE` names;
* `same_upAll_same_tree`: if neither tree stores a lower-case letter (`upAll` fixes both) the trees are EQUAL.

## Case-SENSITIVE comparisons with a literal that contains letters
None at token level: every proof of the family uses the case-insensitive facts (`up src`, `equalsStr`, `srcEqUp`, the word
sets) and the case-sensitive ones for the OPERATOR literals `,` `.` `;` `*` `=` `-`, `compareSet`, `unarySet`, `compareHash` only
(`isOpLit`: the literal starts with a character no word contains).  The only case-sensitive site with letters is BEFORE the lexer:
the DB2 pre-pass `CURRENT DATE` → `CURRENT_DATE` (`parser.py:91-95`, whole-text `str.replace`; finding F-C09-1), which is why the
text-level theorems take the token lists of the PRE-PASSED texts as their hypothesis.
-/
open Lex PM Ast

namespace C09

/-! ## token level: `parse_statements` -/

/-- **C09.parse_case_invariant**: `parse_statements` on two token lists that differ only in the letter case of words: the same error
kind, or two statement lists that are equal after `upAll`; every dialect, every fuel. -/
theorem parse_case_invariant (d : Gen.D) (f : Nat) (ts ts' : List Tok) (h : CEL ts ts') :
    CEX (ceq (List.map upSt0)) (pStatements d f ts) (pStatements d f ts') := pStatements_ce d f ts ts' h

/-- the loop of `parse_statements` from any accumulator -/
theorem parse_case_invariant_loop (d : Gen.D) (f g : Nat) (acc acc' : List Stmt) (ts ts' : List Tok)
    (ha : acc.map upSt0 = acc'.map upSt0) (h : CEL ts ts') :
    CEX (ceq (List.map upSt0)) (statementsLoop d f g acc ts) (statementsLoop d f g acc' ts') :=
  statementsLoop_ce d f g acc ts g acc' ts' rfl ha h

/-- one statement: same error kind, or related statements and case-equivalent remaining cursors -/
theorem parse_case_invariant_statement (d : Gen.D) (f : Nat) (ts ts' : List Tok) (h : CEL ts ts') :
    CER (ceq upSt0) (pStatement d f ts) (pStatement d f ts') := pStatement_ce d f ts ts' h

/-- accepted alike -/
theorem parse_case_invariant_accept (d : Gen.D) (f : Nat) (ts ts' : List Tok) (h : CEL ts ts') (ss : List Stmt)
    (hs : pStatements d f ts = .ok ss) : ∃ ss', pStatements d f ts' = .ok ss' ∧ ss.map upSt0 = ss'.map upSt0 :=
  Rel.gex_accept (cex_eq ▸ parse_case_invariant d f ts ts' h) hs
/-- rejected alike, with the same error kind -/
theorem parse_case_invariant_reject (d : Gen.D) (f : Nat) (ts ts' : List Tok) (h : CEL ts ts') (e : Err)
    (hs : pStatements d f ts = .error e) : pStatements d f ts' = .error e :=
  Rel.gex_reject (cex_eq ▸ parse_case_invariant d f ts ts' h) hs

/-- the kind of a statement (its constructor) -/
def kind : Stmt → Nat
  | .select _ => 0 | .insertValues _ _ => 1 | .insertSelect _ _ => 2 | .update .. => 3 | .delete .. => 4 | .createTable _ => 5
  | .createTableAs _ _ _ => 6 | .dropTable _ _ => 7 | .set _ => 8 | .analyze .. => 9 | .alter _ _ => 10 | .msck _ => 11 | .use _ => 12
  | .truncate _ => 13 | .showDatabases => 14 | .showTables => 15 | .showColumns _ _ => 16
theorem kind_upSt0 (s : Stmt) : kind (upSt0 s) = kind s := by cases s <;> rfl
/-- the same number of statements, of the same kinds, in the same order -/
theorem parse_case_invariant_kinds (d : Gen.D) (f : Nat) (ts ts' : List Tok) (h : CEL ts ts') (ss ss' : List Stmt)
    (hs : pStatements d f ts = .ok ss) (hs' : pStatements d f ts' = .ok ss') : ss.map kind = ss'.map kind := by
  obtain ⟨ss2, h2, he⟩ := parse_case_invariant_accept d f ts ts' h ss hs
  rw [hs'] at h2; cases h2
  have := congrArg (List.map kind) he
  simpa [List.map_map, Function.comp_def, kind_upSt0] using this

/-- what `≈` leaves open, one half: when neither tree stores a letter that `str.upper()` changes, the trees are EQUAL -/
theorem same_upAll_same_tree (ss ss' : List Stmt) (h : ss.map upSt0 = ss'.map upSt0) (h1 : ss.map upSt0 = ss) (h2 : ss'.map upSt0 = ss') :
    ss = ss' := by rw [← h1, ← h2, h]

/-! ## every entry point of `PM.entries` -/

/-- the outcome of an entry point up to the value: the same error kind, or success with case-equivalent remaining cursors -/
def OutcomeCE (a b : Except Err (Val × List Tok)) : Prop :=
  match a, b with
  | .ok (_, r), .ok (_, r') => CEL r r'
  | .error e, .error e' => e = e'
  | _, _ => False
@[simp, grind =] theorem outcome_ok_ok (v v' : Val) (r r' : List Tok) : OutcomeCE (.ok (v, r)) (.ok (v', r')) = CEL r r' := by simp [OutcomeCE]
@[simp, grind =] theorem outcome_err_err (e e' : Err) : OutcomeCE (.error e) (.error e') = (e = e') := by simp [OutcomeCE]
@[simp, grind =] theorem outcome_ok_err (p : Val × List Tok) (e : Err) : OutcomeCE (.ok p) (.error e) = False := by
  obtain ⟨v, r⟩ := p; simp [OutcomeCE]
@[simp, grind =] theorem outcome_err_ok (p : Val × List Tok) (e : Err) : OutcomeCE (.error e) (.ok p) = False := by
  obtain ⟨v, r⟩ := p; simp [OutcomeCE]

theorem outcomeCE_eq : OutcomeCE = Rel.Outcome (T := caseT) := by
  funext a b
  rcases a with e | ⟨v, r⟩ <;> rcases b with e' | ⟨v', r'⟩ <;> simp [cel_eq]
  exact Iff.rfl

/-- **C09.entries_case_invariant**: EVERY entry point `SQLParser.parse_*` of the model (`PM.entries`, 58 of them), on two token lists
that differ only in the letter case of words: accepted / rejected alike, the same error kind, case-equivalent remaining cursors. -/
theorem entries_case_invariant : ∀ e ∈ PM.entries, ∀ (d : Gen.D) (f : Nat) (ts ts' : List Tok), CEL ts ts' →
    OutcomeCE (e.2 d f ts) (e.2 d f ts') := by
  simp only [cel_eq, outcomeCE_eq]; exact Rel.entries_rel (T := caseT)

example : PM.entries.length = 58 := by decide

/-- **C09.entries2_case_invariant**: the same for the other 26 public entry points (`PM.entries2`, `MsqModel/Parse/Entry2.lean`; their
functions: `Lemmas/ParseRel8.lean`) -/
theorem entries2_case_invariant : ∀ e ∈ PM.entries2, ∀ (d : Gen.D) (f : Nat) (ts ts' : List Tok), CEL ts ts' →
    OutcomeCE (e.2 d f ts) (e.2 d f ts') := by
  simp only [cel_eq, outcomeCE_eq]; exact Rel.entries2_rel (T := caseT)

/-- **C09.entriesAll_case_invariant**: all 84 public parsing entry points -/
theorem entriesAll_case_invariant : ∀ e ∈ PM.entriesAll, ∀ (d : Gen.D) (f : Nat) (ts ts' : List Tok), CEL ts ts' →
    OutcomeCE (e.2 d f ts) (e.2 d f ts') := by
  intro e he
  simp only [entriesAll, List.mem_append] at he
  rcases he with he | he
  · exact entries_case_invariant e he
  · exact entries2_case_invariant e he
example : PM.entriesAll.length = 84 := by decide

/-! ## text level -/

theorem ce_size : ∀ t t' : Tok, CE t t' → Tok.size t = Tok.size t' := fun t t' h => Rel.tok_size (T := caseT) t t' h
/-- the fuel the entry points compute does not depend on letter case -/
theorem cel_sizeL : ∀ ts ts' : List Tok, CEL ts ts' → sizeL ts = sizeL ts' := fun ts ts' h => Rel.gel_sizeL (T := caseT) ts ts' (cel_eq ▸ h)
theorem cel_fuelFor (ts ts' : List Tok) (h : CEL ts ts') : fuelFor ts = fuelFor ts' := by simp [fuelFor, cel_sizeL ts ts' h]

/-- **C09.parse_case_invariant_text**: the model of `SQLParser.parse_statements(text, dialect)` (dialect pre-pass, shipped lexer, the fuel
it computes itself) on two texts whose token lists differ only in the letter case of words: the same error kind, or statement lists
equal after `upAll`. -/
theorem parse_case_invariant_text (d : Gen.D) (text text' : List Char) (ts ts' : List Tok)
    (h1 : lex Gen.cfgS (dialectPre d text) = .ok ts) (h2 : lex Gen.cfgS (dialectPre d text') = .ok ts') (h : CEL ts ts') :
    CEX (ceq (List.map upSt0)) (parseStatementsText d text) (parseStatementsText d text') := by
  simp only [parseStatementsText, h1, h2, cel_fuelFor ts ts' h]
  exact parse_case_invariant d _ ts ts' h

/-- the outcome of a text-level entry point up to the value: the same error kind, or success with the same number of unconsumed tokens -/
def OutcomeTextCE (a b : Except Err (Val × Nat)) : Prop :=
  match a, b with
  | .ok (_, n), .ok (_, n') => n = n'
  | .error e, .error e' => e = e'
  | _, _ => False

theorem outcomeTextCE_eq : OutcomeTextCE = Rel.OutcomeText := by
  funext a b; rcases a with e | ⟨v, n⟩ <;> rcases b with e' | ⟨v', n'⟩ <;> simp [OutcomeTextCE, Rel.OutcomeText]

/-- **C09.parseText_case_invariant**: EVERY text-level entry point `SQLParser.parse_<entry>(text, dialect)` of the model: accepted /
rejected alike, the same error kind, the same number of unconsumed tokens. -/
theorem parseText_case_invariant (entry : String) (d : Gen.D) (text text' : List Char) (ts ts' : List Tok)
    (h1 : lex Gen.cfgS (dialectPre d text) = .ok ts) (h2 : lex Gen.cfgS (dialectPre d text') = .ok ts') (h : CEL ts ts') :
    OutcomeTextCE (parseText entry d text) (parseText entry d text') :=
  outcomeTextCE_eq ▸ Rel.parseText_rel (T := caseT) entry d text text' h1 h2 (cel_eq ▸ h)

/-- **C09.parseText2_case_invariant**: every one of the 84 public entry points `SQLParser.parse_<entry>(text, dialect)` -/
theorem parseText2_case_invariant (entry : String) (d : Gen.D) (text text' : List Char) (ts ts' : List Tok)
    (h1 : lex Gen.cfgS (dialectPre d text) = .ok ts) (h2 : lex Gen.cfgS (dialectPre d text') = .ok ts') (h : CEL ts ts') :
    OutcomeTextCE (parseText2 entry d text) (parseText2 entry d text') :=
  outcomeTextCE_eq ▸ Rel.parseText2_rel (T := caseT) entry d text text' h1 h2 (cel_eq ▸ h)
/-- … and called with a `TokenScanner` (no dialect pre-pass: the hypothesis is on the token lists of the texts themselves) -/
theorem parseScanner2_case_invariant (entry : String) (d : Gen.D) (text text' : List Char) (ts ts' : List Tok)
    (h1 : lex Gen.cfgS text = .ok ts) (h2 : lex Gen.cfgS text' = .ok ts') (h : CEL ts ts') :
    OutcomeTextCE (parseScanner2 entry d text) (parseScanner2 entry d text') :=
  outcomeTextCE_eq ▸ Rel.parseScanner2_rel (T := caseT) entry d text text' h1 h2 (cel_eq ▸ h)

/-! ## the link to the lexer half (`C09.keyword_case`) -/

/-- two words that differ in letter case only (decidable form) -/
def ceWordB (s s' : List Char) : Bool := caseWord s && caseWord s' && Gen.pyUpper s == Gen.pyUpper s'
theorem ce_of_ceWordB (s s' : List Char) (m : Nat) (h : ceWordB s s' = true) : CE (.single s m) (.single s' m) := by
  simp only [ceWordB, Bool.and_eq_true, beq_iff_eq] at h
  simp only [CE, true_and]
  exact .inr ⟨h.1.1, h.1.2, h.2⟩
/-- every letter-case variant of every keyword-table entry is a case word with the same `str.upper()` as the entry … -/
theorem keyword_variants_caseWord : (Gen.wordMarks.all fun e => (C05.caseVariants e.1.toList).all fun v => ceWordB e.1.toList v) = true := by
  decide +kernel
/-- … so, by `C09.keyword_case` (the variant alone lexes to ONE token with the entry's marks), its token is `CE`-related to the token of the
upper-case spelling: the hypothesis `CEL ts ts'` of the theorems above is what the lexer half delivers for keyword case. -/
theorem keyword_variants_ce (e : String × Nat) (he : e ∈ Gen.wordMarks) (v : List Char) (hv : v ∈ C05.caseVariants e.1.toList) :
    CEL [.single e.1.toList e.2] [.single v e.2] ∧ lexesTo (lex Gen.cfgS v) [.single v e.2] = true := by
  have h1 := keyword_variants_caseWord
  have h2 := keyword_case
  simp only [List.all_eq_true] at h1 h2
  have h2' := h2 e he
  simp only [caseOK, List.all_eq_true, Bool.and_eq_true] at h2'
  exact ⟨by simp [ce_of_ceWordB _ _ _ (h1 e he v hv)], (h2' v hv).2⟩

/-- **C09.word_recase**: ANY word, not only the 27 keywords (`isWord`: it does not begin with a digit or with `b B x X`, the prefixes of
bit / hex literals), in two letter cases: in every delimiter context (`LexLink.Lx`: after any text that leaves the lexer between tokens,
before a blank, `)`, `,`, line break or the end) each spelling lexes to ONE token, and the two tokens are `CE`-related (same marks by
`wordMark_upper`) — so re-casing such a word in a text changes the token list within `CEL`, position by position. -/
theorem word_recase (v w : List Char) (hv : C05.isWord v = true) (hw : C05.isWord w = true) (cv : caseWord v = true) (cw : caseWord w = true)
    (hu : Gen.pyUpper v = Gen.pyUpper w) :
    LexLink.Lx v [.single v (C05.wordMark v)] ∧ LexLink.Lx w [.single w (C05.wordMark w)] ∧
      CE (.single v (C05.wordMark v)) (.single w (C05.wordMark w)) := by
  refine ⟨LexLink.lx_word v hv, LexLink.lx_word w hw, ?_⟩
  have : C05.wordMark v = C05.wordMark w := wordMark_upper v w hu
  rw [this]; simp only [CE, true_and]; exact .inr ⟨cv, cw, hu⟩
example : C05.isWord "wHeRe".toList = true ∧ C05.isWord "WHERE".toList = true ∧ caseWord "wHeRe".toList = true ∧ caseWord "WHERE".toList = true ∧
    Gen.pyUpper "wHeRe".toList = Gen.pyUpper "WHERE".toList := by decide +kernel

/-! ## non-vacuity (tests: `String` functions do not reduce in the kernel, so these are evaluated `#guard`s) -/

/-! decidable mirror of `CE` / `CEL` for the tests -/
mutual
def ceB : Tok → Tok → Bool
  | .single s m, .single s' m' => m == m' && (s == s' || ceWordB s s')
  | .group k cs m, .group k' cs' m' => k == k' && m == m' && celB cs cs' && (m &&& NAME == 0 || eqbL cs cs')
  | _, _ => false
def celB : List Tok → List Tok → Bool
  | [], [] => true
  | t :: ts, t' :: ts' => ceB t t' && celB ts ts'
  | _, _ => false
end

def lexS (s : String) : List Tok := match lex Gen.cfgS s.toList with | .ok ts => ts | .error _ => []
/-- both texts lex, to case-equivalent token lists that are NOT equal, and `parse_statements` returns statement lists that are equal after
`upAll` (compared through the canonical dump) -/
def pairOK (d : Gen.D) (a b : String) : Bool :=
  let ta := lexS a; let tb := lexS b
  !ta.isEmpty && celB ta tb && !(eqbL ta tb) &&
  match pStatements d (fuelFor ta) ta, pStatements d (fuelFor tb) tb with
  | .ok x, .ok y => !x.isEmpty && toString (repr ((x.map upSt0).map Stmt.toVal)) == toString (repr ((y.map upSt0).map Stmt.toVal))
  | _, _ => false
/-- the same, and the two trees are literally EQUAL (only words the parser does not store differ) -/
def pairEQ (d : Gen.D) (a b : String) : Bool :=
  pairOK d a b &&
  match pStatements d (fuelFor (lexS a)) (lexS a), pStatements d (fuelFor (lexS b)) (lexS b) with
  | .ok x, .ok y => toString (repr (x.map Stmt.toVal)) == toString (repr (y.map Stmt.toVal))
  | _, _ => false
/-- both rejected with the same error kind -/
def pairERR (d : Gen.D) (a b : String) : Bool :=
  let ta := lexS a; let tb := lexS b
  celB ta tb && !(eqbL ta tb) &&
  match pStatements d (fuelFor ta) ta, pStatements d (fuelFor tb) tb with
  | .error x, .error y => x.show == y.show
  | _, _ => false

#guard pairEQ .MYSQL "SELECT a FROM t WHERE b IS NOT NULL" "select a from t where b is not NULL"
#guard pairEQ .MYSQL "SELECT a FROM t WHERE b IS NOT NULL" "sElEcT a FrOm t wHeRe b iS nOt NULL"
#guard pairOK .MYSQL "SELECT a FROM t WHERE b IS NOT NULL" "select A from T where B is not null"
#guard !pairEQ .MYSQL "SELECT a FROM t WHERE b IS NOT NULL" "select a from t where b is not null"     -- the literal `NULL` is stored
#guard pairEQ .HIVE "SELECT a, b FROM t x LEFT JOIN u y ON x.a = y.a WHERE a BETWEEN 1 AND 2 GROUP BY a HAVING a > 1 ORDER BY a DESC LIMIT 3"
                    "select a, b from t x left join u y on x.a = y.a where a between 1 and 2 group by a having a > 1 order by a desc limit 3"
#guard pairEQ .MYSQL "SELECT a FROM t UNION ALL SELECT b FROM u" "select a from t union all select b from u"
#guard pairEQ .MYSQL "SELECT CASE WHEN a THEN 1 ELSE 2 END, CAST(a AS INT), a DIV b FROM t" "select case when a then 1 else 2 end, cast(a as int), a div b from t"
#guard pairEQ .MYSQL "WITH w AS (SELECT a FROM t) SELECT a FROM w" "with w as (select a from t) select a from w"
#guard pairEQ .MYSQL "INSERT INTO t (a, b) VALUES (1, 2)" "insert into t (a, b) values (1, 2)"
#guard pairEQ .HIVE "INSERT OVERWRITE TABLE t PARTITION (a = 1) SELECT 1" "insert overwrite table t partition (a = 1) select 1"
#guard pairEQ .MYSQL "UPDATE t SET a = 1 WHERE b = 2" "update t set a = 1 where b = 2"
#guard pairEQ .MYSQL "DELETE FROM t WHERE a = 1" "delete from t where a = 1"
#guard pairEQ .MYSQL "CREATE TABLE IF NOT EXISTS t (a INT NOT NULL COMMENT 'x', PRIMARY KEY (a)) COMMENT = 'y'"
                     "create table if not exists t (a INT not null comment 'x', primary key (a)) comment = 'y'"
#guard pairOK .MYSQL "CREATE TABLE t (a INT) ENGINE = InnoDB" "create table t (a int) engine = innodb"              -- type name, option value: stored
#guard pairEQ .MYSQL "DROP TABLE IF EXISTS t" "drop table if exists t"
#guard pairEQ .MYSQL "ALTER TABLE t ADD a INT, DROP COLUMN b" "alter table t add a INT, drop column b"
#guard pairEQ .MYSQL "TRUNCATE TABLE t" "truncate table t"
#guard pairEQ .MYSQL "USE db" "use db"
#guard pairEQ .MYSQL "SHOW TABLES" "show tables"
#guard pairEQ .MYSQL "SELECT a FROM t; SELECT b FROM u" "select a from t; select b from u"
#guard pairOK .MYSQL "SELECT COUNT(DISTINCT a), TRUE FROM t" "select count(distinct a), true from t"               -- function name, literal: stored
#guard pairOK .MYSQL "SELECT a FROM t x JOIN u y USING(a)" "SELECT a FROM t x JOIN u y using(a)"                   -- F-C09-2
#guard !pairEQ .MYSQL "SELECT a FROM t x JOIN u y USING(a)" "SELECT a FROM t x JOIN u y using(a)"
#guard pairERR .MYSQL "SELECT a FROM WHERE" "select a from where"
#guard pairERR .MYSQL "SELECT a FROM t WHERE" "select a from t where"

end C09
