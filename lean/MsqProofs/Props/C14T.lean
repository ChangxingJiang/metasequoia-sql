import MsqProofs.Props.C03QL
import MsqProofs.Props.C03D
import MsqProofs.Props.C14
import MsqProofs.Props.C15
import MsqProofs.Props.C16b
import MsqProofs.Props.C16c
import MsqProofs.Lemmas.AnalyzeText2
/-!
# C14 / C15 / C16 on TEXTS: the analysis of `parse(print q)` is the specified analysis of `q`, for the nested fragment

The analyzer theorems (`Props/C14.lean`, `C15.lean`, `C16*.lean`) speak about trees; `C03.tquery_text` (`Props/C03QL.lean`) says that
the text the printer writes for a query `q` of the nested fragment `TQ.FragQ` goes through dialect pre-pass, lexer and
`parse_statements` back to `[q]`.  Here the two are composed — the statements are about what the driver commands `AN tables`,
`AN columns`, `AN lineage` (`MsqModel/Driver/CmdAnalyze.lean`) compute on the TEXT — and the specified table list is characterised
on the TOKENS of that text.

* `C14.tables_of_text` : text → `parse_statements(text)[0]` → `AllUsedQuoteTables` / the FROM-only / the JOIN-only analyzer give
  exactly `Spec.tablesOf q` / `fromTablesOf q` / `joinTablesOf q`, and `tablesOf q = AT.tableNames ts` for the token list `ts` the
  lexer makes of the text: the tokens after `FROM`, `JOIN` and the commas of a FROM list, at any bracket depth, once per occurrence,
  in textual order (`AT.tabL` looks only at the words FROM / JOIN / AS, the comma and bracket nesting).  The two variants on the FROM
  segment / the JOIN segment of each top-level branch (`C14.variant_tokens`).
* `C15.columns_of_text` : per-clause column usage of the parsed text = `Spec.specQuery c q` (hypotheses of the tree theorem).
* `C16.lineage_of_text` / `C16.lineage_error_of_text` : lineage of the parsed text = the lineage object built from `Flow`
  (`flowQ`), resp. the analysis error; `C16.insert_lineage_of_tokens` : INSERT … SELECT through `C03.tstatement` (token level).

Hypotheses: those of `C03.tquery_text` (fragment, lexable payloads `LexLink.LeafQ`, dialect pre-pass leaves the text alone — identity
for five dialects, `C03.hive_pre_query` for HIVE) and those of the tree theorems (hygiene for C16, `C15.Good` for C15).
-/
open Lex PM Ast TP TS TQ LexLink Spec

namespace C14

/-- `parse_statements(text, dialect)[0]` on the printed text of a fragment query is that query -/
theorem firstStmt_text {d : Gen.D} {q : Query} {str : String} (h : parseStatementsText d str.toList = .ok [.select q]) :
    Drv.firstStmt d str.toList = .ok (.select q) := by
  simp [Drv.firstStmt, h, bind, Except.bind, pure, Except.pure]

/-- the printed text of a fragment query lexes to its token rendering, and `parse_statements(text)[0]` is the query -/
theorem text_reads_back (d : Gen.D) (q : Query) (hq : FragQ d q = true) (hl : LeafQ d q)
    (hpre : dialectPre d (prQL d q) = prQL d q) :
    ∃ str : String, PR.prQ d q = .ok str ∧ Lex.lex Gen.cfgS (dialectPre d str.toList) = .ok (toksQ d noX q) ∧
      Drv.firstStmt d str.toList = .ok (.select q) := by
  obtain ⟨str, _, h1, h2, rfl, _, _, h6⟩ := C03.tquery_text d q hq hl hpre
  exact ⟨str, h1, h2, firstStmt_text h6⟩

theorem flatMap_congr_mem {α β : Type} {l : List α} {f g : α → List β} (h : ∀ a ∈ l, f a = g a) : l.flatMap f = l.flatMap g := by
  rw [List.flatMap_def, List.flatMap_def, List.map_congr_left h]

/-- the top-level branches of a fragment query are fragment SELECTs -/
theorem frag_un_branches {d : Gen.D} : ∀ (us : List (String × Select)), FragUn d us = true → ∀ p ∈ us, FragS3 d p.2 = true
  | [], _, p, hp => by cases hp
  | (t, s) :: r, h, p, hp => by
    simp only [FragUn, Bool.and_eq_true] at h
    rcases List.mem_cons.1 hp with rfl | hp
    · exact h.1.2
    · exact frag_un_branches r h.2 p hp
theorem frag_branches {d : Gen.D} (q : Query) (h : FragQ d q = true) : ∀ s ∈ branches q, FragS3 d s = true := by
  cases q with
  | single s => intro x hx; simp only [branches, List.mem_singleton] at hx; subst hx; simpa [FragQ] using h
  | union ws s us =>
    simp only [FragQ, Bool.and_eq_true] at h
    intro x hx
    simp only [branches, List.mem_cons, List.mem_map] at hx
    rcases hx with rfl | ⟨p, hp, rfl⟩
    · exact h.1.1.2
    · exact frag_un_branches us h.1.2 p hp

/-- the FROM segment and the JOIN segment of the rendering of one SELECT (`toksS3` is, by definition,
`SELECT [DISTINCT] columns ++ fromSeg ++ joinSeg ++ WHERE … LIMIT …`); they are the pieces `CT.seg d noX 1 s` and `CT.seg d noX 2 s` of
the clause cut (`C14.fromSeg_eq`, `joinSeg_eq` in `Props/C15T.lean`) -/
def fromSeg (d : Gen.D) : Select → List Tok
  | .mk _ _ _ fr _ _ _ _ _ _ _ _ _ _ => toksFrom3 d noX fr
def joinSeg (d : Gen.D) : Select → List Tok
  | .mk _ _ _ _ _ js _ _ _ _ _ _ _ _ => toksJoins3 d noX js
theorem segments (d : Gen.D) (s : Select) : ∃ pre post, toksS3 d noX s = pre ++ (fromSeg d s ++ (joinSeg d s ++ post)) := by
  cases s with
  | mk ws dist cols fr lats js wh gb hv ob sb db cb lm =>
    refine ⟨opTok "SELECT" :: ((if dist then [opTok "DISTINCT"] else []) ++ toksCols3 d noX cols),
      toksOptE3 d noX "WHERE" wh ++ (toksGroup3 d noX gb ++ (toksOptE3 d noX "HAVING" hv ++ (toksOrder3 d noX ob ++ toksLimit lm))), ?_⟩
    simp only [toksS3, fromSeg, joinSeg, List.cons_append, List.append_assoc]

/-- **C14, the two variants on tokens**: for every top-level branch of a fragment query, the FROM-only tables are the table tokens of
the FROM segment of its rendering, the JOIN-only tables those of its JOIN segment (joined tables and the sub-queries of the ON
conditions), each at any bracket depth, in textual order -/
theorem variant_tokens (d : Gen.D) (q : Query) (hq : FragQ d q = true) :
    fromTablesOf q = (branches q).flatMap (fun s => AT.tableNames (fromSeg d s)) ∧
    joinTablesOf q = (branches q).flatMap (fun s => AT.tableNames (joinSeg d s)) := by
  have key : ∀ s ∈ branches q, fromOfSelect s = AT.tableNames (fromSeg d s) ∧ joinOfSelect s = AT.tableNames (joinSeg d s) := by
    intro s hs
    have hs := frag_branches q hq s hs
    cases s with
    | mk ws dist cols fr lats js wh gb hv ob sb db cb lm =>
      obtain ⟨rfl, rfl, rfl, rfl, rfl⟩ := AT.fragS3_shape hs
      simp only [FragS3, Bool.and_eq_true] at hs
      exact ⟨(AT.tableNames_from noX fr hs.1.1.1.1.1.1.1.2).symm, (AT.tableNames_joins noX js hs.1.1.1.1.1.1.2).symm⟩
  exact ⟨flatMap_congr_mem fun s hs => (key s hs).1, flatMap_congr_mem fun s hs => (key s hs).2⟩

/-- **C14.tables_of_text**: for every query of the nested fragment (any dialect), on the TEXT the printer writes: the text lexes to the
token rendering `ts`, `parse_statements(text)[0]` is the query, and the three table analyzers return exactly the specified lists — the
all-levels list being the table tokens the scanner `AT.tableNames` finds in `ts` (after FROM / JOIN / the commas of a FROM list, at any
bracket depth, once per occurrence, in textual order).  The last three conjuncts are the answers of the driver command `AN tables`. -/
theorem tables_of_text (d : Gen.D) (q : Query) (hq : FragQ d q = true) (hl : LeafQ d q)
    (hpre : dialectPre d (prQL d q) = prQL d q) :
    ∃ (str : String) (ts : List Tok), PR.prQ d q = .ok str ∧ Lex.lex Gen.cfgS (dialectPre d str.toList) = .ok ts ∧
      Drv.firstStmt d str.toList = .ok (.select q) ∧
      (Drv.firstStmt d str.toList >>= fun s => AN.allUsedTables s.toVal) = .ok ((AT.tableNames ts).map Tbl.toVal) ∧
      AT.tableNames ts = tablesOf q ∧
      (Drv.firstStmt d str.toList >>= fun s => AN.fromClauseTables s.toVal) = .ok ((fromTablesOf q).map Tbl.toVal) ∧
      (Drv.firstStmt d str.toList >>= fun s => AN.joinClauseTables s.toVal) = .ok ((joinTablesOf q).map Tbl.toVal) ∧
      Drv.anTables "all" d str.toList = Drv.showAn (.ok ((tablesOf q).map Tbl.toVal)) ∧
      Drv.anTables "from" d str.toList = Drv.showAn (.ok ((fromTablesOf q).map Tbl.toVal)) ∧
      Drv.anTables "join" d str.toList = Drv.showAn (.ok ((joinTablesOf q).map Tbl.toVal)) := by
  obtain ⟨str, h1, h2, hf⟩ := text_reads_back d q hq hl hpre
  have hn := AT.tableNames_toksQ noX q hq
  have ha := all_tables_exact_stmt q
  have hfr : AN.fromClauseTables (Stmt.select q).toVal = .ok ((fromTablesOf q).map Tbl.toVal) := by
    simpa [Stmt.toVal] using from_tables_exact q
  have hjn : AN.joinClauseTables (Stmt.select q).toVal = .ok ((joinTablesOf q).map Tbl.toVal) := by
    simpa [Stmt.toVal] using join_tables_exact q
  refine ⟨str, _, h1, h2, hf, ?_, hn, ?_, ?_, ?_, ?_, ?_⟩
  · rw [hf, hn]; exact ha
  · rw [hf]; exact hfr
  · rw [hf]; exact hjn
  · simp [Drv.anTables, hf, ha]
  · simp [Drv.anTables, hf, hfr]
  · simp [Drv.anTables, hf, hjn]

end C14

namespace C16
open LN Flow

/-- **C16.lineage_of_text**: for a hygienic query of the nested fragment whose specified flow is `R`: the text the printer writes is
parsed back to the query, and the lineage analysis of that text (the driver's `AN lineage` call: `get_select_table_lineage` on
`parse_statements(text)[0]`, from empty stores, whatever the getter was asked before) returns the lineage object built from `R` —
output columns in order, numbered from 1, each with exactly the base columns that reach it -/
theorem lineage_of_text (d : Gen.D) (q : Query) (hq : FragQ d q = true) (hl : LeafQ d q)
    (hpre : dialectPre d (prQL d q) = prQL d q)
    (cat : Cat) (hy : Hygienic (LN.fuelFor q) q) (R : Rel) (h : flowQ cat (LN.fuelFor q) [] q = .ok R) (asked : List String) :
    ∃ (str : String) (st' : LN.St), PR.prQ d q = .ok str ∧ Drv.firstStmt d str.toList = .ok (.select q) ∧
      selectLineage cat (LN.fuelFor q) q { asked := asked } = .ok (mkLineage (number R 1) Lineage.empty, st') ∧
      Drv.lineageCall cat d str.toList asked =
        ("OK " ++ Drv.showVal (.list ((number R 1).map fun (c, s) => .tuple [c.toVal, .list (s.map LN.SrcCol.toVal)])), some st') := by
  obtain ⟨str, h1, _, hf⟩ := C14.text_reads_back d q hq hl hpre
  obtain ⟨st', hs⟩ := lineage_eq_flow_from cat (LN.fuelFor q) q hy R h { asked := asked } rfl rfl
  refine ⟨str, st', h1, hf, hs, ?_⟩
  simp only [Drv.lineageCall, hf, hs, lineage_columns]

/-- … and if the specification says "analysis error" (an unknown or ambiguous reference at any level), the analysis of the TEXT raises
the library's analysis error -/
theorem lineage_error_of_text (d : Gen.D) (q : Query) (hq : FragQ d q = true) (hl : LeafQ d q)
    (hpre : dialectPre d (prQL d q) = prQL d q)
    (cat : Cat) (hy : Hygienic (LN.fuelFor q) q) (h : flowQ cat (LN.fuelFor q) [] q = .error .analysis) :
    ∃ (str : String), PR.prQ d q = .ok str ∧ Drv.firstStmt d str.toList = .ok (.select q) ∧
      Drv.lineageCall cat d str.toList [] = (Err.analyzer.show, none) := by
  obtain ⟨str, h1, _, hf⟩ := C14.text_reads_back d q hq hl hpre
  have hs := analysis_error_raised cat (LN.fuelFor q) q hy h
  refine ⟨str, h1, hf, ?_⟩
  simp only [Drv.lineageCall, hf, hs]

/-- **INSERT … SELECT at token level** (through `C03.tstatement`): the token rendering of a fragment statement `INSERT … (c₁, …, cₙ)
<query>` parses to that statement with the entry point's own fuel, and the lineage analysis of the parsed statement pairs the i-th
listed target column with exactly the sources of the i-th output column of the specified flow -/
theorem insert_lineage_of_tokens (d : Gen.D) (h : InsertHead) (q : Query) (hs : TDM.FragStmt d (.insertSelect h q) = true)
    (cat : Cat) (cs : List (Option String × String)) (hc : h.columns = some cs) (R : Rel)
    (hy : Hygienic (LN.fuelFor (setWiths h.withs q)) (setWiths h.withs q))
    (hflow : flowQ cat (LN.fuelFor (setWiths h.withs q)) [] (setWiths h.withs q) = .ok R)
    (hlen : cs.length = R.length) (hnd : (cs.map (·.2)).Nodup) :
    ∃ st', pStatement d (PM.fuelFor (TDM.toksStmt d (.insertSelect h q))) (TDM.toksStmt d (.insertSelect h q)) = .ok (.insertSelect h q, []) ∧
      insertLineage cat h q {} =
        .ok (List.zipWith (fun c r => (({ schema := h.table.schema, table := h.table.name, col := some c.2 } : SrcCol), r.2)) cs R, st') := by
  obtain ⟨st', hsel⟩ := lineage_eq_flow cat _ _ hy R hflow
  refine ⟨st', ?_, insert_pairing_ok cat h cs hc q R st' hsel hlen hnd⟩
  have := C03.tstatement_entry_fuel d (.insertSelect h q) hs [] rfl
  simpa using this

end C16

namespace C15
open AN

/-- **C15.columns_of_text**: for a query of the nested fragment, on the TEXT the printer writes: the per-clause column analysis of
`parse_statements(text)[0]` (the driver's `AN columns <clause>` call) returns exactly `Spec.specQuery c q` — for every top-level branch
the references written in that clause at the current level (never those of a bracketed sub-query), aliases and positions replaced in
GROUP BY / HAVING / ORDER BY.  `Good c s` are the hypotheses of the tree theorem `C15.query_exact_partial` (for the select list, JOIN
and WHERE: no clash with a select alias, finding F-C15-1; nothing for HAVING). -/
theorem columns_of_text (d : Gen.D) (q : Query) (hq : FragQ d q = true) (hl : LeafQ d q)
    (hpre : dialectPre d (prQL d q) = prQL d q) (c : AN.Clause) (hg : ∀ s ∈ branchesOf q, Good c s) :
    ∃ (str : String), PR.prQ d q = .ok str ∧ Drv.firstStmt d str.toList = .ok (.select q) ∧
      (Drv.firstStmt d str.toList >>= currentColsStmt c) = .ok (specQuery c q) ∧
      ∀ kind, kind ≠ "hash" → AN.Clause.ofName? kind = some c →
        Drv.anColumns kind d str.toList = Drv.showAn (.ok ((specQuery c q).map QCol.toVal)) := by
  obtain ⟨str, h1, _, hf⟩ := C14.text_reads_back d q hq hl hpre
  have hc := query_exact_partial c q hg
  refine ⟨str, h1, hf, ?_, ?_⟩
  · rw [hf]; exact hc
  · intro kind hk hn
    simp [Drv.anColumns, hf, hk, hn, currentColsStmt, hc]
    rfl

end C15

/-! ## non-vacuity -/
namespace C14T
open C03 (q1 q2 q3 q4 q5 q6 qx qa leafQ_of_B leafQB)

/-- what the lexer makes of a text (after the dialect pre-pass) -/
def lexOf (d : Gen.D) (s : String) : List Tok := match Lex.lex Gen.cfgS (dialectPre d s.toList) with | .ok ts => ts | _ => []

/-- `SELECT o.k, d FROM (SELECT q.s AS k FROM (SELECT a + b AS s FROM t) AS q) AS o LEFT JOIN u ON o.k = u.a` -/
def nested : Query :=
  .single (C16.selJ [(.column (some "o") "k", none), (.column none "d", none)]
    [C16.der (.single (C16.selJ [(.column (some "q") "s", some "k")]
      [C16.der (.single (C16.selJ [(.compute (.column none "a") "PLUS" (.column none "b"), some "s")] [C16.tbl "t"] [])) "q"] [])) "o"]
    [.mk "LEFT_JOIN" (C16.tbl "u") (some (.on (.compare "EQ" (.column (some "o") "k") (.column (some "u") "a"))))])

-- tests (compiled evaluation): on the printed texts of the sample queries (scalar sub-queries, IN / EXISTS sub-queries, derived tables,
-- set operations, joins, schema-qualified tables), three dialects: the table tokens of the LEXED text are the specified list, and the
-- driver command `AN tables` answers with it
#guard [q1, q2, q3, q4, q5, q6, qx, nested].all fun q => [Gen.D.MYSQL, .HIVE, .ORACLE].all fun d =>
  (!FragQ d q) || (match PR.prQ d q with
    | .ok str => AT.tableNames (lexOf d str) == tablesOf q &&
        Drv.anTables "all" d str.toList == Drv.showAn (.ok ((tablesOf q).map Tbl.toVal)) &&
        Drv.anTables "from" d str.toList == Drv.showAn (.ok ((fromTablesOf q).map Tbl.toVal)) &&
        Drv.anTables "join" d str.toList == Drv.showAn (.ok ((joinTablesOf q).map Tbl.toVal))
    | _ => false)
#guard [q1, q2, q3, q4, q5, q6, qx, nested].all fun q => FragQ .MYSQL q && leafQB .MYSQL q
#guard (tablesOf q2).map (fun t => (t.schema, t.name)) = [(none, "t"), (none, "u"), (some "s", "tbl"), (none, "u")] &&
  (fromTablesOf q2).map (fun t => (t.schema, t.name)) = [(none, "t"), (none, "u")] &&
  (joinTablesOf q2).map (fun t => (t.schema, t.name)) = [(some "s", "tbl"), (none, "u")]
#guard Drv.anTables "all" .MYSQL (prQL .MYSQL q2) ==
  "OK L[StandardTable{schema_name=None,table_name=\"t\"},StandardTable{schema_name=None,table_name=\"u\"},StandardTable{schema_name=\"s\",table_name=\"tbl\"},StandardTable{schema_name=None,table_name=\"u\"}]"
-- the scanner on a hand-written text (aliases without AS, a back-quoted schema-qualified name, sub-queries in ON / WHERE, a set
-- operation): what it finds is what the model of the analyzer reports
def handText : String := "SELECT a FROM t1, (SELECT b FROM t2 x JOIN t3 ON x.c = t3.c) d LEFT JOIN `s.t5` AS y ON y.a IN (SELECT c FROM t4 WHERE EXISTS (SELECT 1 FROM t6)) WHERE a > (SELECT max(z) FROM t7) UNION SELECT 1 FROM t8"
#guard (AT.tableNames (lexOf .MYSQL handText)).map (fun t => (t.schema, t.name)) =
    [(none, "t1"), (none, "t2"), (none, "t3"), (some "s", "t5"), (none, "t4"), (none, "t6"), (none, "t7"), (none, "t8")] &&
  C14.tablesOfText .MYSQL handText == some ((AT.tableNames (lexOf .MYSQL handText)).map fun t => (t.schema, t.name))
-- the scanner looks at nothing but FROM / JOIN / AS / the comma and brackets: commas outside a FROM list announce no table
#guard (AT.tableNames (lexOf .MYSQL "SELECT f(a, b), c FROM t GROUP BY a, b ORDER BY a, b LIMIT 1, 2")).map (·.name) = ["t"]
-- C15 / C16 on texts
#guard Drv.anColumns "where" .MYSQL (prQL .MYSQL q1) == Drv.showAn (.ok ((specQuery .where_ q1).map AN.QCol.toVal))
#guard (specQuery .where_ q1).map (fun c => (c.table, c.name)) = [(none, some "a"), (none, some "b")]
#guard (Drv.lineageCall C16.cat2 .MYSQL (prQL .MYSQL nested) []).1 ==
  "OK L[T[StandardColumn{column_idx=1,column_name=\"k\"},L[SourceColumn{schema_name=None,table_name=\"t\",column_name=\"a\"},SourceColumn{schema_name=None,table_name=\"t\",column_name=\"b\"}]],T[StandardColumn{column_idx=2,column_name=\"d\"},L[SourceColumn{schema_name=None,table_name=\"u\",column_name=\"d\"}]]]"

-- instances of the theorems, every hypothesis decided by the kernel
set_option maxRecDepth 100000 in
example : ∃ (str : String) (ts : List Tok), PR.prQ .MYSQL q5 = .ok str ∧ Lex.lex Gen.cfgS (dialectPre .MYSQL str.toList) = .ok ts ∧
    Drv.firstStmt .MYSQL str.toList = .ok (.select q5) ∧
    (Drv.firstStmt .MYSQL str.toList >>= fun s => AN.allUsedTables s.toVal) = .ok ((AT.tableNames ts).map Tbl.toVal) ∧
    AT.tableNames ts = tablesOf q5 ∧
    (Drv.firstStmt .MYSQL str.toList >>= fun s => AN.fromClauseTables s.toVal) = .ok ((fromTablesOf q5).map Tbl.toVal) ∧
    (Drv.firstStmt .MYSQL str.toList >>= fun s => AN.joinClauseTables s.toVal) = .ok ((joinTablesOf q5).map Tbl.toVal) ∧
    Drv.anTables "all" .MYSQL str.toList = Drv.showAn (.ok ((tablesOf q5).map Tbl.toVal)) ∧
    Drv.anTables "from" .MYSQL str.toList = Drv.showAn (.ok ((fromTablesOf q5).map Tbl.toVal)) ∧
    Drv.anTables "join" .MYSQL str.toList = Drv.showAn (.ok ((joinTablesOf q5).map Tbl.toVal)) :=
  C14.tables_of_text .MYSQL q5 (by decide +kernel) (leafQ_of_B _ _ (by decide +kernel)) (C01.dialectPre_id _ (by decide) (by decide) _)
example : (tablesOf q5).map (fun t => (t.schema, t.name)) = [(none, "u"), (none, "u")] := by decide
/-- the token scan itself, in the kernel: the rendering of `q2` (a set operation as derived table, two joins, a schema-qualified table) -/
example : (AT.tableToks (toksQ .MYSQL noX q2)).map Tok.source =
    ["`t`".toList, "`u`".toList, "`s.tbl`".toList, "`u`".toList] := by decide +kernel
set_option maxRecDepth 100000 in
example : AT.tableNames (toksQ .HIVE noX q1) = tablesOf q1 := AT.tableNames_toksQ noX q1 (by decide +kernel)

/-- a Bool form of "the specified flow exists" -/
def flowIsOk (r : Except Flow.FErr Spec.Rel) : Bool := match r with | .ok _ => true | .error _ => false
theorem flowIsOk_sound {r : Except Flow.FErr Spec.Rel} (h : flowIsOk r = true) : ∃ R, r = .ok R := by
  cases r with
  | ok R => exact ⟨R, rfl⟩
  | error e => cases h
set_option maxRecDepth 100000 in
example : ∃ (R : Spec.Rel) (str : String) (st' : LN.St), PR.prQ .MYSQL nested = .ok str ∧ Drv.firstStmt .MYSQL str.toList = .ok (.select nested) ∧
    LN.selectLineage C16.cat2 (LN.fuelFor nested) nested { asked := [] } = .ok (LN.mkLineage (C16.number R 1) LN.Lineage.empty, st') ∧
    Drv.lineageCall C16.cat2 .MYSQL str.toList [] =
      ("OK " ++ Drv.showVal (.list ((C16.number R 1).map fun (c, s) => .tuple [c.toVal, .list (s.map LN.SrcCol.toVal)])), some st') := by
  obtain ⟨R, hR⟩ := flowIsOk_sound (r := Flow.flowQ C16.cat2 (LN.fuelFor nested) [] nested) (by decide +kernel)
  exact ⟨R, C16.lineage_of_text .MYSQL nested (by decide +kernel) (leafQ_of_B _ _ (by decide +kernel))
    (C01.dialectPre_id _ (by decide) (by decide) _) C16.cat2 (C16.hyg_sound _ (by decide +kernel)) R hR []⟩
/-- set operations and wildcards (as far as the specification `flowQ` covers them): `SELECT x.a AS k, x.b FROM t x UNION ALL SELECT y.d, y.a
FROM u y` and `SELECT * FROM t1, t2` on their printed texts -/
theorem lineage_text_instance (q : Query) (hq : FragQ .MYSQL q = true) (hl : leafQB .MYSQL q = true) (hh : C16.hyg q = true)
    (hf : flowIsOk (Flow.flowQ C16.cat2 (LN.fuelFor q) [] q) = true) :
    ∃ (R : Spec.Rel) (str : String) (st' : LN.St), Flow.flowQ C16.cat2 (LN.fuelFor q) [] q = .ok R ∧ PR.prQ .MYSQL q = .ok str ∧
      Drv.lineageCall C16.cat2 .MYSQL str.toList [] =
        ("OK " ++ Drv.showVal (.list ((C16.number R 1).map fun (c, s) => .tuple [c.toVal, .list (s.map LN.SrcCol.toVal)])), some st') := by
  obtain ⟨R, hR⟩ := flowIsOk_sound hf
  obtain ⟨str, st', a, _, _, b⟩ := C16.lineage_of_text .MYSQL q hq (leafQ_of_B _ _ hl) (C01.dialectPre_id _ (by decide) (by decide) _)
    C16.cat2 (C16.hyg_sound _ hh) R hR []
  exact ⟨R, str, st', hR, a, b⟩
set_option maxRecDepth 100000 in
example := lineage_text_instance C16.unionOK (by decide +kernel) (by decide +kernel) (by decide +kernel) (by decide +kernel)
set_option maxRecDepth 100000 in
example := lineage_text_instance C16.starAll (by decide +kernel) (by decide +kernel) (by decide +kernel) (by decide +kernel)
#guard (Drv.lineageCall C16.cat2 .MYSQL (prQL .MYSQL C16.unionOK) []).1 ==
  "OK L[T[StandardColumn{column_idx=1,column_name=\"k\"},L[SourceColumn{schema_name=None,table_name=\"t\",column_name=\"a\"},SourceColumn{schema_name=None,table_name=\"u\",column_name=\"d\"}]],T[StandardColumn{column_idx=2,column_name=\"b\"},L[SourceColumn{schema_name=None,table_name=\"t\",column_name=\"b\"},SourceColumn{schema_name=None,table_name=\"u\",column_name=\"a\"}]]]"
set_option maxRecDepth 100000 in
example : ∃ (str : String), PR.prQ .MYSQL q1 = .ok str ∧ Drv.firstStmt .MYSQL str.toList = .ok (.select q1) ∧
    (Drv.firstStmt .MYSQL str.toList >>= AN.currentColsStmt .having) = .ok (specQuery .having q1) ∧
    ∀ kind, kind ≠ "hash" → AN.Clause.ofName? kind = some .having →
      Drv.anColumns kind .MYSQL str.toList = Drv.showAn (.ok ((specQuery .having q1).map AN.QCol.toVal)) :=
  C15.columns_of_text .MYSQL q1 (by decide +kernel) (leafQ_of_B _ _ (by decide +kernel)) (C01.dialectPre_id _ (by decide) (by decide) _) .having
    (fun _ _ => trivial)

end C14T
