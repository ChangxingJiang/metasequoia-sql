import MsqProofs.Lemmas.CacheLemmas
/-!
# C17 — schema lookups are minimal, consistently keyed and cache-transparent

Theorems about the state-machine model of `CreateTableStatementGetter` (`MsqModel/Cache.lean`, the code as of /repo 69f92c3),
for every schema provider `prov`, every parser `parse` and EVERY table name (any sequence of Unicode scalar values: `/`, `../`, NUL,
`%`, blanks, non-ASCII, the empty name, `.` and `..` included).  No hypothesis on names or files: a file is written under a temporary
name and renamed, so `crash_dirOK` holds at EVERY crash point (F-C17-1); only the suffix `.sql` is removed from an entry name (F-C17-2/3); no
newline translation (F-C17-8); the file of a table is named by the injective encoding `Cache.enc` = `urllib.parse.quote(name, safe="")`, whose
image has no separator and no NUL (F-C17-4…7: `files_stay_inside`, `names_do_not_collide`).  The witnesses of these findings are the
regression theorems `regress_*`.
-/
namespace C17
open Cache

section
variable {σ : Type} (prov : Name → Text) (parse : Text → Except Err σ)

/-- the result `get_statement` must produce: whatever the provider's text parses to -/
def expected (n : Name) : Res σ :=
  match parse (prov n) with
  | .ok st => .ok st
  | .error e => .fail (.parse e)

/-- consistency of the volatile state with the provider and with the directory -/
structure Inv (s : St σ) : Prop where
  mem : ∀ n st, mget s.mem n = some st → parse (prov n) = .ok st
  disk : s.useDisk = true → ∀ n, n ∈ s.listed → fget s.files (enc n ++ ext) = some (prov n)

/-- restart safety of a directory: every entry that `__init__` reads as table `m` (= the file `<enc m>.sql`) holds the provider's
text for `m` (other entries — temporary files of interrupted runs, foreign files, `*.sql` files whose stem is no canonical encoding —
are never looked at) -/
def DirOK (files : Files) : Prop :=
  ∀ f t m, fget files f = some t → entryName f = some m → t = prov m

theorem finish_expected (s : St σ) (n : Name) :
    (finish parse s n (prov n)).1 = expected prov parse n := by
  unfold finish expected
  cases parse (prov n) <;> rfl

theorem finish_inv (s : St σ) (n : Name) (hI : Inv prov parse s) :
    Inv prov parse (finish parse s n (prov n)).2 := by
  unfold finish
  cases hp : parse (prov n) with
  | error e => exact hI
  | ok st =>
    refine ⟨?_, hI.disk⟩
    intro m st' hm
    simp only [mget_append] at hm
    cases hmm : mget s.mem m with
    | some x =>
      rw [hmm] at hm
      injection hm with hm
      subst hm
      exact hI.mem m x hmm
    | none =>
      rw [hmm] at hm
      by_cases hnm : n = m
      · subst hnm
        simp at hm
        subst hm
        exact hp
      · simp [hnm] at hm

theorem finish_frame (s : St σ) (n : Name) (sql : Text) :
    (finish parse s n sql).2.calls = s.calls ∧ (finish parse s n sql).2.useDisk = s.useDisk
      ∧ (finish parse s n sql).2.files = s.files ∧ (finish parse s n sql).2.parent = s.parent
      ∧ (finish parse s n sql).2.listed = s.listed := by
  unfold finish
  cases parse sql <;> simp

/-! ## one request, by the state it meets

`get_hit` and `get_listed` hold at every crash point: a request served from memory or from the directory takes no durable step. -/

theorem get_hit (crash : Option Crash) (s : St σ) (n : Name) (st : σ) (hm : mget s.mem n = some st) :
    Cache.get prov parse crash s n = (.ok st, s) := by
  unfold Cache.get
  rw [hm]

theorem get_listed (crash : Option Crash) (s : St σ) (n : Name) (hm : mget s.mem n = none) (hd : s.useDisk = true)
    (hl : s.listed.contains n = true) :
    Cache.get prov parse crash s n =
      match fget s.files (enc n ++ ext) with
      | some t => finish parse s n t
      | none => (.fail .fileNotFound, s) := by
  unfold Cache.get load
  rw [hm, resolve_enc]
  simp only [hd, hl, ↓reduceIte]
  cases fget s.files (enc n ++ ext) <;> rfl

theorem get_nodisk (s : St σ) (n : Name) (hm : mget s.mem n = none) (hd : s.useDisk = false) :
    Cache.get prov parse none s n = finish parse { s with calls := s.calls ++ [n] } n (prov n) := by
  unfold Cache.get
  rw [hm]
  simp only [hd, dies, Bool.false_eq_true, ↓reduceIte]

theorem get_unlisted (s : St σ) (n : Name) (hm : mget s.mem n = none) (hd : s.useDisk = true)
    (hl : s.listed.contains n = false) :
    Cache.get prov parse none s n =
      finish parse { s with calls := s.calls ++ [n], listed := n :: s.listed, files := saved s.files n (prov n) } n (prov n) := by
  unfold Cache.get openTmp
  rw [hm]
  simp only [hd, hl, resolve_enc, resolveTmp_enc, dies, Bool.false_eq_true, ↓reduceIte, putFile, replaceFile, saved]

/-- **the durable footprint of a request**, interrupted or not: nothing above the directory changes, and the directory is the old one,
possibly with the temporary file of `n` written (once or twice), or the completed save.  So a property of directories that survives
writing that temporary file and holds of the completed save survives the request. -/
theorem get_footprint (P : Files → Prop) (crash : Option Crash) (s : St σ) (n : Name) (h0 : P s.files)
    (htmp : ∀ fs t, P fs → P (fset fs (enc n ++ ext ++ tmpExt) t)) (hsaved : P (saved s.files n (prov n))) :
    P (Cache.get prov parse crash s n).2.files ∧ (Cache.get prov parse crash s n).2.parent = s.parent := by
  have hfin : ∀ (s' : St σ) sql, P s'.files ∧ s'.parent = s.parent →
      P (finish parse s' n sql).2.files ∧ (finish parse s' n sql).2.parent = s.parent := by
    intro s' sql h
    rw [(finish_frame parse s' n sql).2.2.1, (finish_frame parse s' n sql).2.2.2.1]
    exact h
  cases hm : mget s.mem n with
  | some st =>
    rw [get_hit prov parse crash s n st hm]
    exact ⟨h0, rfl⟩
  | none =>
    by_cases hd : s.useDisk = true
    · by_cases hl : s.listed.contains n = true
      · rw [get_listed prov parse crash s n hm hd hl]
        cases fget s.files (enc n ++ ext) with
        | none => exact ⟨h0, rfl⟩
        | some t => exact hfin s t ⟨h0, rfl⟩
      · unfold Cache.get openTmp
        rw [hm]
        simp only [hd, hl, resolve_enc, resolveTmp_enc, Bool.false_eq_true, ↓reduceIte, putFile, replaceFile]
        by_cases h1 : dies crash 1 = true
        · rw [if_pos h1]
          exact ⟨h0, rfl⟩
        rw [if_neg h1]
        by_cases h2 : dies crash 2 = true
        · rw [if_pos h2]
          exact ⟨htmp _ _ h0, rfl⟩
        rw [if_neg h2]
        by_cases h3 : dies crash 3 = true
        · rw [if_pos h3]
          exact ⟨htmp _ _ (htmp _ _ h0), rfl⟩
        rw [if_neg h3]
        by_cases h4 : dies crash 4 = true
        · rw [if_pos h4]
          exact ⟨htmp _ _ (htmp _ _ h0), rfl⟩
        rw [if_neg h4]
        by_cases h5 : dies crash 5 = true
        · rw [if_pos h5]
          exact ⟨hsaved, rfl⟩
        rw [if_neg h5]
        exact hfin _ _ ⟨hsaved, rfl⟩
    · unfold Cache.get
      rw [hm]
      simp only [hd, Bool.false_eq_true, ↓reduceIte]
      by_cases h1 : dies crash 1 = true
      · rw [if_pos h1]
        exact ⟨h0, rfl⟩
      rw [if_neg h1]
      exact hfin _ _ ⟨h0, rfl⟩

theorem dirOK_fset_tmp (files : Files) (x : Name) (t : Text) (hD : DirOK prov files) : DirOK prov (fset files (x ++ tmpExt) t) := by
  intro f u m hf hm
  by_cases h : f = x ++ tmpExt
  · subst h
    rw [entryName_tmp] at hm
    cases hm
  · rw [fget_fset_other _ _ _ _ h] at hf
    exact hD f u m hf hm

theorem dirOK_saved (files : Files) (n : Name) (hD : DirOK prov files) : DirOK prov (saved files n (prov n)) := by
  intro f u m hf hm
  by_cases h1 : f = enc n ++ ext
  · subst h1
    rw [fget_saved_final] at hf
    injection hf with hf
    rw [entryName_enc] at hm
    injection hm with hm
    subst hm
    exact hf.symm
  · by_cases h2 : f = enc n ++ ext ++ tmpExt
    · subst h2
      rw [fget_saved_tmp] at hf
      cases hf
    · rw [fget_saved_other _ _ _ _ h1 h2] at hf
      exact hD f u m hf hm

/-- **C17 (crash safety).**  A process death at ANY point of a request for ANY name leaves a restart-safe directory: the text is
written under a temporary name that no later process looks at, and appears under its final name only complete
(`os.replace`).  So the next process starts in a consistent state (`init_inv`) and answers every request correctly
(`results_spec_from`).  (Before /repo 4e42ffc this held only outside the window between the truncating `open` and `close`: F-C17-1.) -/
theorem crash_dirOK (s : St σ) (n : Name) (c : Crash) (hD : DirOK prov s.files) :
    DirOK prov (Cache.get prov parse (some c) s n).2.files :=
  (get_footprint prov parse (DirOK prov) (some c) s n hD (fun fs t => dirOK_fset_tmp prov fs _ t) (dirOK_saved prov _ n hD)).1

/-- the directory stays restart-safe, whatever name is requested -/
theorem get_dirOK (s : St σ) (n : Name) (hD : DirOK prov s.files) :
    DirOK prov (Cache.get prov parse none s n).2.files :=
  (get_footprint prov parse (DirOK prov) none s n hD (fun fs t => dirOK_fset_tmp prov fs _ t) (dirOK_saved prov _ n hD)).1

/-- the state a request that misses the memory parses the provider's text in: consistent, the name still not in memory -/
theorem finish_spec (s : St σ) (n : Name) (hI : Inv prov parse s) :
    (finish parse s n (prov n)).1 = expected prov parse n ∧ Inv prov parse (finish parse s n (prov n)).2
      ∧ (finish parse s n (prov n)).2.calls = s.calls ∧ (finish parse s n (prov n)).2.useDisk = s.useDisk
      ∧ (finish parse s n (prov n)).2.parent = s.parent :=
  have h := finish_frame parse s n (prov n)
  ⟨finish_expected prov parse s n, finish_inv prov parse s n hI, h.1, h.2.1, h.2.2.2.1⟩

/-- saving the provider's text for a name keeps what is listed on disk -/
theorem inv_saved (s : St σ) (n : Name) (hI : Inv prov parse s) :
    Inv prov parse { s with calls := s.calls ++ [n], listed := n :: s.listed, files := saved s.files n (prov n) } := by
  refine ⟨hI.mem, fun hd m hm => ?_⟩
  by_cases h : m = n
  · subst h
    exact fget_saved_final _ _ _
  · exact (fget_saved_of_ne _ n m _ h).trans (hI.disk hd m ((List.mem_cons.1 hm).resolve_left h))

/-- **C17 (cache transparency, one request).**  In a consistent state, for EVERY name: `get_statement` returns what the
provider's text parses to, keeps the state consistent, asks the provider not at all when the name is cached and exactly once
otherwise, and touches nothing else. -/
theorem get_spec (s : St σ) (n : Name) (hI : Inv prov parse s) :
    (Cache.get prov parse none s n).1 = expected prov parse n
      ∧ Inv prov parse (Cache.get prov parse none s n).2
      ∧ (Cache.get prov parse none s n).2.calls = (if cached s n then s.calls else s.calls ++ [n])
      ∧ (Cache.get prov parse none s n).2.useDisk = s.useDisk
      ∧ (Cache.get prov parse none s n).2.parent = s.parent := by
  unfold cached
  cases hm : mget s.mem n with
  | some st =>
    rw [get_hit prov parse none s n st hm]
    exact ⟨by simp [expected, hI.mem n st hm], hI, rfl, rfl, rfl⟩
  | none =>
    cases hd : s.useDisk with
    | false =>
      rw [get_nodisk prov parse s n hm hd]
      simpa [hd] using finish_spec prov parse { s with calls := s.calls ++ [n] } n ⟨hI.mem, hI.disk⟩
    | true =>
      cases hl : s.listed.contains n with
      | true =>
        rw [get_listed prov parse none s n hm hd hl, hI.disk hd n (by simpa using hl)]
        simpa [hd] using finish_spec prov parse s n hI
      | false =>
        rw [get_unlisted prov parse s n hm hd hl]
        simpa [hd] using finish_spec prov parse _ n (inv_saved prov parse s n hI)

/-- **C17 (re-instantiation).**  A new process over a restart-safe directory starts in a consistent state: every listed name is
the name a `*.sql` file was saved under (the decoding of its canonical stem) and the file holds the provider's text. -/
theorem init_inv (useDisk : Bool) (files parent : Files) (calls : List Name) (hD : DirOK prov files) :
    Inv prov parse (init (σ := σ) useDisk files parent calls) := by
  refine ⟨?_, ?_⟩
  · intro n st h
    simp [init, mget] at h
  · intro hd n hn
    have hd' : useDisk = true := hd
    simp only [init, hd', ↓reduceIte, List.mem_filterMap] at hn
    obtain ⟨⟨f, t⟩, hmem, hstrip⟩ := hn
    obtain ⟨t', ht'⟩ := fget_of_mem files f t hmem
    have hcont := hD f t' n ht' hstrip
    show fget files (enc n ++ ext) = some (prov n)
    rw [← entryName_some f n hstrip, ht', hcont]

/-- the operations of a crash-free history (any names) -/
def CrashFree : Op → Bool
  | .init _ => true
  | .get _ => true
  | .crash _ _ => false

theorem step_inv (s : St σ) (o : Op) (ho : CrashFree o = true) (hI : Inv prov parse s ∧ DirOK prov s.files) :
    Inv prov parse (step prov parse s o) ∧ DirOK prov (step prov parse s o).files := by
  cases o with
  | init b => exact ⟨init_inv prov parse b _ _ _ hI.2, hI.2⟩
  | get n => exact ⟨(get_spec prov parse s n hI.1).2.1, get_dirOK prov parse s n hI.2⟩
  | crash n c => cases ho

theorem run_induct (P : St σ → Prop) (Q : Op → Bool) (hstep : ∀ s o, Q o = true → P s → P (step prov parse s o))
    (ops : List Op) (hops : ∀ o ∈ ops, Q o = true) (s : St σ) (h : P s) : P (run prov parse s ops) := by
  induction ops generalizing s with
  | nil => exact h
  | cons o r ih => exact ih (fun o' ho' => hops o' (List.mem_cons_of_mem _ ho')) _ (hstep s o (hops o List.mem_cons_self) h)

/-- **C17 (histories).**  After ANY crash-free history of re-instantiations (with or without a directory) and requests for any
names, started in any consistent state, the state is consistent and the directory is restart-safe — in particular after `init` in
a later process. -/
theorem history_inv (ops : List Op) (hops : ∀ o ∈ ops, CrashFree o = true)
    (s : St σ) (hI : Inv prov parse s) (hD : DirOK prov s.files) :
    Inv prov parse (run prov parse s ops) ∧ DirOK prov (run prov parse s ops).files :=
  run_induct prov parse (fun s => Inv prov parse s ∧ DirOK prov s.files) CrashFree (step_inv prov parse) ops hops s ⟨hI, hD⟩

theorem fresh_ok (b : Bool) : Inv prov parse (fresh (σ := σ) b) ∧ DirOK prov (fresh (σ := σ) b).files := by
  refine ⟨init_inv prov parse b [] [] [] ?_, ?_⟩ <;> intro f t m h <;> simp [fresh, init, fget] at h

/-- what the requests of a history must answer: each one what the provider's text parses to, whatever came before -/
def specResults : List Op → List (Res σ)
  | [] => []
  | .init _ :: r => specResults r
  | .get n :: r => expected prov parse n :: specResults r
  | .crash n _ :: r => expected prov parse n :: specResults r

theorem results_spec_from (ops : List Op) (hops : ∀ o ∈ ops, CrashFree o = true)
    (s : St σ) (hI : Inv prov parse s ∧ DirOK prov s.files) :
    results prov parse s ops = specResults prov parse ops := by
  induction ops generalizing s with
  | nil => rfl
  | cons o r ih =>
    have ho := hops o List.mem_cons_self
    have hr := ih (fun o' ho' => hops o' (List.mem_cons_of_mem _ ho')) _ (step_inv prov parse s o ho hI)
    cases o with
    | init b => exact hr
    | get n =>
      show _ :: _ = _ :: _
      rw [(get_spec prov parse s n hI.1).1, hr]
    | crash n c => cases ho

/-- **C17 (cache transparency, histories).**  In every crash-free history, over ALL names, started by a first process over an
empty directory, every request answers what the provider's text parses to — whether it is served from memory, from the directory,
or freshly fetched, in this or an earlier process.  Requesting twice, or after other requests, gives the same answer. -/
theorem results_spec (b : Bool) (ops : List Op) (hops : ∀ o ∈ ops, CrashFree o = true) :
    results prov parse (fresh b) ops = specResults prov parse ops :=
  results_spec_from prov parse ops hops _ (fresh_ok prov parse b)

theorem cached_iff_warm (s : St σ) (n : Name) : cached s n = s.abs.warm.contains n := by
  unfold cached St.abs
  apply Bool.eq_iff_iff.2
  simp only [Bool.or_eq_true, Bool.and_eq_true, List.contains_iff_mem, List.mem_append]
  rw [mget_isSome_iff]
  cases s.useDisk <;> simp

theorem absGet_warm (a : Abs) (n m : Name) : m ∈ (Abs.get prov parse a n).2.warm ↔ m = n ∨ m ∈ a.warm := by
  unfold Abs.get
  by_cases h : a.warm.contains n = true
  · rw [if_pos h]
    exact ⟨Or.inr, fun h' => h'.elim (fun e => e.symm ▸ List.contains_iff_mem.1 h) id⟩
  · rw [if_neg h]
    exact List.mem_cons

theorem finish_warm (s : St σ) (n m : Name) (st : σ) (hp : parse (prov n) = .ok st) :
    m ∈ (finish parse s n (prov n)).2.abs.warm ↔ m = n ∨ m ∈ s.abs.warm := by
  unfold finish
  rw [hp]
  simp only [St.abs, List.map_append, List.map_cons, List.map_nil, List.mem_append, List.mem_cons, List.not_mem_nil, or_false]
  rw [or_assoc]
  exact or_left_comm

/-- **C17 (refinement of the abstract cache).**  When the provider's text parses, one concrete request simulates one request of
`AbsCache`: same answer, same provider call log, same set of warm names. -/
theorem get_refines (s : St σ) (n : Name) (st : σ)
    (hI : Inv prov parse s) (hp : parse (prov n) = .ok st) :
    (Cache.get prov parse none s n).1 = .ok st
      ∧ (Abs.get prov parse s.abs n).1 = .ok st
      ∧ (Cache.get prov parse none s n).2.abs.calls = (Abs.get prov parse s.abs n).2.calls
      ∧ ∀ m, m ∈ (Cache.get prov parse none s n).2.abs.warm ↔ m ∈ (Abs.get prov parse s.abs n).2.warm := by
  obtain ⟨h1, _, h3, _, _⟩ := get_spec prov parse s n hI
  refine ⟨by rw [h1]; simp [expected, hp], hp, ?_, fun m => ?_⟩
  · show (Cache.get prov parse none s n).2.calls = _
    rw [h3, cached_iff_warm s n]
    unfold Abs.get
    cases s.abs.warm.contains n <;> rfl
  · rw [absGet_warm]
    cases hm : mget s.mem n with
    | some x =>
      rw [get_hit prov parse none s n x hm]
      have hn : n ∈ s.abs.warm := List.mem_append_left _ ((mget_isSome_iff s.mem n).1 (by rw [hm]; rfl))
      exact ⟨Or.inr, fun h' => h'.elim (fun e => e.symm ▸ hn) id⟩
    | none =>
      cases hd : s.useDisk with
      | false =>
        rw [get_nodisk prov parse s n hm hd]
        exact finish_warm prov parse _ n m st hp
      | true =>
        cases hl : s.listed.contains n with
        | true =>
          rw [get_listed prov parse none s n hm hd hl, hI.disk hd n (by simpa using hl)]
          exact finish_warm prov parse s n m st hp
        | false =>
          rw [get_unlisted prov parse s n hm hd hl, finish_warm prov parse _ n m st hp]
          simp [St.abs, hd, or_left_comm]

/-- … and so EVERY history — any names, re-instantiations, process deaths at arbitrary points — keeps the directory restart-safe -/
theorem history_dirOK_with_crashes (ops : List Op) (s : St σ) (hD : DirOK prov s.files) :
    DirOK prov (run prov parse s ops).files := by
  refine run_induct prov parse (fun s => DirOK prov s.files) (fun _ => true) ?_ ops (fun _ _ => rfl) s hD
  intro s o _ hD
  cases o with
  | init b => exact hD
  | get n => exact get_dirOK prov parse s n hD
  | crash n c => exact crash_dirOK prov parse s n c hD

/-! ## the file names: inside the directory, one per table name -/

/-- **C17 (nothing outside the cache directory).**  For EVERY table name and at EVERY crash point: the cache file and the temporary
file of a request resolve (`os.path.join` + path resolution of the operating system, `Cache.resolveP`) to the entries `<enc n>.sql` and
`<enc n>.sql.tmp` directly IN the cache directory, because the encoded name has no path separator and no NUL; the request leaves
everything above the directory as it was and, inside the directory, touches no entry but these two.
(Before /repo 69f92c3 the name itself was pasted into the path: `../x` was written above the directory — F-C17-6.) -/
theorem files_stay_inside (crash : Option Crash) (s : St σ) (n : Name) :
    resolve s.files n = .inDir (enc n ++ ext) ∧ resolveTmp s.files n = .inDir (enc n ++ ext ++ tmpExt)
      ∧ (∀ x ∈ enc n, x ≠ '/' ∧ x ≠ '\x00')
      ∧ (Cache.get prov parse crash s n).2.parent = s.parent
      ∧ ∀ f, f ≠ enc n ++ ext → f ≠ enc n ++ ext ++ tmpExt → fget (Cache.get prov parse crash s n).2.files f = fget s.files f := by
  have h := get_footprint prov parse
    (fun fs => ∀ f, f ≠ enc n ++ ext → f ≠ enc n ++ ext ++ tmpExt → fget fs f = fget s.files f) crash s n (fun _ _ _ => rfl)
    (fun fs t ih f h1 h2 => (fget_fset_other _ _ _ _ h2).trans (ih f h1 h2)) (fget_saved_other s.files n (prov n))
  exact ⟨resolve_enc _ _, resolveTmp_enc _ _, enc_chars n, h.2, h.1⟩

/-- … over whole histories: no sequence of instantiations, requests and process deaths, for whatever names, changes anything above
the cache directory -/
theorem history_stays_inside (ops : List Op) (s : St σ) : (run prov parse s ops).parent = s.parent := by
  refine run_induct prov parse (fun s' => s'.parent = s.parent) (fun _ => true) ?_ ops (fun _ _ => rfl) s rfl
  intro s' o _ h
  cases o with
  | init b => exact h
  | get n => exact ((files_stay_inside prov parse none s' n).2.2.2.1).trans h
  | crash n c => exact ((files_stay_inside prov parse (some c) s' n).2.2.2.1).trans h

/-- **C17 (one file per table name).**  The encoding is injective, so two different table names never share a cache file or a
temporary file, no temporary file is any table's cache file, the entry `<enc n>.sql` is read back by `__init__` as table `n` (the
decoding of a canonical stem is the name it was saved under), and an entry is read as table `n` ONLY if it is that file.
(Before /repo 69f92c3: `./a` and `a` shared `a.sql`, and `./a` was listed as `a` — F-C17-4/5.) -/
theorem names_do_not_collide (n m : Name) :
    (enc n = enc m → n = m)
      ∧ (enc n ++ ext = enc m ++ ext → n = m)
      ∧ (enc n ++ ext ++ tmpExt = enc m ++ ext ++ tmpExt → n = m)
      ∧ enc n ++ ext ++ tmpExt ≠ enc m ++ ext
      ∧ dec (enc n) = some n
      ∧ entryName (enc n ++ ext) = some n
      ∧ (∀ f, entryName f = some n → f = enc n ++ ext) :=
  ⟨fun h => enc_injective h, file_inj, fun h => file_inj (List.append_cancel_right h), tmp_ne_final _ _, dec_enc n, entryName_enc n,
   fun f h => entryName_some f n h⟩

/-- a table whose file is in the directory is listed by the next process (and so is served without asking the provider), whatever its
name: the other half of `init_inv` -/
theorem init_lists_saved (files parent : Files) (calls : List Name) (n : Name) (t : Text) (h : fget files (enc n ++ ext) = some t) :
    n ∈ (init (σ := σ) true files parent calls).listed := by
  simp only [init, ↓reduceIte, List.mem_filterMap]
  exact ⟨(enc n ++ ext, t), mem_of_fget _ _ _ h, entryName_enc n⟩

/-- the operations of a crash-free history in which every process uses the directory -/
def DiskOp : Op → Bool
  | .init b => b
  | .get _ => true
  | .crash _ _ => false

/-- what "asked at most once" rests on: every name the provider was asked for is listed, and every listed name has its file -/
structure Once (s : St σ) : Prop where
  disk : s.useDisk = true
  nodup : s.calls.Nodup
  asked : ∀ n, n ∈ s.calls → n ∈ s.listed
  file : ∀ n, n ∈ s.listed → ∃ t, fget s.files (enc n ++ ext) = some t

theorem once_finish (s : St σ) (n : Name) (sql : Text) (hO : Once s) : Once (finish parse s n sql).2 := by
  obtain ⟨a, b, c, _, e⟩ := finish_frame parse s n sql
  exact ⟨b.trans hO.disk, a ▸ hO.nodup, a ▸ e ▸ hO.asked, e ▸ c ▸ hO.file⟩

theorem once_saved (s : St σ) (n : Name) (t : Text) (hO : Once s) (hn : n ∉ s.listed) :
    Once { s with calls := s.calls ++ [n], listed := n :: s.listed, files := saved s.files n t } := by
  refine ⟨hO.disk, ?_, ?_, ?_⟩
  · exact List.nodup_append.2 ⟨hO.nodup, List.pairwise_singleton _ n,
      fun x hx y hy hxy => hn (List.mem_singleton.1 hy ▸ hxy ▸ hO.asked x hx)⟩
  · intro m hm
    rcases List.mem_append.1 hm with h | h
    · exact List.mem_cons_of_mem _ (hO.asked m h)
    · exact List.mem_singleton.1 h ▸ List.mem_cons_self
  · intro m hm
    by_cases h : m = n
    · exact ⟨t, h ▸ fget_saved_final _ _ _⟩
    · exact (fget_saved_of_ne s.files n m t h).symm ▸ hO.file m ((List.mem_cons.1 hm).resolve_left h)

theorem once_step (s : St σ) (o : Op) (ho : DiskOp o = true) (hO : Once s) : Once (step prov parse s o) := by
  cases o with
  | crash n c => cases ho
  | init b =>
    have hb : b = true := ho
    subst hb
    refine ⟨rfl, hO.nodup, ?_, ?_⟩
    · intro n hn
      obtain ⟨t, ht⟩ := hO.file n (hO.asked n hn)
      exact init_lists_saved s.files s.parent s.calls n t ht
    · intro n hn
      simp only [step, init, ↓reduceIte, List.mem_filterMap] at hn
      obtain ⟨⟨f, t⟩, hmem, he⟩ := hn
      obtain ⟨t', ht'⟩ := fget_of_mem s.files f t hmem
      exact ⟨t', by rw [← entryName_some f n he]; exact ht'⟩
  | get n =>
    show Once (Cache.get prov parse none s n).2
    cases hm : mget s.mem n with
    | some st =>
      rw [get_hit prov parse none s n st hm]
      exact hO
    | none =>
      cases hl : s.listed.contains n with
      | true =>
        rw [get_listed prov parse none s n hm hO.disk hl]
        cases fget s.files (enc n ++ ext) with
        | none => exact hO
        | some t => exact once_finish parse s n t hO
      | false =>
        rw [get_unlisted prov parse s n hm hO.disk hl]
        exact once_finish parse _ n _ (once_saved s n _ hO (fun h => Bool.noConfusion ((List.contains_iff_mem.2 h).symm.trans hl)))

/-- **C17 (minimal across processes).**  In every crash-free history in which every process uses the directory — any number of
re-instantiations, requests for ANY names in any order — the provider is asked AT MOST ONCE per table name over the whole history:
what one process saved, every later process finds.  (Before /repo 69f92c3 false for names with `/`: F-C17-5.) -/
theorem asked_once_across_restarts (ops : List Op) (hops : ∀ o ∈ ops, DiskOp o = true) :
    (run prov parse (fresh (σ := σ) true) ops).calls.Nodup :=
  (run_induct prov parse Once DiskOp (once_step prov parse) ops hops _
    ⟨rfl, List.nodup_nil, fun _ h => (List.not_mem_nil h).elim, fun _ h => (List.not_mem_nil h).elim⟩).nodup
end

/-! ## non-vacuity, regression examples and witnesses (kernel-evaluated on a small instance of the model)

`tprov n = "DDL:" ++ n`, `tparse` accepts every non-empty text and returns it. -/

def tprov (n : Name) : Text := "DDL:".toList ++ n
def tparse (t : Text) : Except Err Text := if t.isEmpty then .error .parse else .ok t

/-- non-vacuity of `results_spec`: a history with a memory hit, a disk hit in a second process, a process without directory and
names with schema, dots, back-quotes, `.sql` inside, `/`, `../`, NUL, `%`, blanks and non-ASCII characters is crash-free … -/
example : (([.get "s.t".toList, .get "s.t".toList, .init true, .get "s.t".toList, .get "`a b`".toList, .init false,
    .get "s.t".toList, .init true, .get "a.sql.b".toList, .get "../x".toList, .get ['a', '\x00'], .get "é表%".toList] : List Op).all CrashFree)
      = true := by decide +kernel
/-- … and the provider is asked exactly once per name per cold state in it -/
example : (run tprov tparse (fresh true) [.get "s.t".toList, .get "s.t".toList, .init true, .get "s.t".toList, .get "`a b`".toList,
    .init false, .get "s.t".toList, .init true, .get "a.sql.b".toList, .get "`a b`".toList, .get "../x".toList, .init true, .get "../x".toList]).calls
    = ["s.t".toList, "`a b`".toList, "s.t".toList, "a.sql.b".toList, "../x".toList] := by decide +kernel

/-- regression for F-C17-1 (fixed in /repo 4e42ffc): a process death right after the temporary file was created (step 2), in the
middle of `write` (step 3) or after `close` (step 4) leaves nothing a later process trusts — the table is fetched again and
answered correctly -/
theorem regress_interrupted_save :
    results tprov tparse (fresh true) [.crash "b".toList ⟨2, 0⟩, .init true, .get "b".toList, .crash "c".toList ⟨3, 2⟩, .init true, .get "c".toList,
        .crash "d".toList ⟨4, 0⟩, .init true, .get "d".toList]
      = [.fail .crashed, .ok (tprov "b".toList), .fail .crashed, .ok (tprov "c".toList), .fail .crashed, .ok (tprov "d".toList)] := by
  decide +kernel

/-- … and a death after `os.replace` (step 5) leaves the complete file, which the next process serves without asking again -/
theorem regress_completed_save :
    results tprov tparse (fresh true) [.crash "b".toList ⟨5, 0⟩, .init true, .get "b".toList] = [.fail .crashed, .ok (tprov "b".toList)]
      ∧ (run tprov tparse (fresh true) [.crash "b".toList ⟨5, 0⟩, .init true, .get "b".toList]).calls = ["b".toList] := by decide +kernel

/-- regression for F-C17-2/3 (fixed in /repo 646d98b): a name containing `.sql` is found again by the next process (asked once),
and the name `a.b` is not believed to be on disk (the provider is asked for it) -/
theorem regress_dotsql :
    (run tprov tparse (fresh true) [.get "a.sql.b".toList, .init true, .get "a.sql.b".toList]).calls = ["a.sql.b".toList]
      ∧ results tprov tparse (fresh true) [.get "a.sql.b".toList, .init true, .get "a.b".toList]
          = [.ok (tprov "a.sql.b".toList), .ok (tprov "a.b".toList)] := by decide +kernel

/-- regression for F-C17-8 (fixed in /repo 8f5dd66): a carriage return in the provider's text comes back from the directory unchanged -/
theorem regress_carriage_return :
    results (fun _ => "x\ry".toList) tparse (fresh true) [.get "a".toList, .init true, .get "a".toList]
      = [.ok "x\ry".toList, .ok "x\ry".toList] := by decide +kernel

/-- regression for F-C17-9 (fixed in /repo be71fec): the INSERT target is requested under the key of source tables; the old key was
the printed back-quoted form -/
theorem regress_insert_target_key :
    (insertKey (some "s") "t" == sourceKey (some "s") "t") = true ∧ (insertKey none "t" == sourceKey none "t") = true
      ∧ (insertKeyOld (some "s") "t" == sourceKey (some "s") "t") = false := by decide +kernel

/-- regression for F-C17-4 (fixed in /repo 69f92c3): a name with `/` is saved (as `s%2Ft.sql`) and answered; the second request does not
ask again (before: `FileNotFoundError` from `open` after the provider was asked, on every request) -/
theorem regress_slash :
    results tprov tparse (fresh true) [.get "s/t".toList, .get "s/t".toList, .init true, .get "s/t".toList]
        = [.ok (tprov "s/t".toList), .ok (tprov "s/t".toList), .ok (tprov "s/t".toList)]
      ∧ (run tprov tparse (fresh true) [.get "s/t".toList, .get "s/t".toList, .init true, .get "s/t".toList]).calls = ["s/t".toList]
      ∧ (run tprov tparse (fresh true) [.get "s/t".toList]).files = [("s%2Ft.sql".toList, tprov "s/t".toList)] := by decide +kernel

/-- regression for F-C17-4 (aliasing): `./a` is saved as `.%2Fa.sql`, not as `a.sql`; the next process asks the provider for table `a`
and answers with ITS text (before: table `a` was served the text of `./a` without asking) -/
theorem regress_dot_slash_alias :
    results tprov tparse (fresh true) [.get "./a".toList, .init true, .get "a".toList]
        = [.ok (tprov "./a".toList), .ok (tprov "a".toList)]
      ∧ (run tprov tparse (fresh true) [.get "./a".toList, .init true, .get "a".toList]).calls = ["./a".toList, "a".toList] := by decide +kernel

/-- regression for F-C17-5: … and the table `./a` itself is found on disk by the next process (listed under its own name): asked once -/
theorem regress_slash_found_again :
    (run tprov tparse (fresh true) [.get "./a".toList, .init true, .get "./a".toList]).calls = ["./a".toList]
      ∧ (init (σ := Text) true (run tprov tparse (fresh true) [.get "./a".toList]).files [] []).listed = ["./a".toList] := by decide +kernel

/-- regression for F-C17-6 (escape): `../x` and the absolute name `/x` are written INTO the cache directory (`..%2Fx.sql`, `%2Fx.sql`),
nothing above it -/
theorem regress_escape :
    (run tprov tparse (fresh true) [.get "../x".toList, .get "/x".toList]).parent = []
      ∧ (run tprov tparse (fresh true) [.get "../x".toList, .get "/x".toList]).files
          = [("..%2Fx.sql".toList, tprov "../x".toList), ("%2Fx.sql".toList, tprov "/x".toList)] := by decide +kernel

/-- regression for F-C17-7 (NUL): answered, saved as `a%00.sql`, served from the directory by the next process (before: `ValueError`
from `open` after the provider was asked, on every request) -/
theorem regress_nul :
    results tprov tparse (fresh true) [.get ['a', '\x00'], .init true, .get ['a', '\x00']] = [.ok (tprov ['a', '\x00']), .ok (tprov ['a', '\x00'])]
      ∧ (run tprov tparse (fresh true) [.get ['a', '\x00'], .init true, .get ['a', '\x00']]).calls = [['a', '\x00']] := by decide +kernel

/-- `a%2Fb` and `a/b` are different tables with different files (`a%252Fb.sql`, `a%2Fb.sql`); the empty name, `.` and `..` are the plain
entries `.sql`, `..sql`, `...sql` of the directory -/
theorem regress_percent_and_dots :
    (run tprov tparse (fresh true) [.get "a%2Fb".toList, .get "a/b".toList, .get [], .get ".".toList, .get "..".toList, .init true,
        .get "a/b".toList, .get "a%2Fb".toList, .get [], .get ".".toList, .get "..".toList]).calls
        = ["a%2Fb".toList, "a/b".toList, [], ".".toList, "..".toList]
      ∧ (run tprov tparse (fresh true) [.get "a%2Fb".toList, .get "a/b".toList, .get [], .get ".".toList, .get "..".toList]).files.map (·.1)
        = ["a%252Fb.sql".toList, "a%2Fb.sql".toList, ".sql".toList, "..sql".toList, "...sql".toList] := by decide +kernel

/-- a file of an earlier version whose raw name is not a canonical encoding (`a b.sql`, `é.sql`), a lower-case escape (`a%2fb.sql`), an
incomplete or non-UTF-8 escape and the temporary file of an interrupted run are ignored by `__init__`; the table `a b` is fetched again
and saved as `a%20b.sql`; the legacy file stays untouched -/
theorem regress_legacy_files :
    (init (σ := Text) true [("a b.sql".toList, "old".toList), ("é.sql".toList, []), ("a%2fb.sql".toList, []), ("%2.sql".toList, []),
        ("%FF.sql".toList, []), ("%C0%AF.sql".toList, []), ("q.sql.tmp".toList, []), ("x.sql".toList, tprov "x".toList)] [] []).listed = ["x".toList]
      ∧ (run tprov tparse (init true [("a b.sql".toList, "old".toList)] [] []) [.get "a b".toList]).calls = ["a b".toList]
      ∧ (run tprov tparse (init true [("a b.sql".toList, "old".toList)] [] []) [.get "a b".toList]).files
          = [("a b.sql".toList, "old".toList), ("a%20b.sql".toList, tprov "a b".toList)] := by decide +kernel

/-! `Cache.enc` against values computed by the real `urllib.parse.quote(·, safe="")` (tests; the correspondence compares it on every
history — the `dir=` listing — and on generated names: `QUOTE`, `STEM`) -/
#guard String.ofList (enc "s.t".toList) == "s.t"
#guard String.ofList (enc "a/b".toList) == "a%2Fb"
#guard String.ofList (enc "../x".toList) == "..%2Fx"
#guard String.ofList (enc "/abs".toList) == "%2Fabs"
#guard String.ofList (enc "a%2Fb".toList) == "a%252Fb"
#guard String.ofList (enc "a b".toList) == "a%20b"
#guard String.ofList (enc [Char.ofNat 233, Char.ofNat 34920]) == "%C3%A9%E8%A1%A8"
#guard String.ofList (enc [Char.ofNat 128512]) == "%F0%9F%98%80"
#guard String.ofList (enc [Char.ofNat 97, Char.ofNat 0, Char.ofNat 98]) == "a%00b"
#guard String.ofList (enc "~_-.".toList) == "~_-."
#guard String.ofList (enc "".toList) == ""
#guard String.ofList (enc "`s`.`t`".toList) == "%60s%60.%60t%60"
#guard String.ofList (enc "a\\b".toList) == "a%5Cb"
#guard String.ofList (enc [Char.ofNat 127, Char.ofNat 128, Char.ofNat 2047, Char.ofNat 2048, Char.ofNat 65535, Char.ofNat 65536, Char.ofNat 1114111]) == "%7F%C2%80%DF%BF%E0%A0%80%EF%BF%BF%F0%90%80%80%F4%8F%BF%BF"
#guard (decStem "%F4%8F%BF%BF%20a".toList).map String.ofList == some (String.ofList [Char.ofNat 1114111, ' ', 'a'])
#guard decStem "a%2fb".toList == none && decStem "a b".toList == none && decStem "%C0%AF".toList == none && decStem "%41".toList == none

/-- non-vacuity of `asked_once_across_restarts` -/
example : (([.get "./a".toList, .init true, .get "a".toList, .get "./a".toList, .init true, .get "a".toList] : List Op).all DiskOp) = true := by
  decide +kernel

end C17
