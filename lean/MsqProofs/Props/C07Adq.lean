import MsqProofs.Lemmas.ParseAdqStmt
import MsqProofs.Props.C07
/-!
# C07 / C19 — fuel adequacy: the recursion of the parser terminates on every token list

The parser model is fuel-indexed (`.error .fuel` = budget exhausted); the public entry points give it
`PM.fuelFor ts = 20 * sizeL ts + 40`.  Proved here, for the MODEL, for every dialect and every token list / text:

* `fuel_adequate` — `parse_statements` never answers `.fuel` with the shipped budget;
* `entries_fuel_adequate` — the same for every entry of `PM.entries` (all 58 public `parse_*` methods);
* `fuel_adequate_block` — function by function for the 80-function expression / SELECT block: `rank_f + adqWL cursor ≤ fuel` is
  enough (`PM.AdqF`, one field per function, with its rank); `fuel_adequate_weight` — 20 + weight suffices for every entry point;
* `text_never_fuel`, `statements_outcomes`, `entry_outcomes`, `text_in_family_no_fuel` — text level: the fuel marker disappears from
  `C07.statements_error_kinds` / `entry_error_kinds` / `text_in_family`: the outcome is a tree, `LexicalParseError`, `SqlParseError`,
  or a named exit from the modelled fragment.  (With `C07.fuel_mono_*`: a tree returned with the shipped budget is the tree
  returned with every larger budget.)

Read as a statement about the recursion: the fuel a run needs is the depth of its call chain (every call and every loop
iteration of the model costs one unit), so the depth of the recursion of the parser on `ts` is at most `20 * sizeL ts + 40` — linear
in the input (C19), and in particular the recursion TERMINATES (C07).

Measure (`MsqProofs/Lemmas/ParseAdq0.lean`): `adqWL` — a word weighs 19, a bracket group 19 + its number of children + their weight;
`adqWL ts + ts.length ≤ 20 * sizeL ts`.  Ranks (`tools/gen_out.py --ranks`): computed from the call graph restricted to calls
that may be on the unchanged cursor; longest chain 15 (`pSelectCol / pFirstArg → pOr → pXor → pAnd → pNot → pCompare → pKeyword →
pKwFirst → pCompute → pUnary → pElement → pNamed → pWindow/pQualified → pFuncIdx → pFunc`); NO cycle of non-consuming calls exists.
The loops: every iteration of every loop loses a token of the cursor it iterates on (for `pJoins` / `pLaterals`, whose look-ahead
may be on the OTHER cursor of `_parse_single_select_statement`, because `pJoin` / `pLateral` strictly consume; for the attribute
loop of a column definition because `GENERATED ALWAYS AS (…)` does — the loop that did not terminate before its repair); the private
loop counters of the statement level (`ts.length + 1`) are adequate for the same reason.
-/
namespace C07
open Lex PM

/-- the 80-function block, function by function (field `f` of `AdqF d n`: `rank_f + weight of the cursor ≤ n → f d n … ≠ .error .fuel`) -/
theorem fuel_adequate_block (d : Gen.D) (n : Nat) : AdqF d n := adqF_all d n

/-- `20 + weight of the token list` is enough for every entry point -/
theorem fuel_adequate_weight (name : String) (p : Entry) (hp : (name, p) ∈ entries) (d : Gen.D) (f : Nat) (ts : List Tok)
    (hf : 20 + adqWL ts ≤ f) : p d f ts ≠ .error .fuel := entries_adq _ hp d f ts hf

/-- **C07.fuel_adequate**: `parse_statements` on tokens never runs out of the shipped budget -/
theorem fuel_adequate (d : Gen.D) (ts : List Tok) : pStatements d (fuelFor ts) ts ≠ .error .fuel :=
  pStatements_adq d _ ts (by have := adqWL_fuelFor ts; omega)

/-- no public entry point runs out of the shipped budget, or of any larger one, on any token list -/
theorem entries_fuel_adequate_ge (name : String) (p : Entry) (hp : (name, p) ∈ entries) (d : Gen.D) (ts : List Tok) (f : Nat)
    (hf : fuelFor ts ≤ f) : p d f ts ≠ .error .fuel :=
  entries_adq _ hp d _ ts (by have := adqWL_fuelFor ts; omega)

/-- **C07.entries_fuel_adequate**: no public entry point runs out of the shipped budget, on any token list -/
theorem entries_fuel_adequate (name : String) (p : Entry) (hp : (name, p) ∈ entries) (d : Gen.D) (ts : List Tok) :
    p d (fuelFor ts) ts ≠ .error .fuel :=
  entries_fuel_adequate_ge name p hp d ts _ (Nat.le_refl _)

/-- the depth of the recursion is linear in the input: the bound in the size measure of the token tree -/
theorem recursion_depth_linear (name : String) (p : Entry) (hp : (name, p) ∈ entries) (d : Gen.D) (ts : List Tok) (f : Nat)
    (hf : 20 * sizeL ts + 20 ≤ f) : p d f ts ≠ .error .fuel :=
  entries_adq _ hp d _ ts (by have := adqWL_le ts; omega)

/-! ## text level -/

/-- **C07.text_never_fuel**: `parse_statements(text)` and every `parse_<entry>(text)` of the model never answer FUEL -/
theorem text_never_fuel (d : Gen.D) (text : List Char) :
    parseStatementsText d text ≠ .error .fuel ∧ ∀ entry, parseText entry d text ≠ .error .fuel := by
  constructor
  · intro h
    rcases statements_error_from d text _ h with h1 | ⟨ts, h1⟩
    · cases h1
    · exact fuel_adequate d ts h1
  · intro entry h
    rcases entry_error_from entry d text _ h with h1 | h1 | ⟨p, ts, hp, he⟩
    · cases h1
    · cases h1
    · exact entries_fuel_adequate entry p hp d ts he

theorem no_fuel {x : Err} (h : x = .lexical ∨ x = .parse ∨ x = .fuel ∨ ∃ w, x = .unmodelled w) (hf : x ≠ .fuel) :
    x = .lexical ∨ x = .parse ∨ ∃ w, x = .unmodelled w :=
  h.imp_right fun h => h.imp_right fun h => h.resolve_left hf

/-- the error kinds of `parse_statements(text)`, final form: lexical error, parse error, or a named exit from the model -/
theorem statements_outcomes (d : Gen.D) (text : List Char) (x : Err) (h : parseStatementsText d text = .error x) :
    x = .lexical ∨ x = .parse ∨ ∃ w, x = .unmodelled w :=
  no_fuel (statements_error_kinds d text x h) fun hx => (text_never_fuel d text).1 (hx ▸ h)
theorem entry_outcomes (entry : String) (d : Gen.D) (text : List Char) (x : Err) (h : parseText entry d text = .error x) :
    x = .lexical ∨ x = .parse ∨ ∃ w, x = .unmodelled w :=
  no_fuel (entry_error_kinds entry d text x h) fun hx => (text_never_fuel d text).2 entry (hx ▸ h)

/-- `C07.text_in_family` without the fuel marker: a tree, a member of the library's error family, or `unmodelled` -/
theorem text_in_family_no_fuel (d : Gen.D) (text : List Char) :
    (match parseStatementsText d text with
     | .ok _ => True
     | .error x => x.inFamily = true ∨ ∃ w, x = .unmodelled w) := by
  split
  · trivial
  · rename_i x h
    rcases statements_outcomes d text x h with rfl | rfl | ⟨w, rfl⟩
    · exact .inl rfl
    · exact .inl rfl
    · exact .inr ⟨w, rfl⟩

/-! ## non-vacuity and sanity (compiled evaluation) -/
def lexed (s : String) : List Tok := match lex Gen.cfgS s.toList with | .ok ts => ts | .error _ => []
def rep (n : Nat) (s : String) : String := String.join (List.replicate n s)
def isFuel {α : Type} : Except Err α → Bool | .error .fuel => true | _ => false
def isOk {α : Type} : Except Err α → Bool | .ok _ => true | _ => false

-- the model CAN say FUEL: a deliberately tiny budget does
#guard isFuel (pOr .MYSQL 3 (lexed "a + b"))
#guard isFuel (pStatements .MYSQL 10 (lexed "SELECT a FROM t"))
-- … and the shipped budget does not: brackets nested 200 deep, 200 chained operators, 200 statements, nested IN lists, CASE chains
#guard isOk (parseText "logical_or_level_expression" .MYSQL (rep 200 "(" ++ "a + 1" ++ rep 200 ")").toList)
#guard isOk (parseText "logical_or_level_expression" .MYSQL ("a" ++ rep 200 " + a").toList)
#guard isOk (parseText "logical_or_level_expression" .MYSQL ("a" ++ rep 200 " OR a AND NOT a = b").toList)
#guard isOk (parseStatementsText .MYSQL (rep 200 "SELECT a FROM t WHERE b = c;").toList)
#guard isOk (parseStatementsText .MYSQL ("SELECT " ++ rep 100 "f(" ++ "a" ++ rep 100 ")" ++ " FROM t").toList)
#guard isOk (parseStatementsText .MYSQL ("SELECT a FROM t WHERE " ++ rep 60 "a IN (b, (" ++ "c" ++ rep 60 "))").toList)
#guard !isFuel (parseStatementsText .MYSQL ("SELECT a FROM t WHERE " ++ rep 60 "a IN (b, " ++ "c" ++ rep 60 ")").toList)
#guard isOk (parseStatementsText .MYSQL ("SELECT * FROM " ++ rep 50 "(SELECT * FROM " ++ "t" ++ rep 50 ") q").toList)
#guard !isFuel (parseStatementsText .MYSQL (rep 200 "(").toList)
#guard !isFuel (parseStatementsText .MYSQL ("SELECT " ++ rep 300 "CASE WHEN a THEN ").toList)
#guard !isFuel (parseStatementsText .MYSQL ("CREATE TABLE t (a int" ++ rep 200 " NOT NULL COMMENT 'x'" ++ ")").toList)

end C07
