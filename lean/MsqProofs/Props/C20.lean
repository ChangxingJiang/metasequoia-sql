import MsqModel.Scan
import MsqModel.Gen.LexShipped
import MsqProofs.Lemmas.MyBatisSim
/-!
# C20 — the extension surface behaves as documented for plug-ins

(a) the token cursor: peeking is side-effect free by construction (peek methods return no scanner);
a successful `search_and_move*` advances by exactly the pattern length, a failed one not at all; `close`
fails iff something is left; `match` is stated as it is.  The suffix view links the cursor to the
primitives the parser model uses.  (b) the MyBatis lexer: intercept facts on the GENERATED table.  (c) it is a
conservative extension of the base lexer: the same result on every text without `#{` (`conservative_extension`, and the
sharp form).  (d) the complement: a placeholder `#{p}` read between tokens is one NAME|CUSTOM_1 leaf (`placeholder_step`,
`placeholder_token`).
-/
open Lex
namespace C20
open Scan Scan.Scanner

/-! ## (a) cursor -/

theorem andMove_success (s : Scanner) (ok : Bool) (n : Nat) (h : (s.andMove ok n).1 = true) :
    (s.andMove ok n).2.pos = s.pos + n ∧ (s.andMove ok n).2.elems = s.elems := by
  unfold andMove at *; split <;> simp_all [move]

theorem andMove_failure (s : Scanner) (ok : Bool) (n : Nat) (h : (s.andMove ok n).1 = false) :
    (s.andMove ok n).2 = s := by
  unfold andMove at *; split <;> simp_all

/-- every `search_and_move*` method: success ⇒ exactly the pattern length, failure ⇒ not at all -/
theorem searchAndMove_spec (s : Scanner) (ps : List Pat) :
    ((s.searchAndMove ps).1 = true → (s.searchAndMove ps).2.pos = s.pos + ps.length)
    ∧ ((s.searchAndMove ps).1 = false → (s.searchAndMove ps).2 = s) :=
  ⟨fun h => (andMove_success s _ _ h).1, andMove_failure s _ _⟩

theorem searchAndMove_one_spec (s : Scanner) (k : String) :
    ((s.searchAndMoveOneTypeStrUseUpper k).1 = true → (s.searchAndMoveOneTypeStrUseUpper k).2.pos = s.pos + 1)
    ∧ ((s.searchAndMoveOneTypeStrUseUpper k).1 = false → (s.searchAndMoveOneTypeStrUseUpper k).2 = s) :=
  ⟨fun h => (andMove_success s _ _ h).1, andMove_failure s _ _⟩

theorem searchAndMove_two_spec (s : Scanner) (a b : String) :
    ((s.searchAndMoveTwoTypeStrUseUpper a b).1 = true → (s.searchAndMoveTwoTypeStrUseUpper a b).2.pos = s.pos + 2)
    ∧ ((s.searchAndMoveTwoTypeStrUseUpper a b).1 = false → (s.searchAndMoveTwoTypeStrUseUpper a b).2 = s) :=
  ⟨fun h => (andMove_success s _ _ h).1, andMove_failure s _ _⟩

theorem searchAndMove_three_spec (s : Scanner) (a b c : String) :
    ((s.searchAndMoveThreeTypeStrUseUpper a b c).1 = true → (s.searchAndMoveThreeTypeStrUseUpper a b c).2.pos = s.pos + 3)
    ∧ ((s.searchAndMoveThreeTypeStrUseUpper a b c).1 = false → (s.searchAndMoveThreeTypeStrUseUpper a b c).2 = s) :=
  ⟨fun h => (andMove_success s _ _ h).1, andMove_failure s _ _⟩

/-- a successful search means the pattern fits before the end of the token list -/
theorem search_sound (s : Scanner) (ps : List Pat) (h : s.search ps = true) :
    s.pos + ps.length ≤ s.len := by
  unfold search at h
  split at h
  · simp at h
  · omega

/-- `close` reports leftovers: it fails iff the cursor is not at (or past) the end -/
theorem close_spec (s : Scanner) : (s.close = .ok ()) ↔ s.pos ≥ s.elems.length := by
  unfold close isFinish len
  split <;> simp_all

/-- `pop` advances by one and never past a missing element -/
theorem pop_spec (s : Scanner) (t : Tok) (s' : Scanner) (h : s.pop = .ok (t, s')) :
    s'.pos = s.pos + 1 ∧ s'.elems = s.elems ∧ s.elems[s.pos]? = some t := by
  unfold pop at h
  split at h <;> simp_all
  obtain ⟨rfl, rfl⟩ := h; simp

/-- `match`: the cursor only moves forward, by at most the pattern length, over the same token list (a successful match
advances by exactly the pattern length: `match_success`) -/
theorem match_forward (s : Scanner) (ps : List Pat) :
    s.pos ≤ (s.matchPats ps).2.pos ∧ (s.matchPats ps).2.pos ≤ s.pos + ps.length ∧ (s.matchPats ps).2.elems = s.elems := by
  induction ps generalizing s with
  | nil => simp [matchPats]
  | cons p ps ih =>
    unfold matchPats
    cases hp : s.pop with
    | error e => simp
    | ok r =>
      obtain ⟨t, s'⟩ := r
      obtain ⟨h1, h2, _⟩ := pop_spec s t s' hp
      simp only
      split
      · obtain ⟨a, b, c⟩ := ih s'
        refine ⟨by omega, by simp; omega, by rw [c, h2]⟩
      · simp [h1, h2]

theorem match_success (s : Scanner) (ps : List Pat) (s' : Scanner) (h : (s.matchPats ps).1 = .ok s') :
    s'.pos = s.pos + ps.length ∧ s' = (s.matchPats ps).2 := by
  induction ps generalizing s with
  | nil => simp [matchPats] at h ⊢; exact ⟨by rw [← h], by rw [← h]⟩
  | cons p ps ih =>
    unfold matchPats at h ⊢
    cases hp : s.pop with
    | error e => simp [hp] at h
    | ok r =>
      obtain ⟨t, s1⟩ := r
      obtain ⟨h1, _, _⟩ := pop_spec s t s1 hp
      simp only [hp] at h ⊢
      split at h
      · rename_i hm
        obtain ⟨a, b⟩ := ih s1 h
        simp only [hm, if_true]
        exact ⟨by simp; omega, b⟩
      · simp at h

/-! ### the suffix view used by the parser model -/

theorem rest_getOrNull (s : Scanner) : s.rest.head? = s.getOrNull := by
  simp [rest, getOrNull, List.head?_drop]

theorem view_searchStrUp (s : Scanner) (k : String) : PM.searchStrUp s.rest k = s.searchOneTypeStrUseUpper k := by
  unfold PM.searchStrUp searchOneTypeStrUseUpper
  have := rest_getOrNull s
  cases h : s.rest with
  | nil => simp [h] at this; simp [← this]
  | cons t r => simp [h] at this; simp [← this]

theorem view_searchStr (s : Scanner) (k : String) : PM.searchStr s.rest k = s.searchOneTypeStr k := by
  unfold PM.searchStr searchOneTypeStr
  have := rest_getOrNull s
  cases h : s.rest with
  | nil => simp [h] at this; simp [← this]
  | cons t r => simp [h] at this; simp [← this]

theorem view_searchMark (s : Scanner) (m : Nat) : PM.searchMark s.rest m = s.searchOneTypeMark m := by
  unfold PM.searchMark searchOneTypeMark
  have := rest_getOrNull s
  cases h : s.rest with
  | nil => simp [h] at this; simp [← this]
  | cons t r => simp [h] at this; simp [← this]

theorem view_move (s : Scanner) (k : Nat) : (s.move k).rest = s.rest.drop k := by
  simp [rest, move, List.drop_drop, Nat.add_comm]

theorem view_pop (s : Scanner) :
    PM.pop s.rest = (match s.pop with | .ok (t, s') => .ok (t, s'.rest) | .error e => .error e) := by
  unfold PM.pop pop
  have hg := rest_getOrNull s
  cases h : s.rest with
  | nil =>
    simp only [h, List.head?_nil, getOrNull] at hg
    simp [← hg]
  | cons t r =>
    simp only [h, List.head?_cons, getOrNull] at hg
    simp only [← hg]
    have : s.elems.drop (s.pos + 1) = r := by
      have := congrArg (List.drop 1) h
      simpa [rest, List.drop_drop, Nat.add_comm] using this
    simp [rest, this]

theorem view_close (s : Scanner) : (s.close = .ok ()) ↔ s.rest = [] := by
  rw [close_spec]; simp [rest, List.drop_eq_nil_iff]

/-! ## (b) the MyBatis lexer: facts on the generated intercept table -/

/-- an intercept can only fire in WAIT on `#`, or in the two custom states -/
theorem intercepts_states :
    Gen.mbIntercepts.all (fun i => (i.status == .WAIT && i.ch == .lit ['#']) || i.status == .CUSTOM_1 || i.status == .CUSTOM_2) = true := by
  decide

/-- the base table never enters a custom state, so without `#` the plug-in runs the base machine (the invariant of the simulation) -/
theorem base_never_custom :
    allS.all (fun s =>
      ((Gen.cfgS.rows s).all fun e => e.2.status != .CUSTOM_1 && e.2.status != .CUSTOM_2) &&
      (match Gen.cfgS.dflt s with | some o => o.status != .CUSTOM_1 && o.status != .CUSTOM_2 | none => true) &&
      (match Gen.cfgS.atEnd s with | some o => o.status != .CUSTOM_1 && o.status != .CUSTOM_2 | none => true)) = true := by
  decide +kernel

/-- a placeholder becomes ONE leaf marked NAME|CUSTOM_1 whose text is the placeholder -/
theorem placeholder_is_one_marked_name :
    lexesTo (Gen.mybatis.lex "a = #{x.y}".toList)
      [.single ['a'] 2, .single ['='] 0, .single "#{x.y}".toList (Gen.mark_NAME ||| Gen.mark_CUSTOM_1)] = true := by
  decide +kernel

/-- F-C20-1 (repaired): a `#` comment that runs to the end of the text is handled as by the base lexer -/
theorem hash_at_end_as_base :
    lexesTo (Gen.mybatis.lex "a #".toList) [.single ['a'] 2] = true ∧ lexesTo (Gen.base.lex "a #".toList) [.single ['a'] 2] = true := by
  decide +kernel

/-- F-C20-2 (repaired): `#` directly followed by a line break comments out nothing of the next line -/
theorem hash_newline_as_base :
    lexesTo (Gen.mybatis.lex "#\nb".toList) [.single ['b'] 2] = true ∧ lexesTo (Gen.base.lex "#\nb".toList) [.single ['b'] 2] = true := by
  decide +kernel

/-- the only intercept that leaves the custom states without emitting a placeholder re-labels the state as the base lexer's
line-comment state and hands the symbol to the base machine -/
theorem redirect_is_line_comment :
    Gen.mbIntercepts.all (fun i => match i.redirect with | some s => i.status == .CUSTOM_1 && s == .IN_EXPLAIN_1 && i.ch == .any | none => true) = true := by
  decide

/-- an unterminated placeholder is rejected, not turned into a token -/
theorem unterminated_placeholder_rejected :
    (match Gen.mybatis.lex "a #{x".toList with | .error .lexical => true | _ => false) = true := by
  decide +kernel

/-! ## (c) the MyBatis lexer is a conservative extension of the base lexer: simulation for ALL texts

`Lex.Sim.lex_conservative_sharp` (MsqProofs/Lemmas/MyBatisSim.lean) is generic in the machine; here its side conditions are
discharged by `decide` on the REGENERATED intercept list, table and operation code, so a change of the plug-in or of the
table breaks the obligation named after the fact it states. -/
open Lex.Sim

theorem mem_allCls (c : Gen.Cls) : c ∈ Gen.allCls := by cases c <;> decide

/-- obligation (table + code): no cell of the shipped table (explicit, default, END) and no `setStatus` in the code of any
operation class names CUSTOM_1 or CUSTOM_2 — started outside the custom states the base `handle` stays outside -/
theorem base_closed_under_noncustom : Gen.cfgS.avoids custom Gen.allCls = true := by decide +kernel

/-- obligation (driver constant): the END marker fed after the text is neither `#` nor `{` -/
theorem end_marker_not_hash_brace : (Gen.mybatis.endMarker != ['#'] && Gen.mybatis.endMarker != ['{']) = true := by decide

/-- obligation (plug-in): for `#` in WAIT the plug-in runs, without redirect, an operation whose normal form is
`add_cache_to` (advance, keep the window, go to the own status) with own status CUSTOM_1 -/
theorem hash_in_wait_plugin :
    (match Gen.mybatis.intercepts.find? (fun i => i.fires Gen.mybatis.endMarker .WAIT (.ch '#')) with
     | some i => i.redirect.isNone && i.op.status == .CUSTOM_1 && summarize (Gen.mybatis.cfg.code i.op.cls) == some addCacheSummary
     | none => false) = true := by decide

/-- obligation (table): the base cell (WAIT, `#`) is the same normal form `add_cache_to`, with own status IN_EXPLAIN_1 -/
theorem hash_in_wait_base :
    (match Gen.mybatis.cfg.lookup .WAIT (.ch '#') with
     | some o => o.status == .IN_EXPLAIN_1 && summarize (Gen.mybatis.cfg.code o.cls) == some addCacheSummary
     | none => false) = true := by decide +kernel

/-- obligation (plug-in): in CUSTOM_1 the intercepts before the catch-all test for `{`, and the catch-all only re-labels
the state as IN_EXPLAIN_1 and calls the base `handle` (sharpens `redirect_is_line_comment`: it is the one that fires) -/
theorem after_hash_brace_or_redirect : redirectsAfter .CUSTOM_1 .IN_EXPLAIN_1 ['{'] Gen.mybatis.intercepts = true := by decide

/-- obligation (pre-pass): every replacement text of `preproc_sql` is non-empty and free of `#` and `{` -/
theorem pre_pass_clean : Gen.cfgS.preChain.all (fun pr => cleanRep pr.2) = true := by decide

/-- all side conditions of the simulation hold of the shipped plug-in -/
theorem mybatis_consExt : ConsExt Gen.mybatis Gen.allCls where
  cls_all := mem_allCls
  base_closed := base_closed_under_noncustom
  states := intercepts_states
  marker := end_marker_not_hash_brace
  opener := hash_in_wait_plugin
  base_cell := hash_in_wait_base
  after := after_hash_brace_or_redirect

theorem base_lex (text : List Char) : Gen.base.lex text = Lex.lex Gen.cfgS text :=
  lex_no_intercepts Gen.base rfl text

/-- the RAW text nowhere contains `#` directly followed by `{` -/
def NoPlaceholderOpener (text : List Char) : Prop := ¬ (['#', '{'] <:+: text)

/-- decided by one scan (`hasOpener`), so `decide` works on concrete texts -/
instance (text : List Char) : Decidable (NoPlaceholderOpener text) :=
  decidable_of_iff (hasOpener text = false) (by rw [NoPlaceholderOpener, ← hasOpener_iff]; simp)

/-- the pre-pass (`preproc_sql`) cannot create `#{` -/
theorem pre_keeps_no_opener (text : List Char) (h : NoPlaceholderOpener text) : ¬ (['#', '{'] <:+: Gen.cfgS.pre text) :=
  (hasOpener_eq_false _).mp (preWith_noOpener _ text pre_pass_clean ((hasOpener_eq_false text).mpr h))

/-- **conservative extension, pre-processed form** (weakest plain hypothesis): no `#{` in `preproc_sql(text)` -/
theorem conservative_extension_pre (text : List Char) (h : ¬ (['#', '{'] <:+: Gen.cfgS.pre text)) :
    Gen.mybatis.lex text = Gen.base.lex text := by
  rw [base_lex]; exact lex_conservative mybatis_consExt text h

/-- **conservative extension**: for EVERY text without `#{` — any length, any characters, well-formed SQL or not — the
MyBatis lexer returns exactly what the base lexer returns: the same token tree, or the same error -/
theorem conservative_extension (text : List Char) (h : NoPlaceholderOpener text) :
    Gen.mybatis.lex text = Gen.base.lex text :=
  conservative_extension_pre text (pre_keeps_no_opener text h)

/-- every `#{` of the pre-processed text is one whose `#` the BASE lexer does not consume in state WAIT (it lies in a
string literal, a quoted name, a comment, …) -/
def PlaceholderOpenersHarmless (text : List Char) : Prop := Harmless Gen.cfgS (Gen.cfgS.pre text)

/-- **conservative extension, sharp form**: only a `#` consumed in WAIT and directly followed by `{` makes a difference -/
theorem conservative_extension_sharp (text : List Char) (h : PlaceholderOpenersHarmless text) :
    Gen.mybatis.lex text = Gen.base.lex text := by
  rw [base_lex]; exact lex_conservative_sharp mybatis_consExt text h

/-- the plain hypothesis is a special case of the sharp one -/
theorem harmless_of_no_opener (text : List Char) (h : NoPlaceholderOpener text) : PlaceholderOpenersHarmless text :=
  fun p q _ ht _ => absurd ⟨p, q, by simp [ht]⟩ (pre_keeps_no_opener text h)

/-! ### non-vacuity -/

/-- the hypothesis holds for texts with `#` comments … -/
example : NoPlaceholderOpener "a # c\nb".toList := by decide +kernel
/-- … for which both lexers do produce tokens (the comment is dropped under the shipped options) -/
example : lexesTo (Gen.mybatis.lex "a # c\nb".toList) [.single ['a'] 2, .single ['b'] 2] = true := by decide +kernel
example : Gen.mybatis.lex "a # c\nb".toList = Gen.base.lex "a # c\nb".toList := conservative_extension _ (by decide +kernel)

/-- the hypothesis is needed: with a placeholder the two lexers differ (one marked name vs. a dropped line comment) -/
theorem differs_on_placeholder :
    lexesTo (Gen.mybatis.lex "a = #{x}".toList) [.single ['a'] 2, .single ['='] 0, .single "#{x}".toList (Gen.mark_NAME ||| Gen.mark_CUSTOM_1)] = true
    ∧ lexesTo (Gen.base.lex "a = #{x}".toList) [.single ['a'] 2, .single ['='] 0] = true
    ∧ ¬ NoPlaceholderOpener "a = #{x}".toList ∧ ¬ PlaceholderOpenersHarmless "a = #{x}".toList := by
  refine ⟨by decide +kernel, by decide +kernel, by decide +kernel, fun h => ?_⟩
  have h1 := conservative_extension_sharp _ h
  have h2 : lexesTo (Gen.mybatis.lex "a = #{x}".toList) [.single ['a'] 2, .single ['='] 0] = false := by decide +kernel
  have h3 : lexesTo (Gen.base.lex "a = #{x}".toList) [.single ['a'] 2, .single ['='] 0] = true := by decide +kernel
  rw [h1, h3] at h2; exact absurd h2 (by decide)

/-- the sharp hypothesis holds, and the plain one fails, for `#{` inside a string literal and behind `--` -/
example : PlaceholderOpenersHarmless "a = '#{x}' -- #{y}".toList ∧ ¬ NoPlaceholderOpener "a = '#{x}' -- #{y}".toList :=
  ⟨harmless_of_harmlessB _ _ (by decide +kernel), by decide +kernel⟩

/-! ## (d) the complement: a placeholder read in WAIT becomes one marked name -/

theorem mb_handle_wait_hash (text : List Char) (m : Mem) (hs : m.status = .WAIT) :
    Gen.mybatis.handle text m (.ch '#') = .ok ({ m with now := m.now + 1, status := .CUSTOM_1 }, true) := by
  simp [Machine.handle, Gen.mybatis, Gen.mbIntercepts, Intercept.fires, Sym.pyStr, hs, exec, Gen.Cls.code, Gen.Cfg7.cfg]

theorem mb_handle_c1_brace (text : List Char) (m : Mem) (hs : m.status = .CUSTOM_1) :
    Gen.mybatis.handle text m (.ch '{') = .ok ({ m with now := m.now + 1, status := .CUSTOM_2 }, true) := by
  simp [Machine.handle, Gen.mybatis, Gen.mbIntercepts, Intercept.fires, Sym.pyStr, hs, exec, Gen.Cls.code, Gen.Cfg7.cfg]

theorem mb_handle_c2_other (text : List Char) (m : Mem) (c : Char) (hs : m.status = .CUSTOM_2) (hc : c ≠ '}') :
    Gen.mybatis.handle text m (.ch c) = .ok ({ m with now := m.now + 1, status := .CUSTOM_2 }, true) := by
  simp [Machine.handle, Gen.mybatis, Gen.mbIntercepts, Intercept.fires, Sym.pyStr, hs, Ne.symm hc, exec, Gen.Cls.code, Gen.Cfg7.cfg]

theorem mb_handle_c2_close (text : List Char) (m : Mem) (f : List Tok) (fs : List (List Tok)) (hs : m.status = .CUSTOM_2)
    (hst : m.stack = f :: fs) :
    Gen.mybatis.handle text m (.ch '}') =
      .ok ({ start := m.now + 1, now := m.now + 1, status := .WAIT,
             stack := (f ++ [.single ((text.drop m.start).take (m.now + 1 - m.start)) (Gen.mark_NAME ||| Gen.mark_CUSTOM_1)]) :: fs }, true) := by
  simp [Machine.handle, Gen.mybatis, Gen.mbIntercepts, Intercept.fires, Sym.pyStr, hs, hst, exec, Gen.Cls.code, Gen.Cfg7.cfg,
    appendTop, resolveMarks, Cfg.env, Gen.mark_NAME, Gen.mark_CUSTOM_1]

theorem mb_handle_wait_eof (text : List Char) (m : Mem) (hs : m.status = .WAIT) :
    Gen.mybatis.handle text m .eof = .ok ({ m with status := .END }, true) := by
  simp [Machine.handle, Gen.mybatis, Gen.mbIntercepts, Intercept.fires, Sym.pyStr, hs, exec, Gen.Cls.code, Gen.Cfg7.cfg,
    -- `o51`: the generated name of the (WAIT, END) operation in `Gen/LexCfg7.lean`; a renumbering by the translator shows up here
    Lex.handle, Cfg.lookup, Gen.Cfg7.atEnd, Gen.Cfg7.o51, Gen.endMarker]

theorem mb_feed_payload (text : List Char) : ∀ (p : List Char) (m : Mem), m.status = .CUSTOM_2 → '}' ∉ p →
    feedAllWith (Gen.mybatis.handle text) p m = .ok { m with now := m.now + p.length }
  | [], m, _, _ => by simp [feedAllWith]
  | c :: p, m, hs, hp => by
    simp only [List.mem_cons, not_or] at hp
    have h1 := mb_handle_c2_other text m c hs (Ne.symm hp.1)
    simp only [feedAllWith, feedWith, h1]
    rw [mb_feed_payload text p _ rfl hp.2]
    simp [Nat.add_assoc, Nat.add_comm 1, hs]

/-- **placeholder step**: in WAIT with an empty window, at a position where the text continues with `#{p}` (`p` any
payload without `}` — line breaks, quotes, `#`, `{` allowed), reading `#{p}` appends exactly ONE leaf to the open frame,
marked NAME|CUSTOM_1, whose text is the placeholder, and leaves the machine in WAIT with an empty window behind it -/
theorem placeholder_step (text p rest : List Char) (m : Mem) (f : List Tok) (fs : List (List Tok))
    (hst : m.status = .WAIT) (hwin : m.start = m.now) (hstack : m.stack = f :: fs)
    (htext : text.drop m.now = '#' :: '{' :: p ++ '}' :: rest) (hp : '}' ∉ p) :
    feedAllWith (Gen.mybatis.handle text) ('#' :: '{' :: p ++ ['}']) m =
      .ok { start := m.now + (p.length + 3), now := m.now + (p.length + 3), status := .WAIT,
            stack := (f ++ [.single ('#' :: '{' :: p ++ ['}']) (Gen.mark_NAME ||| Gen.mark_CUSTOM_1)]) :: fs } := by
  have h1 := mb_handle_wait_hash text m hst
  have h2 := mb_handle_c1_brace text { m with now := m.now + 1, status := .CUSTOM_1 } rfl
  simp only [List.cons_append, feedAllWith, feedWith, h1, h2]
  rw [feedAllWith_append, mb_feed_payload text p _ rfl hp]
  simp only []
  rw [feedAllWith_one]
  have h3 := mb_handle_c2_close text { start := m.start, now := m.now + 1 + 1 + p.length, status := .CUSTOM_2, stack := m.stack }
    f fs rfl hstack
  simp only [feedWith, h3]
  simp only [Except.ok.injEq, Mem.mk.injEq, List.cons.injEq, and_true, true_and]
  refine ⟨by omega, by omega, ?_⟩
  have : m.now + 1 + 1 + p.length + 1 - m.start = p.length + 3 := by omega
  rw [this, hwin, htext]
  have : ('#' :: '{' :: p) ++ '}' :: rest = ('#' :: '{' :: (p ++ ['}'])) ++ rest := by simp
  rw [this, List.take_left' (by simp)]

/-- obligation (pre-pass): the patterns of `preproc_sql` start with CR, TAB and the ideographic space -/
theorem pre_pass_heads : Gen.cfgS.preChain.map (fun pr => pr.1.head?) = [some '\r', some '\t', some (Char.ofNat 12288)] := by decide

theorem pre_id (t : List Char) (h : ∀ c ∈ t, c ≠ '\r' ∧ c ≠ '\t' ∧ c ≠ Char.ofNat 12288) : Gen.cfgS.pre t = t := by
  apply preWith_noop
  intro pr hpr
  have hh : pr.1.head? ∈ Gen.cfgS.preChain.map (fun pr => pr.1.head?) := List.mem_map_of_mem hpr
  rw [pre_pass_heads] at hh
  cases hp : pr.1 with
  | nil => trivial
  | cons c cs =>
    intro hc
    have := h c hc
    simp only [hp, List.head?_cons, List.mem_cons, Option.some.injEq, List.mem_nil_iff, or_false] at hh
    rcases hh with rfl | rfl | rfl <;> simp at this

/-- **placeholder token**: for EVERY payload `p` without `}` (and without the three characters the pre-pass rewrites)
the text `#{p}` lexes to exactly one leaf, marked NAME|CUSTOM_1, whose text is the whole placeholder -/
theorem placeholder_token (p : List Char) (hp : ∀ c ∈ p, c ≠ '}' ∧ c ≠ '\r' ∧ c ≠ '\t' ∧ c ≠ Char.ofNat 12288) :
    Gen.mybatis.lex ('#' :: '{' :: p ++ ['}']) =
      .ok [.single ('#' :: '{' :: p ++ ['}']) (Gen.mark_NAME ||| Gen.mark_CUSTOM_1)] := by
  have hpre : Gen.cfgS.pre ('#' :: '{' :: p ++ ['}']) = '#' :: '{' :: p ++ ['}'] := by
    apply pre_id
    intro c hc
    simp only [List.cons_append, List.mem_cons, List.mem_append, List.mem_nil_iff, or_false] at hc
    rcases hc with rfl | rfl | hc | rfl
    · decide
    · decide
    · exact (hp c hc).2
    · decide
  have hstep := placeholder_step ('#' :: '{' :: p ++ ['}']) p [] {} [] [] rfl rfl rfl (by simp)
    (fun h => (hp _ h).1 rfl)
  unfold Machine.lex lexWith
  simp only [show Gen.mybatis.cfg = Gen.cfgS from rfl, hpre, hstep]
  rw [mb_handle_wait_eof _ _ rfl]
  simp [finish, Gen.Cfg7.cfg]

/-- the kernel-evaluated witness of section (b) is an instance -/
example : Gen.mybatis.lex "#{x.y}".toList = .ok [.single "#{x.y}".toList (Gen.mark_NAME ||| Gen.mark_CUSTOM_1)] :=
  placeholder_token "x.y".toList (by decide)

end C20
