import MsqProofs.Lemmas.TParse
import MsqModel.Parse.Entry
import MsqModel.Driver.ShowVal
/-!
# C02 / C01 — T-parse on the expression grammar: the parser inverts the token-level printer for every tree of the operator fragment

**Fragment** (`TP.Frag d e : Bool`, any depth, any nesting):
* atoms: column references `.column none c` whose back-quoted token reads back as `c` and is no grammar word (`colOK`: true of EVERY
  plain name, `colOK_of_plain`), literal leaves whose token carries the LITERAL mark and is no operator word (`litOK`: integers,
  quoted strings, `NULL` / `TRUE` / `FALSE`);
* unary operators of the dialect (`-`, `+`, `~`, and `!` where it is unary: not for Hive) — `unOK`;
* every binary compute operator of `Gen.computeEnum` at levels 3 … 8 that the dialect's printer supports (`^`, `*`, `/`, `%`, `+`, `-`,
  `<<`, `>>`, `&`, `|`; `MOD` only where `computeOpSrc` prints it) — `binOK`; `all_operators_in_fragment` checks the tables;
* every comparison operator of `Gen.compareEnum` — `cmpOK`;
* `IS [NOT]`, `[NOT] LIKE`, `[NOT] RLIKE`, `[NOT] REGEXP`, `[NOT] BETWEEN … AND …` with arbitrary fragment operands (not only literals),
  chained to any length; `NOT`; `AND`; `XOR`; `OR`.
Not in the fragment: `IN`, `EXISTS`, function calls, `CASE`, qualified columns, wildcards, array index, sub-queries.

**Token-level printer** `TP.toksE d ch e`: what `PR.prE d e` prints as the tokens the lexer makes of it; a child is wrapped in a
PARENTHESIS group exactly when `PR.lvl child > bound` (the condition of `PR.wrap`, the bounds of `PR.prE`) — or, additionally, when
`ch child` says so: `ch` chooses ANY set of sub-terms to wrap REDUNDANTLY (`noX = fun _ => false` is the printer).
The link `lex (prE d e) = toksE d noX e` is the lexer's business (C05 / C06; proved in Props/C01T.lean: `C01.lex_prE`); `#guard`s at the end check it by
compiled evaluation on concrete trees, dialects and operators.

**Continuations** `TP.stops d rest`: empty, or the head is no bracket / array index / `.` and none of the operator or keyword words of the
expression grammar.

How the compute layer is proved: `MsqProofs/Lemmas/TParseCompute.lean` (the printer's wrapping rule makes the tree THE well-nested
tree of its flat rendering; `SR.shiftReduce_spec` = uniqueness; the model's stack loop = `shiftReduce`).
-/
open Lex PM Ast TP

namespace TP
/-- no redundant brackets: the printer's rendering -/
def noX : Expr → Bool := fun _ => false

theorem toList_src_nameTok (c : String) : (nameTok c).src.toList = '`' :: (c.toList ++ ['`']) := by
  simp [nameTok, Tok.src, Tok.source]
theorem pyUpper_bq (r : List Char) : Gen.pyUpper ('`' :: r) = '`' :: Gen.pyUpper r := by
  simp only [Gen.pyUpper, Py.upperWith, List.flatMap_cons]
  have h2 : Py.upperAsciiChar '`' = '`' := by decide
  simp [h2]
theorem up_nameTok_head (n : String) : (up (nameTok n).src).toList.head? = some '`' := by
  simp [up, Gen.pyUpperS, String.toList_ofList, toList_src_nameTok, pyUpper_bq]
theorem dropWhile_bq_plain (cl : List Char) (h : cl.head?.all (· != '`') = true) : cl.dropWhile (· == '`') = cl := by
  cases cl with
  | nil => rfl
  | cons a r =>
    simp only [List.head?_cons, Option.all_some, bne_iff_ne, ne_eq] at h
    have : (a == '`') = false := by simpa using h
    simp [List.dropWhile, this]
theorem unifyName_nameTok (c : String) (h1 : c.toList ≠ []) (h2 : c.toList.head?.all (· != '`') = true)
    (h3 : c.toList.reverse.head?.all (· != '`') = true) : unifyName (nameTok c).src = c := by
  unfold unifyName
  rw [toList_src_nameTok]
  have a : ('`' :: (c.toList ++ ['`'])).dropWhile (· == '`') = c.toList ++ ['`'] := by
    have : (c.toList ++ ['`']).head?.all (· != '`') = true := by
      cases hc : c.toList with
      | nil => exact absurd hc h1
      | cons x r => rw [hc] at h2; simpa using h2
    simp only [List.dropWhile, beq_self_eq_true]
    exact dropWhile_bq_plain _ this
  rw [a]
  have b : ((c.toList ++ ['`']).reverse).dropWhile (· == '`') = c.toList.reverse := by
    simp only [List.reverse_append, List.reverse_cons, List.reverse_nil, List.nil_append, List.cons_append, List.dropWhile,
      beq_self_eq_true]
    exact dropWhile_bq_plain _ h3
  rw [b, List.reverse_reverse, String.ofList_toList]
theorem plain_chars (c : String) (h : PR.isPlainName c = true) :
    c.toList ≠ [] ∧ c.toList.head?.all (· != '`') = true ∧ c.toList.reverse.head?.all (· != '`') = true := by
  unfold PR.isPlainName at h
  have hbq : ∀ x : Char, (x.isAlphanum || x == '_') = true → x ≠ '`' := by
    intro x hx he; subst he; exact absurd hx (by decide)
  have hbq' : ∀ x : Char, (x.isAlpha || x == '_') = true → x ≠ '`' := by
    intro x hx he; subst he; exact absurd hx (by decide)
  cases hc : c.toList with
  | nil => rw [hc] at h; simp at h
  | cons a r =>
    rw [hc] at h
    simp only [Bool.and_eq_true, List.all_eq_true] at h
    refine ⟨by simp, by simpa using hbq' a h.1, ?_⟩
    cases hr : (a :: r).reverse with
    | nil => simp at hr
    | cons z zs =>
      have hz : z ∈ a :: r := by
        have : z ∈ (a :: r).reverse := by rw [hr]; simp
        exact List.mem_reverse.1 this
      simp only [List.head?_cons, Option.all_some, bne_iff_ne, ne_eq]
      simp only [List.mem_cons] at hz
      rcases hz with rfl | hz
      · exact hbq' _ h.1
      · exact hbq _ (h.2 z hz)
/-- a column whose name is a plain name (`[A-Za-z_][A-Za-z0-9_]*`) is an atom of the fragment, in every dialect -/
theorem colOK_of_plain (d : Gen.D) (c : String) (h : PR.isPlainName c = true) : colOK d c = true := by
  obtain ⟨p1, p2, p3⟩ := plain_chars c h
  have h1 : (nameTok c).src.toList.head? = some '`' := by simp [toList_src_nameTok]
  have h2 := up_nameTok_head c
  have a : ["SELECT", "WITH"].contains (up (nameTok c).src) = false := not_contains_of_head h2 (by decide)
  have b : (Gen.notSet d).contains (up (nameTok c).src) = false := not_contains_of_head h2 (by cases d <;> decide)
  have c' : (Gen.unarySet d).contains (nameTok c).src = false := not_contains_of_head h1 (by cases d <;> decide)
  have e : (nameTok c).srcEqUp "EXISTS" = false := by
    simp only [Tok.srcEqUp, beq_eq_false_iff_ne, ne_eq]; exact ne_of_head h2 (by decide)
  have f : (nameTok c).srcEqUp "CASE" = false := by
    simp only [Tok.srcEqUp, beq_eq_false_iff_ne, ne_eq]; exact ne_of_head h2 (by decide)
  have g : (nameTok c).srcEq "*" = false := by
    simp only [Tok.srcEq, beq_eq_false_iff_ne, ne_eq]; exact ne_of_head h1 (by decide)
  have u := unifyName_nameTok c p1 p2 p3
  simp only [colOK, elemTok, operandTok, startTok, a, b, c', e, f, g, u, beq_self_eq_true]; rfl

/-- every unary operator, binary compute operator (levels 3 … 8) and comparison operator of the generated tables is in the
fragment, in every dialect whose printer prints it -/
theorem all_operators_in_fragment :
    Gen.allD.all (fun d =>
      Gen.computeEnum.all (fun e => e.2.2 < 3 || !printsAs (PR.computeOpSrc d e.1) e.2.1 || binOK d e.1) &&
      Gen.computeEnum.all (fun e => !(Gen.unarySet d).contains e.2.1 || unOK d e.1) &&
      Gen.compareEnum.all (fun e => cmpOK d e.1)) = true := by decide

theorem sizeL_kwToks (k : KwKind) (n : Bool) : sizeL (kwToks k n) ≤ 2 := by
  cases k <;> cases n <;> simp [kwToks, sizeL, Tok.size, opTok]
theorem sizeL_toksE_le (d : Gen.D) (ch : Expr → Bool) : ∀ n e, sz e ≤ n → sizeL (toksE d ch e) ≤ 6 * sz e := by
  intro n
  induction n with
  | zero => intro e he; cases e <;> simp [sz] at he
  | succ n ih =>
    intro e he
    have w := fun (x : Expr) (k : Nat) => sizeL_W_ge d ch x k
    simp only [W] at w
    cases e <;> simp only [sz] at he <;>
      simp only [toksE, sz, sizeL, sizeL_append, sizeL_cons, size_opTok, Tok.size, nameTok, litTok] <;> try omega
    case unary o x => have := ih x (by omega); have := w x 2; omega
    case compute l o r =>
      have := ih l (by omega); have := ih r (by omega)
      have := w l (PR.lvl (.compute l o r)); have := w r (PR.lvl (.compute l o r) - 1); omega
    case kw k n0 l r =>
      have := ih l (by omega); have := ih r (by omega); have := w l 9; have := w r 8; have := sizeL_kwToks k n0; omega
    case between n0 b f t =>
      have := ih b (by omega); have := ih f (by omega); have := ih t (by omega); have := w b 9; have := w f 8; have := w t 8
      cases n0 <;> simp [sizeL, size_opTok] <;> omega
    case compare o l r => have := ih l (by omega); have := ih r (by omega); have := w l 10; have := w r 9; omega
    case not_ x => have := ih x (by omega); have := w x 11; omega
    case and_ l r => have := ih l (by omega); have := ih r (by omega); have := w l 12; have := w r 11; omega
    case xor l r => have := ih l (by omega); have := ih r (by omega); have := w l 13; have := w r 12; omega
    case or_ l r => have := ih l (by omega); have := ih r (by omega); have := w l 14; have := w r 13; omega
theorem sizeL_toksE_noX_le (d : Gen.D) (ch : Expr → Bool) : ∀ n x, sz x ≤ n → sizeL (toksE d noX x) ≤ sizeL (toksE d ch x) := by
  intro n
  induction n with
  | zero => intro x hx; cases x <;> simp [sz] at hx
  | succ n ih =>
    intro x hx
    have w : ∀ (y : Expr) (k : Nat), sz y ≤ n → sizeL (wrapT (noX y) y k (toksE d noX y)) ≤ sizeL (wrapT (ch y) y k (toksE d ch y)) := by
      intro y k hy
      have := ih y hy
      unfold wrapT
      by_cases h : PR.lvl y > k
      · simp [h, sizeL, size_grp]; omega
      · cases hc : ch y <;> simp [h, noX, sizeL, size_grp] <;> omega
    cases x <;> simp only [sz] at hx <;>
      simp only [toksE, sizeL, sizeL_append, sizeL_cons, size_opTok, Nat.le_refl]
    case unary o y => have := w y 2 (by omega); omega
    case compute l o r => have := w l (PR.lvl (.compute l o r)) (by omega); have := w r (PR.lvl (.compute l o r) - 1) (by omega); omega
    case kw k n0 l r => have := w l 9 (by omega); have := w r 8 (by omega); omega
    case between n0 b f t => have := w b 9 (by omega); have := w f 8 (by omega); have := w t 8 (by omega); omega
    case compare o l r => have := w l 10 (by omega); have := w r 9 (by omega); omega
    case not_ y => have := w y 11 (by omega); omega
    case and_ l r => have := w l 12 (by omega); have := w r 11 (by omega); omega
    case xor l r => have := w l 13 (by omega); have := w r 12 (by omega); omega
    case or_ l r => have := w l 14 (by omega); have := w r 13 (by omega); omega
end TP

namespace C02
theorem rt (d : Gen.D) (ch : Expr → Bool) (e : Expr) (hf : Frag d e = true) : RT d ch e := rt_all (sz e) e (Nat.le_refl _) hf

/-- **T-parse, expression grammar.**  The parser returns exactly the tree from its token rendering, in front of every continuation that
does not continue an expression, for every choice `ch` of redundant brackets, at every fuel above an explicit linear bound -/
theorem tparse (d : Gen.D) (ch : Expr → Bool) (e : Expr) (hf : Frag d e = true) (rest : List Tok) (hr : stops d rest = true)
    (fuel : Nat) (hfuel : 20 * sizeL (toksE d ch e) + 15 ≤ fuel) : pOr d fuel (toksE d ch e ++ rest) = .ok (e, rest) :=
  (rt d ch e hf).own.s14 rest hr fuel hfuel
/-- with the fuel the public entry points compute from the token list -/
theorem tparse_entry_fuel (d : Gen.D) (ch : Expr → Bool) (e : Expr) (hf : Frag d e = true) (rest : List Tok) (hr : stops d rest = true) :
    pOr d (fuelFor (toksE d ch e ++ rest)) (toksE d ch e ++ rest) = .ok (e, rest) :=
  tparse d ch e hf rest hr _ (by simp only [fuelFor, sizeL_append]; omega)
/-- with a bound in the number of nodes of the tree -/
theorem tparse_size (d : Gen.D) (ch : Expr → Bool) (e : Expr) (hf : Frag d e = true) (rest : List Tok) (hr : stops d rest = true)
    (fuel : Nat) (hfuel : 120 * sz e + 15 ≤ fuel) : pOr d fuel (toksE d ch e ++ rest) = .ok (e, rest) :=
  tparse d ch e hf rest hr fuel (by have := sizeL_toksE_le d ch (sz e) e (Nat.le_refl _); omega)

/-- the compute level (C02's central clause, for whole trees): a tree of level `≤ 8` is returned by `_parse_compute_expression` in
front of anything that is no compute operator and does not continue an element -/
theorem tparse_compute (d : Gen.D) (ch : Expr → Bool) (e : Expr) (hf : Frag d e = true) (hl : PR.lvl e ≤ 8) (rest : List Tok)
    (hr : stopLE d 8 rest = true) (fuel : Nat) (hfuel : 20 * sizeL (toksE d ch e) + 2 ≤ fuel) :
    pCompute d fuel (toksE d ch e ++ rest) = .ok (e, rest) := (rt d ch e hf).own.s8 hl rest hr fuel hfuel
theorem tparse_unary (d : Gen.D) (ch : Expr → Bool) (e : Expr) (hf : Frag d e = true) (hl : PR.lvl e ≤ 2) (rest : List Tok)
    (hr : stopLE d 2 rest = true) (fuel : Nat) (hfuel : 20 * sizeL (toksE d ch e) ≤ fuel) :
    pUnary d fuel (toksE d ch e ++ rest) = .ok (e, rest) := (rt d ch e hf).own.s2 hl rest hr fuel (by omega)
theorem tparse_keyword (d : Gen.D) (ch : Expr → Bool) (e : Expr) (hf : Frag d e = true) (hl : PR.lvl e ≤ 9) (rest : List Tok)
    (hr : stopLE d 9 rest = true) (fuel : Nat) (hfuel : 20 * sizeL (toksE d ch e) + 6 ≤ fuel) :
    pKeyword d fuel none (toksE d ch e ++ rest) = .ok (e, rest) := (rt d ch e hf).own.s9 hl rest hr fuel hfuel
theorem tparse_compare (d : Gen.D) (ch : Expr → Bool) (e : Expr) (hf : Frag d e = true) (hl : PR.lvl e ≤ 10) (rest : List Tok)
    (hr : stopLE d 10 rest = true) (fuel : Nat) (hfuel : 20 * sizeL (toksE d ch e) + 8 ≤ fuel) :
    pCompare d fuel (toksE d ch e ++ rest) = .ok (e, rest) := (rt d ch e hf).own.s10 hl rest hr fuel hfuel
theorem tparse_not (d : Gen.D) (ch : Expr → Bool) (e : Expr) (hf : Frag d e = true) (hl : PR.lvl e ≤ 11) (rest : List Tok)
    (hr : stopLE d 11 rest = true) (fuel : Nat) (hfuel : 20 * sizeL (toksE d ch e) + 9 ≤ fuel) :
    pNot d fuel (toksE d ch e ++ rest) = .ok (e, rest) := (rt d ch e hf).own.s11 hl rest hr fuel hfuel
theorem tparse_and (d : Gen.D) (ch : Expr → Bool) (e : Expr) (hf : Frag d e = true) (hl : PR.lvl e ≤ 12) (rest : List Tok)
    (hr : stopLE d 12 rest = true) (fuel : Nat) (hfuel : 20 * sizeL (toksE d ch e) + 11 ≤ fuel) :
    pAnd d fuel (toksE d ch e ++ rest) = .ok (e, rest) := (rt d ch e hf).own.s12 hl rest hr fuel hfuel
theorem tparse_xor (d : Gen.D) (ch : Expr → Bool) (e : Expr) (hf : Frag d e = true) (hl : PR.lvl e ≤ 13) (rest : List Tok)
    (hr : stopLE d 13 rest = true) (fuel : Nat) (hfuel : 20 * sizeL (toksE d ch e) + 13 ≤ fuel) :
    pXor d fuel (toksE d ch e ++ rest) = .ok (e, rest) := (rt d ch e hf).own.s13 hl rest hr fuel hfuel

/-- **redundant brackets do not change the tree**: whatever sub-terms are wrapped redundantly (`ch`), the parse is the parse of the
printer's rendering; and a bracket around the whole expression changes nothing either -/
theorem redundant_brackets (d : Gen.D) (ch : Expr → Bool) (e : Expr) (hf : Frag d e = true) (rest : List Tok) (hr : stops d rest = true)
    (fuel : Nat) (h1 : 20 * sizeL (toksE d ch e) + 35 ≤ fuel) :
    pOr d fuel (toksE d ch e ++ rest) = pOr d fuel (toksE d noX e ++ rest) ∧
    pOr d fuel (grp (toksE d ch e) :: rest) = pOr d fuel (toksE d noX e ++ rest) := by
  have hle : sizeL (toksE d noX e) ≤ sizeL (toksE d ch e) := sizeL_toksE_noX_le d ch (sz e) e (Nat.le_refl _)
  have a := tparse d ch e hf rest hr fuel (by omega)
  have b := tparse d noX e hf rest hr fuel (by omega)
  have c : pOr d fuel ([grp (toksE d ch e)] ++ rest) = .ok (e, rest) :=
    (rt d ch e hf).wrapped.s14 rest hr fuel (by simp only [sizeL, size_grp]; omega)
  exact ⟨by rw [a, b], by rw [b]; exact c⟩

/-- **grouping brackets are honoured**: the rendering determines the tree — two trees of the fragment with the same token rendering
(under any choices of redundant brackets) are equal, so brackets that change the grouping change the tree -/
theorem grouping_brackets_honoured (d : Gen.D) (ch ch' : Expr → Bool) (e e' : Expr) (hf : Frag d e = true) (hf' : Frag d e' = true)
    (h : toksE d ch e = toksE d ch' e') : e = e' :=
  C01.eq_of_read_back (tparse d ch e hf [] rfl) (tparse d ch' e' hf' [] rfl) (by rw [h])
end C02

namespace C01
/-- **print / parse round trip of expressions, token level**: parsing the printer's rendering gives the tree back, nothing left -/
theorem expr_round_trip_tokens (d : Gen.D) (e : Expr) (hf : Frag d e = true) (fuel : Nat) (hfuel : 20 * sizeL (toksE d noX e) + 15 ≤ fuel) :
    pOr d fuel (toksE d noX e) = .ok (e, []) := by
  have := C02.tparse d noX e hf [] rfl fuel hfuel
  simpa using this
end C01

/-! ### non-vacuity (compiled evaluation: `String` operations are slow in the kernel) -/
namespace C02
def lexed (s : String) : List Tok := match Lex.lex Gen.cfgS s.toList with | .ok ts => ts | .error _ => []
def col (c : String) : Expr := .column none c
def lit (v : String) : Expr := .literal v
/-- the token-level printer agrees with the lexer on the printer's text -/
def agrees (d : Gen.D) (e : Expr) : Bool :=
  match PR.prE d e with
  | .ok s => eqbL (lexed s) (toksE d noX e) && Frag d e
  | .error _ => false
/-- the theorem's conclusion, evaluated (the hypotheses are `Frag` and the fuel) -/
def roundTrips (d : Gen.D) (e : Expr) : Bool :=
  match pOr d (20 * sizeL (toksE d noX e) + 15) (toksE d noX e) with
  | .ok (e', []) => Drv.showVal e'.toVal == Drv.showVal e.toVal
  | _ => false

def e1 : Expr := .compute (.compute (col "a") "PLUS" (col "b")) "MULTIPLE" (.unary "SUBTRACT" (lit "2"))          -- (a + b) * -2
def e2 : Expr := .compute (col "a") "PLUS" (.compute (col "b") "MULTIPLE" (lit "2"))                                -- a + b * 2
def e3 : Expr := .compute (col "a") "SUBTRACT" (.compute (col "b") "SUBTRACT" (col "c"))                            -- a - (b - c)
def e4 : Expr := .or_ (.and_ (.not_ (.compare "EQ" (col "a") (lit "1"))) (.kw .is true (col "b") (lit "NULL")))
    (.xor (.between false (col "c") (lit "1") (.compute (lit "2") "BITWISE_OR" (lit "3"))) (.kw .like true (col "d") (lit "'x%'")))
def e5 : Expr := .and_ (.or_ (col "a") (col "b")) (.not_ (.not_ (.kw .rlike false (.kw .is false (col "c") (lit "TRUE")) (lit "'r'"))))
def e6 : Expr := .compare "NEQ" (.compare "LT" (col "a") (col "b")) (.compare "SAME_EQUAL" (col "c") (col "d"))     -- a < b != (c <=> d)
def e7 : Expr := .compute (.compute (.compute (col "a") "SHIFT_LEFT" (lit "1")) "BITWISE_AND" (.compute (col "b") "BITWISE_XOR" (col "c")))
    "BITWISE_OR" (.compute (.compute (col "d") "DIVIDE" (col "e")) "MOD" (.unary "BITWISE_INVERSION" (.unary "PLUS" (col "f"))))

#guard [e1, e2, e3, e4, e5, e6, e7].all (agrees .MYSQL) && [e1, e2, e3, e4, e5, e6, e7].all (agrees .HIVE)
#guard [e1, e2, e3, e4, e5, e6].all (agrees .ORACLE) && [e1, e2, e3, e4, e5, e6].all (agrees .DEFAULT)
#guard [e1, e2, e3, e4, e5, e6, e7].all (roundTrips .MYSQL) && [e1, e2, e3, e4, e5, e6, e7].all (roundTrips .HIVE)
-- MOD is printed only for some dialects, and `!` is unary everywhere except Hive: outside the fragment there
#guard !Frag .ORACLE e7 && Frag .MYSQL (.unary "LOGICAL_INVERSION" (col "a")) && !Frag .HIVE (.unary "LOGICAL_INVERSION" (col "a"))
-- grouping brackets are honoured: different trees, different renderings, each read back as itself
#guard !eqbL (toksE .MYSQL noX e1) (toksE .MYSQL noX (.compute (col "a") "PLUS" (.compute (col "b") "MULTIPLE" (.unary "SUBTRACT" (lit "2")))))
#guard (match PR.prE .MYSQL e1, PR.prE .MYSQL e3 with | .ok a, .ok b => a == "(`a` + `b`) * -2" && b == "`a` - (`b` - `c`)" | _, _ => false)
-- redundant brackets: around every sub-term at once
#guard (match pOr .MYSQL 2000 (toksE .MYSQL (fun _ => true) e4) with | .ok (e', []) => Drv.showVal e'.toVal == Drv.showVal e4.toVal | _ => false)
#guard sizeL (toksE .MYSQL (fun _ => true) e4) > sizeL (toksE .MYSQL noX e4)
-- plain names are atoms; the continuation may be any word that is no operator of the expression grammar
#guard colOK .MYSQL "a" && colOK .HIVE "select" && colOK .DB2 "_x9" && litOK .MYSQL "12" && litOK .MYSQL "'it''s'" && litOK .HIVE "NULL"
#guard stops .MYSQL (lexed "FROM t") && stops .MYSQL (lexed ", b") && stops .MYSQL (lexed "AS x") && !stops .MYSQL (lexed "+ 1") &&
  !stops .MYSQL (lexed "NOT LIKE 'a'") && !stops .MYSQL (lexed "(1)")

/-- instances of the theorems (no evaluation of the parser: the hypotheses are decided, the conclusion is the theorem's) -/
example : pOr .MYSQL (fuelFor (toksE .MYSQL noX e2 ++ lexed "FROM t")) (toksE .MYSQL noX e2 ++ lexed "FROM t") = .ok (e2, lexed "FROM t") :=
  tparse_entry_fuel .MYSQL noX e2 (by decide) _ (by decide)
example : pOr .HIVE 400 (toksE .HIVE noX e1) = .ok (e1, []) := C01.expr_round_trip_tokens .HIVE e1 (by decide) 400 (by decide)
end C02
