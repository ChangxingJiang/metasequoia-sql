import MsqProofs.Lemmas.PrintLemmas
/-!
# C13 (printer half) — refusals propagate from any depth; the dialect matters only at the listed constructs

Theorems about the printer model `PR.prE / prS / prQ / prStmt` (`MsqModel/Print.lean`, tied to `node.py` by the C01/C13
correspondence), for ALL typed trees, by structural induction (no depth bound).

The printer tests its dialect argument at exactly these places (`grep 'd ==\|d !=' MsqModel/Print.lean`):

| construct family                         | where                         | dialects that print it (`….ok`)         |
|------------------------------------------|-------------------------------|------------------------------------------|
| `%` operator (member `MOD`)              | `computeOpSrc` (node.py:296)  | DEFAULT, MYSQL, SQL_SERVER, HIVE         |
| array index `a[i]`                       | `prE … .index` (node.py:709)  | HIVE                                     |
| SORT BY / DISTRIBUTE BY / CLUSTER BY     | `prS` guard 1                 | HIVE                                     |
| LATERAL VIEW                             | `prS` guard 2                 | HIVE, DEFAULT                            |
| INSERT OVERWRITE                         | `prInsertHead`                | HIVE, DEFAULT                            |
| ANALYZE TABLE                            | `prStmt … .analyze`           | HIVE, MYSQL (two different texts)        |
| CREATE TABLE                             | `prStmt … .createTable`       | MYSQL, HIVE (two different texts; others: parse error) |
| column text containing `CURRENT_DATE/TIME/TIMESTAMP` | `columnSrc`       | all; DB2 respells it with a blank        |
| `INSERT INTO` vs `INSERT INTO TABLE`     | `prInsertHead`                | all; HIVE adds `TABLE`                   |
| column definitions (CREATE / ALTER)      | `prDefCol`, `prColType`       | all; MYSQL-only attributes, HIVE drops type parameters |

* `refusal_propagates…` — a construct at ANY position and depth, printed for a dialect outside its set: an error, never text.
* `printed_ok_means_supported…` — contrapositive.
* `dialects_agree…` / `dialect_irrelevant_otherwise…` — two dialects print a tree identically unless it contains a
  construct of the table on which the two dialects differ; a tree with none of them prints identically everywhere;
  `same_class_same_text`: on query trees the printer distinguishes only five classes of dialects.
* `refusal_is_notSupported…` / `refusal_in_family` — on well-formed trees the refusal is exactly the not-supported error
  (statements: an error of the library's parse-error family).
* `printable_iff` / `printable_stmt` / `C01.print_total_on_default…` — exactly which trees each dialect prints.

Not covered (visible as hypotheses `stmtIll`, `stmtDep`, and in `PR.anyStmt`'s doc): the expressions inside column
definitions of CREATE / ALTER TABLE and the PARTITION of ANALYZE TABLE — dialects skip them on purpose (C18's subject).
-/
namespace C13
open Ast PR

/-! ## the construct families and their supported sets (the tests the printer itself makes) -/

/-- `computeOpSrc` (`Print.lean`, `node.py:296-302`) -/
def modOk (d : Gen.D) : Bool := d == .DEFAULT || d == .MYSQL || d == .SQL_SERVER || d == .HIVE
/-- `prE … (.index a i)` (`node.py:709-713`) -/
def indexOk (d : Gen.D) : Bool := d == .HIVE
/-- first guard of `prS` -/
def hiveClausesOk (d : Gen.D) : Bool := d == .HIVE
/-- second guard of `prS` -/
def lateralOk (d : Gen.D) : Bool := d == .HIVE || d == .DEFAULT
/-- guard of `prInsertHead` -/
def insertOverwriteOk (d : Gen.D) : Bool := d == .HIVE || d == .DEFAULT
/-- `prStmt … (.analyze …)` (`node.py:1715-1726`) -/
def analyzeOk (d : Gen.D) : Bool := d == .HIVE || d == .MYSQL
/-- `prStmt … (.createTable …)` (`node.py:1600-1606`): the other dialects get the library's parse error -/
def createTableOk (d : Gen.D) : Bool := d == .MYSQL || d == .HIVE

def isMod : Expr → Bool
  | .unary o _ => o == "MOD"
  | .compute _ o _ => o == "MOD"
  | _ => false
def isIndex : Expr → Bool
  | .index _ _ => true
  | _ => false
def hasHiveClauses : Select → Bool
  | .mk _ _ _ _ _ _ _ _ _ _ sb db cb _ => sb.isSome || db.isSome || cb.isSome
def hasLateral : Select → Bool
  | .mk _ _ _ _ lats _ _ _ _ _ _ _ _ _ => !lats.isEmpty
/-- a column reference whose text DB2's `CURRENT_DATE → CURRENT DATE` (… TIME, TIMESTAMP) replacement changes -/
def db2Respelled : Expr → Bool
  | .column t c => columnSrc .DB2 t c != columnSrc .DEFAULT t c
  | _ => false

/-- the four construct families that can sit at any depth of a query tree -/
inductive Construct | mod | index | hiveClauses | lateralView
  deriving DecidableEq, Repr

def Construct.all : List Construct := [.mod, .index, .hiveClauses, .lateralView]

def Construct.loc : Construct → Loc
  | .mod => { e := isMod }
  | .index => { e := isIndex }
  | .hiveClauses => { s := hasHiveClauses }
  | .lateralView => { s := hasLateral }

def Construct.ok : Construct → Gen.D → Bool
  | .mod => modOk | .index => indexOk | .hiveClauses => hiveClausesOk | .lateralView => lateralOk

/-- the construct occurs somewhere in the expression / SELECT / query / statement (any position, any depth) -/
def usesE (c : Construct) : Expr → Bool := anyE c.loc
def usesS (c : Construct) : Select → Bool := anyS c.loc
def usesQ (c : Construct) : Query → Bool := anyQ c.loc
def uses (c : Construct) : Stmt → Bool := anyStmt c.loc

abbrev usesMod := uses .mod
abbrev usesIndex := uses .index
abbrev usesHiveClauses := uses .hiveClauses
abbrev usesLateralView := uses .lateralView

/-- statement-level families -/
def usesInsertOverwrite : Stmt → Bool
  | .insertValues h _ => h.type == "INSERT_OVERWRITE"
  | .insertSelect h _ => h.type == "INSERT_OVERWRITE"
  | _ => false
def usesAnalyze : Stmt → Bool
  | .analyze _ _ _ _ _ => true
  | _ => false
def usesCreateTable : Stmt → Bool
  | .createTable _ => true
  | _ => false

/-- some construct of the table occurs in the statement and `d` is outside its set -/
def unsupported (d : Gen.D) (st : Stmt) : Bool :=
  (Construct.all.any fun c => !c.ok d && uses c st)
    || (!insertOverwriteOk d && usesInsertOverwrite st) || (!analyzeOk d && usesAnalyze st) || (!createTableOk d && usesCreateTable st)

/-! ## 1. refusals propagate -/

theorem Construct.refused (c : Construct) (d : Gen.D) (h : c.ok d = false) : c.loc.Refused d := by
  cases c
  · refine ⟨?_, by simp [Construct.loc], by simp [Construct.loc], by simp [Construct.loc], by simp [Construct.loc]⟩
    intro x hx s hs
    have hd : (d == .DEFAULT || d == .MYSQL || d == .SQL_SERVER || d == .HIVE) = false := h
    cases x <;> simp only [Construct.loc, isMod, Bool.false_eq_true, beq_iff_eq] at hx
    all_goals (subst hx; simp [prE, computeOpSrc, hd, bind_eq_ok] at hs)
  · refine ⟨?_, by simp [Construct.loc], by simp [Construct.loc], by simp [Construct.loc], by simp [Construct.loc]⟩
    intro x hx s hs
    have hd : ¬ d = .HIVE := by simpa [Construct.ok, indexOk] using h
    cases x <;> simp only [Construct.loc, isIndex, Bool.false_eq_true] at hx
    simp [prE, hd] at hs
  · refine ⟨by simp [Construct.loc], ?_, by simp [Construct.loc], by simp [Construct.loc], by simp [Construct.loc]⟩
    intro x hx s hs
    have hd : ¬ d = .HIVE := by simpa [Construct.ok, hiveClausesOk] using h
    obtain ⟨ws, dist, cols, fr, lats, js, wh, gb, hv, ob, sb, db, cb, lm⟩ := x
    rw [prS_eq] at hs
    obtain ⟨w, -, hs⟩ := (bind_eq_ok _ _ _).1 hs
    obtain ⟨_, hg, -⟩ := (bind_eq_ok _ _ _).1 hs
    have hx' : (sb.isSome || db.isSome || cb.isSome) = true := hx
    simp [prSGuard, hd, hx'] at hg
  · refine ⟨by simp [Construct.loc], ?_, by simp [Construct.loc], by simp [Construct.loc], by simp [Construct.loc]⟩
    intro x hx s hs
    have hd : (d == .HIVE || d == .DEFAULT) = false := h
    obtain ⟨ws, dist, cols, fr, lats, js, wh, gb, hv, ob, sb, db, cb, lm⟩ := x
    rw [prS_eq] at hs
    obtain ⟨w, -, hs⟩ := (bind_eq_ok _ _ _).1 hs
    obtain ⟨_, hg, -⟩ := (bind_eq_ok _ _ _).1 hs
    have hx' : (!lats.isEmpty) = true := hx
    unfold prSGuard at hg
    rw [hd, hx'] at hg
    split at hg <;> simp at hg

/-- **C13.refusal_propagates**, expressions: a construct of family `c` anywhere inside `e` (function argument, CASE arm,
sub-query, window clause, printer-inserted parenthesis … any depth) and a dialect outside `c`'s set: printing fails. -/
theorem refusal_propagates_expr (c : Construct) (d : Gen.D) (e : Expr) (hu : usesE c e = true) (hd : c.ok d = false) :
    ∃ err, prE d e = .error err :=
  (not_ok_iff_error _).1 (bad_E (c.refused d hd) e hu)

theorem refusal_propagates_select (c : Construct) (d : Gen.D) (x : Select) (hu : usesS c x = true) (hd : c.ok d = false) :
    ∃ err, prS d x = .error err :=
  (not_ok_iff_error _).1 (bad_S (c.refused d hd) x hu)

theorem refusal_propagates_query (c : Construct) (d : Gen.D) (q : Query) (hu : usesQ c q = true) (hd : c.ok d = false) :
    ∃ err, prQ d q = .error err :=
  (not_ok_iff_error _).1 (bad_Q (c.refused d hd) q hu)

/-- statements: SELECT, INSERT (rows, PARTITION, WITH, source query), UPDATE (WITH, SET values, WHERE, ORDER BY), DELETE,
CREATE TABLE AS, ALTER … PARTITION, SHOW COLUMNS — every child every dialect prints (see `PR.anyStmt`) -/
theorem refusal_propagates_family (c : Construct) (d : Gen.D) (st : Stmt) (hu : uses c st = true) (hd : c.ok d = false) :
    ∃ err, prStmt d st = .error err :=
  (not_ok_iff_error _).1 (bad_Stmt (c.refused d hd) st hu)

theorem insertOverwrite_refused (d : Gen.D) (st : Stmt) (hu : usesInsertOverwrite st = true) (hd : insertOverwriteOk d = false) :
    ∀ s, prStmt d st ≠ .ok s := by
  have hd' : (d == .HIVE || d == .DEFAULT) = false := hd
  have key : ∀ h : InsertHead, h.type = "INSERT_OVERWRITE" → ∀ s, prInsertHead d h ≠ .ok s := by
    intro h ht s hs
    rw [prInsertHead_eq] at hs
    obtain ⟨_, hg, -⟩ := (bind_eq_ok _ _ _).1 hs
    simp [headGuard, ht, hd'] at hg
  intro s hs
  cases st <;> simp only [usesInsertOverwrite, Bool.false_eq_true, beq_iff_eq] at hu
  · simp only [prStmt, bind_eq_ok] at hs
    obtain ⟨_, -, x, hx, -⟩ := hs
    exact key _ hu x hx
  · simp only [prStmt, bind_eq_ok] at hs
    obtain ⟨x, hx, -⟩ := hs
    exact key _ hu x hx

theorem analyze_refused (d : Gen.D) (st : Stmt) (hu : usesAnalyze st = true) (hd : analyzeOk d = false) :
    prStmt d st = .error .notSupported := by
  cases st <;> simp only [usesAnalyze, Bool.false_eq_true] at hu
  simp only [analyzeOk, Bool.or_eq_false_iff] at hd
  simp only [prStmt, hd.1, hd.2, Bool.false_eq_true, if_false]

theorem createTable_refused (d : Gen.D) (st : Stmt) (hu : usesCreateTable st = true) (hd : createTableOk d = false) :
    prStmt d st = .error .parse := by
  cases st <;> simp only [usesCreateTable, Bool.false_eq_true] at hu
  simp only [createTableOk, Bool.or_eq_false_iff] at hd
  simp only [prStmt, hd.1, hd.2, Bool.false_eq_true, if_false]

/-- **C13.refusal_propagates**: if any construct of the table occurs anywhere in the statement and the dialect is outside
the construct's supported set, printing returns an error — never text. -/
theorem refusal_propagates (d : Gen.D) (st : Stmt) (h : unsupported d st = true) : ∃ err, prStmt d st = .error err := by
  simp only [unsupported, Bool.or_eq_true, Bool.and_eq_true, Bool.not_eq_true', List.any_eq_true, or_assoc] at h
  rcases h with ⟨c, -, hd, hu⟩ | ⟨hd, hu⟩ | ⟨hd, hu⟩ | ⟨hd, hu⟩
  · exact refusal_propagates_family c d st hu hd
  · exact (not_ok_iff_error _).1 (insertOverwrite_refused d st hu hd)
  · exact ⟨_, analyze_refused d st hu hd⟩
  · exact ⟨_, createTable_refused d st hu hd⟩

/-! ## 2. contrapositive: printed text means every construct in the tree is supported by the dialect -/

/-- **C13.printed_ok_means_supported** -/
theorem printed_ok_means_supported (d : Gen.D) (st : Stmt) (s : String) (h : prStmt d st = .ok s) : unsupported d st = false := by
  cases hu : unsupported d st with
  | false => rfl
  | true => obtain ⟨e, he⟩ := refusal_propagates d st hu; rw [he] at h; cases h

theorem ok_of_not_error {ε α : Type} {x : Except ε α} {s : α} {b : Bool} (h : x = .ok s) (hn : b = false → ∃ e, x = .error e) :
    b = true := by
  cases hb : b with
  | true => rfl
  | false => obtain ⟨e, he⟩ := hn hb; rw [he] at h; cases h

theorem printed_ok_means_supported_family (c : Construct) (d : Gen.D) (st : Stmt) (s : String) (h : prStmt d st = .ok s)
    (hu : uses c st = true) : c.ok d = true :=
  ok_of_not_error h (refusal_propagates_family c d st hu)

theorem printed_ok_means_supported_expr (c : Construct) (d : Gen.D) (e : Expr) (s : String) (h : prE d e = .ok s)
    (hu : usesE c e = true) : c.ok d = true :=
  ok_of_not_error h (refusal_propagates_expr c d e hu)

theorem printed_ok_means_supported_query (c : Construct) (d : Gen.D) (q : Query) (s : String) (h : prQ d q = .ok s)
    (hu : usesQ c q = true) : c.ok d = true :=
  ok_of_not_error h (refusal_propagates_query c d q hu)

/-! ## 3. the dialect matters only at the listed constructs -/

theorem columnSrc_cases (d : Gen.D) (t : Option String) (c : String) :
    columnSrc d t c = if d == .DB2 then columnSrc .DB2 t c else columnSrc .DEFAULT t c := by
  cases d <;> rfl

theorem computeOpSrc_congr (d d' : Gen.D) (o : String) (h : (o == "MOD") = false ∨ modOk d = modOk d') :
    computeOpSrc d o = computeOpSrc d' o := by
  unfold computeOpSrc
  rcases h with h | h
  · simp only [h, Bool.false_and, Bool.false_eq_true, if_false]
  · have h' : (d == .DEFAULT || d == .MYSQL || d == .SQL_SERVER || d == .HIVE) = (d' == .DEFAULT || d' == .MYSQL || d' == .SQL_SERVER || d' == .HIVE) := h
    simp only [h']

/-- the nodes at which the printers for `d` and `d'` can take different branches: a construct of the table whose
test the two dialects answer differently -/
def depLoc (d d' : Gen.D) : Loc where
  e := fun x => (isMod x && (modOk d != modOk d')) || (isIndex x && (indexOk d != indexOk d'))
    || (db2Respelled x && ((d == .DB2) != (d' == .DB2)))
  s := fun x => (hasHiveClauses x && (hiveClausesOk d != hiveClausesOk d')) || (hasLateral x && (lateralOk d != lateralOk d'))

/-- every dialect-dependent construct of a query tree, whatever the two dialects -/
def depAll : Loc where
  e := fun x => isMod x || isIndex x || db2Respelled x
  s := fun x => hasHiveClauses x || hasLateral x

theorem depLoc_covers (d d' : Gen.D) : (depLoc d d').Covers d d' where
  col := by
    intro t c h
    simp only [depLoc, isMod, isIndex, db2Respelled, Bool.false_and, Bool.false_or, Bool.and_eq_false_iff, bne_eq_false_iff_eq] at h
    rw [columnSrc_cases d, columnSrc_cases d']
    rcases h with h | h
    · simp only [h, ite_self]
    · simp only [h]
  un := by
    intro o e h
    simp only [depLoc, isMod, isIndex, db2Respelled, Bool.false_and, Bool.or_false, Bool.and_eq_false_iff, bne_eq_false_iff_eq] at h
    exact computeOpSrc_congr d d' o h
  bin := by
    intro l o r h
    simp only [depLoc, isMod, isIndex, db2Respelled, Bool.false_and, Bool.or_false, Bool.and_eq_false_iff, bne_eq_false_iff_eq] at h
    exact computeOpSrc_congr d d' o h
  idx := by
    intro a i h
    simp only [depLoc, isMod, isIndex, db2Respelled, Bool.false_and, Bool.or_false, Bool.false_or, Bool.true_and, bne_eq_false_iff_eq, indexOk] at h
    simp only [bne, h]
  hive := by
    intro ws dist cols fr lats js wh gb hv ob sb db cb lm h
    simp only [depLoc, Bool.or_eq_false_iff, Bool.and_eq_false_iff, bne_eq_false_iff_eq, hasHiveClauses, hiveClausesOk] at h
    rcases h.1 with h | h
    · right; cases sb <;> cases db <;> cases cb <;> simp_all
    · left; exact h
  lat := by
    intro ws dist cols fr lats js wh gb hv ob sb db cb lm h
    simp only [depLoc, Bool.or_eq_false_iff, Bool.and_eq_false_iff, bne_eq_false_iff_eq, hasLateral, lateralOk] at h
    rcases h.2 with h | h
    · right; cases lats <;> simp_all
    · left; exact h

theorem depAll_covers (d d' : Gen.D) : depAll.Covers d d' :=
  (depLoc_covers d d').mono
    (fun x h => by
      simp only [depAll, Bool.or_eq_false_iff] at h
      simp only [depLoc, h.1.1, h.1.2, h.2, Bool.false_and, Bool.or_false])
    (fun x h => by
      simp only [depAll, Bool.or_eq_false_iff] at h
      simp only [depLoc, h.1, h.2, Bool.false_and, Bool.or_false])

/-- **C13.dialects_agree**, expressions: `d` and `d'` print `e` identically (same text or same error) unless `e` contains,
at some depth, a `%` / array index / respelled column / Hive clause / LATERAL VIEW on whose test `d` and `d'` differ. -/
theorem dialects_agree_expr (d d' : Gen.D) (e : Expr) (h : anyE (depLoc d d') e = false) : prE d e = prE d' e :=
  eq_E (depLoc_covers d d') e h
theorem dialects_agree_select (d d' : Gen.D) (x : Select) (h : anyS (depLoc d d') x = false) : prS d x = prS d' x :=
  eq_S (depLoc_covers d d') x h
theorem dialects_agree_query (d d' : Gen.D) (q : Query) (h : anyQ (depLoc d d') q = false) : prQ d q = prQ d' q :=
  eq_Q (depLoc_covers d d') q h

/-- **C13.dialect_irrelevant_otherwise**, expressions / SELECTs / queries: a tree that contains none of `%`, array index,
respelled column, SORT/DISTRIBUTE/CLUSTER BY, LATERAL VIEW at any depth prints identically for ALL dialects. -/
theorem dialect_irrelevant_otherwise_expr (e : Expr) (h : anyE depAll e = false) (d d' : Gen.D) : prE d e = prE d' e :=
  eq_E (depAll_covers d d') e h
theorem dialect_irrelevant_otherwise_select (x : Select) (h : anyS depAll x = false) (d d' : Gen.D) : prS d x = prS d' x :=
  eq_S (depAll_covers d d') x h
theorem dialect_irrelevant_otherwise_query (q : Query) (h : anyQ depAll q = false) (d d' : Gen.D) : prQ d q = prQ d' q :=
  eq_Q (depAll_covers d d') q h

/-- two dialects that answer all of the printer's query-level tests alike -/
def sameClass (d d' : Gen.D) : Bool :=
  modOk d == modOk d' && indexOk d == indexOk d' && hiveClausesOk d == hiveClausesOk d' && lateralOk d == lateralOk d'
    && (d == .DB2) == (d' == .DB2)

theorem depLoc_empty (d d' : Gen.D) (h : sameClass d d' = true) : (depLoc d d').Empty := by
  simp only [sameClass, Bool.and_eq_true, beq_iff_eq] at h
  obtain ⟨⟨⟨⟨h1, h2⟩, h3⟩, h4⟩, h5⟩ := h
  refine ⟨fun x => ?_, fun x => ?_, fun _ => rfl, fun _ => rfl, fun _ => rfl⟩
  · simp [depLoc, h1, h2, h5]
  · simp [depLoc, h3, h4]

/-- **C13.same_class_same_text**: the printer distinguishes only five classes of dialects on query trees —
{MYSQL, SQL_SERVER}, {ORACLE, POSTGRE_SQL}, {DB2}, {HIVE}, {DEFAULT}: within a class EVERY query tree is printed
identically (same text or same error). -/
theorem same_class_same_text (d d' : Gen.D) (h : sameClass d d' = true) (q : Query) : prQ d q = prQ d' q :=
  dialects_agree_query d d' q (none_Q (depLoc_empty d d' h) q)

theorem mysql_sqlserver_agree (q : Query) : prQ .MYSQL q = prQ .SQL_SERVER q := same_class_same_text _ _ (by decide) q
theorem oracle_postgres_agree (q : Query) : prQ .ORACLE q = prQ .POSTGRE_SQL q := same_class_same_text _ _ (by decide) q
/-- the five classes are exactly the classes of `sameClass` -/
theorem sameClass_classes : (Gen.allD.map fun d => Gen.allD.filter (sameClass d)) =
    [[.MYSQL, .SQL_SERVER], [.HIVE], [.ORACLE, .POSTGRE_SQL], [.DB2], [.ORACLE, .POSTGRE_SQL], [.MYSQL, .SQL_SERVER], [.DEFAULT]] := by
  decide

/-! ### statements -/

/-- the explicit column list of an INSERT contains a name DB2 respells -/
def headColsRespelled (h : InsertHead) : Bool :=
  match h.columns with
  | some cs => cs.any fun tc => columnSrc .DB2 tc.1 tc.2 != columnSrc .DEFAULT tc.1 tc.2
  | none => false

/-- statement-level dialect tests of an INSERT head on which `d` and `d'` differ: Hive's `INSERT INTO TABLE`,
INSERT OVERWRITE, respelled column names -/
def headDep (d d' : Gen.D) (h : InsertHead) : Bool :=
  ((d == .HIVE) != (d' == .HIVE)) || (h.type == "INSERT_OVERWRITE" && (insertOverwriteOk d != insertOverwriteOk d'))
    || (headColsRespelled h && ((d == .DB2) != (d' == .DB2)))

def hasColumnDef : AlterOp → Bool
  | .add (.col _) => true
  | .modify (.col _) => true
  | .change _ (.col _) => true
  | _ => false

/-- statement-level constructs on which `d` and `d'` differ.  CREATE TABLE and ANALYZE TABLE have a MySQL text, a Hive
text and a refusal; an ALTER TABLE carrying a column definition is counted as dependent whenever `d ≠ d'` (column
definitions print MySQL-only attributes and Hive drops type parameters — that conversion is C18's subject). -/
def stmtDep (d d' : Gen.D) : Stmt → Bool
  | .insertValues h _ => headDep d d' h
  | .insertSelect h _ => headDep d d' h
  | .createTable _ => ((d == .MYSQL) != (d' == .MYSQL)) || ((d == .HIVE) != (d' == .HIVE))
  | .analyze _ _ _ _ _ => ((d == .MYSQL) != (d' == .MYSQL)) || ((d == .HIVE) != (d' == .HIVE))
  | .alter _ ops => ops.any hasColumnDef && d != d'
  | _ => false

theorem headGuard_congr (d d' : Gen.D) (ty : String)
    (h : (ty == "INSERT_OVERWRITE") = false ∨ insertOverwriteOk d = insertOverwriteOk d') : headGuard d ty = headGuard d' ty := by
  unfold headGuard
  rcases h with h | h
  · simp only [h, Bool.false_and, Bool.false_eq_true, if_false]
  · have h' : (d == .HIVE || d == .DEFAULT) = (d' == .HIVE || d' == .DEFAULT) := h
    simp only [h']

theorem eq_Ps {d d' : Gen.D} {L : Loc} (hC : L.Covers d d') : ∀ es, anyEs L es = false → prPartList d es = prPartList d' es
  | [] => by intro _; simp [prPartList]
  | e :: r => by
    intro hb
    simp only [anyEs, Bool.or_eq_false_iff] at hb
    have i2 := eq_Ps hC r hb.2
    have i1 : prPartItem d e = prPartItem d' e := by
      cases e with
      | compare o l r =>
        have h := hb.1
        simp only [anyE, Bool.or_eq_false_iff] at h
        simp only [prPartItem, eq_E hC l h.1.2, eq_E hC r h.2]
      | _ => simp only [prPartItem, eq_E hC _ hb.1]
    simp only [prPartList, i1, i2]

theorem eq_OptPartition {d d' : Gen.D} {L : Loc} (hC : L.Covers d d') : ∀ p, anyOEs L p = false → prOptPartition d p = prOptPartition d' p
  | none => fun _ => rfl
  | some p => fun hb => by simp only [prOptPartition, prPartition, eq_Ps hC p (by simpa only [anyOEs] using hb)]

theorem eq_Head {d d' : Gen.D} {L : Loc} (hC : L.Covers d d') (h : InsertHead) (hd : headDep d d' h = false) (hb : anyHead L h = false) :
    prInsertHead d h = prInsertHead d' h := by
  simp only [headDep, Bool.or_eq_false_iff, Bool.and_eq_false_iff, bne_eq_false_iff_eq] at hd
  obtain ⟨⟨hh, hio⟩, hc⟩ := hd
  simp only [anyHead, Bool.or_eq_false_iff] at hb
  have hmap : ∀ cs, h.columns = some cs →
      (cs.map fun (tc : Option String × String) => columnSrc d tc.1 tc.2) = cs.map fun tc => columnSrc d' tc.1 tc.2 := by
    intro cs hcs
    apply List.map_congr_left
    intro tc htc
    rw [columnSrc_cases d, columnSrc_cases d']
    rcases hc with hc | hc
    · simp only [headColsRespelled, hcs, List.any_eq_false, bne_iff_ne, ne_eq, Decidable.not_not] at hc
      simp only [hc tc htc, ite_self]
    · simp only [hc]
  rw [prInsertHead_eq, prInsertHead_eq, headGuard_congr d d' h.type hio]
  simp only [prHeadRest, eq_OptPartition hC _ hb.1, eq_W hC "\n" _ hb.2, hh]
  cases hcs : h.columns with
  | none => rfl
  | some cs => simp only [hmap cs hcs]

theorem eq_Tail {d d' : Gen.D} {L : Loc} (hC : L.Covers d d') (wh : Option Expr) (ob : Option (List OrderItem)) (lm : Option (Int × Option Int))
    (hb : (anyOE L wh || anyOOs L ob) = false) : prTail d wh ob lm = prTail d' wh ob lm := by
  simp only [Bool.or_eq_false_iff] at hb
  have e1 : prOptWhereS d wh = prOptWhereS d' wh := by
    cases wh with
    | none => rfl
    | some e => simp only [prOptWhereS, eq_E hC e (by simpa only [anyOE] using hb.1)]
  have e2 : prOptOrderS d ob = prOptOrderS d' ob := by
    cases ob with
    | none => rfl
    | some l => simp only [prOptOrderS, eq_Os hC l (by simpa only [anyOOs] using hb.2)]
  rw [prTail_eq, prTail_eq, e1, e2]

theorem eq_AlterOp {d d' : Gen.D} {L : Loc} (hC : L.Covers d d') : ∀ o, hasColumnDef o = false → anyAlterOp L o = false →
    prAlterOp d o = prAlterOp d' o
  | .addPartition _ p, _, hb => by simp only [prAlterOp, prPartition, eq_Ps hC p hb]
  | .dropPartition _ p, _, hb => by simp only [prAlterOp, prPartition, eq_Ps hC p hb]
  | .renameColumn _ _, _, _ => rfl
  | .dropColumn _, _, _ => rfl
  | .add (.col _), hc, _ => by simp [hasColumnDef] at hc
  | .add (.idx _), _, _ => rfl
  | .add (.fk _), _, _ => rfl
  | .modify (.col _), hc, _ => by simp [hasColumnDef] at hc
  | .modify (.idx _), _, _ => rfl
  | .modify (.fk _), _, _ => rfl
  | .change _ (.col _), hc, _ => by simp [hasColumnDef] at hc
  | .change _ (.idx _), _, _ => rfl
  | .change _ (.fk _), _, _ => rfl

theorem eq_Stmt {d d' : Gen.D} {L : Loc} (hC : L.Covers d d') : ∀ st, stmtDep d d' st = false → anyStmt L st = false →
    prStmt d st = prStmt d' st
  | .select q, _, hb => eq_Q hC q hb
  | .insertValues h vs, hs, hb => by
    simp only [anyStmt, Bool.or_eq_false_iff, List.any_eq_false, Bool.not_eq_true] at hb
    have e1 : mapM' (fun r => (prList8 d r).map fun p => s!"({joinS ", " p})") vs
        = mapM' (fun r => (prList8 d' r).map fun p => s!"({joinS ", " p})") vs :=
      mapM'_congr _ _ vs (fun r hr => by simp only [eq_Es8 hC r (hb.1 r hr)])
    simp only [prStmt, e1, eq_Head hC h hs hb.2]
  | .insertSelect h q, hs, hb => by
    simp only [anyStmt, Bool.or_eq_false_iff] at hb
    simp only [prStmt, eq_Head hC h hs hb.1, eq_Q hC q hb.2]
  | .update ws t sets wh ob lm, _, hb => by
    simp only [anyStmt, Bool.or_eq_false_iff, List.any_eq_false, Bool.not_eq_true, and_assoc] at hb
    obtain ⟨h1, h2, h3, h4⟩ := hb
    have e1 : mapM' (fun (cv : String × Expr) => (prE d cv.2).map fun x => s!"`{cv.1}` = {x}") sets
        = mapM' (fun (cv : String × Expr) => (prE d' cv.2).map fun x => s!"`{cv.1}` = {x}") sets :=
      mapM'_congr _ _ sets (fun cv hcv => by simp only [eq_E hC cv.2 (h2 cv hcv)])
    simp only [prStmt, e1, eq_W hC "\n\n" ws h1, eq_Tail hC wh ob lm (by simp only [h3, h4, Bool.or_false])]
  | .delete t wh ob lm, _, hb => by
    simp only [prStmt, eq_Tail hC wh ob lm hb]
  | .createTable c, hs, _ => by
    simp only [stmtDep, Bool.or_eq_false_iff, bne_eq_false_iff_eq] at hs
    simp only [prStmt, hs.1, hs.2]
  | .createTableAs t ine q, _, hb => by simp only [prStmt, eq_Q hC q hb]
  | .dropTable _ _, _, _ => rfl
  | .set _, _, _ => rfl
  | .analyze t p fc cm ns, hs, _ => by
    simp only [stmtDep, Bool.or_eq_false_iff, bne_eq_false_iff_eq] at hs
    by_cases h : d = .HIVE
    · have h' : d' = .HIVE := by simpa [h] using hs.2
      rw [h, h']
    · have h' : (d == Gen.D.HIVE) = false := beq_false_of_ne h
      simp only [prStmt, ← hs.2, ← hs.1, h', Bool.false_eq_true, if_false]
  | .alter t ops, hs, hb => by
    simp only [stmtDep, Bool.and_eq_false_iff, List.any_eq_false, Bool.not_eq_true, bne_eq_false_iff_eq] at hs
    rcases hs with hs | rfl
    · simp only [anyStmt, List.any_eq_false, Bool.not_eq_true] at hb
      simp only [prStmt, mapM'_congr (prAlterOp d) (prAlterOp d') ops (fun o ho => eq_AlterOp hC o (hs o ho) (hb o ho))]
    · rfl
  | .msck _, _, _ => rfl
  | .use _, _, _ => rfl
  | .truncate _, _, _ => rfl
  | .showDatabases, _, _ => rfl
  | .showTables, _, _ => rfl
  | .showColumns fr none, _, hb => by
    simp only [anyStmt, Bool.or_eq_false_iff] at hb
    simp only [prStmt, eq_Fs hC fr hb.2]
  | .showColumns fr (some e), _, hb => by
    simp only [anyStmt, Bool.or_eq_false_iff, anyOE] at hb
    simp only [prStmt, eq_E hC e hb.1, eq_Fs hC fr hb.2]

/-- **C13.dialects_agree**: two dialects print a statement identically (same text or same error) unless it contains a
construct of the table on whose test they differ. -/
theorem dialects_agree (d d' : Gen.D) (st : Stmt) (hs : stmtDep d d' st = false) (hq : anyStmt (depLoc d d') st = false) :
    prStmt d st = prStmt d' st :=
  eq_Stmt (depLoc_covers d d') st hs hq

/-- statements whose text depends on the dialect at statement level for SOME pair of dialects: every INSERT (Hive writes
`INSERT INTO TABLE`), CREATE TABLE, ANALYZE TABLE, ALTER TABLE with a column definition -/
def stmtDepAny : Stmt → Bool
  | .insertValues _ _ => true
  | .insertSelect _ _ => true
  | .createTable _ => true
  | .analyze _ _ _ _ _ => true
  | .alter _ ops => ops.any hasColumnDef
  | _ => false

/-- **C13.dialect_irrelevant_otherwise**: a statement that is none of INSERT / CREATE TABLE / ANALYZE TABLE / ALTER with a
column definition, and whose query trees contain none of `%`, array index, respelled column, SORT/DISTRIBUTE/CLUSTER BY,
LATERAL VIEW at any depth, is printed identically (same text or same error) by ALL dialects. -/
theorem dialect_irrelevant_otherwise (st : Stmt) (hs : stmtDepAny st = false) (hq : anyStmt depAll st = false) (d d' : Gen.D) :
    prStmt d st = prStmt d' st := by
  refine eq_Stmt (depAll_covers d d') st ?_ hq
  cases st <;> simp_all [stmtDepAny, stmtDep]

/-- INSERT between two non-Hive dialects (the `TABLE` keyword is the only unconditional difference) -/
theorem insert_agree_outside_hive (d d' : Gen.D) (h : InsertHead) (q : Query) (hd : d ≠ .HIVE) (hd' : d' ≠ .HIVE)
    (ht : h.type ≠ "INSERT_OVERWRITE") (hc : headColsRespelled h = false)
    (hq : anyStmt depAll (.insertSelect h q) = false) : prStmt d (.insertSelect h q) = prStmt d' (.insertSelect h q) := by
  refine eq_Stmt (depAll_covers d d') _ ?_ hq
  have h1 : (d == .HIVE) = false := by simpa using hd
  have h2 : (d' == .HIVE) = false := by simpa using hd'
  have h3 : (h.type == "INSERT_OVERWRITE") = false := by simpa using ht
  simp [stmtDep, headDep, h1, h2, h3, hc]

/-! ## 4. which error, and exactly when text — query trees

The printer can also fail for reasons that have nothing to do with the dialect: a node built by hand (not by the parser)
may carry an enum member name outside the generated tables (`UNMODELLED`), `None` where `ASTSelectStatement.with_clause`
is dereferenced (`AttributeError`).  `illFormed` flags exactly those nodes.  (An empty grouping set was a third reason
until the repair 1fd5412 of `ASTGroupingSets.source`; it now prints `()` and is well-formed.) -/

def unknownName {β : Type} (tbl : List (String × β)) (n : String) : Bool := (tbl.find? (·.1 == n)).isNone

def illFormed : Loc where
  e := fun
    | .unary o _ => unknownName Gen.computeEnum o
    | .compute _ o _ => unknownName Gen.computeEnum o
    | .compare o _ _ => unknownName Gen.compareEnum o
    | .cast _ _ ty _ => unknownName Gen.castTypes ty
    | _ => false
  s := fun | .mk ws _ _ _ _ _ _ _ _ _ _ _ _ _ => ws.isNone
  j := fun | .mk ty _ _ => unknownName Gen.joinTypes ty
  q := fun
    | .single _ => false
    | .union ws _ us => ws.isNone || us.any fun p => unknownName Gen.unionTypes p.1

/-- the nodes dialect `d` refuses -/
def refusedLoc (d : Gen.D) : Loc where
  e := fun x => (isMod x && !modOk d) || (isIndex x && !indexOk d)
  s := fun x => (hasHiveClauses x && !hiveClausesOk d) || (hasLateral x && !lateralOk d)

/-- every node at which printing for `d` fails locally -/
def notPrintable (d : Gen.D) : Loc where
  e := fun x => illFormed.e x || (refusedLoc d).e x
  s := fun x => illFormed.s x || (refusedLoc d).s x
  j := illFormed.j
  q := illFormed.q

theorem find_of_known {β : Type} {tbl : List (String × β)} {n : String} (h : unknownName tbl n = false) :
    ∃ x, tbl.find? (·.1 == n) = some x := by
  simpa only [unknownName, Option.isNone_eq_false_iff, Option.isSome_iff_exists] using h

theorem computeOpSrc_ok (d : Gen.D) (o : String) (h : unknownName Gen.computeEnum o = false)
    (hm : (o == "MOD") = false ∨ modOk d = true) : ∃ s, computeOpSrc d o = .ok s := by
  obtain ⟨x, hx⟩ := find_of_known h
  have hc : ¬ (o == "MOD" && !modOk d) = true := by rcases hm with hm | hm <;> simp [hm]
  exact ⟨x.2.1, (if_neg hc).trans (by rw [hx])⟩

theorem wordsSrc_ok (tbl : List (String × List String)) (n : String) (h : unknownName tbl n = false) : ∃ s, wordsSrc tbl n = .ok s := by
  obtain ⟨x, hx⟩ := find_of_known h
  exact ⟨joinS " " x.2, by simp only [wordsSrc, hx]⟩
theorem valueSrc_ok (tbl : List (String × String)) (n : String) (h : unknownName tbl n = false) : ∃ s, valueSrc tbl n = .ok s := by
  obtain ⟨x, hx⟩ := find_of_known h
  exact ⟨x.2, by simp only [valueSrc, hx]⟩
theorem compareOpSrc_ok (n : String) (h : unknownName Gen.compareEnum n = false) : ∃ s, compareOpSrc n = .ok s := by
  obtain ⟨x, hx⟩ := find_of_known h
  exact ⟨joinS " " x.2, by simp only [compareOpSrc, hx]⟩

theorem okOr_of_ok {E : Err → Prop} {α : Type} {x : Except Err α} (h : ∃ s, x = .ok s) : OkOr E x := by
  obtain ⟨s, hs⟩ := h; rw [hs]; exact OkOr.ok _

theorem prSGuard_res (d : Gen.D) (lats : List Lateral) (sb : Option (List OrderItem)) (db cb : Option (List Expr)) :
    OkOr (· = .notSupported) (prSGuard d lats sb db cb) := by
  unfold prSGuard
  split
  · exact OkOr.error rfl
  · split
    · exact OkOr.error rfl
    · exact OkOr.ok _

theorem illFormed_qry {E : Err → Prop} (ws : Option (List WithTable)) (x : Select) (us : List (String × Select))
    (h : illFormed.q (.union ws x us) = false) : ws ≠ none ∧ ∀ p ∈ us, OkOr E (wordsSrc Gen.unionTypes p.1) := by
  simp only [illFormed, Bool.or_eq_false_iff, List.any_eq_false] at h
  refine ⟨by intro hn; rw [hn] at h; simp at h, fun p hp => okOr_of_ok ?_⟩
  have := h.2 p hp
  exact wordsSrc_ok Gen.unionTypes p.1 (by simpa using this)

theorem computeOpSrc_clean (d : Gen.D) (o : String) (h : unknownName Gen.computeEnum o = false) :
    OkOr (· = .notSupported) (computeOpSrc d o) := by
  obtain ⟨x, hx⟩ := find_of_known h
  unfold computeOpSrc
  split
  · exact OkOr.error rfl
  · rw [hx]; exact OkOr.ok _

/-- on a well-formed tree the only error the printer's local steps can produce is the not-supported error -/
theorem illFormed_clean (d : Gen.D) : illFormed.Clean d (· = .notSupported) where
  un := fun o _ h => computeOpSrc_clean d o h
  bin := fun _ o _ h => computeOpSrc_clean d o h
  cmp := fun o _ _ h => okOr_of_ok (compareOpSrc_ok o h)
  cast := fun _ _ ty _ h => okOr_of_ok (valueSrc_ok Gen.castTypes ty h)
  idx := fun _ _ _ => .inr rfl
  sel := fun ws _ _ _ lats _ _ _ _ _ sb db cb _ h =>
    ⟨by intro hn; rw [hn] at h; simp [illFormed] at h, prSGuard_res d lats sb db cb⟩
  join := fun ty _ _ h => okOr_of_ok (wordsSrc_ok Gen.joinTypes ty h)
  qry := illFormed_qry

/-- **C13.refusal_is_notSupported**: on a well-formed query tree, a construct of family `c` at any depth printed for a
dialect outside `c`'s set yields exactly the library's not-supported error (the sharp form of `refusal_propagates`). -/
theorem refusal_is_notSupported_query (c : Construct) (d : Gen.D) (q : Query) (hw : anyQ illFormed q = false)
    (hu : usesQ c q = true) (hd : c.ok d = false) : prQ d q = .error .notSupported := by
  obtain ⟨e, he⟩ := refusal_propagates_query c d q hu hd
  rw [he, res_Q (illFormed_clean d) q hw e he]

theorem refusal_is_notSupported_expr (c : Construct) (d : Gen.D) (e : Expr) (hw : anyE illFormed e = false)
    (hu : usesE c e = true) (hd : c.ok d = false) : prE d e = .error .notSupported := by
  obtain ⟨x, hx⟩ := refusal_propagates_expr c d e hu hd
  rw [hx, res_E (illFormed_clean d) e hw x hx]

/-- a well-formed query tree is printed or refused with the not-supported error; nothing else can happen -/
theorem wellFormed_text_or_notSupported (d : Gen.D) (q : Query) (hw : anyQ illFormed q = false) :
    (∃ s, prQ d q = .ok s) ∨ prQ d q = .error .notSupported := by
  cases h : prQ d q with
  | ok s => exact .inl ⟨s, rfl⟩
  | error e => right; rw [res_Q (illFormed_clean d) q hw e h]

theorem computeOpSrc_printable (d : Gen.D) (o : String)
    (h : (unknownName Gen.computeEnum o || ((o == "MOD" && !modOk d) || (false && !indexOk d))) = false) :
    OkOr (fun _ => False) (computeOpSrc d o) := by
  simp only [Bool.false_and, Bool.or_false, Bool.or_eq_false_iff, Bool.and_eq_false_iff, Bool.not_eq_false'] at h
  exact okOr_of_ok (computeOpSrc_ok d o h.1 h.2)

theorem notPrintable_clean (d : Gen.D) : (notPrintable d).Clean d (fun _ => False) where
  un := fun o _ h => computeOpSrc_printable d o h
  bin := fun _ o _ h => computeOpSrc_printable d o h
  cmp := fun o _ _ h => okOr_of_ok (compareOpSrc_ok o ((Bool.or_false _).symm.trans h))
  cast := fun _ _ ty _ h => okOr_of_ok (valueSrc_ok Gen.castTypes ty ((Bool.or_false _).symm.trans h))
  idx := by
    intro a i h
    simp only [notPrintable, refusedLoc, illFormed, isMod, isIndex, indexOk, Bool.false_and, Bool.false_or, Bool.true_and,
      Bool.not_eq_false', beq_iff_eq] at h
    exact .inl h
  sel := by
    intro ws dist cols fr lats js wh gb hv ob sb db cb lm h
    simp only [notPrintable, refusedLoc, illFormed, hasHiveClauses, hasLateral, hiveClausesOk, lateralOk, Bool.or_eq_false_iff,
      Bool.and_eq_false_iff, Bool.not_eq_false'] at h
    obtain ⟨hws, hh, hl⟩ := h
    refine ⟨by intro hn; rw [hn] at hws; simp at hws, ?_⟩
    have h1 : (d != .HIVE && (sb.isSome || db.isSome || cb.isSome)) = false := by
      rcases hh with ⟨⟨a, b⟩, c⟩ | hh
      · rw [a, b, c]; simp
      · simp [bne, hh]
    have h2 : (!(d == .HIVE || d == .DEFAULT) && !lats.isEmpty) = false := by
      rcases hl with hl | hl
      · rw [hl]; simp
      · rw [hl]; simp
    unfold prSGuard
    simp only [h1, h2, Bool.false_eq_true, if_false]
    exact OkOr.ok _
  join := fun ty _ _ h => okOr_of_ok (wordsSrc_ok Gen.joinTypes ty h)
  qry := illFormed_qry

theorem unknown_find {β : Type} (tbl : List (String × β)) (n : String) (h : unknownName tbl n = true) :
    tbl.find? (·.1 == n) = none := by
  simpa only [unknownName, Option.isNone_iff_eq_none] using h

theorem computeOpSrc_unknown (d : Gen.D) (o : String) (h : unknownName Gen.computeEnum o = true) : ∀ s, computeOpSrc d o ≠ .ok s := by
  intro s hs
  unfold computeOpSrc at hs
  split at hs
  · cases hs
  · rw [unknown_find _ _ h] at hs; cases hs
theorem wordsSrc_unknown {tbl : List (String × List String)} {n : String} (h : unknownName tbl n = true) : ∀ s, wordsSrc tbl n ≠ .ok s := by
  intro s hs; simp [wordsSrc, unknown_find _ _ h] at hs
theorem valueSrc_unknown {tbl : List (String × String)} {n : String} (h : unknownName tbl n = true) : ∀ s, valueSrc tbl n ≠ .ok s := by
  intro s hs; simp [valueSrc, unknown_find _ _ h] at hs
theorem compareOpSrc_unknown {n : String} (h : unknownName Gen.compareEnum n = true) : ∀ s, compareOpSrc n ≠ .ok s := by
  intro s hs; simp [compareOpSrc, unknown_find _ _ h] at hs

theorem notPrintable_refused (d : Gen.D) : (notPrintable d).Refused d where
  e := by
    intro x hx
    simp only [notPrintable, Bool.or_eq_true] at hx
    rcases hx with hx | hx
    · cases x <;> simp only [illFormed, Bool.false_eq_true] at hx <;> simp only [prE]
      · exact not_ok_then fun _ => not_ok_bind (valueSrc_unknown hx)
      · exact not_ok_bind (computeOpSrc_unknown d _ hx)
      · exact not_ok_then fun _ => not_ok_bind (computeOpSrc_unknown d _ hx)
      · exact not_ok_then fun _ => not_ok_bind (compareOpSrc_unknown hx)
    · simp only [refusedLoc, Bool.or_eq_true, Bool.and_eq_true, Bool.not_eq_true'] at hx
      rcases hx with ⟨hx, hd⟩ | ⟨hx, hd⟩
      · exact (Construct.refused .mod d hd).e x hx
      · exact (Construct.refused .index d hd).e x hx
  s := by
    intro x hx
    simp only [notPrintable, Bool.or_eq_true] at hx
    rcases hx with hx | hx
    · obtain ⟨ws, dist, cols, fr, lats, js, wh, gb, hv, ob, sb, db, cb, lm⟩ := x
      simp only [illFormed, Option.isNone_iff_eq_none] at hx
      subst hx
      rw [prS_eq]
      exact not_ok_bind nofun
    · simp only [refusedLoc, Bool.or_eq_true, Bool.and_eq_true, Bool.not_eq_true'] at hx
      rcases hx with ⟨hx, hd⟩ | ⟨hx, hd⟩
      · exact (Construct.refused .hiveClauses d hd).s x hx
      · exact (Construct.refused .lateralView d hd).s x hx
  j := by
    rintro ⟨ty, t, _ | ⟨c | u⟩⟩ hx <;> simp only [prJoin] <;> exact not_ok_bind (wordsSrc_unknown hx)
  g := by
    intro x hx; simp [notPrintable] at hx
  q := by
    intro x hx
    cases x with
    | single x => simp [notPrintable, illFormed] at hx
    | union ws x us =>
      simp only [notPrintable, illFormed, Bool.or_eq_true, Option.isNone_iff_eq_none, List.any_eq_true] at hx
      simp only [prQ]
      rcases hx with rfl | ⟨p, hp, hu⟩
      · exact not_ok_bind nofun
      · refine not_ok_then fun _ => not_ok_then fun _ => not_ok_bind ?_
        induction us with
        | nil => cases hp
        | cons u r ih =>
          simp only [prUnions]
          rcases List.mem_cons.1 hp with rfl | hp
          · exact not_ok_bind (wordsSrc_unknown hu)
          · exact not_ok_then fun _ => not_ok_then fun _ => not_ok_bind (ih hp)

/-- **C13.printable_iff**: the printer model produces text for a query tree under dialect `d` exactly when no node of the
tree (at any depth) is ill-formed or is a construct `d` refuses. -/
theorem printable_iff (d : Gen.D) (q : Query) : (∃ s, prQ d q = .ok s) ↔ anyQ (notPrintable d) q = false :=
  ⟨fun ⟨s, hs⟩ => Decidable.byContradiction fun hb => bad_Q (notPrintable_refused d) q (eq_true_of_ne_false hb) s hs,
    fun hb => OkOr.total (res_Q (notPrintable_clean d) q hb)⟩

theorem printable_iff_expr (d : Gen.D) (e : Expr) : (∃ s, prE d e = .ok s) ↔ anyE (notPrintable d) e = false :=
  ⟨fun ⟨s, hs⟩ => Decidable.byContradiction fun hb => bad_E (notPrintable_refused d) e (eq_true_of_ne_false hb) s hs,
    fun hb => OkOr.total (res_E (notPrintable_clean d) e hb)⟩

/-! ### statements: the refusal is in the library's parse-error family; exactly which statements are printed -/

/-- statement-level ill-formedness (missing WITH object, INSERT type outside the table) — and the DDL whose column
definitions / partition this theorem does not analyse (CREATE TABLE for MySQL / Hive, ANALYZE … PARTITION for Hive,
ALTER TABLE with a column definition): flagged, i.e. excluded -/
def stmtIll (d : Gen.D) : Stmt → Bool
  | .insertValues h _ => h.withs.isNone || unknownName Gen.insertTypes h.type
  | .insertSelect h _ => h.withs.isNone || unknownName Gen.insertTypes h.type
  | .update ws _ _ _ _ _ => ws.isNone
  | .createTable _ => d == .MYSQL || d == .HIVE
  | .analyze _ p _ _ _ => d == .HIVE && p.isSome
  | .alter _ ops => ops.any hasColumnDef
  | _ => false

/-- the statement-level refusals of dialect `d` -/
def stmtRefused (d : Gen.D) (st : Stmt) : Bool :=
  (!insertOverwriteOk d && usesInsertOverwrite st) || (!analyzeOk d && usesAnalyze st) || (!createTableOk d && usesCreateTable st)

theorem headGuard_res (d : Gen.D) (ty : String) : OkOr (· = .notSupported) (headGuard d ty) := by
  unfold headGuard
  split
  · exact OkOr.error rfl
  · exact OkOr.ok _

theorem alter_noColumnDef (ops : List AlterOp) (h : ops.any hasColumnDef = false) :
    ∀ o ∈ ops, ∀ c, o ≠ .add (.col c) ∧ o ≠ .modify (.col c) ∧ ∀ f, o ≠ .change f (.col c) := by
  intro o ho c
  have := (List.any_eq_false.1 h) o ho
  refine ⟨?_, ?_, ?_⟩
  · rintro rfl; simp [hasColumnDef] at this
  · rintro rfl; simp [hasColumnDef] at this
  · rintro f rfl; simp [hasColumnDef] at this

theorem inFamily_notSupported : ∀ e : Err, e = .notSupported → e.inFamily = true := by
  rintro _ rfl; rfl

theorem stmtClean_family (d : Gen.D) (st : Stmt) (h : stmtIll d st = false) : StmtClean d (fun e => e.inFamily = true) st := by
  cases st <;> simp only [StmtClean]
  case insertValues hd vs =>
    simp only [stmtIll, Bool.or_eq_false_iff] at h
    exact ⟨by intro hn; rw [hn] at h; simp at h, (headGuard_res d _).mono inFamily_notSupported, okOr_of_ok (wordsSrc_ok _ _ h.2)⟩
  case insertSelect hd q =>
    simp only [stmtIll, Bool.or_eq_false_iff] at h
    exact ⟨by intro hn; rw [hn] at h; simp at h, (headGuard_res d _).mono inFamily_notSupported, okOr_of_ok (wordsSrc_ok _ _ h.2)⟩
  case update ws t sets wh ob lm =>
    intro hn; rw [hn] at h; simp [stmtIll] at h
  case createTable c =>
    simp only [stmtIll, Bool.or_eq_false_iff] at h
    simp only [prStmt, h.1, h.2, Bool.false_eq_true, if_false]
    exact OkOr.error rfl
  case analyze t p fc cm ns =>
    cases d
    case HIVE =>
      cases p with
      | some p => simp [stmtIll] at h
      | none => exact OkOr.ok _
    case MYSQL => exact OkOr.ok _
    all_goals exact OkOr.error (e := Err.notSupported) rfl
  case alter t ops => exact alter_noColumnDef ops h

theorem stmtClean_total (d : Gen.D) (st : Stmt) (h : stmtIll d st = false) (hr : stmtRefused d st = false) :
    StmtClean d (fun _ => False) st := by
  simp only [stmtRefused, Bool.or_eq_false_iff, Bool.and_eq_false_iff, Bool.not_eq_false'] at hr
  obtain ⟨⟨hio, han⟩, hct⟩ := hr
  have hg : ∀ hd : InsertHead, (insertOverwriteOk d = true ∨ (hd.type == "INSERT_OVERWRITE") = false) → OkOr (fun _ => False) (headGuard d hd.type) := by
    intro hd hh
    have : (hd.type == "INSERT_OVERWRITE" && !(d == .HIVE || d == .DEFAULT)) = false := by
      rcases hh with hh | hh
      · have : (d == .HIVE || d == .DEFAULT) = true := hh
        rw [this]; simp
      · rw [hh]; simp
    unfold headGuard
    simp only [this, Bool.false_eq_true, if_false]
    exact OkOr.ok _
  cases st <;> simp only [StmtClean]
  case insertValues hd vs =>
    simp only [stmtIll, Bool.or_eq_false_iff] at h
    exact ⟨by intro hn; rw [hn] at h; simp at h, hg hd hio, okOr_of_ok (wordsSrc_ok _ _ h.2)⟩
  case insertSelect hd q =>
    simp only [stmtIll, Bool.or_eq_false_iff] at h
    exact ⟨by intro hn; rw [hn] at h; simp at h, hg hd hio, okOr_of_ok (wordsSrc_ok _ _ h.2)⟩
  case update ws t sets wh ob lm =>
    intro hn; rw [hn] at h; simp [stmtIll] at h
  case createTable c =>
    exfalso
    simp only [stmtIll] at h
    simp [createTableOk, usesCreateTable, h] at hct
  case analyze t p fc cm ns =>
    cases d
    case HIVE =>
      cases p with
      | some p => simp [stmtIll] at h
      | none => exact OkOr.ok _
    case MYSQL => exact OkOr.ok _
    all_goals (exfalso; simp [analyzeOk, usesAnalyze] at han)
  case alter t ops => exact alter_noColumnDef ops h

/-- **C13.wellFormed_stmt_text_or_family**: a well-formed statement (outside the DDL exclusions of `stmtIll`) is either
printed or refused with an error of the library's parse-error family — for every dialect; no foreign exception, no
other outcome. -/
theorem wellFormed_stmt_text_or_family (d : Gen.D) (st : Stmt) (h1 : stmtIll d st = false) (h2 : anyStmt illFormed st = false) :
    (∃ s, prStmt d st = .ok s) ∨ ∃ e, prStmt d st = .error e ∧ e.inFamily = true := by
  have := res_Stmt ((illFormed_clean d).mono inFamily_notSupported) st (stmtClean_family d st h1) h2
  cases h : prStmt d st with
  | ok s => exact .inl ⟨s, rfl⟩
  | error e => exact .inr ⟨e, rfl, this e h⟩

/-- **C13.refusal_in_family** (DESIGN §8 C13 (c)): a well-formed statement containing, anywhere, a construct the dialect
lacks is refused with an error of the library's parse-error family. -/
theorem refusal_in_family (d : Gen.D) (st : Stmt) (h1 : stmtIll d st = false) (h2 : anyStmt illFormed st = false)
    (hu : unsupported d st = true) : ∃ e, prStmt d st = .error e ∧ e.inFamily = true := by
  rcases wellFormed_stmt_text_or_family d st h1 h2 with ⟨s, hs⟩ | h
  · obtain ⟨e, he⟩ := refusal_propagates d st hu; rw [he] at hs; cases hs
  · exact h

/-- **C13.printable_stmt**: a statement with no ill-formed node, no construct refused by `d` at any depth and no
statement-level refusal is printed. -/
theorem printable_stmt (d : Gen.D) (st : Stmt) (h1 : stmtIll d st = false) (h2 : anyStmt (notPrintable d) st = false)
    (h3 : stmtRefused d st = false) : ∃ s, prStmt d st = .ok s :=
  OkOr.total (res_Stmt (notPrintable_clean d) st (stmtClean_total d st h1 h3) h2)

end C13

namespace C01
open Ast PR C13

/-- what the DEFAULT printer flags, spelled out: ill-formed nodes, array index, SORT/DISTRIBUTE/CLUSTER BY — `%` and LATERAL
VIEW are printed -/
theorem default_flags_expr (x : Expr) : (notPrintable .DEFAULT).e x = (illFormed.e x || isIndex x) := by
  simp [notPrintable, refusedLoc, modOk, indexOk, (by decide : (Gen.D.DEFAULT == Gen.D.HIVE) = false)]
theorem default_flags_select (x : Select) : (notPrintable .DEFAULT).s x = (illFormed.s x || hasHiveClauses x) := by
  simp [notPrintable, refusedLoc, hiveClausesOk, lateralOk, (by decide : (Gen.D.DEFAULT == Gen.D.HIVE) = false)]

/-- **C01.print_total_on_default**: for the DEFAULT dialect the printer model produces text for EVERY query tree that has no
ill-formed node, no array index and no SORT/DISTRIBUTE/CLUSTER BY clause at any depth — and for no other tree. -/
theorem print_total_on_default (q : Query) : (∃ s, prQ .DEFAULT q = .ok s) ↔ anyQ (notPrintable .DEFAULT) q = false :=
  printable_iff .DEFAULT q

/-- **C01.print_total_on_default_stmt**: the DEFAULT printer yields text for every statement other than CREATE TABLE /
ANALYZE TABLE (which it always refuses) / ALTER with a column definition (not analysed here) whose trees have no
ill-formed node, no array index and no SORT/DISTRIBUTE/CLUSTER BY at any depth — INSERT OVERWRITE, `%` and LATERAL VIEW
included. -/
theorem print_total_on_default_stmt (st : Stmt) (h1 : stmtIll .DEFAULT st = false) (h2 : anyStmt (notPrintable .DEFAULT) st = false)
    (h3 : usesAnalyze st = false) (h4 : usesCreateTable st = false) : ∃ s, prStmt .DEFAULT st = .ok s :=
  printable_stmt .DEFAULT st h1 h2 (by simp [stmtRefused, h3, h4, insertOverwriteOk])

theorem notPrintable_hive : notPrintable .HIVE = illFormed := by
  have e1 : (notPrintable .HIVE).e = illFormed.e := by funext x; simp [notPrintable, refusedLoc, modOk, indexOk]
  have e2 : (notPrintable .HIVE).s = illFormed.s := by funext x; simp [notPrintable, refusedLoc, hiveClausesOk, lateralOk]
  show Loc.mk (notPrintable .HIVE).e (notPrintable .HIVE).s illFormed.j illFormed.g illFormed.q
    = Loc.mk illFormed.e illFormed.s illFormed.j illFormed.g illFormed.q
  rw [e1, e2]

/-- Hive refuses nothing: every well-formed query tree is printed -/
theorem print_total_on_hive (q : Query) (h : anyQ illFormed q = false) : ∃ s, prQ .HIVE q = .ok s :=
  (printable_iff .HIVE q).2 (by rw [notPrintable_hive]; exact h)

end C01

namespace C13
open Ast PR

/-! ## non-vacuity

`example … := by decide` is checked by the kernel (the structural predicates reduce there); the printed texts are
compared by `#guard`, i.e. by evaluation of the compiled model, because the kernel does not reduce `String`
concatenation of this size in reasonable time. -/

def sel (cols : List (Expr × Option String)) (tbl : String) (wh : Option Expr := none) : Select :=
  .mk (some []) false cols (some [.mk (.table none tbl) none]) [] [] wh none none none none none none none

def isOkText (r : PR.P) (t : String) : Bool := match r with | .ok s => s == t | .error _ => false
def isErr (r : PR.P) (e : Err) : Bool := match r with | .ok _ => false | .error x => x == e

/-- `SELECT f(CASE WHEN (SELECT a % 2 FROM t) THEN 1 END) FROM u`: `%` inside a sub-query inside a CASE arm inside a
function argument -/
def deepModQ : Query :=
  .single (sel [(.func none "f" [.caseCond [(.subQuery (.single (sel [(.compute (.column none "a") "MOD" (.literal "2"), none)] "t")),
    .literal "1")] none], none)] "u")
def deepMod : Stmt := .select deepModQ

/-- kernel-checked through the theorem (no evaluation of the printer): exactly the not-supported error -/
example : prQ .ORACLE deepModQ = .error .notSupported :=
  refusal_is_notSupported_query .mod .ORACLE deepModQ (by decide) (by decide) (by decide)
/-- … and text for the four dialects that have `%` (again through the theorem) -/
example : ∃ s, prQ .SQL_SERVER deepModQ = .ok s := (printable_iff _ _).2 (by decide)
example : ∃ s, prQ .DEFAULT deepModQ = .ok s := (C01.print_total_on_default _).2 (by decide)
example : ¬ ∃ s, prQ .DB2 deepModQ = .ok s := fun h => absurd ((printable_iff _ _).1 h) (by decide)

example : usesMod deepMod = true := by decide
example : unsupported .ORACLE deepMod = true := by decide
example : ∃ err, prStmt .ORACLE deepMod = .error err := refusal_propagates _ _ (by decide)
example : unsupported .MYSQL deepMod = false := by decide
#guard isErr (prStmt .ORACLE deepMod) .notSupported
#guard isErr (prStmt .DB2 deepMod) .notSupported
#guard isErr (prStmt .POSTGRE_SQL deepMod) .notSupported
#guard isOkText (prStmt .MYSQL deepMod) "SELECT f(CASE WHEN (SELECT `a` % 2\nFROM `t`) THEN 1 END)\nFROM `u`"
/-- MySQL and Hive answer the `%` test alike, and nothing else in the tree is dialect-dependent: same text -/
example : prStmt .MYSQL deepMod = prStmt .HIVE deepMod := dialects_agree _ _ _ (by decide) (by decide)
example : anyStmt depAll deepMod = true := by decide

/-- `UPDATE t SET a = 1 WHERE EXISTS (SELECT 1 FROM v WHERE x[0] > 1)`: array index in an EXISTS sub-query of an UPDATE filter -/
def deepIndex : Stmt :=
  .update (some []) ⟨none, "t"⟩ [("a", .literal "1")]
    (some (.exists_ (.subQuery (.single (sel [(.literal "1", none)] "v"
      (some (.compare "GT" (.index (.column none "x") (.literal "0")) (.literal "1")))))))) none none

example : usesIndex deepIndex = true := by decide
example : unsupported .DEFAULT deepIndex = true := by decide
example : ∃ err, prStmt .DEFAULT deepIndex = .error err := refusal_propagates _ _ (by decide)
example : unsupported .HIVE deepIndex = false := by decide
#guard Gen.allD.all fun d => d == .HIVE || isErr (prStmt d deepIndex) .notSupported
#guard isOkText (prStmt .HIVE deepIndex) "UPDATE `t` SET `a` = 1 WHERE EXISTS (SELECT 1\nFROM `v`\nWHERE `x`[0] > 1)"

/-- through the theorems (kernel-checked, no evaluation of the printer): refused within the library's error family by
MySQL, printed by Hive -/
example : ∃ e, prStmt .MYSQL deepIndex = .error e ∧ e.inFamily = true := refusal_in_family _ _ (by decide) (by decide) (by decide)
example : ∃ s, prStmt .HIVE deepIndex = .ok s := printable_stmt _ _ (by decide) (by decide) (by decide)

/-- `SELECT a FROM (SELECT b FROM u DISTRIBUTE BY b) AS q`: a Hive-only clause in a derived table -/
def deepDistribute : Stmt :=
  .select (.single (.mk (some []) false [(.column none "a", none)]
    (some [.mk (.sub (.single (.mk (some []) false [(.column none "b", none)] (some [.mk (.table none "u") none]) [] [] none none none none
      none (some [.column none "b"]) none none))) (some "q")]) [] [] none none none none none none none none))

example : usesHiveClauses deepDistribute = true := by decide
example : ∃ err, prStmt .DEFAULT deepDistribute = .error err := refusal_propagates _ _ (by decide)
#guard Gen.allD.all fun d => d == .HIVE || isErr (prStmt d deepDistribute) .notSupported
#guard isOkText (prStmt .HIVE deepDistribute) "SELECT `a`\nFROM (SELECT `b`\nFROM `u`\nDISTRIBUTE BY `b`) AS q"

/-- `WITH w AS (SELECT a FROM t LATERAL VIEW explode(x) v AS c) SELECT * FROM w`: LATERAL VIEW in a WITH body -/
def deepLateral : Stmt :=
  .select (.single (.mk (some [.mk "w" (.single (.mk (some []) false [(.column none "a", none)] (some [.mk (.table none "t") none])
      [.mk false (.func none "explode" [.column none "x"]) "v" ["c"]] [] none none none none none none none none))])
    false [(.wildcard none, none)] (some [.mk (.table none "w") none]) [] [] none none none none none none none none))

example : usesLateralView deepLateral = true := by decide
example : ∃ err, prStmt .MYSQL deepLateral = .error err := refusal_propagates _ _ (by decide)
example : unsupported .DEFAULT deepLateral = false := by decide
#guard Gen.allD.all fun d => d == .HIVE || d == .DEFAULT || isErr (prStmt d deepLateral) .notSupported
#guard isOkText (prStmt .DEFAULT deepLateral) "WITH w AS (SELECT `a`\nFROM `t`\nLATERAL VIEW explode(`x`) v AS c)\nSELECT *\nFROM `w`"

/-- `INSERT OVERWRITE t SELECT a FROM u` -/
def overwrite : Stmt := .insertSelect ⟨some [], "INSERT_OVERWRITE", ⟨none, "t"⟩, none, none⟩ (.single (sel [(.column none "a", none)] "u"))

example : usesInsertOverwrite overwrite = true := by decide
example : ∃ err, prStmt .MYSQL overwrite = .error err := refusal_propagates _ _ (by decide)
#guard Gen.allD.all fun d => d == .HIVE || d == .DEFAULT || isErr (prStmt d overwrite) .notSupported
#guard isOkText (prStmt .HIVE overwrite) "INSERT OVERWRITE TABLE `t`  SELECT `a`\nFROM `u`"
#guard isOkText (prStmt .DEFAULT overwrite) "INSERT OVERWRITE `t`  SELECT `a`\nFROM `u`"

example : ∃ s, prStmt .DEFAULT overwrite = .ok s := C01.print_total_on_default_stmt _ (by decide) (by decide) (by decide) (by decide)
example : ∃ e, prStmt .ORACLE overwrite = .error e ∧ e.inFamily = true := refusal_in_family _ _ (by decide) (by decide) (by decide)

/-- `SELECT a + 1 FROM t WHERE b IN (SELECT c FROM u)`: none of the constructs -/
def plain : Stmt :=
  .select (.single (sel [(.compute (.column none "a") "PLUS" (.literal "1"), none)] "t"
    (some (.kw .in_ false (.column none "b") (.subQuery (.single (sel [(.column none "c", none)] "u")))))))

example : stmtDepAny plain = false ∧ anyStmt depAll plain = false := by decide
example (d d' : Gen.D) : prStmt d plain = prStmt d' plain := dialect_irrelevant_otherwise plain (by decide) (by decide) d d'
example (d : Gen.D) : unsupported d plain = false := by cases d <;> decide
#guard Gen.allD.all fun d => isOkText (prStmt d plain) "SELECT `a` + 1\nFROM `t`\nWHERE `b` IN (SELECT `c`\nFROM `u`)"

/-- an ill-formed tree (operator member name outside `EnumComputeOperator`): flagged, and no dialect prints it -/
def illQ : Query := .single (sel [(.compute (.column none "a") "NO_SUCH_MEMBER" (.literal "1"), none)] "t")
example : anyQ illFormed illQ = true := by decide
example (d : Gen.D) : ¬ ∃ s, prQ d illQ = .ok s := fun h => absurd ((printable_iff d illQ).1 h) (by cases d <;> decide)
/-- grouping sets after the repair 1fd5412: an EMPTY group is well-formed and printed `()` by every dialect (through the
theorem, kernel-checked); a one-element group whose text starts with `(` keeps the group brackets -/
def gsel (g : GroupBy) : Query :=
  .single (.mk (some []) false [(.column none "a", none)] (some [.mk (.table none "t") none]) [] [] none (some g) none none none none none none)
def emptyGroupQ : Query := gsel (.mk [.column none "a"] (some [[], [.column none "a"]]) false false)
def bracketGroupQ : Query := gsel (.mk [.column none "a"]
  (some [[.compute (.compute (.column none "a") "PLUS" (.column none "b")) "MULTIPLE" (.column none "c")], [.column none "d"]]) false false)
example : anyQ illFormed emptyGroupQ = false := by decide
example (d : Gen.D) : ∃ s, prQ d emptyGroupQ = .ok s := (printable_iff d _).2 (by cases d <;> decide)
example (d d' : Gen.D) : prQ d bracketGroupQ = prQ d' bracketGroupQ := dialect_irrelevant_otherwise_query _ (by decide) d d'
#guard Gen.allD.all fun d => isOkText (prQ d emptyGroupQ) "SELECT `a`\nFROM `t`\nGROUP BY `a` GROUPING SETS ((), `a`)"
#guard Gen.allD.all fun d => isOkText (prQ d bracketGroupQ) "SELECT `a`\nFROM `t`\nGROUP BY `a` GROUPING SETS (((`a` + `b`) * `c`), `d`)"
/-- a refused construct inside an (otherwise empty-neighboured) grouping set still propagates -/
def modInGroupQ : Query := gsel (.mk [.column none "a"] (some [[], [.compute (.column none "a") "MOD" (.literal "2")]]) false false)
example : prQ .ORACLE modInGroupQ = .error .notSupported :=
  refusal_is_notSupported_query .mod .ORACLE modInGroupQ (by decide) (by decide) (by decide)

/-- DEFAULT refuses the array index at depth, Hive prints it (C01.print_total_on_default / print_total_on_hive) -/
def deepIndexQ : Query := .single (sel [(.literal "1", none)] "v"
  (some (.exists_ (.subQuery (.single (sel [(.literal "1", none)] "w" (some (.index (.column none "x") (.literal "0")))))))))
example : ¬ ∃ s, prQ .DEFAULT deepIndexQ = .ok s := fun h => absurd ((C01.print_total_on_default _).1 h) (by decide)
example : ∃ s, prQ .HIVE deepIndexQ = .ok s := C01.print_total_on_hive _ (by decide)

/-- `SELECT CURRENT_DATE FROM t`: the one construct DB2 spells differently (the theorem's hypothesis fails, and so does its
conclusion) -/
def currentDate : Stmt := .select (.single (sel [(.column none "CURRENT_DATE", none)] "t"))
#guard anyStmt depAll currentDate
#guard isOkText (prStmt .DB2 currentDate) "SELECT CURRENT DATE\nFROM `t`"
#guard isOkText (prStmt .MYSQL currentDate) "SELECT CURRENT_DATE\nFROM `t`"

end C13
