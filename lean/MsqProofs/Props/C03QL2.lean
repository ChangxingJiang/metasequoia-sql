import MsqProofs.Lemmas.LexLinkDml2
import MsqProofs.Lemmas.LexLinkQ2M
import MsqProofs.Props.C03Q2
import MsqProofs.Lemmas.LexScriptPrinted
import MsqProofs.Props.C03QL
import MsqProofs.Props.C03D
/-!
# C03 / C01 / C02 at TEXT level: data-change statements (`TDM.FragStmt`) and scripts of them (part 1 of this file), the larger
nested fragment `TQ2.FragQ2` / `FragE4` (part 2, with its own header below: `C03.lex_prQ2`, `tquery2_text`, `C01.query_round_trip_text2`,
`C02.lex_prE4`, `tparse4_text`)

`Props/C03D.lean` proves T-parse for DELETE / UPDATE / INSERT … VALUES / INSERT … query / WITH … on TOKENS (`C03.tstatement`: the rendering
`TDM.toksStmt d s` parses to `s`).  Here the link to TEXT: the printer's text lexes to exactly that rendering.

* `C03.lex_prStmt` : for every fragment statement that the printer prints (`LLD.printableStmt`: `INSERT OVERWRITE` is printed for HIVE and
  DEFAULT only — the printer raises for the others) with lexable payloads, `PR.prStmt d s` succeeds, prints the mirror `LLD.stmtL d s`, and
  lexing the text gives exactly `TDM.toksStmt d s`; `C03.lex_prStmt_in_context`: the same inside any text;
* `C03.tstatement_text` : text → dialect pre-pass → lexer → `pStatement` (entry fuel) gives `s`, nothing left, and the model of the public
  entry point `parse_statements(text, dialect)` returns `[s]`;
* `C01.dml_round_trip_text` : print ∘ parse ∘ print = print on the statement fragment;
* `C03.tscript_text` : the printed texts of fragment statements, each followed by a separator text (blanks / line breaks around one `;`;
  after the last one possibly only blanks or nothing — the separators of `Props/C10T.lean`), parse through `parse_statements` to exactly
  the statements, in order (every dialect but DB2, whose pre-pass patterns contain a blank: there `tscript_text_prep` with the commutation
  of the pre-passes as a hypothesis) — no "ends open" hypothesis: a printed statement never ends inside a line comment;
* `C03.hive_pre_stmt` : for HIVE the pre-pass hypothesis holds whenever no payload contains `==`.

What the printer writes, as the mirror records it: `WITH a AS (…), ⏎b AS (…)⏎` (the tables separated by comma, blank, line break; one line
break after the clause, two in front of UPDATE), `DELETE FROM t ` with a trailing blank when there is no tail, two blanks between the
INSERT head and a query, `TABLE` after the INSERT words for HIVE only, `PARTITION (k = v, …)` with key and value bracketed above the compute
level (`PR.prPartItem`, /repo e990ea0 — inside `FragStmt` that coincides with the expression printer), VALUES rows bracketed above level 8.

**Hypotheses** besides the fragment: `LLD.LeafStmt d s` = every payload satisfies `LexLink.leafOK d` (Props/C03QL.lean); the payloads new at
the statement level: target table (`nameLex` of schema and name), columns of the column list (`colLex` / `qcolLex`), names of WITH tables and
SET columns (`nameLex`: no back-quote, no TAB / CR / U+3000).  `leafStmtB` is a decidable sufficient condition.
-/
open Lex PM Ast TP TS TQ TDM LexLink LLD

namespace LLD

theorem dml_words_plain : dmlWords.all (fun k => allP k.toList) = true := by decide +kernel
theorem dml_words_occ : dmlWords.all (fun k => !C01.occ k.toList) = true := by decide +kernel

theorem dw_plain : DW plainKit where
  dws := fun k hk => (List.all_eq_true.mp dml_words_plain) k hk
  iws := fun e he w hw => plainL_allP _ ((List.all_eq_true.mp ((List.all_eq_true.mp insert_words_plainL) e he)) w hw)
theorem dw_occ : DW occKit where
  dws := fun k hk => by
    show C01.occ k.toList = false
    simpa using (List.all_eq_true.mp dml_words_occ) k hk
  iws := fun e he w hw => occ_plainL _ ((List.all_eq_true.mp ((List.all_eq_true.mp insert_words_plainL) e he)) w hw)

def LeafStmt (d : Gen.D) (s : Stmt) : Prop := On (leafOK d) (leavesStmt s)
def NoEqStmt (s : Stmt) : Prop := On noEqItem (leavesStmt s)

end LLD

namespace LL2

theorem qw2_plain : QW2 plainKit where
  ws := fun k hk => plainL_allP _ ((List.all_eq_true.mp q2_words_plainL) k hk)
  cts := fun e he => plainL_allP _ ((List.all_eq_true.mp cast_words_plainL) e he)
  s_lb := by show C05.plain '[' = true; decide
  s_rb := by show C05.plain ']' = true; decide
theorem qw2_occ : QW2 occKit where
  ws := fun k hk => occ_plainL _ ((List.all_eq_true.mp q2_words_plainL) k hk)
  cts := fun e he => occ_plainL _ ((List.all_eq_true.mp cast_words_plainL) e he)
  s_lb := by show '[' ≠ '='; decide
  s_rb := by show ']' ≠ '='; decide

end LL2

namespace C03

/-- **C03.lex_prStmt**: the printer succeeds on every printable fragment statement with lexable payloads, prints `stmtL d s`, and lexing the
text gives exactly the token rendering `toksStmt d s`. -/
theorem lex_prStmt (d : Gen.D) (s : Stmt) (hs : FragStmt d s = true) (hp : printableStmt d s = true) (hl : LeafStmt d s) :
    ∃ str : String, PR.prStmt d s = .ok str ∧ str.toList = stmtL d s ∧ Lex.lex Gen.cfgS str.toList = .ok (toksStmt d s) := by
  have g := good_stmt dw_plain s hs hp (lv_plain hl)
  exact C01.lex_printed g.pr g.q g.lx

/-- the link in context: inside any text, between tokens, before a delimiter, under any bracket nesting -/
theorem lex_prStmt_in_context (d : Gen.D) (s : Stmt) (hs : FragStmt d s = true) (hp : printableStmt d s = true) (hl : LeafStmt d s) :
    Lx (stmtL d s) (toksStmt d s) :=
  (good_stmt dw_plain s hs hp (lv_plain hl)).lx

theorem stmt_text_plain (d : Gen.D) (s : Stmt) (hs : FragStmt d s = true) (hp : printableStmt d s = true) (hl : LeafStmt d s) :
    allP (stmtL d s) = true :=
  (good_stmt dw_plain s hs hp (lv_plain hl)).q

/-- the printed text of a statement never ends inside a line comment -/
theorem printed_stmt_not_open (d : Gen.D) (s : Stmt) (hs : FragStmt d s = true) (hp : printableStmt d s = true) (hl : LeafStmt d s) :
    C10.EndsOpen Gen.cfgS (stmtL d s) = false :=
  C10.not_open_of_lx (lex_prStmt_in_context d s hs hp hl) (stmt_text_plain d s hs hp hl)

/-- **C03.tstatement_text**: T-parse of data-change statements at TEXT level, with the entry points' own fuel. -/
theorem tstatement_text (d : Gen.D) (s : Stmt) (hs : FragStmt d s = true) (hp : printableStmt d s = true) (hl : LeafStmt d s)
    (hpre : dialectPre d (stmtL d s) = stmtL d s) :
    ∃ (str : String) (ts : List Tok), PR.prStmt d s = .ok str ∧
      Lex.lex Gen.cfgS (dialectPre d str.toList) = .ok ts ∧ ts = toksStmt d s ∧
      pStatement d (fuelFor ts) ts = .ok (s, []) ∧
      parseStatementsText d str.toList = .ok [s] :=
  printed_stmt_text (lex_prStmt d s hs hp hl) hpre (by simpa using tstatement_entry_fuel d s hs [] rfl)

/-- for HIVE the pre-pass hypothesis holds whenever no payload contains `==` -/
theorem hive_pre_stmt (s : Stmt) (hs : FragStmt .HIVE s = true) (hp : printableStmt .HIVE s = true) (hl : LeafStmt .HIVE s)
    (hno : NoEqStmt s) : dialectPre .HIVE (stmtL .HIVE s) = stmtL .HIVE s :=
  C01.hivePre_no_occ _ (good_stmt dw_occ s hs hp (lv_occ hl hno)).q

/-! ### scripts -/

def stmtPart (d : Gen.D) (it : Stmt × List Char) : C10.Part := ⟨stmtL d it.1, it.2, toksStmt d it.1, it.1⟩

/-- **C03.tscript_text**: the printed texts of fragment statements, each followed by a separator (blanks and line breaks around one `;`;
the last one possibly without `;`), parse through the model of `parse_statements(text, dialect)` to exactly the statements -/
theorem tscript_text (d : Gen.D) (hd : d ≠ .DB2) (items : List (Stmt × List Char))
    (h : ∀ it ∈ items, FragStmt d it.1 = true ∧ printableStmt d it.1 = true ∧ LeafStmt d it.1 ∧
      dialectPre d (stmtL d it.1) = stmtL d it.1 ∧ ∀ c ∈ it.2, C10.isSepChar c = true)
    (hseps : C10.SepsOK (items.map (stmtPart d))) :
    (∀ it ∈ items, PR.prStmt d it.1 = .ok (String.ofList (stmtL d it.1))) ∧
    parseStatementsText d (C10.scriptOf C10.Part.text (items.map (stmtPart d))) = .ok (items.map (·.1)) := by
  refine ⟨fun it hit => (good_stmt dw_plain it.1 (h it hit).1 (h it hit).2.1 (lv_plain (h it hit).2.2.1)).pr, ?_⟩
  refine C10.script_of_printed d hd (stmtL d) (toksStmt d) items (fun it hit => ?_) hseps
  obtain ⟨hs, hpr, hl, hpre, hsep⟩ := h it hit
  exact ⟨lex_prStmt_in_context d it.1 hs hpr hl, stmt_text_plain d it.1 hs hpr hl, hpre,
    by simpa using tstatement_entry_fuel d it.1 hs [] rfl, hsep⟩

/-- the same for every dialect (DB2 included), the commutation of the pre-passes with cutting the script at the separators as a hypothesis
(a decidable equation on each concrete script) -/
theorem tscript_text_prep (d : Gen.D) (items : List (Stmt × List Char))
    (h : ∀ it ∈ items, FragStmt d it.1 = true ∧ printableStmt d it.1 = true ∧ LeafStmt d it.1 ∧
      dialectPre d (stmtL d it.1) = stmtL d it.1 ∧ ∀ c ∈ it.2, C10.isSepChar c = true)
    (hseps : C10.SepsOK (items.map (stmtPart d)))
    (hprep : C10.prep d (C10.scriptOf C10.Part.text (items.map (stmtPart d))) =
      C10.scriptOf (fun p => C10.prep d p.text) (items.map (stmtPart d))) :
    parseStatementsText d (C10.scriptOf C10.Part.text (items.map (stmtPart d))) = .ok (items.map (·.1)) := by
  refine C10.script_of_printed_prep d (stmtL d) (toksStmt d) items (fun it hit => ?_) hseps hprep
  obtain ⟨hs, hpr, hl, hpre, hsep⟩ := h it hit
  exact ⟨lex_prStmt_in_context d it.1 hs hpr hl, stmt_text_plain d it.1 hs hpr hl, hpre,
    by simpa using tstatement_entry_fuel d it.1 hs [] rfl, hsep⟩

end C03

namespace C01

/-- **C01.dml_round_trip_text**: print, then the text pipeline (dialect pre-pass, lexer, parser) gives the statement back; printing what was
parsed gives the same text again -/
theorem dml_round_trip_text (d : Gen.D) (s : Stmt) (hs : FragStmt d s = true) (hp : printableStmt d s = true) (hl : LeafStmt d s)
    (hpre : dialectPre d (stmtL d s) = stmtL d s) :
    ∃ (str : String) (ts : List Tok), PR.prStmt d s = .ok str ∧ Lex.lex Gen.cfgS (dialectPre d str.toList) = .ok ts ∧
      pStatement d (fuelFor ts) ts = .ok (s, []) ∧
      (∀ s', pStatement d (fuelFor ts) ts = .ok (s', []) → PR.prStmt d s' = .ok str) ∧
      parseStatementsText d str.toList = .ok [s] ∧
      (∀ sts, parseStatementsText d str.toList = .ok sts → sts.map (PR.prStmt d) = [.ok str]) := by
  obtain ⟨str, ts, h1, h2, _, h3, h5⟩ := C03.tstatement_text d s hs hp hl hpre
  exact ⟨str, ts, h1, h2, h3, fun s' hs' => by rw [same_of_ok h3 hs']; exact h1, h5, stmts_print h5 h1⟩

end C01

/-! ## a decidable form of the leaf hypotheses, non-vacuity -/
namespace C03.DmlText
open C03.Dml

def leafStmtB (d : Gen.D) (s : Stmt) : Bool := (leavesStmt s).all (leafOKB d)
theorem leafStmt_of_B (d : Gen.D) (s : Stmt) (h : leafStmtB d s = true) : LeafStmt d s :=
  fun x hx => leafOK_of_B d x ((List.all_eq_true.mp h) x hx)

/-- the mirror is the printer's text, the leaf hypotheses hold, the lexer gives the rendering (compiled evaluation, a test) -/
def agreesT (d : Gen.D) (s : Stmt) : Bool :=
  FragStmt d s && printableStmt d s && leafStmtB d s &&
    (match PR.prStmt d s with | .ok x => x.toList == stmtL d s && eqbL (lexed x) (toksStmt d s) | .error _ => false)
#guard [d1, d2, u1, u2, i1, i2, i4, w1, w2, w3].all (agreesT .MYSQL) && [d1, d2, u1, u2, i1, i2, i3, i4, i5, w1, w2, w3].all (agreesT .HIVE) &&
  [d1, d2, u1, u2, i1, i2, i3, i4, i5, w1, w2, w3].all (agreesT .DEFAULT) && [d1, u1, i1, i4, w1].all (agreesT .ORACLE) &&
  [d1, u2, i2, w2].all (agreesT .POSTGRE_SQL)
-- what the printer writes: trailing blank of a DELETE without tail, TABLE for HIVE, two blanks before the query, the WITH layout
#guard stmtL .MYSQL d2 == "DELETE FROM `s.t` ".toList &&
  stmtL .HIVE i5 == "INSERT OVERWRITE TABLE `t` PARTITION () VALUES ".toList &&
  stmtL .MYSQL u2 == "WITH x AS (SELECT `b`\nFROM `u`)\n\nUPDATE `t` SET `a` = 1 ORDER BY `a`, `b` DESC".toList &&
  stmtL .MYSQL (.insertSelect (ih "INSERT_INTO" (tn "t")) qa) == "INSERT INTO `t`  SELECT `b`\nFROM `u`".toList
-- outside: INSERT OVERWRITE is not printed for MYSQL (token-level fragment, but no text); a WITH name with a back-quote
#guard FragStmt .MYSQL i3 && !printableStmt .MYSQL i3 && (match PR.prStmt .MYSQL i3 with | .error .notSupported => true | _ => false) &&
  !leafStmtB .MYSQL (.update (some [wt "a`b" qa]) (tn "t") [("a", lit "1")] none none none)
-- the public entry point on the printed text
#guard [d1, d2, u1, u2, i1, i2, i4, w1, w2].all fun s => (match PM.parseStatementsText .MYSQL (stmtL .MYSQL s) with
  | .ok [st] => Drv.showVal st.toVal == Drv.showVal s.toVal | _ => false)
#guard [d1, u1, i3, i5, w1].all fun s => (match PM.parseStatementsText .HIVE (stmtL .HIVE s) with
  | .ok [st] => Drv.showVal st.toVal == Drv.showVal s.toVal | _ => false)
-- a script: three printed statements, separators with layout
#guard (match PM.parseStatementsText .MYSQL
    (C10.scriptOf C10.Part.text ([(d1, " ;\n".toList), (u2, ";".toList), (i1, "\n;  ".toList)].map (stmtPart .MYSQL))) with
  | .ok [a, b, c] => Drv.showVal a.toVal == Drv.showVal d1.toVal && Drv.showVal b.toVal == Drv.showVal u2.toVal &&
      Drv.showVal c.toVal == Drv.showVal i1.toVal | _ => false)

/-- `WITH x AS (SELECT b FROM u) UPDATE t SET a = b WHERE a = 1` without LIMIT / qualified table (kernel-checked instances avoid
`toString` of integers and `String.splitOn`) -/
def u3 : Stmt := .update (some [wt "x" qa]) (tn "t") [("a", col "b")] (some (cmp "EQ" (col "a") (lit "1"))) none none
/-- `INSERT INTO t (a) VALUES (1, 'x'), ()` -/
def i6 : Stmt := .insertValues (ih "INSERT_INTO" (tn "t") none (some [(none, "a")])) [[lit "1", lit "'x'"], []]

-- instances of the theorems, hypotheses decided by the kernel
set_option maxRecDepth 100000 in
example : ∃ str ts, PR.prStmt .MYSQL u3 = .ok str ∧ Lex.lex Gen.cfgS (dialectPre .MYSQL str.toList) = .ok ts ∧ ts = toksStmt .MYSQL u3 ∧
    pStatement .MYSQL (fuelFor ts) ts = .ok (u3, []) ∧ parseStatementsText .MYSQL str.toList = .ok [u3] :=
  tstatement_text .MYSQL u3 (by decide) (by decide) (leafStmt_of_B _ _ (by decide +kernel)) (C01.dialectPre_id _ (by decide) (by decide) _)
set_option maxRecDepth 100000 in
example : ∃ str ts, PR.prStmt .HIVE i6 = .ok str ∧ Lex.lex Gen.cfgS (dialectPre .HIVE str.toList) = .ok ts ∧
    pStatement .HIVE (fuelFor ts) ts = .ok (i6, []) ∧ (∀ s', pStatement .HIVE (fuelFor ts) ts = .ok (s', []) → PR.prStmt .HIVE s' = .ok str) ∧
    parseStatementsText .HIVE str.toList = .ok [i6] ∧
    (∀ sts, parseStatementsText .HIVE str.toList = .ok sts → sts.map (PR.prStmt .HIVE) = [.ok str]) :=
  C01.dml_round_trip_text .HIVE i6 (by decide) (by decide) (leafStmt_of_B _ _ (by decide +kernel))
    (hive_pre_stmt i6 (by decide) (by decide) (leafStmt_of_B _ _ (by decide +kernel)) (noEq_of_B _ (by decide +kernel)))
set_option maxRecDepth 100000 in
example : parseStatementsText .MYSQL (C10.scriptOf C10.Part.text ([(d0, " ;\n".toList), (u3, ";".toList), (i6, [])].map (stmtPart .MYSQL))) =
    .ok [d0, u3, i6] :=
  (tscript_text .MYSQL (by decide) [(d0, " ;\n".toList), (u3, ";".toList), (i6, [])]
    (by
      intro it hit
      simp only [List.mem_cons, List.not_mem_nil, or_false] at hit
      rcases hit with rfl | rfl | rfl
      · exact ⟨by decide, by decide, leafStmt_of_B _ _ (by decide +kernel), C01.dialectPre_id _ (by decide) (by decide) _, by decide⟩
      · exact ⟨by decide, by decide, leafStmt_of_B _ _ (by decide +kernel), C01.dialectPre_id _ (by decide) (by decide) _, by decide⟩
      · exact ⟨by decide, by decide, leafStmt_of_B _ _ (by decide +kernel), C01.dialectPre_id _ (by decide) (by decide) _, by decide⟩)
    ⟨by decide, by decide, (by decide : (C10.semis []).length ≤ 1)⟩).2

end C03.DmlText

/-! # Part 2 — the LARGER nested fragment `TQ2.FragQ2` / `TQ2.FragE4` at TEXT level

`Props/C03Q2.lean` proves T-parse on tokens for CAST / EXTRACT / IF / array index / window functions, JOIN … USING, LATERAL VIEW, GROUPING
SETS / WITH CUBE / WITH ROLLUP, NULLS FIRST / LAST, SORT / DISTRIBUTE / CLUSTER BY.  Here the lexer link for these productions
(`Lemmas/LexLinkQ2*.lean`: the mirror `LL2.prE4L` / `prQ2L`, one node lemma per production, ONE mutual induction `LL2.good_all`).

* `C03.lex_prQ2` : `FragQ2 d q → LeafQ2 d q → ∃ str, PR.prQ d q = ok str ∧ str.toList = prQ2L d q ∧ lex str = toksQ2 d noX q`;
* `C03.tquery2_text`, `C01.query_round_trip_text2`, `C02.lex_prE4`, `C02.tparse4_text`, `C03.hive_pre_query2`.

**What `LeafQ2 d q` says** (`LL2.leavesQ2` = payload items `.old x` with `LexLink.leafOK d x` as in Props/C03QL.lean — LATERAL VIEW names are
plain words, their column aliases `nameLex` — and GUARDS `.guard p`, conditions the token-level fragment does not have):
* dialect: `a[i]` and SORT / DISTRIBUTE / CLUSTER BY only for `d = HIVE`, LATERAL VIEW only for HIVE and DEFAULT — for the other dialects the
  printer raises (C13.printable_iff), so there is no text;
* `[ … ]`: the lexer reads `a[i]` as the tokens of `a` followed by ONE `slice` group with the ARRAY_INDEX mark whose children are the tokens
  of `i` — exactly `TQ2.arr` (F-C04-2, the group's `source` renders with round brackets, does not matter: the parser reads the children).
  But `]` is no delimiter of the link's context predicate, so the index expression must END its last token by itself: `LL2.idxInnerOK i` =
  `i` is a column, a numeral, a quoted string, or is printed in brackets (level above 8).  `a[i + 1]`, `a[f(x)]` are NOT covered at text
  level (they are at token level);
* a grouping set with ONE element is printed with or without brackets according to the first CHARACTER of the element's text
  (`node.py`: `startswith("(")`), the token-level printer decides by the first TOKEN; the two agree when the element is a column, a bracketed
  list / sub-query, or is printed in brackets (`LL2.setElemOK`).  Other single elements (`GROUPING SETS (f(a))`, `(a + b)`) are not covered.
-/
namespace LL2
open LexLink

def LeafQ2 (d : Gen.D) (q : Query) : Prop := On2 (leafOK2 d) (leavesQ2 q)
def LeafE4 (d : Gen.D) (e : Expr) : Prop := On2 (leafOK2 d) (leavesE4 e)
def noEq2 : Leaf2 → Prop
  | .old x => noEqItem x
  | .guard _ => True
def NoEqQ2 (q : Query) : Prop := On2 noEq2 (leavesQ2 q)
def NoEqE4 (e : Expr) : Prop := On2 noEq2 (leavesE4 e)

theorem lv2_plain {d : Gen.D} {l : List Leaf2} (h : On2 (leafOK2 d) l) : Lv2 d plainKit l := by
  intro x hx
  refine ⟨h x hx, ?_⟩
  cases x with
  | old y => exact plain_item d y (h _ hx)
  | guard p => trivial
theorem lv2_occ {d : Gen.D} {l : List Leaf2} (h : On2 (leafOK2 d) l) (h2 : On2 noEq2 l) : Lv2 d occKit l := by
  intro x hx
  refine ⟨h x hx, ?_⟩
  cases x with
  | old y => exact h2 _ hx
  | guard p => trivial

end LL2

open TQ2 LL2

namespace C03

/-- **C03.lex_prQ2**: on the larger fragment the printer succeeds (under the leaf hypotheses, which contain the dialect guards), prints
`prQ2L d q`, and lexing the text gives exactly the token rendering `toksQ2 d noX q`. -/
theorem lex_prQ2 (d : Gen.D) (q : Query) (hq : FragQ2 d q = true) (hl : LeafQ2 d q) :
    ∃ str : String, PR.prQ d q = .ok str ∧ str.toList = prQ2L d q ∧ Lex.lex Gen.cfgS str.toList = .ok (toksQ2 d noX q) := by
  have g := LL2.good_query d plainKit qw2_plain q hq (lv2_plain hl)
  exact C01.lex_printed g.pr g.q g.lx

/-- the link in context -/
theorem lex_prQ2_in_context (d : Gen.D) (q : Query) (hq : FragQ2 d q = true) (hl : LeafQ2 d q) : Lx (prQ2L d q) (toksQ2 d noX q) :=
  (LL2.good_query d plainKit qw2_plain q hq (lv2_plain hl)).lx

/-- **C03.tquery2_text**: T-parse on the larger fragment at TEXT level, with the entry points' own fuel. -/
theorem tquery2_text (d : Gen.D) (q : Query) (hq : FragQ2 d q = true) (hl : LeafQ2 d q)
    (hpre : dialectPre d (prQ2L d q) = prQ2L d q) :
    ∃ (str : String) (ts : List Tok), PR.prQ d q = .ok str ∧
      Lex.lex Gen.cfgS (dialectPre d str.toList) = .ok ts ∧ ts = toksQ2 d noX q ∧
      pSelectStmt d (fuelFor ts) none ts = .ok (q, []) ∧
      pStatement d (fuelFor ts) ts = .ok (.select q, []) ∧
      parseStatementsText d str.toList = .ok [.select q] := by
  obtain ⟨str, ts, h1, h2, rfl, h4, h5⟩ := printed_stmt_text (lex_prQ2 d q hq hl) hpre
    (by simpa using tquery2_statement d q hq [] rfl _ (by simp only [fuelFor]; omega))
  exact ⟨str, _, h1, h2, rfl, by simpa using tquery2_entry_fuel d q hq [] rfl, h4, h5⟩

/-- for HIVE the pre-pass hypothesis holds whenever no payload contains `==` -/
theorem hive_pre_query2 (q : Query) (hq : FragQ2 .HIVE q = true) (hl : LeafQ2 .HIVE q) (hno : NoEqQ2 q) :
    dialectPre .HIVE (prQ2L .HIVE q) = prQ2L .HIVE q :=
  C01.hivePre_no_occ _ (LL2.good_query .HIVE occKit qw2_occ q hq (lv2_occ hl hno)).q

end C03

namespace C01

/-- **C01.query_round_trip_text2**: print ∘ parse ∘ print = print on the larger fragment, through `pSelectStmt` and through the model of
`parse_statements` -/
theorem query_round_trip_text2 (d : Gen.D) (q : Query) (hq : FragQ2 d q = true) (hl : LeafQ2 d q)
    (hpre : dialectPre d (prQ2L d q) = prQ2L d q) :
    ∃ (str : String) (ts : List Tok), PR.prQ d q = .ok str ∧ Lex.lex Gen.cfgS (dialectPre d str.toList) = .ok ts ∧
      pSelectStmt d (fuelFor ts) none ts = .ok (q, []) ∧
      (∀ q', pSelectStmt d (fuelFor ts) none ts = .ok (q', []) → PR.prQ d q' = .ok str) ∧
      (∀ sts, parseStatementsText d str.toList = .ok sts → sts.map (PR.prStmt d) = [.ok str]) := by
  obtain ⟨str, ts, h1, h2, _, h3, _, h5⟩ := C03.tquery2_text d q hq hl hpre
  exact ⟨str, ts, h1, h2, h3, fun q' hq' => by rw [same_of_ok h3 hq']; exact h1, stmts_print h5 (by simp [PR.prStmt, h1])⟩

end C01

namespace C02

/-- **C02.lex_prE4**: the expression half — CAST, EXTRACT, IF, window functions, array index besides everything of `C02.lex_prE3` -/
theorem lex_prE4 (d : Gen.D) (e : Expr) (hf : FragE4 d e = true) (hl : LeafE4 d e) :
    ∃ s : String, PR.prE d e = .ok s ∧ s.toList = prE4L d e ∧ Lex.lex Gen.cfgS s.toList = .ok (toksE4 d noX e) := by
  have g := LL2.good_expr d plainKit qw2_plain e hf (lv2_plain hl)
  exact C01.lex_printed g.pr g.q g.lx

/-- **C02.tparse4_text**: T-parse of expressions of the larger fragment at TEXT level: text → pre-pass → lexer → `pOr` with the entry
point's fuel gives the tree back; the model of `parse_logical_or_level_expression(text, dialect)` returns `(e, 0)`; printing the result
gives the same text -/
theorem tparse4_text (d : Gen.D) (e : Expr) (hf : FragE4 d e = true) (hl : LeafE4 d e)
    (hpre : dialectPre d (prE4L d e) = prE4L d e) :
    ∃ (s : String) (ts : List Tok), PR.prE d e = .ok s ∧ Lex.lex Gen.cfgS (dialectPre d s.toList) = .ok ts ∧ ts = toksE4 d noX e ∧
      pOr d (fuelFor ts) ts = .ok (e, []) ∧
      PM.parseText "logical_or_level_expression" d s.toList = .ok (e.toVal, 0) ∧
      (∀ e', pOr d (fuelFor ts) ts = .ok (e', []) → PR.prE d e' = .ok s) :=
  C01.expr_text (lex_prE4 d e hf hl) hpre (tparse4 d e hf [] rfl) (by omega)

theorem hive_pre_expr4 (e : Expr) (hf : FragE4 .HIVE e = true) (hl : LeafE4 .HIVE e) (hno : NoEqE4 e) :
    dialectPre .HIVE (prE4L .HIVE e) = prE4L .HIVE e :=
  C01.hivePre_no_occ _ (LL2.good_expr .HIVE occKit qw2_occ e hf (lv2_occ hl hno)).q

end C02

/-! ## a decidable form of the leaf hypotheses, non-vacuity -/
namespace C03.Q2Text

def leafOK2B (d : Gen.D) : Leaf2 → Bool
  | .old x => leafOKB d x
  | .guard p => p d
def leafQ2B (d : Gen.D) (q : Query) : Bool := (leavesQ2 q).all (leafOK2B d)
def leafE4B (d : Gen.D) (e : Expr) : Bool := (leavesE4 e).all (leafOK2B d)
def noEq2B (l : List Leaf2) : Bool := l.all fun x => match x with | .old y => (strs y).all fun s => !C01.occ s.toList | .guard _ => true

theorem leafOK2_of_B (d : Gen.D) (x : Leaf2) (h : leafOK2B d x = true) : leafOK2 d x := by
  cases x with
  | old y => exact leafOK_of_B d y h
  | guard p => exact h
theorem leafQ2_of_B (d : Gen.D) (q : Query) (h : leafQ2B d q = true) : LeafQ2 d q :=
  fun x hx => leafOK2_of_B d x ((List.all_eq_true.mp h) x hx)
theorem leafE4_of_B (d : Gen.D) (e : Expr) (h : leafE4B d e = true) : LeafE4 d e :=
  fun x hx => leafOK2_of_B d x ((List.all_eq_true.mp h) x hx)
theorem noEq2_of_B (l : List Leaf2) (h : noEq2B l = true) : On2 noEq2 l := by
  intro x hx
  have := (List.all_eq_true.mp h) x hx
  cases x with
  | old y =>
    intro s hs
    have := (List.all_eq_true.mp this) s hs
    simpa using this
  | guard p => trivial

/-- the mirror is the printer's text, the leaf hypotheses hold, the lexer gives the rendering (compiled evaluation, a test) -/
def agreesT2 (d : Gen.D) (q : Query) : Bool :=
  FragQ2 d q && leafQ2B d q && (match PR.prQ d q with | .ok x => x.toList == prQ2L d q && eqbL (lexed x) (toksQ2 d noX q) | .error _ => false)
/-- `q2w3` of Props/C03Q2.lean with index expressions inside the text-level restriction: a numeral, a quoted string, a bracketed expression -/
def q2w3t : Query := .single (q2sel2 [(.index (col "a") (lit "1"), some "f"), (.index (.func none "split" [col "s", lit "','"]) (.compare "EQ" (col "i") (lit "1")), none),
    (.index (.column (some "t") "m") (lit "'k'"), none), (.index (col "a") (col "j"), none)]
  (some [tb "t"]) (some (.compare "GT" (col "x") (lit "0"))) [.mk "JOIN" (tb "u") (some (.on (.compare "EQ" (col "a") (col "b"))))] none none
  [.mk false (.func none "explode" [col "arr"]) "v" ["x"], .mk true (.func none "posexplode" [col "m"]) "w" ["k", "val"]]
  (some [.mk (col "a") true false false]) (some [col "a", col "b"]) (some [col "c"]))
#guard [q2w1, q2w2, q2w2b, q2w2c, q2w4].all (agreesT2 .MYSQL) && [q2w1, q2w2, q2w2b, q2w2c, q2w3t, q2w4].all (agreesT2 .HIVE) &&
  [q2w1, q2w2, q2w4].all (agreesT2 .ORACLE) && [q2w1, q2w2, q2w2c, q2w4].all (agreesT2 .DEFAULT) && [q2w1, q2w2].all (agreesT2 .POSTGRE_SQL)
-- the guards: the Hive constructs for MYSQL, an unbracketed compound index expression, a call as the single element of a grouping set
#guard FragQ2 .MYSQL q2w3t && !leafQ2B .MYSQL q2w3t && FragQ2 .HIVE q2w3 && !leafQ2B .HIVE q2w3 &&
  !leafE4B .HIVE (.index (col "a") (.compute (col "i") "PLUS" (lit "1"))) && leafE4B .HIVE (.index (col "a") (.compare "EQ" (col "i") (lit "1"))) &&
  !leafQ2B .HIVE (.single (q2sel2 [(col "a", none)] (some [tb "t"]) none [] (some (.mk [] (some [[.func none "f" [col "a"]]]) false false))))
-- what the printer writes
#guard prE4L .HIVE (.index (col "a") (lit "1")) == "`a`[1]".toList &&
  prE4L .MYSQL (.cast (col "a") true "DECIMAL" (some [10, 2])) == "CAST(`a` AS SIGNED DECIMAL (10, 2))".toList &&
  prE4L .MYSQL (.window (.agg "sum" [col "a"] false) [col "b"] [.mk (col "c") true true false] (some (.num 1 true, .current))) ==
    "sum(`a`) OVER (PARTITION BY `b` ORDER BY `c` DESC NULLS FIRST ROWS BETWEEN 1 PRECEDING AND CURRENT ROW)".toList
-- the public entry point on the printed text
#guard [q2w1, q2w2, q2w2b, q2w2c, q2w4].all fun q => (match PM.parseStatementsText .MYSQL (prQ2L .MYSQL q) with
  | .ok [st] => Drv.showVal st.toVal == Drv.showVal (Stmt.select q).toVal | _ => false)
#guard [q2w1, q2w2, q2w3t, q2w4].all fun q => (match PM.parseStatementsText .HIVE (prQ2L .HIVE q) with
  | .ok [st] => Drv.showVal st.toVal == Drv.showVal (Stmt.select q).toVal | _ => false)

/-- a kernel-checked instance without LIMIT / numerals in frames (kernel `decide` gets stuck on `toString` of integers):
`SELECT CAST(a AS SIGNED INT) AS k, EXTRACT(y FROM ts), rank() OVER (PARTITION BY a ORDER BY c DESC NULLS LAST ROWS BETWEEN UNBOUNDED
PRECEDING AND CURRENT ROW), m['k'] FROM t LATERAL VIEW explode(arr) v AS x GROUP BY a GROUPING SETS ((), a, (a, b)) WITH ROLLUP SORT BY a` -/
def qk : Query := .single (q2sel2
  [(.cast (col "a") true "INT" none, some "k"), (.extract (col "y") (col "ts"), none),
   (.window (.func none "rank" []) [col "a"] [.mk (col "c") true false true] (some (.unbounded true, .current)), none),
   (.index (col "m") (lit "'k'"), none)]
  (some [tb "t"]) none [] (some (.mk [col "a"] (some [[], [col "a"], [col "a", col "b"]]) false true)) none
  [.mk false (.func none "explode" [col "arr"]) "v" ["x"]] (some [.mk (col "a") false false false]))
#guard agreesT2 .HIVE qk
set_option maxRecDepth 100000 in
example : ∃ str ts, PR.prQ .HIVE qk = .ok str ∧ Lex.lex Gen.cfgS (dialectPre .HIVE str.toList) = .ok ts ∧ ts = toksQ2 .HIVE noX qk ∧
    pSelectStmt .HIVE (fuelFor ts) none ts = .ok (qk, []) ∧ pStatement .HIVE (fuelFor ts) ts = .ok (.select qk, []) ∧
    parseStatementsText .HIVE str.toList = .ok [.select qk] :=
  tquery2_text .HIVE qk (by decide) (leafQ2_of_B _ _ (by decide +kernel))
    (hive_pre_query2 qk (by decide) (leafQ2_of_B _ _ (by decide +kernel)) (noEq2_of_B _ (by decide +kernel)))
def ek : Expr := .compare "GT" (.cast (.compute (col "a") "PLUS" (col "b")) false "CHAR" none)
  (.func none "IF" [.extract (col "y") (col "ts"), .window (.agg "sum" [col "x"] false) [] [] none, lit "'z'"])
set_option maxRecDepth 100000 in
example : ∃ s ts, PR.prE .MYSQL ek = .ok s ∧ Lex.lex Gen.cfgS (dialectPre .MYSQL s.toList) = .ok ts ∧ ts = toksE4 .MYSQL noX ek ∧
    pOr .MYSQL (fuelFor ts) ts = .ok (ek, []) ∧ PM.parseText "logical_or_level_expression" .MYSQL s.toList = .ok (ek.toVal, 0) ∧
    (∀ e', pOr .MYSQL (fuelFor ts) ts = .ok (e', []) → PR.prE .MYSQL e' = .ok s) :=
  C02.tparse4_text .MYSQL ek (by decide) (leafE4_of_B _ _ (by decide +kernel)) (C01.dialectPre_id _ (by decide) (by decide) _)

end C03.Q2Text
