import MsqProofs.Lemmas.ParseFrameStmt
import MsqProofs.Lemmas.StmtDispatch
import MsqModel.Parse.Entry
import MsqModel.Driver.ShowVal
/-!
# C10 — a script parses to the concatenation of its statements (parser half, token level)

The content of C10 on the parser side is a FRAME property: what a statement parses to does not depend on what follows
its terminating `;`.  It is proved for EVERY function of the parser model

* `MsqProofs/Lemmas/ParseFrame0.lean` (by hand): the cursor primitives of `MsqModel/Parse/Prim.lean` and the helper
  functions of `MsqModel/Parse/Expr.lean` outside the mutual block;
* `MsqProofs/Lemmas/ParseFrameDefs.lean`, `ParseFrame.lean` (generated by `tools/gen_frame.py`): the 80-function mutual block,
  `frameF_all : IsSemi semi → n < m → FrameF (semi :: Y) d n m`;
* `MsqProofs/Lemmas/ParseFrameStmt.lean` (generated): every function of `MsqModel/Parse/Stmt.lean`, up to
  `frame_pStatement`,

in the form `f … n ts = ok (v, r) → f … m (ts ++ semi :: Y) = ok (v, r ++ semi :: Y)` for every `m > n`, every `Y` and every
separator token `semi` (`IsSemi`: a leaf `;` without NAME / PARENTHESIS / LITERAL / ARRAY_INDEX mark — what the lexer emits).
No function needed a side condition except ONE, and that one is the anchor named in the property:

* `pCreateTable` (`parser.py:2017`) skips a `;` after the table options itself.  When the stand-alone text does not end in
  its own `;`, the framed run therefore returns the tokens AFTER the separator (`SwallowRel`); the loop's own optional skip
  then finds nothing to skip, PROVIDED the next statement does not begin with `;` — which no parseable statement does
  (`pStatement_not_semi`).  Consequence (not a violation of C10, but the reason the negative clause below excludes it): after
  such a CREATE TABLE an empty statement IS accepted — `CREATE TABLE t (a INT);; SELECT 1` parses to two statements, whereas
  `SELECT 1;; SELECT 1` is a parse error (`#guard`s at the end; the implementation behaves the same).

Why the fuel of the script is LARGER than the fuel of the stand-alone parses (`f < f'`): at the end of the list `pKwRest`
returns without a call, before a `;` it asks `pKwBody` (one level deeper) whether `;` continues the predicate; and the last
statement of the script is run with the fuel of the script.  `parseStatementsText` computes the fuel from the size of the token
list, so the script always has more fuel than each of its statements (`script_concat_entry`).

The lexer half of C10 — a `;` outside quotes, comments and brackets is a top-level token of its own, a `;` inside them never
is, layout around it is invisible — is C04 / C05 / C09's and is not proved here; the `#guard`s at the end only check on
concrete texts that the lexer produces the token lists the theorems speak about.
-/
open Lex PM Ast
namespace C10

/-- the token list of `ts₁ ; ts₂ ; … ; tsₙ`; `fin`: with a final `;` after `tsₙ` (the empty script has none) -/
def script (semi : Tok) : List (List Tok) → Bool → List Tok
  | [], _ => []
  | [ts], fin => if fin then ts ++ [semi] else ts
  | ts :: t2 :: rest, fin => ts ++ semi :: script semi (t2 :: rest) fin

/-! ### no statement starts with a separator, none is empty -/
theorem pStatement_not_semi (d : Gen.D) (f : Nat) (ts : List Tok) (h : searchStr ts ";" = true) (x : Stmt × List Tok) :
    pStatement d f ts ≠ .ok x := by
  rcases ts with _ | ⟨t, r⟩
  · simp [searchStr] at h
  · have hsrc : t.src = ";" := by simpa [searchStr, Tok.srcEq] using h
    have hup : ∀ k, k ≠ ";" → t.srcEqUp k = false := by
      intro k hk; simp [Tok.srcEqUp, hsrc, up_semi, Ne.symm hk]
    have hq := pStatement_query_branch d f t r (fun k hk => hup k fun e => absurd (e ▸ hk) (by decide))
    have h1 : ∀ k, k ≠ ";" → searchStrUp (t :: r) k = false := fun k hk => hup k hk
    intro hp
    rw [hq] at hp
    cases f with
    | zero => simp [pWith] at hp
    | succ f =>
      rw [pWith_absent d f t r (hup "WITH" (by decide))] at hp
      simp [h1 "SELECT" (by decide), h1 "INSERT" (by decide), h1 "UPDATE" (by decide)] at hp

theorem pStatement_nil (d : Gen.D) (f : Nat) (x : Stmt × List Tok) : pStatement d f [] ≠ .ok x := by
  intro hp
  unfold pStatement at hp
  cases f <;> simp [searchStrUp, searchTwoUp, searchThreeUp, pWith] at hp

theorem pStatement_ok_ne_nil {d : Gen.D} {f : Nat} {ts : List Tok} {x : Stmt × List Tok} (h : pStatement d f ts = .ok x) : ts ≠ [] :=
  fun e => pStatement_nil d f x (e ▸ h)

/-- a continuation that starts with a parseable statement: the optional skip of `;` leaves it alone -/
theorem moveStr_keeps (d : Gen.D) (f : Nat) (ts Z : List Tok) (x : Stmt × List Tok) (h : pStatement d f ts = .ok x) :
    (moveStr (ts ++ Z) ";").2 = ts ++ Z := by
  rcases ts with _ | ⟨t, r⟩
  · exact absurd h (pStatement_nil d f x)
  · have hn : searchStr (t :: r) ";" ≠ true := fun hc => pStatement_not_semi d f _ hc x h
    have : searchStr (t :: (r ++ Z)) ";" = false := by simpa [searchStr] using hn
    simp [moveStr, this]

theorem script_cons₂ (semi : Tok) (ts t2 : List Tok) (rest : List (List Tok)) (fin : Bool) :
    script semi (ts :: t2 :: rest) fin = ts ++ semi :: script semi (t2 :: rest) fin := rfl

theorem script_cons_head (semi : Tok) (ts : List Tok) (rest : List (List Tok)) (fin : Bool) :
    ∃ Z, script semi (ts :: rest) fin = ts ++ Z := by
  rcases rest with _ | ⟨t2, rest⟩
  · cases fin <;> simp [script]
  · exact ⟨_, rfl⟩

theorem script_append (semi : Tok) (fin : Bool) : ∀ (l₁ l₂ : List (List Tok)), l₁ ≠ [] → l₂ ≠ [] →
    script semi (l₁ ++ l₂) fin = script semi l₁ false ++ semi :: script semi l₂ fin
  | [], _, h, _ => absurd rfl h
  | [t], u :: l₂, _, _ => rfl
  | [_], [], _, h => absurd rfl h
  | t :: t2 :: l, l₂, _, h => by
    rw [List.cons_append, List.cons_append, script_cons₂, ← List.cons_append, script_append semi fin (t2 :: l) l₂ (List.cons_ne_nil _ _) h,
      script_cons₂, List.append_assoc, List.cons_append]

theorem statementsLoop_nil (d : Gen.D) (f g : Nat) (acc : List Stmt) : statementsLoop d f (g + 1) acc [] = .ok acc := by
  simp [statementsLoop]

theorem statementsLoop_step (d : Gen.D) (f g : Nat) (acc : List Stmt) {ts r : List Tok} {s : Stmt} (h : pStatement d f ts = .ok (s, r)) :
    statementsLoop d f (g + 1) acc ts = statementsLoop d f g (acc ++ [s]) (moveStr r ";").2 := by
  have he : ts.isEmpty = false := by
    cases ts with
    | nil => exact absurd rfl (pStatement_ok_ne_nil h)
    | cons _ _ => rfl
  rw [statementsLoop]
  simp only [he, Bool.false_eq_true, if_false, h]

theorem pStatements_single {d : Gen.D} {f : Nat} {ts : List Tok} {s : Stmt} (h : pStatement d f ts = .ok (s, [])) :
    pStatements d f ts = .ok [s] := by
  obtain ⟨t, r, rfl⟩ := List.exists_cons_of_ne_nil (pStatement_ok_ne_nil h)
  unfold pStatements
  rw [List.length_cons, statementsLoop_step d f _ [] h, moveStr_nil]
  exact statementsLoop_nil d f r.length [s]

section
variable {semi : Tok} (hs : IsSemi semi) (d : Gen.D) {f f' : Nat} (hlt : f < f')
include hs hlt

/-- the frame property of one statement: before a separator it returns what it returned alone and leaves the separator — or, a CREATE
TABLE that does not end in its own `;`, takes the separator as well -/
theorem frame_step (ts Y : List Tok) (s : Stmt) (h : pStatement d f ts = .ok (s, [])) :
    pStatement d f' (ts ++ semi :: Y) = .ok (s, semi :: Y) ∨
      ((∃ c, s = .createTable c) ∧ pStatement d f' (ts ++ semi :: Y) = .ok (s, Y)) := by
  rcases frame_pStatement (SemiHead.mk' hs Y) (frameF_all hs Y d f f' hlt) ts s [] h with h1 | ⟨_, hc, h2⟩
  · exact .inl (by simpa using h1)
  · exact .inr ⟨hc, by simpa using h2⟩

theorem step_semi (ts Y : List Tok) (s : Stmt) (h : pStatement d f ts = .ok (s, []))
    (hY : (moveStr Y ";").2 = Y) :
    ∃ r, pStatement d f' (ts ++ semi :: Y) = .ok (s, r) ∧ (moveStr r ";").2 = Y := by
  rcases frame_step hs d hlt ts Y s h with h1 | ⟨_, h2⟩
  · exact ⟨semi :: Y, h1, by simp [moveStr, searchStr, hs.srcEq_semi]⟩
  · exact ⟨Y, h2, hY⟩

/-- **C10 on the model.**  Token lists `ts₁ … tsₙ` (`n ≥ 0`) that each parse stand-alone, with fuel `f`, to exactly one
statement with nothing left; the script `ts₁ ; … ; tsₙ` with or without a final `;`; any larger fuel `f'`; a loop counter of
at least `n + 1`: the loop returns exactly `s₁ … sₙ` (appended to what it had already collected). -/
theorem loop_script (segs : List (List Tok × Stmt)) (hseg : ∀ p ∈ segs, pStatement d f p.1 = .ok (p.2, [])) :
    ∀ (fin : Bool) (g : Nat) (acc : List Stmt), segs.length + 1 ≤ g →
      statementsLoop d f' g acc (script semi (segs.map (·.1)) fin) = .ok (acc ++ segs.map (·.2)) := by
  induction segs with
  | nil =>
    intro fin g acc hg
    obtain ⟨k, rfl⟩ : ∃ k, g = k + 1 := ⟨g - 1, by simp at hg; omega⟩
    simpa [script] using statementsLoop_nil d f' k acc
  | cons p rest ih =>
    intro fin g acc hg
    obtain ⟨k, rfl⟩ : ∃ k, g = k + 1 + 1 := ⟨g - 2, by simp at hg; omega⟩
    have hp := hseg p List.mem_cons_self
    have hrest : ∀ q ∈ rest, pStatement d f q.1 = .ok (q.2, []) := fun q hq => hseg q (List.mem_cons_of_mem _ hq)
    rcases rest with _ | ⟨q, rest'⟩
    · cases fin with
      | false =>
        -- the last statement is run with the fuel of the script
        have hm := mono_pStatement (frameF_all hs [] d f f' hlt) p.1 _ hp
        show statementsLoop d f' (k + 1 + 1) acc p.1 = _
        rw [statementsLoop_step d f' _ acc hm, moveStr_nil, statementsLoop_nil]
        rfl
      | true =>
        obtain ⟨r, h1, h2⟩ := step_semi hs d hlt p.1 [] p.2 hp (by rw [moveStr_nil])
        show statementsLoop d f' (k + 1 + 1) acc (p.1 ++ [semi]) = _
        rw [statementsLoop_step d f' _ acc h1, h2, statementsLoop_nil]
        rfl
    · -- a statement, a separator, and a continuation that starts with the next statement
      obtain ⟨Z, hZ⟩ := script_cons_head semi q.1 (rest'.map (·.1)) fin
      have hY : (moveStr (script semi ((q :: rest').map (·.1)) fin) ";").2 = script semi ((q :: rest').map (·.1)) fin := by
        rw [List.map_cons, hZ]
        exact moveStr_keeps d f q.1 Z _ (hrest q List.mem_cons_self)
      obtain ⟨r, h1, h2⟩ := step_semi hs d hlt p.1 _ p.2 hp hY
      show statementsLoop d f' (k + 1 + 1) acc (p.1 ++ semi :: script semi ((q :: rest').map (·.1)) fin) = _
      rw [statementsLoop_step d f' _ acc h1, h2, ih hrest fin (k + 1) (acc ++ [p.2]) (by simp at hg ⊢; omega)]
      simp

/-- from the empty accumulator, for every loop fuel from `n + 1` on (`n` statements) -/
theorem script_concat (segs : List (List Tok × Stmt)) (hseg : ∀ p ∈ segs, pStatement d f p.1 = .ok (p.2, [])) (fin : Bool) :
    ∃ g₀, ∀ g, g₀ ≤ g → statementsLoop d f' g [] (script semi (segs.map (·.1)) fin) = .ok (segs.map (·.2)) :=
  ⟨segs.length + 1, fun g hg => by simpa using loop_script hs d hlt segs hseg fin g [] hg⟩

/-- the entry point `parse_statements` on token lists (`pStatements`: loop counter = length + 1, which is enough) -/
theorem script_concat_pStatements (segs : List (List Tok × Stmt)) (hseg : ∀ p ∈ segs, pStatement d f p.1 = .ok (p.2, []))
    (fin : Bool) : pStatements d f' (script semi (segs.map (·.1)) fin) = .ok (segs.map (·.2)) := by
  have hlen : ∀ (l : List (List Tok)), (∀ t ∈ l, t ≠ []) → l.length ≤ (script semi l fin).length := by
    intro l
    induction l with
    | nil => simp [script]
    | cons t l ih =>
      intro hl
      have ht : 1 ≤ t.length := by
        have := hl t (by simp); cases t with | nil => exact absurd rfl this | cons _ _ => simp
      rcases l with _ | ⟨t2, l⟩
      · cases fin <;> simp [script] <;> omega
      · have := ih (fun u hu => hl u (by simp [hu])); simp [script] at this ⊢; omega
  have hne : ∀ t ∈ segs.map (·.1), t ≠ [] := by
    intro t ht hc
    obtain ⟨p, hp, rfl⟩ := List.mem_map.1 ht
    exact pStatement_nil d f (p.2, []) (hc ▸ hseg p hp)
  have := hlen _ hne
  unfold pStatements
  simpa using loop_script hs d hlt segs hseg fin _ [] (by simp at this ⊢; omega)

/-- for two non-empty scripts `a` (without final `;`) and `b`, `loop (a ++ ; :: b) = loop a ++ loop b` -/
theorem concat_two (segs₁ segs₂ : List (List Tok × Stmt))
    (h₁ : ∀ p ∈ segs₁, pStatement d f p.1 = .ok (p.2, [])) (h₂ : ∀ p ∈ segs₂, pStatement d f p.1 = .ok (p.2, []))
    (hne₁ : segs₁ ≠ []) (hne₂ : segs₂ ≠ []) (fin : Bool) :
    ∃ g₀, ∀ g, g₀ ≤ g → ∃ A B,
      statementsLoop d f' g [] (script semi (segs₁.map (·.1)) false) = .ok A ∧
      statementsLoop d f' g [] (script semi (segs₂.map (·.1)) fin) = .ok B ∧
      statementsLoop d f' g [] (script semi (segs₁.map (·.1)) false ++ semi :: script semi (segs₂.map (·.1)) fin) = .ok (A ++ B) := by
  refine ⟨segs₁.length + segs₂.length + 1, fun g hg => ⟨segs₁.map (·.2), segs₂.map (·.2), ?_, ?_, ?_⟩⟩
  · simpa using loop_script hs d hlt segs₁ h₁ false g [] (by omega)
  · simpa using loop_script hs d hlt segs₂ h₂ fin g [] (by omega)
  · have h12 : ∀ p ∈ segs₁ ++ segs₂, pStatement d f p.1 = .ok (p.2, []) := by
      intro p hp; rcases List.mem_append.1 hp with hp | hp
      · exact h₁ p hp
      · exact h₂ p hp
    have := loop_script hs d hlt (segs₁ ++ segs₂) h12 fin g [] (by simp; omega)
    rw [List.map_append, script_append semi fin _ _ (by simpa using hne₁) (by simpa using hne₂)] at this
    simpa using this

/-- **Negative clause**: an empty statement between two separators is an error — after every statement except a CREATE TABLE
that does not end in its own `;` (see the header: there the first separator is consumed by the statement, the second by the loop) -/
theorem empty_statement_error {semi₂ : Tok} (hs₂ : IsSemi semi₂) (ts Z : List Tok) (s : Stmt)
    (h : pStatement d f ts = .ok (s, [])) (hnc : ∀ c, s ≠ .createTable c) (g : Nat) (hg : 2 ≤ g) (acc : List Stmt) :
    ∃ e, statementsLoop d f' g acc (ts ++ semi :: semi₂ :: Z) = .error e := by
  obtain ⟨k, rfl⟩ : ∃ k, g = k + 1 + 1 := ⟨g - 2, by omega⟩
  rcases frame_step hs d hlt ts (semi₂ :: Z) s h with h1 | ⟨⟨c, hc⟩, _⟩
  · have hm : (moveStr (semi :: semi₂ :: Z) ";").2 = semi₂ :: Z := by simp [moveStr, searchStr, hs.srcEq_semi]
    rw [statementsLoop_step d f' _ acc h1, hm, statementsLoop]
    simp only [List.isEmpty_cons, Bool.false_eq_true, if_false]
    cases hp : pStatement d f' (semi₂ :: Z) with
    | error e => exact ⟨e, rfl⟩
    | ok x => exact absurd hp (pStatement_not_semi d f' _ (by simp [searchStr, hs₂.srcEq_semi]) x)
  · exact absurd hc (hnc c)

end

/-! ### the entry point with the fuel `parseStatementsText` really uses -/

theorem sizeL_le_script (semi : Tok) (fin : Bool) : ∀ (l : List (List Tok)), ∀ t ∈ l, sizeL t ≤ sizeL (script semi l fin)
  | [u], t, ht => by
    obtain rfl : t = u := by simpa using ht
    cases fin <;> simp [script, TP.sizeL_append]
  | u :: u2 :: l, t, ht => by
    rw [script_cons₂, TP.sizeL_append]
    rcases List.mem_cons.1 ht with rfl | ht'
    · omega
    · have := sizeL_le_script semi fin (u2 :: l) t ht'
      simp only [sizeL]
      omega

theorem sizeL_script_lt (semi : Tok) (l : List (List Tok)) (fin : Bool) (hbig : 2 ≤ l.length ∨ fin = true) :
    ∀ t ∈ l, sizeL t < sizeL (script semi l fin) := by
  intro t ht
  have hsemi := TP.tok_size_pos semi
  rcases l with _ | ⟨u, _ | ⟨u2, l⟩⟩
  · cases ht
  · obtain rfl : fin = true := hbig.resolve_left (by simp)
    obtain rfl : t = u := by simpa using ht
    simp [script, TP.sizeL_append, sizeL]
    omega
  · rw [script_cons₂, TP.sizeL_append]
    simp only [sizeL]
    rcases List.mem_cons.1 ht with rfl | ht'
    · omega
    · have := sizeL_le_script semi fin (u2 :: l) t ht'
      omega

/-- **C10 at the entry point of the model**: if every `tsᵢ` parses on its own — with the fuel `parseStatementsText` gives it —
to exactly `[sᵢ]`-with-nothing-left, then the script parses — with the fuel `parseStatementsText` gives the script — to
`[s₁, …, sₙ]`. -/
theorem script_concat_entry {semi : Tok} (hs : IsSemi semi) (d : Gen.D) (segs : List (List Tok × Stmt))
    (hseg : ∀ p ∈ segs, pStatement d (fuelFor p.1) p.1 = .ok (p.2, [])) (fin : Bool) :
    pStatements d (fuelFor (script semi (segs.map (·.1)) fin)) (script semi (segs.map (·.1)) fin) = .ok (segs.map (·.2)) := by
  by_cases hbig : 2 ≤ (segs.map (·.1)).length ∨ fin = true
  · -- every statement has strictly less fuel than the script: lift all to a common fuel below the script's
    let F := fuelFor (script semi (segs.map (·.1)) fin)
    have hF : ∀ p ∈ segs, fuelFor p.1 < F := by
      intro p hp
      have := sizeL_script_lt semi (segs.map (·.1)) fin hbig p.1 (List.mem_map.2 ⟨p, hp, rfl⟩)
      simp only [F, fuelFor]; omega
    have hF1 : 1 ≤ F := by simp [F, fuelFor]
    have hcommon : ∀ p ∈ segs, pStatement d (F - 1) p.1 = .ok (p.2, []) := by
      intro p hp
      have h := hseg p hp
      by_cases he : fuelFor p.1 = F - 1
      · rw [← he]; exact h
      · have hlt : fuelFor p.1 < F - 1 := by have := hF p hp; omega
        exact mono_pStatement (frameF_all hs [] d _ _ hlt) p.1 _ h
    have := script_concat_pStatements hs d (f := F - 1) (f' := F) (by omega) segs hcommon fin
    exact this
  · -- a single statement without final separator (or nothing at all): the script IS the statement
    have hf : fin = false := by cases fin <;> simp_all
    subst hf
    rcases segs with _ | ⟨p, _ | ⟨q, rest⟩⟩
    · simp [script, pStatements, statementsLoop]
    · simpa [script] using pStatements_single (hseg p (by simp))
    · exact absurd (Or.inl (by simp)) hbig

/-- `script_concat_entry` for statements given with their rendering `toks` -/
theorem script_of_rendering {semi : Tok} (hs : IsSemi semi) (d : Gen.D) (toks : Stmt → List Tok) (ss : List Stmt)
    (h : ∀ s ∈ ss, pStatement d (fuelFor (toks s)) (toks s) = .ok (s, [])) (fin : Bool) :
    pStatements d (fuelFor (script semi (ss.map toks) fin)) (script semi (ss.map toks) fin) = .ok ss := by
  have := script_concat_entry hs d (ss.map fun s => (toks s, s)) (by
    intro p hp; obtain ⟨s, hs, rfl⟩ := List.mem_map.1 hp; exact h s hs) fin
  simpa [List.map_map, Function.comp_def] using this

/-- `script_concat` for statements given with their rendering: parser fuel `f` for every statement, `f + 1` for the loop -/
theorem script_loop_of_rendering {semi : Tok} (hs : IsSemi semi) (d : Gen.D) (toks : Stmt → List Tok) (ss : List Stmt) (f : Nat)
    (h : ∀ s ∈ ss, pStatement d f (toks s) = .ok (s, [])) (fin : Bool) :
    ∃ g₀, ∀ g, g₀ ≤ g → statementsLoop d (f + 1) g [] (script semi (ss.map toks) fin) = .ok ss := by
  obtain ⟨g₀, hg⟩ := script_concat hs d (f := f) (f' := f + 1) (by omega) (ss.map fun s => (toks s, s)) (by
    intro p hp; obtain ⟨s, hs, rfl⟩ := List.mem_map.1 hp; exact h s hs) fin
  exact ⟨g₀, fun g hle => by simpa [List.map_map, Function.comp_def] using hg g hle⟩

/-! ### non-vacuity on lexed texts (`String` operations do not reduce by `decide`: `#guard`) -/
/-- the top-level token list of a text under the shipped lexer configuration -/
def toks (s : String) : List Tok := match Lex.lex Gen.cfgS s.toList with | .ok ts => ts | .error _ => []
/-- the separator as the lexer emits it -/
def semi0 : Tok := Tok.single [';'] 0
def isOne (r : Except Err (Stmt × List Tok)) : Bool := match r with | .ok (_, []) => true | _ => false
/-- statements are compared through the canonical dump the correspondence uses (`Val` has no decidable equality) -/
def stmtOf (r : Except Err (Stmt × List Tok)) : List String := match r with | .ok (s, _) => [Drv.showVal s.toVal] | _ => []
def count (r : Except Err (List Stmt)) : Option Nat := match r with | .ok l => some l.length | .error _ => none
def reprs (r : Except Err (List Stmt)) : List String := match r with | .ok l => l.map (fun s => Drv.showVal s.toVal) | .error _ => []

-- the lexer produces exactly the separator token the theorems speak about, as a top-level token of its own
#guard eqbL (toks "SELECT 1; USE db") (toks "SELECT 1" ++ semi0 :: toks "USE db")
#guard eqbL (toks "SELECT 1 ;\n USE db ; ") (script semi0 [toks "SELECT 1", toks "USE db"] true)
#guard eqbL (toks "SELECT ';' FROM t; USE db") (script semi0 [toks "SELECT ';' FROM t", toks "USE db"] false)
#guard (toks "SELECT ';' FROM t").length = 4
-- the hypotheses of `script_concat` hold for these segments …
#guard isOne (pStatement .MYSQL 60 (toks "SELECT 1")) && isOne (pStatement .MYSQL 60 (toks "USE db"))
#guard isOne (pStatement .MYSQL 100 (toks "CREATE TABLE t (a INT)")) && isOne (pStatement .MYSQL 100 (toks "SET a.b = c-d"))
-- … and the loop returns the two stand-alone statements, in order
#guard count (statementsLoop .MYSQL 61 3 [] (toks "SELECT 1; USE db")) = some 2
#guard reprs (statementsLoop .MYSQL 61 3 [] (toks "SELECT 1; USE db")) = stmtOf (pStatement .MYSQL 60 (toks "SELECT 1")) ++ stmtOf (pStatement .MYSQL 60 (toks "USE db"))
#guard reprs (pStatements .MYSQL 101 (toks "CREATE TABLE t (a INT); SET a.b = c-d;")) =
  stmtOf (pStatement .MYSQL 100 (toks "CREATE TABLE t (a INT)")) ++ stmtOf (pStatement .MYSQL 100 (toks "SET a.b = c-d"))
-- the negative clause and its one exception
#guard count (pStatements .MYSQL 100 (toks "SELECT 1;; SELECT 1")) = none
#guard count (pStatements .MYSQL 100 (toks "CREATE TABLE t (a INT);; SELECT 1")) = some 2
-- CREATE TABLE really swallows the separator: stand-alone nothing is left, framed the tokens AFTER the `;` are left
#guard (match pCreateTable .MYSQL 100 (toks "CREATE TABLE t (a INT); USE db") with | .ok (_, r) => eqbL r (toks "USE db") | _ => false)

/-- why the frame lemmas are stated with MORE fuel for the framed run: at the end of the list `pKwRest` answers without a call,
before a `;` it needs one more level (to ask `pKwBody` whether `;` continues the predicate) -/
example : pKwRest .MYSQL 1 (.literal "1") false [] = .ok (.literal "1", []) ∧
    pKwRest .MYSQL 1 (.literal "1") false [semi0] = .error .fuel ∧
    pKwRest .MYSQL 2 (.literal "1") false [semi0] = .ok (.literal "1", [semi0]) := by
  have h : up (Tok.src semi0) = ";" := by decide
  exact ⟨rfl, rfl, by simp [pKwRest, pKwBody, h]⟩

-- the instance of `script_concat` on two lexed texts; its hypotheses are `String` computations the kernel does not decide, hence `∨ ¬ hypotheses`
example : ∃ g₀, ∀ g, g₀ ≤ g →
    statementsLoop .MYSQL 61 g [] (script semi0 ([(toks "SELECT 1", s₁), (toks "USE db", s₂)].map (·.1)) true) = .ok [s₁, s₂] ∨
    ¬ (pStatement .MYSQL 60 (toks "SELECT 1") = .ok (s₁, []) ∧ pStatement .MYSQL 60 (toks "USE db") = .ok (s₂, [])) := by
  by_cases h : pStatement .MYSQL 60 (toks "SELECT 1") = .ok (s₁, []) ∧ pStatement .MYSQL 60 (toks "USE db") = .ok (s₂, [])
  · obtain ⟨g₀, hg⟩ := script_concat isSemi_lexed .MYSQL (f := 60) (f' := 61) (by omega)
      [(toks "SELECT 1", s₁), (toks "USE db", s₂)] (by intro p hp; simp at hp; rcases hp with rfl | rfl; exact h.1; exact h.2) true
    exact ⟨g₀, fun g hge => Or.inl (by simpa [semi0] using hg g hge)⟩
  · exact ⟨0, fun _ _ => Or.inr h⟩

end C10
