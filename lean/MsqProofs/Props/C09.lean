import MsqProofs.Props.C06
/-!
# C09 — layout, comments and keyword case do not change the tokens (lexer half)

About the shipped table `Gen.cfgS`, for ALL contexts, stated about `lexText` (the lexer after the pre-pass:
`lex cfg raw = lexText cfg (cfg.pre raw)`; the pre-pass turns TAB, CR LF and U+3000 into the blanks treated here).

* `blank_run`: the amount and kind of whitespace between two tokens is irrelevant — whether the lexer is between tokens
  after `a` (`blank_run`) or in the middle of a token that a blank ends (`blank_run_pending`: word, number, operator,
  closed string; `blankEnded` lists the states);
* `comment_as_blank`: a block comment separates exactly like a blank (both forms again);
* `keyword_case`: the marks of a word depend only on its upper-case form; every letter-case variant of every entry of
  the keyword table lexes to one token with that entry's marks.

Everything is an instance of the *gap lemmas* `C06.gap_irrelevant` and `gap_irrelevant_pending` (below): two texts
that differ only in a gap (a piece of text that, read from between tokens, leaves no trace) lex identically.
-/
namespace C09
open Lex Spec C05 C06

/-! ## gaps made of blanks -/

/-- a run of blanks and line breaks (what the pre-pass leaves of any whitespace) -/
def isBlanks (w : List Char) : Prop := ∀ c ∈ w, c = ' ' ∨ c = '\n'

theorem gap_blank (c : Char) (h : c = ' ' ∨ c = '\n') : Gap [c] := by
  intro T n stk
  have hl : Gen.cfgS.lookup .WAIT (.ch c) = some skip := by
    rcases h with rfl | rfl
    · exact wait_blank
    · exact wait_newline
  have h1 := handle_skip shipped_code (text := T) (m := ⟨n, n, .WAIT, stk⟩) hl
  rw [feedAllWith_one, feedWith_adv h1]
  rfl

theorem gap_blanks (w : List Char) (h : isBlanks w) : Gap w := by
  induction w with
  | nil => exact gap_nil
  | cons c cs ih =>
    have : c :: cs = [c] ++ cs := rfl
    rw [this]
    exact gap_append (gap_blank c (h c (by simp))) (ih fun d hd => h d (by simp [hd]))

/-- Between tokens: if the lexer is between tokens after `a`, then for any two runs of blanks and
line breaks `w`, `w'` (of any lengths, also empty) and any continuation `b`, the texts `a w b` and `a w' b` lex to the
same result (equal token trees, or the same error). -/
theorem blank_run (a b w w' : List Char) (stk : List (List Tok)) (hA : WaitAfter Gen.cfgS a stk)
    (hw : isBlanks w) (hw' : isBlanks w') : lexText Gen.cfgS (a ++ w ++ b) = lexText Gen.cfgS (a ++ w' ++ b) :=
  gap_irrelevant a b w w' stk hA (gap_blanks w hw) (gap_blanks w' hw')

/-- Between tokens: a block comment acts exactly like one blank -/
theorem comment_as_blank (a b p : List Char) (stk : List (List Tok)) (hA : WaitAfter Gen.cfgS a stk)
    (hp : hasBlockEnd p = false) :
    lexText Gen.cfgS (a ++ '/' :: '*' :: (p ++ ['*', '/']) ++ b) = lexText Gen.cfgS (a ++ [' '] ++ b) :=
  gap_irrelevant a b _ _ stk hA (gap_block p hp) (gap_blank ' ' (Or.inl rfl))

/-- … and so does a line comment with its line break -/
theorem line_comment_as_blank (a b p : List Char) (stk : List (List Tok)) (hA : WaitAfter Gen.cfgS a stk)
    (hp : ∀ c ∈ p, c ≠ '\n') :
    lexText Gen.cfgS (a ++ '-' :: '-' :: (p ++ ['\n']) ++ b) = lexText Gen.cfgS (a ++ ['\n'] ++ b) ∧
    lexText Gen.cfgS (a ++ '#' :: (p ++ ['\n']) ++ b) = lexText Gen.cfgS (a ++ ['\n'] ++ b) :=
  ⟨gap_irrelevant a b _ _ stk hA (gap_line p hp).1 (gap_blank '\n' (Or.inr rfl)),
   gap_irrelevant a b _ _ stk hA (gap_line p hp).2 (gap_blank '\n' (Or.inr rfl))⟩

example : WaitAfter Gen.cfgS "a,".toList [[.single ['a'] 2, .single [','] 0]] ∧ isBlanks " \n  ".toList ∧ isBlanks [] ∧
    lexesTo (lex Gen.cfgS "a, \n  b".toList) [.single ['a'] 2, .single [','] 0, .single ['b'] 2] = true ∧
    lexesTo (lex Gen.cfgS "a,b".toList) [.single ['a'] 2, .single [','] 0, .single ['b'] 2] = true ∧
    lexesTo (lex Gen.cfgS "a,/* x */b".toList) [.single ['a'] 2, .single [','] 0, .single ['b'] 2] = true :=
  ⟨waitAfterB_sound _ _ _ (by decide +kernel), (by intro c hc; revert c; decide), (by intro c hc; cases hc),
   (by decide +kernel), (by decide +kernel), (by decide +kernel)⟩

/-! ## gaps after an unfinished token -/

theorem win_context (a x : List Char) (st : Nat) (q : S) (stk : List (List Tok)) :
    win (a ++ x) ⟨st, a.length, q, stk⟩ a.length = win a ⟨st, a.length, q, stk⟩ a.length := by
  simp only [win]
  exact slice_prefix (a ++ x) a a.length st a.length (by simp) (Nat.le_refl _)

/-- a gap read after an unfinished token whose first character ends that token: the token is completed, then the gap
leaves no trace -/
theorem gap_after_pending (T u : List Char) (hu : Gap u) (c : Char) (u' : List Char) (hc : u = c :: u') (o : Op)
    (ho : endsBefore o = true) (st n : Nat) (s : S) (f : List Tok) (fs : List (List Tok))
    (hl : Gen.cfgS.lookup s (.ch c) = some o) :
    feedAllWith (handle Gen.cfgS T) u ⟨st, n, s, f :: fs⟩ =
      .ok ⟨n + u.length, n + u.length, .WAIT, (f ++ endToks Gen.cfgS o (win T ⟨st, n, s, f :: fs⟩ n)) :: fs⟩ := by
  have h1 := handle_endsBefore shipped_code ho T (m := ⟨st, n, s, f :: fs⟩) hl rfl
  have := hu T n ((f ++ endToks Gen.cfgS o (win T ⟨st, n, s, f :: fs⟩ n)) :: fs)
  rw [hc] at this ⊢
  simp only [feedAllWith] at this ⊢
  rw [feedWith_retry' h1]
  rw [feedWith_wait] at this
  exact this

/-- the **gap lemma after an unfinished token**: let the lexer, after `a`, be in state `s` with a pending window; let
`u1`, `u2` be gaps whose first characters end the pending token by the same operation.  Then `a u1 b` and `a u2 b` lex
identically. -/
theorem gap_irrelevant_pending (a b u1 u2 : List Char) (st : Nat) (s : S) (f : List Tok) (fs : List (List Tok))
    (hA : feedAllWith (handle Gen.cfgS a) a {} = .ok ⟨st, a.length, s, f :: fs⟩)
    (h1 : Gap u1) (h2 : Gap u2) (c1 c2 : Char) (r1 r2 : List Char) (e1 : u1 = c1 :: r1) (e2 : u2 = c2 :: r2)
    (o : Op) (ho : endsBefore o = true)
    (hl1 : Gen.cfgS.lookup s (.ch c1) = some o) (hl2 : Gen.cfgS.lookup s (.ch c2) = some o) :
    lexText Gen.cfgS (a ++ u1 ++ b) = lexText Gen.cfgS (a ++ u2 ++ b) := by
  rw [lexText_after hA, lexText_after hA]
  apply ERel.eq_of_all₂
  apply runTail_ctx TokRel.eq Gen.cfgS shipped_good (a ++ u1) (a ++ u2) b
  rw [gap_after_pending _ u1 h1 c1 r1 e1 o ho st a.length s f fs hl1,
    gap_after_pending _ u2 h2 c2 r2 e2 o ho st a.length s f fs hl2]
  have w1 : win (a ++ u1 ++ b) ⟨st, a.length, s, f :: fs⟩ a.length = win a ⟨st, a.length, s, f :: fs⟩ a.length := by
    rw [List.append_assoc]; exact win_context a _ st s _
  have w2 : win (a ++ u2 ++ b) ⟨st, a.length, s, f :: fs⟩ a.length = win a ⟨st, a.length, s, f :: fs⟩ a.length := by
    rw [List.append_assoc]; exact win_context a _ st s _
  rw [w1, w2]
  exact .at_ends (by simp) (by simp) (TokRel.eq.reflS _)

/-- the states in which a blank and a line break end the pending token by one and the same operation -/
def blankEnded (s : S) : Bool :=
  match Gen.cfgS.lookup s (.ch ' '), Gen.cfgS.lookup s (.ch '\n') with
  | some o1, some o2 => o1 == o2 && endsBefore o1
  | _, _ => false

/-- they are: after an operator character, in a number of any kind, after `b`/`x`, after the closing quote of a string,
in a word -/
example : allS.filter blankEnded =
    [.AFTER_21, .AFTER_26, .AFTER_2D, .AFTER_2F, .AFTER_3C, .AFTER_3C_3D, .AFTER_3E, .AFTER_7C, .AFTER_0, .AFTER_B, .AFTER_X,
     .IN_HEX_LITERAL_AFTER_0X, .IN_BIT_LITERAL_AFTER_0B, .IN_INT, .IN_FLOAT, .IN_DOUBLE_QUOTE_AFTER_22,
     .IN_SINGLE_QUOTE_AFTER_27, .IN_WORD] := by decide +kernel

theorem blankEnded_spec (s : S) (h : blankEnded s = true) (c : Char) (hc : c = ' ' ∨ c = '\n') :
    ∃ o, endsBefore o = true ∧ Gen.cfgS.lookup s (.ch ' ') = some o ∧ Gen.cfgS.lookup s (.ch c) = some o := by
  unfold blankEnded at h
  cases h1 : Gen.cfgS.lookup s (.ch ' ') with
  | none => simp [h1] at h
  | some o1 =>
    cases h2 : Gen.cfgS.lookup s (.ch '\n') with
    | none => simp [h1, h2] at h
    | some o2 =>
      simp only [h1, h2, Bool.and_eq_true, beq_iff_eq] at h
      refine ⟨o1, h.2, rfl, ?_⟩
      rcases hc with rfl | rfl
      · exact h1
      · rw [h2, h.1]

/-- After an unfinished token: if after `a` the lexer is in a state that a blank ends
(`blankEnded`: word, number, operator, closed string), then for any two NON-EMPTY runs of blanks and line breaks `w`,
`w'` and any continuation `b`, the texts `a w b` and `a w' b` lex to the same result. -/
theorem blank_run_pending (a b w w' : List Char) (st : Nat) (s : S) (f : List Tok) (fs : List (List Tok))
    (hA : feedAllWith (handle Gen.cfgS a) a {} = .ok ⟨st, a.length, s, f :: fs⟩) (hs : blankEnded s = true)
    (hw : isBlanks w) (hw' : isBlanks w') (hne : w ≠ []) (hne' : w' ≠ []) :
    lexText Gen.cfgS (a ++ w ++ b) = lexText Gen.cfgS (a ++ w' ++ b) := by
  cases w with
  | nil => exact absurd rfl hne
  | cons c1 r1 =>
    cases w' with
    | nil => exact absurd rfl hne'
    | cons c2 r2 =>
      obtain ⟨o, ho, hsp, hl1⟩ := blankEnded_spec s hs c1 (hw c1 (by simp))
      obtain ⟨o', _, hsp', hl2⟩ := blankEnded_spec s hs c2 (hw' c2 (by simp))
      have : o' = o := by rw [hsp] at hsp'; exact (Option.some.inj hsp').symm
      subst this
      exact gap_irrelevant_pending a b _ _ st s f fs hA (gap_blanks _ hw) (gap_blanks _ hw') c1 c2 r1 r2 rfl rfl o' ho
        hl1 hl2

/-- After an unfinished token: in a state where `/` ends the pending token by the same
operation as a blank, a block comment separates exactly like one blank: `ab/* p */cd` lexes as `ab cd`. -/
theorem comment_as_blank_pending (a b p : List Char) (st : Nat) (s : S) (f : List Tok) (fs : List (List Tok))
    (hA : feedAllWith (handle Gen.cfgS a) a {} = .ok ⟨st, a.length, s, f :: fs⟩) (o : Op) (ho : endsBefore o = true)
    (hl1 : Gen.cfgS.lookup s (.ch '/') = some o) (hl2 : Gen.cfgS.lookup s (.ch ' ') = some o)
    (hp : hasBlockEnd p = false) :
    lexText Gen.cfgS (a ++ '/' :: '*' :: (p ++ ['*', '/']) ++ b) = lexText Gen.cfgS (a ++ [' '] ++ b) :=
  gap_irrelevant_pending a b _ _ st s f fs hA (gap_block p hp) (gap_blank ' ' (Or.inl rfl)) '/' ' ' _ _ rfl rfl o ho hl1 hl2

/-- the states to which `comment_as_blank_pending` applies: all of `blankEnded` -/
example : (allS.filter blankEnded).all (fun s =>
    Gen.cfgS.lookup s (.ch '/') == Gen.cfgS.lookup s (.ch ' ')) = true := by decide +kernel

/-- non-vacuity of the pending forms: after `SELECT ab` the lexer is inside the word `ab` -/
example : (match feedAllWith (handle Gen.cfgS "SELECT ab".toList) "SELECT ab".toList {} with
      | .ok m => m.start == 7 && m.now == 9 && m.status == .IN_WORD && stackEqb m.stack [[.single "SELECT".toList 0]]
      | .error _ => false) = true ∧ blankEnded .IN_WORD = true ∧
    lexesTo (lex Gen.cfgS "SELECT ab \n cd".toList) [.single "SELECT".toList 0, .single "ab".toList 2, .single "cd".toList 2] = true ∧
    lexesTo (lex Gen.cfgS "SELECT ab/* ' */cd".toList) [.single "SELECT".toList 0, .single "ab".toList 2, .single "cd".toList 2] = true := by
  decide +kernel

/-! ## keyword case -/

theorem wordMark_upper (v w : List Char) (h : Gen.cfgS.upper v = Gen.cfgS.upper w) : wordMark v = wordMark w := by
  simp only [wordMark, resolveMarks, h]

/-- Lean's `toLower` / `toUpper` change ASCII letters only, and there the upper-case form is the same -/
theorem upper_case (c : Char) : Gen.pyUpper [c.toLower] = Gen.pyUpper [c] ∧ Gen.pyUpper [c.toUpper] = Gen.pyUpper [c] := by
  by_cases h : c.toNat < 128
  · have ascii : ∀ n < 128, Gen.pyUpper [(Char.ofNat n).toLower] = Gen.pyUpper [Char.ofNat n] ∧
        Gen.pyUpper [(Char.ofNat n).toUpper] = Gen.pyUpper [Char.ofNat n] := by decide +kernel
    simpa using ascii c.toNat h
  · have hZ : 'Z'.val.toNat = 90 := rfl
    have hz : 'z'.val.toNat = 122 := rfl
    have h1 : c.toLower = c := dif_neg fun hh => h (by
      have := UInt32.le_iff_toNat_le.mp hh.2; rw [hZ] at this; show c.val.toNat < 128; omega)
    have h2 : c.toUpper = c := dif_neg fun hh => h (by
      have := UInt32.le_iff_toNat_le.mp hh.2; rw [hz] at this; show c.val.toNat < 128; omega)
    rw [h1, h2]; exact ⟨rfl, rfl⟩

theorem upper_caseVariants : ∀ (w v : List Char), v ∈ caseVariants w → Gen.pyUpper v = Gen.pyUpper w
  | [], v, h => by simp [caseVariants] at h; rw [h]
  | c :: r, v, h => by
    have cons : ∀ (a : Char) (u : List Char), Gen.pyUpper (a :: u) = Gen.pyUpper [a] ++ Gen.pyUpper u := by
      simp [Gen.pyUpper, Py.upperWith]
    simp only [caseVariants, List.mem_flatMap, List.mem_cons, List.not_mem_nil, or_false] at h
    obtain ⟨u, hu, rfl | rfl⟩ := h <;> rw [cons, cons c, upper_caseVariants r u hu]
    · rw [(upper_case c).1]
    · rw [(upper_case c).2]

/-- what `keyword_case` checks for one entry of the keyword table: every letter-case variant of the keyword has the
entry's marks and lexes to exactly one token carrying them -/
def caseOK (e : String × Nat) : Bool :=
  (caseVariants e.1.toList).all fun v => wordMark v == e.2 && lexesTo (lex Gen.cfgS v) [.single v e.2]

/-- the keyword has the entry's marks, and every letter-case variant of it is a word in the sense of `C05.word_token` -/
def caseIsWord (e : String × Nat) : Bool :=
  wordMark e.1.toList == e.2 && (caseVariants e.1.toList).all fun v => isWord v && v.all plain

theorem caseOK_of_isWord (e : String × Nat) (h : caseIsWord e = true) : caseOK e = true := by
  simp only [caseIsWord, Bool.and_eq_true, beq_iff_eq, List.all_eq_true] at h
  simp only [caseOK, List.all_eq_true, Bool.and_eq_true, beq_iff_eq]
  intro v hv
  have hm : wordMark v = e.2 := by rw [wordMark_upper v _ (upper_caseVariants _ v hv)]; exact h.1
  rw [word_token v (h.2 v hv).1 (h.2 v hv).2, hm]
  exact ⟨rfl, by simp [lexesTo, eqbL, Tok.eqb]⟩

/-- for EVERY entry of the keyword table `HANDLE_WORD_TO_MARK_HASH` (regenerated) and EVERY
letter-case variant of its keyword (2^length of them), the variant lexes to one token with the entry's marks — so the
letter case of a keyword never changes the token classes the parser sees. -/
theorem keyword_case : Gen.wordMarks.all caseOK = true := by
  -- `BY` begins with a `B`, which may begin a bit literal: it is no word of `word_token`, and its variants are run
  have h : (Gen.wordMarks.all fun e => caseIsWord e || caseOK e) = true := by decide +kernel
  rw [List.all_eq_true] at h ⊢
  intro e he
  rcases Bool.or_eq_true_iff.mp (h e he) with h | h
  · exact caseOK_of_isWord e h
  · exact h

/-- non-vacuity: the table is not empty, and the number of variants checked -/
example : Gen.wordMarks.length = 27 ∧ ((Gen.wordMarks.map fun e => (caseVariants e.1.toList).length).foldl (· + ·) 0) = 1292 ∧
    "iNtErSeCt".toList ∈ caseVariants "INTERSECT".toList := by decide +kernel

end C09
