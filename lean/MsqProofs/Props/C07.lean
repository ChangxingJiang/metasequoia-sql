import MsqProofs.Lemmas.ParseNoPyStmt
import MsqProofs.Lemmas.ParseTextInv
import MsqProofs.Oblig.LexNoPyCfg
/-!
# C07 — malformed input fails closed: outcome typing of the parser and lexer models

What the correspondence ties to `metasequoia_sql/core/parser.py` and `lexical/fsm_machine.py` is a total function into
`Except Err _`; the property is that the only errors are the library's own family.  Here that is proved for the MODEL, on
every input, by typing:

* `parser_error_kinds` / `parser_no_foreign` — every function of the parser model (the 80-function expression / SELECT
  block, the helpers, the statement level, every entry of `PM.entries`), for every dialect, every fuel, every token list:
  an error is `.parse` (`SqlParseError`), `.fuel` (the model's own budget) or `.unmodelled _` — never `.py _`, and
  neither `.lexical`, `.notSupported`, `.analyzer`, `.diverges`.  The ONE function that can return a foreign exception
  is the model of Python's `int(str)` (`pyInt_leaks_ValueError`, exact); its two callers catch it (`_pop_as_int`) or test
  `is_int_literal` first (`as_int`), which is part of what is proved.
* `lexer_fails_closed` — `FSMMachine.parse` with the shipped table returns tokens or `.lexical` on every text.
* `statements_error_kinds`, `entry_error_kinds` / `text_no_foreign` — `SQLParser.parse_statements(text)` and every `SQLParser.parse_<entry>(text)`:
  lexer + dialect pre-pass + parser.
* `fuel_mono_text`, `fuel_mono_entries`, `fuel_deterministic` are in `C07Fuel.lean` (they need the monotonicity lemmas).

The proofs of the parser part are generated (`tools/gen_out.py` → `Lemmas/ParseOut*.lean`, read off in `Lemmas/ParseNoPy.lean`, `Lemmas/ParseNoPyStmt.lean`)
and re-checked by the kernel on every build, so a model edit that introduces `.error (.py _)` anywhere breaks the build
at the function that does it.
-/
namespace C07
open Lex PM

theorem kinds (x : Err) : x.parserKind = true ↔ x = .parse ∨ x = .fuel ∨ ∃ w, x = .unmodelled w := Err.parserKind_iff x

/-! ## 1. the parser model -/

/-- **Every function of the parser model**, every dialect `d`, every fuel `f`, all arguments: the error, if any, is
`.parse`, `.fuel` or `.unmodelled _`.  `NoPyF d f` has one field per function of the mutual block of `Parse/Expr.lean`
(80), `NoPyS d f` one per other function of `Parse/{Expr,Stmt,Entry}.lean` (72); the cursor primitives of `Parse/Prim.lean`
are `PM.pop_nopy`, `matchKw_nopy`, `matchSeq_nopy`, `popSrc_nopy`, `headChildren_nopy`, `popInt_nopy`, `asInt_nopy`,
`popAsInt_nopy`; `closed` and `eachClosed` add `.parse` only (`closed_error`, `eachClosed_error`). -/
theorem parser_error_kinds (d : Gen.D) (f : Nat) : NoPyF d f ∧ NoPyS d f := ⟨noPyF d f, noPyS d f⟩

theorem kinds_of_nopy {α : Type} {r : Except Err α} {x : Err} (hn : x.parserKind = false → r ≠ .error x) (h : r = .error x) :
    x = .parse ∨ x = .fuel ∨ ∃ w, x = .unmodelled w := by
  rw [← Err.parserKind_iff]
  cases hk : x.parserKind with
  | true => rfl
  | false => exact absurd h (hn hk)

/-- every entry point of the model (the table `PM.entries` = the public `parse_*` methods after lexing) -/
theorem entries_error_kinds (name : String) (p : Entry) (hp : (name, p) ∈ entries) (d : Gen.D) (f : Nat) (ts : List Tok) (x : Err)
    (h : p d f ts = .error x) : x = .parse ∨ x = .fuel ∨ ∃ w, x = .unmodelled w :=
  kinds_of_nopy (entries_nopy _ hp d f ts x) h

/-- **C07.parser_no_foreign**: no function of the parser model returns a foreign Python exception (`IndexError`,
`KeyError`, `AttributeError`, `ValueError`, `TypeError`, …) — for every dialect, every fuel, every token list.  The first two
components give it for every function (instantiate the field with `Err.py e`, `rfl`); the last two spell it out for the
entry points and for `parse_statements`. -/
theorem parser_no_foreign (d : Gen.D) (f : Nat) :
    NoPyF d f ∧ NoPyS d f ∧
    (∀ p ∈ entries, ∀ ts e, p.2 d f ts ≠ .error (.py e)) ∧
    (∀ ts e, pStatements d f ts ≠ .error (.py e)) :=
  ⟨noPyF d f, noPyS d f, fun p hp ts e => entries_nopy p hp d f ts (.py e) rfl, fun ts e => pStatements_nopy d f ts (.py e) rfl⟩

/-- how the fields are used: e.g. `_parse_logical_or_level_expression` and `_parse_create_table_statement` -/
example (d : Gen.D) (f : Nat) (ts : List Tok) (e : Py.Exc) : pOr d f ts ≠ .error (.py e) := (parser_no_foreign d f).1.pOr ts _ rfl
example (d : Gen.D) (f : Nat) (ts : List Tok) (e : Py.Exc) : pCreateTable d f ts ≠ .error (.py e) := (parser_no_foreign d f).2.1.pCreateTable ts _ rfl
example (d : Gen.D) (f : Nat) (ts : List Tok) : pLimit ts ≠ .error (.py .ValueError) := (parser_no_foreign d f).2.1.pLimit ts _ rfl

/-- The one place where a foreign exception exists in the model: `int(str)` raises `ValueError` exactly on ASCII text that
is not an integer literal (`int('x')`) or is one with more than 4300 digits (`sys.get_int_max_str_digits()`), and nothing
else.  It does not escape: see `PM.popInt_nopy`, `PM.asInt_nopy` (`as_int` catches it since the repair 26a7a5d; before it,
`LIMIT` followed by 4301 digits escaped as `ValueError`). -/
theorem pyInt_leaks_ValueError (s : String) (e : Py.Exc) :
    pyInt s = .error (.py e) ↔
      e = .ValueError ∧ hasNonAscii s = false ∧
        (isAsciiIntBody (intBody s.toList) = false ∨ 4300 < ((intBody s.toList).filter Char.isDigit).length) := by
  rw [pyInt_error]
  simp only [tooManyDigits, decide_eq_true_eq]
  constructor
  · rintro (⟨_, h⟩ | ⟨h1, h2, h3⟩)
    · cases h
    · cases h3; exact ⟨rfl, h1, h2⟩
  · rintro ⟨rfl, h1, h2⟩; exact .inr ⟨h1, h2, rfl⟩

/-- `as_int` on an integer literal (`^[+-]?\d+$`, ASCII): the integer `int()` gives, or — more than 4300 digits — the
library's parse error -/
theorem asInt_on_int_literal (s : String) (hna : hasNonAscii s = false) (hlit : isIntLiteral s = true) :
    (((intBody s.toList).filter Char.isDigit).length ≤ 4300 ∧ ∃ n, asInt s = .ok n ∧ pyInt s = .ok n) ∨
    (4300 < ((intBody s.toList).filter Char.isDigit).length ∧ asInt s = .error .parse) := by
  rcases asInt_of_isIntLiteral s hna hlit with ⟨h, r⟩ | ⟨h, r⟩
  · left; simp only [tooManyDigits, decide_eq_false_iff_not, Nat.not_lt] at h; exact ⟨h, r⟩
  · right; simp only [tooManyDigits, decide_eq_true_eq] at h; exact ⟨h, r⟩

/-! ## 2. lexer, and text to tree -/

/-- **The lexer fails closed** on every text: tokens or `LexicalParseError`. -/
theorem lexer_fails_closed (text : List Char) : (∃ ts, lex Gen.cfgS text = .ok ts) ∨ lex Gen.cfgS text = .error .lexical :=
  lex_ok_or_lexical Oblig.noPyOK_shipped text

/-- … and for each of the eight option settings of the lexer (`IGNORE_SPACE`, `IGNORE_LINEBREAK`, `IGNORE_COMMENT`) -/
theorem lexer_fails_closed_all (text : List Char) :
    ∀ cfg ∈ [Gen.Cfg0.cfg, Gen.Cfg1.cfg, Gen.Cfg2.cfg, Gen.Cfg3.cfg, Gen.Cfg4.cfg, Gen.Cfg5.cfg, Gen.Cfg6.cfg, Gen.Cfg7.cfg],
      (∃ ts, lex cfg text = .ok ts) ∨ lex cfg text = .error .lexical := by
  intro cfg h
  simp only [List.mem_cons, List.not_mem_nil, or_false] at h
  rcases h with rfl | rfl | rfl | rfl | rfl | rfl | rfl | rfl
  · exact lex_ok_or_lexical Oblig.noPyOK_cfg0 text
  · exact lex_ok_or_lexical Oblig.noPyOK_cfg1 text
  · exact lex_ok_or_lexical Oblig.noPyOK_cfg2 text
  · exact lex_ok_or_lexical Oblig.noPyOK_cfg3 text
  · exact lex_ok_or_lexical Oblig.noPyOK_cfg4 text
  · exact lex_ok_or_lexical Oblig.noPyOK_cfg5 text
  · exact lex_ok_or_lexical Oblig.noPyOK_cfg6 text
  · exact lex_ok_or_lexical Oblig.noPyOK_cfg7 text

/-- an error of `parse_statements(text)` is the lexer's, and then the lexical error, or the parser's on the tokens -/
theorem statements_error_from (d : Gen.D) (text : List Char) (x : Err) (h : parseStatementsText d text = .error x) :
    x = .lexical ∨ ∃ ts, pStatements d (fuelFor ts) ts = .error x := by
  rcases parseStatementsText_error h with hl | ⟨ts, _, hp⟩
  · exact .inl (lex_error_lexical Oblig.noPyOK_shipped _ _ hl)
  · exact .inr ⟨ts, hp⟩

/-- … and of `parse_<entry>(text)`: the lexer's, the marker for a name that is not in the table, or the entry's on the tokens -/
theorem entry_error_from (entry : String) (d : Gen.D) (text : List Char) (x : Err) (h : parseText entry d text = .error x) :
    x = .lexical ∨ x = .unmodelled ("entry point " ++ entry) ∨
      ∃ p ts, (entry, p) ∈ entries ∧ p d (fuelFor ts) ts = .error x := by
  rcases parseText_error h with rfl | ⟨p, hp, hl | ⟨ts, _, he⟩⟩
  · exact .inr (.inl rfl)
  · exact .inl (lex_error_lexical Oblig.noPyOK_shipped _ _ hl)
  · exact .inr (.inr ⟨p, ts, hp, he⟩)

/-- `SQLParser.parse_statements(text, sql_type)`: every dialect, every text.  The error kinds of a whole call: the library's
lexical error, the library's parse error, or one of the model's two markers (`.fuel`: see fuel adequacy; `.unmodelled _`: the
correspondence skips and counts the input) -/
theorem statements_error_kinds (d : Gen.D) (text : List Char) (x : Err) (h : parseStatementsText d text = .error x) :
    x = .lexical ∨ x = .parse ∨ x = .fuel ∨ ∃ w, x = .unmodelled w := by
  rcases statements_error_from d text x h with rfl | ⟨ts, hp⟩
  · exact .inl rfl
  · exact .inr (kinds_of_nopy (pStatements_nopy d _ ts x) hp)

/-- `SQLParser.parse_<entry>(text, sql_type)`: every entry-point name, every dialect, every text (a name that is not in the
table is `.unmodelled`) -/
theorem entry_error_kinds (entry : String) (d : Gen.D) (text : List Char) (x : Err) (h : parseText entry d text = .error x) :
    x = .lexical ∨ x = .parse ∨ x = .fuel ∨ ∃ w, x = .unmodelled w := by
  rcases entry_error_from entry d text x h with rfl | rfl | ⟨p, ts, hp, he⟩
  · exact .inl rfl
  · exact .inr (.inr (.inr ⟨_, rfl⟩))
  · exact .inr (kinds_of_nopy (entries_nopy _ hp d _ ts x) he)

/-- **C07.text_no_foreign**: from text to tree, no foreign exception — `parse_statements` and every `parse_<entry>`, every
dialect, every text. -/
theorem text_no_foreign (d : Gen.D) (text : List Char) :
    (∀ e, parseStatementsText d text ≠ .error (.py e)) ∧ (∀ entry e, parseText entry d text ≠ .error (.py e)) := by
  refine ⟨fun e h => ?_, fun entry e h => ?_⟩
  · have := statements_error_kinds d text _ h; simp at this
  · have := entry_error_kinds entry d text _ h; simp at this

/-- the outcome is in the library's family, or one of the model's two markers: the form the check's oracle uses
(`FAMILY = OK | LEX | PARSE | NOTSUP`) -/
theorem text_in_family (d : Gen.D) (text : List Char) :
    (match parseStatementsText d text with
     | .ok _ => True
     | .error x => x.inFamily = true ∨ x = .fuel ∨ ∃ w, x = .unmodelled w) := by
  split
  · trivial
  · rename_i x h
    rcases statements_error_kinds d text x h with rfl | rfl | rfl | ⟨w, rfl⟩
    · exact .inl rfl
    · exact .inl rfl
    · exact .inr (.inl rfl)
    · exact .inr (.inr ⟨w, rfl⟩)

/-! ## non-vacuity (kernel-evaluated) -/

/-- accepted (no `LIMIT n` here: the kernel cannot evaluate `String.contains` with a string pattern, which `pyInt` uses for
`int('1__0')`; compiled evaluation — the driver — can) -/
example : (match parseStatementsText .MYSQL "SELECT a, COUNT(b) AS n FROM s.t WHERE c IN (1, 2) GROUP BY a ORDER BY n DESC; USE db".toList with
    | .ok ss => ss.length == 2 | .error _ => false) = true := by decide +kernel
/-- rejected with the library's parse error: the property's own example (`SELECT` alone reached `elements[pos]` past the
end before the repair of `TokenScanner`), a non-integer `LIMIT`, a non-integer window bound, an unclosed CASE -/
example : (match parseStatementsText .MYSQL "SELECT".toList with | .error .parse => true | _ => false) = true := by decide +kernel
example : (match parseStatementsText .MYSQL "SELECT a FROM t LIMIT x".toList with | .error .parse => true | _ => false) = true := by decide +kernel
example : (match parseStatementsText .HIVE "SELECT SUM(a) OVER (ORDER BY b ROWS BETWEEN x PRECEDING AND CURRENT ROW) FROM t".toList with
    | .error .parse => true | _ => false) = true := by decide +kernel
example : (match parseText "case_expression" .MYSQL "CASE WHEN a THEN 1".toList with | .error .parse => true | _ => false) = true := by decide +kernel
/-- rejected by the lexer -/
example : (match parseStatementsText .MYSQL "SELECT 'abc".toList with | .error .lexical => true | _ => false) = true := by decide +kernel
example : (match parseStatementsText .MYSQL "SELECT a)".toList with | .error .lexical => true | _ => false) = true := by decide +kernel
/-- an entry point that stops early reports what it left (no error) -/
example : (match parseText "compute_expression" .MYSQL "a + 1 FROM".toList with | .ok (_, n) => n == 1 | .error _ => false) = true := by decide +kernel

/-- the 4301-digit case (compiled evaluation; the kernel cannot reduce `String.contains` with a string pattern): `int()`
refuses, `as_int` and the whole statement answer with the library's parse error; 4300 digits are accepted -/
def digits (n : Nat) : String := String.ofList (List.replicate n '7')
#guard (match pyInt (digits 4301) with | .error (.py .ValueError) => true | _ => false)
#guard (match asInt (digits 4301) with | .error .parse => true | _ => false)
#guard (match asInt (digits 4300) with | .ok _ => true | _ => false)
#guard (match parseStatementsText .MYSQL ("SELECT a FROM t LIMIT " ++ digits 4301).toList with | .error .parse => true | _ => false)
#guard (match parseStatementsText .MYSQL ("SELECT a FROM t LIMIT " ++ digits 4300).toList with | .ok ss => ss.length == 1 | _ => false)
#guard (match parseStatementsText .MYSQL "SELECT a FROM t LIMIT 3".toList with | .ok ss => ss.length == 1 | _ => false)

end C07
