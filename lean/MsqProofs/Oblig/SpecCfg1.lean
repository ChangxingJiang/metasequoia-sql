import MsqProofs.Lemmas.LexSpecWalk
import MsqModel.Gen.LexCfg1
/-! C05 table obligation for option setting 1 (4·IGNORE_SPACE + 2·IGNORE_LINEBREAK + IGNORE_COMMENT): every cell of the
regenerated table equals the specification automaton `Spec.cellD 1`; re-checked by the kernel on every run -/
namespace Oblig
theorem specAgree_cfg1 : Spec.agreeFin Gen.Cfg1.cfg 1 = true :=
  Spec.agreeFinW_sound _ _ (by decide +kernel)
end Oblig
