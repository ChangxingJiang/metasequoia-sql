import MsqProofs.Lemmas.LexScanWalk
import MsqModel.Gen.LexCfg1
/-! C04 (b, c) table obligation `simCheck` (`Lemmas/LexScan.lean`) for option setting 1, re-checked by the kernel on the
regenerated table on every run. -/
namespace Oblig
theorem scanSim_cfg1 : Scan.simCheck Gen.Cfg1.cfg = true :=
  Scan.simCheckW_sound _ (by decide +kernel)
end Oblig
