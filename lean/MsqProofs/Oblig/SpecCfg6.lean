import MsqProofs.Lemmas.LexSpecWalk
import MsqModel.Gen.LexCfg6
/-! C05 table obligation for option setting 6 (4·IGNORE_SPACE + 2·IGNORE_LINEBREAK + IGNORE_COMMENT): every cell of the
regenerated table equals the specification automaton `Spec.cellD 6`; re-checked by the kernel on every run -/
namespace Oblig
theorem specAgree_cfg6 : Spec.agreeFin Gen.Cfg6.cfg 6 = true :=
  Spec.agreeFinW_sound _ _ (by decide +kernel)
end Oblig
