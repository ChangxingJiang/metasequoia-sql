import MsqProofs.Lemmas.LexRetain2Walk
import MsqModel.Gen.LexCfg5
/-! C04 (d) table obligation `retCheck` (`Lemmas/LexRetain2Defs.lean`) for option setting 5
(4·IGNORE_SPACE + 2·IGNORE_LINEBREAK + IGNORE_COMMENT), re-checked by the kernel on the regenerated table on every run. -/
namespace Oblig
theorem retSim_cfg5 : Lex.retCheck (Scan.Ign.ofBits 5) Gen.Cfg5.cfg = true :=
  Lex.retCheckW_sound _ _ (by decide +kernel)
end Oblig
