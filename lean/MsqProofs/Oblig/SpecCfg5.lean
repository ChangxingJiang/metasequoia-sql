import MsqProofs.Lemmas.LexSpecWalk
import MsqModel.Gen.LexCfg5
/-! C05 table obligation for option setting 5 (4·IGNORE_SPACE + 2·IGNORE_LINEBREAK + IGNORE_COMMENT): every cell of the
regenerated table equals the specification automaton `Spec.cellD 5`; re-checked by the kernel on every run -/
namespace Oblig
theorem specAgree_cfg5 : Spec.agreeFin Gen.Cfg5.cfg 5 = true :=
  Spec.agreeFinW_sound _ _ (by decide +kernel)
end Oblig
