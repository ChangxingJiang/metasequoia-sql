import MsqProofs.Lemmas.LexScanWalk
import MsqModel.Gen.LexCfg5
/-! C04 (b, c) table obligation `simCheck` (`Lemmas/LexScan.lean`) for option setting 5, re-checked by the kernel on the
regenerated table on every run. -/
namespace Oblig
theorem scanSim_cfg5 : Scan.simCheck Gen.Cfg5.cfg = true :=
  Scan.simCheckW_sound _ (by decide +kernel)
end Oblig
