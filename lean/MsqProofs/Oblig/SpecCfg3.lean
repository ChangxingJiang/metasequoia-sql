import MsqProofs.Lemmas.LexSpecWalk
import MsqModel.Gen.LexCfg3
/-! C05 table obligation for option setting 3 (4·IGNORE_SPACE + 2·IGNORE_LINEBREAK + IGNORE_COMMENT): every cell of the
regenerated table equals the specification automaton `Spec.cellD 3`; re-checked by the kernel on every run -/
namespace Oblig
theorem specAgree_cfg3 : Spec.agreeFin Gen.Cfg3.cfg 3 = true :=
  Spec.agreeFinW_sound _ _ (by decide +kernel)
end Oblig
