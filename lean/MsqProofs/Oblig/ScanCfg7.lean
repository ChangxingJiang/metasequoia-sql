import MsqProofs.Lemmas.LexScanWalk
import MsqModel.Gen.LexCfg7
/-! C04 (b, c) table obligation `simCheck` (`Lemmas/LexScan.lean`) for option setting 7, re-checked by the kernel on the
regenerated table on every run. -/
namespace Oblig
theorem scanSim_cfg7 : Scan.simCheck Gen.Cfg7.cfg = true :=
  Scan.simCheckW_sound _ (by decide +kernel)
end Oblig
