import MsqProofs.Lemmas.LexScanWalk
import MsqModel.Gen.LexCfg6
/-! C04 (b, c) table obligation `simCheck` (`Lemmas/LexScan.lean`) for option setting 6, re-checked by the kernel on the
regenerated table on every run. -/
namespace Oblig
theorem scanSim_cfg6 : Scan.simCheck Gen.Cfg6.cfg = true :=
  Scan.simCheckW_sound _ (by decide +kernel)
end Oblig
