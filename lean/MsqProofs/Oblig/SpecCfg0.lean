import MsqProofs.Lemmas.LexSpecWalk
import MsqModel.Gen.LexCfg0
/-! C05 table obligation for option setting 0 (4·IGNORE_SPACE + 2·IGNORE_LINEBREAK + IGNORE_COMMENT): every cell of the
regenerated table equals the specification automaton `Spec.cellD 0`; re-checked by the kernel on every run -/
namespace Oblig
theorem specAgree_cfg0 : Spec.agreeFin Gen.Cfg0.cfg 0 = true :=
  Spec.agreeFinW_sound _ _ (by decide +kernel)
end Oblig
