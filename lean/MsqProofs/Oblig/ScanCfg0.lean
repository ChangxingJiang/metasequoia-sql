import MsqProofs.Lemmas.LexScanWalk
import MsqModel.Gen.LexCfg0
/-! C04 (b, c) table obligation `simCheck` (`Lemmas/LexScan.lean`) for option setting 0, re-checked by the kernel on the
regenerated table on every run. -/
namespace Oblig
theorem scanSim_cfg0 : Scan.simCheck Gen.Cfg0.cfg = true :=
  Scan.simCheckW_sound _ (by decide +kernel)
end Oblig
