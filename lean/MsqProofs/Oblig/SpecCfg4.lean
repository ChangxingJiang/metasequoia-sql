import MsqProofs.Lemmas.LexSpecWalk
import MsqModel.Gen.LexCfg4
/-! C05 table obligation for option setting 4 (4·IGNORE_SPACE + 2·IGNORE_LINEBREAK + IGNORE_COMMENT): every cell of the
regenerated table equals the specification automaton `Spec.cellD 4`; re-checked by the kernel on every run -/
namespace Oblig
theorem specAgree_cfg4 : Spec.agreeFin Gen.Cfg4.cfg 4 = true :=
  Spec.agreeFinW_sound _ _ (by decide +kernel)
end Oblig
