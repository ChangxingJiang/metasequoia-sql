import MsqProofs.Lemmas.LexSpecWalk
import MsqModel.Gen.LexCfg7
/-! C05 table obligation for option setting 7 (4·IGNORE_SPACE + 2·IGNORE_LINEBREAK + IGNORE_COMMENT): every cell of the
regenerated table equals the specification automaton `Spec.cellD 7`; re-checked by the kernel on every run -/
namespace Oblig
theorem specAgree_cfg7 : Spec.agreeFin Gen.Cfg7.cfg 7 = true :=
  Spec.agreeFinW_sound _ _ (by decide +kernel)
end Oblig
