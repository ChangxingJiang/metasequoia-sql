import MsqProofs.Lemmas.LexSpecWalk
import MsqModel.Gen.LexCfg2
/-! C05 table obligation for option setting 2 (4·IGNORE_SPACE + 2·IGNORE_LINEBREAK + IGNORE_COMMENT): every cell of the
regenerated table equals the specification automaton `Spec.cellD 2`; re-checked by the kernel on every run -/
namespace Oblig
theorem specAgree_cfg2 : Spec.agreeFin Gen.Cfg2.cfg 2 = true :=
  Spec.agreeFinW_sound _ _ (by decide +kernel)
end Oblig
