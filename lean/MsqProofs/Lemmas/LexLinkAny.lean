import MsqProofs.Lemmas.LexLinkAnyR3
/-!
# The lexer link for the union of all statement fragments (`TR.FragAny`)

`anyL` puts the mirrors of the classes side by side (`stmtL`, `LD.createL`, those of `LexLinkAnyR0-3.lean`), `good_any` their records; no
payload hypothesis of `LeafAny` assumes the link.  `printableAny` is what the PRINTER needs beyond the token-level fragment: `INSERT OVERWRITE`
for HIVE / DEFAULT only, CREATE TABLE for MYSQL / HIVE (the printer raises for the other dialects), ANALYZE TABLE for HIVE / MYSQL.
-/
namespace LL2.Any
open Lex Spec C05 C06 C09 Ast TP TS LexLink TQ2
open LLD (printableStmt dw_plain)

def anyL (d : Gen.D) : Stmt → List Char
  | .createTable c => LD.createL d c
  | .dropTable b t => dropL b t
  | .truncate t => truncateL t
  | .msck t => msckL t
  | .use s => useL s
  | .set c => setStmtL c
  | .analyze t p fc cm ns => analyzeL d t p fc cm ns
  | .alter t ops => alterL d t ops
  | .showDatabases => showDbL
  | .showTables => showTblL
  | .showColumns fr wh => showColsL d fr wh
  | .createTableAs t ine q => ctasL d t ine q
  | s => stmtL d s

def LeafAny (d : Gen.D) : Stmt → Prop
  | .createTable c => LD.LeafC d c
  | .dropTable _ t => tblLeaf t
  | .truncate t => tblLeaf t
  | .msck t => tblLeaf t
  | .use s => LD.srcLex s
  | .set c => cfgLex c.name ∧ cfgLex c.value
  | .analyze t p _ _ _ => tblLeaf t ∧ On2 (leafOK2 d) (leavesPart p)
  | .alter t ops => tblLeaf t ∧ ∀ o ∈ ops, opLeaf d o
  | .showDatabases => True
  | .showTables => True
  | .showColumns fr wh => On2 (leafOK2 d) (leavesTables4 fr ++ leavesO4 wh)
  | .createTableAs t _ q => tblLeaf t ∧ On2 (leafOK2 d) (leavesStmt (.select q))
  | s => On2 (leafOK2 d) (leavesStmt s)

def printableAny (d : Gen.D) : Stmt → Bool
  | .createTable _ => d == .MYSQL || d == .HIVE
  | .analyze _ _ _ _ _ => d == .HIVE || d == .MYSQL
  | s => printableStmt d s

structure GA (d : Gen.D) (s : Stmt) : Prop where
  lx : Lx (anyL d s) (TR.toksAny d s)
  pr : PR.prStmt d s = .ok (String.ofList (anyL d s))
  q : allP (anyL d s) = true

theorem ga_of {d : Gen.D} {s : Stmt} {u : List Char} {ts : List Tok} (h : Pc u ts ∧ PR.prStmt d s = .ok (String.ofList u))
    (e1 : anyL d s = u) (e2 : TR.toksAny d s = ts) : GA d s := by
  subst e1; subst e2; exact ⟨h.1.lx, h.2, h.1.q⟩

theorem ga_dml {d : Gen.D} (s : Stmt) (hs : TDM2.FragStmt d s = true) (hp : printableStmt d s = true) (hl : On2 (leafOK2 d) (leavesStmt s))
    (e1 : anyL d s = stmtL d s) (e2 : TR.toksAny d s = TDM2.toksStmt d s) : GA d s := by
  have g := good_stmt (K := plainKit) dw_plain s hs hp (lv2_plain hl)
  exact ⟨by rw [e1, e2]; exact g.lx, by rw [e1]; exact g.pr, by rw [e1]; exact g.q⟩

theorem good_any (d : Gen.D) (s : Stmt) (hs : TR.FragAny d s = true) (hp : printableAny d s = true) (hl : LeafAny d s) : GA d s := by
  cases s with
  | select q =>
    have h : TR.selOK d q = true := by
      simp only [TR.FragAny, TR.FragRest, Bool.or_false, Bool.or_eq_true] at hs
      simp only [TR.selOK, Bool.or_eq_true]
      exact hs.symm
    have g := select_good q h hl
    exact ⟨g.1.lx, g.2, g.1.q⟩
  | insertValues h vs => exact ga_dml _ (by simpa [TR.FragAny, TR.FragRest] using hs) hp hl rfl rfl
  | insertSelect h q => exact ga_dml _ (by simpa [TR.FragAny, TR.FragRest] using hs) hp hl rfl rfl
  | update ws t sets wh ob lm => exact ga_dml _ (by simpa [TR.FragAny, TR.FragRest] using hs) hp hl rfl rfl
  | delete t wh ob lm => exact ga_dml _ (by simpa [TR.FragAny, TR.FragRest] using hs) hp hl rfl rfl
  | createTable c =>
    have hc : TD.FragCreate d c = true := by simpa [TR.FragAny, TDM2.FragStmt, TR.FragRest] using hs
    have hl : LD.LeafC d c := hl
    have hd : d = .MYSQL ∨ d = .HIVE := by simpa [printableAny] using hp
    rcases hd with rfl | rfl
    · exact ⟨LD.lx_createMy c hc hl, LD.prCreateMysql_eq c hc hl, LD.allP_createMy c hc hl⟩
    · exact ⟨LD.lx_createHive c hc hl, LD.prCreateHive_eq c hc hl, LD.allP_createHive c hc hl⟩
  | dropTable b t =>
    have hf : TDM2.tblOKD t = true := by simpa [TR.FragAny, TDM2.FragStmt, TR.FragRest] using hs
    exact ga_of ⟨pc_drop b t hl, pr_drop d b t hl⟩ rfl rfl
  | truncate t => exact ga_of ⟨pc_truncate t hl, pr_truncate d t hl⟩ rfl rfl
  | msck t => exact ga_of ⟨pc_msck t hl, pr_msck d t hl⟩ rfl rfl
  | use s => exact ga_of ⟨pc_use s hl, pr_use d s⟩ rfl rfl
  | set c =>
    have hf : TR.cfgOK c.name = true ∧ TR.cfgOK c.value = true := by simpa [TR.FragAny, TDM2.FragStmt, TR.FragRest] using hs
    exact ga_of (set_good d c hf.1 hf.2 hl.1 hl.2) rfl rfl
  | analyze t p fc cm ns =>
    have hf : TDM2.tblOKD t = true ∧ (if d == .HIVE then TDM2.partOK d p = true else (p.isNone && !fc && !cm && !ns) = true) := by
      have : TR.FragRest d (.analyze t p fc cm ns) = true := by simpa [TR.FragAny, TDM2.FragStmt] using hs
      simp only [TR.FragRest, Bool.and_eq_true] at this
      refine ⟨this.1, ?_⟩
      have h2 := this.2
      split at h2 <;> rename_i hd <;> simp only [hd, if_true, Bool.false_eq_true, if_false] <;> exact h2
    have hf2 : if d == .HIVE then TDM2.partOK d p = true else True := by
      have := hf.2
      split at this <;> rename_i hd <;> simp only [hd, if_true, Bool.false_eq_true, if_false]
      exact this
    exact ga_of ⟨pc_analyze t p fc cm ns hl.1 hf2 hl.2, pr_analyze t p fc cm ns hl.1 hp hf2 hl.2⟩ rfl rfl
  | alter t ops =>
    have hf : TR.FragRest d (.alter t ops) = true := by simpa [TR.FragAny, TDM2.FragStmt] using hs
    simp only [TR.FragRest, Bool.and_eq_true, Bool.not_eq_true', List.isEmpty_eq_false_iff] at hf
    exact ga_of (alter_good t ops hl.1 hf.1.2 hf.2 hl.2) rfl rfl
  | showDatabases => exact ga_of ⟨pc_showDb, pr_showDb d⟩ rfl rfl
  | showTables => exact ga_of ⟨pc_showTbl, pr_showTbl d⟩ rfl rfl
  | showColumns fr wh =>
    have hf : TR.FragRest d (.showColumns fr wh) = true := by simpa [TR.FragAny, TDM2.FragStmt] using hs
    simp only [TR.FragRest, Bool.and_eq_true] at hf
    exact ga_of (show_good fr wh hf.1 hf.2 hl) rfl rfl
  | createTableAs t ine q =>
    have hf : TR.FragRest d (.createTableAs t ine q) = true := by simpa [TR.FragAny, TDM2.FragStmt] using hs
    simp only [TR.FragRest, Bool.and_eq_true] at hf
    exact ga_of (ctas_good t ine q hl.1 hf.2 hl.2) rfl rfl

end LL2.Any
