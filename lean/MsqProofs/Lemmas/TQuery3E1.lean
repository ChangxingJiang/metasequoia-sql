import MsqProofs.Lemmas.TQuery3_0
/-! Larger nested fragment (TQ3), expression layer: the compute level — the layer of MsqProofs/Lemmas/TCoreCompute.lean at this fragment's
printer, in front of `stopLE2` -/
open Lex PM Ast SR TP TP2
open TQ (tblTok unionWords lvlH isExists lvlH_eq lvlH_ge lvlH_of_le8 isOkPair tblOK)
namespace TQ3
variable (d : Gen.D) (ch : Expr → Bool)

def Opd (u : Expr) : Prop := Full2 d (P2 d) 2 0 (W4 d ch u 2) u

theorem frag_compute {l r : Expr} {o : String} (h : FragE5 d (.compute l o r) = true) :
    binOK d o = true ∧ FragE5 d l = true ∧ FragE5 d r = true := by
  simp only [FragE5, Bool.and_eq_true] at h; exact ⟨h.1.1, h.1.2, h.2⟩
theorem computeFrag : TC.ComputeFrag d ch (toksE5 d ch) (fun o _ => opTok (cval o.name)) (FragE5 d · = true) szE4 where
  sub := frag_compute d
  size _ _ _ := by simp only [szE4]
  tok _ h := ⟨h.1, h.2, rfl⟩
  node l o r := by simp only [toksE5, lvl_compute]

theorem compute_node (e : Expr) (hc : isCompute e = true) (hf : FragE5 d e = true)
    (ih : ∀ u, FragE5 d u = true → szE4 u < szE4 e → Opd d ch u) : Full2 d (P8 d) 8 2 (toksE5 d ch e) e :=
  TC.fullO_true.1 (TC.compute_node (computeFrag d ch) true e hc hf fun u fu su => TC.fullO_true.2 (ih u fu su))

end TQ3
