import MsqProofs.Lemmas.ParseWNShape
import MsqProofs.Lemmas.OpGrammar
/-!
# C02 — uniqueness for the operator layers: given the operands, the table dictates the tree

`Derives` is not functional as a whole (`C02.derives_not_unique_witness`: which tokens are read as ELEMENTS is not determined where the
code accepts a reserved word or an operator sign as a column name).  What the precedence table, left associativity and the brackets
are responsible for IS determined — this file proves it for the two operator skeletons:

* logical skeleton: OR / XOR / AND / prefix NOT / comparison operators over operands of the keyword level (≤ 9);
* compute skeleton: the binary operators of levels 2 … 8 and the prefix operators over elements (level 0).

`skelL_of` / `skelC_of`: every derivation has a skeleton — a segmentation of its tokens into operands (token run + tree,
each derived at level 9 resp. 0) and operator tokens, along which the abstract operator grammar `OPG.G` with the documented levels
derives a tree whose image is the derived tree.  `skel_unique`: two trees with the same skeleton items are equal
(`OPG.unique`).  So: once it is fixed which token runs are the operands, no other nesting of the operators is derivable.
-/
open Lex
namespace WNG
open PM Ast OPG

abbrev Atom := List Tok × Expr
abbrev It := Item Atom Tok

def flatI : List It → List Tok
  | [] => []
  | .atom (u, _) :: r => u ++ flatI r
  | .op t :: r => t :: flatI r
theorem flatI_append (a b : List It) : flatI (a ++ b) = flatI a ++ flatI b := by
  induction a with
  | nil => rfl
  | cons i a ih =>
    cases i with
    | atom p => obtain ⟨u, e⟩ := p; simp [flatI, ih]
    | op t => simp [flatI, ih]

/-- every operand of an item list satisfies `P` (the last conjunct of `SkelL` / `SkelC`, by definition) -/
def Atoms (P : List Tok → Expr → Prop) (items : List It) : Prop := ∀ u a, Item.atom (u, a) ∈ items → P u a
section
variable {P : List Tok → Expr → Prop} {u : List Tok} {e : Expr} {t : Tok} {a b : List It}
theorem Atoms.nil : Atoms P [] := fun _ _ h => nomatch h
theorem Atoms.atom (h : P u e) (hr : Atoms P a) : Atoms P (.atom (u, e) :: a) := by
  intro v x hm
  rcases List.mem_cons.1 hm with hm | hm
  · cases hm; exact h
  · exact hr v x hm
theorem Atoms.op (hr : Atoms P a) : Atoms P (.op t :: a) := by
  intro v x hm
  rcases List.mem_cons.1 hm with hm | hm
  · cases hm
  · exact hr v x hm
theorem Atoms.append (ha : Atoms P a) (hb : Atoms P b) : Atoms P (a ++ b) :=
  fun v x hm => (List.mem_append.1 hm).elim (ha v x) (hb v x)
theorem Atoms.left (h : Atoms P (a ++ b)) : Atoms P a := fun v x hm => h v x (List.mem_append_left _ hm)
theorem Atoms.right (h : Atoms P (a ++ b)) : Atoms P b := fun v x hm => h v x (List.mem_append_right _ hm)
theorem Atoms.tail {i : It} (h : Atoms P (i :: a)) : Atoms P a := fun v x hm => h v x (List.mem_cons_of_mem _ hm)
end

theorem xor_not_or {t : Tok} (h : isXor t = true) : isOr t = false := by
  simp only [isXor, Tok.srcEqUp, beq_iff_eq] at h
  simp [isOr, h]
theorem and_not_or {t : Tok} (h : isAnd t = true) : isOr t = false ∧ isXor t = false := by
  simp only [isAnd, Bool.or_eq_true, beq_iff_eq] at h
  rcases h with h | h <;> simp [isOr, isXor, Tok.srcEqUp, h]
theorem compare_keys {s o : String} (h : compareOp? s = some o) :
    s = "=" ∨ s = "!=" ∨ s = "<>" ∨ s = "<" ∨ s = "<=" ∨ s = ">" ∨ s = ">=" ∨ s = "<=>" := by
  unfold compareOp? at h
  cases hf : Gen.compareHash.find? (·.1 == s) with
  | none => simp [hf] at h
  | some e =>
    have h1 := List.find?_some hf
    have h2 := List.mem_of_find?_eq_some hf
    simp only [beq_iff_eq] at h1
    simp only [Gen.compareHash, List.mem_cons, List.not_mem_nil, or_false] at h2
    rcases h2 with rfl | rfl | rfl | rfl | rfl | rfl | rfl | rfl <;> simp_all
theorem cmp_not_word {t : Tok} {o : String} (h : compareOp? t.src = some o) : isOr t = false ∧ isXor t = false ∧ isAnd t = false := by
  rcases compare_keys h with h | h | h | h | h | h | h | h <;> (simp only [isOr, isXor, isAnd, Tok.srcEqUp, h]; decide)

/-! ### logical skeleton -/
def logicSig (d : Gen.D) : Sig Tok where
  binL t := if isOr t then some 14 else if isXor t then some 13 else if isAnd t then some 12
            else if (compareOp? t.src).isSome then some 10 else none
  preL t := if isNot d t then some 11 else none
  bin_pos := by
    intro t k h
    repeat' split at h
    all_goals (cases h <;> omega)
  apart := by
    intro t t' k p h h'
    repeat' split at h
    all_goals (split at h' <;> (cases h' <;> cases h <;> omega))

def embL : Tr Atom Tok → Expr
  | .leaf (_, a) => a
  | .pre _ x => .not_ (embL x)
  | .bin l t r =>
    if isOr t then .or_ (embL l) (embL r) else if isXor t then .xor (embL l) (embL r) else if isAnd t then .and_ (embL l) (embL r)
    else .compare ((compareOp? t.src).getD "") (embL l) (embL r)

/-- a logical skeleton of `(ts, e)`: items whose tokens are `ts`, whose operands derive at the keyword level, and along which the
operator grammar with the documented levels (OR 14, XOR 13, AND 12, prefix NOT 11, comparison 10) derives a tree with image `e` -/
def SkelL (d : Gen.D) (ts : List Tok) (e : Expr) (items : List It) : Prop :=
  ∃ L x, flatI items = ts ∧ G (logicSig d) L items x ∧ embL x = e ∧ ∀ u a, Item.atom (u, a) ∈ items → Derives d 9 u a

theorem skelL_atom {d : Gen.D} {L : Nat} {ts : List Tok} {e : Expr} (h : Derives d 9 ts e) :
    ∃ items x, flatI items = ts ∧ G (logicSig d) L items x ∧ embL x = e ∧ Atoms (Derives d 9) items :=
  ⟨[.atom (ts, e)], .leaf (ts, e), by simp [flatI], .leaf, rfl, .atom h .nil⟩

theorem skelL_bin {d : Gen.D} {k : Nat} {l r : List Tok} {t : Tok} {a b : Expr}
    (hb : (logicSig d).binL t = some k)
    (h1 : ∃ items x, flatI items = l ∧ G (logicSig d) k items x ∧ embL x = a ∧ Atoms (Derives d 9) items)
    (h2 : ∃ items x, flatI items = r ∧ G (logicSig d) (k - 1) items x ∧ embL x = b ∧ Atoms (Derives d 9) items) :
    ∃ items x, flatI items = l ++ t :: r ∧ G (logicSig d) k items x ∧ (∃ x1 x2, x = .bin x1 t x2 ∧ embL x1 = a ∧ embL x2 = b) ∧
      Atoms (Derives d 9) items := by
  obtain ⟨i1, x1, f1, g1, e1, a1⟩ := h1
  obtain ⟨i2, x2, f2, g2, e2, a2⟩ := h2
  exact ⟨i1 ++ .op t :: i2, .bin x1 t x2, by simp [flatI_append, flatI, f1, f2], .bin hb g1 g2, ⟨x1, x2, rfl, e1, e2⟩, a1.append a2.op⟩

theorem skelL_of {d : Gen.D} {L : Nat} {ts : List Tok} {e : Expr} (h : Derives d L ts e) :
    ∃ items x, flatI items = ts ∧ G (logicSig d) L items x ∧ embL x = e ∧ Atoms (Derives d 9) items := by
  -- the copy `h'` is the derivation itself where a whole node is one operand
  have h' := h
  induction h using Derives.ind with
  | up h hl ih =>
      obtain ⟨i, x, f, g, e, a⟩ := ih h
      exact ⟨i, x, f, g.up hl, e, a⟩
  | @or_ _ _ t _ _ h1 ht h2 ih1 ih2 =>
      have hb : (logicSig d).binL t = some 14 := by simp [logicSig, ht]
      obtain ⟨i, x, f, g, ⟨x1, x2, rfl, e1, e2⟩, a⟩ := skelL_bin hb (ih1 h1) (ih2 h2)
      exact ⟨i, _, f, g, by simp [embL, ht, e1, e2], a⟩
  | @xor _ _ t _ _ h1 ht h2 ih1 ih2 =>
      have hb : (logicSig d).binL t = some 13 := by simp [logicSig, ht, xor_not_or ht]
      obtain ⟨i, x, f, g, ⟨x1, x2, rfl, e1, e2⟩, a⟩ := skelL_bin hb (ih1 h1) (ih2 h2)
      exact ⟨i, _, f, g, by simp [embL, ht, xor_not_or ht, e1, e2], a⟩
  | @and_ _ _ t _ _ h1 ht h2 ih1 ih2 =>
      have hn := and_not_or ht
      have hb : (logicSig d).binL t = some 12 := by simp [logicSig, ht, hn.1, hn.2]
      obtain ⟨i, x, f, g, ⟨x1, x2, rfl, e1, e2⟩, a⟩ := skelL_bin hb (ih1 h1) (ih2 h2)
      exact ⟨i, _, f, g, by simp [embL, ht, hn.1, hn.2, e1, e2], a⟩
  | @compare _ _ t _ _ _ h1 ht h2 ih1 ih2 =>
      have hn := cmp_not_word ht
      have hb : (logicSig d).binL t = some 10 := by simp [logicSig, ht, hn.1, hn.2.1, hn.2.2]
      obtain ⟨i, x, f, g, ⟨x1, x2, rfl, e1, e2⟩, a⟩ := skelL_bin hb (ih1 h1) (ih2 h2)
      exact ⟨i, _, f, g, by simp [embL, ht, hn.1, hn.2.1, hn.2.2, e1, e2], a⟩
  | @not_ _ t _ ht h ih =>
      obtain ⟨i, x, f, g, e, a⟩ := ih h
      have hp : (logicSig d).preL t = some 11 := by simp [logicSig, ht]
      exact ⟨.op t :: i, .pre t x, by simp [flatI, f], .pre hp g, by simp [embL, e], a.op⟩
  | compute ho => exact skelL_atom (h'.up (by have := computeOp_level ho; omega))
  | _ => exact skelL_atom (h'.up (by omega))

/-- **the skeleton determines the tree**: two trees derived along the same items have the same image (`OPG.unique`) -/
theorem skel_unique {S : Sig Tok} {emb : Tr Atom Tok → Expr} {ts ts' : List Tok} {e e' : Expr} {items : List It} {A A' : Prop}
    (h : ∃ L x, flatI items = ts ∧ G S L items x ∧ emb x = e ∧ A) (h' : ∃ L x, flatI items = ts' ∧ G S L items x ∧ emb x = e' ∧ A') :
    e = e' ∧ ts = ts' := by
  obtain ⟨L, x, f, g, he, _⟩ := h
  obtain ⟨L', x', f', g', he', _⟩ := h'
  cases g.unique g'
  exact ⟨he.symm.trans he', f.symm.trans f'⟩

/-- conversely, a skeleton IS a derivation: the abstract operator grammar over derived operands is included in `Derives` -/
theorem derives_of_GL {d : Gen.D} {L : Nat} {items : List It} {x : Tr Atom Tok} (h : G (logicSig d) L items x) :
    Atoms (Derives d 9) items → Derives d (max L 9) (flatI items) (embL x) := by
  induction h with
  | @leaf L p =>
    intro ha
    obtain ⟨u, a⟩ := p
    simpa [flatI, embL] using (ha u a (by simp)).up (Nat.le_max_right L 9)
  | up _ hl ih => intro ha; exact (ih ha).up (by omega)
  | @pre p t r x hp _ ih =>
    intro ha
    simp only [logicSig] at hp
    split at hp
    · rename_i ht
      cases hp
      have := ih ha.tail
      simpa [flatI, embL] using Derives.not_ ht (by simpa using this)
    · cases hp
  | @bin k t l r a b hb _ _ ih1 ih2 =>
    intro ha
    have d1 := ih1 ha.left
    have d2 := ih2 ha.right.tail
    simp only [logicSig] at hb
    split at hb
    · rename_i ht
      cases hb
      simpa [flatI_append, flatI, embL, ht] using Derives.or_ (by simpa using d1) ht (by simpa using d2)
    split at hb
    · rename_i hn ht
      cases hb
      simpa [flatI_append, flatI, embL, ht, hn] using Derives.xor (by simpa using d1) ht (by simpa using d2)
    split at hb
    · rename_i hn1 hn2 ht
      cases hb
      simpa [flatI_append, flatI, embL, ht, hn1, hn2] using Derives.and_ (by simpa using d1) ht (by simpa using d2)
    split at hb
    · rename_i hn1 hn2 hn3 ht
      cases hb
      obtain ⟨o, ho⟩ := Option.isSome_iff_exists.mp ht
      simpa [flatI_append, flatI, embL, ho, hn1, hn2, hn3] using Derives.compare (by simpa using d1) ho (by simpa using d2)
    · cases hb

/-! ### compute skeleton -/
def computeSig (d : Gen.D) : Sig Tok where
  binL t := (computeOp? (up t.src)).map (·.2)
  preL t := if isUnary d t && (computeOp? (up t.src)).isSome then some 1 else none
  bin_pos := by
    intro t k h
    cases ho : computeOp? (up t.src) with
    | none => simp [ho] at h
    | some p => obtain ⟨o, k'⟩ := p; simp [ho] at h; subst h; exact Nat.le_trans (by omega) (computeOp_level ho).1
  apart := by
    intro t t' k p h h'
    cases ho : computeOp? (up t.src) with
    | none => simp [ho] at h
    | some q =>
      obtain ⟨o, k'⟩ := q
      simp [ho] at h; subst h
      have := (computeOp_level ho).1
      split at h' <;> (cases h'; try omega)

def opName (t : Tok) : String := ((computeOp? (up t.src)).map (·.1)).getD ""
def embC : Tr Atom Tok → Expr
  | .leaf (_, a) => a
  | .pre t x => .unary (opName t) (embC x)
  | .bin l t r => .compute (embC l) (opName t) (embC r)

/-- a compute skeleton of `(ts, e)`: operands are ELEMENTS (derived at level 0), operators the prefix signs (level 1) and the binary
operators of the table (levels 2 … 8) -/
def SkelC (d : Gen.D) (ts : List Tok) (e : Expr) (items : List It) : Prop :=
  ∃ L x, flatI items = ts ∧ G (computeSig d) L items x ∧ embC x = e ∧ ∀ u a, Item.atom (u, a) ∈ items → Derives d 0 u a

theorem skelC_atom {d : Gen.D} {L : Nat} {ts : List Tok} {e : Expr} (h : Derives d 0 ts e) :
    ∃ items x, flatI items = ts ∧ G (computeSig d) L items x ∧ embC x = e ∧ Atoms (Derives d 0) items :=
  ⟨[.atom (ts, e)], .leaf (ts, e), by simp [flatI], .leaf, rfl, .atom h .nil⟩

theorem skelC_of {d : Gen.D} {L : Nat} {ts : List Tok} {e : Expr} (h : Derives d L ts e) (hL : L ≤ 8) :
    ∃ items x, flatI items = ts ∧ G (computeSig d) L items x ∧ embC x = e ∧ Atoms (Derives d 0) items := by
  have h' := h
  induction h using Derives.ind with
  | up h hl ih =>
      obtain ⟨i, x, f, g, e, a⟩ := ih (by omega) h
      exact ⟨i, x, f, g.up hl, e, a⟩
  | @compute _ _ t _ k _ _ ho h1 h2 ih1 ih2 =>
      obtain ⟨i1, x1, f1, g1, e1, a1⟩ := ih1 hL h1
      obtain ⟨i2, x2, f2, g2, e2, a2⟩ := ih2 (by omega) h2
      have hb : (computeSig d).binL t = some k := by simp [computeSig, ho]
      exact ⟨i1 ++ .op t :: i2, .bin x1 t x2, by simp [flatI_append, flatI, f1, f2], .bin hb g1 g2, by simp [embC, opName, ho, e1, e2],
        a1.append a2.op⟩
  | @unary _ t _ _ _ hu ho h ih =>
      obtain ⟨i, x, f, g, e, a⟩ := ih (by omega) h
      have hp : (computeSig d).preL t = some 1 := by simp [computeSig, hu, ho]
      exact ⟨.op t :: i, .pre t x, by simp [flatI, f], .pre hp g, by simp [embC, opName, ho, e], a.op⟩
  | or_ | xor | and_ | not_ | compare | between | is_ | isNot_ | like | inList | inQuery | exists_ => omega
  | _ => exact skelC_atom h'

theorem derives_of_GC {d : Gen.D} {L : Nat} {items : List It} {x : Tr Atom Tok} (h : G (computeSig d) L items x) :
    Atoms (Derives d 0) items → Derives d L (flatI items) (embC x) := by
  induction h with
  | @leaf L p =>
    intro ha
    obtain ⟨u, a⟩ := p
    simpa [flatI, embC] using (ha u a (by simp)).up (Nat.zero_le L)
  | up _ hl ih => intro ha; exact (ih ha).up hl
  | @pre p t r x hp _ ih =>
    intro ha
    simp only [computeSig] at hp
    split at hp
    · rename_i ht
      cases hp
      simp only [Bool.and_eq_true] at ht
      obtain ⟨q, hq⟩ := Option.isSome_iff_exists.mp ht.2
      obtain ⟨o, k⟩ := q
      have := ih ha.tail
      simpa [flatI, embC, opName, hq] using Derives.unary ht.1 hq this
    · cases hp
  | @bin k t l r a b hb _ _ ih1 ih2 =>
    intro ha
    have d1 := ih1 ha.left
    have d2 := ih2 ha.right.tail
    simp only [computeSig] at hb
    cases ho : computeOp? (up t.src) with
    | none => simp [ho] at hb
    | some q =>
      obtain ⟨o, k'⟩ := q
      simp [ho] at hb
      subst hb
      simpa [flatI_append, flatI, embC, opName, ho] using Derives.compute ho d1 d2

end WNG
