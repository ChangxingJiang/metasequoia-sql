import MsqProofs.Lemmas.AnalyzeText3c
/-!
# The column scanner on the tokens the printer writes: step lemmas (C15 on texts)

How `CT.colL` walks over each kind of token of a fragment rendering: keywords and operators (`kwOut`), literals, back-quoted names,
qualified names, calls, aggregates, bracket groups.  `ColOK ts l`: the piece `ts`, scanned where an operand is expected, yields the
references `l` and ends an operand — provided what follows starts with a plain token that is no `.` (`hdS`).
-/
open Lex PM Ast TP TP2 TS TQ Spec
open AN (QCol Clause)
namespace CT

theorem colL_nil (st : St) : colL st [] = [] := by simp [colL]
theorem colL_tok {t : Tok} (h : isGrp t = false) (st : St) (r : List Tok) :
    colL st (t :: r) = (step st t r).1 ++ colL (step st t r).2 r := by
  cases t with
  | single s m => simp [colL]
  | group k cs m => simp [isGrp] at h
theorem colL_grp (st : St) (cs r : List Tok) : colL st (grp cs :: r) = colG st (grp cs) ++ colL (.expr true) r := by
  simp [colL, grp]
theorem colG_expr (b : Bool) (cs : List Tok) : colG (.expr b) (grp cs) = if isSubq cs then [] else colL (.expr false) cs := by
  simp [colG, grp]
theorem colG_agg (cs : List Tok) :
    colG .agg (grp cs) = if (colL (.expr false) cs).length > 0 then colL (.expr false) cs else [anon] := by
  simp [colG, grp]
theorem colL_grp_expr (b : Bool) (cs r : List Tok) :
    colL (.expr b) (grp cs :: r) = (if isSubq cs then [] else colL (.expr false) cs) ++ colL (.expr true) r := by
  rw [colL_grp, colG_expr]

/-- nothing, or a plain token that is no `.`: what follows an operand -/
def hdS : List Tok → Bool
  | [] => true
  | t :: _ => !isGrp t && !t.equalsStr "."
theorem hdS_dot {r : List Tok} (h : hdS r = true) : nextIs "." r = false := by
  cases r with
  | nil => rfl
  | cons t r => simp only [hdS, Bool.and_eq_true, Bool.not_eq_true'] at h; exact h.2
theorem hdS_grp {r : List Tok} (h : hdS r = true) : nextIsGrp r = false := by
  cases r with
  | nil => rfl
  | cons t r => simp only [hdS, Bool.and_eq_true, Bool.not_eq_true'] at h; exact h.1
theorem hdS_cons {t : Tok} (h1 : isGrp t = false) (h2 : t.equalsStr "." = false) (r : List Tok) : hdS (t :: r) = true := by
  simp [hdS, h1, h2]

/-- a plain token that is no reference and does not look ahead (apart from the `.` test): `some a` = the state after it is `expr a` -/
def kwOut (t : Tok) : Option Bool :=
  if isGrp t || t.has LITERAL then none
  else if isWord t then (if t.equalsStr "AS" || quoted t || !reserved.contains (up t.src) then none else some (endsOperand t))
  else if t.equalsStr "*" then none else some false

theorem kwOut_single {t : Tok} {a : Bool} (h : kwOut t = some a) : isGrp t = false := by
  unfold kwOut at h
  cases hg : isGrp t with
  | false => rfl
  | true => simp [hg] at h
/-! `step` at expression level, by the kind of the token -/
theorem step_lit {t : Tok} (hl : t.has LITERAL = true) (b : Bool) (r : List Tok) : step (.expr b) t r = ([], .expr true) := by
  simp [step, hl]
theorem step_word_dot {t : Tok} (hl : t.has LITERAL = false) (hw : isWord t = true) {r : List Tok} (hd : nextIs "." r = true) (b : Bool) :
    step (.expr b) t r = ([], .dot (nm t)) := by
  simp [step, hl, hw, hd]
theorem step_word {t : Tok} (hl : t.has LITERAL = false) (hw : isWord t = true) {r : List Tok} (hd : nextIs "." r = false) (b : Bool) :
    step (.expr b) t r =
      if t.equalsStr "AS" then ([], if nextIsGrp r then .expr false else .alias)
      else if !quoted t && reserved.contains (up t.src) then ([], .expr (endsOperand t))
      else if nextIsGrp r then ([], if Gen.aggNames.contains (up t.src) then .agg else .expr false)
      else (ref none (nm t), .expr true) := by
  simp [step, hl, hw, hd]
theorem step_sign {t : Tok} (hl : t.has LITERAL = false) (hw : isWord t = false) (b : Bool) (r : List Tok) :
    step (.expr b) t r =
      if t.equalsStr "*" then (if b then ([], .expr false) else ([⟨none, some "*", none⟩], .expr true)) else ([], .expr false) := by
  cases b <;> simp [step, hl, hw]

theorem step_kw {t : Tok} {a : Bool} (h : kwOut t = some a) (b : Bool) (r : List Tok) (hr : nextIs "." r = false) :
    step (.expr b) t r = ([], .expr a) := by
  unfold kwOut at h
  cases hl : t.has LITERAL
  · cases hw : isWord t
    · rw [step_sign hl hw]
      cases hs : t.equalsStr "*" <;> simp_all
    · rw [step_word hl hw hr]
      cases ha : t.equalsStr "AS" <;> cases hq : quoted t <;> cases hres : reserved.contains (up t.src) <;> simp_all
  · simp [hl] at h
theorem colL_kw {t : Tok} {a : Bool} (h : kwOut t = some a) (b : Bool) (r : List Tok) (hr : nextIs "." r = false) :
    colL (.expr b) (t :: r) = colL (.expr a) r := by
  rw [colL_tok (kwOut_single h), step_kw h b r hr]; rfl

theorem star_facts : starTok.has LITERAL = false ∧ isWord starTok = false ∧ starTok.equalsStr "*" = true := by decide
/-- the sign `*`: the wildcard where an operand is expected, the multiplication sign after an operand -/
theorem colL_star_wild (r : List Tok) : colL (.expr false) (starTok :: r) = ⟨none, some "*", none⟩ :: colL (.expr true) r := by
  rw [colL_tok (by rfl), step_sign star_facts.1 star_facts.2.1, if_pos star_facts.2.2]; rfl
theorem colL_star_op (r : List Tok) : colL (.expr true) (starTok :: r) = colL (.expr false) r := by
  rw [colL_tok (by rfl), step_sign star_facts.1 star_facts.2.1, if_pos star_facts.2.2]; rfl

theorem colL_lit {t : Tok} (hg : isGrp t = false) (h : t.has LITERAL = true) (b : Bool) (r : List Tok) :
    colL (.expr b) (t :: r) = colL (.expr true) r := by
  rw [colL_tok hg, step_lit h]; rfl

theorem nextIs_grp (w : String) (cs r : List Tok) : nextIs w (grp cs :: r) = false := by simp [nextIs, grp, Tok.equalsStr]
theorem nextIs_dot (r : List Tok) : nextIs "." (dotTok :: r) = true := by show dotTok.equalsStr "." = true; decide
theorem isWord_single {t : Tok} (h : isWord t = true) : isGrp t = false := by cases t <;> simp_all [isWord, isGrp]

/-- a back-quoted name that is followed by neither `.` nor a bracket group: an unqualified reference -/
theorem colL_name {t : Tok} (hw : isWord t = true) (hl : t.has LITERAL = false) (hq : quoted t = true) (ha : t.equalsStr "AS" = false)
    (b : Bool) (r : List Tok) (hr : hdS r = true) : colL (.expr b) (t :: r) = ref none (nm t) ++ colL (.expr true) r := by
  rw [colL_tok (isWord_single hw), step_word hl hw (hdS_dot hr)]
  simp [hdS_grp hr, ha, hq]
theorem colL_qcol {t u : Tok} (hw : isWord t = true) (hl : t.has LITERAL = false) (hu : isWord u = true) (b : Bool) (r : List Tok)
    (hr : hdS r = true) : colL (.expr b) (t :: dotTok :: u :: r) = ⟨some (nm t), some (nm u), none⟩ :: colL (.expr true) r := by
  have hd := nextIs_dot (u :: r)
  rw [colL_tok (isWord_single hw), colL_tok (t := dotTok) (by rfl), colL_tok (isWord_single hu)]
  simp [step, hl, hw, hd, hu, hdS_grp hr]
theorem colL_qstar {t : Tok} (hw : isWord t = true) (hl : t.has LITERAL = false) (b : Bool) (r : List Tok) (hr : hdS r = true) :
    colL (.expr b) (t :: dotTok :: starTok :: r) = ⟨some (nm t), some "*", none⟩ :: colL (.expr true) r := by
  have hd := nextIs_dot (starTok :: r)
  have h2 : isWord starTok = false := by decide
  have h3 : starTok.equalsStr "*" = true := by decide
  rw [colL_tok (isWord_single hw), colL_tok (t := dotTok) (by rfl), colL_tok (t := starTok) (by rfl)]
  simp [step, hl, hw, hd, h2, h3, hdS_grp hr]
/-- `name (…)`: a call of a function that is no aggregate -/
theorem colL_fn {t : Tok} (hw : isWord t = true) (hl : t.has LITERAL = false) (hn : Gen.aggNames.contains (up t.src) = false)
    (b : Bool) (cs r : List Tok) :
    colL (.expr b) (t :: grp cs :: r) = (if isSubq cs then [] else colL (.expr false) cs) ++ colL (.expr true) r := by
  have hd := nextIs_grp "." cs r
  have hp : nextIsGrp (grp cs :: r) = true := rfl
  rw [colL_tok (isWord_single hw), step_word hl hw hd]
  cases h1 : t.equalsStr "AS" <;> cases hq : quoted t <;> cases h2 : reserved.contains (up t.src) <;>
    simp only [hp, hn, Bool.false_eq_true, if_false, if_true, Bool.not_false, Bool.not_true, Bool.and_true, Bool.and_false,
      List.nil_append, colL_grp_expr]
theorem colL_qfn {t u : Tok} (hw : isWord t = true) (hl : t.has LITERAL = false) (hu : isGrp u = false) (b : Bool) (cs r : List Tok) :
    colL (.expr b) (t :: dotTok :: u :: grp cs :: r) = (if isSubq cs then [] else colL (.expr false) cs) ++ colL (.expr true) r := by
  have hd := nextIs_dot (u :: grp cs :: r)
  have hp : nextIsGrp (grp cs :: r) = true := rfl
  rw [colL_tok (isWord_single hw), colL_tok (t := dotTok) (by rfl), colL_tok hu]
  simp only [step, hl, hw, hd, hp, Bool.false_eq_true, if_false, if_true, List.nil_append, colL_grp_expr]
/-- `AGG (…)`: the references of the arguments, or one anonymous reference -/
theorem colL_agg {t : Tok} (hw : isWord t = true) (hl : t.has LITERAL = false) (ha : t.equalsStr "AS" = false)
    (hres : reserved.contains (up t.src) = false) (hn : Gen.aggNames.contains (up t.src) = true) (b : Bool) (cs r : List Tok) :
    colL (.expr b) (t :: grp cs :: r) =
      (if (colL (.expr false) cs).length > 0 then colL (.expr false) cs else [anon]) ++ colL (.expr true) r := by
  have hd := nextIs_grp "." cs r
  have hp : nextIsGrp (grp cs :: r) = true := rfl
  rw [colL_tok (isWord_single hw), step_word hl hw hd]
  simp only [hp, hn, ha, hres, Bool.false_eq_true, if_false, if_true, Bool.and_false, List.nil_append, colL_grp, colG_agg]

/-- a first token that is neither `.` nor `SELECT` / `WITH` -/
def okHd (t : Tok) : Bool := noneOf [".", "SELECT", "WITH"] t
theorem okHd_dot {t : Tok} (h : okHd t = true) : t.equalsStr "." = false := noneOf_mem h (by decide)
theorem okHd_grp (cs : List Tok) : okHd (grp cs) = true := noneOf_grp _ cs

/-- the piece `ts`, scanned where an operand is expected, yields `l` and ends an operand -/
structure ColOK (ts : List Tok) (l : List QCol) : Prop where
  scan : ∀ rest, hdS rest = true → colL (.expr false) (ts ++ rest) = l ++ colL (.expr true) rest
  hd : ∃ t r, ts = t :: r ∧ okHd t = true

theorem ColOK.cast {ts ts' : List Tok} {l l' : List QCol} (h : ColOK ts l) (e1 : ts = ts') (e2 : l = l') : ColOK ts' l' := by
  subst e1; subst e2; exact h
theorem ColOK.nodot {ts : List Tok} {l : List QCol} (h : ColOK ts l) (rest : List Tok) : nextIs "." (ts ++ rest) = false := by
  obtain ⟨t, r, rfl, ht⟩ := h.hd
  exact okHd_dot ht
theorem ColOK.nosubq {ts : List Tok} {l : List QCol} (h : ColOK ts l) : isSubq ts = false := by
  obtain ⟨t, r, rfl, ht⟩ := h.hd
  simp [isSubq, noneOf_mem ht (k := "SELECT") (by decide), noneOf_mem ht (k := "WITH") (by decide)]
theorem ColOK.inner {ts : List Tok} {l : List QCol} (h : ColOK ts l) : colL (.expr false) ts = l := by
  have := h.scan [] rfl
  simpa [colL_nil] using this
theorem ColOK.ne {ts : List Tok} {l : List QCol} (h : ColOK ts l) : ts ≠ [] := by
  obtain ⟨t, r, rfl, _⟩ := h.hd
  simp
theorem ColOK.grp {ts : List Tok} {l : List QCol} (h : ColOK ts l) : ColOK [grp ts] l :=
  ⟨fun rest hr => by simp [colL_grp_expr, h.nosubq, h.inner], ⟨_, _, rfl, okHd_grp ts⟩⟩
theorem ColOK.wrap {ts : List Tok} {l : List QCol} (h : ColOK ts l) (b : Bool) (e : Expr) (k : Nat) : ColOK (wrapT b e k ts) l := by
  unfold wrapT
  split
  · exact h.grp
  · exact h
theorem ColOK.pre {t : Tok} (hk : kwOut t = some false) (ho : okHd t = true) {ts : List Tok} {l : List QCol} (h : ColOK ts l) :
    ColOK (t :: ts) l :=
  ⟨fun rest hr => by rw [List.cons_append, colL_kw hk false _ (h.nodot rest), h.scan rest hr], ⟨_, _, rfl, ho⟩⟩
/-- a token between two operands -/
structure BinTok (t : Tok) : Prop where
  go : ∀ r, nextIs "." r = false → colL (.expr true) (t :: r) = colL (.expr false) r
  single : isGrp t = false
  nd : t.equalsStr "." = false
theorem BinTok.hdS {t : Tok} (h : BinTok t) (r : List Tok) : CT.hdS (t :: r) = true := hdS_cons h.single h.nd r
theorem BinTok.ofKw {t : Tok} (hk : kwOut t = some false) (hn : t.equalsStr "." = false) : BinTok t :=
  ⟨fun r hr => colL_kw hk true r hr, kwOut_single hk, hn⟩
theorem binTok_star : BinTok starTok := ⟨fun r _ => colL_star_op r, rfl, by decide⟩
theorem ColOK.bin {a b : List Tok} {x y : List QCol} (ha : ColOK a x) {t : Tok} (ht : BinTok t) (hb : ColOK b y) :
    ColOK (a ++ t :: b) (x ++ y) :=
  ⟨fun rest hr => by
    rw [List.append_assoc, List.cons_append, ha.scan _ (ht.hdS _), ht.go _ (hb.nodot rest), hb.scan rest hr, List.append_assoc], by
    obtain ⟨t0, r0, rfl, h0⟩ := ha.hd
    exact ⟨t0, r0 ++ t :: b, rfl, h0⟩⟩

end CT
