import MsqProofs.Lemmas.TParse0
import MsqModel.Parse.Stmt
/-! The dispatch of `PM.pStatement` looks at the first words of the statement only.  A statement whose first word opens none of the
non-query statements goes to the query branch (`pStatement_query_branch`); in particular one that starts with `SELECT`
(`pStatement_select`, `pStatement_of_select`). -/
open Lex PM Ast TP

namespace PM

/-- the first words of the statements that `pStatement` recognises before it looks for a query: ten words for twelve tests (`SHOW` opens three of
them), and a test on two or three words begins with the test on the first, so a hypothesis on the first word alone refutes them all -/
def stmtWords : List String := ["SET", "DELETE", "DROP", "CREATE", "ANALYZE", "ALTER", "MSCK", "USE", "TRUNCATE", "SHOW"]

theorem pStatement_query_branch (d : Gen.D) (f : Nat) (t : Tok) (x : List Tok) (hw : ∀ k ∈ stmtWords, t.srcEqUp k = false) :
    pStatement d f (t :: x) =
      match pWith d f (t :: x) with
      | .error e => .error e
      | .ok (withs, r) =>
        if searchStrUp r "SELECT" then (match pSelectStmt d f (some withs) r with | .ok (q, r1) => .ok (.select q, r1) | .error e => .error e)
        else if searchStrUp r "INSERT" then pInsert d f (some withs) r
        else if searchStrUp r "UPDATE" then pUpdate d f (some withs) r
        else .error .parse := by
  have h1 : ∀ k ∈ stmtWords, searchStrUp (t :: x) k = false := hw
  have h2 : ∀ k ∈ stmtWords, ∀ b, searchTwoUp (t :: x) k b = false := by
    intro k hk b
    cases x <;> simp [searchTwoUp, hw k hk]
  have h3 : ∀ k ∈ stmtWords, ∀ b c, searchThreeUp (t :: x) k b c = false := by
    intro k hk b c
    rcases x with _ | ⟨y, _ | ⟨z, r⟩⟩ <;> simp [searchThreeUp, hw k hk]
  unfold pStatement
  simp only [h1 "SET" (by decide), h1 "USE" (by decide), h2 "DELETE" (by decide), h2 "DROP" (by decide), h2 "CREATE" (by decide),
    h2 "ANALYZE" (by decide), h2 "ALTER" (by decide), h3 "MSCK" (by decide), h2 "TRUNCATE" (by decide), h2 "SHOW" (by decide),
    Bool.false_eq_true, if_false]
  rfl

theorem pWith_absent (d : Gen.D) (g : Nat) (t : Tok) (x : List Tok) (h : t.srcEqUp "WITH" = false) :
    pWith d (g + 1) (t :: x) = .ok ([], t :: x) := by
  unfold pWith
  simp [searchStrUp, h]

theorem pStatement_select (d : Gen.D) (g : Nat) (x : List Tok) :
    pStatement d (g + 1) (opTok "SELECT" :: x) =
      match pSelectStmt d (g + 1) (some []) (opTok "SELECT" :: x) with
      | .ok (q, r1) => .ok (.select q, r1)
      | .error e => .error e := by
  rw [pStatement_query_branch d _ _ x (by decide), pWith_absent d g _ x (by decide)]
  have : searchStrUp (opTok "SELECT" :: x) "SELECT" = true := (by decide : (opTok "SELECT").srcEqUp "SELECT" = true)
  simp only [this, if_true]

/-- … so the statement level of a query whose rendering starts with `SELECT` is what `pSelectStmt`, called with the empty WITH list, answers -/
theorem pStatement_of_select (d : Gen.D) {ts rest : List Tok} {q : Query} {fuel : Nat} (hx : ∃ x, ts = opTok "SELECT" :: x) (hpos : 0 < fuel)
    (hsel : pSelectStmt d fuel (some []) (ts ++ rest) = .ok (q, rest)) : pStatement d fuel (ts ++ rest) = .ok (.select q, rest) := by
  obtain ⟨x, rfl⟩ := hx
  obtain ⟨g, rfl⟩ : ∃ g, fuel = g + 1 := ⟨fuel - 1, by omega⟩
  simp only [List.cons_append] at hsel ⊢
  rw [pStatement_select, hsel]

/-- what `pStatement` does after the WITH clause: SELECT / INSERT / UPDATE -/
def stmtBody (d : Gen.D) (f : Nat) (withs : List WithTable) (r : List Tok) : R Stmt :=
  if searchStrUp r "SELECT" then (match pSelectStmt d f (some withs) r with | .ok (q, r1) => .ok (.select q, r1) | .error e => .error e)
  else if searchStrUp r "INSERT" then pInsert d f (some withs) r
  else if searchStrUp r "UPDATE" then pUpdate d f (some withs) r
  else .error .parse
/-- what `pStatement` does when the first word opens none of the keyword-introduced statements: WITH, then the body -/
def stmtTail (d : Gen.D) (f : Nat) (ts : List Tok) : R Stmt :=
  match pWith d f ts with
  | .error e => .error e
  | .ok (withs, r) => stmtBody d f withs r
theorem stmt_dispatch (t : Tok) (w : String) (hw : up t.src = w)
    (hne : stmtWords.contains w = false) (x : List Tok) (d : Gen.D) (f : Nat) : pStatement d f (t :: x) = stmtTail d f (t :: x) := by
  rw [pStatement_query_branch d f t x fun k hk => by
    simp only [Tok.srcEqUp, hw, beq_eq_false_iff_ne, ne_eq]
    rintro rfl
    exact Bool.noConfusion (hne.symm.trans (List.contains_iff_mem.2 hk))]
  rfl

end PM
