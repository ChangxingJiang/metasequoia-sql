import MsqProofs.Lemmas.LexLinkQuerySelect
/-!
# A printed piece with both facts

`Pc K u ts`: the text `u` lexes to `ts` in context (`Lx`) AND the kit's property holds of it (`K.Q`; `K : QKit`, `LexLinkQueryDefs.lean`: a
predicate on texts closed under the printer's separators — `plainKit`: no character the pre-pass rewrites, `occKit`: no `==`,
`LexLinkKits.lean`) — the two facts every production of the link needs of its text, closed under the printer's idioms once: a blank between two pieces, brackets, a token glued to a bracket group,
comma lists, optional pieces joined by a separator (`SegP`), a first piece with a blank-joined tail.

The layout texts the statement mirrors are built of come first (namespace `LLD`): `ps us` (every piece followed by one blank), `pc us` (every
piece preceded by one blank) with `lx_ps`, `lx_pc`, `q_ps`, `q_pc`; a name as `quoteName` prints it; the target table.
-/
namespace LLD
open Lex Spec C05 C06 C09 Ast TP TS TQ LexLink

theorem lx_nlpre {b : List Char} {tb : List Tok} (hb : Lx b tb) : Lx ('\n' :: b) tb := hb.nl

theorem lx_cnl {α : Type} (txt : α → List Char) (tk : α → List Tok) (tail : List α → List Tok)
    (h0 : tail [] = []) (h1 : ∀ x xs, tail (x :: xs) = TS.commaTok :: (tk x ++ tail xs)) :
    ∀ (xs : List α) (x : α), Lx (txt x) (tk x) → (∀ y ∈ xs, Lx (txt y) (tk y)) →
      Lx (joinLL [',', ' ', '\n'] ((x :: xs).map txt)) (tk x ++ tail xs) :=
  lx_commaGap [' ', '\n'] (fun h => h.nl.blank) txt tk tail h0 h1

def ps (us : List (List Char)) : List Char := (us.map (· ++ [' '])).flatten
def pc (us : List (List Char)) : List Char := (us.map (' ' :: ·)).flatten

theorem ps_cons (a : List Char) (r : List (List Char)) : ps (a :: r) = a ++ ' ' :: ps r := by simp [ps]
theorem pc_cons (a : List Char) (r : List (List Char)) : pc (a :: r) = ' ' :: (a ++ pc r) := by simp [pc]
@[simp] theorem ps_nil : ps [] = [] := rfl
@[simp] theorem pc_nil : pc [] = [] := rfl
theorem ps_append (a b : List (List Char)) : ps (a ++ b) = ps a ++ ps b := by simp [ps]
theorem pc_append (a b : List (List Char)) : pc (a ++ b) = pc a ++ pc b := by simp [pc]

theorem ps_join : ∀ (us : List (List Char)), us ≠ [] → ∀ b, ps us ++ b = joinLL [' '] us ++ ' ' :: b
  | [], h, _ => absurd rfl h
  | [a], _, b => by simp [ps, joinLL]
  | a :: c :: r, _, b => by
    have := ps_join (c :: r) (by simp) b
    rw [ps_cons, List.append_assoc, List.cons_append, this]
    simp [joinLL]
theorem pc_join : ∀ (us : List (List Char)), us ≠ [] → pc us = ' ' :: joinLL [' '] us
  | [], h => absurd rfl h
  | [a], _ => by simp [pc, joinLL]
  | a :: c :: r, _ => by
    have := pc_join (c :: r) (by simp)
    rw [pc_cons, this]
    simp [joinLL]

theorem lx_ps {us : List (List Char)} {ts : List Tok} (hs : Seg ' ' us ts) {b : List Char} {tb : List Tok} (hb : Lx b tb) :
    Lx (ps us ++ b) (ts ++ tb) := by
  rcases hs with ⟨rfl, rfl⟩ | ⟨hne, h⟩
  · simpa using hb
  · rw [ps_join us hne]; exact Lx.sep h hb
theorem lx_pc {a : List Char} {ta : List Tok} (ha : Lx a ta) {us : List (List Char)} {ts : List Tok} (hs : Seg ' ' us ts) :
    Lx (a ++ pc us) (ta ++ ts) := by
  rcases hs with ⟨rfl, rfl⟩ | ⟨hne, h⟩
  · simpa using ha
  · rw [pc_join us hne]; exact Lx.sep ha h
/-- the same with one more blank between (DELETE: `… {table} {tail}`) -/
theorem lx_pc2 {a : List Char} {ta : List Tok} (ha : Lx a ta) {us : List (List Char)} {ts : List Tok} (hs : Seg ' ' us ts) :
    Lx (a ++ ' ' :: pc us) (ta ++ ts) := by
  rcases hs with ⟨rfl, rfl⟩ | ⟨hne, h⟩
  · simpa using Lx.trail ha
  · rw [pc_join us hne]; exact Lx.sep ha (Lx.blank h)

/-- a clause record with at most one line, read with blanks -/
theorem seg_sp {us : List (List Char)} {ts : List Tok} (h : Seg '\n' us ts) (hlen : us.length ≤ 1) : Seg ' ' us ts := by
  rcases h with ⟨rfl, rfl⟩ | ⟨hne, h⟩
  · exact Seg.nil _
  · match us, hne, hlen, h with
    | [x], _, _, h => exact Seg.one _ (by simpa [joinLL] using h)

/-- the `hc` argument of `SegP.append` / `cons` / `map` / `pc` at the blank (not `K.s_sp`) -/
theorem sp : (' ' : Char) = ' ' ∨ (' ' : Char) = '\n' := Or.inl rfl

theorem lx_qname (n : String) (hn : nameLex n) : Lx (qnameL n) [TP2.qTok n] := by
  rw [qTok_eq]
  unfold qnameL
  cases hb : bareB n with
  | true =>
    simp only [if_true]
    rw [opTok_eq]
    simp only [bareB, Bool.and_eq_true] at hb
    exact lx_plain n.toList (by rw [← isPlainName_plainL]; exact hb.1)
  | false =>
    simp only [Bool.false_eq_true, if_false]
    have := lx_name n.toList fun x hx => (hn x hx).1
    simpa [nameTok, Lex.NAME] using this

theorem tbl_good {K : QKit} (s : Option String) (n : String) (hl : optNameLex s ∧ nameLex n) (hq : K.item (.tbl s n)) :
    Lx (tblL s n) [tblTok s n] ∧ K.Q (tblL s n) ∧ PR.tableNameSrc s n = String.ofList (tblL s n) := by
  refine ⟨?_, ?_, ?_⟩
  · rw [tblTok_eq]
    cases s with
    | none => exact lx_name n.toList fun x hx => (hl.2 x hx).1
    | some s =>
      have := lx_name (s.toList ++ '.' :: n.toList) (by
        intro x hx
        simp only [List.mem_append, List.mem_cons] at hx
        rcases hx with hx | rfl | hx
        · exact (hl.1 x hx).1
        · decide
        · exact (hl.2 x hx).1)
      exact Lx.congr this (by simp [tblL]) (by simp [tblL])
  · cases s with
    | none => exact K.bq (hq n (by simp [strs]))
    | some s =>
      have := K.bq (K.sep _ _ '.' K.s_dot (hq s (by simp [strs])) (hq n (by simp [strs])))
      simpa [tblL] using this
  · apply ofList_eq
    cases s <;> simp [PR.tableNameSrc, tblL, toString, String.toList_append]

theorem q_ps (K : QKit) : ∀ (us : List (List Char)), (∀ x ∈ us, K.Q x) → ∀ b, K.Q b → K.Q (ps us ++ b)
  | [], _, b, hb => by simpa using hb
  | a :: r, h, b, hb => by
    rw [ps_cons, List.append_assoc, List.cons_append]
    exact K.sp (h a (by simp)) (q_ps K r (fun x hx => h x (by simp [hx])) b hb)
theorem q_pc (K : QKit) : ∀ (us : List (List Char)), (∀ x ∈ us, K.Q x) → ∀ a, K.Q a → K.Q (a ++ pc us)
  | [], _, a, ha => by simpa using ha
  | x :: r, h, a, ha => by
    rw [pc_cons]
    have := q_pc K r (fun y hy => h y (by simp [hy])) (a ++ ' ' :: x) (K.sp ha (h x (by simp)))
    simpa using this
theorem q_cnl (K : QKit) : ∀ (l : List (List Char)), (∀ x ∈ l, K.Q x) → K.Q (joinLL [',', ' ', '\n'] l)
  | [], _ => K.nil
  | [a], h => h a (by simp)
  | a :: b :: r, h => by
    have := q_cnl K (b :: r) fun x hx => h x (by simp [hx])
    have e : joinLL [',', ' ', '\n'] (a :: b :: r) = a ++ ',' :: ([] ++ ' ' :: ([] ++ '\n' :: joinLL [',', ' ', '\n'] (b :: r))) := by
      simp [joinLL]
    rw [e]; exact K.sep _ _ _ K.s_cm (h a (by simp)) (K.sep _ _ _ K.s_sp K.nil (K.sep _ _ _ K.s_nl K.nil this))

end LLD

namespace LexLink
open Lex Spec C05 C06 C09 Ast TP TS TQ

structure Pc (K : QKit) (u : List Char) (ts : List Tok) : Prop where
  lx : Lx u ts
  q : K.Q u

structure SegP (K : QKit) (c : Char) (us : List (List Char)) (ts : List Tok) : Prop where
  seg : Seg c us ts
  q : ∀ x ∈ us, K.Q x

variable {K : QKit}

theorem Pc.congr {u u' : List Char} {ts ts' : List Tok} (h : Pc K u ts) (e1 : u = u') (e2 : ts = ts') : Pc K u' ts' := e1 ▸ e2 ▸ h
theorem Pc.nil : Pc K [] [] := ⟨lx_nil, K.nil⟩
theorem Pc.sep {a b : List Char} {ta tb : List Tok} (ha : Pc K a ta) (hb : Pc K b tb) : Pc K (a ++ ' ' :: b) (ta ++ tb) :=
  ⟨Lx.sep ha.lx hb.lx, K.sp ha.q hb.q⟩
theorem Pc.paren {a : List Char} {ta : List Tok} (ha : Pc K a ta) : Pc K ('(' :: (a ++ [')'])) [.group .paren ta Gen.mark_PARENTHESIS] :=
  ⟨Lx.paren ha.lx, K.paren ha.q⟩
theorem Pc.wrap (y : Expr) (k : Nat) {s : List Char} {ts : List Tok} (h : Pc K s ts) : Pc K (wrapL y k s) (wrapT (noX y) y k ts) :=
  ⟨lx_wrap h.lx, K.wrap y k h.q⟩
theorem Pc.call {u a : List Char} {tk : Tok} {ta : List Tok} (hu : Tk u tk '(') (hq : K.Q u) (ha : Pc K a ta) :
    Pc K (u ++ '(' :: (a ++ [')'])) [tk, .group .paren ta Gen.mark_PARENTHESIS] :=
  ⟨Lx.prefix (Lx.paren ha.lx) rfl hu, K.sep _ _ '(' K.s_lp hq (K.post K.s_rp ha.q)⟩

theorem SegP.nil (c : Char) : SegP K c [] [] := ⟨Seg.nil c, fun _ h => by cases h⟩
theorem SegP.one (c : Char) {u : List Char} {ts : List Tok} (h : Pc K u ts) : SegP K c [u] ts :=
  ⟨Seg.one c h.lx, fun x hx => by rw [List.mem_singleton.mp hx]; exact h.q⟩
theorem SegP.append {c : Char} (hc : c = ' ' ∨ c = '\n') {us vs : List (List Char)} {ts tv : List Tok} (h1 : SegP K c us ts)
    (h2 : SegP K c vs tv) : SegP K c (us ++ vs) (ts ++ tv) :=
  ⟨Seg.append hc h1.seg h2.seg, fun x hx => (List.mem_append.mp hx).elim (h1.q x) (h2.q x)⟩
theorem SegP.cons {c : Char} (hc : c = ' ' ∨ c = '\n') {u : List Char} {us : List (List Char)} {t ts : List Tok} (h1 : Pc K u t)
    (h2 : SegP K c us ts) : SegP K c (u :: us) (t ++ ts) := SegP.append hc (SegP.one c h1) h2
theorem SegP.congr {c : Char} {us us' : List (List Char)} {ts ts' : List Tok} (h : SegP K c us ts) (e1 : us = us') (e2 : ts = ts') :
    SegP K c us' ts' := e1 ▸ e2 ▸ h
theorem SegP.map {α : Type} {c : Char} (hc : c = ' ' ∨ c = '\n') (txt : α → List Char) (tk : α → List Tok) (xs : List α)
    (h : ∀ x ∈ xs, Pc K (txt x) (tk x)) : SegP K c (xs.map txt) ((xs.map tk).flatten) :=
  ⟨Seg.map hc txt tk xs fun x hx => (h x hx).lx, fun y hy => by obtain ⟨x, hx, rfl⟩ := List.mem_map.mp hy; exact (h x hx).q⟩
theorem SegP.pc {c : Char} (hc : c = ' ' ∨ c = '\n') {us : List (List Char)} {ts : List Tok} (h : SegP K c us ts) :
    Pc K (joinLL [c] us) ts := by
  refine ⟨?_, K.joinLL1 c (by rcases hc with rfl | rfl; exact K.s_sp; exact K.s_nl) us h.q⟩
  rcases h.seg with ⟨rfl, rfl⟩ | ⟨_, hl⟩
  · exact lx_nil
  · exact hl
theorem Pc.tail {a : List Char} {ta : List Tok} (ha : Pc K a ta) {us : List (List Char)} {ts : List Tok} (hs : SegP K ' ' us ts) :
    Pc K (a ++ LLD.pc us) (ta ++ ts) := ⟨LLD.lx_pc ha.lx hs.seg, LLD.q_pc K us hs.q a ha.q⟩

theorem SegP.head {us : List (List Char)} {ts : List Tok} (hs : SegP K ' ' us ts) {b : List Char} {tb : List Tok} (hb : Pc K b tb) :
    Pc K (LLD.ps us ++ b) (ts ++ tb) := ⟨LLD.lx_ps hs.seg hb.lx, LLD.q_ps K us hs.q b hb.q⟩

theorem Pc.commaList {α : Type} (txt : α → List Char) (tk : α → List Tok) (tail : List α → List Tok)
    (h0 : tail [] = []) (h1 : ∀ x xs, tail (x :: xs) = TS.commaTok :: (tk x ++ tail xs)) (xs : List α) (x : α)
    (h : ∀ y ∈ x :: xs, Pc K (txt y) (tk y)) : Pc K (joinLL [',', ' '] ((x :: xs).map txt)) (tk x ++ tail xs) :=
  ⟨lx_commaList txt tk tail h0 h1 xs x (h x (by simp)).lx fun y hy => (h y (by simp [hy])).lx,
    K.joinLL2 _ fun y hy => by obtain ⟨z, hz, rfl⟩ := List.mem_map.mp hy; exact (h z hz).q⟩

theorem Pc.ind4 {x : List Char} {tx : List Tok} (h : Pc K x tx) : Pc K (ind4 x) tx := ⟨lx_ind4 h.lx, q_ind4 K h.q⟩

theorem Pc.alias {x : List Char} {tx : List Tok} (hx : Pc K x tx) (a : Option String) (ha : optAliasLex a)
    (hq : ∀ y, a = some y → K.Q y.toList) : Pc K (x ++ aliasL a) (tx ++ aliasToks a) := ⟨lx_withAlias hx.lx a ha, q_alias3 K hx.q a hq⟩

theorem CL.of {p : Except Err (List String)} {us : List (List Char)} {ts : List Tok} (h : SegP K '\n' us ts)
    (pr : p = .ok (us.map String.ofList)) : CL K p us ts := ⟨h.seg, pr, h.q⟩
theorem CL.segp {p : Except Err (List String)} {us : List (List Char)} {ts : List Tok} (h : CL K p us ts) : SegP K '\n' us ts := ⟨h.seg, h.q⟩

/-- the phrase of an entry of a table of plain-word phrases (join types, set operators, INSERT kinds): the piece, and what the printer's
`wordsSrc` gives -/
theorem phrase_good {tbl : List (String × List String)} (hp : tbl.all (fun e => e.2.all fun w => plainL w.toList) = true)
    (hq : ∀ e ∈ tbl, ∀ w ∈ e.2, K.Q w.toList) {ty : String} {e : String × List String} (hf : tbl.find? (·.1 == ty) = some e)
    (hne : e.2 ≠ []) : Pc K (joinLL [' '] (e.2.map String.toList)) (e.2.map opTok) ∧
      ∃ s, PR.wordsSrc tbl ty = .ok s ∧ s.toList = joinLL [' '] (e.2.map String.toList) :=
  ⟨⟨lx_phrase hp hf hne, K.joinLL1 ' ' K.s_sp _ fun x hx => by
      obtain ⟨y, hy, rfl⟩ := List.mem_map.mp hx; exact hq e (List.mem_of_find?_eq_some hf) y hy⟩,
    PR.joinS " " e.2, by simp [PR.wordsSrc, hf], toList_joinS " " e.2⟩

theorem pc_kw (k : String) (hk : k ∈ keywords) : Pc K k.toList [opTok k] := ⟨lx_kw k hk, K.word k (mem_kw hk)⟩
theorem pc_cw (k : String) (hk : k ∈ clauseWords) : Pc K k.toList [opTok k] := ⟨lx_cw k hk, K.word k (mem_cw hk)⟩
theorem pc_qw (k : String) (hk : k ∈ queryWords) : Pc K k.toList [opTok k] := ⟨lx_qw k hk, K.word k (mem_qw hk)⟩
theorem pc_cval {d : Gen.D} (o : String) (h : PR.computeOpSrc d o = .ok (cval o)) : Pc K (cval o).toList [opTok (cval o)] :=
  ⟨lx_cval d o h, K.cv (d := d) o h⟩
theorem pc_cmpVal (o : String) (h : PR.compareOpSrc o = .ok (cmpVal o)) : Pc K (cmpVal o).toList [opTok (cmpVal o)] :=
  ⟨lx_cmpVal o h, K.cmp o h⟩

end LexLink
