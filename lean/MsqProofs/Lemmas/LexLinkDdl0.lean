import MsqProofs.Lemmas.LexLinkKits
import MsqProofs.Lemmas.LexLinkPc
import MsqProofs.Lemmas.TDdl0
/-!
# The lexer link for CREATE TABLE, lexer side (C18 / C01 / C03)

What the CREATE TABLE printers write beyond expressions and the separators of the SELECT link:

* the line break directly after `(` and before `)`, the comma directly followed by a line break and the two-blank indentation or by the
  next parameter (`DECIMAL(10,2)`): the separators of `LexLinkSelect.lean` (`Lx.nl`, `Lx.nlTrail`, `Lx.comma0`);
* `=` between a keyword / a quoted key and a value without blanks (`ENGINE=InnoDB`, `'k'='v'`): `tk_eq`, `Lx.eqJoin`;
* raw-source payloads (`srcLex`: comments, charset / engine / index names …: a digit string, a quoted string of the escape grammar,
  a back-quoted name, or a plain word) read back as the ONE token `TD.srcTok s` (`lx_src`), also directly before `=` (`tk_src_eq`).
-/
namespace LD
open Lex Spec C05 C06 C09 Ast TP TS TD LexLink

theorem Lx.pre {u b : List Char} {tk : Tok} {tb : List Tok} (hb : Lx b tb) (hne : b ≠ []) (hu : ∀ c, Tk u tk c) :
    Lx (u ++ b) (tk :: tb) := by
  cases b with
  | nil => exact absurd rfl hne
  | cons c b' => exact Lx.prefix hb rfl (hu c)

theorem wmL_eq : wmL ['='] = 0 := by decide +kernel

theorem eqTok_eq : eqTok = .single ['='] 0 := by
  simp only [eqTok, opTok_eq]
  have : ("=" : String).toList = ['='] := rfl
  rw [this, wmL_eq]

theorem tk_eq (c : Char) : Tk ['='] eqTok c := by
  rw [eqTok_eq]
  exact tk_of_feed (feed_of_complete (ur := []) rfl (Or.inr ⟨look (by decide +kernel), rfl⟩)) c

theorem Lx.eqJoin {a b : List Char} {ta : Tok} {tb : List Tok} (ha : Tk a ta '=') (hb : Lx b tb) (hne : b ≠ []) :
    Lx (a ++ '=' :: b) (ta :: eqTok :: tb) :=
  Lx.prefix (Lx.pre hb hne tk_eq) rfl ha

def ddlWords : List String :=
  ["CREATE", "TABLE", "IF", "NOT", "EXISTS", "UNSIGNED", "ZEROFILL", "CHARACTER", "SET", "COLLATE", "GENERATED", "ALWAYS", "AS", "NULL",
   "AUTO_INCREMENT", "DEFAULT", "ON", "UPDATE", "COMMENT", "PRIMARY", "KEY", "UNIQUE", "FULLTEXT", "USING", "KEY_BLOCK_SIZE",
   "CONSTRAINT", "FOREIGN", "REFERENCES", "DELETE", "NO", "ACTION", "CASCADE", "RESTRICT", "ENGINE", "CHARSET", "ROW_FORMAT",
   "STATS_PERSISTENT", "PARTITIONED", "BY", "ROW", "FORMAT", "SERDE", "DELIMITED", "FIELDS", "TERMINATED", "STORED", "INPUTFORMAT",
   "TEXTFILE", "OUTPUTFORMAT", "LOCATION", "TBLPROPERTIES", "VIRTUAL"]
/-- the keywords written directly before `=` -/
def eqWords : List String := ["ENGINE", "AUTO_INCREMENT", "CHARSET", "COLLATE", "ROW_FORMAT", "STATS_PERSISTENT", "COMMENT", "KEY_BLOCK_SIZE"]

theorem ddl_words_plainL : ddlWords.all (fun k => plainL k.toList) = true := by decide +kernel
theorem eq_words_plainL : eqWords.all (fun k => plainL k.toList) = true := by decide +kernel

theorem lx_w (k : String) (hk : k ∈ ddlWords) : Lx k.toList [opTok k] := lx_kwd ((List.all_eq_true.mp ddl_words_plainL) k hk)

/-- a quoted string `'…'` / `"…"` whose body obeys the escape grammar (doubled quotes, backslash + any character) and has no
character the lexer's pre-pass rewrites -/
def quotedLex (s : String) : Prop :=
  ∃ k body, k ≠ QK.bq ∧ s.toList = k.wrap body ∧ strBody k.ch body = true ∧ ∀ x ∈ body, plain x = true
/-- **a raw-source payload** (comment, charset, engine, index name, …) the lexer reads back as ONE token: a non-empty digit string, a
quoted string of the escape grammar, a back-quoted name (no back-quote inside), or a plain word `[A-Za-z_][A-Za-z0-9_]*`; no TAB / CR /
U+3000 -/
def srcLex (s : String) : Prop :=
  (s.toList ≠ [] ∧ ∀ x ∈ s.toList, isDigit x.toNat = true) ∨ quotedLex s ∨
  (∃ body, s.toList = '`' :: (body ++ ['`']) ∧ ∀ x ∈ body, x ≠ '`' ∧ plain x = true) ∨
  plainL s.toList = true
def optSrcLex : Option String → Prop
  | none => True
  | some s => srcLex s

theorem alpha_not_quote (c : Char) (h : (c.isAlpha || c == '_') = true) : c ≠ '\'' ∧ c ≠ '"' ∧ c ≠ '`' ∧ c ≠ '=' := by
  refine ⟨?_, ?_, ?_, ?_⟩ <;> intro e <;> subst e <;> revert h <;> decide

theorem srcMark_digits (s : String) (hne : s.toList ≠ []) (hd : ∀ x ∈ s.toList, isDigit x.toNat = true) :
    srcMark s = (Gen.mark_LITERAL ||| Gen.mark_LITERAL_INT) := by
  simp [srcMark, isDigits_digits s hne hd, Lex.LITERAL]

theorem srcMark_quoted (s : String) (k : QK) (hk : k ≠ .bq) (body : List Char) (hv : s.toList = k.wrap body) :
    srcMark s = (Gen.mark_LITERAL ||| Gen.mark_NAME) := by
  simp [srcMark, (isDigits_quoted s k hk body hv).1, (isDigits_quoted s k hk body hv).2, Lex.LITERAL, Lex.NAME]

theorem srcMark_bq (s : String) (body : List Char) (hv : s.toList = '`' :: (body ++ ['`'])) : srcMark s = Gen.mark_NAME := by
  have hdig : isDigits s = false := by
    simp only [isDigits, Bool.and_eq_false_iff]
    right
    rw [hv]
    simp
  have hh : (s.toList.head? == some '\'' || s.toList.head? == some '"') = false := by rw [hv]; simp
  have hb : (s.toList.head? == some '`') = true := by rw [hv]; rfl
  simp [srcMark, hdig, hh, hb, Lex.NAME]

theorem srcMark_plain (s : String) (h : plainL s.toList = true) : srcMark s = wmL s.toList := by
  cases hv : s.toList with
  | nil => rw [hv] at h; cases h
  | cons c r =>
    rw [hv] at h
    simp only [plainL, Bool.and_eq_true] at h
    have hnd := alpha_not_digit c h.1
    have hnq := alpha_not_quote c h.1
    have hdig : isDigits s = false := by
      simp only [isDigits, Bool.and_eq_false_iff]; right; rw [hv]; simp [hnd]
    have hh : (s.toList.head? == some '\'' || s.toList.head? == some '"') = false := by
      rw [hv]; simp [hnq.1, hnq.2.1]
    have hb : (s.toList.head? == some '`') = false := by rw [hv]; simp [hnq.2.2.1]
    simp [srcMark, hdig, wordMark_eq, hv, hnq.1, hnq.2.1, hnq.2.2.1]

theorem lx_src (s : String) (h : srcLex s) : Lx s.toList [srcTok s] := by
  rcases h with ⟨hne, hd⟩ | ⟨k, body, hk, hv, hb, _⟩ | ⟨body, hv, hb⟩ | hp
  · simp only [srcTok, srcMark_digits s hne hd]
    exact lx_int s.toList hne hd
  · simp only [srcTok, srcMark_quoted s k hk body hv]
    rw [hv]; exact lx_string k hk body hb
  · simp only [srcTok, srcMark_bq s body hv]
    rw [hv]; exact lx_name body fun x hx => (hb x hx).1
  · simp only [srcTok, srcMark_plain s hp]
    exact lx_plain s.toList hp

theorem tk_quoted_eq (s : String) (h : quotedLex s) : Tk s.toList (srcTok s) '=' := by
  obtain ⟨k, body, hk, hv, hb, _⟩ := h
  simp only [srcTok, srcMark_quoted s k hk body hv]
  rw [hv]; exact tk_string k hk body hb '=' (by cases k <;> decide)

theorem bx_eq : tkIs ['b'] '=' (.single ['b'] Gen.mark_NAME) = true ∧ tkIs ['B'] '=' (.single ['B'] Gen.mark_NAME) = true ∧
    tkIs ['x'] '=' (.single ['x'] Gen.mark_NAME) = true ∧ tkIs ['X'] '=' (.single ['X'] Gen.mark_NAME) = true := by decide +kernel

theorem tk_plain_eq (a : List Char) (h : plainL a = true) : Tk a (.single a (wmL a)) '=' := by
  rcases plain_path a h with hp | ⟨c, rfl, hbx⟩
  · rw [← wordMark_plain a h]; exact tk_of_inword a hp '=' (by decide +kernel)
  · rcases hbx with rfl | rfl | rfl | rfl
    · rw [wmL_bx.1]; exact tk_of_is bx_eq.1
    · rw [wmL_bx.2.1]; exact tk_of_is bx_eq.2.1
    · rw [wmL_bx.2.2.1]; exact tk_of_is bx_eq.2.2.1
    · rw [wmL_bx.2.2.2]; exact tk_of_is bx_eq.2.2.2

theorem tk_w_eq (k : String) (hk : k ∈ eqWords) : Tk k.toList (opTok k) '=' := by
  rw [opTok_eq]; exact tk_plain_eq _ ((List.all_eq_true.mp eq_words_plainL) k hk)

theorem tk_src_eq (s : String) (h : srcLex s) : Tk s.toList (srcTok s) '=' := by
  rcases h with ⟨hne, hd⟩ | hq | ⟨body, hv, hb⟩ | hp
  · simp only [srcTok, srcMark_digits s hne hd]
    exact tk_int s.toList hne hd '=' (.inr rfl)
  · exact tk_quoted_eq s hq
  · simp only [srcTok, srcMark_bq s body hv]
    rw [hv]; exact tk_bq body (fun x hx => (hb x hx).1) '='
  · simp only [srcTok, srcMark_plain s hp]
    exact tk_plain_eq s.toList hp

theorem quoted_src (s : String) (h : quotedLex s) : srcLex s := Or.inr (Or.inl h)

theorem allP_src (s : String) (h : srcLex s) : allP s.toList = true := by
  rcases h with ⟨_, hd⟩ | ⟨k, body, hk, hv, _, hp⟩ | ⟨body, hv, hb⟩ | hp
  · exact List.all_eq_true.mpr fun x hx => digit_plain x (hd x hx)
  · rw [hv]
    have hq : plain k.ch = true := by cases k <;> decide
    simp only [QK.wrap, allP, List.all_cons, List.all_append, List.all_nil, Bool.and_true, Bool.and_eq_true, List.all_eq_true]
    exact ⟨hq, hp, hq⟩
  · rw [hv]
    have hq : plain '`' = true := by decide
    simp only [allP, List.all_cons, List.all_append, List.all_nil, Bool.and_true, Bool.and_eq_true, List.all_eq_true]
    exact ⟨hq, fun x hx => (hb x hx).2, hq⟩
  · exact plainL_allP _ hp

theorem src_ne_nil (s : String) (h : srcLex s) : s.toList ≠ [] := by
  rcases h with ⟨hne, _⟩ | ⟨k, body, _, hv, _, _⟩ | ⟨body, hv, _⟩ | hp
  · exact hne
  · rw [hv]; simp [QK.wrap]
  · rw [hv]; simp
  · intro e; rw [e] at hp; cases hp

def LL : List (List Char) → List (List Tok) → Prop
  | [], [] => True
  | u :: us, t :: ts => Lx u t ∧ LL us ts
  | _, _ => False

theorem LL.nil : LL [] [] := trivial
theorem LL.append : ∀ {us vs : List (List Char)} {ts tv : List (List Tok)}, LL us ts → LL vs tv → LL (us ++ vs) (ts ++ tv)
  | [], _, [], _, _, h2 => h2
  | [], _, _ :: _, _, h1, _ => h1.elim
  | _ :: _, _, [], _, h1, _ => h1.elim
  | _ :: _, _, _ :: _, _, h1, h2 => ⟨h1.1, LL.append h1.2 h2⟩
theorem LL.map {α : Type} (f : α → List Char) (g : α → List Tok) : ∀ (xs : List α), (∀ x ∈ xs, Lx (f x) (g x)) →
    LL (xs.map f) (xs.map g)
  | [], _ => trivial
  | x :: xs, h => ⟨h x (by simp), LL.map f g xs fun y hy => h y (by simp [hy])⟩
theorem LL.mapL (w : List Char → List Char)
    (hw : ∀ {b : List Char} {tb : List Tok}, Lx b tb → Lx (w b) tb) : ∀ {us : List (List Char)} {ts : List (List Tok)}, LL us ts →
    LL (us.map w) ts
  | [], [], _ => trivial
  | [], _ :: _, h => h.elim
  | _ :: _, [], h => h.elim
  | _ :: us, _ :: ts, h => ⟨hw h.1, LL.mapL (us := us) (ts := ts) w hw h.2⟩

theorem lx_sepAll (gap : List Char) (hgap : ∀ {b : List Char} {tb : List Tok}, Lx b tb → Lx (gap ++ b) tb) :
    ∀ (us : List (List Char)) (tss : List (List Tok)), LL us tss → Lx (joinLL (',' :: gap) us) (sepAll tss)
  | [], [], _ => lx_nil
  | [], _ :: _, h => h.elim
  | _ :: _, [], h => h.elim
  | [u], [t], h => by simpa [joinLL, sepAll, sepTail] using h.1
  | [_], _ :: _ :: _, h => h.2.elim
  | _ :: _ :: _, [_], h => h.2.elim
  | u :: v :: us, t :: t' :: ts, h => by
    have ih := lx_sepAll gap hgap (v :: us) (t' :: ts) h.2
    have := Lx.comma0 h.1 (hgap ih)
    exact Lx.congr this (by simp [joinLL]) (by simp [sepAll, sepTail])

/-- the pieces, each preceded by a blank: the text `LLD.pc us` (`tailL_pc`), under the name the CREATE TABLE mirrors are written with -/
def tailL (us : List (List Char)) : List Char := (us.map (' ' :: ·)).flatten

theorem tailL_pc (us : List (List Char)) : tailL us = LLD.pc us := rfl
@[simp] theorem tailL_nil : tailL [] = [] := rfl
@[simp] theorem tailL_cons (u : List Char) (us : List (List Char)) : tailL (u :: us) = ' ' :: (u ++ tailL us) := by simp [tailL]
@[simp] theorem tailL_append (us vs : List (List Char)) : tailL (us ++ vs) = tailL us ++ tailL vs := by simp [tailL]

/-! ## first and last characters: no `=` (for `a=b` without blanks) -/

theorem getLast_wrap (c q : Char) (body : List Char) : (c :: (body ++ [q])).getLast? = some q := by
  show ((c :: body) ++ [q]).getLast? = some q
  exact List.getLast?_concat

theorem src_last (s : String) (h : srcLex s) : ∀ x, s.toList.getLast? = some x → x ≠ '=' := by
  intro x hx
  have hmem : x ∈ s.toList := List.mem_of_getLast? hx
  rcases h with ⟨_, hd⟩ | ⟨k, body, hk, hv, _, _⟩ | ⟨body, hv, _⟩ | hp
  · intro e; subst e; have := hd '=' hmem; revert this; decide
  · rw [hv] at hx
    simp only [QK.wrap] at hx
    rw [getLast_wrap] at hx
    simp only [Option.some.injEq] at hx; rw [← hx]; cases k <;> decide
  · rw [hv] at hx
    rw [getLast_wrap] at hx
    simp only [Option.some.injEq] at hx; rw [← hx]; decide
  · cases hv : s.toList with
    | nil => rw [hv] at hmem; cases hmem
    | cons c r =>
      rw [hv] at hp hmem
      simp only [plainL, Bool.and_eq_true, List.all_eq_true] at hp
      rcases List.mem_cons.mp hmem with rfl | hm
      · exact (alpha_not_quote x hp.1).2.2.2
      · exact alnum_ne_eq x (hp.2 x hm)

theorem src_head (s : String) (h : srcLex s) : ∀ x, s.toList.head? = some x → x ≠ '=' := by
  intro x hx
  rcases h with ⟨_, hd⟩ | ⟨k, body, hk, hv, _, _⟩ | ⟨body, hv, _⟩ | hp
  · have hmem : x ∈ s.toList := List.mem_of_head? hx
    intro e; subst e; have := hd '=' hmem; revert this; decide
  · rw [hv] at hx; simp only [QK.wrap, List.head?_cons, Option.some.injEq] at hx; rw [← hx]; cases k <;> decide
  · rw [hv] at hx; simp only [List.head?_cons, Option.some.injEq] at hx; rw [← hx]; decide
  · cases hv : s.toList with
    | nil => rw [hv] at hx; cases hx
    | cons c r =>
      rw [hv] at hp hx
      simp only [plainL, Bool.and_eq_true] at hp
      simp only [List.head?_cons, Option.some.injEq] at hx
      rw [← hx]; exact (alpha_not_quote c hp.1).2.2.2

theorem plain_last (a : List Char) (h : plainL a = true) : ∀ x, a.getLast? = some x → x ≠ '=' := by
  intro x hx
  have hm := List.mem_of_getLast? hx
  cases a with
  | nil => cases hm
  | cons c r =>
    simp only [plainL, Bool.and_eq_true, List.all_eq_true] at h
    rcases List.mem_cons.mp hm with rfl | hm
    · exact alnum_ne_eq x (plainL_head x h.1)
    · exact alnum_ne_eq x (h.2 x hm)

theorem int_head (n : Int) (h : 0 ≤ n) : ∀ x, (toString n).toList.head? = some x → x ≠ '=' := by
  intro x hx e
  subst e
  have := (toString_nonneg n h).2 '=' (List.mem_of_head? hx)
  revert this; decide

end LD
