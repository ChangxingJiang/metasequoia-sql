import MsqProofs.Lemmas.TQueryE3
/-! Nested query fragment, expression layer: membership in lists of children, single-token renderings. -/
open Lex PM Ast SR TP TP2
namespace TQ
variable {d : Gen.D} {ch : Expr → Bool}

theorem frag2L_mem : ∀ (ps : List Expr), FragL3 d ps = true → ∀ a ∈ ps, FragE3 d a = true ∧ szE3 a ≤ szL3 ps := by
  intro ps
  induction ps with
  | nil => intro _ a ha; simp at ha
  | cons p ps ih =>
    intro h a ha
    simp only [FragL3, Bool.and_eq_true] at h
    simp only [List.mem_cons] at ha
    rcases ha with rfl | ha
    · exact ⟨h.1, by simp only [szL3]; omega⟩
    · obtain ⟨x, y⟩ := ih h.2 a ha; exact ⟨x, by simp only [szL3]; omega⟩
theorem frag2A_mem : ∀ (cs : List (Expr × Expr)), FragA3 d cs = true → ∀ p ∈ cs, (FragE3 d p.1 = true ∧ szE3 p.1 ≤ szA3 cs) ∧ (FragE3 d p.2 = true ∧ szE3 p.2 ≤ szA3 cs) := by
  intro cs
  induction cs with
  | nil => intro _ a ha; simp at ha
  | cons q cs ih =>
    obtain ⟨w, t⟩ := q
    intro h p hp
    simp only [FragA3, Bool.and_eq_true] at h
    simp only [List.mem_cons] at hp
    rcases hp with rfl | hp
    · exact ⟨⟨h.1.1, by simp only [szA3]; omega⟩, ⟨h.1.2, by simp only [szA3]; omega⟩⟩
    · obtain ⟨⟨x1, x2⟩, ⟨y1, y2⟩⟩ := ih h.2 p hp
      exact ⟨⟨x1, by simp only [szA3]; omega⟩, ⟨y1, by simp only [szA3]; omega⟩⟩
theorem nc_single {t : Tok} (h : t.equalsStr "," = false) : NoComma [t] := NoComma.cons h NoComma.nil

theorem head_tok {e : Expr} (t : Tok) (ts : List Tok) (h1 : hdTok t = true) (h2 : operandTok d t = true) : Head2 d e (t :: ts) :=
  ⟨t, ts, rfl, h1, fun _ => h2⟩
end TQ
