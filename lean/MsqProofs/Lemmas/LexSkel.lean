import MsqProofs.Lemmas.LexSem
/-!
# Bracket structure of the token tree (C04 b, c), generic in the table

Every operation body has a normal form (`summarize`); its group part is `none`, `push` or `pop k`.  Running the lexer,
the frame stack is at every moment the parse of the sequence of these *bracket events*:

* `skelL ts` — the bracket skeleton of a token list, in pre-order: a group of kind `k` contributes `opn`, the skeleton
  of its children, `cls k`;
* `skelS stack` — the skeleton of a frame stack: the closed part of every open frame, separated by one `opn` per open
  frame;
* `trace cfg s text` — the events the table prescribes for `text` from state `s`: a projection of the lexer to its
  *status* component (no window, no stack, no errors).

`lex_skel`: for every accepted text the skeleton of the result is the trace of the text.  Since the skeleton of a tree
is balanced (`depthOK_skelL`), a text whose trace is unbalanced is not accepted (`lex_unbalanced`).
-/
namespace Lex

/-- a bracket event: a group is opened (its kind is not known yet: it is decided by the CLOSING bracket, F-C04-1), or
the innermost open group is closed as a group of kind `k` -/
inductive Ev | opn | cls (k : GK) deriving DecidableEq, Repr

mutual
/-- pre-order bracket skeleton of a token -/
def skelT : Tok → List Ev
  | .single _ _ => []
  | .group k cs _ => .opn :: (skelL cs ++ [.cls k])
def skelL : List Tok → List Ev
  | [] => []
  | t :: ts => skelT t ++ skelL ts
end

theorem skelL_append (a b : List Tok) : skelL (a ++ b) = skelL a ++ skelL b := by
  induction a with
  | nil => rfl
  | cons t ts ih => simp [skelL, ih]

/-- skeleton of a frame stack (innermost frame first) -/
def skelS : List (List Tok) → List Ev
  | [] => []
  | [f] => skelL f
  | f :: g :: rest => skelS (g :: rest) ++ .opn :: skelL f

theorem skelS_appendTop_single {s : List Char} {k : Nat} {st st' : List (List Tok)}
    (h : appendTop (.single s k) st = some st') : st' ≠ [] ∧ skelS st' = skelS st := by
  cases st with
  | nil => cases h
  | cons f fs => cases h; cases fs <;> simp [skelS, skelL_append, skelL, skelT]

theorem skelS_push (g : List Tok) (rest : List (List Tok)) : skelS ([] :: g :: rest) = skelS (g :: rest) ++ [.opn] := by
  simp [skelS, skelL]

theorem skelS_appendTop_group {k : GK} {f : List Tok} {mk : Nat} {fs st' : List (List Tok)}
    (h : appendTop (.group k f mk) fs = some st') : st' ≠ [] ∧ skelS st' = skelS (f :: fs) ++ [.cls k] := by
  cases fs with
  | nil => cases h
  | cons g rest => cases h; cases rest <;> simp [skelS, skelL_append, skelL, skelT]

def grpEv : Grp → List Ev
  | .none => []
  | .push => [.opn]
  | .pop k _ => [.cls k]

theorem skelS_bodyStk {env : Env} {sm : Nat} {m : Mem} {now : Nat} {body : Body} {stk : List (List Tok)}
    (h : bodyStk env sm m now body = some stk) (hne : m.stack ≠ []) : stk ≠ [] ∧ skelS stk = skelS m.stack := by
  cases body with
  | emit mk => exact skelS_appendTop_single h
  | keep | drop => cases h; exact ⟨hne, rfl⟩

theorem skelS_grpStk {env : Env} {sm : Nat} {grp : Grp} {stk stk' : List (List Tok)}
    (h : grpStk env sm grp stk = some stk') (hne : stk ≠ []) : stk' ≠ [] ∧ skelS stk' = skelS stk ++ grpEv grp := by
  cases grp with
  | none => cases h; exact ⟨hne, by simp [grpEv]⟩
  | push =>
    cases h
    cases stk with
    | nil => exact absurd rfl hne
    | cons g rest => exact ⟨by simp, skelS_push g rest⟩
  | pop k mk =>
    cases stk with
    | nil => cases h
    | cons f fs => exact skelS_appendTop_group h

theorem execCore_skel (env : Env) (ss : S) (sm : Nat) (adv : Bool) (body : Body) (grp : Grp) (st : St) (ret : Bool)
    (m m' : Mem) (b : Bool) (h : execCore env ss sm adv body grp st ret m = .ok (m', b)) (hne : m.stack ≠ []) :
    m'.stack ≠ [] ∧ skelS m'.stack = skelS m.stack ++ grpEv grp ∧ m'.status = st.resolve ss m.status ∧ b = ret := by
  obtain ⟨hb, _, hst, _, stk, h1, h2⟩ := execCore_ok env ss sm h
  obtain ⟨n1, e1⟩ := skelS_bodyStk h1 hne
  obtain ⟨n2, e2⟩ := skelS_grpStk h2 n1
  exact ⟨n2, by rw [e2, e1], hst, hb⟩

/-! ## the status projection of the lexer -/

variable {Cls : Type}

/-- what an operation does, as far as status, retry flag and bracket events are concerned (`none`: no cell, or the
cell raises) -/
def opInfo (cfg : Cfg Cls) (s : S) : Option (OpRef Cls) → Option (S × Bool × List Ev)
  | none => none
  | some o =>
    match summarize (cfg.code o.cls) with
    | none => none
    | some sm => if sm.raises then none else some (sm.st.resolve o.status s, sm.ret, grpEv sm.grp)

/-- what the table prescribes in state `s` on `sym` -/
def stepInfo (cfg : Cfg Cls) (s : S) (sym : Sym) : Option (S × Bool × List Ev) := opInfo cfg s (cfg.lookup s sym)

/-- one character with the driver's retry (`if not handle(ch): handle(ch)`), given the single-step function -/
def feedInfo (f : S → Option (S × Bool × List Ev)) (s : S) : Option (S × List Ev) :=
  match f s with
  | none => none
  | some (s1, true, e1) => some (s1, e1)
  | some (s1, false, e1) =>
    match f s1 with
    | none => none
    | some (s2, _, e2) => some (s2, e1 ++ e2)

/-- one character, with the driver's retry (`if not handle(ch): handle(ch)`) -/
def traceFeed (cfg : Cfg Cls) (s : S) (c : Char) : S × List Ev :=
  match stepInfo cfg s (.ch c) with
  | none => (s, [])
  | some (s1, true, e1) => (s1, e1)
  | some (s1, false, e1) =>
    match stepInfo cfg s1 (.ch c) with
    | none => (s1, e1)
    | some (s2, _, e2) => (s2, e1 ++ e2)

/-- the same, `none` when a cell is missing or raises (then the text is not accepted) -/
def traceFeed? (cfg : Cfg Cls) (s : S) (c : Char) : Option (S × List Ev) := feedInfo (fun s => stepInfo cfg s (.ch c)) s

/-- the final status and the bracket events of a text read from status `s` -/
def trace (cfg : Cfg Cls) : S → List Char → S × List Ev
  | s, [] => (s, [])
  | s, c :: cs => let r := traceFeed cfg s c; let r' := trace cfg r.1 cs; (r'.1, r.2 ++ r'.2)

/-- the bracket skeleton of a text according to the table: the events of its characters and of the end of the text -/
def textSkeleton (cfg : Cfg Cls) (text : List Char) : List Ev :=
  let r := trace cfg .WAIT text
  r.2 ++ (match stepInfo cfg r.1 .eof with | some (_, _, e) => e | none => [])

section run
variable (cfg : Cfg Cls) (hsum : ∀ c, (summarize (cfg.code c)).isSome = true) (text : List Char)
include hsum

theorem handle_skel (m m' : Mem) (sym : Sym) (b : Bool) (h : handle cfg text m sym = .ok (m', b)) (hne : m.stack ≠ []) :
    ∃ e, stepInfo cfg m.status sym = some (m'.status, b, e) ∧ skelS m'.stack = skelS m.stack ++ e ∧ m'.stack ≠ [] := by
  obtain ⟨o, sm, ho, hs, hr, h⟩ := handle_ok_of (fun o _ => Option.isSome_iff_exists.mp (hsum o.cls)) h
  obtain ⟨h1, h2, h3, h4⟩ := execCore_skel _ _ _ _ _ _ _ _ _ _ _ h hne
  exact ⟨grpEv sm.grp, by simp [stepInfo, opInfo, ho, hs, h3, h4, hr], h2, h1⟩

theorem feedWith_skel (m m' : Mem) (c : Char) (h : feedWith (handle cfg text) m c = .ok m') (hne : m.stack ≠ []) :
    ∃ e, traceFeed? cfg m.status c = some (m'.status, e) ∧ skelS m'.stack = skelS m.stack ++ e ∧ m'.stack ≠ [] := by
  rcases feedWith_ok h with h1 | ⟨m1, b, h1, h2⟩
  · obtain ⟨ev1, hi1, hk1, hn1⟩ := handle_skel cfg hsum text m m' (.ch c) true h1 hne
    exact ⟨ev1, by simp [traceFeed?, feedInfo, hi1], hk1, hn1⟩
  · obtain ⟨ev1, hi1, hk1, hn1⟩ := handle_skel cfg hsum text m m1 (.ch c) false h1 hne
    obtain ⟨ev2, hi2, hk2, hn2⟩ := handle_skel cfg hsum text m1 m' (.ch c) b h2 hn1
    exact ⟨ev1 ++ ev2, by simp [traceFeed?, feedInfo, hi1, hi2], by rw [hk2, hk1, List.append_assoc], hn2⟩

omit hsum in
theorem traceFeed_of_some {s : S} {c : Char} {r : S × List Ev} (h : traceFeed? cfg s c = some r) : traceFeed cfg s c = r := by
  simp only [traceFeed?, feedInfo] at h
  unfold traceFeed
  split at h
  · cases h
  · rename_i h1; cases h; simp [h1]
  · rename_i h1
    split at h
    · cases h
    · rename_i h2; cases h; simp [h1, h2]

theorem feedAllWith_skel (cs : List Char) : ∀ (m m' : Mem), feedAllWith (handle cfg text) cs m = .ok m' → m.stack ≠ [] →
    m'.status = (trace cfg m.status cs).1 ∧ skelS m'.stack = skelS m.stack ++ (trace cfg m.status cs).2 ∧ m'.stack ≠ [] := by
  induction cs with
  | nil =>
    intro m m' h hne
    cases h
    simp [trace, hne]
  | cons c cs ih =>
    intro m m' h hne
    obtain ⟨m1, e1, h⟩ := feedAllWith_cons_ok h
    obtain ⟨e, a1, a2, a3⟩ := feedWith_skel cfg hsum text m m1 c e1 hne
    obtain ⟨b1, b2, b3⟩ := ih m1 m' h a3
    simp only [trace, traceFeed_of_some cfg a1]
    exact ⟨b1, by rw [b2, a2, List.append_assoc], b3⟩

end run

/-- **the skeleton theorem**, generic in the table: for every accepted text, the bracket skeleton of the token tree is
the bracket-event trace of the (pre-processed) text -/
theorem lex_skel (cfg : Cfg Cls) (hsum : ∀ c, (summarize (cfg.code c)).isSome = true) (hd : cfg.depthLimit ≤ 1)
    (raw : List Char) (ts : List Tok) (h : lex cfg raw = .ok ts) : skelL ts = textSkeleton cfg (cfg.pre raw) := by
  obtain ⟨m, m', b, e1, e2, hf⟩ := lexWith_ok h
  obtain ⟨a1, a2, a3⟩ := feedAllWith_skel cfg hsum (cfg.pre raw) (cfg.pre raw) {} m e1 (by simp)
  obtain ⟨ev, hi, hk, hn⟩ := handle_skel cfg hsum (cfg.pre raw) m m' .eof b e2 a3
  have hts : skelL ts = skelS m'.stack := by rw [(finish_ok_inv hd hf).2]; rfl
  rw [hts, hk, a2]
  simp only [textSkeleton]
  rw [a1] at hi
  simp [hi, skelS, skelL]

/-! ## trees are balanced -/

/-- the events are a balanced bracket word from depth `d`: never more closings than openings, none left open -/
def depthOK : Nat → List Ev → Bool
  | d, [] => d == 0
  | d, .opn :: r => depthOK (d + 1) r
  | d + 1, .cls _ :: r => depthOK d r
  | 0, .cls _ :: _ => false

mutual
theorem depthOK_skelT : ∀ (t : Tok) (d : Nat) (rest : List Ev), depthOK d (skelT t ++ rest) = depthOK d rest
  | .single _ _, d, rest => rfl
  | .group k cs m, d, rest => by
    simp only [skelT, List.cons_append, List.append_assoc, depthOK]
    rw [depthOK_skelL cs (d + 1)]
    simp [depthOK]
theorem depthOK_skelL : ∀ (l : List Tok) (d : Nat) (rest : List Ev), depthOK d (skelL l ++ rest) = depthOK d rest
  | [], d, rest => rfl
  | t :: ts, d, rest => by
    simp only [skelL, List.append_assoc]
    rw [depthOK_skelT t d, depthOK_skelL ts d]
end

theorem depthOK_tree (ts : List Tok) : depthOK 0 (skelL ts) = true := by
  have := depthOK_skelL ts 0 []
  simpa [depthOK] using this

theorem lex_unbalanced (cfg : Cfg Cls) (hsum : ∀ c, (summarize (cfg.code c)).isSome = true) (hd : cfg.depthLimit ≤ 1)
    (raw : List Char) (hu : depthOK 0 (textSkeleton cfg (cfg.pre raw)) = false) : ∀ ts, lex cfg raw ≠ .ok ts := by
  intro ts h
  have := lex_skel cfg hsum hd raw ts h
  rw [← this, depthOK_tree] at hu
  cases hu

end Lex
