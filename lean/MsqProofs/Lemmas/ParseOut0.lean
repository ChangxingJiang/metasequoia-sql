import MsqProofs.Lemmas.ParseAdq0
import MsqProofs.Lemmas.ParseNoPyPrim
/-!
# What a run of a parser function answers (the base of the family `tools/gen_out.py` prints)

A run `f … ts = res` on the cursor `ts` answers three questions at once:

* where the cursor stands — a successful run returns a rest of `ts` (`ConsRel`, C08: nothing skipped, reordered or invented);
* which family the error belongs to — a failed run fails with `.parse`, `.fuel` or `.unmodelled _` (`Kind`, C07: no foreign exception);
* whether the budget sufficed — with `rank + weight of the cursor` units of fuel the error is not `.fuel` (C07 / C19: the recursion ends).

One unfolding of `f`, split into its paths, settles all three: on every path the answer is a constructor, or the answer of the last
callee, and the callees' answers are the induction hypothesis.  So the three are proved together, one lemma per function, and the
records `ConsF`, `NoPyF`, `AdqF` and the per-function forms are read off.

`Out ts res` holds the first two answers.  The third stands BESIDE it, as `B → res ≠ .error .fuel` with the budget condition `B` of
the function: a tail call hands the callee's answer on unchanged, and that answer satisfies `Out` for the caller's cursor as it does
for the callee's (`Out.of_sfx`), whereas the callee's budget condition is not the caller's — it follows from it by arithmetic, which
could not be done under a relation that hides `B`.
-/
open Lex
namespace PM

def Kind {α : Type} (a : Except Err α) : Prop := ∀ x, a = .error x → x.parserKind = true
@[grind =] theorem kind_ok {α : Type} (v : α) : Kind (.ok v : Except Err α) = True := by simp [Kind]
@[grind =] theorem kind_error {α : Type} (e : Err) : Kind (.error e : Except Err α) = (e.parserKind = true) := by simp [Kind]
theorem Kind.of_nopy {α : Type} {a : Except Err α} (h : ∀ x, x.parserKind = false → a ≠ .error x) : Kind a :=
  fun x e => by cases hk : x.parserKind with | true => rfl | false => exact absurd e (h x hk)
theorem Kind.nopy {α : Type} {a : Except Err α} (h : Kind a) (x : Err) (hx : x.parserKind = false) : a ≠ .error x :=
  fun e => by rw [h x e] at hx; cases hx

def Out {α : Type} (ts : List Tok) (a : R α) : Prop := ConsRel ts a ∧ Kind a
@[grind =] theorem out_ok {α : Type} (ts : List Tok) (v : α) (r : List Tok) : Out ts (.ok (v, r) : R α) = Sfx r ts := by
  simp [Out, ConsRel, Kind]
@[grind =] theorem out_error {α : Type} (ts : List Tok) (e : Err) : Out ts (.error e : R α) = (e.parserKind = true) := by
  simp [Out, ConsRel, Kind]
/-- for the tail calls -/
theorem Out.of_sfx {α : Type} {ts r : List Tok} {a : R α} (hr : Sfx r ts) (h : Out r a) : Out ts a := ⟨h.1.of_sfx hr, h.2⟩
grind_pattern Out.of_sfx => Sfx r ts, Out r a
theorem Out.kind {α : Type} {ts : List Tok} {a : R α} (h : Out ts a) : Kind a := h.2

def OutO {α : Type} (ts : List Tok) (a : Except Err (Option (α × List Tok))) : Prop := ConsRelO ts a ∧ Kind a
@[grind =] theorem outO_some {α : Type} (ts : List Tok) (v : α) (r : List Tok) :
    OutO ts (.ok (some (v, r)) : Except Err (Option (α × List Tok))) = Sfx r ts := by simp [OutO, ConsRelO, Kind]
@[grind =] theorem outO_none {α : Type} (ts : List Tok) : OutO ts (.ok none : Except Err (Option (α × List Tok))) = True := by
  simp [OutO, ConsRelO, Kind]
@[grind =] theorem outO_error {α : Type} (ts : List Tok) (e : Err) :
    OutO ts (.error e : Except Err (Option (α × List Tok))) = (e.parserKind = true) := by simp [OutO, ConsRelO, Kind]
theorem OutO.of_sfx {α : Type} {ts r : List Tok} {a : Except Err (Option (α × List Tok))} (hr : Sfx r ts) (h : OutO r a) : OutO ts a :=
  ⟨fun v r' e => (h.1 v r' e).trans hr, h.2⟩
grind_pattern OutO.of_sfx => Sfx r ts, OutO r a

def OutD (ts : List Tok) (a : Except Err (List Tok)) : Prop := ConsRelD ts a ∧ Kind a
@[grind =] theorem outD_ok (ts r : List Tok) : OutD ts (.ok r) = Sfx r ts := by simp [OutD, ConsRelD, Kind]
@[grind =] theorem outD_error (ts : List Tok) (e : Err) : OutD ts (.error e) = (e.parserKind = true) := by simp [OutD, ConsRelD, Kind]

theorem closed_error {α : Type} (res : R α) (x : Err) (h : closed res = .error x) : res = .error x ∨ x = .parse := by
  unfold closed at h; split at h <;> simp_all
grind_pattern closed_error => closed res, Except.error x

theorem eachClosed_error {α : Type} (p : List Tok → R α) :
    ∀ segs x, eachClosed p segs = .error x → x = .parse ∨ ∃ sg ∈ segs, p sg = .error x := by
  intro segs
  induction segs with
  | nil => intro x h; simp [eachClosed] at h
  | cons sg rest ih =>
    intro x h
    unfold eachClosed at h
    split at h
    · rename_i e he; cases h
      rcases closed_error _ _ he with h1 | h1
      · exact .inr ⟨sg, List.mem_cons_self, h1⟩
      · exact .inl h1
    · split at h
      · cases h
      · rename_i e he; cases h
        rcases ih _ he with h1 | ⟨s, hs, h1⟩
        · exact .inl h1
        · exact .inr ⟨s, List.mem_cons_of_mem _ hs, h1⟩
grind_pattern eachClosed_error => eachClosed p segs, Except.error x

theorem matchSeq_nofuel (ts : List Tok) (ks : List String) : matchSeq ts ks ≠ .error .fuel := by
  induction ks generalizing ts with
  | nil => simp [matchSeq]
  | cons k ks ih =>
    cases ts with
    | nil => simp [matchSeq]
    | cons t ts => simp only [matchSeq]; split <;> simp [ih]
theorem pop_nofuel  : ∀ x0, pop x0 ≠ .error .fuel := fun x0 => by cases x0 <;> simp [pop]
theorem pyInt_nofuel (s : String) : pyInt s ≠ .error .fuel := fun h => by
  rw [pyInt_error] at h; rcases h with ⟨_, h⟩ | ⟨_, _, h⟩ <;> cases h
theorem asInt_nofuel (s : String) : asInt s ≠ .error .fuel := by
  have := pyInt_nofuel s
  unfold asInt; (repeat' split) <;> simp_all

theorem pop_out (ts : List Tok) : Out ts (pop ts) ∧ pop ts ≠ .error .fuel := ⟨⟨pop_cons ts, .of_nopy (pop_nopy ts)⟩, pop_nofuel ts⟩
grind_pattern pop_out => pop ts
theorem popSrc_out (ts : List Tok) : Out ts (popSrc ts) ∧ popSrc ts ≠ .error .fuel :=
  ⟨⟨popSrc_cons ts, .of_nopy (popSrc_nopy ts)⟩, by cases ts <;> simp [popSrc]⟩
grind_pattern popSrc_out => popSrc ts
theorem popInt_out (ts : List Tok) : Out ts (popInt ts) ∧ popInt ts ≠ .error .fuel :=
  ⟨⟨popInt_cons ts, .of_nopy (popInt_nopy ts)⟩, by
    cases ts with
    | nil => simp [popInt]
    | cons t r => have := pyInt_nofuel t.src; simp only [popInt]; (repeat' split) <;> simp_all⟩
grind_pattern popInt_out => popInt ts
theorem popAsInt_out (ts : List Tok) : Out ts (popAsInt ts) ∧ popAsInt ts ≠ .error .fuel :=
  ⟨⟨popAsInt_cons ts, .of_nopy (popAsInt_nopy ts)⟩, by
    cases ts with
    | nil => simp [popAsInt]
    | cons t r => have := asInt_nofuel t.src; simp only [popAsInt]; (repeat' split) <;> simp_all⟩
grind_pattern popAsInt_out => popAsInt ts
theorem matchKw_out (ts : List Tok) (k : String) : Out ts (matchKw ts k) ∧ matchKw ts k ≠ .error .fuel :=
  ⟨⟨matchKw_cons ts k, .of_nopy (matchKw_nopy ts k)⟩, by unfold matchKw; (repeat' split) <;> simp⟩
grind_pattern matchKw_out => matchKw ts k
theorem matchSeq_out (ts : List Tok) (ks : List String) : Out ts (matchSeq ts ks) ∧ matchSeq ts ks ≠ .error .fuel :=
  ⟨⟨matchSeq_cons ts ks, .of_nopy (matchSeq_nopy ts ks)⟩, matchSeq_nofuel ts ks⟩
grind_pattern matchSeq_out => matchSeq ts ks
theorem popSplit_out (ts : List Tok) : Out ts (popSplit ts) ∧ popSplit ts ≠ .error .fuel := by
  cases ts <;> simp [popSplit, out_ok, out_error, sfx_cons, Err.parserKind]
grind_pattern popSplit_out => popSplit ts
theorem headChildren_out (ts : List Tok) : Kind (headChildren ts) ∧ headChildren ts ≠ .error .fuel :=
  ⟨.of_nopy (headChildren_nopy ts), by cases ts <;> simp [headChildren]⟩
grind_pattern headChildren_out => headChildren ts

end PM
