import MsqProofs.Lemmas.ParseAccount0
/-! GENERATED by tools/gen_out.py — C08: every function of the mutual block of MsqModel/Parse/Expr.lean returns a rest of its cursor, as a record -/
open Lex PM
namespace PM

/-- every function of the mutual block whose result carries a cursor, at fuel `n`, returns a rest of its cursor -/
structure ConsF (d : Gen.D) (n : Nat) : Prop where
  pElement : ∀ ts, ConsRel ts (PM.pElement d n ts)
  pParen : ∀ n0 r0, ConsRel (n0 :: r0) (PM.pParen d n n0 r0)
  pNamed : ∀ n0 r0 ts, Sfx r0 ts → ConsRel ts (PM.pNamed d n n0 r0 ts)
  pQualified : ∀ n0 r1 ts, Sfx r1 ts → ConsRel ts (PM.pQualified d n n0 r1 ts)
  pIndex : ∀ x0 ts, ConsRel ts (PM.pIndex d n x0 ts)
  pFuncIdx : ∀ ts, ConsRel ts (PM.pFuncIdx d n ts)
  pFunc : ∀ ts, ConsRel ts (PM.pFunc d n ts)
  pIfCall : ∀ ts, ConsRel ts (PM.pIfCall d n ts)
  pFirstDiscard : ∀ ts, ConsRelD ts (PM.pFirstDiscard d n ts)
  pFirstArg : ∀ ts, ConsRel ts (PM.pFirstArg d n ts)
  pCall : ∀ x0 x1 ts, ConsRel ts (PM.pCall d n x0 x1 ts)
  pArgs : ∀ x0 ts, ConsRel ts (PM.pArgs d n x0 ts)
  pCase : ∀ ts, ConsRel ts (PM.pCase d n ts)
  pElseEnd : ∀ ts, ConsRel ts (PM.pElseEnd d n ts)
  pWhens : ∀ x0 ts, ConsRel ts (PM.pWhens d n x0 ts)
  pUnary : ∀ ts, ConsRel ts (PM.pUnary d n ts)
  pCompute : ∀ ts, ConsRel ts (PM.pCompute d n ts)
  pComputeLoop : ∀ x0 x1 ts, ConsRel ts (PM.pComputeLoop d n x0 x1 ts)
  pKeyword : ∀ x0 ts, ConsRel ts (PM.pKeyword d n x0 ts)
  pKwFirst : ∀ x0 ts, ConsRel ts (PM.pKwFirst d n x0 ts)
  pKwRest : ∀ x0 x1 ts, ConsRel ts (PM.pKwRest d n x0 x1 ts)
  pKwBody : ∀ x0 x1 x2 ts, ConsRelO ts (PM.pKwBody d n x0 x1 x2 ts)
  pBetween : ∀ x0 x1 ts, ConsRelO ts (PM.pBetween d n x0 x1 ts)
  pInBody : ∀ x0 x1 ts, ConsRelO ts (PM.pInBody d n x0 x1 ts)
  pCompare : ∀ ts, ConsRel ts (PM.pCompare d n ts)
  pCompareLoop : ∀ x0 ts, ConsRel ts (PM.pCompareLoop d n x0 ts)
  pNot : ∀ ts, ConsRel ts (PM.pNot d n ts)
  pAnd : ∀ ts, ConsRel ts (PM.pAnd d n ts)
  pAndLoop : ∀ x0 ts, ConsRel ts (PM.pAndLoop d n x0 ts)
  pXor : ∀ ts, ConsRel ts (PM.pXor d n ts)
  pXorLoop : ∀ x0 ts, ConsRel ts (PM.pXorLoop d n x0 ts)
  pOr : ∀ ts, ConsRel ts (PM.pOr d n ts)
  pOrLoop : ∀ x0 ts, ConsRel ts (PM.pOrLoop d n x0 ts)
  pSubQuery : ∀ ts, ConsRel ts (PM.pSubQuery d n ts)
  pCast : ∀ ts, ConsRel ts (PM.pCast d n ts)
  pExtract : ∀ ts, ConsRel ts (PM.pExtract d n ts)
  pWindow : ∀ ts, ConsRel ts (PM.pWindow d n ts)
  pPartitionBy : ∀ ts, ConsRel ts (PM.pPartitionBy d n ts)
  pComputeList : ∀ x0 ts, ConsRel ts (PM.pComputeList d n x0 ts)
  pOrderItem : ∀ ts, ConsRel ts (PM.pOrderItem d n ts)
  pOrderList : ∀ x0 ts, ConsRel ts (PM.pOrderList d n x0 ts)
  pOrderByOpt : ∀ ts, ConsRel ts (PM.pOrderByOpt d n ts)
  pSelectCol : ∀ ts, ConsRel ts (PM.pSelectCol d n ts)
  pSelectCols : ∀ x0 ts, ConsRel ts (PM.pSelectCols d n x0 ts)
  pTableExpr : ∀ ts, ConsRel ts (PM.pTableExpr d n ts)
  pFromTable : ∀ ts, ConsRel ts (PM.pFromTable d n ts)
  pFromTables : ∀ x0 ts, ConsRel ts (PM.pFromTables d n x0 ts)
  pJoin : ∀ ts, ConsRel ts (PM.pJoin d n ts)
  pJoinRule : ∀ x0 x1 ts, ConsRel ts (PM.pJoinRule d n x0 x1 ts)
  pJoins : ∀ same outer acc inner, ConsRel inner (PM.pJoins d n same outer acc inner)
  pOptOr : ∀ x0 ts, ConsRel ts (PM.pOptOr d n x0 ts)
  pGroupingSets : ∀ ts, ConsRel ts (PM.pGroupingSets d n ts)
  pGroupBy : ∀ ts, ConsRel ts (PM.pGroupBy d n ts)
  pGroupCols : ∀ ts, ConsRel ts (PM.pGroupCols d n ts)
  pGroupSetsOpt : ∀ ts, ConsRel ts (PM.pGroupSetsOpt d n ts)
  pWithTable : ∀ ts, ConsRel ts (PM.pWithTable d n ts)
  pWithBody : ∀ x0 ts, ConsRel ts (PM.pWithBody d n x0 ts)
  pWithTables : ∀ x0 ts, ConsRel ts (PM.pWithTables d n x0 ts)
  pWith : ∀ ts, ConsRel ts (PM.pWith d n ts)
  pSelectBody : ∀ w same outer inner, ConsRel inner (PM.pSelectBody d n w same outer inner)
  pFromOpt : ∀ ts, ConsRel ts (PM.pFromOpt d n ts)
  pSelectRest : ∀ w di co same outer inner, ConsRel inner (PM.pSelectRest d n w di co same outer inner)
  pSelectTail : ∀ x0 x1 x2 x3 x4 x5 ts, ConsRel ts (PM.pSelectTail d n x0 x1 x2 x3 x4 x5 ts)
  pWhereGroup : ∀ ts, ConsRel ts (PM.pWhereGroup d n ts)
  pHavingOrder : ∀ ts, ConsRel ts (PM.pHavingOrder d n ts)
  pHiveClauses : ∀ ts, ConsRel ts (PM.pHiveClauses d n ts)
  pSortBy : ∀ ts, ConsRel ts (PM.pSortBy d n ts)
  pByList : ∀ x0 ts, ConsRel ts (PM.pByList d n x0 ts)
  pLateral : ∀ ts, ConsRel ts (PM.pLateral d n ts)
  pLaterals : ∀ same outer acc inner, ConsRel inner (PM.pLaterals d n same outer acc inner)
  pSingle : ∀ x0 ts, ConsRel ts (PM.pSingle d n x0 ts)
  pSingleParen : ∀ w outer st inner, ConsRel outer (PM.pSingleParen d n w outer st inner)
  pSelectStmt : ∀ x0 ts, ConsRel ts (PM.pSelectStmt d n x0 ts)
  pUnions : ∀ x0 x1 ts, ConsRel ts (PM.pUnions d n x0 x1 ts)

grind_pattern ConsF.pElement => ConsF d n, PM.pElement d n ts
grind_pattern ConsF.pParen => ConsF d n, PM.pParen d n n0 r0
grind_pattern ConsF.pNamed => ConsF d n, PM.pNamed d n n0 r0 ts
grind_pattern ConsF.pQualified => ConsF d n, PM.pQualified d n n0 r1 ts
grind_pattern ConsF.pIndex => ConsF d n, PM.pIndex d n x0 ts
grind_pattern ConsF.pFuncIdx => ConsF d n, PM.pFuncIdx d n ts
grind_pattern ConsF.pFunc => ConsF d n, PM.pFunc d n ts
grind_pattern ConsF.pIfCall => ConsF d n, PM.pIfCall d n ts
grind_pattern ConsF.pFirstDiscard => ConsF d n, PM.pFirstDiscard d n ts
grind_pattern ConsF.pFirstArg => ConsF d n, PM.pFirstArg d n ts
grind_pattern ConsF.pCall => ConsF d n, PM.pCall d n x0 x1 ts
grind_pattern ConsF.pArgs => ConsF d n, PM.pArgs d n x0 ts
grind_pattern ConsF.pCase => ConsF d n, PM.pCase d n ts
grind_pattern ConsF.pElseEnd => ConsF d n, PM.pElseEnd d n ts
grind_pattern ConsF.pWhens => ConsF d n, PM.pWhens d n x0 ts
grind_pattern ConsF.pUnary => ConsF d n, PM.pUnary d n ts
grind_pattern ConsF.pCompute => ConsF d n, PM.pCompute d n ts
grind_pattern ConsF.pComputeLoop => ConsF d n, PM.pComputeLoop d n x0 x1 ts
grind_pattern ConsF.pKeyword => ConsF d n, PM.pKeyword d n x0 ts
grind_pattern ConsF.pKwFirst => ConsF d n, PM.pKwFirst d n x0 ts
grind_pattern ConsF.pKwRest => ConsF d n, PM.pKwRest d n x0 x1 ts
grind_pattern ConsF.pKwBody => ConsF d n, PM.pKwBody d n x0 x1 x2 ts
grind_pattern ConsF.pBetween => ConsF d n, PM.pBetween d n x0 x1 ts
grind_pattern ConsF.pInBody => ConsF d n, PM.pInBody d n x0 x1 ts
grind_pattern ConsF.pCompare => ConsF d n, PM.pCompare d n ts
grind_pattern ConsF.pCompareLoop => ConsF d n, PM.pCompareLoop d n x0 ts
grind_pattern ConsF.pNot => ConsF d n, PM.pNot d n ts
grind_pattern ConsF.pAnd => ConsF d n, PM.pAnd d n ts
grind_pattern ConsF.pAndLoop => ConsF d n, PM.pAndLoop d n x0 ts
grind_pattern ConsF.pXor => ConsF d n, PM.pXor d n ts
grind_pattern ConsF.pXorLoop => ConsF d n, PM.pXorLoop d n x0 ts
grind_pattern ConsF.pOr => ConsF d n, PM.pOr d n ts
grind_pattern ConsF.pOrLoop => ConsF d n, PM.pOrLoop d n x0 ts
grind_pattern ConsF.pSubQuery => ConsF d n, PM.pSubQuery d n ts
grind_pattern ConsF.pCast => ConsF d n, PM.pCast d n ts
grind_pattern ConsF.pExtract => ConsF d n, PM.pExtract d n ts
grind_pattern ConsF.pWindow => ConsF d n, PM.pWindow d n ts
grind_pattern ConsF.pPartitionBy => ConsF d n, PM.pPartitionBy d n ts
grind_pattern ConsF.pComputeList => ConsF d n, PM.pComputeList d n x0 ts
grind_pattern ConsF.pOrderItem => ConsF d n, PM.pOrderItem d n ts
grind_pattern ConsF.pOrderList => ConsF d n, PM.pOrderList d n x0 ts
grind_pattern ConsF.pOrderByOpt => ConsF d n, PM.pOrderByOpt d n ts
grind_pattern ConsF.pSelectCol => ConsF d n, PM.pSelectCol d n ts
grind_pattern ConsF.pSelectCols => ConsF d n, PM.pSelectCols d n x0 ts
grind_pattern ConsF.pTableExpr => ConsF d n, PM.pTableExpr d n ts
grind_pattern ConsF.pFromTable => ConsF d n, PM.pFromTable d n ts
grind_pattern ConsF.pFromTables => ConsF d n, PM.pFromTables d n x0 ts
grind_pattern ConsF.pJoin => ConsF d n, PM.pJoin d n ts
grind_pattern ConsF.pJoinRule => ConsF d n, PM.pJoinRule d n x0 x1 ts
grind_pattern ConsF.pJoins => ConsF d n, PM.pJoins d n same outer acc inner
grind_pattern ConsF.pOptOr => ConsF d n, PM.pOptOr d n x0 ts
grind_pattern ConsF.pGroupingSets => ConsF d n, PM.pGroupingSets d n ts
grind_pattern ConsF.pGroupBy => ConsF d n, PM.pGroupBy d n ts
grind_pattern ConsF.pGroupCols => ConsF d n, PM.pGroupCols d n ts
grind_pattern ConsF.pGroupSetsOpt => ConsF d n, PM.pGroupSetsOpt d n ts
grind_pattern ConsF.pWithTable => ConsF d n, PM.pWithTable d n ts
grind_pattern ConsF.pWithBody => ConsF d n, PM.pWithBody d n x0 ts
grind_pattern ConsF.pWithTables => ConsF d n, PM.pWithTables d n x0 ts
grind_pattern ConsF.pWith => ConsF d n, PM.pWith d n ts
grind_pattern ConsF.pSelectBody => ConsF d n, PM.pSelectBody d n w same outer inner
grind_pattern ConsF.pFromOpt => ConsF d n, PM.pFromOpt d n ts
grind_pattern ConsF.pSelectRest => ConsF d n, PM.pSelectRest d n w di co same outer inner
grind_pattern ConsF.pSelectTail => ConsF d n, PM.pSelectTail d n x0 x1 x2 x3 x4 x5 ts
grind_pattern ConsF.pWhereGroup => ConsF d n, PM.pWhereGroup d n ts
grind_pattern ConsF.pHavingOrder => ConsF d n, PM.pHavingOrder d n ts
grind_pattern ConsF.pHiveClauses => ConsF d n, PM.pHiveClauses d n ts
grind_pattern ConsF.pSortBy => ConsF d n, PM.pSortBy d n ts
grind_pattern ConsF.pByList => ConsF d n, PM.pByList d n x0 ts
grind_pattern ConsF.pLateral => ConsF d n, PM.pLateral d n ts
grind_pattern ConsF.pLaterals => ConsF d n, PM.pLaterals d n same outer acc inner
grind_pattern ConsF.pSingle => ConsF d n, PM.pSingle d n x0 ts
grind_pattern ConsF.pSingleParen => ConsF d n, PM.pSingleParen d n w outer st inner
grind_pattern ConsF.pSelectStmt => ConsF d n, PM.pSelectStmt d n x0 ts
grind_pattern ConsF.pUnions => ConsF d n, PM.pUnions d n x0 x1 ts

end PM
