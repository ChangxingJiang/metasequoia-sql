import MsqProofs.Lemmas.ParseRel
import MsqProofs.Lemmas.ParseRel6
/-! GENERATED by tools/gen_rel.py — relational reading of the parser model: the statement level (MsqModel/Parse/Stmt.lean), up to the INSERT and SET statements.  Written by hand: `pTblName_rel`, `pPartition_rel`, `pGenerated_rel` (tools/hand/ParseRelStmt.lean.in, put in by tools/hand_blocks.py) -/
set_option linter.unusedVariables false
set_option linter.unusedSectionVars false
set_option linter.unusedSimpArgs false
open Lex Ast PMQ
namespace PM.Rel
variable [T : Theory]

attribute [local grind] mapE mapO mapTR mapFT mapJR mapLat mapW mapTN mapCT mapGC mapDC mapIC mapIx mapFK mapCI mapAO mapCS mapCR mapIH mapSt0

theorem popSplit_rel : ∀ x0 y0, GEL T.E x0 y0 → GER T.E (GELL T.E) (popSplit x0) (popSplit y0) := by
  intro ts ts' h_ts
  unfold popSplit
  obtain ⟨rfl, rfl⟩ | ⟨g, r, g', r', rfl, rfl, h_g, h_r⟩ := GEL.shape h_ts
  · dsimp only; exact ger_err
  dsimp only
  exact ger_ok (by grind -funext) h_r

theorem pTblName_rel : ∀ x0 y0, GEL T.E x0 y0 → GER T.E (geq (mapTN T.m)) (pTblName x0) (pTblName y0) := by
  intro ts ts' h_ts
  unfold pTblName
  rel_bind pTableName_rel ts ts' h_ts with x r x' r' h_x h_r
  -- the tree map keeps the constructor
  cases x <;> cases x' <;> simp only [geq_def, mapTR, reduceCtorEq, TableRef.table.injEq] at h_x
  · exact ger_ok (by simp [mapTN, h_x]) h_r
  · exact ger_err

theorem pInsertType_rel : ∀ x0 y0, GEL T.E x0 y0 → GER T.E (geq T.m) (pInsertType x0) (pInsertType y0) := by
  intro ts ts' h_ts
  unfold pInsertType
  refine ger_if (gel_searchTwoUp h_ts "INSERT" "INTO" plainT_INSERT plainT_INTO) ?_ ?_
  · exact ger_ok rfl (gel_drop h_ts 2)
  refine ger_if (gel_searchThreeUp h_ts "INSERT" "IGNORE" "INTO" plainT_INSERT plainT_IGNORE plainT_INTO) ?_ ?_
  · exact ger_ok rfl (gel_drop h_ts 3)
  refine ger_if (gel_searchTwoUp h_ts "INSERT" "OVERWRITE" plainT_INSERT plainT_OVERWRITE) ?_ ?_
  · exact ger_ok rfl (gel_drop h_ts 2)
  exact ger_err

theorem configStringLoop_rel : ∀ x0 x1 x2 y0 y1 y2, x0 = y0 → geq T.m2 x1 y1 → GEL T.E x2 y2 → GER T.E (geq T.m2) (configStringLoop x0 x1 x2) (configStringLoop y0 y1 y2) := by
  intro x0
  induction x0 with
  | zero => intro acc ts y0 acc' ts' e_f h_acc h_ts; subst e_f; simp [configStringLoop]
  | succ f ih =>
    intro acc ts y0 acc' ts' e_f h_acc h_ts
    subst e_f
    unfold configStringLoop
    refine ger_if (gel_searchStr h_ts "." (by decide)) ?_ ?_
    · rel_bind popSrc_srcRel (ts.drop 1) (ts'.drop 1) (gel_drop h_ts 1) with s r s' r' h_s h_r
      exact ih (acc ++ "." ++ s) r f (acc' ++ "." ++ s') r' rfl (by grind) h_r
    refine ger_if (gel_searchStr h_ts "-" (by decide)) ?_ ?_
    · rel_bind popSrc_srcRel (ts.drop 1) (ts'.drop 1) (gel_drop h_ts 1) with s r s' r' h_s h_r
      exact ih (acc ++ "-" ++ s) r f (acc' ++ "-" ++ s') r' rfl (by grind) h_r
    exact ger_ok (by grind -funext) h_ts

theorem pConfigString_rel : ∀ x0 y0, GEL T.E x0 y0 → GER T.E (geq T.m2) (pConfigString x0) (pConfigString y0) := by
  intro ts ts' h_ts
  unfold pConfigString
  rel_bind popSrc_srcRel ts ts' h_ts with s r s' r' h_s h_r
  exact configStringLoop_rel (r.length + 1) s r (r'.length + 1) s' r' (congrArg (· + 1) (gel_length h_r)) h_s.m2 h_r

theorem pConfigStrExpr_rel : ∀ x0 y0, GEL T.E x0 y0 → GER T.E (geq (mapCS T.m2)) (pConfigStrExpr x0) (pConfigStrExpr y0) := by
  intro ts ts' h_ts
  unfold pConfigStrExpr
  rel_bind pConfigString_rel ts ts' h_ts with n r n' r' h_n h_r
  rel_bind matchKw_rel h_r "=" plainT_k87 with v1 r1 v1' r1' h_v1 h_r1
  rel_bind pConfigString_rel r1 r1' h_r1 with v r2 v' r2' h_v h_r2
  exact ger_ok (by grind -funext) h_r2

theorem pColType_rel (d : Gen.D) (f : Nat) : ∀ x0 y0, GEL T.E x0 y0 → GER T.E (geq (mapCT T.m)) (pColType d f x0) (pColType d f y0) := by
  intro ts ts' h_ts
  unfold pColType
  rel_bind popSrc_srcRel ts ts' h_ts with name r name' r' h_name h_r
  refine ger_if (gel_searchMark h_r PAREN) ?_ ?_
  · rel_bind popSplit_rel r r' h_r with segs r1 segs' r1' h_segs h_r1
    rel_bindx eachClosed_rel (mapE T.m) _ _ (fun sg sg' h => (genF_all d f).pCompute sg sg' h) segs segs' h_segs with ps ps' h_ps
    exact ger_ok (by grind -funext) h_r1
  exact ger_ok (by grind -funext) h_r

theorem pPartitionItem_rel (d : Gen.D) (f : Nat) : ∀ x0 y0, GEL T.E x0 y0 → GER T.E (geq (Prod.map (mapE T.m) id)) (pPartitionItem d f x0) (pPartitionItem d f y0) := by
  intro ts ts' h_ts
  unfold pPartitionItem
  rel_bind (genF_all d f).pCompute ts ts' h_ts with bv r bv' r' h_bv h_r
  refine ger_if (gel_searchSet_compare h_r) ?_ ?_
  · rel_bind popSrc_srcRel r r' h_r with o r1 o' r1' h_o h_r1
    rw [← h_o.compareOp]
    generalize compareOp? o = o1
    rcases o1 with _ | op
    · exact ger_err
    rel_bind (genF_all d f).pCompute r1 r1' h_r1 with av r2 av' r2' h_av h_r2
    exact ger_ok (by grind -funext) h_r2
  exact ger_ok (by grind -funext) h_r

theorem pPartition_rel (d : Gen.D) (f : Nat) : ∀ x0 x1 y0 y1, x0 = y0 → GEL T.E x1 y1 → GER T.E (geq (List.map (mapE T.m))) (pPartition d f x0 x1) (pPartition d f y0 y1) := by
  intro already ts already' ts' e_already h_ts
  subst e_already
  unfold pPartition
  -- the key word has been consumed already, or it is matched now
  have h0 : GER T.E Eq (if already then (.ok ((), ts) : R Unit) else matchKw ts "PARTITION") (if already then (.ok ((), ts') : R Unit) else matchKw ts' "PARTITION") := by
    cases already
    · exact matchKw_rel h_ts "PARTITION" plainT_PARTITION
    · exact ger_ok rfl h_ts
  rel_bind h0 with v1 r v1' r' h_v1 h_r
  rel_bind popSplit_rel r r' h_r with segs r1 segs' r1' h_segs h_r1
  rel_bindx eachClosed_rel (Prod.map (mapE T.m) id) _ _ (fun sg sg' h => pPartitionItem_rel d f sg sg' h) segs segs' h_segs with items items' h_items
  refine ger_ite (by rw [(items_any_snd h_items).1, (items_any_snd h_items).2]) (fun _ _ => ?_) fun _ _ => ?_
  · exact ger_err
  exact ger_ok (items_fst h_items) h_r1

theorem pFkAction_rel : ∀ x0 y0, GEL T.E x0 y0 → GER T.E (geq T.m) (pFkAction x0) (pFkAction y0) := by
  intro ts ts' h_ts
  unfold pFkAction
  refine ger_if (gel_searchTwoUp h_ts "NO" "ACTION" plainT_NO plainT_ACTION) ?_ ?_
  · exact ger_ok rfl (gel_drop h_ts 2)
  refine ger_if (gel_searchTwoUp h_ts "SET" "NULL" plainT_SET plainT_NULL) ?_ ?_
  · exact ger_ok rfl (gel_drop h_ts 2)
  refine ger_if (gel_searchStrUp h_ts "CASCADE" plainT_CASCADE) ?_ ?_
  · exact ger_ok rfl (gel_drop h_ts 1)
  refine ger_if (gel_searchStrUp h_ts "RESTRICT" plainT_RESTRICT) ?_ ?_
  · exact ger_ok rfl (gel_drop h_ts 1)
  exact ger_err

theorem pOptFkAction_rel : ∀ x0 x1 x2 y0 y1 y2, GEL T.E x0 y0 → x1 = y1 → T.plain x1 = true → x2 = y2 → T.plain x2 = true → GER T.E (geq (Option.map T.m)) (pOptFkAction x0 x1 x2) (pOptFkAction y0 y1 y2) := by
  intro ts a b ts' a' b' h_ts e_a p_a e_b p_b
  subst e_a e_b
  unfold pOptFkAction
  refine ger_if (gel_searchTwoUp h_ts a b p_a p_b) ?_ ?_
  · rel_bind pFkAction_rel (ts.drop 2) (ts'.drop 2) (gel_drop h_ts 2) with s r s' r' h_s h_r
    exact ger_ok (by grind -funext) h_r
  exact ger_ok rfl h_ts

theorem pNameList_rel : ∀ x0 y0, GEL T.E x0 y0 → GER T.E (geq (List.map T.m)) (pNameList x0) (pNameList y0) := by
  intro ts ts' h_ts
  unfold pNameList
  rel_bind popSplit_rel ts ts' h_ts with segs r segs' r' h_segs h_r
  rel_bindx eachClosed_rel T.m _ _ (fun sg sg' h => popSrc_rel sg sg' h) segs segs' h_segs with ns ns' h_ns
  exact ger_ok h_ns h_r

theorem pForeignKey_rel : ∀ x0 y0, GEL T.E x0 y0 → GER T.E (geq (mapFK T.m)) (pForeignKey x0) (pForeignKey y0) := by
  intro ts ts' h_ts
  unfold pForeignKey
  rel_bind matchKw_rel h_ts "CONSTRAINT" plainT_CONSTRAINT with v1 r0 v1' r0' h_v1 h_r0
  rel_bind popSrc_srcRel r0 r0' h_r0 with cn r1 cn' r1' h_cn h_r1
  rel_bind matchSeq_rel h_r1 ["FOREIGN", "KEY"] plainT_l14 with v2 r2 v2' r2' h_v2 h_r2
  rel_bind pNameList_rel r2 r2' h_r2 with slave r3 slave' r3' h_slave h_r3
  rel_bind matchKw_rel h_r3 "REFERENCES" plainT_REFERENCES with v3 r4 v3' r4' h_v3 h_r4
  rel_bind popSrc_srcRel r4 r4' h_r4 with mt r5 mt' r5' h_mt h_r5
  rel_bind pNameList_rel r5 r5' h_r5 with mcs r6 mcs' r6' h_mcs h_r6
  rel_bind pOptFkAction_rel r6 "ON" "DELETE" r6' "ON" "DELETE" h_r6 rfl plainT_ON rfl plainT_DELETE with od r7 od' r7' h_od h_r7
  rel_bind pOptFkAction_rel r7 "ON" "UPDATE" r7' "ON" "UPDATE" h_r7 rfl plainT_ON rfl plainT_UPDATE with ou r8 ou' r8' h_ou h_r8
  exact ger_ok (by grind -funext) h_r8

theorem pIndexCol_rel : ∀ x0 y0, GEL T.E x0 y0 → GER T.E (geq (mapIC T.m)) (pIndexCol x0) (pIndexCol y0) := by
  intro ts ts' h_ts
  unfold pIndexCol
  rel_bind popSrc_srcRel ts ts' h_ts with n r n' r' h_n h_r
  refine ger_if (gel_searchMark h_r PAREN) ?_ ?_
  · obtain ⟨rfl, rfl⟩ | ⟨g, r1, g', r1', rfl, rfl, h_g, h_r1⟩ := GEL.shape h_r
    · dsimp only; exact ger_err
    dsimp only
    rel_bindx closed_rel (popInt_rel g.children g'.children (T.children h_g)) with n' n'' h_np
    subst h_np
    exact ger_ok (by grind -funext) h_r1
  exact ger_ok (by grind -funext) h_r

theorem pIndexCols_rel : ∀ x0 y0, GEL T.E x0 y0 → GER T.E (geq (List.map (mapIC T.m))) (pIndexCols x0) (pIndexCols y0) := by
  intro ts ts' h_ts
  unfold pIndexCols
  rel_bind popSplit_rel ts ts' h_ts with segs r segs' r' h_segs h_r
  rel_bindx eachClosed_rel (mapIC T.m) _ _ (fun sg sg' h => pIndexCol_rel sg sg' h) segs segs' h_segs with cs cs' h_cs
  exact ger_ok h_cs h_r

theorem pOptSrc_rel : ∀ x0 x1 y0 y1, GEL T.E x0 y0 → x1 = y1 → T.plain x1 = true → GER T.E (geq (Option.map T.m)) (pOptSrc x0 x1) (pOptSrc y0 y1) := by
  intro ts k ts' k' h_ts e_k p_k
  subst e_k
  unfold pOptSrc
  refine ger_if (gel_searchStrUp h_ts k p_k) ?_ ?_
  · rel_bind popSrc_srcRel (ts.drop 1) (ts'.drop 1) (gel_drop h_ts 1) with s r s' r' h_s h_r
    exact ger_ok (by grind -funext) h_r
  exact ger_ok rfl h_ts

theorem pIndexTail_rel : ∀ x0 x1 x2 y0 y1 y2, x0 = y0 → geq (Option.map T.m) x1 y1 → GEL T.E x2 y2 → GER T.E (geq (mapIx T.m)) (pIndexTail x0 x1 x2) (pIndexTail y0 y1 y2) := by
  intro kind name ts kind' name' ts' e_kind h_name h_ts
  subst e_kind
  unfold pIndexTail
  rel_bind pIndexCols_rel ts ts' h_ts with cols r cols' r' h_cols h_r
  rel_bind pOptSrc_rel r "USING" r' "USING" h_r rfl plainT_USING with us r1 us' r1' h_us h_r1
  rel_bind pOptSrc_rel r1 "COMMENT" r1' "COMMENT" h_r1 rfl plainT_COMMENT with cm r2 cm' r2' h_cm h_r2
  refine ger_if (gel_searchTwoUp h_r2 "KEY_BLOCK_SIZE" "=" plainT_KEY_BLOCK_SIZE plainT_k87) ?_ ?_
  · rel_bind popInt_rel (r2.drop 2) (r2'.drop 2) (gel_drop h_r2 2) with n r3 n' r3' h_n h_r3
    subst h_n
    exact ger_ok (by grind -funext) h_r3
  exact ger_ok (by grind -funext) h_r2

theorem pPrimaryIndex_rel : ∀ x0 y0, GEL T.E x0 y0 → GER T.E (geq (mapIx T.m)) (pPrimaryIndex x0) (pPrimaryIndex y0) := by
  intro ts ts' h_ts
  unfold pPrimaryIndex
  rel_bind matchSeq_rel h_ts ["PRIMARY", "KEY"] plainT_l15 with v1 r v1' r' h_v1 h_r
  exact pIndexTail_rel .primary none r .primary none r' rfl rfl h_r

theorem pNamedIndex_rel : ∀ x0 x1 x2 y0 y1 y2, x0 = y0 → x1 = y1 → x1.all T.plain = true → GEL T.E x2 y2 → GER T.E (geq (mapIx T.m)) (pNamedIndex x0 x1 x2) (pNamedIndex y0 y1 y2) := by
  intro kind kws ts kind' kws' ts' e_kind e_kws p_kws h_ts
  subst e_kind e_kws
  unfold pNamedIndex
  rel_bind matchSeq_rel h_ts kws p_kws with v1 r v1' r' h_v1 h_r
  rel_bind popSrc_srcRel r r' h_r with n r1 n' r1' h_n h_r1
  exact pIndexTail_rel kind (some n) r1 kind (some n') r1' rfl (by grind) h_r1

theorem pUniqueIndex_rel : ∀ x0 y0, GEL T.E x0 y0 → GER T.E (geq (mapIx T.m)) (pUniqueIndex x0) (pUniqueIndex y0) := by
  intro x0 y0 hr0
  unfold pUniqueIndex
  exact pNamedIndex_rel _ _ x0 _ _ y0 rfl rfl plainT_l16 hr0

theorem pNormalIndex_rel : ∀ x0 y0, GEL T.E x0 y0 → GER T.E (geq (mapIx T.m)) (pNormalIndex x0) (pNormalIndex y0) := by
  intro x0 y0 hr0
  unfold pNormalIndex
  exact pNamedIndex_rel _ _ x0 _ _ y0 rfl rfl plainT_l17 hr0

theorem pFulltextIndex_rel : ∀ x0 y0, GEL T.E x0 y0 → GER T.E (geq (mapIx T.m)) (pFulltextIndex x0) (pFulltextIndex y0) := by
  intro x0 y0 hr0
  unfold pFulltextIndex
  exact pNamedIndex_rel _ _ x0 _ _ y0 rfl rfl plainT_l18 hr0

theorem pGenerated_rel (d : Gen.D) (f : Nat) : ∀ x0 y0, GEL T.E x0 y0 → GER T.E (geq (Option.map (mapGC T.m))) (pGenerated d f x0) (pGenerated d f y0) := by
  intro ts ts' h_ts
  unfold pGenerated
  refine ger_ite (gel_searchThreeUp h_ts "GENERATED" "ALWAYS" "AS" plainT_GENERATED plainT_ALWAYS plainT_AS) (fun _ _ => ?_) fun _ _ => ?_
  · obtain ⟨hx, hy⟩ | ⟨g, r, g', r', hx, hy, h_g, h_r⟩ := GEL.shape (gel_drop h_ts 3)
    · simp only [hx, hy]; exact ger_err
    simp only [hx, hy]; clear hx hy
    rel_bindx closed_rel ((genF_all d f).pCompute g.children g'.children (T.children h_g)) with e e' h_e
    rel_bind popSrc_srcRel r r' h_r with m r1 m' r1' h_m h_r1
    -- the saving mode is looked up under the upper-cased word
    simp only [genModes_find, ← h_m.genMode]
    rcases genModeOf (up m) with _ | sm
    · exact ger_err
    exact ger_ok (by grind -funext) h_r1
  exact ger_ok (by grind -funext) h_ts

theorem defColLoop_rel (d : Gen.D) (f : Nat) : ∀ x0 x1 x2 y0 y1 y2, x0 = y0 → geq (mapDC T.m) x1 y1 → GEL T.E x2 y2 → GER T.E (geq (mapDC T.m)) (defColLoop d f x0 x1 x2) (defColLoop d f y0 y1 y2) := by
  intro x0
  induction x0 with
  | zero => intro c ts y0 c' ts' e_g h_c h_ts; subst e_g; simp [defColLoop]
  | succ g ih =>
    intro c ts y0 c' ts' e_g h_c h_ts
    subst e_g
    unfold defColLoop
    refine ger_if (congr (congrArg or (congr (congrArg or (gel_isEmpty h_ts)) (gel_searchStr h_ts ";" (by decide)))) (gel_searchStr h_ts "," (by decide))) ?_ ?_
    · exact ger_ok h_c h_ts
    refine ger_if (gel_searchTwoUp h_ts "NOT" "NULL" plainT_NOT plainT_NULL) ?_ ?_
    · exact ih { c with notNull := true } (ts.drop 2) g { c' with notNull := true } (ts'.drop 2) rfl (by cases c; cases c'; grind) (gel_drop h_ts 2)
    refine ger_if (gel_searchStrUp h_ts "NULL" plainT_NULL) ?_ ?_
    · exact ih { c with allowNull := true } (ts.drop 1) g { c' with allowNull := true } (ts'.drop 1) rfl (by cases c; cases c'; grind) (gel_drop h_ts 1)
    refine ger_if (gel_searchTwoUp h_ts "CHARACTER" "SET" plainT_CHARACTER plainT_SET) ?_ ?_
    · rel_bind popSrc_srcRel (ts.drop 2) (ts'.drop 2) (gel_drop h_ts 2) with s r s' r' h_s h_r
      exact ih { c with charset := some s } r g { c' with charset := some s' } r' rfl (by cases c; cases c'; grind) h_r
    refine ger_if (gel_searchStrUp h_ts "COLLATE" plainT_COLLATE) ?_ ?_
    · rel_bind popSrc_srcRel (ts.drop 1) (ts'.drop 1) (gel_drop h_ts 1) with s r s' r' h_s h_r
      exact ih { c with collate := some s } r g { c' with collate := some s' } r' rfl (by cases c; cases c'; grind) h_r
    refine ger_if (gel_searchStrUp h_ts "DEFAULT" plainT_DEFAULT) ?_ ?_
    · rel_bind (genF_all d f).pCompute (ts.drop 1) (ts'.drop 1) (gel_drop h_ts 1) with e r e' r' h_e h_r
      exact ih { c with default := some e } r g { c' with default := some e' } r' rfl (by cases c; cases c'; grind) h_r
    refine ger_if (gel_searchStrUp h_ts "COMMENT" plainT_COMMENT) ?_ ?_
    · rel_bind popSrc_srcRel (ts.drop 1) (ts'.drop 1) (gel_drop h_ts 1) with s r s' r' h_s h_r
      exact ih { c with comment := some s } r g { c' with comment := some s' } r' rfl (by cases c; cases c'; grind) h_r
    refine ger_if (gel_searchTwoUp h_ts "ON" "UPDATE" plainT_ON plainT_UPDATE) ?_ ?_
    · rel_bind (genF_all d f).pCompute (ts.drop 2) (ts'.drop 2) (gel_drop h_ts 2) with e r e' r' h_e h_r
      exact ih { c with onUpdate := some e } r g { c' with onUpdate := some e' } r' rfl (by cases c; cases c'; grind) h_r
    refine ger_if (gel_searchStrUp h_ts "AUTO_INCREMENT" plainT_AUTO_INCREMENT) ?_ ?_
    · exact ih { c with autoInc := true } (ts.drop 1) g { c' with autoInc := true } (ts'.drop 1) rfl (by cases c; cases c'; grind) (gel_drop h_ts 1)
    refine ger_if (gel_searchStrUp h_ts "UNSIGNED" plainT_UNSIGNED) ?_ ?_
    · exact ih { c with unsigned := true } (ts.drop 1) g { c' with unsigned := true } (ts'.drop 1) rfl (by cases c; cases c'; grind) (gel_drop h_ts 1)
    refine ger_if (gel_searchStrUp h_ts "ZEROFILL" plainT_ZEROFILL) ?_ ?_
    · exact ih { c with zerofill := true } (ts.drop 1) g { c' with zerofill := true } (ts'.drop 1) rfl (by cases c; cases c'; grind) (gel_drop h_ts 1)
    refine ger_if (gel_searchStrUp h_ts "GENERATED" plainT_GENERATED) ?_ ?_
    · rel_bind pGenerated_rel d f ts ts' h_ts with v2 r v2' r' h_v2 h_r
      obtain ⟨rfl, rfl⟩ | ⟨gc, gc', rfl, rfl, h_gc⟩ := optmap_shape _ _ _ h_v2
      · dsimp only; exact ger_err
      dsimp only
      exact ih { c with generated := some gc } r g { c' with generated := some gc' } r' rfl (by cases c; cases c'; grind) h_r
    exact ger_err

theorem pDefCol_rel (d : Gen.D) (f : Nat) : ∀ x0 y0, GEL T.E x0 y0 → GER T.E (geq (mapDC T.m)) (pDefCol d f x0) (pDefCol d f y0) := by
  intro ts ts' h_ts
  unfold pDefCol
  rel_bind popSrc_srcRel ts ts' h_ts with n r n' r' h_n h_r
  rel_bind pColType_rel d f r r' h_r with ty r1 ty' r1' h_ty h_r1
  exact defColLoop_rel d f (r1.length + 1) { name := unifyName n, type := ty } r1 (r1'.length + 1) { name := unifyName n', type := ty' } r1' (congrArg (· + 1) (gel_length h_r1)) (by grind) h_r1

theorem pColOrIdx_rel (d : Gen.D) (f : Nat) : ∀ x0 y0, GEL T.E x0 y0 → GER T.E (geq (mapCI T.m)) (pColOrIdx d f x0) (pColOrIdx d f y0) := by
  intro ts ts' h_ts
  unfold pColOrIdx
  refine ger_if (gel_searchTwoUp h_ts "PRIMARY" "KEY" plainT_PRIMARY plainT_KEY) ?_ ?_
  · rel_bind pPrimaryIndex_rel ts ts' h_ts with i r i' r' h_i h_r
    exact ger_ok (by grind -funext) h_r
  refine ger_if (gel_searchTwoUp h_ts "UNIQUE" "KEY" plainT_UNIQUE plainT_KEY) ?_ ?_
  · rel_bind pUniqueIndex_rel ts ts' h_ts with i r i' r' h_i h_r
    exact ger_ok (by grind -funext) h_r
  refine ger_if (gel_searchStrUp h_ts "KEY" plainT_KEY) ?_ ?_
  · rel_bind pNormalIndex_rel ts ts' h_ts with i r i' r' h_i h_r
    exact ger_ok (by grind -funext) h_r
  refine ger_if (gel_searchTwoUp h_ts "FULLTEXT" "KEY" plainT_FULLTEXT plainT_KEY) ?_ ?_
  · rel_bind pFulltextIndex_rel ts ts' h_ts with i r i' r' h_i h_r
    exact ger_ok (by grind -funext) h_r
  refine ger_if (gel_searchStrUp h_ts "CONSTRAINT" plainT_CONSTRAINT) ?_ ?_
  · rel_bind pForeignKey_rel ts ts' h_ts with k r k' r' h_k h_r
    exact ger_ok (by grind -funext) h_r
  rel_bind pDefCol_rel d f ts ts' h_ts with c r c' r' h_c h_r
  exact ger_ok (by grind -funext) h_r

theorem pWhereOrderLimit_rel (d : Gen.D) (f : Nat) : ∀ x0 y0, GEL T.E x0 y0 → GER T.E (geq (Prod.map (Option.map (mapE T.m)) (Prod.map (Option.map (List.map (mapO T.m))) id))) (pWhereOrderLimit d f x0) (pWhereOrderLimit d f y0) := by
  intro ts ts' h_ts
  unfold pWhereOrderLimit
  rel_bind (genF_all d f).pOptOr "WHERE" ts "WHERE" ts' rfl plainT_WHERE h_ts with wh r1 wh' r1' h_wh h_r1
  rel_bind (genF_all d f).pOrderByOpt r1 r1' h_r1 with ob r2 ob' r2' h_ob h_r2
  rel_bind pLimit_rel r2 r2' h_r2 with lm r3 lm' r3' h_lm h_r3
  subst h_lm
  exact ger_ok (by grind -funext) h_r3

theorem valuesLoop_rel (d : Gen.D) (f : Nat) : ∀ x0 x1 x2 y0 y1 y2, x0 = y0 → geq (List.map (List.map (mapE T.m))) x1 y1 → GEL T.E x2 y2 → GER T.E (geq (List.map (List.map (mapE T.m)))) (valuesLoop d f x0 x1 x2) (valuesLoop d f y0 y1 y2) := by
  intro x0
  induction x0 with
  | zero => intro acc ts y0 acc' ts' e_g h_acc h_ts; subst e_g; simp [valuesLoop]
  | succ g ih =>
    intro acc ts y0 acc' ts' e_g h_acc h_ts
    subst e_g
    unfold valuesLoop
    obtain ⟨rfl, rfl⟩ | ⟨t, r, t', r', rfl, rfl, h_t, h_r⟩ := GEL.shape h_ts
    · dsimp only; exact ger_ok h_acc h_ts
    dsimp only
    refine ger_if (T.has h_t PAREN) ?_ ?_
    · rel_bindx eachClosed_rel (mapE T.m) _ _ (fun sg sg' h => (genF_all d f).pCompute sg sg' h) (splitBy "," t.children [] []) (splitBy "," t'.children [] []) (gel_splitBy0 (T.children h_t)) with row row' h_row
      exact ih (acc ++ [row]) (moveStr r ",").2 g (acc' ++ [row']) (moveStr r' ",").2 rfl (by grind) (gel_moveStr h_r "," (by decide)).2
    exact ger_ok h_acc h_ts

theorem pColumnName_rel : ∀ x0 y0, GEL T.E x0 y0 → GER T.E (geq (Prod.map (Option.map T.m) T.m)) (pColumnName x0) (pColumnName y0) := by
  intro ts ts' h_ts
  unfold pColumnName
  obtain ⟨rfl, rfl⟩ | ⟨a, r, a', r', rfl, rfl, h_a, h_r⟩ := GEL.shape h_ts
  · dsimp only; exact ger_err
  dsimp only
  refine ger_if (congrArg not (T.has h_a NAME)) ?_ ?_
  · exact ger_err
  refine ger_if (gel_searchStr h_r "." (by decide)) ?_ ?_
  · obtain ⟨hx, hy⟩ | ⟨b, r2, b', r2', hx, hy, h_b, h_r2⟩ := GEL.shape (gel_drop h_r 1)
    · simp only [hx, hy]; exact ger_err
    simp only [hx, hy]; clear hx hy
    refine ger_if (T.has h_b NAME) ?_ ?_
    · exact ger_ok (by grind -funext) h_r2
    exact ger_err
  exact ger_ok (by grind -funext) h_r

theorem pOptPartition_rel (d : Gen.D) (f : Nat) : ∀ x0 y0, GEL T.E x0 y0 → GER T.E (geq (Option.map (List.map (mapE T.m)))) (pOptPartition d f x0) (pOptPartition d f y0) := by
  intro ts ts' h_ts
  unfold pOptPartition
  refine ger_if (gel_searchStrUp h_ts "PARTITION" plainT_PARTITION) ?_ ?_
  · rel_bind pPartition_rel d f false ts false ts' rfl h_ts with p r p' r' h_p h_r
    exact ger_ok (by grind -funext) h_r
  exact ger_ok rfl h_ts

theorem pOptColumns_rel : ∀ x0 y0, GEL T.E x0 y0 → GER T.E (geq (Option.map (List.map (Prod.map (Option.map T.m) T.m)))) (pOptColumns x0) (pOptColumns y0) := by
  intro ts ts' h_ts
  unfold pOptColumns
  refine ger_if (gel_searchMark h_ts PAREN) ?_ ?_
  · rel_bind popSplit_rel ts ts' h_ts with segs r segs' r' h_segs h_r
    rel_bindx eachClosed_rel (Prod.map (Option.map T.m) T.m) _ _ (fun sg sg' h => pColumnName_rel sg sg' h) segs segs' h_segs with cs cs' h_cs
    exact ger_ok (by grind -funext) h_r
  exact ger_ok rfl h_ts

theorem pWithOpt_rel (d : Gen.D) (f : Nat) : ∀ x0 x1 y0 y1, geq (Option.map (List.map (mapW T.m))) x0 y0 → GEL T.E x1 y1 → GER T.E (geq (List.map (mapW T.m))) (pWithOpt d f x0 x1) (pWithOpt d f y0 y1) := by
  intro withs? ts withs?' ts' h_withs h_ts
  unfold pWithOpt
  obtain ⟨rfl, rfl⟩ | ⟨w, w', rfl, rfl, h_w⟩ := optmap_shape _ _ _ h_withs
  · dsimp only; exact (genF_all d f).pWith ts ts' h_ts
  dsimp only
  exact ger_ok h_w h_ts

theorem pInsert_rel (d : Gen.D) (f : Nat) : ∀ x0 x1 y0 y1, geq (Option.map (List.map (mapW T.m))) x0 y0 → GEL T.E x1 y1 → GER T.E (geq (mapSt0 T.m T.m2)) (pInsert d f x0 x1) (pInsert d f y0 y1) := by
  intro withs? ts withs?' ts' h_withs h_ts
  unfold pInsert
  rel_bind pWithOpt_rel d f withs? ts withs?' ts' h_withs h_ts with withs r0 withs' r0' h_withs h_r0
  rel_bind pInsertType_rel r0 r0' h_r0 with ty r1 ty' r1' h_ty h_r1
  rel_bind pTblName_rel (moveStrUp r1 "TABLE").2 (moveStrUp r1' "TABLE").2 (gel_moveStrUp h_r1 "TABLE" plainT_TABLE).2 with tbl r2 tbl' r2' h_tbl h_r2
  rel_bind pOptPartition_rel d f r2 r2' h_r2 with part r3 part' r3' h_part h_r3
  rel_bind pOptColumns_rel r3 r3' h_r3 with cols r4 cols' r4' h_cols h_r4
  refine ger_if (gel_searchStrUp h_r4 "VALUES" plainT_VALUES) ?_ ?_
  · rel_bind valuesLoop_rel d f (r4.length + 1) [] (r4.drop 1) (r4'.length + 1) [] (r4'.drop 1) (congrArg (· + 1) (gel_length h_r4)) rfl (gel_drop h_r4 1) with vs r5 vs' r5' h_vs h_r5
    exact ger_ok (by grind -funext) h_r5
  refine ger_if (gel_searchStrUp h_r4 "SELECT" plainT_SELECT) ?_ ?_
  · rel_bind (genF_all d f).pSelectStmt (some []) r4 (some []) r4' rfl h_r4 with q r5 q' r5' h_q h_r5
    exact ger_ok (by grind -funext) h_r5
  exact ger_err

theorem pSet_rel : ∀ x0 y0, GEL T.E x0 y0 → GER T.E (geq (mapSt0 T.m T.m2)) (pSet x0) (pSet y0) := by
  intro ts ts' h_ts
  unfold pSet
  rel_bind matchKw_rel h_ts "SET" plainT_SET with v1 r v1' r' h_v1 h_r
  rel_bind pConfigStrExpr_rel r r' h_r with c r1 c' r1' h_c h_r1
  exact ger_ok (by grind -funext) h_r1

theorem optEqSrc_rel : ∀ x0 y0, GEL T.E x0 y0 → GER T.E (geq T.m) (optEqSrc x0) (optEqSrc y0) := by
  intro ts ts' h_ts
  unfold optEqSrc
  exact popSrc_rel (moveStr ts "=").2 (moveStr ts' "=").2 (gel_moveStr h_ts "=" (by decide)).2

end PM.Rel
