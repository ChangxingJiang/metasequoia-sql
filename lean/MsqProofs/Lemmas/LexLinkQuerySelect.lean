import MsqProofs.Lemmas.LexLinkQueryExpr2
/-!
# The lexer link for nested queries: the record of a clause, LIMIT, aliases, join and set words

`CL K p us ts` — one optional clause: the printer's clause function `p` returns the pieces `us` (lines), they lex to `ts`
(`Seg '\n'`), and the kit's property holds of each.
-/
namespace LexLink
open Lex Spec C05 C06 C09 Ast TP TS TQ

structure CL (K : QKit) (p : Except Err (List String)) (us : List (List Char)) (ts : List Tok) : Prop where
  seg : Seg '\n' us ts
  pr : p = .ok (us.map String.ofList)
  q : ∀ x ∈ us, K.Q x

section
variable {d : Gen.D} {K : QKit}

theorem nl : ('\n' : Char) = ' ' ∨ ('\n' : Char) = '\n' := Or.inr rfl

theorem q_alias3 (K : QKit) {x : List Char} (hx : K.Q x) (a : Option String) (ha : ∀ y, a = some y → K.Q y.toList) : K.Q (x ++ aliasL a) := by
  cases a with
  | none => simpa [aliasL] using hx
  | some a =>
    have e : x ++ aliasL (some a) = x ++ ' ' :: ("AS".toList ++ ' ' :: a.toList) := by
      have e1 : (" AS " : String).toList = ' ' :: ("AS".toList ++ [' ']) := rfl
      simp [aliasL, e1]
    rw [e]; exact K.sp hx (K.sp (K.word "AS" (mem_cw (by simp [clauseWords]))) (ha a rfl))

theorem pr_alias_some (x : List Char) (a : String) (h : aliasLex a) :
    toString (String.ofList x) ++ toString " AS " ++ toString (PR.quoteName a) = String.ofList (x ++ aliasL (some a)) :=
  ofList_eq (by rw [aliasSome _ a h, String.toList_ofList])
theorem pr_alias_none (x : List Char) : String.ofList x = String.ofList (x ++ aliasL none) := by simp [aliasL]

theorem tblTok_eq (s : Option String) (n : String) : tblTok s n = .single (tblL s n) Gen.mark_NAME := by
  cases s <;> rfl

theorem q_joinWords (K : QKit) (ty : String) : K.Q (joinWordsL ty) := by
  unfold joinWordsL
  cases hf : Gen.joinTypes.find? (·.1 == ty) with
  | none => exact K.nil
  | some e =>
    have hm := List.mem_of_find?_eq_some hf
    exact K.joinLL1 ' ' K.s_sp _ (by intro x hx; obtain ⟨y, hy, rfl⟩ := List.mem_map.mp hx; exact K.jws e hm y hy)

theorem cl_limit (lm : Option (Int × Option Int)) (hlm : limitOK lm = true) :
    CL K (.ok ((limitC lm).map fun p => String.ofList p.1)) ((limitC lm).map (·.1)) (toksLimit lm) := by
  refine ⟨?_, ?_, ?_⟩
  · cases lm with
    | none => exact Seg.nil _
    | some pr =>
      obtain ⟨n, m⟩ := pr
      cases m with
      | none =>
        simp only [limitOK, limOK, Bool.and_eq_true, decide_eq_true_eq] at hlm
        exact Seg.one _ (lx_kwThen "LIMIT" (by simp [clauseWords]) (lx_intTok n hlm.1))
      | some m =>
        simp only [limitOK, limOK, Bool.and_eq_true, decide_eq_true_eq] at hlm
        exact Seg.one _ (lx_kwThen "LIMIT" (by simp [clauseWords]) (Lx.comma (lx_intTok m hlm.2.1) (lx_intTok n hlm.1.1)))
  · simp [List.map_map, Function.comp_def]
  · intro x hx
    cases lm with
    | none => simp [limitC] at hx
    | some pr =>
      obtain ⟨n, m⟩ := pr
      cases m with
      | none =>
        simp only [limitOK, limOK, Bool.and_eq_true, decide_eq_true_eq] at hlm
        simp only [limitC, List.map_cons, List.map_nil, List.mem_singleton] at hx
        subst hx
        exact K.sp (K.word "LIMIT" (mem_cw (by simp [clauseWords]))) (K.num n hlm.1)
      | some m =>
        simp only [limitOK, limOK, Bool.and_eq_true, decide_eq_true_eq] at hlm
        simp only [limitC, List.map_cons, List.map_nil, List.mem_singleton] at hx
        subst hx
        refine K.sp (K.word "LIMIT" (mem_cw (by simp [clauseWords]))) ?_
        have := K.sep _ _ ',' K.s_cm (K.num m hlm.2.1) (K.pre K.s_sp (K.num n hlm.1.1))
        simpa using this

theorem CL.append {K : QKit} {p1 p2 : Except Err (List String)} {u1 u2 : List (List Char)} {t1 t2 : List Tok}
    (h1 : CL K p1 u1 t1) (h2 : CL K p2 u2 t2) : Seg '\n' (u1 ++ u2) (t1 ++ t2) ∧ ∀ x ∈ u1 ++ u2, K.Q x :=
  ⟨Seg.append nl h1.seg h2.seg, fun x hx => (List.mem_append.mp hx).elim (h1.q x) (h2.q x)⟩

theorem q_unionWords (K : QKit) (ty : String) : K.Q (unionWordsL ty) := by
  unfold unionWordsL
  cases hf : Gen.unionTypes.find? (·.1 == ty) with
  | none => exact K.nil
  | some e =>
    have hm := List.mem_of_find?_eq_some hf
    exact K.joinLL1 ' ' K.s_sp _ (by intro x hx; obtain ⟨y, hy, rfl⟩ := List.mem_map.mp hx; exact K.uws e hm y hy)

end
end LexLink
