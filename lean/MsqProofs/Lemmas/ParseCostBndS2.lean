import MsqProofs.Lemmas.ParseCostBndS1
/-! GENERATED by tools/gen_cost.py — C19 linear bound, statement level (Parse/Stmt.lean, `pStatements`), part 2 of 5: potential 250 * adqWL.  Written by hand: `defColLoop_bnd2`, `createOpts_bnd2` (tools/hand/ParseCostBndS2.lean.in, put in by tools/hand_blocks.py) -/
set_option linter.unusedSimpArgs false
open Lex PM Ast
namespace PM

theorem defColStopCost_le (ts : List Tok) : defColStopCost ts ≤ 2 := by unfold defColStopCost; split <;> (try split) <;> omega

theorem defColAttr_k_bnd2 (d : Gen.D) (f : Nat) (ts : List Tok) (κ : Nat) :
    (defColAttr_k d f ts κ).1 + remS2 (2 + 100) (defColAttr_k d f ts κ).2 ≤ κ + 250 * adqWL ts + 100 := by
  generalize h : defColAttr_k d f ts κ = out
  unfold defColAttr_k at h
  split_run2 <;> grind -funext (gen := 40) (instances := 20000) [adqWL_append, Lost]

theorem defColLoop_bnd2 (d : Gen.D) (f : Nat) : ∀ x0 x1 x2 κ, (defColLoop_k d f x0 x1 x2 κ).1 + rem2 (defColLoop_k d f x0 x1 x2 κ).2 ≤ κ + 250 * adqWL x2 + 102 := by
  intro x0 x1 x2 κ
  rw [defColLoop_k_eq]
  exact attrLoop_k_bnd2 _ _ _ 2 100 defColStopCost_le (defColAttr_k_bnd2 d f) x0 x1 x2 κ
grind_pattern defColLoop_bnd2 => defColLoop_k d f x0 x1 x2 κ

theorem pDefCol_bnd2 (d : Gen.D) (f : Nat) (ts : List Tok) (κ : Nat) : (pDefCol_k d f ts κ).1 + rem2 (pDefCol_k d f ts κ).2 ≤ κ + 250 * adqWL ts + 109 := by
  generalize h : pDefCol_k d f ts κ = out
  unfold pDefCol_k at h
  split_run2 <;> grind -funext (gen := 40) (instances := 20000) [adqWL_append, Lost]
grind_pattern pDefCol_bnd2 => pDefCol_k d f ts κ

theorem pColOrIdx_bnd2 (d : Gen.D) (f : Nat) (ts : List Tok) (κ : Nat) : (pColOrIdx_k d f ts κ).1 + rem2 (pColOrIdx_k d f ts κ).2 ≤ κ + 250 * adqWL ts + 114 := by
  generalize h : pColOrIdx_k d f ts κ = out
  unfold pColOrIdx_k at h
  split_run2 <;> grind -funext (gen := 40) (instances := 20000) [adqWL_append, Lost]
grind_pattern pColOrIdx_bnd2 => pColOrIdx_k d f ts κ

theorem createElems_bnd2 (d : Gen.D) (f : Nat) : ∀ x0 x1 κ, (createElems_k d f x0 x1 κ).1 ≤ κ + 250 * adqWLL x0 + 0 := by
  intro x0
  induction x0 with
  | nil => intro x1 κ; simp [createElems_k]
  | cons sg rest ih =>
    intro x1 κ
    generalize h : createElems_k d f (sg :: rest) x1 κ = out
    unfold createElems_k at h
    split_run2 <;> grind -funext (gen := 40) (instances := 20000) [adqWL_append, Lost]
grind_pattern createElems_bnd2 => createElems_k d f x0 x1 κ

theorem createStopCost_le (ts : List Tok) : createStopCost ts ≤ 1 := by unfold createStopCost; split <;> omega

theorem createOpt_k_bnd2 (d : Gen.D) (f : Nat) (ts : List Tok) (κ : Nat) :
    (createOpt_k d f ts κ).1 + remS2 (1 + 47) (createOpt_k d f ts κ).2 ≤ κ + 250 * adqWL ts + 47 := by
  have hE0 := eachClosed_k_rem2 (pDefCol_k d f) 109 (by omega) (pDefCol_bnd2 d f)
  have hE1 := eachClosed_k_rem2 pConfigStrExpr_k 22 (by omega) (pConfigStrExpr_bnd2)
  generalize h : createOpt_k d f ts κ = out
  unfold createOpt_k at h
  split_run2 <;> grind -funext (gen := 40) (instances := 20000) [adqWL_append, Lost]

theorem createOpts_bnd2 (d : Gen.D) (f : Nat) : ∀ x0 x1 x2 κ, (createOpts_k d f x0 x1 x2 κ).1 + rem2 (createOpts_k d f x0 x1 x2 κ).2 ≤ κ + 250 * adqWL x2 + 48 := by
  intro x0 x1 x2 κ
  rw [createOpts_k_eq]
  exact attrLoop_k_bnd2 _ _ _ 1 47 createStopCost_le (createOpt_k_bnd2 d f) x0 x1 x2 κ
grind_pattern createOpts_bnd2 => createOpts_k d f x0 x1 x2 κ

theorem pCreateTable_bnd2 (d : Gen.D) (f : Nat) (ts : List Tok) (κ : Nat) : (pCreateTable_k d f ts κ).1 + remS2 600 (pCreateTable_k d f ts κ).2 ≤ κ + 250 * adqWL ts + 67 := by
  generalize h : pCreateTable_k d f ts κ = out
  unfold pCreateTable_k at h
  split_run2 <;> grind -funext (gen := 40) (instances := 20000) [adqWL_append, Lost]
grind_pattern pCreateTable_bnd2 => pCreateTable_k d f ts κ

end PM
