import MsqProofs.Lemmas.TDmlQ0
/-!
# Data-change statements over `FragQ2`: a query and its WITH clause (C03 / C01)

The printer ignores the WITH slot of a query (`toksQ_stripW`).
-/
open Lex PM Ast TP TS
open TQ2
namespace TDM2
variable {d : Gen.D} {ch : Expr → Bool}

theorem sizeL_toksSet_pos (p : String × Expr) : 2 ≤ sizeL (toksSet d ch p) := by
  simp only [toksSet, sizeL_cons, size_opTok]
  have := tok_size_pos (nameTok p.1); omega
theorem toksQ_stripW (q : Query) : toksQ2 d ch (stripW q) = toksQ2 d ch q := by
  cases q with
  | single s => obtain ⟨w, dist, cols, fr, lats, js, wh, gb, hv, ob, sb, db, cb, lm⟩ := s; simp only [stripW, setQW, setW, toksQ2, toksS4]
  | union w s us => simp only [stripW, setQW, toksQ2]

end TDM2
