import MsqProofs.Lemmas.TQuery0
/-!
# T-parse closed under nesting, expression layer: the record `RT3` of an expression and what follows from it (C03 / C02)

`RT3 d ch e`: the rendering of `e` parses to `e` at every level from its own (`own`), so does the bracketed rendering (`wrapped`), its first
token may start an operand (`head`), it holds no top-level comma (`nocomma`) and is no longer than `tl3 e` (`len`).  The node lemmas that
build the record are those of Lemmas/TSpellE2.lean at the spelling `plainCh ch` (Lemmas/TQueryM.lean).
-/
open Lex PM Ast SR TP TP2
namespace TQ
variable (d : Gen.D) (ch : Expr → Bool)

def Head2 (e : Expr) (ts : List Tok) : Prop :=
  ∃ t ts', ts = t :: ts' ∧ hdTok t = true ∧ (lvlH e ≤ 10 → operandTok d t = true)
def NoComma (ts : List Tok) : Prop := ∀ t ∈ ts, t.equalsStr "," = false

structure RT3 (e : Expr) : Prop where
  own : Tower2 d (PR.lvl e) (toksE3 d ch e) e
  wrapped : Tower2 d 2 [grp (toksE3 d ch e)] e
  head : Head2 d e (toksE3 d ch e)
  nocomma : NoComma (toksE3 d ch e)
  len : (toksE3 d ch e).length ≤ tl3 e

variable {d} {ch}
theorem stop2_of {L : Nat} {t : Tok} (x : List Tok) (h : stopTok d L t = true) (ho : t.srcEqUp "OVER" = false) :
    stopLE2 d L (t :: x) = true := by
  simp only [stopLE2, stopLE, h, headIsOver, ho]; rfl
theorem grp_hdTok (cs : List Tok) : hdTok (grp cs) = true := TP2.grp_hdTok cs
theorem hd_start {t : Tok} (h : hdTok t = true) : startTok t = true := by
  simp only [hdTok, Bool.and_eq_true] at h; exact h.1
theorem grp_nocomma (cs : List Tok) : NoComma [grp cs] := by
  intro t ht; simp only [List.mem_singleton] at ht; subst ht; rfl
theorem NoComma.append {a b : List Tok} (ha : NoComma a) (hb : NoComma b) : NoComma (a ++ b) := by
  intro t ht; rcases List.mem_append.1 ht with h | h; exact ha t h; exact hb t h
theorem NoComma.cons {t : Tok} {b : List Tok} (ht : t.equalsStr "," = false) (hb : NoComma b) : NoComma (t :: b) := by
  intro x hx; rcases List.mem_cons.1 hx with h | h; subst h; exact ht; exact hb x h
theorem NoComma.nil : NoComma [] := fun t ht => by simp at ht

theorem stop2_kw (x : List Tok) : stopLE2 d 8 (opTok "IS" :: x) = true ∧ stopLE2 d 8 (opTok "NOT" :: x) = true ∧ stopLE2 d 8 (opTok "LIKE" :: x) = true ∧
    stopLE2 d 8 (opTok "RLIKE" :: x) = true ∧ stopLE2 d 8 (opTok "REGEXP" :: x) = true ∧ stopLE2 d 8 (opTok "BETWEEN" :: x) = true ∧
    stopLE2 d 8 (opTok "AND" :: x) = true ∧ stopLE2 d 8 (opTok "IN" :: x) = true := by
  obtain ⟨a, b, c, e, f, g, h⟩ := @TP.stop8_kw d
  have i : stopTok d 8 (opTok "IN") = true := by cases d <;> decide
  exact ⟨stop2_of x a (by decide), stop2_of x b (by decide), stop2_of x c (by decide), stop2_of x e (by decide), stop2_of x f (by decide),
    stop2_of x g (by decide), stop2_of x h (by decide), stop2_of x i (by decide)⟩

end TQ
