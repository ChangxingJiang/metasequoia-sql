import MsqProofs.Lemmas.LexSkel
import MsqProofs.Lemmas.LexSpec
/-!
# A structural scanner for brackets, independent of the lexer (C04 b, c)

`Scan.step` knows only: the three quote kinds with their escapes, the three comment forms, the four bracket characters,
and where a bare token (word / number) ends.  It has no table, no windows, no frame stack and no tokens.  Two quirks of
the token language are visible in its definition because they decide whether a bracket is read as a bracket:
inside a bare token `#` does not open a comment (KNOWN finding of C05), and a quote directly after a lone
`b`/`B`/`x`/`X` opens a bit / hex literal, which its quote character closes without escapes.

`bracketSkeleton text` is the sequence of bracket events the scanner sees: `opn` for `(` and `[` (the kind of the
OPENING bracket is not recorded: F-C04-1), `cls paren` for `)`, `cls slice` for `]`, for the bracket characters outside
quotes and comments.

`lex_scan`: for any table that passes the finite check `simCheck` (every cell that does not raise moves between lexer
states exactly as the scanner moves between its modes, related by `rho`, with the same bracket events), the bracket
skeleton of the token tree of every accepted text is `bracketSkeleton` of the text.
-/
namespace Scan
open Lex Spec

inductive Q | sq | dq | bq deriving DecidableEq, Repr
def Q.ch : Q → Char | .sq => '\'' | .dq => '"' | .bq => '`'

inductive Mode
  | N            -- between tokens, or after an operator character
  | D            -- after a `-`
  | SL           -- after a `/`
  | T            -- inside a bare token (word or number)
  | P            -- after a lone b / B / x / X
  | Q (q : Q)    -- inside a quoted region
  | QE (q : Q)   -- … after a backslash
  | QQ (q : Q)   -- … after a quote character: closed, unless the quote is doubled
  | H (q : Q)    -- inside a bit / hex literal b'…' x"…"
  | LC           -- line comment
  | BC           -- block comment
  | BCS          -- block comment, after a `*`
  deriving DecidableEq, Repr

/-- a character read between tokens -/
def fresh (c : Nat) : Mode × List Ev :=
  if c =ᶜ '(' || c =ᶜ '[' then (.N, [.opn])
  else if c =ᶜ ')' then (.N, [.cls .paren])
  else if c =ᶜ ']' then (.N, [.cls .slice])
  else if c =ᶜ '-' then (.D, [])
  else if c =ᶜ '/' then (.SL, [])
  else if c =ᶜ '#' then (.LC, [])
  else if c =ᶜ '\'' then (.Q .sq, [])
  else if c =ᶜ '"' then (.Q .dq, [])
  else if c =ᶜ '`' then (.Q .bq, [])
  else if isWordEnd c then (.N, [])          -- blanks, the other operator / punctuation characters
  else if isBitPrefix c || isHexPrefix c then (.P, [])
  else (.T, [])

/-- the character ends a bare token (`#` does not: KNOWN finding) -/
def endsToken (c : Nat) : Bool := isWordEnd c && !(c =ᶜ '#')

def step : Mode → Nat → Mode × List Ev
  | .N, c => fresh c
  | .D, c => if c =ᶜ '-' then (.LC, []) else fresh c
  | .SL, c => if c =ᶜ '*' then (.BC, []) else fresh c
  | .T, c => if endsToken c then fresh c else (.T, [])
  | .P, c => if c =ᶜ '\'' then (.H .sq, []) else if c =ᶜ '"' then (.H .dq, []) else if endsToken c then fresh c else (.T, [])
  | .Q q, c =>
    if c =ᶜ q.ch then (if q == .bq then (.N, []) else (.QQ q, []))
    else if c =ᶜ '\\' && q != .bq then (.QE q, [])
    else (.Q q, [])
  | .QE q, _ => (.Q q, [])
  | .QQ q, c => if c =ᶜ q.ch then (.Q q, []) else fresh c
  | .H q, c => if c =ᶜ q.ch then (.N, []) else (.H q, [])
  | .LC, c => if c =ᶜ '\n' then (.N, []) else (.LC, [])
  | .BC, c => if c =ᶜ '*' then (.BCS, []) else (.BC, [])
  | .BCS, c => if c =ᶜ '/' then (.N, []) else if c =ᶜ '*' then (.BCS, []) else (.BC, [])

def scanAll : Mode → List Char → Mode × List Ev
  | μ, [] => (μ, [])
  | μ, c :: cs => let r := step μ (norm c.toNat); let r' := scanAll r.1 cs; (r'.1, r.2 ++ r'.2)

/-- **the bracket skeleton of a text**, by the structural scanner -/
def bracketSkeleton (text : List Char) : List Ev := (scanAll .N text).2

/-! ## the lexer's states and the scanner's modes -/

/-- which scanner modes a lexer state may correspond to.  (`IN_FLOAT` also to `N`: after `1.` the scanner, which does
not know numbers, believes the token ended at the point; every cell on which that would matter raises.) -/
def rho : S → List Mode
  | .WAIT | .AFTER_21 | .AFTER_26 | .AFTER_3C | .AFTER_3C_3D | .AFTER_3E | .AFTER_7C => [.N]
  | .AFTER_2D => [.D]
  | .AFTER_2F => [.SL]
  | .IN_WORD | .IN_INT | .AFTER_0 | .IN_HEX_LITERAL_AFTER_0X | .IN_BIT_LITERAL_AFTER_0B => [.T]
  | .IN_FLOAT => [.T, .N]
  | .AFTER_B | .AFTER_X => [.P]
  | .IN_HEX_LITERAL_OF_SINGLE_QUOTE | .IN_BIT_LITERAL_OF_SINGLE_QUOTE => [.H .sq]
  | .IN_HEX_LITERAL_OF_DOUBLE_QUOTE | .IN_BIT_LITERAL_OF_DOUBLE_QUOTE => [.H .dq]
  | .IN_SINGLE_QUOTE => [.Q .sq]
  | .IN_SINGLE_QUOTE_AFTER_27 => [.QQ .sq]
  | .IN_SINGLE_QUOTE_AFTER_5C => [.QE .sq]
  | .IN_DOUBLE_QUOTE => [.Q .dq]
  | .IN_DOUBLE_QUOTE_AFTER_22 => [.QQ .dq]
  | .IN_DOUBLE_QUOTE_AFTER_5C => [.QE .dq]
  | .IN_BACK_QUOTE => [.Q .bq]
  | .IN_EXPLAIN_1 => [.LC]
  | .IN_EXPLAIN_2 => [.BC]
  | .IN_EXPLAIN_2_AFTER_2A => [.BCS]
  | _ => []

def stepInfoN (cfg : Cfg Gen.Cls) (s : S) (n : Nat) : Option (S × Bool × List Ev) := opInfo cfg s (lookupN cfg s n)

def traceFeedN? (cfg : Cfg Gen.Cls) (s : S) (n : Nat) : Option (S × List Ev) := feedInfo (fun s => stepInfoN cfg s n) s

theorem stepInfo_ch (cfg : Cfg Gen.Cls) (s : S) (c : Char) : stepInfo cfg s (.ch c) = stepInfoN cfg s c.toNat := by
  simp only [stepInfo, stepInfoN, lookup_ch]

theorem traceFeed?_ch (cfg : Cfg Gen.Cls) (s : S) (c : Char) : traceFeed? cfg s c = traceFeedN? cfg s c.toNat := by
  simp only [traceFeed?, traceFeedN?, stepInfo_ch]

/-- the finite check: on every cell that does not raise, lexer and scanner move alike and see the same bracket events;
at the end of the text no bracket event happens -/
def simCheck (cfg : Cfg Gen.Cls) : Bool :=
  allS.all fun s =>
    ((rho s).all fun μ => (other :: ascii).all fun n =>
      match traceFeedN? cfg s n with
      | none => true
      | some (s', e) => (step μ n).2 == e && (rho s').contains (step μ n).1) &&
    (match stepInfo cfg s .eof with
      | none => true
      | some (_, _, e) => e == [])

theorem traceFeedN?_norm (cfg : Cfg Gen.Cls) (hnorm : ∀ s n, lookupN cfg s n = lookupN cfg s (norm n)) (s : S) (n : Nat) :
    traceFeedN? cfg s n = traceFeedN? cfg s (norm n) := by
  have h1 : (fun s => stepInfoN cfg s n) = (fun s => stepInfoN cfg s (norm n)) := by
    funext s; simp only [stepInfoN, hnorm s n]
  simp only [traceFeedN?, h1]

theorem norm_mem (n : Nat) : norm n ∈ other :: ascii := by
  by_cases ha : n ∈ ascii
  · have : norm n = n := by simp [norm, (isAscii_iff n).mpr ha]
    rw [this]; exact List.mem_cons_of_mem _ ha
  · rw [norm_of_not_ascii ha]; exact List.mem_cons_self ..

theorem step_sim (cfg : Cfg Gen.Cls) (hnorm : ∀ s n, lookupN cfg s n = lookupN cfg s (norm n))
    (hcheck : simCheck cfg = true) (s s' : S) (μ : Mode) (hμ : μ ∈ rho s) (c : Char) (e : List Ev)
    (h : traceFeed? cfg s c = some (s', e)) :
    (step μ (norm c.toNat)).2 = e ∧ (step μ (norm c.toNat)).1 ∈ rho s' := by
  rw [traceFeed?_ch, traceFeedN?_norm cfg hnorm] at h
  have hs := (List.all_eq_true.mp hcheck) s (mem_allS s)
  simp only [Bool.and_eq_true, List.all_eq_true] at hs
  have := hs.1 μ hμ (norm c.toNat) (norm_mem _)
  rw [h] at this
  simp only [Bool.and_eq_true, beq_iff_eq, List.contains_iff_mem] at this
  exact this

theorem feedAllWith_scan (cfg : Cfg Gen.Cls) (hsum : ∀ c, (summarize (cfg.code c)).isSome = true)
    (hnorm : ∀ s n, lookupN cfg s n = lookupN cfg s (norm n)) (hcheck : simCheck cfg = true)
    (text cs : List Char) : ∀ (m m' : Mem) (μ : Mode),
    feedAllWith (handle cfg text) cs m = .ok m' → m.stack ≠ [] → μ ∈ rho m.status →
    (scanAll μ cs).1 ∈ rho m'.status ∧ skelS m'.stack = skelS m.stack ++ (scanAll μ cs).2 ∧ m'.stack ≠ [] := by
  induction cs with
  | nil =>
    intro m m' μ h hne hμ
    cases h
    simp [scanAll, hne, hμ]
  | cons c cs ih =>
    intro m m' μ h hne hμ
    obtain ⟨m1, e1, h⟩ := feedAllWith_cons_ok h
    obtain ⟨e, a1, a2, a3⟩ := feedWith_skel cfg hsum text m m1 c e1 hne
    obtain ⟨b1, b2⟩ := step_sim cfg hnorm hcheck m.status m1.status μ hμ c e a1
    obtain ⟨c1, c2, c3⟩ := ih m1 m' _ h a3 b2
    simp only [scanAll]
    exact ⟨c1, by rw [c2, a2, b1, List.append_assoc], c3⟩

/-- **the skeleton theorem with the structural scanner**: for every accepted text, the bracket skeleton of the token
tree is the bracket skeleton of the (pre-processed) text -/
theorem lex_scan (cfg : Cfg Gen.Cls) (hsum : ∀ c, (summarize (cfg.code c)).isSome = true)
    (hnorm : ∀ s n, lookupN cfg s n = lookupN cfg s (norm n)) (hcheck : simCheck cfg = true)
    (hd : cfg.depthLimit ≤ 1) (raw : List Char) (ts : List Tok) (h : Lex.lex cfg raw = .ok ts) :
    skelL ts = bracketSkeleton (cfg.pre raw) := by
  obtain ⟨m, m', b, e1, e2, hf⟩ := lexWith_ok h
  obtain ⟨a1, a2, a3⟩ := feedAllWith_scan cfg hsum hnorm hcheck (cfg.pre raw) (cfg.pre raw) {} m .N e1 (by simp)
    (by simp [rho])
  obtain ⟨ev, hi, hk, hn⟩ := handle_skel cfg hsum (cfg.pre raw) m m' .eof b e2 a3
  have hev : ev = [] := by
    have hs := (List.all_eq_true.mp hcheck) m.status (mem_allS _)
    simp only [Bool.and_eq_true] at hs
    have := hs.2
    rw [hi] at this
    simpa using this
  have hts : skelL ts = skelS m'.stack := by rw [(finish_ok_inv hd hf).2]; rfl
  rw [hts, hk, a2, hev]
  simp [bracketSkeleton, skelS, skelL]

theorem lex_scan_unbalanced (cfg : Cfg Gen.Cls) (hsum : ∀ c, (summarize (cfg.code c)).isSome = true)
    (hnorm : ∀ s n, lookupN cfg s n = lookupN cfg s (norm n)) (hcheck : simCheck cfg = true)
    (hd : cfg.depthLimit ≤ 1) (raw : List Char)
    (hu : depthOK 0 (bracketSkeleton (cfg.pre raw)) = false) : ∀ ts, Lex.lex cfg raw ≠ .ok ts := by
  intro ts h
  have := lex_scan cfg hsum hnorm hcheck hd raw ts h
  rw [← this, depthOK_tree] at hu
  cases hu

end Scan
