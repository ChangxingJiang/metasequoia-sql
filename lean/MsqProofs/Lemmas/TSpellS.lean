import MsqProofs.Lemmas.TSpellX
/-! Spelling-generalised T-parse: the clause parsers of a SELECT.  The clause lemmas of MsqProofs/Lemmas/TCoreClause.lean and TCoreGroup.lean at
the printer `toksS3 d sp`, against RECORDS instead of the `Bool` fragment of Lemmas/TSelect.lean: an expression position takes the
expression record `RT3 d sp e`, a derived table the query record `QT d sp q`; an alias may be written without `AS` (`optBareOK`), an
ascending ORDER BY key with an explicit `ASC`. -/
open Lex PM Ast TP TS TQ
open TC (commaTail commaTail_shape)
namespace TSP
variable {d : Gen.D} {sp : Sp}
local notation "commaTok" => TS.commaTok

def toksCol3 (d : Gen.D) (sp : Sp) (c : Expr × Option String) : List Tok := toksE3 d sp c.1 ++ aliasToksB (sp.bareC c) c.2
theorem toksColsTail3_eq (cs : List (Expr × Option String)) : toksColsTail3 d sp cs = commaTail (toksCol3 d sp) cs := by
  induction cs with
  | nil => simp only [toksColsTail3, commaTail]
  | cons c cs ih => obtain ⟨e, a⟩ := c; simp only [toksColsTail3, commaTail, toksCol3, ih]
theorem toksCols3_cons (c : Expr × Option String) (cs) : toksCols3 d sp (c :: cs) = toksCol3 d sp c ++ toksColsTail3 d sp cs := by
  obtain ⟨e, a⟩ := c; simp only [toksCols3, toksCol3]
def ColRec (d : Gen.D) (sp : Sp) (c : Expr × Option String) : Prop := RT3 d sp c.1 ∧ optAliasOK c.2 = true ∧ optBareOK d (sp.bareC c) c.2 = true

theorem selectCol (c : Expr × Option String) (hc : ColRec d sp c) (fol : List Tok) (hf : TQ.Fol d fol) :
    OkAt (fun f => pSelectCol d f (toksCol3 d sp c ++ fol)) (20 * sizeL (toksCol3 d sp c) + 16) (c, fol) := by
  obtain ⟨e, a⟩ := c
  obtain ⟨ha, hs, _⟩ := alias_anyB (sp.bareC (e, a)) a hc.2.1 hc.2.2 fol hf
  exact TC.selectCol (hc.1.own.s14 _ hs) ha

theorem colsTail_shape (cs : List (Expr × Option String)) : toksColsTail3 d sp cs = [] ∨ ∃ x, toksColsTail3 d sp cs = commaTok :: x := by
  rw [toksColsTail3_eq]; exact commaTail_shape _ cs

theorem selectCols (fol : List Tok) (hf : TQ.Fol d fol) (hc : searchStr fol "," = false) :
    ∀ (cs : List (Expr × Option String)), (∀ c ∈ cs, ColRec d sp c) → ∀ acc,
    OkAt (fun f => pSelectCols d f acc (toksColsTail3 d sp cs ++ fol)) (20 * sizeL (toksColsTail3 d sp cs) + 17) (acc ++ cs, fol) := by
  intro cs hcs
  rw [toksColsTail3_eq]
  exact TC.selectCols TQ.Fol.comma fol hf hc _ cs fun c hc => selectCol c (hcs c hc)

def RefRec (d : Gen.D) (sp : Sp) : TableRef → Prop
  | .table s n => tblOK s n = true
  | .sub q => QT d sp q
def TabRec (d : Gen.D) (sp : Sp) : FromTable → Prop
  | .mk r a => RefRec d sp r ∧ optAliasOK a = true ∧ optBareOK d (sp.bareT (.mk r a)) a = true
theorem tab_noJoinWord (t : FromTable) (ht : TabRec d sp t) :
    ∃ t0 tt', toksTable3 d sp t = t0 :: tt' ∧ ∀ e ∈ Gen.joinTypes, ∀ k ∈ e.2, t0.equalsStr k = false := by
  obtain ⟨r, a⟩ := t
  cases r with
  | table s n =>
    have hr := ht.1
    simp only [RefRec, tblOK, Bool.and_eq_true, List.all_eq_true, Bool.not_eq_true'] at hr
    exact ⟨_, _, by simp only [toksTable3, toksRef3, List.cons_append, List.nil_append]; rfl, hr.2⟩
  | sub q => exact ⟨grp (toksQ d sp q), _, by simp only [toksTable3, toksRef3, List.cons_append, List.nil_append]; rfl, fun _ _ _ _ => rfl⟩

theorem fromTable (t : FromTable) (ht : TabRec d sp t) (fol : List Tok) (hf : TQ.Fol d fol) :
    OkAt (fun f => pFromTable d f (toksTable3 d sp t ++ fol)) (20 * sizeL (toksTable3 d sp t) + 2) (t, fol) := by
  obtain ⟨tr, a⟩ := t
  obtain ⟨hr, hal, hbare⟩ := ht
  obtain ⟨ha, _, hdot⟩ := alias_anyB (sp.bareT (.mk tr a)) a hal hbare fol hf
  cases tr with
  | table sch n => exact (TQ.fromTable_tbl hr hdot ha).mono (Nat.le_add_left _ _)
  | sub q =>
    obtain ⟨x, hx⟩ := (show QT d sp q from hr).head
    exact (TC.fromTable_sub (by rw [hx]; exact TP2.select_starts x) (subq_ok q hr _) ha).mono (by
      simp only [toksTable3, toksRef3, sizeL_append, size_grp, sizeL]; omega)

theorem toksTablesTail3_eq (ts : List FromTable) : toksTablesTail3 d sp ts = commaTail (toksTable3 d sp) ts := by
  induction ts with
  | nil => simp only [toksTablesTail3, commaTail]
  | cons t ts ih => simp only [toksTablesTail3, commaTail, ih]
theorem fromTables (fol : List Tok) (hf : TQ.Fol d fol) (hc : searchStr fol "," = false) :
    ∀ (ts : List FromTable), (∀ t ∈ ts, TabRec d sp t) → ∀ acc,
    OkAt (fun f => pFromTables d f acc (toksTablesTail3 d sp ts ++ fol)) (20 * sizeL (toksTablesTail3 d sp ts) + 3) (acc ++ ts, fol) := by
  intro ts hts
  rw [toksTablesTail3_eq]
  exact TC.fromTables TQ.Fol.comma fol hf hc _ ts fun t ht => fromTable t (hts t ht)

def FromRec (d : Gen.D) (sp : Sp) : Option (List FromTable) → Prop
  | none => True
  | some (t :: ts) => TabRec d sp t ∧ ∀ x ∈ ts, TabRec d sp x
  | some [] => False
theorem fromOpt (fr : Option (List FromTable)) (hfr : FromRec d sp fr) (fol : List Tok) (hb : Bd3 d 1 fol = true) :
    OkAt (fun f => pFromOpt d f (toksFrom3 d sp fr ++ fol)) (20 * sizeL (toksFrom3 d sp fr) + 4) (fr, fol) := by
  have e1 : toksFrom3 d sp fr = TC.kwList [opTok "FROM"] (toksTable3 d sp) fr := by
    rcases fr with _ | _ | ⟨t, ts⟩ <;> simp only [toksFrom3, TC.kwList, toksTablesTail3_eq] <;> rfl
  have h : fr ≠ some [] ∧ ∀ t ∈ fr.getD [], TabRec d sp t := by rcases fr with _ | _ | ⟨t, ts⟩ <;> simp_all [FromRec]
  rw [e1]
  exact TC.fromOpt TQ.Fol.comma fol (TQ.Fol.ofBd hb) (TS.bd_comma (TQ.b3 hb)) _ (TS.bd_search (TQ.b3 hb) "FROM") fr h.1 fun t ht =>
    fromTable t (h.2 t ht)

/-! ### JOINs -/
def RuleRec (d : Gen.D) (sp : Sp) : Option JoinRule → Prop
  | none => True
  | some (.on e) => RT3 d sp e
  | some (.using _) => False
def JoinRec (d : Gen.D) (sp : Sp) : Join → Prop
  | .mk ty t rule => joinTyOK d ty = true ∧ TabRec d sp t ∧ RuleRec d sp rule
theorem sizeL_ref (r : TableRef) : 1 ≤ sizeL (toksRef3 d sp r) := by
  cases r <;> simp only [toksRef3, sizeL, tblTok] <;> (try split) <;> simp [Tok.size, nameTok, size_grp] <;> omega

theorem join (j : Join) (hj : JoinRec d sp j) (fol : List Tok) (hb : Bd3 d 1 fol = true) :
    OkAt (fun f => pJoin d f (toksJoin3 d sp j ++ fol)) (20 * sizeL (toksJoin3 d sp j) + 20) (j, fol) := by
  obtain ⟨ty, t, rule⟩ := j
  obtain ⟨hty, ht, hrule⟩ := hj
  have hnj := tab_noJoinWord t ht
  rcases rule with _ | e | u
  · exact TC.join (tr := []) (TC.joinTy_parts hty).1 hnj (fromTable t ht _ (TQ.Fol.ofBd hb))
      ((TC.joinRule_none ty _ (TS.bd_onUsing (TQ.b3 hb))).mono (by omega))
  · exact TC.join (tr := opTok "ON" :: toksE3 d sp e) (TC.joinTy_parts hty).1 hnj (fromTable t ht _ (TQ.on_fol _))
      ((TC.joinRule_on ty _ ((show RT3 d sp e from hrule).own.s14 fol (TQ.bd3_stops hb))).mono (by simp only [sizeL_cons]; omega))
  · exact absurd hrule (by simp [RuleRec])

theorem join_head (j : Join) (hj : JoinRec d sp j) (y : List Tok) : PM.joinHead (toksJoin3 d sp j ++ y) = true ∧ Bd3 d 1 (toksJoin3 d sp j ++ y) = true := by
  obtain ⟨ty, t, rule⟩ := j
  obtain ⟨_, t0, ws, hw, hbd, hjh⟩ := TC.joinTy_parts hj.1
  have hov : t0.srcEqUp "OVER" = false := by
    cases ho : t0.srcEqUp "OVER" with
    | false => rfl
    | true =>
      simp only [Tok.srcEqUp, beq_iff_eq] at ho
      have : ["JOIN", "INNER", "LEFT", "RIGHT", "FULL", "CROSS"].contains (up t0.src) = true := by simpa [PM.joinHead] using hjh
      rw [ho] at this; exact absurd this (by decide)
  simp only [toksJoin3, hw, List.cons_append]
  exact ⟨by simpa [PM.joinHead] using hjh, TQ.bd3_of _ hbd hov⟩
theorem joins_bd (js : List Join) (hjs : ∀ j ∈ js, JoinRec d sp j) (fol : List Tok) (hb : Bd3 d 2 fol = true) :
    Bd3 d 1 (toksJoins3 d sp js ++ fol) = true ∧ (js ≠ [] → PM.joinHead (toksJoins3 d sp js ++ fol) = true) := by
  cases js with
  | nil => exact ⟨by simpa [toksJoins3] using TQ.bd3_mono hb (by omega), fun h => absurd rfl h⟩
  | cons j js =>
    have := join_head j (hjs j (by simp)) (toksJoins3 d sp js ++ fol)
    simp only [toksJoins3, List.append_assoc]
    exact ⟨this.2, fun _ => this.1⟩
theorem sizeL_toksJoin_pos (j : Join) : 1 ≤ sizeL (toksJoin3 d sp j) := by
  obtain ⟨ty, ⟨tr, a⟩, rule⟩ := j
  have := sizeL_ref (d := d) (sp := sp) tr
  simp only [toksJoin3, toksTable3, sizeL_append]; omega
theorem joins (fol : List Tok) (hb : Bd3 d 2 fol = true) :
    ∀ (js : List Join), (∀ j ∈ js, JoinRec d sp j) → ∀ acc,
    OkAt (fun f => pJoins d f true [] acc (toksJoins3 d sp js ++ fol)) (20 * sizeL (toksJoins3 d sp js) + 22) (acc ++ js, fol) := by
  intro js hjs
  have e1 : toksJoins3 d sp js = TC.flat (toksJoin3 d sp) js := by
    induction js with
    | nil => simp only [toksJoins3, TC.flat]
    | cons j js ih => simp only [toksJoins3, TC.flat, ih fun x hx => hjs x (by simp [hx])]
  rw [e1]
  exact TC.joins (C := fun x => Bd3 d 1 x = true) _ fol (TQ.bd3_mono hb (by omega)) (TS.bd_joinHead (TQ.b3 hb) (by omega)) js fun j hj =>
    ⟨join_head j (hjs j hj), sizeL_toksJoin_pos j, join j (hjs j hj)⟩

def OptRec (d : Gen.D) (sp : Sp) : Option Expr → Prop
  | none => True
  | some e => RT3 d sp e
theorem optOr (kw : String) (hk : (opTok kw).srcEqUp kw = true) (k : Nat) (hrk : rank kw ≤ k) (o : Option Expr) (ho : OptRec d sp o)
    (fol : List Tok) (hb : Bd3 d k fol = true) :
    OkAt (fun f => pOptOr d f kw (toksOptE3 d sp kw o ++ fol)) (20 * sizeL (toksOptE3 d sp kw o) + 16) (o, fol) := by
  have e1 : toksOptE3 d sp kw o = TC.kwOpt kw (toksE3 d sp) o := by cases o <;> simp only [toksOptE3, TC.kwOpt]
  rw [e1]
  exact TC.optOr kw hk _ o fol (TS.bd_search (TQ.b3 hb) kw hrk) fun e he =>
    (show RT3 d sp e by subst he; exact ho).own.s14 fol (TQ.bd3_stops hb)

/-! ### key lists (GROUP BY, ORDER BY) -/
theorem key8 (e : Expr) (he : RT3 d sp e) (fol : List Tok) (hs : TP2.stopLE2 d 8 fol = true) :
    OkAt (fun f => pCompute d f (W3 d sp e 8 ++ fol)) (20 * sizeL (W3 d sp e 8) + 2) (e, fol) :=
  (he.at 8 (by omega)).s8 (by omega) fol hs

def GroupRec (d : Gen.D) (sp : Sp) : Option GroupBy → Prop
  | none => True
  | some (.mk (e :: es) none false false) => RT3 d sp e ∧ (∀ x ∈ es, RT3 d sp x) ∧ searchStrUp (W3 d sp e 8) "GROUPING" = false
  | _ => False
theorem groupBy (gb : Option GroupBy) (hg : GroupRec d sp gb) (fol : List Tok) (hb : Bd3 d 4 fol = true) :
    OkAt (fun f => pGroupBy d f (toksGroup3 d sp gb ++ fol)) (20 * sizeL (toksGroup3 d sp gb) + 6) (gb, fol) := by
  have hb' := TQ.b3 hb
  have hf : TC.GFol d true fol := ⟨TC.stopO_true.2 (TP2.stopLE2_mono (TQ.bd3_stops hb) (by omega)), TS.bd_comma hb', TS.bd_search2 hb' "GROUP" "BY",
    TS.bd_search2 hb' "GROUPING" "SETS", TS.bd_search2 hb' "WITH" "CUBE", TS.bd_search2 hb' "WITH" "ROLLUP"⟩
  rcases gb with _ | ⟨_ | ⟨e, es⟩, _ | l, _ | _, _ | _⟩ <;> simp only [GroupRec] at hg
  · exact TC.groupBy (w := (W3 d sp · 8)) none trivial fol hf
  · have e1 : toksGroup3 d sp (some (.mk (e :: es) none false false)) = TC.toksGroup (W3 d sp · 8) (some (.mk (e :: es) none false false)) := by
      simp [toksGroup3, TC.toksGroup, TC.commaList, toksArgsTail3_eq, TC.toksSetsOpt, TC.cubeT, TC.rollT, W3]
    have key : ∀ x, RT3 d sp x → TC.Key8 d true (W3 d sp · 8) x := fun x hx => ⟨TC.fullO_true.2 ((hx.at 8 (by omega)).s8 (by omega)), hx.neW 8⟩
    rw [e1]
    exact TC.groupBy (some (.mk (e :: es) none false false))
      ⟨fun x hx => key x ((List.mem_cons.1 hx).elim (fun h => h ▸ hg.1) (hg.2.1 x)), by simp, by simp, by simp, fun e' es' h => by cases h; exact hg.2.2⟩ fol hf

def OrdRec (d : Gen.D) (sp : Sp) : OrderItem → Prop
  | .mk e _ nf nl => RT3 d sp e ∧ nf = false ∧ nl = false
theorem orderItem (o : OrderItem) (ho : OrdRec d sp o) (fol : List Tok) (hf : TQ.OFol d fol) :
    OkAt (fun f => pOrderItem d f (toksOrdItem3 d sp o ++ fol)) (20 * sizeL (toksOrdItem3 d sp o) + 3) (o, fol) := by
  obtain ⟨e, desc, nf, nl⟩ := o
  obtain ⟨he, rfl, rfl⟩ := ho
  exact TC.orderItem (tk := W3 d sp e 8) (key8 e he _ (ascToks_stop8 _ desc fol hf)) (orderTail_asc e _ desc fol hf.old)

theorem toksOrdTail3_eq (os : List OrderItem) : toksOrdTail3 d sp os = commaTail (toksOrdItem3 d sp) os := by
  induction os with
  | nil => simp only [toksOrdTail3, commaTail]
  | cons o os ih => simp only [toksOrdTail3, commaTail, ih]
def OrderRec (d : Gen.D) (sp : Sp) : Option (List OrderItem) → Prop
  | none => True
  | some (o :: os) => OrdRec d sp o ∧ ∀ x ∈ os, OrdRec d sp x
  | some [] => False
theorem orderBy (ob : Option (List OrderItem)) (ho : OrderRec d sp ob) (fol : List Tok) (hb : Bd3 d 6 fol = true) :
    OkAt (fun f => pOrderByOpt d f (toksOrder3 d sp ob ++ fol)) (20 * sizeL (toksOrder3 d sp ob) + 6) (ob, fol) := by
  have e1 : toksOrder3 d sp ob = TC.kwList [opTok "ORDER", opTok "BY"] (toksOrdItem3 d sp) ob := by
    rcases ob with _ | _ | ⟨o, os⟩ <;> simp only [toksOrder3, TC.kwList, toksOrdTail3_eq] <;> rfl
  have h : ob ≠ some [] ∧ ∀ o ∈ ob.getD [], OrdRec d sp o := by rcases ob with _ | _ | ⟨o, os⟩ <;> simp_all [OrderRec]
  rw [e1]
  exact TC.orderByOpt TQ.OFol.comma fol (TQ.OFol.ofBd hb) (TS.bd_comma (TQ.b3 hb)) _ (TS.bd_search2 (TQ.b3 hb) "ORDER" "BY") ob h.1 fun o ho =>
    orderItem o (h.2 o ho)

end TSP
