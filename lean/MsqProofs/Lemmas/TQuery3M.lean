import MsqProofs.Lemmas.TQuery3M1
import MsqProofs.Lemmas.TQuery3Q
/-!
# T-parse on the larger nested fragment: the mutual induction (C03 / C02 / C01)

`all`: for every `n`, every
fragment expression of size `≤ n` has its record `RT4` and every fragment query of size `≤ n` has its record `QT`.  The expression half of
the step is `expr_step` (TQuery3M1.lean: the cases of the nested fragment, IF, and the nodes of TQuery3N.lean); the query half builds the records of the
parts of a SELECT — with LATERAL VIEWs, the USING rule, grouping sets, SORT / DISTRIBUTE / CLUSTER BY — from the induction hypothesis.

`ChOK d ch`: the choice `ch` of redundant brackets keeps the two first-word conditions of the fragment (no `DISTINCT` in front of the
select list, no `GROUPING` in front of the first key).  `chOK`: every choice does — the first token of a rendering with redundant brackets
is that of the rendering without, or a bracket (`toks_head_sz`) — so the induction needs no hypothesis about `ch`.
-/
open Lex PM Ast TP TS
open TP2 (qTok fnOK nmOK nm2OK isOkNoneS fnNameOK aggOK dotTok starTok)
open TQ (tblTok unionWords lvlH isExists lvlH_eq lvlH_ge lvlH_of_le8 isOkPair tblOK)
namespace TQ3
variable {d : Gen.D} {ch : Expr → Bool}

structure ChOK (d : Gen.D) (ch : Expr → Bool) : Prop where
  dist : ∀ cols, searchStrUp (toksCols4 d noX cols) "DISTINCT" = false → searchStrUp (toksCols4 d ch cols) "DISTINCT" = false
  grouping : ∀ e, searchStrUp (W4 d noX e 8) "GROUPING" = false → searchStrUp (W4 d ch e 8) "GROUPING" = false
theorem chOK_noX : ChOK d noX := ⟨fun _ h => h, fun _ h => h⟩

/-! ### every choice of redundant brackets keeps the two first-word side conditions -/
theorem group_srcEqUp (k : GK) (cs : List Tok) (m : Nat) (w : String) (hw : (w.toList.head? != some '(') = true) :
    (Tok.group k cs m).srcEqUp w = false := by
  simp only [Tok.srcEqUp, beq_eq_false_iff_ne, ne_eq]
  exact ne_of_head (c := '(') (toList_up_grp cs ▸ rfl) hw
section
variable {w : String} (hw : (w.toList.head? != some '(') = true)
include hw
/-- a child position: bracketed on both sides, or on the side of `ch` only (a bracket is not the word), or on neither -/
theorem wrap_head {l : Expr} (ih : ∀ x y, (searchStrUp x w = false → searchStrUp y w = false) →
      searchStrUp (toksE5 d noX l ++ x) w = false → searchStrUp (toksE5 d ch l ++ y) w = false)
    (k : Nat) (x y : List Tok) (hxy : searchStrUp x w = false → searchStrUp y w = false)
    (h : searchStrUp (wrapT (noX l) l k (toksE5 d noX l) ++ x) w = false) : searchStrUp (wrapT (ch l) l k (toksE5 d ch l) ++ y) w = false := by
  unfold wrapT at h ⊢
  by_cases hc : PR.lvl l > k ∨ ch l = true
  · simp only [hc, if_true]; exact group_srcEqUp .paren _ PAREN w hw
  · have hn : ¬(PR.lvl l > k ∨ noX l = true) := fun h' => hc (h'.imp_right (by simp [noX]))
    simp only [hc, hn, if_false] at h ⊢
    exact ih x y hxy h
/-- the first token of a rendering with redundant brackets is that of the rendering without, or a bracket -/
theorem toks_head_sz : ∀ (n : Nat) (e : Expr), szE4 e ≤ n → ∀ (x y : List Tok), (searchStrUp x w = false → searchStrUp y w = false) →
    searchStrUp (toksE5 d noX e ++ x) w = false → searchStrUp (toksE5 d ch e ++ y) w = false := by
  intro n
  induction n with
  | zero => intro e he; have := szE4_pos e; omega
  | succ n ih =>
    intro e he x y hxy h
    cases e with
    | window fn _ _ _ =>
      simp only [szE4] at he; simp only [toksE5, List.append_assoc] at h ⊢
      refine ih fn (by omega) _ _ ?_ h; exact id
    | index a _ =>
      simp only [szE4] at he; simp only [toksE5, List.append_assoc] at h ⊢
      refine ih a (by omega) _ _ ?_ h; exact fun _ => group_srcEqUp .slice _ ARRAY w hw
    | compute l _ _ =>
      simp only [szE4] at he; simp only [toksE5, List.append_assoc] at h ⊢
      refine wrap_head hw (ih l (by omega)) _ _ _ ?_ h; exact id
    | kw k nn l _ =>
      simp only [szE4] at he; simp only [toksE5, List.append_assoc] at h ⊢
      refine wrap_head hw (ih l (by omega)) _ _ _ ?_ h; intro h'
      cases k <;> cases nn <;> simp_all [kwToks, searchStrUp]
    | between nn b _ _ =>
      simp only [szE4] at he; simp only [toksE5, List.append_assoc] at h ⊢
      refine wrap_head hw (ih b (by omega)) _ _ _ ?_ h; intro h'
      cases nn <;> simp_all [searchStrUp]
    | compare _ l _ =>
      simp only [szE4] at he; simp only [toksE5, List.append_assoc] at h ⊢
      refine wrap_head hw (ih l (by omega)) _ _ _ ?_ h; exact id
    | and_ l _ =>
      simp only [szE4] at he; simp only [toksE5, List.append_assoc] at h ⊢
      refine wrap_head hw (ih l (by omega)) _ _ _ ?_ h; exact id
    | xor l _ =>
      simp only [szE4] at he; simp only [toksE5, List.append_assoc] at h ⊢
      refine wrap_head hw (ih l (by omega)) _ _ _ ?_ h; exact id
    | or_ l _ =>
      simp only [szE4] at he; simp only [toksE5, List.append_assoc] at h ⊢
      refine wrap_head hw (ih l (by omega)) _ _ _ ?_ h; exact id
    | column t _ => cases t <;> simpa [toksE5, searchStrUp] using h
    | wildcard t => cases t <;> simpa [toksE5, searchStrUp] using h
    | func s _ _ => cases s <;> simpa [toksE5, searchStrUp] using h
    | subValue _ => simp only [toksE5]; exact group_srcEqUp .paren _ PAREN w hw
    | subQuery _ => simp only [toksE5]; exact group_srcEqUp .paren _ PAREN w hw
    | mybatis _ => simpa [toksE5] using hxy (by simpa [toksE5] using h)
    | _ => simpa [toksE5, searchStrUp] using h
end
theorem chOK (d : Gen.D) (ch : Expr → Bool) : ChOK d ch where
  dist cols h := by
    rcases cols with _ | ⟨⟨e, a⟩, cs⟩
    · exact h
    · simp only [toksCols4, List.append_assoc] at h ⊢
      refine toks_head_sz (by decide) _ e (Nat.le_refl _) _ _ ?_ h; intro h'
      cases a <;> cases cs <;> simp_all [aliasToks, toksColsTail4, searchStrUp]
  grouping e h := by
    have := wrap_head (w := "GROUPING") (by decide) (toks_head_sz (ch := ch) (by decide) _ e (Nat.le_refl _)) 8 [] [] (fun h => h) (by simpa [W4] using h)
    simpa [W4] using this


section step
variable (n : Nat) (ihe : ∀ e, szE4 e ≤ n → FragE5 d e = true → RT4 d ch e) (ihq : ∀ q, szQ2 q ≤ n → FragQ3 d q = true → QT d ch q)
include ihe in
theorem cols_rec : ∀ cs, szCols cs ≤ n → colsOK4 d cs = true → ∀ c ∈ cs, ColRec d ch c := by
  intro cs
  induction cs with
  | nil => intro _ _ c hc; simp at hc
  | cons p cs ihc =>
    obtain ⟨e, a⟩ := p
    intro hs hf c hc
    simp only [szCols] at hs
    simp only [colsOK4, Bool.and_eq_true] at hf
    rcases List.mem_cons.1 hc with rfl | hc
    · exact ⟨ihe e (by omega) hf.1.1, hf.1.2⟩
    · exact ihc (by omega) hf.2 c hc
include ihq in
theorem ref_rec (r : TableRef) (hs : szRef r ≤ n) (hf : refOK4 d r = true) : RefRec d ch r := by
  cases r with
  | table s nm => simp only [refOK4] at hf; exact hf
  | sub q =>
    simp only [refOK4] at hf; simp only [szRef] at hs
    show QT d ch q
    exact ihq q (by omega) hf
include ihq in
theorem table_rec (t : FromTable) (hs : szTable t ≤ n) (hf : tableOK4 d t = true) : TabRec d ch t := by
  obtain ⟨r, a⟩ := t
  simp only [tableOK4, Bool.and_eq_true] at hf; simp only [szTable] at hs
  exact ⟨ref_rec n ihq r hs hf.1, hf.2⟩
include ihq in
theorem tables_rec : ∀ ts, szTables ts ≤ n → tablesOK4 d ts = true → ∀ t ∈ ts, TabRec d ch t := by
  intro ts
  induction ts with
  | nil => intro _ _ c hc; simp at hc
  | cons t ts iht =>
    intro hs hf c hc
    simp only [szTables] at hs
    simp only [tablesOK4, Bool.and_eq_true] at hf
    rcases List.mem_cons.1 hc with rfl | hc
    · exact table_rec n ihq _ (by omega) hf.1
    · exact iht (by omega) hf.2 c hc
include ihq in
theorem from_rec (fr : Option (List FromTable)) (hs : szFrom fr ≤ n) (hf : fromOK4 d fr = true) : FromRec d ch fr := by
  cases fr with
  | none => trivial
  | some l =>
    cases l with
    | nil => simp [fromOK4] at hf
    | cons t ts =>
      simp only [fromOK4, Bool.and_eq_true] at hf; simp only [szFrom, szTables] at hs
      exact ⟨table_rec n ihq t (by omega) hf.1, tables_rec n ihq ts (by omega) hf.2⟩
include ihe in
theorem rule_rec (r : Option JoinRule) (hs : szRule r ≤ n) (hf : ruleOK4 d r = true) : RuleRec d ch r := by
  cases r with
  | none => trivial
  | some r =>
    cases r with
    | on e => simp only [ruleOK4] at hf; simp only [szRule] at hs; exact ihe e hs hf
    | «using» u =>
      simp only [ruleOK4] at hf; simp only [szRule] at hs
      cases u with
      | func s nm ps =>
        cases s with
        | some s => simp [usingOK4] at hf
        | none =>
          simp only [usingOK4, Bool.and_eq_true] at hf
          simp only [szE4] at hs
          exact ⟨hf.1.1.1, hf.1.1.2, hf.1.2, fun a ha => by obtain ⟨x, y⟩ := frag2L_mem ps hf.2 a ha; exact ihe a (by omega) x⟩
      | _ => simp [usingOK4] at hf
include ihe ihq in
theorem joins_rec : ∀ js, szJoins js ≤ n → joinsOK4 d js = true → ∀ j ∈ js, JoinRec d ch j := by
  intro js
  induction js with
  | nil => intro _ _ c hc; simp at hc
  | cons j js ihj =>
    intro hs hf c hc
    simp only [szJoins] at hs
    simp only [joinsOK4, Bool.and_eq_true] at hf
    rcases List.mem_cons.1 hc with rfl | hc
    · obtain ⟨ty, t, rule⟩ := c
      have h1 := hf.1
      simp only [joinOK4, Bool.and_eq_true] at h1; simp only [szJoin] at hs
      exact ⟨h1.1.1, table_rec n ihq t (by omega) h1.1.2, rule_rec n ihe rule (by omega) h1.2⟩
    · exact ihj (by omega) hf.2 c hc
include ihe in
theorem opt_rec (o : Option Expr) (hs : szO4 o ≤ n) (hf : FragO4 d o = true) : OptRec d ch o := by
  cases o with
  | none => trivial
  | some e => simp only [FragO4] at hf; simp only [szO4] at hs; exact ihe e hs hf
include ihe in
theorem sets_rec : ∀ l, szSets l ≤ n → setsOK4 d l = true → ∀ g ∈ l, ∀ e ∈ g, RT4 d ch e := by
  intro l
  induction l with
  | nil => intro _ _ g hg; simp at hg
  | cons g0 l ihl =>
    intro hs hf g hg e he
    simp only [szSets] at hs
    simp only [setsOK4, Bool.and_eq_true] at hf
    rcases List.mem_cons.1 hg with rfl | hg
    · obtain ⟨a, b⟩ := frag2L_mem g hf.1 e he
      exact ihe e (by omega) a
    · exact ihl (by omega) hf.2 g hg e he
include ihe in
theorem group_rec (gb : Option GroupBy) (hs : szGroup gb ≤ n) (hf : groupOK4 d gb = true) : GroupRec d ch gb := by
  cases gb with
  | none => trivial
  | some g =>
    obtain ⟨cols, sets, cube, rollup⟩ := g
    cases cols with
    | nil =>
      cases sets with
      | none => simp [groupOK4] at hf
      | some l =>
        simp only [groupOK4] at hf
        simp only [szGroup, szL4] at hs
        exact ⟨fun e he => by simp at he, fun g hg e he => sets_rec n ihe l (by omega) hf g hg e he, fun _ => rfl, fun e es h => by simp at h⟩
    | cons e es =>
      have key : FragE5 d e = true ∧ FragL4 d es = true ∧ searchStrUp (W4 d noX e 8) "GROUPING" = false ∧
          (∀ l, sets = some l → setsOK4 d l = true ∧ szSets l ≤ n) ∧ szE4 e + szL4 es ≤ n := by
        cases sets with
        | none =>
          have hf' : (FragE5 d e && FragL4 d es && !searchStrUp (W4 d noX e 8) "GROUPING") = true := by simpa [groupOK4, W4] using hf
          simp only [Bool.and_eq_true, Bool.not_eq_true'] at hf'
          simp only [szGroup, szL4] at hs
          refine ⟨hf'.1.1, hf'.1.2, hf'.2, ?_, by omega⟩
          intro l h; cases h
        | some l =>
          have hf' : (FragE5 d e && FragL4 d es && !searchStrUp (W4 d noX e 8) "GROUPING" && setsOK4 d l) = true := by simpa [groupOK4, W4] using hf
          simp only [Bool.and_eq_true, Bool.not_eq_true'] at hf'
          simp only [szGroup, szL4] at hs
          refine ⟨hf'.1.1.1, hf'.1.1.2, hf'.1.2, ?_, by omega⟩
          intro l' h; cases h; exact ⟨hf'.2, by omega⟩
      obtain ⟨h1, h2, h3, h4, hs'⟩ := key
      clear hs hf
      refine ⟨fun x hx => ?_, ?_, fun h => by simp at h, fun e' es' h => ?_⟩
      · rcases List.mem_cons.1 hx with rfl | hx
        · exact ihe x (by omega) h1
        · obtain ⟨a, b⟩ := frag2L_mem es h2 x hx
          exact ihe x (by omega) a
      · cases sets with
        | none => trivial
        | some l => exact fun g hg e0 he0 => sets_rec n ihe l (h4 l rfl).2 (h4 l rfl).1 g hg e0 he0
      · simp only [List.cons.injEq] at h
        obtain ⟨rfl, rfl⟩ := h
        exact (chOK d ch).grouping e h3
include ihe in
theorem ord_rec (o : OrderItem) (hs : szOrdItem o ≤ n) (hf : ordItemOK4 d o = true) : OrdRec d ch o := by
  obtain ⟨e, desc, nf, nl⟩ := o
  simp only [ordItemOK4, Bool.and_eq_true, Bool.not_eq_true'] at hf; simp only [szOrdItem] at hs
  exact ⟨ihe e hs hf.1, hf.2⟩
include ihe in
theorem ordtail_rec : ∀ os, szOrdL os ≤ n → ordTailOK4 d os = true → ∀ o ∈ os, OrdRec d ch o := by
  intro os
  induction os with
  | nil => intro _ _ c hc; simp at hc
  | cons o os iho =>
    intro hs hf c hc
    simp only [szOrdL] at hs
    simp only [ordTailOK4, Bool.and_eq_true] at hf
    rcases List.mem_cons.1 hc with rfl | hc
    · exact ord_rec n ihe _ (by omega) hf.1
    · exact iho (by omega) hf.2 c hc
include ihe in
theorem order_rec (ob : Option (List OrderItem)) (hs : szOrder ob ≤ n) (hf : orderOK4 d ob = true) : OrderRec d ch ob := by
  cases ob with
  | none => trivial
  | some l =>
    cases l with
    | nil => simp [orderOK4] at hf
    | cons o os =>
      simp only [orderOK4, Bool.and_eq_true] at hf; simp only [szOrder, szOrdL] at hs
      exact ⟨ord_rec n ihe o (by omega) hf.1, ordtail_rec n ihe os (by omega) hf.2⟩

include ihe in
theorem by_rec (o : Option (List Expr)) (hs : szBy o ≤ n) (hf : byOK4 d o = true) : ByRec d ch o := by
  cases o with
  | none => trivial
  | some l =>
    cases l with
    | nil => simp [byOK4] at hf
    | cons e es =>
      simp only [byOK4, Bool.and_eq_true] at hf; simp only [szBy, szL4] at hs
      exact ⟨ihe e (by omega) hf.1, fun x hx => by obtain ⟨a, b⟩ := frag2L_mem es hf.2 x hx; exact ihe x (by omega) a⟩
include ihe in
theorem lats_rec : ∀ ls, szLats ls ≤ n → latsOK4 d ls = true → ∀ l ∈ ls, LatRec d ch l := by
  intro ls
  induction ls with
  | nil => intro _ _ c hc; simp at hc
  | cons l ls ihl =>
    intro hs hf c hc
    simp only [szLats] at hs
    simp only [latsOK4, Bool.and_eq_true] at hf
    rcases List.mem_cons.1 hc with rfl | hc
    · obtain ⟨o, fn, v, as⟩ := c
      have h1 := hf.1
      simp only [latOK4, Bool.and_eq_true] at h1
      simp only [szLat] at hs
      refine ⟨?_, h1.2⟩
      cases fn with
      | func s nm ps =>
        cases s with
        | some s => simp [latFnOK4] at h1
        | none =>
          have h2 := h1.1
          simp only [latFnOK4, Bool.and_eq_true, Bool.not_eq_true'] at h2
          simp only [szE4] at hs
          exact ⟨nm, ps, rfl, h2.1.1, h2.1.2, fun a ha => by obtain ⟨x, y⟩ := frag2L_mem ps h2.2 a ha; exact ihe a (by omega) x⟩
      | _ => simp [latFnOK4] at h1
    · exact ihl (by omega) hf.2 c hc
include ihe ihq in
theorem srec (s : Select) (hs : szS4 s ≤ n + 1) (hf : FragS5 d s = true) : SRec d ch s := by
  obtain ⟨w, dist, cols, fr, lats, js, wh, gb, hv, ob, sb, db, cb, lm⟩ := s
  cases w with
  | none => simp [FragS5] at hf
  | some w =>
  cases w with
  | cons _ _ => simp [FragS5] at hf
  | nil =>
  cases cols with
  | nil => simp [FragS5] at hf
  | cons c cs =>
    simp only [FragS5, Bool.and_eq_true, Bool.or_eq_true, Bool.not_eq_true'] at hf
    simp only [szS4] at hs
    obtain ⟨⟨⟨⟨⟨⟨⟨⟨⟨⟨⟨⟨⟨h1, _⟩, h3⟩, hl⟩, h4⟩, h5⟩, h6⟩, h7⟩, h8⟩, hsb⟩, hdb⟩, hcb⟩, h9⟩, h10⟩ := hf
    have hc := cols_rec n ihe (c :: cs) (by omega) h1
    refine ⟨dist, c, cs, fr, lats, js, wh, gb, hv, ob, sb, db, cb, lm, rfl, hc c (by simp), fun c' h' => hc c' (by simp [h']), ?_,
      from_rec n ihq fr (by omega) h3, lats_rec n ihe lats (by omega) hl, joins_rec n ihe ihq js (by omega) h4, opt_rec n ihe wh (by omega) h5,
      group_rec n ihe gb (by omega) h6, opt_rec n ihe hv (by omega) h7, order_rec n ihe ob (by omega) h8, order_rec n ihe sb (by omega) hsb,
      by_rec n ihe db (by omega) hdb, by_rec n ihe cb (by omega) hcb, h9⟩
    rcases h10 with h | h
    · exact Or.inl h
    · exact Or.inr ((chOK d ch).dist _ h)
include ihe ihq in
theorem un_rec : ∀ us, szUn2 us ≤ n + 1 → FragUn2 d us = true → UnRec d ch us := by
  intro us
  induction us with
  | nil => intro _ _; trivial
  | cons p r ihu =>
    obtain ⟨t, s⟩ := p
    intro hs hf
    simp only [szUn2] at hs
    simp only [FragUn2, Bool.and_eq_true] at hf
    exact ⟨hf.1.1, srec n ihe ihq s (by omega) hf.1.2, ihu (by omega) hf.2⟩
include ihe ihq in
theorem query_step : ∀ q, szQ2 q ≤ n + 1 → FragQ3 d q = true → QT d ch q := by
  intro q hs hf
  cases q with
  | single s =>
    simp only [FragQ3] at hf; simp only [szQ2] at hs
    exact qt_single s (srec n ihe ihq s (by omega) hf)
  | union ws s us =>
    simp only [szQ2] at hs
    cases ws with
    | none => simp [FragQ3] at hf
    | some l =>
      cases l with
      | cons _ _ => simp [FragQ3] at hf
      | nil =>
        simp only [FragQ3, Bool.and_eq_true, Bool.not_eq_true', Bool.true_and] at hf
        exact qt_union s us (srec n ihe ihq s (by omega) hf.1.1) (un_rec n ihe ihq us (by omega) hf.1.2) hf.2
end step

theorem all : ∀ n, (∀ e, szE4 e ≤ n → FragE5 d e = true → RT4 d ch e) ∧ (∀ q, szQ2 q ≤ n → FragQ3 d q = true → QT d ch q) := by
  intro n
  induction n with
  | zero =>
    refine ⟨fun e he => ?_, fun q hq => ?_⟩
    · have := szE4_pos e; omega
    · cases q <;> simp [szQ2] at hq
  | succ n ih => exact ⟨expr_step n ih.1 ih.2, query_step n ih.1 ih.2⟩
theorem rt4 (e : Expr) (hf : FragE5 d e = true) : RT4 d ch e := (all (szE4 e)).1 e (Nat.le_refl _) hf
theorem qt (q : Query) (hf : FragQ3 d q = true) : QT d ch q := (all (szQ2 q)).2 q (Nat.le_refl _) hf
theorem srec_of (s : Select) (hf : FragS5 d s = true) : SRec d ch s :=
  srec (szS4 s) (fun e _ h => rt4 e h) (fun q _ h => qt q h) s (by omega) hf
theorem unrec_of (us : List (String × Select)) (hf : FragUn2 d us = true) : UnRec d ch us :=
  un_rec (szUn2 us) (fun e _ h => rt4 e h) (fun q _ h => qt q h) us (by omega) hf

end TQ3
