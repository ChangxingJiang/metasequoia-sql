import MsqProofs.Lemmas.LexSem
import MsqModel.Lex.TableOK
/-!
# Outcome typing of the lexer model: `lex` returns a token list or `.lexical`

The lexer model reports three kinds of foreign exception: `KeyError` for a missing table cell (`handle`), `IndexError` for
`memory.stack[-1]` / `stack.pop()` on an empty stack (`appendTop`, `popStack`, `finish`) and `UnboundLocalError` for an
operation body that uses `source` / `tokens` before assigning it; an operation body that falls off its end is
`.unmodelled`.  `NoPyOK cfg` is a decidable obligation on the (regenerated) table that excludes all of them:

* `live s` = the state has a default cell and an end cell (so no symbol can miss); `WAIT` is live and every cell of a live
  state that does not raise leads to a live state (so `END` and the plug-in states, which have no cells, are never the
  current state while characters are fed);
* every operation body of a reachable cell has a normal form (`summarize`), hence none of the `UnboundLocalError` /
  fall-through shapes;
* every body that pops the bracket stack is guarded by `raiseIfDepthLE k` with `k ≥ 1`, so the stack is never empty.

`lex_ok_or_lexical` is the theorem; the obligation is discharged for the shipped table (and the seven other option
settings) in `MsqProofs/Oblig/LexNoPyCfg.lean` by kernel evaluation on every build.
-/
namespace Lex
namespace NoPy
variable {Cls : Type}

/-- the state has a default cell and an end cell: no symbol misses the table -/
def live (cfg : Cfg Cls) (s : S) : Bool := (cfg.dflt s).isSome && (cfg.atEnd s).isSome

/-- a body that pops the bracket stack first tests `len(stack) > k` for some `k ≥ 1` -/
def popGuarded (sm : Summary) : Bool :=
  match sm.grp with
  | .pop _ _ => (match sm.depthGuard with | some k => decide (1 ≤ k) | none => false)
  | _ => true

/-- one cell: its body has a normal form, and it raises the lexical error or (pops only under the guard and, if more
input may follow, moves to a live state) -/
def cellNoPy (cfg : Cfg Cls) (s : S) (o : OpRef Cls) (needLive : Bool) : Bool :=
  match summarize (cfg.code o.cls) with
  | none => false
  | some sm => sm.raises || (popGuarded sm && (!needLive || live cfg (nextSt s o sm)))

/-- the decidable table obligation -/
def NoPyOK (cfg : Cfg Cls) : Bool :=
  live cfg .WAIT &&
  allS.all fun s => !live cfg s ||
    (((cfg.rows s).all fun e => cellNoPy cfg s e.2 true) &&
     (match cfg.dflt s with | some o => cellNoPy cfg s o true | none => false) &&
     (match cfg.atEnd s with | some o => cellNoPy cfg s o false | none => false))

theorem appendTop_ne_nil (t : Tok) (stk : List (List Tok)) (h : stk ≠ []) : ∃ stk', appendTop t stk = some stk' ∧ stk'.length = stk.length := by
  cases stk with
  | nil => exact absurd rfl h
  | cons f fs => exact ⟨_, rfl, rfl⟩

theorem execCore_succeeds (env : Env) (ss : S) (smk : Nat) (adv : Bool) (body : Body) (grp : Grp) (st : St) (ret : Bool) (m : Mem)
    (hne : m.stack ≠ []) (hpop : ∀ k mk, grp = .pop k mk → 2 ≤ m.stack.length) :
    ∃ m', execCore env ss smk adv body grp st ret m = .ok (m', ret) ∧ m'.stack ≠ [] ∧ m'.status = st.resolve ss m.status := by
  obtain ⟨f0, rest, hst⟩ := List.exists_cons_of_ne_nil hne
  unfold execCore
  cases grp with
  | none => cases body <;> simp [hst, appendTop]
  | push => cases body <;> simp [hst, appendTop]
  | pop k mk =>
    have h2 := hpop k mk rfl
    rw [hst] at h2
    cases rest with
    | nil => simp at h2
    | cons g fs => cases body <;> simp [hst, appendTop]

theorem execS_succeeds (env : Env) (ss : S) (smk : Nat) (s : Summary) (m : Mem) (hne : m.stack ≠ []) (hg : popGuarded s = true) :
    execS env ss smk s m = .error .lexical ∨
      ∃ m', execS env ss smk s m = .ok (m', s.ret) ∧ m'.stack ≠ [] ∧ m'.status = s.st.resolve ss m.status := by
  unfold execS
  by_cases hb : s.blocked m = true
  · simp [hb]
  · by_cases hr : s.raises = true
    · simp [hr]
    · right
      simp only [hb, hr, Bool.false_eq_true, if_false]
      apply execCore_succeeds env ss smk s.adv s.body s.grp s.st s.ret m hne
      intro k mk hk
      unfold popGuarded at hg
      rw [hk] at hg
      unfold Summary.blocked at hb
      cases hd : s.depthGuard with
      | none => simp [hd] at hg
      | some j =>
        simp only [hd, decide_eq_true_eq] at hg hb
        omega

theorem noPyOK_wait {cfg : Cfg Cls} (h : NoPyOK cfg = true) : live cfg .WAIT = true := by
  unfold NoPyOK at h; simp only [Bool.and_eq_true] at h; exact h.1

theorem noPyOK_state {cfg : Cfg Cls} (h : NoPyOK cfg = true) (s : S) (hl : live cfg s = true) :
    (∀ e ∈ cfg.rows s, cellNoPy cfg s e.2 true = true) ∧
    (∃ o, cfg.dflt s = some o ∧ cellNoPy cfg s o true = true) ∧
    (∃ o, cfg.atEnd s = some o ∧ cellNoPy cfg s o false = true) := by
  unfold NoPyOK at h
  simp only [Bool.and_eq_true, List.all_eq_true] at h
  have hs := h.2 s (mem_allS s)
  simp only [hl, Bool.not_true, Bool.false_or, Bool.and_eq_true, List.all_eq_true] at hs
  refine ⟨hs.1.1, ?_, ?_⟩
  · cases hd : cfg.dflt s with
    | none => simp [hd] at hs
    | some o => exact ⟨o, rfl, by simpa [hd] using hs.1.2⟩
  · cases hd : cfg.atEnd s with
    | none => simp [hd] at hs
    | some o => exact ⟨o, rfl, by simpa [hd] using hs.2⟩

theorem cell_ok (cfg : Cfg Cls) (text : List Char) (m : Mem) (sym : Sym) (o : OpRef Cls) (needLive : Bool)
    (hl : cfg.lookup m.status sym = some o) (hc : cellNoPy cfg m.status o needLive = true) (hne : m.stack ≠ []) :
    handle cfg text m sym = .error .lexical ∨
      ∃ m' b, handle cfg text m sym = .ok (m', b) ∧ m'.stack ≠ [] ∧ (needLive = true → live cfg m'.status = true) := by
  unfold handle
  simp only [hl]
  unfold cellNoPy at hc
  cases hs : summarize (cfg.code o.cls) with
  | none => simp [hs] at hc
  | some sm =>
    simp only [hs, Bool.or_eq_true, Bool.and_eq_true] at hc
    rw [exec_summarize (cfg.env text) o.status o.marks sym _ sm hs m]
    rcases hc with hr | ⟨hg, hlive⟩
    · left; unfold execS; by_cases hb : sm.blocked m = true <;> simp [hb, hr]
    · rcases execS_succeeds (cfg.env text) o.status o.marks sm m hne hg with he | ⟨m', he, hne', hst⟩
      · exact .inl he
      · refine .inr ⟨m', sm.ret, he, hne', ?_⟩
        intro hn
        subst hn
        rw [hst]; simpa [nextSt] using hlive

theorem handle_ch_ok {cfg : Cfg Cls} (h : NoPyOK cfg = true) (text : List Char) (m : Mem) (c : Char)
    (hl : live cfg m.status = true) (hne : m.stack ≠ []) :
    handle cfg text m (.ch c) = .error .lexical ∨
      ∃ m' b, handle cfg text m (.ch c) = .ok (m', b) ∧ m'.stack ≠ [] ∧ live cfg m'.status = true := by
  obtain ⟨hrows, ⟨od, hd, hdc⟩, _⟩ := noPyOK_state h m.status hl
  have : ∃ o, cfg.lookup m.status (.ch c) = some o ∧ cellNoPy cfg m.status o true = true := by
    rcases cfg.lookup_ch_cases m.status c with ⟨e, he, _, hlk⟩ | hlk
    · exact ⟨e.2, hlk, hrows e he⟩
    · exact ⟨od, by rw [hlk, hd], hdc⟩
  obtain ⟨o, hlk, hc⟩ := this
  rcases cell_ok cfg text m (.ch c) o true hlk hc hne with he | ⟨m', b, he, hne', hlv⟩
  · exact .inl he
  · exact .inr ⟨m', b, he, hne', hlv rfl⟩

theorem handle_eof_ok {cfg : Cfg Cls} (h : NoPyOK cfg = true) (text : List Char) (m : Mem)
    (hl : live cfg m.status = true) (hne : m.stack ≠ []) :
    handle cfg text m .eof = .error .lexical ∨ ∃ m' b, handle cfg text m .eof = .ok (m', b) ∧ m'.stack ≠ [] := by
  obtain ⟨_, _, ⟨oe, he, hec⟩⟩ := noPyOK_state h m.status hl
  rcases cell_ok cfg text m .eof oe false (by simp [Cfg.lookup, he]) hec hne with hx | ⟨m', b, hx, hne', _⟩
  · exact .inl hx
  · exact .inr ⟨m', b, hx, hne'⟩

theorem feed_ok {cfg : Cfg Cls} (h : NoPyOK cfg = true) (text : List Char) (m : Mem) (c : Char)
    (hl : live cfg m.status = true) (hne : m.stack ≠ []) :
    feedWith (handle cfg text) m c = .error .lexical ∨
      ∃ m', feedWith (handle cfg text) m c = .ok m' ∧ m'.stack ≠ [] ∧ live cfg m'.status = true := by
  unfold feedWith
  rcases handle_ch_ok h text m c hl hne with he | ⟨m1, b, he, hne1, hl1⟩
  · simp [he]
  · cases b with
    | true => exact .inr ⟨m1, by simp [he], hne1, hl1⟩
    | false =>
      simp only [he]
      rcases handle_ch_ok h text m1 c hl1 hne1 with he2 | ⟨m2, b2, he2, hne2, hl2⟩
      · simp [he2]
      · exact .inr ⟨m2, by simp [he2], hne2, hl2⟩

theorem feedAll_ok {cfg : Cfg Cls} (h : NoPyOK cfg = true) (text : List Char) (cs : List Char) (m : Mem)
    (hl : live cfg m.status = true) (hne : m.stack ≠ []) :
    feedAllWith (handle cfg text) cs m = .error .lexical ∨
      ∃ m', feedAllWith (handle cfg text) cs m = .ok m' ∧ m'.stack ≠ [] ∧ live cfg m'.status = true := by
  induction cs generalizing m with
  | nil => exact .inr ⟨m, rfl, hne, hl⟩
  | cons c cs ih =>
    unfold feedAllWith
    rcases feed_ok h text m c hl hne with he | ⟨m', he, hne', hl'⟩
    · simp [he]
    · simp only [he]; exact ih m' hl' hne'

theorem finish_ok (cfg : Cfg Cls) (m : Mem) (hne : m.stack ≠ []) :
    finish cfg m = .error .lexical ∨ ∃ ts, finish cfg m = .ok ts := by
  unfold finish
  split
  · exact .inl rfl
  · split
    · exact .inl rfl
    · cases hg : m.stack.getLast? with
      | none => exact absurd (List.getLast?_eq_none_iff.mp hg) hne
      | some f => exact .inr ⟨f, rfl⟩

end NoPy
open NoPy
variable {Cls : Type}

/-- **The lexer fails closed**: for a table that satisfies `NoPyOK`, `FSMMachine.parse` returns a token list or raises the
library's lexical error — no `KeyError`, `IndexError`, `UnboundLocalError`, on any text. -/
theorem lex_ok_or_lexical {cfg : Cfg Cls} (h : NoPyOK cfg = true) (raw : List Char) :
    (∃ ts, lex cfg raw = .ok ts) ∨ lex cfg raw = .error .lexical := by
  unfold lex lexWith
  simp only
  rcases feedAll_ok h (cfg.pre raw) (cfg.pre raw) {} (noPyOK_wait h) (by simp) with he | ⟨m, he, hne, hl⟩
  · right; simp [he]
  · simp only [he]
    rcases handle_eof_ok h (cfg.pre raw) m hl hne with hx | ⟨m', b, hx, hne'⟩
    · right; simp [hx]
    · simp only [hx]
      rcases finish_ok cfg m' hne' with hf | ⟨ts, hf⟩
      · exact .inr hf
      · exact .inl ⟨ts, hf⟩

theorem lex_error_lexical {cfg : Cfg Cls} (h : NoPyOK cfg = true) (raw : List Char) (x : Err) (hx : lex cfg raw = .error x) :
    x = .lexical := by
  rcases lex_ok_or_lexical h raw with ⟨ts, ht⟩ | he
  · rw [ht] at hx; cases hx
  · rw [he] at hx; cases hx; rfl

end Lex
