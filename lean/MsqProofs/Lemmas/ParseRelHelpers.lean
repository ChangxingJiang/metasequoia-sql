import MsqProofs.Lemmas.ParseSubstKw
import MsqProofs.Lemmas.ParseRel3b
/-! GENERATED by tools/gen_rel.py — relational reading of the parser model: the cursor primitives and the helpers outside the mutual block on two related cursors.  Written by hand: `popSrc_rel`, `popInt_rel`, `pFuncName_rel`, `pTableName_rel`, `orderTail_rel`, `castParams_rel`, `castTail_rel` (tools/hand/ParseRelHelpers.lean.in, put in by tools/hand_blocks.py) -/
set_option linter.unusedVariables false
set_option linter.unusedSectionVars false
set_option linter.unusedSimpArgs false
open Lex Ast PMQ
namespace PM.Rel
variable [T : Theory]

/-! the constants the runs compare tokens with are plain in every theory: the chains cite these by name, `grind` has them as rules, each keyed on its own constant -/
@[grind =] theorem plainT___ : T.plain "__" = true := T.plain_of _ plain_k0
@[grind =] theorem plainT_SELECT : T.plain "SELECT" = true := T.plain_of _ plain_k3
@[grind =] theorem plainT_WITH : T.plain "WITH" = true := T.plain_of _ plain_k4
@[grind =] theorem plainT_OVER : T.plain "OVER" = true := T.plain_of _ plain_k5
@[grind =] theorem plainT_k6 : T.plain "," = true := T.plain_of _ plain_k6
@[grind =] theorem plainT_AS : T.plain "AS" = true := T.plain_of _ plain_k7
@[grind =] theorem plainT_NOT : T.plain "NOT" = true := T.plain_of _ plain_k8
@[grind =] theorem plainT_BETWEEN : T.plain "BETWEEN" = true := T.plain_of _ plain_k9
@[grind =] theorem plainT_IS : T.plain "IS" = true := T.plain_of _ plain_k10
@[grind =] theorem plainT_IN : T.plain "IN" = true := T.plain_of _ plain_k11
@[grind =] theorem plainT_LIKE : T.plain "LIKE" = true := T.plain_of _ plain_k12
@[grind =] theorem plainT_RLIKE : T.plain "RLIKE" = true := T.plain_of _ plain_k13
@[grind =] theorem plainT_REGEXP : T.plain "REGEXP" = true := T.plain_of _ plain_k14
@[grind =] theorem plainT_SUBSTRING : T.plain "SUBSTRING" = true := T.plain_of _ plain_k15
@[grind =] theorem plainT_FROM : T.plain "FROM" = true := T.plain_of _ plain_k16
@[grind =] theorem plainT_FOR : T.plain "FOR" = true := T.plain_of _ plain_k17
@[grind =] theorem plainT_DISTINCT : T.plain "DISTINCT" = true := T.plain_of _ plain_k18
@[grind =] theorem plainT_k19 : T.plain "." = true := T.plain_of _ plain_k19
@[grind =] theorem plainT_CROSS : T.plain "CROSS" = true := T.plain_of _ plain_k21
@[grind =] theorem plainT_USING : T.plain "USING" = true := T.plain_of _ plain_k22
@[grind =] theorem plainT_SORT : T.plain "SORT" = true := T.plain_of _ plain_k23
@[grind =] theorem plainT_DISTRIBUTE : T.plain "DISTRIBUTE" = true := T.plain_of _ plain_k24
@[grind =] theorem plainT_CLUSTER : T.plain "CLUSTER" = true := T.plain_of _ plain_k25
@[grind =] theorem plainT_CURRENT : T.plain "CURRENT" = true := T.plain_of _ plain_k26
@[grind =] theorem plainT_ROW : T.plain "ROW" = true := T.plain_of _ plain_k27
@[grind =] theorem plainT_UNBOUNDED : T.plain "UNBOUNDED" = true := T.plain_of _ plain_k28
@[grind =] theorem plainT_PRECEDING : T.plain "PRECEDING" = true := T.plain_of _ plain_k29
@[grind =] theorem plainT_FOLLOWING : T.plain "FOLLOWING" = true := T.plain_of _ plain_k30
@[grind =] theorem plainT_ROWS : T.plain "ROWS" = true := T.plain_of _ plain_k31
@[grind =] theorem plainT_AND : T.plain "AND" = true := T.plain_of _ plain_k32
@[grind =] theorem plainT_DESC : T.plain "DESC" = true := T.plain_of _ plain_k33
@[grind =] theorem plainT_ASC : T.plain "ASC" = true := T.plain_of _ plain_k34
@[grind =] theorem plainT_NULLS : T.plain "NULLS" = true := T.plain_of _ plain_k35
@[grind =] theorem plainT_FIRST : T.plain "FIRST" = true := T.plain_of _ plain_k36
@[grind =] theorem plainT_LAST : T.plain "LAST" = true := T.plain_of _ plain_k37
@[grind =] theorem plainT_SIGNED : T.plain "SIGNED" = true := T.plain_of _ plain_k38
@[grind =] theorem plainT_LIMIT : T.plain "LIMIT" = true := T.plain_of _ plain_k39
@[grind =] theorem plainT_OFFSET : T.plain "OFFSET" = true := T.plain_of _ plain_k40
@[grind =] theorem plainT_UNION : T.plain "UNION" = true := T.plain_of _ plain_k41
@[grind =] theorem plainT_EXCEPT : T.plain "EXCEPT" = true := T.plain_of _ plain_k42
@[grind =] theorem plainT_INTERSECT : T.plain "INTERSECT" = true := T.plain_of _ plain_k43
@[grind =] theorem plainT_MINUS : T.plain "MINUS" = true := T.plain_of _ plain_k44
@[grind =] theorem plainT_JOIN : T.plain "JOIN" = true := T.plain_of _ plain_k45
@[grind =] theorem plainT_INNER : T.plain "INNER" = true := T.plain_of _ plain_k46
@[grind =] theorem plainT_LEFT : T.plain "LEFT" = true := T.plain_of _ plain_k47
@[grind =] theorem plainT_RIGHT : T.plain "RIGHT" = true := T.plain_of _ plain_k48
@[grind =] theorem plainT_FULL : T.plain "FULL" = true := T.plain_of _ plain_k49
@[grind =] theorem plainT_ON : T.plain "ON" = true := T.plain_of _ plain_k50
@[grind =] theorem plainT_CASE : T.plain "CASE" = true := T.plain_of _ plain_k51
@[grind =] theorem plainT_k52 : T.plain "*" = true := T.plain_of _ plain_k52
@[grind =] theorem plainT_CAST : T.plain "CAST" = true := T.plain_of _ plain_k53
@[grind =] theorem plainT_EXTRACT : T.plain "EXTRACT" = true := T.plain_of _ plain_k54
@[grind =] theorem plainT_IF : T.plain "IF" = true := T.plain_of _ plain_k55
@[grind =] theorem plainT_WHEN : T.plain "WHEN" = true := T.plain_of _ plain_k56
@[grind =] theorem plainT_ELSE : T.plain "ELSE" = true := T.plain_of _ plain_k57
@[grind =] theorem plainT_END : T.plain "END" = true := T.plain_of _ plain_k58
@[grind =] theorem plainT_THEN : T.plain "THEN" = true := T.plain_of _ plain_k59
@[grind =] theorem plainT_EXISTS : T.plain "EXISTS" = true := T.plain_of _ plain_k60
@[grind =] theorem plainT_k61 : T.plain "&&" = true := T.plain_of _ plain_k61
@[grind =] theorem plainT_XOR : T.plain "XOR" = true := T.plain_of _ plain_k62
@[grind =] theorem plainT_OR : T.plain "OR" = true := T.plain_of _ plain_k63
@[grind =] theorem plainT_k64 : T.plain "||" = true := T.plain_of _ plain_k64
@[grind =] theorem plainT_PARTITION : T.plain "PARTITION" = true := T.plain_of _ plain_k65
@[grind =] theorem plainT_BY : T.plain "BY" = true := T.plain_of _ plain_k66
@[grind =] theorem plainT_ORDER : T.plain "ORDER" = true := T.plain_of _ plain_k67
@[grind =] theorem plainT_GROUPING : T.plain "GROUPING" = true := T.plain_of _ plain_k69
@[grind =] theorem plainT_SETS : T.plain "SETS" = true := T.plain_of _ plain_k70
@[grind =] theorem plainT_GROUP : T.plain "GROUP" = true := T.plain_of _ plain_k71
@[grind =] theorem plainT_CUBE : T.plain "CUBE" = true := T.plain_of _ plain_k72
@[grind =] theorem plainT_ROLLUP : T.plain "ROLLUP" = true := T.plain_of _ plain_k73
@[grind =] theorem plainT_WHERE : T.plain "WHERE" = true := T.plain_of _ plain_k74
@[grind =] theorem plainT_HAVING : T.plain "HAVING" = true := T.plain_of _ plain_k75
@[grind =] theorem plainT_LATERAL : T.plain "LATERAL" = true := T.plain_of _ plain_k76
@[grind =] theorem plainT_VIEW : T.plain "VIEW" = true := T.plain_of _ plain_k77
@[grind =] theorem plainT_OUTER : T.plain "OUTER" = true := T.plain_of _ plain_k78
@[grind =] theorem plainT_INSERT : T.plain "INSERT" = true := T.plain_of _ plain_k79
@[grind =] theorem plainT_INTO : T.plain "INTO" = true := T.plain_of _ plain_k80
@[grind =] theorem plainT_INSERT_INTO : T.plain "INSERT_INTO" = true := T.plain_of _ plain_k81
@[grind =] theorem plainT_IGNORE : T.plain "IGNORE" = true := T.plain_of _ plain_k82
@[grind =] theorem plainT_INSERT_IGNORE_INTO : T.plain "INSERT_IGNORE_INTO" = true := T.plain_of _ plain_k83
@[grind =] theorem plainT_OVERWRITE : T.plain "OVERWRITE" = true := T.plain_of _ plain_k84
@[grind =] theorem plainT_INSERT_OVERWRITE : T.plain "INSERT_OVERWRITE" = true := T.plain_of _ plain_k85
@[grind =] theorem plainT_k86 : T.plain "-" = true := T.plain_of _ plain_k86
@[grind =] theorem plainT_k87 : T.plain "=" = true := T.plain_of _ plain_k87
@[grind =] theorem plainT_NO : T.plain "NO" = true := T.plain_of _ plain_k88
@[grind =] theorem plainT_ACTION : T.plain "ACTION" = true := T.plain_of _ plain_k89
@[grind =] theorem plainT_k90 : T.plain "NO ACTION" = true := T.plain_of _ plain_k90
@[grind =] theorem plainT_SET : T.plain "SET" = true := T.plain_of _ plain_k91
@[grind =] theorem plainT_NULL : T.plain "NULL" = true := T.plain_of _ plain_k92
@[grind =] theorem plainT_k93 : T.plain "SET NULL" = true := T.plain_of _ plain_k93
@[grind =] theorem plainT_CASCADE : T.plain "CASCADE" = true := T.plain_of _ plain_k94
@[grind =] theorem plainT_RESTRICT : T.plain "RESTRICT" = true := T.plain_of _ plain_k95
@[grind =] theorem plainT_CONSTRAINT : T.plain "CONSTRAINT" = true := T.plain_of _ plain_k96
@[grind =] theorem plainT_FOREIGN : T.plain "FOREIGN" = true := T.plain_of _ plain_k97
@[grind =] theorem plainT_KEY : T.plain "KEY" = true := T.plain_of _ plain_k98
@[grind =] theorem plainT_REFERENCES : T.plain "REFERENCES" = true := T.plain_of _ plain_k99
@[grind =] theorem plainT_DELETE : T.plain "DELETE" = true := T.plain_of _ plain_k100
@[grind =] theorem plainT_UPDATE : T.plain "UPDATE" = true := T.plain_of _ plain_k101
@[grind =] theorem plainT_COMMENT : T.plain "COMMENT" = true := T.plain_of _ plain_k102
@[grind =] theorem plainT_KEY_BLOCK_SIZE : T.plain "KEY_BLOCK_SIZE" = true := T.plain_of _ plain_k103
@[grind =] theorem plainT_PRIMARY : T.plain "PRIMARY" = true := T.plain_of _ plain_k104
@[grind =] theorem plainT_UNIQUE : T.plain "UNIQUE" = true := T.plain_of _ plain_k105
@[grind =] theorem plainT_FULLTEXT : T.plain "FULLTEXT" = true := T.plain_of _ plain_k106
@[grind =] theorem plainT_GENERATED : T.plain "GENERATED" = true := T.plain_of _ plain_k107
@[grind =] theorem plainT_ALWAYS : T.plain "ALWAYS" = true := T.plain_of _ plain_k108
@[grind =] theorem plainT_k109 : T.plain ";" = true := T.plain_of _ plain_k109
@[grind =] theorem plainT_CHARACTER : T.plain "CHARACTER" = true := T.plain_of _ plain_k110
@[grind =] theorem plainT_COLLATE : T.plain "COLLATE" = true := T.plain_of _ plain_k111
@[grind =] theorem plainT_DEFAULT : T.plain "DEFAULT" = true := T.plain_of _ plain_k112
@[grind =] theorem plainT_AUTO_INCREMENT : T.plain "AUTO_INCREMENT" = true := T.plain_of _ plain_k113
@[grind =] theorem plainT_UNSIGNED : T.plain "UNSIGNED" = true := T.plain_of _ plain_k114
@[grind =] theorem plainT_ZEROFILL : T.plain "ZEROFILL" = true := T.plain_of _ plain_k115
@[grind =] theorem plainT_TABLE : T.plain "TABLE" = true := T.plain_of _ plain_k116
@[grind =] theorem plainT_VALUES : T.plain "VALUES" = true := T.plain_of _ plain_k117
@[grind =] theorem plainT_ENGINE : T.plain "ENGINE" = true := T.plain_of _ plain_k118
@[grind =] theorem plainT_CHARSET : T.plain "CHARSET" = true := T.plain_of _ plain_k119
@[grind =] theorem plainT_ROW_FORMAT : T.plain "ROW_FORMAT" = true := T.plain_of _ plain_k120
@[grind =] theorem plainT_STATS_PERSISTENT : T.plain "STATS_PERSISTENT" = true := T.plain_of _ plain_k121
@[grind =] theorem plainT_PARTITIONED : T.plain "PARTITIONED" = true := T.plain_of _ plain_k122
@[grind =] theorem plainT_FORMAT : T.plain "FORMAT" = true := T.plain_of _ plain_k123
@[grind =] theorem plainT_SERDE : T.plain "SERDE" = true := T.plain_of _ plain_k124
@[grind =] theorem plainT_DELIMITED : T.plain "DELIMITED" = true := T.plain_of _ plain_k125
@[grind =] theorem plainT_FIELDS : T.plain "FIELDS" = true := T.plain_of _ plain_k126
@[grind =] theorem plainT_TERMINATED : T.plain "TERMINATED" = true := T.plain_of _ plain_k127
@[grind =] theorem plainT_STORED : T.plain "STORED" = true := T.plain_of _ plain_k128
@[grind =] theorem plainT_INPUTFORMAT : T.plain "INPUTFORMAT" = true := T.plain_of _ plain_k129
@[grind =] theorem plainT_TEXTFILE : T.plain "TEXTFILE" = true := T.plain_of _ plain_k130
@[grind =] theorem plainT_OUTPUTFORMAT : T.plain "OUTPUTFORMAT" = true := T.plain_of _ plain_k131
@[grind =] theorem plainT_LOCATION : T.plain "LOCATION" = true := T.plain_of _ plain_k132
@[grind =] theorem plainT_TBLPROPERTIES : T.plain "TBLPROPERTIES" = true := T.plain_of _ plain_k133
@[grind =] theorem plainT_CREATE : T.plain "CREATE" = true := T.plain_of _ plain_k134
@[grind =] theorem plainT_DROP : T.plain "DROP" = true := T.plain_of _ plain_k135
@[grind =] theorem plainT_ANALYZE : T.plain "ANALYZE" = true := T.plain_of _ plain_k136
@[grind =] theorem plainT_COMPUTE : T.plain "COMPUTE" = true := T.plain_of _ plain_k137
@[grind =] theorem plainT_STATISTICS : T.plain "STATISTICS" = true := T.plain_of _ plain_k138
@[grind =] theorem plainT_COLUMNS : T.plain "COLUMNS" = true := T.plain_of _ plain_k139
@[grind =] theorem plainT_CACHE : T.plain "CACHE" = true := T.plain_of _ plain_k140
@[grind =] theorem plainT_METADATA : T.plain "METADATA" = true := T.plain_of _ plain_k141
@[grind =] theorem plainT_NOSCAN : T.plain "NOSCAN" = true := T.plain_of _ plain_k142
@[grind =] theorem plainT_ADD : T.plain "ADD" = true := T.plain_of _ plain_k143
@[grind =] theorem plainT_MODIFY : T.plain "MODIFY" = true := T.plain_of _ plain_k144
@[grind =] theorem plainT_CHANGE : T.plain "CHANGE" = true := T.plain_of _ plain_k145
@[grind =] theorem plainT_RENAME : T.plain "RENAME" = true := T.plain_of _ plain_k146
@[grind =] theorem plainT_COLUMN : T.plain "COLUMN" = true := T.plain_of _ plain_k147
@[grind =] theorem plainT_TO : T.plain "TO" = true := T.plain_of _ plain_k148
@[grind =] theorem plainT_ALTER : T.plain "ALTER" = true := T.plain_of _ plain_k149
@[grind =] theorem plainT_MSCK : T.plain "MSCK" = true := T.plain_of _ plain_k150
@[grind =] theorem plainT_REPAIR : T.plain "REPAIR" = true := T.plain_of _ plain_k151
@[grind =] theorem plainT_TRUNCATE : T.plain "TRUNCATE" = true := T.plain_of _ plain_k152
@[grind =] theorem plainT_USE : T.plain "USE" = true := T.plain_of _ plain_k153
@[grind =] theorem plainT_SHOW : T.plain "SHOW" = true := T.plain_of _ plain_k154
@[grind =] theorem plainT_DATABASES : T.plain "DATABASES" = true := T.plain_of _ plain_k155
@[grind =] theorem plainT_TABLES : T.plain "TABLES" = true := T.plain_of _ plain_k156
@[grind =] theorem plainT_l0 : ["SELECT", "WITH"].all T.plain = true := all_plain plain_l0
@[grind =] theorem plainT_l1 : ["NOT", "BETWEEN", "IS", "IN", "LIKE", "RLIKE", "REGEXP"].all T.plain = true := all_plain plain_l1
@[grind =] theorem plainT_l2 : ["CROSS", "USING", "SORT", "DISTRIBUTE", "CLUSTER"].all T.plain = true := all_plain plain_l2
@[grind =] theorem plainT_l3 : ["ROWS", "BETWEEN"].all T.plain = true := all_plain plain_l3
@[grind =] theorem plainT_l4 : ["AND"].all T.plain = true := all_plain plain_l4
@[grind =] theorem plainT_l5 : ["UNION", "EXCEPT", "INTERSECT", "MINUS"].all T.plain = true := all_plain plain_l5
@[grind =] theorem plainT_l6 : ["JOIN", "INNER", "LEFT", "RIGHT", "FULL", "CROSS"].all T.plain = true := all_plain plain_l6
@[grind =] theorem plainT_l7 : ["ON", "USING"].all T.plain = true := all_plain plain_l7
@[grind =] theorem plainT_l8 : ["AS"].all T.plain = true := all_plain plain_l8
@[grind =] theorem plainT_l9 : ["FROM"].all T.plain = true := all_plain plain_l9
@[grind =] theorem plainT_l10 : ["OVER"].all T.plain = true := all_plain plain_l10
@[grind =] theorem plainT_l11 : ["GROUPING", "SETS"].all T.plain = true := all_plain plain_l11
@[grind =] theorem plainT_l12 : ["SELECT"].all T.plain = true := all_plain plain_l12
@[grind =] theorem plainT_l13 : ["LATERAL", "VIEW"].all T.plain = true := all_plain plain_l13
@[grind =] theorem plainT_l14 : ["FOREIGN", "KEY"].all T.plain = true := all_plain plain_l14
@[grind =] theorem plainT_l15 : ["PRIMARY", "KEY"].all T.plain = true := all_plain plain_l15
@[grind =] theorem plainT_l16 : ["UNIQUE", "KEY"].all T.plain = true := all_plain plain_l16
@[grind =] theorem plainT_l17 : ["KEY"].all T.plain = true := all_plain plain_l17
@[grind =] theorem plainT_l18 : ["FULLTEXT", "KEY"].all T.plain = true := all_plain plain_l18
@[grind =] theorem plainT_l19 : ["ROW", "FORMAT", "DELIMITED", "FIELDS", "TERMINATED", "BY"].all T.plain = true := all_plain plain_l19
@[grind =] theorem plainT_l20 : ["CREATE", "TABLE"].all T.plain = true := all_plain plain_l20
@[grind =] theorem plainT_l21 : ["DROP", "TABLE"].all T.plain = true := all_plain plain_l21
@[grind =] theorem plainT_l22 : ["ANALYZE", "TABLE"].all T.plain = true := all_plain plain_l22
@[grind =] theorem plainT_l23 : ["ADD", "IF", "NOT", "EXISTS", "PARTITION"].all T.plain = true := all_plain plain_l23
@[grind =] theorem plainT_l24 : ["DROP", "IF", "EXISTS", "PARTITION"].all T.plain = true := all_plain plain_l24
@[grind =] theorem plainT_l25 : ["ALTER", "TABLE"].all T.plain = true := all_plain plain_l25
@[grind =] theorem plainT_l26 : ["MSCK", "REPAIR", "TABLE"].all T.plain = true := all_plain plain_l26
@[grind =] theorem plainT_l27 : ["TRUNCATE", "TABLE"].all T.plain = true := all_plain plain_l27
@[grind =] theorem plainT_l28 : ["DELETE", "FROM"].all T.plain = true := all_plain plain_l28
@[grind =] theorem plainT_l29 : ["SHOW", "COLUMNS"].all T.plain = true := all_plain plain_l29

attribute [local grind] mapE mapO mapTR mapFT mapJR mapLat mapW

theorem pop_rel : ∀ x0 y0, GEL T.E x0 y0 → GER T.E T.E (pop x0) (pop y0) := by
  intro ts ts' h_ts
  unfold pop
  obtain ⟨rfl, rfl⟩ | ⟨t, r, t', r', rfl, rfl, h_t, h_r⟩ := GEL.shape h_ts
  · dsimp only; exact ger_err
  dsimp only
  exact ger_ok h_t h_r

theorem popSrc_rel : ∀ x0 y0, GEL T.E x0 y0 → GER T.E (geq T.m) (popSrc x0) (popSrc y0) :=
  fun x0 y0 h => (popSrc_srcRel x0 y0 h).mono fun _ _ hs => hs.m

theorem popInt_rel : ∀ x0 y0, GEL T.E x0 y0 → GER T.E Eq (popInt x0) (popInt y0) := by
  intro ts ts' h_ts
  unfold popInt
  obtain ⟨rfl, rfl⟩ | ⟨t, r, t', r', rfl, rfl, h_t, h_r⟩ := GEL.shape h_ts
  · exact ger_err
  dsimp only
  rw [← T.pyInt h_t]
  rcases pyInt t.src with e | n
  · cases e <;> first | exact ger_err | (rename_i p; cases p <;> exact ger_err)
  exact ger_ok rfl h_r

theorem popAsInt_rel : ∀ x0 y0, GEL T.E x0 y0 → GER T.E Eq (popAsInt x0) (popAsInt y0) := by
  intro ts ts' h_ts
  unfold popAsInt
  obtain ⟨rfl, rfl⟩ | ⟨t, r, t', r', rfl, rfl, h_t, h_r⟩ := GEL.shape h_ts
  · dsimp only; exact ger_err
  dsimp only
  rw [← T.asInt h_t]
  generalize asInt t.src = o1
  rcases o1 with e | n
  · exact ger_err
  exact ger_ok rfl h_r

theorem headChildren_rel : ∀ x0 y0, GEL T.E x0 y0 → GEX (GEL T.E) (headChildren x0) (headChildren y0) := by
  intro ts ts' h_ts
  unfold headChildren
  obtain ⟨rfl, rfl⟩ | ⟨t, r1, t', r1', rfl, rfl, h_t, h_r1⟩ := GEL.shape h_ts
  · dsimp only; exact gex_err
  dsimp only
  exact gex_ok (by grind -funext)

theorem getAliasName_rel : ∀ x0 y0, GEL T.E x0 y0 → GER T.E (geq T.m) (getAliasName x0) (getAliasName y0) := by
  intro ts ts' h_ts
  unfold getAliasName
  obtain ⟨rfl, rfl⟩ | ⟨t, r, t', r', rfl, rfl, h_t, h_r⟩ := GEL.shape h_ts
  · dsimp only; exact ger_err
  dsimp only
  refine ger_if (T.has h_t NAME) ?_ ?_
  · exact ger_ok (by grind -funext) h_r
  exact ger_err

theorem multiAliasLoop_rel : ∀ x0 x1 x2 y0 y1 y2, x0 = y0 → geq (List.map T.m) x1 y1 → GEL T.E x2 y2 → GER T.E (geq (List.map T.m)) (multiAliasLoop x0 x1 x2) (multiAliasLoop y0 y1 y2) := by
  intro x0
  induction x0 with
  | zero => intro acc ts y0 acc' ts' e_f h_acc h_ts; subst e_f; simp [multiAliasLoop]
  | succ f ih =>
    intro acc ts y0 acc' ts' e_f h_acc h_ts
    subst e_f
    unfold multiAliasLoop
    refine ger_if (gel_searchStr h_ts "," (by decide)) ?_ ?_
    · rel_bind getAliasName_rel (ts.drop 1) (ts'.drop 1) (gel_drop h_ts 1) with n r n' r' h_n h_r
      exact ih (acc ++ [n]) r f (acc' ++ [n']) r' rfl (by grind) h_r
    exact ger_ok h_acc h_ts

theorem pMultiAlias_rel : ∀ x0 y0, GEL T.E x0 y0 → GER T.E (geq (List.map T.m)) (pMultiAlias x0) (pMultiAlias y0) := by
  intro ts ts' h_ts
  unfold pMultiAlias
  rel_bind matchKw_rel h_ts "AS" plainT_AS with v1 r v1' r' h_v1 h_r
  rel_bind getAliasName_rel r r' h_r with n r1 n' r1' h_n h_r1
  exact multiAliasLoop_rel (r1.length + 1) [n] r1 (r1'.length + 1) [n'] r1' (congrArg (· + 1) (gel_length h_r1)) (by grind) h_r1

theorem pFuncName_rel : ∀ x0 y0, GEL T.E x0 y0 → GER T.E T.fnRel (pFuncName x0) (pFuncName y0) := by
  intro ts ts' h_ts
  unfold pFuncName
  obtain ⟨rfl, rfl⟩ | ⟨a, r, a', r', rfl, rfl, h_a, h_r⟩ := GEL.shape h_ts
  · exact ger_err
  obtain ⟨rfl, rfl⟩ | ⟨b, r, b', r', rfl, rfl, h_b, h_r⟩ := GEL.shape h_r
  · -- one NAME token (split at its dot)
    refine ger_ite (T.has h_a NAME) (fun hn _ => ?_) fun _ _ => ger_err
    rel_bindx T.splitName h_a hn with x x' h_x
    exact ger_ok h_x (by simp only [gel_nil_nil])
  obtain ⟨rfl, rfl⟩ | ⟨c, r, c', r', rfl, rfl, h_c, h_r⟩ := GEL.shape h_r
  · refine ger_ite (T.has h_a NAME) (fun hn _ => ?_) fun _ _ => ger_err
    rel_bindx T.splitName h_a hn with x x' h_x
    exact ger_ok h_x (by simp only [gel_cons_cons, gel_nil_nil]; exact ⟨h_b, trivial⟩)
  dsimp only
  refine ger_ite (congr (congrArg and (congr (congrArg and (T.has h_a NAME)) (T.equalsStr h_b "." plainT_k19))) (T.has h_c NAME)) (fun hn _ => ?_) fun _ _ => ?_
  · -- NAME . NAME
    simp only [Bool.and_eq_true] at hn
    exact ger_ok (T.fn_names h_a hn.1.1 h_c hn.2) h_r
  refine ger_ite (T.has h_a NAME) (fun hn _ => ?_) fun _ _ => ger_err
  rel_bindx T.splitName h_a hn with x x' h_x
  exact ger_ok h_x (by simp only [gel_cons_cons]; exact ⟨h_b, h_c, h_r⟩)

theorem pAlias_rel : ∀ x0 y0, GEL T.E x0 y0 → GER T.E (geq (Option.map T.m)) (pAlias x0) (pAlias y0) := by
  intro ts ts' h_ts
  unfold pAlias
  refine ger_if (gel_searchStrUp h_ts "AS" plainT_AS) ?_ ?_
  · obtain ⟨hx, hy⟩ | ⟨t, r, t', r', hx, hy, h_t, h_r⟩ := GEL.shape (gel_drop h_ts 1)
    · simp only [hx, hy]; exact ger_err
    simp only [hx, hy]; clear hx hy
    refine ger_if (T.has h_t NAME) ?_ ?_
    · exact ger_ok (by grind -funext) h_r
    exact ger_err
  obtain ⟨rfl, rfl⟩ | ⟨t, r, t', r', rfl, rfl, h_t, h_r⟩ := GEL.shape h_ts
  · dsimp only; exact ger_ok rfl h_ts
  dsimp only
  refine ger_if (congr (congrArg and (T.has h_t NAME)) (congrArg not (T.containsUp h_t ["CROSS", "USING", "SORT", "DISTRIBUTE", "CLUSTER"] plainT_l2))) ?_ ?_
  · exact ger_ok (by grind -funext) h_r
  exact ger_ok rfl h_ts

theorem pTableName_rel : ∀ x0 y0, GEL T.E x0 y0 → GER T.E (geq (mapTR T.m)) (pTableName x0) (pTableName y0) := by
  intro ts ts' h_ts
  unfold pTableName
  obtain ⟨rfl, rfl⟩ | ⟨n0, r0, n0', r0', rfl, rfl, h_n0, h_r0⟩ := GEL.shape h_ts
  · exact ger_err
  dsimp only
  refine ger_ite (by rw [T.has h_n0 NAME]) (fun _ _ => ger_err) fun hn _ => ?_
  refine ger_ite (gel_searchStr h_r0 "." (by decide)) (fun _ _ => ?_) fun _ _ => ?_
  · obtain ⟨hx, hy⟩ | ⟨n2, r2, n2', r2', hx, hy, h_n2, h_r2⟩ := GEL.shape (gel_drop h_r0 1)
    · simp only [hx, hy]; exact ger_err
    simp only [hx, hy]; clear hx hy
    exact ger_ok (by simp [mapTR, T.unify h_n0, T.unify h_n2]) h_r2
  -- one NAME token, split at its dot
  rel_bindx T.splitName h_n0 (by simpa using hn) with x x' h_x
  obtain ⟨sch, t⟩ := x; obtain ⟨sch', t'⟩ := x'
  exact ger_ok (by simp [mapTR, (T.fn_m h_x).1, (T.fn_m h_x).2]) h_r0

theorem pRowItem_rel : ∀ x0 y0, GEL T.E x0 y0 → GER T.E Eq (pRowItem x0) (pRowItem y0) := by
  intro ts ts' h_ts
  unfold pRowItem
  refine ger_if (gel_searchTwoUp h_ts "CURRENT" "ROW" plainT_CURRENT plainT_ROW) ?_ ?_
  · exact ger_ok rfl (gel_drop h_ts 2)
  refine ger_if (gel_searchStrUp h_ts "UNBOUNDED" plainT_UNBOUNDED) ?_ ?_
  · refine ger_if (gel_searchStrUp (gel_drop h_ts 1) "PRECEDING" plainT_PRECEDING) ?_ ?_
    · exact ger_ok rfl (gel_drop h_ts 2)
    refine ger_if (gel_searchStrUp (gel_drop h_ts 1) "FOLLOWING" plainT_FOLLOWING) ?_ ?_
    · exact ger_ok rfl (gel_drop h_ts 2)
    exact ger_err
  rel_bind popInt_rel ts ts' h_ts with n r n' r' h_n h_r
  subst h_n
  refine ger_if (gel_searchStrUp h_r "PRECEDING" plainT_PRECEDING) ?_ ?_
  · exact ger_ok rfl (gel_drop h_r 1)
  refine ger_if (gel_searchStrUp h_r "FOLLOWING" plainT_FOLLOWING) ?_ ?_
  · exact ger_ok rfl (gel_drop h_r 1)
  exact ger_err

theorem pWindowRow_rel : ∀ x0 y0, GEL T.E x0 y0 → GER T.E Eq (pWindowRow x0) (pWindowRow y0) := by
  intro ts ts' h_ts
  unfold pWindowRow
  rel_bind matchSeq_rel h_ts ["ROWS", "BETWEEN"] plainT_l3 with v1 r v1' r' h_v1 h_r
  rel_bind pRowItem_rel r r' h_r with a r1 a' r1' h_a h_r1
  subst h_a
  rel_bind matchSeq_rel h_r1 ["AND"] plainT_l4 with v2 r2 v2' r2' h_v2 h_r2
  rel_bind pRowItem_rel r2 r2' h_r2 with b r3 b' r3' h_b h_r3
  subst h_b
  exact ger_ok rfl h_r3

theorem orderTail_rel : ∀ x0 x1 y0 y1, geq (mapE T.m) x0 y0 → GEL T.E x1 y1 → GER T.E (geq (mapO T.m)) (orderTail x0 x1) (orderTail y0 y1) := by
  intro e ts e' ts' h_e h_ts
  unfold orderTail
  dsimp only
  -- DESC / ASC: the same flag, related rests
  have h_d : (if searchStrUp ts "DESC" then (true, ts.drop 1) else if searchStrUp ts "ASC" then (false, ts.drop 1) else (false, ts)).1 =
        (if searchStrUp ts' "DESC" then (true, ts'.drop 1) else if searchStrUp ts' "ASC" then (false, ts'.drop 1) else (false, ts')).1 ∧
      GEL T.E (if searchStrUp ts "DESC" then (true, ts.drop 1) else if searchStrUp ts "ASC" then (false, ts.drop 1) else (false, ts)).2
        (if searchStrUp ts' "DESC" then (true, ts'.drop 1) else if searchStrUp ts' "ASC" then (false, ts'.drop 1) else (false, ts')).2 := by
    rw [← gel_searchStrUp h_ts "DESC" plainT_DESC, ← gel_searchStrUp h_ts "ASC" plainT_ASC]
    split
    · exact ⟨rfl, gel_drop h_ts 1⟩
    · split
      · exact ⟨rfl, gel_drop h_ts 1⟩
      · exact ⟨rfl, h_ts⟩
  generalize (if searchStrUp ts "DESC" then (true, ts.drop 1) else if searchStrUp ts "ASC" then (false, ts.drop 1) else (false, ts)) = dd at h_d ⊢
  generalize (if searchStrUp ts' "DESC" then (true, ts'.drop 1) else if searchStrUp ts' "ASC" then (false, ts'.drop 1) else (false, ts')) = dd' at h_d ⊢
  have h_nf := gel_moveTwoUp h_d.2 "NULLS" "FIRST" plainT_NULLS plainT_FIRST
  have h_nl := gel_moveTwoUp h_nf.2 "NULLS" "LAST" plainT_NULLS plainT_LAST
  refine ger_ite (by rw [h_nf.1, h_nl.1]) (fun _ _ => ger_err) fun _ _ => ?_
  exact ger_ok (by grind) h_nl.2

theorem castParamsLoop_rel : ∀ x0 x1 x2 y0 y1 y2, x0 = y0 → x1 = y1 → GEL T.E x2 y2 → GEX Eq (castParamsLoop x0 x1 x2) (castParamsLoop y0 y1 y2) := by
  intro x0
  induction x0 with
  | zero => intro acc ts y0 acc' ts' e_f e_acc h_ts; subst e_f; simp [castParamsLoop]
  | succ f ih =>
    intro acc ts y0 acc' ts' e_f e_acc h_ts
    subst e_f e_acc
    unfold castParamsLoop
    refine gex_if (gel_searchStr h_ts "," (by decide)) ?_ ?_
    · rel_bind popInt_rel (ts.drop 1) (ts'.drop 1) (gel_drop h_ts 1) with n r n' r' h_n h_r
      subst h_n
      exact ih (acc ++ [n]) r f (acc ++ [n]) r' rfl rfl h_r
    refine gex_if (gel_isEmpty h_ts) ?_ ?_
    · exact gex_ok rfl
    exact gex_err

theorem castParams_rel : ∀ x0 y0, T.E x0 y0 → GEX Eq (castParams x0) (castParams y0) := by
  intro g g' h_g
  unfold castParams
  obtain ⟨hx, hy⟩ | ⟨t, r, t', r', hx, hy, h_t, h_r⟩ := GEL.shape (T.children h_g)
  · simp only [hx, hy]; exact gex_ok rfl
  simp only [hx, hy]
  have h_cs : GEL T.E (t :: r) (t' :: r') := by simp only [gel_cons_cons]; exact ⟨h_t, h_r⟩
  rel_bind popInt_rel _ _ h_cs with n r1 n' r1' h_n h_r1
  subst h_n
  exact castParamsLoop_rel _ _ _ _ _ _ (by simp [gel_length h_r]) rfl h_r1

theorem castTail_rel : ∀ x0 x1 y0 y1, geq (mapE T.m) x0 y0 → GEL T.E x1 y1 → GEX (geq (mapE T.m)) (castTail x0 x1) (castTail y0 y1) := by
  intro e ts e' ts' h_e h_ts
  unfold castTail
  have h_sg := gel_moveStrUp h_ts "SIGNED" plainT_SIGNED
  dsimp only
  obtain ⟨hx, hy⟩ | ⟨t, r, t', r', hx, hy, h_t, h_r⟩ := GEL.shape h_sg.2
  · simp only [hx, hy]; exact gex_err
  simp only [hx, hy]; clear hx hy
  -- the member of the enumeration whose word the token is
  rw [← g_castTypes h_t]
  generalize Gen.castTypes.find? (fun k => t.equalsStr k.2) = o
  rcases o with _ | ⟨ty, _⟩
  · exact gex_err
  dsimp only
  obtain ⟨rfl, rfl⟩ | ⟨g, r2, g', r2', rfl, rfl, h_g, h_r2⟩ := GEL.shape h_r
  · exact gex_ok (by grind)
  dsimp only
  refine gex_ite (T.has h_g PAREN) (fun _ _ => ?_) fun _ _ => gex_err
  rel_bindx castParams_rel g g' h_g with ps ps' h_ps
  subst h_ps
  refine gex_ite (gel_isEmpty h_r2) (fun _ _ => ?_) fun _ _ => gex_err
  exact gex_ok (by grind)

theorem pLimit_rel : ∀ x0 y0, GEL T.E x0 y0 → GER T.E Eq (pLimit x0) (pLimit y0) := by
  intro ts ts' h_ts
  unfold pLimit
  refine ger_if (congrArg not (gel_searchStrUp h_ts "LIMIT" plainT_LIMIT)) ?_ ?_
  · exact ger_ok rfl h_ts
  rel_bind popAsInt_rel (ts.drop 1) (ts'.drop 1) (gel_drop h_ts 1) with c1 r c1' r' h_c1 h_r
  subst h_c1
  refine ger_if (gel_searchStr h_r "," (by decide)) ?_ ?_
  · rel_bind popAsInt_rel (r.drop 1) (r'.drop 1) (gel_drop h_r 1) with c2 r2 c2' r2' h_c2 h_r2
    subst h_c2
    exact ger_ok rfl h_r2
  refine ger_if (gel_searchStrUp h_r "OFFSET" plainT_OFFSET) ?_ ?_
  · rel_bind popAsInt_rel (r.drop 1) (r'.drop 1) (gel_drop h_r 1) with c2 r2 c2' r2' h_c2 h_r2
    subst h_c2
    exact ger_ok rfl h_r2
  exact ger_ok rfl h_r

end PM.Rel
