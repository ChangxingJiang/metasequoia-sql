import MsqProofs.Lemmas.ParseCase3
import MsqProofs.Lemmas.ParseRel4
/-!
# C09, parser half: `upAll` for the DDL / DML structures and statements
Every string of the structure is mapped through `up`; flags and numbers are kept.
-/
open Lex Ast
namespace PM

def upTN : TableName → TableName | ⟨s, n⟩ => ⟨s.map up, up n⟩
def upCT : ColType → ColType | ⟨n, ps⟩ => ⟨up n, ps.map (List.map upE)⟩
def upGC : GenCol → GenCol | ⟨e, m⟩ => ⟨upE e, m.map up⟩
def upDC : DefCol → DefCol
  | ⟨n, ty, un, zf, cs, co, g, an, nn, ai, df, ou, cm⟩ => ⟨up n, upCT ty, un, zf, cs.map up, co.map up, g.map upGC, an, nn, ai, df.map upE, ou.map upE, cm.map up⟩
def upIC : IndexCol → IndexCol | ⟨n, l⟩ => ⟨up n, l⟩
def upIx : Index → Index | ⟨k, n, cs, um, cm, kb⟩ => ⟨k, n.map up, cs.map upIC, um.map up, cm.map up, kb⟩
def upFK : ForeignKey → ForeignKey | ⟨c, s, m, mc, od, ou⟩ => ⟨up c, s.map up, up m, mc.map up, od.map up, ou.map up⟩
def upCI : ColOrIdx → ColOrIdx
  | .col c => .col (upDC c) | .idx i => .idx (upIx i) | .fk f => .fk (upFK f)
def upAO : AlterOp → AlterOp
  | .addPartition b p => .addPartition b (p.map upE)
  | .add x => .add (upCI x)
  | .modify x => .modify (upCI x)
  | .change f t => .change (up f) (upCI t)
  | .renameColumn f t => .renameColumn (up f) (up t)
  | .dropColumn c => .dropColumn (up c)
  | .dropPartition b p => .dropPartition b (p.map upE)
def upCS : ConfigStr → ConfigStr | ⟨n, v⟩ => ⟨up n, up v⟩
def upCR : CreateTable → CreateTable
  | ⟨t, ine, cols, pk, uk, k, fk, fo, pb, cm, en, ai, dc, co, rf, sp, rs, rd, si, st, of, lo, tp⟩ =>
    ⟨upTN t, ine, cols.map upDC, pk.map upIx, uk.map upIx, k.map upIx, fk.map upIx, fo.map upFK, pb.map upDC, cm.map up, en.map up, ai, dc.map up, co.map up,
     rf.map up, sp.map up, rs.map up, rd.map up, si.map up, st, of.map up, lo.map up, tp.map upCS⟩
def upIH : InsertHead → InsertHead
  | ⟨w, ty, t, p, c⟩ => ⟨w.map (List.map upW), up ty, upTN t, p.map (List.map upE), c.map (List.map (Prod.map (Option.map up) up))⟩
def upLim : Option (Int × Option Int) → Option (Int × Option Int) := id
/-- `upAll` of a statement -/
def upSt0 : Stmt → Stmt
  | .select q => .select (upQ q)
  | .insertValues h vs => .insertValues (upIH h) (vs.map (List.map upE))
  | .insertSelect h q => .insertSelect (upIH h) (upQ q)
  | .update w t sets wh ob lm => .update (w.map (List.map upW)) (upTN t) (sets.map (Prod.map up upE)) (wh.map upE) (ob.map (List.map upO)) lm
  | .delete t wh ob lm => .delete (upTN t) (wh.map upE) (ob.map (List.map upO)) lm
  | .createTable c => .createTable (upCR c)
  | .createTableAs t ine q => .createTableAs (upTN t) ine (upQ q)
  | .dropTable b t => .dropTable b (upTN t)
  | .set c => .set (upCS c)
  | .analyze t p a b c => .analyze (upTN t) (p.map (List.map upE)) a b c
  | .alter t ops => .alter (upTN t) (ops.map upAO)
  | .msck t => .msck (upTN t)
  | .use s => .use (up s)
  | .truncate t => .truncate (upTN t)
  | .showDatabases => .showDatabases
  | .showTables => .showTables
  | .showColumns fr wh => .showColumns (fr.map upFT) (wh.map upE)

theorem upTN_map : upTN = Rel.mapTN up := by funext ⟨_, _⟩; rfl
theorem upCT_map : upCT = Rel.mapCT up := by funext ⟨_, _⟩; simp [upCT, Rel.mapCT, up_maps.E]
theorem upGC_map : upGC = Rel.mapGC up := by funext ⟨_, _⟩; simp [upGC, Rel.mapGC, up_maps.E]
theorem upDC_map : upDC = Rel.mapDC up := by funext x; cases x; simp [upDC, Rel.mapDC, up_maps.E, upCT_map, upGC_map]
theorem upIC_map : upIC = Rel.mapIC up := by funext ⟨_, _⟩; rfl
theorem upIx_map : upIx = Rel.mapIx up := by funext x; cases x; simp [upIx, Rel.mapIx, upIC_map]
theorem upFK_map : upFK = Rel.mapFK up := by funext x; cases x; rfl
theorem upCI_map : upCI = Rel.mapCI up := by funext x; cases x <;> simp [upCI, Rel.mapCI, upDC_map, upIx_map, upFK_map]
theorem upAO_map : upAO = Rel.mapAO up := by funext x; cases x <;> simp [upAO, Rel.mapAO, up_maps.E, upCI_map]
theorem upCS_map : upCS = Rel.mapCS up := by funext ⟨_, _⟩; rfl
theorem upCR_map : upCR = Rel.mapCR up up := by
  funext x; cases x; simp [upCR, Rel.mapCR, upTN_map, upDC_map, upIx_map, upFK_map, upCS_map]
theorem upIH_map : upIH = Rel.mapIH up := by funext x; cases x; simp [upIH, Rel.mapIH, up_maps.W, upTN_map, up_maps.E]
theorem upSt0_map : upSt0 = Rel.mapSt0 up up := by
  funext x
  cases x <;> simp [upSt0, Rel.mapSt0, up_maps.Q, upIH_map, up_maps.E, up_maps.W, upTN_map, up_maps.O, upCR_map, upCS_map, upAO_map, up_maps.FT]

theorem eachClosed_ce_eq {α : Type} (p p' : List Tok → R α) (hp : ∀ sg sg', CEL sg sg' → CER Eq (p sg) (p' sg')) :
    ∀ segs segs', CELL segs segs' → CEX Eq (eachClosed p segs) (eachClosed p' segs') := by
  simp only [cel_eq, cell_eq, cer_eq, cex_eq] at hp ⊢
  exact Rel.eachClosed_rel_eq (T := caseT) p p' hp

end PM
