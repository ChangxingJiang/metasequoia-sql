import MsqProofs.Lemmas.CacheEnc
/-! helper lemmas for C17: the directory map, path resolution of encoded names, the `.sql` suffix, a completed save -/
namespace Cache

theorem fget_fset_same (fs : Files) (f : Name) (t : Text) : fget (fset fs f t) f = some t := by
  induction fs with
  | nil => simp [fset, fget]
  | cons p r ih =>
    obtain ⟨g, u⟩ := p
    by_cases h : g = f
    · simp [fset, fget, h]
    · simp [fset, fget, h, ih]

theorem fget_fset_other (fs : Files) (f g : Name) (t : Text) (h : g ≠ f) : fget (fset fs f t) g = fget fs g := by
  induction fs with
  | nil => simp [fset, fget, Ne.symm h]
  | cons p r ih =>
    obtain ⟨k, u⟩ := p
    by_cases hk : k = f
    · subst hk
      simp [fset, fget, Ne.symm h]
    · by_cases hg : k = g
      · subst hg
        simp [fset, fget, hk]
      · simp [fset, fget, hk, hg, ih]

theorem fget_of_mem (fs : Files) (f : Name) (t : Text) (h : (f, t) ∈ fs) : ∃ t', fget fs f = some t' := by
  induction fs with
  | nil => simp at h
  | cons p r ih =>
    obtain ⟨g, u⟩ := p
    by_cases hg : g = f
    · exact ⟨u, by simp [fget, hg]⟩
    · have : (f, t) ∈ r := by
        rcases List.mem_cons.1 h with h1 | h1
        · exact absurd (by injection h1 with a b; exact a.symm) hg
        · exact h1
      obtain ⟨t', ht'⟩ := ih this
      exact ⟨t', by simp [fget, hg, ht']⟩

theorem mem_of_fget (fs : Files) (f : Name) (t : Text) (h : fget fs f = some t) : (f, t) ∈ fs := by
  induction fs with
  | nil => simp [fget] at h
  | cons p r ih =>
    obtain ⟨g, u⟩ := p
    by_cases hg : g = f
    · subst hg
      simp only [fget, ↓reduceIte] at h
      injection h with h
      subst h
      simp
    · simp only [fget, hg, ↓reduceIte] at h
      exact List.mem_cons_of_mem _ (ih h)

theorem splitSlash_ne_nil (p : List Char) : splitSlash p ≠ [] := by
  induction p with
  | nil => simp [splitSlash]
  | cons c r ih =>
    unfold splitSlash
    split
    · simp
    · split <;> simp

theorem splitSlash_noSlash (p : List Char) (h : ∀ c ∈ p, c ≠ '/') : splitSlash p = [p] := by
  induction p with
  | nil => simp [splitSlash]
  | cons c r ih =>
    have hc : c ≠ '/' := h c (by simp)
    have hr : splitSlash r = [r] := ih (fun d hd => h d (by simp [hd]))
    simp [splitSlash, hc, hr]

theorem not_contains {c : Char} {l : List Char} (h : (!l.contains c) = true) : ∀ d ∈ l, d ≠ c := by
  intro d hd hdc
  subst hdc
  have : l.contains d = true := by simpa using hd
  rw [this] at h
  simp at h

theorem resolveP_plain (files : Files) (p : Name) (hs : ∀ c ∈ p, c ≠ '/') (hz : ∀ c ∈ p, c ≠ '\x00') (hl : p.length ≥ 2) :
    resolveP files p = .inDir p := by
  have hnul : p.contains '\x00' = false := by
    cases hh : p.contains '\x00'
    · rfl
    · have : '\x00' ∈ p := by simpa using hh
      exact absurd rfl (hz _ this)
  have hhead : p.head? ≠ some '/' := by
    intro hh
    have : '/' ∈ p := List.mem_of_mem_head? (by simp [hh])
    exact absurd rfl (hs _ this)
  have hne : (p == [] || p == ['.']) = false := by
    have e1 : (p == []) = false := by
      cases hh : p with
      | nil => simp [hh] at hl
      | cons a b => rfl
    have e2 : (p == ['.']) = false := by
      apply Bool.eq_false_iff.2
      intro hh
      have : p = ['.'] := by simpa using hh
      rw [this] at hl
      simp at hl
    simp [e1, e2]
  have hf : List.filter (fun c => !(c == [] || c == ['.'])) [p] = [p] := by
    simp only [List.filter, hne, Bool.not_false]
  unfold resolveP
  simp only [hnul, Bool.false_eq_true, ↓reduceIte, splitSlash_noSlash _ hs]
  rw [if_neg hhead, hf]

theorem ext_chars : (∀ c ∈ ext, c ≠ '/') ∧ (∀ c ∈ ext, c ≠ '\x00') := by
  constructor <;> intro c h <;> simp [ext] at h <;> rcases h with h | h | h | h <;> subst h <;> decide

theorem tmpExt_chars : (∀ c ∈ tmpExt, c ≠ '/') ∧ (∀ c ∈ tmpExt, c ≠ '\x00') := by
  constructor <;> intro c h <;> simp [tmpExt] at h <;> rcases h with h | h | h | h <;> subst h <;> decide

/-- **every** table name resolves to the file `<enc name>.sql` directly in the cache directory -/
theorem resolve_enc (files : Files) (n : Name) : resolve files n = .inDir (enc n ++ ext) := by
  have hc := enc_chars n
  apply resolveP_plain
  · intro c hc'
    rcases List.mem_append.1 hc' with h | h
    · exact (hc c h).1
    · exact ext_chars.1 c h
  · intro c hc'
    rcases List.mem_append.1 hc' with h | h
    · exact (hc c h).2
    · exact ext_chars.2 c h
  · simp [ext]

/-- … and its temporary file to `<enc name>.sql.tmp`, in the same directory -/
theorem resolveTmp_enc (files : Files) (n : Name) : resolveTmp files n = .inDir (enc n ++ ext ++ tmpExt) := by
  have hc := enc_chars n
  apply resolveP_plain
  · intro c hc'
    rcases List.mem_append.1 hc' with h | h
    · rcases List.mem_append.1 h with h | h
      · exact (hc c h).1
      · exact ext_chars.1 c h
    · exact tmpExt_chars.1 c h
  · intro c hc'
    rcases List.mem_append.1 hc' with h | h
    · rcases List.mem_append.1 h with h | h
      · exact (hc c h).2
      · exact ext_chars.2 c h
    · exact tmpExt_chars.2 c h
  · simp [ext, tmpExt]

theorem stripSql_ext (m : Name) : stripSql (m ++ ext) = some m := by
  simp [stripSql, ext, List.reverse_append]

theorem stripSql_tmp (x : Name) : stripSql (x ++ tmpExt) = none := by
  simp [stripSql, tmpExt, List.reverse_append]

theorem stripSql_some (f m : Name) (h : stripSql f = some m) : f = m ++ ext := by
  unfold stripSql at h
  split at h
  · rename_i r hr
    injection h with h
    have : f = (f.reverse).reverse := by simp
    rw [this, hr, ← h]
    simp [ext]
  · cases h

theorem tmp_ne_final (n m : Name) : n ++ ext ++ tmpExt ≠ m ++ ext := by
  intro h
  have h1 := stripSql_tmp (n ++ ext)
  rw [h, stripSql_ext] at h1
  cases h1

theorem fget_fdel_same (fs : Files) (f : Name) : fget (fdel fs f) f = none := by
  induction fs with
  | nil => simp [fdel, fget]
  | cons p r ih =>
    obtain ⟨g, u⟩ := p
    by_cases h : g = f
    · simp [fdel, h, ih]
    · simp [fdel, fget, h, ih]

theorem fget_fdel_other (fs : Files) (f g : Name) (h : g ≠ f) : fget (fdel fs f) g = fget fs g := by
  induction fs with
  | nil => simp [fdel, fget]
  | cons p r ih =>
    obtain ⟨k, u⟩ := p
    by_cases hk : k = f
    · subst hk
      simp [fdel, fget, ih, Ne.symm h]
    · by_cases hg : k = g
      · subst hg
        simp [fdel, fget, hk]
      · simp [fdel, fget, hk, hg, ih]

/-- the directory after a completed `save_to_disk` of text `t` for table `n` -/
def saved (files : Files) (n : Name) (t : Text) : Files :=
  fset (fdel (fset (fset files (enc n ++ ext ++ tmpExt) []) (enc n ++ ext ++ tmpExt) t) (enc n ++ ext ++ tmpExt)) (enc n ++ ext) t

theorem fget_saved_final (files : Files) (n : Name) (t : Text) : fget (saved files n t) (enc n ++ ext) = some t := by
  unfold saved
  exact fget_fset_same _ _ _

theorem fget_saved_other (files : Files) (n : Name) (t : Text) (f : Name) (h1 : f ≠ enc n ++ ext) (h2 : f ≠ enc n ++ ext ++ tmpExt) :
    fget (saved files n t) f = fget files f := by
  unfold saved
  rw [fget_fset_other _ _ _ _ h1, fget_fdel_other _ _ _ h2, fget_fset_other _ _ _ _ h2, fget_fset_other _ _ _ _ h2]

theorem fget_saved_tmp (files : Files) (n : Name) (t : Text) : fget (saved files n t) (enc n ++ ext ++ tmpExt) = none := by
  unfold saved
  rw [fget_fset_other _ _ _ _ (tmp_ne_final (enc n) (enc n)), fget_fdel_same]

theorem append_ext_inj {n m : Name} (h : n ++ ext = m ++ ext) : n = m := List.append_cancel_right h

theorem file_inj {n m : Name} (h : enc n ++ ext = enc m ++ ext) : n = m := enc_injective (append_ext_inj h)

theorem fget_saved_of_ne (files : Files) (n m : Name) (t : Text) (h : m ≠ n) :
    fget (saved files n t) (enc m ++ ext) = fget files (enc m ++ ext) :=
  fget_saved_other _ _ _ _ (fun he => h (file_inj he)) (Ne.symm (tmp_ne_final (enc n) (enc m)))

theorem entryName_enc (n : Name) : entryName (enc n ++ ext) = some n := by
  simp [entryName, stripSql_ext, decStem_enc]

theorem entryName_some (f n : Name) (h : entryName f = some n) : f = enc n ++ ext := by
  unfold entryName at h
  cases hs : stripSql f with
  | none => rw [hs] at h; cases h
  | some s =>
    rw [hs] at h
    have := (decStem_iff s n).1 h
    rw [stripSql_some f s hs, this]

theorem entryName_tmp (x : Name) : entryName (x ++ tmpExt) = none := by
  simp [entryName, stripSql_tmp]

theorem mget_append {σ : Type} (mem : List (Name × σ)) (n m : Name) (st : σ) :
    mget (mem ++ [(n, st)]) m = match mget mem m with | some x => some x | none => if n = m then some st else none := by
  induction mem with
  | nil => simp [mget]
  | cons p r ih =>
    obtain ⟨k, u⟩ := p
    by_cases hk : k = m
    · simp [mget, hk]
    · simp [mget, hk, ih]

theorem mget_isSome_iff {σ : Type} (mem : List (Name × σ)) (n : Name) : (mget mem n).isSome = true ↔ n ∈ mem.map (·.1) := by
  induction mem with
  | nil => simp [mget]
  | cons p r ih =>
    obtain ⟨k, u⟩ := p
    by_cases hk : k = n
    · simp [mget, hk]
    · simp [mget, hk, ih, Ne.symm hk]

end Cache
