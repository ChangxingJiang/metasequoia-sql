import MsqProofs.Lemmas.LineageLevel
import MsqProofs.Lemmas.ExceptLemmas
/-!
# Lineage: wildcards in the select list (`*`, `x.*`) against the specification
-/
namespace LineageL
open Ast AN LN Spec Flow

/-- consecutive positions from `i` -/
def Seq : List SCol → Nat → Prop
  | [], _ => True
  | c :: r, i => c.idx = Int.ofNat i ∧ Seq r (i + 1)

theorem seq_append : ∀ (a b : List SCol) (i : Nat), Seq a i → Seq b (i + a.length) → Seq (a ++ b) i
  | [], b, i, _, hb => by simpa using hb
  | c :: a, b, i, ha, hb => ⟨ha.1, seq_append a b (i + 1) ha.2 (by simpa [Nat.add_assoc, Nat.add_comm 1] using hb)⟩

theorem zipIdx_names {α : Type} (g : String → Nat → α) : ∀ (cols : List SCol) (R : Rel) (idx : Nat), cols.map (·.name) = R.map (·.1) →
    (cols.zipIdx idx).map (fun (x : SCol × Nat) => g x.1.name x.2) = (R.zipIdx idx).map (fun (x : (String × List SrcCol) × Nat) => g x.1.1 x.2)
  | [], [], _, _ => rfl
  | [], _ :: _, _, h => by simp at h
  | _ :: _, [], _, h => by simp at h
  | c :: cs, p :: r, idx, h => by
    simp only [List.map_cons, List.cons.injEq] at h
    simp [List.zipIdx_cons, h.1, zipIdx_names g cs r (idx + 1) h.2]

theorem expandRel_length (k : String) (R : Rel) (i : Nat) : (expandRel k R i).length = R.length := by simp [expandRel]

theorem seq_expandRel (k : String) : ∀ (R : Rel) (i : Nat), Seq ((expandRel k R i).map (·.1)) i
  | [], _ => trivial
  | p :: r, i => by
    have := seq_expandRel k r (i + 1)
    simp only [expandRel, List.zipIdx_cons, List.map_cons] at this ⊢
    exact ⟨rfl, this⟩

/-- `x.*` for a table referred to by its own name: the analysis' expansion is the specification's -/
theorem expandTable_spec {cat : Cat} {st : St} (std : StdTable) (key : String) (R : Rel) (L : Lineage)
    (hl : lookup cat st.subq st.withT std = some L) (hd : Denotes L R) (hk : std.2 = key) (idx : Nat) (st1 : St) (hs : Same st st1) :
    ∃ st2, expandTable cat std idx st1 = .ok (expandRel key R idx, st2) ∧ Same st st2 := by
  have hg := getTableLineage_lookup cat std st1
  rw [hs.1, hs.2, hl] at hg
  obtain ⟨st2, hg1, hg2⟩ := hg
  obtain ⟨cols, e, hm⟩ := hd.std
  refine ⟨st2, ?_, hs.trans hg2⟩
  simp only [expandTable, hg1, e, bind, Except.bind, pure, Except.pure, expandRel, hk]
  have := zipIdx_names (fun n i => ((⟨Int.ofNat i, n⟩ : SCol), [(⟨some key, some n, none⟩ : QCol)])) cols R idx hm
  rw [this]

theorem expandTables_spec {cat : Cat} {st : St} : ∀ (tn : List (String × StdTable)) (scope : Scope), Resolves cat st tn scope →
    (∀ p ∈ tn, p.2.2 = p.1) → ∀ (idx : Nat) (st1 : St), Same st st1 →
    ∃ st2, expandTables cat (tn.map (·.2)) idx st1 = .ok (expandAll scope idx, st2) ∧ Same st st2
  | [], [], _, _, idx, st1, hs => ⟨st1, by simp [expandTables, expandAll], hs⟩
  | [], _ :: _, h, _, _, _, _ => nomatch h
  | _ :: _, [], h, _, _, _, _ => nomatch h
  | kt :: tn, kr :: scope, h, hp, idx, st1, hs => by
    cases h with
    | cons hd tl =>
      obtain ⟨hk, L, hl, hden⟩ := hd
      obtain ⟨st2, e2, s2⟩ := expandTable_spec kt.2 kr.1 kr.2 L hl hden (by rw [hp kt (by simp), hk]) idx st1 hs
      obtain ⟨st3, e3, s3⟩ := expandTables_spec tn scope tl (fun p hp' => hp p (by simp [hp'])) (idx + kr.2.length) st2 s2
      refine ⟨st3, ?_, s3⟩
      obtain ⟨k, R⟩ := kr
      simp only [List.map_cons, expandTables, e2, bind, Except.bind, expandRel_length, e3, pure, Except.pure, expandAll]

theorem expandAll_length : ∀ (scope : Scope) (i : Nat), (expandAll scope i).length = (scope.map (·.2.length)).sum
  | [], _ => rfl
  | (k, R) :: r, i => by simp [expandAll, expandRel_length, expandAll_length r]

theorem seq_expandAll : ∀ (scope : Scope) (i : Nat), Seq ((expandAll scope i).map (·.1)) i
  | [], _ => trivial
  | (k, R) :: r, i => by
    simp only [expandAll, List.map_append]
    exact seq_append _ _ i (seq_expandRel k R i) (by simpa [expandRel_length] using seq_expandAll r (i + R.length))

/-- a select item that is no bare wildcard is one named output column, or outside the specification -/
theorem curOfW_other (scope : Scope) {it : Expr × Option String} (h : ∀ t, it ≠ (.wildcard t, none)) (r : List (Expr × Option String))
    (idx : Nat) : curOfW scope (it :: r) idx = (match itemName it with
      | none => .error .outside
      | some n => curOfW scope r (idx + 1) >>= fun rest => pure ((⟨Int.ofNat idx, n⟩, colsE it.1) :: rest)) := by
  obtain ⟨e, a⟩ := it
  cases e with
  | wildcard t =>
    cases a with
    | none => exact absurd rfl (h t)
    | some a => cases t <;> rfl
  | _ => cases a <;> rfl

theorem currentLevelSingle_star {cat : Cat} {st : St} {tn : List (String × StdTable)} {scope : Scope} (hres : Resolves cat st tn scope)
    (hp : ∀ p ∈ tn, p.2.2 = p.1) :
    ∀ (its : List (Expr × Option String)) (idx : Nat) (st1 : St), Same st st1 →
      Agrees st (curOfW scope its idx) (currentLevelSingle cat tn its idx st1)
  | [], idx, st1, hs => .ok ⟨rfl, hs⟩
  | it :: r, idx, st1, hs => by
    by_cases hw : ∃ t, it = (.wildcard t, none)
    · obtain ⟨t, rfl⟩ := hw
      cases t with
      | some t =>
        rw [curOfW, currentLevelSingle]
        rcases resolves_get hres t with ⟨h1, h2⟩ | ⟨std, R, L, h1, h2, hl, hden⟩
        · simp only [h1, h2]; exact rfl
        · obtain ⟨st2, e2, s2⟩ := expandTable_spec std t R L hl hden (hp (t, std) (dictGet_mem tn t std h1)) idx st1 hs
          simp only [h1, h2]
          refine .of_ok e2 ?_
          simp only [expandRel_length]
          exact (currentLevelSingle_star hres hp r (idx + R.length) st2 s2).bind fun _ ⟨_, st3⟩ ⟨eb, s3⟩ => .ok ⟨by rw [← eb], s3⟩
      | none =>
        rw [curOfW, currentLevelSingle]
        obtain ⟨st2, e2, s2⟩ := expandTables_spec tn scope hres hp idx st1 hs
        refine .of_ok e2 ?_
        exact (currentLevelSingle_star hres hp r _ st2 s2).bind fun _ ⟨_, st3⟩ ⟨eb, s3⟩ => .ok ⟨by rw [← eb], s3⟩
    · rw [curOfW_other scope fun t e => hw ⟨t, e⟩]
      cases hn : itemName it with
      | none => trivial
      | some n =>
        rw [currentLevelSingle_cons_named cat tn hn]
        exact (currentLevelSingle_star hres hp r (idx + 1) st1 hs).bind fun _ ⟨_, st2⟩ ⟨eb, s2⟩ => .ok ⟨by rw [← eb], s2⟩

theorem seq_curOf : ∀ (its : List (Expr × Option String)) (i : Nat), Seq ((Flow.curOf its i).map (·.1)) i
  | [], _ => trivial
  | _ :: r, i => ⟨rfl, seq_curOf r (i + 1)⟩

theorem number_of_seq : ∀ (data : List (SCol × List SrcCol)) (i : Nat), Seq (data.map (·.1)) i →
    C16.number (data.map fun p => (p.1.name, p.2)) i = data
  | [], _, _ => rfl
  | (c, s) :: r, i, h => by
    obtain ⟨h1, h2⟩ := h
    simp only [List.map_cons, C16.number, number_of_seq r (i + 1) h2]
    congr 1
    cases c; simp_all

theorem curFlow_fst (scope : Scope) : ∀ (cur : List (SCol × List QCol)) (data : List (SCol × List SrcCol)),
    curFlow scope cur = .ok data → data.map (·.1) = cur.map (·.1)
  | [], data, h => by simp [curFlow] at h; subst h; rfl
  | (c, qs) :: r, data, h => by
    simp only [curFlow, bind, Except.bind] at h
    cases h1 : refs scope qs with
    | error e => simp [h1] at h
    | ok a =>
      simp only [h1] at h
      cases h2 : curFlow scope r with
      | error e => simp [h2] at h
      | ok b =>
        simp [h2, pure, Except.pure] at h
        subst h
        simp [curFlow_fst scope r b h2]


/-- the sources of consecutively numbered output columns: renumbering the specified flow gives the same columns back -/
theorem sourcesLoop_numbered {cat : Cat} {st : St} {tn : List (String × StdTable)} {scope : Scope} (hres : Resolves cat st tn scope)
    (cur : List (SCol × List QCol)) (hseq : Seq (cur.map (·.1)) 1) (st2 : St) (s2 : Same st st2) :
    Agrees st (Except.map (fun R => C16.number R 1) (curFlow scope cur >>= fun data => pure (data.map fun p => (p.1.name, p.2))))
      (sourcesLoop cat tn [] cur st2) := by
  have h2 := sourcesLoop_spec hres cur st2 s2
  cases hd : curFlow scope cur with
  | error e => rw [hd] at h2; cases e <;> exact h2
  | ok data =>
    rw [hd] at h2
    show Agrees st (.ok (C16.number (data.map fun p => (p.1.name, p.2)) 1)) _
    rw [number_of_seq data 1 (curFlow_fst scope cur data hd ▸ hseq)]; exact h2

theorem seq_curOfW (scope : Scope) : ∀ (its : List (Expr × Option String)) (i : Nat) (cur : List (SCol × List QCol)),
    curOfW scope its i = .ok cur → Seq (cur.map (·.1)) i
  | [], i, cur, h => by cases h; trivial
  | it :: r, i, cur, h => by
    by_cases hw : ∃ t, it = (.wildcard t, none)
    · obtain ⟨t, rfl⟩ := hw
      cases t with
      | some t =>
        rw [curOfW] at h
        cases h2 : dictGet? scope t with
        | none => simp [h2] at h
        | some R =>
          simp only [h2] at h
          obtain ⟨rest, hr, e⟩ := (PR.bind_eq_ok _ _ _).1 h
          cases e
          rw [List.map_append]
          exact seq_append _ _ i (seq_expandRel t R i) (by simpa [expandRel_length] using seq_curOfW scope r (i + R.length) rest hr)
      | none =>
        rw [curOfW] at h
        obtain ⟨rest, hr, e⟩ := (PR.bind_eq_ok _ _ _).1 h
        cases e
        rw [List.map_append]
        exact seq_append _ _ i (seq_expandAll scope i) (by simpa using seq_curOfW scope r _ rest hr)
    · rw [curOfW_other scope fun t e => hw ⟨t, e⟩] at h
      cases hn : itemName it with
      | none => simp [hn] at h
      | some n =>
        simp only [hn] at h
        obtain ⟨rest, hr, e⟩ := (PR.bind_eq_ok _ _ _).1 h
        cases e
        exact ⟨rfl, seq_curOfW scope r (i + 1) rest hr⟩

theorem level_star {cat : Cat} {st : St} {tn : List (String × StdTable)} {scope : Scope} (hres : Resolves cat st tn scope)
    (fts : List FromTable) (hpk : fts.all plainKey = true → ∀ p ∈ tn, p.2.2 = p.1)
    (its : List (Expr × Option String)) (st1 : St) (hs : Same st st1) :
    Agrees st ((starFlow fts scope its).map (fun R => C16.number R 1))
      (do let (cur, st2) ← currentLevelSingle cat tn its 1 st1; sourcesLoop cat tn [] cur st2) := by
  unfold starFlow
  by_cases hall : fts.all plainKey = true
  · simp only [hall, Bool.not_true, Bool.false_eq_true, if_false]
    cases hc : curOfW scope its 1 with
    | error e =>
      have h1 := currentLevelSingle_star hres (hpk hall) its 1 st1 hs
      rw [hc] at h1
      cases e with
      | analysis => rw [show currentLevelSingle cat tn its 1 st1 = .error .analyzer from h1]; exact rfl
      | outside => trivial
    | ok cur =>
      obtain ⟨⟨c, st2⟩, e2, hcur, s2⟩ := hc ▸ currentLevelSingle_star hres (hpk hall) its 1 st1 hs
      cases (hcur : c = cur)
      exact .of_ok e2 (sourcesLoop_numbered hres c (seq_curOfW scope its 1 c hc) st2 s2)
  · simp [hall, Except.map, agrees_def]

end LineageL
