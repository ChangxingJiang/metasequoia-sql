import MsqProofs.Lemmas.ParseAccountDdl3
/-! GENERATED by tools/gen_account_ddl.py (hand-written text around the option table: tools/hand/ParseAccountDdl4.head.lean.in / ParseAccountDdl4.tail.lean.in) — C08: the table-option loop of
CREATE TABLE (`createOpts`).

The loop OVERWRITES a repeated option (finding F-C08-4: `ENGINE = a ENGINE = b` loses `a`), and `PARTITIONED BY x` /
`TBLPROPERTIES x` take the children of the next token without testing that it is a bracket group (F-C08-6: the word `x` is
dropped and leaves no trace in the result).  Hypothesis on the CONSUMED RUN `used` (the option list as the parser delimits it):

  `OptOK c used` = `CntO`: each of the twelve option keywords that store text occurs at most once among the top-level tokens
                           (two-word options are counted by their distinguishing word: `CHARSET`, `SERDE`, `DELIMITED`, `INPUTFORMAT`);
                 ∧ `groupAt`: the token after `TBLPROPERTIES` and the second token after `PARTITIONED` is a bracket group;
                 ∧ `SegsOK`: every comma piece of every top-level bracket group satisfies `NoRep` (the column definitions of
                             `PARTITIONED BY ( … )`).

`CntO` is `Once` over the enumeration `OptKey` of the twelve options (`cntO_iff`); the loop is `attrLoop` over the one-option parser
`createOpt` (`createOpts_eq`), so the statement about the loop is `attrLoop_acc` (`ParseAccountDdl3.lean`) once `createOpt_step` says, option
by option, that `createOpt` makes a `Step`.
-/
set_option linter.unusedVariables false
set_option linter.unusedSimpArgs false
open Lex PM Ast

namespace PA
namespace Ddl

def CntO (c : CreateTable) (us : List Tok) : Prop :=
  cnt "ENGINE" us + b2n c.engine.isSome ≤ 1 ∧
  cnt "AUTO_INCREMENT" us + b2n c.autoIncrement.isSome ≤ 1 ∧
  cnt "CHARSET" us + b2n c.defaultCharset.isSome ≤ 1 ∧
  cnt "ROW_FORMAT" us + b2n c.rowFormat.isSome ≤ 1 ∧
  cnt "COLLATE" us + b2n c.collate.isSome ≤ 1 ∧
  cnt "COMMENT" us + b2n c.comment.isSome ≤ 1 ∧
  cnt "STATS_PERSISTENT" us + b2n c.statesPersistent.isSome ≤ 1 ∧
  cnt "SERDE" us + b2n c.rowFormatSerde.isSome ≤ 1 ∧
  cnt "DELIMITED" us + b2n c.rowFormatDelimited.isSome ≤ 1 ∧
  cnt "INPUTFORMAT" us + b2n c.storedAsInputformat.isSome ≤ 1 ∧
  cnt "OUTPUTFORMAT" us + b2n c.outputformat.isSome ≤ 1 ∧
  cnt "LOCATION" us + b2n c.location.isSome ≤ 1
def headG : List Tok → Bool | [] => true | g :: _ => Groupish g
/-- the token after `TBLPROPERTIES` / the second token after `PARTITIONED` is a bracket group -/
def groupAt : List Tok → Bool
  | [] => true
  | t :: r => (!(t.srcEqUp "TBLPROPERTIES") || headG r) && ((!(t.srcEqUp "PARTITIONED") || headG (r.drop 1)) && groupAt r)
def SegsOK (us : List Tok) : Prop := ∀ g ∈ us, ∀ sg ∈ splitBy "," g.children [] [], NoRep sg = true
def OptOK (c : CreateTable) (us : List Tok) : Prop := CntO c us ∧ groupAt us = true ∧ SegsOK us
/-- the token-level part of the hypothesis for a whole option list (empty accumulator) -/
def NoRepO (us : List Tok) : Bool :=
  decide (cnt "ENGINE" us ≤ 1) &&
  decide (cnt "AUTO_INCREMENT" us ≤ 1) &&
  decide (cnt "CHARSET" us ≤ 1) &&
  decide (cnt "ROW_FORMAT" us ≤ 1) &&
  decide (cnt "COLLATE" us ≤ 1) &&
  decide (cnt "COMMENT" us ≤ 1) &&
  decide (cnt "STATS_PERSISTENT" us ≤ 1) &&
  decide (cnt "SERDE" us ≤ 1) &&
  decide (cnt "DELIMITED" us ≤ 1) &&
  decide (cnt "INPUTFORMAT" us ≤ 1) &&
  decide (cnt "OUTPUTFORMAT" us ≤ 1) &&
  decide (cnt "LOCATION" us ≤ 1)

theorem groupAt_sfx {a b : List Tok} (h : groupAt (a ++ b) = true) : groupAt b = true := by
  induction a with
  | nil => simpa using h
  | cons t a ih => simp only [List.cons_append, groupAt, Bool.and_eq_true] at h; exact ih h.2.2
theorem segsOK_sfx {a b : List Tok} (h : SegsOK (a ++ b)) : SegsOK b := fun g hg => h g (by simp [hg])
theorem segsOK_pfx {a b : List Tok} (h : SegsOK (a ++ b)) : SegsOK a := fun g hg => h g (by simp [hg])

inductive OptKey
  | engine | autoIncrement | defaultCharset | rowFormat | collate | comment
  | statesPersistent | rowFormatSerde | rowFormatDelimited | storedAsInputformat | outputformat | location
  deriving DecidableEq
def OptKey.word : OptKey → String
  | .engine => "ENGINE" | .autoIncrement => "AUTO_INCREMENT" | .defaultCharset => "CHARSET" | .rowFormat => "ROW_FORMAT"
  | .collate => "COLLATE" | .comment => "COMMENT" | .statesPersistent => "STATS_PERSISTENT" | .rowFormatSerde => "SERDE"
  | .rowFormatDelimited => "DELIMITED" | .storedAsInputformat => "INPUTFORMAT" | .outputformat => "OUTPUTFORMAT" | .location => "LOCATION"
def OptKey.filled : OptKey → CreateTable → Bool
  | .engine, c => c.engine.isSome | .autoIncrement, c => c.autoIncrement.isSome | .defaultCharset, c => c.defaultCharset.isSome
  | .rowFormat, c => c.rowFormat.isSome | .collate, c => c.collate.isSome | .comment, c => c.comment.isSome
  | .statesPersistent, c => c.statesPersistent.isSome | .rowFormatSerde, c => c.rowFormatSerde.isSome | .rowFormatDelimited, c => c.rowFormatDelimited.isSome
  | .storedAsInputformat, c => c.storedAsInputformat.isSome | .outputformat, c => c.outputformat.isSome | .location, c => c.location.isSome
theorem cntO_iff (c : CreateTable) (us : List Tok) : CntO c us ↔ Once OptKey.word OptKey.filled c us :=
  ⟨fun ⟨h1, h2, h3, h4, h5, h6, h7, h8, h9, h10, h11, h12⟩ k => match k with
    | .engine => h1 | .autoIncrement => h2 | .defaultCharset => h3 | .rowFormat => h4 | .collate => h5 | .comment => h6
    | .statesPersistent => h7 | .rowFormatSerde => h8 | .rowFormatDelimited => h9 | .storedAsInputformat => h10 | .outputformat => h11 | .location => h12,
   fun h => ⟨h .engine, h .autoIncrement, h .defaultCharset, h .rowFormat, h .collate, h .comment,
     h .statesPersistent, h .rowFormatSerde, h .rowFormatDelimited, h .storedAsInputformat, h .outputformat, h .location⟩⟩
theorem cntO_mono {c : CreateTable} {a b : List Tok} (h : CntO c (a ++ b)) : CntO c b :=
  (cntO_iff _ _).2 ((cntO_iff _ _).1 h).mono
theorem optOK_mono {c : CreateTable} {a b : List Tok} (h : OptOK c (a ++ b)) : OptOK c b :=
  ⟨cntO_mono h.1, groupAt_sfx h.2.1, segsOK_sfx h.2.2⟩
theorem optOK_fill {c c2 : CreateTable} {kws u1 u2 : List Tok} (k : OptKey) (hk : ∃ t ∈ kws, t.srcEqUp k.word = true)
    (hc2 : ∀ j, j.filled c2 = (decide (j = k) || j.filled c)) (h : OptOK c (kws ++ (u1 ++ u2))) : k.filled c = false ∧ OptOK c2 u2 := by
  obtain ⟨h, hg, hsg⟩ := h
  obtain ⟨h1, h2⟩ := Once.fill (word := OptKey.word) (filled := OptKey.filled) k hk hc2 ((cntO_iff _ _).1 h)
  exact ⟨h1, (cntO_iff _ _).2 h2, groupAt_sfx (a := kws ++ u1) (by simpa using hg), segsOK_sfx (a := kws ++ u1) (by simpa using hsg)⟩

theorem equalsStr_srcEqUp {t : Tok} {k : String} (h : t.equalsStr k = true) (hk : up k = k) : t.srcEqUp k = true := by
  cases t with
  | single s m =>
    simp only [Tok.equalsStr, beq_iff_eq] at h
    have : Tok.src (.single s m) = String.ofList s := rfl
    simp [Tok.srcEqUp, this, h, hk]
  | group k cs m => simp [Tok.equalsStr] at h
theorem searchSeq_kws : ∀ (ks : List String) (ts : List Tok), searchSeq ts ks = true → allKw ks = true →
    ∃ kws, ts = kws ++ ts.drop ks.length ∧ (∀ t ∈ kws, KwTok t = true) ∧ (∀ k, k ∈ ks → up k = k → ∃ t ∈ kws, t.srcEqUp k = true) := by
  intro ks
  induction ks with
  | nil => intro ts _ _; exact ⟨[], by simp, by simp, by simp⟩
  | cons k ks ih =>
    intro ts h hk
    cases ts with
    | nil => simp [searchSeq] at h
    | cons t r =>
      simp only [searchSeq, Bool.and_eq_true] at h
      simp only [allKw, List.all_cons, Bool.and_eq_true] at hk
      obtain ⟨kws, e, hkw, hkey⟩ := ih r h.2 (by simpa [allKw] using hk.2)
      refine ⟨t :: kws, by simp; exact e, ?_, ?_⟩
      · intro x hx
        simp only [List.mem_cons] at hx
        rcases hx with rfl | hx
        · exact equalsStr_kw h.1 hk.1
        · exact hkw x hx
      · intro k' hk' hu
        simp only [List.mem_cons] at hk'
        rcases hk' with rfl | hk'
        · exact ⟨t, by simp, equalsStr_srcEqUp h.1 hu⟩
        · obtain ⟨x, hx, hxs⟩ := hkey k' hk' hu
          exact ⟨x, by simp [hx], hxs⟩

theorem moveStr_split (cur : List Tok) (k : String) (hk : kwOk k = true) :
    ∃ u0, cur = u0 ++ (moveStr cur k).2 ∧ ∀ t ∈ u0, KwTok t = true := by
  obtain ⟨u, e, hu⟩ := moveStr_kw cur k hk
  exact ⟨u, e, hu⟩
theorem optEqSrc_ok (T : List String) {cur : List Tok} {s : String} {r1 : List Tok} (h : optEqSrc cur = .ok (s, r1)) :
    ∃ u1, cur = u1 ++ r1 ∧ (s ∈ T → AccAll T u1) := by
  have hk := kwOk_eq
  unfold optEqSrc at h
  obtain ⟨u0, e0, h0⟩ := moveStr_split cur "=" hk
  obtain ⟨t, e1, rfl⟩ := popSrc_ok h
  refine ⟨u0 ++ [t], by rw [e0, e1]; simp, fun hs => ?_⟩
  rw [accAll_append]
  exact ⟨accAll_kws h0, by simpa [AccAll] using Acc.text hs⟩
theorem popIntEq_ok (T : List String) {cur : List Tok} {n : Int} {r1 : List Tok} (h : popInt (moveStr cur "=").2 = .ok (n, r1)) :
    ∃ u1, cur = u1 ++ r1 ∧ (toString n ∈ T → AccAll T u1) := by
  have hk := kwOk_eq
  obtain ⟨u0, e0, h0⟩ := moveStr_split cur "=" hk
  cases hc : (moveStr cur "=").2 with
  | nil => rw [hc] at h; simp [popInt] at h
  | cons t r =>
    rw [hc] at h e0
    simp only [popInt] at h
    split at h <;> simp at h
    rename_i m hm
    obtain ⟨rfl, rfl⟩ := h
    refine ⟨u0 ++ [t], by rw [e0]; simp, fun hs => ?_⟩
    rw [accAll_append]
    exact ⟨accAll_kws h0, by simpa [AccAll] using Acc.int hm hs⟩

theorem eachClosed_defCol (T : List String) (d : Gen.D) (f : Nat) (segs : List (List Tok)) (cs : List DefCol)
    (h : eachClosed (pDefCol d f) segs = .ok cs) (hr : ∀ sg ∈ segs, NoRep sg = true) (hf : FullDCs cs = true) (hs : Sub (tDCs cs) T) :
    AccAll T segs.flatten :=
  accAll_flatten fun sg hsg => by
    obtain ⟨v, hv, hv'⟩ := eachClosed_mem h sg hsg
    obtain ⟨used, e, k⟩ := pDefCol_acc T d f sg v [] hv'
    simp only [List.append_nil] at e; subst e
    exact k (hr _ hsg) (fullDCs_all cs hf v hv) (sub_flatMap (by rwa [tDCs_flatMap]) hv)
theorem eachClosed_configStr (T : List String) (segs : List (List Tok)) (ps : List ConfigStr)
    (h : eachClosed pConfigStrExpr segs = .ok ps) (hs : Sub (tCSs ps) T) : ∀ sg ∈ segs, AccAllD T sg := fun sg hsg => by
  obtain ⟨v, hv, hv'⟩ := eachClosed_mem h sg hsg
  exact acc3D_nil (pConfigStrExpr_acc T hv' (sub_flatMap (by rwa [tCSs_flatMap]) hv))

/-- at least one element (F-C08-6: `CREATE TABLE t x` takes the children of the word `x`) -/
def HasElem (c : CreateTable) : Bool :=
  !(c.columns.isEmpty && c.primaryKey.isNone && c.uniqueKey.isEmpty && c.key.isEmpty && c.fulltextKey.isEmpty && c.foreignKey.isEmpty)
def FullCT (c : CreateTable) : Bool :=
  FullDCs c.columns && (FullOIdx c.primaryKey && (FullIdxs c.uniqueKey && (FullIdxs c.key && (FullIdxs c.fulltextKey && (FullFKs c.foreignKey &&
    (FullDCs c.partitionedBy && HasElem c))))))

def QO (T : List String) (c : CreateTable) (ts : List Tok) (c' : CreateTable) (r : List Tok) : Prop :=
  ∃ used, ts = used ++ r ∧ (OptOK c used → FullCT c' = true → FullCT c = true ∧ (Sub (tCTb c') T → AccAllD T used ∧ Sub (tCTb c) T))

/-- the single step of `attrLoop_acc` for the option loop, in the form the property's text cites (the loop lemma itself goes through `Q.step`) -/
theorem qo_step {T : List String} {c c2 c' : CreateTable} {ts kws u1 r1 r : List Tok} (hts : ts = kws ++ (u1 ++ r1))
    (hb : ∀ u2, OptOK c (kws ++ (u1 ++ u2)) → OptOK c2 u2 ∧
      (FullCT c2 = true → FullCT c = true ∧ (Sub (tCTb c2) T → AccAllD T (kws ++ u1) ∧ Sub (tCTb c) T)))
    (ih : QO T c2 r1 c' r) : QO T c ts c' r :=
  Q.step (fun _ _ => accAllD_append) (by simpa using hts) (fun u2 h => hb u2 (by simpa using h)) ih

abbrev StepO (T : List String) := Step T OptOK FullCT tCTb (AccAllD T)
theorem step_opt {T : List String} {u : CreateTable → CreateTable} {kws u1 : List Tok} {v : String} (k : OptKey) (hkw : ∀ t ∈ kws, KwTok t = true)
    (hkey : ∃ t ∈ kws, t.srcEqUp k.word = true) (hu1 : v ∈ T → AccAll T u1) (hc2 : ∀ c j, j.filled (u c) = (decide (j = k) || j.filled c))
    (hF : ∀ c, FullCT (u c) = FullCT c) (htx : ∀ c, k.filled c = false → Sub (tCTb (u c)) T → v ∈ T ∧ Sub (tCTb c) T) :
    StepO T u (kws ++ u1) := by
  intro c u2 h
  obtain ⟨hn, h2⟩ := optOK_fill k hkey (hc2 c) (by simpa using h)
  refine ⟨h2, fun hf => ⟨hF c ▸ hf, fun hs => ?_⟩⟩
  obtain ⟨s1, s2⟩ := htx c hn hs
  exact ⟨accAllD_of_acc (accAll_app _ _ (accAll_kws hkw) (hu1 s1)), s2⟩
theorem optOK_keep {c c2 : CreateTable} {a b : List Tok} (hc2 : ∀ j : OptKey, j.filled c2 = j.filled c) (h : OptOK c (a ++ b)) : OptOK c2 b := by
  obtain ⟨h1, h2, h3⟩ := optOK_mono h
  exact ⟨(cntO_iff _ _).2 fun j => hc2 j ▸ (cntO_iff _ _).1 h1 j, h2, h3⟩

theorem txo_part {T : List String} {c : CreateTable} (cs : List DefCol) (hs : Sub (tCTb { c with partitionedBy := c.partitionedBy ++ cs }) T) :
    Sub (tDCs cs) T ∧ Sub (tCTb c) T := by
  rw [tCTb_eq] at hs; rw [tCTb_eq c]
  simp only [tDCs_append, sub_append] at *; grind
theorem fl_part {c : CreateTable} (cs : List DefCol) (hf : FullCT { c with partitionedBy := c.partitionedBy ++ cs } = true) :
    FullDCs cs = true ∧ FullCT c = true := by
  simp only [FullCT, HasElem, FullDCs_append, Bool.and_eq_true] at hf ⊢; grind
theorem txo_tbl {T : List String} {c : CreateTable} (ps : List ConfigStr) (hs : Sub (tCTb { c with tblproperties := c.tblproperties ++ ps }) T) :
    Sub (tCSs ps) T ∧ Sub (tCTb c) T := by
  rw [tCTb_eq] at hs; rw [tCTb_eq c]
  simp only [tCSs_append, sub_append] at *; grind

theorem txo_autoIncrement {T : List String} {c : CreateTable} (x : Int) (hn : c.autoIncrement = none)
    (hs : Sub (tCTb { c with autoIncrement := some x }) T) : toString x ∈ T ∧ Sub (tCTb c) T := by
  rw [tCTb_eq] at hs; rw [tCTb_eq c]; simp only [hn] at hs ⊢
  simp only [tOI_none, tOI_some, sub_append, sub_cons, sub_nil] at *; grind

inductive SOpt
  | engine | defaultCharset | rowFormat | collate | comment | statesPersistent
  | rowFormatSerde | rowFormatDelimited | storedAsInputformat | outputformat | location
def SOpt.key : SOpt → OptKey
  | .engine => .engine | .defaultCharset => .defaultCharset | .rowFormat => .rowFormat | .collate => .collate | .comment => .comment | .statesPersistent => .statesPersistent
  | .rowFormatSerde => .rowFormatSerde | .rowFormatDelimited => .rowFormatDelimited | .storedAsInputformat => .storedAsInputformat | .outputformat => .outputformat | .location => .location
def SOpt.set : SOpt → String → CreateTable → CreateTable
  | .engine, s, c => { c with engine := some s } | .defaultCharset, s, c => { c with defaultCharset := some s }
  | .rowFormat, s, c => { c with rowFormat := some s } | .collate, s, c => { c with collate := some s }
  | .comment, s, c => { c with comment := some s } | .statesPersistent, s, c => { c with statesPersistent := some s }
  | .rowFormatSerde, s, c => { c with rowFormatSerde := some s } | .rowFormatDelimited, s, c => { c with rowFormatDelimited := some s }
  | .storedAsInputformat, s, c => { c with storedAsInputformat := some s } | .outputformat, s, c => { c with outputformat := some s }
  | .location, s, c => { c with location := some s }
theorem SOpt.texts_set {T : List String} {c : CreateTable} (o : SOpt) (s : String) (hn : o.key.filled c = false) (hs : Sub (tCTb (o.set s c)) T) :
    s ∈ T ∧ Sub (tCTb c) T := by
  cases o <;>
    (have hn := none_of hn; rw [tCTb_eq] at hs; rw [tCTb_eq c]; simp only [SOpt.set] at hs; simp only [hn] at hs ⊢
     simp only [tOS_none, tOS_some, sub_append, sub_cons, sub_nil] at *; grind)
/-- `<words> [=] s`: one of the eleven options whose value is a string -/
theorem sopt_step {T : List String} {ts kws cur r1 : List Tok} {s : String} (o : SOpt) (e : ts = kws ++ cur) (hkw : ∀ t ∈ kws, KwTok t = true)
    (hkey : ∃ t ∈ kws, t.srcEqUp o.key.word = true) (hp : optEqSrc cur = .ok (s, r1)) : ∃ u1, ts = u1 ++ r1 ∧ StepO T (o.set s) u1 := by
  obtain ⟨u1, e1, ha⟩ := optEqSrc_ok T hp
  exact ⟨kws ++ u1, by rw [e, e1]; simp, step_opt o.key hkw hkey ha (fun c j => by cases o <;> cases j <;> rfl) (fun c => by cases o <;> rfl)
    (fun c hn hs => o.texts_set s hn hs)⟩

theorem createOpt_step (T : List String) (d : Gen.D) (f : Nat) (ts : List Tok) (u : CreateTable → CreateTable) (r : List Tok)
    (h : createOpt d f ts = .ok (u, r)) : ∃ u1, ts = u1 ++ r ∧ StepO T u u1 := by
  have kSEQ : allKw ["ROW", "FORMAT", "DELIMITED", "FIELDS", "TERMINATED", "BY"] = true := by simp [allKw, kwOk_ROW, kwOk_FORMAT, kwOk_DELIMITED, kwOk_FIELDS, kwOk_TERMINATED, kwOk_BY]
  unfold createOpt at h
  peel_if h with hcnd
  · -- ENGINE [=] s
    obtain ⟨kws, e, hkw, hkey⟩ := searchStrUp_kws hcnd kwOk_ENGINE
    split at h
    · rename_i s r1 hp
      simp only [Except.ok.injEq, Prod.mk.injEq] at h; obtain ⟨rfl, rfl⟩ := h
      exact sopt_step .engine e hkw hkey hp
    · simp at h
  peel_if h with hcnd
  · -- AUTO_INCREMENT [=] n
    obtain ⟨kws, e, hkw, hkey⟩ := searchStrUp_kws hcnd kwOk_AUTO_INCREMENT
    split at h
    · rename_i n r1 hp
      simp only [Except.ok.injEq, Prod.mk.injEq] at h; obtain ⟨rfl, rfl⟩ := h
      obtain ⟨u1, e1, ha⟩ := popIntEq_ok T hp
      exact ⟨kws ++ u1, by rw [e, e1]; simp, step_opt .autoIncrement hkw hkey ha (fun c j => by cases j <;> rfl) (fun c => rfl)
        (fun c hn hs => txo_autoIncrement n (none_of hn) hs)⟩
    · simp at h
  peel_if h with hcnd
  · -- DEFAULT CHARSET [=] s
    obtain ⟨kws, e, hkw, _, hkey⟩ := searchTwoUp_kws hcnd kwOk_DEFAULT kwOk_CHARSET
    split at h
    · rename_i s r1 hp
      simp only [Except.ok.injEq, Prod.mk.injEq] at h; obtain ⟨rfl, rfl⟩ := h
      exact sopt_step .defaultCharset e hkw hkey hp
    · simp at h
  peel_if h with hcnd
  · -- ROW_FORMAT
    obtain ⟨kws, e, hkw, hkey⟩ := searchStrUp_kws hcnd kwOk_ROW_FORMAT
    split at h
    · rename_i s r1 hp
      simp only [Except.ok.injEq, Prod.mk.injEq] at h; obtain ⟨rfl, rfl⟩ := h
      exact sopt_step .rowFormat e hkw hkey hp
    · simp at h
  peel_if h with hcnd
  · -- COLLATE
    obtain ⟨kws, e, hkw, hkey⟩ := searchStrUp_kws hcnd kwOk_COLLATE
    split at h
    · rename_i s r1 hp
      simp only [Except.ok.injEq, Prod.mk.injEq] at h; obtain ⟨rfl, rfl⟩ := h
      exact sopt_step .collate e hkw hkey hp
    · simp at h
  peel_if h with hcnd
  · -- COMMENT
    obtain ⟨kws, e, hkw, hkey⟩ := searchStrUp_kws hcnd kwOk_COMMENT
    split at h
    · rename_i s r1 hp
      simp only [Except.ok.injEq, Prod.mk.injEq] at h; obtain ⟨rfl, rfl⟩ := h
      exact sopt_step .comment e hkw hkey hp
    · simp at h
  peel_if h with hcnd
  · -- STATS_PERSISTENT
    obtain ⟨kws, e, hkw, hkey⟩ := searchStrUp_kws hcnd kwOk_STATS_PERSISTENT
    split at h
    · rename_i s r1 hp
      simp only [Except.ok.injEq, Prod.mk.injEq] at h; obtain ⟨rfl, rfl⟩ := h
      exact sopt_step .statesPersistent e hkw hkey hp
    · simp at h
  peel_if h with hcnd
  · -- PARTITIONED BY ( column definitions )
    obtain ⟨x, y, e, hx, hy⟩ := searchTwoUp_head hcnd
    split at h
    · simp at h
    · rename_i segs r1 hp
      obtain ⟨gt, e1, rfl⟩ := popSplit_ok _ _ _ hp
      split at h
      · rename_i cs hcs
        simp only [Except.ok.injEq, Prod.mk.injEq] at h; obtain ⟨rfl, rfl⟩ := h
        refine ⟨[x, y, gt], by rw [e, e1]; simp, fun c u2 hA => ⟨optOK_keep (fun j => by cases j <;> rfl) hA, fun hf => ?_⟩⟩
        obtain ⟨hc, hg, hsg⟩ := hA
        obtain ⟨f1, f2⟩ := fl_part cs hf
        refine ⟨f2, fun hs => ?_⟩
        obtain ⟨h1, h2⟩ := txo_part cs hs
        refine ⟨accAllD_of_acc ?_, h2⟩
        have hgt : Groupish gt = true := by
          simp only [List.cons_append, List.nil_append, groupAt, hx, Bool.not_true, Bool.false_or, Bool.and_eq_true, List.drop_succ_cons,
            List.drop_zero, headG] at hg
          exact hg.2.1
        have hch := accAll_splitBy T gt.children (eachClosed_defCol T d f _ _ hcs (hsg gt (by simp)) f1 h1)
        simp only [accAll_cons, accAll_nil, and_true]
        exact ⟨.kw (srcEqUp_kw hx kwOk_PARTITIONED), .kw (srcEqUp_kw hy kwOk_BY), .group hgt hch⟩
      · simp at h
  peel_if h with hcnd
  · -- ROW FORMAT SERDE
    obtain ⟨kws, e, hkw, _, _, hkey⟩ := searchThreeUp_kws hcnd kwOk_ROW kwOk_FORMAT kwOk_SERDE
    split at h
    · rename_i s r1 hp
      simp only [Except.ok.injEq, Prod.mk.injEq] at h; obtain ⟨rfl, rfl⟩ := h
      exact sopt_step .rowFormatSerde e hkw hkey hp
    · simp at h
  peel_if h with hcnd
  · -- ROW FORMAT DELIMITED FIELDS TERMINATED BY
    obtain ⟨kws, e, hkw, hkey0⟩ := searchSeq_kws _ _ hcnd kSEQ
    have hkey := hkey0 "DELIMITED" (by simp) (by decide)
    split at h
    · rename_i s r1 hp
      simp only [Except.ok.injEq, Prod.mk.injEq] at h; obtain ⟨rfl, rfl⟩ := h
      exact sopt_step .rowFormatDelimited e hkw hkey hp
    · simp at h
  peel_if h with hcnd
  · -- STORED AS INPUTFORMAT
    obtain ⟨kws, e, hkw, _, _, hkey⟩ := searchThreeUp_kws hcnd kwOk_STORED kwOk_AS kwOk_INPUTFORMAT
    split at h
    · rename_i s r1 hp
      simp only [Except.ok.injEq, Prod.mk.injEq] at h; obtain ⟨rfl, rfl⟩ := h
      exact sopt_step .storedAsInputformat e hkw hkey hp
    · simp at h
  peel_if h with hcnd
  · -- STORED AS TEXTFILE
    obtain ⟨kws, e, hkw, _⟩ := searchThreeUp_kws hcnd kwOk_STORED kwOk_AS kwOk_TEXTFILE
    simp only [Except.ok.injEq, Prod.mk.injEq] at h; obtain ⟨rfl, rfl⟩ := h
    exact ⟨kws, e, fun c u2 hA => ⟨optOK_keep (fun j => by cases j <;> rfl) hA, fun hf => ⟨hf, fun hs =>
      ⟨accAllD_of_acc (accAll_kws hkw), by rw [tCTb_eq] at hs ⊢; exact hs⟩⟩⟩⟩
  peel_if h with hcnd
  · -- OUTPUTFORMAT
    obtain ⟨kws, e, hkw, hkey⟩ := searchStrUp_kws hcnd kwOk_OUTPUTFORMAT
    split at h
    · rename_i s r1 hp
      simp only [Except.ok.injEq, Prod.mk.injEq] at h; obtain ⟨rfl, rfl⟩ := h
      exact sopt_step .outputformat e hkw hkey hp
    · simp at h
  peel_if h with hcnd
  · -- LOCATION
    obtain ⟨kws, e, hkw, hkey⟩ := searchStrUp_kws hcnd kwOk_LOCATION
    split at h
    · rename_i s r1 hp
      simp only [Except.ok.injEq, Prod.mk.injEq] at h; obtain ⟨rfl, rfl⟩ := h
      exact sopt_step .location e hkw hkey hp
    · simp at h
  peel_if h with hcnd
  · -- TBLPROPERTIES ( configuration strings )
    obtain ⟨x, e, hx⟩ := searchStrUp_head hcnd
    split at h
    · simp at h
    · rename_i segs r1 hp
      obtain ⟨gt, e1, rfl⟩ := popSplit_ok _ _ _ hp
      split at h
      · rename_i ps hps
        simp only [Except.ok.injEq, Prod.mk.injEq] at h; obtain ⟨rfl, rfl⟩ := h
        refine ⟨[x, gt], by rw [e, e1]; simp, fun c u2 hA => ⟨optOK_keep (fun j => by cases j <;> rfl) hA, fun hf => ⟨hf, fun hs => ?_⟩⟩⟩
        obtain ⟨hc, hg, hsg⟩ := hA
        obtain ⟨h1, h2⟩ := txo_tbl ps hs
        refine ⟨?_, h2⟩
        have hgt : Groupish gt = true := by
          simp only [List.cons_append, List.nil_append, groupAt, hx, Bool.not_true, Bool.false_or, Bool.and_eq_true, headG] at hg
          exact hg.1
        have hch := accAllD_splitBy T gt.children (eachClosed_configStr T _ _ hps h1)
        exact accAllD_append (accAllD_one (.kw (srcEqUp_kw hx kwOk_TBLPROPERTIES))) (accAllD_group hgt hch)
      · simp at h
  · simp at h

theorem createOpts_acc (T : List String) (d : Gen.D) (f : Nat) (g : Nat) (c : CreateTable) (ts : List Tok) (c' : CreateTable) (r : List Tok)
    (h : createOpts d f g c ts = .ok (c', r)) : QO T c ts c' r := by
  rw [createOpts_eq] at h
  exact attrLoop_acc createStop (createOpt d f) (accAllD_nil T) (fun _ _ => accAllD_append) (createOpt_step T d f) g c ts c' r h

end Ddl
end PA
