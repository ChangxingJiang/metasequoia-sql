import MsqProofs.Lemmas.TQueryE4
/-!
# T-parse closed under nesting: the bracketed sub-query positions of expressions (C03 / C02)

`QT d ch q` — the query-level statement for `q` (what the mutual induction provides for the sub-queries of an expression):
`pSelectStmt … none` returns `q` from its rendering in front of every continuation with `stopsQ`, and the rendering starts with `SELECT`.
`tower_of9w`: `EXISTS (q)` has every level from the keyword level on although its first token is no operand token.
-/
open Lex PM Ast TP TP2
namespace TQ
variable {d : Gen.D} {ch : Expr → Bool}

structure QT (d : Gen.D) (ch : Expr → Bool) (q : Query) : Prop where
  parse : ∀ rest, stopsQ d rest = true → OkAt (fun f => pSelectStmt d f none (toksQ d ch q ++ rest)) (20 * sizeL (toksQ d ch q) + 9) (q, rest)
  head : ∃ x, toksQ d ch q = opTok "SELECT" :: x

theorem tower_of9w {ts x} (h : Cont2 d (P9 d) (kwLoop d) 8 4 ts x) (hd : ∃ t ts', ts = t :: ts' ∧ (Gen.notSet d).contains (up t.src) = false) :
    Tower2 d 9 ts x := TC.towerO_true.1 (.of9w (TC.contO_true.2 h) hd)
theorem tower_of10w {ts x} (h : Cont2 d (P10 d) (fun f => pCompareLoop d f) 9 7 ts x)
    (hd : ∃ t ts', ts = t :: ts' ∧ (Gen.notSet d).contains (up t.src) = false) : Tower2 d 10 ts x :=
  TC.towerO_true.1 (.of10w (TC.contO_true.2 h) hd)
end TQ
