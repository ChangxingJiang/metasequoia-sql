import Lean.Meta.Tactic.Simp.RegisterCommand
/-- what `tx_simp` unfolds: the texts of the typed values and the value maps under them (`ParseAccountAll0.lean`) -/
register_simp_attr tx
