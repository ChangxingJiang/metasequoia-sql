import MsqProofs.Lemmas.LexRetain2
/-!
# Retention (C04 d): from the marked erased text back to the characters of the input

The class `bracket e` is only ever given to a bracket CHARACTER, and the event says which: `opn` for `(` and `[`
(kind-less, F-C04-1), `cls paren` for `)`, `cls slice` for `]`.  Hence a bracket event of the marked erased text comes
from ONE character of the text, and what is before it / after it is the erasure of the text before / after that character.
-/
namespace Scan
open Lex Spec

/-- what a character code is when the scanner reports a bracket event -/
def evOK (n : Nat) (l : List Ev) : Prop :=
  l = [] ∨ ((n = '('.toNat ∨ n = '['.toNat) ∧ l = [.opn]) ∨ (n = ')'.toNat ∧ l = [.cls .paren]) ∨
    (n = ']'.toNat ∧ l = [.cls .slice])

theorem snd_ite_nil {α β : Type} (c : Prop) [Decidable c] (a : α) (x : α × List β) (h : x.2 = []) :
    (if c then (a, []) else x).2 = [] := by
  by_cases hc : c
  · rw [if_pos hc]
  · rw [if_neg hc]; exact h

-- `by_cases` + `rw` instead of `split`: `split` simplifies the whole chain of `fresh` at every step
theorem fresh_ev (n : Nat) : evOK n (fresh n).2 := by
  unfold fresh evOK
  by_cases h1 : (n =ᶜ '(' || n =ᶜ '[') = true
  · rw [if_pos h1]
    simp only [Bool.or_eq_true, isCh, Nat.beq_eq] at h1
    exact .inr (.inl ⟨h1, rfl⟩)
  rw [if_neg h1]
  by_cases h2 : (n =ᶜ ')') = true
  · rw [if_pos h2]
    simp only [isCh, Nat.beq_eq] at h2
    exact .inr (.inr (.inl ⟨h2, rfl⟩))
  rw [if_neg h2]
  by_cases h3 : (n =ᶜ ']') = true
  · rw [if_pos h3]
    simp only [isCh, Nat.beq_eq] at h3
    exact .inr (.inr (.inr ⟨h3, rfl⟩))
  rw [if_neg h3]
  refine .inl ?_
  repeat refine snd_ite_nil _ _ _ ?_
  rfl

theorem step_ev (μ : Mode) (n : Nat) : evOK n (step μ n).2 := by
  cases μ <;> simp only [step] <;> repeat' split
  all_goals first | exact fresh_ev n | exact .inl rfl

theorem norm_eq_ascii {n k : Nat} (hk : k < 128) (h : norm n = k) : n = k := by
  unfold norm at h
  split at h
  · exact h
  · simp only [other] at h; omega

theorem bracket_class_char (μ : Mode) (c : Char) (nx : Option Nat) (e : Ev)
    (h : classOf μ (norm c.toNat) nx = .bracket e) :
    (e = .opn ∧ (c = '(' ∨ c = '[')) ∨ (e = .cls .paren ∧ c = ')') ∨ (e = .cls .slice ∧ c = ']') := by
  have hev := step_ev μ (norm c.toNat)
  unfold classOf at h
  simp only at h
  have hc : ∀ d : Char, d.toNat < 128 → norm c.toNat = d.toNat → c = d := fun d hd hn =>
    Char.toNat_inj.mp (norm_eq_ascii hd hn)
  rcases hev with h0 | ⟨hn, hl⟩ | ⟨hn, hl⟩ | ⟨hn, hl⟩
  · rw [h0] at h
    simp only at h
    repeat' split at h
    all_goals cases h
  · rw [hl] at h
    simp only [CC.bracket.injEq] at h
    subst h
    rcases hn with hn | hn
    · exact .inl ⟨rfl, .inl (hc '(' (by decide) hn)⟩
    · exact .inl ⟨rfl, .inr (hc '[' (by decide) hn)⟩
  · rw [hl] at h
    simp only [CC.bracket.injEq] at h
    subst h
    exact .inr (.inl ⟨rfl, hc ')' (by decide) hn⟩)
  · rw [hl] at h
    simp only [CC.bracket.injEq] at h
    subst h
    exact .inr (.inr ⟨rfl, hc ']' (by decide) hn⟩)

theorem outK_ev (ig : Ign) (k : CC) (e : Ev) (h : outK ig k = .ev e) : k = .bracket e := by
  cases k <;> simp only [outK] at h
  case bracket e' => cases h; rfl
  all_goals (split at h <;> cases h)

theorem nxtOf_append (a b : List Char) (fin : Option Nat) : nxtOf (a ++ b) fin = nxtOf a (nxtOf b fin) := by
  cases a <;> rfl

theorem eraseA_append (ig : Ign) (μ : Mode) (a b : List Char) (fin : Option Nat) :
    eraseA ig μ (a ++ b) fin = eraseA ig μ a (nxtOf b fin) ++ eraseA ig (scanAll μ a).1 b fin := by
  induction a generalizing μ with
  | nil => rfl
  | cons c cs ih => simp only [List.cons_append, eraseA, scanAll, ih, nxtOf_append, List.append_assoc]

theorem eraseA_split (ig : Ign) (fin : Option Nat) (e : Ev) (y : List MC) :
    ∀ (t : List Char) (μ : Mode) (x : List MC), eraseA ig μ t fin = x ++ .ev e :: y →
    ∃ a c b, t = a ++ c :: b ∧ eraseA ig μ a (some (norm c.toNat)) = x ∧
      classOf (scanAll μ a).1 (norm c.toNat) (nxtOf b fin) = .bracket e ∧
      eraseA ig (step (scanAll μ a).1 (norm c.toNat)).1 b fin = y := by
  intro t
  induction t with
  | nil => intro μ x h; cases x <;> simp [eraseA] at h
  | cons c cs ih =>
    intro μ x h
    simp only [eraseA] at h
    -- the inductive step: the event is found in `cs`
    have hrec : ∀ x', eraseA ig (step μ (norm c.toNat)).1 cs fin = x' ++ .ev e :: y →
        x = (outK ig (classOf μ (norm c.toNat) (nxtOf cs fin))).out c ++ x' →
        ∃ a c' b, c :: cs = a ++ c' :: b ∧ eraseA ig μ a (some (norm c'.toNat)) = x ∧
          classOf (scanAll μ a).1 (norm c'.toNat) (nxtOf b fin) = .bracket e ∧
          eraseA ig (step (scanAll μ a).1 (norm c'.toNat)).1 b fin = y := by
      intro x' h' hx
      obtain ⟨a, c', b, e1, e2, e3, e4⟩ := ih _ x' h'
      refine ⟨c :: a, c', b, by rw [e1]; rfl, ?_, by simpa [scanAll] using e3, by simpa [scanAll] using e4⟩
      have : nxtOf cs fin = nxtOf a (some (norm c'.toNat)) := by rw [e1, nxtOf_append]; rfl
      simp only [eraseA, e2, hx, this]
    cases ho : outK ig (classOf μ (norm c.toNat) (nxtOf cs fin)) with
    | none =>
      rw [ho] at h hrec
      exact hrec x (by simpa [OutK.out] using h) (by simp [OutK.out])
    | keep =>
      rw [ho] at h hrec
      cases x with
      | nil => simp [OutK.out] at h
      | cons m x' =>
        simp only [OutK.out, List.cons_append, List.nil_append, List.cons.injEq] at h
        exact hrec x' h.2 (by simp [OutK.out, h.1])
    | ev e0 =>
      rw [ho] at h hrec
      cases x with
      | nil =>
        simp only [OutK.out, List.cons_append, List.nil_append, List.cons.injEq, MC.ev.injEq] at h
        obtain ⟨he, hy⟩ := h
        subst he
        exact ⟨[], c, cs, rfl, rfl, outK_ev ig _ _ ho, hy⟩
      | cons m x' =>
        simp only [OutK.out, List.cons_append, List.nil_append, List.cons.injEq] at h
        exact hrec x' h.2 (by simp [OutK.out, h.1])

/-- with nothing ignored, the erasure is `roundBrackets` (the expected text of `C04.retained_concat`), for EVERY text -/
theorem eraseA_none_round (μ : Mode) (t : List Char) (fin : Option Nat) :
    (eraseA ⟨false, false, false⟩ μ t fin).map MC.round = (rbAll μ t).2 := by
  induction t generalizing μ with
  | nil => rfl
  | cons c cs ih =>
    simp only [eraseA, rbAll, List.map_append, ih]
    congr 1
    cases hk : classOf μ (norm c.toNat) (nxtOf cs fin) with
    | bracket e =>
      have hne : ((step μ (norm c.toNat)).2 == []) = false := by
        unfold classOf at hk
        simp only at hk
        cases hs : (step μ (norm c.toNat)).2 with
        | nil => rw [hs] at hk; simp only at hk; repeat' split at hk
                 all_goals cases hk
        | cons a l => rfl
      rw [hne]
      rcases bracket_class_char μ c _ e hk with ⟨rfl, rfl | rfl⟩ | ⟨rfl, rfl⟩ | ⟨rfl, rfl⟩ <;> rfl
    | _ =>
      have he : ((step μ (norm c.toNat)).2 == []) = true := by
        unfold classOf at hk
        simp only at hk
        cases hs : (step μ (norm c.toNat)).2 with
        | nil => rfl
        | cons a l => rw [hs] at hk; cases hk
      rw [he]; rfl

theorem erase_none_roundBrackets (t : List Char) : erase ⟨false, false, false⟩ t = roundBrackets t :=
  eraseA_none_round .N t none
end Scan
