import MsqProofs.Lemmas.TDmlR3
/-!
# T-parse for data-change statements: the statement level (C03 / C01)

`stmt_ok`: one iteration of the loop of `parse_statements` (`pStatement`) on the rendering of a fragment statement returns that statement,
in front of every continuation with `stopsStmt`, at every fuel above `20 * tokens + 16`.
-/
open Lex PM Ast TP TS
open TP2 (qTok fnOK nmOK nm2OK isOkNoneS fnNameOK aggOK dotTok starTok)
open TQ (tblTok unionWords lvlH isExists isOkPair tblOK)
open TQ3
namespace TDM3
variable {d : Gen.D} {ch : Expr → Bool}

theorem stops_bd {rest : List Tok} (h : stopsStmt d rest = true) : Bd4 d 11 rest = true := by
  simp only [stopsStmt, stopsQ3, Bool.and_eq_true] at h; exact h.1

theorem kw_body : ∀ w ∈ ["SELECT", "INSERT", "UPDATE"], up (opTok w).src = w ∧ (opTok w).srcEq "," = false ∧ (opTok w).srcEqUp "WITH" = false ∧
    stmtWords.contains w = false := by decide
theorem kw_withword : up (opTok "WITH").src = "WITH" ∧
    stmtWords.contains "WITH" = false := by decide
/-- the dispatch of `pStatement` on `[WITH …] SELECT / INSERT / UPDATE …`: the clause is parsed, the body parser gets the rest -/
theorem with_stmt (ws : List WithTable) (hws : withsOK d (some ws) = true) (w : String) (hw : w ∈ ["SELECT", "INSERT", "UPDATE"])
    (y : List Tok) (f : Nat) (hf : 20 * sizeL (toksWiths d ch (some ws)) + 1 ≤ f) :
    pStatement d f (toksWiths d ch (some ws) ++ opTok w :: y) = stmtBody d f ws (opTok w :: y) := by
  obtain ⟨k1, k2, k3, k4⟩ := kw_body w hw
  have hp := with_ok (ch := ch) ws hws (opTok w :: y) (by simpa [searchStr] using k2) (by simpa [searchStrUp] using k3) f hf
  simp only at hp
  have hd : pStatement d f (toksWiths d ch (some ws) ++ opTok w :: y) = stmtTail d f (toksWiths d ch (some ws) ++ opTok w :: y) := by
    cases ws with
    | nil => simpa [toksWiths] using stmt_dispatch (opTok w) w k1 k4 y d f
    | cons a r =>
      simp only [toksWiths, List.cons_append]
      exact stmt_dispatch (opTok "WITH") "WITH" kw_withword.1 kw_withword.2 _ d f
  rw [hd]
  unfold stmtTail
  simp only [hp]

theorem kw_heads : (opTok "SELECT").srcEqUp "SELECT" = true ∧ (opTok "INSERT").srcEqUp "SELECT" = false ∧ (opTok "INSERT").srcEqUp "INSERT" = true ∧
    (opTok "UPDATE").srcEqUp "SELECT" = false ∧ (opTok "UPDATE").srcEqUp "INSERT" = false ∧ (opTok "UPDATE").srcEqUp "UPDATE" = true := by decide
theorem headRec (h : InsertHead) (hh : headOK d h = true) : (∃ ws, h.withs = some ws ∧ withsOK d (some ws) = true) ∧ HeadRec d ch h := by
  simp only [headOK, Bool.and_eq_true] at hh
  obtain ⟨⟨⟨⟨h1, h2⟩, h3⟩, h4⟩, h5⟩ := hh
  refine ⟨?_, ⟨h2, h3, partRec _ h4, h5⟩⟩
  cases hw : h.withs with
  | none => rw [hw] at h1; simp [withsOK] at h1
  | some ws => exact ⟨ws, rfl, by rw [hw] at h1; exact h1⟩
theorem rows_rec (vs : List (List Expr)) (h : vs.all (FragL4 d) = true) : ∀ r ∈ vs, ∀ e ∈ r, RT4 d ch e := by
  intro r hr e he
  have h1 := List.all_eq_true.1 h r hr
  exact rt4 e (frag2L_mem r h1 e he).1

theorem stmt_ok (tb : Bool) (s : Stmt) (hs : FragStmt d s = true) (rest : List Tok) (hr : stopsStmt d rest = true) :
    OkAt (fun f => pStatement d f (toksStmtG d ch tb s ++ rest)) (20 * sizeL (toksStmtG d ch tb s) + 16) (s, rest) := by
  have hb := stops_bd hr
  obtain ⟨kS, kI1, kI2, kU1, kU2, kU3⟩ := kw_heads
  cases s with
  | delete t wh ob lm =>
    simp only [FragStmt, Bool.and_eq_true] at hs
    obtain ⟨⟨⟨h1, h2⟩, h3⟩, h4⟩ := hs
    intro f hf'
    simp only [toksStmtG, sizeL_cons, size_opTok] at hf'
    have := delete_stmt t wh ob lm h1 (optRec (ch := ch) wh h2) (orderRec ob h3) h4 rest hb f (by omega)
    simpa [toksStmtG] using this
  | update w t sets wh ob lm =>
    simp only [FragStmt, Bool.and_eq_true, Bool.not_eq_true'] at hs
    obtain ⟨⟨⟨⟨⟨⟨h0, h1⟩, hne⟩, hsets⟩, h2⟩, h3⟩, h4⟩ := hs
    cases w with
    | none => simp [withsOK] at h0
    | some ws =>
      cases sets with
      | nil => simp at hne
      | cons p ss =>
        have hsets' := List.all_eq_true.1 hsets
        intro f hf'
        simp only [toksStmtG, sizeL_append, sizeL_cons, size_opTok] at hf'
        have hd := with_stmt (ch := ch) ws h0 "UPDATE" (by simp)
          (tblTok t.schema t.name :: opTok "SET" :: (toksSets d ch (p :: ss) ++ (toksTail d ch wh ob lm ++ rest))) f (by omega)
        have hu := update_ok (some ws) t p ss wh ob lm h1 (setRec (ch := ch) p (hsets' p (by simp))) (fun q hq => setRec q (hsets' q (by simp [hq])))
          (optRec wh h2) (orderRec ob h3) h4 rest hb f (by simp only [sizeL_append]; omega)
        simp only at hu
        show pStatement d f (toksStmtG d ch tb (.update (some ws) t (p :: ss) wh ob lm) ++ rest) = _
        simp only [toksStmtG, List.append_assoc, List.cons_append]
        rw [hd]
        unfold stmtBody
        simp only [searchStrUp, kU1, kU2, kU3, Bool.false_eq_true, if_false, if_true, hu]
  | insertValues h vs =>
    simp only [FragStmt, Bool.and_eq_true] at hs
    obtain ⟨⟨ws, hw, hws⟩, hh⟩ := headRec (ch := ch) h hs.1
    obtain ⟨y, hy⟩ := insertWords_head h.type hh.ty
    intro f hf'
    simp only [toksStmtG, hw, sizeL_append] at hf'
    have hd := with_stmt (ch := ch) ws hws "INSERT" (by simp)
      (y ++ ((if tb then [opTok "TABLE"] else []) ++ (tblTok h.table.schema h.table.name :: (toksPart d ch h.partition ++ toksColNames h.columns))) ++
        opTok "VALUES" :: (toksRows d ch vs ++ rest)) f (by omega)
    have hi := insert_values_ok tb h ws hw hh vs (rows_rec vs hs.2) rest hb f (by simp only [sizeL_append]; omega)
    simp only at hi
    show pStatement d f (toksStmtG d ch tb (.insertValues h vs) ++ rest) = _
    simp only [toksStmtG, hw, List.append_assoc, List.cons_append]
    simp only [toksTarget, hy, List.append_assoc, List.cons_append] at hd hi ⊢
    rw [hd]
    unfold stmtBody
    simp only [searchStrUp, kI1, kI2, Bool.false_eq_true, if_false, if_true, hi]
  | insertSelect h q =>
    simp only [FragStmt, Bool.and_eq_true] at hs
    obtain ⟨⟨ws, hw, hws⟩, hh⟩ := headRec (ch := ch) h hs.1
    obtain ⟨y, hy⟩ := insertWords_head h.type hh.ty
    intro f hf'
    simp only [toksStmtG, hw, sizeL_append] at hf'
    have hd := with_stmt (ch := ch) ws hws "INSERT" (by simp)
      (y ++ ((if tb then [opTok "TABLE"] else []) ++ (tblTok h.table.schema h.table.name :: (toksPart d ch h.partition ++ toksColNames h.columns))) ++
        (toksQ3 d ch q ++ rest)) f (by omega)
    have hi := insert_query_ok tb h ws hw hh q hs.2 rest hr f (by simp only [sizeL_append]; omega)
    simp only at hi
    show pStatement d f (toksStmtG d ch tb (.insertSelect h q) ++ rest) = _
    simp only [toksStmtG, hw, List.append_assoc]
    simp only [toksTarget, hy, List.append_assoc, List.cons_append] at hd hi ⊢
    rw [hd]
    unfold stmtBody
    simp only [searchStrUp, kI1, kI2, Bool.false_eq_true, if_false, if_true, hi]
  | select q =>
    simp only [FragStmt, Bool.and_eq_true] at hs
    obtain ⟨h0, hq⟩ := hs
    cases hw : withsOf q with
    | none => rw [hw] at h0; simp [withsOK] at h0
    | some ws =>
      rw [hw] at h0
      obtain ⟨x, hx⟩ := toksQ3_head (ch := ch) (stripW q) hq
      rw [toksQ_stripW] at hx
      intro f hf'
      simp only [toksStmtG, hw, sizeL_append] at hf'
      have hd := with_stmt (ch := ch) ws h0 "SELECT" (by simp) (x ++ rest) f (by omega)
      have hp := query_ws (ch := ch) ws (stripW q) hq rest hr f (by rw [toksQ_stripW]; omega)
      simp only [toksQ_stripW, setQW_stripW q ws hw] at hp
      show pStatement d f (toksStmtG d ch tb (.select q) ++ rest) = _
      simp only [toksStmtG, hw, List.append_assoc]
      simp only [hx, List.cons_append] at hd hp ⊢
      rw [hd]
      unfold stmtBody
      simp only [searchStrUp, kS, if_true, hp]
  | _ => simp [FragStmt] at hs

end TDM3
