import MsqProofs.Lemmas.TRestG0
import MsqProofs.Lemmas.TDml3
import MsqProofs.Lemmas.TDml6
import MsqProofs.Props.C10
/-!
# T-parse for the remaining statement classes: what may follow, and the statements without sub-structure (C03 / C01)

* `stopsAny` unfolded: the continuation is empty or starts with a leaf of source `;` that continues nothing (`sa_*`);
* DROP TABLE [IF EXISTS], TRUNCATE TABLE, MSCK REPAIR TABLE, USE, SET k = v (dotted / dashed configuration strings), SHOW DATABASES,
  SHOW TABLES, ANALYZE TABLE (Hive rendering with PARTITION and the three flags; the bare MySQL rendering).
-/
open Lex PM Ast TP TS
namespace TR3
variable {d : Gen.D}

theorem tbl_eq (t : TableName) : tbl t = nameTok (TD.tblStr t) := by
  obtain ⟨s, n⟩ := t
  cases s with
  | none => rfl
  | some s => simp [tbl, TQ.tblTok, nameTok, TD.tblStr, String.toList_append]

/-! ### what may follow a statement -/
theorem equalsStr_src {t : Tok} {k : String} (h : t.equalsStr k = true) : up t.src = up k := by
  cases t with
  | single s m => simpa [Tok.equalsStr, Tok.src, Tok.source] using h
  | group k' cs m => simp [Tok.equalsStr] at h

theorem sa_cases {rest : List Tok} (h : stopsAny d rest = true) :
    rest = [] ∨ ∃ t x, rest = t :: x ∧ t.src = ";" := by
  simp only [stopsAny, TD.endsC, Bool.and_eq_true, Bool.or_eq_true] at h
  cases rest with
  | nil => exact Or.inl rfl
  | cons t x =>
    right
    refine ⟨t, x, rfl, ?_⟩
    rcases h.2 with h2 | h2
    · simp at h2
    · simpa [searchStr, Tok.srcEq] using h2
theorem sa_bd {rest : List Tok} (h : stopsAny d rest = true) : TQ.Bd3 d 7 rest = true := by
  simp only [stopsAny, Bool.and_eq_true] at h
  exact TDM.stops_bd h.1
theorem sa_stmt {rest : List Tok} (h : stopsAny d rest = true) : TDM.stopsStmt d rest = true := by
  simp only [stopsAny, Bool.and_eq_true] at h; exact h.1
theorem sa_ends {rest : List Tok} (h : stopsAny d rest = true) : TD.endsC rest = true := by
  simp only [stopsAny, Bool.and_eq_true] at h; exact h.2
theorem sa_q2 {rest : List Tok} (h : stopsAny d rest = true) : TQ3.stopsQ3 d rest = true :=
  TQ3.stopsQ3_of_stopsQ (sa_stmt h)
theorem sa_up {rest : List Tok} (h : stopsAny d rest = true) (k : String) (hk : k ≠ ";") : searchStrUp rest k = false := by
  rcases sa_cases h with rfl | ⟨t, x, rfl, ht⟩
  · rfl
  · simp only [searchStrUp, Tok.srcEqUp, ht, up_semi, beq_eq_false_iff_ne, ne_eq]; exact fun e => hk e.symm
theorem sa_str {rest : List Tok} (h : stopsAny d rest = true) (k : String) (hk : k ≠ ";") : searchStr rest k = false := by
  rcases sa_cases h with rfl | ⟨t, x, rfl, ht⟩
  · rfl
  · simp only [searchStr, Tok.srcEq, ht, beq_eq_false_iff_ne, ne_eq]; exact fun e => hk e.symm
theorem sa_two {rest : List Tok} (h : stopsAny d rest = true) (a b : String) (ha : a ≠ ";") : searchTwoUp rest a b = false := by
  rcases sa_cases h with rfl | ⟨t, x, rfl, ht⟩
  · rfl
  · cases x with
    | nil => rfl
    | cons y z =>
      have : t.srcEqUp a = false := by simp only [Tok.srcEqUp, ht, up_semi, beq_eq_false_iff_ne, ne_eq]; exact fun e => ha e.symm
      simp [searchTwoUp, this]
theorem sa_paren {rest : List Tok} (h : stopsAny d rest = true) : searchMark rest PAREN = false := by
  have hb := TQ.b3 (sa_bd h)
  cases rest with
  | nil => rfl
  | cons t x =>
    obtain ⟨_, _, h3, _⟩ := TS.bd_parts hb
    simpa [searchMark] using h3
theorem sa_stops2 {rest : List Tok} (h : stopsAny d rest = true) : TP2.stops2 d rest = true := TQ.bd3_stops (sa_bd h)
theorem sa_end {rest : List Tok} (h : stopsAny d rest = true) : (rest.isEmpty || searchStr rest ";" || searchStr rest ",") = true := by
  have := sa_ends h
  simp only [TD.endsC, Bool.or_eq_true] at this
  simp only [Bool.or_eq_true]
  exact Or.inl this
theorem sa_nil : stopsAny d [] = true := rfl
theorem sa_semi (x : List Tok) : stopsAny d (TDM.semiTok :: x) = true := by
  have : stopsAny d [TDM.semiTok] = true := by cases d <;> decide
  exact this

/-! ### DROP TABLE, TRUNCATE TABLE, MSCK REPAIR TABLE, USE, SHOW DATABASES / TABLES -/
theorem tblName_rest (t : TableName) (ht : TDM3.tblOKD t = true) (rest : List Tok) (hr : stopsAny d rest = true) :
    pTblName (tbl t :: rest) = .ok (t, rest) := TDM3.tblName_ok t ht rest (sa_str hr "." (by decide))

theorem drop_ok (b : Bool) (t : TableName) (ht : TDM3.tblOKD t = true) (rest : List Tok) (hr : stopsAny d rest = true) (f : Nat) :
    pStatement d f (toksDrop b t ++ rest) = .ok (.dropTable b t, rest) := by
  have h1 := tblName_rest t ht rest hr
  unfold pStatement toksDrop
  kw_simp
  unfold pDropTable
  cases b
  · simp only [TD.flag, tbl_eq] at h1 ⊢
    kw_simp
    simp only [h1]
  · simp only [TD.flag]
    kw_simp
    simp only [h1]

theorem truncate_ok (t : TableName) (ht : TDM3.tblOKD t = true) (rest : List Tok) (hr : stopsAny d rest = true) (f : Nat) :
    pStatement d f (toksTruncate t ++ rest) = .ok (.truncate t, rest) := by
  have h1 := tblName_rest t ht rest hr
  unfold pStatement toksTruncate
  kw_simp
  unfold pTruncate pKwTable
  kw_simp
  simp only [h1]

theorem msck_ok (t : TableName) (ht : TDM3.tblOKD t = true) (rest : List Tok) (hr : stopsAny d rest = true) (f : Nat) :
    pStatement d f (toksMsck t ++ rest) = .ok (.msck t, rest) := by
  have h1 := tblName_rest t ht rest hr
  unfold pStatement toksMsck
  kw_simp
  unfold pMsck pKwTable
  kw_simp
  simp only [h1]

theorem use_ok (s : String) (rest : List Tok) (f : Nat) : pStatement d f (toksUse s ++ rest) = .ok (.use s, rest) := by
  unfold pStatement toksUse
  kw_simp
  unfold pUse
  kw_simp

theorem showDatabases_ok (rest : List Tok) (f : Nat) :
    pStatement d f ([opTok "SHOW", opTok "DATABASES"] ++ rest) = .ok (.showDatabases, rest) := by
  unfold pStatement
  kw_simp
theorem showTables_ok (rest : List Tok) (f : Nat) :
    pStatement d f ([opTok "SHOW", opTok "TABLES"] ++ rest) = .ok (.showTables, rest) := by
  unfold pStatement
  kw_simp

/-! ### SET k = v -/
theorem src_cfgTok (s : String) : (cfgTok s).src = s := src_single s _
theorem length_cfgTail (ps : List (Bool × String)) : ps.length ≤ (cfgTail ps).length := by
  induction ps with
  | nil => simp [cfgTail]
  | cons p r ih => obtain ⟨b, w⟩ := p; simp only [cfgTail, List.length_cons]; omega
/-- the loop of `_parse_config_string` rebuilds the string from its pieces -/
theorem cfgLoop_ok (fol : List Tok) (hd : searchStr fol "." = false) (hm : searchStr fol "-" = false) :
    ∀ (ps : List (Bool × String)) (w : String) (g : Nat), ps.length + 1 ≤ g →
      configStringLoop g w (cfgTail ps ++ fol) = .ok (cfgJoin w ps, fol) := by
  intro ps
  induction ps with
  | nil =>
    intro w g hg
    obtain ⟨g, rfl⟩ : ∃ k, g = k + 1 := ⟨g - 1, by omega⟩
    simp [cfgTail, cfgJoin, configStringLoop, hd, hm]
  | cons p r ih =>
    obtain ⟨b, x⟩ := p
    intro w g hg
    simp only [List.length_cons] at hg
    obtain ⟨g, rfl⟩ : ∃ k, g = k + 1 := ⟨g - 1, by omega⟩
    have := ih (w ++ (if b then "." else "-") ++ x) g (by omega)
    cases b
    · simp only [cfgTail, cfgJoin, Bool.false_eq_true, if_false] at this ⊢
      rw [configStringLoop]
      kw_simp
      simp only [src_cfgTok]
      exact this
    · simp only [cfgTail, cfgJoin, if_true] at this ⊢
      rw [configStringLoop]
      kw_simp
      simp only [src_cfgTok]
      exact this
theorem cfg_ok (s : String) (hs : cfgOK s = true) (fol : List Tok) (hd : searchStr fol "." = false) (hm : searchStr fol "-" = false) :
    pConfigString (toksCfg s ++ fol) = .ok (s, fol) := by
  simp only [cfgOK, beq_iff_eq] at hs
  unfold pConfigString toksCfg
  kw_simp
  simp only [src_cfgTok]
  have := cfgLoop_ok fol hd hm (cfgSplit s).2 (cfgSplit s).1 ((cfgTail (cfgSplit s).2 ++ fol).length + 1) (by
    have := length_cfgTail (cfgSplit s).2
    simp only [List.length_append]; omega)
  rw [this, hs]
theorem set_ok (c : ConfigStr) (hn : cfgOK c.name = true) (hv : cfgOK c.value = true) (rest : List Tok) (hr : stopsAny d rest = true) (f : Nat) :
    pStatement d f (toksSet c ++ rest) = .ok (.set c, rest) := by
  obtain ⟨n, v⟩ := c
  have h1 := cfg_ok n hn (TD.eqTok :: (toksCfg v ++ rest)) (by simp only [TD.eqTok]; kw_simp) (by simp only [TD.eqTok]; kw_simp)
  have h2 := cfg_ok v hv rest (sa_str hr "." (by decide)) (sa_str hr "-" (by decide))
  unfold pStatement toksSet
  kw_simp
  unfold pSet
  kw_simp
  unfold pConfigStrExpr
  simp only [h1]
  simp only [TD.eqTok]
  kw_simp
  simp only [h2]

/-! ### ANALYZE TABLE -/
theorem analyze_ok (t : TableName) (p : Option (List Expr)) (fc cm ns : Bool) (ht : TDM3.tblOKD t = true)
    (hp : if d == .HIVE then TDM3.PartRec d noX p else p = none ∧ fc = false ∧ cm = false ∧ ns = false)
    (rest : List Tok) (hr : stopsAny d rest = true) (f : Nat) (hf : 20 * sizeL (toksAnalyze d t p fc cm ns) + 2 ≤ f) :
    pStatement d f (toksAnalyze d t p fc cm ns ++ rest) = .ok (.analyze t p fc cm ns, rest) := by
  have u1 := sa_up hr "PARTITION" (by decide)
  have u2 := sa_two hr "COMPUTE" "STATISTICS" (by decide)
  have u3 := sa_two hr "FOR" "COLUMNS" (by decide)
  have u4 := sa_two hr "CACHE" "METADATA" (by decide)
  have u5 := sa_up hr "NOSCAN" (by decide)
  have e : ∀ X, matchSeq (opTok "ANALYZE" :: opTok "TABLE" :: X) ["ANALYZE", "TABLE"] = .ok ((), X) := by intro X; kw_simp
  unfold pStatement toksAnalyze
  kw_simp
  unfold pAnalyze
  by_cases hd : (d == Gen.D.HIVE) = true
  · simp only [hd, if_true] at hp ⊢
    simp only [toksAnalyze, hd, if_true, sizeL_cons, sizeL_append] at hf
    have h1 : pTblName (tbl t :: (TDM3.toksPart d noX p ++ (opTok "COMPUTE" :: opTok "STATISTICS" :: (TD.flag fc [opTok "FOR", opTok "COLUMNS"] ++
        (TD.flag cm [opTok "CACHE", opTok "METADATA"] ++ (TD.flag ns [opTok "NOSCAN"] ++ rest)))))) = .ok (t, _) :=
      TDM3.tblName_ok t ht _ (TDM3.part_head p _ (by kw_simp))
    have h2 := TDM3.optPartition_ok p hp (opTok "COMPUTE" :: opTok "STATISTICS" :: (TD.flag fc [opTok "FOR", opTok "COLUMNS"] ++
        (TD.flag cm [opTok "CACHE", opTok "METADATA"] ++ (TD.flag ns [opTok "NOSCAN"] ++ rest)))) (by kw_simp) f (by omega)
    simp only at h2
    simp only [List.append_assoc, List.cons_append, e, h1, h2]
    cases fc <;> cases cm <;> cases ns <;> simp only [TD.flag, if_true, Bool.false_eq_true, if_false] <;> kw_simp <;>
      simp only [u3, u4, u5, Bool.false_eq_true, if_false]
  · simp only [hd, Bool.false_eq_true, if_false] at hp ⊢
    obtain ⟨rfl, rfl, rfl, rfl⟩ := hp
    have h1 := tblName_rest t ht rest hr
    simp only [List.nil_append, e, h1, pOptPartition, u1, Bool.false_eq_true, if_false, moveTwoUp, u2, u3, u4, moveStrUp, u5]

end TR3
