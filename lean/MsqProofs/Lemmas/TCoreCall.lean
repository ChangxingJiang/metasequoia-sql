import MsqProofs.Lemmas.TParse2New
import MsqProofs.Lemmas.TCoreGroup
/-!
# T-parse: the element level and the list-valued predicates over arbitrary renderings of the children (C02 / C03 / C09)

The productions above the operator grammar (qualified names, calls, `CASE`, `[NOT] IN`, bracketed queries) in the forms of
MsqProofs/Lemmas/TCoreLift.lean, the token lists of the children as variables: a comma-separated list is the `commaList` of
MsqProofs/Lemmas/TCoreGroup.lean over a renderer of the elements (`CommaSep`), the arms and the `ELSE` part of a `CASE` are relations
between a token list and the trees, a query is read back to the end of its tokens (`SubQ`).  Behind `name ( … )` the parser looks for
`OVER`, so plain and aggregate calls conclude at the flag `true`; nothing else here has that look-ahead (a qualified call `s.f( … )`
reaches `pFuncIdx` without it) and concludes at `false`.  A child is followed by a known token or by the end of its bracket group, so
it is needed at the flag `true` only.
-/
open Lex PM Ast
namespace TC
open TP TP2
variable {d : Gen.D} {o ol : Bool}

theorem pIndex_stop (b : Expr) (rest : List Tok) {L : Nat} (h : stopLE d L rest = true) (g : Nat) : pIndex d (g + 1) b rest = .ok (b, rest) := by
  unfold pIndex
  cases rest with
  | nil => rfl
  | cons t r =>
    have hs := (stop_parts d h).1
    simp only [stopsE, Bool.and_eq_true, Bool.not_eq_true'] at hs
    simp [hs.1.2]
theorem searchMark_stop (rest : List Tok) {L : Nat} (h : stopLE d L rest = true) : searchMark rest PAREN = false := by
  cases rest with
  | nil => rfl
  | cons t r =>
    have hs := (stop_parts d h).1
    simp only [stopsE, Bool.and_eq_true, Bool.not_eq_true'] at hs
    simpa [searchMark] using hs.1.1
theorem pUnary_name {nm : Tok} {n : String} (h : nmOK d nm n = true) (g : Nat) (r0 : List Tok) :
    pUnary d (g + 2) (nm :: r0) = pNamed d g nm r0 (nm :: r0) := by
  obtain ⟨u, _, _, _, l, p, cs, st, _⟩ := nmOK_parts h
  unfold pUnary
  simp only [u, Bool.false_eq_true, if_false]
  unfold pElement
  simp only [l, p, cs, st, Bool.false_eq_true, if_false]

theorem full2_qcol (t c : String) (h : qcolOK d t c = true) : FullO d false (P2 d) 2 0 [nameTok t, dotTok, nameTok c] (.column (some t) c) := by
  simp only [qcolOK, nm2OK, Bool.and_eq_true, Bool.not_eq_true', beq_iff_eq] at h
  obtain ⟨h1, ⟨h2n, h2u⟩, _⟩ := h
  have un := (nmOK_parts h1).2.2.2.2.2.2.2.2.1
  obtain ⟨dp, ds, _⟩ := dot_facts
  intro rest hr f hf
  simp only [sizeL, Tok.size, nameTok, dotTok, opTok] at hf
  obtain ⟨g, rfl⟩ : ∃ g, f = g + 5 := ⟨f - 5, by omega⟩
  show pUnary d (g + 3 + 2) (nameTok t :: dotTok :: nameTok c :: rest) = _
  rw [pUnary_name h1]
  unfold pNamed
  simp only [dp, ds, Bool.false_eq_true, if_false, if_true]
  unfold pQualified
  simp only [h2n, if_true, searchMark_stop rest hr.1, Bool.false_eq_true, if_false, un, h2u, pIndex_stop _ rest hr.1]
theorem full2_star : FullO d false (P2 d) 2 0 [starTok] (.wildcard none) := by
  obtain ⟨_, _, _, _, _, s2, s3, s4, s5, _⟩ := dot_facts
  intro rest hr f hf
  simp only [sizeL, Tok.size, starTok, opTok] at hf
  obtain ⟨g, rfl⟩ : ∃ g, f = g + 2 := ⟨f - 2, by omega⟩
  show pUnary d (g + 2) (starTok :: rest) = _
  unfold pUnary
  simp only [star_unary, Bool.false_eq_true, if_false]
  unfold pElement
  simp only [s3, s4, s5, s2, Bool.false_eq_true, if_false, if_true]
theorem full2_qstar (t : String) (h : wildOK d t = true) : FullO d false (P2 d) 2 0 [qTok t, dotTok, starTok] (.wildcard (some t)) := by
  have un := (nmOK_parts h).2.2.2.2.2.2.2.2.1
  obtain ⟨dp, ds, _, _, s1, s2, _⟩ := dot_facts
  intro rest hr f hf
  simp only [sizeL, qTok_size, Tok.size, dotTok, starTok, opTok] at hf
  obtain ⟨g, rfl⟩ : ∃ g, f = g + 4 := ⟨f - 4, by omega⟩
  show pUnary d (g + 2 + 2) (qTok t :: dotTok :: starTok :: rest) = _
  rw [pUnary_name h]
  unfold pNamed
  simp only [dp, ds, Bool.false_eq_true, if_false, if_true]
  unfold pQualified
  simp only [s1, s2, Bool.false_eq_true, if_false, if_true, un]

/-! ### comma-separated lists of children -/
/-- the equation is part of the hypothesis, so that a printer's own list function stands in the statements
(`toksArgs4 d ch 14 ps = commaList (W4 d ch · 14) ps`) -/
def CommaSep (P : List Tok → Expr → Prop) (A : List Tok) (ps : List Expr) : Prop :=
  ∃ tk : Expr → List Tok, A = commaList tk ps ∧ ∀ p ∈ ps, P (tk p) p

def Hd (ts : List Tok) : Prop := ∃ t ts', ts = t :: ts' ∧ hdTok t = true
theorem Hd.words {ts : List Tok} (h : Hd ts) (x : List Tok) :
    startsSelect (ts ++ x) = false ∧ searchStrUp (ts ++ x) "WHEN" = false ∧ searchStrUp (ts ++ x) "DISTINCT" = false ∧ (ts ++ x).isEmpty = false := by
  obtain ⟨t, ts', rfl, hh⟩ := h
  simp only [hdTok, startTok, Bool.and_eq_true, Bool.not_eq_true', List.contains_cons, List.contains_nil, Bool.or_false, Bool.or_eq_false_iff,
    beq_eq_false_iff_ne, ne_eq] at hh
  refine ⟨?_, ?_, ?_, rfl⟩
  · simpa [startsSelect, searchSetUp] using hh.1
  · simpa [searchStrUp, Tok.srcEqUp] using hh.2.1
  · simpa [searchStrUp, Tok.srcEqUp] using hh.2.2

structure Arg (d : Gen.D) (ta : List Tok) (a : Expr) : Prop where
  full : FullO d true (P14 d) 14 15 ta a
  hd : Hd ta

theorem commaTail_stopO (tk : Expr → List Tok) (as : List Expr) (o : Bool) : StopO d o 14 (commaTail tk as) := by
  cases as with
  | nil => exact stopO_nil o 14
  | cons a as => exact comma_stopO o (Nat.le_refl 14) _

theorem argsTail_run (tk : Expr → List Tok) : ∀ (as : List Expr), (∀ a ∈ as, Arg d (tk a) a) → ∀ acc,
    OkAt (fun f => pArgs d f acc (commaTail tk as)) (20 * sizeL (commaTail tk as) + 17) (acc ++ as, []) := by
  intro as
  induction as with
  | nil =>
    intro _ acc f hf
    obtain ⟨g, rfl⟩ : ∃ g, f = g + 1 := ⟨f - 1, by omega⟩
    simp [commaTail, pArgs, moveStr, searchStr]
  | cons a as ih =>
    intro has acc f hf
    simp only [commaTail, sizeL_cons, sizeL_append, TS.size_commaTok] at hf
    obtain ⟨g, rfl⟩ : ∃ g, f = g + 1 := ⟨f - 1, by omega⟩
    have h1 : pOr d g (tk a ++ commaTail tk as) = .ok (a, commaTail tk as) :=
      (has a (by simp)).full _ (commaTail_stopO tk as true) g (by omega)
    have h2 := ih (fun a' ha' => has a' (by simp [ha'])) (acc ++ [a]) g (by omega)
    have hm : moveStr (TS.commaTok :: (tk a ++ commaTail tk as)) "," = (true, tk a ++ commaTail tk as) := by
      simp [moveStr, TS.comma_search]
    show pArgs d (g + 1) acc (commaTail tk (a :: as)) = _
    unfold pArgs
    simp only [commaTail, hm, if_true, h1]
    simpa using h2
theorem args_run {A : List Tok} {ps : List Expr} (h : CommaSep (Arg d) A ps) :
    ∃ acc r2, OkAt (fun f => pFirstArg d f A) (20 * sizeL A + 18) (acc, r2) ∧ OkAt (fun f => pArgs d f acc r2) (20 * sizeL A + 18) (ps, []) := by
  obtain ⟨tk, rfl, h⟩ := h
  cases ps with
  | nil =>
    refine ⟨[], [], ?_, ?_⟩
    · intro f hf
      obtain ⟨g, rfl⟩ : ∃ g, f = g + 1 := ⟨f - 1, by omega⟩
      simp [commaList, pFirstArg]
    · intro f hf
      obtain ⟨g, rfl⟩ : ∃ g, f = g + 1 := ⟨f - 1, by omega⟩
      simp [pArgs, moveStr, searchStr]
  | cons a as =>
    have ha := h a (by simp)
    refine ⟨[a], commaTail tk as, ?_, ?_⟩
    · intro f hf
      simp only [commaList, sizeL_append] at hf
      obtain ⟨g, rfl⟩ : ∃ g, f = g + 1 := ⟨f - 1, by omega⟩
      have h1 : pOr d g (tk a ++ commaTail tk as) = .ok (a, commaTail tk as) := ha.full _ (commaTail_stopO tk as true) g (by omega)
      show pFirstArg d (g + 1) (tk a ++ commaTail tk as) = _
      unfold pFirstArg
      simp only [(ha.hd.words _).2.2.2, Bool.false_eq_true, if_false, h1]
    · intro f hf
      simp only [commaList, sizeL_append] at hf
      simpa using argsTail_run tk as (fun a' ha' => h a' (by simp [ha'])) [a] f (by omega)
theorem args_noDistinct {A : List Tok} {ps : List Expr} (h : CommaSep (Arg d) A ps) : searchStrUp A "DISTINCT" = false := by
  obtain ⟨tk, rfl, h⟩ := h
  cases ps with
  | nil => rfl
  | cons a as => exact ((h a (by simp)).hd.words _).2.2.1

/-! ### calls -/
theorem pFuncName_plain (nm : Tok) (n : String) (A rest : List Tok) (hn : nm.has NAME = true) (hs : splitName nm.src = .ok (none, n)) :
    pFuncName (nm :: grp A :: rest) = .ok ((none, n), grp A :: rest) := by
  have hg : (grp A).equalsStr "." = false := rfl
  cases rest with
  | nil => simp [pFuncName, hn, hs]
  | cons c r => simp [pFuncName, hn, hs, hg]
theorem pFuncName_qual (a nm : Tok) (s n : String) (A rest : List Tok) (ha : a.has NAME = true) (hau : unifyName a.src = s)
    (hn : nm.has NAME = true) (hnu : unifyName nm.src = n) :
    pFuncName (a :: dotTok :: nm :: grp A :: rest) = .ok ((some s, n), grp A :: rest) := by
  have hd : dotTok.equalsStr "." = true := by decide
  simp [pFuncName, ha, hd, hn, hau, hnu]
theorem callPrep_func (n : String) (A : List Tok) (h : fnNameOK n = true) : callPrep n (grp A) = (false, false, A) := by
  obtain ⟨_, _, _, hs, ha⟩ := fnName_parts h
  have ha' : ¬ up n ∈ Gen.aggNames := by simpa using ha
  simp [callPrep, ha', substringRewrite, hs, children_grp]
theorem callPrep_agg {n : String} (dist : Bool) {A : List Tok} (h : Gen.aggNames.contains (up n) = true) (hA : searchStrUp A "DISTINCT" = false) :
    callPrep n (grp ((if dist then [opTok "DISTINCT"] else []) ++ A)) = (true, dist, A) := by
  have hD : (opTok "DISTINCT").srcEqUp "DISTINCT" = true := by decide
  have h' : up n ∈ Gen.aggNames := by simpa using h
  have c4 := (agg_parts h).2.2.2
  cases dist with
  | true => simp [callPrep, h', substringRewrite, c4, children_grp, moveStrUp, searchStrUp, hD]
  | false => simp [callPrep, h', substringRewrite, c4, children_grp, moveStrUp, hA]

theorem func_ok (ts : List Tok) (schema : Option String) (name : String) (A rest : List Tok) (isAgg dist : Bool) {A' : List Tok} {ps : List Expr}
    (hname : pFuncName ts = .ok ((schema, name), grp A :: rest))
    (hsp : (schema.isNone && up name == "CAST") = false ∧ (schema.isNone && up name == "EXTRACT") = false ∧ (schema.isNone && up name == "IF") = false)
    (hprep : callPrep name (grp A) = (isAgg, dist, A')) (hA : CommaSep (Arg d) A' ps) :
    OkAt (fun f => pFunc d f ts) (20 * sizeL A' + 20) (callNode schema name isAgg dist ps, rest) := by
  obtain ⟨acc, r2, h1, h2⟩ := args_run hA
  intro f hf
  obtain ⟨g, rfl⟩ : ∃ g, f = g + 2 := ⟨f - 2, by omega⟩
  have a1 := h1 g (by omega)
  have a2 := h2 g (by omega)
  simp only at a1 a2
  unfold pFunc
  simp only [hname, hsp.1, hsp.2.1, hsp.2.2, Bool.false_eq_true, if_false]
  unfold pCall
  simp only [hprep, a1, a2, closed]
theorem plainFunc_ok (n : String) (ps : List Expr) {A : List Tok} (hn : fnOK d none n = true) (hA : CommaSep (Arg d) A ps) (rest : List Tok) :
    OkAt (fun f => pFunc d f (qTok n :: grp A :: rest)) (20 * sizeL A + 20) (.func none n ps, rest) := by
  simp only [fnOK, Bool.and_eq_true] at hn
  obtain ⟨hfn, hnm, hsp⟩ := hn
  obtain ⟨c1, c2, c3, _, _⟩ := fnName_parts hfn
  simpa only [callNode, Option.isNone_none, Bool.true_and, Bool.false_eq_true, if_false] using
    func_ok (d := d) (qTok n :: grp A :: rest) none n A rest false false (pFuncName_plain _ n _ rest (nmOK_parts hnm).2.2.2.1 (isOkNoneS_eq hsp))
      ⟨by simp [c1], by simp [c2], by simp [c3]⟩ (callPrep_func n _ hfn) hA
theorem qualFunc_ok (s n : String) (ps : List Expr) {A : List Tok} (hn : fnOK d (some s) n = true) (hA : CommaSep (Arg d) A ps) (rest : List Tok) :
    OkAt (fun f => pFunc d f (nameTok s :: dotTok :: qTok n :: grp A :: rest)) (20 * sizeL A + 20) (.func (some s) n ps, rest) := by
  simp only [fnOK, nm2OK, Bool.and_eq_true, Bool.not_eq_true', beq_iff_eq] at hn
  obtain ⟨hfn, hnm, ⟨h2n, h2u⟩, _⟩ := hn
  obtain ⟨_, _, _, hN, _, _, _, _, un, _, _⟩ := nmOK_parts hnm
  simpa only [callNode, Option.isNone_some, Bool.false_and, Bool.false_eq_true, if_false] using
    func_ok (d := d) (nameTok s :: dotTok :: qTok n :: grp A :: rest) (some s) n A rest false false (pFuncName_qual _ _ s n _ rest hN un h2n h2u)
      ⟨by simp, by simp, by simp⟩ (callPrep_func n _ hfn) hA
theorem aggFunc_ok (n : String) (ps : List Expr) (dist : Bool) {A : List Tok} (hn : aggOK d n = true) (hA : CommaSep (Arg d) A ps) (rest : List Tok) :
    OkAt (fun f => pFunc d f (opTok n :: grp ((if dist then [opTok "DISTINCT"] else []) ++ A) :: rest)) (20 * sizeL A + 20) (.agg n ps dist, rest) := by
  simp only [aggOK, Bool.and_eq_true] at hn
  obtain ⟨⟨hagg, hnm⟩, hsp⟩ := hn
  obtain ⟨c1, c2, c3, _⟩ := agg_parts hagg
  simpa only [callNode, Option.isNone_none, Bool.true_and, if_true] using
    func_ok (d := d) (opTok n :: grp ((if dist then [opTok "DISTINCT"] else []) ++ A) :: rest) none n _ rest true dist
      (pFuncName_plain _ n _ rest (nmOK_parts hnm).2.2.2.1 (isOkNoneS_eq hsp)) ⟨by simp [c1], by simp [c2], by simp [c3]⟩
      (callPrep_agg dist hagg (args_noDistinct hA)) hA

theorem funcIdx_of {ts rest : List Tok} {e : Expr} {B : Nat} (h : OkAt (fun f => pFunc d f ts) B (e, rest))
    (hr : ∀ (b : Expr) (g : Nat), pIndex d (g + 1) b rest = .ok (b, rest)) : OkAt (fun f => pFuncIdx d f ts) (B + 1) (e, rest) := by
  intro f hf
  obtain ⟨g, rfl⟩ : ∃ g, f = g + 1 := ⟨f - 1, by omega⟩
  have := h g (by omega)
  simp only at this
  cases g with
  | zero => simp [pFunc] at this
  | succ g =>
    unfold pFuncIdx
    simp only [this, hr]
theorem pNamed_call (g : Nat) (nm : Tok) (A r1 : List Tok) (h : headIsOver r1 = false) :
    pNamed d (g + 1) nm (grp A :: r1) (nm :: grp A :: r1) = pFuncIdx d g (nm :: grp A :: r1) := by
  unfold pNamed
  simp only [grp_paren, if_true, h, Bool.false_eq_true, if_false]

theorem full2_func (n : String) (ps : List Expr) {A : List Tok} (hn : fnOK d none n = true) (hA : CommaSep (Arg d) A ps) :
    FullO d true (P2 d) 2 0 [qTok n, grp A] (.func none n ps) := by
  intro rest hr f hf
  simp only [sizeL, qTok_size, size_grp] at hf
  obtain ⟨g, rfl⟩ : ∃ g, f = g + 3 := ⟨f - 3, by omega⟩
  have hnm : nmOK d (qTok n) n = true := by simp only [fnOK, Bool.and_eq_true] at hn; exact hn.2.1
  show pUnary d (g + 1 + 2) (qTok n :: grp A :: rest) = _
  rw [pUnary_name hnm, pNamed_call _ _ _ _ (hr.2 rfl)]
  exact funcIdx_of (plainFunc_ok n ps hn hA rest) (fun b g => pIndex_stop b rest hr.1 g) g (by omega)

theorem full2_qfunc (s n : String) (ps : List Expr) {A : List Tok} (hn : fnOK d (some s) n = true) (hA : CommaSep (Arg d) A ps) :
    FullO d false (P2 d) 2 0 [nameTok s, dotTok, qTok n, grp A] (.func (some s) n ps) := by
  obtain ⟨dp, ds, _⟩ := dot_facts
  intro rest hr f hf
  simp only [sizeL, qTok_size, size_grp, Tok.size, nameTok, dotTok, opTok] at hf
  obtain ⟨g, rfl⟩ : ∃ g, f = g + 4 := ⟨f - 4, by omega⟩
  have key := funcIdx_of (qualFunc_ok s n ps hn hA rest) (fun b g => pIndex_stop b rest hr.1 g) g (by omega)
  simp only [fnOK, nm2OK, Bool.and_eq_true] at hn
  show pUnary d (g + 2 + 2) (nameTok s :: dotTok :: qTok n :: grp A :: rest) = _
  rw [pUnary_name hn.2.1]
  unfold pNamed
  simp only [dp, ds, Bool.false_eq_true, if_false, if_true]
  unfold pQualified
  simp only [hn.2.2.1.1, if_true, searchMark, grp_paren, key]

theorem full2_agg (n : String) (ps : List Expr) (dist : Bool) {A : List Tok} (hn : aggOK d n = true) (hA : CommaSep (Arg d) A ps) :
    FullO d true (P2 d) 2 0 [opTok n, grp ((if dist then [opTok "DISTINCT"] else []) ++ A)] (.agg n ps dist) := by
  intro rest hr f hf
  simp only [sizeL, size_grp, size_opTok, sizeL_append] at hf
  obtain ⟨g, rfl⟩ : ∃ g, f = g + 3 := ⟨f - 3, by omega⟩
  have hnm : nmOK d (opTok n) n = true := by simp only [aggOK, Bool.and_eq_true] at hn; exact hn.1.2
  show pUnary d (g + 1 + 2) (opTok n :: grp _ :: rest) = _
  rw [pUnary_name hnm, pNamed_call _ _ _ _ (hr.2 rfl)]
  exact funcIdx_of (aggFunc_ok n ps dist hn hA rest) (fun b g => pIndex_stop b rest hr.1 g) g (by omega)

/-! ### CASE -/
theorem case_words : (opTok "CASE").equalsStr "CASE" = true ∧ (opTok "THEN").equalsStr "THEN" = true ∧ (opTok "END").equalsStr "END" = true ∧
    (opTok "WHEN").srcEqUp "WHEN" = true ∧ (opTok "ELSE").srcEqUp "ELSE" = true ∧ (opTok "ELSE").srcEqUp "WHEN" = false ∧
    (opTok "END").srcEqUp "WHEN" = false ∧ (opTok "END").srcEqUp "ELSE" = false ∧ (opTok "CASE").has LITERAL = false ∧
    (opTok "CASE").has PAREN = false ∧ (opTok "CASE").srcEqUp "CASE" = true := by decide
theorem case_stops (o : Bool) (x : List Tok) : StopO d o 14 (opTok "WHEN" :: x) ∧ StopO d o 14 (opTok "THEN" :: x) ∧
    StopO d o 14 (opTok "ELSE" :: x) ∧ StopO d o 14 (opTok "END" :: x) := by
  have h : stopTok d 14 (opTok "WHEN") = true ∧ stopTok d 14 (opTok "THEN") = true ∧ stopTok d 14 (opTok "ELSE") = true ∧
      stopTok d 14 (opTok "END") = true := by cases d <;> decide
  exact ⟨stopO_of o x h.1 (by decide), stopO_of o x h.2.1 (by decide), stopO_of o x h.2.2.1 (by decide), stopO_of o x h.2.2.2 (by decide)⟩

inductive Arms (d : Gen.D) : List Tok → List (Expr × Expr) → Prop
  | nil : Arms d [] []
  | cons {tw tt T : List Tok} {w t : Expr} {cs : List (Expr × Expr)} : FullO d true (P14 d) 14 15 tw w → FullO d true (P14 d) 14 15 tt t →
      Arms d T cs → Arms d (opTok "WHEN" :: (tw ++ opTok "THEN" :: (tt ++ T))) ((w, t) :: cs)
inductive Else (d : Gen.D) : List Tok → Option Expr → Prop
  | none : Else d [] none
  | some {ty : List Tok} {y : Expr} : FullO d true (P14 d) 14 15 ty y → Else d (opTok "ELSE" :: ty) (some y)

/-- what follows the arms: `ELSE …` or `END` -/
structure ArmsFol (d : Gen.D) (fol : List Tok) : Prop where
  noWhen : searchStrUp fol "WHEN" = false
  stop : StopO d true 14 fol
theorem Arms.stopO {T : List Tok} {cs : List (Expr × Expr)} (h : Arms d T cs) {fol : List Tok} (hf : ArmsFol d fol) : StopO d true 14 (T ++ fol) := by
  cases h with
  | nil => exact hf.stop
  | cons => exact (case_stops true _).1
theorem Arms.run {T : List Tok} {cs : List (Expr × Expr)} (h : Arms d T cs) {fol : List Tok} (hf : ArmsFol d fol) :
    ∀ acc, OkAt (fun f => pWhens d f acc (T ++ fol)) (20 * sizeL T + 17) (acc ++ cs, fol) := by
  obtain ⟨_, kT, _, kW, _⟩ := case_words
  induction h with
  | nil =>
    intro acc f hf'
    obtain ⟨g, rfl⟩ : ∃ g, f = g + 1 := ⟨f - 1, by omega⟩
    simp [pWhens, moveStrUp, hf.noWhen]
  | @cons tw tt T w t cs hw ht hT ih =>
    intro acc f hf'
    simp only [sizeL_cons, sizeL_append, size_opTok] at hf'
    obtain ⟨g, rfl⟩ : ∃ g, f = g + 1 := ⟨f - 1, by omega⟩
    have h1 : pOr d g (tw ++ opTok "THEN" :: (tt ++ (T ++ fol))) = .ok (w, opTok "THEN" :: (tt ++ (T ++ fol))) :=
      hw _ (case_stops true _).2.1 g (by omega)
    have h2 : pOr d g (tt ++ (T ++ fol)) = .ok (t, T ++ fol) := ht _ (hT.stopO hf) g (by omega)
    have h3 := ih (acc ++ [(w, t)]) g (by omega)
    have hm : moveStrUp (opTok "WHEN" :: (tw ++ opTok "THEN" :: (tt ++ (T ++ fol)))) "WHEN" = (true, tw ++ opTok "THEN" :: (tt ++ (T ++ fol))) := by
      simp [moveStrUp, searchStrUp, kW]
    show pWhens d (g + 1) acc (opTok "WHEN" :: (tw ++ opTok "THEN" :: (tt ++ T)) ++ fol) = _
    unfold pWhens
    simp only [List.cons_append, List.append_assoc, hm, if_true, h1, matchKw, kT, h2]
    simpa using h3
theorem Else.run {E : List Tok} {els : Option Expr} (h : Else d E els) (rest : List Tok) :
    OkAt (fun f => pElseEnd d f (E ++ opTok "END" :: rest)) (20 * sizeL E + 17) (els, rest) := by
  obtain ⟨_, _, kE, _, kL, _, _, kEL, _⟩ := case_words
  intro f hf
  obtain ⟨g, rfl⟩ : ∃ g, f = g + 1 := ⟨f - 1, by omega⟩
  cases h with
  | none =>
    have : searchStrUp (opTok "END" :: rest) "ELSE" = false := by simpa [searchStrUp] using kEL
    simp [pElseEnd, this, matchKw, kE]
  | @some ty y hy =>
    simp only [sizeL_cons, size_opTok] at hf
    have hs : searchStrUp (opTok "ELSE" :: (ty ++ opTok "END" :: rest)) "ELSE" = true := by simpa [searchStrUp] using kL
    have h1 : pOr d g (ty ++ opTok "END" :: rest) = .ok (y, opTok "END" :: rest) := hy _ (case_stops true _).2.2.2 g (by omega)
    show pElseEnd d (g + 1) (opTok "ELSE" :: ty ++ opTok "END" :: rest) = _
    unfold pElseEnd
    simp [hs, h1, matchKw, kE]
theorem Else.fol {E : List Tok} {els : Option Expr} (h : Else d E els) (rest : List Tok) : ArmsFol d (E ++ opTok "END" :: rest) := by
  obtain ⟨_, _, _, _, _, kLW, kEW, _⟩ := case_words
  cases h with
  | none => exact ⟨by simpa [searchStrUp] using kEW, (case_stops true _).2.2.2⟩
  | some => exact ⟨by simpa [searchStrUp] using kLW, (case_stops true _).2.2.1⟩

theorem pUnary_case (g : Nat) (r : List Tok) : pUnary d (g + 2) (opTok "CASE" :: r) = pCase d g (opTok "CASE" :: r) := by
  obtain ⟨_, _, _, _, _, _, _, _, cL, cP, cC⟩ := case_words
  have cU : (Gen.unarySet d).contains (opTok "CASE").src = false := by cases d <;> decide
  unfold pUnary
  simp only [cU, Bool.false_eq_true, if_false]
  unfold pElement
  simp only [cL, cP, cC, Bool.false_eq_true, if_false, if_true]

theorem full2_caseCond {T E : List Tok} {cs : List (Expr × Expr)} {els : Option Expr} (hne : cs ≠ []) (hcs : Arms d T cs) (hels : Else d E els) :
    FullO d false (P2 d) 2 0 (opTok "CASE" :: (T ++ (E ++ [opTok "END"]))) (.caseCond cs els) := by
  obtain ⟨kC, _, _, kW, _⟩ := case_words
  intro rest hr f hf
  simp only [sizeL_append, size_opTok, sizeL] at hf
  obtain ⟨g, rfl⟩ : ∃ g, f = g + 3 := ⟨f - 3, by omega⟩
  have h1 := hcs.run (hels.fol rest) [] g (by omega)
  have h2 := hels.run rest g (by omega)
  simp only [List.nil_append] at h1 h2
  have hW : searchStrUp (T ++ (E ++ opTok "END" :: rest)) "WHEN" = true := by
    cases hcs with
    | nil => exact absurd rfl hne
    | cons => simpa [searchStrUp] using kW
  show pUnary d (g + 1 + 2) (opTok "CASE" :: (T ++ (E ++ [opTok "END"])) ++ rest) = _
  simp only [List.cons_append, List.append_assoc, List.nil_append, pUnary_case]
  unfold pCase
  simp only [matchKw, kC, if_true, hW, h1, h2]

theorem full2_caseVal {tv T E : List Tok} {v : Expr} {cs : List (Expr × Expr)} {els : Option Expr} (hv : Arg d tv v) (hcs : Arms d T cs)
    (hels : Else d E els) : FullO d false (P2 d) 2 0 (opTok "CASE" :: (tv ++ (T ++ (E ++ [opTok "END"])))) (.caseVal v cs els) := by
  have kC := case_words.1
  intro rest hr f hf
  simp only [sizeL_append, size_opTok, sizeL] at hf
  obtain ⟨g, rfl⟩ : ∃ g, f = g + 3 := ⟨f - 3, by omega⟩
  have h0 : pOr d g (tv ++ (T ++ (E ++ opTok "END" :: rest))) = .ok (v, T ++ (E ++ opTok "END" :: rest)) :=
    hv.full _ (hcs.stopO (hels.fol rest)) g (by omega)
  have h1 := hcs.run (hels.fol rest) [] g (by omega)
  have h2 := hels.run rest g (by omega)
  simp only [List.nil_append] at h1 h2
  show pUnary d (g + 1 + 2) (opTok "CASE" :: (tv ++ (T ++ (E ++ [opTok "END"]))) ++ rest) = _
  simp only [List.cons_append, List.append_assoc, List.nil_append, pUnary_case]
  unfold pCase
  simp only [matchKw, kC, if_true, (hv.hd.words _).2.1, Bool.false_eq_true, if_false, h0, h1, h2]

/-! ### `[NOT] IN ( … )` -/
/-- `25`: what the dearer of the two bodies asks (`split_run`: 24, one step into `pInBody`); `27`: two more steps, `pKwRest` and
`pKwBody`; the tokens `[NOT] IN (` pay for them -/
theorem cont9_inBody (n0 : Bool) (l r : Expr) {tl G : List Tok} (hl : ContO d ol (P9 d) (kwLoop d) 8 4 tl l)
    (hbody : ∀ isNot rest, OkAt (fun f => pInBody d f isNot l (grp G :: rest)) (20 * sizeL G + 25) (some (.kw .in_ isNot l r, rest))) :
    ContO d false (P9 d) (kwLoop d) 8 4 (tl ++ (kwToks .in_ n0 ++ [grp G])) (.kw .in_ n0 l r) := by
  intro rest h8 n res hloop
  obtain ⟨hu, s1, s2⟩ := in_words
  have body : ∀ isNot, OkAt (fun f => kwLoop d f (.kw .in_ isNot l r) rest) n res →
      OkAt (fun f => pKwRest d f l isNot (opTok "IN" :: grp G :: rest)) (n + 20 * sizeL G + 27) res := by
    intro isNot hlp f hf
    obtain ⟨g, rfl⟩ : ∃ g, f = g + 3 := ⟨f - 3, by omega⟩
    have h1 := hbody isNot rest (g + 1) (by omega)
    have ht := kw_tail (.kw .in_ isNot l r) rest h8.1 n res hlp (g + 2) (by omega)
    simp only at h1
    unfold pKwRest
    simp only []
    unfold pKwBody
    simp only [hu, h1]
    simpa using ht
  have key : OkAt (fun f => kwLoop d f l (kwToks .in_ n0 ++ (grp G :: rest))) (n + 20 * sizeL G + 27) res := by
    unfold kwLoop
    cases n0 <;> simp only [kwToks, List.cons_append, List.nil_append, skipNot_of _ notSet_IN, skipNot_NOT, Bool.false_eq_true, if_false, if_true] <;>
      exact body _ hloop
  have hstop : StopO d ol 8 (kwToks .in_ n0 ++ (grp G :: rest)) := by
    have hi : stopTok d 8 (opTok "IN") = true := by cases d <;> decide
    cases n0
    · exact stopO_of ol _ hi (by decide)
    · exact stopO_of ol _ stop8_kw.2.1 (by decide)
  have := hl _ hstop _ res key
  simp only [List.append_assoc, List.cons_append, List.nil_append]
  refine this.mono ?_
  cases n0 <;> simp only [kwToks, sizeL_append, size_grp, s1, s2, sizeL, Bool.false_eq_true, if_false, if_true] <;> omega

/-- the comma splitter cuts at top-level commas and spends one unit of fuel per token of a segment before the value is parsed, which
`20 * tokens` covers for short segments only (`len`) -/
structure Val (d : Gen.D) (tv : List Tok) (v : Expr) : Prop where
  full : FullO d true (P8 d) 8 2 tv v
  hd : Hd tv
  nocomma : NoComma tv
  len : tv.length ≤ 20
theorem Val.closed {tv : List Tok} {v : Expr} (h : Val d tv v) : OkAt (fun f => pCompute d f tv) (20 * sizeL tv + 2) (v, []) := by
  simpa using h.full [] (stopO_nil true 8)
theorem Val.pos {tv : List Tok} {v : Expr} (h : Val d tv v) : tv ≠ [] ∧ 1 ≤ sizeL tv := by
  obtain ⟨t, ts', rfl, _⟩ := h.hd
  exact ⟨by simp, by rw [sizeL_cons]; have := tok_size_pos t; omega⟩

theorem split_seg : ∀ (seg : List Tok), NoComma seg → ∀ (f : Nat) (acc : List Expr) (cur rest' : List Tok),
    pSplit d (f + seg.length) acc cur (seg ++ rest') = pSplit d f acc (cur ++ seg) rest' := by
  intro seg
  induction seg with
  | nil => intro _ f acc cur rest'; simp
  | cons t seg ih =>
    intro hnc f acc cur rest'
    have ht := hnc t (by simp)
    have := ih (fun x hx => hnc x (by simp [hx])) f acc (cur ++ [t]) rest'
    simp only [List.length_cons, List.cons_append]
    rw [show f + (seg.length + 1) = (f + seg.length) + 1 by omega]
    conv => lhs; unfold pSplit
    simp only [ht, Bool.false_eq_true, if_false, this, List.append_assoc, List.singleton_append]
theorem splitTail_run (tk : Expr → List Tok) : ∀ (as : List Expr), (∀ a ∈ as, Val d (tk a) a) →
    ∀ (acc : List Expr) (cur : List Tok) (e : Expr) (c : Nat), cur ≠ [] → OkAt (fun f => pCompute d f cur) c (e, []) →
    ∀ f, c + 1 ≤ f → 20 * sizeL (commaTail tk as) + 4 ≤ f → pSplit d f acc cur (commaTail tk as) = .ok (acc ++ [e] ++ as) := by
  intro as
  induction as with
  | nil =>
    intro _ acc cur e c hne hc f h1 _
    obtain ⟨g, rfl⟩ : ∃ g, f = g + 1 := ⟨f - 1, by omega⟩
    have he : cur.isEmpty = false := by cases cur <;> simp_all
    have := hc g (by omega)
    unfold pSplit
    simp_all [commaTail]
  | cons a as ih =>
    intro has acc cur e c hne hc f h1 h2
    have ha := has a (by simp)
    simp only [commaTail, sizeL_cons, sizeL_append, TS.size_commaTok] at h2
    obtain ⟨g, rfl⟩ : ∃ g, f = g + 1 := ⟨f - 1, by omega⟩
    have he : cur.isEmpty = false := by cases cur <;> simp_all
    have hlen := ha.len
    obtain ⟨hne', hpos⟩ := ha.pos
    -- the segment of `a` costs one unit per token (at most 20) before `a` is parsed with what is left
    have hrec := ih (fun a' ha' => has a' (by simp [ha'])) (acc ++ [e]) (tk a) a _ hne' ha.closed (g - (tk a).length) (by omega) (by omega)
    have hseg := split_seg (d := d) (tk a) ha.nocomma (g - (tk a).length) (acc ++ [e]) [] (commaTail tk as)
    rw [show g - (tk a).length + (tk a).length = g by omega] at hseg
    have hc' := hc g (by omega)
    have hk : TS.commaTok.equalsStr "," = true := by decide
    simp only at hc'
    show pSplit d (g + 1) acc cur (commaTail tk (a :: as)) = _
    conv => lhs; unfold pSplit
    simp only [commaTail, hk, if_true, he, Bool.false_eq_true, if_false, hc']
    simp only [List.nil_append] at hseg hrec
    rw [hseg, hrec]
    simp
/-- `24`: the at most 20 tokens of the first value, one unit each, and the `4` that `splitTail_run` asks in front of the rest -/
theorem split_run {V : List Tok} {v : Expr} {as : List Expr} (h : CommaSep (Val d) V (v :: as)) :
    OkAt (fun f => pSplit d f [] [] V) (20 * sizeL V + 24) (v :: as) := by
  obtain ⟨tk, rfl, h⟩ := h
  have hv := h v (by simp)
  intro f hf
  simp only [commaList, sizeL_append] at hf
  have hlen := hv.len
  obtain ⟨hne, hpos⟩ := hv.pos
  have hrec := splitTail_run tk as (fun a ha => h a (by simp [ha])) [] (tk v) v _ hne hv.closed (f - (tk v).length) (by omega) (by omega)
  have hseg := split_seg (d := d) (tk v) hv.nocomma (f - (tk v).length) [] [] (commaTail tk as)
  rw [show f - (tk v).length + (tk v).length = f by omega] at hseg
  simp only [List.nil_append] at hseg hrec
  show pSplit d f [] [] (tk v ++ commaTail tk as) = _
  rw [hseg, hrec]
  simp

theorem cont9_in (n0 : Bool) (l : Expr) {tl V : List Tok} {v : Expr} {as : List Expr} (hl : ContO d ol (P9 d) (kwLoop d) 8 4 tl l)
    (hV : CommaSep (Val d) V (v :: as)) :
    ContO d false (P9 d) (kwLoop d) 8 4 (tl ++ (kwToks .in_ n0 ++ [grp V])) (.kw .in_ n0 l (.subValue (v :: as))) := by
  refine cont9_inBody n0 l _ hl fun isNot rest f hf => ?_
  obtain ⟨g, rfl⟩ : ∃ g, f = g + 1 := ⟨f - 1, by omega⟩
  have h1 := split_run hV g (by omega)
  have hss : startsSelect V = false := by
    obtain ⟨tk, rfl, h⟩ := hV
    exact ((h v (by simp)).hd.words _).1
  simp only at h1
  unfold pInBody
  simp only [children_grp, hss, Bool.false_eq_true, if_false, h1]

/-! ### bracketed queries -/
/-- `9`: the offset at which `TC.stmt_core` (MsqProofs/Lemmas/TCoreSelect.lean) concludes -/
structure SubQ (d : Gen.D) (Q : List Tok) (q : Query) : Prop where
  starts : startsSelect Q = true
  parse : OkAt (fun f => pSelectStmt d f none Q) (20 * sizeL Q + 9) (q, [])
theorem subq_ok {Q : List Tok} {q : Query} (h : SubQ d Q q) (rest : List Tok) :
    OkAt (fun f => pSubQuery d f (grp Q :: rest)) (20 * sizeL Q + 10) (.subQuery q, rest) := by
  intro f hf
  obtain ⟨g, rfl⟩ : ∃ g, f = g + 1 := ⟨f - 1, by omega⟩
  have := h.parse g (by omega)
  simp only at this
  unfold pSubQuery
  simp only [children_grp, this, closed]
theorem full2_subq {Q : List Tok} {q : Query} (h : SubQ d Q q) : FullO d false (P2 d) 2 0 [grp Q] (.subQuery q) := by
  intro rest hr f hf
  simp only [sizeL, size_grp] at hf
  obtain ⟨g, rfl⟩ : ∃ g, f = g + 3 := ⟨f - 3, by omega⟩
  have he := grp_elemTok d Q
  simp only [elemTok, Bool.and_eq_true, Bool.not_eq_true'] at he
  have h1 := subq_ok h rest g (by omega)
  show pUnary d (g + 3) (grp Q :: rest) = _
  unfold pUnary
  simp only [he.2, Bool.false_eq_true, if_false]
  unfold pElement
  simp only [grp_literal, grp_paren, Bool.false_eq_true, if_false, if_true]
  unfold pParen
  simp only [children_grp, h.starts, if_true, h1]
theorem cont9_exists {Q : List Tok} {q : Query} (h : SubQ d Q q) :
    ContO d false (P9 d) (kwLoop d) 8 4 [opTok "EXISTS", grp Q] (.exists_ (.subQuery q)) := by
  have kE := exists_words.1
  intro rest h8 n res hloop f hf
  simp only [sizeL, size_grp, size_opTok] at hf
  obtain ⟨g, rfl⟩ : ∃ g, f = g + 1 := ⟨f - 1, by omega⟩
  have h1 := subq_ok h rest g (by omega)
  have ht := kw_tail (.exists_ (.subQuery q)) rest h8.1 n res hloop g (by omega)
  have hs : searchStrUp (opTok "EXISTS" :: grp Q :: rest) "EXISTS" = true := by simpa [searchStrUp] using kE
  show pKeyword d (g + 1) none ([opTok "EXISTS", grp Q] ++ rest) = _
  unfold pKeyword
  simp only [List.cons_append, List.nil_append, Option.isNone_none, Bool.true_and, hs, if_true, List.drop_succ_cons, List.drop_zero, h1]
  simpa using ht
theorem cont9_inq (n0 : Bool) (l : Expr) {tl Q : List Tok} {q : Query} (hl : ContO d ol (P9 d) (kwLoop d) 8 4 tl l) (h : SubQ d Q q) :
    ContO d false (P9 d) (kwLoop d) 8 4 (tl ++ (kwToks .in_ n0 ++ [grp Q])) (.kw .in_ n0 l (.subQuery q)) := by
  refine cont9_inBody n0 l _ hl fun isNot rest f hf => ?_
  obtain ⟨g, rfl⟩ : ∃ g, f = g + 1 := ⟨f - 1, by omega⟩
  have h1 := subq_ok h rest g (by omega)
  simp only at h1
  unfold pInBody
  simp only [children_grp, h.starts, if_true, h1]

end TC
