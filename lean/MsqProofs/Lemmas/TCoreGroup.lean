import MsqProofs.Lemmas.TCoreClause
/-!
# T-parse: GROUP BY over an arbitrary rendering of the keys (C03 / C01)

`GROUP BY keys [GROUPING SETS (…)] [WITH CUBE] [WITH ROLLUP]` over a renderer `w` of a key at the compute level (`Key8`: read back at level
8 in front of the class `StopO d o 8`, not empty); the elements of a grouping set are found again by `split_by(",")`, which inverts the
comma-separated rendering of segments without a top-level comma (`splitBy_commaList`).
-/
open Lex PM Ast TP
namespace TC
open TS (commaTok size_commaTok)
variable {d : Gen.D}

/-! ### `split_by(",")` on a comma-separated rendering -/
theorem splitBy_run (sep : String) : ∀ (seg : List Tok), (∀ t ∈ seg, t.equalsStr sep = false) → ∀ (rest cur : List Tok) (acc : List (List Tok)),
    splitBy sep (seg ++ rest) cur acc = splitBy sep rest (cur ++ seg) acc := by
  intro seg
  induction seg with
  | nil => intro _ rest cur acc; simp
  | cons t seg ih =>
    intro h rest cur acc
    simp only [List.cons_append, splitBy, h t (by simp), Bool.false_eq_true, if_false]
    rw [ih (fun x hx => h x (by simp [hx]))]
    simp
def Seg (s : List Tok) : Prop := s ≠ [] ∧ ∀ t ∈ s, t.equalsStr "," = false
theorem splitBy_commaTail {α : Type} (tk : α → List Tok) : ∀ (xs : List α), (∀ x ∈ xs, Seg (tk x)) → ∀ (cur : List Tok), cur ≠ [] →
    ∀ (acc : List (List Tok)), splitBy "," (commaTail tk xs) cur acc = acc ++ cur :: xs.map tk := by
  intro xs
  induction xs with
  | nil => intro _ cur hc acc; cases cur with | nil => exact absurd rfl hc | cons _ _ => simp [commaTail, splitBy]
  | cons x r ih =>
    intro hs cur hc acc
    have hce : cur.isEmpty = false := by cases cur with | nil => exact absurd rfl hc | cons _ _ => rfl
    have hx := hs x (by simp)
    have hk : commaTok.equalsStr "," = true := by decide
    simp only [commaTail, splitBy, hk, if_true, hce, Bool.false_eq_true, if_false]
    rw [splitBy_run "," (tk x) hx.2, List.nil_append, ih (fun y hy => hs y (by simp [hy])) (tk x) hx.1]
    simp
theorem splitBy_commaList {α : Type} (tk : α → List Tok) (xs : List α) (hs : ∀ x ∈ xs, Seg (tk x)) (acc : List (List Tok)) :
    splitBy "," (commaList tk xs) [] acc = acc ++ xs.map tk := by
  cases xs with
  | nil => simp [commaList, splitBy]
  | cons x r =>
    have hx := hs x (by simp)
    simp only [commaList]
    rw [splitBy_run "," (tk x) hx.2, List.nil_append, splitBy_commaTail tk r (fun y hy => hs y (by simp [hy])) (tk x) hx.1]
    simp
theorem eachClosed_map {α β : Type} (p : List Tok → R α) (tk : β → List Tok) (vl : β → α) :
    ∀ xs : List β, (∀ x ∈ xs, p (tk x) = .ok (vl x, [])) → eachClosed p (xs.map tk) = .ok (xs.map vl) := by
  intro xs
  induction xs with
  | nil => intro _; rfl
  | cons x r ih =>
    intro h
    have h1 := h x (by simp)
    have h2 := ih (fun y hy => h y (by simp [hy]))
    simp only [List.map_cons, eachClosed, h1, closed, h2]

theorem segLoop_ok {α β : Type} {item : Nat → List Tok → Except Err β} {loop : Nat → List β → List (List Tok) → Except Err (List β)}
    (hnil : ∀ f acc, loop (f + 1) acc [] = .ok acc)
    (hcons : ∀ f acc s r x, item f s = .ok x → loop (f + 1) acc (s :: r) = loop f (acc ++ [x]) r)
    (tk : α → List Tok) (val : α → β) (c : Nat) : ∀ (xs : List α), (∀ x ∈ xs, OkAt (fun f => item f (tk x)) (20 * sizeL (tk x) + c) (val x)) →
    ∀ acc, OkAt (fun f => loop f acc (xs.map tk)) (20 * sizeL (commaTail tk xs) + (c + 1)) (acc ++ xs.map val) := by
  intro xs
  induction xs with
  | nil => intro _ acc; exact OkAt.of_add 1 (by omega) fun g _ => by simpa using hnil g acc
  | cons x xs ih =>
    intro hx acc
    refine OkAt.of_add 1 (by omega) fun g hg => ?_
    simp only [commaTail, sizeL_cons, sizeL_append, size_commaTok] at hg
    have h1 := hx x (by simp) g (by omega)
    have h2 := ih (fun y hy => hx y (by simp [hy])) (acc ++ [val x]) g (by omega)
    simp only [List.map_cons]
    rw [hcons g acc _ _ _ h1]
    simpa using h2

structure Key8 (d : Gen.D) (o : Bool) (w : Expr → List Tok) (e : Expr) : Prop where
  s8 : FullO d o (P8 d) 8 2 (w e) e
  ne : w e ≠ []
def headIsGrp (ts : List Tok) : Bool := match ts with | t :: _ => t.has PAREN | [] => false
/-- one grouping set: a single element bare unless its rendering starts with a bracket (then one more bracket), otherwise `(e₁, …, eₙ)` -/
def toksSet (w : Expr → List Tok) : List Expr → List Tok
  | [e] => if headIsGrp (w e) then [grp (w e)] else w e
  | g => [grp (commaList w g)]
def toksSetsOpt (w : Expr → List Tok) : Option (List (List Expr)) → List Tok
  | none => []
  | some l => [opTok "GROUPING", opTok "SETS", grp (commaList (toksSet w) l)]
def cubeT (b : Bool) : List Tok := if b then [opTok "WITH", opTok "CUBE"] else []
def rollT (b : Bool) : List Tok := if b then [opTok "WITH", opTok "ROLLUP"] else []
def toksGroup (w : Expr → List Tok) : Option GroupBy → List Tok
  | some (.mk cols sets cube rollup) => opTok "GROUP" :: opTok "BY" :: (commaList w cols ++ (toksSetsOpt w sets ++ (cubeT cube ++ rollT rollup)))
  | none => []

section
variable {o : Bool} {w : Expr → List Tok}
theorem key8_closed {e : Expr} (he : Key8 d o w e) : OkAt (fun f => closed (pCompute d f (w e))) (20 * sizeL (w e) + 2) e := by
  intro f hf
  have := he.s8 [] (stopO_nil o 8) f hf
  simp only [List.append_nil] at this
  simp only [this, closed]
theorem closedEach_ok (es : List Expr) (hes : ∀ e ∈ es, Key8 d o w e) (acc : List Expr) :
    OkAt (fun f => pClosedEach d f acc (es.map w)) (20 * sizeL (commaTail w es) + 3) (acc ++ es) := by
  simpa using segLoop_ok (item := fun f s => closed (pCompute d f s)) (loop := pClosedEach d) (fun _ _ => by simp [pClosedEach])
    (fun _ _ _ _ _ h => by rw [pClosedEach]; simp only [h]) w id 2 es (fun e he => key8_closed (hes e he)) acc
theorem toksSet_cases (g : List Expr) : toksSet w g = [grp (commaList w g)] ∨ ∃ e, g = [e] ∧ toksSet w g = w e ∧ headIsGrp (w e) = false := by
  rcases g with _ | ⟨e, _ | ⟨e2, es⟩⟩
  · exact Or.inl rfl
  · cases h : headIsGrp (w e) with
    | true => left; simp only [toksSet, h, if_true, commaList, commaTail, List.append_nil]
    | false => right; exact ⟨e, rfl, by simp only [toksSet, h, Bool.false_eq_true, if_false], h⟩
  · exact Or.inl rfl
theorem groupElem_ok (g : List Expr) (hg : ∀ e ∈ g, Key8 d o w e) (hnc : ∀ e ∈ g, ∀ t ∈ w e, t.equalsStr "," = false) :
    OkAt (fun f => pGroupingElem d f (toksSet w g)) (20 * sizeL (toksSet w g) + 5) g ∧ Seg (toksSet w g) := by
  rcases toksSet_cases (w := w) g with h | ⟨e, rfl, h, hh⟩
  · rw [h]
    refine ⟨OkAt.of_add 1 (by omega) fun f hf => ?_, by simp, fun t ht => by simp at ht; subst ht; rfl⟩
    simp only [sizeL, size_grp] at hf
    have hsp : splitBy "," (commaList w g) [] [] = g.map w := by simpa using splitBy_commaList w g (fun e he => ⟨(hg e he).ne, hnc e he⟩) []
    have h2 := closedEach_ok g hg [] f (by have := sizeL_commaTail_le w g; omega)
    rw [pGroupingElem]
    simp only [grp_paren, if_true, children_grp, hsp, h2, List.nil_append, List.isEmpty_nil]
  · rw [h]
    have he := hg e (by simp)
    refine ⟨OkAt.of_add 1 (by omega) fun f hf => ?_, he.ne, hnc e (by simp)⟩
    have h1 := key8_closed he f (by omega)
    simp only at h1
    obtain ⟨t, ts', hw⟩ := List.exists_cons_of_ne_nil he.ne
    rw [hw] at hh h1 ⊢
    simp only [headIsGrp] at hh
    rw [pGroupingElem]
    simp only [hh, Bool.false_eq_true, if_false, h1]
theorem groupElems_ok (l : List (List Expr)) (hl : ∀ g ∈ l, ∀ e ∈ g, Key8 d o w e) (hnc : ∀ g ∈ l, ∀ e ∈ g, ∀ t ∈ w e, t.equalsStr "," = false)
    (acc : List (List Expr)) :
    OkAt (fun f => pGroupingElems d f acc (l.map (toksSet w))) (20 * sizeL (commaTail (toksSet w) l) + 6) (acc ++ l) := by
  simpa using segLoop_ok (item := pGroupingElem d) (loop := pGroupingElems d) (fun _ _ => by simp [pGroupingElems])
    (fun _ _ _ _ _ h => by rw [pGroupingElems]; simp only [h]) (toksSet w) id 5 l (fun g hg => (groupElem_ok g (hl g hg) (hnc g hg)).1) acc

structure GFol (d : Gen.D) (o : Bool) (fol : List Tok) : Prop where
  stop8 : StopO d o 8 fol
  comma : searchStr fol "," = false
  gb : searchTwoUp fol "GROUP" "BY" = false
  gs : searchTwoUp fol "GROUPING" "SETS" = false
  wc : searchTwoUp fol "WITH" "CUBE" = false
  wr : searchTwoUp fol "WITH" "ROLLUP" = false
-- the last two: `pGroupCols` looks for `GROUPING SETS` before it reads a key and returns no key if it finds them — no key is printed only
-- in front of the sets, and the first key does not start with the word `GROUPING`
def GroupOK (d : Gen.D) (o : Bool) (w : Expr → List Tok) : Option GroupBy → Prop
  | none => True
  | some (.mk cols sets _ _) => (∀ e ∈ cols, Key8 d o w e) ∧ (∀ g ∈ sets.getD [], ∀ e ∈ g, Key8 d o w e) ∧
      (∀ g ∈ sets.getD [], ∀ e ∈ g, ∀ t ∈ w e, t.equalsStr "," = false) ∧ (cols = [] → sets.isSome = true) ∧
      (∀ e es, cols = e :: es → searchStrUp (w e) "GROUPING" = false)
theorem group_words : (opTok "WITH").srcEqUp "WITH" = true ∧ (opTok "CUBE").srcEqUp "CUBE" = true ∧ (opTok "ROLLUP").srcEqUp "ROLLUP" = true ∧
    (opTok "ROLLUP").srcEqUp "CUBE" = false ∧ (opTok "WITH").srcEqUp "GROUPING" = false ∧ (opTok "GROUPING").srcEqUp "GROUPING" = true ∧
    (opTok "SETS").srcEqUp "SETS" = true ∧ (opTok "WITH").srcEq "," = false ∧ (opTok "GROUPING").srcEq "," = false ∧
    (opTok "GROUPING").equalsStr "GROUPING" = true ∧ (opTok "SETS").equalsStr "SETS" = true ∧ (opTok "GROUP").srcEqUp "GROUP" = true ∧
    (opTok "BY").srcEqUp "BY" = true := by decide
theorem group_tail (sets : Option (List (List Expr))) (cube rollup : Bool) (fol : List Tok) (hf : GFol d o fol) :
    StopO d o 8 (toksSetsOpt w sets ++ (cubeT cube ++ (rollT rollup ++ fol))) ∧
    searchStr (toksSetsOpt w sets ++ (cubeT cube ++ (rollT rollup ++ fol))) "," = false ∧
    searchTwoUp (toksSetsOpt w sets ++ (cubeT cube ++ (rollT rollup ++ fol))) "GROUPING" "SETS" = sets.isSome ∧
    moveTwoUp (cubeT cube ++ (rollT rollup ++ fol)) "WITH" "CUBE" = (cube, rollT rollup ++ fol) ∧
    moveTwoUp (rollT rollup ++ fol) "WITH" "ROLLUP" = (rollup, fol) := by
  obtain ⟨k1, k2, k3, k4, k5, k6, k7, k8, k9, _⟩ := group_words
  have h : stopTok d 8 (opTok "WITH") = true ∧ stopTok d 8 (opTok "GROUPING") = true := by cases d <;> decide
  refine ⟨?_, ?_⟩
  · cases sets <;> cases cube <;> cases rollup <;>
      first | exact hf.stop8 | exact stopO_of o _ h.1 (by decide) | exact stopO_of o _ h.2 (by decide)
  · cases sets <;> cases cube <;> cases rollup <;>
      simp [toksSetsOpt, cubeT, rollT, moveTwoUp, searchTwoUp_pair, search_cons, k1, k2, k3, k4, k5, k6, k7, k8, k9, hf.comma, hf.gs, hf.wc, hf.wr]
theorem groupBy (gb : Option GroupBy) (hg : GroupOK d o w gb) (fol : List Tok) (hf : GFol d o fol) :
    OkAt (fun f => pGroupBy d f (toksGroup w gb ++ fol)) (20 * sizeL (toksGroup w gb) + 6) (gb, fol) := by
  obtain ⟨_, _, _, _, _, _, _, _, _, k10, k11, k12, k13⟩ := group_words
  cases gb with
  | none => exact OkAt.of_add 1 (by omega) fun g _ => by simp [toksGroup, pGroupBy, hf.gb]
  | some gbv =>
    obtain ⟨cols, sets, cube, rollup⟩ := gbv
    obtain ⟨hcols, hsets, hsnc, hne, hnog⟩ := hg
    obtain ⟨t8, tc, tg, tmc, tmr⟩ := group_tail (w := w) sets cube rollup fol hf
    refine OkAt.of_add 3 (by omega) fun g hg => ?_
    simp only [toksGroup, sizeL_cons, sizeL_append, size_opTok] at hg
    have hcolsP : pGroupCols d (g + 2) (commaList w cols ++ (toksSetsOpt w sets ++ (cubeT cube ++ (rollT rollup ++ fol)))) =
        .ok (cols, toksSetsOpt w sets ++ (cubeT cube ++ (rollT rollup ++ fol))) := by
      cases cols with
      | nil =>
        rw [pGroupCols]
        simp [commaList, tg, hne rfl]
      | cons e es =>
        have he := hcols e (by simp)
        have hng : searchTwoUp (w e ++ (commaTail w es ++ (toksSetsOpt w sets ++ (cubeT cube ++ (rollT rollup ++ fol))))) "GROUPING" "SETS" = false := by
          have hno := hnog e es rfl
          obtain ⟨t, ts', hw⟩ := List.exists_cons_of_ne_nil he.ne
          rw [hw] at hno ⊢
          have : t.srcEqUp "GROUPING" = false := hno
          cases hx : ts' ++ (commaTail w es ++ (toksSetsOpt w sets ++ (cubeT cube ++ (rollT rollup ++ fol)))) with
          | nil => simp [searchTwoUp, hx]
          | cons y r => simp [searchTwoUp, hx, this]
        have h1 : pCompute d (g + 1) (w e ++ (commaTail w es ++ (toksSetsOpt w sets ++ (cubeT cube ++ (rollT rollup ++ fol))))) = .ok (e, _) :=
          he.s8 _ (tail_of (C := StopO d o 8) (comma_stopO o (by omega)) (commaTail_shape w es) t8) (g + 1)
            (by simp only [commaList, sizeL_append] at hg; omega)
        have h2 := computeList (C := StopO d o 8) (comma_stopO o (by omega)) _ t8 tc w es
          (fun x hx => (hcols x (by simp [hx])).s8) [e] (g + 1) (by simp only [commaList, sizeL_append] at hg; omega)
        rw [pGroupCols]
        simp only [commaList, List.append_assoc, hng, Bool.false_eq_true, if_false, h1]
        simpa using h2
    have hsetsP : pGroupSetsOpt d (g + 2) (toksSetsOpt w sets ++ (cubeT cube ++ (rollT rollup ++ fol))) = .ok (sets, cubeT cube ++ (rollT rollup ++ fol)) := by
      cases sets with
      | none =>
        rw [pGroupSetsOpt]
        simp only [toksSetsOpt, List.nil_append] at tg ⊢
        simp [tg]
      | some l =>
        have hsp : splitBy "," (commaList (toksSet w) l) [] [] = l.map (toksSet w) := by
          simpa using splitBy_commaList (toksSet w) l (fun g0 hg0 => (groupElem_ok g0 (hsets g0 hg0) (hsnc g0 hg0)).2) []
        have h2 := groupElems_ok l hsets hsnc [] g (by
          have := sizeL_commaTail_le (toksSet w) l
          simp only [toksSetsOpt, sizeL_cons, size_opTok, size_grp, sizeL] at hg
          omega)
        rw [pGroupSetsOpt]
        simp only [tg, Option.isSome_some, if_true]
        rw [pGroupingSets]
        simp only [toksSetsOpt, List.cons_append, List.nil_append, matchSeq, k10, k11, if_true, children_grp, hsp, h2]
    rw [pGroupBy]
    simp only [toksGroup, List.cons_append, List.append_assoc, searchTwoUp_pair, k12, k13, Bool.and_self, Bool.not_true, Bool.false_eq_true, if_false,
      List.drop_succ_cons, List.drop_zero, hcolsP, hsetsP, tmc, tmr]
end

end TC
