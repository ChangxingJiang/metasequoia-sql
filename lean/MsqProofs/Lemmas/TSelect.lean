import MsqProofs.Lemmas.TCoreGroup
/-!
# T-parse for the SELECT skeleton: one lemma per clause parser (C03 / C01)

Every lemma has the shape `OkAt (fun f => parser d f (clause tokens ++ fol)) bound (value, fol)` for every continuation `fol` that may
follow the clause (`Bd d k fol`, or what the list tails need: `,`).  Expression positions use `C02.tparse` (unwrapped) or the level
tower at bound 8 (`GROUP BY` / `ORDER BY` keys).  Apart from the token facts, the lemmas are the instances, at the printer `toksS`, of
those of MsqProofs/Lemmas/TCoreClause.lean and TCoreGroup.lean; `fromTables` has a bound in the LENGTH of the list (a table is one name
token), which `TC.commaLoop_ok` takes as a parameter.
-/
open Lex PM Ast TP
open TC (commaTail commaTail_shape commaLoop_ok tail_of)

namespace TS
variable {d : Gen.D}

theorem bd_parts {k : Nat} {t : Tok} (h : bdTok d k t = true) :
    stopTok d 14 t = true ∧ (t.has NAME = false ∨ up t.src = "CROSS") ∧ t.has PAREN = false ∧ k < rank (up t.src) := by
  simp only [bdTok, Bool.and_eq_true, Bool.or_eq_true, Bool.not_eq_true', beq_iff_eq, decide_eq_true_eq] at h
  exact ⟨h.1.1.1, h.1.1.2, h.1.2, h.2⟩
theorem bd_mono {k k' : Nat} {rest : List Tok} (h : Bd d k rest = true) (hk : k' ≤ k) : Bd d k' rest = true := by
  cases rest with
  | nil => rfl
  | cons t r =>
    simp only [Bd, bdTok, Bool.and_eq_true, decide_eq_true_eq] at h ⊢
    exact ⟨h.1, by omega⟩
theorem bd_stops {k : Nat} {rest : List Tok} (h : Bd d k rest = true) : stops d rest = true := by
  cases rest with
  | nil => rfl
  | cons t r => exact (bd_parts h).1
theorem bd_rank {k : Nat} {rest : List Tok} (h : Bd d k rest = true) : ∀ t r, rest = t :: r → k < rank (up t.src) := by
  rintro t r rfl; exact (bd_parts h).2.2.2
theorem bd_search {k : Nat} {rest : List Tok} (h : Bd d k rest = true) (w : String) (hw : rank w ≤ k := by decide) :
    searchStrUp rest w = false := TC.rank_search (bd_rank h) w hw
theorem bd_search2 {k : Nat} {rest : List Tok} (h : Bd d k rest = true) (a b : String) (hw : rank a ≤ k := by decide) :
    searchTwoUp rest a b = false := TC.rank_search2 (bd_rank h) a b hw
theorem bd_comma {k : Nat} {rest : List Tok} (h : Bd d k rest = true) : searchStr rest "," = false := TC.rank_comma (bd_rank h) (by decide)
theorem bd_alias {k : Nat} {rest : List Tok} (h : Bd d k rest = true) : pAlias rest = .ok (none, rest) := by
  have hs := bd_search (bd_mono h (Nat.zero_le k)) "AS"
  unfold pAlias
  cases rest with
  | nil => simp [hs]
  | cons t r =>
    simp only [hs, Bool.false_eq_true, if_false]
    rcases (bd_parts h).2.1 with hn | hc
    · simp [hn]
    · simp [hc]
theorem bd_joinHead {k : Nat} {rest : List Tok} (h : Bd d k rest = true) (hk : 2 ≤ k) : joinHead rest = false := by
  cases rest with
  | nil => rfl
  | cons t r =>
    exact TC.rank_head (bd_rank h) _ (fun w hw => Nat.le_trans ((by decide : ∀ w ∈ ["JOIN", "INNER", "LEFT", "RIGHT", "FULL", "CROSS"], rank w ≤ 2) w hw) hk) rfl
theorem bd_onUsing {k : Nat} {rest : List Tok} (h : Bd d k rest = true) : onUsingHead rest = false := by
  cases rest with
  | nil => rfl
  | cons t r => exact TC.rank_head (bd_rank h) _ (fun w hw => Nat.le_trans ((by decide : ∀ w ∈ ["ON", "USING"], rank w ≤ 0) w hw) (Nat.zero_le k)) rfl
theorem stops_notDot {rest : List Tok} (h : stops d rest = true) : searchStr rest "." = false := by
  cases rest with
  | nil => rfl
  | cons t r =>
    have := (stop_parts d h).1
    simp only [stopsE, Bool.and_eq_true, Bool.not_eq_true'] at this
    simpa [searchStr] using this.2

theorem searchUp_opTok (k : String) {x : List Tok} (h : (opTok k).srcEqUp k = true := by decide) : searchStrUp (opTok k :: x) k = true := h
theorem alias_none (t : Tok) (x : List Tok) (h1 : t.srcEqUp "AS" = false) (h2 : t.has NAME = false) : pAlias (t :: x) = .ok (none, t :: x) := by
  unfold pAlias
  simp [searchStrUp, h1, h2]

theorem comma_alias (x : List Tok) : pAlias (commaTok :: x) = .ok (none, commaTok :: x) := alias_none _ x (by decide) (by decide)
/-- a continuation that may follow a list element: the separator, or what follows the list -/
structure Fol (d : Gen.D) (fol : List Tok) : Prop where
  stops : stops d fol = true
  alias : pAlias fol = .ok (none, fol)
theorem Fol.ofBd {k : Nat} {fol : List Tok} (h : Bd d k fol = true) : Fol d fol := ⟨bd_stops h, bd_alias h⟩
theorem Fol.comma (x : List Tok) : Fol d (commaTok :: x) := ⟨TC.stopO_false.1 (TC.comma_stopO false (Nat.le_refl 14) x), comma_alias x⟩
theorem Fol.tail {tl fol : List Tok} (h : tl = [] ∨ ∃ x, tl = commaTok :: x) (hf : Fol d fol) : Fol d (tl ++ fol) := tail_of Fol.comma h hf

/-! ### comma-separated lists: the four list tails of the printer -/
theorem toksColsTail_eq (cs : List (Expr × Option String)) : toksColsTail d cs = commaTail (toksCol d) cs := by
  induction cs with
  | nil => rfl
  | cons c cs ih => simp only [toksColsTail, commaTail, ih]
theorem toksTablesTail_eq (ts : List FromTable) : toksTablesTail ts = commaTail toksTable ts := by
  induction ts with
  | nil => rfl
  | cons t ts ih => simp only [toksTablesTail, commaTail, ih]
theorem toksKeysTail_eq (es : List Expr) : toksKeysTail d es = commaTail (W d noX · 8) es := by
  induction es with
  | nil => rfl
  | cons e es ih => simp only [toksKeysTail, commaTail, ih]
theorem toksOrdTail_eq (os : List OrderItem) : toksOrdTail d os = commaTail (toksOrdItem d) os := by
  induction os with
  | nil => rfl
  | cons o os ih => simp only [toksOrdTail, commaTail, ih]
theorem colsTail_shape (cs : List (Expr × Option String)) : toksColsTail d cs = [] ∨ ∃ x, toksColsTail d cs = commaTok :: x := by
  rw [toksColsTail_eq]; exact commaTail_shape _ cs

theorem alias_some (a : String) (h : aliasOK a = true) (fol : List Tok) : pAlias (opTok "AS" :: opTok a :: fol) = .ok (some a, fol) := by
  simp only [aliasOK, Bool.and_eq_true, beq_iff_eq] at h
  unfold pAlias
  simp [searchUp_opTok "AS", h.1.1, h.1.2]
theorem as_stops (x : List Tok) : stops d (opTok "AS" :: x) = true := kw_stops "AS" (by decide)
theorem alias_any (a : Option String) (h : optAliasOK a = true) (fol : List Tok) (hf : Fol d fol) :
    pAlias (aliasToks a ++ fol) = .ok (a, fol) ∧ stops d (aliasToks a ++ fol) = true ∧ searchStr (aliasToks a ++ fol) "." = false := by
  cases a with
  | none => exact ⟨hf.alias, hf.stops, stops_notDot hf.stops⟩
  | some a => exact ⟨alias_some a h fol, as_stops (d := d) _, stops_notDot (as_stops (d := d) _)⟩

theorem selectCol (c : Expr × Option String) (hc : colOKS d c = true) (fol : List Tok) (hf : Fol d fol) :
    OkAt (fun f => pSelectCol d f (toksCol d c ++ fol)) (20 * sizeL (toksCol d c) + 16) (c, fol) := by
  obtain ⟨e, a⟩ := c
  simp only [colOKS, Bool.and_eq_true] at hc
  obtain ⟨ha, hs, _⟩ := alias_any a hc.2 fol hf
  exact TC.selectCol (C02.tparse d noX e hc.1 _ hs) ha

theorem selectCols (fol : List Tok) (hf : Fol d fol) (hc : searchStr fol "," = false) :
    ∀ (cs : List (Expr × Option String)), (∀ c ∈ cs, colOKS d c = true) → ∀ acc,
    OkAt (fun f => pSelectCols d f acc (toksColsTail d cs ++ fol)) (20 * sizeL (toksColsTail d cs) + 17) (acc ++ cs, fol) := by
  intro cs hcs
  rw [toksColsTail_eq]
  exact TC.selectCols Fol.comma fol hf hc _ cs fun c hc => selectCol c (hcs c hc)

theorem isOkNone_eq {r : Except Err (Option String × String)} {n : String} (h : isOkNone r n = true) : r = .ok (none, n) := by
  unfold isOkNone at h
  split at h
  · simp only [beq_iff_eq] at h; subst h; rfl
  · cases h
theorem nameTok_name (n : String) : (nameTok n).has NAME = true := by simp [nameTok, Tok.has, Tok.marks]; decide
theorem nameTok_paren (n : String) : (nameTok n).has PAREN = false := by simp [nameTok, Tok.has, Tok.marks]; decide

theorem fromTable (t : FromTable) (ht : tableOK t = true) (fol : List Tok) (hf : Fol d fol) :
    OkAt (fun f => pFromTable d f (toksTable t ++ fol)) 2 (t, fol) := by
  obtain ⟨tr, a⟩ := t
  rcases tr with ⟨_ | s, n⟩ | q <;> simp only [tableOK, Bool.false_eq_true, Bool.and_eq_true] at ht
  obtain ⟨ha, _, hdot⟩ := alias_any a ht.2 fol hf
  exact TC.fromTable_name (nameTok_name n) (nameTok_paren n) rfl (isOkNone_eq ht.1) hdot ha

theorem fromTables (fol : List Tok) (hf : Fol d fol) (hc : searchStr fol "," = false) :
    ∀ (ts : List FromTable), (∀ t ∈ ts, tableOK t = true) → ∀ acc,
    OkAt (fun f => pFromTables d f acc (toksTablesTail ts ++ fol)) (ts.length + 3) (acc ++ ts, fol) := by
  intro ts hts
  rw [toksTablesTail_eq]
  exact commaLoop_ok (fun _ _ _ h => by simp [pFromTables, h]) (fun _ _ _ _ _ h h' => by rw [pFromTables, if_pos h, h']) toksTable (fun _ => 2) (fun ts => ts.length + 3)
    (by omega) (fun t ts => by simp only [List.length_cons]; omega) fol hc ts
    fun t ht ts' => fromTable t (hts t ht) _ (Fol.tail (commaTail_shape _ ts') hf)

theorem fromOpt (fr : Option (List FromTable)) (hfr : fromOK fr = true) (fol : List Tok) (hb : Bd d 1 fol = true) :
    OkAt (fun f => pFromOpt d f (toksFrom fr ++ fol)) (20 * sizeL (toksFrom fr) + 4) (fr, fol) := by
  have e1 : toksFrom fr = TC.kwList [opTok "FROM"] toksTable fr := by
    rcases fr with _ | _ | ⟨t, ts⟩ <;> simp only [toksFrom, TC.kwList, toksTablesTail_eq] <;> rfl
  have h : fr ≠ some [] ∧ ∀ t ∈ fr.getD [], tableOK t = true := by rcases fr with _ | _ | ⟨t, ts⟩ <;> simp_all [fromOK]
  rw [e1]
  exact TC.fromOpt Fol.comma fol (Fol.ofBd hb) (bd_comma hb) _ (bd_search hb "FROM") fr h.1 fun t ht fol' hf' =>
    (fromTable t (h.2 t ht) fol' hf').mono (Nat.le_add_left _ _)

/-! ### JOINs -/
theorem nameTok_noJoinWord (n : String) : ∀ e ∈ Gen.joinTypes, ∀ k ∈ e.2, (nameTok n).equalsStr k = false := by
  have hall : Gen.joinTypes.all (fun e => e.2.all (fun k => (up k).toList.head? != some '`')) = true := by decide
  intro e he k hk
  have hk' : ((up k).toList.head? != some '`') = true := by
    simp only [List.all_eq_true] at hall
    exact hall e he k hk
  have hsrc : (nameTok n).equalsStr k = (up (nameTok n).src == up k) := rfl
  rw [hsrc, beq_eq_false_iff_ne]
  exact ne_of_head (up_nameTok_head n) hk'

theorem on_fol (x : List Tok) : Fol d (opTok "ON" :: x) := ⟨kw_stops "ON" (by decide), alias_none _ x (by decide) (by decide)⟩

theorem join (j : Join) (hj : joinOK d j = true) (fol : List Tok) (hb : Bd d 1 fol = true) :
    OkAt (fun f => pJoin d f (toksJoin d j ++ fol)) (20 * sizeL (toksJoin d j) + 20) (j, fol) := by
  obtain ⟨ty, ⟨tr, a⟩, rule⟩ := j
  simp only [joinOK, Bool.and_eq_true] at hj
  obtain ⟨⟨hty, ht⟩, hrule⟩ := hj
  rcases rule with _ | e | u
  · exact TC.join (tr := []) (TC.joinTy_parts hty).1 ⟨_, _, rfl, nameTok_noJoinWord _⟩ ((fromTable _ ht _ (Fol.ofBd hb)).mono (Nat.le_add_left _ _))
      ((TC.joinRule_none ty _ (bd_onUsing hb)).mono (by omega))
  · exact TC.join (tr := opTok "ON" :: toksE d noX e) (TC.joinTy_parts hty).1 ⟨_, _, rfl, nameTok_noJoinWord _⟩
      ((fromTable _ ht _ (on_fol _)).mono (Nat.le_add_left _ _))
      ((TC.joinRule_on ty _ (C02.tparse d noX e hrule fol (bd_stops hb))).mono (by simp only [sizeL_cons]; omega))
  · simp [ruleOK] at hrule

theorem join_head (j : Join) (hj : joinOK d j = true) (y : List Tok) : PM.joinHead (toksJoin d j ++ y) = true ∧ Bd d 1 (toksJoin d j ++ y) = true := by
  obtain ⟨ty, t, rule⟩ := j
  simp only [joinOK, Bool.and_eq_true] at hj
  obtain ⟨_, t0, ws, hw, hbd, hjh⟩ := TC.joinTy_parts hj.1.1
  simp only [toksJoin, hw, List.cons_append, Bd]
  exact ⟨by simpa [PM.joinHead] using hjh, hbd⟩
theorem joins_bd (js : List Join) (hjs : ∀ j ∈ js, joinOK d j = true) (fol : List Tok) (hb : Bd d 2 fol = true) :
    Bd d 1 (toksJoins d js ++ fol) = true ∧ (js ≠ [] → PM.joinHead (toksJoins d js ++ fol) = true) := by
  cases js with
  | nil => exact ⟨bd_mono hb (by omega), fun h => absurd rfl h⟩
  | cons j js =>
    have := join_head j (hjs j (by simp)) (toksJoins d js ++ fol)
    simp only [toksJoins, List.append_assoc]
    exact ⟨this.2, fun _ => this.1⟩

theorem sizeL_toksJoin_pos (j : Join) : 1 ≤ sizeL (toksJoin d j) := by
  obtain ⟨ty, ⟨tr, a⟩, rule⟩ := j
  simp only [toksJoin, toksTable, sizeL_append, sizeL_cons, nameTok, Tok.size]; omega
theorem toksJoins_flat (js : List Join) : toksJoins d js = TC.flat (toksJoin d) js := by
  induction js with
  | nil => rfl
  | cons j js ih => simp only [toksJoins, TC.flat, ih]

theorem joins (fol : List Tok) (hb : Bd d 2 fol = true) :
    ∀ (js : List Join), (∀ j ∈ js, joinOK d j = true) → ∀ acc,
    OkAt (fun f => pJoins d f true [] acc (toksJoins d js ++ fol)) (20 * sizeL (toksJoins d js) + 22) (acc ++ js, fol) := by
  intro js hjs
  rw [toksJoins_flat]
  exact TC.joins (C := fun x => Bd d 1 x = true) _ fol (bd_mono hb (by omega)) (bd_joinHead hb (by omega)) js fun j hj =>
    ⟨join_head j (hjs j hj), sizeL_toksJoin_pos j, join j (hjs j hj)⟩

theorem optOr (kw : String) (hk : (opTok kw).srcEqUp kw = true) (k : Nat) (hrk : rank kw ≤ k) (o : Option Expr) (ho : optFrag d o = true)
    (fol : List Tok) (hb : Bd d k fol = true) :
    OkAt (fun f => pOptOr d f kw (toksOpt d kw o ++ fol)) (20 * sizeL (toksOpt d kw o) + 16) (o, fol) := by
  have e1 : toksOpt d kw o = TC.kwOpt kw (toksE d noX) o := by cases o <;> rfl
  rw [e1]
  exact TC.optOr kw hk _ o fol (bd_search hb kw hrk) fun e he => C02.tparse d noX e (by subst he; exact ho) fol (bd_stops hb)

/-! ### key lists (GROUP BY, ORDER BY): compute level, the printer's `wrap e 8` -/
theorem key8 (e : Expr) (he : Frag d e = true) (fol : List Tok) (hs : stopLE d 8 fol = true) :
    OkAt (fun f => pCompute d f (W d noX e 8 ++ fol)) (20 * sizeL (W d noX e 8) + 2) (e, fol) :=
  ((C02.rt d noX e he).at 8 (by omega)).s8 (by omega) fol hs
theorem key8O {e : Expr} (he : Frag d e = true) : TC.Key8 d false (W d noX · 8) e :=
  ⟨fun fol hs => key8 e he fol (TC.stopO_false.1 hs), by obtain ⟨t, ts', h, _⟩ := (C02.rt d noX e he).headW 8; simp [h]⟩
theorem comma_stop8 (x : List Tok) : stopLE d 8 (commaTok :: x) = true := TC.stopO_false.1 (TC.comma_stopO false (by omega) x)

theorem groupBy (gb : Option GroupBy) (hg : groupOK d gb = true) (fol : List Tok) (hb : Bd d 4 fol = true) :
    OkAt (fun f => pGroupBy d f (toksGroup d gb ++ fol)) (20 * sizeL (toksGroup d gb) + 6) (gb, fol) := by
  have hf : TC.GFol d false fol := ⟨TC.stopO_false.2 (stopLE_mono (bd_stops hb) (by omega)), bd_comma hb, bd_search2 hb "GROUP" "BY",
    bd_search2 hb "GROUPING" "SETS", bd_search2 hb "WITH" "CUBE", bd_search2 hb "WITH" "ROLLUP"⟩
  rcases gb with _ | ⟨_ | ⟨e, es⟩, _ | l, _ | _, _ | _⟩ <;>
    simp only [groupOK, Bool.false_eq_true, Bool.and_eq_true, List.all_eq_true, Bool.not_eq_true'] at hg
  · exact TC.groupBy (w := (W d noX · 8)) none trivial fol hf
  · have e1 : toksGroup d (some (.mk (e :: es) none false false)) = TC.toksGroup (W d noX · 8) (some (.mk (e :: es) none false false)) := by
      simp [toksGroup, TC.toksGroup, TC.commaList, toksKeysTail_eq, TC.toksSetsOpt, TC.cubeT, TC.rollT]
    rw [e1]
    exact TC.groupBy (some (.mk (e :: es) none false false))
      ⟨fun x hx => key8O ((List.mem_cons.1 hx).elim (fun h => h ▸ hg.1.1) (hg.1.2 x)), by simp, by simp, by simp, fun e' es' h => by cases h; exact hg.2⟩ fol hf

/-- what may follow an ORDER BY key (after its direction): no direction word, no NULLS, nothing of the compute level -/
structure OFol (d : Gen.D) (fol : List Tok) : Prop where
  desc : searchStrUp fol "DESC" = false
  asc : searchStrUp fol "ASC" = false
  nf : searchTwoUp fol "NULLS" "FIRST" = false
  nl : searchTwoUp fol "NULLS" "LAST" = false
  stop8 : stopLE d 8 fol = true
theorem OFol.ofBd {k : Nat} {fol : List Tok} (h : Bd d k fol = true) : OFol d fol :=
  have h0 := bd_mono h (Nat.zero_le k)
  ⟨bd_search h0 "DESC", bd_search h0 "ASC", bd_search2 h0 "NULLS" "FIRST", bd_search2 h0 "NULLS" "LAST", stopLE_mono (bd_stops h) (by omega)⟩
theorem OFol.comma (x : List Tok) : OFol d (commaTok :: x) := by
  have h3 : commaTok.srcEqUp "NULLS" = false := by decide
  refine ⟨(by decide : commaTok.srcEqUp "DESC" = false), (by decide : commaTok.srcEqUp "ASC" = false), ?_, ?_, comma_stop8 x⟩
  · cases x <;> simp [searchTwoUp, h3]
  · cases x <;> simp [searchTwoUp, h3]
theorem desc_stop8 (x : List Tok) : stopLE d 8 (opTok "DESC" :: x) = true := stopTok_mono (kw_stops "DESC" (by decide)) (by omega)
theorem orderTail_ok (e : Expr) (desc : Bool) (fol : List Tok) (hf : OFol d fol) :
    orderTail e ((if desc then [opTok "DESC"] else []) ++ fol) = .ok (.mk e desc false false, fol) := by
  simpa [TC.ordTail] using TC.orderTail_ok e desc false false rfl fol hf.desc hf.asc hf.nf hf.nl

theorem orderItem (o : OrderItem) (ho : ordOK d o = true) (fol : List Tok) (hf : OFol d fol) :
    OkAt (fun f => pOrderItem d f (toksOrdItem d o ++ fol)) (20 * sizeL (toksOrdItem d o) + 3) (o, fol) := by
  obtain ⟨e, desc, nf, nl⟩ := o
  simp only [ordOK, Bool.and_eq_true, Bool.not_eq_true'] at ho
  obtain ⟨⟨he, hnf⟩, hnl⟩ := ho
  subst hnf; subst hnl
  have hs : stopLE d 8 ((if desc then [opTok "DESC"] else []) ++ fol) = true := by
    cases desc with
    | true => exact desc_stop8 _
    | false => exact hf.stop8
  exact TC.orderItem (key8 e he _ hs) (orderTail_ok e desc fol hf)

theorem orderBy (ob : Option (List OrderItem)) (ho : orderOK d ob = true) (fol : List Tok) (hb : Bd d 6 fol = true) :
    OkAt (fun f => pOrderByOpt d f (toksOrder d ob ++ fol)) (20 * sizeL (toksOrder d ob) + 6) (ob, fol) := by
  have e1 : toksOrder d ob = TC.kwList [opTok "ORDER", opTok "BY"] (toksOrdItem d) ob := by
    rcases ob with _ | _ | ⟨o, os⟩ <;> simp only [toksOrder, TC.kwList, toksOrdTail_eq] <;> rfl
  have ho' : ob ≠ some [] ∧ ∀ o ∈ ob.getD [], ordOK d o = true := by rcases ob with _ | _ | ⟨o, os⟩ <;> simp_all [orderOK]
  rw [e1]
  exact TC.orderByOpt OFol.comma fol (OFol.ofBd hb) (bd_comma hb) _ (bd_search2 hb "ORDER" "BY") ob ho'.1 fun o h => orderItem o (ho'.2 o h)

/-! ### the Hive-only clauses are absent, LIMIT -/
theorem noLaterals (fol : List Tok) (hb : Bd d 1 fol = true) : OkAt (fun f => pLaterals d f true [] [] fol) 1 ([], fol) := by
  refine OkAt.of_add 1 (Nat.le_refl 1) fun g _ => ?_
  unfold pLaterals
  simp [bd_search2 hb "LATERAL" "VIEW"]
theorem hiveClauses (fol : List Tok) {k : Nat} (hb : Bd d k fol = true) :
    OkAt (fun f => pHiveClauses d f fol) 2 ((none, none, none), fol) := by
  have h0 := bd_mono hb (Nat.zero_le k)
  refine OkAt.of_add 2 (Nat.le_refl 2) fun g _ => ?_
  unfold pHiveClauses pSortBy pByList
  simp [bd_search2 h0 "SORT" "BY", bd_search2 h0 "DISTRIBUTE" "BY", bd_search2 h0 "CLUSTER" "BY"]

theorem isOkInt_eq {r : Except Err Int} {n : Int} (h : isOkInt r n = true) : r = .ok n := by
  unfold isOkInt at h
  split at h
  · simp only [beq_iff_eq] at h; subst h; rfl
  · cases h
theorem limit (lm : Option (Int × Option Int)) (hl : limitOK lm = true) (fol : List Tok) (hb : Bd d 7 fol = true) :
    pLimit (toksLimit lm ++ fol) = .ok (lm, fol) := by
  have hk : (opTok "LIMIT").srcEqUp "LIMIT" = true := by decide
  cases lm with
  | none => exact C03.limit_absent _ (bd_search hb "LIMIT")
  | some p =>
    obtain ⟨n, o⟩ := p
    cases o with
    | none =>
      simp only [limitOK, limOK, Bool.and_eq_true] at hl
      exact C03.limit_plain _ _ fol n hk (isOkInt_eq hl.2) (bd_comma hb) (bd_search hb "OFFSET")
    | some m =>
      simp only [limitOK, limOK, Bool.and_eq_true] at hl
      have hc : commaTok.srcEq "," = true := by decide
      exact C03.limit_comma _ _ _ _ fol m n hk (isOkInt_eq hl.2.2) hc (isOkInt_eq hl.1.2)

end TS
