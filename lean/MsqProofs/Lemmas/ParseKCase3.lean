import MsqProofs.Lemmas.ParseKCase1
import MsqProofs.Lemmas.ParseCase3
/-!
# C09, parser half, SHARP form: reserved-word case variation as a token theory

`kcaseT`: the relation `KE`; stored texts agree after `km`, config strings (concatenations of sources) after `up`; a (schema, name) pair that
`pFuncName` returns is made of NAME-checked tokens and is therefore the SAME on both sides (`fnRel := Eq`).  `KEL`, `KER`, `kmE` … are the
generic `Rel.GEL KE`, `Rel.GER KE`, `Rel.mapE km` …, so every lemma of the generic family (`ParseRel*.lean`) reads as a lemma about token lists
that differ in the letter case of reserved words.
-/
open Lex Ast
namespace PM

theorem km_map :
    (∀ x, kmE x = Rel.mapE km x) ∧
    (∀ x, kmQ x = Rel.mapQ km x) ∧
    (∀ x, kmUs x = Rel.mapUs km x) ∧
    (∀ x, kmS x = Rel.mapS km x) ∧
    (∀ x, kmEso x = Rel.mapEso km x) ∧
    (∀ x, kmEs x = Rel.mapEs km x) ∧
    (∀ x, kmOso x = Rel.mapOso km x) ∧
    (∀ x, kmOs x = Rel.mapOs km x) ∧
    (∀ x, kmO x = Rel.mapO km x) ∧
    (∀ x, kmGo x = Rel.mapGo km x) ∧
    (∀ x, kmG x = Rel.mapG km x) ∧
    (∀ x, kmEss x = Rel.mapEss km x) ∧
    (∀ x, kmEo x = Rel.mapEo km x) ∧
    (∀ x, kmJs x = Rel.mapJs km x) ∧
    (∀ x, kmJ x = Rel.mapJ km x) ∧
    (∀ x, kmJR x = Rel.mapJR km x) ∧
    (∀ x, kmFT x = Rel.mapFT km x) ∧
    (∀ x, kmTR x = Rel.mapTR km x) ∧
    (∀ x, kmLats x = Rel.mapLats km x) ∧
    (∀ x, kmLat x = Rel.mapLat km x) ∧
    (∀ x, kmFTso x = Rel.mapFTso km x) ∧
    (∀ x, kmFTs x = Rel.mapFTs km x) ∧
    (∀ x, kmCols x = Rel.mapCols km x) ∧
    (∀ x, kmWso x = Rel.mapWso km x) ∧
    (∀ x, kmWs x = Rel.mapWs km x) ∧
    (∀ x, kmW x = Rel.mapW km x) ∧
    (∀ x, kmArms x = Rel.mapArms km x) := by
  apply kmE.mutual_induct <;> intros <;> simp_all [kmE, kmQ, kmUs, kmS, kmEso, kmEs, kmOso, kmOs, kmO, kmGo, kmG, kmEss, kmEo, kmJs, kmJ, kmJR, kmFT, kmTR, kmLats, kmLat, kmFTso, kmFTs, kmCols, kmWso, kmWs, kmW, kmArms, Rel.mapE, Rel.mapQ, Rel.mapUs, Rel.mapS, Rel.mapEso, Rel.mapEs, Rel.mapOso, Rel.mapOs, Rel.mapO, Rel.mapGo, Rel.mapG, Rel.mapEss, Rel.mapEo, Rel.mapJs, Rel.mapJ, Rel.mapJR, Rel.mapFT, Rel.mapTR, Rel.mapLats, Rel.mapLat, Rel.mapFTso, Rel.mapFTs, Rel.mapCols, Rel.mapWso, Rel.mapWs, Rel.mapW, Rel.mapArms]
/-- the parts of `km_map` that occur in statements, by name -/
theorem km_maps : Rel.MapsAt km kmE kmO kmTR kmFT kmJ kmG kmLat kmW kmS kmQ := by
  obtain ⟨hE, hQ, -, hS, -, -, -, -, hO, -, hG, -, -, -, hJ, -, hFT, hTR, -, hLat, -, -, -, -, -, hW, -⟩ := km_map
  exact ⟨funext hE, funext hO, funext hTR, funext hFT, funext hJ, funext hG, funext hLat, funext hW, funext hS, funext hQ⟩
theorem kmSt_map : kmSt = Rel.mapSt km := by funext st; simp [kmSt, Rel.mapSt, km_maps.E]

/-- reserved-word case variation: everything `caseT` says about the parser's tests holds (`ke_ce`); a stored text agrees after `km` -/
@[reducible] def kcaseT : Rel.Theory where
  E := KE
  m := km
  m2 := up
  plain := fun _ => true
  kwRel := Eq
  fnRel := Eq
  refl := KE.refl
  plain_of := fun _ _ => rfl
  has := fun h => ke_has h
  children := fun h => kel_eq ▸ ke_children h
  srcEq := fun h k hk => ke_srcEq h k (isOpLit_of_opLit hk)
  equalsStr := fun h k _ => ke_equalsStr h k
  kw := fun h => ke_up_src h
  kw_strEq := fun h w _ => by rw [h]
  unarySet := fun h d => ke_unarySet h d
  compareSet := fun h => ke_contains h _ (by decide)
  compareOp := fun h => ke_compareOp h
  pyInt := fun h => ke_pyInt h
  asInt := fun h => ke_asInt h
  src := fun h => ke_km_src h
  src2 := fun h => ke_up_src h
  unify := fun h => ke_unifyName h
  m2_append := fun h1 h2 => by rw [up_append, up_append, h1, h2]
  splitName := fun h hn => by rw [ke_eq_of_name h hn]; cases splitName _ <;> simp
  fn_names := fun ha h1 hc h2 => by rw [ke_eq_of_name ha h1, ke_eq_of_name hc h2]
  fn_m := fun h => by cases h; exact ⟨rfl, rfl⟩
  fn_word := fun h w _ => by cases h; rfl
  fn_agg := fun h => by cases h; rfl

/-! ### token tests, look-aheads and lockstep steps of the generic family, read at `kcaseT` -/
theorem gk_up_unifyName {t t' : Tok} (h : KE t t') : up (unifyName t.src) = up (unifyName t'.src) := ke_up_unifyName h
theorem gk_srcEq_comma {t t' : Tok} (h : KE t t') : t.srcEq "," = t'.srcEq "," := kcaseT.srcEq h _ (by decide)
theorem gk_srcEq_semi {t t' : Tok} (h : KE t t') : t.srcEq ";" = t'.srcEq ";" := kcaseT.srcEq h _ (by decide)
theorem gk_srcEq_eq {t t' : Tok} (h : KE t t') : t.srcEq "=" = t'.srcEq "=" := kcaseT.srcEq h _ (by decide)
theorem gk_srcEq_minus {t t' : Tok} (h : KE t t') : t.srcEq "-" = t'.srcEq "-" := kcaseT.srcEq h _ (by decide)
theorem all_plain_kcaseT (ks : List String) : ks.all kcaseT.plain = true := List.all_eq_true.2 fun _ _ => rfl
section cur
variable {ts ts' : List Tok} (h : KEL ts ts')
include h
theorem kel_searchStrUp (k : String) : searchStrUp ts k = searchStrUp ts' k := Rel.gel_searchStrUp (T := kcaseT) (kel_eq ▸ h) k rfl
theorem kel_searchMark (m : Nat) : searchMark ts m = searchMark ts' m := Rel.gel_searchMark (T := kcaseT) (kel_eq ▸ h) m
theorem kel_searchSet_compare : searchSet ts Gen.compareSet = searchSet ts' Gen.compareSet := Rel.gel_searchSet_compare (T := kcaseT) (kel_eq ▸ h)
theorem kel_searchTwoUp (a b : String) : searchTwoUp ts a b = searchTwoUp ts' a b := Rel.gel_searchTwoUp (T := kcaseT) (kel_eq ▸ h) a b rfl rfl
theorem kel_searchThreeUp (a b c : String) : searchThreeUp ts a b c = searchThreeUp ts' a b c := Rel.gel_searchThreeUp (T := kcaseT) (kel_eq ▸ h) a b c rfl rfl rfl
theorem kel_searchSeq (ks : List String) : searchSeq ts ks = searchSeq ts' ks := Rel.gel_searchSeq (T := kcaseT) (kel_eq ▸ h) ks (all_plain_kcaseT ks)
theorem kel_startsSelect : startsSelect ts = startsSelect ts' := Rel.gel_startsSelect (T := kcaseT) (kel_eq ▸ h)
theorem kel_headIsOver : headIsOver ts = headIsOver ts' := Rel.gel_headIsOver (T := kcaseT) (kel_eq ▸ h)
theorem kel_setOpHead : setOpHead ts = setOpHead ts' := Rel.gel_setOpHead (T := kcaseT) (kel_eq ▸ h)
theorem kel_joinHead : joinHead ts = joinHead ts' := Rel.gel_joinHead (T := kcaseT) (kel_eq ▸ h)
theorem kel_onUsingHead : onUsingHead ts = onUsingHead ts' := Rel.gel_onUsingHead (T := kcaseT) (kel_eq ▸ h)
theorem kel_chainsOn : chainsOn ts = chainsOn ts' := Rel.gel_chainsOn (T := kcaseT) (kel_eq ▸ h)
theorem kel_skipNot (d : Gen.D) : (skipNot d ts).1 = (skipNot d ts').1 ∧ KEL (skipNot d ts).2 (skipNot d ts').2 := by
  rw [kel_eq] at h ⊢; exact Rel.gel_skipNot (T := kcaseT) h d
theorem kel_moveStrUp (k : String) : (moveStrUp ts k).1 = (moveStrUp ts' k).1 ∧ KEL (moveStrUp ts k).2 (moveStrUp ts' k).2 := by
  rw [kel_eq] at h ⊢; exact Rel.gel_moveStrUp (T := kcaseT) h k rfl
theorem kel_moveTwoUp (a b : String) : (moveTwoUp ts a b).1 = (moveTwoUp ts' a b).1 ∧ KEL (moveTwoUp ts a b).2 (moveTwoUp ts' a b).2 := by
  rw [kel_eq] at h ⊢; exact Rel.gel_moveTwoUp (T := kcaseT) h a b rfl rfl
theorem kel_moveThreeUp (a b c : String) : (moveThreeUp ts a b c).1 = (moveThreeUp ts' a b c).1 ∧ KEL (moveThreeUp ts a b c).2 (moveThreeUp ts' a b c).2 := by
  rw [kel_eq] at h ⊢; exact Rel.gel_moveThreeUp (T := kcaseT) h a b c rfl rfl rfl
theorem kel_moveSetUp (ks : List String) : (moveSetUp ts ks).1 = (moveSetUp ts' ks).1 ∧ KEL (moveSetUp ts ks).2 (moveSetUp ts' ks).2 := by
  rw [kel_eq] at h ⊢; exact Rel.gel_moveSetUp (T := kcaseT) h ks (all_plain_kcaseT ks)
theorem kel_moveSeq (ks : List String) : (moveSeq ts ks).1 = (moveSeq ts' ks).1 ∧ KEL (moveSeq ts ks).2 (moveSeq ts' ks).2 := by
  rw [kel_eq] at h ⊢; exact Rel.gel_moveSeq (T := kcaseT) h ks (all_plain_kcaseT ks)
theorem kel_firstEnum (tbl : List (String × List String)) :
    (firstEnum tbl ts = none ∧ firstEnum tbl ts' = none) ∨
    (∃ n r r', firstEnum tbl ts = some (n, r) ∧ firstEnum tbl ts' = some (n, r') ∧ KEL r r') := by
  rw [kel_eq] at h ⊢; exact Rel.gel_firstEnum (T := kcaseT) h tbl (List.all_eq_true.2 fun e _ => all_plain_kcaseT e.2)
end cur
theorem kel_searchStr_comma {ts ts' : List Tok} (h : KEL ts ts') : searchStr ts "," = searchStr ts' "," := Rel.gel_searchStr (T := kcaseT) (kel_eq ▸ h) _ (by decide)
theorem kel_moveStr_comma {ts ts' : List Tok} (h : KEL ts ts') : (moveStr ts ",").1 = (moveStr ts' ",").1 ∧ KEL (moveStr ts ",").2 (moveStr ts' ",").2 := by
  rw [kel_eq] at h ⊢; exact Rel.gel_moveStr (T := kcaseT) h "," (by decide)
theorem kel_searchStr_dot {ts ts' : List Tok} (h : KEL ts ts') : searchStr ts "." = searchStr ts' "." := Rel.gel_searchStr (T := kcaseT) (kel_eq ▸ h) _ (by decide)
theorem kel_searchStr_semi {ts ts' : List Tok} (h : KEL ts ts') : searchStr ts ";" = searchStr ts' ";" := Rel.gel_searchStr (T := kcaseT) (kel_eq ▸ h) _ (by decide)
theorem kel_moveStr_semi {ts ts' : List Tok} (h : KEL ts ts') : (moveStr ts ";").1 = (moveStr ts' ";").1 ∧ KEL (moveStr ts ";").2 (moveStr ts' ";").2 := by
  rw [kel_eq] at h ⊢; exact Rel.gel_moveStr (T := kcaseT) h ";" (by decide)
theorem kel_searchStr_star {ts ts' : List Tok} (h : KEL ts ts') : searchStr ts "*" = searchStr ts' "*" := Rel.gel_searchStr (T := kcaseT) (kel_eq ▸ h) _ (by decide)
theorem kel_moveStr_eq {ts ts' : List Tok} (h : KEL ts ts') : (moveStr ts "=").1 = (moveStr ts' "=").1 ∧ KEL (moveStr ts "=").2 (moveStr ts' "=").2 := by
  rw [kel_eq] at h ⊢; exact Rel.gel_moveStr (T := kcaseT) h "=" (by decide)
theorem kel_searchStr_minus {ts ts' : List Tok} (h : KEL ts ts') : searchStr ts "-" = searchStr ts' "-" := Rel.gel_searchStr (T := kcaseT) (kel_eq ▸ h) _ (by decide)
theorem kel_splitBy0 (sep : String) {ts ts' : List Tok} (h : KEL ts ts') : KELL (splitBy sep ts [] []) (splitBy sep ts' [] []) := by
  rw [kel_eq] at h; rw [kell_eq]; exact Rel.gel_splitBy (T := kcaseT) sep rfl ts ts' [] [] [] [] h (by simp) (by simp)
theorem kel_moveStr_dot {ts ts' : List Tok} (h : KEL ts ts') : (moveStr ts ".").1 = (moveStr ts' ".").1 ∧ KEL (moveStr ts ".").2 (moveStr ts' ".").2 := by
  rw [kel_eq] at h ⊢; exact Rel.gel_moveStr (T := kcaseT) h "." (by decide)
theorem kel_moveStr_star {ts ts' : List Tok} (h : KEL ts ts') : (moveStr ts "*").1 = (moveStr ts' "*").1 ∧ KEL (moveStr ts "*").2 (moveStr ts' "*").2 := by
  rw [kel_eq] at h ⊢; exact Rel.gel_moveStr (T := kcaseT) h "*" (by decide)
theorem kel_moveStr_minus {ts ts' : List Tok} (h : KEL ts ts') : (moveStr ts "-").1 = (moveStr ts' "-").1 ∧ KEL (moveStr ts "-").2 (moveStr ts' "-").2 := by
  rw [kel_eq] at h ⊢; exact Rel.gel_moveStr (T := kcaseT) h "-" (by decide)
/-- of the two names only `str.upper()` is compared, so they need not be the same (as `kcaseT.fnRel` would ask) -/
theorem kel_callPrep {name name' : String} {g g' : Tok} (hn : up name = up name') (h : KE g g') :
    (callPrep name g).1 = (callPrep name' g').1 ∧ (callPrep name g).2.1 = (callPrep name' g').2.1 ∧ KEL (callPrep name g).2.2 (callPrep name' g').2.2 := by
  rw [kel_eq]; exact Rel.gel_callPrep_of (T := kcaseT) (by rw [hn]) (by rw [hn]) h
theorem callNode_ke {schema schema' : Option String} {name name' : String} {a d : Bool} {ps ps' : List Expr}
    (hs : schema.map km = schema'.map km) (hn : km name = km name') (hp : ps.map kmE = ps'.map kmE) :
    kmE (callNode schema name a d ps) = kmE (callNode schema' name' a d ps') := by
  rw [km_maps.E] at hp ⊢; exact Rel.callNode_map hs hn hp
@[grind =] theorem kmSt_nil : kmSt [] = [] := rfl
theorem kmTR_table_inv (x : TableRef) (s0 : Option String) (n0 : String) (h : kmTR x = .table s0 n0) : ∃ s n, x = .table s n :=
  Rel.mapTR_table_inv x s0 n0 (km_maps.TR ▸ h)
theorem kmTR_sub_inv (x : TableRef) (q0 : Query) (h : kmTR x = .sub q0) : ∃ q, x = .sub q := Rel.mapTR_sub_inv x q0 (km_maps.TR ▸ h)
theorem optmap_up_isNoneK (a b : Option String) (h : Option.map km a = Option.map km b) : a.isNone = b.isNone := by
  cases a <;> cases b <;> simp_all
def genModeOfK (u : String) : Option (String × String) := Gen.genColSaveModes.find? (fun x => x.1 == u)
theorem genModes_findK (s : String) : Gen.genColSaveModes.find? (fun x => x.1 == up s) = genModeOfK (up s) := rfl

end PM
