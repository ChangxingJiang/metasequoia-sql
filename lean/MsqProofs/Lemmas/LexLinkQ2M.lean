import MsqProofs.Lemmas.LexLinkQ2G
/-!
# The lexer link for the larger fragment: the mutual induction

What does not mention the mirror, the rendering or the records is reused from `LexLink` (`LexLinkQuery*.lean`).
-/
namespace LL2
open Lex Spec C05 C06 C09 Ast TP TS LexLink TQ2

theorem isSubQ_frag {d : Gen.D} {v : Expr} (h : isSubQ4 d v = true) : FragE4 d v = true := by
  cases v <;> simp_all [isSubQ4, FragE4]

section
variable {d : Gen.D} {K : QKit} {n : Nat} (hK : QW2 K)
  (ihE : ∀ e, szE4 e ≤ n → FragE4 d e = true → Lv2 d K (leavesE4 e) → GE4 d K e)
  (ihQ : ∀ q, szQ2 q ≤ n → FragQ2 d q = true → Lv2 d K (leavesQ2 q) → GQ4 d K q)
include hK ihE ihQ

theorem list_rec : ∀ (ps : List Expr), szL4 ps ≤ n → FragL4 d ps = true → Lv2 d K (leavesL4 ps) → ∀ a ∈ ps, GE4 d K a
  | [], _, _, _ => fun a ha => by cases ha
  | p :: ps, hsz, hf, hl => by
    simp only [szL4] at hsz
    simp only [FragL4, Bool.and_eq_true] at hf
    simp only [leavesL4, lv2_append] at hl
    intro a ha
    rcases List.mem_cons.mp ha with rfl | ha
    · exact ihE a (by omega) hf.1 hl.1
    · exact list_rec ps (by omega) hf.2 hl.2 a ha

theorem arms_rec : ∀ (cs : List (Expr × Expr)), szA4 cs ≤ n → FragA4 d cs = true → Lv2 d K (leavesA4 cs) →
    ∀ p ∈ cs, GE4 d K p.1 ∧ GE4 d K p.2
  | [], _, _, _ => fun a ha => by cases ha
  | (w, t) :: cs, hsz, hf, hl => by
    simp only [szA4] at hsz
    simp only [FragA4, Bool.and_eq_true] at hf
    simp only [leavesA4, lv2_append] at hl
    intro a ha
    rcases List.mem_cons.mp ha with rfl | ha
    · exact ⟨ihE w (by omega) hf.1.1 hl.1, ihE t (by omega) hf.1.2 hl.2.1⟩
    · exact arms_rec cs (by omega) hf.2 hl.2.2 a ha

theorem opt_rec (o : Option Expr) (hsz : szO4 o ≤ n) (hf : FragO4 d o = true) (hl : Lv2 d K (leavesO4 o)) :
    ∀ y, o = some y → GE4 d K y := by
  intro y hy
  subst hy
  exact ihE y (by simpa [szO4] using hsz) (by simpa [FragO4] using hf) (by simpa [leavesO4] using hl)

theorem cols_rec : ∀ (cols : List (Expr × Option String)), szCols cols ≤ n → colsOK4 d cols = true → Lv2 d K (leavesCols4 cols) →
    ∀ c ∈ cols, GE4 d K c.1 ∧ optAliasLex c.2 ∧ ∀ y, c.2 = some y → K.Q y.toList
  | [], _, _, _ => fun a ha => by cases ha
  | (e, a) :: cs, hsz, hf, hl => by
    simp only [szCols] at hsz
    simp only [colsOK4, Bool.and_eq_true] at hf
    simp only [leavesCols4, lv2_append] at hl
    intro c hc
    rcases List.mem_cons.mp hc with rfl | hc
    · exact ⟨ihE e (by omega) hf.1.1 hl.1, lv_alias hl.2.1⟩
    · exact cols_rec cs (by omega) hf.2 hl.2.2 c hc

theorem table_rec (t : FromTable) (hsz : szTable t ≤ n) (hf : tableOK4 d t = true) (hl : Lv2 d K (leavesTable4 t)) : GT4 d K t := by
  obtain ⟨r, a⟩ := t
  simp only [tableOK4, Bool.and_eq_true] at hf
  simp only [leavesTable4, lv2_append] at hl
  have ha := lv_alias hl.2
  cases r with
  | table s n =>
    simp only [leavesRef4, lv2_cons, lv2_nil, and_true] at hl
    exact gt_table s n a hl.1.1 hl.1.2 ha.1 ha.2
  | sub q =>
    simp only [szTable, szRef] at hsz
    exact gt_sub q a (ihQ q (by omega) (by simpa [refOK4] using hf.1) (by simpa [leavesRef4] using hl.1)) ha.1 ha.2

theorem tables_rec : ∀ (ts : List FromTable), szTables ts ≤ n → tablesOK4 d ts = true → Lv2 d K (leavesTables4 ts) → ∀ t ∈ ts, GT4 d K t
  | [], _, _, _ => fun a ha => by cases ha
  | t :: ts, hsz, hf, hl => by
    simp only [szTables] at hsz
    simp only [tablesOK4, Bool.and_eq_true] at hf
    simp only [leavesTables4, lv2_append] at hl
    intro x hx
    rcases List.mem_cons.mp hx with rfl | hx
    · exact table_rec hK ihE ihQ x (by omega) hf.1 hl.1
    · exact tables_rec ts (by omega) hf.2 hl.2 x hx

omit hK ihE ihQ in
theorem winFn_frag {fn : Expr} (h : winFnOK4 d fn = true) : FragE4 d fn = true := by
  cases fn <;> try (simp [winFnOK4] at h; done)
  case func s nm ps =>
    cases s with
    | some s => simp [winFnOK4] at h
    | none =>
      simp only [winFnOK4, Bool.and_eq_true] at h
      simp only [FragE4, Bool.and_eq_true, Bool.or_eq_true]
      exact ⟨Or.inl h.1, h.2⟩
  case agg nm ps dist => simpa [winFnOK4, FragE4] using h

omit hK ihE ihQ in
theorem idxBase_frag {a : Expr} (h : idxBaseOK4 d a = true) : FragE4 d a = true := by
  cases a <;> try (simp [idxBaseOK4] at h; done)
  case column t c => cases t <;> simpa [idxBaseOK4, FragE4] using h
  case func s nm ps =>
    cases s with
    | some s => simp [idxBaseOK4] at h
    | none =>
      simp only [idxBaseOK4, Bool.and_eq_true] at h
      simp only [FragE4, Bool.and_eq_true, Bool.or_eq_true]
      exact ⟨Or.inl h.1, h.2⟩

theorem ords_rec : ∀ (os : List OrderItem), szOrdL os ≤ n → ordTailOK4 d os = true → Lv2 d K (leavesOrdL4 os) → ∀ o ∈ os, GO4 d K o
  | [], _, _, _ => fun a ha => by cases ha
  | o :: os, hsz, hf, hl => by
    simp only [szOrdL] at hsz
    simp only [ordTailOK4, Bool.and_eq_true] at hf
    simp only [leavesOrdL4, lv2_append] at hl
    intro x hx
    rcases List.mem_cons.mp hx with rfl | hx
    · obtain ⟨e, desc, nf, nl⟩ := x
      simp only [ordItemOK4, Bool.and_eq_true] at hf
      simp only [szOrdItem] at hsz
      exact go_item hK e desc nf nl (ihE e (by omega) hf.1.1 (by simpa [leavesOrdItem4] using hl.1))
    · exact ords_rec os (by omega) hf.2 hl.2 x hx

theorem join_rec (j : Join) (hsz : szJoin j ≤ n) (hf : joinOK4 d j = true) (hl : Lv2 d K (leavesJoin4 j)) : GJ4 d K j := by
  obtain ⟨ty, t, rule⟩ := j
  simp only [szJoin] at hsz
  simp only [joinOK4, Bool.and_eq_true] at hf
  simp only [leavesJoin4, lv2_append] at hl
  refine gj_join ty t rule hf.1.1 (table_rec hK ihE ihQ t (by omega) hf.1.2 hl.1) ?_
  cases rule with
  | none => exact Or.inl rfl
  | some r =>
    cases r with
    | on e =>
      simp only [szRule] at hsz
      exact Or.inr (Or.inl ⟨e, rfl, ihE e (by omega) (by simpa [ruleOK4] using hf.2) (by simpa [leavesRule4] using hl.2)⟩)
    | «using» u =>
      simp only [szRule] at hsz
      have hu : FragE4 d u = true := by
        have h2 := hf.2
        simp only [ruleOK4] at h2
        cases u <;> try (simp [usingOK4] at h2; done)
        case func s nm ps =>
          cases s with
          | some s => simp [usingOK4] at h2
          | none =>
            simp only [usingOK4, Bool.and_eq_true] at h2
            simp only [FragE4, Bool.and_eq_true, Bool.or_eq_true]
            exact ⟨Or.inl h2.1.1.1, h2.2⟩
      exact Or.inr (Or.inr ⟨u, rfl, ihE u (by omega) hu (by simpa [leavesRule4] using hl.2)⟩)

theorem joins_rec : ∀ (js : List Join), szJoins js ≤ n → joinsOK4 d js = true → Lv2 d K (leavesJoins4 js) → ∀ j ∈ js, GJ4 d K j
  | [], _, _, _ => fun a ha => by cases ha
  | j :: js, hsz, hf, hl => by
    simp only [szJoins] at hsz
    simp only [joinsOK4, Bool.and_eq_true] at hf
    simp only [leavesJoins4, lv2_append] at hl
    intro x hx
    rcases List.mem_cons.mp hx with rfl | hx
    · exact join_rec hK ihE ihQ x (by omega) hf.1 hl.1
    · exact joins_rec js (by omega) hf.2 hl.2 x hx

theorem lats_rec : ∀ (ls : List Lateral), szLats ls ≤ n → latsOK4 d ls = true → Lv2 d K (leavesLats4 ls) →
    (∀ l ∈ ls, GL4 d K l) ∧ (ls ≠ [] → d = .HIVE ∨ d = .DEFAULT)
  | [], _, _, _ => ⟨fun a ha => (by cases ha), fun h => absurd rfl h⟩
  | l :: ls, hsz, hf, hl => by
    simp only [szLats] at hsz
    simp only [latsOK4, Bool.and_eq_true] at hf
    simp only [leavesLats4, lv2_append] at hl
    obtain ⟨o, fn, v, as⟩ := l
    simp only [szLat] at hsz
    have hl1 : Lv2 d K (hiveDefG :: (leavesE4 fn ++ (.old (.agg v) :: as.map fun a => .old (.wild a)))) := by
      simpa only [leavesLat4] using hl.1
    have lfn : Lv2 d K (leavesE4 fn) := fun x hx => hl1 x (by simp [hx])
    have hvv := hl1 (.old (.agg v)) (by simp)
    have hv : PR.isPlainName v = true := hvv.1
    have hqv : K.item (.agg v) := hvv.2
    have hd : d = .HIVE ∨ d = .DEFAULT := by
      have : (d == Gen.D.HIVE || d == Gen.D.DEFAULT) = true := (hl1 hiveDefG (by simp)).1
      simpa using this
    have hlat := hf.1
    simp only [latOK4, Bool.and_eq_true] at hlat
    have hfn : FragE4 d fn = true := by
      have h2 := hlat.1
      cases fn <;> try (simp [latFnOK4] at h2; done)
      case func s nm ps =>
        cases s with
        | some s => simp [latFnOK4] at h2
        | none =>
          simp only [latFnOK4, Bool.and_eq_true] at h2
          simp only [FragE4, Bool.and_eq_true, Bool.or_eq_true]
          exact ⟨Or.inl h2.1.1, h2.2⟩
    have has : ∀ a ∈ as, nameLex a ∧ K.Q a.toList := by
      intro a ha
      have := hl1 (.old (.wild a)) (by simp only [List.mem_cons, List.mem_append, List.mem_map]; exact Or.inr (Or.inr (Or.inr ⟨a, ha, rfl⟩)))
      exact ⟨this.1, this.2 a (by simp [strs])⟩
    have hne : as ≠ [] := by
      intro e; subst e; simp [aliasesOK] at hlat
    obtain ⟨r1, _⟩ := lats_rec ls (by omega) hf.2 hl.2
    refine ⟨fun x hx => ?_, fun _ => hd⟩
    rcases List.mem_cons.mp hx with rfl | hx
    · exact gl_lat hK o fn v as (ihE fn (by omega) hfn lfn) hv (hqv v (by simp [strs])) has hne
    · exact r1 x hx

theorem sets_rec : ∀ (l : List (List Expr)), szSets l ≤ n → setsOK4 d l = true → Lv2 d K (leavesSets4 l) →
    ∀ g ∈ l, (∀ e ∈ g, GE4 d K e) ∧ (∀ e, g = [e] → setElemOK e = true)
  | [], _, _, _ => fun a ha => by cases ha
  | g :: gs, hsz, hf, hl => by
    simp only [szSets] at hsz
    simp only [setsOK4, Bool.and_eq_true] at hf
    simp only [leavesSets4, lv2_append] at hl
    intro x hx
    rcases List.mem_cons.mp hx with rfl | hx
    · refine ⟨list_rec hK ihE ihQ x (by omega) hf.1 hl.2.1, fun e he => ?_⟩
      subst he
      exact (hl.1 (.guard fun _ => setElemOK e) (by simp [setG])).1
    · exact sets_rec gs (by omega) hf.2 hl.2.2 x hx

theorem good_S (s : Select) (hsz : szS4 s ≤ n + 1) (hs : FragS4 d s = true) (hl : Lv2 d K (leavesS4 s)) : GS4 d K s := by
  obtain ⟨ws, dist, cols, fr, lats, js, wh, gb, hv, ob, sb, db, cb, lm⟩ := s
  cases ws with
  | none => simp [FragS4] at hs
  | some w =>
  cases w with
  | cons a b => simp [FragS4] at hs
  | nil =>
  simp only [FragS4, Bool.and_eq_true] at hs
  obtain ⟨⟨⟨⟨⟨⟨⟨⟨⟨⟨⟨⟨⟨hcols, hne⟩, hfr⟩, hlt⟩, hjs⟩, hwh⟩, hgb⟩, hhv⟩, hob⟩, hsb⟩, hdb⟩, hcb⟩, hlm⟩, _⟩ := hs
  simp only [leavesS4, lv2_append] at hl
  obtain ⟨lcols, lfr, llt, ljs, lwh, lgb, lhv, lob, lguard, lsb, ldb, lcb⟩ := hl
  simp only [szS4] at hsz
  have cne : cols ≠ [] := by
    intro e; subst e; simp at hne
  obtain ⟨hlats, hG2⟩ := lats_rec hK ihE ihQ lats (by omega) hlt llt
  have hG1 : (sb.isSome || db.isSome || cb.isSome) = true → d = .HIVE := by
    intro hb
    rw [hb] at lguard
    have : (d == Gen.D.HIVE) = true := (lguard hiveG (by simp)).1
    simpa using this
  have ordc : ∀ (ob : Option (List OrderItem)), szOrder ob ≤ n → orderOK4 d ob = true → Lv2 d K (leavesOrder4 ob) →
      ob ≠ some [] ∧ ∀ l, ob = some l → ∀ o ∈ l, GO4 d K o := by
    intro ob hsz hob lob
    refine ⟨by intro e; subst e; simp [orderOK4] at hob, fun l hl o ho => ?_⟩
    subst hl
    cases l with
    | nil => cases ho
    | cons o0 os =>
      simp only [orderOK4] at hob
      exact ords_rec hK ihE ihQ (o0 :: os) (by simpa [szOrder] using hsz) (by simpa [ordTailOK4] using hob)
        (by simpa [leavesOrder4] using lob) o ho
  have byc : ∀ (ob : Option (List Expr)), szBy ob ≤ n → byOK4 d ob = true → Lv2 d K (leavesBy4 ob) →
      ob ≠ some [] ∧ ∀ l, ob = some l → ∀ e ∈ l, GE4 d K e := by
    intro ob hsz hob lob
    refine ⟨by intro e; subst e; simp [byOK4] at hob, fun l hl e he => ?_⟩
    subst hl
    cases l with
    | nil => cases he
    | cons e0 es =>
      simp only [byOK4, Bool.and_eq_true] at hob
      exact list_rec hK ihE ihQ (e0 :: es) (by simpa [szBy] using hsz) (by simp only [FragL4, Bool.and_eq_true]; exact hob)
        (by simpa [leavesBy4] using lob) e he
  obtain ⟨ob1, ob2⟩ := ordc ob (by omega) hob lob
  obtain ⟨sb1, sb2⟩ := ordc sb (by omega) hsb lsb
  obtain ⟨db1, db2⟩ := byc db (by omega) hdb ldb
  obtain ⟨cb1, cb2⟩ := byc cb (by omega) hcb lcb
  refine gs_select dist cols fr lats js wh gb hv ob sb db cb lm hG1 hG2 (cols_all cols cne (cols_rec hK ihE ihQ cols (by omega) hcols lcols)) ?_
    (cl_lats lats hlats) (cl_joins js (joins_rec hK ihE ihQ js (by omega) hjs ljs))
    (cl_where wh (opt_rec hK ihE ihQ wh (by omega) hwh lwh)) ?_ (cl_having hv (opt_rec hK ihE ihQ hv (by omega) hhv lhv))
    (cl_order ob ob1 ob2) (cl_sort hK sb sb1 sb2) (cl_distribute hK db db1 db2) (cl_cluster hK cb cb1 cb2) (cl_limit lm hlm)
  · -- FROM
    refine cl_from fr ?_ ?_
    · intro e; subst e; simp [fromOK4] at hfr
    · intro l hl t ht
      subst hl
      cases l with
      | nil => cases ht
      | cons t0 ts =>
        simp only [fromOK4] at hfr
        exact tables_rec hK ihE ihQ (t0 :: ts) (by simp only [szFrom] at hsz; omega) (by simpa [tablesOK4] using hfr)
          (by simpa [leavesFrom4] using lfr) t ht
  · -- GROUP BY
    cases gb with
    | none => exact cl_group hK none (fun _ _ _ _ h => by cases h) (fun _ _ _ _ h => by cases h) (fun _ _ _ _ h => by cases h)
    | some g =>
      obtain ⟨gc, sets, cube, rollup⟩ := g
      simp only [leavesGroup4, lv2_append] at lgb
      have hszk : szL4 gc ≤ n ∧ ∀ l, sets = some l → szSets l ≤ n := by
        cases sets with
        | none =>
          have h2 := hsz
          simp only [szGroup] at h2
          exact ⟨by omega, fun l hl => by cases hl⟩
        | some l0 =>
          have h2 := hsz
          simp only [szGroup] at h2
          exact ⟨by omega, fun l hl => by cases hl; omega⟩
      have hfk : FragL4 d gc = true ∧ ∀ l, sets = some l → setsOK4 d l = true := by
        cases gc with
        | nil =>
          cases sets with
          | none => simp [groupOK4] at hgb
          | some l0 => exact ⟨rfl, fun l hl => by cases hl; simpa [groupOK4] using hgb⟩
        | cons e es =>
          cases sets with
          | none =>
            simp only [groupOK4, Bool.and_eq_true] at hgb
            exact ⟨by simp only [FragL4, Bool.and_eq_true]; exact ⟨hgb.1.1.1, hgb.1.1.2⟩, fun l hl => by cases hl⟩
          | some l0 =>
            simp only [groupOK4, Bool.and_eq_true] at hgb
            exact ⟨by simp only [FragL4, Bool.and_eq_true]; exact ⟨hgb.1.1.1, hgb.1.1.2⟩, fun l hl => by cases hl; exact hgb.2⟩
      have hkeys : ∀ e ∈ gc, GE4 d K e := list_rec hK ihE ihQ gc hszk.1 hfk.1 lgb.1
      refine cl_group hK _ ?_ ?_ ?_
      · intro c2 s2 cu2 r2 h
        cases h
        cases gc with
        | cons e es => exact Or.inl (by simp)
        | nil =>
          cases sets with
          | some l => exact Or.inr (by simp)
          | none => simp [groupOK4] at hgb
      · intro c2 s2 cu2 r2 h; cases h; exact hkeys
      · intro c2 l cu2 r2 h
        cases h
        have hl2 := lgb.2
        simp only [leavesSetsOpt4] at hl2
        exact sets_rec hK ihE ihQ l (hszk.2 l rfl) (hfk.2 l rfl) hl2

theorem un_rec : ∀ (us : List (String × Select)), szUn2 us ≤ n + 1 → FragUn2 d us = true → Lv2 d K (leavesUn2 us) →
    ∀ p ∈ us, unionTyOK4 d p.1 = true ∧ GS4 d K p.2
  | [], _, _, _ => fun a ha => by cases ha
  | (t, s) :: us, hsz, hf, hl => by
    simp only [szUn2] at hsz
    simp only [FragUn2, Bool.and_eq_true] at hf
    simp only [leavesUn2, lv2_append] at hl
    intro x hx
    rcases List.mem_cons.mp hx with rfl | hx
    · exact ⟨hf.1.1, good_S hK ihE ihQ s (by omega) hf.1.2 hl.1⟩
    · exact un_rec us (by omega) hf.2 hl.2 x hx

theorem good_Q (q : Query) (hsz : szQ2 q ≤ n + 1) (hq : FragQ2 d q = true) (hl : Lv2 d K (leavesQ2 q)) : GQ4 d K q := by
  cases q with
  | single s =>
    simp only [szQ2] at hsz
    exact gq_single s (good_S hK ihE ihQ s (by omega) (by simpa [FragQ2] using hq) (by simpa [leavesQ2] using hl))
  | union ws s us =>
    cases ws with
    | none => simp [FragQ2] at hq
    | some l =>
      cases l with
      | cons _ _ => simp [FragQ2] at hq
      | nil =>
        simp only [FragQ2, Bool.and_eq_true, Bool.true_and] at hq
        simp only [szQ2] at hsz
        simp only [leavesQ2, lv2_append] at hl
        exact gq_union s us (good_S hK ihE ihQ s (by omega) hq.1.1 hl.1) (un_rec hK ihE ihQ us (by omega) hq.1.2 hl.2)


theorem good_E (e : Expr) (hsz : szE4 e ≤ n + 1) (hf : FragE4 d e = true) (hl : Lv2 d K (leavesE4 e)) : GE4 d K e := by
  cases e <;> (try simp only [szE4] at hsz) <;> (try simp only [FragE4, Bool.and_eq_true] at hf) <;> try (simp at hf; done)
  case column t c =>
    simp only [leavesE4, lv2_cons, lv2_nil, and_true] at hl
    cases t with
    | none => exact ge_col c hl.1 (hl.2 c (by simp [strs]))
    | some t => exact ge_qcol t c hl.1 (hl.2 t (by simp [strs])) (hl.2 c (by simp [strs]))
  case literal v =>
    simp only [leavesE4, lv2_cons, lv2_nil, and_true] at hl
    exact ge_lit v hf hl.1 (hl.2 v (by simp [strs]))
  case wildcard t =>
    cases t with
    | none => exact ge_star
    | some t =>
      simp only [leavesE4, lv2_cons, lv2_nil, and_true] at hl
      exact ge_wild t hl.1 (hl.2 t (by simp [strs]))
  case func s nm ps =>
    simp only [leavesE4, lv2_cons] at hl
    exact ge_func s nm ps hl.1.1 hl.1.2 (list_rec hK ihE ihQ ps (by omega) hf.2 hl.2)
  case agg nm ps dist =>
    simp only [leavesE4, lv2_cons] at hl
    exact ge_agg nm ps dist hl.1.1 (hl.1.2 nm (by simp [strs])) (list_rec hK ihE ihQ ps (by omega) hf.2 hl.2)
  case caseCond cs els =>
    simp only [leavesE4, lv2_append] at hl
    exact ge_caseCond cs els (arms_rec hK ihE ihQ cs (by omega) hf.1.1 hl.1) (opt_rec hK ihE ihQ els (by omega) hf.1.2 hl.2)
  case caseVal v cs els =>
    simp only [leavesE4, lv2_append] at hl
    exact ge_caseVal v cs els (ihE v (by omega) hf.1.1.1 hl.1) (arms_rec hK ihE ihQ cs (by omega) hf.1.1.2 hl.2.1)
      (opt_rec hK ihE ihQ els (by omega) hf.1.2 hl.2.2)
  case subQuery q =>
    exact ge_subQuery q (ihQ q (by omega) hf (by simpa [leavesE4] using hl))
  case exists_ v =>
    exact ge_exists v (ihE v (by omega) (isSubQ_frag hf) (by simpa [leavesE4] using hl))
  case unary o y =>
    exact ge_unary o y hf.1 (ihE y (by omega) hf.2 (by simpa [leavesE4] using hl))
  case compute l o r =>
    simp only [leavesE4, lv2_append] at hl
    exact ge_compute l r o hf.1.1 (ihE l (by omega) hf.1.2 hl.1) (ihE r (by omega) hf.2 hl.2)
  case kw k n0 l r =>
    simp only [leavesE4, lv2_append] at hl
    refine ge_kw k n0 l r (ihE l (by omega) hf.1.1 hl.1) ?_
    by_cases hk : k = .in_
    · subst hk
      have hr := hf.1.2
      simp only [beq_self_eq_true, if_true] at hr
      cases r <;> try (simp [inRhs4] at hr; done)
      case subValue vs =>
        simp only [inRhs4, Bool.and_eq_true] at hr
        simp only [szE4] at hsz
        exact ge_subValue vs (list_rec hK ihE ihQ vs (by omega) hr.1.1 (by simpa [leavesE4] using hl.2))
      case subQuery q =>
        exact ihE _ (by omega) (by simpa [FragE4, inRhs4] using hr) hl.2
    · have hk' : (k == KwKind.in_) = false := by simpa using hk
      have hr := hf.1.2
      simp only [hk', Bool.false_eq_true, if_false] at hr
      exact ihE r (by omega) hr hl.2
  case between n0 b f t =>
    simp only [leavesE4, lv2_append] at hl
    exact ge_between n0 b f t (ihE b (by omega) hf.1.1.1 hl.1) (ihE f (by omega) hf.1.1.2 hl.2.1) (ihE t (by omega) hf.1.2 hl.2.2)
  case compare o l r =>
    simp only [leavesE4, lv2_append] at hl
    exact ge_compare o l r hf.1.1.1 (ihE l (by omega) hf.1.1.2 hl.1) (ihE r (by omega) hf.1.2 hl.2)
  case not_ y => exact ge_not y (ihE y (by omega) hf (by simpa [leavesE4] using hl))
  case and_ l r =>
    simp only [leavesE4, lv2_append] at hl
    exact ge_and l r (ihE l (by omega) hf.1 hl.1) (ihE r (by omega) hf.2 hl.2)
  case xor l r =>
    simp only [leavesE4, lv2_append] at hl
    exact ge_xor l r (ihE l (by omega) hf.1 hl.1) (ihE r (by omega) hf.2 hl.2)
  case or_ l r =>
    simp only [leavesE4, lv2_append] at hl
    exact ge_or l r (ihE l (by omega) hf.1 hl.1) (ihE r (by omega) hf.2 hl.2)
  case cast e sg ty ps =>
    exact ge_cast hK e sg ty ps hf.1.2 hf.2 (ihE e (by omega) hf.1.1 (by simpa [leavesE4] using hl))
  case extract n0 e =>
    simp only [leavesE4, lv2_append] at hl
    exact ge_extract hK n0 e (ihE n0 (by omega) hf.1 hl.1) (ihE e (by omega) hf.2 hl.2)
  case window fn part ord rows =>
    simp only [leavesE4, lv2_append] at hl
    exact ge_window hK fn part ord rows (ihE fn (by omega) (winFn_frag hf.1.1.1) hl.1) (list_rec hK ihE ihQ part (by omega) hf.1.1.2 hl.2.1)
      (ords_rec hK ihE ihQ ord (by omega) hf.1.2 hl.2.2) hf.2
  case index a i =>
    have hl1 : Lv2 d K (hiveG :: .guard (fun _ => idxInnerOK i) :: (leavesE4 a ++ leavesE4 i)) := by simpa only [leavesE4] using hl
    have la : Lv2 d K (leavesE4 a) := fun x hx => hl1 x (by simp [hx])
    have li : Lv2 d K (leavesE4 i) := fun x hx => hl1 x (by simp [hx])
    have hi : idxInnerOK i = true := (hl1 (.guard fun _ => idxInnerOK i) (by simp)).1
    have hd : d = .HIVE := by
      have : (d == Gen.D.HIVE) = true := (hl1 hiveG (by simp)).1
      simpa using this
    refine ge_index hK a i hd hf.1 hi la li (ihE a (by omega) (idxBase_frag hf.1) la) (ihE i (by omega) hf.2 li) ?_
    intro nm ps ha
    subst ha
    have hb := hf.1
    simp only [idxBaseOK4, Bool.and_eq_true] at hb
    simp only [leavesE4, lv2_cons_old] at la
    simp only [szE4] at hsz
    exact list_rec hK ihE ihQ ps (by omega) hb.2 la.2

end

theorem good_all (d : Gen.D) (K : QKit) (hK : QW2 K) : ∀ n,
    (∀ e, szE4 e ≤ n → FragE4 d e = true → Lv2 d K (leavesE4 e) → GE4 d K e) ∧
    (∀ q, szQ2 q ≤ n → FragQ2 d q = true → Lv2 d K (leavesQ2 q) → GQ4 d K q) := by
  intro n
  induction n with
  | zero =>
    refine ⟨fun e he => ?_, fun q hq => ?_⟩
    · have := szE4_pos e; omega
    · cases q <;> simp [szQ2] at hq
  | succ n ih =>
    obtain ⟨ihE, ihQ⟩ := ih
    exact ⟨fun e he hf hl => good_E hK ihE ihQ e he hf hl, fun q hq hf hl => good_Q hK ihE ihQ q hq hf hl⟩

theorem good_expr (d : Gen.D) (K : QKit) (hK : QW2 K) (e : Expr) (hf : FragE4 d e = true) (hl : Lv2 d K (leavesE4 e)) : GE4 d K e :=
  (good_all d K hK (szE4 e)).1 e (Nat.le_refl _) hf hl
theorem good_query (d : Gen.D) (K : QKit) (hK : QW2 K) (q : Query) (hf : FragQ2 d q = true) (hl : Lv2 d K (leavesQ2 q)) : GQ4 d K q :=
  (good_all d K hK (szQ2 q)).2 q (Nat.le_refl _) hf hl

end LL2
