import MsqProofs.Lemmas.ParseAdq0
/-! GENERATED by tools/gen_out.py — C07/C19 fuel adequacy: the mutual block of MsqModel/Parse/Expr.lean, as a record -/
open Lex PM Ast
namespace PM

/-- every function of the mutual block, with fuel `n`: `rank + weight of the cursor ≤ n` is enough (ranks: tools/gen_out.py --ranks) -/
structure AdqF (d : Gen.D) (n : Nat) : Prop where
  pElement : ∀ x0, 5 + (adqWL x0) ≤ n → pElement d n x0 ≠ .error .fuel
  pParen : ∀ x0 x1, 2 + (adqW x0 + adqWL x1) ≤ n → pParen d n x0 x1 ≠ .error .fuel
  pNamed : ∀ x0 x1 x2, Sfx x1 x2 → 4 + (adqWL x2) ≤ n → pNamed d n x0 x1 x2 ≠ .error .fuel
  pQualified : ∀ x0 x1 x2, Sfx x1 x2 → 3 + (adqWL x2) ≤ n → pQualified d n x0 x1 x2 ≠ .error .fuel
  pIndex : ∀ x0 x1, 1 + (adqWL x1) ≤ n → pIndex d n x0 x1 ≠ .error .fuel
  pFuncIdx : ∀ x0, 2 + (adqWL x0) ≤ n → pFuncIdx d n x0 ≠ .error .fuel
  pFunc : ∀ x0, 1 + (adqWL x0) ≤ n → pFunc d n x0 ≠ .error .fuel
  pIfCall : ∀ x0, 1 + (adqWL x0) ≤ n → pIfCall d n x0 ≠ .error .fuel
  pFirstDiscard : ∀ x0, 15 + (adqWL x0) ≤ n → pFirstDiscard d n x0 ≠ .error .fuel
  pFirstArg : ∀ x0, 15 + (adqWL x0) ≤ n → pFirstArg d n x0 ≠ .error .fuel
  pCall : ∀ x0 x1 x2, 1 + (adqWL x2) ≤ n → pCall d n x0 x1 x2 ≠ .error .fuel
  pArgs : ∀ x0 x1, 1 + (adqWL x1) ≤ n → pArgs d n x0 x1 ≠ .error .fuel
  pCase : ∀ x0, 1 + (adqWL x0) ≤ n → pCase d n x0 ≠ .error .fuel
  pElseEnd : ∀ x0, 1 + (adqWL x0) ≤ n → pElseEnd d n x0 ≠ .error .fuel
  pWhens : ∀ x0 x1, 1 + (adqWL x1) ≤ n → pWhens d n x0 x1 ≠ .error .fuel
  pUnary : ∀ x0, 6 + (adqWL x0) ≤ n → pUnary d n x0 ≠ .error .fuel
  pCompute : ∀ x0, 7 + (adqWL x0) ≤ n → pCompute d n x0 ≠ .error .fuel
  pComputeLoop : ∀ x0 x1 x2, 1 + (adqWL x2) ≤ n → pComputeLoop d n x0 x1 x2 ≠ .error .fuel
  pKeyword : ∀ x0 x1, 9 + (adqWL x1) ≤ n → pKeyword d n x0 x1 ≠ .error .fuel
  pKwFirst : ∀ x0 x1, 8 + (adqWL x1) ≤ n → pKwFirst d n x0 x1 ≠ .error .fuel
  pKwRest : ∀ x0 x1 x2, 1 + (adqWL x2) ≤ n → pKwRest d n x0 x1 x2 ≠ .error .fuel
  pKwBody : ∀ x0 x1 x2 x3, 9 + (adqWL x3) ≤ n → pKwBody d n x0 x1 x2 x3 ≠ .error .fuel
  pBetween : ∀ x0 x1 x2, 8 + (adqWL x2) ≤ n → pBetween d n x0 x1 x2 ≠ .error .fuel
  pInBody : ∀ x0 x1 x2, 2 + (adqWL x2) ≤ n → pInBody d n x0 x1 x2 ≠ .error .fuel
  pSplit : ∀ x0 x1 x2, 8 + (adqWL x1 + adqWL x2 + x2.length) ≤ n → pSplit d n x0 x1 x2 ≠ .error .fuel
  pCompare : ∀ x0, 10 + (adqWL x0) ≤ n → pCompare d n x0 ≠ .error .fuel
  pCompareLoop : ∀ x0 x1, 1 + (adqWL x1) ≤ n → pCompareLoop d n x0 x1 ≠ .error .fuel
  pNot : ∀ x0, 11 + (adqWL x0) ≤ n → pNot d n x0 ≠ .error .fuel
  pAnd : ∀ x0, 12 + (adqWL x0) ≤ n → pAnd d n x0 ≠ .error .fuel
  pAndLoop : ∀ x0 x1, 1 + (adqWL x1) ≤ n → pAndLoop d n x0 x1 ≠ .error .fuel
  pXor : ∀ x0, 13 + (adqWL x0) ≤ n → pXor d n x0 ≠ .error .fuel
  pXorLoop : ∀ x0 x1, 1 + (adqWL x1) ≤ n → pXorLoop d n x0 x1 ≠ .error .fuel
  pOr : ∀ x0, 14 + (adqWL x0) ≤ n → pOr d n x0 ≠ .error .fuel
  pOrLoop : ∀ x0 x1, 1 + (adqWL x1) ≤ n → pOrLoop d n x0 x1 ≠ .error .fuel
  pSubQuery : ∀ x0, 1 + (adqWL x0) ≤ n → pSubQuery d n x0 ≠ .error .fuel
  pCast : ∀ x0, 1 + (adqWL x0) ≤ n → pCast d n x0 ≠ .error .fuel
  pExtract : ∀ x0, 1 + (adqWL x0) ≤ n → pExtract d n x0 ≠ .error .fuel
  pExtractTail : ∀ x0 x1, 1 + (adqWL x1) ≤ n → pExtractTail d n x0 x1 ≠ .error .fuel
  pWindow : ∀ x0, 3 + (adqWL x0) ≤ n → pWindow d n x0 ≠ .error .fuel
  pWindowBody : ∀ x0 x1, 2 + (adqWL x1) ≤ n → pWindowBody d n x0 x1 ≠ .error .fuel
  pPartitionBy : ∀ x0, 1 + (adqWL x0) ≤ n → pPartitionBy d n x0 ≠ .error .fuel
  pComputeList : ∀ x0 x1, 1 + (adqWL x1) ≤ n → pComputeList d n x0 x1 ≠ .error .fuel
  pOrderItem : ∀ x0, 8 + (adqWL x0) ≤ n → pOrderItem d n x0 ≠ .error .fuel
  pOrderList : ∀ x0 x1, 1 + (adqWL x1) ≤ n → pOrderList d n x0 x1 ≠ .error .fuel
  pOrderByOpt : ∀ x0, 1 + (adqWL x0) ≤ n → pOrderByOpt d n x0 ≠ .error .fuel
  pSelectCol : ∀ x0, 15 + (adqWL x0) ≤ n → pSelectCol d n x0 ≠ .error .fuel
  pSelectCols : ∀ x0 x1, 1 + (adqWL x1) ≤ n → pSelectCols d n x0 x1 ≠ .error .fuel
  pTableExpr : ∀ x0, 2 + (adqWL x0) ≤ n → pTableExpr d n x0 ≠ .error .fuel
  pFromTable : ∀ x0, 3 + (adqWL x0) ≤ n → pFromTable d n x0 ≠ .error .fuel
  pFromTables : ∀ x0 x1, 1 + (adqWL x1) ≤ n → pFromTables d n x0 x1 ≠ .error .fuel
  pJoin : ∀ x0, 1 + (adqWL x0) ≤ n → pJoin d n x0 ≠ .error .fuel
  pJoinRule : ∀ x0 x1 x2, 2 + (adqWL x2) ≤ n → pJoinRule d n x0 x1 x2 ≠ .error .fuel
  pJoins : ∀ x0 x1 x2 x3, 2 + (adqWL x3) ≤ n → pJoins d n x0 x1 x2 x3 ≠ .error .fuel
  pOptOr : ∀ x0 x1, 1 + (adqWL x1) ≤ n → pOptOr d n x0 x1 ≠ .error .fuel
  pGroupingElem : ∀ x0, 8 + (adqWL x0) ≤ n → pGroupingElem d n x0 ≠ .error .fuel
  pClosedEach : ∀ x0 x1, 8 + (adqWLL x1) ≤ n → pClosedEach d n x0 x1 ≠ .error .fuel
  pGroupingElems : ∀ x0 x1, 9 + (adqWLL x1) ≤ n → pGroupingElems d n x0 x1 ≠ .error .fuel
  pGroupingSets : ∀ x0, 1 + (adqWL x0) ≤ n → pGroupingSets d n x0 ≠ .error .fuel
  pGroupBy : ∀ x0, 1 + (adqWL x0) ≤ n → pGroupBy d n x0 ≠ .error .fuel
  pGroupCols : ∀ x0, 8 + (adqWL x0) ≤ n → pGroupCols d n x0 ≠ .error .fuel
  pGroupSetsOpt : ∀ x0, 2 + (adqWL x0) ≤ n → pGroupSetsOpt d n x0 ≠ .error .fuel
  pWithTable : ∀ x0, 1 + (adqWL x0) ≤ n → pWithTable d n x0 ≠ .error .fuel
  pWithBody : ∀ x0 x1, 1 + (adqWL x1) ≤ n → pWithBody d n x0 x1 ≠ .error .fuel
  pWithTables : ∀ x0 x1, 1 + (adqWL x1) ≤ n → pWithTables d n x0 x1 ≠ .error .fuel
  pWith : ∀ x0, 1 + (adqWL x0) ≤ n → pWith d n x0 ≠ .error .fuel
  pSelectBody : ∀ x0 x1 x2 x3, 1 + (adqWL x3) ≤ n → pSelectBody d n x0 x1 x2 x3 ≠ .error .fuel
  pFromOpt : ∀ x0, 1 + (adqWL x0) ≤ n → pFromOpt d n x0 ≠ .error .fuel
  pSelectRest : ∀ x0 x1 x2 x3 x4 x5, 4 + (adqWL x5) ≤ n → pSelectRest d n x0 x1 x2 x3 x4 x5 ≠ .error .fuel
  pSelectTail : ∀ x0 x1 x2 x3 x4 x5 x6, 3 + (adqWL x6) ≤ n → pSelectTail d n x0 x1 x2 x3 x4 x5 x6 ≠ .error .fuel
  pWhereGroup : ∀ x0, 2 + (adqWL x0) ≤ n → pWhereGroup d n x0 ≠ .error .fuel
  pHavingOrder : ∀ x0, 2 + (adqWL x0) ≤ n → pHavingOrder d n x0 ≠ .error .fuel
  pHiveClauses : ∀ x0, 2 + (adqWL x0) ≤ n → pHiveClauses d n x0 ≠ .error .fuel
  pSortBy : ∀ x0, 1 + (adqWL x0) ≤ n → pSortBy d n x0 ≠ .error .fuel
  pByList : ∀ x0 x1, 1 + (adqWL x1) ≤ n → pByList d n x0 x1 ≠ .error .fuel
  pLateral : ∀ x0, 1 + (adqWL x0) ≤ n → pLateral d n x0 ≠ .error .fuel
  pLaterals : ∀ x0 x1 x2 x3, 2 + (adqWL x3) ≤ n → pLaterals d n x0 x1 x2 x3 ≠ .error .fuel
  pSingle : ∀ x0 x1, 2 + (adqWL x1) ≤ n → pSingle d n x0 x1 ≠ .error .fuel
  pSingleParen : ∀ x0 x1 x2 x3, 2 + (adqWL x1 + adqWL x3) ≤ n → pSingleParen d n x0 x1 x2 x3 ≠ .error .fuel
  pSelectStmt : ∀ x0 x1, 3 + (adqWL x1) ≤ n → pSelectStmt d n x0 x1 ≠ .error .fuel
  pUnions : ∀ x0 x1 x2, 1 + (adqWL x2) ≤ n → pUnions d n x0 x1 x2 ≠ .error .fuel

end PM
