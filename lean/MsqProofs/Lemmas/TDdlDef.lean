import MsqProofs.Lemmas.TDdlCol
/-!
# T-parse for CREATE TABLE: `_parse_define_column_expression` on a whole column definition (C18 / C03)

`defCol_seg`: the tree is the printed one, attribute by attribute, in front of what may follow a clause of a definition list; `pDefCol_ok`
is the case `r = []` of a bracket segment of CREATE TABLE (the callers `close()` the sub-cursor).
-/
open Lex PM Ast TP TS
namespace TD
variable {d : Gen.D}

def attrKws : List String := ["UNSIGNED", "ZEROFILL", "CHARACTER", "COLLATE", "GENERATED", "NULL", "NOT", "AUTO_INCREMENT", "DEFAULT", "ON", "COMMENT"]

theorem HeadIn.comment {ks : List String} (cm : Option String) (tail : List Tok) (hk : "COMMENT" ∈ ks) (h : HeadIn ks tail) :
    HeadIn ks (toksComment cm ++ tail) := 
  HeadIn.piece "COMMENT" hk (by cases cm <;> simp [toksComment]) h
theorem HeadIn.onUpdate {ks : List String} (ou : Option Expr) (tail : List Tok) (hk : "ON" ∈ ks) (h : HeadIn ks tail) :
    HeadIn ks (toksOnUpdate d ou ++ tail) := 
  HeadIn.piece "ON" hk (by cases ou <;> simp [toksOnUpdate]) h
theorem HeadIn.default {ks : List String} (df : Option Expr) (tail : List Tok) (hk : "DEFAULT" ∈ ks) (h : HeadIn ks tail) :
    HeadIn ks (toksDefault d df ++ tail) := 
  HeadIn.piece "DEFAULT" hk (by cases df <;> simp [toksDefault]) h
theorem HeadIn.collate {ks : List String} (co : Option String) (tail : List Tok) (hk : "COLLATE" ∈ ks) (h : HeadIn ks tail) :
    HeadIn ks (toksCollate co ++ tail) := 
  HeadIn.piece "COLLATE" hk (by cases co <;> simp [toksCollate]) h
theorem HeadIn.generated {ks : List String} (gen : Option GenCol) (tail : List Tok) (hk : "GENERATED" ∈ ks) (h : HeadIn ks tail) :
    HeadIn ks (toksGenerated d gen ++ tail) := by
  rcases gen with _ | ⟨e, _ | m⟩
  · exact h
  · exact h
  · exact HeadIn.cons _ _ hk
theorem HeadIn.charset {ks : List String} (cs : Option String) (tail : List Tok) (hk : "CHARACTER" ∈ ks) (h : HeadIn ks tail) :
    HeadIn ks (toksCharset cs ++ tail) := 
  HeadIn.piece "CHARACTER" hk (by cases cs <;> simp [toksCharset]) h

theorem headIn_attrs (c : DefCol) : HeadIn attrKws (toksAttrs d c) := by
  have hc : HeadIn attrKws (toksComment c.comment) := by
    have := HeadIn.comment c.comment [] (ks := attrKws) (by decide) (HeadIn.nil _)
    simpa using this
  unfold toksAttrs
  split
  · unfold toksMyAttrs
    exact HeadIn.flag _ _ _ (by decide) (HeadIn.flag _ _ _ (by decide) (HeadIn.charset _ _ (by decide) (HeadIn.collate _ _ (by decide)
      (HeadIn.generated _ _ (by decide) (HeadIn.flag _ _ _ (by decide) (HeadIn.flag _ _ _ (by decide) (HeadIn.flag _ _ _ (by decide)
        (HeadIn.default _ _ (by decide) (HeadIn.onUpdate _ _ (by decide) hc)))))))))
  · exact hc

theorem defCol_seg (c : DefCol) (hc : colOK d c = true) (r : List Tok) (hr : SegEnd r) (h8 : stopLE d 8 r = true) (f : Nat)
    (hf : 20 * sizeL (toksDefCol d c) + 2 ≤ f) : pDefCol d f (toksDefCol d c ++ r) = .ok (c, r) := by
  have hattr := headIn_attrs (d := d) c
  obtain ⟨n, ty, us, zf, cs, co, gen, an, nn, ai, df, ou, cm⟩ := c
  simp only [colOK, Bool.and_eq_true, nameOK, beq_iff_eq] at hc
  obtain ⟨⟨hn, hty⟩, hrest⟩ := hc
  have hsz : sizeL (toksDefCol d ⟨n, ty, us, zf, cs, co, gen, an, nn, ai, df, ou, cm⟩) =
      1 + (sizeL (toksType d ty) + sizeL (toksAttrs d ⟨n, ty, us, zf, cs, co, gen, an, nn, ai, df, ou, cm⟩)) := by
    simp [toksDefCol, sizeL_cons, sizeL_append, nameTok, size_single]
  have h1 : pColType d f (toksType d ty ++ (toksAttrs d ⟨n, ty, us, zf, cs, co, gen, an, nn, ai, df, ou, cm⟩ ++ r)) =
      .ok (ty, toksAttrs d ⟨n, ty, us, zf, cs, co, gen, an, nn, ai, df, ou, cm⟩ ++ r) :=
    pColType_ok ty hty _ (hattr.noParen_app (by decide) r hr.paren) f (by omega)
  have s1 : stopLE d 8 (toksComment cm ++ r) = true := by
    have h0 : HeadIn ["COMMENT"] (toksComment cm) := by
      have := HeadIn.comment cm [] (ks := ["COMMENT"]) (by decide) (HeadIn.nil _)
      simpa using this
    exact h0.stop8_app d (by decide) r h8
  have s2 : stopLE d 8 (toksOnUpdate d ou ++ (toksComment cm ++ r)) = true := by
    have := (HeadIn.onUpdate (d := d) ou _ (ks := ["ON", "COMMENT"]) (by decide)
      (HeadIn.comment cm [] (by decide) (HeadIn.nil _))).stop8_app d (by decide) r h8
    simpa using this
  simp only [pDefCol, toksDefCol, List.cons_append, List.append_assoc, popSrc, hn, h1]
  by_cases hd : d = .MYSQL
  · subst hd
    simp only [if_true, Bool.and_eq_true] at hrest
    have hA : toksAttrs .MYSQL ⟨n, ty, us, zf, cs, co, gen, an, nn, ai, df, ou, cm⟩ =
        toksMyAttrs .MYSQL ⟨n, ty, us, zf, cs, co, gen, an, nn, ai, df, ou, cm⟩ (toksComment cm) := by simp [toksAttrs]
    rw [hA] at hsz ⊢
    simp only [toksMyAttrs, sizeL_append] at hsz
    have hfd : ∀ e, df = some e → 20 * sizeL (W .MYSQL noX e 8) + 2 ≤ f := by
      intro e he; subst he; simp only [toksDefault, sizeL_cons] at hsz; omega
    have hfo : ∀ e, ou = some e → 20 * sizeL (W .MYSQL noX e 8) + 2 ≤ f := by
      intro e he; subst he; simp only [toksOnUpdate, sizeL_cons] at hsz; omega
    have hfg : ∀ e m, gen = some ⟨e, some m⟩ → 20 * sizeL (W .MYSQL noX e 8) + 2 ≤ f := by
      intro e m he; subst he; simp only [toksGenerated, sizeL_cons, size_grp] at hsz; omega
    have k0 := dl_end_seg (d := .MYSQL) f ⟨n, ty, us, zf, cs, co, gen, an, nn, ai, df, ou, cm⟩ r hr.ends
    have k1 := dl_comment f n ty us zf cs co gen an nn ai df ou cm r _ _ k0
    have k2 := dl_onUpdate f n ty us zf cs co gen an nn ai df ou none _ _ _ s1 hrest.1.2 hfo k1
    have k3 := dl_default f n ty us zf cs co gen an nn ai df none none _ _ _ s2 hrest.1.1 hfd k2
    have k4 := dl_autoInc f n ty us zf cs co gen an nn ai none none none _ _ _ k3
    have k5 := dl_notNull f n ty us zf cs co gen an nn false none none none _ _ _ k4
    have k6 := dl_allowNull f n ty us zf cs co gen an false false none none none _ _ _ k5
    have k6' := dl_generated f n ty us zf cs co gen false false false none none none _ _ _ hrest.2 hfg k6
    have k7 := dl_collate f n ty us zf cs co none false false false none none none _ _ _ k6'
    have k8 := dl_charset f n ty us zf cs none none false false false none none none _ _ _ k7
    have k9 := dl_zerofill f n ty us zf none none none false false false none none none _ _ _ k8
    have k10 := dl_unsigned f n ty us false none none none false false false none none none _ _ _ k9
    simp only [toksMyAttrs, List.append_assoc]
    exact k10 _ (by simp only [List.length_append]; omega)
  · have hb : (d == Gen.D.MYSQL) = false := by simpa using hd
    rw [if_neg hd] at hrest
    simp only [Bool.and_eq_true, Bool.not_eq_true', Option.isNone_iff_eq_none] at hrest
    obtain ⟨⟨⟨⟨⟨⟨⟨⟨⟨g0, g1⟩, g2⟩, g3⟩, g4⟩, g5⟩, g6⟩, g7⟩, g8⟩, g9⟩ := hrest
    subst g0 g1 g2 g3 g4 g5 g6 g7 g8 g9
    have hA : toksAttrs d ⟨n, ty, false, false, none, none, none, false, false, false, none, none, cm⟩ = toksComment cm := by
      simp [toksAttrs, hb]
    rw [hA]
    have k0 := dl_end_seg (d := d) f ⟨n, ty, false, false, none, none, none, false, false, false, none, none, cm⟩ r hr.ends
    have k1 := dl_comment f n ty false false none none none false false false none none cm r _ _ k0
    exact k1 _ (by simp only [List.length_append]; omega)

theorem pDefCol_ok (c : DefCol) (hc : colOK d c = true) (f : Nat) (hf : 20 * sizeL (toksDefCol d c) + 2 ≤ f) :
    pDefCol d f (toksDefCol d c) = .ok (c, []) := by
  simpa using defCol_seg c hc [] .nil rfl f hf

theorem toksDefCol_ne (c : DefCol) : (toksDefCol d c).isEmpty = false := rfl

end TD
