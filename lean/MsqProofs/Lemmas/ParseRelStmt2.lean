import MsqProofs.Lemmas.ParseRelStmt
/-! GENERATED by tools/gen_rel.py — relational reading of the parser model: the statement level from CREATE TABLE to `parse_statements` (`pStatements_rel`).  Written by hand: `pMsck_rel`, `pTruncate_rel` (tools/hand/ParseRelStmt2.lean.in, put in by tools/hand_blocks.py) -/
set_option linter.unusedVariables false
set_option linter.unusedSectionVars false
set_option linter.unusedSimpArgs false
open Lex Ast PMQ
namespace PM.Rel
variable [T : Theory]

attribute [local grind] mapE mapO mapTR mapFT mapJR mapLat mapW mapTN mapCT mapGC mapDC mapIC mapIx mapFK mapCI mapAO mapCS mapCR mapIH mapSt0

theorem createElems_rel (d : Gen.D) (f : Nat) : ∀ x0 x1 y0 y1, GELL T.E x0 y0 → geq (mapCR T.m T.m2) x1 y1 → GEX (geq (mapCR T.m T.m2)) (createElems d f x0 x1) (createElems d f y0 y1) := by
  intro x0
  induction x0 with
  | nil => intro c y0 c' h_segs h_c; cases y0 <;> simp_all [createElems]
  | cons sg rest ih =>
    intro c y0 c' h_segs h_c
    cases y0 with
    | nil => simp at h_segs
    | cons sg' rest' =>
      obtain ⟨h_sg, h_rest⟩ := gell_cons_cons .. ▸ h_segs
      unfold createElems
      refine gex_if (gel_searchTwoUp h_sg "PRIMARY" "KEY" plainT_PRIMARY plainT_KEY) ?_ ?_
      · rel_bindx closed_rel (pPrimaryIndex_rel sg sg' h_sg) with i i' h_i
        exact ih { c with primaryKey := some i } rest' { c' with primaryKey := some i' } h_rest (by cases c; cases c'; grind)
      refine gex_if (gel_searchTwoUp h_sg "UNIQUE" "KEY" plainT_UNIQUE plainT_KEY) ?_ ?_
      · rel_bindx closed_rel (pUniqueIndex_rel sg sg' h_sg) with i i' h_i
        exact ih { c with uniqueKey := c.uniqueKey ++ [i] } rest' { c' with uniqueKey := c'.uniqueKey ++ [i'] } h_rest (by cases c; cases c'; grind)
      refine gex_if (gel_searchStrUp h_sg "KEY" plainT_KEY) ?_ ?_
      · rel_bindx closed_rel (pNormalIndex_rel sg sg' h_sg) with i i' h_i
        exact ih { c with key := c.key ++ [i] } rest' { c' with key := c'.key ++ [i'] } h_rest (by cases c; cases c'; grind)
      refine gex_if (gel_searchTwoUp h_sg "FULLTEXT" "KEY" plainT_FULLTEXT plainT_KEY) ?_ ?_
      · rel_bindx closed_rel (pFulltextIndex_rel sg sg' h_sg) with i i' h_i
        exact ih { c with fulltextKey := c.fulltextKey ++ [i] } rest' { c' with fulltextKey := c'.fulltextKey ++ [i'] } h_rest (by cases c; cases c'; grind)
      refine gex_if (gel_searchStrUp h_sg "CONSTRAINT" plainT_CONSTRAINT) ?_ ?_
      · rel_bindx closed_rel (pForeignKey_rel sg sg' h_sg) with k k' h_k
        exact ih { c with foreignKey := c.foreignKey ++ [k] } rest' { c' with foreignKey := c'.foreignKey ++ [k'] } h_rest (by cases c; cases c'; grind)
      rel_bindx closed_rel (pDefCol_rel d f sg sg' h_sg) with col col' h_col
      exact ih { c with columns := c.columns ++ [col] } rest' { c' with columns := c'.columns ++ [col'] } h_rest (by cases c; cases c'; grind)

theorem createOpts_rel (d : Gen.D) (f : Nat) : ∀ x0 x1 x2 y0 y1 y2, x0 = y0 → geq (mapCR T.m T.m2) x1 y1 → GEL T.E x2 y2 → GER T.E (geq (mapCR T.m T.m2)) (createOpts d f x0 x1 x2) (createOpts d f y0 y1 y2) := by
  intro x0
  induction x0 with
  | zero => intro c ts y0 c' ts' e_g h_c h_ts; subst e_g; simp [createOpts]
  | succ g ih =>
    intro c ts y0 c' ts' e_g h_c h_ts
    subst e_g
    unfold createOpts
    refine ger_if (congr (congrArg or (gel_isEmpty h_ts)) (gel_searchStr h_ts ";" (by decide))) ?_ ?_
    · exact ger_ok h_c h_ts
    refine ger_if (gel_searchStrUp h_ts "ENGINE" plainT_ENGINE) ?_ ?_
    · rel_bind optEqSrc_rel (ts.drop 1) (ts'.drop 1) (gel_drop h_ts 1) with s r s' r' h_s h_r
      exact ih { c with engine := some s } r g { c' with engine := some s' } r' rfl (by cases c; cases c'; grind) h_r
    refine ger_if (gel_searchStrUp h_ts "AUTO_INCREMENT" plainT_AUTO_INCREMENT) ?_ ?_
    · rel_bind popInt_rel (moveStr (ts.drop 1) "=").2 (moveStr (ts'.drop 1) "=").2 (gel_moveStr (gel_drop h_ts 1) "=" (by decide)).2 with n r n' r' h_n h_r
      subst h_n
      exact ih { c with autoIncrement := some n } r g { c' with autoIncrement := some n } r' rfl (by cases c; cases c'; grind) h_r
    refine ger_if (gel_searchTwoUp h_ts "DEFAULT" "CHARSET" plainT_DEFAULT plainT_CHARSET) ?_ ?_
    · rel_bind optEqSrc_rel (ts.drop 2) (ts'.drop 2) (gel_drop h_ts 2) with s r s' r' h_s h_r
      exact ih { c with defaultCharset := some s } r g { c' with defaultCharset := some s' } r' rfl (by cases c; cases c'; grind) h_r
    refine ger_if (gel_searchStrUp h_ts "ROW_FORMAT" plainT_ROW_FORMAT) ?_ ?_
    · rel_bind optEqSrc_rel (ts.drop 1) (ts'.drop 1) (gel_drop h_ts 1) with s r s' r' h_s h_r
      exact ih { c with rowFormat := some s } r g { c' with rowFormat := some s' } r' rfl (by cases c; cases c'; grind) h_r
    refine ger_if (gel_searchStrUp h_ts "COLLATE" plainT_COLLATE) ?_ ?_
    · rel_bind optEqSrc_rel (ts.drop 1) (ts'.drop 1) (gel_drop h_ts 1) with s r s' r' h_s h_r
      exact ih { c with collate := some s } r g { c' with collate := some s' } r' rfl (by cases c; cases c'; grind) h_r
    refine ger_if (gel_searchStrUp h_ts "COMMENT" plainT_COMMENT) ?_ ?_
    · rel_bind optEqSrc_rel (ts.drop 1) (ts'.drop 1) (gel_drop h_ts 1) with s r s' r' h_s h_r
      exact ih { c with comment := some s } r g { c' with comment := some s' } r' rfl (by cases c; cases c'; grind) h_r
    refine ger_if (gel_searchStrUp h_ts "STATS_PERSISTENT" plainT_STATS_PERSISTENT) ?_ ?_
    · rel_bind optEqSrc_rel (ts.drop 1) (ts'.drop 1) (gel_drop h_ts 1) with s r s' r' h_s h_r
      exact ih { c with statesPersistent := some s } r g { c' with statesPersistent := some s' } r' rfl (by cases c; cases c'; grind) h_r
    refine ger_if (gel_searchTwoUp h_ts "PARTITIONED" "BY" plainT_PARTITIONED plainT_BY) ?_ ?_
    · rel_bind popSplit_rel (ts.drop 2) (ts'.drop 2) (gel_drop h_ts 2) with segs r segs' r' h_segs h_r
      rel_bindx eachClosed_rel (mapDC T.m) _ _ (fun sg sg' h => pDefCol_rel d f sg sg' h) segs segs' h_segs with cs cs' h_cs
      exact ih { c with partitionedBy := c.partitionedBy ++ cs } r g { c' with partitionedBy := c'.partitionedBy ++ cs' } r' rfl (by cases c; cases c'; grind) h_r
    refine ger_if (gel_searchThreeUp h_ts "ROW" "FORMAT" "SERDE" plainT_ROW plainT_FORMAT plainT_SERDE) ?_ ?_
    · rel_bind optEqSrc_rel (ts.drop 3) (ts'.drop 3) (gel_drop h_ts 3) with s r s' r' h_s h_r
      exact ih { c with rowFormatSerde := some s } r g { c' with rowFormatSerde := some s' } r' rfl (by cases c; cases c'; grind) h_r
    refine ger_if (gel_searchSeq h_ts ["ROW", "FORMAT", "DELIMITED", "FIELDS", "TERMINATED", "BY"] plainT_l19) ?_ ?_
    · rel_bind optEqSrc_rel (ts.drop 6) (ts'.drop 6) (gel_drop h_ts 6) with s r s' r' h_s h_r
      exact ih { c with rowFormatDelimited := some s } r g { c' with rowFormatDelimited := some s' } r' rfl (by cases c; cases c'; grind) h_r
    refine ger_if (gel_searchThreeUp h_ts "STORED" "AS" "INPUTFORMAT" plainT_STORED plainT_AS plainT_INPUTFORMAT) ?_ ?_
    · rel_bind optEqSrc_rel (ts.drop 3) (ts'.drop 3) (gel_drop h_ts 3) with s r s' r' h_s h_r
      exact ih { c with storedAsInputformat := some s } r g { c' with storedAsInputformat := some s' } r' rfl (by cases c; cases c'; grind) h_r
    refine ger_if (gel_searchThreeUp h_ts "STORED" "AS" "TEXTFILE" plainT_STORED plainT_AS plainT_TEXTFILE) ?_ ?_
    · exact ih { c with storedAsTextfile := true } (ts.drop 3) g { c' with storedAsTextfile := true } (ts'.drop 3) rfl (by cases c; cases c'; grind) (gel_drop h_ts 3)
    refine ger_if (gel_searchStrUp h_ts "OUTPUTFORMAT" plainT_OUTPUTFORMAT) ?_ ?_
    · rel_bind optEqSrc_rel (ts.drop 1) (ts'.drop 1) (gel_drop h_ts 1) with s r s' r' h_s h_r
      exact ih { c with outputformat := some s } r g { c' with outputformat := some s' } r' rfl (by cases c; cases c'; grind) h_r
    refine ger_if (gel_searchStrUp h_ts "LOCATION" plainT_LOCATION) ?_ ?_
    · rel_bind optEqSrc_rel (ts.drop 1) (ts'.drop 1) (gel_drop h_ts 1) with s r s' r' h_s h_r
      exact ih { c with location := some s } r g { c' with location := some s' } r' rfl (by cases c; cases c'; grind) h_r
    refine ger_if (gel_searchStrUp h_ts "TBLPROPERTIES" plainT_TBLPROPERTIES) ?_ ?_
    · rel_bind popSplit_rel (ts.drop 1) (ts'.drop 1) (gel_drop h_ts 1) with segs r segs' r' h_segs h_r
      rel_bindx eachClosed_rel (mapCS T.m2) _ _ (fun sg sg' h => pConfigStrExpr_rel sg sg' h) segs segs' h_segs with ps ps' h_ps
      exact ih { c with tblproperties := c.tblproperties ++ ps } r g { c' with tblproperties := c'.tblproperties ++ ps' } r' rfl (by cases c; cases c'; grind) h_r
    exact ger_err

theorem pCreateTable_rel (d : Gen.D) (f : Nat) : ∀ x0 y0, GEL T.E x0 y0 → GER T.E (geq (mapSt0 T.m T.m2)) (pCreateTable d f x0) (pCreateTable d f y0) := by
  intro ts ts' h_ts
  unfold pCreateTable
  rel_bind matchSeq_rel h_ts ["CREATE", "TABLE"] plainT_l20 with v1 r0 v1' r0' h_v1 h_r0
  rel_bind pTblName_rel (moveThreeUp r0 "IF" "NOT" "EXISTS").2 (moveThreeUp r0' "IF" "NOT" "EXISTS").2 (gel_moveThreeUp h_r0 "IF" "NOT" "EXISTS" plainT_IF plainT_NOT plainT_EXISTS).2 with tbl r1 tbl' r1' h_tbl h_r1
  refine ger_if (gel_searchStrUp h_r1 "AS" plainT_AS) ?_ ?_
  · rel_bind (genF_all d f).pSelectStmt none (r1.drop 1) none (r1'.drop 1) rfl (gel_drop h_r1 1) with q r2 q' r2' h_q h_r2
    exact ger_ok (by grind -funext) h_r2
  rel_bind popSplit_rel r1 r1' h_r1 with segs r2 segs' r2' h_segs h_r2
  rel_bindx createElems_rel d f segs (emptyCreate tbl (moveThreeUp r0 "IF" "NOT" "EXISTS").1) segs' (emptyCreate tbl' (moveThreeUp r0' "IF" "NOT" "EXISTS").1) h_segs (by grind) with c c' h_c
  rel_bind createOpts_rel d f (r2.length + 1) c r2 (r2'.length + 1) c' r2' (congrArg (· + 1) (gel_length h_r2)) h_c h_r2 with c' r3 c'' r3' h_cp h_r3
  exact ger_ok (by grind -funext) (gel_moveStr h_r3 ";" (by decide)).2

theorem pDropTable_rel : ∀ x0 y0, GEL T.E x0 y0 → GER T.E (geq (mapSt0 T.m T.m2)) (pDropTable x0) (pDropTable y0) := by
  intro ts ts' h_ts
  unfold pDropTable
  rel_bind matchSeq_rel h_ts ["DROP", "TABLE"] plainT_l21 with v1 r v1' r' h_v1 h_r
  rel_bind pTblName_rel (moveTwoUp r "IF" "EXISTS").2 (moveTwoUp r' "IF" "EXISTS").2 (gel_moveTwoUp h_r "IF" "EXISTS" plainT_IF plainT_EXISTS).2 with t r1 t' r1' h_t h_r1
  exact ger_ok (by grind -funext) h_r1

theorem pAnalyze_rel (d : Gen.D) (f : Nat) : ∀ x0 y0, GEL T.E x0 y0 → GER T.E (geq (mapSt0 T.m T.m2)) (pAnalyze d f x0) (pAnalyze d f y0) := by
  intro ts ts' h_ts
  unfold pAnalyze
  rel_bind matchSeq_rel h_ts ["ANALYZE", "TABLE"] plainT_l22 with v1 r v1' r' h_v1 h_r
  rel_bind pTblName_rel r r' h_r with t r1 t' r1' h_t h_r1
  rel_bind pOptPartition_rel d f r1 r1' h_r1 with part r2 part' r2' h_part h_r2
  have h_a := gel_moveTwoUp h_r2 "COMPUTE" "STATISTICS" plainT_COMPUTE plainT_STATISTICS
  have h_b := gel_moveTwoUp h_a.2 "FOR" "COLUMNS" plainT_FOR plainT_COLUMNS
  have h_c := gel_moveTwoUp h_b.2 "CACHE" "METADATA" plainT_CACHE plainT_METADATA
  have h_n := gel_moveStrUp h_c.2 "NOSCAN" plainT_NOSCAN
  exact ger_ok (by grind -funext) h_n.2

theorem pAlterExpr_rel (d : Gen.D) (f : Nat) : ∀ x0 y0, GEL T.E x0 y0 → GER T.E (geq (mapAO T.m)) (pAlterExpr d f x0) (pAlterExpr d f y0) := by
  intro ts ts' h_ts
  unfold pAlterExpr
  refine ger_if (gel_searchTwoUp h_ts "ADD" "PARTITION" plainT_ADD plainT_PARTITION) ?_ ?_
  · rel_bind pPartition_rel d f true (ts.drop 2) true (ts'.drop 2) rfl (gel_drop h_ts 2) with p r p' r' h_p h_r
    exact ger_ok (by grind -funext) h_r
  refine ger_if (gel_searchSeq h_ts ["ADD", "IF", "NOT", "EXISTS", "PARTITION"] plainT_l23) ?_ ?_
  · rel_bind pPartition_rel d f true (ts.drop 5) true (ts'.drop 5) rfl (gel_drop h_ts 5) with p r p' r' h_p h_r
    exact ger_ok (by grind -funext) h_r
  refine ger_if (gel_searchStrUp h_ts "ADD" plainT_ADD) ?_ ?_
  · rel_bind pColOrIdx_rel d f (ts.drop 1) (ts'.drop 1) (gel_drop h_ts 1) with x r x' r' h_x h_r
    exact ger_ok (by grind -funext) h_r
  refine ger_if (gel_searchStrUp h_ts "MODIFY" plainT_MODIFY) ?_ ?_
  · rel_bind pColOrIdx_rel d f (ts.drop 1) (ts'.drop 1) (gel_drop h_ts 1) with x r x' r' h_x h_r
    exact ger_ok (by grind -funext) h_r
  refine ger_if (gel_searchStrUp h_ts "CHANGE" plainT_CHANGE) ?_ ?_
  · rel_bind popSrc_srcRel (ts.drop 1) (ts'.drop 1) (gel_drop h_ts 1) with n r n' r' h_n h_r
    rel_bind pColOrIdx_rel d f r r' h_r with x r1 x' r1' h_x h_r1
    exact ger_ok (by grind -funext) h_r1
  refine ger_if (gel_searchTwoUp h_ts "RENAME" "COLUMN" plainT_RENAME plainT_COLUMN) ?_ ?_
  · rel_bind popSrc_srcRel (ts.drop 2) (ts'.drop 2) (gel_drop h_ts 2) with a r a' r' h_a h_r
    rel_bind matchKw_rel h_r "TO" plainT_TO with v1 r1 v1' r1' h_v1 h_r1
    rel_bind popSrc_srcRel r1 r1' h_r1 with b r2 b' r2' h_b h_r2
    exact ger_ok (by grind -funext) h_r2
  refine ger_if (gel_searchTwoUp h_ts "DROP" "COLUMN" plainT_DROP plainT_COLUMN) ?_ ?_
  · rel_bind popSrc_srcRel (ts.drop 2) (ts'.drop 2) (gel_drop h_ts 2) with c r c' r' h_c h_r
    exact ger_ok (by grind -funext) h_r
  refine ger_if (gel_searchTwoUp h_ts "DROP" "PARTITION" plainT_DROP plainT_PARTITION) ?_ ?_
  · rel_bind pPartition_rel d f true (ts.drop 2) true (ts'.drop 2) rfl (gel_drop h_ts 2) with p r p' r' h_p h_r
    exact ger_ok (by grind -funext) h_r
  refine ger_if (gel_searchSeq h_ts ["DROP", "IF", "EXISTS", "PARTITION"] plainT_l24) ?_ ?_
  · rel_bind pPartition_rel d f true (ts.drop 4) true (ts'.drop 4) rfl (gel_drop h_ts 4) with p r p' r' h_p h_r
    exact ger_ok (by grind -funext) h_r
  exact ger_err

theorem alterLoop_rel (d : Gen.D) (f : Nat) : ∀ x0 x1 x2 y0 y1 y2, x0 = y0 → geq (List.map (mapAO T.m)) x1 y1 → GEL T.E x2 y2 → GER T.E (geq (List.map (mapAO T.m))) (alterLoop d f x0 x1 x2) (alterLoop d f y0 y1 y2) := by
  intro x0
  induction x0 with
  | zero => intro acc ts y0 acc' ts' e_g h_acc h_ts; subst e_g; simp [alterLoop]
  | succ g ih =>
    intro acc ts y0 acc' ts' e_g h_acc h_ts
    subst e_g
    unfold alterLoop
    refine ger_if (gel_searchStr h_ts "," (by decide)) ?_ ?_
    · rel_bind pAlterExpr_rel d f (ts.drop 1) (ts'.drop 1) (gel_drop h_ts 1) with x r x' r' h_x h_r
      exact ih (acc ++ [x]) r g (acc' ++ [x']) r' rfl (by grind) h_r
    exact ger_ok h_acc h_ts

theorem pAlter_rel (d : Gen.D) (f : Nat) : ∀ x0 y0, GEL T.E x0 y0 → GER T.E (geq (mapSt0 T.m T.m2)) (pAlter d f x0) (pAlter d f y0) := by
  intro ts ts' h_ts
  unfold pAlter
  rel_bind matchSeq_rel h_ts ["ALTER", "TABLE"] plainT_l25 with v1 r v1' r' h_v1 h_r
  rel_bind pTblName_rel r r' h_r with t r1 t' r1' h_t h_r1
  rel_bind pAlterExpr_rel d f r1 r1' h_r1 with x r2 x' r2' h_x h_r2
  rel_bind alterLoop_rel d f (r2.length + 1) [x] r2 (r2'.length + 1) [x'] r2' (congrArg (· + 1) (gel_length h_r2)) (by grind) h_r2 with xs r3 xs' r3' h_xs h_r3
  exact ger_ok (by grind -funext) h_r3

theorem pKwTable_rel (kws : List String) (hk : kws.all T.plain = true) (mk : TableName → Stmt)
    (hmk : ∀ t t', geq (mapTN T.m) t t' → geq (mapSt0 T.m T.m2) (mk t) (mk t')) :
    ∀ x0 y0, GEL T.E x0 y0 → GER T.E (geq (mapSt0 T.m T.m2)) (pKwTable kws mk x0) (pKwTable kws mk y0) := by
  intro ts ts' h_ts
  unfold pKwTable
  rel_bind matchSeq_rel h_ts kws hk with v1 r v1' r' h_v1 h_r
  rel_bind pTblName_rel r r' h_r with t r1 t' r1' h_t h_r1
  exact ger_ok (hmk t t' h_t) h_r1
theorem pMsck_rel : ∀ x0 y0, GEL T.E x0 y0 → GER T.E (geq (mapSt0 T.m T.m2)) (pMsck x0) (pMsck y0) :=
  pKwTable_rel _ plainT_l26 _ fun t t' h => by simpa [mapSt0] using h

theorem pTruncate_rel : ∀ x0 y0, GEL T.E x0 y0 → GER T.E (geq (mapSt0 T.m T.m2)) (pTruncate x0) (pTruncate y0) :=
  pKwTable_rel _ plainT_l27 _ fun t t' h => by simpa [mapSt0] using h

theorem pUse_rel : ∀ x0 y0, GEL T.E x0 y0 → GER T.E (geq (mapSt0 T.m T.m2)) (pUse x0) (pUse y0) := by
  intro ts ts' h_ts
  unfold pUse
  rel_bind matchKw_rel h_ts "USE" plainT_USE with v1 r v1' r' h_v1 h_r
  rel_bind popSrc_srcRel r r' h_r with s r1 s' r1' h_s h_r1
  exact ger_ok (by grind -funext) h_r1

theorem pUpdateSetCol_rel (d : Gen.D) (f : Nat) : ∀ x0 y0, GEL T.E x0 y0 → GER T.E (geq (Prod.map T.m (mapE T.m))) (pUpdateSetCol d f x0) (pUpdateSetCol d f y0) := by
  intro ts ts' h_ts
  unfold pUpdateSetCol
  rel_bind popSrc_srcRel ts ts' h_ts with c r c' r' h_c h_r
  rel_bind matchKw_rel h_r "=" plainT_k87 with v1 r1 v1' r1' h_v1 h_r1
  rel_bind (genF_all d f).pOr r1 r1' h_r1 with v r2 v' r2' h_v h_r2
  exact ger_ok (by grind -funext) h_r2

theorem updateSetLoop_rel (d : Gen.D) (f : Nat) : ∀ x0 x1 x2 y0 y1 y2, x0 = y0 → geq (List.map (Prod.map T.m (mapE T.m))) x1 y1 → GEL T.E x2 y2 → GER T.E (geq (List.map (Prod.map T.m (mapE T.m)))) (updateSetLoop d f x0 x1 x2) (updateSetLoop d f y0 y1 y2) := by
  intro x0
  induction x0 with
  | zero => intro acc ts y0 acc' ts' e_g h_acc h_ts; subst e_g; simp [updateSetLoop]
  | succ g ih =>
    intro acc ts y0 acc' ts' e_g h_acc h_ts
    subst e_g
    unfold updateSetLoop
    refine ger_if (gel_searchStr h_ts "," (by decide)) ?_ ?_
    · rel_bind pUpdateSetCol_rel d f (ts.drop 1) (ts'.drop 1) (gel_drop h_ts 1) with x r x' r' h_x h_r
      exact ih (acc ++ [x]) r g (acc' ++ [x']) r' rfl (by grind) h_r
    exact ger_ok h_acc h_ts

theorem pUpdateSet_rel (d : Gen.D) (f : Nat) : ∀ x0 y0, GEL T.E x0 y0 → GER T.E (geq (List.map (Prod.map T.m (mapE T.m)))) (pUpdateSet d f x0) (pUpdateSet d f y0) := by
  intro ts ts' h_ts
  unfold pUpdateSet
  rel_bind matchKw_rel h_ts "SET" plainT_SET with v1 r v1' r' h_v1 h_r
  rel_bind pUpdateSetCol_rel d f r r' h_r with x r1 x' r1' h_x h_r1
  exact updateSetLoop_rel d f (r1.length + 1) [x] r1 (r1'.length + 1) [x'] r1' (congrArg (· + 1) (gel_length h_r1)) (by grind) h_r1

theorem pUpdate_rel (d : Gen.D) (f : Nat) : ∀ x0 x1 y0 y1, geq (Option.map (List.map (mapW T.m))) x0 y0 → GEL T.E x1 y1 → GER T.E (geq (mapSt0 T.m T.m2)) (pUpdate d f x0 x1) (pUpdate d f y0 y1) := by
  intro withs ts withs' ts' h_withs h_ts
  unfold pUpdate
  rel_bind matchKw_rel h_ts "UPDATE" plainT_UPDATE with v1 r v1' r' h_v1 h_r
  rel_bind pTblName_rel r r' h_r with t r1 t' r1' h_t h_r1
  rel_bind pUpdateSet_rel d f r1 r1' h_r1 with sets r2 sets' r2' h_sets h_r2
  rel_bind pWhereOrderLimit_rel d f r2 r2' h_r2 with v2 r3 v2' r3' h_v2 h_r3
  obtain ⟨wh, ob, lm⟩ := v2; obtain ⟨wh', ob', lm'⟩ := v2'
  dsimp only
  exact ger_ok (by grind -funext) h_r3

theorem pDelete_rel (d : Gen.D) (f : Nat) : ∀ x0 y0, GEL T.E x0 y0 → GER T.E (geq (mapSt0 T.m T.m2)) (pDelete d f x0) (pDelete d f y0) := by
  intro ts ts' h_ts
  unfold pDelete
  rel_bind matchSeq_rel h_ts ["DELETE", "FROM"] plainT_l28 with v1 r v1' r' h_v1 h_r
  rel_bind pTblName_rel r r' h_r with t r1 t' r1' h_t h_r1
  rel_bind pWhereOrderLimit_rel d f r1 r1' h_r1 with v2 r2 v2' r2' h_v2 h_r2
  obtain ⟨wh, ob, lm⟩ := v2; obtain ⟨wh', ob', lm'⟩ := v2'
  dsimp only
  exact ger_ok (by grind -funext) h_r2

theorem pFromClause_rel (d : Gen.D) (f : Nat) : ∀ x0 y0, GEL T.E x0 y0 → GER T.E (geq (List.map (mapFT T.m))) (pFromClause d f x0) (pFromClause d f y0) := by
  intro ts ts' h_ts
  unfold pFromClause
  rel_bind matchKw_rel h_ts "FROM" plainT_FROM with v1 r v1' r' h_v1 h_r
  rel_bind (genF_all d f).pFromTable r r' h_r with t r1 t' r1' h_t h_r1
  exact (genF_all d f).pFromTables [t] r1 [t'] r1' (by grind) h_r1

theorem pShowColumns_rel (d : Gen.D) (f : Nat) : ∀ x0 y0, GEL T.E x0 y0 → GER T.E (geq (mapSt0 T.m T.m2)) (pShowColumns d f x0) (pShowColumns d f y0) := by
  intro ts ts' h_ts
  unfold pShowColumns
  rel_bind matchSeq_rel h_ts ["SHOW", "COLUMNS"] plainT_l29 with v1 r v1' r' h_v1 h_r
  rel_bind pFromClause_rel d f r r' h_r with fr r1 fr' r1' h_fr h_r1
  rel_bind (genF_all d f).pOptOr "WHERE" r1 "WHERE" r1' rfl plainT_WHERE h_r1 with wh r2 wh' r2' h_wh h_r2
  exact ger_ok (by grind -funext) h_r2

theorem pStatement_rel (d : Gen.D) (f : Nat) : ∀ x0 y0, GEL T.E x0 y0 → GER T.E (geq (mapSt0 T.m T.m2)) (pStatement d f x0) (pStatement d f y0) := by
  intro ts ts' h_ts
  unfold pStatement
  refine ger_if (gel_searchStrUp h_ts "SET" plainT_SET) ?_ ?_
  · exact pSet_rel ts ts' h_ts
  refine ger_if (gel_searchTwoUp h_ts "DELETE" "FROM" plainT_DELETE plainT_FROM) ?_ ?_
  · exact pDelete_rel d f ts ts' h_ts
  refine ger_if (gel_searchTwoUp h_ts "DROP" "TABLE" plainT_DROP plainT_TABLE) ?_ ?_
  · exact pDropTable_rel ts ts' h_ts
  refine ger_if (gel_searchTwoUp h_ts "CREATE" "TABLE" plainT_CREATE plainT_TABLE) ?_ ?_
  · exact pCreateTable_rel d f ts ts' h_ts
  refine ger_if (gel_searchTwoUp h_ts "ANALYZE" "TABLE" plainT_ANALYZE plainT_TABLE) ?_ ?_
  · exact pAnalyze_rel d f ts ts' h_ts
  refine ger_if (gel_searchTwoUp h_ts "ALTER" "TABLE" plainT_ALTER plainT_TABLE) ?_ ?_
  · exact pAlter_rel d f ts ts' h_ts
  refine ger_if (gel_searchThreeUp h_ts "MSCK" "REPAIR" "TABLE" plainT_MSCK plainT_REPAIR plainT_TABLE) ?_ ?_
  · exact pMsck_rel ts ts' h_ts
  refine ger_if (gel_searchStrUp h_ts "USE" plainT_USE) ?_ ?_
  · exact pUse_rel ts ts' h_ts
  refine ger_if (gel_searchTwoUp h_ts "TRUNCATE" "TABLE" plainT_TRUNCATE plainT_TABLE) ?_ ?_
  · exact pTruncate_rel ts ts' h_ts
  refine ger_if (gel_searchTwoUp h_ts "SHOW" "DATABASES" plainT_SHOW plainT_DATABASES) ?_ ?_
  · exact ger_ok rfl (gel_drop h_ts 2)
  refine ger_if (gel_searchTwoUp h_ts "SHOW" "TABLES" plainT_SHOW plainT_TABLES) ?_ ?_
  · exact ger_ok rfl (gel_drop h_ts 2)
  refine ger_if (gel_searchTwoUp h_ts "SHOW" "COLUMNS" plainT_SHOW plainT_COLUMNS) ?_ ?_
  · exact pShowColumns_rel d f ts ts' h_ts
  rel_bind (genF_all d f).pWith ts ts' h_ts with withs r withs' r' h_withs h_r
  refine ger_if (gel_searchStrUp h_r "SELECT" plainT_SELECT) ?_ ?_
  · rel_bind (genF_all d f).pSelectStmt (some withs) r (some withs') r' (by grind) h_r with q r1 q' r1' h_q h_r1
    exact ger_ok (by grind -funext) h_r1
  refine ger_if (gel_searchStrUp h_r "INSERT" plainT_INSERT) ?_ ?_
  · exact pInsert_rel d f (some withs) r (some withs') r' (by grind) h_r
  refine ger_if (gel_searchStrUp h_r "UPDATE" plainT_UPDATE) ?_ ?_
  · exact pUpdate_rel d f (some withs) r (some withs') r' (by grind) h_r
  exact ger_err

theorem statementsLoop_rel (d : Gen.D) (f : Nat) : ∀ x0 x1 x2 y0 y1 y2, x0 = y0 → geq (List.map (mapSt0 T.m T.m2)) x1 y1 → GEL T.E x2 y2 → GEX (geq (List.map (mapSt0 T.m T.m2))) (statementsLoop d f x0 x1 x2) (statementsLoop d f y0 y1 y2) := by
  intro x0
  induction x0 with
  | zero => intro acc ts y0 acc' ts' e_g h_acc h_ts; subst e_g; simp [statementsLoop]
  | succ g ih =>
    intro acc ts y0 acc' ts' e_g h_acc h_ts
    subst e_g
    unfold statementsLoop
    refine gex_if (gel_isEmpty h_ts) ?_ ?_
    · exact gex_ok h_acc
    rel_bind pStatement_rel d f ts ts' h_ts with s r s' r' h_s h_r
    exact ih (acc ++ [s]) (moveStr r ";").2 g (acc' ++ [s']) (moveStr r' ";").2 rfl (by grind) (gel_moveStr h_r ";" (by decide)).2

theorem pStatements_rel (d : Gen.D) (f : Nat) : ∀ x0 y0, GEL T.E x0 y0 → GEX (geq (List.map (mapSt0 T.m T.m2))) (pStatements d f x0) (pStatements d f y0) := by
  intro ts ts' h_ts
  unfold pStatements
  exact statementsLoop_rel d f (ts.length + 1) [] ts (ts'.length + 1) [] ts' (congrArg (· + 1) (gel_length h_ts)) rfl h_ts

theorem pSubValue_rel (d : Gen.D) (f : Nat) : ∀ x0 y0, GEL T.E x0 y0 → GER T.E (geq (mapE T.m)) (pSubValue d f x0) (pSubValue d f y0) := by
  intro ts ts' h_ts
  unfold pSubValue
  obtain ⟨rfl, rfl⟩ | ⟨g, r, g', r', rfl, rfl, h_g, h_r⟩ := GEL.shape h_ts
  · dsimp only; exact ger_err
  dsimp only
  rel_bindx (genF_all d f).pSplit [] [] g.children [] [] g'.children rfl (by grind) (T.children h_g) with vs vs' h_vs
  exact ger_ok (by grind -funext) h_r

end PM.Rel
