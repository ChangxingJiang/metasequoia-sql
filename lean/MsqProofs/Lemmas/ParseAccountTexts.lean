import MsqProofs.Lemmas.ParseAccountTextsDefs
/-! GENERATED by tools/gen_account.py — C08: accounting lemmas for the expression grammar: the fuel step — one field, one unfolding — and the induction -/
set_option linter.unusedVariables false
open Lex PM Ast
namespace PM
variable (d : Gen.D)

theorem accF_succ (n : Nat) (ih : AccF d n) : AccF d (n+1) where
  pElement := by
    intro ts v r h hpl
    have hK0 : kwOk "*" = true := by decide +kernel
    have hI0 : isKW "*" = true := by decide +kernel
    have hK1 : kwOk "CASE" = true := by decide +kernel
    have hI1 : isKW "CASE" = true := by decide +kernel
    unfold pElement at h
    split_run <;> grind -funext (splits := 20) (ematch := 20) (gen := 40) (instances := 20000)
  pParen := by
    intro n0 r0 hpre v r h hpl
    unfold pParen at h
    split_run <;> grind -funext (splits := 20) (ematch := 20) (gen := 40) (instances := 20000)
  pNamed := by
    intro n0 r0 ts v r h hpl
    have hK0 : kwOk "." = true := by decide +kernel
    have hI0 : isKW "." = true := by decide +kernel
    unfold pNamed at h
    split_run <;> grind -funext (splits := 20) (ematch := 20) (gen := 40) (instances := 20000)
  pQualified := by
    intro n0 r1 ts v r h hpl
    have hK0 : kwOk "*" = true := by decide +kernel
    have hI0 : isKW "*" = true := by decide +kernel
    unfold pQualified at h
    split_run <;> grind -funext (splits := 20) (ematch := 20) (gen := 40) (instances := 20000)
  pIndex := by
    intro before ts v r h hpl
    unfold pIndex at h
    split_run <;> grind -funext (splits := 20) (ematch := 20) (gen := 40) (instances := 20000)
  pFuncIdx := by
    intro ts v r h
    unfold pFuncIdx at h
    split_run <;> grind -funext (splits := 20) (ematch := 20) (gen := 40) (instances := 20000)
  pFunc := by
    intro ts v r h
    unfold pFunc at h
    split_run <;> grind -funext (splits := 20) (ematch := 20) (gen := 40) (instances := 20000)
  pIfCall := by
    intro ts v r h
    unfold pIfCall at h
    split_run <;> grind -funext (splits := 20) (ematch := 20) (gen := 40) (instances := 20000)
  pCall := by
    intro sc nm ts v r h
    unfold pCall at h
    split_run <;> grind -funext (splits := 20) (ematch := 20) (gen := 40) (instances := 20000)
  pFirstArg := by
    intro ts v r h hpl
    unfold pFirstArg at h
    split_run <;> grind -funext (splits := 20) (ematch := 20) (gen := 40) (instances := 20000)
  pArgs := by
    intro acc ts v r h hpl
    have hK0 : kwOk "," = true := by decide +kernel
    have hI0 : isKW "," = true := by decide +kernel
    unfold pArgs at h
    split_run <;> grind -funext (splits := 20) (ematch := 20) (gen := 40) (instances := 20000)
  pCase := by
    intro ts v r h hpl
    have hK0 : kwOk "CASE" = true := by decide +kernel
    have hI0 : isKW "CASE" = true := by decide +kernel
    have hK1 : kwOk "WHEN" = true := by decide +kernel
    have hI1 : isKW "WHEN" = true := by decide +kernel
    unfold pCase at h
    split_run <;> grind -funext (splits := 20) (ematch := 20) (gen := 40) (instances := 20000)
  pElseEnd := by
    intro ts v r h hpl
    have hK0 : kwOk "ELSE" = true := by decide +kernel
    have hI0 : isKW "ELSE" = true := by decide +kernel
    have hK1 : kwOk "END" = true := by decide +kernel
    have hI1 : isKW "END" = true := by decide +kernel
    unfold pElseEnd at h
    split_run <;> grind -funext (splits := 20) (ematch := 20) (gen := 40) (instances := 20000)
  pWhens := by
    intro acc ts v r h hpl
    have hK0 : kwOk "WHEN" = true := by decide +kernel
    have hI0 : isKW "WHEN" = true := by decide +kernel
    have hK1 : kwOk "THEN" = true := by decide +kernel
    have hI1 : isKW "THEN" = true := by decide +kernel
    unfold pWhens at h
    split_run <;> grind -funext (splits := 20) (ematch := 20) (gen := 40) (instances := 20000)
  pUnary := by
    intro ts v r h hpl
    unfold pUnary at h
    split_run <;> grind -funext (splits := 20) (ematch := 20) (gen := 40) (instances := 20000)
  pCompute := by
    intro ts v r h hpl
    unfold pCompute at h
    split_run <;> grind -funext (splits := 20) (ematch := 20) (gen := 40) (instances := 20000)
  pComputeLoop := by
    intro st top ts v r h hpl
    unfold pComputeLoop at h
    split_run <;> grind -funext (splits := 20) (ematch := 20) (gen := 40) (instances := 20000)
  pKeyword := by
    intro before ts v r h hpl
    have hK0 : kwOk "EXISTS" = true := by decide +kernel
    have hI0 : isKW "EXISTS" = true := by decide +kernel
    unfold pKeyword at h
    split_run <;> grind -funext (splits := 20) (ematch := 20) (gen := 40) (instances := 20000)
  pKwFirst := by
    intro before ts v r h hpl
    unfold pKwFirst at h
    split_run <;> grind -funext (splits := 20) (ematch := 20) (gen := 40) (instances := 20000)
  pKwRest := by
    intro bv isNot r1 v r h hpl
    unfold pKwRest at h
    split_run <;> grind -funext (splits := 20) (ematch := 20) (gen := 40) (instances := 20000)
  pKwBody := by
    intro k isNot bv r2 v r h hpl
    have hK0 : kwOk "NOT" = true := by decide +kernel
    have hI0 : isKW "NOT" = true := by decide +kernel
    have hK1 : kwOk "BETWEEN" = true := by decide +kernel
    have hI1 : isKW "BETWEEN" = true := by decide +kernel
    have hK2 : kwOk "IS" = true := by decide +kernel
    have hI2 : isKW "IS" = true := by decide +kernel
    have hK3 : kwOk "IN" = true := by decide +kernel
    have hI3 : isKW "IN" = true := by decide +kernel
    have hK4 : kwOk "LIKE" = true := by decide +kernel
    have hI4 : isKW "LIKE" = true := by decide +kernel
    have hK5 : kwOk "RLIKE" = true := by decide +kernel
    have hI5 : isKW "RLIKE" = true := by decide +kernel
    have hK6 : kwOk "REGEXP" = true := by decide +kernel
    have hI6 : isKW "REGEXP" = true := by decide +kernel
    unfold pKwBody at h
    split_run <;> grind -funext (splits := 20) (ematch := 20) (gen := 40) (instances := 20000)
  pBetween := by
    intro isNot bv r2 v r h hpl
    have hK0 : kwOk "AND" = true := by decide +kernel
    have hI0 : isKW "AND" = true := by decide +kernel
    unfold pBetween at h
    split_run <;> grind -funext (splits := 20) (ematch := 20) (gen := 40) (instances := 20000)
  pInBody := by
    intro isNot bv r2 v r h
    have hK0 : kwOk "," = true := by decide +kernel
    have hI0 : isKW "," = true := by decide +kernel
    unfold pInBody at h
    split_run <;> grind -funext (splits := 20) (ematch := 20) (gen := 40) (instances := 20000)
  pCompare := by
    intro ts v r h hpl
    unfold pCompare at h
    split_run <;> grind -funext (splits := 20) (ematch := 20) (gen := 40) (instances := 20000)
  pCompareLoop := by
    intro acc ts v r h hpl
    unfold pCompareLoop at h
    split_run <;> grind -funext (splits := 20) (ematch := 20) (gen := 40) (instances := 20000)
  pNot := by
    intro ts v r h hpl
    unfold pNot at h
    split_run <;> grind -funext (splits := 20) (ematch := 20) (gen := 40) (instances := 20000)
  pAnd := by
    intro ts v r h hpl
    unfold pAnd at h
    split_run <;> grind -funext (splits := 20) (ematch := 20) (gen := 40) (instances := 20000)
  pAndLoop := by
    intro acc ts v r h hpl
    have hK0 : kwOk "AND" = true := by decide +kernel
    have hI0 : isKW "AND" = true := by decide +kernel
    have hK1 : kwOk "&&" = true := by decide +kernel
    have hI1 : isKW "&&" = true := by decide +kernel
    unfold pAndLoop at h
    split_run <;> grind -funext (splits := 20) (ematch := 20) (gen := 40) (instances := 20000)
  pXor := by
    intro ts v r h hpl
    unfold pXor at h
    split_run <;> grind -funext (splits := 20) (ematch := 20) (gen := 40) (instances := 20000)
  pXorLoop := by
    intro acc ts v r h hpl
    have hK0 : kwOk "XOR" = true := by decide +kernel
    have hI0 : isKW "XOR" = true := by decide +kernel
    unfold pXorLoop at h
    split_run <;> grind -funext (splits := 20) (ematch := 20) (gen := 40) (instances := 20000)
  pOr := by
    intro ts v r h hpl
    unfold pOr at h
    split_run <;> grind -funext (splits := 20) (ematch := 20) (gen := 40) (instances := 20000)
  pOrLoop := by
    intro acc ts v r h hpl
    have hK0 : kwOk "OR" = true := by decide +kernel
    have hI0 : isKW "OR" = true := by decide +kernel
    have hK1 : kwOk "||" = true := by decide +kernel
    have hI1 : isKW "||" = true := by decide +kernel
    unfold pOrLoop at h
    split_run <;> grind -funext (splits := 20) (ematch := 20) (gen := 40) (instances := 20000)
  pSubQuery := by
    intro ts v r h
    unfold pSubQuery at h
    split_run <;> grind -funext (splits := 20) (ematch := 20) (gen := 40) (instances := 20000)
  pCast := by
    intro ts v r h
    unfold pCast at h
    split_run <;> grind -funext (splits := 20) (ematch := 20) (gen := 40) (instances := 20000)
  pExtract := by
    intro ts v r h
    unfold pExtract at h
    split_run <;> grind -funext (splits := 20) (ematch := 20) (gen := 40) (instances := 20000)
  pExtractTail := by
    intro nm r1 v h
    unfold pExtractTail at h
    split_run <;> grind -funext (splits := 20) (ematch := 20) (gen := 40) (instances := 20000)
  pWindow := by
    intro ts v r h
    unfold pWindow at h
    split_run <;> grind -funext (splits := 20) (ematch := 20) (gen := 40) (instances := 20000)
  pWindowBody := by
    intro fn cs v h
    have hK0 : kwOk "BETWEEN" = true := by decide +kernel
    have hI0 : isKW "BETWEEN" = true := by decide +kernel
    unfold pWindowBody at h
    split_run <;> grind -funext (splits := 20) (ematch := 20) (gen := 40) (instances := 20000)

theorem accF_all : ∀ n, AccF d n := by
  intro n
  induction n with
  | zero =>
    constructor <;> (intros; simp [AccRel, AccRelH, AccRelO, NotPlain, NotPlainV, NotPlainO, pElement, pParen, pNamed, pQualified, pIndex, pFuncIdx, pFunc, pIfCall, pCall, pFirstArg, pArgs, pCase, pElseEnd, pWhens, pUnary, pCompute, pComputeLoop, pKeyword, pKwFirst, pKwRest, pKwBody, pBetween, pInBody, pCompare, pCompareLoop, pNot, pAnd, pAndLoop, pXor, pXorLoop, pOr, pOrLoop, pSubQuery, pCast, pExtract, pExtractTail, pWindow, pWindowBody] at *)
  | succ n ih => exact accF_succ d n ih

end PM
