import MsqProofs.Lemmas.ParseSubst3
import MsqProofs.Lemmas.ParseRel4
/-!
# C06, parser half: `erAll` for the DDL / DML structures and statements
Every string of the structure is mapped through `er` (config strings through `er2`); flags and numbers are kept.
-/
open Lex PM Ast
namespace PMQ
variable [S : PaySet]

def erTN : TableName → TableName | ⟨s, n⟩ => ⟨s.map er, er n⟩
def erCT : ColType → ColType | ⟨n, ps⟩ => ⟨er n, ps.map (List.map erE)⟩
def erGC : GenCol → GenCol | ⟨e, m⟩ => ⟨erE e, m.map er⟩
def erDC : DefCol → DefCol
  | ⟨n, ty, un, zf, cs, co, g, an, nn, ai, df, ou, cm⟩ => ⟨er n, erCT ty, un, zf, cs.map er, co.map er, g.map erGC, an, nn, ai, df.map erE, ou.map erE, cm.map er⟩
def erIC : IndexCol → IndexCol | ⟨n, l⟩ => ⟨er n, l⟩
def erIx : Index → Index | ⟨k, n, cs, um, cm, kb⟩ => ⟨k, n.map er, cs.map erIC, um.map er, cm.map er, kb⟩
def erFK : ForeignKey → ForeignKey | ⟨c, s, m, mc, od, ou⟩ => ⟨er c, s.map er, er m, mc.map er, od.map er, ou.map er⟩
def erCI : ColOrIdx → ColOrIdx
  | .col c => .col (erDC c) | .idx i => .idx (erIx i) | .fk f => .fk (erFK f)
def erAO : AlterOp → AlterOp
  | .addPartition b p => .addPartition b (p.map erE)
  | .add x => .add (erCI x)
  | .modify x => .modify (erCI x)
  | .change f t => .change (er f) (erCI t)
  | .renameColumn f t => .renameColumn (er f) (er t)
  | .dropColumn c => .dropColumn (er c)
  | .dropPartition b p => .dropPartition b (p.map erE)
/-- config strings are CONCATENATIONS of popped sources: the larger payload set `P2` -/
def erCS : ConfigStr → ConfigStr | ⟨n, v⟩ => ⟨er2 n, er2 v⟩
def erCR : CreateTable → CreateTable
  | ⟨t, ine, cols, pk, uk, k, fk, fo, pb, cm, en, ai, dc, co, rf, sp, rs, rd, si, st, of, lo, tp⟩ =>
    ⟨erTN t, ine, cols.map erDC, pk.map erIx, uk.map erIx, k.map erIx, fk.map erIx, fo.map erFK, pb.map erDC, cm.map er, en.map er, ai, dc.map er, co.map er,
     rf.map er, sp.map er, rs.map er, rd.map er, si.map er, st, of.map er, lo.map er, tp.map erCS⟩
def erIH : InsertHead → InsertHead
  | ⟨w, ty, t, p, c⟩ => ⟨w.map (List.map erW), er ty, erTN t, p.map (List.map erE), c.map (List.map (Prod.map (Option.map er) er))⟩
def erLim : Option (Int × Option Int) → Option (Int × Option Int) := id
/-- `erAll` of a statement -/
def erSt0 : Stmt → Stmt
  | .select q => .select (erQ q)
  | .insertValues h vs => .insertValues (erIH h) (vs.map (List.map erE))
  | .insertSelect h q => .insertSelect (erIH h) (erQ q)
  | .update w t sets wh ob lm => .update (w.map (List.map erW)) (erTN t) (sets.map (Prod.map er erE)) (wh.map erE) (ob.map (List.map erO)) lm
  | .delete t wh ob lm => .delete (erTN t) (wh.map erE) (ob.map (List.map erO)) lm
  | .createTable c => .createTable (erCR c)
  | .createTableAs t ine q => .createTableAs (erTN t) ine (erQ q)
  | .dropTable b t => .dropTable b (erTN t)
  | .set c => .set (erCS c)
  | .analyze t p a b c => .analyze (erTN t) (p.map (List.map erE)) a b c
  | .alter t ops => .alter (erTN t) (ops.map erAO)
  | .msck t => .msck (erTN t)
  | .use s => .use (er s)
  | .truncate t => .truncate (erTN t)
  | .showDatabases => .showDatabases
  | .showTables => .showTables
  | .showColumns fr wh => .showColumns (fr.map erFT) (wh.map erE)

theorem erTN_map : erTN = Rel.mapTN er := by funext ⟨_, _⟩; rfl
theorem erCT_map : erCT = Rel.mapCT er := by funext ⟨_, _⟩; simp [erCT, Rel.mapCT, er_maps.E]
theorem erGC_map : erGC = Rel.mapGC er := by funext ⟨_, _⟩; simp [erGC, Rel.mapGC, er_maps.E]
theorem erDC_map : erDC = Rel.mapDC er := by funext x; cases x; simp [erDC, Rel.mapDC, er_maps.E, erCT_map, erGC_map]
theorem erIC_map : erIC = Rel.mapIC er := by funext ⟨_, _⟩; rfl
theorem erIx_map : erIx = Rel.mapIx er := by funext x; cases x; simp [erIx, Rel.mapIx, erIC_map]
theorem erFK_map : erFK = Rel.mapFK er := by funext x; cases x; rfl
theorem erCI_map : erCI = Rel.mapCI er := by funext x; cases x <;> simp [erCI, Rel.mapCI, erDC_map, erIx_map, erFK_map]
theorem erAO_map : erAO = Rel.mapAO er := by funext x; cases x <;> simp [erAO, Rel.mapAO, er_maps.E, erCI_map]
theorem erCS_map : erCS = Rel.mapCS er2 := by funext ⟨_, _⟩; rfl
theorem erCR_map : erCR = Rel.mapCR er er2 := by
  funext x; cases x; simp [erCR, Rel.mapCR, erTN_map, erDC_map, erIx_map, erFK_map, erCS_map]
theorem erIH_map : erIH = Rel.mapIH er := by funext x; cases x; simp [erIH, Rel.mapIH, er_maps.W, erTN_map, er_maps.E]
theorem erSt0_map : erSt0 = Rel.mapSt0 er er2 := by
  funext x
  cases x <;> simp [erSt0, Rel.mapSt0, er_maps.Q, erIH_map, er_maps.E, er_maps.W, erTN_map, er_maps.O, erCR_map, erCS_map, erAO_map, er_maps.FT]

theorem eachClosed_qe_eq {α : Type} (p p' : List Tok → R α) (hp : ∀ sg sg', QEL sg sg' → QER Eq (p sg) (p' sg')) :
    ∀ segs segs', QELL segs segs' → QEX Eq (eachClosed p segs) (eachClosed p' segs') := by
  simp only [qel_eq, qell_eq, qer_eq, qex_eq] at hp ⊢
  exact Rel.eachClosed_rel_eq (T := substT) p p' hp

end PMQ
