import MsqProofs.Lemmas.LineageSet
/-!
# Lineage: nesting — derived tables and WITH tables at any depth, by induction on the depth budget

`PQ f` (a query), `PW f` (the WITH tables of a statement), `PS f` (the derived tables of a level) are the three parts of ONE statement proved
by induction on the budget `f`: `pq_step` takes `PW f` and `PS f` to `PQ (f+1)`, `pw_step` and `ps_step` take `PQ f` and their own part to the
next budget, `nest` ties them.  `Frame B` says which names a part may have written to the stores, `Hyg` what a part may assume of them.
-/
namespace LineageL
open Ast AN LN Spec Flow

/-- the stores agree outside the names in `B` -/
def Frame (B : List String) (st st' : St) : Prop :=
  ∀ k, k ∉ B → dictGet? st'.subq k = dictGet? st.subq k ∧ dictGet? st'.withT k = dictGet? st.withT k

theorem Frame.refl (B : List String) (st : St) : Frame B st st := fun _ _ => ⟨rfl, rfl⟩
theorem Frame.of_same {B : List String} {st st' : St} (h : Same st st') : Frame B st st' :=
  fun _ _ => by rw [h.1, h.2]; exact ⟨rfl, rfl⟩
theorem Frame.trans {B : List String} {a b c : St} (h1 : Frame B a b) (h2 : Frame B b c) : Frame B a c :=
  fun k hk => ⟨(h2 k hk).1.trans (h1 k hk).1, (h2 k hk).2.trans (h1 k hk).2⟩
theorem Frame.mono {B B' : List String} {a b : St} (h : Frame B a b) (hsub : ∀ k, k ∈ B → k ∈ B') : Frame B' a b :=
  fun k hk => h k (fun hb => hk (hsub k hb))

def Clean (st : St) (ns : List String) : Prop := ∀ n ∈ ns, dictGet? st.subq n = none ∧ dictGet? st.withT n = none

theorem Clean.frame {B ns : List String} {st st' : St} (h : Clean st ns) (hf : Frame B st st') (hd : ∀ n ∈ ns, n ∉ B) : Clean st' ns :=
  fun n hn => by rw [(hf n (hd n hn)).1, (hf n (hd n hn)).2]; exact h n hn

/-- the visible WITH tables are in the WITH store, not shadowed by a derived table, and denote what the specification says -/
def WEnv (st : St) (wenv : Scope) : Prop :=
  ∀ n R, dictGet? wenv n = some R → dictGet? st.subq n = none ∧ ∃ L, dictGet? st.withT n = some L ∧ Denotes L R

def Keys (wn : List String) (wenv : Scope) : Prop := ∀ n, n ∈ wn ↔ (dictGet? wenv n).isSome = true

theorem WEnv.frame {B : List String} {st st' : St} {wenv : Scope} (h : WEnv st wenv) (hf : Frame B st st')
    (hd : ∀ n, (dictGet? wenv n).isSome = true → n ∉ B) : WEnv st' wenv := by
  intro n R hn
  have hb := hd n (by simp [hn])
  rw [(hf n hb).1, (hf n hb).2]
  exact h n R hn

theorem levelOK_nodup {fts : List FromTable} (h : levelOK fts = true) : ((keysOf fts).filterMap id).Nodup := by
  simp only [levelOK, Bool.and_eq_true, decide_eq_true_eq] at h
  exact List.Pairwise.filterMap id (fun a a' hne b hb b' hb' (e : b = b') => hne (hb.trans (e ▸ hb'.symm))) h.2

theorem subQueries_foldl : ∀ (fts : List FromTable) (acc : List (String × Query)),
    subQueries fts acc = (derivedOf fts).foldl (fun m p => dictSet m p.1 p.2) acc
  | [], _ => rfl
  | .mk (.table _ _) _ :: r, acc => subQueries_foldl r acc
  | .mk (.sub _) none :: r, acc => subQueries_foldl r acc
  | .mk (.sub q) (some a) :: r, acc => subQueries_foldl r (dictSet acc a q)

theorem derivedOf_keys : ∀ fts : List FromTable, ((derivedOf fts).map (·.1)).Sublist ((keysOf fts).filterMap id)
  | [] => .slnil
  | .mk (.table _ _) _ :: r => .cons _ (derivedOf_keys r)
  | .mk (.sub _) none :: r => derivedOf_keys r
  | .mk (.sub _) (some _) :: r => .cons_cons _ (derivedOf_keys r)

theorem subQueries_eq {fts : List FromTable} (h : levelOK fts = true) : subQueries fts [] = derivedOf fts := by
  rw [subQueries_foldl, foldl_dictSet_fresh _ [] ((levelOK_nodup h).sublist (derivedOf_keys fts)) (by simp), List.nil_append]

/-- the table-name dictionary of a level whose items are named distinctly: one entry per item, in order -/
def tnOf : List FromTable → List (String × StdTable)
  | [] => []
  | .mk (.table s n) a :: r => (a.getD n, (s, n)) :: tnOf r
  | .mk (.sub _) (some a) :: r => (a, (none, a)) :: tnOf r
  | .mk (.sub _) none :: r => tnOf r

theorem tableNames_foldl : ∀ (fts : List FromTable) (acc : List (String × StdTable)), (keysOf fts).all (·.isSome) = true →
    tableNames fts acc = .ok ((tnOf fts).foldl (fun m p => dictSet m p.1 p.2) acc) ∧ (tnOf fts).map (·.1) = (keysOf fts).filterMap id
  | [], _, _ => ⟨rfl, rfl⟩
  | .mk (.table s n) a :: r, acc, h => by
    have ih := tableNames_foldl r (dictSet acc (a.getD n) (s, n)) (by simpa [keysOf, keyOf] using h)
    exact ⟨ih.1, by simpa [tnOf, keysOf, keyOf] using ih.2⟩
  | .mk (.sub _) none :: r, acc, h => by simp [keysOf, keyOf] at h
  | .mk (.sub _) (some a) :: r, acc, h => by
    have ih := tableNames_foldl r (dictSet acc a (none, a)) (by simpa [keysOf, keyOf] using h)
    exact ⟨ih.1, by simpa [tnOf, keysOf, keyOf] using ih.2⟩

theorem tableNames_eq {fts : List FromTable} (h : levelOK fts = true) : tableNames fts [] = .ok (tnOf fts) := by
  have h' := h
  simp only [levelOK, Bool.and_eq_true] at h'
  obtain ⟨e, hk⟩ := tableNames_foldl fts [] h'.1
  rw [e, foldl_dictSet_fresh _ [] (hk ▸ levelOK_nodup h) (by simp), List.nil_append]

/-- the scope of a level is what its table names resolve to, once the WITH tables and the level's derived tables are in the stores -/
theorem resolves_level (cat : Cat) (st : St) (wenv rels : Scope) (hw : WEnv st wenv)
    (hr : ∀ a R, dictGet? rels a = some R → ∃ L, dictGet? st.subq a = some L ∧ Denotes L R) :
    ∀ (fts : List FromTable) (scope : Scope),
      (∀ n ∈ baseOf fts, dictGet? wenv n = none → dictGet? st.subq n = none ∧ dictGet? st.withT n = none) →
      scopeOf cat wenv rels fts = .ok scope → Resolves cat st (tnOf fts) scope
  | [], scope, _, h => by
    simp [scopeOf] at h; subst h; exact All2.nil
  | .mk (.sub q) none :: r, scope, _, h => by simp [scopeOf] at h
  | .mk (.sub q) (some a) :: r, scope, hb, h => by
    simp only [scopeOf, bind, Except.bind] at h
    cases h1 : dictGet? rels a with
    | none => simp [h1] at h
    | some R =>
      simp only [h1] at h
      cases h2 : scopeOf cat wenv rels r with
      | error e => simp [h2] at h
      | ok rest =>
        simp [h2, pure, Except.pure] at h
        subst h
        obtain ⟨L, hl, hd⟩ := hr a R h1
        refine All2.cons ⟨rfl, L, ?_, hd⟩ (resolves_level cat st wenv rels hw hr r rest (fun n hn => hb n (by simp [baseOf, hn])) h2)
        simp [lookup, hl]
  | .mk (.table s n) a :: r, scope, hb, h => by
    simp only [scopeOf, bind, Except.bind] at h
    have hrest : ∀ rest, scopeOf cat wenv rels r = .ok rest → Resolves cat st (tnOf r) rest :=
      fun rest h2 => resolves_level cat st wenv rels hw hr r rest (fun m hm => hb m (by simp [baseOf, hm])) h2
    cases h1 : dictGet? wenv n with
    | some R =>
      simp only [h1] at h
      cases h2 : scopeOf cat wenv rels r with
      | error e => simp [h2] at h
      | ok rest =>
        simp [h2, pure, Except.pure] at h
        subst h
        obtain ⟨hsub, L, hl, hd⟩ := hw n R h1
        refine All2.cons ⟨rfl, L, ?_, hd⟩ (hrest rest h2)
        simp [lookup, hsub, hl]
    | none =>
      simp only [h1] at h
      cases h3 : catLookup cat (s, n) with
      | none => simp [h3] at h
      | some c =>
        simp only [h3] at h
        cases h2 : scopeOf cat wenv rels r with
        | error e => simp [h2] at h
        | ok rest =>
          simp [h2, pure, Except.pure] at h
          subst h
          obtain ⟨hs1, hs2⟩ := hb n (by simp [baseOf]) h1
          refine All2.cons ⟨rfl, byCreateTable c, ?_, denotes_base c⟩ (hrest rest h2)
          simp [lookup, hs1, hs2, h3]

/-- the hygiene under which a part of a query is analysed in the stores `st`: `wn` are the keys of the visible WITH tables `wenv`,
which the stores hold; the names `bnd` the part binds are pairwise distinct, none of them visible, read by the part, or in the stores yet;
nor are the names `rds` the part reads from the catalogue -/
structure Hyg (st : St) (wenv : Scope) (wn bnd rds : List String) : Prop where
  keys : Keys wn wenv
  nodup : bnd.Nodup
  fresh : ∀ n ∈ wn, n ∉ bnd
  apart : ∀ n ∈ rds, n ∉ bnd
  cleanR : Clean st rds
  cleanB : Clean st bnd
  env : WEnv st wenv

theorem Hyg.sub {st : St} {wenv : Scope} {wn bnd rds bnd' rds' : List String} (h : Hyg st wenv wn bnd rds)
    (hb : bnd'.Sublist bnd) (hr : ∀ n ∈ rds', n ∈ rds) : Hyg st wenv wn bnd' rds' :=
  ⟨h.keys, h.nodup.sublist hb, fun n hn hm => h.fresh n hn (hb.subset hm), fun n hn hm => h.apart n (hr n hn) (hb.subset hm),
    fun n hn => h.cleanR n (hr n hn), fun n hn => h.cleanB n (hb.subset hn), h.env⟩

theorem Hyg.frame {st st' : St} {wenv : Scope} {wn bnd rds F : List String} (h : Hyg st wenv wn bnd rds) (hf : Frame F st st')
    (hw : ∀ n ∈ wn, n ∉ F) (hb : ∀ n ∈ bnd, n ∉ F) (hr : ∀ n ∈ rds, n ∉ F) : Hyg st' wenv wn bnd rds :=
  ⟨h.keys, h.nodup, h.fresh, h.apart, h.cleanR.frame hf hr, h.cleanB.frame hf hb, h.env.frame hf fun n hs => hw n ((h.keys n).mpr hs)⟩

/-- a query: its lineage is the specified flow and only names it binds are written to the stores; where the specification says
"analysis error" the analysis raises it -/
def PQ (cat : Cat) (f : Nat) : Prop :=
  ∀ (q : Query) (wenv : Scope) (wn : List String) (st : St), Hyg st wenv wn (bound f q) (reads f wn q) →
    Out (flowQ cat f wenv q) (selectLineage cat f q st)
      (fun R p => p.1 = mkLineage (C16.number R 1) Lineage.empty ∧ Frame (bound f q) st p.2)

def PW (cat : Cat) (f : Nat) : Prop :=
  ∀ (ws : List WithTable) (wenv : Scope) (wn : List String) (st : St), Hyg st wenv wn (boundWiths f ws) (readsWiths f wn ws) →
    Out (flowWiths cat f wenv ws) (withLineages cat f ws st)
      (fun wenv' st' => Frame (boundWiths f ws) st st' ∧ WEnv st' wenv' ∧ Keys (wn ++ withNames ws) wenv'
        ∧ (∀ n ∈ withNames ws, n ∈ boundWiths f ws))

def PS (cat : Cat) (f : Nat) : Prop :=
  ∀ (subs : List (String × Query)) (wenv : Scope) (wn : List String) (st : St), Hyg st wenv wn (boundSubs f subs) (readsSubs f wn subs) →
    Out (flowSubs cat f wenv subs) (subQueryLineages cat f subs st)
      (fun rels st' => Frame (boundSubs f subs) st st'
        ∧ (∀ a R, (a, R) ∈ rels → ∃ L, dictGet? st'.subq a = some L ∧ Denotes L R)
        ∧ (∀ a R, (a, R) ∈ rels → a ∈ boundSubs f subs))

theorem ps_step (cat : Cat) (f : Nat) (hq : PQ cat f) (hs : PS cat f) : PS cat (f + 1) := by
  intro subs wenv wn st h
  cases subs with
  | nil => exact ⟨st, by simp [subQueryLineages], Frame.refl _ st, by simp, by simp⟩
  | cons p r =>
    obtain ⟨a, q⟩ := p
    simp only [boundSubs, readsSubs] at h ⊢
    have hn1 := List.nodup_cons.mp h.nodup
    have hdis := (List.nodup_append.mp hn1.2).2.2
    rw [flowSubs, subQueryLineages]
    -- the derived table itself
    refine (hq q wenv wn st (h.sub (.cons _ (List.sublist_append_left ..)) fun n hn => List.mem_append_left _ hn)).bind ?_
    rintro R ⟨_, st1⟩ ⟨rfl, fr1⟩
    by_cases hnd : nodupNames R = true
    · simp only [hnd, Bool.not_true, Bool.false_eq_true, if_false]
      let L := mkLineage (C16.number R 1) Lineage.empty
      let st2 : St := { st1 with subq := dictSet st1.subq a L }
      have fr2 : Frame (a :: bound f q) st st2 := by
        intro k hk'
        have hne : (a == k) = false := by simpa using fun e : a = k => hk' (by simp [e])
        refine ⟨Eq.trans ?_ (fr1 k fun hb => hk' (by simp [hb])).1, (fr1 k fun hb => hk' (by simp [hb])).2⟩
        show dictGet? (dictSet st1.subq a L) k = _
        rw [dictGet?_dictSet, hne]; simp
      have hsub := ((List.sublist_append_left (bound f q) (boundSubs f r)).cons_cons a).subset
      -- the other derived tables, in the stores that hold this one
      have h2 : Hyg st2 wenv wn (boundSubs f r) (readsSubs f wn r) :=
        (h.sub (.cons _ (List.sublist_append_right ..)) fun n hn => List.mem_append_right _ hn).frame fr2
          (fun n hn hm => h.fresh n hn (hsub hm))
          (fun n hn hm => by
            rcases List.mem_cons.mp hm with e | e
            · exact hn1.1 (by simp [← e, hn])
            · exact hdis n e n hn rfl)
          (fun n hn hm => h.apart n (by simp [hn]) (hsub hm))
      refine (hs r wenv wn st2 h2).map ?_
      rintro rest st3 ⟨fr3, hrel3, hin3⟩
      have hab : a ∉ boundSubs f r := fun hm => hn1.1 (by simp [hm])
      refine ⟨(fr2.mono fun k => @hsub k).trans (fr3.mono fun k hk' => by simp [hk']), ?_, ?_⟩
      · intro b Rb hb
        rcases List.mem_cons.mp hb with e | e
        · cases e
          refine ⟨L, ?_, denotes_mk R 1 (by simpa [nodupNames] using hnd)⟩
          rw [(fr3 a hab).1]
          show dictGet? (dictSet st1.subq a L) a = some L
          rw [dictGet?_dictSet]; simp
        · exact hrel3 b Rb e
      · intro b Rb hb
        rcases List.mem_cons.mp hb with e | e
        · cases e; simp
        · simp [hin3 b Rb e]
    · simp [hnd, Out]

theorem pw_step (cat : Cat) (f : Nat) (hq : PQ cat f) (hwi : PW cat f) : PW cat (f + 1) := by
  intro ws wenv wn st h
  cases ws with
  | nil => exact ⟨st, by simp [withLineages], Frame.refl _ st, h.env, by simpa [withNames] using h.keys, by simp [withNames]⟩
  | cons p r =>
    obtain ⟨n, q⟩ := p
    simp only [boundWiths, readsWiths] at h ⊢
    have hn1 := List.nodup_cons.mp h.nodup
    obtain ⟨-, hnr, hdis⟩ := List.nodup_append.mp hn1.2
    rw [flowWiths, withLineages]
    refine (hq q wenv wn st (h.sub (.cons _ (List.sublist_append_left ..)) fun m hm => List.mem_append_left _ hm)).bind ?_
    rintro R ⟨_, st1⟩ ⟨rfl, fr1⟩
    by_cases hnd : nodupNames R = true
    · simp only [hnd, Bool.not_true, Bool.false_eq_true, if_false]
      let L := mkLineage (C16.number R 1) Lineage.empty
      let st2 : St := { st1 with withT := dictSet st1.withT n L }
      have fr2 : Frame (n :: bound f q) st st2 := by
        intro k hk'
        have hne : (n == k) = false := by simpa using fun e : n = k => hk' (by simp [e])
        refine ⟨(fr1 k fun hb => hk' (by simp [hb])).1, Eq.trans ?_ (fr1 k fun hb => hk' (by simp [hb])).2⟩
        show dictGet? (dictSet st1.withT n L) k = _
        rw [dictGet?_dictSet, hne]; simp
      have hsub := ((List.sublist_append_left (bound f q) (boundWiths f r)).cons_cons n).subset
      have hk2 : Keys (wn ++ [n]) (dictSet wenv n R) := by
        intro m
        rw [dictGet?_dictSet]
        by_cases e : n = m
        · subst e; simp
        · have hne : (n == m) = false := by simpa using e
          have e' : ¬ m = n := fun x => e x.symm
          simp [hne, e', h.keys m]
      have he2 : WEnv st2 (dictSet wenv n R) := by
        intro m R' hm
        rw [dictGet?_dictSet] at hm
        by_cases e : n = m
        · subst e
          simp at hm; subst hm
          refine ⟨?_, L, ?_, denotes_mk R 1 (by simpa [nodupNames] using hnd)⟩
          · show dictGet? st1.subq n = none
            rw [(fr1 n fun hb => hn1.1 (by simp [hb])).1]; exact (h.cleanB n (by simp)).1
          · show dictGet? (dictSet st1.withT n L) n = some L
            rw [dictGet?_dictSet]; simp
        · have hne : (n == m) = false := by simpa using e
          simp only [hne, Bool.false_eq_true, if_false] at hm
          have hmb : m ∉ n :: bound f q := fun hb => h.fresh m ((h.keys m).mpr (by simp [hm])) (hsub hb)
          rw [(fr2 m hmb).1, (fr2 m hmb).2]
          exact h.env m R' hm
      -- the other WITH tables see this one
      have h2 : Hyg st2 (dictSet wenv n R) (wn ++ [n]) (boundWiths f r) (readsWiths f (wn ++ [n]) r) :=
        ⟨hk2, hnr,
          fun m hm hb => by
            rcases List.mem_append.mp hm with hm | hm
            · exact h.fresh m hm (by simp [hb])
            · cases List.mem_singleton.1 hm; exact hn1.1 (by simp [hb]),
          fun m hm hb => h.apart m (by simp [hm]) (by simp [hb]),
          Clean.frame (fun m hm => h.cleanR m (by simp [hm])) fr2 fun m hm hb => h.apart m (by simp [hm]) (hsub hb),
          Clean.frame (fun m hm => h.cleanB m (by simp [hm])) fr2 fun m hm hb => by
            rcases List.mem_cons.mp hb with e | e
            · exact hn1.1 (by simp [← e, hm])
            · exact hdis m e m hm rfl,
          he2⟩
      refine (hwi r _ _ st2 h2).mono ?_
      rintro wenv' st3 ⟨fr3, he3, hk3, hin3⟩
      refine ⟨(fr2.mono fun k => @hsub k).trans (fr3.mono fun k hk' => by simp [hk']), he3, ?_, ?_⟩
      · simpa [withNames, List.append_assoc] using hk3
      · intro m hm
        simp only [withNames, List.mem_cons] at hm
        rcases hm with e | e
        · simp [e]
        · simp [hin3 m e]
    · simp [hnd, Out]

theorem outside_bind {α β : Type} {x : Except FErr α} {g : α → Except FErr β} {e : FErr} (h : (x >>= g) = .error e)
    (hx : ∀ e, x = .error e → e = .outside) (hg : ∀ a e, g a = .error e → e = .outside) : e = .outside := by
  rcases x with e' | a
  · cases h; exact hx _ rfl
  · exact hg a e h

/-- the scope of a level is refused only as "outside" (an unknown base table, a derived table without alias) -/
theorem scopeOf_err (cat : Cat) (wenv rels : Scope) : ∀ (l : List FromTable) (e : FErr), scopeOf cat wenv rels l = .error e → e = .outside
  | [], e, h => nomatch h
  | .mk (.table s n) al :: r, e, h => by
    rw [scopeOf] at h
    refine outside_bind h (fun e' h' => ?_) fun R e' h' => outside_bind h' (scopeOf_err cat wenv rels r) fun _ _ h'' => nomatch h''
    cases hw : dictGet? wenv n with
    | some R => rw [hw] at h'; cases h'
    | none =>
      rw [hw] at h'
      cases hc : catLookup cat (s, n) with
      | some c => rw [hc] at h'; cases h'
      | none => rw [hc] at h'; cases h'; rfl
  | .mk (.sub q) none :: r, e, h => by rw [scopeOf] at h; cases h; rfl
  | .mk (.sub q) (some a) :: r, e, h => by
    rw [scopeOf] at h
    refine outside_bind h (fun e' h' => ?_) fun R e' h' => outside_bind h' (scopeOf_err cat wenv rels r) fun _ _ h'' => nomatch h''
    cases hr : dictGet? rels a with
    | some R => rw [hr] at h'; cases h'
    | none => rw [hr] at h'; cases h'; rfl

/-- every FROM / JOIN item is referred to by its own table name: the table-name dictionary maps each name to a table of that name -/
theorem tnOf_plain : ∀ (fts : List FromTable), fts.all plainKey = true → ∀ p ∈ tnOf fts, p.2.2 = p.1
  | [], _, p, h => by simp [tnOf] at h
  | .mk (.table s n) (some a) :: r, hall, p, h => by simp [plainKey] at hall
  | .mk (.table s n) none :: r, hall, p, h => by
    simp only [List.all_cons, Bool.and_eq_true] at hall
    simp only [tnOf, List.mem_cons] at h
    rcases h with e | e
    · subst e; rfl
    · exact tnOf_plain r hall.2 p e
  | .mk (.sub q) none :: r, hall, p, h => by simp [plainKey] at hall
  | .mk (.sub q) (some a) :: r, hall, p, h => by
    simp only [List.all_cons, Bool.and_eq_true] at hall
    simp only [tnOf, List.mem_cons] at h
    rcases h with e | e
    · subst e; rfl
    · exact tnOf_plain r hall.2 p e

theorem pq_step (cat : Cat) (f : Nat) (hwi : PW cat f) (hsi : PS cat f) : PQ cat (f + 1) := by
  intro q wenv wn st h
  simp only [flowQ]
  cases hsh : shape q with
  | none => simp [Out]
  | some ws =>
    simp only [flowPrefix, bind, Except.bind]
    have hwq := shape_withs hsh
    simp only [bound, reads, hwq, Option.getD_some] at h ⊢
    generalize hfts : levelFromTables q = fts at h ⊢
    obtain ⟨hk, hn, hw, hr, hc, hcb, he⟩ := h
    obtain ⟨hnw, hns, hdis⟩ := List.nodup_append.mp hn
    -- WITH tables
    have o1 := hwi ws wenv wn st ((Hyg.mk hk hn hw hr hc hcb he).sub (List.sublist_append_left ..) fun m hm => by simp [hm])
    cases h1 : flowWiths cat f wenv ws with
    | error e =>
      rw [h1] at o1
      cases e with
      | analysis => simp only [Out] at o1 ⊢; simp [selectLineage, hwq, o1, bind, Except.bind]
      | outside => simp [Out]
    | ok wenv1 =>
      rw [h1] at o1
      obtain ⟨st1, e1, fr1, he1, hk1, hin1⟩ := o1
      simp only
      by_cases hlev : levelOK fts = true
      · simp only [hlev, Bool.not_true, Bool.false_eq_true, if_false]
        -- derived tables, from the state in which the WITH tables are registered
        have hw1 : ∀ m ∈ wn ++ withNames ws, m ∉ boundSubs f (derivedOf fts) := by
          intro m hm hb
          rcases List.mem_append.mp hm with h | h
          · exact hw m h (by simp [hb])
          · exact hdis m (hin1 m h) m hb rfl
        have hc1 : Clean st1 (readsSubs f (wn ++ withNames ws) (derivedOf fts)) :=
          Clean.frame (fun m hm => hc m (by simp [hm])) fr1 (fun m hm hb => hr m (by simp [hm]) (by simp [hb]))
        have hcb1 : Clean st1 (boundSubs f (derivedOf fts)) :=
          Clean.frame (fun m hm => hcb m (by simp [hm])) fr1 (fun m hm hb => hdis m hb m hm rfl)
        have o2 := hsi (derivedOf fts) wenv1 (wn ++ withNames ws) st1
          ⟨hk1, hns, hw1, fun m hm hb => hr m (by simp [hm]) (by simp [hb]), hc1, hcb1, he1⟩
        cases h2 : flowSubs cat f wenv1 (derivedOf fts) with
        | error e =>
          rw [h2] at o2
          cases e with
          | analysis =>
            simp only [Out] at o2 ⊢
            simp [selectLineage, hwq, hfts, e1, subQueries_eq hlev, o2, bind, Except.bind]
          | outside => simp [Out]
        | ok rels =>
          rw [h2] at o2
          obtain ⟨st2, e2, fr2, hrel2, hin2⟩ := o2
          simp only
          cases h3 : scopeOf cat wenv1 rels fts with
          | error e =>
            have := scopeOf_err cat wenv1 rels fts e h3
            subst this
            simp [Out]
          | ok scope =>
            simp only
            -- the level
            have he2 : WEnv st2 wenv1 := WEnv.frame he1 fr2 (fun m hsome => hw1 m ((hk1 m).mpr hsome))
            have hres : Resolves cat st2 (tnOf fts) scope := by
              refine resolves_level cat st2 wenv1 rels he2 ?_ fts scope ?_ h3
              · intro a Ra ha
                exact hrel2 a Ra (dictGet_mem rels a Ra ha)
              · intro m hm hnone
                have hmw : m ∉ wn ++ withNames ws := by
                  intro hmem
                  have := (hk1 m).mp hmem
                  simp [hnone] at this
                have hmr : m ∈ readsWiths f wn ws ++ (List.filter (fun n => !(wn ++ withNames ws).contains n) (baseOf fts)
                    ++ readsSubs f (wn ++ withNames ws) (derivedOf fts)) := by
                  simp only [List.mem_append, List.mem_filter]
                  right; left
                  exact ⟨hm, by simpa using hmw⟩
                have hmb := hr m (by simpa [List.append_assoc] using hmr)
                have hcm := hc m (by simpa [List.append_assoc] using hmr)
                have f1 := fr1 m (fun hb => hmb (by simp [hb]))
                have f2 := fr2 m (fun hb => hmb (by simp [hb]))
                exact ⟨by rw [f2.1, f1.1]; exact hcm.1, by rw [f2.2, f1.2]; exact hcm.2⟩
            have hlvl := level_generic hres q (fun hall => tnOf_plain fts (by rw [← hfts]; exact hall)) st2 (Same.refl st2)
            have hmodel : selectLineage cat (f + 1) q st =
                (match (do let (cur, st3) ← currentLevel cat (tnOf fts) q st2; sourcesLoop cat (tnOf fts) [] cur st3) with
                 | .error err => .error err
                 | .ok v => .ok (mkLineage v.1 Lineage.empty, v.2)) := by
              simp only [selectLineage, hwq, hfts, e1, subQueries_eq hlev, e2, tableNames_eq hlev, shape_lateral hsh,
                dictOfPairs, List.foldl_nil, bind, Except.bind, pure, Except.pure]
              cases currentLevel cat (tnOf fts) q st2 with
              | error err => rfl
              | ok v =>
                simp only
                cases sourcesLoop cat (tnOf fts) [] v.1 v.2 <;> rfl
            rw [hmodel]
            cases hitems : levelFlow q scope with
            | error e =>
              rw [hitems] at hlvl
              cases e with
              | analysis =>
                simp only [Except.map, agrees_def] at hlvl
                simp [Out, hlvl]
              | outside => simp [Out]
            | ok R =>
              rw [hitems] at hlvl
              simp only [Except.map, agrees_def] at hlvl
              obtain ⟨st3, e3, s3⟩ := hlvl
              refine ⟨(mkLineage (C16.number R 1) Lineage.empty, st3), by rw [e3], rfl, ?_⟩
              exact ((fr1.mono (fun k hk' => by simp [hk'])).trans (fr2.mono (fun k hk' => by simp [hk']))).trans
                (Frame.of_same s3)
      · simp [hlev, Out]

theorem nest (cat : Cat) : ∀ f : Nat, PQ cat f ∧ PW cat f ∧ PS cat f
  | 0 => by
    refine ⟨?_, ?_, ?_⟩
    · intro q wenv wn st _; simp [flowQ, Out]
    · intro ws wenv wn st _; simp [flowWiths, Out]
    · intro subs wenv wn st _; simp [flowSubs, Out]
  | f + 1 => by
    obtain ⟨hq, hw, hs⟩ := nest cat f
    exact ⟨pq_step cat f hw hs, pw_step cat f hq hw, ps_step cat f hq hs⟩

end LineageL
