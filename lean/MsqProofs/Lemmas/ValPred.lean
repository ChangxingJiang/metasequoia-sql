import MsqModel.Val
import MsqModel.Gen.Schema
import MsqModel.Parse.Entry
/-!
# Predicates on generic values that are checked node by node, and their validity on every typed tree

`ValPred` abstracts a structural check of a `Val` (primitive leaves accepted, tuples checked element-wise, nodes checked
by a per-class test `N cls fieldNames` and field-wise).  `Val.immutable` (C11 b) and `Val.wellShaped fieldsOf` (the
shape tie to the regenerated class table) are instances.  `expr_sat` … `stmt_sat` prove by structural induction over the typed trees
that `toVal` of EVERY tree satisfies such a predicate as soon as the per-class test accepts the finitely many
(class, field names) pairs listed in `shapes`.
-/
open Ast Val PM
set_option linter.unusedSectionVars false

structure ValPred where
  P : Val → Bool
  PL : List Val → Bool
  PF : List (String × Val) → Bool
  N : String → List String → Bool
  none_ : P .none = true
  bool_ : ∀ b, P (.bool b) = true
  int_ : ∀ n, P (.int n) = true
  str_ : ∀ s, P (.str s) = true
  enum_ : ∀ c n, P (.enum c n) = true
  tuple_ : ∀ xs, P (.tuple xs) = PL xs
  node_ : ∀ c fs, P (.node c fs) = (N c (Val.fieldNames fs) && PF fs)
  nilL : PL [] = true
  consL : ∀ x r, PL (x :: r) = (P x && PL r)
  nilF : PF [] = true
  consF : ∀ n x r, PF ((n, x) :: r) = (P x && PF r)

/-- C11(b): no mutable container anywhere -/
def immPred : ValPred where
  P := Val.immutable
  PL := Val.immutableL
  PF := Val.immutableF
  N := fun _ _ => true
  none_ := by simp [Val.immutable]
  bool_ := by simp [Val.immutable]
  int_ := by simp [Val.immutable]
  str_ := by simp [Val.immutable]
  enum_ := by simp [Val.immutable]
  tuple_ := by simp [Val.immutable]
  node_ := by simp [Val.immutable]
  nilL := by simp [Val.immutableL]
  consL := by simp [Val.immutableL]
  nilF := by simp [Val.immutableF]
  consF := by simp [Val.immutableF]

/-- every node has exactly the dataclass fields of its class, in order -/
def shapePred (fieldsOf : String → Option (List String)) : ValPred where
  P := Val.wellShaped fieldsOf
  PL := Val.wellShapedL fieldsOf
  PF := Val.wellShapedF fieldsOf
  N := fun c ns => fieldsOf c == some ns
  none_ := by simp [Val.wellShaped]
  bool_ := by simp [Val.wellShaped]
  int_ := by simp [Val.wellShaped]
  str_ := by simp [Val.wellShaped]
  enum_ := by simp [Val.wellShaped]
  tuple_ := by simp [Val.wellShaped]
  node_ := by simp [Val.wellShaped]
  nilL := by simp [Val.wellShapedL]
  consL := by simp [Val.wellShapedL]
  nilF := by simp [Val.wellShapedF]
  consF := by simp [Val.wellShapedF]

/-- the (class, field names) pairs `toVal` builds -/
def shapes : List (String × List String) := [
  ("ASTAggregationFunction", ["name", "params", "is_distinct"]),
  ("ASTAlisaExpression", ["name"]),
  ("ASTAlterAddExpression", ["expression"]),
  ("ASTAlterAddPartitionExpression", ["if_not_exists", "partition"]),
  ("ASTAlterChangeExpression", ["from_column_name", "to_expression"]),
  ("ASTAlterDropColumnExpression", ["column_name"]),
  ("ASTAlterDropPartitionExpression", ["if_exists", "partition"]),
  ("ASTAlterModifyExpression", ["expression"]),
  ("ASTAlterRenameColumnExpression", ["from_column_name", "to_column_name"]),
  ("ASTAlterTableStatement", ["table_name", "expressions"]),
  ("ASTAnalyzeTableStatement", ["table_name", "partition", "for_columns", "cache_metadata", "noscan"]),
  ("ASTBetweenExpression", ["is_not", "before_value", "from_value", "to_value"]),
  ("ASTCaseConditionExpression", ["cases", "else_value"]),
  ("ASTCaseConditionItem", ["when", "then"]),
  ("ASTCaseValueExpression", ["case_value", "cases", "else_value"]),
  ("ASTCaseValueItem", ["when", "then"]),
  ("ASTCastDataType", ["signed", "type", "params"]),
  ("ASTCastFunctionExpression", ["name", "column_expression", "cast_type"]),
  ("ASTClusterByClause", ["columns"]),
  ("ASTColumnNameExpression", ["table_name", "column_name"]),
  ("ASTColumnTypeExpression", ["name", "params"]),
  ("ASTCompareOperator", ["enum"]),
  ("ASTComputeExpression", ["before_value", "after_value", "operator"]),
  ("ASTComputeOperator", ["enum"]),
  ("ASTConfigStringExpression", ["name", "value"]),
  ("ASTCreateTableAsStatement", ["table_name", "if_not_exists", "select_statement"]),
  ("ASTCreateTableStatement", ["table_name", "if_not_exists", "columns", "primary_key", "unique_key", "key", "fulltext_key", "foreign_key", "partitioned_by", "comment", "engine", "auto_increment", "default_charset", "collate", "row_format", "states_persistent", "row_format_serde", "row_format_delimited_fields_terminated_by", "stored_as_inputformat", "stored_as_textfile", "outputformat", "location", "tblproperties"]),
  ("ASTDefineColumnExpression", ["column_name", "column_type", "is_unsigned", "is_zerofill", "character_set", "collate", "generated_always_as", "is_allow_null", "is_not_null", "is_auto_increment", "default", "on_update", "comment"]),
  ("ASTDeleteStatement", ["table_name", "where_clause", "order_by_clause", "limit_clause"]),
  ("ASTDistributeByClause", ["columns"]),
  ("ASTDropTableStatement", ["if_exists", "table_name"]),
  ("ASTExistsExpression", ["value"]),
  ("ASTExtractFunctionExpression", ["name", "extract_name", "column_expression"]),
  ("ASTForeignKeyExpression", ["constraint_name", "slave_columns", "master_table_name", "master_columns", "on_delete", "on_update"]),
  ("ASTFromClause", ["tables"]),
  ("ASTFromTable", ["name", "alias"]),
  ("ASTFulltextIndexExpression", ["name", "columns", "using", "comment", "key_block_size"]),
  ("ASTFunctionNameExpression", ["schema_name", "function_name"]),
  ("ASTGeneratedColumn", ["expression", "save_mode"]),
  ("ASTGroupByClause", ["columns", "grouping_sets", "with_cube", "with_rollup"]),
  ("ASTGroupingSets", ["grouping_list"]),
  ("ASTHavingClause", ["condition"]),
  ("ASTInExpression", ["is_not", "before_value", "after_value"]),
  ("ASTIndexColumn", ["name", "max_length"]),
  ("ASTIndexExpression", ["array", "idx"]),
  ("ASTInsertSelectStatement", ["with_clause", "insert_type", "table_name", "partition", "columns", "select_statement"]),
  ("ASTInsertType", ["enum"]),
  ("ASTInsertValuesStatement", ["with_clause", "insert_type", "table_name", "partition", "columns", "values"]),
  ("ASTIsExpression", ["is_not", "before_value", "after_value"]),
  ("ASTJoinClause", ["type", "table", "rule"]),
  ("ASTJoinOnExpression", ["condition"]),
  ("ASTJoinType", ["enum"]),
  ("ASTJoinUsingExpression", ["using_function"]),
  ("ASTLateralViewClause", ["outer", "function", "view_name", "alias"]),
  ("ASTLikeExpression", ["is_not", "before_value", "after_value"]),
  ("ASTLimitClause", ["limit", "offset"]),
  ("ASTLiteralExpression", ["value"]),
  ("ASTLogicalAndExpression", ["before_value", "after_value"]),
  ("ASTLogicalNotExpression", ["expression"]),
  ("ASTLogicalOrExpression", ["before_value", "after_value"]),
  ("ASTLogicalXorExpression", ["before_value", "after_value"]),
  ("ASTMsckRepairTableStatement", ["table_name"]),
  ("ASTMultiAlisaExpression", ["names"]),
  ("ASTNormalFunctionExpression", ["name", "params"]),
  ("ASTNormalIndexExpression", ["name", "columns", "using", "comment", "key_block_size"]),
  ("ASTOperatorConditionExpression", ["before_value", "after_value", "operator"]),
  ("ASTOrderByClause", ["columns"]),
  ("ASTOrderByColumn", ["column", "order", "nulls_first", "nulls_last"]),
  ("ASTOrderType", ["enum"]),
  ("ASTPartitionExpression", ["partitions"]),
  ("ASTPrimaryIndexExpression", ["name", "columns", "using", "comment", "key_block_size"]),
  ("ASTRegexpExpression", ["is_not", "before_value", "after_value"]),
  ("ASTRlikeExpression", ["is_not", "before_value", "after_value"]),
  ("ASTSelectClause", ["distinct", "columns"]),
  ("ASTSelectColumn", ["value", "alias"]),
  ("ASTSetStatement", ["config"]),
  ("ASTShowColumnsStatement", ["from_clause", "where_clause"]),
  ("ASTShowDatabasesStatement", []),
  ("ASTShowTablesStatement", []),
  ("ASTSingleSelectStatement", ["with_clause", "select_clause", "from_clause", "lateral_view_clauses", "join_clauses", "where_clause", "group_by_clause", "having_clause", "order_by_clause", "sort_by_clause", "distribute_by_clause", "cluster_by_clause", "limit_clause"]),
  ("ASTSortByClause", ["columns"]),
  ("ASTSubQueryExpression", ["statement"]),
  ("ASTSubValueExpression", ["values"]),
  ("ASTTableNameExpression", ["schema_name", "table_name"]),
  ("ASTTruncateTable", ["table_name"]),
  ("ASTUnaryExpression", ["operator", "expression"]),
  ("ASTUnionSelectStatement", ["with_clause", "elements"]),
  ("ASTUnionType", ["enum"]),
  ("ASTUniqueIndexExpression", ["name", "columns", "using", "comment", "key_block_size"]),
  ("ASTUpdateSetClause", ["columns"]),
  ("ASTUpdateSetColumn", ["column_name", "column_value"]),
  ("ASTUpdateStatement", ["with_clause", "table_name", "set_clause", "where_clause", "order_by_clause", "limit_clause"]),
  ("ASTUseStatement", ["schema_name"]),
  ("ASTWhereClause", ["condition"]),
  ("ASTWildcardExpression", ["table_name"]),
  ("ASTWindowExpression", ["window_function", "partition_by_columns", "order_by_columns", "row_expression"]),
  ("ASTWindowRow", ["from_row", "to_row"]),
  ("ASTWindowRowItem", ["row_type", "is_unbounded", "row_num"]),
  ("ASTWithClause", ["tables"]),
  ("ASTWithTable", ["name", "statement"]),
  ("SQLMyBatisExpression", ["mybatis_source"])]

namespace ValPred
variable (Q : ValPred)

theorem mapL {α : Type} (f : α → Val) (h : ∀ a, Q.P (f a) = true) : ∀ l : List α, Q.PL (l.map f) = true
  | [] => by simp [Q.nilL]
  | a :: r => by simp [Q.consL, h a, mapL f h r]

theorem ofOpt_ {α : Type} (f : α → Val) (h : ∀ a, Q.P (f a) = true) : ∀ o : Option α, Q.P (Val.ofOpt f o) = true
  | Option.none => by simp [Val.ofOpt, Q.none_]
  | Option.some a => by simp [Val.ofOpt, h a]

theorem optStr_ (o : Option String) : Q.P (Val.optStr o) = true := Q.ofOpt_ _ Q.str_ o
theorem optInt_ (o : Option Int) : Q.P (Val.optInt o) = true := Q.ofOpt_ _ Q.int_ o
theorem strs_ (l : List String) : Q.P (Val.strs l) = true := by simp [Val.strs, Q.tuple_, Q.mapL _ Q.str_]


/-- the per-class test accepts every shape `toVal` builds -/
def Accepts : Prop := ∀ c ns, (c, ns) ∈ shapes → Q.N c ns = true

section
variable {Q} (hN : Q.Accepts)
include hN

/-- close the goals left by `simp`: per-class tests, discharged from `hN` by walking down `shapes` to the pair
(`constructor` compares the strings as literals; `decide` would evaluate `String.decEq` on each entry passed) -/
local macro "shape_goals" : tactic =>
  `(tactic| all_goals ((repeat' apply And.intro) <;> (first | exact hN _ _ (by repeat constructor) | assumption)))

local macro "node_simp" : tactic =>
  `(tactic| simp_all only [ValPred.node_, ValPred.tuple_, ValPred.consF, ValPred.nilF, ValPred.consL, ValPred.nilL, ValPred.none_, ValPred.bool_,
      ValPred.int_, ValPred.str_, ValPred.enum_, ValPred.optStr_, ValPred.optInt_, ValPred.strs_, Val.fieldNames, Bool.and_eq_true, Bool.and_true, and_true, true_and])

theorem rowItem_sat : ∀ r : RowItem, Q.P r.toVal = true
  | .current => by simp only [RowItem.toVal]; node_simp; shape_goals
  | .unbounded p => by simp only [RowItem.toVal]; node_simp; shape_goals
  | .num n p => by simp only [RowItem.toVal]; node_simp; shape_goals

theorem fnName_sat (sc : Option String) (n : String) : Q.P (fnName sc n) = true := by
  simp only [fnName]; node_simp; shape_goals
theorem alias_sat (a : Option String) : Q.P (alias a) = true := by
  unfold alias
  apply Q.ofOpt_
  intro n
  node_simp; shape_goals
theorem limit_sat (l : Option (Int × Option Int)) : Q.P (limitVal l) = true := by
  unfold limitVal
  apply Q.ofOpt_
  intro p
  node_simp; shape_goals
theorem tableName_sat (sc : Option String) (n : String) : Q.P (tableNameVal sc n) = true := by
  simp only [tableNameVal]; node_simp; shape_goals
omit hN in
theorem ints_sat (l : List Int) : Q.PL (l.map Val.int) = true := Q.mapL _ Q.int_ l

mutual
theorem expr_sat : ∀ e : Expr, Q.P e.toVal = true
  | .column t _ => by simp only [Expr.toVal]; node_simp; shape_goals
  | .literal _ => by simp only [Expr.toVal]; node_simp; shape_goals
  | .wildcard t => by simp only [Expr.toVal]; node_simp; shape_goals
  | .func sc n ps => by
    have := exprs_sat ps; have := fnName_sat hN sc n
    simp only [Expr.toVal]; node_simp; shape_goals
  | .agg n ps d => by
    have := exprs_sat ps; have := fnName_sat hN Option.none n
    simp only [Expr.toVal]; node_simp; shape_goals
  | .cast e sg ty ps => by
    have := expr_sat e; have := fnName_sat hN Option.none "CAST"
    cases ps with
    | none => simp only [Expr.toVal]; node_simp; shape_goals
    | some l =>
      have := ints_sat (Q := Q) l
      simp only [Expr.toVal]; node_simp; shape_goals
  | .extract n e => by
    have := expr_sat n; have := expr_sat e; have := fnName_sat hN Option.none "EXTRACT"
    simp only [Expr.toVal]; node_simp; shape_goals
  | .window fn part ord rows => by
    have := expr_sat fn; have := exprs_sat part; have := orders_sat ord
    rcases rows with _ | ⟨a, b⟩
    · simp only [Expr.toVal]; node_simp; shape_goals
    · have := rowItem_sat hN a; have := rowItem_sat hN b
      simp only [Expr.toVal]; node_simp; shape_goals
  | .caseCond cs els => by
    have := arms_sat "ASTCaseConditionItem" (hN _ _ (by repeat constructor)) cs; have := optExpr_sat els
    simp only [Expr.toVal]; node_simp; shape_goals
  | .caseVal v cs els => by
    have := expr_sat v; have := arms_sat "ASTCaseValueItem" (hN _ _ (by repeat constructor)) cs; have := optExpr_sat els
    simp only [Expr.toVal]; node_simp; shape_goals
  | .subValue vs => by
    have := exprs_sat vs
    simp only [Expr.toVal]; node_simp; shape_goals
  | .subQuery q => by
    have := query_sat q
    simp only [Expr.toVal]; node_simp; shape_goals
  | .exists_ v => by
    have := expr_sat v
    simp only [Expr.toVal]; node_simp; shape_goals
  | .index a i => by
    have := expr_sat a; have := expr_sat i
    simp only [Expr.toVal]; node_simp; shape_goals
  | .unary _ e => by
    have := expr_sat e
    simp only [Expr.toVal]; node_simp; shape_goals
  | .compute l _ r => by
    have := expr_sat l; have := expr_sat r
    simp only [Expr.toVal]; node_simp; shape_goals
  | .kw k _ l r => by
    have := expr_sat l; have := expr_sat r
    cases k <;> (simp only [Expr.toVal, KwKind.cls]; node_simp; shape_goals)
  | .between _ b f t => by
    have := expr_sat b; have := expr_sat f; have := expr_sat t
    simp only [Expr.toVal]; node_simp; shape_goals
  | .compare _ l r => by
    have := expr_sat l; have := expr_sat r
    simp only [Expr.toVal]; node_simp; shape_goals
  | .not_ e => by
    have := expr_sat e
    simp only [Expr.toVal]; node_simp; shape_goals
  | .and_ l r => by
    have := expr_sat l; have := expr_sat r
    simp only [Expr.toVal]; node_simp; shape_goals
  | .xor l r => by
    have := expr_sat l; have := expr_sat r
    simp only [Expr.toVal]; node_simp; shape_goals
  | .or_ l r => by
    have := expr_sat l; have := expr_sat r
    simp only [Expr.toVal]; node_simp; shape_goals
  | .mybatis _ => by simp only [Expr.toVal]; node_simp; shape_goals
theorem exprs_sat : ∀ es : List Expr, Q.PL (exprs es) = true
  | [] => by simp only [exprs]; node_simp
  | e :: r => by
    have := expr_sat e; have := exprs_sat r
    simp only [exprs]; node_simp; shape_goals
theorem optExpr_sat : ∀ e : Option Expr, Q.P (optExpr e) = true
  | Option.none => by simp only [optExpr]; node_simp
  | Option.some e => by
    have := expr_sat e
    simp only [optExpr]; node_simp
theorem arms_sat (cls : String) (hc : Q.N cls ["when", "then"] = true) : ∀ cs : List (Expr × Expr), Q.PL (arms cls cs) = true
  | [] => by simp only [arms]; node_simp
  | (w, t) :: r => by
    have := expr_sat w; have := expr_sat t; have := arms_sat cls hc r
    simp only [arms]; node_simp; shape_goals
theorem order_sat : ∀ o : OrderItem, Q.P o.toVal = true
  | .mk e _ _ _ => by
    have := expr_sat e
    simp only [OrderItem.toVal]; node_simp; shape_goals
theorem orders_sat : ∀ os : List OrderItem, Q.PL (orders os) = true
  | [] => by simp only [orders]; node_simp
  | o :: r => by
    have := order_sat o; have := orders_sat r
    simp only [orders]; node_simp; shape_goals
theorem ref_sat : ∀ t : TableRef, Q.P t.toVal = true
  | .table sc n => by
    have := tableName_sat hN sc n
    simp only [TableRef.toVal]; node_simp
  | .sub q => by
    have := query_sat q
    simp only [TableRef.toVal]; node_simp; shape_goals
theorem fromTable_sat : ∀ t : FromTable, Q.P t.toVal = true
  | .mk t a => by
    have := ref_sat t; have := alias_sat hN a
    simp only [FromTable.toVal]; node_simp; shape_goals
theorem fromTables_sat : ∀ ts : List FromTable, Q.PL (fromTables ts) = true
  | [] => by simp only [fromTables]; node_simp
  | t :: r => by
    have := fromTable_sat t; have := fromTables_sat r
    simp only [fromTables]; node_simp; shape_goals
theorem rule_sat : ∀ r : JoinRule, Q.P r.toVal = true
  | .on e => by
    have := expr_sat e
    simp only [JoinRule.toVal]; node_simp; shape_goals
  | .using f => by
    have := expr_sat f
    simp only [JoinRule.toVal]; node_simp; shape_goals
theorem join_sat : ∀ j : Join, Q.P j.toVal = true
  | .mk _ t rule => by
    have := fromTable_sat t
    rcases rule with _ | r
    · simp only [Join.toVal]; node_simp; shape_goals
    · have := rule_sat r
      simp only [Join.toVal]; node_simp; shape_goals
theorem joins_sat : ∀ js : List Join, Q.PL (joins js) = true
  | [] => by simp only [joins]; node_simp
  | j :: r => by
    have := join_sat j; have := joins_sat r
    simp only [joins]; node_simp; shape_goals
theorem exprLists_sat : ∀ l : List (List Expr), Q.PL (exprLists l) = true
  | [] => by simp only [exprLists]; node_simp
  | g :: r => by
    have := exprs_sat g; have := exprLists_sat r
    simp only [exprLists]; node_simp; shape_goals
theorem group_sat : ∀ g : GroupBy, Q.P g.toVal = true
  | .mk cols sets _ _ => by
    have := exprs_sat cols
    rcases sets with _ | l
    · simp only [GroupBy.toVal]; node_simp; shape_goals
    · have := exprLists_sat l
      simp only [GroupBy.toVal]; node_simp; shape_goals
theorem lateral_sat : ∀ l : Lateral, Q.P l.toVal = true
  | .mk _ fn _ as => by
    have := expr_sat fn
    simp only [Lateral.toVal]; node_simp; shape_goals
theorem laterals_sat : ∀ ls : List Lateral, Q.PL (laterals ls) = true
  | [] => by simp only [laterals]; node_simp
  | l :: r => by
    have := lateral_sat l; have := laterals_sat r
    simp only [laterals]; node_simp; shape_goals
theorem withTable_sat : ∀ w : WithTable, Q.P w.toVal = true
  | .mk _ q => by
    have := query_sat q
    simp only [WithTable.toVal]; node_simp; shape_goals
theorem withTables_sat : ∀ ws : List WithTable, Q.PL (withTables ws) = true
  | [] => by simp only [withTables]; node_simp
  | w :: r => by
    have := withTable_sat w; have := withTables_sat r
    simp only [withTables]; node_simp; shape_goals
theorem withs_sat : ∀ ws : Option (List WithTable), Q.P (withsVal ws) = true
  | Option.none => by simp only [withsVal]; node_simp
  | Option.some ws => by
    have := withTables_sat ws
    simp only [withsVal]; node_simp; shape_goals
theorem cols_sat : ∀ cs : List (Expr × Option String), Q.PL (selectCols cs) = true
  | [] => by simp only [selectCols]; node_simp
  | (e, a) :: r => by
    have := expr_sat e; have := cols_sat r; have := alias_sat hN a
    simp only [selectCols]; node_simp; shape_goals
theorem fromClause_sat : ∀ fr : Option (List FromTable), Q.P (fromClauseVal fr) = true
  | Option.none => by simp only [fromClauseVal]; node_simp
  | Option.some l => by
    have := fromTables_sat l
    simp only [fromClauseVal]; node_simp; shape_goals
theorem whereClause_sat : ∀ wh : Option Expr, Q.P (whereClauseVal wh) = true
  | Option.none => by simp only [whereClauseVal]; node_simp
  | Option.some e => by
    have := expr_sat e
    simp only [whereClauseVal]; node_simp; shape_goals
theorem groupByClause_sat : ∀ gb : Option GroupBy, Q.P (groupByClauseVal gb) = true
  | Option.none => by simp only [groupByClauseVal]; node_simp
  | Option.some g => by
    have := group_sat g
    simp only [groupByClauseVal]; node_simp
theorem havingClause_sat : ∀ hv : Option Expr, Q.P (havingClauseVal hv) = true
  | Option.none => by simp only [havingClauseVal]; node_simp
  | Option.some e => by
    have := expr_sat e
    simp only [havingClauseVal]; node_simp; shape_goals
theorem orderByClause_sat : ∀ ob : Option (List OrderItem), Q.P (orderByClauseVal ob) = true
  | Option.none => by simp only [orderByClauseVal]; node_simp
  | Option.some l => by
    have := orders_sat l
    simp only [orderByClauseVal]; node_simp; shape_goals
theorem sortByClause_sat : ∀ ob : Option (List OrderItem), Q.P (sortByClauseVal ob) = true
  | Option.none => by simp only [sortByClauseVal]; node_simp
  | Option.some l => by
    have := orders_sat l
    simp only [sortByClauseVal]; node_simp; shape_goals
theorem distributeByClause_sat : ∀ db : Option (List Expr), Q.P (distributeByClauseVal db) = true
  | Option.none => by simp only [distributeByClauseVal]; node_simp
  | Option.some l => by
    have := exprs_sat l
    simp only [distributeByClauseVal]; node_simp; shape_goals
theorem clusterByClause_sat : ∀ cb : Option (List Expr), Q.P (clusterByClauseVal cb) = true
  | Option.none => by simp only [clusterByClauseVal]; node_simp
  | Option.some l => by
    have := exprs_sat l
    simp only [clusterByClauseVal]; node_simp; shape_goals
theorem select_sat : ∀ s : Select, Q.P s.toVal = true
  | .mk ws dist cols fr lats js wh gb hv ob sb db cb lm => by
    have := withs_sat ws; have := cols_sat cols; have := fromClause_sat fr; have := laterals_sat lats; have := joins_sat js
    have := whereClause_sat wh; have := groupByClause_sat gb; have := havingClause_sat hv; have := orderByClause_sat ob
    have := sortByClause_sat sb; have := distributeByClause_sat db; have := clusterByClause_sat cb; have := limit_sat hN lm
    simp only [Select.toVal]; node_simp; shape_goals
theorem unionElems_sat : ∀ us : List (String × Select), Q.PL (unionElems us) = true
  | [] => by simp only [unionElems]; node_simp
  | (_, s) :: r => by
    have := select_sat s; have := unionElems_sat r
    simp only [unionElems]; node_simp; shape_goals
theorem query_sat : ∀ q : Query, Q.P q.toVal = true
  | .single s => by
    have := select_sat s
    simp only [Query.toVal]; node_simp
  | .union ws s us => by
    have := withs_sat ws; have := select_sat s; have := unionElems_sat us
    simp only [Query.toVal]; node_simp; shape_goals
end

theorem tblName_sat (t : TableName) : Q.P t.toVal = true := tableName_sat hN _ _
theorem partition_sat (p : List Expr) : Q.P (partitionVal p) = true := by
  have := exprs_sat hN p
  simp only [partitionVal]; node_simp; shape_goals
theorem colType_sat (t : ColType) : Q.P t.toVal = true := by
  rcases t with ⟨n, _ | l⟩
  · simp only [ColType.toVal]; node_simp; shape_goals
  · have := exprs_sat hN l
    simp only [ColType.toVal]; node_simp; shape_goals
theorem genCol_sat (g : GenCol) : Q.P g.toVal = true := by
  have := expr_sat hN g.e
  have : Q.P (ofOpt (Val.enum "EnumGenerateColumnSaveMode") g.mode) = true := Q.ofOpt_ _ (Q.enum_ _) _
  simp only [GenCol.toVal]; node_simp; shape_goals
theorem defCol_sat (c : DefCol) : Q.P c.toVal = true := by
  have := colType_sat hN c.type
  have : Q.P (ofOpt GenCol.toVal c.generated) = true := Q.ofOpt_ _ (genCol_sat hN) _
  have := optExpr_sat hN c.default; have := optExpr_sat hN c.onUpdate
  simp only [DefCol.toVal]; node_simp; shape_goals
theorem indexCol_sat (c : IndexCol) : Q.P c.toVal = true := by
  simp only [IndexCol.toVal]; node_simp; shape_goals
theorem index_sat (i : Index) : Q.P i.toVal = true := by
  have := Q.mapL _ (indexCol_sat hN) i.cols
  rcases i with ⟨k, a, b, c, d, e⟩
  cases k <;> (simp only [Index.toVal, IndexKind.cls]; node_simp; shape_goals)
theorem foreignKey_sat (f : ForeignKey) : Q.P f.toVal = true := by
  simp only [ForeignKey.toVal]; node_simp; shape_goals
theorem colOrIdx_sat : ∀ x : ColOrIdx, Q.P x.toVal = true
  | .col c => defCol_sat hN c
  | .idx i => index_sat hN i
  | .fk f => foreignKey_sat hN f
theorem alterOp_sat : ∀ o : AlterOp, Q.P o.toVal = true
  | .addPartition b p => by
    have := partition_sat hN p
    simp only [AlterOp.toVal]; node_simp; shape_goals
  | .add x => by
    have := colOrIdx_sat hN x
    simp only [AlterOp.toVal]; node_simp; shape_goals
  | .modify x => by
    have := colOrIdx_sat hN x
    simp only [AlterOp.toVal]; node_simp; shape_goals
  | .change f t => by
    have := colOrIdx_sat hN t
    simp only [AlterOp.toVal]; node_simp; shape_goals
  | .renameColumn f t => by simp only [AlterOp.toVal]; node_simp; shape_goals
  | .dropColumn c => by simp only [AlterOp.toVal]; node_simp; shape_goals
  | .dropPartition b p => by
    have := partition_sat hN p
    simp only [AlterOp.toVal]; node_simp; shape_goals
theorem configStr_sat (c : ConfigStr) : Q.P c.toVal = true := by
  simp only [ConfigStr.toVal]; node_simp; shape_goals
theorem createTable_sat (c : CreateTable) : Q.P c.toVal = true := by
  have := tblName_sat hN c.table
  have := Q.mapL _ (defCol_sat hN) c.columns
  have : Q.P (ofOpt Index.toVal c.primaryKey) = true := Q.ofOpt_ _ (index_sat hN) _
  have := Q.mapL _ (index_sat hN) c.uniqueKey
  have := Q.mapL _ (index_sat hN) c.key
  have := Q.mapL _ (index_sat hN) c.fulltextKey
  have := Q.mapL _ (foreignKey_sat hN) c.foreignKey
  have := Q.mapL _ (defCol_sat hN) c.partitionedBy
  have := Q.mapL _ (configStr_sat hN) c.tblproperties
  simp only [CreateTable.toVal]; node_simp; shape_goals
theorem insertHead_sat (h : InsertHead) : Q.PF h.fields = true ∧ Val.fieldNames h.fields = ["with_clause", "insert_type", "table_name", "partition", "columns"] := by
  have := withs_sat hN h.withs; have := tblName_sat hN h.table
  have : Q.P (ofOpt partitionVal h.partition) = true := Q.ofOpt_ _ (partition_sat hN) _
  rcases h with ⟨a, b, c, d, _ | cs⟩
  · simp only [InsertHead.fields]; node_simp; shape_goals
  · have := Q.mapL (fun (x : Option String × String) => (Expr.column x.1 x.2).toVal) (fun x => expr_sat hN _) cs
    simp only [InsertHead.fields]; node_simp; shape_goals
theorem whereVal_sat (e : Option Expr) : Q.P (whereVal e) = true := by
  unfold whereVal
  apply Q.ofOpt_
  intro e
  have := expr_sat hN e
  node_simp; shape_goals
theorem orderVal_sat (l : Option (List OrderItem)) : Q.P (orderVal l) = true := by
  unfold orderVal
  apply Q.ofOpt_
  intro l
  have := orders_sat hN l
  node_simp; shape_goals

omit hN in
theorem fieldNames_append (a b : List (String × Val)) : Val.fieldNames (a ++ b) = Val.fieldNames a ++ Val.fieldNames b := by
  induction a with
  | nil => simp [Val.fieldNames]
  | cons p r ih =>
    obtain ⟨n, v⟩ := p
    simp [Val.fieldNames, ih]
omit hN in
theorem PF_append (a b : List (String × Val)) : Q.PF (a ++ b) = (Q.PF a && Q.PF b) := by
  induction a with
  | nil => simp [Q.nilF]
  | cons p r ih =>
    obtain ⟨n, v⟩ := p
    simp [Q.consF, ih, Bool.and_assoc]

/-- **every statement tree satisfies the predicate** -/
theorem stmt_sat : ∀ s : Stmt, Q.P s.toVal = true
  | .select q => query_sat hN q
  | .insertValues h vs => by
    obtain ⟨h1, h2⟩ := insertHead_sat hN h
    have := Q.mapL (fun r => (Expr.subValue r).toVal) (fun r => expr_sat hN _) vs
    simp only [Stmt.toVal, Q.node_, fieldNames_append, PF_append, h1, h2]; node_simp; shape_goals
  | .insertSelect h q => by
    obtain ⟨h1, h2⟩ := insertHead_sat hN h
    have := query_sat hN q
    simp only [Stmt.toVal, Q.node_, fieldNames_append, PF_append, h1, h2]; node_simp; shape_goals
  | .update ws t sets wh ob lm => by
    have := withs_sat hN ws; have := tblName_sat hN t; have := whereVal_sat hN wh; have := orderVal_sat hN ob; have := limit_sat hN lm
    have := Q.mapL (fun (x : String × Expr) => Val.node "ASTUpdateSetColumn" [("column_name", .str x.1), ("column_value", x.2.toVal)])
      (fun x => by have := expr_sat hN x.2; node_simp; shape_goals) sets
    simp only [Stmt.toVal]; node_simp; shape_goals
  | .delete t wh ob lm => by
    have := tblName_sat hN t; have := whereVal_sat hN wh; have := orderVal_sat hN ob; have := limit_sat hN lm
    simp only [Stmt.toVal]; node_simp; shape_goals
  | .createTable c => createTable_sat hN c
  | .createTableAs t ine q => by
    have := tblName_sat hN t; have := query_sat hN q
    simp only [Stmt.toVal]; node_simp; shape_goals
  | .dropTable b t => by
    have := tblName_sat hN t
    simp only [Stmt.toVal]; node_simp; shape_goals
  | .set c => by
    have := configStr_sat hN c
    simp only [Stmt.toVal]; node_simp; shape_goals
  | .analyze t p fc cm ns => by
    have := tblName_sat hN t
    have : Q.P (ofOpt partitionVal p) = true := Q.ofOpt_ _ (partition_sat hN) _
    simp only [Stmt.toVal]; node_simp; shape_goals
  | .alter t ops => by
    have := tblName_sat hN t; have := Q.mapL _ (alterOp_sat hN) ops
    simp only [Stmt.toVal]; node_simp; shape_goals
  | .msck t => by
    have := tblName_sat hN t
    simp only [Stmt.toVal]; node_simp; shape_goals
  | .use s => by simp only [Stmt.toVal]; node_simp; shape_goals
  | .truncate t => by
    have := tblName_sat hN t
    simp only [Stmt.toVal]; node_simp; shape_goals
  | .showDatabases => by simp only [Stmt.toVal]; node_simp; shape_goals
  | .showTables => by simp only [Stmt.toVal]; node_simp; shape_goals
  | .showColumns fr wh => by
    have := fromTables_sat hN fr; have := whereVal_sat hN wh
    simp only [Stmt.toVal]; node_simp; shape_goals

/-! ### the public entry points of the parser model -/

theorem optGroup_sat : ∀ g : Option GroupBy, Q.P (match g with | Option.none => Val.none | Option.some g => GroupBy.toVal g) = true
  | Option.none => Q.none_
  | Option.some g => group_sat hN g

/-- every entry point but `statements` is a parser followed by `toVal` (or a value function made of `toVal`s) on its result -/
theorem entries_sat : ∀ e ∈ PM.entries, e.1 ≠ "statements" → ∀ d f ts v r, e.2 d f ts = .ok (v, r) → Q.P v = true := by
  simp only [PM.entries, List.forall_mem_cons, exprEntry, stmtEntry, mapEntry]
  repeat' apply And.intro
  all_goals intro hne
  all_goals first
    | exact absurd rfl hne
    | exact fun he => absurd he List.not_mem_nil
    | (intro d f ts v r h
       split at h
       · cases h
         first
           | exact optGroup_sat hN _
           | simp only [expr_sat hN, stmt_sat hN, tblName_sat hN, fnName_sat hN, limit_sat hN, configStr_sat hN, foreignKey_sat hN,
               indexCol_sat hN, index_sat hN, fromTable_sat hN, join_sat hN, ref_sat hN, whereVal_sat hN, orderVal_sat hN,
               withs_sat hN, lateral_sat hN, select_sat hN, query_sat hN, colType_sat hN, partition_sat hN, defCol_sat hN,
               colOrIdx_sat hN, alterOp_sat hN]
       · cases h)

end
end ValPred
