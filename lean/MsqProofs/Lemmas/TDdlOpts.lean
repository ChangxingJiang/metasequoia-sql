import MsqProofs.Lemmas.TDdlIdx
/-!
# T-parse for CREATE TABLE: the table-option loop (C18 / C03)

`CO d f c ts N res` = `createOpts` succeeds with `res` at every loop fuel from `N` on.  Per option one equation for the round of the
loop that reads it (`createOpts_*`), and one lemma in continuation form (`co_*`): if the loop succeeds on `r` from the record `c`, it
succeeds on `tokens of the option ++ r` from the record in which the option is still unset, with `N` increased by the number of tokens.
-/
open Lex PM Ast TP TS
namespace TD
variable {d : Gen.D}

abbrev CO (d : Gen.D) (f : Nat) (c : CreateTable) (ts : List Tok) (N : Nat) (res : CreateTable × List Tok) : Prop :=
  OkAt (fun g => createOpts d f g c ts) N res

theorem srcEq_srcTok (s k : String) : (srcTok s).srcEq k = (s == k) := by simp [Tok.srcEq, src_srcTok]

theorem co_end (f : Nat) (c : CreateTable) (rest : List Tok) (hr : endsC rest = true) : CO d f c rest 1 (c, rest) :=
  OkAt.step (n := 0) (q := fun _ => .ok (c, rest)) (fun _ _ => rfl) (fun g => by
    simp only [endsC] at hr
    simp [createOpts, hr])

/-- `= s` (MySQL) -/
theorem optEqSrc_eq (s : String) (r : List Tok) : optEqSrc (eqTok :: srcTok s :: r) = .ok (s, r) := by
  simp only [optEqSrc, eqTok]; kw_simp
/-- ` s` (Hive) -/
theorem optEqSrc_sp (s : String) (r : List Tok) (hv : valOK (some s) = true) : optEqSrc (srcTok s :: r) = .ok (s, r) := by
  have hv' : (s == "=") = false := by simpa [valOK] using hv
  simp only [optEqSrc, moveStr, searchStr_cons, srcEq_srcTok, hv', Bool.false_eq_true, if_false,
    popSrc, src_srcTok]

/-! one round of the loop at each option -/
section rounds
variable (f : Nat) (c : CreateTable) (r : List Tok) (g : Nat) (s : String)

theorem createOpts_engine :
    createOpts d f (g + 1) c (optEq [opTok "ENGINE"] (some s) ++ r) = createOpts d f g { c with engine := some s } r := by
  rw [createOpts, optEq]; kw_simp; rw [optEqSrc_eq]
theorem createOpts_autoInc (n : Int) (hv : intOK n = true) :
    createOpts d f (g + 1) c (toksAutoInc (some n) ++ r) = createOpts d f g { c with autoIncrement := some n } r := by
  rw [createOpts, toksAutoInc, eqTok]; kw_simp; simp only [popInt_ok n hv r]
theorem createOpts_charset :
    createOpts d f (g + 1) c (optEq [opTok "DEFAULT", opTok "CHARSET"] (some s) ++ r) = createOpts d f g { c with defaultCharset := some s } r := by
  rw [createOpts, optEq]; kw_simp; rw [optEqSrc_eq]
theorem createOpts_rowFormat :
    createOpts d f (g + 1) c (optEq [opTok "ROW_FORMAT"] (some s) ++ r) = createOpts d f g { c with rowFormat := some s } r := by
  rw [createOpts, optEq]; kw_simp; rw [optEqSrc_eq]
theorem createOpts_collate :
    createOpts d f (g + 1) c (optEq [opTok "COLLATE"] (some s) ++ r) = createOpts d f g { c with collate := some s } r := by
  rw [createOpts, optEq]; kw_simp; rw [optEqSrc_eq]
theorem createOpts_commentMy :
    createOpts d f (g + 1) c (optEq [opTok "COMMENT"] (some s) ++ r) = createOpts d f g { c with comment := some s } r := by
  rw [createOpts, optEq]; kw_simp; rw [optEqSrc_eq]
theorem createOpts_commentHive (hv : valOK (some s) = true) :
    createOpts d f (g + 1) c (optSp [opTok "COMMENT"] (some s) ++ r) = createOpts d f g { c with comment := some s } r := by
  rw [createOpts, optSp]; kw_simp; rw [optEqSrc_sp s r hv]
theorem createOpts_stats :
    createOpts d f (g + 1) c (optEq [opTok "STATS_PERSISTENT"] (some s) ++ r) = createOpts d f g { c with statesPersistent := some s } r := by
  rw [createOpts, optEq]; kw_simp; rw [optEqSrc_eq]
theorem createOpts_partitioned (pb : List DefCol) (he : pb.isEmpty = false) (hc : pb.all (colOK d) = true)
    (hs : segsOK (pb.map (toksDefCol d)) = true) (hf : ∀ c ∈ pb, 20 * sizeL (toksDefCol d c) + 2 ≤ f) :
    createOpts d f (g + 1) c (toksPartitioned d pb ++ r) = createOpts d f g { c with partitionedBy := c.partitionedBy ++ pb } r := by
  rw [toksPartitioned, if_neg (by simp [he]), createOpts]
  kw_simp
  rw [splitBy_sepAll _ hs, eachClosed_id (pDefCol d f) (toksDefCol d) pb
    (fun c hcm => pDefCol_ok c (List.all_eq_true.1 hc c hcm) f (hf c hcm))]
theorem createOpts_serde (hv : valOK (some s) = true) :
    createOpts d f (g + 1) c (optSp [opTok "ROW", opTok "FORMAT", opTok "SERDE"] (some s) ++ r) =
      createOpts d f g { c with rowFormatSerde := some s } r := by
  rw [createOpts, optSp]; kw_simp; rw [optEqSrc_sp s r hv]
theorem createOpts_delimited (hv : valOK (some s) = true) :
    createOpts d f (g + 1) c
        (optSp [opTok "ROW", opTok "FORMAT", opTok "DELIMITED", opTok "FIELDS", opTok "TERMINATED", opTok "BY"] (some s) ++ r) =
      createOpts d f g { c with rowFormatDelimited := some s } r := by
  rw [createOpts, optSp]; kw_simp; rw [optEqSrc_sp s r hv]
theorem createOpts_inputformat (hv : valOK (some s) = true) :
    createOpts d f (g + 1) c (optSp [opTok "STORED", opTok "AS", opTok "INPUTFORMAT"] (some s) ++ r) =
      createOpts d f g { c with storedAsInputformat := some s } r := by
  rw [createOpts, optSp]; kw_simp; rw [optEqSrc_sp s r hv]
theorem createOpts_textfile :
    createOpts d f (g + 1) c ([opTok "STORED", opTok "AS", opTok "TEXTFILE"] ++ r) = createOpts d f g { c with storedAsTextfile := true } r := by
  rw [createOpts]; kw_simp
theorem createOpts_outputformat (hv : valOK (some s) = true) :
    createOpts d f (g + 1) c (optSp [opTok "OUTPUTFORMAT"] (some s) ++ r) = createOpts d f g { c with outputformat := some s } r := by
  rw [createOpts, optSp]; kw_simp; rw [optEqSrc_sp s r hv]
theorem createOpts_location (hv : valOK (some s) = true) :
    createOpts d f (g + 1) c (optSp [opTok "LOCATION"] (some s) ++ r) = createOpts d f g { c with location := some s } r := by
  rw [createOpts, optSp]; kw_simp; rw [optEqSrc_sp s r hv]
theorem createOpts_props (tp : List ConfigStr) (he : tp.isEmpty = false) (hs : segsOK (tp.map toksProp) = true) :
    createOpts d f (g + 1) c (toksProps tp ++ r) = createOpts d f g { c with tblproperties := c.tblproperties ++ tp } r := by
  rw [toksProps, if_neg (by simp [he]), createOpts]
  kw_simp
  rw [splitBy_sepAll _ hs, eachClosed_id pConfigStrExpr toksProp tp (fun p _ => pConfigStrExpr_ok p)]
end rounds

/-! the options in continuation form -/
section steps
variable {f : Nat} {c : CreateTable} {r : List Tok} {N : Nat} {res : CreateTable × List Tok} (H : CO d f c r N res)
include H

theorem co_engine : CO d f { c with engine := none } (optEq [opTok "ENGINE"] c.engine ++ r) (N + (optEq [opTok "ENGINE"] c.engine).length) res :=
  OkAt.opt (fun v => { c with engine := v }) _ c.engine
    (fun s _ g => createOpts_engine f _ r g s) H

theorem co_autoInc (hv : optIntOK c.autoIncrement = true) :
    CO d f { c with autoIncrement := none } (toksAutoInc c.autoIncrement ++ r) (N + (toksAutoInc c.autoIncrement).length) res :=
  OkAt.opt (fun v => { c with autoIncrement := v }) _ c.autoIncrement
    (fun n h g => createOpts_autoInc f _ r g n (by rw [h] at hv; exact hv)) H

theorem co_charset : CO d f { c with defaultCharset := none } (optEq [opTok "DEFAULT", opTok "CHARSET"] c.defaultCharset ++ r)
    (N + (optEq [opTok "DEFAULT", opTok "CHARSET"] c.defaultCharset).length) res :=
  OkAt.opt (fun v => { c with defaultCharset := v }) _ c.defaultCharset
    (fun s _ g => createOpts_charset f _ r g s) H

theorem co_collate : CO d f { c with collate := none } (optEq [opTok "COLLATE"] c.collate ++ r) (N + (optEq [opTok "COLLATE"] c.collate).length) res :=
  OkAt.opt (fun v => { c with collate := v }) _ c.collate
    (fun s _ g => createOpts_collate f _ r g s) H

theorem co_rowFormat :
    CO d f { c with rowFormat := none } (optEq [opTok "ROW_FORMAT"] c.rowFormat ++ r) (N + (optEq [opTok "ROW_FORMAT"] c.rowFormat).length) res :=
  OkAt.opt (fun v => { c with rowFormat := v }) _ c.rowFormat
    (fun s _ g => createOpts_rowFormat f _ r g s) H

theorem co_stats : CO d f { c with statesPersistent := none } (optEq [opTok "STATS_PERSISTENT"] c.statesPersistent ++ r)
    (N + (optEq [opTok "STATS_PERSISTENT"] c.statesPersistent).length) res :=
  OkAt.opt (fun v => { c with statesPersistent := v }) _ c.statesPersistent
    (fun s _ g => createOpts_stats f _ r g s) H

theorem co_commentMy : CO d f { c with comment := none } (optEq [opTok "COMMENT"] c.comment ++ r) (N + (optEq [opTok "COMMENT"] c.comment).length) res :=
  OkAt.opt (fun v => { c with comment := v }) _ c.comment
    (fun s _ g => createOpts_commentMy f _ r g s) H

theorem co_commentHive (hv : valOK c.comment = true) :
    CO d f { c with comment := none } (optSp [opTok "COMMENT"] c.comment ++ r) (N + (optSp [opTok "COMMENT"] c.comment).length) res :=
  OkAt.opt (fun v => { c with comment := v }) _ c.comment
    (fun s h g => createOpts_commentHive f _ r g s (h ▸ hv)) H

theorem co_partitioned (hc : c.partitionedBy.all (colOK d) = true) (hs : segsOK (c.partitionedBy.map (toksDefCol d)) = true)
    (hf : ∀ x ∈ c.partitionedBy, 20 * sizeL (toksDefCol d x) + 2 ≤ f) :
    CO d f { c with partitionedBy := [] } (toksPartitioned d c.partitionedBy ++ r) (N + (toksPartitioned d c.partitionedBy).length) res := by
  cases he : c.partitionedBy.isEmpty with
  | true => rw [List.isEmpty_iff.1 he]; simpa [toksPartitioned, ← List.isEmpty_iff.1 he] using H
  | false =>
    refine OkAt.piece (c' := c) H (by simp [toksPartitioned, he]) (fun g => ?_)
    rw [createOpts_partitioned f _ r g _ he hc hs hf]; rfl

theorem co_serde (hv : valOK c.rowFormatSerde = true) :
    CO d f { c with rowFormatSerde := none } (optSp [opTok "ROW", opTok "FORMAT", opTok "SERDE"] c.rowFormatSerde ++ r)
      (N + (optSp [opTok "ROW", opTok "FORMAT", opTok "SERDE"] c.rowFormatSerde).length) res :=
  OkAt.opt (fun v => { c with rowFormatSerde := v }) _ c.rowFormatSerde
    (fun s h g => createOpts_serde f _ r g s (h ▸ hv)) H

theorem co_delimited (hv : valOK c.rowFormatDelimited = true) :
    CO d f { c with rowFormatDelimited := none }
      (optSp [opTok "ROW", opTok "FORMAT", opTok "DELIMITED", opTok "FIELDS", opTok "TERMINATED", opTok "BY"] c.rowFormatDelimited ++ r)
      (N + (optSp [opTok "ROW", opTok "FORMAT", opTok "DELIMITED", opTok "FIELDS", opTok "TERMINATED", opTok "BY"] c.rowFormatDelimited).length) res :=
  OkAt.opt (fun v => { c with rowFormatDelimited := v }) _ c.rowFormatDelimited
    (fun s h g => createOpts_delimited f _ r g s (h ▸ hv)) H

theorem co_inputformat (hv : valOK c.storedAsInputformat = true) :
    CO d f { c with storedAsInputformat := none } (optSp [opTok "STORED", opTok "AS", opTok "INPUTFORMAT"] c.storedAsInputformat ++ r)
      (N + (optSp [opTok "STORED", opTok "AS", opTok "INPUTFORMAT"] c.storedAsInputformat).length) res :=
  OkAt.opt (fun v => { c with storedAsInputformat := v }) _ c.storedAsInputformat
    (fun s h g => createOpts_inputformat f _ r g s (h ▸ hv)) H

theorem co_textfile : CO d f { c with storedAsTextfile := false } (flag c.storedAsTextfile [opTok "STORED", opTok "AS", opTok "TEXTFILE"] ++ r)
    (N + (flag c.storedAsTextfile [opTok "STORED", opTok "AS", opTok "TEXTFILE"]).length) res :=
  OkAt.flag (fun b => { c with storedAsTextfile := b }) _ c.storedAsTextfile (createOpts_textfile f _ r) H

theorem co_outputformat (hv : valOK c.outputformat = true) :
    CO d f { c with outputformat := none } (optSp [opTok "OUTPUTFORMAT"] c.outputformat ++ r) (N + (optSp [opTok "OUTPUTFORMAT"] c.outputformat).length) res :=
  OkAt.opt (fun v => { c with outputformat := v }) _ c.outputformat
    (fun s h g => createOpts_outputformat f _ r g s (h ▸ hv)) H

theorem co_location (hv : valOK c.location = true) :
    CO d f { c with location := none } (optSp [opTok "LOCATION"] c.location ++ r) (N + (optSp [opTok "LOCATION"] c.location).length) res :=
  OkAt.opt (fun v => { c with location := v }) _ c.location
    (fun s h g => createOpts_location f _ r g s (h ▸ hv)) H

theorem co_props (hs : segsOK (c.tblproperties.map toksProp) = true) :
    CO d f { c with tblproperties := [] } (toksProps c.tblproperties ++ r) (N + (toksProps c.tblproperties).length) res := by
  cases he : c.tblproperties.isEmpty with
  | true => simpa [toksProps, ← List.isEmpty_iff.1 he] using H
  | false =>
    refine OkAt.piece (c' := c) H (by simp [toksProps, he]) (fun g => ?_)
    rw [createOpts_props f _ r g _ he hs]; rfl

end steps
end TD
