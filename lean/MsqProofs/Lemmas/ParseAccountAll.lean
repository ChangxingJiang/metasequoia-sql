import MsqProofs.Lemmas.ParseAccountAllH
/-! GENERATED by tools/gen_account_all.py — C08: general accounting lemmas for the mutual block of MsqModel/Parse/Expr.lean: the fuel step — one field, one unfolding — and the induction.
The steps `accA_<f>` in front of `accA_succ` (`pSelectTail`, `pJoin`, `pUnions`, `pSplit`, `pKwBody`, `pSelectStmt`) stand apart because a declaration has a budget of heartbeats and each of them would use a large
part of it; `accA_succ` cites them, and the two of `ParseAccountAllH.lean` -/
set_option linter.unusedVariables false
open Lex PM Ast
namespace PA
variable (d : Gen.D)

theorem accA_pKwBody (T : List String) (n : Nat) (ih : AccA d T n) :
    ∀ k isNot bv r2, ARO T r2 bv (isKW k) (PM.pKwBody d (n+1) k isNot bv r2) := by
  intro k isNot bv r2 v r h hpl
  have hA : Anchor T := trivial
  have hK0 := kwOk_BETWEEN
  have hK1 := kwOk_IS
  have hK2 := kwOk_NOT
  have hK3 := kwOk_IN
  have hK4 := kwOk_LIKE
  have hK5 := kwOk_RLIKE
  have hK6 := kwOk_REGEXP
  unfold pKwBody at h
  split_run <;> grind -funext (splits := 20) (ematch := 20) (gen := 40) (instances := 20000) [closed_ok]

theorem accA_pSplit (T : List String) (n : Nat) (ih : AccA d T n) :
    ∀ acc cur ts, ARV T tEs FullL (cur ++ ts) (tEs acc) (FullL acc) (PM.pSplit d (n+1) acc cur ts) := by
  intro acc cur ts v h hpl
  have hA : Anchor T := trivial
  have hK0 := kwOk_comma
  unfold pSplit at h
  split_run <;> grind -funext (splits := 20) (ematch := 20) (gen := 40) (instances := 20000) [closed_ok]

theorem accA_pJoin (T : List String) (n : Nat) (ih : AccA d T n) :
    ∀ ts, AR T tJ FullJ ts [] true (PM.pJoin d (n+1) ts) := by
  intro ts v r h hpl
  have hA : Anchor T := trivial
  have hT0 : tblKw Gen.joinTypes = true := by decide +kernel
  unfold pJoin at h
  split_run <;> grind -funext (splits := 20) (ematch := 20) (gen := 40) (instances := 20000) [closed_ok]

theorem accA_pSelectTail (T : List String) (n : Nat) (ih : AccA d T n) :
    ∀ w di co fr lats js ts, AR T tSel FullSel ts (tWTs w ++ (tCols co ++ (tOFTs fr ++ (tLats lats ++ tJs js)))) (FullWTs w && (FullCols co && (FullOFTs fr && (FullLats lats && FullJs js)))) (PM.pSelectTail d (n+1) w di co fr lats js ts) := by
  intro w di co fr lats js ts v r h hpl
  have hA : Anchor T := trivial
  unfold pSelectTail at h
  split_run <;> grind -funext (splits := 20) (ematch := 20) (gen := 40) (instances := 20000) [closed_ok]

theorem accA_pSelectStmt (T : List String) (n : Nat) (ih : AccA d T n) :
    ∀ x0 ts, AR T tQ FullQ ts (tOWTs x0) (FullOWTs x0) (PM.pSelectStmt d (n+1) x0 ts) := by
  intro x0 ts v r h hpl
  have hA : Anchor T := trivial
  cases x0 <;> (unfold pSelectStmt at h; (try simp only at h); split_run <;>
                    (try (simp only [Except.ok.injEq, Prod.mk.injEq] at h; obtain ⟨rfl, rfl⟩ := h; simp only [fullQ_unionS, tQ_unionS] at *)) <;>
                    grind -funext (splits := 20) (ematch := 20) (gen := 40) (instances := 20000) [closed_ok])

theorem accA_pUnions (T : List String) (n : Nat) (ih : AccA d T n) :
    ∀ w acc ts, FullWTs w = true → Sub (tWTs w) T → AR T tUnS FullUnS ts (tUnS acc) (FullUnS acc) (PM.pUnions d (n+1) w acc ts) := by
  intro w acc ts hpre0 hpre1 v r h hpl
  have hA : Anchor T := trivial
  have hT0 : tblKw Gen.unionTypes = true := by decide +kernel
  unfold pUnions at h
  split_run <;> grind -funext (splits := 20) (ematch := 20) (gen := 40) (instances := 20000) [closed_ok]

theorem accA_succ (T : List String) (n : Nat) (ih : AccA d T n) : AccA d T (n+1) where
  pElement := by
    intro ts v r h hpl
    have hA : Anchor T := trivial
    have hK0 := kwOk_CASE
    have hK1 := kwOk_star
    unfold pElement at h
    split_run <;> grind -funext (splits := 20) (ematch := 20) (gen := 40) (instances := 20000) [closed_ok]
  pParen := by
    intro n0 r0 hpre0 v r h hpl
    have hA : Anchor T := trivial
    unfold pParen at h
    split_run <;> grind -funext (splits := 20) (ematch := 20) (gen := 40) (instances := 20000) [closed_ok]
  pNamed := by
    intro n0 r0 ts hpre0 v r h hpl
    have hA : Anchor T := trivial
    have hK0 := kwOk_dot
    unfold pNamed at h
    split_run <;> grind -funext (splits := 20) (ematch := 20) (gen := 40) (instances := 20000) [closed_ok]
  pQualified := by
    intro n0 r1 ts hpre0 v r h hpl
    have hA : Anchor T := trivial
    have hK0 := kwOk_star
    have hK1 := kwOk_dot
    unfold pQualified at h
    split_run <;> grind -funext (splits := 20) (ematch := 20) (gen := 40) (instances := 20000) [closed_ok]
  pIndex := by
    intro before ts v r h hpl
    have hA : Anchor T := trivial
    unfold pIndex at h
    split_run <;> grind -funext (splits := 20) (ematch := 20) (gen := 40) (instances := 20000) [closed_ok]
  pFuncIdx := by
    intro ts v r h hpl
    have hA : Anchor T := trivial
    unfold pFuncIdx at h
    split_run <;> grind -funext (splits := 20) (ematch := 20) (gen := 40) (instances := 20000) [closed_ok]
  pFunc := by
    intro ts v r h hpl
    have hA : Anchor T := trivial
    have hK0 := kwOk_CAST
    have hK1 := kwOk_EXTRACT
    have hK2 := kwOk_IF
    unfold pFunc at h
    split_run <;> grind -funext (splits := 20) (ematch := 20) (gen := 40) (instances := 20000) [closed_ok]
  pIfCall := by
    intro ts v r h hpl
    have hA : Anchor T := trivial
    have hK0 := kwOk_IF
    unfold pIfCall at h
    split_run <;> grind -funext (splits := 20) (ematch := 20) (gen := 40) (instances := 20000) [closed_ok]
  pFirstDiscard := by
    intros; trivial
  pFirstArg := by
    intro ts v r h hpl
    have hA : Anchor T := trivial
    unfold pFirstArg at h
    split_run <;> grind -funext (splits := 20) (ematch := 20) (gen := 40) (instances := 20000) [closed_ok]
  pCall := by
    intro sc nm ts v r h hpl
    have hA : Anchor T := trivial
    unfold pCall at h
    split_run <;> grind -funext (splits := 20) (ematch := 20) (gen := 40) (instances := 20000) [closed_ok]
  pArgs := by
    intro acc ts v r h hpl
    have hA : Anchor T := trivial
    have hK0 := kwOk_comma
    unfold pArgs at h
    split_run <;> grind -funext (splits := 20) (ematch := 20) (gen := 40) (instances := 20000) [closed_ok]
  pCase := by
    intro ts v r h hpl
    have hA : Anchor T := trivial
    have hK0 := kwOk_CASE
    have hK1 := kwOk_WHEN
    unfold pCase at h
    split_run <;> grind -funext (splits := 20) (ematch := 20) (gen := 40) (instances := 20000) [closed_ok]
  pElseEnd := by
    intro ts v r h hpl
    have hA : Anchor T := trivial
    have hK0 := kwOk_ELSE
    have hK1 := kwOk_END
    unfold pElseEnd at h
    split_run <;> grind -funext (splits := 20) (ematch := 20) (gen := 40) (instances := 20000) [closed_ok]
  pWhens := by
    intro acc ts v r h hpl
    have hA : Anchor T := trivial
    have hK0 := kwOk_WHEN
    have hK1 := kwOk_THEN
    unfold pWhens at h
    split_run <;> grind -funext (splits := 20) (ematch := 20) (gen := 40) (instances := 20000) [closed_ok]
  pUnary := by
    intro ts v r h hpl
    have hA : Anchor T := trivial
    unfold pUnary at h
    split_run <;> grind -funext (splits := 20) (ematch := 20) (gen := 40) (instances := 20000) [closed_ok]
  pCompute := by
    intro ts v r h hpl
    have hA : Anchor T := trivial
    unfold pCompute at h
    split_run <;> grind -funext (splits := 20) (ematch := 20) (gen := 40) (instances := 20000) [closed_ok]
  pComputeLoop := by
    intro st top ts v r h hpl
    have hA : Anchor T := trivial
    unfold pComputeLoop at h
    split_run <;> grind -funext (splits := 20) (ematch := 20) (gen := 40) (instances := 20000) [closed_ok]
  pKeyword := by
    intro before ts v r h hpl
    have hA : Anchor T := trivial
    have hK0 := kwOk_EXISTS
    unfold pKeyword at h
    split_run <;> grind -funext (splits := 20) (ematch := 20) (gen := 40) (instances := 20000) [closed_ok]
  pKwFirst := by
    intro before ts v r h hpl
    have hA : Anchor T := trivial
    unfold pKwFirst at h
    split_run <;> grind -funext (splits := 20) (ematch := 20) (gen := 40) (instances := 20000) [closed_ok]
  pKwRest := by
    intro bv isNot r1 v r h hpl
    have hA : Anchor T := trivial
    unfold pKwRest at h
    split_run <;> grind -funext (splits := 20) (ematch := 20) (gen := 40) (instances := 20000) [closed_ok]
  pKwBody := accA_pKwBody d T n ih
  pBetween := by
    intro isNot bv r2 v r h hpl
    have hA : Anchor T := trivial
    have hK0 := kwOk_AND
    unfold pBetween at h
    split_run <;> grind -funext (splits := 20) (ematch := 20) (gen := 40) (instances := 20000) [closed_ok]
  pInBody := by
    intro isNot bv r2 v r h hpl
    have hA : Anchor T := trivial
    unfold pInBody at h
    split_run <;> grind -funext (splits := 20) (ematch := 20) (gen := 40) (instances := 20000) [closed_ok]
  pSplit := accA_pSplit d T n ih
  pCompare := by
    intro ts v r h hpl
    have hA : Anchor T := trivial
    unfold pCompare at h
    split_run <;> grind -funext (splits := 20) (ematch := 20) (gen := 40) (instances := 20000) [closed_ok]
  pCompareLoop := by
    intro acc ts v r h hpl
    have hA : Anchor T := trivial
    unfold pCompareLoop at h
    split_run <;> grind -funext (splits := 20) (ematch := 20) (gen := 40) (instances := 20000) [closed_ok]
  pNot := by
    intro ts v r h hpl
    have hA : Anchor T := trivial
    unfold pNot at h
    split_run <;> grind -funext (splits := 20) (ematch := 20) (gen := 40) (instances := 20000) [closed_ok]
  pAnd := by
    intro ts v r h hpl
    have hA : Anchor T := trivial
    unfold pAnd at h
    split_run <;> grind -funext (splits := 20) (ematch := 20) (gen := 40) (instances := 20000) [closed_ok]
  pAndLoop := by
    intro acc ts v r h hpl
    have hA : Anchor T := trivial
    have hK0 := kwOk_AND
    have hK1 := kwOk_andand
    unfold pAndLoop at h
    split_run <;> grind -funext (splits := 20) (ematch := 20) (gen := 40) (instances := 20000) [closed_ok]
  pXor := by
    intro ts v r h hpl
    have hA : Anchor T := trivial
    unfold pXor at h
    split_run <;> grind -funext (splits := 20) (ematch := 20) (gen := 40) (instances := 20000) [closed_ok]
  pXorLoop := by
    intro acc ts v r h hpl
    have hA : Anchor T := trivial
    have hK0 := kwOk_XOR
    unfold pXorLoop at h
    split_run <;> grind -funext (splits := 20) (ematch := 20) (gen := 40) (instances := 20000) [closed_ok]
  pOr := by
    intro ts v r h hpl
    have hA : Anchor T := trivial
    unfold pOr at h
    split_run <;> grind -funext (splits := 20) (ematch := 20) (gen := 40) (instances := 20000) [closed_ok]
  pOrLoop := by
    intro acc ts v r h hpl
    have hA : Anchor T := trivial
    have hK0 := kwOk_OR
    have hK1 := kwOk_oror
    unfold pOrLoop at h
    split_run <;> grind -funext (splits := 20) (ematch := 20) (gen := 40) (instances := 20000) [closed_ok]
  pSubQuery := by
    intro ts v r h hpl
    have hA : Anchor T := trivial
    unfold pSubQuery at h
    split_run <;> grind -funext (splits := 20) (ematch := 20) (gen := 40) (instances := 20000) [closed_ok]
  pCast := by
    intro ts v r h hpl
    have hA : Anchor T := trivial
    have hK0 := kwOk_AS
    have hS0 : allKw ["AS"] = true := by simp [allKw, kwOk_AS]
    unfold pCast at h
    split_run <;> grind -funext (splits := 20) (ematch := 20) (gen := 40) (instances := 20000) [closed_ok]
  pExtract := by
    intro ts v r h hpl
    have hA : Anchor T := trivial
    unfold pExtract at h
    split_run <;> grind -funext (splits := 20) (ematch := 20) (gen := 40) (instances := 20000) [closed_ok]
  pExtractTail := by
    intro nm r1 v h hpl
    have hA : Anchor T := trivial
    have hK0 := kwOk_FROM
    have hS0 : allKw ["FROM"] = true := by simp [allKw, kwOk_FROM]
    unfold pExtractTail at h
    split_run <;> grind -funext (splits := 20) (ematch := 20) (gen := 40) (instances := 20000) [closed_ok]
  pWindow := by
    intro ts v r h hpl
    have hA : Anchor T := trivial
    have hK0 := kwOk_OVER
    have hS0 : allKw ["OVER"] = true := by simp [allKw, kwOk_OVER]
    unfold pWindow at h
    split_run <;> grind -funext (splits := 20) (ematch := 20) (gen := 40) (instances := 20000) [closed_ok]
  pWindowBody := accA_pWindowBody d T n ih
  pPartitionBy := by
    intro ts v r h hpl
    have hA : Anchor T := trivial
    have hK0 := kwOk_PARTITION
    have hK1 := kwOk_BY
    unfold pPartitionBy at h
    split_run <;> grind -funext (splits := 20) (ematch := 20) (gen := 40) (instances := 20000) [closed_ok]
  pComputeList := by
    intro acc ts v r h hpl
    have hA : Anchor T := trivial
    have hK0 := kwOk_comma
    unfold pComputeList at h
    split_run <;> grind -funext (splits := 20) (ematch := 20) (gen := 40) (instances := 20000) [closed_ok]
  pOrderItem := by
    intro ts v r h hpl
    have hA : Anchor T := trivial
    unfold pOrderItem at h
    split_run <;> grind -funext (splits := 20) (ematch := 20) (gen := 40) (instances := 20000) [closed_ok]
  pOrderList := by
    intro acc ts v r h hpl
    have hA : Anchor T := trivial
    have hK0 := kwOk_comma
    unfold pOrderList at h
    split_run <;> grind -funext (splits := 20) (ematch := 20) (gen := 40) (instances := 20000) [closed_ok]
  pOrderByOpt := by
    intro ts v r h hpl
    have hA : Anchor T := trivial
    have hK0 := kwOk_ORDER
    have hK1 := kwOk_BY
    unfold pOrderByOpt at h
    split_run <;> grind -funext (splits := 20) (ematch := 20) (gen := 40) (instances := 20000) [closed_ok]
  pSelectCol := by
    intro ts v r h hpl
    have hA : Anchor T := trivial
    unfold pSelectCol at h
    split_run <;> grind -funext (splits := 20) (ematch := 20) (gen := 40) (instances := 20000) [closed_ok]
  pSelectCols := by
    intro acc ts v r h hpl
    have hA : Anchor T := trivial
    have hK0 := kwOk_comma
    unfold pSelectCols at h
    split_run <;> grind -funext (splits := 20) (ematch := 20) (gen := 40) (instances := 20000) [closed_ok]
  pTableExpr := by
    intro ts v r h hpl
    have hA : Anchor T := trivial
    unfold pTableExpr at h
    split_run <;> grind -funext (splits := 20) (ematch := 20) (gen := 40) (instances := 20000) [closed_ok]
  pFromTable := by
    intro ts v r h hpl
    have hA : Anchor T := trivial
    unfold pFromTable at h
    split_run <;> grind -funext (splits := 20) (ematch := 20) (gen := 40) (instances := 20000) [closed_ok]
  pFromTables := by
    intro acc ts v r h hpl
    have hA : Anchor T := trivial
    have hK0 := kwOk_comma
    unfold pFromTables at h
    split_run <;> grind -funext (splits := 20) (ematch := 20) (gen := 40) (instances := 20000) [closed_ok]
  pJoin := accA_pJoin d T n ih
  pJoinRule := by
    intro jt t r1 v r h hpl
    have hA : Anchor T := trivial
    have hK0 := kwOk_ON
    unfold pJoinRule at h
    split_run <;> grind -funext (splits := 20) (ematch := 20) (gen := 40) (instances := 20000) [closed_ok]
  pJoins := by
    intro same outer acc inner v r h hpl
    have hA : Anchor T := trivial
    unfold pJoins at h
    split_run <;> grind -funext (splits := 20) (ematch := 20) (gen := 40) (instances := 20000) [closed_ok]
  pOptOr := by
    intro kwd ts hpre0 v r h hpl
    have hA : Anchor T := trivial
    unfold pOptOr at h
    split_run <;> grind -funext (splits := 20) (ematch := 20) (gen := 40) (instances := 20000) [closed_ok]
  pGroupingElem := by
    intro seg v h hpl
    have hA : Anchor T := trivial
    have hK0 := kwOk_comma
    unfold pGroupingElem at h
    split_run <;> grind -funext (splits := 20) (ematch := 20) (gen := 40) (instances := 20000) [closed_ok]
  pClosedEach := by
    intro acc segs v h hpl
    have hA : Anchor T := trivial
    unfold pClosedEach at h
    split_run <;> grind -funext (splits := 20) (ematch := 20) (gen := 40) (instances := 20000) [closed_ok]
  pGroupingElems := by
    intro acc segs v h hpl
    have hA : Anchor T := trivial
    unfold pGroupingElems at h
    split_run <;> grind -funext (splits := 20) (ematch := 20) (gen := 40) (instances := 20000) [closed_ok]
  pGroupingSets := by
    intro ts v r h hpl
    have hA : Anchor T := trivial
    have hK0 := kwOk_GROUPING
    have hK1 := kwOk_SETS
    have hK2 := kwOk_comma
    have hS0 : allKw ["GROUPING", "SETS"] = true := by simp [allKw, kwOk_GROUPING, kwOk_SETS]
    unfold pGroupingSets at h
    split_run <;> grind -funext (splits := 20) (ematch := 20) (gen := 40) (instances := 20000) [closed_ok]
  pGroupBy := by
    intro ts v r h hpl
    have hA : Anchor T := trivial
    have hK0 := kwOk_GROUP
    have hK1 := kwOk_BY
    have hK2 := kwOk_WITH
    have hK3 := kwOk_CUBE
    have hK4 := kwOk_ROLLUP
    unfold pGroupBy at h
    split_run <;> grind -funext (splits := 20) (ematch := 20) (gen := 40) (instances := 20000) [closed_ok]
  pGroupCols := by
    intro ts v r h hpl
    have hA : Anchor T := trivial
    have hK0 := kwOk_GROUPING
    have hK1 := kwOk_SETS
    unfold pGroupCols at h
    split_run <;> grind -funext (splits := 20) (ematch := 20) (gen := 40) (instances := 20000) [closed_ok]
  pGroupSetsOpt := by
    intro ts v r h hpl
    have hA : Anchor T := trivial
    have hK0 := kwOk_GROUPING
    have hK1 := kwOk_SETS
    unfold pGroupSetsOpt at h
    split_run <;> grind -funext (splits := 20) (ematch := 20) (gen := 40) (instances := 20000) [closed_ok]
  pWithTable := by
    intro ts v r h hpl
    have hA : Anchor T := trivial
    have hK0 := kwOk_AS
    have hS0 : allKw ["AS"] = true := by simp [allKw, kwOk_AS]
    unfold pWithTable at h
    split_run <;> grind -funext (splits := 20) (ematch := 20) (gen := 40) (instances := 20000) [closed_ok]
  pWithBody := by
    intro name r1 v r h hpl
    have hA : Anchor T := trivial
    unfold pWithBody at h
    split_run <;> grind -funext (splits := 20) (ematch := 20) (gen := 40) (instances := 20000) [closed_ok]
  pWithTables := by
    intro acc ts v r h hpl
    have hA : Anchor T := trivial
    have hK0 := kwOk_comma
    unfold pWithTables at h
    split_run <;> grind -funext (splits := 20) (ematch := 20) (gen := 40) (instances := 20000) [closed_ok]
  pWith := by
    intro ts v r h hpl
    have hA : Anchor T := trivial
    have hK0 := kwOk_WITH
    unfold pWith at h
    split_run <;> grind -funext (splits := 20) (ematch := 20) (gen := 40) (instances := 20000) [closed_ok]
  pSelectBody := by
    intro w same outer inner v r h hpl
    have hA : Anchor T := trivial
    have hK0 := kwOk_SELECT
    have hK1 := kwOk_DISTINCT
    have hS0 : allKw ["SELECT"] = true := by simp [allKw, kwOk_SELECT]
    unfold pSelectBody at h
    split_run <;> grind -funext (splits := 20) (ematch := 20) (gen := 40) (instances := 20000) [closed_ok]
  pFromOpt := by
    intro ts v r h hpl
    have hA : Anchor T := trivial
    have hK0 := kwOk_FROM
    unfold pFromOpt at h
    split_run <;> grind -funext (splits := 20) (ematch := 20) (gen := 40) (instances := 20000) [closed_ok]
  pSelectRest := by
    intro w di co same outer inner v r h hpl
    have hA : Anchor T := trivial
    unfold pSelectRest at h
    split_run <;> grind -funext (splits := 20) (ematch := 20) (gen := 40) (instances := 20000) [closed_ok]
  pSelectTail := accA_pSelectTail d T n ih
  pWhereGroup := by
    intro ts v r h hpl
    have hA : Anchor T := trivial
    have hK0 := kwOk_WHERE
    unfold pWhereGroup at h
    split_run <;> grind -funext (splits := 20) (ematch := 20) (gen := 40) (instances := 20000) [closed_ok]
  pHavingOrder := by
    intro ts v r h hpl
    have hA : Anchor T := trivial
    have hK0 := kwOk_HAVING
    unfold pHavingOrder at h
    split_run <;> grind -funext (splits := 20) (ematch := 20) (gen := 40) (instances := 20000) [closed_ok]
  pHiveClauses := by
    intro ts v r h hpl
    have hA : Anchor T := trivial
    have hK0 := kwOk_DISTRIBUTE
    have hK1 := kwOk_CLUSTER
    unfold pHiveClauses at h
    split_run <;> grind -funext (splits := 20) (ematch := 20) (gen := 40) (instances := 20000) [closed_ok]
  pSortBy := by
    intro ts v r h hpl
    have hA : Anchor T := trivial
    have hK0 := kwOk_SORT
    have hK1 := kwOk_BY
    unfold pSortBy at h
    split_run <;> grind -funext (splits := 20) (ematch := 20) (gen := 40) (instances := 20000) [closed_ok]
  pByList := by
    intro kwd ts hpre0 v r h hpl
    have hA : Anchor T := trivial
    have hK0 := kwOk_BY
    unfold pByList at h
    split_run <;> grind -funext (splits := 20) (ematch := 20) (gen := 40) (instances := 20000) [closed_ok]
  pLateral := by
    intro ts v r h hpl
    have hA : Anchor T := trivial
    have hK0 := kwOk_LATERAL
    have hK1 := kwOk_VIEW
    have hK2 := kwOk_OUTER
    have hS0 : allKw ["LATERAL", "VIEW"] = true := by simp [allKw, kwOk_LATERAL, kwOk_VIEW]
    unfold pLateral at h
    split_run <;> grind -funext (splits := 20) (ematch := 20) (gen := 40) (instances := 20000) [closed_ok]
  pLaterals := by
    intro same outer acc inner v r h hpl
    have hA : Anchor T := trivial
    have hK0 := kwOk_LATERAL
    have hK1 := kwOk_VIEW
    unfold pLaterals at h
    split_run <;> grind -funext (splits := 20) (ematch := 20) (gen := 40) (instances := 20000) [closed_ok]
  pSingle := by
    intro w ts v r h hpl
    have hA : Anchor T := trivial
    unfold pSingle at h
    split_run <;> grind -funext (splits := 20) (ematch := 20) (gen := 40) (instances := 20000) [closed_ok]
  pSingleParen := accA_pSingleParen d T n ih
  pSelectStmt := accA_pSelectStmt d T n ih
  pUnions := accA_pUnions d T n ih
  W_pSelectBody := by
    intro w same outer inner v r h
    unfold pSelectBody at h
    split_run <;> grind -funext (splits := 20) (ematch := 20) (gen := 40) (instances := 20000) [closed_ok]
  W_pSelectRest := by
    intro w di co same outer inner v r h
    unfold pSelectRest at h
    split_run <;> grind -funext (splits := 20) (ematch := 20) (gen := 40) (instances := 20000) [closed_ok]
  W_pSelectTail := by
    intro w di co fr lats js ts v r h
    unfold pSelectTail at h
    split_run <;> grind -funext (splits := 20) (ematch := 20) (gen := 40) (instances := 20000) [closed_ok]
  W_pSingle := by
    intro w ts v r h
    unfold pSingle at h
    split_run <;> grind -funext (splits := 20) (ematch := 20) (gen := 40) (instances := 20000) [closed_ok]
  W_pSingleParen := by
    intro w outer st inner v r h
    unfold pSingleParen at h
    split_run <;> grind -funext (splits := 20) (ematch := 20) (gen := 40) (instances := 20000) [closed_ok]

theorem accA_all (T : List String) : ∀ n, AccA d T n := by
  intro n
  induction n with
  | zero =>
    constructor <;> (intros; simp [AR, ARO, ARV, ARP, WRel, pElement, pParen, pNamed, pQualified, pIndex, pFuncIdx, pFunc, pIfCall, pFirstDiscard, pFirstArg, pCall, pArgs, pCase, pElseEnd, pWhens, pUnary, pCompute, pComputeLoop, pKeyword, pKwFirst, pKwRest, pKwBody, pBetween, pInBody, pSplit, pCompare, pCompareLoop, pNot, pAnd, pAndLoop, pXor, pXorLoop, pOr, pOrLoop, pSubQuery, pCast, pExtract, pExtractTail, pWindow, pWindowBody, pPartitionBy, pComputeList, pOrderItem, pOrderList, pOrderByOpt, pSelectCol, pSelectCols, pTableExpr, pFromTable, pFromTables, pJoin, pJoinRule, pJoins, pOptOr, pGroupingElem, pClosedEach, pGroupingElems, pGroupingSets, pGroupBy, pGroupCols, pGroupSetsOpt, pWithTable, pWithBody, pWithTables, pWith, pSelectBody, pFromOpt, pSelectRest, pSelectTail, pWhereGroup, pHavingOrder, pHiveClauses, pSortBy, pByList, pLateral, pLaterals, pSingle, pSingleParen, pSelectStmt, pUnions] at *)
  | succ n ih => exact accA_succ d T n ih

end PA
