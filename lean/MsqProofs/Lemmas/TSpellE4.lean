import MsqProofs.Lemmas.TSpellE3
/-! Spelling-generalised T-parse, expression layer: `[NOT] IN (v₁, …, vₙ)`, the records of lists of children. -/
open Lex PM Ast SR TP TP2 TQ
namespace TSP
variable {d : Gen.D} {sp : Sp}

theorem RT3.ncW {e : Expr} (h : RT3 d sp e) (L : Nat) : TQ.NoComma (W3 d sp e L) := by
  unfold W3 wrapT; split
  · exact TQ.grp_nocomma _
  · exact h.nocomma
theorem RT3.lenW {e : Expr} (h : RT3 d sp e) (L : Nat) : (W3 d sp e L).length ≤ tl3 e := by
  unfold W3 wrapT; split
  · simpa using tl3_pos e
  · exact h.len
theorem RT3.neW {e : Expr} (h : RT3 d sp e) (L : Nat) : W3 d sp e L ≠ [] := by
  obtain ⟨t, ts', hw, _⟩ := h.headW L
  rw [hw]; simp
theorem RT3.val {e : Expr} (h : RT3 d sp e) (hl : tl3 e ≤ 20) : TC.Val d (W3 d sp e 8) e :=
  ⟨TC.fullO_true.2 ((h.at 8 (by omega)).s8 (by omega)), h.hdW 8, h.ncW 8, Nat.le_trans (h.lenW 8) hl⟩

theorem cont9_in (n0 : Bool) (l v : Expr) (as : List Expr) (hv : RT3 d sp v ∧ tl3 v ≤ 20) (has : ∀ a ∈ as, RT3 d sp a ∧ tl3 a ≤ 20)
    (hl : Cont2 d (P9 d) (kwLoop d) 8 4 (W3 d sp l 9) l) :
    Cont2 d (P9 d) (kwLoop d) 8 4 (W3 d sp l 9 ++ (kwToks .in_ n0 ++ [grp (toksArgs3 d sp 8 (v :: as))])) (.kw .in_ n0 l (.subValue (v :: as))) :=
  TC.contO_true.1 (TC.cont9_in n0 l (TC.contO_true.2 hl)
    ⟨_, toksArgs3_eq 8 (v :: as), List.forall_mem_cons.2 ⟨hv.1.val hv.2, fun a ha => (has a ha).1.val (has a ha).2⟩⟩).ofFalse

theorem arms_nc : ∀ (cs : List (Expr × Expr)), (∀ p ∈ cs, RT3 d sp p.1 ∧ RT3 d sp p.2) →
    TQ.NoComma (toksArms3 d sp cs) ∧ (toksArms3 d sp cs).length ≤ tlA3 cs := by
  intro cs
  induction cs with
  | nil => intro _; exact ⟨by simp only [toksArms3]; exact TQ.NoComma.nil, by simp [toksArms3, tlA3]⟩
  | cons q cs ih =>
    obtain ⟨w, t⟩ := q
    intro h
    obtain ⟨hw, ht⟩ := h (w, t) (by simp)
    obtain ⟨i1, i2⟩ := ih (fun p hp => h p (by simp [hp]))
    have k := @TP2.kw_nocomma
    refine ⟨?_, ?_⟩
    · simp only [toksArms3]
      exact TQ.NoComma.cons k.2.2.2.2.2.2.2.2.2.2.2.1 ((hw.ncW 14).append (TQ.NoComma.cons k.2.2.2.2.2.2.2.2.2.2.2.2.1 ((ht.ncW 14).append i1)))
    · have a := hw.lenW 14; have b := ht.lenW 14
      simp only [toksArms3, tlA3, List.length_cons, List.length_append]
      simp only [W3] at a b
      omega
theorem else_nc (els : Option Expr) (h : ∀ y, els = some y → RT3 d sp y) :
    TQ.NoComma (toksElse3 d sp els) ∧ (toksElse3 d sp els).length ≤ tlO3 els := by
  cases els with
  | none => exact ⟨by simp only [toksElse3]; exact TQ.NoComma.nil, by simp [toksElse3, tlO3]⟩
  | some y =>
    have hy := h y rfl
    have k := @TP2.kw_nocomma
    refine ⟨by simp only [toksElse3]; exact TQ.NoComma.cons k.2.2.2.2.2.2.2.2.2.2.2.2.2.1 (hy.ncW 14), ?_⟩
    have a := hy.lenW 14
    simp only [toksElse3, tlO3, List.length_cons]
    simp only [W3] at a
    omega
theorem RT3.mk2 {e : Expr} (ts : List Tok) (he : toksE3 d sp e = ts) (own : Tower2 d (PR.lvl e) ts e) (head : TQ.Head2 d e ts)
    (nc : TQ.NoComma ts) (hl : ts.length ≤ tl3 e) : RT3 d sp e := by
  subst he; exact RT3.mk' own head nc hl
end TSP
