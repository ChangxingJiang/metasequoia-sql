import MsqProofs.Lemmas.ParseWNSkel
/-!
# C02 — uniqueness for the keyword-predicate layer (level 9), given its operands

The third skeleton (after the logical and the compute one).  Operands are token runs with their trees: expressions of the compute
level (`Derives d 8`), and — for `IN` and `EXISTS` — the bracket group with the value list / sub-query it stands for.  Operators are
the keyword tokens.  A level-9 expression is a first operand (or `EXISTS g`) followed by any number of predicate TAILS

    [NOT] BETWEEN f AND t      [NOT] IS a      IS NOT a      [NOT] LIKE | RLIKE | REGEXP a      [NOT] IN g

each taking everything to its left as its left operand (`KD.step`: the chain associates to the left).  `tailOf` reads the node a
tail builds off its items — a FUNCTION, so a tail means one thing —, `kd_unique`: the items determine the tree.
-/
open Lex
namespace WNG
open PM Ast OPG

/-- `[NOT] IS a`, `[NOT] IN g`, `[NOT] LIKE / RLIKE / REGEXP a` with the flag `n` -/
def kw1 (n : Bool) (t : Tok) (a : Expr) : Option (Expr → Expr) :=
  if up t.src = "IS" then some (fun b => .kw .is n b a)
  else if up t.src = "IN" then some (fun b => .kw .in_ n b a)
  else (likeKind (up t.src)).map fun k b => .kw k n b a

/-- the node a predicate tail builds on its left operand -/
def tailOf (d : Gen.D) : List It → Option (Expr → Expr)
  | [.op tb, .atom (_, f), .op ta, .atom (_, t)] =>
    if up tb.src = "BETWEEN" ∧ ta.equalsStr "AND" = true then some (fun b => .between false b f t) else none
  | [.op tn, .op tb, .atom (_, f), .op ta, .atom (_, t)] =>
    if isNot d tn = true ∧ up tb.src = "BETWEEN" ∧ ta.equalsStr "AND" = true then some (fun b => .between true b f t) else none
  | [.op t1, .atom (_, a)] => kw1 false t1 a
  | [.op t1, .op t2, .atom (_, a)] =>
    if up t1.src = "IS" ∧ t2.srcEqUp "NOT" = true then some (fun b => .kw .is true b a)
    else if isNot d t1 = true then kw1 true t2 a else none
  | _ => none

/-- level-9 expressions over operands and keyword tokens -/
inductive KD (d : Gen.D) : List It → Expr → Prop
  | leaf {u : List Tok} {a : Expr} : KD d [.atom (u, a)] a
  | exists_ {te : Tok} {u : List Tok} {e : Expr} : te.srcEqUp "EXISTS" = true → KD d [.op te, .atom (u, e)] (.exists_ e)
  | step {l tl : List It} {b : Expr} {mk : Expr → Expr} : KD d l b → tailOf d tl = some mk → KD d (l ++ tl) (mk b)

theorem and_not_kw {t : Tok} (h : t.equalsStr "AND" = true) : up t.src = "AND" := by
  cases t with
  | single s m => simp only [Tok.equalsStr, beq_iff_eq] at h; simp only [Tok.src, Tok.source]; rw [h]; decide
  | group k cs m => simp [Tok.equalsStr] at h
theorem kw1_word {n : Bool} {t : Tok} {a : Expr} {mk : Expr → Expr} (h : kw1 n t a = some mk) :
    up t.src = "IS" ∨ up t.src = "IN" ∨ up t.src = "LIKE" ∨ up t.src = "RLIKE" ∨ up t.src = "REGEXP" := by
  unfold kw1 at h
  split at h
  · exact .inl ‹_›
  · split at h
    · exact .inr (.inl ‹_›)
    · unfold likeKind at h
      split at h
      · rename_i hk; exact .inr (.inr (.inl (by simpa using hk)))
      · split at h
        · rename_i hk; exact .inr (.inr (.inr (.inl (by simpa using hk))))
        · split at h
          · rename_i hk; exact .inr (.inr (.inr (.inr (by simpa using hk))))
          · simp at h
theorem kw1_not_and {n : Bool} {t : Tok} {a : Expr} {mk : Expr → Expr} (h : kw1 n t a = some mk) : t.equalsStr "AND" = false := by
  cases hq : t.equalsStr "AND" with
  | false => rfl
  | true =>
    have h1 := and_not_kw hq
    rcases kw1_word h with h2 | h2 | h2 | h2 | h2 <;> (rw [h1] at h2; revert h2; decide)
theorem not_tok_not_and {t : Tok} (h : t.srcEqUp "NOT" = true) : t.equalsStr "AND" = false := by
  cases hq : t.equalsStr "AND" with
  | false => rfl
  | true =>
    have h1 := and_not_kw hq
    simp only [Tok.srcEqUp, beq_iff_eq] at h
    rw [h1] at h; revert h; decide

inductive TShape : List It → Prop
  | bt {tb ta : Tok} {p q : Atom} : ta.equalsStr "AND" = true → TShape [.op tb, .atom p, .op ta, .atom q]
  | nbt {tn tb ta : Tok} {p q : Atom} : ta.equalsStr "AND" = true → TShape [.op tn, .op tb, .atom p, .op ta, .atom q]
  | k1 {t1 : Tok} {p : Atom} : t1.equalsStr "AND" = false → TShape [.op t1, .atom p]
  | k2 {t1 t2 : Tok} {p : Atom} : t2.equalsStr "AND" = false → TShape [.op t1, .op t2, .atom p]

theorem tshape_of {d : Gen.D} {tl : List It} {mk : Expr → Expr} (h : tailOf d tl = some mk) : TShape tl := by
  unfold tailOf at h
  split at h
  · split at h
    · rename_i hc; exact .bt hc.2
    · cases h
  · split at h
    · rename_i hc; exact .nbt hc.2.2
    · cases h
  · exact .k1 (kw1_not_and h)
  · split at h
    · rename_i hc; exact .k2 (not_tok_not_and hc.2)
    · split at h
      · exact .k2 (kw1_not_and h)
      · cases h
  · cases h

theorem TShape.two_le {tl : List It} (h : TShape tl) : 2 ≤ tl.length := by cases h <;> simp

theorem KD.last_atom {d : Gen.D} {items : List It} {e : Expr} (h : KD d items e) : ∃ l p, items = l ++ [.atom p] := by
  induction h with
  | leaf => exact ⟨[], _, rfl⟩
  | @exists_ te u e _ => exact ⟨[.op te], (u, e), rfl⟩
  | @step l tl b mk _ ht _ =>
    have hsh := tshape_of ht
    cases hsh with
    | @bt tb ta p q _ => exact ⟨l ++ [.op tb, .atom p, .op ta], q, by simp⟩
    | @nbt tn tb ta p q _ => exact ⟨l ++ [.op tn, .op tb, .atom p, .op ta], q, by simp⟩
    | @k1 t1 p _ => exact ⟨l ++ [.op t1], p, by simp⟩
    | @k2 t1 t2 p _ => exact ⟨l ++ [.op t1, .op t2], p, by simp⟩

theorem KD.ne_nil {d : Gen.D} {items : List It} {e : Expr} (h : KD d items e) : items ≠ [] := by
  obtain ⟨l, p, rfl⟩ := h.last_atom; simp

theorem KD.inv {d : Gen.D} {items : List It} {e : Expr} (h : KD d items e) :
    (∃ u a, items = [.atom (u, a)] ∧ e = a) ∨
    (∃ te u e0, items = [.op te, .atom (u, e0)] ∧ e = .exists_ e0) ∨
    (∃ l tl b mk, items = l ++ tl ∧ e = mk b ∧ KD d l b ∧ tailOf d tl = some mk) := by
  cases h with
  | leaf => exact .inl ⟨_, _, rfl, rfl⟩
  | exists_ _ => exact .inr (.inl ⟨_, _, _, rfl, rfl⟩)
  | step hl ht => exact .inr (.inr ⟨_, _, _, _, rfl, rfl, hl, ht⟩)

theorem split_tail {d : Gen.D} {l l' tl tl' : List It} {b b' : Expr} (hl : KD d l b) (hl' : KD d l' b') (ht : TShape tl) (ht' : TShape tl')
    (h : l ++ tl = l' ++ tl') : l = l' ∧ tl = tl' := by
  obtain ⟨m, p, rfl⟩ := hl.last_atom
  obtain ⟨m', p', rfl⟩ := hl'.last_atom
  have hr := congrArg List.reverse h
  cases ht <;> cases ht' <;> simp only [List.reverse_append, List.reverse_cons, List.reverse_nil, List.nil_append, List.cons_append,
    List.cons.injEq, Item.atom.injEq, Item.op.injEq, reduceCtorEq, false_and, and_false] at hr
  all_goals first
    | (obtain ⟨rfl, rfl, rfl, rfl, hm⟩ := hr; have := List.reverse_injective hm; subst this; exact ⟨rfl, rfl⟩)
    | (obtain ⟨rfl, rfl, rfl, rfl, rfl, hm⟩ := hr; have := List.reverse_injective hm; subst this; exact ⟨rfl, rfl⟩)
    | (obtain ⟨rfl, rfl, rfl, hm⟩ := hr; have := List.reverse_injective hm; subst this; exact ⟨rfl, rfl⟩)
    | (obtain ⟨rfl, rfl, _⟩ := hr; simp_all)
    | skip

theorem step_not_short {d : Gen.D} {l tl : List It} {b : Expr} {mk : Expr → Expr} (hl : KD d l b) (ht : tailOf d tl = some mk) :
    (∀ p, l ++ tl ≠ [.atom p]) ∧ (∀ te p, l ++ tl ≠ [.op te, .atom p]) := by
  have h2 := (tshape_of ht).two_le
  obtain ⟨m, q, rfl⟩ := hl.last_atom
  constructor
  · intro p h
    have := congrArg List.length h
    simp at this; omega
  · intro te p h
    have := congrArg List.length h
    simp at this
    have hm : m = [] := List.length_eq_zero_iff.mp (by omega)
    subst hm
    have h3 : tl.length = 1 := by omega
    omega

theorem kd_unique {d : Gen.D} : ∀ (n : Nat) (items : List It), items.length ≤ n → ∀ {e e' : Expr}, KD d items e → KD d items e' → e = e' := by
  intro n
  induction n with
  | zero => intro items hn e e' h; exact absurd (List.length_eq_zero_iff.mp (by omega)) h.ne_nil
  | succ n ih =>
    intro items hn e e' h h'
    rcases h.inv with ⟨u, a, e1, rfl⟩ | ⟨te, u, e0, e1, rfl⟩ | ⟨l, tl, b, mk, e1, rfl, hl, ht⟩
    · rcases h'.inv with ⟨u', a', e2, rfl⟩ | ⟨te', u', e0', e2, rfl⟩ | ⟨l', tl', b', mk', e2, rfl, hl', ht'⟩
      · rw [e1] at e2; simp at e2; exact e2.2
      · rw [e1] at e2; simp at e2
      · exact absurd (e2.symm.trans e1) ((step_not_short hl' ht').1 _)
    · rcases h'.inv with ⟨u', a', e2, rfl⟩ | ⟨te', u', e0', e2, rfl⟩ | ⟨l', tl', b', mk', e2, rfl, hl', ht'⟩
      · rw [e1] at e2; simp at e2
      · rw [e1] at e2; simp at e2; rw [e2.2.2]
      · exact absurd (e2.symm.trans e1) ((step_not_short hl' ht').2 _ _)
    · rcases h'.inv with ⟨u', a', e2, rfl⟩ | ⟨te', u', e0', e2, rfl⟩ | ⟨l', tl', b', mk', e2, rfl, hl', ht'⟩
      · exact absurd (e1.symm.trans e2) ((step_not_short hl ht).1 _)
      · exact absurd (e1.symm.trans e2) ((step_not_short hl ht).2 _ _)
      · obtain ⟨rfl, rfl⟩ := split_tail hl hl' (tshape_of ht) (tshape_of ht') (e1.symm.trans e2)
        rw [ht] at ht'
        cases ht'
        have hlen : l.length ≤ n := by
          have h2 := (tshape_of ht).two_le
          have h3 := congrArg List.length e1
          simp at h3
          omega
        rw [ih l hlen hl hl']


theorem KD.unique {d : Gen.D} {items : List It} {e e' : Expr} (h : KD d items e) (h' : KD d items e') : e = e' :=
  kd_unique items.length items (Nat.le_refl _) h h'

/-- what an operand of the keyword skeleton is: an expression of the compute level, or the bracket group of an IN / EXISTS -/
def AtomK (d : Gen.D) (u : List Tok) (a : Expr) : Prop :=
  Derives d 8 u a ∨ ∃ g, u = [g] ∧
    ((startsSelect g.children = false ∧ ∃ vs, a = .subValue vs ∧ Segs d (splitBy "," g.children [] []) vs) ∨ ∃ q, a = .subQuery q ∧ SubQ d g q)

theorem isNot_not_is {d : Gen.D} {t : Tok} (h : isNot d t = true) : up t.src ≠ "IS" := by
  intro hc
  simp only [isNot, hc] at h
  cases d <;> simp [Gen.notSet] at h
theorem kw1_like {n : Bool} {t : Tok} {a : Expr} {k : KwKind} (h : likeKind (up t.src) = some k) :
    kw1 n t a = some (fun b => .kw k n b a) := by
  have h1 : up t.src ≠ "IS" := by intro hc; rw [hc] at h; simp [likeKind] at h
  have h2 : up t.src ≠ "IN" := by intro hc; rw [hc] at h; simp [likeKind] at h
  simp [kw1, h1, h2, h]

def nsItems (ns : List Tok) : List It := ns.map Item.op
theorem flatI_nsItems (ns : List Tok) : flatI (nsItems ns) = ns := by
  induction ns with
  | nil => rfl
  | cons t r ih => simp [nsItems, flatI] at ih ⊢; exact ih

theorem Atoms.nsItems {P : List Tok → Expr → Prop} {a : List It} (ns : List Tok) (h : Atoms P a) : Atoms P (nsItems ns ++ a) := by
  induction ns with
  | nil => exact h
  | cons t r ih => exact ih.op

theorem tail_kw1 {d : Gen.D} {ns : List Tok} {n : Bool} {t : Tok} {p : Atom} {mk : Expr → Expr} (hn : NotOpt d ns n)
    (hk : kw1 n t p.2 = some mk) : tailOf d (nsItems ns ++ [.op t, .atom p]) = some mk := by
  obtain ⟨u, a⟩ := p
  cases hn with
  | no => simpa [nsItems, tailOf] using hk
  | @yes tn htn =>
    have h1 := isNot_not_is htn
    simp [nsItems, tailOf, h1, htn]
    exact hk

theorem skelK_leaf {d : Gen.D} {ts : List Tok} {e : Expr} (h : Derives d 8 ts e) :
    ∃ items, flatI items = ts ∧ KD d items e ∧ Atoms (AtomK d) items :=
  ⟨[.atom (ts, e)], by simp [flatI], .leaf, .atom (.inl h) .nil⟩

theorem skelK_tail {d : Gen.D} {l : List Tok} {b : Expr} {tl : List It} {mk : Expr → Expr}
    (h : ∃ items, flatI items = l ∧ KD d items b ∧ Atoms (AtomK d) items) (htl : tailOf d tl = some mk) (ha : Atoms (AtomK d) tl) :
    ∃ items, flatI items = l ++ flatI tl ∧ KD d items (mk b) ∧ Atoms (AtomK d) items := by
  obtain ⟨il, fl, kl, al⟩ := h
  exact ⟨il ++ tl, by rw [flatI_append, fl], .step kl htl, al.append ha⟩

theorem skelK_of {d : Gen.D} {L : Nat} {ts : List Tok} {e : Expr} (h : Derives d L ts e) (hL : L ≤ 9) :
    ∃ items, flatI items = ts ∧ KD d items e ∧ Atoms (AtomK d) items := by
  have h' := h
  induction h using Derives.ind with
  | up h _ ih => exact ih (by omega) h
  | @between _ ns u1 u2 n tb ta _ f t hb hn htb hf hta ht ih =>
      have htl : tailOf d (nsItems ns ++ [.op tb, .atom (u1, f), .op ta, .atom (u2, t)]) = some (fun b => .between n b f t) := by
        cases hn with
        | no => simp [nsItems, tailOf, htb, hta]
        | yes htn => simp [nsItems, tailOf, htb, hta, htn]
      simpa [flatI_append, flatI, flatI_nsItems] using
        skelK_tail (ih hL hb) htl (.nsItems ns (.op (.atom (.inl hf) (.op (.atom (.inl ht) .nil)))))
  | @is_ _ ns r n ti _ a hb hn hti hr ih =>
      simpa [flatI_append, flatI, flatI_nsItems] using
        skelK_tail (ih hL hb) (tail_kw1 (t := ti) (p := (r, a)) (mk := fun b => .kw .is n b a) hn (by simp [kw1, hti])) (.nsItems ns (.op (.atom (.inl hr) .nil)))
  | @isNot_ _ r ti tn _ a hb hti htn hr ih =>
      have htl : tailOf d [.op ti, .op tn, .atom (r, a)] = some (fun b => .kw .is true b a) := by simp [tailOf, hti, htn]
      simpa [flatI] using skelK_tail (ih hL hb) htl (.op (.op (.atom (.inl hr) .nil)))
  | @like _ ns r n tk k _ a hb hn hk hr ih =>
      simpa [flatI_append, flatI, flatI_nsItems] using
        skelK_tail (ih hL hb) (tail_kw1 (t := tk) (p := (r, a)) hn (kw1_like hk)) (.nsItems ns (.op (.atom (.inl hr) .nil)))
  | @inList _ ns n ti g _ vs hb hn hti hs hsegs ih =>
      simpa [flatI_append, flatI, flatI_nsItems] using
        skelK_tail (ih hL hb) (tail_kw1 (t := ti) (p := ([g], .subValue vs)) (mk := fun b => .kw .in_ n b (.subValue vs)) hn (by simp [kw1, hti]))
          (.nsItems ns (.op (.atom (.inr ⟨g, rfl, .inl ⟨hs, vs, rfl, hsegs⟩⟩) .nil)))
  | @inQuery _ ns n ti g _ q hb hn hti hs hq ih =>
      simpa [flatI_append, flatI, flatI_nsItems] using
        skelK_tail (ih hL hb) (tail_kw1 (t := ti) (p := ([g], .subQuery q)) (mk := fun b => .kw .in_ n b (.subQuery q)) hn (by simp [kw1, hti]))
          (.nsItems ns (.op (.atom (.inr ⟨g, rfl, .inr ⟨q, rfl, hq⟩⟩) .nil)))
  | @exists_ te g q hte hq =>
      exact ⟨[.op te, .atom ([g], .subQuery q)], by simp [flatI], .exists_ hte, .op (.atom (.inr ⟨g, rfl, .inr ⟨q, rfl, hq⟩⟩) .nil)⟩
  | or_ | xor | and_ | not_ | compare => omega
  | compute ho => exact skelK_leaf (h'.up (by have := computeOp_level ho; omega))
  | _ => exact skelK_leaf (h'.up (by omega))

end WNG
