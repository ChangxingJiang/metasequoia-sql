import MsqProofs.Lemmas.TQueryI
/-!
# T-parse closed under nesting: the nested SELECT fragment contains the SELECT fragment of C03.tselect (C03)

`TS.FragS d s → TQ.FragS3 d s`, and on `FragS` the token printers agree (`fragS_sub`): `C03.tselect` is an instance of the SELECT half of
`C03.tquery` (for the continuations of the nested fragment, i.e. additionally not `OVER`).
-/
open Lex PM Ast TP TS
namespace TQ
variable {d : Gen.D}

theorem incE (e : Expr) (h : TP.Frag d e = true) : FragE3 d e = true ∧ toksE3 d noX e = TP.toksE d noX e := by
  have h2 := TP2.frag_sub_all d e h
  have r := frag2_sub (d := d) (ch := noX) (TP2.sz2 e) e (Nat.le_refl _) h2
  exact ⟨r.1, by rw [r.2.1, TP2.toksE2_eq_all d noX e h]⟩
theorem incW (e : Expr) (h : TP.Frag d e = true) (k : Nat) : W3 d noX e k = TP.W d noX e k := by
  unfold W3 TP.W; rw [(incE e h).2]
theorem incCols : ∀ cs : List (Expr × Option String), cs.all (colOKS d) = true →
    colsOK3 d cs = true ∧ toksColsTail3 d noX cs = TS.toksColsTail d cs := by
  intro cs
  induction cs with
  | nil => intro _; exact ⟨by simp [colsOK3], by simp [toksColsTail3, TS.toksColsTail]⟩
  | cons c cs ih =>
    obtain ⟨e, a⟩ := c
    intro h
    simp only [List.all_cons, Bool.and_eq_true, colOKS] at h
    obtain ⟨i1, i2⟩ := ih h.2
    obtain ⟨e1, e2⟩ := incE e h.1.1
    exact ⟨by simp [colsOK3, e1, h.1.2, i1], by simp only [toksColsTail3, TS.toksColsTail, TS.toksCol, e2, i2]⟩
theorem isOkPair_of_none {r : Except Err (Option String × String)} {n : String} (h : isOkNone r n = true) : isOkPair r none n = true := by
  unfold isOkNone at h
  split at h
  · simp only [beq_iff_eq] at h; subst h; simp [isOkPair]
  · cases h
theorem incTable (t : FromTable) (h : tableOK t = true) : tableOK3 d t = true ∧ toksTable3 d noX t = TS.toksTable t := by
  obtain ⟨r, a⟩ := t
  cases r with
  | sub q => simp [tableOK] at h
  | table s n =>
    cases s with
    | some s => simp [tableOK] at h
    | none =>
      simp only [tableOK, Bool.and_eq_true] at h
      obtain ⟨m1, _, m3⟩ := TP2.nameTok_marks n
      have hj : Gen.joinTypes.all (fun e => e.2.all (fun k => !(nameTok n).equalsStr k)) = true := by
        simp only [List.all_eq_true, Bool.not_eq_true']
        exact fun e he k hk => TS.nameTok_noJoinWord n e he k hk
      refine ⟨?_, by simp [toksTable3, toksRef3, tblTok, TS.toksTable, TS.tblName]⟩
      have hc : (nameTok n).children.isEmpty = true := rfl
      simp only [tableOK3, refOK3, tblOK, tblTok, m1, m3, hc, isOkPair_of_none h.1, hj, h.2, Bool.not_false, Bool.and_self]
theorem incTables : ∀ ts : List FromTable, ts.all tableOK = true →
    tablesOK3 d ts = true ∧ toksTablesTail3 d noX ts = TS.toksTablesTail ts := by
  intro ts
  induction ts with
  | nil => intro _; exact ⟨by simp [tablesOK3], by simp [toksTablesTail3, TS.toksTablesTail]⟩
  | cons t ts ih =>
    intro h
    simp only [List.all_cons, Bool.and_eq_true] at h
    obtain ⟨i1, i2⟩ := ih h.2
    obtain ⟨e1, e2⟩ := incTable (d := d) t h.1
    exact ⟨by simp [tablesOK3, e1, i1], by simp only [toksTablesTail3, TS.toksTablesTail, e2, i2]⟩
theorem incFrom (fr : Option (List FromTable)) (h : fromOK fr = true) : fromOK3 d fr = true ∧ toksFrom3 d noX fr = TS.toksFrom fr := by
  cases fr with
  | none => exact ⟨by simp [fromOK3], by simp [toksFrom3, TS.toksFrom]⟩
  | some l =>
    cases l with
    | nil => simp [fromOK] at h
    | cons t ts =>
      simp only [fromOK, Bool.and_eq_true] at h
      obtain ⟨i1, i2⟩ := incTables (d := d) ts h.2
      obtain ⟨e1, e2⟩ := incTable (d := d) t h.1
      exact ⟨by simp [fromOK3, e1, i1], by simp only [toksFrom3, TS.toksFrom, e2, i2]⟩
theorem incJoins : ∀ js : List Join, js.all (joinOK d) = true → joinsOK3 d js = true ∧ toksJoins3 d noX js = TS.toksJoins d js := by
  intro js
  induction js with
  | nil => intro _; exact ⟨by simp [joinsOK3], by simp [toksJoins3, TS.toksJoins]⟩
  | cons j js ih =>
    obtain ⟨ty, t, rule⟩ := j
    intro h
    simp only [List.all_cons, Bool.and_eq_true, joinOK] at h
    obtain ⟨i1, i2⟩ := ih h.2
    obtain ⟨e1, e2⟩ := incTable (d := d) t h.1.1.2
    have hr : ruleOK3 d rule = true ∧ toksRule3 d noX rule = TS.toksRule d rule := by
      cases rule with
      | none => exact ⟨by simp [ruleOK3], by simp [toksRule3, TS.toksRule]⟩
      | some r =>
        cases r with
        | on e =>
          have := h.1.2; simp only [ruleOK] at this
          obtain ⟨x1, x2⟩ := incE e this
          exact ⟨by simp [ruleOK3, x1], by simp only [toksRule3, TS.toksRule, x2]⟩
        | «using» u => have := h.1.2; simp [ruleOK] at this
    exact ⟨by simp [joinsOK3, joinOK3, h.1.1.1, e1, hr.1, i1], by simp only [toksJoins3, toksJoin3, TS.toksJoins, TS.toksJoin, e2, hr.2, i2]⟩
theorem incOpt (kw : String) (o : Option Expr) (h : optFrag d o = true) : FragO3 d o = true ∧ toksOptE3 d noX kw o = TS.toksOpt d kw o := by
  cases o with
  | none => exact ⟨by simp [FragO3], by simp [toksOptE3, TS.toksOpt]⟩
  | some e =>
    simp only [optFrag] at h
    obtain ⟨x1, x2⟩ := incE e h
    exact ⟨by simp [FragO3, x1], by simp only [toksOptE3, TS.toksOpt, x2]⟩
theorem incKeys : ∀ es : List Expr, es.all (TP.Frag d) = true → FragL3 d es = true ∧ toksArgsTail3 d noX 8 es = TS.toksKeysTail d es := by
  intro es
  induction es with
  | nil => intro _; exact ⟨by simp [FragL3], by simp [toksArgsTail3, TS.toksKeysTail]⟩
  | cons e es ih =>
    intro h
    simp only [List.all_cons, Bool.and_eq_true] at h
    obtain ⟨i1, i2⟩ := ih h.2
    have w := incW e h.1 8
    unfold W3 at w
    exact ⟨by simp [FragL3, (incE e h.1).1, i1], by simp only [toksArgsTail3, TS.toksKeysTail, w, i2]; rfl⟩
theorem incGroup (gb : Option GroupBy) (h : groupOK d gb = true) : groupOK3 d gb = true ∧ toksGroup3 d noX gb = TS.toksGroup d gb := by
  cases gb with
  | none => exact ⟨by simp [groupOK3], by simp [toksGroup3, TS.toksGroup]⟩
  | some g =>
    obtain ⟨cols, sets, cube, rollup⟩ := g
    cases cols with
    | nil => simp [groupOK] at h
    | cons e es =>
      cases sets with
      | some l => simp [groupOK] at h
      | none =>
        cases cube with
        | true => simp [groupOK] at h
        | false =>
          cases rollup with
          | true => simp [groupOK] at h
          | false =>
            simp only [groupOK, Bool.and_eq_true, Bool.not_eq_true'] at h
            obtain ⟨i1, i2⟩ := incKeys es h.1.2
            have w := incW e h.1.1 8
            refine ⟨by simp [groupOK3, (incE e h.1.1).1, i1, w, h.2], ?_⟩
            unfold W3 at w
            simp only [toksGroup3, TS.toksGroup, w, i2]
theorem incOrd (o : OrderItem) (h : ordOK d o = true) : ordItemOK3 d o = true ∧ toksOrdItem3 d noX o = TS.toksOrdItem d o := by
  obtain ⟨e, desc, nf, nl⟩ := o
  simp only [ordOK, Bool.and_eq_true] at h
  have w := incW e h.1.1 8
  unfold W3 at w
  exact ⟨by simp [ordItemOK3, (incE e h.1.1).1, h.1.2, h.2], by simp only [toksOrdItem3, TS.toksOrdItem, w]⟩
theorem incOrdTail : ∀ os : List OrderItem, os.all (ordOK d) = true → ordTailOK3 d os = true ∧ toksOrdTail3 d noX os = TS.toksOrdTail d os := by
  intro os
  induction os with
  | nil => intro _; exact ⟨by simp [ordTailOK3], by simp [toksOrdTail3, TS.toksOrdTail]⟩
  | cons o os ih =>
    intro h
    simp only [List.all_cons, Bool.and_eq_true] at h
    obtain ⟨i1, i2⟩ := ih h.2
    obtain ⟨e1, e2⟩ := incOrd o h.1
    exact ⟨by simp [ordTailOK3, e1, i1], by simp only [toksOrdTail3, TS.toksOrdTail, e2, i2]⟩
theorem incOrder (ob : Option (List OrderItem)) (h : orderOK d ob = true) : orderOK3 d ob = true ∧ toksOrder3 d noX ob = TS.toksOrder d ob := by
  cases ob with
  | none => exact ⟨by simp [orderOK3], by simp [toksOrder3, TS.toksOrder]⟩
  | some l =>
    cases l with
    | nil => simp [orderOK] at h
    | cons o os =>
      simp only [orderOK, Bool.and_eq_true] at h
      obtain ⟨i1, i2⟩ := incOrdTail os h.2
      obtain ⟨e1, e2⟩ := incOrd o h.1
      exact ⟨by simp [orderOK3, e1, i1], by simp only [toksOrder3, TS.toksOrder, e2, i2]⟩

/-- **`FragS ⊆ FragS3`**, and on `FragS` the token printers agree -/
theorem fragS_sub (s : Select) (hs : FragS d s = true) : FragS3 d s = true ∧ toksS3 d noX s = TS.toksS d s := by
  obtain ⟨ws, dist, cols, fr, lats, js, wh, gb, hv, ob, sb, db, cb, lm⟩ := s
  cases ws with
  | none => simp [FragS] at hs
  | some w =>
  cases w with
  | cons x y => simp [FragS] at hs
  | nil =>
  cases cols with
  | nil => simp [FragS] at hs
  | cons c cs =>
  cases lats with
  | cons x y => simp [FragS] at hs
  | nil =>
  cases sb with
  | some x => simp [FragS] at hs
  | none =>
  cases db with
  | some x => simp [FragS] at hs
  | none =>
  cases cb with
  | some x => simp [FragS] at hs
  | none =>
    simp only [FragS, Bool.and_eq_true, Bool.or_eq_true, Bool.not_eq_true'] at hs
    obtain ⟨⟨⟨⟨⟨⟨⟨⟨⟨hc, hcs⟩, hdist⟩, hfr⟩, hjs⟩, hwh⟩, hgb⟩, hhv⟩, hob⟩, hlm⟩ := hs
    obtain ⟨e, a⟩ := c
    have hc' := hc
    simp only [colOKS, Bool.and_eq_true] at hc'
    obtain ⟨c1, c2⟩ := incE e hc'.1
    obtain ⟨cs1, cs2⟩ := incCols cs hcs
    obtain ⟨f1, f2⟩ := incFrom (d := d) fr hfr
    obtain ⟨j1, j2⟩ := incJoins js hjs
    obtain ⟨w1, w2⟩ := incOpt "WHERE" wh hwh
    obtain ⟨g1, g2⟩ := incGroup gb hgb
    obtain ⟨v1, v2⟩ := incOpt "HAVING" hv hhv
    obtain ⟨o1, o2⟩ := incOrder ob hob
    have hcols : toksCols3 d noX ((e, a) :: cs) = TS.toksCol d (e, a) ++ TS.toksColsTail d cs := by
      simp only [toksCols3, TS.toksCol, c2, cs2]
    refine ⟨?_, ?_⟩
    · have hd : dist = true ∨ searchStrUp (toksCols3 d noX ((e, a) :: cs)) "DISTINCT" = false := by
        rcases hdist with h | h
        · exact Or.inl h
        · right
          obtain ⟨t, ts', hh, _⟩ := (C02.rt d noX e hc'.1).head
          rw [hcols]
          simp only [TS.toksCol, hh, List.cons_append] at h ⊢
          simpa [searchStrUp] using h
      simp only [FragS3, colsOK3, c1, hc'.2, cs1, List.isEmpty_cons, Bool.not_false, f1, j1, w1, g1, v1, o1, hlm, Bool.and_self, Bool.true_and,
        Bool.or_eq_true, Bool.not_eq_true']
      exact hd
    · simp only [toksS3, TS.toksS, TS.toksRest, hcols, f2, j2, w2, g2, v2, o2, List.append_assoc]

end TQ
