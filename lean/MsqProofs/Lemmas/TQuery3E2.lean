import MsqProofs.Lemmas.TQuery3E1
/-! Larger nested fragment (TQ3), expression layer: record and node lemmas of the operator productions -/
open Lex PM Ast SR TP TP2
open TQ (tblTok unionWords lvlH isExists lvlH_eq lvlH_ge lvlH_of_le8 isOkPair tblOK)
namespace TQ3
variable (d : Gen.D) (ch : Expr → Bool)

def Head2 (e : Expr) (ts : List Tok) : Prop :=
  ∃ t ts', ts = t :: ts' ∧ hdTok t = true ∧ (lvlH e ≤ 10 → operandTok d t = true)
def NoComma (ts : List Tok) : Prop := ∀ t ∈ ts, t.equalsStr "," = false

structure RT4 (e : Expr) : Prop where
  own : Tower2 d (PR.lvl e) (toksE5 d ch e) e
  wrapped : Tower2 d 2 [grp (toksE5 d ch e)] e
  head : Head2 d e (toksE5 d ch e)
  nocomma : NoComma (toksE5 d ch e)
  len : (toksE5 d ch e).length ≤ tl4 e

variable {d} {ch}
theorem stop2_of {L : Nat} {t : Tok} (x : List Tok) (h : stopTok d L t = true) (ho : t.srcEqUp "OVER" = false) :
    stopLE2 d L (t :: x) = true := by
  simp only [stopLE2, stopLE, h, headIsOver, ho]; rfl
theorem grp_hdTok (cs : List Tok) : hdTok (grp cs) = true := TP2.grp_hdTok cs
theorem hd_start {t : Tok} (h : hdTok t = true) : startTok t = true := by
  simp only [hdTok, Bool.and_eq_true] at h; exact h.1
theorem grp_nocomma (cs : List Tok) : NoComma [grp cs] := by
  intro t ht; simp only [List.mem_singleton] at ht; subst ht; rfl
theorem NoComma.append {a b : List Tok} (ha : NoComma a) (hb : NoComma b) : NoComma (a ++ b) := by
  intro t ht; rcases List.mem_append.1 ht with h | h; exact ha t h; exact hb t h
theorem NoComma.cons {t : Tok} {b : List Tok} (ht : t.equalsStr "," = false) (hb : NoComma b) : NoComma (t :: b) := by
  intro x hx; rcases List.mem_cons.1 hx with h | h; subst h; exact ht; exact hb x h
theorem NoComma.nil : NoComma [] := fun t ht => by simp at ht

theorem RT4.at {e : Expr} (h : RT4 d ch e) (L : Nat) (hL : 2 ≤ L) : Tower2 d L (W4 d ch e L) e :=
  Tower2.at h.own h.wrapped _ L hL

theorem RT4.headW {e : Expr} (h : RT4 d ch e) (L : Nat) :
    ∃ t ts', W4 d ch e L = t :: ts' ∧ hdTok t = true ∧ ((lvlH e ≤ 10 ∨ L < PR.lvl e) → operandTok d t = true) :=
  TP2.headW h.head _ L
theorem RT4.headOKW {e : Expr} (h : RT4 d ch e) (L : Nat) (hl : lvlH e ≤ 10 ∨ L < PR.lvl e) : HeadOK d (W4 d ch e L) := by
  obtain ⟨t, ts', h1, _, h3⟩ := h.headW L
  exact ⟨t, ts', h1, h3 hl⟩

theorem stop2_kw (x : List Tok) : stopLE2 d 8 (opTok "IS" :: x) = true ∧ stopLE2 d 8 (opTok "NOT" :: x) = true ∧ stopLE2 d 8 (opTok "LIKE" :: x) = true ∧
    stopLE2 d 8 (opTok "RLIKE" :: x) = true ∧ stopLE2 d 8 (opTok "REGEXP" :: x) = true ∧ stopLE2 d 8 (opTok "BETWEEN" :: x) = true ∧
    stopLE2 d 8 (opTok "AND" :: x) = true ∧ stopLE2 d 8 (opTok "IN" :: x) = true := TQ.stop2_kw x

/-! ### the operator productions: those of MsqProofs/Lemmas/TCoreNodes.lean at the renderings of this fragment, in front of `stopLE2` -/
open TC (fullO_true contO_true)
theorem full2_unary (o : String) (x : Expr) (ho : unOK d o = true) (hx : Full2 d (P2 d) 2 0 (W4 d ch x 2) x) :
    Full2 d (P2 d) 2 0 (opTok (cval o) :: W4 d ch x 2) (.unary o x) := fullO_true.1 (TC.full2_unary o x ho (fullO_true.2 hx))
theorem cont10_compare (o : String) (l r : Expr) (ho : cmpOK d o = true)
    (hl : Cont2 d (P10 d) (fun f => pCompareLoop d f) 9 7 (W4 d ch l 10) l) (hr : Full2 d (P9 d) 9 6 (W4 d ch r 9) r) :
    Cont2 d (P10 d) (fun f => pCompareLoop d f) 9 7 (W4 d ch l 10 ++ opTok (cmpVal o) :: W4 d ch r 9) (.compare o l r) :=
  contO_true.1 (TC.cont10_compare (TC.cmpTok_plain ho) l r (contO_true.2 hl) (fullO_true.2 hr))
theorem full11_not (x : Expr) (hx : Full2 d (P11 d) 11 9 (W4 d ch x 11) x) :
    Full2 d (P11 d) 11 9 (opTok "NOT" :: W4 d ch x 11) (.not_ x) := fullO_true.1 (TC.full11_not notSet_NOT rfl x (fullO_true.2 hx))
theorem cont12_and (l r : Expr) (hl : Cont2 d (P12 d) (fun f => pAndLoop d f) 11 10 (W4 d ch l 12) l) (hr : Full2 d (P11 d) 11 9 (W4 d ch r 11) r) :
    Cont2 d (P12 d) (fun f => pAndLoop d f) 11 10 (W4 d ch l 12 ++ opTok "AND" :: W4 d ch r 11) (.and_ l r) :=
  contO_true.1 (TC.cont12_and TC.andTok_plain l r (contO_true.2 hl) (fullO_true.2 hr))
theorem cont13_xor (l r : Expr) (hl : Cont2 d (P13 d) (fun f => pXorLoop d f) 12 12 (W4 d ch l 13) l) (hr : Full2 d (P12 d) 12 11 (W4 d ch r 12) r) :
    Cont2 d (P13 d) (fun f => pXorLoop d f) 12 12 (W4 d ch l 13 ++ opTok "XOR" :: W4 d ch r 12) (.xor l r) :=
  contO_true.1 (TC.cont13_xor l r (contO_true.2 hl) (fullO_true.2 hr))
theorem cont14_or (l r : Expr) (hl : Cont2 d (P14 d) (fun f => pOrLoop d f) 13 14 (W4 d ch l 14) l) (hr : Full2 d (P13 d) 13 13 (W4 d ch r 13) r) :
    Cont2 d (P14 d) (fun f => pOrLoop d f) 13 14 (W4 d ch l 14 ++ opTok "OR" :: W4 d ch r 13) (.or_ l r) :=
  contO_true.1 (TC.cont14_or TC.orTok_plain l r (contO_true.2 hl) (fullO_true.2 hr))
theorem cont9_kw (k : KwKind) (n0 : Bool) (l r : Expr) (hk : k ≠ .in_)
    (hl : Cont2 d (P9 d) (kwLoop d) 8 4 (W4 d ch l 9) l) (hr : Full2 d (P8 d) 8 2 (W4 d ch r 8) r) (hh : HeadOK d (W4 d ch r 8)) :
    Cont2 d (P9 d) (kwLoop d) 8 4 (W4 d ch l 9 ++ (kwToks k n0 ++ W4 d ch r 8)) (.kw k n0 l r) :=
  contO_true.1 (TC.cont9_kw k n0 l r hk (contO_true.2 hl) (fullO_true.2 hr) hh)
theorem cont9_between (n0 : Bool) (b fr to : Expr)
    (hb : Cont2 d (P9 d) (kwLoop d) 8 4 (W4 d ch b 9) b) (hf : Full2 d (P8 d) 8 2 (W4 d ch fr 8) fr) (ht : Full2 d (P8 d) 8 2 (W4 d ch to 8) to) :
    Cont2 d (P9 d) (kwLoop d) 8 4
      (W4 d ch b 9 ++ ((if n0 then [opTok "NOT"] else []) ++ opTok "BETWEEN" :: (W4 d ch fr 8 ++ opTok "AND" :: W4 d ch to 8))) (.between n0 b fr to) :=
  contO_true.1 (TC.cont9_between n0 b fr to (contO_true.2 hb) (fullO_true.2 hf) (fullO_true.2 ht))

theorem RT4.mk' {e : Expr} (own : Tower2 d (PR.lvl e) (toksE5 d ch e) e) (head : Head2 d e (toksE5 d ch e))
    (nc : NoComma (toksE5 d ch e)) (hl : (toksE5 d ch e).length ≤ tl4 e) : RT4 d ch e :=
  ⟨own, Tower2.of2 (fullO_true.1 (TC.full2_group e (fullO_true.2 own.s14)
    (by obtain ⟨t, ts', h1, h2, _⟩ := head; exact ⟨t, ts', h1, hd_start h2⟩)).ofFalse) (grp_headOK _), head, nc, hl⟩

theorem head_left {e l : Expr} (hl : RT4 d ch l) (L : Nat) (ys : List Tok) (hL : lvlH e ≤ 10 → lvlH l ≤ 10 ∨ L < PR.lvl l) :
    Head2 d e (W4 d ch l L ++ ys) := by
  obtain ⟨t, ts', h1, h2, h3⟩ := hl.headW L
  exact ⟨t, ts' ++ ys, by rw [h1]; rfl, h2, fun he => h3 (hL he)⟩

end TQ3
