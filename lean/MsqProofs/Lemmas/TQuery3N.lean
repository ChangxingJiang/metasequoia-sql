import MsqProofs.Lemmas.TQuery3S
/-!
# T-parse on the larger nested fragment: the expression nodes it adds to `FragE3` (C02 / C01)

The record `RT4` of a node from the records of its children, for `IF(a, …)` (the parser has its own branch `pIfCall`; the tree stores
the name `IF`), `CAST(e AS [SIGNED] type [(p, …)])` (the tail after `AS` is pure, over the regenerated type table), `EXTRACT(n FROM e)`,
`fn OVER ([PARTITION BY …] [ORDER BY …] [ROWS BETWEEN a AND b])` with `fn` a plain or an aggregate call (frame bounds CURRENT ROW /
UNBOUNDED PRECEDING|FOLLOWING / n PRECEDING|FOLLOWING, `n ≥ 0`), and `a[i]` with `a` a column, a qualified column or a plain call.
-/
set_option autoImplicit false
open Lex PM Ast TP TP2
open TS (intTok isOkInt)
open TQ (tblTok unionWords lvlH isExists lvlH_eq lvlH_ge lvlH_of_le8 isOkPair tblOK)
namespace TQ3
variable {d : Gen.D} {ch : Expr → Bool}

/-! ### `IF(…)` -/
theorem if_words : (up "IF" == "CAST") = false ∧ (up "IF" == "EXTRACT") = false ∧ (up "IF" == "IF") = true := by decide
theorem full2_if (ps : List Expr) (hnm : nmOK d (qTok "IF") "IF" = true) (hsp : isOkNoneS (splitName (qTok "IF").src) "IF" = true)
    (hps : ∀ a ∈ ps, RT4 d ch a) : Full2 d (P2 d) 2 0 [qTok "IF", grp (toksArgs4 d ch 14 ps)] (.func none "IF" ps) := by
  obtain ⟨acc, r2, h1, h2⟩ := args_ok ps hps
  obtain ⟨w1, w2, w3⟩ := if_words
  intro rest hr f hf
  simp only [sizeL, qTok_size, size_grp] at hf
  obtain ⟨g, rfl⟩ : ∃ g, f = g + 6 := ⟨f - 6, by omega⟩
  have a1 := h1 g (by omega)
  have a2 := h2 g (by omega)
  simp only at a1 a2
  have hname := pFuncName_plain (qTok "IF") "IF" (toksArgs4 d ch 14 ps) rest (nmOK_parts hnm).2.2.2.1 (isOkNoneS_eq hsp)
  show pUnary d (g + 4 + 2) (qTok "IF" :: grp (toksArgs4 d ch 14 ps) :: rest) = _
  rw [TC.pUnary_name hnm, TC.pNamed_call _ _ _ _ (so hr)]
  unfold pFuncIdx pFunc
  simp only [hname, Option.isNone_none, Bool.true_and, w1, w2, w3, Bool.false_eq_true, if_false, if_true]
  unfold pIfCall
  simp only [children_grp, a1, a2, closed, pIndex_stop _ rest hr]
theorem rt_if (s : Option String) (n : String) (ps : List Expr) (hif : ifOK d s n = true) (hps : ∀ a ∈ ps, RT4 d ch a) :
    RT4 d ch (.func s n ps) := by
  simp only [ifOK, Bool.and_eq_true, beq_iff_eq, Option.isNone_iff_eq_none] at hif
  obtain ⟨⟨⟨rfl, rfl⟩, hnm⟩, hsp⟩ := hif
  obtain ⟨_, ho, hd1, _, _, _, _, _, _, c1, _⟩ := nmOK_parts hnm
  exact RT4.mk2 [qTok "IF", grp (toksArgs4 d ch 14 ps)] (by simp only [toksE5, List.nil_append])
    ((Tower2.of2 (full2_if ps hnm hsp hps) (headOK_tok _ _ ho)).relevel _ (by simp [PR.lvl])) (head_tok _ _ hd1 ho)
    (NoComma.cons c1 (grp_nocomma _)) (by simp [tl4])

/-! ### `CAST(e AS [SIGNED] type [(p, …)])` -/
theorem special_names : nmOK d (opTok "CAST") "CAST" = true ∧ isOkNoneS (splitName (opTok "CAST").src) "CAST" = true ∧
    nmOK d (opTok "EXTRACT") "EXTRACT" = true ∧ isOkNoneS (splitName (opTok "EXTRACT").src) "EXTRACT" = true := by cases d <;> decide
theorem special_words : (up "CAST" == "CAST") = true ∧ (up "EXTRACT" == "CAST") = false ∧ (up "EXTRACT" == "EXTRACT") = true ∧
    (opTok "AS").equalsStr "AS" = true ∧ (opTok "FROM").equalsStr "FROM" = true ∧ (opTok "SIGNED").srcEqUp "SIGNED" = true ∧
    (opTok "AS").size = 1 ∧ (opTok "FROM").size = 1 := by decide
theorem intOK_pop {n : Int} (h : intOK n = true) (x : List Tok) : popInt (intTok n :: x) = .ok (n, x) := by
  simp only [intOK, Bool.and_eq_true] at h
  simp [popInt, TS.isOkInt_eq h.2]
theorem castLoop_ok : ∀ (l : List Int), l.all intOK = true → ∀ (acc : List Int) (f : Nat), l.length + 1 ≤ f →
    castParamsLoop f acc (intsTail l) = .ok (acc ++ l) := by
  intro l
  induction l with
  | nil =>
    intro _ acc f hf
    obtain ⟨g, rfl⟩ : ∃ g, f = g + 1 := ⟨f - 1, by omega⟩
    simp [intsTail, castParamsLoop, searchStr]
  | cons n r ih =>
    intro h acc f hf
    simp only [List.all_cons, Bool.and_eq_true] at h
    simp only [List.length_cons] at hf
    obtain ⟨g, rfl⟩ : ∃ g, f = g + 1 := ⟨f - 1, by omega⟩
    have hc : TP2.commaTok.srcEq "," = true := by decide
    have h2 := ih h.2 (acc ++ [n]) g (by omega)
    unfold castParamsLoop
    simp only [intsTail, s0cons, hc, if_true, List.drop_succ_cons, List.drop_zero, intOK_pop h.1, h2, List.append_assoc, List.singleton_append]
theorem intsTail_len (l : List Int) : (intsTail l).length = 2 * l.length := by
  induction l with
  | nil => rfl
  | cons a r ih => simp only [intsTail, List.length_cons, ih]; omega
theorem castParams_ok (l : List Int) (h : l.all intOK = true) : castParams (grp (intsToks l)) = .ok l := by
  cases l with
  | nil => simp [castParams, children_grp, intsToks]
  | cons n r =>
    simp only [List.all_cons, Bool.and_eq_true] at h
    have h2 := castLoop_ok r h.2 [n] ((intTok n :: intsTail r).length + 1) (by simp only [List.length_cons, intsTail_len]; omega)
    simp only [castParams, children_grp, intsToks, intOK_pop h.1, h2, List.singleton_append]
theorem castTy_parts {ty : String} (h : castTyOK ty = true) :
    (∃ x, Gen.castTypes.find? (fun k => (opTok (castVal ty)).equalsStr k.2) = some (ty, x)) ∧ (opTok (castVal ty)).srcEqUp "SIGNED" = false := by
  simp only [castTyOK, Bool.and_eq_true, Bool.not_eq_true'] at h
  refine ⟨?_, h.1.2⟩
  have h1 := h.1.1
  split at h1
  · rename_i t x heq
    simp only [beq_iff_eq] at h1
    exact ⟨x, by rw [heq, h1]⟩
  · cases h1
theorem castTail_ok (e : Expr) (sg : Bool) (ty : String) (ps : Option (List Int)) (hty : castTyOK ty = true) (hps : castParamsOK ps = true) :
    castTail e ((if sg then [opTok "SIGNED"] else []) ++ opTok (castVal ty) :: castParamToks ps) = .ok (.cast e sg ty ps) := by
  obtain ⟨⟨x, hfind⟩, hns⟩ := castTy_parts hty
  obtain ⟨_, _, _, _, _, kS, _⟩ := special_words
  have hm : moveStrUp ((if sg then [opTok "SIGNED"] else []) ++ opTok (castVal ty) :: castParamToks ps) "SIGNED" =
      (sg, opTok (castVal ty) :: castParamToks ps) := by
    cases sg <;> simp [moveStrUp, s1cons, kS, hns]
  unfold castTail
  simp only [hm, hfind]
  cases ps with
  | none => simp [castParamToks]
  | some l =>
    simp only [castParamsOK] at hps
    simp [castParamToks, grp_paren, castParams_ok l hps]
theorem as_stop8 (x : List Tok) : stopLE2 d 8 (opTok "AS" :: x) = true ∧ stopLE2 d 8 (opTok "FROM" :: x) = true := by
  have h : stopTok d 8 (opTok "AS") = true ∧ stopTok d 8 (opTok "FROM") = true := by cases d <;> decide
  exact ⟨TP2.stop2_of x h.1 (by decide), TP2.stop2_of x h.2 (by decide)⟩
theorem full2_cast (e : Expr) (sg : Bool) (ty : String) (ps : Option (List Int)) (he : RT4 d ch e) (hty : castTyOK ty = true)
    (hps : castParamsOK ps = true) :
    Full2 d (P2 d) 2 0 [opTok "CAST", grp (W4 d ch e 8 ++ opTok "AS" :: ((if sg then [opTok "SIGNED"] else []) ++ opTok (castVal ty) :: castParamToks ps))]
      (.cast e sg ty ps) := by
  obtain ⟨hnm, hsp, _, _⟩ := @special_names d
  obtain ⟨w1, _, _, kA, _, _, zA, _⟩ := special_words
  intro rest hr f hf
  simp only [sizeL, size_opTok, size_grp, sizeL_append, zA] at hf
  obtain ⟨g, rfl⟩ : ∃ g, f = g + 6 := ⟨f - 6, by omega⟩
  have h1 := key8 e he (opTok "AS" :: ((if sg then [opTok "SIGNED"] else []) ++ opTok (castVal ty) :: castParamToks ps)) (as_stop8 _).1 g (by omega)
  simp only at h1
  have hname := pFuncName_plain (opTok "CAST") "CAST"
    (W4 d ch e 8 ++ opTok "AS" :: ((if sg then [opTok "SIGNED"] else []) ++ opTok (castVal ty) :: castParamToks ps)) rest
    (nmOK_parts hnm).2.2.2.1 (isOkNoneS_eq hsp)
  show pUnary d (g + 4 + 2) (opTok "CAST" :: grp _ :: rest) = _
  rw [TC.pUnary_name hnm, TC.pNamed_call _ _ _ _ (so hr)]
  unfold pFuncIdx pFunc
  simp only [hname, Option.isNone_none, Bool.true_and, w1, if_true]
  unfold pCast
  simp only [children_grp, h1, matchSeq, kA, if_true, castTail_ok e sg ty ps hty hps, pIndex_stop _ rest hr]
theorem rt_cast (e : Expr) (sg : Bool) (ty : String) (ps : Option (List Int)) (he : RT4 d ch e) (hty : castTyOK ty = true)
    (hps : castParamsOK ps = true) : RT4 d ch (.cast e sg ty ps) := by
  obtain ⟨hnm, _⟩ := @special_names d
  obtain ⟨_, ho, hd1, _, _, _, _, _, _, c1, _⟩ := nmOK_parts hnm
  exact RT4.mk2 _ (by simp only [toksE5, W4])
    ((Tower2.of2 (full2_cast e sg ty ps he hty hps) (headOK_tok _ _ ho)).relevel _ (by simp [PR.lvl])) (head_tok _ _ hd1 ho)
    (NoComma.cons c1 (grp_nocomma _)) (by simp [tl4])

/-! ### `EXTRACT(n FROM e)` -/
theorem full2_extract (n e : Expr) (hn : RT4 d ch n) (he : RT4 d ch e) :
    Full2 d (P2 d) 2 0 [opTok "EXTRACT", grp (W4 d ch n 8 ++ opTok "FROM" :: W4 d ch e 8)] (.extract n e) := by
  obtain ⟨_, _, hnm, hsp⟩ := @special_names d
  obtain ⟨_, w2, w3, _, kF, _, _, zF⟩ := special_words
  intro rest hr f hf
  simp only [sizeL, size_opTok, size_grp, sizeL_append, zF] at hf
  obtain ⟨g, rfl⟩ : ∃ g, f = g + 7 := ⟨f - 7, by omega⟩
  have h1 := key8 n hn (opTok "FROM" :: W4 d ch e 8) (as_stop8 _).2 (g + 1) (by omega)
  have h2 := key8_closed e he g (by omega)
  simp only at h1 h2
  have hname := pFuncName_plain (opTok "EXTRACT") "EXTRACT" (W4 d ch n 8 ++ opTok "FROM" :: W4 d ch e 8) rest (nmOK_parts hnm).2.2.2.1
    (isOkNoneS_eq hsp)
  show pUnary d (g + 5 + 2) (opTok "EXTRACT" :: grp _ :: rest) = _
  rw [TC.pUnary_name hnm, TC.pNamed_call _ _ _ _ (so hr)]
  unfold pFuncIdx pFunc
  simp only [hname, Option.isNone_none, Bool.true_and, w2, w3, Bool.false_eq_true, if_false, if_true]
  unfold pExtract
  simp only [children_grp, h1]
  unfold pExtractTail
  simp only [matchSeq, kF, if_true, h2, pIndex_stop _ rest hr]
theorem rt_extract (n e : Expr) (hn : RT4 d ch n) (he : RT4 d ch e) : RT4 d ch (.extract n e) := by
  obtain ⟨_, _, hnm, _⟩ := @special_names d
  obtain ⟨_, ho, hd1, _, _, _, _, _, _, c1, _⟩ := nmOK_parts hnm
  exact RT4.mk2 _ (by simp only [toksE5, W4])
    ((Tower2.of2 (full2_extract n e hn he) (headOK_tok _ _ ho)).relevel _ (by simp [PR.lvl])) (head_tok _ _ hd1 ho)
    (NoComma.cons c1 (grp_nocomma _)) (by simp [tl4])

/-! ### window functions -/
def NoArr (rest : List Tok) : Prop := ∀ (b : Expr) (g : Nat), pIndex d (g + 1) b rest = .ok (b, rest)
theorem noArr_over (x : List Tok) : NoArr (d := d) (opTok "OVER" :: x) := by
  intro b g
  have : (opTok "OVER").has ARRAY = false := by decide
  unfold pIndex
  simp [this]
structure WinFn (d : Gen.D) (ch : Expr → Bool) (fn : Expr) : Prop where
  shape : ∃ nm A n, toksE5 d ch fn = [nm, grp A] ∧ nmOK d nm n = true ∧
    ∀ rest, NoArr (d := d) rest → OkAt (fun f => pFuncIdx d f (nm :: grp A :: rest)) (20 * sizeL A + 21) (fn, rest)
  tl : 2 ≤ tl4 fn
theorem winFn_func (n : String) (ps : List Expr) (hn : fnOK d none n = true) (hps : ∀ a ∈ ps, RT4 d ch a) : WinFn d ch (.func none n ps) :=
  ⟨⟨qTok n, toksArgs4 d ch 14 ps, n, by simp only [toksE5, List.nil_append], by simp only [fnOK, Bool.and_eq_true] at hn; exact hn.2.1,
    fun rest hr => TC.funcIdx_of (TC.plainFunc_ok n ps hn (args_rel ps hps) rest) hr⟩, by simp [tl4]⟩
theorem winFn_agg (n : String) (ps : List Expr) (dist : Bool) (hn : aggOK d n = true) (hps : ∀ a ∈ ps, RT4 d ch a) : WinFn d ch (.agg n ps dist) :=
  ⟨⟨opTok n, (if dist then [opTok "DISTINCT"] else []) ++ toksArgs4 d ch 14 ps, n, by simp only [toksE5],
    by simp only [aggOK, Bool.and_eq_true] at hn; exact hn.1.2,
    fun rest hr => (TC.funcIdx_of (TC.aggFunc_ok n ps dist hn (args_rel ps hps) rest) hr).mono (by simp only [sizeL_append]; omega)⟩, by simp [tl4]⟩

theorem row_words : (opTok "CURRENT").srcEqUp "CURRENT" = true ∧ (opTok "ROW").srcEqUp "ROW" = true ∧ (opTok "UNBOUNDED").srcEqUp "CURRENT" = false ∧
    (opTok "UNBOUNDED").srcEqUp "UNBOUNDED" = true ∧ (opTok "PRECEDING").srcEqUp "PRECEDING" = true ∧ (opTok "FOLLOWING").srcEqUp "PRECEDING" = false ∧
    (opTok "FOLLOWING").srcEqUp "FOLLOWING" = true ∧ (opTok "ROWS").equalsStr "ROWS" = true ∧ (opTok "BETWEEN").equalsStr "BETWEEN" = true ∧
    (opTok "AND").equalsStr "AND" = true ∧ (opTok "ROWS").srcEqUp "ROWS" = true ∧ (opTok "BETWEEN").srcEqUp "BETWEEN" = true := by decide
theorem rowItem_ok (a : RowItem) (ha : rowOK a = true) (x : List Tok) : pRowItem (rowToks a ++ x) = .ok (a, x) := by
  obtain ⟨k1, k2, k3, k4, k5, k6, k7, _⟩ := row_words
  cases a with
  | current => simp [rowToks, pRowItem, s2cons, k1, k2]
  | unbounded p => cases p <;> simp [rowToks, pRowItem, s2cons, s1cons, k3, k4, k5, k6, k7]
  | num n p =>
    simp only [rowOK, Bool.and_eq_true, Bool.not_eq_true'] at ha
    obtain ⟨⟨hi, hc⟩, hu⟩ := ha
    cases p <;> simp [rowToks, pRowItem, s2cons, s1cons, hc, hu, intOK_pop hi, k5, k6, k7]
theorem windowRow_ok (a b : RowItem) (ha : rowOK a = true) (hb : rowOK b = true) :
    closed (pWindowRow (opTok "ROWS" :: opTok "BETWEEN" :: (rowToks a ++ opTok "AND" :: rowToks b))) = .ok (a, b) := by
  obtain ⟨_, _, _, _, _, _, _, k8, k9, k10, _⟩ := row_words
  have h2 := rowItem_ok b hb []
  simp only [List.append_nil] at h2
  simp [pWindowRow, matchSeq, k8, k9, k10, rowItem_ok a ha, h2, closed]

theorem over_words : (opTok "OVER").equalsStr "OVER" = true ∧ (opTok "OVER").srcEqUp "OVER" = true ∧ (opTok "OVER").size = 1 ∧
    (opTok "PARTITION").srcEqUp "PARTITION" = true ∧ (opTok "BY").srcEqUp "BY" = true ∧ (opTok "ORDER").srcEqUp "PARTITION" = false ∧
    (opTok "ROWS").srcEqUp "PARTITION" = false ∧ (opTok "ROWS").srcEqUp "ORDER" = false ∧ (opTok "ORDER").srcEq "," = false ∧
    (opTok "ROWS").srcEq "," = false ∧ (opTok "ROWS").srcEqUp "DESC" = false ∧ (opTok "ROWS").srcEqUp "ASC" = false ∧
    (opTok "ROWS").srcEqUp "NULLS" = false ∧ (opTok "OVER").equalsStr "," = false := by decide
theorem win_stop8 (x : List Tok) : stopLE2 d 8 (opTok "ORDER" :: x) = true ∧ stopLE2 d 8 (opTok "ROWS" :: x) = true := by
  have h : stopTok d 8 (opTok "ORDER") = true ∧ stopTok d 8 (opTok "ROWS") = true := by cases d <;> decide
  exact ⟨TP2.stop2_of x h.1 (by decide), TP2.stop2_of x h.2 (by decide)⟩
/-- the rendering of the ORDER BY part of a window is that of the ORDER BY clause -/
def ordOpt (ord : List OrderItem) : Option (List OrderItem) := if ord.isEmpty then none else some ord
theorem ordT_eq (ord : List OrderItem) :
    (if ord.isEmpty then [] else [opTok "ORDER", opTok "BY"]) ++ toksOrdList4 d ch ord = toksOrder4 d ch (ordOpt ord) := by
  cases ord with
  | nil => simp [ordOpt, toksOrdList4, toksOrder4]
  | cons o os => simp [ordOpt, toksOrdList4, toksOrder4]
theorem ordOpt_getD (ord : List OrderItem) : (ordOpt ord).getD [] = ord := by cases ord <;> simp [ordOpt]
theorem rows_fol (rows : Option (RowItem × RowItem)) : OFol d (toksRows rows) ∧ searchStr (toksRows rows) "," = false ∧
    searchTwoUp (toksRows rows) "ORDER" "BY" = false ∧ searchTwoUp (toksRows rows) "PARTITION" "BY" = false ∧ stopLE2 d 8 (toksRows rows) = true := by
  obtain ⟨_, _, _, _, _, _, o7, o8, _, o10, o11, o12, o13, _⟩ := over_words
  cases rows with
  | none => exact ⟨⟨rfl, rfl, rfl, rfl, rfl⟩, rfl, rfl, rfl, rfl⟩
  | some p =>
    obtain ⟨a, b⟩ := p
    refine ⟨⟨?_, ?_, ?_, ?_, (win_stop8 _).2⟩, ?_, ?_, ?_, (win_stop8 _).2⟩ <;> simp [toksRows, s0cons, s1cons, s2cons, o7, o8, o10, o11, o12, o13]
theorem full2_window (fn : Expr) (part : List Expr) (ord : List OrderItem) (rows : Option (RowItem × RowItem))
    (hfn : WinFn d ch fn) (hpart : ∀ a ∈ part, RT4 d ch a) (hord : ∀ o ∈ ord, OrdRec d ch o) (hrows : rowsOK rows = true) :
    Full2 d (P2 d) 2 0 (toksE5 d ch (.window fn part ord rows)) (.window fn part ord rows) := by
  obtain ⟨nm, A, n, hT, hnm, hcall⟩ := hfn.shape
  obtain ⟨o1, o2, o3, o4, o5, o6, o7, o8, o9, o10, _⟩ := over_words
  obtain ⟨rO, rC, rN, rP, r8⟩ := rows_fol (d := d) rows
  -- the body of the bracket after OVER
  have hbody : OkAt (fun f => pWindowBody d f fn (((if part.isEmpty then [] else [opTok "PARTITION", opTok "BY"]) ++ toksArgs4 d ch 8 part) ++
      (((if ord.isEmpty then [] else [opTok "ORDER", opTok "BY"]) ++ toksOrdList4 d ch ord) ++ toksRows rows)))
      (20 * sizeL (((if part.isEmpty then [] else [opTok "PARTITION", opTok "BY"]) ++ toksArgs4 d ch 8 part) ++
        (((if ord.isEmpty then [] else [opTok "ORDER", opTok "BY"]) ++ toksOrdList4 d ch ord) ++ toksRows rows)) + 10)
      (.window fn part ord rows) := by
    rw [ordT_eq]
    have hOrdRec : OrderRec d ch (ordOpt ord) := by
      cases ord with
      | nil => simp [ordOpt, OrderRec]
      | cons o os => simp only [ordOpt, List.isEmpty_cons, Bool.false_eq_true, if_false, OrderRec]; exact ⟨hord o (by simp), fun x hx => hord x (by simp [hx])⟩
    -- what follows the PARTITION BY list
    have fol8 : stopLE2 d 8 (toksOrder4 d ch (ordOpt ord) ++ toksRows rows) = true ∧ searchStr (toksOrder4 d ch (ordOpt ord) ++ toksRows rows) "," = false ∧
        searchTwoUp (toksOrder4 d ch (ordOpt ord) ++ toksRows rows) "PARTITION" "BY" = false := by
      cases ord with
      | nil => simpa [ordOpt, toksOrder4] using ⟨r8, rC, rP⟩
      | cons o os => simp [ordOpt, toksOrder4, (win_stop8 (d := d) _).1, s0cons, s2cons, o6, o9]
    intro f hf
    simp only [sizeL_append] at hf
    obtain ⟨g, rfl⟩ : ∃ g, f = g + 3 := ⟨f - 3, by omega⟩
    have hP : pPartitionBy d (g + 2) (((if part.isEmpty then [] else [opTok "PARTITION", opTok "BY"]) ++ toksArgs4 d ch 8 part) ++
        (toksOrder4 d ch (ordOpt ord) ++ toksRows rows)) = .ok (part, toksOrder4 d ch (ordOpt ord) ++ toksRows rows) := by
      cases part with
      | nil =>
        unfold pPartitionBy
        simp [toksArgs4, fol8.2.2]
      | cons e es =>
        have h1 := key8 e (hpart e (by simp)) (toksArgsTail4 d ch 8 es ++ (toksOrder4 d ch (ordOpt ord) ++ toksRows rows))
          (stop8_tail (keysTail_shape es) fol8.1) (g + 1)
          (by simp only [toksArgs4, sizeL_append, W4, List.isEmpty_cons, Bool.false_eq_true, if_false] at hf ⊢; omega)
        have h2 := computeList (toksOrder4 d ch (ordOpt ord) ++ toksRows rows) fol8.1 fol8.2.1 es (fun x hx => hpart x (by simp [hx])) [e] (g + 1)
          (by simp only [toksArgs4, sizeL_append, List.isEmpty_cons, Bool.false_eq_true, if_false] at hf ⊢; omega)
        simp only at h1 h2
        unfold pPartitionBy
        simp only [List.isEmpty_cons, Bool.false_eq_true, if_false, toksArgs4, List.cons_append, List.nil_append, List.append_assoc, s2cons, o4, o5,
          Bool.and_self, if_true, List.drop_succ_cons, List.drop_zero]
        simp only [W4] at h1 h2
        simp only [h1]
        simpa using h2
    have hO := orderBy (ordOpt ord) hOrdRec (toksRows rows) rO rC rN (g + 2) (by omega)
    simp only at hO
    unfold pWindowBody
    simp only [hP, hO, ordOpt_getD]
    cases rows with
    | none => simp [toksRows, searchTwoUp]
    | some pr =>
      obtain ⟨a, b⟩ := pr
      simp only [rowsOK, Bool.and_eq_true] at hrows
      obtain ⟨_, _, _, _, _, _, _, _, _, _, k11, k12⟩ := row_words
      simp [toksRows, s2cons, k11, k12, windowRow_ok a b hrows.1 hrows.2]
  intro rest hr f hf
  have e1 : toksE5 d ch (.window fn part ord rows) = nm :: grp A :: opTok "OVER" :: [grp (((if part.isEmpty then [] else [opTok "PARTITION", opTok "BY"]) ++ toksArgs4 d ch 8 part) ++
      (((if ord.isEmpty then [] else [opTok "ORDER", opTok "BY"]) ++ toksOrdList4 d ch ord) ++ toksRows rows))] := by
    simp only [toksE5, hT, List.cons_append, List.nil_append]
  rw [e1] at hf ⊢
  have hnsz : 1 ≤ nm.size := by cases nm <;> simp [Tok.size] <;> omega
  simp only [size_grp, o3, sizeL] at hf
  obtain ⟨g, rfl⟩ : ∃ g, f = g + 4 := ⟨f - 4, by omega⟩
  have h1 := hcall (opTok "OVER" :: grp (((if part.isEmpty then [] else [opTok "PARTITION", opTok "BY"]) ++ toksArgs4 d ch 8 part) ++
      (((if ord.isEmpty then [] else [opTok "ORDER", opTok "BY"]) ++ toksOrdList4 d ch ord) ++ toksRows rows)) :: rest) (noArr_over _) g (by omega)
  have h2 := hbody g (by omega)
  simp only at h1 h2
  show pUnary d (g + 2 + 2) (nm :: (grp A :: opTok "OVER" :: grp _ :: rest)) = _
  rw [TC.pUnary_name hnm]
  unfold pNamed
  simp only [grp_paren, if_true, headIsOver, o2]
  unfold pWindow
  simp only [h1, matchSeq, o1, if_true, children_grp, h2]
theorem rt_window (fn : Expr) (part : List Expr) (ord : List OrderItem) (rows : Option (RowItem × RowItem))
    (hfn : WinFn d ch fn) (hpart : ∀ a ∈ part, RT4 d ch a) (hord : ∀ o ∈ ord, OrdRec d ch o) (hrows : rowsOK rows = true) :
    RT4 d ch (.window fn part ord rows) := by
  obtain ⟨nm, A, n, hT, hnm, hcall⟩ := hfn.shape
  obtain ⟨_, ho, hd1, _, _, _, _, _, _, c1, _⟩ := nmOK_parts hnm
  have o14 := over_words.2.2.2.2.2.2.2.2.2.2.2.2.2
  have e1 : toksE5 d ch (.window fn part ord rows) = nm :: grp A :: opTok "OVER" :: [grp (((if part.isEmpty then [] else [opTok "PARTITION", opTok "BY"]) ++ toksArgs4 d ch 8 part) ++
      (((if ord.isEmpty then [] else [opTok "ORDER", opTok "BY"]) ++ toksOrdList4 d ch ord) ++ toksRows rows))] := by
    simp only [toksE5, hT, List.cons_append, List.nil_append]
  have hfull := full2_window fn part ord rows hfn hpart hord hrows
  have hlen := hfn.tl
  rw [e1] at hfull
  exact RT4.mk2 _ e1 ((Tower2.of2 hfull (headOK_tok _ _ ho)).relevel _ (by simp [PR.lvl])) (head_tok _ _ hd1 ho)
    (NoComma.cons c1 (NoComma.cons rfl (NoComma.cons o14 (grp_nocomma _))))
    (by simp only [tl4, List.length_cons, List.length_nil]; omega)

/-! ### array index `a[i]` -/
theorem toList_src_arr (cs : List Tok) : (arr cs).src.toList = '(' :: (sourceL cs ++ [')']) := by
  simp [arr, Tok.src, Tok.source, String.toList_ofList]
theorem arr_facts (cs : List Tok) : (arr cs).has PAREN = false ∧ (arr cs).has ARRAY = true ∧ (arr cs).children = cs ∧
    (arr cs).equalsStr "," = false ∧ (arr cs).size = 1 + sizeL cs ∧ (arr cs).srcEq "." = false ∧ (arr cs).srcEqUp "OVER" = false := by
  have h1 : (arr cs).src.toList.head? = some '(' := by simp [toList_src_arr]
  have h2 : (up (arr cs).src).toList.head? = some '(' := by
    simp [up, Gen.pyUpperS, String.toList_ofList, toList_src_arr, pyUpper_paren]
  refine ⟨by simp [arr, Tok.has, Tok.marks]; decide, by simp [arr, Tok.has, Tok.marks]; decide, rfl, rfl, by simp [arr, Tok.size], ?_, ?_⟩
  · simp only [Tok.srcEq, beq_eq_false_iff_ne, ne_eq]; exact ne_of_head h1 (by decide)
  · simp only [Tok.srcEqUp, beq_eq_false_iff_ne, ne_eq]; exact ne_of_head h2 (by decide)
theorem pIndex_arr (b i : Expr) (hi : RT4 d ch i) (rest : List Tok) :
    OkAt (fun f => pIndex d f b (arr (W4 d ch i 8) :: rest)) (20 * sizeL (W4 d ch i 8) + 3) (.index b i, rest) := by
  obtain ⟨_, a2, a3, _⟩ := arr_facts (W4 d ch i 8)
  intro f hf
  obtain ⟨g, rfl⟩ : ∃ g, f = g + 1 := ⟨f - 1, by omega⟩
  have h1 := key8 i hi [] (stopLE2_nil d 8) g (by omega)
  simp only [List.append_nil] at h1
  unfold pIndex
  simp only [a2, if_true, a3, h1]
theorem full2_idx_col (c : String) (i : Expr) (hc : colOK d c = true) (hi : RT4 d ch i) :
    Full2 d (P2 d) 2 0 [nameTok c, arr (W4 d ch i 8)] (.index (.column none c) i) := by
  obtain ⟨a1, _, _, _, a5, a6, _⟩ := arr_facts (W4 d ch i 8)
  intro rest hr f hf
  simp only [sizeL, a5] at hf
  obtain ⟨g, rfl⟩ : ∃ g, f = g + 3 := ⟨f - 3, by omega⟩
  simp only [colOK, elemTok, Bool.and_eq_true, Bool.not_eq_true', beq_iff_eq] at hc
  obtain ⟨⟨⟨⟨_, hu⟩, hcase⟩, hstar⟩, hname⟩ := hc
  have hl : (nameTok c).has LITERAL = false := by simp [nameTok, Tok.has, Tok.marks]; decide
  have hp : (nameTok c).has PAREN = false := by simp [nameTok, Tok.has, Tok.marks]; decide
  have h1 := pIndex_arr (.column none c) i hi rest g (by omega)
  simp only at h1
  show pUnary d (g + 3) (nameTok c :: arr (W4 d ch i 8) :: rest) = _
  unfold pUnary
  simp only [hu, Bool.false_eq_true, if_false]
  unfold pElement
  simp only [hl, hp, hcase, hstar, Bool.false_eq_true, if_false]
  unfold pNamed
  simp only [a1, a6, Bool.false_eq_true, if_false, hname, h1]
theorem full2_idx_qcol (t c : String) (i : Expr) (h : qcolOK d t c = true) (hi : RT4 d ch i) :
    Full2 d (P2 d) 2 0 [nameTok t, dotTok, nameTok c, arr (W4 d ch i 8)] (.index (.column (some t) c) i) := by
  obtain ⟨a1, _, _, _, a5, a6, _⟩ := arr_facts (W4 d ch i 8)
  simp only [qcolOK, nm2OK, Bool.and_eq_true, Bool.not_eq_true', beq_iff_eq] at h
  obtain ⟨h1, ⟨h2n, h2u⟩, _⟩ := h
  have un := (nmOK_parts h1).2.2.2.2.2.2.2.2.1
  obtain ⟨dp, ds, _⟩ := dot_facts
  intro rest hr f hf
  simp only [sizeL, Tok.size, nameTok, dotTok, opTok, a5] at hf
  obtain ⟨g, rfl⟩ : ∃ g, f = g + 5 := ⟨f - 5, by omega⟩
  have hx := pIndex_arr (.column (some t) c) i hi rest (g + 1) (by omega)
  simp only at hx
  show pUnary d (g + 3 + 2) (nameTok t :: dotTok :: nameTok c :: arr (W4 d ch i 8) :: rest) = _
  rw [TC.pUnary_name h1]
  unfold pNamed
  simp only [dp, ds, Bool.false_eq_true, if_false, if_true]
  unfold pQualified
  simp only [h2n, if_true, searchMark, a1, Bool.false_eq_true, if_false, un, h2u, hx]
theorem full2_idx_func (n : String) (ps : List Expr) (i : Expr) (hn : fnOK d none n = true) (hps : ∀ a ∈ ps, RT4 d ch a) (hi : RT4 d ch i) :
    Full2 d (P2 d) 2 0 [qTok n, grp (toksArgs4 d ch 14 ps), arr (W4 d ch i 8)] (.index (.func none n ps) i) := by
  obtain ⟨a1, _, _, _, a5, _, a7⟩ := arr_facts (W4 d ch i 8)
  have hn' := hn
  simp only [fnOK, Bool.and_eq_true] at hn
  obtain ⟨hfn, hnm, hsp⟩ := hn
  intro rest hr f hf
  simp only [sizeL, qTok_size, size_grp, a5] at hf
  obtain ⟨g, rfl⟩ : ∃ g, f = g + 4 := ⟨f - 4, by omega⟩
  have h1 := plainFunc_ok n ps hn' hps (arr (W4 d ch i 8) :: rest) g (by omega)
  have h2 := pIndex_arr (.func none n ps) i hi rest g (by omega)
  simp only at h1 h2
  show pUnary d (g + 2 + 2) (qTok n :: grp (toksArgs4 d ch 14 ps) :: arr (W4 d ch i 8) :: rest) = _
  rw [TC.pUnary_name hnm, TC.pNamed_call _ _ _ (arr (W4 d ch i 8) :: rest) a7]
  unfold pFuncIdx
  simp only [h1, h2]
/-- what an array index may be applied to, with the records of its parts -/
def IdxBase (d : Gen.D) (ch : Expr → Bool) : Expr → Prop
  | .column none c => colOK d c = true
  | .column (some t) c => qcolOK d t c = true
  | .func none n ps => fnOK d none n = true ∧ ∀ a ∈ ps, RT4 d ch a
  | _ => False
theorem rt_index (a i : Expr) (ha : IdxBase d ch a) (hi : RT4 d ch i) : RT4 d ch (.index a i) := by
  have k := @kw_nocomma
  have ac := (arr_facts (W4 d ch i 8)).2.2.2.1
  cases a with
  | column t c =>
    cases t with
    | none =>
      simp only [IdxBase] at ha
      have hh : operandTok d (nameTok c) = true := by
        have := ha; simp only [colOK, elemTok, Bool.and_eq_true] at this; exact this.1.1.1.1
      obtain ⟨n1, n2, _⟩ := name_facts c
      exact RT4.mk2 [nameTok c, arr (W4 d ch i 8)] (by simp only [toksE5, W4, List.cons_append, List.nil_append])
        ((Tower2.of2 (full2_idx_col c i ha hi) (headOK_tok _ _ hh)).relevel _ (by simp [PR.lvl])) (head_tok _ _ n1 hh)
        (NoComma.cons n2 (nc_single ac)) (by simp [tl4])
    | some t =>
      simp only [IdxBase] at ha
      have hq := ha
      simp only [qcolOK, nm2OK, Bool.and_eq_true, Bool.not_eq_true'] at hq
      obtain ⟨_, ho, hd1, _, _, _, _, _, _, c1, _⟩ := nmOK_parts hq.1
      exact RT4.mk2 [nameTok t, dotTok, nameTok c, arr (W4 d ch i 8)] (by simp only [toksE5, W4, List.cons_append, List.nil_append])
        ((Tower2.of2 (full2_idx_qcol t c i ha hi) (headOK_tok _ _ ho)).relevel _ (by simp [PR.lvl])) (head_tok _ _ hd1 ho)
        (NoComma.cons c1 (NoComma.cons k.2.2.2.2.2.2.2.2.2.2.2.2.2.2.2.1 (NoComma.cons hq.2.2 (nc_single ac)))) (by simp [tl4])
  | func s n ps =>
    cases s with
    | some s => exact absurd ha (by simp [IdxBase])
    | none =>
      simp only [IdxBase] at ha
      have hq := ha.1
      simp only [fnOK, Bool.and_eq_true] at hq
      obtain ⟨_, ho, hd1, _, _, _, _, _, _, c1, _⟩ := nmOK_parts hq.2.1
      exact RT4.mk2 [qTok n, grp (toksArgs4 d ch 14 ps), arr (W4 d ch i 8)] (by simp only [toksE5, W4, List.cons_append, List.nil_append])
        ((Tower2.of2 (full2_idx_func n ps i ha.1 ha.2 hi) (headOK_tok _ _ ho)).relevel _ (by simp [PR.lvl])) (head_tok _ _ hd1 ho)
        (NoComma.cons c1 (NoComma.cons rfl (nc_single ac))) (by simp [tl4])
  | _ => exact absurd ha (by simp [IdxBase])

/-! ### the records of the parts of these nodes, from the induction hypothesis -/
section recs
variable {n : Nat} (ih : ∀ e, szE4 e ≤ n → FragE5 d e = true → RT4 d ch e)
include ih
theorem ordl_rec : ∀ os, szOrdL os ≤ n → ordTailOK4 d os = true → ∀ o ∈ os, OrdRec d ch o := by
  intro os
  induction os with
  | nil => intro _ _ c hc; simp at hc
  | cons o os iho =>
    intro hs hf c hc
    simp only [szOrdL] at hs
    simp only [ordTailOK4, Bool.and_eq_true] at hf
    rcases List.mem_cons.1 hc with rfl | hc
    · obtain ⟨e, desc, nf, nl⟩ := c
      have h1 := hf.1
      simp only [ordItemOK4, Bool.and_eq_true, Bool.not_eq_true'] at h1
      simp only [szOrdItem] at hs
      exact ⟨ih e (by omega) h1.1, h1.2⟩
    · exact iho (by omega) hf.2 c hc
theorem winfn_rec (fn : Expr) (hs : szE4 fn ≤ n + 1) (hf : winFnOK4 d fn = true) : WinFn d ch fn := by
  cases fn with
  | func s nm ps =>
    cases s with
    | some s => simp [winFnOK4] at hf
    | none =>
      simp only [winFnOK4, Bool.and_eq_true] at hf
      simp only [szE4] at hs
      exact winFn_func nm ps hf.1 (fun a ha => by obtain ⟨x, y⟩ := frag2L_mem ps hf.2 a ha; exact ih a (by omega) x)
  | agg nm ps dist =>
    simp only [winFnOK4, Bool.and_eq_true] at hf
    simp only [szE4] at hs
    exact winFn_agg nm ps dist hf.1 (fun a ha => by obtain ⟨x, y⟩ := frag2L_mem ps hf.2 a ha; exact ih a (by omega) x)
  | _ => simp [winFnOK4] at hf
theorem idxbase_rec (a : Expr) (hs : szE4 a ≤ n + 1) (hf : idxBaseOK4 d a = true) : IdxBase d ch a := by
  cases a with
  | column t c => cases t <;> simpa [idxBaseOK4, IdxBase] using hf
  | func s nm ps =>
    cases s with
    | some s => simp [idxBaseOK4] at hf
    | none =>
      simp only [idxBaseOK4, Bool.and_eq_true] at hf
      simp only [szE4] at hs
      exact ⟨hf.1, fun a ha => by obtain ⟨x, y⟩ := frag2L_mem ps hf.2 a ha; exact ih a (by omega) x⟩
  | _ => simp [idxBaseOK4] at hf
end recs

end TQ3
