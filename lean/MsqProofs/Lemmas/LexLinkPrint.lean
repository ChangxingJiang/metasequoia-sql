import MsqProofs.Lemmas.LexLink
import MsqProofs.Props.C02T
/-!
# The lexer link of T-parse, printer side

* `prEL d e` — a `List Char` mirror of the printer `PR.prE d e` on the operator fragment (`String` operations do not
  reduce in the kernel);
* `Leaf d e` — the well-formedness of the leaf payloads that the link genuinely needs (see `colLex`, `litLex`);
* the lexer on operators, keyword operators, columns and literals, in context.  The link itself (`lx_prE`, `prE_eq`) comes from the
  nested-query link: `LexLinkKits.lean`.
-/
namespace LexLink
open Lex Spec C05 C06 C09 Ast TP

/-! ## marks: `List Char` mirrors of the `String` definitions of `TParse0` -/

theorem beq_ofList (s : String) (x : List Char) : (s == String.ofList x) = (s.toList == x) := by
  by_cases h : s.toList = x
  · subst h; simp [String.ofList_toList]
  · have : s ≠ String.ofList x := fun e => h (by rw [e, String.toList_ofList])
    rw [beq_eq_false_iff_ne.mpr this, beq_eq_false_iff_ne.mpr h]

/-- `TP.wordMark` on character lists -/
def wmL (l : List Char) : Nat :=
  match Gen.wordMarks.find? (fun e => e.1.toList == Gen.pyUpper l) with
  | some p => p.2
  | none => if l.head?.any (fun c => c.isAlpha || c == '_') then Gen.mark_NAME else 0

theorem wordMark_eq (s : String) : TP.wordMark s = wmL s.toList := by
  have hf : (fun e : String × Nat => e.1 == up s) = (fun e => e.1.toList == Gen.pyUpper s.toList) := by
    funext e; simp only [up, Gen.pyUpperS, beq_ofList]
  simp only [TP.wordMark, wmL, hf, TP.isWordS, Lex.NAME]
  cases List.find? (fun e : String × Nat => e.1.toList == Gen.pyUpper s.toList) Gen.wordMarks <;> rfl

theorem opTok_eq (s : String) : opTok s = .single s.toList (wmL s.toList) := by simp [opTok, wordMark_eq]

theorem wordMark_found (l : List Char) (h : (Gen.wordMarks.find? (fun e => e.1.toList == Gen.pyUpper l)).isSome = true) :
    C05.wordMark l = wmL l := by
  cases hf : Gen.wordMarks.find? (fun e => e.1.toList == Gen.pyUpper l) with
  | none => rw [hf] at h; cases h
  | some p =>
    simp only [C05.wordMark, resolveMarks, wmL]
    show (match Gen.wordMarks.find? (fun e => e.1.toList == Gen.pyUpper l) with | some e => e.2 | none => _) = _
    rw [hf]

/-! ## closed tokens, decided on the regenerated tables -/

def ctok (u : List Char) : Tok := .single u (wmL u)

/-- table obligations (this one and the next two): every binary / unary compute operator spelling, every comparison spelling, each of the
nine keyword operators `keywords` is a complete expression-level token with the marks `TP.opTok` expects -/
theorem compute_ops_lex : Gen.computeEnum.all (fun e => lxIs e.2.1.toList (ctok e.2.1.toList)) = true := by decide +kernel
theorem compare_ops_lex : Gen.compareEnum.all (fun e => match e.2 with
    | [x] => lxIs x.toList (ctok x.toList) | _ => false) = true := by decide +kernel
def keywords : List String := ["IS", "NOT", "LIKE", "RLIKE", "REGEXP", "BETWEEN", "AND", "XOR", "OR"]
theorem keywords_lex : keywords.all (fun k => lxIs k.toList (ctok k.toList)) = true := by decide +kernel

theorem lx_kw (k : String) (hk : k ∈ keywords) : Lx k.toList [opTok k] := by
  rw [opTok_eq]; exact lx_of_is ((List.all_eq_true.mp keywords_lex) k hk)

def wrapL (e : Expr) (k : Nat) (s : List Char) : List Char := if PR.lvl e > k then '(' :: (s ++ [')']) else s

def prEL (d : Gen.D) : Expr → List Char
  | .column _ c => '`' :: (c.toList ++ ['`'])
  | .literal v => v.toList
  | .unary o e =>
      if (cval o).toList = ['-'] ∧ (wrapL e 2 (prEL d e)).head? = some '-' then (cval o).toList ++ ' ' :: wrapL e 2 (prEL d e)
      else (cval o).toList ++ wrapL e 2 (prEL d e)
  | .compute l o r =>
      wrapL l (PR.lvl (.compute l o r)) (prEL d l) ++ ' ' :: ((cval o).toList ++ ' ' :: wrapL r (PR.lvl (.compute l o r) - 1) (prEL d r))
  | .kw k n l r => wrapL l 9 (prEL d l) ++ ' ' :: ((PR.kwSrc k n).toList ++ ' ' :: wrapL r 8 (prEL d r))
  | .between n b f t =>
      wrapL b 9 (prEL d b) ++ ' ' :: ((if n then "NOT ".toList else []) ++ ("BETWEEN".toList ++ ' ' ::
        (wrapL f 8 (prEL d f) ++ ' ' :: ("AND".toList ++ ' ' :: wrapL t 8 (prEL d t)))))
  | .compare o l r => wrapL l 10 (prEL d l) ++ ' ' :: ((cmpVal o).toList ++ ' ' :: wrapL r 9 (prEL d r))
  | .not_ e => "NOT".toList ++ ' ' :: wrapL e 11 (prEL d e)
  | .and_ l r => wrapL l 12 (prEL d l) ++ ' ' :: ("AND".toList ++ ' ' :: wrapL r 11 (prEL d r))
  | .xor l r => wrapL l 13 (prEL d l) ++ ' ' :: ("XOR".toList ++ ' ' :: wrapL r 12 (prEL d r))
  | .or_ l r => wrapL l 14 (prEL d l) ++ ' ' :: ("OR".toList ++ ' ' :: wrapL r 13 (prEL d r))
  | _ => []

/-! ## the leaf payloads -/

/-- a column name the printer back-quotes verbatim (true of every plain name except the three `CURRENT_*` pseudo
columns and `*`; for DB2 additionally the name must not contain `CURRENT_DATE/TIME/TIMESTAMP`, which the DB2 printer
rewrites inside any column text — finding F-C06), free of back-quotes and of characters the pre-pass rewrites -/
def colLex (d : Gen.D) (c : String) : Prop :=
  (PR.columnSrc d none c).toList = '`' :: (c.toList ++ ['`']) ∧ ∀ x ∈ c.toList, x ≠ '`' ∧ plain x = true

/-- a literal payload the lexer reads back as ONE literal token: a non-empty digit string; or a quoted string `'…'` /
`"…"` whose body obeys the escape grammar `C06.strBody` (doubled quotes, backslash + any character) and contains no
character the pre-pass rewrites; or a word (with `TP.litOK`: `TRUE` / `FALSE` / `NULL` in any letter case) -/
def litLex (v : String) : Prop :=
  (v.toList ≠ [] ∧ ∀ x ∈ v.toList, isDigit x.toNat = true) ∨
  (∃ k body, k ≠ QK.bq ∧ v.toList = k.wrap body ∧ strBody k.ch body = true ∧ ∀ x ∈ body, plain x = true) ∨
  (isWord v.toList = true ∧ ∀ x ∈ v.toList, plain x = true)

def Leaf (d : Gen.D) : Expr → Prop
  | .column _ c => colLex d c
  | .literal v => litLex v
  | .unary _ e => Leaf d e
  | .compute l _ r => Leaf d l ∧ Leaf d r
  | .kw _ _ l r => Leaf d l ∧ Leaf d r
  | .between _ b f t => Leaf d b ∧ Leaf d f ∧ Leaf d t
  | .compare _ l r => Leaf d l ∧ Leaf d r
  | .not_ e => Leaf d e
  | .and_ l r => Leaf d l ∧ Leaf d r
  | .xor l r => Leaf d l ∧ Leaf d r
  | .or_ l r => Leaf d l ∧ Leaf d r
  | _ => True

theorem printsAs_ok {p : PR.P} {s : String} (h : printsAs p s = true) : p = .ok s := by
  unfold printsAs at h
  cases p with
  | error e => cases h
  | ok x => simp only [beq_iff_eq] at h; rw [h]

theorem cval_mem (d : Gen.D) (o : String) (h : PR.computeOpSrc d o = .ok (cval o)) :
    ∃ e ∈ Gen.computeEnum, cval o = e.2.1 := by
  unfold PR.computeOpSrc at h
  split at h
  · cases h
  · cases hf : Gen.computeEnum.find? (·.1 == o) with
    | none => rw [hf] at h; cases h
    | some e => exact ⟨e, List.mem_of_find?_eq_some hf, by simp [cval, hf]⟩

theorem lx_cval (d : Gen.D) (o : String) (h : PR.computeOpSrc d o = .ok (cval o)) : Lx (cval o).toList [opTok (cval o)] := by
  obtain ⟨e, he, hc⟩ := cval_mem d o h
  rw [opTok_eq, hc]
  exact lx_of_is ((List.all_eq_true.mp compute_ops_lex) e he)

theorem cmpVal_mem (o : String) (h : PR.compareOpSrc o = .ok (cmpVal o)) :
    ∃ e ∈ Gen.compareEnum, cmpVal o = PR.joinS " " e.2 := by
  unfold PR.compareOpSrc at h
  cases hf : Gen.compareEnum.find? (·.1 == o) with
  | none => rw [hf] at h; cases h
  | some e => exact ⟨e, List.mem_of_find?_eq_some hf, by simp [cmpVal, hf]⟩

theorem lx_cmpVal (o : String) (h : PR.compareOpSrc o = .ok (cmpVal o)) : Lx (cmpVal o).toList [opTok (cmpVal o)] := by
  obtain ⟨e, he, hc⟩ := cmpVal_mem o h
  have := (List.all_eq_true.mp compare_ops_lex) e he
  rw [opTok_eq, hc]
  cases hl : e.2 with
  | nil => rw [hl] at this; cases this
  | cons x r =>
    cases r with
    | nil =>
      rw [hl] at this
      have hj : PR.joinS " " [x] = x := rfl
      rw [hj]; exact lx_of_is this
    | cons y r' => rw [hl] at this; cases this

theorem charIsDigit (x : Char) : x.isDigit = isDigit x.toNat := by
  have h0 : ('0' : Char).val.toNat = 48 := by decide
  have h9 : ('9' : Char).val.toNat = 57 := by decide
  rw [Bool.eq_iff_iff]
  simp only [Char.isDigit, isDigit, between, Char.toNat, Nat.ble_eq, Bool.and_eq_true, decide_eq_true_eq, ge_iff_le,
    UInt32.le_iff_toNat_le, h0, h9]

theorem isWordChar_not_quote (x : Char) (h : isWordChar x.toNat = true) : x ≠ '\'' ∧ x ≠ '"' := by
  constructor <;> intro e <;> subst e <;> revert h <;> decide

/-- the two tests of `litMark` / `TD.srcMark` on a digit string and on a quoted string -/
theorem isDigits_digits (v : String) (hne : v.toList ≠ []) (hd : ∀ x ∈ v.toList, isDigit x.toNat = true) : isDigits v = true := by
  simp only [isDigits, Bool.and_eq_true, Bool.not_eq_eq_eq_not, Bool.not_true, List.isEmpty_eq_false_iff, List.all_eq_true]
  exact ⟨hne, fun x hx => by rw [charIsDigit]; exact hd x hx⟩

theorem isDigits_quoted (v : String) (k : QK) (hk : k ≠ .bq) (body : List Char) (hv : v.toList = k.wrap body) :
    isDigits v = false ∧ (v.toList.head? == some '\'' || v.toList.head? == some '"') = true := by
  have hq : k.ch = '\'' ∨ k.ch = '"' := by cases k <;> first | exact Or.inl rfl | exact Or.inr rfl | exact absurd rfl hk
  constructor
  · simp only [isDigits, Bool.and_eq_false_iff]
    right
    rw [hv]
    rcases hq with e | e <;> simp [QK.wrap, e] <;> decide
  · have hhead : v.toList.head? = some k.ch := by rw [hv]; rfl
    rw [hhead]; rcases hq with e | e <;> simp [e]

theorem litTok_digits (v : String) (hne : v.toList ≠ []) (hd : ∀ x ∈ v.toList, isDigit x.toNat = true) :
    litTok v = .single v.toList (Gen.mark_LITERAL ||| Gen.mark_LITERAL_INT) := by
  simp [litTok, litMark, isDigits_digits v hne hd, Lex.LITERAL]

theorem litTok_quoted (v : String) (k : QK) (hk : k ≠ .bq) (body : List Char) (hv : v.toList = k.wrap body) :
    litTok v = .single v.toList (Gen.mark_LITERAL ||| Gen.mark_NAME) := by
  simp [litTok, litMark, (isDigits_quoted v k hk body hv).1, (isDigits_quoted v k hk body hv).2, Lex.LITERAL, Lex.NAME]

theorem tk_string (k : QK) (hk : k ≠ .bq) (body : List Char) (hb : strBody k.ch body = true) (d : Char) (hdd : d ≠ k.ch) :
    Tk (k.wrap body) (.single (k.wrap body) (Gen.mark_LITERAL ||| Gen.mark_NAME)) d :=
  tk_of_pending (wrap_path k hk body hb) (s_next k hk d hdd) (endsBefore_emitBefore _) rfl

/-- a digit string directly before `]` (an array index) or `=` (a table option) -/
theorem tk_int (ds : List Char) (hne : ds ≠ []) (hd : ∀ c ∈ ds, isDigit c.toNat = true) (d : Char) (hdd : d = ']' ∨ d = '=') :
    Tk ds (.single ds (Gen.mark_LITERAL ||| Gen.mark_LITERAL_INT)) d := by
  obtain ⟨q, hq, hp⟩ := int_path ds hne hd
  exact tk_of_pending (o := emitBefore mInt) hp (by rcases hq with rfl | rfl <;> rcases hdd with rfl | rfl <;> exact look (by decide +kernel)) rfl rfl

theorem lx_lit (d : Gen.D) (v : String) (hf : litOK d v = true) (h : litLex v) : Lx v.toList [litTok v] := by
  rcases h with ⟨hne, hd⟩ | ⟨k, body, hk, hv, hb, _⟩ | ⟨hw, _⟩
  · rw [litTok_digits v hne hd]; exact lx_int v.toList hne hd
  · rw [litTok_quoted v k hk body hv, hv]; exact lx_string k hk body hb
  · cases hv : v.toList with
    | nil => rw [hv] at hw; cases hw
    | cons c cs =>
      have hsw : startsWord c = true := by rw [hv] at hw; simp only [isWord, Bool.and_eq_true] at hw; exact hw.1
      simp only [startsWord, Bool.and_eq_true, Bool.not_eq_eq_eq_not, Bool.not_true] at hsw
      have hnd : c.isDigit = false := by rw [charIsDigit]; exact hsw.1.1.2
      have hnq := isWordChar_not_quote c hsw.1.1.1
      have hdig : isDigits v = false := by
        simp only [isDigits, Bool.and_eq_false_iff]; right; rw [hv]; simp [hnd]
      have hh : (v.toList.head? == some '\'' || v.toList.head? == some '"') = false := by
        rw [hv]; simp [hnq.1, hnq.2]
      have hm : litMark v = wmL v.toList := by simp [litMark, hdig, hh, wordMark_eq]
      -- `litOK`: the token carries LITERAL, so the word is in the keyword table
      have hfound : (Gen.wordMarks.find? (fun e => e.1.toList == Gen.pyUpper v.toList)).isSome = true := by
        simp only [litOK, Bool.and_eq_true] at hf
        have hl := hf.1
        simp only [litTok, Tok.has, Tok.marks, hm, wmL] at hl
        cases hfd : Gen.wordMarks.find? (fun e => e.1.toList == Gen.pyUpper v.toList) with
        | some p => rfl
        | none =>
          rw [hfd] at hl
          simp only at hl
          split at hl <;> revert hl <;> decide
      have : litTok v = .single v.toList (C05.wordMark v.toList) := by
        simp only [litTok, hm, wordMark_found _ hfound]
      rw [this, ← hv]; exact lx_word v.toList hw

theorem lx_wrap {y : Expr} {k : Nat} {s : List Char} {ts : List Tok} (h : Lx s ts) :
    Lx (wrapL y k s) (wrapT (noX y) y k ts) := by
  unfold wrapL wrapT
  by_cases hl : PR.lvl y > k
  · simp only [hl, if_true, true_or]
    exact Lx.paren h
  · simp only [hl, if_false, noX, Bool.false_eq_true, or_false]
    exact h

theorem wmL_sym : wmL ['+'] = 0 ∧ wmL ['~'] = 0 ∧ wmL ['-'] = 0 ∧ wmL ['!'] = 0 := by decide +kernel

theorem tk_plus (c : Char) : Tk ['+'] (ctok ['+']) c := by
  simp only [ctok, wmL_sym.1]
  exact tk_of_feed (feed_of_complete (ur := []) rfl (Or.inr ⟨look (by decide +kernel), rfl⟩)) c

theorem tk_tilde (c : Char) : Tk ['~'] (ctok ['~']) c := by
  simp only [ctok, wmL_sym.2.1]
  exact tk_of_feed (feed_of_complete (ur := []) rfl (Or.inr ⟨look (by decide +kernel), rfl⟩)) c

theorem tk_minus (c : Char) (hc : c ≠ '-') : Tk ['-'] (ctok ['-']) c := by
  have hl : Gen.cfgS.lookup .AFTER_2D (.ch c) = some (emitBefore mNone) :=
    lookClass .AFTER_2D (fun n => !(n =ᶜ '-')) (emitBefore mNone) (by decide +kernel) (Or.inl (by decide +kernel)) c
      (by simp [ne_of_isCh hc])
  simp only [ctok, wmL_sym.2.2.1]
  exact tk_of_pending (p := .AFTER_2D) (by decide +kernel) hl rfl rfl

theorem tk_bang (c : Char) (hc : c ≠ '=') : Tk ['!'] (ctok ['!']) c := by
  have hl : Gen.cfgS.lookup .AFTER_21 (.ch c) = some (emitBefore mNone) :=
    lookClass .AFTER_21 (fun n => !(n =ᶜ '=')) (emitBefore mNone) (by decide +kernel) (Or.inl (by decide +kernel)) c
      (by simp [ne_of_isCh hc])
  simp only [ctok, wmL_sym.2.2.2]
  exact tk_of_pending (p := .AFTER_21) (by decide +kernel) hl rfl rfl

theorem unary_spelling (d : Gen.D) (o : String) (h : (Gen.unarySet d).contains (cval o) = true) :
    (cval o).toList = ['!'] ∨ (cval o).toList = ['+'] ∨ (cval o).toList = ['-'] ∨ (cval o).toList = ['~'] := by
  generalize cval o = s at h
  have hm : s ∈ Gen.unarySet d := by simpa using h
  have : s = "!" ∨ s = "+" ∨ s = "-" ∨ s = "~" := by
    cases d <;> simp only [Gen.unarySet, List.mem_cons, List.mem_nil_iff, or_false] at hm
    all_goals first
      | (rcases hm with e | e | e | e <;> simp [e])
      | (rcases hm with e | e | e <;> simp [e])
  rcases this with e | e | e | e <;> subst e <;> simp

theorem tk_unary (u : List Char) (hu : u = ['!'] ∨ u = ['+'] ∨ u = ['-'] ∨ u = ['~']) (c : Char) (h1 : c ≠ '=')
    (h2 : u = ['-'] → c ≠ '-') : Tk u (ctok u) c := by
  rcases hu with rfl | rfl | rfl | rfl
  · exact tk_bang c h1
  · exact tk_plus c
  · exact tk_minus c (h2 rfl)
  · exact tk_tilde c

theorem isWordChar_ne_eq (x : Char) (h : isWordChar x.toNat = true) : x ≠ '=' := by
  intro e; subst e; revert h; decide

theorem Lx.congr {a a' : List Char} {ta ta' : List Tok} (h : Lx a ta) (e1 : a = a') (e2 : ta = ta') : Lx a' ta' :=
  e1 ▸ e2 ▸ h

theorem lx_kwSrc (k : KwKind) (n : Bool) (hk : (k != .in_) = true) : Lx (PR.kwSrc k n).toList (kwToks k n) := by
  have one : ∀ a : String, a ∈ keywords → Lx a.toList [opTok a] := lx_kw
  have two : ∀ a b : String, a ∈ keywords → b ∈ keywords → Lx (a.toList ++ ' ' :: b.toList) [opTok a, opTok b] :=
    fun a b ha hb => Lx.sep (lx_kw a ha) (lx_kw b hb)
  cases k <;> cases n
  case in_.false => cases hk
  case in_.true => cases hk
  case is.false => exact one "IS" (by simp [keywords])
  case is.true => exact two "IS" "NOT" (by simp [keywords]) (by simp [keywords])
  case like.false => exact one "LIKE" (by simp [keywords])
  case like.true => exact two "NOT" "LIKE" (by simp [keywords]) (by simp [keywords])
  case rlike.false => exact one "RLIKE" (by simp [keywords])
  case rlike.true => exact two "NOT" "RLIKE" (by simp [keywords]) (by simp [keywords])
  case regexp.false => exact one "REGEXP" (by simp [keywords])
  case regexp.true => exact two "NOT" "REGEXP" (by simp [keywords]) (by simp [keywords])

theorem unOK_prints {d : Gen.D} {o : String} (h : unOK d o = true) : PR.computeOpSrc d o = .ok (cval o) := by
  simp only [unOK, Bool.and_eq_true] at h; exact printsAs_ok h.2
theorem binOK_prints {d : Gen.D} {o : String} (h : binOK d o = true) : PR.computeOpSrc d o = .ok (cval o) := by
  simp only [binOK, Bool.and_eq_true] at h; exact printsAs_ok h.2
theorem cmpOK_prints {d : Gen.D} {o : String} (h : cmpOK d o = true) : PR.compareOpSrc o = .ok (cmpVal o) := by
  simp only [cmpOK, Bool.and_eq_true] at h; exact printsAs_ok h.2

/-! ## the printer prints `prEL` -/

theorem wrap_ofList (y : Expr) (k : Nat) (s : List Char) : PR.wrap y k (String.ofList s) = String.ofList (wrapL y k s) := by
  unfold PR.wrap wrapL
  split
  · apply String.toList_inj.mp
    simp [toString, String.toList_append, String.toList_ofList]
  · rfl

theorem minus_cond (a : String) (l : List Char) :
    (a == "-" && (String.ofList l).startsWith "-") = decide (a.toList = ['-'] ∧ l.head? = some '-') := by
  have h1 : (a == "-") = decide (a.toList = ['-']) := by
    by_cases h : a = "-"
    · subst h; simp
    · have : a.toList ≠ ['-'] := fun e => h (String.toList_inj.mp (by rw [e]; rfl))
      simp [h, this]
  have h2 : ((String.ofList l).startsWith "-") = decide (l.head? = some '-') := by
    rw [Bool.eq_iff_iff]
    simp only [String.startsWith_string_iff, String.toList_ofList, decide_eq_true_eq]
    have : ("-" : String).toList = ['-'] := rfl
    rw [this]
    cases l with
    | nil => simp
    | cons c r => simp [eq_comm]
  rw [h1, h2]
  by_cases p : a.toList = ['-'] <;> by_cases q : l.head? = some '-' <;> simp [p, q]

theorem compute_ops_plain : Gen.computeEnum.all (fun e => e.2.1.toList.all plain) = true := by decide +kernel
theorem compare_ops_plain : Gen.compareEnum.all (fun e => match e.2 with | [x] => x.toList.all plain | _ => false) = true := by
  decide +kernel

end LexLink
