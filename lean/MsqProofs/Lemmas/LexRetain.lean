import MsqProofs.Lemmas.LexScan
/-!
# Retention (C04 d) with nothing ignored: the expected text and the table obligation

With nothing ignored the token texts (`Tok.source`: a group renders with ROUND brackets whatever its kind, F-C04-2)
reproduce the consumed text with every bracket character that was READ AS A BRACKET replaced by its round form
(`roundBrackets`, decided by the structural scanner of `LexScan.lean`: brackets inside quotes and comments are left as
written).  `retainOK` says of a table that it never drops a window silently: the only operations that discard
characters are the bracket operations, on bracket characters, between tokens; of the 8 settings only setting 0 is such
a table.  The retention theorem itself is the case "nothing ignored" of `lex_mretained` (`LexRetain2.lean`).
-/
namespace Lex
open Scan Spec

/-- the round form of a bracket character -/
def nbc (c : Char) : Char := if c = '[' then '(' else if c = ']' then ')' else c

theorem sourceL_append (a b : List Tok) : sourceL (a ++ b) = sourceL a ++ sourceL b := by
  induction a with
  | nil => rfl
  | cons t ts ih => simp [sourceL, ih]

/-! ## the table never drops a window silently -/

/-- a cell of state `s` (key `k`: a character code, `none` for the default row and the end of the text): it raises, or
it discards nothing — except that a bracket operation, which must advance, between tokens, on a bracket character of its
direction, discards that one character -/
def cellRet (cfg : Cfg Gen.Cls) (s : S) (k : Option Nat) (o : OpRef Gen.Cls) : Bool :=
  match summarize (cfg.code o.cls) with
  | none => false
  | some sm => sm.raises ||
    (match sm.body, sm.grp with
      | .drop, .none => false
      | _, .none => true
      | .drop, .push => isEmptySt cfg s && sm.adv && (k == some '('.toNat || k == some '['.toNat)
      | .drop, .pop _ _ => isEmptySt cfg s && sm.adv && (k == some ')'.toNat || k == some ']'.toNat)
      | _, _ => false)

def retainOK (cfg : Cfg Gen.Cls) : Bool :=
  allS.all fun s =>
    ((cfg.rows s).all fun e => cellRet cfg s (some e.1) e.2) &&
    (match cfg.dflt s with | none => true | some o => cellRet cfg s none o) &&
    (match cfg.atEnd s with | none => true | some o => cellRet cfg s none o)

theorem retainOK.char {cfg : Cfg Gen.Cls} (h : retainOK cfg = true) (s : S) (c : Char) (o : OpRef Gen.Cls)
    (ho : cfg.lookup s (.ch c) = some o) : ∃ k, (k = some c.toNat ∨ k = none) ∧ cellRet cfg s k o = true := by
  have hs := (List.all_eq_true.mp h) s (mem_allS s)
  simp only [Bool.and_eq_true, List.all_eq_true] at hs
  rcases cfg.lookup_ch_cases s c with ⟨e, hm, he, hl⟩ | hl <;> rw [hl] at ho
  · cases ho
    exact ⟨some c.toNat, .inl rfl, by rw [← he]; exact hs.1.1 e hm⟩
  · have := hs.1.2
    rw [ho] at this
    exact ⟨none, .inr rfl, this⟩

theorem retainOK.eof {cfg : Cfg Gen.Cls} (h : retainOK cfg = true) (s : S) (o : OpRef Gen.Cls)
    (ho : cfg.lookup s .eof = some o) : cellRet cfg s none o = true := by
  have hs := (List.all_eq_true.mp h) s (mem_allS s)
  simp only [Bool.and_eq_true] at hs
  have := hs.2
  simp only [Cfg.lookup] at ho
  rw [ho] at this
  exact this

/-! ## the expected text -/

/-- the text with every bracket character that the structural scanner reads as a bracket replaced by its round form -/
def rbAll : Mode → List Char → Mode × List Char
  | μ, [] => (μ, [])
  | μ, c :: cs =>
    let r := step μ (norm c.toNat)
    let r' := rbAll r.1 cs
    (r'.1, (if r.2 == [] then c else nbc c) :: r'.2)

def roundBrackets (text : List Char) : List Char := (rbAll .N text).2

theorem rbAll_append (μ : Mode) (a b : List Char) :
    rbAll μ (a ++ b) = ((rbAll (rbAll μ a).1 b).1, (rbAll μ a).2 ++ (rbAll (rbAll μ a).1 b).2) := by
  induction a generalizing μ with
  | nil => rfl
  | cons c cs ih => simp [rbAll, ih]

theorem nbc_idem (c : Char) : nbc (nbc c) = nbc c := by
  unfold nbc
  split
  · decide
  · split
    · decide
    · rename_i h1 h2; simp [h1, h2]

theorem rbAll_map (μ : Mode) (t : List Char) : (rbAll μ t).2.map nbc = t.map nbc := by
  induction t generalizing μ with
  | nil => rfl
  | cons c cs ih =>
    simp only [rbAll, List.map_cons, ih]
    split <;> simp [nbc_idem]

end Lex
