import MsqProofs.Lemmas.LexSpec
/-!
# The lexer's pre-pass and a separator character

`preproc_sql` is a chain of `str.replace` calls (CR LF → LF, TAB → blank, U+3000 → blank).  A replacement commutes with
cutting the text at a character `c` when no occurrence of the pattern can contain `c` (`replace_sep`); for the pattern
CR LF and `c` = LF this needs the text in front of the cut not to end with CR (`replace_crlf`).

`preWith_sep`: for every chain whose patterns do not contain `c`,
`preWith chain (a ++ c :: b) = preWith chain a ++ c :: preWith chain b`.
`pre_sep_newline`: the same for the generated chain and `c` = LF, when `a` does not end with CR.
-/
namespace Lex
open Py

theorem replaceGo_nil (pat rep : List Char) (f : Nat) : replaceGo pat rep f [] = [] := by
  cases f <;> rfl

/-- enough fuel is enough -/
theorem replaceGo_fuel (pat rep : List Char) (hp : pat ≠ []) : ∀ (f g : Nat) (t : List Char), t.length ≤ f → t.length ≤ g →
    replaceGo pat rep f t = replaceGo pat rep g t := by
  intro f
  induction f with
  | zero =>
    intro g t h1 _
    have : t = [] := List.eq_nil_of_length_eq_zero (by omega)
    subst this
    rw [replaceGo_nil, replaceGo_nil]
  | succ f ih =>
    intro g t h1 h2
    cases t with
    | nil => rw [replaceGo_nil, replaceGo_nil]
    | cons c r =>
      cases g with
      | zero => simp at h2
      | succ g =>
        simp only [List.length_cons] at h1 h2
        have hl : 0 < pat.length := List.length_pos_iff.mpr hp
        simp only [replaceGo]
        split
        · rw [ih g _ (by simp; omega) (by simp; omega)]
        · rw [ih g r (by omega) (by omega)]

/-- cutting at `c`: no occurrence of the pattern contains the cut -/
theorem replaceGo_sep (pat rep : List Char) (hp : pat ≠ []) (c : Char) (b : List Char)
    (hcb : pat.isPrefixOf (c :: b) = false) :
    ∀ (n : Nat) (a : List Char), a.length ≤ n →
      (∀ s, s ≠ [] → s <:+ a → pat.isPrefixOf (s ++ c :: b) = pat.isPrefixOf s) →
      ∀ f f1 f2, (a ++ c :: b).length ≤ f → a.length ≤ f1 → b.length ≤ f2 →
        replaceGo pat rep f (a ++ c :: b) = replaceGo pat rep f1 a ++ c :: replaceGo pat rep f2 b := by
  intro n
  induction n with
  | zero =>
    intro a ha _ f f1 f2 hf _ hf2
    have : a = [] := List.eq_nil_of_length_eq_zero (by omega)
    subst this
    cases f with
    | zero => simp at hf
    | succ f =>
      simp only [List.nil_append, List.length_cons] at hf
      simp only [List.nil_append, replaceGo, hcb, replaceGo_nil, Bool.false_eq_true, if_false]
      rw [replaceGo_fuel pat rep hp f f2 b (by omega) hf2]
  | succ n ih =>
    intro a ha hpre f f1 f2 hf hf1 hf2
    cases a with
    | nil =>
      cases f with
      | zero => simp at hf
      | succ f =>
        simp only [List.nil_append, List.length_cons] at hf
        simp only [List.nil_append, replaceGo, hcb, replaceGo_nil, Bool.false_eq_true, if_false]
        rw [replaceGo_fuel pat rep hp f f2 b (by omega) hf2]
    | cons x xs =>
      simp only [List.length_cons] at ha hf1
      cases f with
      | zero => simp at hf
      | succ f =>
        cases f1 with
        | zero => omega
        | succ f1 =>
          have hx := hpre (x :: xs) (by simp) (List.suffix_refl _)
          simp only [List.cons_append] at hx
          simp only [List.cons_append, replaceGo, hx]
          simp only [List.cons_append, List.length_cons, List.length_append] at hf
          have hl : 0 < pat.length := List.length_pos_iff.mpr hp
          by_cases hpx : pat.isPrefixOf (x :: xs) = true
          · simp only [hpx, if_true]
            have hle : pat.length ≤ (x :: xs).length := (List.isPrefixOf_iff_prefix.mp hpx).length_le
            have hd : (x :: (xs ++ c :: b)).drop pat.length = (x :: xs).drop pat.length ++ c :: b := by
              rw [← List.cons_append, List.drop_append_of_le_length hle]
            rw [hd, ih ((x :: xs).drop pat.length) (by simp; omega)
              (fun s hs hsuf => hpre s hs (hsuf.trans (List.drop_suffix _ _))) f f1 f2
              (by simp; omega) (by simp; omega) hf2]
            simp
          · simp only [hpx, Bool.false_eq_true, if_false]
            rw [ih xs (by omega) (fun s hs hsuf => hpre s hs (hsuf.trans (List.suffix_cons _ _))) f f1 f2
              (by simp; omega) (by omega) hf2]
            simp

theorem isPrefixOf_sep (c : Char) (b : List Char) : ∀ (pat s : List Char), c ∉ pat →
    pat.isPrefixOf (s ++ c :: b) = pat.isPrefixOf s
  | [], _, _ => by simp
  | p :: ps, [], h => by
    have : p ≠ c := fun e => h (by simp [e])
    simp [List.isPrefixOf, this]
  | p :: ps, x :: xs, h => by
    have := isPrefixOf_sep c b ps xs (fun e => h (by simp [e]))
    simp [List.isPrefixOf, this]

theorem replace_sep (pat rep : List Char) (c : Char) (hc : c ∉ pat) (a b : List Char) :
    replace pat rep (a ++ c :: b) = replace pat rep a ++ c :: replace pat rep b := by
  simp only [replace]
  cases hp : pat.isEmpty with
  | true => simp
  | false =>
    have hne : pat ≠ [] := by intro e; rw [e] at hp; cases hp
    simp only [Bool.false_eq_true, if_false]
    exact replaceGo_sep pat rep hne c b (by
        have := isPrefixOf_sep c b pat [] hc
        rw [List.nil_append] at this
        rw [this]; cases pat with | nil => exact absurd rfl hne | cons _ _ => rfl) a.length a
      (Nat.le_refl _) (fun s _ _ => isPrefixOf_sep c b pat s hc) _ _ _ (by omega) (by omega) (by omega)

theorem replace_crlf (rep : List Char) (a b : List Char) (ha : a.getLast? ≠ some '\r') :
    replace ['\r', '\n'] rep (a ++ '\n' :: b) = replace ['\r', '\n'] rep a ++ '\n' :: replace ['\r', '\n'] rep b := by
  simp only [replace, List.isEmpty_cons, Bool.false_eq_true, if_false]
  refine replaceGo_sep _ rep (by simp) '\n' b (by simp [List.isPrefixOf]) a.length a (Nat.le_refl _) ?_ _ _ _
    (by omega) (by omega) (by omega)
  intro s hs hsuf
  cases s with
  | nil => exact absurd rfl hs
  | cons x xs =>
    cases xs with
    | nil =>
      obtain ⟨t, ht⟩ := hsuf
      have : a.getLast? = some x := by rw [← ht]; simp
      have hx : x ≠ '\r' := fun e => ha (by rw [this, e])
      have hx' : ('\r' == x) = false := by simp [Ne.symm hx]
      simp [List.isPrefixOf, hx']
    | cons y ys => simp [List.isPrefixOf]

theorem preWith_sep (c : Char) : ∀ (chain : List (List Char × List Char)), (∀ pr ∈ chain, c ∉ pr.1) → ∀ (a b : List Char),
    preWith chain (a ++ c :: b) = preWith chain a ++ c :: preWith chain b := by
  intro chain
  induction chain with
  | nil => intro _ a b; rfl
  | cons pr rest ih =>
    intro h a b
    simp only [preWith, List.foldl_cons]
    rw [replace_sep pr.1 pr.2 c (h pr (by simp)) a b]
    exact ih (fun q hq => h q (by simp [hq])) _ _

theorem preWith_newline (a b : List Char) (ha : a.getLast? ≠ some '\r') :
    preWith Gen.preChain (a ++ '\n' :: b) = preWith Gen.preChain a ++ '\n' :: preWith Gen.preChain b := by
  have h1 := replace_crlf ['\n'] a b ha
  have e : Gen.preChain = (['\r', '\n'], ['\n']) :: [([Char.ofNat 9], [Char.ofNat 32]), ([Char.ofNat 12288], [Char.ofNat 32])] := rfl
  rw [e]
  simp only [preWith, List.foldl_cons] at *
  rw [h1]
  exact preWith_sep '\n' [([Char.ofNat 9], [Char.ofNat 32]), ([Char.ofNat 12288], [Char.ofNat 32])] (by decide) _ _

end Lex
