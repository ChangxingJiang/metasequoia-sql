import MsqProofs.Lemmas.ParseAccountDdl1
/-! GENERATED by tools/gen_account_ddl.py — C08: accounting lemmas for the key / foreign-key / column-type / generated-column parsers of MsqModel/Parse/Stmt.lean -/
set_option linter.unusedVariables false
open Lex PM Ast
namespace PA
namespace Ddl

theorem accD_pColType (T : List String) (d : Gen.D) (f : Nat) : ∀ ts, AR T tCT FullCTy ts [] true (PM.pColType d f ts) := by
  have hA : Anchor T := trivial
  have hF := accA_all d T f
  intro ts v r h hpl
  unfold pColType at h
  split_run <;> grind -funext (splits := 20) (ematch := 20) (gen := 40) (instances := 20000) [closed_ok]
grind_pattern accD_pColType => Anchor T, PM.pColType d f ts

theorem accD_pFkAction (T : List String) : ∀ ts, KwRel ts (PM.pFkAction ts) := by
  have hA : Anchor T := trivial
  have hK0 := kwOk_NO
  have hK1 := kwOk_ACTION
  have hK2 := kwOk_SET
  have hK3 := kwOk_NULL
  have hK4 := kwOk_CASCADE
  have hK5 := kwOk_RESTRICT
  intro ts v r h
  unfold pFkAction at h
  split_run <;> grind -funext (splits := 20) (ematch := 20) (gen := 40) (instances := 20000) [closed_ok]
grind_pattern accD_pFkAction => Anchor T, PM.pFkAction ts

theorem accD_pOptFkAction (T : List String) : ∀ ts a b, kwOk a = true → kwOk b = true → KwRel ts (PM.pOptFkAction ts a b) := by
  have hA : Anchor T := trivial
  intro ts a b hpre0 hpre1 v r h
  unfold pOptFkAction at h
  split_run <;> grind -funext (splits := 20) (ematch := 20) (gen := 40) (instances := 20000) [closed_ok]
grind_pattern accD_pOptFkAction => Anchor T, PM.pOptFkAction ts a b

theorem popSrc_ar (T : List String) : ∀ sg, AR T tS tt sg [] true (popSrc sg) := by
  have hA : Anchor T := trivial
  intro sg v r h hpl
  grind
theorem eachClosed_popSrc (T : List String) (segs : List (List Tok)) (ns : List String)
    (h : eachClosed popSrc segs = .ok ns) (hs : Sub ns T) : AccAll T segs.flatten := by
  refine eachClosed_acc T popSrc tS tt (popSrc_ar T) segs ns h (fun _ _ => rfl) ?_
  have : ∀ l : List String, l.flatMap tS = l := by
    intro l; induction l with
    | nil => rfl
    | cons a l ih => simpa [List.flatMap_cons, tS] using ih
  have := this ns
  rw [this]; exact hs
grind_pattern eachClosed_popSrc => Anchor T, eachClosed popSrc segs, Except.ok ns

theorem accD_pNameList (T : List String) : ∀ ts, AR T tStrs NE ts [] true (PM.pNameList ts) := by
  have hA : Anchor T := trivial
  intro ts v r h hpl
  unfold pNameList at h
  split_run <;> grind -funext (splits := 20) (ematch := 20) (gen := 40) (instances := 20000) [closed_ok]
grind_pattern accD_pNameList => Anchor T, PM.pNameList ts

theorem accD_pForeignKey (T : List String) : ∀ ts, AR T tFK FullFK ts [] true (PM.pForeignKey ts) := by
  have hA : Anchor T := trivial
  have hK0 := kwOk_CONSTRAINT
  have hK1 := kwOk_FOREIGN
  have hK2 := kwOk_KEY
  have hK3 := kwOk_REFERENCES
  have hK4 := kwOk_ON
  have hK5 := kwOk_DELETE
  have hK6 := kwOk_UPDATE
  have hS0 : allKw ["FOREIGN", "KEY"] = true := by simp [allKw, kwOk_FOREIGN, kwOk_KEY]
  intro ts v r h hpl
  unfold pForeignKey at h
  split_run <;> grind -funext (splits := 20) (ematch := 20) (gen := 40) (instances := 20000) [closed_ok]
grind_pattern accD_pForeignKey => Anchor T, PM.pForeignKey ts

theorem accD_pIndexCol (T : List String) : ∀ ts, AR T tIC tt ts [] true (PM.pIndexCol ts) := by
  have hA : Anchor T := trivial
  intro ts v r h hpl
  unfold pIndexCol at h
  split_run <;> grind -funext (splits := 20) (ematch := 20) (gen := 40) (instances := 20000) [closed_ok]
grind_pattern accD_pIndexCol => Anchor T, PM.pIndexCol ts

theorem eachClosed_indexCol (T : List String) (segs : List (List Tok)) (cs : List IndexCol)
    (h : eachClosed pIndexCol segs = .ok cs) (hs : Sub (tICs cs) T) : AccAll T segs.flatten := by
  refine eachClosed_acc T pIndexCol tIC tt (accD_pIndexCol T) segs cs h (fun _ _ => rfl) ?_
  rw [tICs_flatMap]; exact hs
grind_pattern eachClosed_indexCol => Anchor T, eachClosed pIndexCol segs, Except.ok cs

theorem accD_pIndexCols (T : List String) : ∀ ts, AR T tICs NE ts [] true (PM.pIndexCols ts) := by
  have hA : Anchor T := trivial
  intro ts v r h hpl
  unfold pIndexCols at h
  split_run <;> grind -funext (splits := 20) (ematch := 20) (gen := 40) (instances := 20000) [closed_ok]
grind_pattern accD_pIndexCols => Anchor T, PM.pIndexCols ts

theorem accD_pOptSrc (T : List String) : ∀ ts k, kwOk k = true → AR T tOS tt ts [] true (PM.pOptSrc ts k) := by
  have hA : Anchor T := trivial
  intro ts k hpre0 v r h hpl
  unfold pOptSrc at h
  split_run <;> grind -funext (splits := 20) (ematch := 20) (gen := 40) (instances := 20000) [closed_ok]
grind_pattern accD_pOptSrc => Anchor T, PM.pOptSrc ts k

theorem accD_pIndexTail (T : List String) : ∀ kind name ts, AR T tIdx FullIdx ts (tOS name) true (PM.pIndexTail kind name ts) := by
  have hA : Anchor T := trivial
  have hK0 := kwOk_USING
  have hK1 := kwOk_COMMENT
  have hK2 := kwOk_KEY_BLOCK_SIZE
  have hK3 := kwOk_eq
  intro kind name ts v r h hpl
  unfold pIndexTail at h
  split_run <;> grind -funext (splits := 20) (ematch := 20) (gen := 40) (instances := 20000) [closed_ok]
grind_pattern accD_pIndexTail => Anchor T, PM.pIndexTail kind name ts

theorem accD_pPrimaryIndex (T : List String) : ∀ ts, AR T tIdx FullIdx ts [] true (PM.pPrimaryIndex ts) := by
  have hA : Anchor T := trivial
  have hK0 := kwOk_PRIMARY
  have hK1 := kwOk_KEY
  have hS0 : allKw ["PRIMARY", "KEY"] = true := by simp [allKw, kwOk_PRIMARY, kwOk_KEY]
  intro ts v r h hpl
  unfold pPrimaryIndex at h
  split_run <;> grind -funext (splits := 20) (ematch := 20) (gen := 40) (instances := 20000) [closed_ok]
grind_pattern accD_pPrimaryIndex => Anchor T, PM.pPrimaryIndex ts

theorem accD_pNamedIndex (T : List String) : ∀ kind kws ts, allKw kws = true → AR T tIdx FullIdx ts [] true (PM.pNamedIndex kind kws ts) := by
  have hA : Anchor T := trivial
  intro kind kws ts hpre0 v r h hpl
  unfold pNamedIndex at h
  split_run <;> grind -funext (splits := 20) (ematch := 20) (gen := 40) (instances := 20000) [closed_ok]
grind_pattern accD_pNamedIndex => Anchor T, PM.pNamedIndex kind kws ts

theorem genModes_mem_kw (k : String × String) (h : k ∈ Gen.genColSaveModes) : isKW k.1 = true := by
  simp only [isKW, KWA, kwTables, List.contains_eq_mem, List.mem_append, List.mem_map, decide_eq_true_eq]
  exact Or.inr (Or.inl (Or.inr ⟨k, h, rfl⟩))
grind_pattern genModes_mem_kw => k ∈ Gen.genColSaveModes
theorem genModes_find (u : String) (sm : String × String) (h : Gen.genColSaveModes.find? (fun x => x.1 == u) = some sm) : isKW u = true := by
  have h1 := List.find?_some h
  have h2 := List.mem_of_find?_eq_some h
  simp only [beq_iff_eq] at h1
  rw [← h1]; exact genModes_mem_kw sm h2

theorem accD_pGenerated (T : List String) (d : Gen.D) (f : Nat) : ∀ ts, AR T tOGC FullOGC ts [] true (PM.pGenerated d f ts) := by
  have hA : Anchor T := trivial
  have hF := accA_all d T f
  have hK0 := kwOk_GENERATED
  have hK1 := kwOk_ALWAYS
  have hK2 := kwOk_AS
  intro ts v r h hpl
  unfold pGenerated at h
  split_run <;> ((try (have hM := genModes_find _ _ (by assumption))); grind -funext (splits := 20) (ematch := 20) (gen := 40) (instances := 20000) [closed_ok])
grind_pattern accD_pGenerated => Anchor T, PM.pGenerated d f ts

end Ddl
end PA
