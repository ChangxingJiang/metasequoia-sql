import MsqProofs.Lemmas.ParseRel7
/-! GENERATED by tools/gen_rel.py — relational reading of the parser model: the mutual block of MsqModel/Parse/Expr.lean: one step of the fuel, a chain per function; induction on the fuel -/
set_option linter.unusedVariables false
set_option linter.unusedSectionVars false
set_option linter.unusedSimpArgs false
open Lex Ast PMQ
namespace PM.Rel
variable [T : Theory]

variable (d : Gen.D)

attribute [local grind] mapE mapO mapTR mapFT mapJR mapLat mapW

/-- one more unit of fuel: every function of the block by its own chain, its callees in the block by the hypothesis -/
theorem genF_succ (n : Nat) (ih : GenF d n) : GenF d (n+1) := by
  constructor
  case pElement =>
    intro ts ts' h_ts
    unfold pElement
    obtain ⟨rfl, rfl⟩ | ⟨n0, r0, n0', r0', rfl, rfl, h_n0, h_r0⟩ := GEL.shape h_ts
    · dsimp only; exact ger_err
    dsimp only
    refine ger_if (T.has h_n0 LITERAL) ?_ ?_
    · exact ger_ok (by grind -funext) h_r0
    refine ger_if (T.has h_n0 PAREN) ?_ ?_
    · exact ih.pParen n0 r0 n0' r0' h_n0 h_r0
    refine ger_if (T.srcEqUp h_n0 "CASE" plainT_CASE) ?_ ?_
    · exact ih.pCase (n0 :: r0) (n0' :: r0') h_ts
    refine ger_if (T.srcEq h_n0 "*" (by decide)) ?_ ?_
    · exact ger_ok rfl h_r0
    exact ih.pNamed n0 r0 (n0 :: r0) n0' r0' (n0' :: r0') h_n0 h_r0 h_ts
  case pParen =>
    intro n0 r0 n0' r0' h_n0 h_r0
    unfold pParen
    refine ger_if (gel_startsSelect (T.children h_n0)) ?_ ?_
    · exact ih.pSubQuery (n0 :: r0) (n0' :: r0') (by grind)
    rel_bind ih.pOr n0.children n0'.children (T.children h_n0) with e r2 e' r2' h_e h_r2
    obtain ⟨rfl, rfl⟩ | ⟨_, _, _, _, rfl, rfl, _, _⟩ := GEL.shape h_r2
    · dsimp only; exact ger_ok h_e h_r0
    dsimp only
    exact ger_err
  case pNamed =>
    intro n0 r0 ts n0' r0' ts' h_n0 h_r0 h_ts
    unfold pNamed
    obtain ⟨rfl, rfl⟩ | ⟨n1, r1, n1', r1', rfl, rfl, h_n1, h_r1⟩ := GEL.shape h_r0
    · dsimp only; exact ih.pIndex (.column none (unifyName n0.src)) ([]) (.column none (unifyName n0'.src)) ([]) (by grind) h_r0
    dsimp only
    refine ger_if (T.has h_n1 PAREN) ?_ ?_
    · refine ger_if (gel_headIsOver h_r1) ?_ ?_
      · exact ih.pWindow ts ts' h_ts
      exact ih.pFuncIdx ts ts' h_ts
    refine ger_if (T.srcEq h_n1 "." (by decide)) ?_ ?_
    · exact ih.pQualified n0 r1 ts n0' r1' ts' h_n0 h_r1 h_ts
    exact ih.pIndex (.column none (unifyName n0.src)) (n1 :: r1) (.column none (unifyName n0'.src)) (n1' :: r1') (by grind) h_r0
  case pQualified =>
    intro n0 r1 ts n0' r1' ts' h_n0 h_r1 h_ts
    unfold pQualified
    obtain ⟨rfl, rfl⟩ | ⟨n2, r2, n2', r2', rfl, rfl, h_n2, h_r2⟩ := GEL.shape h_r1
    · dsimp only; exact ger_err
    dsimp only
    refine ger_if (T.has h_n2 NAME) ?_ ?_
    · refine ger_if (gel_searchMark h_r2 PAREN) ?_ ?_
      · exact ih.pFuncIdx ts ts' h_ts
      exact ih.pIndex (.column (some (unifyName n0.src)) (unifyName n2.src)) r2 (.column (some (unifyName n0'.src)) (unifyName n2'.src)) r2' (by grind) h_r2
    refine ger_if (T.srcEq h_n2 "*" (by decide)) ?_ ?_
    · exact ger_ok (by grind -funext) h_r2
    exact ger_err
  case pIndex =>
    intro before ts before' ts' h_before h_ts
    unfold pIndex
    obtain ⟨rfl, rfl⟩ | ⟨t, r, t', r', rfl, rfl, h_t, h_r⟩ := GEL.shape h_ts
    · dsimp only; exact ger_ok h_before h_ts
    dsimp only
    refine ger_if (T.has h_t ARRAY) ?_ ?_
    · rel_bind ih.pCompute t.children t'.children (T.children h_t) with i r2 i' r2' h_i h_r2
      obtain ⟨rfl, rfl⟩ | ⟨_, _, _, _, rfl, rfl, _, _⟩ := GEL.shape h_r2
      · dsimp only; exact ger_ok (by grind -funext) h_r
      dsimp only
      exact ger_err
    exact ger_ok h_before h_ts
  case pFuncIdx =>
    intro ts ts' h_ts
    unfold pFuncIdx
    rel_bind ih.pFunc ts ts' h_ts with e r e' r' h_e h_r
    exact ih.pIndex e r e' r' h_e h_r
  case pFunc =>
    intro ts ts' h_ts
    unfold pFunc
    rel_bind pFuncName_rel ts ts' h_ts with v1 r v1' r' h_v1 h_r
    obtain ⟨schema, name⟩ := v1; obtain ⟨schema', name'⟩ := v1'
    dsimp only
    refine ger_if (congr (congrArg and (g_fn h_v1).2.2.1) (T.fn_word h_v1 "CAST" (by decide))) ?_ ?_
    · exact ih.pCast r r' h_r
    refine ger_if (congr (congrArg and (g_fn h_v1).2.2.1) (T.fn_word h_v1 "EXTRACT" (by decide))) ?_ ?_
    · exact ih.pExtract r r' h_r
    refine ger_if (congr (congrArg and (g_fn h_v1).2.2.1) (T.fn_word h_v1 "IF" (by decide))) ?_ ?_
    · exact ih.pIfCall r r' h_r
    exact ih.pCall schema name r schema' name' r' h_v1 h_r
  case pIfCall =>
    intro r r' h_r
    unfold pIfCall
    obtain ⟨rfl, rfl⟩ | ⟨g, r', g', r'', rfl, rfl, h_g, h_rp⟩ := GEL.shape h_r
    · dsimp only; exact ger_err
    dsimp only
    rel_bind ih.pFirstArg g.children g'.children (T.children h_g) with acc r2 acc' r2' h_acc h_r2
    rel_bindx closed_rel (ih.pArgs acc r2 acc' r2' h_acc h_r2) with ps ps' h_ps
    exact ger_ok (by grind -funext) h_rp
  case pFirstDiscard =>
    intro inner inner' h_inner
    unfold pFirstDiscard
    refine gex_if (gel_isEmpty h_inner) ?_ ?_
    · exact gex_ok h_inner
    rel_bind ih.pOr inner inner' h_inner with v1 r2 v1' r2' h_v1 h_r2
    exact gex_ok h_r2
  case pFirstArg =>
    intro inner inner' h_inner
    unfold pFirstArg
    refine ger_if (gel_isEmpty h_inner) ?_ ?_
    · exact ger_ok rfl h_inner
    rel_bind ih.pOr inner inner' h_inner with e r2 e' r2' h_e h_r2
    exact ger_ok (by grind -funext) h_r2
  case pCall =>
    intro schema name r schema' name' r' h_name h_r
    unfold pCall
    obtain ⟨rfl, rfl⟩ | ⟨g, r', g', r'', rfl, rfl, h_g, h_rp⟩ := GEL.shape h_r
    · dsimp only; exact ger_err
    dsimp only
    rel_bind ih.pFirstArg (callPrep name g).2.2 (callPrep name' g').2.2 (by grind) with acc r2 acc' r2' h_acc h_r2
    rel_bindx closed_rel (ih.pArgs acc r2 acc' r2' h_acc h_r2) with ps ps' h_ps
    exact ger_ok (by grind -funext) h_rp
  case pArgs =>
    intro acc ts acc' ts' h_acc h_ts
    unfold pArgs
    have h_r := gel_moveStr h_ts "," (by decide)
    dsimp only
    refine ger_if h_r.1 ?_ ?_
    · rel_bind ih.pOr ((moveStr ts ",").2) ((moveStr ts' ",").2) h_r.2 with e r2 e' r2' h_e h_r2
      exact ih.pArgs (acc ++ [e]) r2 (acc' ++ [e']) r2' (by grind) h_r2
    exact ger_ok h_acc h_ts
  case pCase =>
    intro ts ts' h_ts
    unfold pCase
    rel_bind matchKw_rel h_ts "CASE" plainT_CASE with v1 r v1' r' h_v1 h_r
    refine ger_if (gel_searchStrUp h_r "WHEN" plainT_WHEN) ?_ ?_
    · rel_bind ih.pWhens [] r [] r' rfl h_r with cs r2 cs' r2' h_cs h_r2
      rel_bind ih.pElseEnd r2 r2' h_r2 with el r5 el' r5' h_el h_r5
      exact ger_ok (by grind -funext) h_r5
    rel_bind ih.pOr r r' h_r with v r1 v' r1' h_v h_r1
    rel_bind ih.pWhens [] r1 [] r1' rfl h_r1 with cs r2 cs' r2' h_cs h_r2
    rel_bind ih.pElseEnd r2 r2' h_r2 with el r5 el' r5' h_el h_r5
    exact ger_ok (by grind -funext) h_r5
  case pElseEnd =>
    intro r2 r2' h_r2
    unfold pElseEnd
    refine ger_if (gel_searchStrUp h_r2 "ELSE" plainT_ELSE) ?_ ?_
    · rel_bind ih.pOr (r2.drop 1) (r2'.drop 1) (gel_drop h_r2 1) with e r4 e' r4' h_e h_r4
      rel_bind matchKw_rel h_r4 "END" plainT_END with v1 r5 v1' r5' h_v1 h_r5
      exact ger_ok (by grind -funext) h_r5
    rel_bind matchKw_rel h_r2 "END" plainT_END with v2 r5 v2' r5' h_v2 h_r5
    exact ger_ok rfl h_r5
  case pWhens =>
    intro acc ts acc' ts' h_acc h_ts
    unfold pWhens
    have h_r := gel_moveStrUp h_ts "WHEN" plainT_WHEN
    dsimp only
    refine ger_if h_r.1 ?_ ?_
    · rel_bind ih.pOr ((moveStrUp ts "WHEN").2) ((moveStrUp ts' "WHEN").2) h_r.2 with w r1 w' r1' h_w h_r1
      rel_bind matchKw_rel h_r1 "THEN" plainT_THEN with v1 r2 v1' r2' h_v1 h_r2
      rel_bind ih.pOr r2 r2' h_r2 with t r3 t' r3' h_t h_r3
      exact ih.pWhens (acc ++ [(w, t)]) r3 (acc' ++ [(w', t')]) r3' (by grind) h_r3
    exact ger_ok h_acc h_ts
  case pUnary =>
    intro ts ts' h_ts
    unfold pUnary
    obtain ⟨rfl, rfl⟩ | ⟨t, r, t', r', rfl, rfl, h_t, h_r⟩ := GEL.shape h_ts
    · dsimp only; exact ih.pElement ([]) ([]) h_ts
    dsimp only
    refine ger_if (T.unarySet h_t d) ?_ ?_
    · rw [← T.computeOp h_t]
      generalize computeOp? (up t.src) = o1
      rcases o1 with _ | ⟨o, _⟩
      · exact ger_err
      rel_bind ih.pUnary r r' h_r with e r2 e' r2' h_e h_r2
      exact ger_ok (by grind -funext) h_r2
    exact ih.pElement (t :: r) (t' :: r') h_ts
  case pCompute =>
    intro ts ts' h_ts
    unfold pCompute
    rel_bind ih.pUnary ts ts' h_ts with e r e' r' h_e h_r
    exact ih.pComputeLoop [] e r [] e' r' rfl h_e h_r
  case pComputeLoop =>
    intro st top ts st' top' ts' h_st h_top h_ts
    unfold pComputeLoop
    obtain ⟨rfl, rfl⟩ | ⟨t, r, t', r', rfl, rfl, h_t, h_r⟩ := GEL.shape h_ts
    · dsimp only; exact ger_ok (by grind -funext) h_ts
    dsimp only
    rw [← T.computeOp h_t]
    generalize computeOp? (up t.src) = o1
    rcases o1 with _ | ⟨o, k⟩
    · exact ger_ok (by grind -funext) h_ts
    rel_bind ih.pUnary r r' h_r with e r2 e' r2' h_e h_r2
    exact ih.pComputeLoop ((((reduceWhile k st top).2), o, k) :: ((reduceWhile k st top).1)) e r2 ((((reduceWhile k st' top').2), o, k) :: ((reduceWhile k st' top').1)) e' r2' (by grind) h_e h_r2
  case pKeyword =>
    intro before ts before' ts' h_before h_ts
    unfold pKeyword
    refine ger_if (congr (congrArg and (optmap_isNone _ _ _ h_before)) (gel_searchStrUp h_ts "EXISTS" plainT_EXISTS)) ?_ ?_
    · rel_bind ih.pSubQuery (ts.drop 1) (ts'.drop 1) (gel_drop h_ts 1) with v r v' r' h_v h_r
      refine ger_if (gel_chainsOn h_r) ?_ ?_
      · exact ih.pKeyword (some (.exists_ v)) r (some (.exists_ v')) r' (by grind) h_r
      exact ger_ok (by grind -funext) h_r
    rel_bind ih.pKwFirst before ts before' ts' h_before h_ts with bv r0 bv' r0' h_bv h_r0
    exact ih.pKwRest bv (skipNot d r0).1 (skipNot d r0).2 bv' (skipNot d r0').1 (skipNot d r0').2 h_bv (by grind) (gel_skipNot h_r0 d).2
  case pKwFirst =>
    intro before ts before' ts' h_before h_ts
    unfold pKwFirst
    obtain ⟨rfl, rfl⟩ | ⟨b, b', rfl, rfl, h_b⟩ := optmap_shape _ _ _ h_before
    · dsimp only; exact ih.pCompute ts ts' h_ts
    dsimp only
    exact ger_ok h_b h_ts
  case pKwRest =>
    intro bv isNot r1 bv' isNot' r1' h_bv e_isNot h_r1
    subst e_isNot
    unfold pKwRest
    obtain ⟨rfl, rfl⟩ | ⟨t, r2, t', r2', rfl, rfl, h_t, h_r2⟩ := GEL.shape h_r1
    · dsimp only; refine ger_if rfl ?_ ?_
      · exact ger_err
      exact ger_ok h_bv h_r1
    dsimp only
    rel_bindx ih.pKwBody (up t.src) isNot bv r2 (up t'.src) isNot bv' r2' (T.kw h_t) rfl h_bv h_r2 with o1 o1' h_o1
    obtain ⟨rfl, rfl⟩ | ⟨v, r, v', r', rfl, rfl, h_v, h_r⟩ := gOpt.shape h_o1
    · dsimp only; refine ger_if rfl ?_ ?_
      · exact ger_err
      exact ger_ok h_bv h_r1
    dsimp only
    refine ger_if (gel_chainsOn h_r) ?_ ?_
    · exact ih.pKeyword (some v) r (some v') r' (by grind) h_r
    exact ger_ok h_v h_r
  case pKwBody =>
    intro k isNot bv r2 k' isNot' bv' r2' h_k e_isNot h_bv h_r2
    subst e_isNot
    unfold pKwBody
    refine gex_if (T.kw_strEq h_k "BETWEEN" plainT_BETWEEN) ?_ ?_
    · exact ih.pBetween isNot bv r2 isNot bv' r2' rfl h_bv h_r2
    refine gex_if (T.kw_strEq h_k "IS" plainT_IS) ?_ ?_
    · rel_bind ih.pCompute (if isNot then r2 else (moveStrUp r2 "NOT").2) (if isNot then r2' else (moveStrUp r2' "NOT").2) (by grind) with av r4 av' r4' h_av h_r4
      exact gex_ok (by grind -funext)
    refine gex_if (T.kw_strEq h_k "IN" plainT_IN) ?_ ?_
    · exact ih.pInBody isNot bv r2 isNot bv' r2' rfl h_bv h_r2
    refine gex_if (congr (congrArg or (congr (congrArg or (T.kw_strEq h_k "LIKE" plainT_LIKE)) (T.kw_strEq h_k "RLIKE" plainT_RLIKE))) (T.kw_strEq h_k "REGEXP" plainT_REGEXP)) ?_ ?_
    · rel_bind ih.pCompute r2 r2' h_r2 with av r3 av' r3' h_av h_r3
      have := T.kw_strEq h_k "LIKE" plainT_LIKE; simp only [strEq] at this
      have := T.kw_strEq h_k "RLIKE" plainT_RLIKE; simp only [strEq] at this
      exact gex_ok (by grind -funext)
    exact gex_ok (by grind -funext)
  case pBetween =>
    intro isNot bv r2 isNot' bv' r2' e_isNot h_bv h_r2
    subst e_isNot
    unfold pBetween
    rel_bind ih.pCompute r2 r2' h_r2 with fv r3 fv' r3' h_fv h_r3
    rel_bind matchKw_rel h_r3 "AND" plainT_AND with v1 r4 v1' r4' h_v1 h_r4
    rel_bind ih.pCompute r4 r4' h_r4 with tv r5 tv' r5' h_tv h_r5
    exact gex_ok (by grind -funext)
  case pInBody =>
    intro isNot bv r2 isNot' bv' r2' e_isNot h_bv h_r2
    subst e_isNot
    unfold pInBody
    obtain ⟨rfl, rfl⟩ | ⟨g, r3, g', r3', rfl, rfl, h_g, h_r3⟩ := GEL.shape h_r2
    · dsimp only; exact gex_err
    dsimp only
    refine gex_if (gel_startsSelect (T.children h_g)) ?_ ?_
    · rel_bind ih.pSubQuery (g :: r3) (g' :: r3') h_r2 with q r4 q' r4' h_q h_r4
      exact gex_ok (by grind -funext)
    rel_bindx ih.pSplit [] [] g.children [] [] g'.children rfl (by grind) (T.children h_g) with vs vs' h_vs
    exact gex_ok (by grind -funext)
  case pSplit => exact genF_pSplit d n ih
  case pCompare =>
    intro ts ts' h_ts
    unfold pCompare
    rel_bind ih.pKeyword none ts none ts' rfl h_ts with e r e' r' h_e h_r
    exact ih.pCompareLoop e r e' r' h_e h_r
  case pCompareLoop =>
    intro acc ts acc' ts' h_acc h_ts
    unfold pCompareLoop
    obtain ⟨rfl, rfl⟩ | ⟨t, r, t', r', rfl, rfl, h_t, h_r⟩ := GEL.shape h_ts
    · dsimp only; exact ger_ok h_acc h_ts
    dsimp only
    rw [← T.compareOp h_t]
    generalize compareOp? t.src = o1
    rcases o1 with _ | o
    · exact ger_ok h_acc h_ts
    rel_bind ih.pKeyword none r none r' rfl h_r with e r2 e' r2' h_e h_r2
    exact ih.pCompareLoop (.compare o acc e) r2 (.compare o acc' e') r2' (by grind) h_r2
  case pNot =>
    intro ts ts' h_ts
    unfold pNot
    obtain ⟨rfl, rfl⟩ | ⟨t, r, t', r', rfl, rfl, h_t, h_r⟩ := GEL.shape h_ts
    · dsimp only; exact ih.pCompare ([]) ([]) h_ts
    dsimp only
    refine ger_if (g_notSet h_t d) ?_ ?_
    · rel_bind ih.pNot r r' h_r with e r2 e' r2' h_e h_r2
      exact ger_ok (by grind -funext) h_r2
    exact ih.pCompare (t :: r) (t' :: r') h_ts
  case pAnd =>
    intro ts ts' h_ts
    unfold pAnd
    rel_bind ih.pNot ts ts' h_ts with e r e' r' h_e h_r
    exact ih.pAndLoop e r e' r' h_e h_r
  case pAndLoop =>
    intro acc ts acc' ts' h_acc h_ts
    unfold pAndLoop
    obtain ⟨rfl, rfl⟩ | ⟨t, r, t', r', rfl, rfl, h_t, h_r⟩ := GEL.shape h_ts
    · dsimp only; exact ger_ok h_acc h_ts
    dsimp only
    refine ger_if (congr (congrArg or (T.strEqUp h_t "AND" plainT_AND)) (T.strEqUp h_t "&&" plainT_k61)) ?_ ?_
    · rel_bind ih.pNot r r' h_r with e r2 e' r2' h_e h_r2
      exact ih.pAndLoop (.and_ acc e) r2 (.and_ acc' e') r2' (by grind) h_r2
    exact ger_ok h_acc h_ts
  case pXor =>
    intro ts ts' h_ts
    unfold pXor
    rel_bind ih.pAnd ts ts' h_ts with e r e' r' h_e h_r
    exact ih.pXorLoop e r e' r' h_e h_r
  case pXorLoop =>
    intro acc ts acc' ts' h_acc h_ts
    unfold pXorLoop
    refine ger_if (gel_searchStrUp h_ts "XOR" plainT_XOR) ?_ ?_
    · rel_bind ih.pAnd (ts.drop 1) (ts'.drop 1) (gel_drop h_ts 1) with e r2 e' r2' h_e h_r2
      exact ih.pXorLoop (.xor acc e) r2 (.xor acc' e') r2' (by grind) h_r2
    exact ger_ok h_acc h_ts
  case pOr =>
    intro ts ts' h_ts
    unfold pOr
    rel_bind ih.pXor ts ts' h_ts with e r e' r' h_e h_r
    exact ih.pOrLoop e r e' r' h_e h_r
  case pOrLoop =>
    intro acc ts acc' ts' h_acc h_ts
    unfold pOrLoop
    obtain ⟨rfl, rfl⟩ | ⟨t, r, t', r', rfl, rfl, h_t, h_r⟩ := GEL.shape h_ts
    · dsimp only; exact ger_ok h_acc h_ts
    dsimp only
    refine ger_if (congr (congrArg or (T.strEqUp h_t "OR" plainT_OR)) (T.strEqUp h_t "||" plainT_k64)) ?_ ?_
    · rel_bind ih.pXor r r' h_r with e r2 e' r2' h_e h_r2
      exact ih.pOrLoop (.or_ acc e) r2 (.or_ acc' e') r2' (by grind) h_r2
    exact ger_ok h_acc h_ts
  case pSubQuery =>
    intro ts ts' h_ts
    unfold pSubQuery
    obtain ⟨rfl, rfl⟩ | ⟨g, r, g', r', rfl, rfl, h_g, h_r⟩ := GEL.shape h_ts
    · dsimp only; exact ger_err
    dsimp only
    rel_bindx closed_rel (ih.pSelectStmt none g.children none g'.children rfl (T.children h_g)) with q q' h_q
    exact ger_ok (by grind -funext) h_r
  case pCast =>
    intro ts ts' h_ts
    unfold pCast
    obtain ⟨rfl, rfl⟩ | ⟨g, r, g', r', rfl, rfl, h_g, h_r⟩ := GEL.shape h_ts
    · dsimp only; exact ger_err
    dsimp only
    rel_bind ih.pCompute g.children g'.children (T.children h_g) with e r1 e' r1' h_e h_r1
    rel_bind matchSeq_rel h_r1 ["AS"] plainT_l8 with v1 r2 v1' r2' h_v1 h_r2
    rel_bindx castTail_rel e r2 e' r2' h_e h_r2 with c c' h_c
    exact ger_ok h_c h_r
  case pExtract =>
    intro ts ts' h_ts
    unfold pExtract
    obtain ⟨rfl, rfl⟩ | ⟨g, r, g', r', rfl, rfl, h_g, h_r⟩ := GEL.shape h_ts
    · dsimp only; exact ger_err
    dsimp only
    rel_bind ih.pCompute g.children g'.children (T.children h_g) with n r1 n' r1' h_n h_r1
    rel_bindx ih.pExtractTail n r1 n' r1' h_n h_r1 with x x' h_x
    exact ger_ok h_x h_r
  case pExtractTail =>
    intro n r1 n' r1' h_n h_r1
    unfold pExtractTail
    rel_bind matchSeq_rel h_r1 ["FROM"] plainT_l9 with v1 r2 v1' r2' h_v1 h_r2
    rel_bindx closed_rel (ih.pCompute r2 r2' h_r2) with c c' h_c
    exact gex_ok (by grind -funext)
  case pWindow =>
    intro ts ts' h_ts
    unfold pWindow
    rel_bind ih.pFuncIdx ts ts' h_ts with fn r fn' r' h_fn h_r
    rel_bind matchSeq_rel h_r ["OVER"] plainT_l10 with v1 r1 v1' r1' h_v1 h_r1
    obtain ⟨rfl, rfl⟩ | ⟨g, r2, g', r2', rfl, rfl, h_g, h_r2⟩ := GEL.shape h_r1
    · dsimp only; exact ger_err
    dsimp only
    rel_bindx ih.pWindowBody fn g.children fn' g'.children h_fn (T.children h_g) with w w' h_w
    exact ger_ok h_w h_r2
  case pWindowBody =>
    intro fn cs fn' cs' h_fn h_cs
    unfold pWindowBody
    rel_bind ih.pPartitionBy cs cs' h_cs with part r1 part' r1' h_part h_r1
    rel_bind ih.pOrderByOpt r1 r1' h_r1 with ord r2 ord' r2' h_ord h_r2
    refine gex_if (gel_searchTwoUp h_r2 "ROWS" "BETWEEN" plainT_ROWS plainT_BETWEEN) ?_ ?_
    · rel_bindx closed_rel (pWindowRow_rel r2 r2' h_r2) with rw rw' h_rw
      subst h_rw
      exact gex_ok (by grind -funext)
    refine gex_if (gel_isEmpty h_r2) ?_ ?_
    · exact gex_ok (by grind -funext)
    exact gex_err
  case pPartitionBy =>
    intro cs cs' h_cs
    unfold pPartitionBy
    refine ger_if (gel_searchTwoUp h_cs "PARTITION" "BY" plainT_PARTITION plainT_BY) ?_ ?_
    · rel_bind ih.pCompute (cs.drop 2) (cs'.drop 2) (gel_drop h_cs 2) with e r e' r' h_e h_r
      exact ih.pComputeList [e] r [e'] r' (by grind) h_r
    exact ger_ok rfl h_cs
  case pComputeList =>
    intro acc ts acc' ts' h_acc h_ts
    unfold pComputeList
    refine ger_if (gel_searchStr h_ts "," (by decide)) ?_ ?_
    · rel_bind ih.pCompute (ts.drop 1) (ts'.drop 1) (gel_drop h_ts 1) with e r e' r' h_e h_r
      exact ih.pComputeList (acc ++ [e]) r (acc' ++ [e']) r' (by grind) h_r
    exact ger_ok h_acc h_ts
  case pOrderItem =>
    intro ts ts' h_ts
    unfold pOrderItem
    rel_bind ih.pCompute ts ts' h_ts with e r e' r' h_e h_r
    exact orderTail_rel e r e' r' h_e h_r
  case pOrderList =>
    intro acc ts acc' ts' h_acc h_ts
    unfold pOrderList
    refine ger_if (gel_searchStr h_ts "," (by decide)) ?_ ?_
    · rel_bind ih.pOrderItem (ts.drop 1) (ts'.drop 1) (gel_drop h_ts 1) with o r o' r' h_o h_r
      exact ih.pOrderList (acc ++ [o]) r (acc' ++ [o']) r' (by grind) h_r
    exact ger_ok h_acc h_ts
  case pOrderByOpt =>
    intro ts ts' h_ts
    unfold pOrderByOpt
    refine ger_if (gel_searchTwoUp h_ts "ORDER" "BY" plainT_ORDER plainT_BY) ?_ ?_
    · rel_bind ih.pOrderItem (ts.drop 2) (ts'.drop 2) (gel_drop h_ts 2) with o r o' r' h_o h_r
      rel_bind ih.pOrderList [o] r [o'] r' (by grind) h_r with os r2 os' r2' h_os h_r2
      exact ger_ok (by grind -funext) h_r2
    exact ger_ok rfl h_ts
  case pSelectCol =>
    intro ts ts' h_ts
    unfold pSelectCol
    rel_bind ih.pOr ts ts' h_ts with e r e' r' h_e h_r
    rel_bind pAlias_rel r r' h_r with a r2 a' r2' h_a h_r2
    exact ger_ok (by grind -funext) h_r2
  case pSelectCols =>
    intro acc ts acc' ts' h_acc h_ts
    unfold pSelectCols
    refine ger_if (gel_searchStr h_ts "," (by decide)) ?_ ?_
    · rel_bind ih.pSelectCol (ts.drop 1) (ts'.drop 1) (gel_drop h_ts 1) with c r c' r' h_c h_r
      exact ih.pSelectCols (acc ++ [c]) r (acc' ++ [c']) r' (by grind) h_r
    exact ger_ok h_acc h_ts
  case pTableExpr => exact genF_pTableExpr d n ih
  case pFromTable =>
    intro ts ts' h_ts
    unfold pFromTable
    rel_bind ih.pTableExpr ts ts' h_ts with t r t' r' h_t h_r
    rel_bind pAlias_rel r r' h_r with a r2 a' r2' h_a h_r2
    exact ger_ok (by grind -funext) h_r2
  case pFromTables =>
    intro acc ts acc' ts' h_acc h_ts
    unfold pFromTables
    refine ger_if (gel_searchStr h_ts "," (by decide)) ?_ ?_
    · rel_bind ih.pFromTable (ts.drop 1) (ts'.drop 1) (gel_drop h_ts 1) with t r t' r' h_t h_r
      exact ih.pFromTables (acc ++ [t]) r (acc' ++ [t']) r' (by grind) h_r
    exact ger_ok h_acc h_ts
  case pJoin =>
    intro ts ts' h_ts
    unfold pJoin
    obtain ⟨hx, hy⟩ | ⟨jt, r, r', hx, hy, h_r⟩ := gel_firstEnum_join h_ts
    · simp only [hx, hy]; exact ger_err
    simp only [hx, hy]; clear hx hy
    rel_bind ih.pFromTable r r' h_r with t r1 t' r1' h_t h_r1
    exact ih.pJoinRule jt t r1 jt t' r1' rfl h_t h_r1
  case pJoinRule =>
    intro jt t r1 jt' t' r1' h_jt h_t h_r1
    unfold pJoinRule
    refine ger_if (congrArg not (gel_onUsingHead h_r1)) ?_ ?_
    · exact ger_ok (by grind -funext) h_r1
    refine ger_if (gel_searchStrUp h_r1 "ON" plainT_ON) ?_ ?_
    · rel_bind ih.pOr (r1.drop 1) (r1'.drop 1) (gel_drop h_r1 1) with c r2 c' r2' h_c h_r2
      exact ger_ok (by grind -funext) h_r2
    rel_bind ih.pFunc r1 r1' h_r1 with u r2 u' r2' h_u h_r2
    exact ger_ok (by grind -funext) h_r2
  case pJoins =>
    intro same outer acc inner same' outer' acc' inner' e_same h_outer h_acc h_inner
    subst e_same
    unfold pJoins
    refine ger_if (by grind) ?_ ?_
    · rel_bind ih.pJoin inner inner' h_inner with j r j' r' h_j h_r
      exact ih.pJoins same outer (acc ++ [j]) r same outer' (acc' ++ [j']) r' rfl h_outer (by grind) h_r
    exact ger_ok h_acc h_inner
  case pOptOr =>
    intro kwd ts kwd' ts' e_kwd p_kwd h_ts
    subst e_kwd
    unfold pOptOr
    refine ger_if (gel_searchStrUp h_ts kwd p_kwd) ?_ ?_
    · rel_bind ih.pOr (ts.drop 1) (ts'.drop 1) (gel_drop h_ts 1) with c r c' r' h_c h_r
      exact ger_ok (by grind -funext) h_r
    exact ger_ok rfl h_ts
  case pGroupingElem =>
    intro seg seg' h_seg
    unfold pGroupingElem
    obtain ⟨rfl, rfl⟩ | ⟨g, r, g', r', rfl, rfl, h_g, h_r⟩ := GEL.shape h_seg
    · dsimp only; rel_bindx closed_rel (ih.pCompute ([]) ([]) h_seg) with e e' h_e
      exact gex_ok (by grind -funext)
    dsimp only
    refine gex_if (T.has h_g PAREN) ?_ ?_
    · rel_bindx ih.pClosedEach [] (splitBy "," g.children [] []) [] (splitBy "," g'.children [] []) rfl (gel_splitBy0 (T.children h_g)) with es es' h_es
      refine gex_if (gel_isEmpty h_r) ?_ ?_
      · exact gex_ok h_es
      exact gex_err
    rel_bindx closed_rel (ih.pCompute (g :: r) (g' :: r') h_seg) with e e' h_e
    exact gex_ok (by grind -funext)
  case pClosedEach =>
    intro acc segs acc' segs' h_acc h_segs
    unfold pClosedEach
    obtain ⟨rfl, rfl⟩ | ⟨sg, rest, sg', rest', rfl, rfl, h_sg, h_rest⟩ := GELL.shape h_segs
    · dsimp only; exact gex_ok h_acc
    dsimp only
    rel_bindx closed_rel (ih.pCompute sg sg' h_sg) with e e' h_e
    exact ih.pClosedEach (acc ++ [e]) rest (acc' ++ [e']) rest' (by grind) h_rest
  case pGroupingElems =>
    intro acc segs acc' segs' h_acc h_segs
    unfold pGroupingElems
    obtain ⟨rfl, rfl⟩ | ⟨sg, rest, sg', rest', rfl, rfl, h_sg, h_rest⟩ := GELL.shape h_segs
    · dsimp only; exact gex_ok h_acc
    dsimp only
    rel_bindx ih.pGroupingElem sg sg' h_sg with es es' h_es
    exact ih.pGroupingElems (acc ++ [es]) rest (acc' ++ [es']) rest' (by grind) h_rest
  case pGroupingSets =>
    intro ts ts' h_ts
    unfold pGroupingSets
    rel_bind matchSeq_rel h_ts ["GROUPING", "SETS"] plainT_l11 with v1 r v1' r' h_v1 h_r
    obtain ⟨rfl, rfl⟩ | ⟨g, r', g', r'', rfl, rfl, h_g, h_rp⟩ := GEL.shape h_r
    · dsimp only; exact ger_err
    dsimp only
    rel_bindx ih.pGroupingElems [] (splitBy "," g.children [] []) [] (splitBy "," g'.children [] []) rfl (gel_splitBy0 (T.children h_g)) with gs gs' h_gs
    exact ger_ok h_gs h_rp
  case pGroupBy =>
    intro ts ts' h_ts
    unfold pGroupBy
    refine ger_if (congrArg not (gel_searchTwoUp h_ts "GROUP" "BY" plainT_GROUP plainT_BY)) ?_ ?_
    · exact ger_ok rfl h_ts
    rel_bind ih.pGroupCols (ts.drop 2) (ts'.drop 2) (gel_drop h_ts 2) with cols r cols' r' h_cols h_r
    rel_bind ih.pGroupSetsOpt r r' h_r with sets r1 sets' r1' h_sets h_r1
    have h_c := gel_moveTwoUp h_r1 "WITH" "CUBE" plainT_WITH plainT_CUBE
    have h_ro := gel_moveTwoUp h_c.2 "WITH" "ROLLUP" plainT_WITH plainT_ROLLUP
    exact ger_ok (by grind -funext) h_ro.2
  case pGroupCols =>
    intro ts ts' h_ts
    unfold pGroupCols
    refine ger_if (gel_searchTwoUp h_ts "GROUPING" "SETS" plainT_GROUPING plainT_SETS) ?_ ?_
    · exact ger_ok rfl h_ts
    rel_bind ih.pCompute ts ts' h_ts with e r e' r' h_e h_r
    exact ih.pComputeList [e] r [e'] r' (by grind) h_r
  case pGroupSetsOpt =>
    intro ts ts' h_ts
    unfold pGroupSetsOpt
    refine ger_if (gel_searchTwoUp h_ts "GROUPING" "SETS" plainT_GROUPING plainT_SETS) ?_ ?_
    · rel_bind ih.pGroupingSets ts ts' h_ts with g r g' r' h_g h_r
      exact ger_ok (by grind -funext) h_r
    exact ger_ok rfl h_ts
  case pWithTable =>
    intro ts ts' h_ts
    unfold pWithTable
    obtain ⟨rfl, rfl⟩ | ⟨n, r, n', r', rfl, rfl, h_n, h_r⟩ := GEL.shape h_ts
    · dsimp only; exact ger_err
    dsimp only
    rel_bind matchSeq_rel h_r ["AS"] plainT_l8 with v1 r1 v1' r1' h_v1 h_r1
    exact ih.pWithBody (unifyName n.src) r1 (unifyName n'.src) r1' (by grind) h_r1
  case pWithBody =>
    intro name r1 name' r1' h_name h_r1
    unfold pWithBody
    obtain ⟨rfl, rfl⟩ | ⟨g, r2, g', r2', rfl, rfl, h_g, h_r2⟩ := GEL.shape h_r1
    · dsimp only; exact ger_err
    dsimp only
    rel_bindx closed_rel (ih.pSelectStmt (some []) g.children (some []) g'.children rfl (T.children h_g)) with q q' h_q
    exact ger_ok (by grind -funext) h_r2
  case pWithTables =>
    intro acc ts acc' ts' h_acc h_ts
    unfold pWithTables
    refine ger_if (gel_searchStr h_ts "," (by decide)) ?_ ?_
    · rel_bind ih.pWithTable (ts.drop 1) (ts'.drop 1) (gel_drop h_ts 1) with w r w' r' h_w h_r
      exact ih.pWithTables (acc ++ [w]) r (acc' ++ [w']) r' (by grind) h_r
    exact ger_ok h_acc h_ts
  case pWith =>
    intro ts ts' h_ts
    unfold pWith
    refine ger_if (gel_searchStrUp h_ts "WITH" plainT_WITH) ?_ ?_
    · rel_bind ih.pWithTable (ts.drop 1) (ts'.drop 1) (gel_drop h_ts 1) with w r w' r' h_w h_r
      exact ih.pWithTables [w] r [w'] r' (by grind) h_r
    exact ger_ok rfl h_ts
  case pSelectBody =>
    intro withs same outer inner withs' same' outer' inner' h_withs e_same h_outer h_inner
    subst e_same
    unfold pSelectBody
    rel_bind matchSeq_rel h_inner ["SELECT"] plainT_l12 with v1 r0 v1' r0' h_v1 h_r0
    rel_bind ih.pSelectCol (moveStrUp r0 "DISTINCT").2 (moveStrUp r0' "DISTINCT").2 (gel_moveStrUp h_r0 "DISTINCT" plainT_DISTINCT).2 with c r1 c' r1' h_c h_r1
    rel_bind ih.pSelectCols [c] r1 [c'] r1' (by grind) h_r1 with cols r2 cols' r2' h_cols h_r2
    exact ih.pSelectRest withs (moveStrUp r0 "DISTINCT").1 cols same outer r2 withs' (moveStrUp r0' "DISTINCT").1 cols' same outer' r2' h_withs (by grind) h_cols rfl h_outer h_r2
  case pFromOpt =>
    intro ts ts' h_ts
    unfold pFromOpt
    refine ger_if (gel_searchStrUp h_ts "FROM" plainT_FROM) ?_ ?_
    · rel_bind ih.pFromTable (ts.drop 1) (ts'.drop 1) (gel_drop h_ts 1) with t r t' r' h_t h_r
      rel_bind ih.pFromTables [t] r [t'] r' (by grind) h_r with tsl r2 tsl' r2' h_tsl h_r2
      exact ger_ok (by grind -funext) h_r2
    exact ger_ok rfl h_ts
  case pSelectRest =>
    intro withs dist cols same outer inner withs' dist' cols' same' outer' inner' h_withs e_dist h_cols e_same h_outer h_inner
    subst e_dist e_same
    unfold pSelectRest
    rel_bind ih.pFromOpt inner inner' h_inner with fr r1 fr' r1' h_fr h_r1
    rel_bind ih.pLaterals same outer [] r1 same outer' [] r1' rfl h_outer rfl h_r1 with lats r1' lats' r1'' h_lats h_r1p
    rel_bind ih.pJoins same outer [] r1' same outer' [] r1'' rfl h_outer rfl h_r1p with js r2 js' r2' h_js h_r2
    exact ih.pSelectTail withs dist cols fr lats js r2 withs' dist cols' fr' lats' js' r2' h_withs rfl h_cols h_fr h_lats h_js h_r2
  case pSelectTail =>
    intro withs dist cols fr lats js ts withs' dist' cols' fr' lats' js' ts' h_withs e_dist h_cols h_fr h_lats h_js h_ts
    subst e_dist
    unfold pSelectTail
    rel_bind ih.pWhereGroup ts ts' h_ts with v1 r2 v1' r2' h_v1 h_r2
    obtain ⟨wh, gb⟩ := v1; obtain ⟨wh', gb'⟩ := v1'
    dsimp only
    rel_bind ih.pHavingOrder r2 r2' h_r2 with v2 r4 v2' r4' h_v2 h_r4
    obtain ⟨hv, ob⟩ := v2; obtain ⟨hv', ob'⟩ := v2'
    dsimp only
    rel_bind ih.pHiveClauses r4 r4' h_r4 with v3 r4' v3' r4'' h_v3 h_r4p
    obtain ⟨sb, db, cb⟩ := v3; obtain ⟨sb', db', cb'⟩ := v3'
    dsimp only
    rel_bind pLimit_rel r4' r4'' h_r4p with lm r5 lm' r5' h_lm h_r5
    subst h_lm
    exact ger_ok (by grind -funext) h_r5
  case pWhereGroup =>
    intro ts ts' h_ts
    unfold pWhereGroup
    rel_bind ih.pOptOr "WHERE" ts "WHERE" ts' rfl plainT_WHERE h_ts with wh r1 wh' r1' h_wh h_r1
    rel_bind ih.pGroupBy r1 r1' h_r1 with gb r2 gb' r2' h_gb h_r2
    exact ger_ok (by grind -funext) h_r2
  case pHavingOrder =>
    intro ts ts' h_ts
    unfold pHavingOrder
    rel_bind ih.pOptOr "HAVING" ts "HAVING" ts' rfl plainT_HAVING h_ts with hv r3 hv' r3' h_hv h_r3
    rel_bind ih.pOrderByOpt r3 r3' h_r3 with ob r4 ob' r4' h_ob h_r4
    exact ger_ok (by grind -funext) h_r4
  case pHiveClauses =>
    intro ts ts' h_ts
    unfold pHiveClauses
    rel_bind ih.pSortBy ts ts' h_ts with sb r1 sb' r1' h_sb h_r1
    rel_bind ih.pByList "DISTRIBUTE" r1 "DISTRIBUTE" r1' rfl plainT_DISTRIBUTE h_r1 with db r2 db' r2' h_db h_r2
    rel_bind ih.pByList "CLUSTER" r2 "CLUSTER" r2' rfl plainT_CLUSTER h_r2 with cb r3 cb' r3' h_cb h_r3
    exact ger_ok (by grind -funext) h_r3
  case pSortBy =>
    intro ts ts' h_ts
    unfold pSortBy
    refine ger_if (gel_searchTwoUp h_ts "SORT" "BY" plainT_SORT plainT_BY) ?_ ?_
    · rel_bind ih.pOrderItem (ts.drop 2) (ts'.drop 2) (gel_drop h_ts 2) with o r o' r' h_o h_r
      rel_bind ih.pOrderList [o] r [o'] r' (by grind) h_r with os r2 os' r2' h_os h_r2
      exact ger_ok (by grind -funext) h_r2
    exact ger_ok rfl h_ts
  case pByList =>
    intro kwd ts kwd' ts' e_kwd p_kwd h_ts
    subst e_kwd
    unfold pByList
    refine ger_if (gel_searchTwoUp h_ts kwd "BY" p_kwd plainT_BY) ?_ ?_
    · rel_bind ih.pCompute (ts.drop 2) (ts'.drop 2) (gel_drop h_ts 2) with e r e' r' h_e h_r
      rel_bind ih.pComputeList [e] r [e'] r' (by grind) h_r with es r2 es' r2' h_es h_r2
      exact ger_ok (by grind -funext) h_r2
    exact ger_ok rfl h_ts
  case pLateral =>
    intro ts ts' h_ts
    unfold pLateral
    rel_bind matchSeq_rel h_ts ["LATERAL", "VIEW"] plainT_l13 with v1 r0 v1' r0' h_v1 h_r0
    rel_bind ih.pFunc (moveStrUp r0 "OUTER").2 (moveStrUp r0' "OUTER").2 (gel_moveStrUp h_r0 "OUTER" plainT_OUTER).2 with fn r1 fn' r1' h_fn h_r1
    rel_bind popSrc_srcRel r1 r1' h_r1 with view r2 view' r2' h_view h_r2
    rel_bind pMultiAlias_rel r2 r2' h_r2 with as r3 as' r3' h_as h_r3
    exact ger_ok (by grind -funext) h_r3
  case pLaterals =>
    intro same outer acc inner same' outer' acc' inner' e_same h_outer h_acc h_inner
    subst e_same
    unfold pLaterals
    refine ger_if (by grind) ?_ ?_
    · rel_bind ih.pLateral inner inner' h_inner with l r l' r' h_l h_r
      exact ih.pLaterals same outer (acc ++ [l]) r same outer' (acc' ++ [l']) r' rfl h_outer (by grind) h_r
    exact ger_ok h_acc h_inner
  case pSingle =>
    intro withs ts withs' ts' h_withs h_ts
    unfold pSingle
    refine ger_if (congrArg not (gel_searchMark h_ts PAREN)) ?_ ?_
    · exact ih.pSelectBody withs true [] ts withs' true [] ts' h_withs rfl (by grind) h_ts
    obtain ⟨rfl, rfl⟩ | ⟨g, outer, g', outer', rfl, rfl, h_g, h_outer⟩ := GEL.shape h_ts
    · dsimp only; exact ger_err
    dsimp only
    exact ih.pSingleParen withs outer [g.children] g.children withs' outer' [g'.children] g'.children h_withs h_outer (by grind) (T.children h_g)
  case pSingleParen =>
    intro withs outer stack inner withs' outer' stack' inner' h_withs h_outer h_stack h_inner
    unfold pSingleParen
    refine ger_if (gel_searchMark h_inner PAREN) ?_ ?_
    · obtain ⟨rfl, rfl⟩ | ⟨g, outer', g', outer'', rfl, rfl, h_g, h_outerp⟩ := GEL.shape h_outer
      · dsimp only; exact ger_err
      dsimp only
      exact ih.pSingleParen withs outer' (g.children :: stack) g.children withs' outer'' (g'.children :: stack') g'.children h_withs h_outerp (by grind) (T.children h_g)
    rel_bind ih.pSelectBody withs false outer inner withs' false outer' inner' h_withs rfl h_outer h_inner with s rest s' rest' h_s h_rest
    refine ger_if (congrArg not (gel_isEmpty h_rest)) ?_ ?_
    · exact ger_err
    refine ger_if (by grind) ?_ ?_
    · exact ger_err
    exact ger_ok h_s h_outer
  case pSelectStmt => exact genF_pSelectStmt d n ih
  case pUnions => exact genF_pUnions d n ih

/-- **Invariance of the expression / SELECT parser under a token theory**: all 80 functions of the mutual block -/
theorem genF_all : ∀ n, GenF d n := by
  intro n
  induction n with
  | zero => constructor <;> (intros; simp [pElement, pParen, pNamed, pQualified, pIndex, pFuncIdx, pFunc, pIfCall, pFirstDiscard, pFirstArg, pCall, pArgs, pCase, pElseEnd, pWhens, pUnary, pCompute, pComputeLoop, pKeyword, pKwFirst, pKwRest, pKwBody, pBetween, pInBody, pSplit, pCompare, pCompareLoop, pNot, pAnd, pAndLoop, pXor, pXorLoop, pOr, pOrLoop, pSubQuery, pCast, pExtract, pExtractTail, pWindow, pWindowBody, pPartitionBy, pComputeList, pOrderItem, pOrderList, pOrderByOpt, pSelectCol, pSelectCols, pTableExpr, pFromTable, pFromTables, pJoin, pJoinRule, pJoins, pOptOr, pGroupingElem, pClosedEach, pGroupingElems, pGroupingSets, pGroupBy, pGroupCols, pGroupSetsOpt, pWithTable, pWithBody, pWithTables, pWith, pSelectBody, pFromOpt, pSelectRest, pSelectTail, pWhereGroup, pHavingOrder, pHiveClauses, pSortBy, pByList, pLateral, pLaterals, pSingle, pSingleParen, pSelectStmt, pUnions])
  | succ n ih => exact genF_succ d n ih

end PM.Rel
