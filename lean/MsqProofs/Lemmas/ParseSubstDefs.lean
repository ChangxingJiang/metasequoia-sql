import MsqProofs.Lemmas.ParseSubst3
/-! C06, parser half: the statement about the mutual block of MsqModel/Parse/Expr.lean at one fuel, as a record -/
set_option linter.unusedVariables false
set_option linter.unusedSectionVars false
set_option linter.unusedSimpArgs false
open Lex PM Ast
namespace PMQ
variable [S : PaySet]

/-- every function of the mutual block, with fuel `n`, on related arguments (tokens / cursors that differ only inside quoted regions, trees equal after erasure): the same outcome, trees equal after the erasure of payload texts -/
structure SubF (d : Gen.D) (n : Nat) : Prop where
  pElement : ∀ x0 y0, QEL x0 y0 → QER (qeq erE) (pElement d n x0) (pElement d n y0)
  pParen : ∀ x0 x1 y0 y1, QE x0 y0 → QEL x1 y1 → QER (qeq erE) (pParen d n x0 x1) (pParen d n y0 y1)
  pNamed : ∀ x0 x1 x2 y0 y1 y2, QE x0 y0 → QEL x1 y1 → QEL x2 y2 → QER (qeq erE) (pNamed d n x0 x1 x2) (pNamed d n y0 y1 y2)
  pQualified : ∀ x0 x1 x2 y0 y1 y2, QE x0 y0 → QEL x1 y1 → QEL x2 y2 → QER (qeq erE) (pQualified d n x0 x1 x2) (pQualified d n y0 y1 y2)
  pIndex : ∀ x0 x1 y0 y1, qeq erE x0 y0 → QEL x1 y1 → QER (qeq erE) (pIndex d n x0 x1) (pIndex d n y0 y1)
  pFuncIdx : ∀ x0 y0, QEL x0 y0 → QER (qeq erE) (pFuncIdx d n x0) (pFuncIdx d n y0)
  pFunc : ∀ x0 y0, QEL x0 y0 → QER (qeq erE) (pFunc d n x0) (pFunc d n y0)
  pIfCall : ∀ x0 y0, QEL x0 y0 → QER (qeq erE) (pIfCall d n x0) (pIfCall d n y0)
  pFirstDiscard : ∀ x0 y0, QEL x0 y0 → QEX QEL (pFirstDiscard d n x0) (pFirstDiscard d n y0)
  pFirstArg : ∀ x0 y0, QEL x0 y0 → QER (qeq (List.map erE)) (pFirstArg d n x0) (pFirstArg d n y0)
  pCall : ∀ x0 x1 x2 y0 y1 y2, qeq (Option.map er) x0 y0 → qeq er x1 y1 → QEL x2 y2 → QER (qeq erE) (pCall d n x0 x1 x2) (pCall d n y0 y1 y2)
  pArgs : ∀ x0 x1 y0 y1, qeq (List.map erE) x0 y0 → QEL x1 y1 → QER (qeq (List.map erE)) (pArgs d n x0 x1) (pArgs d n y0 y1)
  pCase : ∀ x0 y0, QEL x0 y0 → QER (qeq erE) (pCase d n x0) (pCase d n y0)
  pElseEnd : ∀ x0 y0, QEL x0 y0 → QER (qeq (Option.map erE)) (pElseEnd d n x0) (pElseEnd d n y0)
  pWhens : ∀ x0 x1 y0 y1, qeq (List.map (Prod.map erE erE)) x0 y0 → QEL x1 y1 → QER (qeq (List.map (Prod.map erE erE))) (pWhens d n x0 x1) (pWhens d n y0 y1)
  pUnary : ∀ x0 y0, QEL x0 y0 → QER (qeq erE) (pUnary d n x0) (pUnary d n y0)
  pCompute : ∀ x0 y0, QEL x0 y0 → QER (qeq erE) (pCompute d n x0) (pCompute d n y0)
  pComputeLoop : ∀ x0 x1 x2 y0 y1 y2, qeq erSt x0 y0 → qeq erE x1 y1 → QEL x2 y2 → QER (qeq erE) (pComputeLoop d n x0 x1 x2) (pComputeLoop d n y0 y1 y2)
  pKeyword : ∀ x0 x1 y0 y1, qeq (Option.map erE) x0 y0 → QEL x1 y1 → QER (qeq erE) (pKeyword d n x0 x1) (pKeyword d n y0 y1)
  pKwFirst : ∀ x0 x1 y0 y1, qeq (Option.map erE) x0 y0 → QEL x1 y1 → QER (qeq erE) (pKwFirst d n x0 x1) (pKwFirst d n y0 y1)
  pKwRest : ∀ x0 x1 x2 y0 y1 y2, qeq erE x0 y0 → x1 = y1 → QEL x2 y2 → QER (qeq erE) (pKwRest d n x0 x1 x2) (pKwRest d n y0 y1 y2)
  pKwBody : ∀ x0 x1 x2 x3 y0 y1 y2 y3, kwRel x0 y0 → x1 = y1 → qeq erE x2 y2 → QEL x3 y3 → QEX (qeOpt (qeq erE)) (pKwBody d n x0 x1 x2 x3) (pKwBody d n y0 y1 y2 y3)
  pBetween : ∀ x0 x1 x2 y0 y1 y2, x0 = y0 → qeq erE x1 y1 → QEL x2 y2 → QEX (qeOpt (qeq erE)) (pBetween d n x0 x1 x2) (pBetween d n y0 y1 y2)
  pInBody : ∀ x0 x1 x2 y0 y1 y2, x0 = y0 → qeq erE x1 y1 → QEL x2 y2 → QEX (qeOpt (qeq erE)) (pInBody d n x0 x1 x2) (pInBody d n y0 y1 y2)
  pSplit : ∀ x0 x1 x2 y0 y1 y2, qeq (List.map erE) x0 y0 → QEL x1 y1 → QEL x2 y2 → QEX (qeq (List.map erE)) (pSplit d n x0 x1 x2) (pSplit d n y0 y1 y2)
  pCompare : ∀ x0 y0, QEL x0 y0 → QER (qeq erE) (pCompare d n x0) (pCompare d n y0)
  pCompareLoop : ∀ x0 x1 y0 y1, qeq erE x0 y0 → QEL x1 y1 → QER (qeq erE) (pCompareLoop d n x0 x1) (pCompareLoop d n y0 y1)
  pNot : ∀ x0 y0, QEL x0 y0 → QER (qeq erE) (pNot d n x0) (pNot d n y0)
  pAnd : ∀ x0 y0, QEL x0 y0 → QER (qeq erE) (pAnd d n x0) (pAnd d n y0)
  pAndLoop : ∀ x0 x1 y0 y1, qeq erE x0 y0 → QEL x1 y1 → QER (qeq erE) (pAndLoop d n x0 x1) (pAndLoop d n y0 y1)
  pXor : ∀ x0 y0, QEL x0 y0 → QER (qeq erE) (pXor d n x0) (pXor d n y0)
  pXorLoop : ∀ x0 x1 y0 y1, qeq erE x0 y0 → QEL x1 y1 → QER (qeq erE) (pXorLoop d n x0 x1) (pXorLoop d n y0 y1)
  pOr : ∀ x0 y0, QEL x0 y0 → QER (qeq erE) (pOr d n x0) (pOr d n y0)
  pOrLoop : ∀ x0 x1 y0 y1, qeq erE x0 y0 → QEL x1 y1 → QER (qeq erE) (pOrLoop d n x0 x1) (pOrLoop d n y0 y1)
  pSubQuery : ∀ x0 y0, QEL x0 y0 → QER (qeq erE) (pSubQuery d n x0) (pSubQuery d n y0)
  pCast : ∀ x0 y0, QEL x0 y0 → QER (qeq erE) (pCast d n x0) (pCast d n y0)
  pExtract : ∀ x0 y0, QEL x0 y0 → QER (qeq erE) (pExtract d n x0) (pExtract d n y0)
  pExtractTail : ∀ x0 x1 y0 y1, qeq erE x0 y0 → QEL x1 y1 → QEX (qeq erE) (pExtractTail d n x0 x1) (pExtractTail d n y0 y1)
  pWindow : ∀ x0 y0, QEL x0 y0 → QER (qeq erE) (pWindow d n x0) (pWindow d n y0)
  pWindowBody : ∀ x0 x1 y0 y1, qeq erE x0 y0 → QEL x1 y1 → QEX (qeq erE) (pWindowBody d n x0 x1) (pWindowBody d n y0 y1)
  pPartitionBy : ∀ x0 y0, QEL x0 y0 → QER (qeq (List.map erE)) (pPartitionBy d n x0) (pPartitionBy d n y0)
  pComputeList : ∀ x0 x1 y0 y1, qeq (List.map erE) x0 y0 → QEL x1 y1 → QER (qeq (List.map erE)) (pComputeList d n x0 x1) (pComputeList d n y0 y1)
  pOrderItem : ∀ x0 y0, QEL x0 y0 → QER (qeq erO) (pOrderItem d n x0) (pOrderItem d n y0)
  pOrderList : ∀ x0 x1 y0 y1, qeq (List.map erO) x0 y0 → QEL x1 y1 → QER (qeq (List.map erO)) (pOrderList d n x0 x1) (pOrderList d n y0 y1)
  pOrderByOpt : ∀ x0 y0, QEL x0 y0 → QER (qeq (Option.map (List.map erO))) (pOrderByOpt d n x0) (pOrderByOpt d n y0)
  pSelectCol : ∀ x0 y0, QEL x0 y0 → QER (qeq (Prod.map erE (Option.map er))) (pSelectCol d n x0) (pSelectCol d n y0)
  pSelectCols : ∀ x0 x1 y0 y1, qeq (List.map (Prod.map erE (Option.map er))) x0 y0 → QEL x1 y1 → QER (qeq (List.map (Prod.map erE (Option.map er)))) (pSelectCols d n x0 x1) (pSelectCols d n y0 y1)
  pTableExpr : ∀ x0 y0, QEL x0 y0 → QER (qeq erTR) (pTableExpr d n x0) (pTableExpr d n y0)
  pFromTable : ∀ x0 y0, QEL x0 y0 → QER (qeq erFT) (pFromTable d n x0) (pFromTable d n y0)
  pFromTables : ∀ x0 x1 y0 y1, qeq (List.map erFT) x0 y0 → QEL x1 y1 → QER (qeq (List.map erFT)) (pFromTables d n x0 x1) (pFromTables d n y0 y1)
  pJoin : ∀ x0 y0, QEL x0 y0 → QER (qeq erJ) (pJoin d n x0) (pJoin d n y0)
  pJoinRule : ∀ x0 x1 x2 y0 y1 y2, qeq er x0 y0 → qeq erFT x1 y1 → QEL x2 y2 → QER (qeq erJ) (pJoinRule d n x0 x1 x2) (pJoinRule d n y0 y1 y2)
  pJoins : ∀ x0 x1 x2 x3 y0 y1 y2 y3, x0 = y0 → QEL x1 y1 → qeq (List.map erJ) x2 y2 → QEL x3 y3 → QER (qeq (List.map erJ)) (pJoins d n x0 x1 x2 x3) (pJoins d n y0 y1 y2 y3)
  pOptOr : ∀ x0 x1 y0 y1, x0 = y0 → plainB x0 = true → QEL x1 y1 → QER (qeq (Option.map erE)) (pOptOr d n x0 x1) (pOptOr d n y0 y1)
  pGroupingElem : ∀ x0 y0, QEL x0 y0 → QEX (qeq (List.map erE)) (pGroupingElem d n x0) (pGroupingElem d n y0)
  pClosedEach : ∀ x0 x1 y0 y1, qeq (List.map erE) x0 y0 → QELL x1 y1 → QEX (qeq (List.map erE)) (pClosedEach d n x0 x1) (pClosedEach d n y0 y1)
  pGroupingElems : ∀ x0 x1 y0 y1, qeq (List.map (List.map erE)) x0 y0 → QELL x1 y1 → QEX (qeq (List.map (List.map erE))) (pGroupingElems d n x0 x1) (pGroupingElems d n y0 y1)
  pGroupingSets : ∀ x0 y0, QEL x0 y0 → QER (qeq (List.map (List.map erE))) (pGroupingSets d n x0) (pGroupingSets d n y0)
  pGroupBy : ∀ x0 y0, QEL x0 y0 → QER (qeq (Option.map erG)) (pGroupBy d n x0) (pGroupBy d n y0)
  pGroupCols : ∀ x0 y0, QEL x0 y0 → QER (qeq (List.map erE)) (pGroupCols d n x0) (pGroupCols d n y0)
  pGroupSetsOpt : ∀ x0 y0, QEL x0 y0 → QER (qeq (Option.map (List.map (List.map erE)))) (pGroupSetsOpt d n x0) (pGroupSetsOpt d n y0)
  pWithTable : ∀ x0 y0, QEL x0 y0 → QER (qeq erW) (pWithTable d n x0) (pWithTable d n y0)
  pWithBody : ∀ x0 x1 y0 y1, qeq er x0 y0 → QEL x1 y1 → QER (qeq erW) (pWithBody d n x0 x1) (pWithBody d n y0 y1)
  pWithTables : ∀ x0 x1 y0 y1, qeq (List.map erW) x0 y0 → QEL x1 y1 → QER (qeq (List.map erW)) (pWithTables d n x0 x1) (pWithTables d n y0 y1)
  pWith : ∀ x0 y0, QEL x0 y0 → QER (qeq (List.map erW)) (pWith d n x0) (pWith d n y0)
  pSelectBody : ∀ x0 x1 x2 x3 y0 y1 y2 y3, qeq (List.map erW) x0 y0 → x1 = y1 → QEL x2 y2 → QEL x3 y3 → QER (qeq erS) (pSelectBody d n x0 x1 x2 x3) (pSelectBody d n y0 y1 y2 y3)
  pFromOpt : ∀ x0 y0, QEL x0 y0 → QER (qeq (Option.map (List.map erFT))) (pFromOpt d n x0) (pFromOpt d n y0)
  pSelectRest : ∀ x0 x1 x2 x3 x4 x5 y0 y1 y2 y3 y4 y5, qeq (List.map erW) x0 y0 → x1 = y1 → qeq (List.map (Prod.map erE (Option.map er))) x2 y2 → x3 = y3 → QEL x4 y4 → QEL x5 y5 → QER (qeq erS) (pSelectRest d n x0 x1 x2 x3 x4 x5) (pSelectRest d n y0 y1 y2 y3 y4 y5)
  pSelectTail : ∀ x0 x1 x2 x3 x4 x5 x6 y0 y1 y2 y3 y4 y5 y6, qeq (List.map erW) x0 y0 → x1 = y1 → qeq (List.map (Prod.map erE (Option.map er))) x2 y2 → qeq (Option.map (List.map erFT)) x3 y3 → qeq (List.map erLat) x4 y4 → qeq (List.map erJ) x5 y5 → QEL x6 y6 → QER (qeq erS) (pSelectTail d n x0 x1 x2 x3 x4 x5 x6) (pSelectTail d n y0 y1 y2 y3 y4 y5 y6)
  pWhereGroup : ∀ x0 y0, QEL x0 y0 → QER (qeq (Prod.map (Option.map erE) (Option.map erG))) (pWhereGroup d n x0) (pWhereGroup d n y0)
  pHavingOrder : ∀ x0 y0, QEL x0 y0 → QER (qeq (Prod.map (Option.map erE) (Option.map (List.map erO)))) (pHavingOrder d n x0) (pHavingOrder d n y0)
  pHiveClauses : ∀ x0 y0, QEL x0 y0 → QER (qeq (Prod.map (Option.map (List.map erO)) (Prod.map (Option.map (List.map erE)) (Option.map (List.map erE))))) (pHiveClauses d n x0) (pHiveClauses d n y0)
  pSortBy : ∀ x0 y0, QEL x0 y0 → QER (qeq (Option.map (List.map erO))) (pSortBy d n x0) (pSortBy d n y0)
  pByList : ∀ x0 x1 y0 y1, x0 = y0 → plainB x0 = true → QEL x1 y1 → QER (qeq (Option.map (List.map erE))) (pByList d n x0 x1) (pByList d n y0 y1)
  pLateral : ∀ x0 y0, QEL x0 y0 → QER (qeq erLat) (pLateral d n x0) (pLateral d n y0)
  pLaterals : ∀ x0 x1 x2 x3 y0 y1 y2 y3, x0 = y0 → QEL x1 y1 → qeq (List.map erLat) x2 y2 → QEL x3 y3 → QER (qeq (List.map erLat)) (pLaterals d n x0 x1 x2 x3) (pLaterals d n y0 y1 y2 y3)
  pSingle : ∀ x0 x1 y0 y1, qeq (List.map erW) x0 y0 → QEL x1 y1 → QER (qeq erS) (pSingle d n x0 x1) (pSingle d n y0 y1)
  pSingleParen : ∀ x0 x1 x2 x3 y0 y1 y2 y3, qeq (List.map erW) x0 y0 → QEL x1 y1 → QELL x2 y2 → QEL x3 y3 → QER (qeq erS) (pSingleParen d n x0 x1 x2 x3) (pSingleParen d n y0 y1 y2 y3)
  pSelectStmt : ∀ x0 x1 y0 y1, qeq (Option.map (List.map erW)) x0 y0 → QEL x1 y1 → QER (qeq erQ) (pSelectStmt d n x0 x1) (pSelectStmt d n y0 y1)
  pUnions : ∀ x0 x1 x2 y0 y1 y2, qeq (List.map erW) x0 y0 → qeq (List.map (Prod.map er erS)) x1 y1 → QEL x2 y2 → QER (qeq (List.map (Prod.map er erS))) (pUnions d n x0 x1 x2) (pUnions d n y0 y1 y2)

grind_pattern SubF.pElement => SubF d n, pElement d n x0, pElement d n y0
grind_pattern SubF.pParen => SubF d n, pParen d n x0 x1, pParen d n y0 y1
grind_pattern SubF.pNamed => SubF d n, pNamed d n x0 x1 x2, pNamed d n y0 y1 y2
grind_pattern SubF.pQualified => SubF d n, pQualified d n x0 x1 x2, pQualified d n y0 y1 y2
grind_pattern SubF.pIndex => SubF d n, pIndex d n x0 x1, pIndex d n y0 y1
grind_pattern SubF.pFuncIdx => SubF d n, pFuncIdx d n x0, pFuncIdx d n y0
grind_pattern SubF.pFunc => SubF d n, pFunc d n x0, pFunc d n y0
grind_pattern SubF.pIfCall => SubF d n, pIfCall d n x0, pIfCall d n y0
grind_pattern SubF.pFirstDiscard => SubF d n, pFirstDiscard d n x0, pFirstDiscard d n y0
grind_pattern SubF.pFirstArg => SubF d n, pFirstArg d n x0, pFirstArg d n y0
grind_pattern SubF.pCall => SubF d n, pCall d n x0 x1 x2, pCall d n y0 y1 y2
grind_pattern SubF.pArgs => SubF d n, pArgs d n x0 x1, pArgs d n y0 y1
grind_pattern SubF.pCase => SubF d n, pCase d n x0, pCase d n y0
grind_pattern SubF.pElseEnd => SubF d n, pElseEnd d n x0, pElseEnd d n y0
grind_pattern SubF.pWhens => SubF d n, pWhens d n x0 x1, pWhens d n y0 y1
grind_pattern SubF.pUnary => SubF d n, pUnary d n x0, pUnary d n y0
grind_pattern SubF.pCompute => SubF d n, pCompute d n x0, pCompute d n y0
grind_pattern SubF.pComputeLoop => SubF d n, pComputeLoop d n x0 x1 x2, pComputeLoop d n y0 y1 y2
grind_pattern SubF.pKeyword => SubF d n, pKeyword d n x0 x1, pKeyword d n y0 y1
grind_pattern SubF.pKwFirst => SubF d n, pKwFirst d n x0 x1, pKwFirst d n y0 y1
grind_pattern SubF.pKwRest => SubF d n, pKwRest d n x0 x1 x2, pKwRest d n y0 y1 y2
grind_pattern SubF.pKwBody => SubF d n, pKwBody d n x0 x1 x2 x3, pKwBody d n y0 y1 y2 y3
grind_pattern SubF.pBetween => SubF d n, pBetween d n x0 x1 x2, pBetween d n y0 y1 y2
grind_pattern SubF.pInBody => SubF d n, pInBody d n x0 x1 x2, pInBody d n y0 y1 y2
grind_pattern SubF.pSplit => SubF d n, pSplit d n x0 x1 x2, pSplit d n y0 y1 y2
grind_pattern SubF.pCompare => SubF d n, pCompare d n x0, pCompare d n y0
grind_pattern SubF.pCompareLoop => SubF d n, pCompareLoop d n x0 x1, pCompareLoop d n y0 y1
grind_pattern SubF.pNot => SubF d n, pNot d n x0, pNot d n y0
grind_pattern SubF.pAnd => SubF d n, pAnd d n x0, pAnd d n y0
grind_pattern SubF.pAndLoop => SubF d n, pAndLoop d n x0 x1, pAndLoop d n y0 y1
grind_pattern SubF.pXor => SubF d n, pXor d n x0, pXor d n y0
grind_pattern SubF.pXorLoop => SubF d n, pXorLoop d n x0 x1, pXorLoop d n y0 y1
grind_pattern SubF.pOr => SubF d n, pOr d n x0, pOr d n y0
grind_pattern SubF.pOrLoop => SubF d n, pOrLoop d n x0 x1, pOrLoop d n y0 y1
grind_pattern SubF.pSubQuery => SubF d n, pSubQuery d n x0, pSubQuery d n y0
grind_pattern SubF.pCast => SubF d n, pCast d n x0, pCast d n y0
grind_pattern SubF.pExtract => SubF d n, pExtract d n x0, pExtract d n y0
grind_pattern SubF.pExtractTail => SubF d n, pExtractTail d n x0 x1, pExtractTail d n y0 y1
grind_pattern SubF.pWindow => SubF d n, pWindow d n x0, pWindow d n y0
grind_pattern SubF.pWindowBody => SubF d n, pWindowBody d n x0 x1, pWindowBody d n y0 y1
grind_pattern SubF.pPartitionBy => SubF d n, pPartitionBy d n x0, pPartitionBy d n y0
grind_pattern SubF.pComputeList => SubF d n, pComputeList d n x0 x1, pComputeList d n y0 y1
grind_pattern SubF.pOrderItem => SubF d n, pOrderItem d n x0, pOrderItem d n y0
grind_pattern SubF.pOrderList => SubF d n, pOrderList d n x0 x1, pOrderList d n y0 y1
grind_pattern SubF.pOrderByOpt => SubF d n, pOrderByOpt d n x0, pOrderByOpt d n y0
grind_pattern SubF.pSelectCol => SubF d n, pSelectCol d n x0, pSelectCol d n y0
grind_pattern SubF.pSelectCols => SubF d n, pSelectCols d n x0 x1, pSelectCols d n y0 y1
grind_pattern SubF.pTableExpr => SubF d n, pTableExpr d n x0, pTableExpr d n y0
grind_pattern SubF.pFromTable => SubF d n, pFromTable d n x0, pFromTable d n y0
grind_pattern SubF.pFromTables => SubF d n, pFromTables d n x0 x1, pFromTables d n y0 y1
grind_pattern SubF.pJoin => SubF d n, pJoin d n x0, pJoin d n y0
grind_pattern SubF.pJoinRule => SubF d n, pJoinRule d n x0 x1 x2, pJoinRule d n y0 y1 y2
grind_pattern SubF.pJoins => SubF d n, pJoins d n x0 x1 x2 x3, pJoins d n y0 y1 y2 y3
grind_pattern SubF.pOptOr => SubF d n, pOptOr d n x0 x1, pOptOr d n y0 y1
grind_pattern SubF.pGroupingElem => SubF d n, pGroupingElem d n x0, pGroupingElem d n y0
grind_pattern SubF.pClosedEach => SubF d n, pClosedEach d n x0 x1, pClosedEach d n y0 y1
grind_pattern SubF.pGroupingElems => SubF d n, pGroupingElems d n x0 x1, pGroupingElems d n y0 y1
grind_pattern SubF.pGroupingSets => SubF d n, pGroupingSets d n x0, pGroupingSets d n y0
grind_pattern SubF.pGroupBy => SubF d n, pGroupBy d n x0, pGroupBy d n y0
grind_pattern SubF.pGroupCols => SubF d n, pGroupCols d n x0, pGroupCols d n y0
grind_pattern SubF.pGroupSetsOpt => SubF d n, pGroupSetsOpt d n x0, pGroupSetsOpt d n y0
grind_pattern SubF.pWithTable => SubF d n, pWithTable d n x0, pWithTable d n y0
grind_pattern SubF.pWithBody => SubF d n, pWithBody d n x0 x1, pWithBody d n y0 y1
grind_pattern SubF.pWithTables => SubF d n, pWithTables d n x0 x1, pWithTables d n y0 y1
grind_pattern SubF.pWith => SubF d n, pWith d n x0, pWith d n y0
grind_pattern SubF.pSelectBody => SubF d n, pSelectBody d n x0 x1 x2 x3, pSelectBody d n y0 y1 y2 y3
grind_pattern SubF.pFromOpt => SubF d n, pFromOpt d n x0, pFromOpt d n y0
grind_pattern SubF.pSelectRest => SubF d n, pSelectRest d n x0 x1 x2 x3 x4 x5, pSelectRest d n y0 y1 y2 y3 y4 y5
grind_pattern SubF.pSelectTail => SubF d n, pSelectTail d n x0 x1 x2 x3 x4 x5 x6, pSelectTail d n y0 y1 y2 y3 y4 y5 y6
grind_pattern SubF.pWhereGroup => SubF d n, pWhereGroup d n x0, pWhereGroup d n y0
grind_pattern SubF.pHavingOrder => SubF d n, pHavingOrder d n x0, pHavingOrder d n y0
grind_pattern SubF.pHiveClauses => SubF d n, pHiveClauses d n x0, pHiveClauses d n y0
grind_pattern SubF.pSortBy => SubF d n, pSortBy d n x0, pSortBy d n y0
grind_pattern SubF.pByList => SubF d n, pByList d n x0 x1, pByList d n y0 y1
grind_pattern SubF.pLateral => SubF d n, pLateral d n x0, pLateral d n y0
grind_pattern SubF.pLaterals => SubF d n, pLaterals d n x0 x1 x2 x3, pLaterals d n y0 y1 y2 y3
grind_pattern SubF.pSingle => SubF d n, pSingle d n x0 x1, pSingle d n y0 y1
grind_pattern SubF.pSingleParen => SubF d n, pSingleParen d n x0 x1 x2 x3, pSingleParen d n y0 y1 y2 y3
grind_pattern SubF.pSelectStmt => SubF d n, pSelectStmt d n x0 x1, pSelectStmt d n y0 y1
grind_pattern SubF.pUnions => SubF d n, pUnions d n x0 x1 x2, pUnions d n y0 y1 y2

end PMQ
