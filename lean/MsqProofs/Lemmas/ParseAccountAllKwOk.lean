import MsqProofs.Lemmas.ParseAccountAllKw
/-! GENERATED by tools/gen_account_all.py — C08: the words the accounting lemmas name are grammar words -/
namespace PA

def isKW (s : String) : Bool := KWA.contains s
/-- a constant of the model that is compared with upper-cased sources (`equals`, `*_use_upper`) or with raw sources -/
def kwOk (k : String) : Bool := isKW k && isKW (up k)

/-- `k` is word `j` of entry `i` of `kwOf` (the first function of the model that compares with it), so it is in `KWA` by the construction of `KWA`; what is left to
evaluate is that upper-casing does not change it.  A search of `KWA` for `k` costs a string comparison per entry in front of it. -/
theorem kwOk_of (i j : Nat) {k : String} (h : (kwOf[i]?.bind (·.2[j]?)) = some k) (hu : up k = k := by decide +kernel) : kwOk k = true := by
  cases he : kwOf[i]? with
  | none => simp [he] at h
  | some e =>
    simp only [he, Option.bind_some] at h
    have : isKW k = true := by
      simp only [isKW, KWA, List.contains_eq_mem, List.mem_append, List.mem_flatMap, decide_eq_true_eq]
      exact Or.inl ⟨e, List.mem_of_getElem? he, List.mem_of_getElem? h⟩
    simp [kwOk, hu, this]

theorem kwOk_ACTION : kwOk "ACTION" = true := kwOk_of 69 1 rfl
theorem kwOk_ADD : kwOk "ADD" = true := kwOk_of 91 0 rfl
theorem kwOk_ALTER : kwOk "ALTER" = true := kwOk_of 93 0 rfl
theorem kwOk_ALWAYS : kwOk "ALWAYS" = true := kwOk_of 76 1 rfl
theorem kwOk_ANALYZE : kwOk "ANALYZE" = true := kwOk_of 90 0 rfl
theorem kwOk_AND : kwOk "AND" = true := kwOk_of 12 2 rfl
theorem kwOk_AS : kwOk "AS" = true := kwOk_of 3 0 rfl
theorem kwOk_ASC : kwOk "ASC" = true := kwOk_of 13 1 rfl
theorem kwOk_AUTO_INCREMENT : kwOk "AUTO_INCREMENT" = true := kwOk_of 77 11 rfl
theorem kwOk_BETWEEN : kwOk "BETWEEN" = true := kwOk_of 4 1 rfl
theorem kwOk_BY : kwOk "BY" = true := kwOk_of 40 1 rfl
theorem kwOk_CACHE : kwOk "CACHE" = true := kwOk_of 90 6 rfl
theorem kwOk_CASCADE : kwOk "CASCADE" = true := kwOk_of 69 4 rfl
theorem kwOk_CASE : kwOk "CASE" = true := kwOk_of 20 0 rfl
theorem kwOk_CAST : kwOk "CAST" = true := kwOk_of 23 0 rfl
theorem kwOk_CHANGE : kwOk "CHANGE" = true := kwOk_of 91 6 rfl
theorem kwOk_CHARACTER : kwOk "CHARACTER" = true := kwOk_of 77 4 rfl
theorem kwOk_CHARSET : kwOk "CHARSET" = true := kwOk_of 87 5 rfl
theorem kwOk_CLUSTER : kwOk "CLUSTER" = true := kwOk_of 9 5 rfl
theorem kwOk_COLLATE : kwOk "COLLATE" = true := kwOk_of 77 6 rfl
theorem kwOk_COLUMN : kwOk "COLUMN" = true := kwOk_of 91 8 rfl
theorem kwOk_COLUMNS : kwOk "COLUMNS" = true := kwOk_of 90 5 rfl
theorem kwOk_COMMENT : kwOk "COMMENT" = true := kwOk_of 71 1 rfl
theorem kwOk_COMPUTE : kwOk "COMPUTE" = true := kwOk_of 90 2 rfl
theorem kwOk_CONSTRAINT : kwOk "CONSTRAINT" = true := kwOk_of 70 0 rfl
theorem kwOk_CREATE : kwOk "CREATE" = true := kwOk_of 88 0 rfl
theorem kwOk_CUBE : kwOk "CUBE" = true := kwOk_of 49 3 rfl
theorem kwOk_CURRENT : kwOk "CURRENT" = true := kwOk_of 11 0 rfl
theorem kwOk_DATABASES : kwOk "DATABASES" = true := kwOk_of 104 13 rfl
theorem kwOk_DEFAULT : kwOk "DEFAULT" = true := kwOk_of 77 7 rfl
theorem kwOk_DELETE : kwOk "DELETE" = true := kwOk_of 70 5 rfl
theorem kwOk_DELIMITED : kwOk "DELIMITED" = true := kwOk_of 87 15 rfl
theorem kwOk_DESC : kwOk "DESC" = true := kwOk_of 13 0 rfl
theorem kwOk_DISTINCT : kwOk "DISTINCT" = true := kwOk_of 6 0 rfl
theorem kwOk_DISTRIBUTE : kwOk "DISTRIBUTE" = true := kwOk_of 9 4 rfl
theorem kwOk_DROP : kwOk "DROP" = true := kwOk_of 89 0 rfl
theorem kwOk_ELSE : kwOk "ELSE" = true := kwOk_of 27 0 rfl
theorem kwOk_END : kwOk "END" = true := kwOk_of 27 1 rfl
theorem kwOk_ENGINE : kwOk "ENGINE" = true := kwOk_of 87 1 rfl
theorem kwOk_EXISTS : kwOk "EXISTS" = true := kwOk_of 29 0 rfl
theorem kwOk_EXTRACT : kwOk "EXTRACT" = true := kwOk_of 23 1 rfl
theorem kwOk_FIELDS : kwOk "FIELDS" = true := kwOk_of 87 16 rfl
theorem kwOk_FIRST : kwOk "FIRST" = true := kwOk_of 13 3 rfl
theorem kwOk_FOLLOWING : kwOk "FOLLOWING" = true := kwOk_of 11 4 rfl
theorem kwOk_FOR : kwOk "FOR" = true := kwOk_of 5 1 rfl
theorem kwOk_FOREIGN : kwOk "FOREIGN" = true := kwOk_of 70 1 rfl
theorem kwOk_FORMAT : kwOk "FORMAT" = true := kwOk_of 87 13 rfl
theorem kwOk_FROM : kwOk "FROM" = true := kwOk_of 5 0 rfl
theorem kwOk_FULLTEXT : kwOk "FULLTEXT" = true := kwOk_of 75 0 rfl
theorem kwOk_GENERATED : kwOk "GENERATED" = true := kwOk_of 76 0 rfl
theorem kwOk_GROUP : kwOk "GROUP" = true := kwOk_of 49 0 rfl
theorem kwOk_GROUPING : kwOk "GROUPING" = true := kwOk_of 48 0 rfl
theorem kwOk_HAVING : kwOk "HAVING" = true := kwOk_of 58 0 rfl
theorem kwOk_IF : kwOk "IF" = true := kwOk_of 23 2 rfl
theorem kwOk_IGNORE : kwOk "IGNORE" = true := kwOk_of 65 2 rfl
theorem kwOk_IN : kwOk "IN" = true := kwOk_of 4 3 rfl
theorem kwOk_INPUTFORMAT : kwOk "INPUTFORMAT" = true := kwOk_of 87 20 rfl
theorem kwOk_INSERT : kwOk "INSERT" = true := kwOk_of 65 0 rfl
theorem kwOk_INTO : kwOk "INTO" = true := kwOk_of 65 1 rfl
theorem kwOk_IS : kwOk "IS" = true := kwOk_of 4 2 rfl
theorem kwOk_KEY : kwOk "KEY" = true := kwOk_of 70 2 rfl
theorem kwOk_KEY_BLOCK_SIZE : kwOk "KEY_BLOCK_SIZE" = true := kwOk_of 71 2 rfl
theorem kwOk_LAST : kwOk "LAST" = true := kwOk_of 13 4 rfl
theorem kwOk_LATERAL : kwOk "LATERAL" = true := kwOk_of 62 0 rfl
theorem kwOk_LIKE : kwOk "LIKE" = true := kwOk_of 4 4 rfl
theorem kwOk_LIMIT : kwOk "LIMIT" = true := kwOk_of 16 0 rfl
theorem kwOk_LOCATION : kwOk "LOCATION" = true := kwOk_of 87 23 rfl
theorem kwOk_METADATA : kwOk "METADATA" = true := kwOk_of 90 7 rfl
theorem kwOk_MODIFY : kwOk "MODIFY" = true := kwOk_of 91 5 rfl
theorem kwOk_MSCK : kwOk "MSCK" = true := kwOk_of 94 0 rfl
theorem kwOk_NO : kwOk "NO" = true := kwOk_of 69 0 rfl
theorem kwOk_NOSCAN : kwOk "NOSCAN" = true := kwOk_of 90 8 rfl
theorem kwOk_NOT : kwOk "NOT" = true := kwOk_of 4 0 rfl
theorem kwOk_NULL : kwOk "NULL" = true := kwOk_of 69 3 rfl
theorem kwOk_NULLS : kwOk "NULLS" = true := kwOk_of 13 2 rfl
theorem kwOk_OFFSET : kwOk "OFFSET" = true := kwOk_of 16 2 rfl
theorem kwOk_ON : kwOk "ON" = true := kwOk_of 19 0 rfl
theorem kwOk_OR : kwOk "OR" = true := kwOk_of 35 0 rfl
theorem kwOk_ORDER : kwOk "ORDER" = true := kwOk_of 43 0 rfl
theorem kwOk_OUTER : kwOk "OUTER" = true := kwOk_of 62 2 rfl
theorem kwOk_OUTPUTFORMAT : kwOk "OUTPUTFORMAT" = true := kwOk_of 87 22 rfl
theorem kwOk_OVER : kwOk "OVER" = true := kwOk_of 1 0 rfl
theorem kwOk_OVERWRITE : kwOk "OVERWRITE" = true := kwOk_of 65 3 rfl
theorem kwOk_PARTITION : kwOk "PARTITION" = true := kwOk_of 40 0 rfl
theorem kwOk_PARTITIONED : kwOk "PARTITIONED" = true := kwOk_of 87 10 rfl
theorem kwOk_PRECEDING : kwOk "PRECEDING" = true := kwOk_of 11 3 rfl
theorem kwOk_PRIMARY : kwOk "PRIMARY" = true := kwOk_of 72 0 rfl
theorem kwOk_REFERENCES : kwOk "REFERENCES" = true := kwOk_of 70 3 rfl
theorem kwOk_REGEXP : kwOk "REGEXP" = true := kwOk_of 4 6 rfl
theorem kwOk_RENAME : kwOk "RENAME" = true := kwOk_of 91 7 rfl
theorem kwOk_REPAIR : kwOk "REPAIR" = true := kwOk_of 94 1 rfl
theorem kwOk_RESTRICT : kwOk "RESTRICT" = true := kwOk_of 69 5 rfl
theorem kwOk_RLIKE : kwOk "RLIKE" = true := kwOk_of 4 5 rfl
theorem kwOk_ROLLUP : kwOk "ROLLUP" = true := kwOk_of 49 4 rfl
theorem kwOk_ROW : kwOk "ROW" = true := kwOk_of 11 1 rfl
theorem kwOk_ROWS : kwOk "ROWS" = true := kwOk_of 12 0 rfl
theorem kwOk_ROW_FORMAT : kwOk "ROW_FORMAT" = true := kwOk_of 87 6 rfl
theorem kwOk_SELECT : kwOk "SELECT" = true := kwOk_of 0 0 rfl
theorem kwOk_SERDE : kwOk "SERDE" = true := kwOk_of 87 14 rfl
theorem kwOk_SET : kwOk "SET" = true := kwOk_of 69 2 rfl
theorem kwOk_SETS : kwOk "SETS" = true := kwOk_of 48 1 rfl
theorem kwOk_SHOW : kwOk "SHOW" = true := kwOk_of 103 0 rfl
theorem kwOk_SIGNED : kwOk "SIGNED" = true := kwOk_of 15 0 rfl
theorem kwOk_SORT : kwOk "SORT" = true := kwOk_of 9 3 rfl
theorem kwOk_STATISTICS : kwOk "STATISTICS" = true := kwOk_of 90 3 rfl
theorem kwOk_STATS_PERSISTENT : kwOk "STATS_PERSISTENT" = true := kwOk_of 87 9 rfl
theorem kwOk_STORED : kwOk "STORED" = true := kwOk_of 87 18 rfl
theorem kwOk_TABLE : kwOk "TABLE" = true := kwOk_of 83 0 rfl
theorem kwOk_TABLES : kwOk "TABLES" = true := kwOk_of 104 14 rfl
theorem kwOk_TBLPROPERTIES : kwOk "TBLPROPERTIES" = true := kwOk_of 87 24 rfl
theorem kwOk_TERMINATED : kwOk "TERMINATED" = true := kwOk_of 87 17 rfl
theorem kwOk_TEXTFILE : kwOk "TEXTFILE" = true := kwOk_of 87 21 rfl
theorem kwOk_THEN : kwOk "THEN" = true := kwOk_of 28 1 rfl
theorem kwOk_TO : kwOk "TO" = true := kwOk_of 91 9 rfl
theorem kwOk_TRUNCATE : kwOk "TRUNCATE" = true := kwOk_of 95 0 rfl
theorem kwOk_UNBOUNDED : kwOk "UNBOUNDED" = true := kwOk_of 11 2 rfl
theorem kwOk_UNIQUE : kwOk "UNIQUE" = true := kwOk_of 73 0 rfl
theorem kwOk_UNSIGNED : kwOk "UNSIGNED" = true := kwOk_of 77 12 rfl
theorem kwOk_UPDATE : kwOk "UPDATE" = true := kwOk_of 70 6 rfl
theorem kwOk_USE : kwOk "USE" = true := kwOk_of 96 0 rfl
theorem kwOk_USING : kwOk "USING" = true := kwOk_of 9 2 rfl
theorem kwOk_VALUES : kwOk "VALUES" = true := kwOk_of 83 1 rfl
theorem kwOk_VIEW : kwOk "VIEW" = true := kwOk_of 62 1 rfl
theorem kwOk_WHEN : kwOk "WHEN" = true := kwOk_of 26 1 rfl
theorem kwOk_WHERE : kwOk "WHERE" = true := kwOk_of 57 0 rfl
theorem kwOk_WITH : kwOk "WITH" = true := kwOk_of 0 1 rfl
theorem kwOk_XOR : kwOk "XOR" = true := kwOk_of 34 0 rfl
theorem kwOk_ZEROFILL : kwOk "ZEROFILL" = true := kwOk_of 77 13 rfl
theorem kwOk_andand : kwOk "&&" = true := kwOk_of 33 1 rfl
theorem kwOk_comma : kwOk "," = true := kwOk_of 2 0 rfl
theorem kwOk_dot : kwOk "." = true := kwOk_of 7 0 rfl
theorem kwOk_eq : kwOk "=" = true := kwOk_of 67 0 rfl
theorem kwOk_oror : kwOk "||" = true := kwOk_of 35 1 rfl
theorem kwOk_semi : kwOk ";" = true := kwOk_of 77 0 rfl
theorem kwOk_star : kwOk "*" = true := kwOk_of 20 1 rfl

end PA
