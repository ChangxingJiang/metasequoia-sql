import MsqProofs.Lemmas.LexLinkAnyR1
/-!
# The lexer link for ALTER TABLE (every clause of the model)

Column definitions, keys and foreign keys come from the CREATE TABLE link (`LD.plain_defCol`, `plain_index`, `plain_fk` and the printer equations
`LD.prDefCol_my`, `prIndex_toList`, `prForeignKey_toList`); the printer equation for a column definition of a dialect other than MYSQL
(name, type, comment) is proved here for every such dialect (`prDefCol_other`).  Partition lists as in INSERT / ANALYZE (`partition_good`).

The text (`PR.prStmt`): ``ALTER TABLE `t` `` + blank + line break, the clauses joined by `,` + line break.
-/
namespace LL2.Any
open Lex Spec C05 C06 C09 Ast TP TS LexLink TQ2
open LD (tailL wordsP flagP bqL)

variable {d : Gen.D}

theorem prDefCol_other (hm : (d == Gen.D.MYSQL) = false) (c : DefCol) (hf : TD.typeOK d c.type = true) (hl : LD.LeafType d c.type) :
    PR.prDefCol d c = .ok (String.ofList (LD.defColL d c)) := by
  rw [LD.prDefCol_unf]
  simp only [hm, LD.prColType_eq d c.type hf hl, LD.prGen_false, LD.prDflt_false, LD.prOnUp_false, bind, Except.bind, pure, Except.pure]
  refine congrArg Except.ok (ofList_eq ?_)
  unfold LD.colStr
  have e0 : ("" : String).toList = [] := rfl
  have e1 : ("`" : String).toList = ['`'] := rfl
  have e2 : ("` " : String).toList = ['`', ' '] := rfl
  simp only [String.toList_append, LD.flagStr_false, LD.optStr_false, e0, List.append_nil, LD.comment_toList]
  simp only [toString, e1, e2, String.toList_ofList, LD.defColL, LD.attrsP, hm, Bool.false_eq_true, if_false, LD.tailL_cons, bqL, List.append_assoc,
    List.cons_append, List.nil_append]

def coiL (d : Gen.D) : ColOrIdx → List Char
  | .col c => LD.defColL d c
  | .idx i => LD.indexL i
  | .fk k => LD.fkL k
def coiLeaf (d : Gen.D) : ColOrIdx → Prop
  | .col c => LD.LeafCol d c
  | .idx i => LD.LeafIdx i
  | .fk k => LD.LeafFk k

theorem coi_good (x : ColOrIdx) (hx : TR.colOrIdxOK d x = true) (hl : coiLeaf d x) :
    Pc (coiL d x) (TR.toksColOrIdx d x) ∧ PR.prColOrIdx d x = .ok (String.ofList (coiL d x)) := by
  cases x with
  | col c =>
    have hx : TD.colOK d c = true := hx
    have hl : LD.LeafCol d c := hl
    have ht : TD.typeOK d c.type = true := by simp only [TD.colOK, Bool.and_eq_true] at hx; exact hx.1.2
    refine ⟨.of (LD.plain_defCol d c hx hl), ?_⟩
    show PR.prDefCol d c = _
    cases hm : (d == Gen.D.MYSQL)
    · exact prDefCol_other hm c ht hl.type
    · have : d = .MYSQL := by simpa using hm
      subst this
      exact LD.prDefCol_my c hx hl
  | idx i =>
    have hx : TD.idxOK i.kind i = true := hx
    have hl : LD.LeafIdx i := hl
    obtain ⟨h1, h2⟩ := LD.idxOK_parts hx
    exact ⟨.of (LD.plain_index i h1 h2 hl), congrArg Except.ok (ofList_eq (LD.prIndex_toList i))⟩
  | fk k =>
    have hx : TD.fkOK k = true := hx
    have hl : LD.LeafFk k := hl
    exact ⟨.of (LD.plain_fk k hx hl), congrArg Except.ok (ofList_eq (LD.prForeignKey_toList k))⟩

def opL (d : Gen.D) : AlterOp → List Char
  | .addPartition b p => "ADD".toList ++ tailL (flagP b ["IF", "NOT", "EXISTS"] ++ [partTxt d p])
  | .add x => "ADD".toList ++ tailL [coiL d x]
  | .modify x => "MODIFY".toList ++ tailL [coiL d x]
  | .change f t => "CHANGE".toList ++ tailL [bqL f, coiL d t]
  | .renameColumn f t => "RENAME".toList ++ tailL ["COLUMN".toList, bqL f, "TO".toList, bqL t]
  | .dropColumn c => "DROP".toList ++ tailL ["COLUMN".toList, bqL c]
  | .dropPartition b p => "DROP".toList ++ tailL (flagP b ["IF", "EXISTS"] ++ [partTxt d p])
/-- the payloads of a clause: partition items as in INSERT (`leafOK2`), column names without back-quote / pre-pass characters, column
definitions / keys / foreign keys as in CREATE TABLE (`LD.LeafCol` / `LeafIdx` / `LeafFk`) -/
def opLeaf (d : Gen.D) : AlterOp → Prop
  | .addPartition _ p => On2 (leafOK2 d) (leavesL4 p)
  | .add x => coiLeaf d x
  | .modify x => coiLeaf d x
  | .change f t => nameLex f ∧ coiLeaf d t
  | .renameColumn f t => nameLex f ∧ nameLex t
  | .dropColumn c => nameLex c
  | .dropPartition _ p => On2 (leafOK2 d) (leavesL4 p)

theorem pc_bq (n : String) (h : nameLex n) : Pc (bqL n) [nameTok n] := .of (LD.pc_bq n h (nameLex_allP h))

theorem bq_str (n : String) : (s!"`{n}`").toList = bqL n := by
  have e1 : ("`" : String).toList = ['`'] := rfl
  simp [toString, String.toList_append, e1, bqL]

theorem op_good (o : AlterOp) (ho : TR.alterOpOK d o = true) (hl : opLeaf d o) :
    Pc (opL d o) (TR.toksAlterOp d o) ∧ PR.prAlterOp d o = .ok (String.ofList (opL d o)) := by
  cases o with
  | addPartition b p =>
    obtain ⟨h1, h2⟩ := partition_good p ho hl
    refine ⟨?_, ?_⟩
    · have := Pc.tail (pc_w "ADD" (by simp [restWords])) (SegP.append (segp_flag b ["IF", "NOT", "EXISTS"] (by simp [restWords])) (SegP.one h1))
      exact this.congr rfl (by simp [TR.toksAlterOp])
    · simp only [PR.prAlterOp, h2, Except.map]
      refine congrArg Except.ok (ofList_eq ?_)
      have e1 : ("ADD" : String).toList = "ADD".toList := rfl
      have e3 : (" " : String).toList = [' '] := rfl
      simp only [toString, String.toList_append, String.toList_ofList, e3,
        LD.ite_toList b " IF NOT EXISTS" ["IF", "NOT", "EXISTS"] (by simp [wordsP]), opL, LD.tailL_append, LD.tailL_cons, LD.tailL_nil,
        List.append_assoc, List.cons_append, List.nil_append, List.append_nil]
  | dropPartition b p =>
    obtain ⟨h1, h2⟩ := partition_good p ho hl
    refine ⟨?_, ?_⟩
    · have := Pc.tail (pc_w "DROP" (by simp [restWords])) (SegP.append (segp_flag b ["IF", "EXISTS"] (by simp [restWords])) (SegP.one h1))
      exact this.congr rfl (by simp [TR.toksAlterOp])
    · simp only [PR.prAlterOp, h2, Except.map]
      refine congrArg Except.ok (ofList_eq ?_)
      have e3 : (" " : String).toList = [' '] := rfl
      simp only [toString, String.toList_append, String.toList_ofList, e3,
        LD.ite_toList b " IF EXISTS" ["IF", "EXISTS"] (by simp [wordsP]), opL, LD.tailL_append, LD.tailL_cons, LD.tailL_nil,
        List.append_assoc, List.cons_append, List.nil_append, List.append_nil]
  | add x =>
    obtain ⟨h1, h2⟩ := coi_good x ho hl
    refine ⟨?_, ?_⟩
    · exact (Pc.tail (pc_w "ADD" (by simp [restWords])) (SegP.one h1)).congr rfl (by simp [TR.toksAlterOp])
    · simp only [PR.prAlterOp, h2, Except.map]
      refine congrArg Except.ok (ofList_eq ?_)
      have e1 : ("ADD " : String).toList = "ADD".toList ++ [' '] := by simp
      simp only [toString, String.toList_append, String.toList_ofList, e1, opL, LD.tailL_cons, LD.tailL_nil, List.append_assoc, List.cons_append,
        List.nil_append, List.append_nil]
  | modify x =>
    obtain ⟨h1, h2⟩ := coi_good x ho hl
    refine ⟨?_, ?_⟩
    · exact (Pc.tail (pc_w "MODIFY" (by simp [restWords])) (SegP.one h1)).congr rfl (by simp [TR.toksAlterOp])
    · simp only [PR.prAlterOp, h2, Except.map]
      refine congrArg Except.ok (ofList_eq ?_)
      have e1 : ("MODIFY " : String).toList = "MODIFY".toList ++ [' '] := by simp
      simp only [toString, String.toList_append, String.toList_ofList, e1, opL, LD.tailL_cons, LD.tailL_nil, List.append_assoc, List.cons_append,
        List.nil_append, List.append_nil]
  | change f t =>
    simp only [TR.alterOpOK, Bool.and_eq_true] at ho
    obtain ⟨h1, h2⟩ := coi_good t ho.2 hl.2
    refine ⟨?_, ?_⟩
    · exact (Pc.tail (pc_w "CHANGE" (by simp [restWords])) (SegP.cons (pc_bq f hl.1) (SegP.one h1))).congr rfl (by simp [TR.toksAlterOp])
    · simp only [PR.prAlterOp, h2, Except.map]
      refine congrArg Except.ok (ofList_eq ?_)
      have e1 : ("CHANGE `" : String).toList = "CHANGE".toList ++ [' ', '`'] := by simp
      have e2 : ("` " : String).toList = ['`', ' '] := rfl
      simp only [toString, String.toList_append, String.toList_ofList, e1, e2, opL, bqL, LD.tailL_cons, LD.tailL_nil, List.append_assoc,
        List.cons_append, List.nil_append, List.append_nil]
  | renameColumn f t =>
    refine ⟨?_, ?_⟩
    · exact (Pc.tail (pc_w "RENAME" (by simp [restWords])) (SegP.cons (pc_w "COLUMN" (by simp [restWords])) (SegP.cons (pc_bq f hl.1)
        (SegP.cons (pc_w "TO" (by simp [restWords])) (SegP.one (pc_bq t hl.2)))))).congr rfl (by simp [TR.toksAlterOp])
    · simp only [PR.prAlterOp]
      refine congrArg Except.ok (ofList_eq ?_)
      have e1 : ("RENAME COLUMN `" : String).toList = "RENAME".toList ++ ' ' :: ("COLUMN".toList ++ [' ', '`']) := by simp
      have e2 : ("` TO `" : String).toList = '`' :: ' ' :: ("TO".toList ++ [' ', '`']) := by simp
      have e3 : ("`" : String).toList = ['`'] := rfl
      simp only [toString, String.toList_append, e1, e2, e3, opL, bqL, LD.tailL_cons, LD.tailL_nil, List.append_assoc,
        List.cons_append, List.nil_append, List.append_nil]
  | dropColumn c =>
    refine ⟨?_, ?_⟩
    · exact (Pc.tail (pc_w "DROP" (by simp [restWords])) (SegP.cons (pc_w "COLUMN" (by simp [restWords])) (SegP.one (pc_bq c hl)))).congr rfl
        (by simp [TR.toksAlterOp])
    · simp only [PR.prAlterOp]
      refine congrArg Except.ok (ofList_eq ?_)
      have e1 : ("DROP COLUMN `" : String).toList = "DROP".toList ++ ' ' :: ("COLUMN".toList ++ [' ', '`']) := by simp
      have e3 : ("`" : String).toList = ['`'] := rfl
      simp only [toString, String.toList_append, e1, e3, opL, bqL, LD.tailL_cons, LD.tailL_nil, List.append_assoc,
        List.cons_append, List.nil_append, List.append_nil]

def alterL (d : Gen.D) (t : TableName) (ops : List AlterOp) : List Char :=
  "ALTER".toList ++ ' ' :: ("TABLE".toList ++ ' ' :: (tnL t ++ ' ' :: '\n' :: joinLL [',', '\n'] (ops.map (opL d))))

theorem toksAlterOps_sepAll (ops : List AlterOp) : TR.toksAlterOps d ops = TD.sepAll (ops.map (TR.toksAlterOp d)) := by
  have tl : ∀ l : List AlterOp, TR.toksAlterTail d l = TD.sepTail (l.map (TR.toksAlterOp d)) := by
    intro l
    induction l with
    | nil => rfl
    | cons o r ih => simp only [TR.toksAlterTail, List.map_cons, TD.sepTail, ih]
  cases ops with
  | nil => rfl
  | cons o r => simp only [TR.toksAlterOps, List.map_cons, TD.sepAll, tl]

theorem alter_good (t : TableName) (ops : List AlterOp) (ht : tblLeaf t) (_ : ops ≠ []) (ho : ops.all (TR.alterOpOK d) = true)
    (hl : ∀ o ∈ ops, opLeaf d o) :
    Pc (alterL d t ops) (TR.toksAlter d t ops) ∧ PR.prStmt d (.alter t ops) = .ok (String.ofList (alterL d t ops)) := by
  have hall : ∀ o ∈ ops, Pc (opL d o) (TR.toksAlterOp d o) ∧ PR.prAlterOp d o = .ok (String.ofList (opL d o)) :=
    fun o hm => op_good o ((List.all_eq_true.mp ho) o hm) (hl o hm)
  have hLL : LD.LL (ops.map (opL d)) (ops.map (TR.toksAlterOp d)) := LD.LL.map (opL d) (TR.toksAlterOp d) ops fun o hm => (hall o hm).1.lx
  have hJ : Lx (joinLL [',', '\n'] (ops.map (opL d))) (TR.toksAlterOps d ops) := by
    rw [toksAlterOps_sepAll]
    exact LD.lx_sepAll ['\n'] (fun h => Lx.nl h) _ _ hLL
  have hQ : allP (joinLL [',', '\n'] (ops.map (opL d))) = true := allP_joinLL [',', '\n'] (by decide) _ (by
    intro x hx
    obtain ⟨o, hm, rfl⟩ := List.mem_map.mp hx
    exact (hall o hm).1.q)
  refine ⟨⟨?_, ?_⟩, ?_⟩
  · have := Lx.sep (pc_w "ALTER" (by simp [restWords])).lx (Lx.sep (pc_w "TABLE" (by simp [restWords])).lx
      (Lx.sep (pc_tn t ht).1.lx (Lx.nl hJ)))
    delta alterL TR.toksAlter
    exact Lx.congr this (by simp) (by simp)
  · delta alterL
    exact plainKit.sp (pc_w "ALTER" (by simp [restWords])).q (plainKit.sp (pc_w "TABLE" (by simp [restWords])).q
      (plainKit.sp (pc_tn t ht).1.q (plainKit.pre plainKit.s_nl hQ)))
  · have hm : PR.mapM' (PR.prAlterOp d) ops = .ok (ops.map fun o => String.ofList (opL d o)) :=
      LD.mapM_eq (PR.prAlterOp d) (opL d) ops fun o hm => (hall o hm).2
    simp only [PR.prStmt, hm, Except.map, (pc_tn t ht).2]
    refine congrArg Except.ok (ofList_eq ?_)
    have e1 : ("ALTER TABLE " : String).toList = "ALTER".toList ++ ' ' :: ("TABLE".toList ++ [' ']) := by simp
    have e2 : (" \n" : String).toList = [' ', '\n'] := rfl
    have e3 : (",\n" : String).toList = [',', '\n'] := rfl
    delta alterL
    simp only [toString, String.toList_append, String.toList_ofList, toList_joinS, e1, e2, e3, List.map_map, Function.comp_def]
    simp only [List.append_assoc, List.cons_append, List.nil_append]

end LL2.Any
