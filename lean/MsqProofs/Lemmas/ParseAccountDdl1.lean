import MsqProofs.Lemmas.ParseAccountDdl0
/-!
# C08, general accounting for the DDL classes — part 1: texts and the `Full` fragment of the DDL values

`tX v = Val.texts (toVal v)` for column types, generated columns, column definitions, index columns, indexes, foreign keys,
column-or-index, CREATE TABLE; one equation each.  `Full…` (Bool on the RESULT) excludes the degenerate results of class F-C08-6
at the sites where the result shows it: an index has at least one column (`PRIMARY KEY x`), a foreign key at least one column on
each side (`FOREIGN KEY x REFERENCES t y`), a CREATE TABLE at least one element (`CREATE TABLE t x`).
-/
set_option linter.unusedSimpArgs false
open Lex PM Ast

namespace PA
namespace Ddl

def tCT (t : ColType) : List String := t.toVal.texts
def tGC (g : GenCol) : List String := g.toVal.texts
def tOGC : Option GenCol → List String | none => [] | some g => tGC g
def tDC (c : DefCol) : List String := c.toVal.texts
def tDCs (l : List DefCol) : List String := Val.textsL (l.map DefCol.toVal)
def tIC (c : IndexCol) : List String := c.toVal.texts
def tICs (l : List IndexCol) : List String := Val.textsL (l.map IndexCol.toVal)
def tIdx (i : Index) : List String := i.toVal.texts
def tOIdx : Option Index → List String | none => [] | some i => tIdx i
def tIdxs (l : List Index) : List String := Val.textsL (l.map Index.toVal)
def tFK (f : ForeignKey) : List String := f.toVal.texts
def tFKs (l : List ForeignKey) : List String := Val.textsL (l.map ForeignKey.toVal)
def tCOI (x : ColOrIdx) : List String := x.toVal.texts
def tCSs (l : List ConfigStr) : List String := Val.textsL (l.map ConfigStr.toVal)
def tCTb (c : CreateTable) : List String := c.toVal.texts

/-- `tx_simp` for the DDL values (same remark as at `sx_simp`) -/
macro "dx_simp" : tactic =>
  `(tactic| simp [tCT, tGC, tOGC, tDC, tDCs, tIC, tICs, tIdx, tOIdx, tIdxs, tFK, tFKs, tCOI, tCSs, tCTb, tCS, tTN, tOS, tOI, tE, tEs, tOpt, tStrs,
      ColType.toVal, GenCol.toVal, DefCol.toVal, IndexCol.toVal, Index.toVal, ForeignKey.toVal, ColOrIdx.toVal, ConfigStr.toVal,
      CreateTable.toVal, TableName.toVal, exprs, optExpr, Val.texts, Val.textsL, Val.textsF, Val.optStr, Val.optInt, Val.ofOpt, Val.strs,
      textsL_append])

theorem tCT_mk (n : String) (ps : Option (List Expr)) : tCT ⟨n, ps⟩ = n :: tOL ps := by cases ps <;> dx_simp <;> rfl
@[grind =] theorem tCT_none (n : String) : tCT ⟨n, none⟩ = [n] := by simp [tCT_mk, tOL]
@[grind =] theorem tCT_some (n : String) (ps : List Expr) : tCT ⟨n, some ps⟩ = n :: tEs ps := by simp [tCT_mk, tOL]
@[grind =] theorem tGC_mk (e : Expr) (m : Option String) : tGC ⟨e, m⟩ = tE e ++ tOS m := by cases m <;> dx_simp
@[grind =] theorem tOGC_none : tOGC none = [] := rfl
@[grind =] theorem tOGC_some (g) : tOGC (some g) = tGC g := rfl
theorem tDC_mk (n ty us zf cs co ge an nn ai df ou cm) :
    tDC ⟨n, ty, us, zf, cs, co, ge, an, nn, ai, df, ou, cm⟩ =
      n :: (tCT ty ++ (tOS cs ++ (tOS co ++ (tOGC ge ++ (tOpt df ++ (tOpt ou ++ tOS cm)))))) := by
  cases cs <;> cases co <;> cases ge <;> cases df <;> cases ou <;> cases cm <;> dx_simp
theorem tDC_eq (c : DefCol) :
    tDC c = c.name :: (tCT c.type ++ (tOS c.charset ++ (tOS c.collate ++ (tOGC c.generated ++ (tOpt c.default ++ (tOpt c.onUpdate ++ tOS c.comment)))))) := by
  cases c; exact tDC_mk ..
@[grind =] theorem tDCs_nil : tDCs [] = [] := by dx_simp
@[grind =] theorem tDCs_append (a b : List DefCol) : tDCs (a ++ b) = tDCs a ++ tDCs b := by dx_simp
@[grind =] theorem tDCs_one (c : DefCol) : tDCs [c] = tDC c := by dx_simp
theorem tDCs_cons (c : DefCol) (l) : tDCs (c :: l) = tDC c ++ tDCs l := by dx_simp
@[grind =] theorem tIC_mk (n : String) (m : Option Int) : tIC ⟨n, m⟩ = n :: tOI m := by cases m <;> dx_simp
@[grind =] theorem tICs_nil : tICs [] = [] := by dx_simp
theorem tICs_cons (c : IndexCol) (l) : tICs (c :: l) = tIC c ++ tICs l := by dx_simp
theorem tICs_flatMap (cs : List IndexCol) : cs.flatMap tIC = tICs cs := by
  induction cs with
  | nil => simp [tICs_nil]
  | cons c cs ih => simp [tICs_cons, ih]
@[grind =] theorem tIdx_mk (k : IndexKind) (n : Option String) (cols : List IndexCol) (us cm : Option String) (kb : Option Int) :
    tIdx ⟨k, n, cols, us, cm, kb⟩ = tOS n ++ (tICs cols ++ (tOS us ++ (tOS cm ++ tOI kb))) := by
  cases n <;> cases us <;> cases cm <;> cases kb <;> dx_simp
@[grind =] theorem tOIdx_none : tOIdx none = [] := rfl
@[grind =] theorem tOIdx_some (i) : tOIdx (some i) = tIdx i := rfl
@[grind =] theorem tIdxs_nil : tIdxs [] = [] := by dx_simp
@[grind =] theorem tIdxs_append (a b : List Index) : tIdxs (a ++ b) = tIdxs a ++ tIdxs b := by dx_simp
@[grind =] theorem tIdxs_one (c : Index) : tIdxs [c] = tIdx c := by dx_simp
theorem strs_texts (l : List String) : (Val.strs l).texts = l := by
  have := tStrs_eq l
  simpa [tStrs, Val.strs, Val.texts] using this
@[grind =] theorem tFK_mk (cn : String) (sl : List String) (mt : String) (mc : List String) (od ou : Option String) :
    tFK ⟨cn, sl, mt, mc, od, ou⟩ = cn :: (sl ++ (mt :: (mc ++ (tOS od ++ tOS ou)))) := by
  have h1 := strs_texts sl
  have h2 := strs_texts mc
  cases od <;> cases ou <;> simp [tFK, ForeignKey.toVal, Val.texts, Val.textsF, Val.optStr, Val.ofOpt, tOS, h1, h2]
@[grind =] theorem tFKs_nil : tFKs [] = [] := by dx_simp
@[grind =] theorem tFKs_append (a b : List ForeignKey) : tFKs (a ++ b) = tFKs a ++ tFKs b := by dx_simp
@[grind =] theorem tFKs_one (c : ForeignKey) : tFKs [c] = tFK c := by dx_simp
@[grind =] theorem tCOI_col (c) : tCOI (.col c) = tDC c := rfl
@[grind =] theorem tCOI_idx (c) : tCOI (.idx c) = tIdx c := rfl
@[grind =] theorem tCOI_fk (c) : tCOI (.fk c) = tFK c := rfl
@[grind =] theorem tCSs_nil : tCSs [] = [] := by dx_simp
@[grind =] theorem tCSs_append (a b : List ConfigStr) : tCSs (a ++ b) = tCSs a ++ tCSs b := by dx_simp
theorem tCSs_cons (c : ConfigStr) (l) : tCSs (c :: l) = tCS c ++ tCSs l := by dx_simp
theorem tCSs_flatMap (cs : List ConfigStr) : cs.flatMap tCS = tCSs cs := by
  induction cs with
  | nil => simp [tCSs_nil]
  | cons c cs ih => simp [tCSs_cons, ih]
theorem tDCs_flatMap (cs : List DefCol) : cs.flatMap tDC = tDCs cs := by
  induction cs with
  | nil => simp [tDCs_nil]
  | cons c cs ih => simp [tDCs_cons, ih]
theorem tCTb_eq (c : CreateTable) :
    tCTb c = tTN c.table ++ (tDCs c.columns ++ (tOIdx c.primaryKey ++ (tIdxs c.uniqueKey ++ (tIdxs c.key ++ (tIdxs c.fulltextKey ++
      (tFKs c.foreignKey ++ (tDCs c.partitionedBy ++ (tOS c.comment ++ (tOS c.engine ++ (tOI c.autoIncrement ++ (tOS c.defaultCharset ++
      (tOS c.collate ++ (tOS c.rowFormat ++ (tOS c.statesPersistent ++ (tOS c.rowFormatSerde ++ (tOS c.rowFormatDelimited ++
      (tOS c.storedAsInputformat ++ (tOS c.outputformat ++ (tOS c.location ++ tCSs c.tblproperties))))))))))))))))))) := by
  obtain ⟨tb, ine, cols, pk, uk, k, fk, fo, pb, cm, en, ai, dc, co, rf, sp, rs, rd, si, st, ou, lo, tp⟩ := c
  cases pk <;>
    simp [tCTb, CreateTable.toVal, Val.texts, Val.textsF, Val.ofOpt, tTN, tDCs, tOIdx, tIdx, tIdxs, tFKs, tOS, tOI, tCSs, List.append_assoc]

def NE {α : Type} (l : List α) : Bool := !l.isEmpty
@[grind =] theorem NE_def {α : Type} (l : List α) : NE l = !l.isEmpty := rfl
def FullCTy (t : ColType) : Bool := FullOL t.params
@[grind =] theorem FullCTy_mk (n ps) : FullCTy ⟨n, ps⟩ = FullOL ps := rfl
def FullGC (g : GenCol) : Bool := FullE g.e
@[grind =] theorem FullGC_mk (e m) : FullGC ⟨e, m⟩ = FullE e := rfl
def FullOGC : Option GenCol → Bool | none => true | some g => FullGC g
attribute [grind =] FullOGC
def FullDC (c : DefCol) : Bool := FullCTy c.type && (FullOGC c.generated && (FullO c.default && FullO c.onUpdate))
def FullDCs : List DefCol → Bool | [] => true | c :: l => FullDC c && FullDCs l
theorem FullDCs_append (a b : List DefCol) : FullDCs (a ++ b) = (FullDCs a && FullDCs b) := by
  induction a with
  | nil => simp [FullDCs]
  | cons x a ih => simp [FullDCs, ih, Bool.and_assoc]
theorem fullDCs_all (vs : List DefCol) : FullDCs vs = true → ∀ v ∈ vs, FullDC v = true := by
  induction vs with
  | nil => simp
  | cons v vs ih => simp only [FullDCs, Bool.and_eq_true, List.mem_cons]; rintro ⟨h1, h2⟩ x (rfl | hx); exact h1; exact ih h2 x hx
/-- an index has at least one column (F-C08-6: `PRIMARY KEY x`) -/
def FullIdx (i : Index) : Bool := !i.cols.isEmpty
@[grind =] theorem FullIdx_mk (k n cols us cm kb) : FullIdx ⟨k, n, cols, us, cm, kb⟩ = !cols.isEmpty := rfl
def FullOIdx : Option Index → Bool | none => true | some i => FullIdx i
def FullIdxs : List Index → Bool | [] => true | c :: l => FullIdx c && FullIdxs l
theorem FullIdxs_append (a b : List Index) : FullIdxs (a ++ b) = (FullIdxs a && FullIdxs b) := by
  induction a with
  | nil => simp [FullIdxs]
  | cons x a ih => simp [FullIdxs, ih, Bool.and_assoc]
/-- a foreign key has at least one column on each side (F-C08-6: `FOREIGN KEY x REFERENCES t y`) -/
def FullFK (f : ForeignKey) : Bool := !f.slave.isEmpty && !f.masterCols.isEmpty
@[grind =] theorem FullFK_mk (cn sl mt mc od ou) : FullFK ⟨cn, sl, mt, mc, od, ou⟩ = (!sl.isEmpty && !mc.isEmpty) := rfl
def FullFKs : List ForeignKey → Bool | [] => true | c :: l => FullFK c && FullFKs l
theorem FullFKs_append (a b : List ForeignKey) : FullFKs (a ++ b) = (FullFKs a && FullFKs b) := by
  induction a with
  | nil => simp [FullFKs]
  | cons x a ih => simp [FullFKs, ih, Bool.and_assoc]
def FullCOI : ColOrIdx → Bool | .col c => FullDC c | .idx i => FullIdx i | .fk f => FullFK f
attribute [grind =] FullCOI

end Ddl
end PA
