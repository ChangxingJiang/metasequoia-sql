import MsqProofs.Lemmas.ParseAccountAll
/-!
# C08, general accounting — hand-written base, part 3: the statement level

Texts of the statement-level values (`tStmt s = Val.texts (Stmt.toVal s)`: what the canonical dump shows) and the `Full` fragment of
statements.  `FullStmt` excludes, besides the degenerate results of class F-C08-6 (an empty `PARTITION` list):

* `CREATE TABLE … ( … )`, `ALTER TABLE … ADD / MODIFY / CHANGE <column or index>` — the attribute / option loops overwrite a
  repeated attribute (class F-C08-4), `PARTITIONED BY x` / `TBLPROPERTIES x` drop a word without leaving a trace in the result, and
  the name positions take any token (F-C08-5); not covered by the general theorem (covered for the printed renderings by `C18T`);
* `SET a.b = c` — the configuration name is stored as ONE string concatenated from several tokens.
-/
open Lex PM Ast

namespace PA

def tTN (t : TableName) : List String := t.toVal.texts
def tCNs (l : List (Option String × String)) : List String := Val.textsL (l.map fun (t, n) => (Expr.column t n).toVal)
def tOCN : Option (List (Option String × String)) → List String | none => [] | some l => tCNs l
def tVals (l : List (List Expr)) : List String := Val.textsL (l.map fun r => (Expr.subValue r).toVal)
def tSets (l : List (String × Expr)) : List String :=
  Val.textsL (l.map fun (c, v) => Val.node "ASTUpdateSetColumn" [("column_name", .str c), ("column_value", v.toVal)])
def tIH (h : InsertHead) : List String := Val.textsF h.fields
def tAO (o : AlterOp) : List String := o.toVal.texts
def tAOs (l : List AlterOp) : List String := Val.textsL (l.map AlterOp.toVal)
def tStmt (s : Stmt) : List String := s.toVal.texts
def tStmts (l : List Stmt) : List String := Val.textsL (l.map Stmt.toVal)

/-- `tx_simp` for the statement level: these value maps are not under the attribute `tx`, the list names them and the part of `tx` they rest on -/
macro "sx_simp" : tactic =>
  `(tactic| simp [tTN, tCNs, tOCN, tVals, tSets, tIH, tAO, tAOs, tStmt, tStmts, tOS, tOL, tE, tEs, tOpt, tQ, tFTs, tOOrds, tOrds, tLim, tOWTs, tWTs,
      TableName.toVal, InsertHead.fields, AlterOp.toVal, Stmt.toVal, Expr.toVal, partitionVal, whereVal, orderVal, limitVal, tableNameVal,
      withsVal, exprs, optExpr, Val.texts, Val.textsL, Val.textsF, Val.optStr, Val.optInt, Val.ofOpt, textsL_append])

@[grind =] theorem tTN_mk (s : Option String) (n : String) : tTN ⟨s, n⟩ = tOS s ++ [n] := by cases s <;> sx_simp
@[grind =] theorem tCNs_nil : tCNs [] = [] := by sx_simp
@[grind =] theorem tCNs_cons (t : Option String) (n : String) (l) : tCNs ((t, n) :: l) = tOS t ++ n :: tCNs l := by cases t <;> sx_simp
@[grind =] theorem tOCN_none : tOCN none = [] := rfl
@[grind =] theorem tOCN_some (l) : tOCN (some l) = tCNs l := rfl
@[grind =] theorem tVals_nil : tVals [] = [] := by sx_simp
@[grind =] theorem tVals_append (a b : List (List Expr)) : tVals (a ++ b) = tVals a ++ tVals b := by sx_simp
@[grind =] theorem tVals_one (r : List Expr) : tVals [r] = tEs r := by sx_simp
@[grind =] theorem tSets_nil : tSets [] = [] := by sx_simp
@[grind =] theorem tSets_append (a b : List (String × Expr)) : tSets (a ++ b) = tSets a ++ tSets b := by sx_simp
@[grind =] theorem tSets_one (c : String) (v : Expr) : tSets [(c, v)] = c :: tE v := by sx_simp
@[grind =] theorem tAOs_nil : tAOs [] = [] := by sx_simp
@[grind =] theorem tAOs_append (a b : List AlterOp) : tAOs (a ++ b) = tAOs a ++ tAOs b := by sx_simp
@[grind =] theorem tAOs_one (o : AlterOp) : tAOs [o] = tAO o := by sx_simp
@[grind =] theorem tIH_mk (ws ty tbl part cols) : tIH ⟨ws, ty, tbl, part, cols⟩ = tOWTs ws ++ (ty :: (tTN tbl ++ (tOL part ++ tOCN cols))) := by
  cases ws <;> cases part <;> cases cols <;> sx_simp
@[grind =] theorem tAO_addPartition (b p) : tAO (.addPartition b p) = tEs p := by sx_simp
@[grind =] theorem tAO_dropPartition (b p) : tAO (.dropPartition b p) = tEs p := by sx_simp
@[grind =] theorem tAO_renameColumn (f t) : tAO (.renameColumn f t) = [f, t] := by sx_simp
@[grind =] theorem tAO_dropColumn (c) : tAO (.dropColumn c) = [c] := by sx_simp
@[grind =] theorem tStmt_select (q) : tStmt (.select q) = tQ q := by sx_simp
@[grind =] theorem tStmt_insertValues (h vs) : tStmt (.insertValues h vs) = tIH h ++ tVals vs := by sx_simp
@[grind =] theorem tStmt_insertSelect (h q) : tStmt (.insertSelect h q) = tIH h ++ tQ q := by sx_simp
@[grind =] theorem tStmt_update (ws t sets wh ob lm) :
    tStmt (.update ws t sets wh ob lm) = tOWTs ws ++ (tTN t ++ (tSets sets ++ (tOpt wh ++ (tOOrds ob ++ tLim lm)))) := by
  cases ws <;> cases wh <;> cases ob <;> sx_simp
@[grind =] theorem tStmt_delete (t wh ob lm) : tStmt (.delete t wh ob lm) = tTN t ++ (tOpt wh ++ (tOOrds ob ++ tLim lm)) := by
  cases wh <;> cases ob <;> sx_simp
@[grind =] theorem tStmt_createTableAs (t ine q) : tStmt (.createTableAs t ine q) = tTN t ++ tQ q := by sx_simp
@[grind =] theorem tStmt_dropTable (b t) : tStmt (.dropTable b t) = tTN t := by sx_simp
@[grind =] theorem tStmt_analyze (t p a b c) : tStmt (.analyze t p a b c) = tTN t ++ tOL p := by cases p <;> sx_simp
@[grind =] theorem tStmt_alter (t ops) : tStmt (.alter t ops) = tTN t ++ tAOs ops := by sx_simp
@[grind =] theorem tStmt_msck (t) : tStmt (.msck t) = tTN t := by sx_simp
@[grind =] theorem tStmt_truncate (t) : tStmt (.truncate t) = tTN t := by sx_simp
@[grind =] theorem tStmt_use (s) : tStmt (.use s) = [s] := by sx_simp
@[grind =] theorem tStmt_showDatabases : tStmt .showDatabases = [] := by sx_simp
@[grind =] theorem tStmt_showTables : tStmt .showTables = [] := by sx_simp
@[grind =] theorem tStmt_showColumns (fr wh) : tStmt (.showColumns fr wh) = tFTs fr ++ tOpt wh := by cases wh <;> sx_simp
@[grind =] theorem tStmts_nil : tStmts [] = [] := by sx_simp
@[grind =] theorem tStmts_append (a b : List Stmt) : tStmts (a ++ b) = tStmts a ++ tStmts b := by sx_simp
@[grind =] theorem tStmts_one (s : Stmt) : tStmts [s] = tStmt s := by sx_simp

/-! ### the `Full` fragment of statements -/
def FullVals : List (List Expr) → Bool
  | [] => true | r :: l => FullL r && FullVals l
def FullUS : List (String × Expr) → Bool
  | [] => true | (_, v) :: l => FullE v && FullUS l
/-- a partition list that is there is not empty (F-C08-6: `PARTITION x`) -/
def FullPart : Option (List Expr) → Bool
  | none => true | some l => FullNE l
def FullIH (h : InsertHead) : Bool := FullOWTs h.withs && FullPart h.partition
def FullAO : AlterOp → Bool
  | .addPartition _ p => FullNE p | .dropPartition _ p => FullNE p | .renameColumn _ _ => true | .dropColumn _ => true
  | .add _ => false | .modify _ => false | .change _ _ => false
def FullAOs : List AlterOp → Bool
  | [] => true | o :: l => FullAO o && FullAOs l
def FullStmt : Stmt → Bool
  | .select q => FullQ q
  | .insertValues h vs => FullIH h && FullVals vs
  | .insertSelect h q => FullIH h && FullQ q
  | .update ws _ sets wh ob _ => FullOWTs ws && (FullUS sets && (FullO wh && FullOOrds ob))
  | .delete _ wh ob _ => FullO wh && FullOOrds ob
  | .createTable _ => false
  | .createTableAs _ _ q => FullQ q
  | .dropTable _ _ => true
  | .set _ => false
  | .analyze _ p _ _ _ => FullPart p
  | .alter _ ops => FullAOs ops
  | .msck _ => true | .use _ => true | .truncate _ => true | .showDatabases => true | .showTables => true
  | .showColumns fr wh => FullFTs fr && FullO wh
def FullStmts : List Stmt → Bool
  | [] => true | s :: l => FullStmt s && FullStmts l
attribute [grind =] FullVals FullUS FullPart FullAO FullAOs FullStmt FullStmts
@[grind =] theorem FullIH_mk (ws ty tbl part cols) : FullIH ⟨ws, ty, tbl, part, cols⟩ = (FullOWTs ws && FullPart part) := rfl
@[grind =] theorem FullVals_append (a b : List (List Expr)) : FullVals (a ++ b) = (FullVals a && FullVals b) := by
  induction a with
  | nil => simp [FullVals]
  | cons x a ih => simp [FullVals, ih, Bool.and_assoc]
@[grind =] theorem FullUS_append (a b : List (String × Expr)) : FullUS (a ++ b) = (FullUS a && FullUS b) := by
  induction a with
  | nil => simp [FullUS]
  | cons x a ih => obtain ⟨c, v⟩ := x; simp [FullUS, ih, Bool.and_assoc]
@[grind =] theorem FullAOs_append (a b : List AlterOp) : FullAOs (a ++ b) = (FullAOs a && FullAOs b) := by
  induction a with
  | nil => simp [FullAOs]
  | cons x a ih => simp [FullAOs, ih, Bool.and_assoc]
@[grind =] theorem FullStmts_append (a b : List Stmt) : FullStmts (a ++ b) = (FullStmts a && FullStmts b) := by
  induction a with
  | nil => simp [FullStmts]
  | cons x a ih => simp [FullStmts, ih, Bool.and_assoc]

/-! ### running a parser on every comma-separated segment -/
theorem accAll_flatten {T : List String} {segs : List (List Tok)} (h : ∀ sg ∈ segs, AccAll T sg) : AccAll T segs.flatten := fun t ht => by
  obtain ⟨sg, hsg, hts⟩ := List.mem_flatten.1 ht; exact h sg hsg t hts
theorem sub_flatMap {α : Type} {tx : α → List String} {vs : List α} {T : List String} (h : Sub (vs.flatMap tx) T) {v : α} (hv : v ∈ vs) :
    Sub (tx v) T := fun x hx => h x (List.mem_flatMap.2 ⟨v, hv, hx⟩)
theorem eachClosed_acc (T : List String) {α : Type} (p : List Tok → R α) (tx : α → List String) (pl : α → Bool)
    (hp : ∀ sg, AR T tx pl sg [] true (p sg)) (segs : List (List Tok)) (vs : List α) (h : eachClosed p segs = .ok vs)
    (hpl : ∀ v ∈ vs, pl v = true) (hs : Sub (vs.flatMap tx) T) : AccAll T segs.flatten :=
  accAll_flatten fun sg hsg => by
    obtain ⟨v, hv, hv'⟩ := eachClosed_mem h sg hsg
    have := ((hp sg v [] hv' (hpl v hv)).2 (sub_flatMap hs hv)).1
    rwa [acc3_nil] at this
theorem tEs_flatMap (vs : List Expr) : vs.flatMap tE = tEs vs := by
  induction vs with
  | nil => simp [tEs_nil]
  | cons v vs ih => simp [tEs_cons, ih]
theorem fullL_all (vs : List Expr) : FullL vs = true → ∀ v ∈ vs, FullE v = true := by
  induction vs with
  | nil => simp
  | cons v vs ih => simp only [FullL, Bool.and_eq_true, List.mem_cons]; rintro ⟨h1, h2⟩ x (rfl | hx); exact h1; exact ih h2 x hx


def tPI (p : Expr × Bool) : List String := tE p.1
def FullPI (p : Expr × Bool) : Bool := FullE p.1
@[grind =] theorem tPI_def (a b) : tPI (a, b) = tE a := rfl
@[grind =] theorem FullPI_def (a b) : FullPI (a, b) = FullE a := rfl
def tWOL (p : Option Expr × Option (List OrderItem) × Option (Int × Option Int)) : List String := tOpt p.1 ++ (tOOrds p.2.1 ++ tLim p.2.2)
def FullWOL (p : Option Expr × Option (List OrderItem) × Option (Int × Option Int)) : Bool := FullO p.1 && FullOOrds p.2.1
@[grind =] theorem tWOL_def (a b c) : tWOL (a, b, c) = tOpt a ++ (tOOrds b ++ tLim c) := rfl
@[grind =] theorem FullWOL_def (a b c) : FullWOL (a, b, c) = (FullO a && FullOOrds b) := rfl
def tUSC (p : String × Expr) : List String := p.1 :: tE p.2
def FullUSC (p : String × Expr) : Bool := FullE p.2
@[grind =] theorem tUSC_def (a b) : tUSC (a, b) = a :: tE b := rfl
@[grind =] theorem FullUSC_def (a b) : FullUSC (a, b) = FullE b := rfl
@[grind =] theorem FullUS_one (c : String) (v : Expr) : FullUS [(c, v)] = FullE v := by simp [FullUS]
@[grind =] theorem FullVals_one (r : List Expr) : FullVals [r] = FullL r := by simp [FullVals]
@[grind =] theorem FullAOs_one (o : AlterOp) : FullAOs [o] = FullAO o := by simp [FullAOs]
@[grind =] theorem FullStmts_one (s : Stmt) : FullStmts [s] = FullStmt s := by simp [FullStmts]
grind_pattern PM.popSplit_ok => popSplit ts, Except.ok (segs, r)
theorem eachClosed_nil_or {α : Type} (p : List Tok → R α) (segs : List (List Tok)) (vs : List α) (h : eachClosed p segs = .ok vs) :
    segs ≠ [] ∨ vs = [] := by
  cases segs with
  | nil => right; simp [eachClosed] at h; exact h
  | cons a b => left; simp
grind_pattern eachClosed_nil_or => eachClosed p segs, Except.ok vs
theorem map_nil_or {α β : Type} (l : List α) (f : α → β) : l ≠ [] ∨ l.map f = [] := by cases l <;> simp
grind_pattern map_nil_or => l.map f
theorem eachClosed_compute (T : List String) (d : Gen.D) (f : Nat) (segs : List (List Tok)) (row : List Expr)
    (h : eachClosed (pCompute d f) segs = .ok row) (hpl : FullL row = true) (hs : Sub (tEs row) T) : AccAll T segs.flatten := by
  refine eachClosed_acc T (pCompute d f) tE FullE (accA_all d T f).pCompute segs row h (fullL_all _ hpl) ?_
  rw [tEs_flatMap]; exact hs
grind_pattern eachClosed_compute => Anchor T, eachClosed (pCompute d f) segs, Except.ok row

end PA
