import MsqProofs.Lemmas.LexRetain2Defs
import MsqProofs.Lemmas.LexLossless
/-!
# Retention under every option setting (C04 d) — the simulation

`R m μ nx := mrendS m.stack ++ (the pending window, unless it is going to be erased)` — the marked rendering of
everything on the frame stack plus the window, where the window counts as erased (`pd`) when comments are ignored and
the scanner is inside a comment or has just read the first character of `--` / `/*` (`nx`: the next character) — grows
with every character fed by exactly what `Scan.eraseA` prescribes for that character.  The per-cell facts come from
the finite obligation `retCheck` (kernel-decided per generated table, `Oblig/RetCfg*.lean`), the correspondence of
lexer states and scanner modes from `simCheck` (`LexScan.lean`), the window facts from `Inv2` (`LexLossless.lean`).
-/
namespace Lex
open Scan Spec

/-! ## marked rendering -/

theorem msrcL_append (a b : List Tok) : msrcL (a ++ b) = msrcL a ++ msrcL b := by
  induction a with
  | nil => rfl
  | cons t ts ih => simp [msrcL, ih]

theorem mrendS_appendTop_single {s : List Char} {k : Nat} {st st' : List (List Tok)}
    (h : appendTop (.single s k) st = some st') : mrendS st' = mrendS st ++ s.map .ch := by
  cases st with
  | nil => cases h
  | cons f fs => cases h; cases fs <;> simp [mrendS, msrcL_append, msrcL, Tok.msrc]

theorem mrendS_push (g : List Tok) (rest : List (List Tok)) :
    mrendS ([] :: g :: rest) = mrendS (g :: rest) ++ [.ev .opn] := by
  simp [mrendS, msrcL]

theorem mrendS_appendTop_group {k : GK} {f : List Tok} {mk : Nat} {fs st' : List (List Tok)}
    (h : appendTop (.group k f mk) fs = some st') : mrendS st' = mrendS (f :: fs) ++ [.ev (.cls k)] := by
  cases fs with
  | nil => cases h
  | cons g rest => cases h; cases rest <;> simp [mrendS, msrcL_append, msrcL, Tok.msrc]

mutual
theorem Tok.msrc_round : ∀ t : Tok, (Tok.msrc t).map MC.round = Tok.source t
  | .single s _ => by
    simp only [Tok.msrc, Tok.source, List.map_map]
    induction s with
    | nil => rfl
    | cons c cs ih => simpa [MC.round] using ih
  | .group k cs _ => by simp [Tok.msrc, Tok.source, MC.round, msrcL_round cs]
theorem msrcL_round : ∀ ts : List Tok, (msrcL ts).map MC.round = sourceL ts
  | [] => rfl
  | t :: ts => by simp [msrcL, sourceL, Tok.msrc_round t, msrcL_round ts]
end

mutual
theorem Tok.msrc_skel : ∀ t : Tok, (Tok.msrc t).filterMap MC.ev? = skelT t
  | .single s _ => by
    simp only [Tok.msrc, skelT, List.filterMap_map]
    induction s with
    | nil => rfl
    | cons c cs ih => simpa [List.filterMap_cons, MC.ev?] using ih
  | .group k cs _ => by simp [Tok.msrc, skelT, MC.ev?, List.filterMap_append, msrcL_skel cs]
theorem msrcL_skel : ∀ ts : List Tok, (msrcL ts).filterMap MC.ev? = skelL ts
  | [] => rfl
  | t :: ts => by simp [msrcL, skelL, List.filterMap_append, Tok.msrc_skel t, msrcL_skel ts]
end

mutual
theorem Tok.msrc_leaves : ∀ t : Tok, (Tok.msrc t).filterMap MC.ch? = (leaves t).flatten
  | .single s _ => by
    simp only [Tok.msrc, leaves, List.filterMap_map, List.flatten_cons, List.flatten_nil, List.append_nil]
    induction s with
    | nil => rfl
    | cons c cs ih => simpa [List.filterMap_cons, MC.ch?] using ih
  | .group k cs _ => by
    simp only [Tok.msrc, leaves, List.filterMap_cons, MC.ch?, List.filterMap_append, msrcL_leaves cs]
    simp
theorem msrcL_leaves : ∀ ts : List Tok, (msrcL ts).filterMap MC.ch? = (leavesL ts).flatten
  | [] => rfl
  | t :: ts => by simp [msrcL, leavesL, List.filterMap_append, Tok.msrc_leaves t, msrcL_leaves ts]
end

theorem mrendS_bodyStk {env : Env} {sm : Nat} {m : Mem} {now : Nat} {body : Body} {stk : List (List Tok)}
    (h : bodyStk env sm m now body = some stk) :
    mrendS stk = mrendS m.stack ++
      (match (generalizing := false) body with | .emit _ => ((env.text.drop m.start).take (now - m.start)).map .ch | _ => []) := by
  cases body with
  | emit mk => exact mrendS_appendTop_single h
  | keep | drop => cases h; simp

theorem mrendS_grpStk {env : Env} {sm : Nat} {grp : Grp} {stk stk' : List (List Tok)}
    (h : grpStk env sm grp stk = some stk') (hne : stk ≠ []) : mrendS stk' = mrendS stk ++ (grpEv grp).map .ev := by
  cases grp with
  | none => cases h; simp [grpEv]
  | push =>
    cases h
    cases stk with
    | nil => exact absurd rfl hne
    | cons g rest => exact mrendS_push g rest
  | pop k mk =>
    cases stk with
    | nil => cases h
    | cons f fs => exact mrendS_appendTop_group h

/-! ## effects of the abstract actions, and soundness of the cell checks (pure list facts) -/

/-- rendering `R`, window `W1` (after a possible advance) before, rendering `R'`, window `W'` after an action -/
def EffL (a : Act) (R R' : List MC) (W1 W' : List Char) : Prop :=
  match a with
  | .keep => R' = R ∧ W' = W1
  | .emit => R' = R ++ W1.map .ch ∧ W' = []
  | .drop => R' = R ∧ W' = []
  | .br e => R' = R ++ [.ev e] ∧ W' = []
  | .bad => True

/-- the visible part of the pending window -/
def V (d : Bool) (W : List Char) : List MC := if d then [] else W.map .ch

theorem stepOK_sound (a : Act) (empty d d' : Bool) (o : OutK) (c : Char) (R R' : List MC) (W W' : List Char)
    (hE : EffL a R R' (W ++ [c]) W') (hemp : empty = true → W = []) (hok : stepOK empty a d d' o = true) :
    R' ++ V d' W' = R ++ V d W ++ o.out c := by
  cases a with
  | bad => simp [stepOK] at hok
  | keep =>
    obtain ⟨rfl, rfl⟩ := hE
    simp only [stepOK, Bool.and_eq_true, Bool.or_eq_true, beq_iff_eq] at hok
    obtain ⟨h1, rfl⟩ := hok
    rcases h1 with rfl | h1
    · cases d <;> simp [V, OutK.out]
    · have := hemp h1; subst this
      cases d <;> cases d' <;> simp [V, OutK.out]
  | emit =>
    obtain ⟨rfl, rfl⟩ := hE
    simp only [stepOK, Bool.and_eq_true, Bool.or_eq_true, beq_iff_eq, Bool.not_eq_eq_eq_not, Bool.not_true] at hok
    obtain ⟨h1, rfl⟩ := hok
    rcases h1 with rfl | h1
    · cases d' <;> simp [V, OutK.out]
    · have := hemp h1; subst this
      cases d <;> cases d' <;> simp [V, OutK.out]
  | drop =>
    obtain ⟨rfl, rfl⟩ := hE
    simp only [stepOK, Bool.and_eq_true, Bool.or_eq_true, beq_iff_eq] at hok
    obtain ⟨h1, rfl⟩ := hok
    rcases h1 with rfl | h1
    · cases d' <;> simp [V, OutK.out]
    · have := hemp h1; subst this
      cases d <;> cases d' <;> simp [V, OutK.out]
  | br e =>
    obtain ⟨rfl, rfl⟩ := hE
    simp only [stepOK, Bool.and_eq_true, beq_iff_eq] at hok
    obtain ⟨h1, rfl⟩ := hok
    have := hemp h1; subst this
    cases d <;> cases d' <;> simp [V, OutK.out]

theorem firstOK_sound (a : Act) (empty d e1 : Bool) (R R' : List MC) (W W' : List Char)
    (hE : EffL a R R' W W') (hemp : empty = true → W = []) (hok : firstOK empty a d = some e1) :
    R' ++ V d W' = R ++ V d W ∧ (e1 = true → W' = []) := by
  cases a with
  | bad => simp [firstOK] at hok
  | br e => simp [firstOK] at hok
  | keep =>
    obtain ⟨rfl, rfl⟩ := hE
    simp only [firstOK, Option.some.injEq] at hok
    subst hok
    exact ⟨rfl, hemp⟩
  | emit =>
    obtain ⟨rfl, rfl⟩ := hE
    simp only [firstOK] at hok
    split at hok
    · rename_i h1
      simp only [Bool.or_eq_true, Bool.not_eq_eq_eq_not, Bool.not_true] at h1
      refine ⟨?_, fun _ => rfl⟩
      rcases h1 with rfl | h1
      · simp [V]
      · have := hemp h1; subst this
        cases d <;> simp [V]
    · cases hok
  | drop =>
    obtain ⟨rfl, rfl⟩ := hE
    simp only [firstOK] at hok
    split at hok
    · rename_i h1
      simp only [Bool.or_eq_true] at h1
      refine ⟨?_, fun _ => rfl⟩
      rcases h1 with rfl | h1
      · simp [V]
      · have := hemp h1; subst this
        cases d <;> simp [V]
    · cases hok

/-! ## the run -/

section run
variable (cfg : Cfg Gen.Cls) (advSt : List S) (wk : S → WK) (text : List Char) (ig : Ign)
  (hT : TableOK cfg advSt wk = true) (hsum : ∀ c, (summarize (cfg.code c)).isSome = true)
  (hret : retCheck ig cfg = true)

/-- rendering plus the visible part of the pending window -/
def RV (m : Mem) (μ : Mode) (nx : Option Nat) : List MC :=
  mrendS m.stack ++ V (pd ig μ nx) (curWin text m)

include hsum in
theorem handle_eff (m m' : Mem) (sym : Sym) (b : Bool) (hne : m.stack ≠ [])
    (h : handle cfg text m sym = .ok (m', b)) :
    ∃ adv a, hInfoOp cfg m.status (cfg.lookup m.status sym) = some (m'.status, b, adv, a) ∧ m'.stack ≠ [] ∧
      m'.now = (if adv then m.now + 1 else m.now) ∧
      EffL a (mrendS m.stack) (mrendS m'.stack) ((text.drop m.start).take (m'.now - m.start)) (curWin text m') := by
  obtain ⟨o, sm, ho, hs, hr, h⟩ := handle_ok_of (fun o _ => Option.isSome_iff_exists.mp (hsum o.cls)) h
  obtain ⟨a1, _, a3, a4⟩ := execCore_skel _ _ _ _ _ _ _ _ _ _ _ h hne
  obtain ⟨_, hnow, _, hstart, stk, h1, h2⟩ := execCore_ok _ _ _ h
  have hR := mrendS_grpStk h2 (skelS_bodyStk h1 hne).1
  rw [mrendS_bodyStk h1] at hR
  refine ⟨sm.adv, actOf sm, by simp [hInfoOp, ho, hs, hr, a3, a4], a1, hnow, ?_⟩
  cases hb : sm.body <;> cases hg : sm.grp <;>
    simp only [hb, hg, bodyStart, grpEv, List.map_nil, List.map_cons, List.append_nil] at hR hstart <;>
    simp only [actOf, hb, hg, EffL]
  case keep.none => exact ⟨hR, by unfold curWin; rw [hstart]⟩
  case emit.none => exact ⟨by simpa [Cfg.env] using hR, curWin_empty text m' hstart⟩
  all_goals exact ⟨hR, curWin_empty text m' hstart⟩

theorem retCheck.cell {ig : Ign} {cfg : Cfg Gen.Cls} (h : retCheck ig cfg = true) (s : S) (μ : Mode) (hμ : μ ∈ rho s)
    (n : Nat) : cellOK ig cfg s μ (norm n) = true := by
  have hs := (List.all_eq_true.mp h) s (mem_allS s)
  have hm := (List.all_eq_true.mp hs) μ hμ
  simp only [Bool.and_eq_true, List.all_eq_true] at hm
  exact hm.1 (norm n) (norm_mem n)

theorem retCheck.false_of_cell {ig : Ign} {cfg : Cfg Gen.Cls} (s : S) (μ : Mode) (hμ : μ ∈ rho s) (n : Nat)
    (h : cellOK ig cfg s μ (norm n) = false) : retCheck ig cfg = false :=
  Bool.eq_false_iff.2 fun hr => by rw [retCheck.cell hr s μ hμ n] at h; cases h

theorem retCheck.eof {ig : Ign} {cfg : Cfg Gen.Cls} (h : retCheck ig cfg = true) (s : S) (μ : Mode) (hμ : μ ∈ rho s) :
    eofOK2 ig cfg s μ = true := by
  have hs := (List.all_eq_true.mp h) s (mem_allS s)
  have hm := (List.all_eq_true.mp hs) μ hμ
  simp only [Bool.and_eq_true] at hm
  exact hm.2

include hT hsum hret in
theorem feed_mrend (hnorm : ∀ s n, lookupN cfg s n = lookupN cfg s (norm n)) (hcheck : simCheck cfg = true)
    (m m' : Mem) (c : Char) (rest : List Char) (segs : List Seg) (μ : Mode)
    (hinv : Inv2 cfg wk text m segs) (hc : text.drop m.now = c :: rest) (hne : m.stack ≠ []) (hμ : μ ∈ rho m.status)
    (h : feed cfg text m c = .ok m') :
    ∃ segs', Inv2 cfg wk text m' segs' ∧ m'.now = m.now + 1 ∧ m'.stack ≠ [] ∧
      (step μ (norm c.toNat)).1 ∈ rho m'.status ∧
      ∀ nx, RV text ig m' (step μ (norm c.toNat)).1 nx =
        RV text ig m μ (some (norm c.toNat)) ++ (outK ig (classOf μ (norm c.toNat) nx)).out c := by
  obtain ⟨segsF, hiF, hnF⟩ := feed_inv cfg advSt wk text hT m m' c rest segs hinv hc h
  obtain ⟨e, htr, _, hneF⟩ := feedWith_skel cfg hsum text m m' c h hne
  obtain ⟨_, hμ'⟩ := step_sim cfg hnorm hcheck m.status m'.status μ hμ c e htr
  refine ⟨segsF, hiF, hnF, hneF, hμ', ?_⟩
  have hcell := retCheck.cell hret m.status μ hμ c.toNat
  have hemp : isEmptySt cfg m.status = true → curWin text m = [] := fun he =>
    curWin_empty text m (hinv.emptyWin he)
  rcases feedWith_ok h with e1 | ⟨m1, b2, e1, e2⟩
  · obtain ⟨adv1, a1, hi1, hn1, hnow1, heff1⟩ := handle_eff cfg text hsum m m' (.ch c) true hne e1
    rw [lookup_ch, hnorm] at hi1
    simp only [cellOK, hInfo, lookupF_eq, hi1, if_true, Bool.and_eq_true, List.all_eq_true] at hcell
    obtain ⟨hadv, hall⟩ := hcell
    subst hadv
    simp only [if_true] at hnow1
    intro nx
    have hok := hall (canonNx nx) (canonNx_mem nx)
    rw [← pd_canon, ← classOf_canon] at hok
    rw [hnow1, window_snoc text m c rest hinv.le hc] at heff1
    have := stepOK_sound a1 _ _ _ _ c _ _ _ _ heff1 hemp hok
    simpa [RV, List.append_assoc] using this
  · obtain ⟨adv1, a1, hi1, hn1, hnow1, heff1⟩ := handle_eff cfg text hsum m m1 (.ch c) false hne e1
    rw [lookup_ch, hnorm] at hi1
    obtain ⟨segs1, hinv1, hnowb1, _⟩ := handle_char_inv cfg advSt wk text hT m m1 c rest false segs hinv hc e1
    simp only [cellOK, hInfo, lookupF_eq, hi1, Bool.false_eq_true, if_false, Bool.and_eq_true, Bool.not_eq_eq_eq_not,
      Bool.not_true] at hcell hnowb1
    obtain ⟨hadv, hcell⟩ := hcell
    subst hadv
    simp only [Bool.false_eq_true, if_false] at hnow1
    cases hf : firstOK (isEmptySt cfg m.status) a1 (pd ig μ (some (norm c.toNat))) with
    | none => rw [hf] at hcell; cases hcell
    | some em1 =>
      rw [hf] at hcell
      simp only at hcell
      have hW1 : (text.drop m.start).take (m1.now - m.start) = curWin text m := by rw [hnow1]; rfl
      rw [hW1] at heff1
      obtain ⟨hR1, hem1⟩ := firstOK_sound a1 _ _ em1 _ _ _ _ heff1 hemp hf
      have hc1 : text.drop m1.now = c :: rest := by rw [hnow1]; exact hc
      obtain ⟨adv2, a2, hi2, hn2, hnow2, heff2⟩ := handle_eff cfg text hsum m1 m' (.ch c) b2 hn1 e2
      rw [lookup_ch, hnorm] at hi2
      simp only [hi2, Bool.and_eq_true, List.all_eq_true] at hcell
      obtain ⟨hadv2, hall⟩ := hcell
      subst hadv2
      simp only [if_true] at hnow2
      intro nx
      have hok := hall (canonNx nx) (canonNx_mem nx)
      rw [← pd_canon, ← classOf_canon] at hok
      rw [hnow2, window_snoc text m1 c rest hinv1.le hc1] at heff2
      have hemp1 : (em1 || isEmptySt cfg m1.status) = true → curWin text m1 = [] := by
        intro he
        rcases Bool.or_eq_true_iff.mp he with he | he
        · exact hem1 he
        · exact curWin_empty text m1 (hinv1.emptyWin he)
      have := stepOK_sound a2 _ _ _ _ c _ _ _ _ heff2 hemp1 hok
      simp only [RV]
      rw [this, hR1]

include hT hsum hret in
theorem feedAll_mrend (hnorm : ∀ s n, lookupN cfg s n = lookupN cfg s (norm n)) (hcheck : simCheck cfg = true)
    (cs : List Char) : ∀ (rest : List Char) (m m' : Mem) (segs : List Seg) (μ : Mode),
    Inv2 cfg wk text m segs → text.drop m.now = cs ++ rest → m.stack ≠ [] → μ ∈ rho m.status →
    feedAll cfg text cs m = .ok m' →
    ∃ segs', Inv2 cfg wk text m' segs' ∧ m'.now = m.now + cs.length ∧ m'.stack ≠ [] ∧
      (scanAll μ cs).1 ∈ rho m'.status ∧
      ∀ fin, RV text ig m' (scanAll μ cs).1 fin = RV text ig m μ (nxtOf cs fin) ++ eraseA ig μ cs fin := by
  induction cs with
  | nil =>
    intro rest m m' segs μ hinv _ hne hμ h
    cases h
    exact ⟨segs, hinv, by simp, hne, by simpa [scanAll] using hμ, by simp [scanAll, nxtOf, eraseA]⟩
  | cons c cs ih =>
    intro rest m m' segs μ hinv hcs hne hμ h
    obtain ⟨m1, e1, h⟩ := feedAllWith_cons_ok h
    obtain ⟨segs1, hi1, hn1, hne1, hμ1, hR1⟩ :=
      feed_mrend cfg advSt wk text ig hT hsum hret hnorm hcheck m m1 c (cs ++ rest) segs μ hinv
        (by simpa using hcs) hne hμ e1
    have hcs1 : text.drop m1.now = cs ++ rest := by
      rw [hn1, ← List.drop_drop, hcs]; simp
    obtain ⟨segs2, hi2, hn2, hne2, hμ2, hR2⟩ := ih rest m1 m' segs1 _ hi1 hcs1 hne1 hμ1 h
    refine ⟨segs2, hi2, by rw [hn2, hn1]; simp; omega, hne2, by simpa [scanAll] using hμ2, ?_⟩
    intro fin
    have := hR2 fin
    simp only [scanAll]
    rw [this, hR1 (nxtOf cs fin)]
    simp [eraseA, nxtOf, List.append_assoc]

include hsum hret in
/-- the end of the text: nothing is consumed; the pending window is emitted, or dropped if it is to be erased -/
theorem handle_mrend_eof (m m' : Mem) (b : Bool) (segs : List Seg) (μ : Mode) (hinv : Inv2 cfg wk text m segs)
    (hne : m.stack ≠ []) (hμ : μ ∈ rho m.status) (h : handle cfg text m .eof = .ok (m', b)) :
    m'.stack ≠ [] ∧ mrendS m'.stack ++ (curWin text m').map .ch = RV text ig m μ none := by
  obtain ⟨adv, a, hi, hn1, hnow, heff⟩ := handle_eff cfg text hsum m m' .eof b hne h
  refine ⟨hn1, ?_⟩
  have hcell := retCheck.eof hret m.status μ hμ
  have hl : cfg.lookup m.status .eof = cfg.atEnd m.status := rfl
  rw [hl] at hi
  simp only [eofOK2, hi, Bool.and_eq_true, Bool.not_eq_eq_eq_not, Bool.not_true] at hcell
  obtain ⟨hadv, hcell⟩ := hcell
  subst hadv
  simp only [Bool.false_eq_true, if_false] at hnow
  have hW1 : (text.drop m.start).take (m'.now - m.start) = curWin text m := by rw [hnow]; rfl
  rw [hW1] at heff
  have hemp : isEmptySt cfg m.status = true → curWin text m = [] := fun he =>
    curWin_empty text m (hinv.emptyWin he)
  cases a with
  | bad => simp at hcell
  | br e => simp at hcell
  | keep =>
    obtain ⟨e1, e2⟩ := heff
    simp only [Bool.or_eq_true, Bool.not_eq_eq_eq_not, Bool.not_true] at hcell
    rw [e1, e2]
    rcases hcell with hd | he
    · simp [RV, V, hd]
    · simp [RV, V, hemp he]
  | emit =>
    obtain ⟨e1, e2⟩ := heff
    simp only [Bool.or_eq_true, Bool.not_eq_eq_eq_not, Bool.not_true] at hcell
    rw [e1, e2]
    rcases hcell with hd | he
    · simp [RV, V, hd]
    · simp [RV, V, hemp he]
  | drop =>
    obtain ⟨e1, e2⟩ := heff
    simp only [Bool.or_eq_true] at hcell
    rw [e1, e2]
    rcases hcell with hd | he
    · simp [RV, V, hd]
    · simp [RV, V, hemp he]

include hT hsum hret in
/-- **retention under any setting**, generic in the table: for every accepted text, the marked rendering of the token
list is the (pre-processed) text with the characters of the ignored classes removed -/
theorem lex_mretained (hnorm : ∀ s n, lookupN cfg s n = lookupN cfg s (norm n)) (hcheck : simCheck cfg = true)
    (hd : cfg.depthLimit ≤ 1) (raw : List Char) (ts : List Tok) (h : Lex.lex cfg raw = .ok ts) :
    msrcL ts = eraseM ig (cfg.pre raw) := by
  obtain ⟨m, m', b, e1, e2, hf⟩ := lexWith_ok h
  obtain ⟨hEnd, hst⟩ := finish_ok_inv hd hf
  obtain ⟨segs1, hi1, hn1, hne1, hμ1, hR1⟩ :=
    feedAll_mrend cfg advSt wk (cfg.pre raw) ig hT hsum hret hnorm hcheck (cfg.pre raw) [] {} m [] .N
      (Inv2.init cfg wk _ (TableOK.wait hT)) (by simp) (by simp) (by simp [rho]) e1
  obtain ⟨segs2, hi2, hn2⟩ := handle_eof_inv cfg advSt wk (cfg.pre raw) hT m m' b segs1 hi1 e2
  obtain ⟨hne2, hR2⟩ := handle_mrend_eof cfg wk (cfg.pre raw) ig hsum hret m m' b segs1 _ hi1 hne1 hμ1 e2
  have hw : curWin (cfg.pre raw) m' = [] := curWin_empty _ m' (hi2.emptyWin (by simp [isEmptySt, hEnd]))
  rw [hst, hw, hR1 none] at hR2
  simpa [mrendS, msrcL, RV, V, curWin, eraseM] using hR2

end run

end Lex
