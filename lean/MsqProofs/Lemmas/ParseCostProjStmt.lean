import MsqProofs.Lemmas.ParseCostProj
import MsqProofs.Lemmas.ParseStepsCost
/-! GENERATED by tools/gen_cost.py — C19 projection: the statement level (Parse/Stmt.lean) and `pStatements`.  Written by hand: `defColLoop_proj`, `createOpts_proj` (tools/hand/ParseCostProjStmt.lean.in, put in by tools/hand_blocks.py) -/
set_option linter.unusedSimpArgs false
open Lex PM Ast
namespace PM

theorem pTblName_proj (ts : List Tok) (κ : Nat) : (pTblName_k ts κ).2 = pTblName ts := by
  have h_pTableName := pTableName_proj
  unfold pTblName_k pTblName
  proj_run

theorem pInsertType_proj (ts : List Tok) (κ : Nat) : (pInsertType_k ts κ).2 = pInsertType ts := by
  unfold pInsertType_k pInsertType
  proj_run

theorem configStringLoop_proj  : ∀ x0 x1 x2 κ, (configStringLoop_k  x0 x1 x2 κ).2 = configStringLoop  x0 x1 x2 := by
  have h_popSrc := popSrc_proj
  intro x0
  induction x0 with
  | zero => intros; rfl
  | succ n ih =>
    intro x1 x2 κ
    unfold configStringLoop_k configStringLoop
    proj_run

theorem pConfigString_proj (ts : List Tok) (κ : Nat) : (pConfigString_k ts κ).2 = pConfigString ts := by
  have h_popSrc := popSrc_proj
  have h_configStringLoop := configStringLoop_proj
  unfold pConfigString_k pConfigString
  proj_run

theorem pConfigStrExpr_proj (ts : List Tok) (κ : Nat) : (pConfigStrExpr_k ts κ).2 = pConfigStrExpr ts := by
  have h_pConfigString := pConfigString_proj
  unfold pConfigStrExpr_k pConfigStrExpr
  proj_run

theorem pColType_proj (d : Gen.D) (f : Nat) (ts : List Tok) (κ : Nat) : (pColType_k d f ts κ).2 = pColType d f ts := by
  have h_popSrc := popSrc_proj
  have h_pCompute := (pCompute_proj d f)
  have hE0 := eachClosed_k_snd (pCompute_k d f) (pCompute d f) (pCompute_proj d f)
  unfold pColType_k pColType
  proj_run

theorem pPartitionItem_proj (d : Gen.D) (f : Nat) (ts : List Tok) (κ : Nat) : (pPartitionItem_k d f ts κ).2 = pPartitionItem d f ts := by
  have h_popSrc := popSrc_proj
  have h_pCompute := (pCompute_proj d f)
  unfold pPartitionItem_k pPartitionItem
  proj_run

theorem pPartition_proj (d : Gen.D) (f : Nat) (already : Bool) (ts : List Tok) (κ : Nat) : (pPartition_k d f already ts κ).2 = pPartition d f already ts := by
  have h_pPartitionItem := (pPartitionItem_proj d f)
  have hE0 := eachClosed_k_snd (pPartitionItem_k d f) (pPartitionItem d f) (pPartitionItem_proj d f)
  cases already <;> unfold pPartition_k pPartition <;> simp only [Bool.false_eq_true, ↓reduceIte, if_true, if_false] <;> proj_run

theorem pFkAction_proj (ts : List Tok) (κ : Nat) : (pFkAction_k ts κ).2 = pFkAction ts := by
  unfold pFkAction_k pFkAction
  proj_run

theorem pOptFkAction_proj (ts : List Tok) (a b : String) (κ : Nat) : (pOptFkAction_k ts a b κ).2 = pOptFkAction ts a b := by
  have h_pFkAction := pFkAction_proj
  unfold pOptFkAction_k pOptFkAction
  proj_run

theorem pNameList_proj (ts : List Tok) (κ : Nat) : (pNameList_k ts κ).2 = pNameList ts := by
  have h_popSrc := popSrc_proj
  have hE0 := eachClosed_k_snd popSrc_k popSrc popSrc_proj
  unfold pNameList_k pNameList
  proj_run

theorem pForeignKey_proj (ts : List Tok) (κ : Nat) : (pForeignKey_k ts κ).2 = pForeignKey ts := by
  have h_popSrc := popSrc_proj
  have h_pOptFkAction := pOptFkAction_proj
  have h_pNameList := pNameList_proj
  unfold pForeignKey_k pForeignKey
  proj_run

theorem pIndexCol_proj (ts : List Tok) (κ : Nat) : (pIndexCol_k ts κ).2 = pIndexCol ts := by
  have h_popSrc := popSrc_proj
  unfold pIndexCol_k pIndexCol
  proj_run

theorem pIndexCols_proj (ts : List Tok) (κ : Nat) : (pIndexCols_k ts κ).2 = pIndexCols ts := by
  have h_pIndexCol := pIndexCol_proj
  have hE0 := eachClosed_k_snd pIndexCol_k pIndexCol pIndexCol_proj
  unfold pIndexCols_k pIndexCols
  proj_run

theorem pOptSrc_proj (ts : List Tok) (k : String) (κ : Nat) : (pOptSrc_k ts k κ).2 = pOptSrc ts k := by
  have h_popSrc := popSrc_proj
  unfold pOptSrc_k pOptSrc
  proj_run

theorem pIndexTail_proj (kind : IndexKind) (name : Option String) (ts : List Tok) (κ : Nat) : (pIndexTail_k kind name ts κ).2 = pIndexTail kind name ts := by
  have h_pIndexCols := pIndexCols_proj
  have h_pOptSrc := pOptSrc_proj
  unfold pIndexTail_k pIndexTail
  proj_run

theorem pPrimaryIndex_proj (ts : List Tok) (κ : Nat) : (pPrimaryIndex_k ts κ).2 = pPrimaryIndex ts := by
  have h_pIndexTail := pIndexTail_proj
  unfold pPrimaryIndex_k pPrimaryIndex
  proj_run

theorem pNamedIndex_proj (kind : IndexKind) (kws : List String) (ts : List Tok) (κ : Nat) : (pNamedIndex_k kind kws ts κ).2 = pNamedIndex kind kws ts := by
  have h_popSrc := popSrc_proj
  have h_pIndexTail := pIndexTail_proj
  unfold pNamedIndex_k pNamedIndex
  proj_run

theorem pUniqueIndex_proj : ∀ ts κ, (pUniqueIndex_k ts κ).2 = pUniqueIndex ts := fun ts κ => pNamedIndex_proj _ _ ts κ
theorem pNormalIndex_proj : ∀ ts κ, (pNormalIndex_k ts κ).2 = pNormalIndex ts := fun ts κ => pNamedIndex_proj _ _ ts κ
theorem pFulltextIndex_proj : ∀ ts κ, (pFulltextIndex_k ts κ).2 = pFulltextIndex ts := fun ts κ => pNamedIndex_proj _ _ ts κ
theorem pGenerated_proj (d : Gen.D) (f : Nat) (ts : List Tok) (κ : Nat) : (pGenerated_k d f ts κ).2 = pGenerated d f ts := by
  have h_popSrc := popSrc_proj
  have h_pCompute := (pCompute_proj d f)
  unfold pGenerated_k pGenerated
  proj_run

theorem defColAttr_k_proj (d : Gen.D) (f : Nat) (ts : List Tok) (κ : Nat) : (defColAttr_k d f ts κ).2 = defColAttr d f ts := by
  have h_popSrc := popSrc_proj
  have h_pGenerated := (pGenerated_proj d f)
  have h_pCompute := (pCompute_proj d f)
  unfold defColAttr_k defColAttr
  proj_run

theorem defColLoop_proj (d : Gen.D) (f : Nat) : ∀ x0 x1 x2 κ, (defColLoop_k d f x0 x1 x2 κ).2 = defColLoop d f x0 x1 x2 := by
  intro x0 x1 x2 κ
  rw [defColLoop_k_eq, defColLoop_eq]
  exact attrLoop_k_snd _ _ _ _ (defColAttr_k_proj d f) x0 x1 x2 κ

theorem pDefCol_proj (d : Gen.D) (f : Nat) (ts : List Tok) (κ : Nat) : (pDefCol_k d f ts κ).2 = pDefCol d f ts := by
  have h_popSrc := popSrc_proj
  have h_pColType := (pColType_proj d f)
  have h_defColLoop := (defColLoop_proj d f)
  unfold pDefCol_k pDefCol
  proj_run

theorem pColOrIdx_proj (d : Gen.D) (f : Nat) (ts : List Tok) (κ : Nat) : (pColOrIdx_k d f ts κ).2 = pColOrIdx d f ts := by
  have h_pForeignKey := pForeignKey_proj
  have h_pPrimaryIndex := pPrimaryIndex_proj
  have h_pUniqueIndex := pUniqueIndex_proj
  have h_pNormalIndex := pNormalIndex_proj
  have h_pFulltextIndex := pFulltextIndex_proj
  have h_pDefCol := (pDefCol_proj d f)
  unfold pColOrIdx_k pColOrIdx
  proj_run

theorem pWhereOrderLimit_proj (d : Gen.D) (f : Nat) (ts : List Tok) (κ : Nat) : (pWhereOrderLimit_k d f ts κ).2 = pWhereOrderLimit d f ts := by
  have h_pLimit := pLimit_proj
  have h_pOrderByOpt := (pOrderByOpt_proj d f)
  have h_pOptOr := (pOptOr_proj d f)
  unfold pWhereOrderLimit_k pWhereOrderLimit
  proj_run

theorem valuesLoop_proj (d : Gen.D) (f : Nat) : ∀ x0 x1 x2 κ, (valuesLoop_k d f x0 x1 x2 κ).2 = valuesLoop d f x0 x1 x2 := by
  have h_pCompute := (pCompute_proj d f)
  have hE0 := eachClosed_k_snd (pCompute_k d f) (pCompute d f) (pCompute_proj d f)
  intro x0
  induction x0 with
  | zero => intros; rfl
  | succ n ih =>
    intro x1 x2 κ
    unfold valuesLoop_k valuesLoop
    proj_run

theorem pColumnName_proj (ts : List Tok) (κ : Nat) : (pColumnName_k ts κ).2 = pColumnName ts := by
  unfold pColumnName_k pColumnName
  proj_run

theorem pOptPartition_proj (d : Gen.D) (f : Nat) (ts : List Tok) (κ : Nat) : (pOptPartition_k d f ts κ).2 = pOptPartition d f ts := by
  have h_pPartition := (pPartition_proj d f)
  unfold pOptPartition_k pOptPartition
  proj_run

theorem pOptColumns_proj (ts : List Tok) (κ : Nat) : (pOptColumns_k ts κ).2 = pOptColumns ts := by
  have h_pColumnName := pColumnName_proj
  have hE0 := eachClosed_k_snd pColumnName_k pColumnName pColumnName_proj
  unfold pOptColumns_k pOptColumns
  proj_run

theorem pWithOpt_proj (d : Gen.D) (f : Nat) (withs? : Option (List WithTable)) (ts : List Tok) (κ : Nat) : (pWithOpt_k d f withs? ts κ).2 = pWithOpt d f withs? ts := by
  have h_pWith := (pWith_proj d f)
  unfold pWithOpt_k pWithOpt
  proj_run

theorem pInsert_proj (d : Gen.D) (f : Nat) (withs? : Option (List WithTable)) (ts : List Tok) (κ : Nat) : (pInsert_k d f withs? ts κ).2 = pInsert d f withs? ts := by
  have h_pTblName := pTblName_proj
  have h_pInsertType := pInsertType_proj
  have h_valuesLoop := (valuesLoop_proj d f)
  have h_pOptPartition := (pOptPartition_proj d f)
  have h_pOptColumns := pOptColumns_proj
  have h_pWithOpt := (pWithOpt_proj d f)
  have h_pSelectStmt := (pSelectStmt_proj d f)
  unfold pInsert_k pInsert
  proj_run

theorem pSet_proj (ts : List Tok) (κ : Nat) : (pSet_k ts κ).2 = pSet ts := by
  have h_pConfigStrExpr := pConfigStrExpr_proj
  unfold pSet_k pSet
  proj_run

theorem optEqSrc_proj (ts : List Tok) (κ : Nat) : (optEqSrc_k ts κ).2 = optEqSrc ts := by
  have h_popSrc := popSrc_proj
  unfold optEqSrc_k optEqSrc
  proj_run

theorem createElems_proj (d : Gen.D) (f : Nat) : ∀ x0 x1 κ, (createElems_k d f x0 x1 κ).2 = createElems d f x0 x1 := by
  have h_pForeignKey := pForeignKey_proj
  have h_pPrimaryIndex := pPrimaryIndex_proj
  have h_pUniqueIndex := pUniqueIndex_proj
  have h_pNormalIndex := pNormalIndex_proj
  have h_pFulltextIndex := pFulltextIndex_proj
  have h_pDefCol := (pDefCol_proj d f)
  intro x0
  induction x0 with
  | nil => intros; rfl
  | cons sg rest ih =>
    intro x1 κ
    unfold createElems_k createElems
    proj_run

theorem createOpt_k_proj (d : Gen.D) (f : Nat) (ts : List Tok) (κ : Nat) : (createOpt_k d f ts κ).2 = createOpt d f ts := by
  have h_pConfigStrExpr := pConfigStrExpr_proj
  have h_pDefCol := (pDefCol_proj d f)
  have h_optEqSrc := optEqSrc_proj
  have hE0 := eachClosed_k_snd (pDefCol_k d f) (pDefCol d f) (pDefCol_proj d f)
  have hE1 := eachClosed_k_snd pConfigStrExpr_k pConfigStrExpr pConfigStrExpr_proj
  unfold createOpt_k createOpt
  proj_run

theorem createOpts_proj (d : Gen.D) (f : Nat) : ∀ x0 x1 x2 κ, (createOpts_k d f x0 x1 x2 κ).2 = createOpts d f x0 x1 x2 := by
  intro x0 x1 x2 κ
  rw [createOpts_k_eq, createOpts_eq]
  exact attrLoop_k_snd _ _ _ _ (createOpt_k_proj d f) x0 x1 x2 κ

theorem pCreateTable_proj (d : Gen.D) (f : Nat) (ts : List Tok) (κ : Nat) : (pCreateTable_k d f ts κ).2 = pCreateTable d f ts := by
  have h_pTblName := pTblName_proj
  have h_createElems := (createElems_proj d f)
  have h_createOpts := (createOpts_proj d f)
  have h_pSelectStmt := (pSelectStmt_proj d f)
  unfold pCreateTable_k pCreateTable
  proj_run

theorem pDropTable_proj (ts : List Tok) (κ : Nat) : (pDropTable_k ts κ).2 = pDropTable ts := by
  have h_pTblName := pTblName_proj
  unfold pDropTable_k pDropTable
  proj_run

theorem pAnalyze_proj (d : Gen.D) (f : Nat) (ts : List Tok) (κ : Nat) : (pAnalyze_k d f ts κ).2 = pAnalyze d f ts := by
  have h_pTblName := pTblName_proj
  have h_pOptPartition := (pOptPartition_proj d f)
  unfold pAnalyze_k pAnalyze
  proj_run

theorem pAlterExpr_proj (d : Gen.D) (f : Nat) (ts : List Tok) (κ : Nat) : (pAlterExpr_k d f ts κ).2 = pAlterExpr d f ts := by
  have h_popSrc := popSrc_proj
  have h_pPartition := (pPartition_proj d f)
  have h_pColOrIdx := (pColOrIdx_proj d f)
  unfold pAlterExpr_k pAlterExpr
  proj_run

theorem alterLoop_proj (d : Gen.D) (f : Nat) : ∀ x0 x1 x2 κ, (alterLoop_k d f x0 x1 x2 κ).2 = alterLoop d f x0 x1 x2 := by
  have h_pAlterExpr := (pAlterExpr_proj d f)
  intro x0
  induction x0 with
  | zero => intros; rfl
  | succ n ih =>
    intro x1 x2 κ
    unfold alterLoop_k alterLoop
    proj_run

theorem pAlter_proj (d : Gen.D) (f : Nat) (ts : List Tok) (κ : Nat) : (pAlter_k d f ts κ).2 = pAlter d f ts := by
  have h_pTblName := pTblName_proj
  have h_pAlterExpr := (pAlterExpr_proj d f)
  have h_alterLoop := (alterLoop_proj d f)
  unfold pAlter_k pAlter
  proj_run

theorem pKwTable_proj (kws : List String) (mk : TableName → Stmt) (ts : List Tok) (κ : Nat) : (pKwTable_k kws mk ts κ).2 = pKwTable kws mk ts := by
  have h_pTblName := pTblName_proj
  unfold pKwTable_k pKwTable
  proj_run

theorem pMsck_proj : ∀ ts κ, (pMsck_k ts κ).2 = pMsck ts := fun ts κ => pKwTable_proj _ _ ts κ
theorem pTruncate_proj : ∀ ts κ, (pTruncate_k ts κ).2 = pTruncate ts := fun ts κ => pKwTable_proj _ _ ts κ
theorem pUse_proj (ts : List Tok) (κ : Nat) : (pUse_k ts κ).2 = pUse ts := by
  have h_popSrc := popSrc_proj
  unfold pUse_k pUse
  proj_run

theorem pUpdateSetCol_proj (d : Gen.D) (f : Nat) (ts : List Tok) (κ : Nat) : (pUpdateSetCol_k d f ts κ).2 = pUpdateSetCol d f ts := by
  have h_popSrc := popSrc_proj
  have h_pOr := (pOr_proj d f)
  unfold pUpdateSetCol_k pUpdateSetCol
  proj_run

theorem updateSetLoop_proj (d : Gen.D) (f : Nat) : ∀ x0 x1 x2 κ, (updateSetLoop_k d f x0 x1 x2 κ).2 = updateSetLoop d f x0 x1 x2 := by
  have h_pUpdateSetCol := (pUpdateSetCol_proj d f)
  intro x0
  induction x0 with
  | zero => intros; rfl
  | succ n ih =>
    intro x1 x2 κ
    unfold updateSetLoop_k updateSetLoop
    proj_run

theorem pUpdateSet_proj (d : Gen.D) (f : Nat) (ts : List Tok) (κ : Nat) : (pUpdateSet_k d f ts κ).2 = pUpdateSet d f ts := by
  have h_pUpdateSetCol := (pUpdateSetCol_proj d f)
  have h_updateSetLoop := (updateSetLoop_proj d f)
  unfold pUpdateSet_k pUpdateSet
  proj_run

theorem pUpdate_proj (d : Gen.D) (f : Nat) (withs : Option (List WithTable)) (ts : List Tok) (κ : Nat) : (pUpdate_k d f withs ts κ).2 = pUpdate d f withs ts := by
  have h_pTblName := pTblName_proj
  have h_pWhereOrderLimit := (pWhereOrderLimit_proj d f)
  have h_pUpdateSet := (pUpdateSet_proj d f)
  unfold pUpdate_k pUpdate
  proj_run

theorem pDelete_proj (d : Gen.D) (f : Nat) (ts : List Tok) (κ : Nat) : (pDelete_k d f ts κ).2 = pDelete d f ts := by
  have h_pTblName := pTblName_proj
  have h_pWhereOrderLimit := (pWhereOrderLimit_proj d f)
  unfold pDelete_k pDelete
  proj_run

theorem pFromClause_proj (d : Gen.D) (f : Nat) (ts : List Tok) (κ : Nat) : (pFromClause_k d f ts κ).2 = pFromClause d f ts := by
  have h_pFromTable := (pFromTable_proj d f)
  have h_pFromTables := (pFromTables_proj d f)
  unfold pFromClause_k pFromClause
  proj_run

theorem pShowColumns_proj (d : Gen.D) (f : Nat) (ts : List Tok) (κ : Nat) : (pShowColumns_k d f ts κ).2 = pShowColumns d f ts := by
  have h_pFromClause := (pFromClause_proj d f)
  have h_pOptOr := (pOptOr_proj d f)
  unfold pShowColumns_k pShowColumns
  proj_run

theorem pStatement_proj (d : Gen.D) (f : Nat) (ts : List Tok) (κ : Nat) : (pStatement_k d f ts κ).2 = pStatement d f ts := by
  have h_pInsert := (pInsert_proj d f)
  have h_pSet := pSet_proj
  have h_pCreateTable := (pCreateTable_proj d f)
  have h_pDropTable := pDropTable_proj
  have h_pAnalyze := (pAnalyze_proj d f)
  have h_pAlter := (pAlter_proj d f)
  have h_pMsck := pMsck_proj
  have h_pTruncate := pTruncate_proj
  have h_pUse := pUse_proj
  have h_pUpdate := (pUpdate_proj d f)
  have h_pDelete := (pDelete_proj d f)
  have h_pShowColumns := (pShowColumns_proj d f)
  have h_pWith := (pWith_proj d f)
  have h_pSelectStmt := (pSelectStmt_proj d f)
  unfold pStatement_k pStatement
  proj_run

theorem statementsLoop_proj (d : Gen.D) (f : Nat) : ∀ x0 x1 x2 κ, (statementsLoop_k d f x0 x1 x2 κ).2 = statementsLoop d f x0 x1 x2 := by
  have h_pStatement := (pStatement_proj d f)
  intro x0
  induction x0 with
  | zero => intros; rfl
  | succ n ih =>
    intro x1 x2 κ
    unfold statementsLoop_k statementsLoop
    proj_run

theorem pStatements_proj (d : Gen.D) (f : Nat) (ts : List Tok) (κ : Nat) : (pStatements_k d f ts κ).2 = pStatements d f ts := by
  have h_statementsLoop := (statementsLoop_proj d f)
  unfold pStatements_k pStatements
  proj_run


end PM
