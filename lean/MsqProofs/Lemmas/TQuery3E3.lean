import MsqProofs.Lemmas.TQuery3E2
/-! Larger nested fragment (TQ3), expression layer: token facts of literals; columns, calls, CASE as the instances of Lemmas/TCoreCall.lean at
the renderings of the fragment -/
open Lex PM Ast SR TP TP2
open TQ (tblTok unionWords lvlH isExists lvlH_eq lvlH_ge lvlH_of_le8 isOkPair tblOK)
namespace TQ3
variable {d : Gen.D} {ch : Expr → Bool}

/-! ### token facts -/
theorem up_quote (v : String) (h : '\'' ∈ v.toList) : '\'' ∈ (up v).toList := by
  simp only [up, Gen.pyUpperS, String.toList_ofList, Gen.pyUpper, Py.upperWith, List.mem_flatMap]
  exact ⟨'\'', h, by decide⟩
/-- a literal token is none of the words a LITERAL-free word token can be -/
theorem lit_up_ne (v w : String) (hv : litOK d v = true) (hw1 : Gen.wordMarks.find? (·.1 == w) = none)
    (hw2 : w.toList.head?.all (fun c => !c.isDigit && c != '\'' && c != '"') = true) (hw3 : w.toList.contains '\'' = false) : up v ≠ w := by
  intro he
  simp only [litOK, Bool.and_eq_true] at hv
  have hl := hv.1
  simp only [litTok, Tok.has, Tok.marks, litMark] at hl
  by_cases hd : isDigits v = true
  · simp only [isDigits, Bool.and_eq_true, Bool.not_eq_true', List.all_eq_true] at hd
    cases hc : v.toList with
    | nil => rw [hc] at hd; simp at hd
    | cons c r =>
      rw [hc] at hd
      obtain ⟨a1, a2, a3⟩ := digit_ascii c (hd.2 c (by simp))
      have := up_head v c r hc a1
      rw [he, a2] at this
      rw [this] at hw2
      simp [a3] at hw2
  · simp only [hd, Bool.false_eq_true, if_false] at hl
    by_cases hq : (v.toList.head? == some '\'' || v.toList.head? == some '"') = true
    · cases hc : v.toList with
      | nil => rw [hc] at hq; simp at hq
      | cons c r =>
        rw [hc] at hq
        simp only [List.head?_cons, Bool.or_eq_true, beq_iff_eq, Option.some.injEq] at hq
        rcases hq with rfl | rfl
        · have := up_head v '\'' r hc (by decide)
          rw [he, show Py.upperAsciiChar '\'' = '\'' by decide] at this
          rw [this] at hw2; simp at hw2
        · have := up_head v '"' r hc (by decide)
          rw [he, show Py.upperAsciiChar '"' = '"' by decide] at this
          rw [this] at hw2; simp at hw2
    · simp only [hq, Bool.false_eq_true, if_false] at hl
      cases hn : numMark v.toList with
      | some m =>
        rcases numMark_shape _ _ hn with hdg | hq2
        · cases hc : v.toList with
          | nil => rw [hc] at hdg; simp at hdg
          | cons c r =>
            rw [hc] at hdg
            obtain ⟨a1, a2, a3⟩ := digit_ascii c (by simpa using hdg)
            have := up_head v c r hc a1
            rw [he, a2] at this
            rw [this] at hw2
            simp [a3] at hw2
        · have hm : '\'' ∈ v.toList := by
            cases hc : v.toList with
            | nil => rw [hc] at hq2; simp at hq2
            | cons c r =>
              rw [hc] at hq2
              cases r with
              | nil => simp at hq2
              | cons c2 r2 => simp only [List.drop_succ_cons, List.drop_zero, List.head?_cons, Option.some.injEq] at hq2; subst hq2; simp
          have := up_quote v hm
          rw [he] at this
          simp only [List.contains_eq_mem, decide_eq_false_iff_not] at hw3
          exact hw3 this
      | none =>
        simp only [hn, wordMark, he, hw1] at hl
        split at hl <;> exact absurd hl (by decide)
theorem litTok_equals (v k : String) : (litTok v).equalsStr k = (up v == up k) := by
  simp [litTok, Tok.equalsStr, String.ofList_toList]
theorem lit_facts (v : String) (hv : litOK d v = true) : hdTok (litTok v) = true ∧ (litTok v).equalsStr "," = false := by
  have h1 := lit_up_ne v "WHEN" hv (by decide) (by decide) (by decide)
  have h2 := lit_up_ne v "DISTINCT" hv (by decide) (by decide) (by decide)
  have h3 := lit_up_ne v "," hv (by decide) (by decide) (by decide)
  have hs : startTok (litTok v) = true := by
    simp only [litOK, elemTok, operandTok, Bool.and_eq_true] at hv; exact hv.2.1.1.1
  refine ⟨?_, ?_⟩
  · simp only [hdTok, hs, src_litTok, Bool.true_and, List.contains_cons, List.contains_nil, Bool.or_false, Bool.not_eq_true',
      Bool.or_eq_false_iff, beq_eq_false_iff_ne, ne_eq]
    exact ⟨h1, h2⟩
  · rw [litTok_equals, beq_eq_false_iff_ne]
    have : up "," = "," := by decide
    rw [this]; exact h3
theorem name_facts (n : String) : hdTok (nameTok n) = true ∧ (nameTok n).equalsStr "," = false ∧ (nameTok n).equalsStr "." = false := TP2.name_facts n
theorem unary_facts (o : String) (ho : unOK d o = true) :
    hdTok (opTok (cval o)) = true ∧ (opTok (cval o)).equalsStr "," = false := TP2.unary_facts o ho
theorem bin_nocomma (o : String) (ho : binOK d o = true) : (opTok (cval o)).equalsStr "," = false := by
  obtain ⟨_, _, hop⟩ := binOK_parts d ho
  have h1 := hop.1
  rw [opTok_equals, beq_eq_false_iff_ne]
  intro he
  have hc : up "," = "," := by decide
  simp only [src_opTok] at h1
  rw [he, hc] at h1
  have hn : computeOp? "," = none := by decide
  rw [hn] at h1; cases h1
theorem cmp_nocomma (o : String) (ho : cmpOK d o = true) : (opTok (cmpVal o)).equalsStr "," = false := TP2.cmp_nocomma o ho
theorem kw_nocomma : (opTok "NOT").equalsStr "," = false ∧ (opTok "AND").equalsStr "," = false ∧ (opTok "OR").equalsStr "," = false ∧
    (opTok "XOR").equalsStr "," = false ∧ (opTok "BETWEEN").equalsStr "," = false ∧ (opTok "IS").equalsStr "," = false ∧
    (opTok "IN").equalsStr "," = false ∧ (opTok "LIKE").equalsStr "," = false ∧ (opTok "RLIKE").equalsStr "," = false ∧
    (opTok "REGEXP").equalsStr "," = false ∧ (opTok "CASE").equalsStr "," = false ∧ (opTok "WHEN").equalsStr "," = false ∧
    (opTok "THEN").equalsStr "," = false ∧ (opTok "ELSE").equalsStr "," = false ∧ (opTok "END").equalsStr "," = false ∧
    dotTok.equalsStr "," = false ∧ starTok.equalsStr "," = false := TP2.kw_nocomma
theorem kwToks_nocomma (k : KwKind) (n : Bool) : NoComma (kwToks k n) := TQ.kwToks_nocomma k n

theorem pIndex_stop (b : Expr) (rest : List Tok) {L : Nat} (h : stopLE2 d L rest = true) (g : Nat) : pIndex d (g + 1) b rest = .ok (b, rest) :=
  TC.pIndex_stop b rest (sl h) g
theorem nmOK_parts {t : Tok} {n : String} (h : nmOK d t n = true) :
    (Gen.unarySet d).contains t.src = false ∧ operandTok d t = true ∧ hdTok t = true ∧ t.has NAME = true ∧ t.has LITERAL = false ∧
      t.has PAREN = false ∧ t.srcEqUp "CASE" = false ∧ t.srcEq "*" = false ∧ unifyName t.src = n ∧ t.equalsStr "," = false ∧
      t.equalsStr "." = false := TP2.nmOK_parts h
theorem dot_facts : dotTok.has PAREN = false ∧ dotTok.srcEq "." = true ∧ dotTok.equalsStr "." = true ∧ dotTok.size = 1 ∧
    starTok.has NAME = false ∧ starTok.srcEq "*" = true ∧ starTok.has LITERAL = false ∧ starTok.has PAREN = false ∧
    starTok.srcEqUp "CASE" = false ∧ starTok.size = 1 ∧ commaTok.size = 1 := TP2.dot_facts

theorem full2_qcol (t c : String) (h : qcolOK d t c = true) :
    Full2 d (P2 d) 2 0 [nameTok t, dotTok, nameTok c] (.column (some t) c) := TC.fullO_true.1 (TC.full2_qcol t c h).ofFalse

theorem full2_star : Full2 d (P2 d) 2 0 [starTok] (.wildcard none) := TC.fullO_true.1 TC.full2_star.ofFalse
theorem full2_qstar (t : String) (h : wildOK d t = true) : Full2 d (P2 d) 2 0 [qTok t, dotTok, starTok] (.wildcard (some t)) :=
  TC.fullO_true.1 (TC.full2_qstar t h).ofFalse

/-! ### the children of a node, in the form the lemmas of Lemmas/TCoreCall.lean take them -/
theorem RT4.hdW {e : Expr} (h : RT4 d ch e) (L : Nat) : TC.Hd (W4 d ch e L) :=
  let ⟨t, ts', h1, h2, _⟩ := h.headW L; ⟨t, ts', h1, h2⟩
theorem RT4.arg {e : Expr} (h : RT4 d ch e) : TC.Arg d (W4 d ch e 14) e := ⟨TC.fullO_true.2 (h.at 14 (by omega)).s14, h.hdW 14⟩
theorem toksArgsTail4_eq (k : Nat) (es : List Expr) : toksArgsTail4 d ch k es = TC.commaTail (W4 d ch · k) es := by
  induction es with
  | nil => simp only [toksArgsTail4, TC.commaTail]
  | cons e es ih => simp only [toksArgsTail4, TC.commaTail, ih, W4]; rfl
theorem toksArgs4_eq (k : Nat) (es : List Expr) : toksArgs4 d ch k es = TC.commaList (W4 d ch · k) es := by
  cases es <;> simp only [toksArgs4, TC.commaList, toksArgsTail4_eq, W4]
theorem args_rel (ps : List Expr) (h : ∀ a ∈ ps, RT4 d ch a) : TC.CommaSep (TC.Arg d) (toksArgs4 d ch 14 ps) ps :=
  ⟨_, toksArgs4_eq 14 ps, fun a ha => (h a ha).arg⟩

theorem args_ok (ps : List Expr) (h : ∀ a ∈ ps, RT4 d ch a) :
    ∃ acc r2, OkAt (fun f => pFirstArg d f (toksArgs4 d ch 14 ps)) (20 * sizeL (toksArgs4 d ch 14 ps) + 18) (acc, r2) ∧
      OkAt (fun f => pArgs d f acc r2) (20 * sizeL (toksArgs4 d ch 14 ps) + 18) (ps, []) := TC.args_run (args_rel ps h)
theorem args_noDistinct (ps : List Expr) (h : ∀ a ∈ ps, RT4 d ch a) : searchStrUp (toksArgs4 d ch 14 ps) "DISTINCT" = false :=
  TC.args_noDistinct (args_rel ps h)

/-! ### calls -/
theorem pFuncName_plain (nm : Tok) (n : String) (A rest : List Tok) (hn : nm.has NAME = true) (hs : splitName nm.src = .ok (none, n)) :
    pFuncName (nm :: grp A :: rest) = .ok ((none, n), grp A :: rest) := TC.pFuncName_plain nm n A rest hn hs
theorem isOkNoneS_eq {r : Except Err (Option String × String)} {n : String} (h : isOkNoneS r n = true) : r = .ok (none, n) := TP2.isOkNoneS_eq h
theorem fnName_parts {n : String} (h : fnNameOK n = true) :
    (up n == "CAST") = false ∧ (up n == "EXTRACT") = false ∧ (up n == "IF") = false ∧ (up n == "SUBSTRING") = false ∧
      Gen.aggNames.contains (up n) = false := TP2.fnName_parts h
theorem callPrep_func (n : String) (A : List Tok) (h : fnNameOK n = true) : callPrep n (grp A) = (false, false, A) := TC.callPrep_func n A h
theorem qTok_size (n : String) : (qTok n).size = 1 := TP2.qTok_size n
theorem agg_parts {n : String} (h : Gen.aggNames.contains (up n) = true) :
    (up n == "CAST") = false ∧ (up n == "EXTRACT") = false ∧ (up n == "IF") = false ∧ (up n == "SUBSTRING") = false := TP2.agg_parts h

theorem full2_func (n : String) (ps : List Expr) (hn : fnOK d none n = true) (hps : ∀ a ∈ ps, RT4 d ch a) :
    Full2 d (P2 d) 2 0 [qTok n, grp (toksArgs4 d ch 14 ps)] (.func none n ps) := TC.fullO_true.1 (TC.full2_func n ps hn (args_rel ps hps))
theorem full2_qfunc (s n : String) (ps : List Expr) (hn : fnOK d (some s) n = true) (hps : ∀ a ∈ ps, RT4 d ch a) :
    Full2 d (P2 d) 2 0 [nameTok s, dotTok, qTok n, grp (toksArgs4 d ch 14 ps)] (.func (some s) n ps) :=
  TC.fullO_true.1 (TC.full2_qfunc s n ps hn (args_rel ps hps)).ofFalse
theorem full2_agg (n : String) (ps : List Expr) (dist : Bool) (hn : aggOK d n = true) (hps : ∀ a ∈ ps, RT4 d ch a) :
    Full2 d (P2 d) 2 0 [opTok n, grp ((if dist then [opTok "DISTINCT"] else []) ++ toksArgs4 d ch 14 ps)] (.agg n ps dist) :=
  TC.fullO_true.1 (TC.full2_agg n ps dist hn (args_rel ps hps))

/-! ### CASE -/
theorem arms_rel (cs : List (Expr × Expr)) (h : ∀ p ∈ cs, RT4 d ch p.1 ∧ RT4 d ch p.2) : TC.Arms d (toksArms4 d ch cs) cs := by
  induction cs with
  | nil => simp only [toksArms4]; exact .nil
  | cons p r ih =>
    obtain ⟨w, t⟩ := p
    simp only [toksArms4]
    exact .cons (h (w, t) (by simp)).1.arg.full (h (w, t) (by simp)).2.arg.full (ih fun p' hp' => h p' (by simp [hp']))
theorem else_rel (els : Option Expr) (h : ∀ y, els = some y → RT4 d ch y) : TC.Else d (toksElse4 d ch els) els := by
  cases els with
  | none => simp only [toksElse4]; exact .none
  | some y => simp only [toksElse4]; exact .some (h y rfl).arg.full
theorem full2_caseCond (cs : List (Expr × Expr)) (els : Option Expr) (hne : cs ≠ []) (hcs : ∀ p ∈ cs, RT4 d ch p.1 ∧ RT4 d ch p.2)
    (hels : ∀ y, els = some y → RT4 d ch y) :
    Full2 d (P2 d) 2 0 (opTok "CASE" :: (toksArms4 d ch cs ++ (toksElse4 d ch els ++ [opTok "END"]))) (.caseCond cs els) :=
  TC.fullO_true.1 (TC.full2_caseCond hne (arms_rel cs hcs) (else_rel els hels)).ofFalse
set_option linter.unusedVariables false in
theorem full2_caseVal (v : Expr) (cs : List (Expr × Expr)) (els : Option Expr) (hne : cs ≠ []) (hv : RT4 d ch v)
    (hcs : ∀ p ∈ cs, RT4 d ch p.1 ∧ RT4 d ch p.2) (hels : ∀ y, els = some y → RT4 d ch y) :
    Full2 d (P2 d) 2 0 (opTok "CASE" :: (W4 d ch v 14 ++ (toksArms4 d ch cs ++ (toksElse4 d ch els ++ [opTok "END"])))) (.caseVal v cs els) :=
  TC.fullO_true.1 (TC.full2_caseVal hv.arg (arms_rel cs hcs) (else_rel els hels)).ofFalse

end TQ3
