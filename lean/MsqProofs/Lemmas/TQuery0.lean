import MsqProofs.Lemmas.TParse2New
import MsqModel.Parse.Entry
import MsqProofs.Props.C03T
/-!
# T-parse closed under nesting: queries and expressions in ONE mutually recursive fragment, base definitions (C03 / C01 / C02)

Contains the fragments of TP (Props/C02T.lean), TS (Props/C03T.lean) and TP2 (Props/C02T2.lean) with equal renderings (Lemmas/TQueryI.lean, TQueryJ.lean).

* `toksE3 d ch e` / `toksS3 d ch s` / `toksQ d ch q` — the token-level printers of expressions, single SELECTs and queries, mutually
  recursive: an expression may be a scalar sub-query `(q)`, `[NOT] IN (q)`, `EXISTS (q)`; a FROM item may be a derived table
  `(q) AS alias`; a query is a single SELECT or `s₀ op₁ s₁ op₂ s₂ …` over the set operators of `Gen.unionTypes`.  On the
  constructors of the smaller fragments `toksE3` is `TP2.toksE2` clause for clause and `toksS3` is `TS.toksS` (with `toksE3` at every expression position).
* continuations: `Bd3 d k rest` = `TS.Bd d k rest` and the head is not `OVER` (expressions may be calls); `stopsQ d rest`: nothing
  of a query follows — `Bd3 d 7 rest` and the head is no set operator.
-/
open Lex PM Ast TP TP2 TS
namespace TQ

/-- a table name as `tableNameSrc` prints it: `` `n` `` or `` `s.n` `` (ONE back-quoted token) -/
def tblTok (s : Option String) (n : String) : Tok :=
  match s with
  | none => nameTok n
  | some s => .single ('`' :: (s.toList ++ '.' :: (n.toList ++ ['`']))) NAME
def unionWords (ty : String) : List Tok :=
  match Gen.unionTypes.find? (·.1 == ty) with | some e => e.2.map opTok | none => []

mutual
def toksE3 (d : Gen.D) (ch : Expr → Bool) : Expr → List Tok
  | .column none c => [nameTok c]
  | .column (some t) c => [nameTok t, dotTok, nameTok c]
  | .literal v => [litTok v]
  | .wildcard none => [starTok]
  | .wildcard (some t) => [qTok t, dotTok, starTok]
  | .func s n ps => (match s with | some s => [nameTok s, dotTok] | none => []) ++ [qTok n, grp (toksArgs3 d ch 14 ps)]
  | .agg n ps dist => [opTok n, grp ((if dist then [opTok "DISTINCT"] else []) ++ toksArgs3 d ch 14 ps)]
  | .caseCond cs els => opTok "CASE" :: (toksArms3 d ch cs ++ (toksElse3 d ch els ++ [opTok "END"]))
  | .caseVal v cs els =>
      opTok "CASE" :: (wrapT (ch v) v 14 (toksE3 d ch v) ++ (toksArms3 d ch cs ++ (toksElse3 d ch els ++ [opTok "END"])))
  | .subValue vs => [grp (toksArgs3 d ch 8 vs)]
  | .subQuery q => [grp (toksQ d ch q)]
  | .exists_ v => opTok "EXISTS" :: toksE3 d ch v
  | .unary o e => opTok (cval o) :: wrapT (ch e) e 2 (toksE3 d ch e)
  | .compute l o r =>
      wrapT (ch l) l (PR.lvl (.compute l o r)) (toksE3 d ch l) ++ opTok (cval o) :: wrapT (ch r) r (PR.lvl (.compute l o r) - 1) (toksE3 d ch r)
  | .kw k n l r => wrapT (ch l) l 9 (toksE3 d ch l) ++ (kwToks k n ++ wrapT (ch r && k != .in_) r 8 (toksE3 d ch r))
  | .between n b f t =>
      wrapT (ch b) b 9 (toksE3 d ch b) ++ ((if n then [opTok "NOT"] else []) ++ opTok "BETWEEN" :: (wrapT (ch f) f 8 (toksE3 d ch f) ++ opTok "AND" :: wrapT (ch t) t 8 (toksE3 d ch t)))
  | .compare o l r => wrapT (ch l) l 10 (toksE3 d ch l) ++ opTok (cmpVal o) :: wrapT (ch r) r 9 (toksE3 d ch r)
  | .not_ e => opTok "NOT" :: wrapT (ch e) e 11 (toksE3 d ch e)
  | .and_ l r => wrapT (ch l) l 12 (toksE3 d ch l) ++ opTok "AND" :: wrapT (ch r) r 11 (toksE3 d ch r)
  | .xor l r => wrapT (ch l) l 13 (toksE3 d ch l) ++ opTok "XOR" :: wrapT (ch r) r 12 (toksE3 d ch r)
  | .or_ l r => wrapT (ch l) l 14 (toksE3 d ch l) ++ opTok "OR" :: wrapT (ch r) r 13 (toksE3 d ch r)
  | _ => []
def toksArgs3 (d : Gen.D) (ch : Expr → Bool) (k : Nat) : List Expr → List Tok
  | [] => []
  | a :: as => wrapT (ch a) a k (toksE3 d ch a) ++ toksArgsTail3 d ch k as
def toksArgsTail3 (d : Gen.D) (ch : Expr → Bool) (k : Nat) : List Expr → List Tok
  | [] => []
  | a :: as => TP2.commaTok :: (wrapT (ch a) a k (toksE3 d ch a) ++ toksArgsTail3 d ch k as)
def toksArms3 (d : Gen.D) (ch : Expr → Bool) : List (Expr × Expr) → List Tok
  | [] => []
  | (w, t) :: r =>
      opTok "WHEN" :: (wrapT (ch w) w 14 (toksE3 d ch w) ++ opTok "THEN" :: (wrapT (ch t) t 14 (toksE3 d ch t) ++ toksArms3 d ch r))
def toksElse3 (d : Gen.D) (ch : Expr → Bool) : Option Expr → List Tok
  | none => []
  | some y => opTok "ELSE" :: wrapT (ch y) y 14 (toksE3 d ch y)
def toksQ (d : Gen.D) (ch : Expr → Bool) : Query → List Tok
  | .single s => toksS3 d ch s
  | .union _ s us => toksS3 d ch s ++ toksUn d ch us
def toksUn (d : Gen.D) (ch : Expr → Bool) : List (String × Select) → List Tok
  | [] => []
  | (t, s) :: r => unionWords t ++ (toksS3 d ch s ++ toksUn d ch r)
def toksS3 (d : Gen.D) (ch : Expr → Bool) : Select → List Tok
  | .mk _ dist cols fr _ js wh gb hv ob _ _ _ lm =>
      opTok "SELECT" :: ((if dist then [opTok "DISTINCT"] else []) ++ (toksCols3 d ch cols ++ (toksFrom3 d ch fr ++ (toksJoins3 d ch js ++
        (toksOptE3 d ch "WHERE" wh ++ (toksGroup3 d ch gb ++ (toksOptE3 d ch "HAVING" hv ++ (toksOrder3 d ch ob ++ toksLimit lm))))))))
def toksCols3 (d : Gen.D) (ch : Expr → Bool) : List (Expr × Option String) → List Tok
  | [] => []
  | (e, a) :: cs => toksE3 d ch e ++ aliasToks a ++ toksColsTail3 d ch cs
def toksColsTail3 (d : Gen.D) (ch : Expr → Bool) : List (Expr × Option String) → List Tok
  | [] => []
  | (e, a) :: cs => TS.commaTok :: (toksE3 d ch e ++ aliasToks a ++ toksColsTail3 d ch cs)
def toksRef3 (d : Gen.D) (ch : Expr → Bool) : TableRef → List Tok
  | .table s n => [tblTok s n]
  | .sub q => [grp (toksQ d ch q)]
def toksTable3 (d : Gen.D) (ch : Expr → Bool) : FromTable → List Tok
  | .mk t a => toksRef3 d ch t ++ aliasToks a
def toksTablesTail3 (d : Gen.D) (ch : Expr → Bool) : List FromTable → List Tok
  | [] => []
  | t :: ts => TS.commaTok :: (toksTable3 d ch t ++ toksTablesTail3 d ch ts)
def toksFrom3 (d : Gen.D) (ch : Expr → Bool) : Option (List FromTable) → List Tok
  | some (t :: ts) => opTok "FROM" :: (toksTable3 d ch t ++ toksTablesTail3 d ch ts)
  | _ => []
def toksRule3 (d : Gen.D) (ch : Expr → Bool) : Option JoinRule → List Tok
  | some (.on e) => opTok "ON" :: toksE3 d ch e
  | _ => []
def toksJoin3 (d : Gen.D) (ch : Expr → Bool) : Join → List Tok
  | .mk ty t rule => joinWords ty ++ (toksTable3 d ch t ++ toksRule3 d ch rule)
def toksJoins3 (d : Gen.D) (ch : Expr → Bool) : List Join → List Tok
  | [] => []
  | j :: js => toksJoin3 d ch j ++ toksJoins3 d ch js
def toksOptE3 (d : Gen.D) (ch : Expr → Bool) (kw : String) : Option Expr → List Tok
  | some e => opTok kw :: toksE3 d ch e
  | none => []
def toksGroup3 (d : Gen.D) (ch : Expr → Bool) : Option GroupBy → List Tok
  | some (.mk (e :: es) _ _ _) => opTok "GROUP" :: opTok "BY" :: (wrapT (ch e) e 8 (toksE3 d ch e) ++ toksArgsTail3 d ch 8 es)
  | _ => []
def toksOrdItem3 (d : Gen.D) (ch : Expr → Bool) : OrderItem → List Tok
  | .mk e desc _ _ => wrapT (ch e) e 8 (toksE3 d ch e) ++ (if desc then [opTok "DESC"] else [])
def toksOrdTail3 (d : Gen.D) (ch : Expr → Bool) : List OrderItem → List Tok
  | [] => []
  | o :: os => TS.commaTok :: (toksOrdItem3 d ch o ++ toksOrdTail3 d ch os)
def toksOrder3 (d : Gen.D) (ch : Expr → Bool) : Option (List OrderItem) → List Tok
  | some (o :: os) => opTok "ORDER" :: opTok "BY" :: (toksOrdItem3 d ch o ++ toksOrdTail3 d ch os)
  | _ => []
end
def W3 (d : Gen.D) (ch : Expr → Bool) (e : Expr) (k : Nat) : List Tok := wrapT (ch e) e k (toksE3 d ch e)


/-! ### an upper bound for the number of top-level tokens of a rendering -/
mutual
def tl3 : Expr → Nat
  | .column (some _) _ => 3
  | .wildcard (some _) => 3
  | .func _ _ _ => 4
  | .agg _ _ _ => 2
  | .caseCond cs els => 2 + tlA3 cs + tlO3 els
  | .caseVal v cs els => 2 + tl3 v + tlA3 cs + tlO3 els
  | .exists_ v => 1 + tl3 v
  | .unary _ e => 1 + tl3 e
  | .compute l _ r => tl3 l + 1 + tl3 r
  | .kw _ _ l r => tl3 l + 2 + tl3 r
  | .between _ b f t => tl3 b + 3 + tl3 f + tl3 t
  | .compare _ l r => tl3 l + 1 + tl3 r
  | .not_ e => 1 + tl3 e
  | .and_ l r => tl3 l + 1 + tl3 r
  | .xor l r => tl3 l + 1 + tl3 r
  | .or_ l r => tl3 l + 1 + tl3 r
  | _ => 1
def tlA3 : List (Expr × Expr) → Nat
  | [] => 0
  | (w, t) :: r => 2 + tl3 w + tl3 t + tlA3 r
def tlO3 : Option Expr → Nat
  | none => 0
  | some y => 1 + tl3 y
end
theorem tl3_pos (e : Expr) : 1 ≤ tl3 e := by
  cases e with
  | column t c => cases t <;> simp [tl3]
  | wildcard t => cases t <;> simp [tl3]
  | _ => first | (simp only [tl3]; omega) | simp [tl3]
def shortL3 (vs : List Expr) : Bool := vs.all (fun v => decide (tl3 v ≤ 20))


/-! ### continuations -/
def Bd3 (d : Gen.D) (k : Nat) (rest : List Tok) : Bool := Bd d k rest && !headIsOver rest
def stopsQ (d : Gen.D) (rest : List Tok) : Bool := Bd3 d 7 rest && !setOpHead rest

/-! ### the fragment -/
def isOkPair (r : Except Err (Option String × String)) (s : Option String) (n : String) : Bool :=
  match r with | .ok (a, b) => a == s && b == n | _ => false
/-- a table name, optionally schema-qualified: its ONE back-quoted token is read back as that (schema, name) -/
def tblOK (s : Option String) (n : String) : Bool :=
  (tblTok s n).has NAME && !(tblTok s n).has PAREN && (tblTok s n).children.isEmpty && isOkPair (splitName (tblTok s n).src) s n &&
    Gen.joinTypes.all (fun e => e.2.all (fun k => !(tblTok s n).equalsStr k))
/-- a set operator of the regenerated table whose words are found again as that operator; its first word ends the SELECT before it -/
def unionTyOK (d : Gen.D) (ty : String) : Bool :=
  (match firstEnumA Gen.unionTypes (unionWords ty) with | some (n, k) => n == ty && k == (unionWords ty).length | none => false) &&
    (match unionWords ty with | t :: _ => bdTok d 7 t && setOpHead [t] && !t.srcEqUp "OVER" | [] => false)

mutual
def FragE3 (d : Gen.D) : Expr → Bool
  | .column none c => colOK d c
  | .column (some t) c => qcolOK d t c
  | .literal v => litOK d v
  | .wildcard none => true
  | .wildcard (some t) => wildOK d t
  | .func s n ps => fnOK d s n && FragL3 d ps
  | .agg n ps _ => aggOK d n && FragL3 d ps
  | .caseCond cs els => FragA3 d cs && FragO3 d els && !cs.isEmpty
  | .caseVal v cs els => FragE3 d v && FragA3 d cs && FragO3 d els && !cs.isEmpty
  | .subQuery q => FragQ d q
  | .exists_ v => isSubQ d v
  | .unary o e => unOK d o && FragE3 d e
  | .compute l o r => binOK d o && FragE3 d l && FragE3 d r
  | .kw k _ l r => FragE3 d l && (if k == .in_ then inRhs3 d r else FragE3 d r) && !isExists l
  | .between _ b f t => FragE3 d b && FragE3 d f && FragE3 d t && !isExists b
  | .compare o l r => cmpOK d o && FragE3 d l && FragE3 d r && !isExists l
  | .not_ e => FragE3 d e
  | .and_ l r => FragE3 d l && FragE3 d r
  | .xor l r => FragE3 d l && FragE3 d r
  | .or_ l r => FragE3 d l && FragE3 d r
  | _ => false
def FragL3 (d : Gen.D) : List Expr → Bool
  | [] => true
  | a :: as => FragE3 d a && FragL3 d as
def FragA3 (d : Gen.D) : List (Expr × Expr) → Bool
  | [] => true
  | (w, t) :: r => FragE3 d w && FragE3 d t && FragA3 d r
def FragO3 (d : Gen.D) : Option Expr → Bool
  | none => true
  | some y => FragE3 d y
/-- the right side of `IN`: a non-empty list of short values, or a sub-query -/
def inRhs3 (d : Gen.D) : Expr → Bool
  | .subValue vs => FragL3 d vs && !vs.isEmpty && shortL3 vs
  | .subQuery q => FragQ d q
  | _ => false
def isSubQ (d : Gen.D) : Expr → Bool
  | .subQuery q => FragQ d q
  | _ => false
def FragQ (d : Gen.D) : Query → Bool
  | .single s => FragS3 d s
  | .union ws s us => (match ws with | some [] => true | _ => false) && FragS3 d s && FragUn d us && !us.isEmpty
def FragUn (d : Gen.D) : List (String × Select) → Bool
  | [] => true
  | (t, s) :: r => unionTyOK d t && FragS3 d s && FragUn d r
def FragS3 (d : Gen.D) : Select → Bool
  | .mk (some []) dist cols fr [] js wh gb hv ob none none none lm =>
      colsOK3 d cols && !cols.isEmpty && fromOK3 d fr && joinsOK3 d js && FragO3 d wh && groupOK3 d gb && FragO3 d hv && orderOK3 d ob &&
        limitOK lm && (dist || !searchStrUp (toksCols3 d noX cols) "DISTINCT")
  | _ => false
def colsOK3 (d : Gen.D) : List (Expr × Option String) → Bool
  | [] => true
  | (e, a) :: cs => FragE3 d e && optAliasOK a && colsOK3 d cs
def refOK3 (d : Gen.D) : TableRef → Bool
  | .table s n => tblOK s n
  | .sub q => FragQ d q
def tableOK3 (d : Gen.D) : FromTable → Bool
  | .mk r a => refOK3 d r && optAliasOK a
def tablesOK3 (d : Gen.D) : List FromTable → Bool
  | [] => true
  | t :: ts => tableOK3 d t && tablesOK3 d ts
def fromOK3 (d : Gen.D) : Option (List FromTable) → Bool
  | none => true
  | some (t :: ts) => tableOK3 d t && tablesOK3 d ts
  | some [] => false
def ruleOK3 (d : Gen.D) : Option JoinRule → Bool
  | none => true
  | some (.on e) => FragE3 d e
  | some (.using _) => false
def joinOK3 (d : Gen.D) : Join → Bool
  | .mk ty t rule => joinTyOK d ty && tableOK3 d t && ruleOK3 d rule
def joinsOK3 (d : Gen.D) : List Join → Bool
  | [] => true
  | j :: js => joinOK3 d j && joinsOK3 d js
def groupOK3 (d : Gen.D) : Option GroupBy → Bool
  | none => true
  | some (.mk (e :: es) none false false) => FragE3 d e && FragL3 d es && !searchStrUp (W3 d noX e 8) "GROUPING"
  | _ => false
def ordItemOK3 (d : Gen.D) : OrderItem → Bool
  | .mk e _ nf nl => FragE3 d e && !nf && !nl
def ordTailOK3 (d : Gen.D) : List OrderItem → Bool
  | [] => true
  | o :: os => ordItemOK3 d o && ordTailOK3 d os
def orderOK3 (d : Gen.D) : Option (List OrderItem) → Bool
  | none => true
  | some (o :: os) => ordItemOK3 d o && ordTailOK3 d os
  | some [] => false
end

/-! ### the common size -/
mutual
def szE3 : Expr → Nat
  | .func _ _ ps => szL3 ps + 1
  | .agg _ ps _ => szL3 ps + 1
  | .caseCond cs els => szA3 cs + szO3 els + 1
  | .caseVal v cs els => szE3 v + szA3 cs + szO3 els + 1
  | .subValue vs => szL3 vs + 1
  | .subQuery q => szQ q + 1
  | .exists_ v => szE3 v + 1
  | .unary _ e => szE3 e + 1
  | .compute l _ r => szE3 l + szE3 r + 1
  | .kw _ _ l r => szE3 l + szE3 r + 1
  | .between _ b f t => szE3 b + szE3 f + szE3 t + 1
  | .compare _ l r => szE3 l + szE3 r + 1
  | .not_ e => szE3 e + 1
  | .and_ l r => szE3 l + szE3 r + 1
  | .xor l r => szE3 l + szE3 r + 1
  | .or_ l r => szE3 l + szE3 r + 1
  | _ => 1
def szL3 : List Expr → Nat
  | [] => 0
  | a :: as => szE3 a + szL3 as
def szA3 : List (Expr × Expr) → Nat
  | [] => 0
  | (w, t) :: r => szE3 w + szE3 t + szA3 r
def szO3 : Option Expr → Nat
  | none => 0
  | some y => szE3 y
def szQ : Query → Nat
  | .single s => szS3 s + 1
  | .union _ s us => szS3 s + szUn us + 1
def szUn : List (String × Select) → Nat
  | [] => 0
  | (_, s) :: r => szS3 s + szUn r + 1
def szS3 : Select → Nat
  | .mk _ _ cols fr _ js wh gb hv ob _ _ _ _ => szCols cols + szFrom fr + szJoins js + szO3 wh + szGroup gb + szO3 hv + szOrder ob + 1
def szCols : List (Expr × Option String) → Nat
  | [] => 0
  | (e, _) :: cs => szE3 e + szCols cs
def szRef : TableRef → Nat
  | .table _ _ => 1
  | .sub q => szQ q + 1
def szTable : FromTable → Nat
  | .mk r _ => szRef r
def szTables : List FromTable → Nat
  | [] => 0
  | t :: ts => szTable t + szTables ts
def szFrom : Option (List FromTable) → Nat
  | none => 0
  | some ts => szTables ts
def szRule : Option JoinRule → Nat
  | some (.on e) => szE3 e
  | _ => 0
def szJoin : Join → Nat
  | .mk _ t rule => szTable t + szRule rule
def szJoins : List Join → Nat
  | [] => 0
  | j :: js => szJoin j + szJoins js
def szGroup : Option GroupBy → Nat
  | some (.mk es _ _ _) => szL3 es
  | none => 0
def szOrdItem : OrderItem → Nat
  | .mk e _ _ _ => szE3 e
def szOrdL : List OrderItem → Nat
  | [] => 0
  | o :: os => szOrdItem o + szOrdL os
def szOrder : Option (List OrderItem) → Nat
  | none => 0
  | some os => szOrdL os
end
theorem szE3_pos (e : Expr) : 1 ≤ szE3 e := by cases e <;> simp [szE3] <;> omega

end TQ
