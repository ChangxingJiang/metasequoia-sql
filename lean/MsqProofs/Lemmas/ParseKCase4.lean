import MsqProofs.Lemmas.ParseKCase3
import MsqProofs.Lemmas.ParseRel4
/-!
# C09, parser half, SHARP form: `kmAll` for the DDL / DML structures and statements
Every string of the structure is mapped through `km` (config strings through `up`); flags and numbers are kept.
-/
open Lex Ast
namespace PM

def kmTN : TableName → TableName | ⟨s, n⟩ => ⟨s.map km, km n⟩
def kmCT : ColType → ColType | ⟨n, ps⟩ => ⟨km n, ps.map (List.map kmE)⟩
def kmGC : GenCol → GenCol | ⟨e, m⟩ => ⟨kmE e, m.map km⟩
def kmDC : DefCol → DefCol
  | ⟨n, ty, un, zf, cs, co, g, an, nn, ai, df, ou, cm⟩ => ⟨km n, kmCT ty, un, zf, cs.map km, co.map km, g.map kmGC, an, nn, ai, df.map kmE, ou.map kmE, cm.map km⟩
def kmIC : IndexCol → IndexCol | ⟨n, l⟩ => ⟨km n, l⟩
def kmIx : Index → Index | ⟨k, n, cs, um, cm, kb⟩ => ⟨k, n.map km, cs.map kmIC, um.map km, cm.map km, kb⟩
def kmFK : ForeignKey → ForeignKey | ⟨c, s, m, mc, od, ou⟩ => ⟨km c, s.map km, km m, mc.map km, od.map km, ou.map km⟩
def kmCI : ColOrIdx → ColOrIdx
  | .col c => .col (kmDC c) | .idx i => .idx (kmIx i) | .fk f => .fk (kmFK f)
def kmAO : AlterOp → AlterOp
  | .addPartition b p => .addPartition b (p.map kmE)
  | .add x => .add (kmCI x)
  | .modify x => .modify (kmCI x)
  | .change f t => .change (km f) (kmCI t)
  | .renameColumn f t => .renameColumn (km f) (km t)
  | .dropColumn c => .dropColumn (km c)
  | .dropPartition b p => .dropPartition b (p.map kmE)
/-- a config string is a CONCATENATION of popped sources (`a.b-c`): only the `≈` form holds for it -/
def kmCS : ConfigStr → ConfigStr | ⟨n, v⟩ => ⟨up n, up v⟩
def kmCR : CreateTable → CreateTable
  | ⟨t, ine, cols, pk, uk, k, fk, fo, pb, cm, en, ai, dc, co, rf, sp, rs, rd, si, st, of, lo, tp⟩ =>
    ⟨kmTN t, ine, cols.map kmDC, pk.map kmIx, uk.map kmIx, k.map kmIx, fk.map kmIx, fo.map kmFK, pb.map kmDC, cm.map km, en.map km, ai, dc.map km, co.map km,
     rf.map km, sp.map km, rs.map km, rd.map km, si.map km, st, of.map km, lo.map km, tp.map kmCS⟩
def kmIH : InsertHead → InsertHead
  | ⟨w, ty, t, p, c⟩ => ⟨w.map (List.map kmW), km ty, kmTN t, p.map (List.map kmE), c.map (List.map (Prod.map (Option.map km) km))⟩
def kmLim : Option (Int × Option Int) → Option (Int × Option Int) := id
/-- `kmAll` of a statement -/
def kmSt0 : Stmt → Stmt
  | .select q => .select (kmQ q)
  | .insertValues h vs => .insertValues (kmIH h) (vs.map (List.map kmE))
  | .insertSelect h q => .insertSelect (kmIH h) (kmQ q)
  | .update w t sets wh ob lm => .update (w.map (List.map kmW)) (kmTN t) (sets.map (Prod.map km kmE)) (wh.map kmE) (ob.map (List.map kmO)) lm
  | .delete t wh ob lm => .delete (kmTN t) (wh.map kmE) (ob.map (List.map kmO)) lm
  | .createTable c => .createTable (kmCR c)
  | .createTableAs t ine q => .createTableAs (kmTN t) ine (kmQ q)
  | .dropTable b t => .dropTable b (kmTN t)
  | .set c => .set (kmCS c)
  | .analyze t p a b c => .analyze (kmTN t) (p.map (List.map kmE)) a b c
  | .alter t ops => .alter (kmTN t) (ops.map kmAO)
  | .msck t => .msck (kmTN t)
  | .use s => .use (km s)
  | .truncate t => .truncate (kmTN t)
  | .showDatabases => .showDatabases
  | .showTables => .showTables
  | .showColumns fr wh => .showColumns (fr.map kmFT) (wh.map kmE)

theorem kmTN_map : kmTN = Rel.mapTN km := by funext ⟨_, _⟩; rfl
theorem kmCT_map : kmCT = Rel.mapCT km := by funext ⟨_, _⟩; simp [kmCT, Rel.mapCT, km_maps.E]
theorem kmGC_map : kmGC = Rel.mapGC km := by funext ⟨_, _⟩; simp [kmGC, Rel.mapGC, km_maps.E]
theorem kmDC_map : kmDC = Rel.mapDC km := by funext x; cases x; simp [kmDC, Rel.mapDC, km_maps.E, kmCT_map, kmGC_map]
theorem kmIC_map : kmIC = Rel.mapIC km := by funext ⟨_, _⟩; rfl
theorem kmIx_map : kmIx = Rel.mapIx km := by funext x; cases x; simp [kmIx, Rel.mapIx, kmIC_map]
theorem kmFK_map : kmFK = Rel.mapFK km := by funext x; cases x; rfl
theorem kmCI_map : kmCI = Rel.mapCI km := by funext x; cases x <;> simp [kmCI, Rel.mapCI, kmDC_map, kmIx_map, kmFK_map]
theorem kmAO_map : kmAO = Rel.mapAO km := by funext x; cases x <;> simp [kmAO, Rel.mapAO, km_maps.E, kmCI_map]
theorem kmCS_map : kmCS = Rel.mapCS up := by funext ⟨_, _⟩; rfl
theorem kmCR_map : kmCR = Rel.mapCR km up := by
  funext x; cases x; simp [kmCR, Rel.mapCR, kmTN_map, kmDC_map, kmIx_map, kmFK_map, kmCS_map]
theorem kmIH_map : kmIH = Rel.mapIH km := by funext x; cases x; simp [kmIH, Rel.mapIH, km_maps.W, kmTN_map, km_maps.E]
theorem kmSt0_map : kmSt0 = Rel.mapSt0 km up := by
  funext x
  cases x <;> simp [kmSt0, Rel.mapSt0, km_maps.Q, kmIH_map, km_maps.E, km_maps.W, kmTN_map, km_maps.O, kmCR_map, kmCS_map, kmAO_map, km_maps.FT]

theorem eachClosed_ke_eq {α : Type} (p p' : List Tok → R α) (hp : ∀ sg sg', KEL sg sg' → KER Eq (p sg) (p' sg')) :
    ∀ segs segs', KELL segs segs' → KEX Eq (eachClosed p segs) (eachClosed p' segs') := by
  simp only [kel_eq, kell_eq, ker_eq, kex_eq] at hp ⊢
  exact Rel.eachClosed_rel_eq (T := kcaseT) p p' hp

end PM
