import MsqProofs.Lemmas.ParseSteps
import MsqModel.Parse.CostStmt
/-!
# What one unfolding of the counted companions of the long statement-level functions does

The companions (`MsqModel/Parse/CostStmt.lean`) are the same `if` chains with the accumulator threaded through; the case
principle `pStatement_k_cases` mirrors `pStatement_cases` of `ParseSteps.lean`, with the cost of the tests made so far added to the accumulator of each
branch (9 + 2 + 1 = the twelve tests); the loops have no case principle of their own: the
counted loops are one counted attribute step (`defColAttr_k`, `createOpt_k`) inside the counted loop shape `attrLoop_k`.
-/
open Lex
namespace PM
open Ast

/-- `pStatement_k` charges one unit per keyword test (`cMove` for the two `SHOW` tests that move on success) and runs the companion
of the parser the tests select; `κ'` is the accumulator after the twelve tests -/
theorem pStatement_k_cases {P : Nat × R Stmt → Prop} (d : Gen.D) (f : Nat) (ts : List Tok) (κ κ' : Nat)
    (hκ : κ' = κ + 9 + cMove (searchTwoUp ts "SHOW" "DATABASES") + cMove (searchTwoUp ts "SHOW" "TABLES") + 1)
    (set : searchStrUp ts "SET" = true → P (pSet_k ts (κ + 1)))
    (delete : searchTwoUp ts "DELETE" "FROM" = true → P (pDelete_k d f ts (κ + 2)))
    (dropTable : searchTwoUp ts "DROP" "TABLE" = true → P (pDropTable_k ts (κ + 3)))
    (createTable : searchTwoUp ts "CREATE" "TABLE" = true → P (pCreateTable_k d f ts (κ + 4)))
    (analyze : searchTwoUp ts "ANALYZE" "TABLE" = true → P (pAnalyze_k d f ts (κ + 5)))
    (alter : searchTwoUp ts "ALTER" "TABLE" = true → P (pAlter_k d f ts (κ + 6)))
    (msck : searchThreeUp ts "MSCK" "REPAIR" "TABLE" = true → P (pMsck_k ts (κ + 7)))
    (use : searchStrUp ts "USE" = true → P (pUse_k ts (κ + 8)))
    (truncate : searchTwoUp ts "TRUNCATE" "TABLE" = true → P (pTruncate_k ts (κ + 9)))
    (showDatabases : searchTwoUp ts "SHOW" "DATABASES" = true →
      P (κ + 9 + cMove (searchTwoUp ts "SHOW" "DATABASES"), .ok (.showDatabases, ts.drop 2)))
    (showTables : searchTwoUp ts "SHOW" "TABLES" = true →
      P (κ + 9 + cMove (searchTwoUp ts "SHOW" "DATABASES") + cMove (searchTwoUp ts "SHOW" "TABLES"), .ok (.showTables, ts.drop 2)))
    (showColumns : searchTwoUp ts "SHOW" "COLUMNS" = true → P (pShowColumns_k d f ts κ'))
    (withErr : ∀ e, (pWith_k d f ts κ').2 = .error e → P ((pWith_k d f ts κ').1, .error e))
    (selectErr : ∀ withs r e, (pWith_k d f ts κ').2 = .ok (withs, r) →
      (pSelectStmt_k d f (some withs) r ((pWith_k d f ts κ').1 + 1)).2 = .error e →
      P ((pSelectStmt_k d f (some withs) r ((pWith_k d f ts κ').1 + 1)).1, .error e))
    (select : ∀ withs r q r1, (pWith_k d f ts κ').2 = .ok (withs, r) →
      (pSelectStmt_k d f (some withs) r ((pWith_k d f ts κ').1 + 1)).2 = .ok (q, r1) →
      P ((pSelectStmt_k d f (some withs) r ((pWith_k d f ts κ').1 + 1)).1, .ok (.select q, r1)))
    (insert : ∀ withs r, (pWith_k d f ts κ').2 = .ok (withs, r) → searchStrUp r "INSERT" = true →
      P (pInsert_k d f (some withs) r ((pWith_k d f ts κ').1 + 2)))
    (update : ∀ withs r, (pWith_k d f ts κ').2 = .ok (withs, r) → searchStrUp r "UPDATE" = true →
      P (pUpdate_k d f (some withs) r ((pWith_k d f ts κ').1 + 3)))
    (other : ∀ withs r, (pWith_k d f ts κ').2 = .ok (withs, r) → P ((pWith_k d f ts κ').1 + 3, .error .parse)) :
    P (pStatement_k d f ts κ) := by
  subst hκ
  unfold pStatement_k
  dsimp only
  refine ite_cases set fun _ => ite_cases delete fun _ => ite_cases dropTable fun _ => ite_cases createTable fun _ =>
    ite_cases analyze fun _ => ite_cases alter fun _ => ite_cases msck fun _ => ite_cases use fun _ => ite_cases truncate fun _ =>
    ite_cases showDatabases fun _ => ite_cases showTables fun _ => ite_cases showColumns fun _ => ?_
  rcases h : (pWith_k d f ts _).2 with e | ⟨withs, r⟩
  · exact withErr e h
  · refine ite_cases (fun _ => ?_) fun _ => ite_cases (insert withs r h) fun _ => ite_cases (update withs r h) fun _ => other withs r h
    rcases hq : (pSelectStmt_k d f (some withs) r _).2 with e | ⟨q, r1⟩
    · exact selectErr withs r e h hq
    · exact select withs r q r1 h hq

def andThen_k {α β : Type} (x : Nat × R α) (k : α → List Tok → Nat → Nat × R β) : Nat × R β :=
  match x.2 with | .ok (a, r) => k a r x.1 | .error e => (x.1, .error e)

theorem ite_andThen_k {α β : Type} {c : Prop} [Decidable c] {a b : Nat × R β} {x y : Nat × R α} (k : α → List Tok → Nat → Nat × R β)
    (ha : c → a = andThen_k x k) (hb : ¬ c → b = andThen_k y k) : (if c then a else b) = andThen_k (if c then x else y) k := by
  by_cases hc : c
  · rw [if_pos hc, if_pos hc]; exact ha hc
  · rw [if_neg hc, if_neg hc]; exact hb hc

/-- the counted companion of `attrLoop`; `stopCost` is what the stop test of one iteration costs -/
def attrLoop_k {σ : Type} (stop : List Tok → Bool) (stopCost : List Tok → Nat) (attr : List Tok → Nat → Nat × R (σ → σ)) :
    Nat → σ → List Tok → Nat → Nat × R σ
  | 0, _, _, κ => (κ, .error .fuel)
  | g+1, c, ts, κ =>
    if stop ts then (κ + stopCost ts, .ok (c, ts))
    else andThen_k (attr ts (κ + stopCost ts)) fun u r κ => attrLoop_k stop stopCost attr g (u c) r κ

/-- what the stop test `defColStop` costs: nothing on an empty cursor, else one unit for the `;` test and one more for the `,` test when the first fails -/
def defColStopCost (ts : List Tok) : Nat := if ts.isEmpty then 0 else 1 + (if searchStr ts ";" then 0 else 1)

def defColAttr_k (d : Gen.D) (f : Nat) (ts : List Tok) (κ : Nat) : Nat × R (DefCol → DefCol) :=
  let κ := κ + (cMove (searchTwoUp ts "NOT" "NULL"))
  if searchTwoUp ts "NOT" "NULL" then
    (κ, .ok (fun c => { c with notNull := true }, (ts.drop 2)))
  else
    let κ := κ + (cMove (searchStrUp ts "NULL"))
    if searchStrUp ts "NULL" then
      (κ, .ok (fun c => { c with allowNull := true }, (ts.drop 1)))
    else
      let κ := κ + (cMove (searchTwoUp ts "CHARACTER" "SET"))
      if searchTwoUp ts "CHARACTER" "SET" then
        let κ := κ + 2
        match popSrc (ts.drop 2) with
        | .ok (s, r) =>
          (κ, .ok (fun c => { c with charset := some s }, r))
        | .error e =>
          (κ, .error e)
      else
        let κ := κ + (cMove (searchStrUp ts "COLLATE"))
        if searchStrUp ts "COLLATE" then
          let κ := κ + 2
          match popSrc (ts.drop 1) with
          | .ok (s, r) =>
            (κ, .ok (fun c => { c with collate := some s }, r))
          | .error e =>
            (κ, .error e)
        else
          let κ := κ + (cMove (searchStrUp ts "DEFAULT"))
          if searchStrUp ts "DEFAULT" then
            let ρ := pCompute_k d f (ts.drop 1) (κ)
            let κ := ρ.1
            match ρ.2 with
            | .ok (e, r) =>
              (κ, .ok (fun c => { c with default := some e }, r))
            | .error e =>
              (κ, .error e)
          else
            let κ := κ + (cMove (searchStrUp ts "COMMENT"))
            if searchStrUp ts "COMMENT" then
              let κ := κ + 2
              match popSrc (ts.drop 1) with
              | .ok (s, r) =>
                (κ, .ok (fun c => { c with comment := some s }, r))
              | .error e =>
                (κ, .error e)
            else
              let κ := κ + (cMove (searchTwoUp ts "ON" "UPDATE"))
              if searchTwoUp ts "ON" "UPDATE" then
                let ρ := pCompute_k d f (ts.drop 2) (κ)
                let κ := ρ.1
                match ρ.2 with
                | .ok (e, r) =>
                  (κ, .ok (fun c => { c with onUpdate := some e }, r))
                | .error e =>
                  (κ, .error e)
              else
                let κ := κ + (cMove (searchStrUp ts "AUTO_INCREMENT"))
                if searchStrUp ts "AUTO_INCREMENT" then
                  (κ, .ok (fun c => { c with autoInc := true }, (ts.drop 1)))
                else
                  let κ := κ + (cMove (searchStrUp ts "UNSIGNED"))
                  if searchStrUp ts "UNSIGNED" then
                    (κ, .ok (fun c => { c with unsigned := true }, (ts.drop 1)))
                  else
                    let κ := κ + (cMove (searchStrUp ts "ZEROFILL"))
                    if searchStrUp ts "ZEROFILL" then
                      (κ, .ok (fun c => { c with zerofill := true }, (ts.drop 1)))
                    else
                      let κ := κ + 1
                      if searchStrUp ts "GENERATED" then
                        let ρ := pGenerated_k d f ts (κ)
                        let κ := ρ.1
                        match ρ.2 with
                        | .ok (some gc, r) =>
                          (κ, .ok (fun c => { c with generated := some gc }, r))
                        | .ok (none, _) =>
                          (κ, .error .parse)
                        | .error e =>
                          (κ, .error e)
                      else
                        (κ, .error .parse)

theorem defColLoop_k_succ (d : Gen.D) (f g : Nat) (c : DefCol) (ts : List Tok) (κ : Nat) :
    defColLoop_k d f (g+1) c ts κ =
      if defColStop ts then (κ + defColStopCost ts, .ok (c, ts))
      else andThen_k (defColAttr_k d f ts (κ + defColStopCost ts)) fun u r κ => defColLoop_k d f g (u c) r κ := by
  rw [defColLoop_k]; unfold defColAttr_k defColStopCost; dsimp only
  refine ite_congr rfl (fun _ => rfl) fun _ => ?_
  refine ite_andThen_k _ (fun _ => by rfl) fun _ => ite_andThen_k _ (fun _ => by rfl) fun _ => ?_
  refine ite_andThen_k _ (fun _ => by rcases popSrc (ts.drop 2) with _ | ⟨s, r⟩ <;> rfl) fun _ => ?_
  refine ite_andThen_k _ (fun _ => by rcases popSrc (ts.drop 1) with _ | ⟨s, r⟩ <;> rfl) fun _ => ?_
  refine ite_andThen_k _ (fun _ => by rcases h : (pCompute_k d f (ts.drop 1) _).2 with _ | ⟨e, r⟩ <;> rfl) fun _ => ?_
  refine ite_andThen_k _ (fun _ => by rcases popSrc (ts.drop 1) with _ | ⟨s, r⟩ <;> rfl) fun _ => ?_
  refine ite_andThen_k _ (fun _ => by rcases h : (pCompute_k d f (ts.drop 2) _).2 with _ | ⟨e, r⟩ <;> rfl) fun _ => ?_
  refine ite_andThen_k _ (fun _ => by rfl) fun _ => ite_andThen_k _ (fun _ => by rfl) fun _ => ite_andThen_k _ (fun _ => by rfl) fun _ => ?_
  refine ite_andThen_k _ (fun _ => by rcases h : (pGenerated_k d f ts _).2 with _ | ⟨_ | gc, r⟩ <;> rfl) fun _ => by rfl

/-- what the stop test `createStop` costs: nothing on an empty cursor, else one unit for the `;` test -/
def createStopCost (ts : List Tok) : Nat := if ts.isEmpty then 0 else 1

def createOpt_k (d : Gen.D) (f : Nat) (ts : List Tok) (κ : Nat) : Nat × R (CreateTable → CreateTable) :=
  let κ := κ + (cMove (searchStrUp ts "ENGINE"))
  if searchStrUp ts "ENGINE" then
    let ρ := optEqSrc_k (ts.drop 1) (κ)
    let κ := ρ.1
    match ρ.2 with
    | .ok (s, r) =>
      (κ, .ok (fun c => { c with engine := some s }, r))
    | .error e =>
      (κ, .error e)
  else
    let κ := κ + (cMove (searchStrUp ts "AUTO_INCREMENT"))
    if searchStrUp ts "AUTO_INCREMENT" then
      let κ := κ + (cMove (moveStr (ts.drop 1) "=").1) + 2
      match popInt (moveStr (ts.drop 1) "=").2 with
      | .ok (n, r) =>
        (κ, .ok (fun c => { c with autoIncrement := some n }, r))
      | .error e =>
        (κ, .error e)
    else
      let κ := κ + (cMove (searchTwoUp ts "DEFAULT" "CHARSET"))
      if searchTwoUp ts "DEFAULT" "CHARSET" then
        let ρ := optEqSrc_k (ts.drop 2) (κ)
        let κ := ρ.1
        match ρ.2 with
        | .ok (s, r) =>
          (κ, .ok (fun c => { c with defaultCharset := some s }, r))
        | .error e =>
          (κ, .error e)
      else
        let κ := κ + (cMove (searchStrUp ts "ROW_FORMAT"))
        if searchStrUp ts "ROW_FORMAT" then
          let ρ := optEqSrc_k (ts.drop 1) (κ)
          let κ := ρ.1
          match ρ.2 with
          | .ok (s, r) =>
            (κ, .ok (fun c => { c with rowFormat := some s }, r))
          | .error e =>
            (κ, .error e)
        else
          let κ := κ + (cMove (searchStrUp ts "COLLATE"))
          if searchStrUp ts "COLLATE" then
            let ρ := optEqSrc_k (ts.drop 1) (κ)
            let κ := ρ.1
            match ρ.2 with
            | .ok (s, r) =>
              (κ, .ok (fun c => { c with collate := some s }, r))
            | .error e =>
              (κ, .error e)
          else
            let κ := κ + (cMove (searchStrUp ts "COMMENT"))
            if searchStrUp ts "COMMENT" then
              let ρ := optEqSrc_k (ts.drop 1) (κ)
              let κ := ρ.1
              match ρ.2 with
              | .ok (s, r) =>
                (κ, .ok (fun c => { c with comment := some s }, r))
              | .error e =>
                (κ, .error e)
            else
              let κ := κ + (cMove (searchStrUp ts "STATS_PERSISTENT"))
              if searchStrUp ts "STATS_PERSISTENT" then
                let ρ := optEqSrc_k (ts.drop 1) (κ)
                let κ := ρ.1
                match ρ.2 with
                | .ok (s, r) =>
                  (κ, .ok (fun c => { c with statesPersistent := some s }, r))
                | .error e =>
                  (κ, .error e)
              else
                let κ := κ + (cMove (searchTwoUp ts "PARTITIONED" "BY"))
                if searchTwoUp ts "PARTITIONED" "BY" then
                  let κ := κ + (cSplit (ts.drop 2))
                  match popSplit (ts.drop 2) with
                  | .error e =>
                    (κ, .error e)
                  | .ok (segs, r) =>
                    let ρ := eachClosed_k (pDefCol_k d f) segs (κ)
                    let κ := ρ.1
                    match ρ.2 with
                    | .ok cs =>
                      (κ, .ok (fun c => { c with partitionedBy := c.partitionedBy ++ cs }, r))
                    | .error e =>
                      (κ, .error e)
                else
                  let κ := κ + (cMove (searchThreeUp ts "ROW" "FORMAT" "SERDE"))
                  if searchThreeUp ts "ROW" "FORMAT" "SERDE" then
                    let ρ := optEqSrc_k (ts.drop 3) (κ)
                    let κ := ρ.1
                    match ρ.2 with
                    | .ok (s, r) =>
                      (κ, .ok (fun c => { c with rowFormatSerde := some s }, r))
                    | .error e =>
                      (κ, .error e)
                  else
                    let κ := κ + (cMove (searchSeq ts ["ROW", "FORMAT", "DELIMITED", "FIELDS", "TERMINATED", "BY"]))
                    if searchSeq ts ["ROW", "FORMAT", "DELIMITED", "FIELDS", "TERMINATED", "BY"] then
                      let ρ := optEqSrc_k (ts.drop 6) (κ)
                      let κ := ρ.1
                      match ρ.2 with
                      | .ok (s, r) =>
                        (κ, .ok (fun c => { c with rowFormatDelimited := some s }, r))
                      | .error e =>
                        (κ, .error e)
                    else
                      let κ := κ + (cMove (searchThreeUp ts "STORED" "AS" "INPUTFORMAT"))
                      if searchThreeUp ts "STORED" "AS" "INPUTFORMAT" then
                        let ρ := optEqSrc_k (ts.drop 3) (κ)
                        let κ := ρ.1
                        match ρ.2 with
                        | .ok (s, r) =>
                          (κ, .ok (fun c => { c with storedAsInputformat := some s }, r))
                        | .error e =>
                          (κ, .error e)
                      else
                        let κ := κ + (cMove (searchThreeUp ts "STORED" "AS" "TEXTFILE"))
                        if searchThreeUp ts "STORED" "AS" "TEXTFILE" then
                          (κ, .ok (fun c => { c with storedAsTextfile := true }, (ts.drop 3)))
                        else
                          let κ := κ + (cMove (searchStrUp ts "OUTPUTFORMAT"))
                          if searchStrUp ts "OUTPUTFORMAT" then
                            let ρ := optEqSrc_k (ts.drop 1) (κ)
                            let κ := ρ.1
                            match ρ.2 with
                            | .ok (s, r) =>
                              (κ, .ok (fun c => { c with outputformat := some s }, r))
                            | .error e =>
                              (κ, .error e)
                          else
                            let κ := κ + (cMove (searchStrUp ts "LOCATION"))
                            if searchStrUp ts "LOCATION" then
                              let ρ := optEqSrc_k (ts.drop 1) (κ)
                              let κ := ρ.1
                              match ρ.2 with
                              | .ok (s, r) =>
                                (κ, .ok (fun c => { c with location := some s }, r))
                              | .error e =>
                                (κ, .error e)
                            else
                              let κ := κ + (cMove (searchStrUp ts "TBLPROPERTIES"))
                              if searchStrUp ts "TBLPROPERTIES" then
                                let κ := κ + (cSplit (ts.drop 1))
                                match popSplit (ts.drop 1) with
                                | .error e =>
                                  (κ, .error e)
                                | .ok (segs, r) =>
                                  let ρ := eachClosed_k pConfigStrExpr_k segs (κ)
                                  let κ := ρ.1
                                  match ρ.2 with
                                  | .ok ps =>
                                    (κ, .ok (fun c => { c with tblproperties := c.tblproperties ++ ps }, r))
                                  | .error e =>
                                    (κ, .error e)
                              else
                                (κ, .error .parse)

theorem createOpts_k_succ (d : Gen.D) (f g : Nat) (c : CreateTable) (ts : List Tok) (κ : Nat) :
    createOpts_k d f (g+1) c ts κ =
      if createStop ts then (κ + createStopCost ts, .ok (c, ts))
      else andThen_k (createOpt_k d f ts (κ + createStopCost ts)) fun u r κ => createOpts_k d f g (u c) r κ := by
  rw [createOpts_k]; unfold createOpt_k createStopCost; dsimp only
  refine ite_congr rfl (fun _ => rfl) fun _ => ?_
  refine ite_andThen_k _ (fun _ => by rcases h : (optEqSrc_k (ts.drop 1) _).2 with _ | ⟨s, r⟩ <;> rfl) fun _ => ?_
  refine ite_andThen_k _ (fun _ => by rcases popInt (moveStr (ts.drop 1) "=").2 with _ | ⟨s, r⟩ <;> rfl) fun _ => ?_
  refine ite_andThen_k _ (fun _ => by rcases h : (optEqSrc_k (ts.drop 2) _).2 with _ | ⟨s, r⟩ <;> rfl) fun _ => ?_
  refine ite_andThen_k _ (fun _ => by rcases h : (optEqSrc_k (ts.drop 1) _).2 with _ | ⟨s, r⟩ <;> rfl) fun _ => ?_
  refine ite_andThen_k _ (fun _ => by rcases h : (optEqSrc_k (ts.drop 1) _).2 with _ | ⟨s, r⟩ <;> rfl) fun _ => ?_
  refine ite_andThen_k _ (fun _ => by rcases h : (optEqSrc_k (ts.drop 1) _).2 with _ | ⟨s, r⟩ <;> rfl) fun _ => ?_
  refine ite_andThen_k _ (fun _ => by rcases h : (optEqSrc_k (ts.drop 1) _).2 with _ | ⟨s, r⟩ <;> rfl) fun _ => ?_
  refine ite_andThen_k _ (fun _ => by
    rcases popSplit (ts.drop 2) with _ | ⟨segs, r⟩; · rfl
    dsimp only; rcases h : (eachClosed_k (pDefCol_k d f) segs _).2 with _ | cs <;> rfl) fun _ => ?_
  refine ite_andThen_k _ (fun _ => by rcases h : (optEqSrc_k (ts.drop 3) _).2 with _ | ⟨s, r⟩ <;> rfl) fun _ => ?_
  refine ite_andThen_k _ (fun _ => by rcases h : (optEqSrc_k (ts.drop 6) _).2 with _ | ⟨s, r⟩ <;> rfl) fun _ => ?_
  refine ite_andThen_k _ (fun _ => by rcases h : (optEqSrc_k (ts.drop 3) _).2 with _ | ⟨s, r⟩ <;> rfl) fun _ => ?_
  refine ite_andThen_k _ (fun _ => by rfl) fun _ => ?_
  refine ite_andThen_k _ (fun _ => by rcases h : (optEqSrc_k (ts.drop 1) _).2 with _ | ⟨s, r⟩ <;> rfl) fun _ => ?_
  refine ite_andThen_k _ (fun _ => by rcases h : (optEqSrc_k (ts.drop 1) _).2 with _ | ⟨s, r⟩ <;> rfl) fun _ => ?_
  refine ite_andThen_k _ (fun _ => by
    rcases popSplit (ts.drop 1) with _ | ⟨segs, r⟩; · rfl
    dsimp only; rcases h : (eachClosed_k pConfigStrExpr_k segs _).2 with _ | cs <;> rfl) fun _ => by rfl

theorem defColLoop_k_eq (d : Gen.D) (f : Nat) :
    ∀ g c ts κ, defColLoop_k d f g c ts κ = attrLoop_k defColStop defColStopCost (defColAttr_k d f) g c ts κ := by
  intro g
  induction g with
  | zero => intro c ts κ; rfl
  | succ g ih => intro c ts κ; rw [defColLoop_k_succ, attrLoop_k]; simp only [ih]
theorem createOpts_k_eq (d : Gen.D) (f : Nat) :
    ∀ g c ts κ, createOpts_k d f g c ts κ = attrLoop_k createStop createStopCost (createOpt_k d f) g c ts κ := by
  intro g
  induction g with
  | zero => intro c ts κ; rfl
  | succ g ih => intro c ts κ; rw [createOpts_k_succ, attrLoop_k]; simp only [ih]

theorem attrLoop_k_snd {σ : Type} (stop : List Tok → Bool) (stopCost : List Tok → Nat) (attr_k : List Tok → Nat → Nat × R (σ → σ))
    (attr : List Tok → R (σ → σ)) (h : ∀ ts κ, (attr_k ts κ).2 = attr ts) :
    ∀ g c ts κ, (attrLoop_k stop stopCost attr_k g c ts κ).2 = attrLoop stop attr g c ts := by
  intro g
  induction g with
  | zero => intro c ts κ; rfl
  | succ g ih =>
    intro c ts κ
    rw [attrLoop_k, attrLoop]
    by_cases hs : stop ts = true
    · rw [if_pos hs, if_pos hs]
    · rw [if_neg hs, if_neg hs]; unfold andThen_k andThen; rw [h]
      rcases attr ts with e | ⟨u, r⟩
      · rfl
      · exact ih (u c) r _

end PM
