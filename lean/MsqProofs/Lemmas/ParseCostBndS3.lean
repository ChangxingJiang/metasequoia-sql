import MsqProofs.Lemmas.ParseCostBndS1
/-! GENERATED by tools/gen_cost.py — C19 linear bound, statement level (Parse/Stmt.lean, `pStatements`), part 3 of 5: potential 250 * adqWL -/
set_option linter.unusedSimpArgs false
open Lex PM Ast
namespace PM

theorem pWhereOrderLimit_bnd2 (d : Gen.D) (f : Nat) (ts : List Tok) (κ : Nat) : (pWhereOrderLimit_k d f ts κ).1 + rem2 (pWhereOrderLimit_k d f ts κ).2 ≤ κ + 250 * adqWL ts + 19 := by
  generalize h : pWhereOrderLimit_k d f ts κ = out
  unfold pWhereOrderLimit_k at h
  split_run2 <;> grind -funext (gen := 40) (instances := 20000) [adqWL_append, Lost]
grind_pattern pWhereOrderLimit_bnd2 => pWhereOrderLimit_k d f ts κ

theorem valuesLoop_bnd2 (d : Gen.D) (f : Nat) : ∀ x0 x1 x2 κ, (valuesLoop_k d f x0 x1 x2 κ).1 + rem2 (valuesLoop_k d f x0 x1 x2 κ).2 ≤ κ + 250 * adqWL x2 + 6 := by
  have hE0 := eachClosed_k_rem2 (pCompute_k d f) 61 (by omega) (pCompute_bnd2 d f)
  intro x0
  induction x0 with
  | zero => intro x1 x2 κ; simp only [valuesLoop_k, rem2_error]; omega
  | succ n ih =>
    intro x1 x2 κ
    generalize h : valuesLoop_k d f (n+1) x1 x2 κ = out
    unfold valuesLoop_k at h
    split_run2 <;> grind -funext (gen := 40) (instances := 20000) [adqWL_append, Lost]
grind_pattern valuesLoop_bnd2 => valuesLoop_k d f x0 x1 x2 κ

theorem pOptPartition_bnd2 (d : Gen.D) (f : Nat) (ts : List Tok) (κ : Nat) : (pOptPartition_k d f ts κ).1 + rem2 (pOptPartition_k d f ts κ).2 ≤ κ + 250 * adqWL ts + 5 := by
  generalize h : pOptPartition_k d f ts κ = out
  unfold pOptPartition_k at h
  split_run2 <;> grind -funext (gen := 40) (instances := 20000) [adqWL_append, Lost]
grind_pattern pOptPartition_bnd2 => pOptPartition_k d f ts κ

theorem pWithOpt_bnd2 (d : Gen.D) (f : Nat) (withs? : Option (List WithTable)) (ts : List Tok) (κ : Nat) : (pWithOpt_k d f withs? ts κ).1 + rem2 (pWithOpt_k d f withs? ts κ).2 ≤ κ + 250 * adqWL ts + 3 := by
  generalize h : pWithOpt_k d f withs? ts κ = out
  unfold pWithOpt_k at h
  split_run2 <;> grind -funext (gen := 40) (instances := 20000) [adqWL_append, Lost]
grind_pattern pWithOpt_bnd2 => pWithOpt_k d f withs? ts κ

theorem pInsert_bnd2 (d : Gen.D) (f : Nat) (withs? : Option (List WithTable)) (ts : List Tok) (κ : Nat) : (pInsert_k d f withs? ts κ).1 + remS2 600 (pInsert_k d f withs? ts κ).2 ≤ κ + 250 * adqWL ts + 53 := by
  generalize h : pInsert_k d f withs? ts κ = out
  unfold pInsert_k at h
  split_run2 <;> grind -funext (gen := 40) (instances := 20000) [adqWL_append, Lost]
grind_pattern pInsert_bnd2 => pInsert_k d f withs? ts κ

theorem pAnalyze_bnd2 (d : Gen.D) (f : Nat) (ts : List Tok) (κ : Nat) : (pAnalyze_k d f ts κ).1 + remS2 600 (pAnalyze_k d f ts κ).2 ≤ κ + 250 * adqWL ts + 25 := by
  generalize h : pAnalyze_k d f ts κ = out
  unfold pAnalyze_k at h
  split_run2 <;> grind -funext (gen := 40) (instances := 20000) [adqWL_append, Lost]
grind_pattern pAnalyze_bnd2 => pAnalyze_k d f ts κ

theorem pUpdateSetCol_bnd2 (d : Gen.D) (f : Nat) (ts : List Tok) (κ : Nat) : (pUpdateSetCol_k d f ts κ).1 + rem2 (pUpdateSetCol_k d f ts κ).2 ≤ κ + 250 * adqWL ts + 213 := by
  generalize h : pUpdateSetCol_k d f ts κ = out
  unfold pUpdateSetCol_k at h
  split_run2 <;> grind -funext (gen := 40) (instances := 20000) [adqWL_append, Lost]
grind_pattern pUpdateSetCol_bnd2 => pUpdateSetCol_k d f ts κ

theorem updateSetLoop_bnd2 (d : Gen.D) (f : Nat) : ∀ x0 x1 x2 κ, (updateSetLoop_k d f x0 x1 x2 κ).1 + rem2 (updateSetLoop_k d f x0 x1 x2 κ).2 ≤ κ + 250 * adqWL x2 + 216 := by
  intro x0
  induction x0 with
  | zero => intro x1 x2 κ; simp only [updateSetLoop_k, rem2_error]; omega
  | succ n ih =>
    intro x1 x2 κ
    generalize h : updateSetLoop_k d f (n+1) x1 x2 κ = out
    unfold updateSetLoop_k at h
    split_run2 <;> grind -funext (gen := 40) (instances := 20000) [adqWL_append, Lost]
grind_pattern updateSetLoop_bnd2 => updateSetLoop_k d f x0 x1 x2 κ

theorem pUpdateSet_bnd2 (d : Gen.D) (f : Nat) (ts : List Tok) (κ : Nat) : (pUpdateSet_k d f ts κ).1 + rem2 (pUpdateSet_k d f ts κ).2 ≤ κ + 250 * adqWL ts + 431 := by
  generalize h : pUpdateSet_k d f ts κ = out
  unfold pUpdateSet_k at h
  split_run2 <;> grind -funext (gen := 40) (instances := 20000) [adqWL_append, Lost]
grind_pattern pUpdateSet_bnd2 => pUpdateSet_k d f ts κ

theorem pUpdate_bnd2 (d : Gen.D) (f : Nat) (withs : Option (List WithTable)) (ts : List Tok) (κ : Nat) : (pUpdate_k d f withs ts κ).1 + remS2 600 (pUpdate_k d f withs ts κ).2 ≤ κ + 250 * adqWL ts + 457 := by
  generalize h : pUpdate_k d f withs ts κ = out
  unfold pUpdate_k at h
  split_run2 <;> grind -funext (gen := 40) (instances := 20000) [adqWL_append, Lost]
grind_pattern pUpdate_bnd2 => pUpdate_k d f withs ts κ

theorem pDelete_bnd2 (d : Gen.D) (f : Nat) (ts : List Tok) (κ : Nat) : (pDelete_k d f ts κ).1 + remS2 600 (pDelete_k d f ts κ).2 ≤ κ + 250 * adqWL ts + 27 := by
  generalize h : pDelete_k d f ts κ = out
  unfold pDelete_k at h
  split_run2 <;> grind -funext (gen := 40) (instances := 20000) [adqWL_append, Lost]
grind_pattern pDelete_bnd2 => pDelete_k d f ts κ

theorem pFromClause_bnd2 (d : Gen.D) (f : Nat) (ts : List Tok) (κ : Nat) : (pFromClause_k d f ts κ).1 + rem2 (pFromClause_k d f ts κ).2 ≤ κ + 250 * adqWL ts + 23 := by
  generalize h : pFromClause_k d f ts κ = out
  unfold pFromClause_k at h
  split_run2 <;> grind -funext (gen := 40) (instances := 20000) [adqWL_append, Lost]
grind_pattern pFromClause_bnd2 => pFromClause_k d f ts κ

theorem pShowColumns_bnd2 (d : Gen.D) (f : Nat) (ts : List Tok) (κ : Nat) : (pShowColumns_k d f ts κ).1 + remS2 600 (pShowColumns_k d f ts κ).2 ≤ κ + 250 * adqWL ts + 29 := by
  generalize h : pShowColumns_k d f ts κ = out
  unfold pShowColumns_k at h
  split_run2 <;> grind -funext (gen := 40) (instances := 20000) [adqWL_append, Lost]
grind_pattern pShowColumns_bnd2 => pShowColumns_k d f ts κ

end PM
