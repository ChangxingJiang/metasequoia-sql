import MsqProofs.Lemmas.TParseCompute
/-!
# T-parse, the compute layer for every development (C02 / C03 / C09)

The argument of MsqProofs/Lemmas/TParseCompute.lean — the printer's bracketing makes a compute-level tree the precedence tree of its flat
rendering, and the stack loop of the model rebuilds it — written once: `ComputeFrag` says what it needs of a token printer `tk`, the
operator tokens `opT` (an operator may be spelled after the operand that follows it), the fragment `F` and its size `sz`; the operands
come with run equations in the forms of MsqProofs/Lemmas/TCoreLift.lean.  All operands and the node share one flag `o`: an operand inside
the sequence is followed by an operator token, which is not `OVER`, and what follows the sequence follows its last operand.

On a flat sequence `operand₀ op₁ operand₁ …` the stack loop computes the abstract `shiftReduce`; the operator tree `tview e` is well
nested and its flat sequence is the rendering of `e`; `SR.shiftReduce_spec` (uniqueness of the well-nested tree over a flat sequence)
closes the circle: `compute_node`.
-/
open Lex PM Ast SR
namespace TC
open TP
structure ComputeFrag (d : Gen.D) (ch : Expr → Bool) (tk : Expr → List Tok) (opT : Op → Expr → Tok) (F : Expr → Prop) (sz : Expr → Nat) : Prop where
  sub : ∀ {l o r}, F (.compute l o r) → binOK d o = true ∧ F l ∧ F r
  size : ∀ l o r, sz (.compute l o r) = sz l + sz r + 1
  tok : ∀ {o : Op} (u : Expr), OpOK o → computeOp? (up (opT o u).src) = some (o.name, o.level) ∧ stopsE (opT o u) = true ∧ (opT o u).size = 1
  node : ∀ l o r, tk (.compute l o r) =
    wrapT (ch l) l (binLevel o) (tk l) ++
      opT ⟨o, binLevel o⟩ ((if inTree ch r (binLevel o - 1) then tview ch r else .leaf r).flat).1 :: wrapT (ch r) r (binLevel o - 1) (tk r)

section
variable {d : Gen.D} {ch : Expr → Bool} {tk : Expr → List Tok} {opT : Op → Expr → Tok} {F : Expr → Prop} {sz : Expr → Nat}
  (C : ComputeFrag d ch tk opT F sz) (o : Bool)

def renderTail (ch : Expr → Bool) (tk : Expr → List Tok) (opT : Op → Expr → Tok) : List (Op × Expr) → List Tok
  | [] => []
  | (o, u) :: xs => opT o u :: (wrapT (ch u) u 2 (tk u) ++ renderTail ch tk opT xs)
def renderFlat (ch : Expr → Bool) (tk : Expr → List Tok) (opT : Op → Expr → Tok) (p : Expr × List (Op × Expr)) : List Tok :=
  wrapT (ch p.1) p.1 2 (tk p.1) ++ renderTail ch tk opT p.2

theorem renderTail_append (xs ys : List (Op × Expr)) : renderTail ch tk opT (xs ++ ys) = renderTail ch tk opT xs ++ renderTail ch tk opT ys := by
  induction xs with
  | nil => rfl
  | cons p xs ih => obtain ⟨o, u⟩ := p; simp [renderTail, ih]
include C in
theorem stop_tail (xs : List (Op × Expr)) (hop : ∀ p ∈ xs, OpOK p.1) (rest : List Tok) (hr : StopO d o 8 rest) :
    StopO d o 2 (renderTail ch tk opT xs ++ rest) := by
  cases xs with
  | nil => exact hr.mono (by omega)
  | cons p xs =>
    obtain ⟨op, v⟩ := p
    obtain ⟨h1, h2, _⟩ := C.tok v (hop (op, v) (by simp))
    refine stopO_of _ _ (by simp [stopTok, h2]) ?_
    simp only [Tok.srcEqUp, beq_eq_false_iff_ne, ne_eq]
    intro he
    rw [he] at h1
    have : computeOp? "OVER" = none := by decide
    rw [this] at h1; cases h1

include C in
theorem computeLoop_flat (xs : List (Op × Expr)) (hop : ∀ p ∈ xs, OpOK p.1)
    (hx : ∀ p ∈ xs, FullO d o (P2 d) 2 0 (wrapT (ch p.2) p.2 2 (tk p.2)) p.2) (rest : List Tok) (hr : StopO d o 8 rest) :
    ∀ (st : List (T Expr × Op)) (top : T Expr),
    OkAt (fun f => pComputeLoop d f (C02.embSt st) (C02.embed top) (renderTail ch tk opT xs ++ rest)) (20 * sizeL (renderTail ch tk opT xs) + 1)
      (C02.embed (go st top xs), rest) := by
  induction xs with
  | nil =>
    intro st top
    simp only [renderTail, List.nil_append, go]
    rw [← C02.collapse_embed]
    exact (computeLoop_stop d _ _ rest hr.1).mono (by omega)
  | cons p xs ih =>
    obtain ⟨op, u⟩ := p
    intro st top f hf
    obtain ⟨g, rfl⟩ : ∃ g, f = g + 1 := ⟨f - 1, by omega⟩
    obtain ⟨ho, _, hsz⟩ := C.tok u (hop (op, u) (by simp))
    have hu : pUnary d g (wrapT (ch u) u 2 (tk u) ++ (renderTail ch tk opT xs ++ rest)) = .ok (u, renderTail ch tk opT xs ++ rest) := by
      have hxu : FullO d o (P2 d) 2 0 (wrapT (ch u) u 2 (tk u)) u := hx (op, u) (by simp)
      apply hxu _ (stop_tail C o xs (fun p hp => hop p (by simp [hp])) rest hr) g
      simp only [renderTail, sizeL_cons, sizeL_append, hsz] at hf
      omega
    have hl := ih (fun p hp => hop p (by simp [hp])) (fun p hp => hx p (by simp [hp]))
      (((SR.reduceWhile op.level st top).2, op) :: (SR.reduceWhile op.level st top).1) (T.leaf u) g (by
        simp only [renderTail, sizeL_cons, sizeL_append, hsz] at hf
        omega)
    simp only [renderTail, List.cons_append, List.append_assoc, go]
    unfold pComputeLoop
    simp only [ho, hu, C02.reduceWhile_embed]
    simpa [C02.embSt, C02.embed] using hl

include C in
theorem compute_flat (u0 : Expr) (xs : List (Op × Expr)) (h0 : FullO d o (P2 d) 2 0 (wrapT (ch u0) u0 2 (tk u0)) u0)
    (hop : ∀ p ∈ xs, OpOK p.1) (hx : ∀ p ∈ xs, FullO d o (P2 d) 2 0 (wrapT (ch p.2) p.2 2 (tk p.2)) p.2) :
    FullO d o (P8 d) 8 2 (renderFlat ch tk opT (u0, xs)) (C02.embed (shiftReduce u0 xs)) := by
  intro rest hr f hf
  obtain ⟨g, rfl⟩ : ∃ g, f = g + 1 := ⟨f - 1, by omega⟩
  simp only [renderFlat, sizeL_append] at hf
  have hu : pUnary d g (wrapT (ch u0) u0 2 (tk u0) ++ (renderTail ch tk opT xs ++ rest)) = .ok (u0, renderTail ch tk opT xs ++ rest) :=
    h0 _ (stop_tail C o xs hop rest hr) g (by omega)
  have hl := computeLoop_flat C o xs hop hx rest hr [] (T.leaf u0) g (by omega)
  show pCompute d (g + 1) (renderFlat ch tk opT (u0, xs) ++ rest) = _
  unfold pCompute
  simp only [renderFlat, List.append_assoc, hu]
  simpa [C02.embSt, C02.embed, shiftReduce] using hl

include C in
theorem wn_tview : ∀ e, F e → (tview ch e).WN := by
  apply computeInd
  · intro e h _; rw [tview_leaf ch h]; trivial
  · intro l o r hl hr hf
    obtain ⟨hb, fl', fr⟩ := C.sub hf
    obtain ⟨h3, _, _⟩ := binOK_parts d hb
    rw [tview_node]
    refine ⟨?_, ?_, ?_, ?_⟩
    · split; exact hl fl'; trivial
    · split; exact hr fr; trivial
    · intro k hk
      split at hk
      · rename_i hle
        simp only [inTree, Bool.and_eq_true, decide_eq_true_eq] at hle
        have := rootLevel_tview ch l k hk; simp only; omega
      · simp [T.rootLevel] at hk
    · intro k hk
      split at hk
      · rename_i hle
        simp only [inTree, Bool.and_eq_true, decide_eq_true_eq] at hle
        have := rootLevel_tview ch r k hk; simp only; omega
      · simp [T.rootLevel] at hk

theorem render_child (c : Expr) (b : Nat) (hb : 2 ≤ b) (hb8 : b ≤ 8)
    (ih : renderFlat ch tk opT (tview ch c).flat = if isCompute c then tk c else wrapT (ch c) c 2 (tk c)) :
    renderFlat ch tk opT ((if inTree ch c b then tview ch c else .leaf c).flat) = wrapT (ch c) c b (tk c) := by
  split
  · rename_i hin
    simp only [inTree, Bool.and_eq_true, decide_eq_true_eq, Bool.not_eq_true'] at hin
    obtain ⟨hle, hch⟩ := hin
    have hnw : ¬(PR.lvl c > b ∨ ch c = true) := by rw [hch]; simp; omega
    rw [ih]
    cases hc : isCompute c with
    | true => simp [wrapT, hnw]
    | false =>
      have := lvl_noncompute hc
      have h2 : ¬(PR.lvl c > 2 ∨ ch c = true) := by rw [hch]; simp; omega
      simp [wrapT, hnw, h2]
  · rename_i hin
    have hw : PR.lvl c > b ∨ ch c = true := by
      simp only [inTree, Bool.and_eq_true, decide_eq_true_eq, Bool.not_eq_true'] at hin
      cases hch : ch c with
      | true => exact Or.inr rfl
      | false =>
        left
        have hn : ¬ PR.lvl c ≤ b := fun h => by simp [h, hch] at hin
        omega
    have h2 : PR.lvl c > 2 ∨ ch c = true := by rcases hw with h | h; left; omega; right; exact h
    simp [T.flat, renderFlat, renderTail, wrapT, hw, h2]

include C in
theorem render_tview : ∀ e, F e → renderFlat ch tk opT (tview ch e).flat = if isCompute e then tk e else wrapT (ch e) e 2 (tk e) := by
  apply computeInd
  · intro e h _; rw [tview_leaf ch h]; simp [h, T.flat, renderFlat, renderTail]
  · intro l o r hl hr hf
    obtain ⟨hb, fl', fr⟩ := C.sub hf
    obtain ⟨h3, h8, _⟩ := binOK_parts d hb
    have cl := render_child (tk := tk) (opT := opT) l (binLevel o) (by omega) h8 (hl fl')
    have cr := render_child (tk := tk) (opT := opT) r (binLevel o - 1) (by omega) (by omega) (hr fr)
    rw [flat_tview_node]
    simp only [isCompute, if_true]
    simp only [renderFlat, renderTail_append, renderTail] at cl cr ⊢
    rw [← List.append_assoc, cl, C.node, ← cr]

include C in
theorem flat_parts : ∀ e, F e →
    (F (tview ch e).flat.1 ∧ sz (tview ch e).flat.1 ≤ sz e ∧ (isCompute e = true → sz (tview ch e).flat.1 < sz e)) ∧
    ∀ p ∈ (tview ch e).flat.2, OpOK p.1 ∧ F p.2 ∧ sz p.2 < sz e := by
  apply computeInd
  · intro e h hf; rw [tview_leaf ch h]; simp [T.flat, hf, h]
  · intro l o r hl hr hf
    obtain ⟨hb, fl', fr⟩ := C.sub hf
    obtain ⟨_, _, hop⟩ := binOK_parts d hb
    rw [flat_tview_node]
    have L : (F ((if inTree ch l (binLevel o) then tview ch l else .leaf l).flat).1 ∧
        sz ((if inTree ch l (binLevel o) then tview ch l else .leaf l).flat).1 ≤ sz l) ∧
        ∀ p ∈ ((if inTree ch l (binLevel o) then tview ch l else .leaf l).flat).2, OpOK p.1 ∧ F p.2 ∧ sz p.2 < sz l := by
      split
      · exact ⟨⟨(hl fl').1.1, (hl fl').1.2.1⟩, (hl fl').2⟩
      · simp [T.flat, fl']
    have R : (F ((if inTree ch r (binLevel o - 1) then tview ch r else .leaf r).flat).1 ∧
        sz ((if inTree ch r (binLevel o - 1) then tview ch r else .leaf r).flat).1 ≤ sz r) ∧
        ∀ p ∈ ((if inTree ch r (binLevel o - 1) then tview ch r else .leaf r).flat).2, OpOK p.1 ∧ F p.2 ∧ sz p.2 < sz r := by
      split
      · exact ⟨⟨(hr fr).1.1, (hr fr).1.2.1⟩, (hr fr).2⟩
      · simp [T.flat, fr]
    dsimp only
    rw [C.size]
    refine ⟨⟨L.1.1, by omega, fun _ => by omega⟩, ?_⟩
    intro p hp
    simp only [List.mem_append, List.mem_cons] at hp
    rcases hp with hp | rfl | hp
    · obtain ⟨a, b, c⟩ := L.2 p hp; exact ⟨a, b, by omega⟩
    · exact ⟨hop, R.1.1, by have := R.1.2; dsimp only; omega⟩
    · obtain ⟨a, b, c⟩ := R.2 p hp; exact ⟨a, b, by omega⟩

include C in
theorem compute_node (e : Expr) (hc : isCompute e = true) (hf : F e)
    (ih : ∀ u, F u → sz u < sz e → FullO d o (P2 d) 2 0 (wrapT (ch u) u 2 (tk u)) u) : FullO d o (P8 d) 8 2 (tk e) e := by
  obtain ⟨⟨f0, _, s0⟩, hrest⟩ := flat_parts C e hf
  have key := compute_flat C o (tview ch e).flat.1 (tview ch e).flat.2 (ih _ f0 (s0 hc)) (fun p hp => (hrest p hp).1)
    (fun p hp => ih _ (hrest p hp).2.1 (hrest p hp).2.2)
  have hsr : tview ch e = shiftReduce (tview ch e).flat.1 (tview ch e).flat.2 :=
    (SR.shiftReduce_spec _ _ _).1 ⟨rfl, wn_tview C e hf⟩
  rw [← hsr, embed_tview] at key
  have hr := render_tview C e hf
  simp only [hc, if_true] at hr
  rw [show ((tview ch e).flat.1, (tview ch e).flat.2) = (tview ch e).flat from rfl, hr] at key
  exact key
end
end TC
