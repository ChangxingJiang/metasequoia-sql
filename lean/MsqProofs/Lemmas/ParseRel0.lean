import MsqProofs.Lemmas.ParsePlain
import MsqProofs.Lemmas.ParseSteps
/-!
# Relational reading of the parser model: token theories

Two runs of the parser model on token lists that are related token by token do the same thing and build trees that agree after a map on
the texts they store.  What this needs of the relation is collected in `Theory`: a relation `E` on tokens that keeps shape and marks and
relates children pointwise, a map `m` on stored texts (`m2` on the config strings, which are concatenations of sources), and for every
test the parser model makes on a token (`has`, `equalsStr k`, `srcEqUp k`, membership of `up src` in a word set, `src == k` for the
operator literals, `compareOp?`, `int()`, `splitName` …) the fact that it answers alike on related tokens — for the constants `k` the
theory calls `plain` — and that what is stored from them agrees after `m`.  String tests are written with `PMQ.strEq`, and `PMQ.plainB` is the
Boolean that holds of the constants the parser model compares tokens with (both in Lemmas/ParsePlain.lean).

The modules import each other in this order (the numbers in the file names carry no meaning): `ParseRel0` → `ParseRel3` → `ParseRel3b` →
`ParseRelHelpers` → `ParseRelDefs` → `ParseRel5` → `ParseRel7` → `ParseRel` → `ParseRel4` → `ParseRel6` → `ParseRelStmt`, `ParseRelStmt2` →
`ParseRel8` → `ParseRelEntries`; `ParseRelHelpers`, `ParseRelDefs`, `ParseRel`, `ParseRelStmt`, `ParseRelStmt2` and `ParseRel8` are printed by
tools/gen_rel.py.
-/
set_option linter.unusedSimpArgs false
open Lex Ast
namespace PM

def genModeOf (u : String) : Option (String × String) := Gen.genColSaveModes.find? (fun x => x.1 == u)
theorem genModes_find (s : String) : Gen.genColSaveModes.find? (fun x => x.1 == up s) = genModeOf (up s) := rfl

namespace Rel

/-! ### the typed trees with every stored text mapped through `m` -/
mutual
def mapE (m : String → String) : Expr → Expr
  | .column t n => .column (t.map m) (m n)
  | .literal v => .literal (m v)
  | .wildcard t => .wildcard (t.map m)
  | .func s n ps => .func (s.map m) (m n) (mapEs m ps)
  | .agg n ps d => .agg (m n) (mapEs m ps) d
  | .cast e sg ty ps => .cast (mapE m e) sg (m ty) ps
  | .extract n e => .extract (mapE m n) (mapE m e)
  | .window fn part ord rows => .window (mapE m fn) (mapEs m part) (mapOs m ord) rows
  | .caseCond cs e => .caseCond (mapArms m cs) (mapEo m e)
  | .caseVal v cs e => .caseVal (mapE m v) (mapArms m cs) (mapEo m e)
  | .subValue vs => .subValue (mapEs m vs)
  | .subQuery q => .subQuery (mapQ m q)
  | .exists_ q => .exists_ (mapE m q)
  | .index a i => .index (mapE m a) (mapE m i)
  | .unary op e => .unary (m op) (mapE m e)
  | .compute l op r => .compute (mapE m l) (m op) (mapE m r)
  | .kw k n l r => .kw k n (mapE m l) (mapE m r)
  | .between n b f t => .between n (mapE m b) (mapE m f) (mapE m t)
  | .compare op l r => .compare (m op) (mapE m l) (mapE m r)
  | .not_ e => .not_ (mapE m e)
  | .and_ l r => .and_ (mapE m l) (mapE m r)
  | .xor l r => .xor (mapE m l) (mapE m r)
  | .or_ l r => .or_ (mapE m l) (mapE m r)
  | .mybatis s => .mybatis (m s)
def mapEs (m : String → String) : List Expr → List Expr
  | [] => [] | e :: r => mapE m e :: mapEs m r
def mapEo (m : String → String) : Option Expr → Option Expr
  | none => none | some e => some (mapE m e)
def mapArms (m : String → String) : List (Expr × Expr) → List (Expr × Expr)
  | [] => [] | (w, t) :: r => (mapE m w, mapE m t) :: mapArms m r
def mapO (m : String → String) : OrderItem → OrderItem
  | .mk e d nf nl => .mk (mapE m e) d nf nl
def mapOs (m : String → String) : List OrderItem → List OrderItem
  | [] => [] | o :: r => mapO m o :: mapOs m r
def mapTR (m : String → String) : TableRef → TableRef
  | .table s n => .table (s.map m) (m n)
  | .sub q => .sub (mapQ m q)
def mapFT (m : String → String) : FromTable → FromTable
  | .mk t a => .mk (mapTR m t) (a.map m)
def mapFTs (m : String → String) : List FromTable → List FromTable
  | [] => [] | t :: r => mapFT m t :: mapFTs m r
def mapJR (m : String → String) : JoinRule → JoinRule
  | .on e => .on (mapE m e) | .using f => .using (mapE m f)
def mapJ (m : String → String) : Join → Join
  | .mk ty t none => .mk (m ty) (mapFT m t) none
  | .mk ty t (some r) => .mk (m ty) (mapFT m t) (some (mapJR m r))
def mapJs (m : String → String) : List Join → List Join
  | [] => [] | j :: r => mapJ m j :: mapJs m r
def mapEss (m : String → String) : List (List Expr) → List (List Expr)
  | [] => [] | g :: r => mapEs m g :: mapEss m r
def mapG (m : String → String) : GroupBy → GroupBy
  | .mk cols none cube rollup => .mk (mapEs m cols) none cube rollup
  | .mk cols (some sets) cube rollup => .mk (mapEs m cols) (some (mapEss m sets)) cube rollup
def mapLat (m : String → String) : Lateral → Lateral
  | .mk o fn v as => .mk o (mapE m fn) (m v) (as.map m)
def mapLats (m : String → String) : List Lateral → List Lateral
  | [] => [] | l :: r => mapLat m l :: mapLats m r
def mapW (m : String → String) : WithTable → WithTable
  | .mk n q => .mk (m n) (mapQ m q)
def mapWs (m : String → String) : List WithTable → List WithTable
  | [] => [] | w :: r => mapW m w :: mapWs m r
def mapCols (m : String → String) : List (Expr × Option String) → List (Expr × Option String)
  | [] => [] | (e, a) :: r => (mapE m e, a.map m) :: mapCols m r
def mapWso (m : String → String) : Option (List WithTable) → Option (List WithTable)
  | none => none | some l => some (mapWs m l)
def mapFTso (m : String → String) : Option (List FromTable) → Option (List FromTable)
  | none => none | some l => some (mapFTs m l)
def mapGo (m : String → String) : Option GroupBy → Option GroupBy
  | none => none | some g => some (mapG m g)
def mapOso (m : String → String) : Option (List OrderItem) → Option (List OrderItem)
  | none => none | some l => some (mapOs m l)
def mapEso (m : String → String) : Option (List Expr) → Option (List Expr)
  | none => none | some l => some (mapEs m l)
def mapS (m : String → String) : Select → Select
  | .mk withs dist cols fr lats js wh gb hv ob sb db cb lm =>
    .mk (mapWso m withs) dist (mapCols m cols) (mapFTso m fr) (mapLats m lats) (mapJs m js) (mapEo m wh) (mapGo m gb) (mapEo m hv) (mapOso m ob) (mapOso m sb) (mapEso m db) (mapEso m cb) lm
def mapUs (m : String → String) : List (String × Select) → List (String × Select)
  | [] => [] | (n, s) :: r => (m n, mapS m s) :: mapUs m r
def mapQ (m : String → String) : Query → Query
  | .single s => .single (mapS m s)
  | .union withs first rest => .union (mapWso m withs) (mapS m first) (mapUs m rest)
end

/-- the operator stack of the compute loop (`mapSt0`, Lemmas/ParseRel4.lean, is the map on STATEMENTS) -/
def mapSt (m : String → String) (st : List (Expr × String × Nat)) : List (Expr × String × Nat) := st.map fun p => (mapE m p.1, m p.2.1, p.2.2)


variable {m : String → String}
@[grind =] theorem mapEs_eq : ∀ l, mapEs m l = l.map (mapE m) := by intro l; induction l <;> simp [mapEs, *]
@[grind =] theorem mapEo_eq : ∀ o, mapEo m o = o.map (mapE m) := by intro o; cases o <;> simp [mapEo]
@[grind =] theorem mapArms_eq : ∀ l, mapArms m l = l.map (Prod.map (mapE m) (mapE m)) := by
  intro l; induction l with | nil => simp [mapArms] | cons p r ih => obtain ⟨w, t⟩ := p; simp [mapArms, ih]
@[grind =] theorem mapOs_eq : ∀ l, mapOs m l = l.map (mapO m) := by intro l; induction l <;> simp [mapOs, *]
@[grind =] theorem mapFTs_eq : ∀ l, mapFTs m l = l.map (mapFT m) := by intro l; induction l <;> simp [mapFTs, *]
@[grind =] theorem mapJs_eq : ∀ l, mapJs m l = l.map (mapJ m) := by intro l; induction l <;> simp [mapJs, *]
@[grind =] theorem mapEss_eq : ∀ l, mapEss m l = l.map (List.map (mapE m)) := by intro l; induction l <;> simp [mapEss, mapEs_eq, *]
@[grind =] theorem mapLats_eq : ∀ l, mapLats m l = l.map (mapLat m) := by intro l; induction l <;> simp [mapLats, *]
@[grind =] theorem mapWs_eq : ∀ l, mapWs m l = l.map (mapW m) := by intro l; induction l <;> simp [mapWs, *]
@[grind =] theorem mapCols_eq : ∀ l, mapCols m l = l.map (Prod.map (mapE m) (Option.map m)) := by
  intro l; induction l with | nil => simp [mapCols] | cons p r ih => obtain ⟨e, a⟩ := p; simp [mapCols, ih]
@[grind =] theorem mapUs_eq : ∀ l, mapUs m l = l.map (Prod.map m (mapS m)) := by
  intro l; induction l with | nil => simp [mapUs] | cons p r ih => obtain ⟨n, s⟩ := p; simp [mapUs, ih]
@[grind =] theorem mapWso_eq : ∀ o, mapWso m o = o.map (List.map (mapW m)) := by intro o; cases o <;> simp [mapWso, mapWs_eq]
@[grind =] theorem mapFTso_eq : ∀ o, mapFTso m o = o.map (List.map (mapFT m)) := by intro o; cases o <;> simp [mapFTso, mapFTs_eq]
@[grind =] theorem mapGo_eq : ∀ o, mapGo m o = o.map (mapG m) := by intro o; cases o <;> simp [mapGo]
@[grind =] theorem mapOso_eq : ∀ o, mapOso m o = o.map (List.map (mapO m)) := by intro o; cases o <;> simp [mapOso, mapOs_eq]
@[grind =] theorem mapEso_eq : ∀ o, mapEso m o = o.map (List.map (mapE m)) := by intro o; cases o <;> simp [mapEso, mapEs_eq]
@[grind =] theorem mapJ_mk (ty : String) (t : FromTable) (r : Option JoinRule) : mapJ m (.mk ty t r) = .mk (m ty) (mapFT m t) (r.map (mapJR m)) := by
  cases r <;> simp [mapJ]
@[grind =] theorem mapG_mk (cols : List Expr) (sets : Option (List (List Expr))) (c r : Bool) :
    mapG m (.mk cols sets c r) = .mk (cols.map (mapE m)) (sets.map (List.map (List.map (mapE m)))) c r := by
  cases sets <;> simp [mapG, mapEs_eq, mapEss_eq]
@[grind =] theorem mapS_mk (withs : Option (List WithTable)) (dist : Bool) (cols : List (Expr × Option String)) (fr : Option (List FromTable))
    (lats : List Lateral) (js : List Join) (wh : Option Expr) (gb : Option GroupBy) (hv : Option Expr) (ob sb : Option (List OrderItem))
    (db cb : Option (List Expr)) (lm : Option (Int × Option Int)) :
    mapS m (.mk withs dist cols fr lats js wh gb hv ob sb db cb lm) =
      .mk (withs.map (List.map (mapW m))) dist (cols.map (Prod.map (mapE m) (Option.map m))) (fr.map (List.map (mapFT m))) (lats.map (mapLat m)) (js.map (mapJ m))
        (wh.map (mapE m)) (gb.map (mapG m)) (hv.map (mapE m)) (ob.map (List.map (mapO m))) (sb.map (List.map (mapO m))) (db.map (List.map (mapE m))) (cb.map (List.map (mapE m))) lm := by
  simp [mapS, mapEs_eq, mapEo_eq, mapOs_eq, mapFTs_eq, mapJs_eq, mapLats_eq, mapWs_eq, mapCols_eq, mapWso_eq, mapFTso_eq, mapGo_eq, mapOso_eq, mapEso_eq]
@[grind =] theorem mapQ_union (withs : Option (List WithTable)) (first : Select) (rest : List (String × Select)) :
    mapQ m (.union withs first rest) = .union (withs.map (List.map (mapW m))) (mapS m first) (rest.map (Prod.map m (mapS m))) := by
  simp [mapQ, mapWso_eq, mapUs_eq]
@[grind =] theorem mapQ_single (s : Select) : mapQ m (.single s) = .single (mapS m s) := by simp [mapQ]
/-- a tree map does not change the constructor: what `_parse_table_expression` inspects -/
theorem mapE_subQuery_inv (x : Expr) (q0 : Query) (h : mapE m x = .subQuery q0) : ∃ q, x = .subQuery q := by
  cases x <;> simp [mapE] at h; exact ⟨_, rfl⟩
grind_pattern mapE_subQuery_inv => mapE m x, Expr.subQuery q0
theorem mapE_subQuery_cases {x x' : Expr} (h : mapE m x = mapE m x') :
    (∃ q q', x = .subQuery q ∧ x' = .subQuery q' ∧ mapQ m q = mapQ m q') ∨ ((∀ q, x ≠ .subQuery q) ∧ ∀ q, x' ≠ .subQuery q) := by
  by_cases hx : ∃ q, x = .subQuery q
  · obtain ⟨q, rfl⟩ := hx
    obtain ⟨q', rfl⟩ := mapE_subQuery_inv x' (mapQ m q) (by rw [← h, mapE])
    exact .inl ⟨q, q', rfl, rfl, by simpa [mapE] using h⟩
  · refine .inr ⟨fun q e => hx ⟨q, e⟩, fun q e => hx ?_⟩
    subst e
    exact mapE_subQuery_inv x (mapQ m q) (by rw [h, mapE])
theorem mapTR_table_inv (x : TableRef) (s0 : Option String) (n0 : String) (h : mapTR m x = .table s0 n0) : ∃ s n, x = .table s n := by
  cases x <;> simp [mapTR] at h; exact ⟨_, _, rfl⟩
grind_pattern mapTR_table_inv => mapTR m x, TableRef.table s0 n0
theorem mapTR_sub_inv (x : TableRef) (q0 : Query) (h : mapTR m x = .sub q0) : ∃ q, x = .sub q := by
  cases x <;> simp [mapTR] at h; exact ⟨_, rfl⟩
grind_pattern mapTR_sub_inv => mapTR m x, TableRef.sub q0


/-- the tree maps `fE`, `fO`, … that one reading of the theory defines for itself (`upE` … for letter case, `kmE` …, `erE` …: those that occur in the
statements of its property) are the generic ones at `m` -/
structure MapsAt (m : String → String) (fE : Expr → Expr) (fO : OrderItem → OrderItem) (fTR : TableRef → TableRef)
    (fFT : FromTable → FromTable) (fJ : Join → Join) (fG : GroupBy → GroupBy) (fLat : Lateral → Lateral) (fW : WithTable → WithTable)
    (fS : Select → Select) (fQ : Query → Query) : Prop where
  E : fE = mapE m
  O : fO = mapO m
  TR : fTR = mapTR m
  FT : fFT = mapFT m
  J : fJ = mapJ m
  G : fG = mapG m
  Lat : fLat = mapLat m
  W : fW = mapW m
  S : fS = mapS m
  Q : fQ = mapQ m

section rel
variable (E : Tok → Tok → Prop)
def GEL : List Tok → List Tok → Prop
  | [], [] => True
  | t :: ts, t' :: ts' => E t t' ∧ GEL ts ts'
  | [], _ :: _ => False
  | _ :: _, [] => False
/-- `GEL E` segment by segment (the segments a comma split returns) -/
def GELL : List (List Tok) → List (List Tok) → Prop
  | [], [] => True
  | a :: as, b :: bs => GEL E a b ∧ GELL as bs
  | [], _ :: _ => False
  | _ :: _, [] => False
/-- both runs fail with the same error, or both succeed with related values and related remaining cursors -/
def GER {α : Type} (rv : α → α → Prop) (a b : R α) : Prop :=
  match a, b with
  | .ok (v, r), .ok (v', r') => rv v v' ∧ GEL E r r'
  | .error e, .error e' => e = e'
  | _, _ => False
/-- related optional (value, cursor) pairs: `pKwBody`, `pBetween`, `pInBody` -/
def gOpt {α : Type} (rv : α → α → Prop) (a b : Option (α × List Tok)) : Prop :=
  match a, b with
  | some (v, r), some (v', r') => rv v v' ∧ GEL E r r'
  | none, none => True
  | _, _ => False
end rel
def GEX {α : Type} (rv : α → α → Prop) (a b : Except Err α) : Prop :=
  match a, b with
  | .ok v, .ok v' => rv v v'
  | .error e, .error e' => e = e'
  | _, _ => False
def geq {α β : Type} (f : α → β) (a b : α) : Prop := f a = f b
@[simp, grind =] theorem geq_def {α β : Type} (f : α → β) (a b : α) : geq f a b = (f a = f b) := rfl
@[grind =] theorem prod_map_mk {α β γ δ : Type} (f : α → γ) (g : β → δ) (a : α) (b : β) : Prod.map f g (a, b) = (f a, g b) := rfl
theorem optmap_isNone {α β : Type} (f : α → β) (a b : Option α) (h : geq (Option.map f) a b) : a.isNone = b.isNone := by
  cases a <;> cases b <;> simp_all
grind_pattern optmap_isNone => geq (Option.map f) a b, a.isNone
theorem optmap_shape {α β : Type} (f : α → β) (a b : Option α) (h : geq (Option.map f) a b) :
    (a = none ∧ b = none) ∨ (∃ x y, a = some x ∧ b = some y ∧ f x = f y) := by
  cases a <;> cases b <;> simp_all
grind_pattern optmap_shape => geq (Option.map f) a b

section rel
variable {E : Tok → Tok → Prop}
@[simp, grind =] theorem gel_nil_nil : GEL E [] [] = True := by simp [GEL]
@[simp, grind =] theorem gel_cons_cons (t t' : Tok) (ts ts' : List Tok) : GEL E (t :: ts) (t' :: ts') = (E t t' ∧ GEL E ts ts') := by simp [GEL]
@[simp, grind =] theorem gel_nil_cons (t : Tok) (ts : List Tok) : GEL E [] (t :: ts) = False := by simp [GEL]
@[simp, grind =] theorem gel_cons_nil (t : Tok) (ts : List Tok) : GEL E (t :: ts) [] = False := by simp [GEL]
@[simp, grind =] theorem gell_nil_nil : GELL E [] [] = True := by simp [GELL]
@[simp, grind =] theorem gell_cons_cons (a b : List Tok) (as bs : List (List Tok)) : GELL E (a :: as) (b :: bs) = (GEL E a b ∧ GELL E as bs) := by simp [GELL]
@[simp, grind =] theorem gell_nil_cons (a : List Tok) (as : List (List Tok)) : GELL E [] (a :: as) = False := by simp [GELL]
@[simp, grind =] theorem gell_cons_nil (a : List Tok) (as : List (List Tok)) : GELL E (a :: as) [] = False := by simp [GELL]

theorem GEL.refl (hE : ∀ t, E t t) : ∀ ts : List Tok, GEL E ts ts
  | [] => by simp
  | t :: ts => by simp; exact ⟨hE t, GEL.refl hE ts⟩
theorem gel_nil_left {ts : List Tok} (h : GEL E [] ts) : ts = [] := by cases ts <;> simp_all
theorem gel_nil_right {ts : List Tok} (h : GEL E ts []) : ts = [] := by cases ts <;> simp_all
theorem gel_cons_left {t : Tok} {ts r : List Tok} (h : GEL E (t :: ts) r) : ∃ t' ts', r = t' :: ts' ∧ E t t' ∧ GEL E ts ts' := by
  cases r with | nil => simp at h | cons t' ts' => simp at h; exact ⟨t', ts', rfl, h⟩
theorem gel_cons_right {t : Tok} {ts r : List Tok} (h : GEL E r (t :: ts)) : ∃ t' ts', r = t' :: ts' ∧ E t' t ∧ GEL E ts' ts := by
  cases r with | nil => simp at h | cons t' ts' => simp at h; exact ⟨t', ts', rfl, h⟩
grind_pattern gel_nil_left => GEL E [] ts
grind_pattern gel_nil_right => GEL E ts []
theorem gel_length {ts ts' : List Tok} (h : GEL E ts ts') : ts.length = ts'.length := by
  induction ts generalizing ts' with
  | nil => rw [gel_nil_left h]
  | cons t ts ih => cases ts' with | nil => simp at h | cons t' ts' => simp at h; simp [ih h.2]
grind_pattern gel_length => GEL E ts ts', ts.length
theorem gel_isEmpty {ts ts' : List Tok} (h : GEL E ts ts') : ts.isEmpty = ts'.isEmpty := by
  cases ts <;> cases ts' <;> simp_all
grind_pattern gel_isEmpty => GEL E ts ts', ts.isEmpty
theorem gel_drop {ts ts' : List Tok} (h : GEL E ts ts') (n : Nat) : GEL E (ts.drop n) (ts'.drop n) := by
  induction n generalizing ts ts' with
  | zero => simpa using h
  | succ n ih =>
    cases ts <;> cases ts' <;> simp_all
grind_pattern gel_drop => GEL E ts ts', ts.drop n
theorem gel_append {a a' b b' : List Tok} (h1 : GEL E a a') (h2 : GEL E b b') : GEL E (a ++ b) (a' ++ b') := by
  induction a generalizing a' with
  | nil => rw [gel_nil_left h1]; simpa using h2
  | cons t a ih => cases a' with | nil => simp at h1 | cons t' a' => simp at h1 ⊢; exact ⟨h1.1, ih h1.2⟩
grind_pattern gel_append => GEL E a a', GEL E b b', a ++ b
theorem gell_append {a a' b b' : List (List Tok)} (h1 : GELL E a a') (h2 : GELL E b b') : GELL E (a ++ b) (a' ++ b') := by
  induction a generalizing a' with
  | nil => cases a' <;> simp_all
  | cons t a ih => cases a' with | nil => simp at h1 | cons t' a' => simp at h1 ⊢; exact ⟨h1.1, ih h1.2⟩

@[simp, grind =] theorem ger_ok_ok {α : Type} (rv : α → α → Prop) (v v' : α) (r r' : List Tok) :
    GER E rv (.ok (v, r)) (.ok (v', r')) = (rv v v' ∧ GEL E r r') := by simp [GER]
@[simp, grind =] theorem ger_err_err {α : Type} (rv : α → α → Prop) (e e' : Err) : GER E rv (.error e) (.error e') = (e = e') := by simp [GER]
@[simp, grind =] theorem ger_ok_err {α : Type} (rv : α → α → Prop) (p : α × List Tok) (e : Err) : GER E rv (.ok p) (.error e) = False := by
  obtain ⟨v, r⟩ := p; simp [GER]
@[simp, grind =] theorem ger_err_ok {α : Type} (rv : α → α → Prop) (p : α × List Tok) (e : Err) : GER E rv (.error e) (.ok p) = False := by
  obtain ⟨v, r⟩ := p; simp [GER]
@[simp, grind =] theorem gOpt_some_some {α : Type} (rv : α → α → Prop) (v v' : α) (r r' : List Tok) :
    gOpt E rv (some (v, r)) (some (v', r')) = (rv v v' ∧ GEL E r r') := by simp [gOpt]
@[simp, grind =] theorem gOpt_none_none {α : Type} (rv : α → α → Prop) : gOpt E rv none none = True := by simp [gOpt]
@[simp, grind =] theorem gOpt_some_none {α : Type} (rv : α → α → Prop) (p : α × List Tok) : gOpt E rv (some p) none = False := by
  obtain ⟨v, r⟩ := p; simp [gOpt]
@[simp, grind =] theorem gOpt_none_some {α : Type} (rv : α → α → Prop) (p : α × List Tok) : gOpt E rv none (some p) = False := by
  obtain ⟨v, r⟩ := p; simp [gOpt]
end rel
@[simp, grind =] theorem gex_ok_ok {α : Type} (rv : α → α → Prop) (v v' : α) : GEX rv (.ok v) (.ok v') = rv v v' := by simp [GEX]
@[simp, grind =] theorem gex_err_err {α : Type} (rv : α → α → Prop) (e e' : Err) : GEX rv (.error e) (.error e') = (e = e') := by simp [GEX]
@[simp, grind =] theorem gex_ok_err {α : Type} (rv : α → α → Prop) (v : α) (e : Err) : GEX rv (.ok v) (.error e) = False := by simp [GEX]
@[simp, grind =] theorem gex_err_ok {α : Type} (rv : α → α → Prop) (v : α) (e : Err) : GEX rv (.error e) (.ok v) = False := by simp [GEX]
/- From here on a relation between two runs is used through the equations above and the shape lemmas of `ParseRel3b.lean` only: left reducible,
every tactic that brings a goal `GER E rv (p x) (p y)` to weak head normal form would EVALUATE the two runs to find the alternative of the
`match` (thousands of steps for a function of the mutual block). -/
attribute [irreducible] GER GEX gOpt

/-- the operator literals the model compares a source with case-sensitively -/
def opLit (k : String) : Bool := [",", ".", ";", "*", "=", "-"].contains k
/-- the function names `_parse_function_expression` dispatches on -/
def fnWord (w : String) : Bool := ["CAST", "EXTRACT", "IF", "SUBSTRING"].contains w

/-- a relation on tokens under which the parser model runs in lockstep, with the text map under which the trees it builds agree -/
class Theory where
  E : Tok → Tok → Prop
  /-- on the texts the parser stores -/
  m : String → String
  /-- on config strings (concatenations of stored texts) -/
  m2 : String → String
  /-- the constants `k` a comparison with which answers alike on related tokens -/
  plain : String → Bool
  /-- on words that are passed on to a chain of comparisons with plain constants (`pKwBody`) -/
  kwRel : String → String → Prop
  /-- on the (schema, name) pairs of `pFuncName`, which `pFunc` / `pCall` test -/
  fnRel : Option String × String → Option String × String → Prop
  refl : ∀ t, E t t
  /-- the generic proofs test tokens against the keyword constants of the parser model (`PMQ.plainB`, one ground fact per constant in
  Lemmas/ParseSubstKw.lean) and need each of them plain, so every theory has to count them as plain -/
  plain_of : ∀ k, PMQ.plainB k = true → plain k = true
  has : ∀ {t t'}, E t t' → ∀ mk, t.has mk = t'.has mk
  children : ∀ {t t'}, E t t' → GEL E t.children t'.children
  srcEq : ∀ {t t'}, E t t' → ∀ k, opLit k = true → t.srcEq k = t'.srcEq k
  equalsStr : ∀ {t t'}, E t t' → ∀ k, plain k = true → t.equalsStr k = t'.equalsStr k
  kw : ∀ {t t'}, E t t' → kwRel (up t.src) (up t'.src)
  kw_strEq : ∀ {k k'}, kwRel k k' → ∀ w, plain w = true → PMQ.strEq k w = PMQ.strEq k' w
  unarySet : ∀ {t t'}, E t t' → ∀ d, (Gen.unarySet d).contains t.src = (Gen.unarySet d).contains t'.src
  compareSet : ∀ {t t'}, E t t' → Gen.compareSet.contains t.src = Gen.compareSet.contains t'.src
  compareOp : ∀ {t t'}, E t t' → compareOp? t.src = compareOp? t'.src
  pyInt : ∀ {t t'}, E t t' → pyInt t.src = pyInt t'.src
  asInt : ∀ {t t'}, E t t' → asInt t.src = asInt t'.src
  src : ∀ {t t'}, E t t' → m t.src = m t'.src
  src2 : ∀ {t t'}, E t t' → m2 t.src = m2 t'.src
  unify : ∀ {t t'}, E t t' → m (unifyName t.src) = m (unifyName t'.src)
  m2_append : ∀ {a a' b b'}, m2 a = m2 a' → m2 b = m2 b' → m2 (a ++ b) = m2 (a' ++ b')
  splitName : ∀ {t t'}, E t t' → t.has NAME = true → GEX fnRel (splitName t.src) (splitName t'.src)
  fn_names : ∀ {a a' c c'}, E a a' → a.has NAME = true → E c c' → c.has NAME = true →
    fnRel (some (unifyName a.src), unifyName c.src) (some (unifyName a'.src), unifyName c'.src)
  fn_m : ∀ {s s' n n'}, fnRel (s, n) (s', n') → s.map m = s'.map m ∧ m n = m n'
  fn_word : ∀ {s s' n n'}, fnRel (s, n) (s', n') → ∀ w, fnWord w = true → PMQ.strEq (up n) w = PMQ.strEq (up n') w
  fn_agg : ∀ {s s' n n'}, fnRel (s, n) (s', n') → Gen.aggNames.contains (up n) = Gen.aggNames.contains (up n')

/-! What the parser learns from the upper-cased source of a token it learns through comparisons with plain constants (`kw`, `kw_strEq`):
the tests `srcEqUp`, membership in a word list, the look-ups in the operator tables. -/
namespace Theory
variable (T : Theory) {t t' : Tok} (h : T.E t t')
include h
theorem strEqUp (k : String) (hk : T.plain k = true) : PMQ.strEq (up t.src) k = PMQ.strEq (up t'.src) k := T.kw_strEq (T.kw h) k hk
theorem srcEqUp (k : String) (hk : T.plain k = true) : t.srcEqUp k = t'.srcEqUp k := T.kw_strEq (T.kw h) k hk
theorem containsUp (ks : List String) (hk : ks.all T.plain = true) : ks.contains (up t.src) = ks.contains (up t'.src) := by
  induction ks with
  | nil => rw [List.contains_nil, List.contains_nil]
  | cons k ks ih =>
    rw [List.all_cons, Bool.and_eq_true] at hk
    have e : (up t.src == k) = (up t'.src == k) := T.strEqUp h k hk.1
    rw [List.contains_cons, List.contains_cons, ih hk.2, e]
theorem findUp {α : Type} (l : List (String × α)) (hl : (l.all fun e => PMQ.plainB e.1) = true) :
    l.find? (·.1 == up t.src) = l.find? (·.1 == up t'.src) := by
  induction l with
  | nil => rw [List.find?_nil, List.find?_nil]
  | cons e l ih =>
    rw [List.all_cons, Bool.and_eq_true] at hl
    have e1 : (e.1 == up t.src) = (e.1 == up t'.src) := by
      rw [BEq.comm (a := e.1), BEq.comm (a := e.1)]; exact T.strEqUp h e.1 (T.plain_of _ hl.1)
    rw [List.find?_cons, List.find?_cons, ih hl.2, e1]
theorem computeOp : computeOp? (up t.src) = computeOp? (up t'.src) := by
  simp only [computeOp?, T.findUp h Gen.computeHash (by decide)]
theorem genMode : genModeOf (up t.src) = genModeOf (up t'.src) := T.findUp h Gen.genColSaveModes (by decide)
end Theory

end Rel
end PM
