import MsqProofs.Lemmas.ParseOutDefs
/-! GENERATED by tools/gen_out.py — what a run answers: the fuel step for the mutual block — one field, one unfolding — and the induction -/
set_option linter.unusedVariables false
open Lex Ast
namespace PM

variable (d : Gen.D)

theorem outFE_succ (n : Nat) (hE : OutFE d n) (hC : OutFC d n) (hS : OutFS d n) : OutFE d (n+1) where
  pElement := by
    intro x0
    generalize h : PM.pElement d (n+1) x0 = res
    unfold pElement at h
    split_run <;> grind -funext (gen := 40) (instances := 20000) [adqWL_append, Err.parserKind]
  pParen := by
    intro x0 x1
    generalize h : PM.pParen d (n+1) x0 x1 = res
    unfold pParen at h
    split_run <;> grind -funext (gen := 40) (instances := 20000) [adqWL_append, Err.parserKind]
  pNamed := by
    intro x0 x1 x2
    generalize h : PM.pNamed d (n+1) x0 x1 x2 = res
    unfold pNamed at h
    split_run <;> grind -funext (gen := 40) (instances := 20000) [adqWL_append, Err.parserKind, Out.kind]
  pQualified := by
    intro x0 x1 x2
    generalize h : PM.pQualified d (n+1) x0 x1 x2 = res
    unfold pQualified at h
    split_run <;> grind -funext (gen := 40) (instances := 20000) [adqWL_append, Err.parserKind, Out.kind]
  pIndex := by
    intro x0 x1
    generalize h : PM.pIndex d (n+1) x0 x1 = res
    unfold pIndex at h
    split_run <;> grind -funext (gen := 40) (instances := 20000) [adqWL_append, Err.parserKind]
  pFuncIdx := by
    intro x0
    generalize h : PM.pFuncIdx d (n+1) x0 = res
    unfold pFuncIdx at h
    split_run <;> grind -funext (gen := 40) (instances := 20000) [adqWL_append, Err.parserKind]
  pFunc := by
    intro x0
    generalize h : PM.pFunc d (n+1) x0 = res
    unfold pFunc at h
    split_run <;> grind -funext (gen := 40) (instances := 20000) [adqWL_append, Err.parserKind]
  pIfCall := by
    intro x0
    generalize h : PM.pIfCall d (n+1) x0 = res
    unfold pIfCall at h
    split_run <;> grind -funext (gen := 40) (instances := 20000) [adqWL_append, Err.parserKind]
  pFirstDiscard := by
    intro x0
    generalize h : PM.pFirstDiscard d (n+1) x0 = res
    unfold pFirstDiscard at h
    split_run <;> grind -funext (gen := 40) (instances := 20000) [adqWL_append, Err.parserKind]
  pFirstArg := by
    intro x0
    generalize h : PM.pFirstArg d (n+1) x0 = res
    unfold pFirstArg at h
    split_run <;> grind -funext (gen := 40) (instances := 20000) [adqWL_append, Err.parserKind]
  pCall := by
    intro x0 x1 x2
    generalize h : PM.pCall d (n+1) x0 x1 x2 = res
    unfold pCall at h
    split_run <;> grind -funext (gen := 40) (instances := 20000) [adqWL_append, Err.parserKind]
  pArgs := by
    intro x0 x1
    generalize h : PM.pArgs d (n+1) x0 x1 = res
    unfold pArgs at h
    split_run <;> grind -funext (gen := 40) (instances := 20000) [adqWL_append, Err.parserKind]
  pCase := by
    intro x0
    generalize h : PM.pCase d (n+1) x0 = res
    unfold pCase at h
    split_run <;> grind -funext (gen := 40) (instances := 20000) [adqWL_append, Err.parserKind]
  pElseEnd := by
    intro x0
    generalize h : PM.pElseEnd d (n+1) x0 = res
    unfold pElseEnd at h
    split_run <;> grind -funext (gen := 40) (instances := 20000) [adqWL_append, Err.parserKind]
  pWhens := by
    intro x0 x1
    generalize h : PM.pWhens d (n+1) x0 x1 = res
    unfold pWhens at h
    split_run <;> grind -funext (gen := 40) (instances := 20000) [adqWL_append, Err.parserKind]
  pUnary := by
    intro x0
    generalize h : PM.pUnary d (n+1) x0 = res
    unfold pUnary at h
    split_run <;> grind -funext (gen := 40) (instances := 20000) [adqWL_append, Err.parserKind]
  pCompute := by
    intro x0
    generalize h : PM.pCompute d (n+1) x0 = res
    unfold pCompute at h
    split_run <;> grind -funext (gen := 40) (instances := 20000) [adqWL_append, Err.parserKind]
  pComputeLoop := by
    intro x0 x1 x2
    generalize h : PM.pComputeLoop d (n+1) x0 x1 x2 = res
    unfold pComputeLoop at h
    split_run <;> grind -funext (gen := 40) (instances := 20000) [adqWL_append, Err.parserKind]
  pKeyword := by
    intro x0 x1
    generalize h : PM.pKeyword d (n+1) x0 x1 = res
    unfold pKeyword at h
    split_run <;> grind -funext (gen := 40) (instances := 20000) [adqWL_append, Err.parserKind]
  pKwFirst := by
    intro x0 x1
    generalize h : PM.pKwFirst d (n+1) x0 x1 = res
    unfold pKwFirst at h
    split_run <;> grind -funext (gen := 40) (instances := 20000) [adqWL_append, Err.parserKind]
  pKwRest := by
    intro x0 x1 x2
    generalize h : PM.pKwRest d (n+1) x0 x1 x2 = res
    unfold pKwRest at h
    split_run <;> grind -funext (gen := 40) (instances := 20000) [adqWL_append, Err.parserKind]
  pKwBody := by
    intro x0 x1 x2 x3
    generalize h : PM.pKwBody d (n+1) x0 x1 x2 x3 = res
    unfold pKwBody at h
    split_run <;> grind -funext (gen := 40) (instances := 20000) [adqWL_append, Err.parserKind]
  pBetween := by
    intro x0 x1 x2
    generalize h : PM.pBetween d (n+1) x0 x1 x2 = res
    unfold pBetween at h
    split_run <;> grind -funext (gen := 40) (instances := 20000) [adqWL_append, Err.parserKind]
  pInBody := by
    intro x0 x1 x2
    generalize h : PM.pInBody d (n+1) x0 x1 x2 = res
    unfold pInBody at h
    split_run <;> grind -funext (gen := 40) (instances := 20000) [adqWL_append, Err.parserKind]
  pSplit := by
    intro x0 x1 x2
    generalize h : PM.pSplit d (n+1) x0 x1 x2 = res
    unfold pSplit at h
    split_run <;> grind -funext (gen := 40) (instances := 20000) [adqWL_append, Err.parserKind]
  pCompare := by
    intro x0
    generalize h : PM.pCompare d (n+1) x0 = res
    unfold pCompare at h
    split_run <;> grind -funext (gen := 40) (instances := 20000) [adqWL_append, Err.parserKind]
  pCompareLoop := by
    intro x0 x1
    generalize h : PM.pCompareLoop d (n+1) x0 x1 = res
    unfold pCompareLoop at h
    split_run <;> grind -funext (gen := 40) (instances := 20000) [adqWL_append, Err.parserKind]
  pNot := by
    intro x0
    generalize h : PM.pNot d (n+1) x0 = res
    unfold pNot at h
    split_run <;> grind -funext (gen := 40) (instances := 20000) [adqWL_append, Err.parserKind]
  pAnd := by
    intro x0
    generalize h : PM.pAnd d (n+1) x0 = res
    unfold pAnd at h
    split_run <;> grind -funext (gen := 40) (instances := 20000) [adqWL_append, Err.parserKind]
  pAndLoop := by
    intro x0 x1
    generalize h : PM.pAndLoop d (n+1) x0 x1 = res
    unfold pAndLoop at h
    split_run <;> grind -funext (gen := 40) (instances := 20000) [adqWL_append, Err.parserKind]
  pXor := by
    intro x0
    generalize h : PM.pXor d (n+1) x0 = res
    unfold pXor at h
    split_run <;> grind -funext (gen := 40) (instances := 20000) [adqWL_append, Err.parserKind]
  pXorLoop := by
    intro x0 x1
    generalize h : PM.pXorLoop d (n+1) x0 x1 = res
    unfold pXorLoop at h
    split_run <;> grind -funext (gen := 40) (instances := 20000) [adqWL_append, Err.parserKind]
  pOr := by
    intro x0
    generalize h : PM.pOr d (n+1) x0 = res
    unfold pOr at h
    split_run <;> grind -funext (gen := 40) (instances := 20000) [adqWL_append, Err.parserKind]
  pOrLoop := by
    intro x0 x1
    generalize h : PM.pOrLoop d (n+1) x0 x1 = res
    unfold pOrLoop at h
    split_run <;> grind -funext (gen := 40) (instances := 20000) [adqWL_append, Err.parserKind]

theorem outFC_succ (n : Nat) (hE : OutFE d n) (hC : OutFC d n) (hS : OutFS d n) : OutFC d (n+1) where
  pSubQuery := by
    intro x0
    generalize h : PM.pSubQuery d (n+1) x0 = res
    unfold pSubQuery at h
    split_run <;> grind -funext (gen := 40) (instances := 20000) [adqWL_append, Err.parserKind]
  pCast := by
    intro x0
    generalize h : PM.pCast d (n+1) x0 = res
    unfold pCast at h
    split_run <;> grind -funext (gen := 40) (instances := 20000) [adqWL_append, Err.parserKind]
  pExtract := by
    intro x0
    generalize h : PM.pExtract d (n+1) x0 = res
    unfold pExtract at h
    split_run <;> grind -funext (gen := 40) (instances := 20000) [adqWL_append, Err.parserKind]
  pExtractTail := by
    intro x0 x1
    generalize h : PM.pExtractTail d (n+1) x0 x1 = res
    unfold pExtractTail at h
    split_run <;> grind -funext (gen := 40) (instances := 20000) [adqWL_append, Err.parserKind]
  pWindow := by
    intro x0
    generalize h : PM.pWindow d (n+1) x0 = res
    unfold pWindow at h
    split_run <;> grind -funext (gen := 40) (instances := 20000) [adqWL_append, Err.parserKind]
  pWindowBody := by
    intro x0 x1
    generalize h : PM.pWindowBody d (n+1) x0 x1 = res
    unfold pWindowBody at h
    split_run <;> grind -funext (gen := 40) (instances := 20000) [adqWL_append, Err.parserKind]
  pPartitionBy := by
    intro x0
    generalize h : PM.pPartitionBy d (n+1) x0 = res
    unfold pPartitionBy at h
    split_run <;> grind -funext (gen := 40) (instances := 20000) [adqWL_append, Err.parserKind]
  pComputeList := by
    intro x0 x1
    generalize h : PM.pComputeList d (n+1) x0 x1 = res
    unfold pComputeList at h
    split_run <;> grind -funext (gen := 40) (instances := 20000) [adqWL_append, Err.parserKind]
  pOrderItem := by
    intro x0
    generalize h : PM.pOrderItem d (n+1) x0 = res
    unfold pOrderItem at h
    split_run <;> grind -funext (gen := 40) (instances := 20000) [adqWL_append, Err.parserKind]
  pOrderList := by
    intro x0 x1
    generalize h : PM.pOrderList d (n+1) x0 x1 = res
    unfold pOrderList at h
    split_run <;> grind -funext (gen := 40) (instances := 20000) [adqWL_append, Err.parserKind]
  pOrderByOpt := by
    intro x0
    generalize h : PM.pOrderByOpt d (n+1) x0 = res
    unfold pOrderByOpt at h
    split_run <;> grind -funext (gen := 40) (instances := 20000) [adqWL_append, Err.parserKind]
  pSelectCol := by
    intro x0
    generalize h : PM.pSelectCol d (n+1) x0 = res
    unfold pSelectCol at h
    split_run <;> grind -funext (gen := 40) (instances := 20000) [adqWL_append, Err.parserKind]
  pSelectCols := by
    intro x0 x1
    generalize h : PM.pSelectCols d (n+1) x0 x1 = res
    unfold pSelectCols at h
    split_run <;> grind -funext (gen := 40) (instances := 20000) [adqWL_append, Err.parserKind]
  pTableExpr := by
    intro x0
    generalize h : PM.pTableExpr d (n+1) x0 = res
    unfold pTableExpr at h
    split_run <;> grind -funext (gen := 40) (instances := 20000) [adqWL_append, Err.parserKind]
  pFromTable := by
    intro x0
    generalize h : PM.pFromTable d (n+1) x0 = res
    unfold pFromTable at h
    split_run <;> grind -funext (gen := 40) (instances := 20000) [adqWL_append, Err.parserKind]
  pFromTables := by
    intro x0 x1
    generalize h : PM.pFromTables d (n+1) x0 x1 = res
    unfold pFromTables at h
    split_run <;> grind -funext (gen := 40) (instances := 20000) [adqWL_append, Err.parserKind]
  pJoin := by
    intro x0
    generalize h : PM.pJoin d (n+1) x0 = res
    unfold pJoin at h
    split_run <;> grind -funext (gen := 40) (instances := 20000) [adqWL_append, Err.parserKind]
  pJoinRule := by
    intro x0 x1 x2
    generalize h : PM.pJoinRule d (n+1) x0 x1 x2 = res
    unfold pJoinRule at h
    split_run <;> grind -funext (gen := 40) (instances := 20000) [adqWL_append, Err.parserKind]
  pJoins := by
    intro x0 x1 x2 x3
    generalize h : PM.pJoins d (n+1) x0 x1 x2 x3 = res
    unfold pJoins at h
    split_run <;> grind -funext (gen := 40) (instances := 20000) [adqWL_append, Err.parserKind]
  pOptOr := by
    intro x0 x1
    generalize h : PM.pOptOr d (n+1) x0 x1 = res
    unfold pOptOr at h
    split_run <;> grind -funext (gen := 40) (instances := 20000) [adqWL_append, Err.parserKind]
  pGroupingElem := by
    intro x0
    generalize h : PM.pGroupingElem d (n+1) x0 = res
    unfold pGroupingElem at h
    split_run <;> grind -funext (gen := 40) (instances := 20000) [adqWL_append, Err.parserKind]
  pClosedEach := by
    intro x0 x1
    generalize h : PM.pClosedEach d (n+1) x0 x1 = res
    unfold pClosedEach at h
    split_run <;> grind -funext (gen := 40) (instances := 20000) [adqWL_append, Err.parserKind]
  pGroupingElems := by
    intro x0 x1
    generalize h : PM.pGroupingElems d (n+1) x0 x1 = res
    unfold pGroupingElems at h
    split_run <;> grind -funext (gen := 40) (instances := 20000) [adqWL_append, Err.parserKind]
  pGroupingSets := by
    intro x0
    generalize h : PM.pGroupingSets d (n+1) x0 = res
    unfold pGroupingSets at h
    split_run <;> grind -funext (gen := 40) (instances := 20000) [adqWL_append, Err.parserKind]
  pGroupBy := by
    intro x0
    generalize h : PM.pGroupBy d (n+1) x0 = res
    unfold pGroupBy at h
    split_run <;> grind -funext (gen := 40) (instances := 20000) [adqWL_append, Err.parserKind]
  pGroupCols := by
    intro x0
    generalize h : PM.pGroupCols d (n+1) x0 = res
    unfold pGroupCols at h
    split_run <;> grind -funext (gen := 40) (instances := 20000) [adqWL_append, Err.parserKind]
  pGroupSetsOpt := by
    intro x0
    generalize h : PM.pGroupSetsOpt d (n+1) x0 = res
    unfold pGroupSetsOpt at h
    split_run <;> grind -funext (gen := 40) (instances := 20000) [adqWL_append, Err.parserKind]

theorem outFS_succ (n : Nat) (hE : OutFE d n) (hC : OutFC d n) (hS : OutFS d n) : OutFS d (n+1) where
  pWithTable := by
    intro x0
    generalize h : PM.pWithTable d (n+1) x0 = res
    unfold pWithTable at h
    split_run <;> grind -funext (gen := 40) (instances := 20000) [adqWL_append, Err.parserKind]
  pWithBody := by
    intro x0 x1
    generalize h : PM.pWithBody d (n+1) x0 x1 = res
    unfold pWithBody at h
    split_run <;> grind -funext (gen := 40) (instances := 20000) [adqWL_append, Err.parserKind]
  pWithTables := by
    intro x0 x1
    generalize h : PM.pWithTables d (n+1) x0 x1 = res
    unfold pWithTables at h
    split_run <;> grind -funext (gen := 40) (instances := 20000) [adqWL_append, Err.parserKind]
  pWith := by
    intro x0
    generalize h : PM.pWith d (n+1) x0 = res
    unfold pWith at h
    split_run <;> grind -funext (gen := 40) (instances := 20000) [adqWL_append, Err.parserKind]
  pSelectBody := by
    intro x0 x1 x2 x3
    generalize h : PM.pSelectBody d (n+1) x0 x1 x2 x3 = res
    unfold pSelectBody at h
    split_run <;> grind -funext (gen := 40) (instances := 20000) [adqWL_append, Err.parserKind]
  pFromOpt := by
    intro x0
    generalize h : PM.pFromOpt d (n+1) x0 = res
    unfold pFromOpt at h
    split_run <;> grind -funext (gen := 40) (instances := 20000) [adqWL_append, Err.parserKind]
  pSelectRest := by
    intro x0 x1 x2 x3 x4 x5
    generalize h : PM.pSelectRest d (n+1) x0 x1 x2 x3 x4 x5 = res
    unfold pSelectRest at h
    split_run <;> grind -funext (gen := 40) (instances := 20000) [adqWL_append, Err.parserKind]
  pSelectTail := by
    intro x0 x1 x2 x3 x4 x5 x6
    generalize h : PM.pSelectTail d (n+1) x0 x1 x2 x3 x4 x5 x6 = res
    unfold pSelectTail at h
    split_run <;> grind -funext (gen := 40) (instances := 20000) [adqWL_append, Err.parserKind]
  pWhereGroup := by
    intro x0
    generalize h : PM.pWhereGroup d (n+1) x0 = res
    unfold pWhereGroup at h
    split_run <;> grind -funext (gen := 40) (instances := 20000) [adqWL_append, Err.parserKind]
  pHavingOrder := by
    intro x0
    generalize h : PM.pHavingOrder d (n+1) x0 = res
    unfold pHavingOrder at h
    split_run <;> grind -funext (gen := 40) (instances := 20000) [adqWL_append, Err.parserKind]
  pHiveClauses := by
    intro x0
    generalize h : PM.pHiveClauses d (n+1) x0 = res
    unfold pHiveClauses at h
    split_run <;> grind -funext (gen := 40) (instances := 20000) [adqWL_append, Err.parserKind]
  pSortBy := by
    intro x0
    generalize h : PM.pSortBy d (n+1) x0 = res
    unfold pSortBy at h
    split_run <;> grind -funext (gen := 40) (instances := 20000) [adqWL_append, Err.parserKind]
  pByList := by
    intro x0 x1
    generalize h : PM.pByList d (n+1) x0 x1 = res
    unfold pByList at h
    split_run <;> grind -funext (gen := 40) (instances := 20000) [adqWL_append, Err.parserKind]
  pLateral := by
    intro x0
    generalize h : PM.pLateral d (n+1) x0 = res
    unfold pLateral at h
    split_run <;> grind -funext (gen := 40) (instances := 20000) [adqWL_append, Err.parserKind]
  pLaterals := by
    intro x0 x1 x2 x3
    generalize h : PM.pLaterals d (n+1) x0 x1 x2 x3 = res
    unfold pLaterals at h
    split_run <;> grind -funext (gen := 40) (instances := 20000) [adqWL_append, Err.parserKind]
  pSingle := by
    intro x0 x1
    generalize h : PM.pSingle d (n+1) x0 x1 = res
    unfold pSingle at h
    split_run <;> grind -funext (gen := 40) (instances := 20000) [adqWL_append, Err.parserKind]
  pSingleParen := by
    intro x0 x1 x2 x3
    generalize h : PM.pSingleParen d (n+1) x0 x1 x2 x3 = res
    unfold pSingleParen at h
    split_run <;> grind -funext (gen := 40) (instances := 20000) [adqWL_append, Err.parserKind]
  pSelectStmt := by
    intro x0 x1
    generalize h : PM.pSelectStmt d (n+1) x0 x1 = res
    -- the WITH slot is matched on INSIDE the scrutinee of the first bind: split as it stands, that `match` would stay in an equation and reach `grind`
    cases x0 <;> (unfold pSelectStmt at h; (try simp only at h); split_run <;> grind -funext (gen := 40) (instances := 20000) [adqWL_append, Err.parserKind])
  pUnions := by
    intro x0 x1 x2
    generalize h : PM.pUnions d (n+1) x0 x1 x2 = res
    unfold pUnions at h
    split_run <;> grind -funext (gen := 40) (instances := 20000) [adqWL_append, Err.parserKind]
  pJoin_s := by
    intro x0 v r h
    unfold pJoin at h
    split_run <;> grind -funext (gen := 40) (instances := 20000) [adqWL_append, Lost]
  pLateral_s := by
    intro x0 v r h
    unfold pLateral at h
    split_run <;> grind -funext (gen := 40) (instances := 20000) [adqWL_append, Lost]
  pSelectBody_s := by
    intro x0 x1 x2 x3 v r h
    unfold pSelectBody at h
    split_run <;> grind -funext (gen := 40) (instances := 20000) [adqWL_append, Lost]
  pSingle_s := by
    intro x0 x1 v r h
    unfold pSingle at h
    split_run <;> grind -funext (gen := 40) (instances := 20000) [adqWL_append, Lost]
  pSelectStmt_s := by
    intro x0 x1 v r h
    unfold pSelectStmt at h
    split_run <;> grind -funext (gen := 40) (instances := 20000) [adqWL_append, Lost]

theorem outF_all : ∀ n, OutF d n := by
  intro n
  induction n with
  | zero =>
    refine ⟨?_, ?_, ?_⟩ <;> constructor <;> intros <;> (try refine ⟨?_, ?_⟩) <;> first | (intro h; omega) | simp [out_error, outO_error, outD_error, kind_error, strictRel_error, Err.parserKind, pElement, pParen, pNamed, pQualified, pIndex, pFuncIdx, pFunc, pIfCall, pFirstDiscard, pFirstArg, pCall, pArgs, pCase, pElseEnd, pWhens, pUnary, pCompute, pComputeLoop, pKeyword, pKwFirst, pKwRest, pKwBody, pBetween, pInBody, pSplit, pCompare, pCompareLoop, pNot, pAnd, pAndLoop, pXor, pXorLoop, pOr, pOrLoop, pSubQuery, pCast, pExtract, pExtractTail, pWindow, pWindowBody, pPartitionBy, pComputeList, pOrderItem, pOrderList, pOrderByOpt, pSelectCol, pSelectCols, pTableExpr, pFromTable, pFromTables, pJoin, pJoinRule, pJoins, pOptOr, pGroupingElem, pClosedEach, pGroupingElems, pGroupingSets, pGroupBy, pGroupCols, pGroupSetsOpt, pWithTable, pWithBody, pWithTables, pWith, pSelectBody, pFromOpt, pSelectRest, pSelectTail, pWhereGroup, pHavingOrder, pHiveClauses, pSortBy, pByList, pLateral, pLaterals, pSingle, pSingleParen, pSelectStmt, pUnions]
  | succ n ih => exact ⟨outFE_succ d n ih.toOutFE ih.toOutFC ih.toOutFS, outFC_succ d n ih.toOutFE ih.toOutFC ih.toOutFS, outFS_succ d n ih.toOutFE ih.toOutFC ih.toOutFS⟩

end PM
