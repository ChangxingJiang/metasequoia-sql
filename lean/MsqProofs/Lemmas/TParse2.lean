import MsqProofs.Lemmas.TParse2Lift
/-!
# T-parse, larger fragment: the record of a rendering (C02 / C01)

`RT2 d ch e` — as `TP.RT`, for `toksE2` and the towers with the stronger continuation condition, plus: the first token is not `WHEN` /
`DISTINCT` (`hdTok`), and no TOP-LEVEL token of the rendering is a comma (`nocomma`: what the comma splitter of `IN (…)` needs).
Every fragment expression has it (`C02.rt2`, Props/C02T2.lean): `Frag2` is contained in the nested fragments, with equal renderings.
-/
open Lex PM Ast TP
namespace TP2
variable (d : Gen.D) (ch : Expr → Bool)

def Head2 (e : Expr) (ts : List Tok) : Prop :=
  ∃ t ts', ts = t :: ts' ∧ hdTok t = true ∧ (PR.lvl e ≤ 10 → operandTok d t = true)
def NoComma (ts : List Tok) : Prop := ∀ t ∈ ts, t.equalsStr "," = false

structure RT2 (e : Expr) : Prop where
  own : Tower2 d (PR.lvl e) (toksE2 d ch e) e
  wrapped : Tower2 d 2 [grp (toksE2 d ch e)] e
  head : Head2 d e (toksE2 d ch e)
  nocomma : NoComma (toksE2 d ch e)
  len : (toksE2 d ch e).length ≤ tl e

variable {d} {ch}
theorem stop2_of {L : Nat} {t : Tok} (x : List Tok) (h : stopTok d L t = true) (ho : t.srcEqUp "OVER" = false) :
    stopLE2 d L (t :: x) = true := by
  simp only [stopLE2, stopLE, h, headIsOver, ho]; rfl
theorem NoComma.append {a b : List Tok} (ha : NoComma a) (hb : NoComma b) : NoComma (a ++ b) := by
  intro t ht; rcases List.mem_append.1 ht with h | h; exact ha t h; exact hb t h

theorem Tower2.any_of2 {ts x} (T : Tower2 d 2 ts x) (L0 : Nat) : Tower2 d L0 ts x :=
  ⟨fun _ => T.s2 (by omega), fun _ => T.s8 (by omega), fun _ => T.c9 (by omega), fun _ => T.s9 (by omega),
   fun _ => T.c10 (by omega), fun _ => T.s10 (by omega), fun _ => T.s11 (by omega), fun _ => T.c12 (by omega), fun _ => T.s12 (by omega),
   fun _ => T.c13 (by omega), fun _ => T.s13 (by omega), T.c14, T.s14⟩

theorem Tower2.relevel {ts x} {L0 : Nat} (T : Tower2 d L0 ts x) (L1 : Nat)
    (h : (L1 ≤ 2 → L0 ≤ 2) ∧ (L1 ≤ 8 → L0 ≤ 8) ∧ (L1 ≤ 9 → L0 ≤ 9) ∧ (L1 ≤ 10 → L0 ≤ 10) ∧ (L1 ≤ 11 → L0 ≤ 11) ∧ (L1 ≤ 12 → L0 ≤ 12) ∧
      (L1 ≤ 13 → L0 ≤ 13)) : Tower2 d L1 ts x := TC.towerO_true.1 ((TC.towerO_true.2 T).relevel L1 h)

end TP2
