import MsqModel.Parse.Expr
import MsqProofs.Lemmas.ParseSteps
/-! GENERATED by tools/gen_mono.py — fuel monotonicity of the expression / SELECT parser model.

The fuel step `monoF_succ` keeps the induction hypothesis `MonoF d f` in its context; `grind` takes the field of a callee from it when the
goal holds the callee's two runs (the patterns below the record: `Except.ok r` is there to find the result of the first run).  The dearest
steps are lemmas of their own in front of it, because the steps of all 80 functions together exceed what one declaration should cost. -/
open Lex PM
namespace PM

structure MonoF (d : Gen.D) (f : Nat) : Prop where
  pElement : ∀ x0 r f', pElement d f x0 = .ok r → f ≤ f' → pElement d f' x0 = .ok r
  pParen : ∀ x0 x1 r f', pParen d f x0 x1 = .ok r → f ≤ f' → pParen d f' x0 x1 = .ok r
  pNamed : ∀ x0 x1 x2 r f', pNamed d f x0 x1 x2 = .ok r → f ≤ f' → pNamed d f' x0 x1 x2 = .ok r
  pQualified : ∀ x0 x1 x2 r f', pQualified d f x0 x1 x2 = .ok r → f ≤ f' → pQualified d f' x0 x1 x2 = .ok r
  pIndex : ∀ x0 x1 r f', pIndex d f x0 x1 = .ok r → f ≤ f' → pIndex d f' x0 x1 = .ok r
  pFuncIdx : ∀ x0 r f', pFuncIdx d f x0 = .ok r → f ≤ f' → pFuncIdx d f' x0 = .ok r
  pFunc : ∀ x0 r f', pFunc d f x0 = .ok r → f ≤ f' → pFunc d f' x0 = .ok r
  pIfCall : ∀ x0 r f', pIfCall d f x0 = .ok r → f ≤ f' → pIfCall d f' x0 = .ok r
  pFirstDiscard : ∀ x0 r f', pFirstDiscard d f x0 = .ok r → f ≤ f' → pFirstDiscard d f' x0 = .ok r
  pFirstArg : ∀ x0 r f', pFirstArg d f x0 = .ok r → f ≤ f' → pFirstArg d f' x0 = .ok r
  pCall : ∀ x0 x1 x2 r f', pCall d f x0 x1 x2 = .ok r → f ≤ f' → pCall d f' x0 x1 x2 = .ok r
  pArgs : ∀ x0 x1 r f', pArgs d f x0 x1 = .ok r → f ≤ f' → pArgs d f' x0 x1 = .ok r
  pCase : ∀ x0 r f', pCase d f x0 = .ok r → f ≤ f' → pCase d f' x0 = .ok r
  pElseEnd : ∀ x0 r f', pElseEnd d f x0 = .ok r → f ≤ f' → pElseEnd d f' x0 = .ok r
  pWhens : ∀ x0 x1 r f', pWhens d f x0 x1 = .ok r → f ≤ f' → pWhens d f' x0 x1 = .ok r
  pUnary : ∀ x0 r f', pUnary d f x0 = .ok r → f ≤ f' → pUnary d f' x0 = .ok r
  pCompute : ∀ x0 r f', pCompute d f x0 = .ok r → f ≤ f' → pCompute d f' x0 = .ok r
  pComputeLoop : ∀ x0 x1 x2 r f', pComputeLoop d f x0 x1 x2 = .ok r → f ≤ f' → pComputeLoop d f' x0 x1 x2 = .ok r
  pKeyword : ∀ x0 x1 r f', pKeyword d f x0 x1 = .ok r → f ≤ f' → pKeyword d f' x0 x1 = .ok r
  pKwFirst : ∀ x0 x1 r f', pKwFirst d f x0 x1 = .ok r → f ≤ f' → pKwFirst d f' x0 x1 = .ok r
  pKwRest : ∀ x0 x1 x2 r f', pKwRest d f x0 x1 x2 = .ok r → f ≤ f' → pKwRest d f' x0 x1 x2 = .ok r
  pKwBody : ∀ x0 x1 x2 x3 r f', pKwBody d f x0 x1 x2 x3 = .ok r → f ≤ f' → pKwBody d f' x0 x1 x2 x3 = .ok r
  pBetween : ∀ x0 x1 x2 r f', pBetween d f x0 x1 x2 = .ok r → f ≤ f' → pBetween d f' x0 x1 x2 = .ok r
  pInBody : ∀ x0 x1 x2 r f', pInBody d f x0 x1 x2 = .ok r → f ≤ f' → pInBody d f' x0 x1 x2 = .ok r
  pSplit : ∀ x0 x1 x2 r f', pSplit d f x0 x1 x2 = .ok r → f ≤ f' → pSplit d f' x0 x1 x2 = .ok r
  pCompare : ∀ x0 r f', pCompare d f x0 = .ok r → f ≤ f' → pCompare d f' x0 = .ok r
  pCompareLoop : ∀ x0 x1 r f', pCompareLoop d f x0 x1 = .ok r → f ≤ f' → pCompareLoop d f' x0 x1 = .ok r
  pNot : ∀ x0 r f', pNot d f x0 = .ok r → f ≤ f' → pNot d f' x0 = .ok r
  pAnd : ∀ x0 r f', pAnd d f x0 = .ok r → f ≤ f' → pAnd d f' x0 = .ok r
  pAndLoop : ∀ x0 x1 r f', pAndLoop d f x0 x1 = .ok r → f ≤ f' → pAndLoop d f' x0 x1 = .ok r
  pXor : ∀ x0 r f', pXor d f x0 = .ok r → f ≤ f' → pXor d f' x0 = .ok r
  pXorLoop : ∀ x0 x1 r f', pXorLoop d f x0 x1 = .ok r → f ≤ f' → pXorLoop d f' x0 x1 = .ok r
  pOr : ∀ x0 r f', pOr d f x0 = .ok r → f ≤ f' → pOr d f' x0 = .ok r
  pOrLoop : ∀ x0 x1 r f', pOrLoop d f x0 x1 = .ok r → f ≤ f' → pOrLoop d f' x0 x1 = .ok r
  pSubQuery : ∀ x0 r f', pSubQuery d f x0 = .ok r → f ≤ f' → pSubQuery d f' x0 = .ok r
  pCast : ∀ x0 r f', pCast d f x0 = .ok r → f ≤ f' → pCast d f' x0 = .ok r
  pExtract : ∀ x0 r f', pExtract d f x0 = .ok r → f ≤ f' → pExtract d f' x0 = .ok r
  pExtractTail : ∀ x0 x1 r f', pExtractTail d f x0 x1 = .ok r → f ≤ f' → pExtractTail d f' x0 x1 = .ok r
  pWindow : ∀ x0 r f', pWindow d f x0 = .ok r → f ≤ f' → pWindow d f' x0 = .ok r
  pWindowBody : ∀ x0 x1 r f', pWindowBody d f x0 x1 = .ok r → f ≤ f' → pWindowBody d f' x0 x1 = .ok r
  pPartitionBy : ∀ x0 r f', pPartitionBy d f x0 = .ok r → f ≤ f' → pPartitionBy d f' x0 = .ok r
  pComputeList : ∀ x0 x1 r f', pComputeList d f x0 x1 = .ok r → f ≤ f' → pComputeList d f' x0 x1 = .ok r
  pOrderItem : ∀ x0 r f', pOrderItem d f x0 = .ok r → f ≤ f' → pOrderItem d f' x0 = .ok r
  pOrderList : ∀ x0 x1 r f', pOrderList d f x0 x1 = .ok r → f ≤ f' → pOrderList d f' x0 x1 = .ok r
  pOrderByOpt : ∀ x0 r f', pOrderByOpt d f x0 = .ok r → f ≤ f' → pOrderByOpt d f' x0 = .ok r
  pSelectCol : ∀ x0 r f', pSelectCol d f x0 = .ok r → f ≤ f' → pSelectCol d f' x0 = .ok r
  pSelectCols : ∀ x0 x1 r f', pSelectCols d f x0 x1 = .ok r → f ≤ f' → pSelectCols d f' x0 x1 = .ok r
  pTableExpr : ∀ x0 r f', pTableExpr d f x0 = .ok r → f ≤ f' → pTableExpr d f' x0 = .ok r
  pFromTable : ∀ x0 r f', pFromTable d f x0 = .ok r → f ≤ f' → pFromTable d f' x0 = .ok r
  pFromTables : ∀ x0 x1 r f', pFromTables d f x0 x1 = .ok r → f ≤ f' → pFromTables d f' x0 x1 = .ok r
  pJoin : ∀ x0 r f', pJoin d f x0 = .ok r → f ≤ f' → pJoin d f' x0 = .ok r
  pJoinRule : ∀ x0 x1 x2 r f', pJoinRule d f x0 x1 x2 = .ok r → f ≤ f' → pJoinRule d f' x0 x1 x2 = .ok r
  pJoins : ∀ x0 x1 x2 x3 r f', pJoins d f x0 x1 x2 x3 = .ok r → f ≤ f' → pJoins d f' x0 x1 x2 x3 = .ok r
  pOptOr : ∀ x0 x1 r f', pOptOr d f x0 x1 = .ok r → f ≤ f' → pOptOr d f' x0 x1 = .ok r
  pGroupingElem : ∀ x0 r f', pGroupingElem d f x0 = .ok r → f ≤ f' → pGroupingElem d f' x0 = .ok r
  pClosedEach : ∀ x0 x1 r f', pClosedEach d f x0 x1 = .ok r → f ≤ f' → pClosedEach d f' x0 x1 = .ok r
  pGroupingElems : ∀ x0 x1 r f', pGroupingElems d f x0 x1 = .ok r → f ≤ f' → pGroupingElems d f' x0 x1 = .ok r
  pGroupingSets : ∀ x0 r f', pGroupingSets d f x0 = .ok r → f ≤ f' → pGroupingSets d f' x0 = .ok r
  pGroupBy : ∀ x0 r f', pGroupBy d f x0 = .ok r → f ≤ f' → pGroupBy d f' x0 = .ok r
  pGroupCols : ∀ x0 r f', pGroupCols d f x0 = .ok r → f ≤ f' → pGroupCols d f' x0 = .ok r
  pGroupSetsOpt : ∀ x0 r f', pGroupSetsOpt d f x0 = .ok r → f ≤ f' → pGroupSetsOpt d f' x0 = .ok r
  pWithTable : ∀ x0 r f', pWithTable d f x0 = .ok r → f ≤ f' → pWithTable d f' x0 = .ok r
  pWithBody : ∀ x0 x1 r f', pWithBody d f x0 x1 = .ok r → f ≤ f' → pWithBody d f' x0 x1 = .ok r
  pWithTables : ∀ x0 x1 r f', pWithTables d f x0 x1 = .ok r → f ≤ f' → pWithTables d f' x0 x1 = .ok r
  pWith : ∀ x0 r f', pWith d f x0 = .ok r → f ≤ f' → pWith d f' x0 = .ok r
  pSelectBody : ∀ x0 x1 x2 x3 r f', pSelectBody d f x0 x1 x2 x3 = .ok r → f ≤ f' → pSelectBody d f' x0 x1 x2 x3 = .ok r
  pFromOpt : ∀ x0 r f', pFromOpt d f x0 = .ok r → f ≤ f' → pFromOpt d f' x0 = .ok r
  pSelectRest : ∀ x0 x1 x2 x3 x4 x5 r f', pSelectRest d f x0 x1 x2 x3 x4 x5 = .ok r → f ≤ f' → pSelectRest d f' x0 x1 x2 x3 x4 x5 = .ok r
  pSelectTail : ∀ x0 x1 x2 x3 x4 x5 x6 r f', pSelectTail d f x0 x1 x2 x3 x4 x5 x6 = .ok r → f ≤ f' → pSelectTail d f' x0 x1 x2 x3 x4 x5 x6 = .ok r
  pWhereGroup : ∀ x0 r f', pWhereGroup d f x0 = .ok r → f ≤ f' → pWhereGroup d f' x0 = .ok r
  pHavingOrder : ∀ x0 r f', pHavingOrder d f x0 = .ok r → f ≤ f' → pHavingOrder d f' x0 = .ok r
  pHiveClauses : ∀ x0 r f', pHiveClauses d f x0 = .ok r → f ≤ f' → pHiveClauses d f' x0 = .ok r
  pSortBy : ∀ x0 r f', pSortBy d f x0 = .ok r → f ≤ f' → pSortBy d f' x0 = .ok r
  pByList : ∀ x0 x1 r f', pByList d f x0 x1 = .ok r → f ≤ f' → pByList d f' x0 x1 = .ok r
  pLateral : ∀ x0 r f', pLateral d f x0 = .ok r → f ≤ f' → pLateral d f' x0 = .ok r
  pLaterals : ∀ x0 x1 x2 x3 r f', pLaterals d f x0 x1 x2 x3 = .ok r → f ≤ f' → pLaterals d f' x0 x1 x2 x3 = .ok r
  pSingle : ∀ x0 x1 r f', pSingle d f x0 x1 = .ok r → f ≤ f' → pSingle d f' x0 x1 = .ok r
  pSingleParen : ∀ x0 x1 x2 x3 r f', pSingleParen d f x0 x1 x2 x3 = .ok r → f ≤ f' → pSingleParen d f' x0 x1 x2 x3 = .ok r
  pSelectStmt : ∀ x0 x1 r f', pSelectStmt d f x0 x1 = .ok r → f ≤ f' → pSelectStmt d f' x0 x1 = .ok r
  pUnions : ∀ x0 x1 x2 r f', pUnions d f x0 x1 x2 = .ok r → f ≤ f' → pUnions d f' x0 x1 x2 = .ok r

grind_pattern MonoF.pElement => MonoF d f, pElement d f x0, pElement d f' x0, Except.ok r
grind_pattern MonoF.pParen => MonoF d f, pParen d f x0 x1, pParen d f' x0 x1, Except.ok r
grind_pattern MonoF.pNamed => MonoF d f, pNamed d f x0 x1 x2, pNamed d f' x0 x1 x2, Except.ok r
grind_pattern MonoF.pQualified => MonoF d f, pQualified d f x0 x1 x2, pQualified d f' x0 x1 x2, Except.ok r
grind_pattern MonoF.pIndex => MonoF d f, pIndex d f x0 x1, pIndex d f' x0 x1, Except.ok r
grind_pattern MonoF.pFuncIdx => MonoF d f, pFuncIdx d f x0, pFuncIdx d f' x0, Except.ok r
grind_pattern MonoF.pFunc => MonoF d f, pFunc d f x0, pFunc d f' x0, Except.ok r
grind_pattern MonoF.pIfCall => MonoF d f, pIfCall d f x0, pIfCall d f' x0, Except.ok r
grind_pattern MonoF.pFirstDiscard => MonoF d f, pFirstDiscard d f x0, pFirstDiscard d f' x0, Except.ok r
grind_pattern MonoF.pFirstArg => MonoF d f, pFirstArg d f x0, pFirstArg d f' x0, Except.ok r
grind_pattern MonoF.pCall => MonoF d f, pCall d f x0 x1 x2, pCall d f' x0 x1 x2, Except.ok r
grind_pattern MonoF.pArgs => MonoF d f, pArgs d f x0 x1, pArgs d f' x0 x1, Except.ok r
grind_pattern MonoF.pCase => MonoF d f, pCase d f x0, pCase d f' x0, Except.ok r
grind_pattern MonoF.pElseEnd => MonoF d f, pElseEnd d f x0, pElseEnd d f' x0, Except.ok r
grind_pattern MonoF.pWhens => MonoF d f, pWhens d f x0 x1, pWhens d f' x0 x1, Except.ok r
grind_pattern MonoF.pUnary => MonoF d f, pUnary d f x0, pUnary d f' x0, Except.ok r
grind_pattern MonoF.pCompute => MonoF d f, pCompute d f x0, pCompute d f' x0, Except.ok r
grind_pattern MonoF.pComputeLoop => MonoF d f, pComputeLoop d f x0 x1 x2, pComputeLoop d f' x0 x1 x2, Except.ok r
grind_pattern MonoF.pKeyword => MonoF d f, pKeyword d f x0 x1, pKeyword d f' x0 x1, Except.ok r
grind_pattern MonoF.pKwFirst => MonoF d f, pKwFirst d f x0 x1, pKwFirst d f' x0 x1, Except.ok r
grind_pattern MonoF.pKwRest => MonoF d f, pKwRest d f x0 x1 x2, pKwRest d f' x0 x1 x2, Except.ok r
grind_pattern MonoF.pKwBody => MonoF d f, pKwBody d f x0 x1 x2 x3, pKwBody d f' x0 x1 x2 x3, Except.ok r
grind_pattern MonoF.pBetween => MonoF d f, pBetween d f x0 x1 x2, pBetween d f' x0 x1 x2, Except.ok r
grind_pattern MonoF.pInBody => MonoF d f, pInBody d f x0 x1 x2, pInBody d f' x0 x1 x2, Except.ok r
grind_pattern MonoF.pSplit => MonoF d f, pSplit d f x0 x1 x2, pSplit d f' x0 x1 x2, Except.ok r
grind_pattern MonoF.pCompare => MonoF d f, pCompare d f x0, pCompare d f' x0, Except.ok r
grind_pattern MonoF.pCompareLoop => MonoF d f, pCompareLoop d f x0 x1, pCompareLoop d f' x0 x1, Except.ok r
grind_pattern MonoF.pNot => MonoF d f, pNot d f x0, pNot d f' x0, Except.ok r
grind_pattern MonoF.pAnd => MonoF d f, pAnd d f x0, pAnd d f' x0, Except.ok r
grind_pattern MonoF.pAndLoop => MonoF d f, pAndLoop d f x0 x1, pAndLoop d f' x0 x1, Except.ok r
grind_pattern MonoF.pXor => MonoF d f, pXor d f x0, pXor d f' x0, Except.ok r
grind_pattern MonoF.pXorLoop => MonoF d f, pXorLoop d f x0 x1, pXorLoop d f' x0 x1, Except.ok r
grind_pattern MonoF.pOr => MonoF d f, pOr d f x0, pOr d f' x0, Except.ok r
grind_pattern MonoF.pOrLoop => MonoF d f, pOrLoop d f x0 x1, pOrLoop d f' x0 x1, Except.ok r
grind_pattern MonoF.pSubQuery => MonoF d f, pSubQuery d f x0, pSubQuery d f' x0, Except.ok r
grind_pattern MonoF.pCast => MonoF d f, pCast d f x0, pCast d f' x0, Except.ok r
grind_pattern MonoF.pExtract => MonoF d f, pExtract d f x0, pExtract d f' x0, Except.ok r
grind_pattern MonoF.pExtractTail => MonoF d f, pExtractTail d f x0 x1, pExtractTail d f' x0 x1, Except.ok r
grind_pattern MonoF.pWindow => MonoF d f, pWindow d f x0, pWindow d f' x0, Except.ok r
grind_pattern MonoF.pWindowBody => MonoF d f, pWindowBody d f x0 x1, pWindowBody d f' x0 x1, Except.ok r
grind_pattern MonoF.pPartitionBy => MonoF d f, pPartitionBy d f x0, pPartitionBy d f' x0, Except.ok r
grind_pattern MonoF.pComputeList => MonoF d f, pComputeList d f x0 x1, pComputeList d f' x0 x1, Except.ok r
grind_pattern MonoF.pOrderItem => MonoF d f, pOrderItem d f x0, pOrderItem d f' x0, Except.ok r
grind_pattern MonoF.pOrderList => MonoF d f, pOrderList d f x0 x1, pOrderList d f' x0 x1, Except.ok r
grind_pattern MonoF.pOrderByOpt => MonoF d f, pOrderByOpt d f x0, pOrderByOpt d f' x0, Except.ok r
grind_pattern MonoF.pSelectCol => MonoF d f, pSelectCol d f x0, pSelectCol d f' x0, Except.ok r
grind_pattern MonoF.pSelectCols => MonoF d f, pSelectCols d f x0 x1, pSelectCols d f' x0 x1, Except.ok r
grind_pattern MonoF.pTableExpr => MonoF d f, pTableExpr d f x0, pTableExpr d f' x0, Except.ok r
grind_pattern MonoF.pFromTable => MonoF d f, pFromTable d f x0, pFromTable d f' x0, Except.ok r
grind_pattern MonoF.pFromTables => MonoF d f, pFromTables d f x0 x1, pFromTables d f' x0 x1, Except.ok r
grind_pattern MonoF.pJoin => MonoF d f, pJoin d f x0, pJoin d f' x0, Except.ok r
grind_pattern MonoF.pJoinRule => MonoF d f, pJoinRule d f x0 x1 x2, pJoinRule d f' x0 x1 x2, Except.ok r
grind_pattern MonoF.pJoins => MonoF d f, pJoins d f x0 x1 x2 x3, pJoins d f' x0 x1 x2 x3, Except.ok r
grind_pattern MonoF.pOptOr => MonoF d f, pOptOr d f x0 x1, pOptOr d f' x0 x1, Except.ok r
grind_pattern MonoF.pGroupingElem => MonoF d f, pGroupingElem d f x0, pGroupingElem d f' x0, Except.ok r
grind_pattern MonoF.pClosedEach => MonoF d f, pClosedEach d f x0 x1, pClosedEach d f' x0 x1, Except.ok r
grind_pattern MonoF.pGroupingElems => MonoF d f, pGroupingElems d f x0 x1, pGroupingElems d f' x0 x1, Except.ok r
grind_pattern MonoF.pGroupingSets => MonoF d f, pGroupingSets d f x0, pGroupingSets d f' x0, Except.ok r
grind_pattern MonoF.pGroupBy => MonoF d f, pGroupBy d f x0, pGroupBy d f' x0, Except.ok r
grind_pattern MonoF.pGroupCols => MonoF d f, pGroupCols d f x0, pGroupCols d f' x0, Except.ok r
grind_pattern MonoF.pGroupSetsOpt => MonoF d f, pGroupSetsOpt d f x0, pGroupSetsOpt d f' x0, Except.ok r
grind_pattern MonoF.pWithTable => MonoF d f, pWithTable d f x0, pWithTable d f' x0, Except.ok r
grind_pattern MonoF.pWithBody => MonoF d f, pWithBody d f x0 x1, pWithBody d f' x0 x1, Except.ok r
grind_pattern MonoF.pWithTables => MonoF d f, pWithTables d f x0 x1, pWithTables d f' x0 x1, Except.ok r
grind_pattern MonoF.pWith => MonoF d f, pWith d f x0, pWith d f' x0, Except.ok r
grind_pattern MonoF.pSelectBody => MonoF d f, pSelectBody d f x0 x1 x2 x3, pSelectBody d f' x0 x1 x2 x3, Except.ok r
grind_pattern MonoF.pFromOpt => MonoF d f, pFromOpt d f x0, pFromOpt d f' x0, Except.ok r
grind_pattern MonoF.pSelectRest => MonoF d f, pSelectRest d f x0 x1 x2 x3 x4 x5, pSelectRest d f' x0 x1 x2 x3 x4 x5, Except.ok r
grind_pattern MonoF.pSelectTail => MonoF d f, pSelectTail d f x0 x1 x2 x3 x4 x5 x6, pSelectTail d f' x0 x1 x2 x3 x4 x5 x6, Except.ok r
grind_pattern MonoF.pWhereGroup => MonoF d f, pWhereGroup d f x0, pWhereGroup d f' x0, Except.ok r
grind_pattern MonoF.pHavingOrder => MonoF d f, pHavingOrder d f x0, pHavingOrder d f' x0, Except.ok r
grind_pattern MonoF.pHiveClauses => MonoF d f, pHiveClauses d f x0, pHiveClauses d f' x0, Except.ok r
grind_pattern MonoF.pSortBy => MonoF d f, pSortBy d f x0, pSortBy d f' x0, Except.ok r
grind_pattern MonoF.pByList => MonoF d f, pByList d f x0 x1, pByList d f' x0 x1, Except.ok r
grind_pattern MonoF.pLateral => MonoF d f, pLateral d f x0, pLateral d f' x0, Except.ok r
grind_pattern MonoF.pLaterals => MonoF d f, pLaterals d f x0 x1 x2 x3, pLaterals d f' x0 x1 x2 x3, Except.ok r
grind_pattern MonoF.pSingle => MonoF d f, pSingle d f x0 x1, pSingle d f' x0 x1, Except.ok r
grind_pattern MonoF.pSingleParen => MonoF d f, pSingleParen d f x0 x1 x2 x3, pSingleParen d f' x0 x1 x2 x3, Except.ok r
grind_pattern MonoF.pSelectStmt => MonoF d f, pSelectStmt d f x0 x1, pSelectStmt d f' x0 x1, Except.ok r
grind_pattern MonoF.pUnions => MonoF d f, pUnions d f x0 x1 x2, pUnions d f' x0 x1 x2, Except.ok r

theorem monoF_pSplit (d : Gen.D) (f : Nat) (ih : MonoF d f) : ∀ x0 x1 x2 r f', pSplit d (f+1) x0 x1 x2 = .ok r → (f+1) ≤ f' → pSplit d f' x0 x1 x2 = .ok r := by
  intros
  rename_i f' h hle
  obtain ⟨g, rfl⟩ : ∃ g, f' = g + 1 := ⟨f' - 1, by omega⟩
  unfold pSplit at h ⊢
  split_run <;> grind (splits := 60) [closed_ok]

theorem monoF_pKwBody (d : Gen.D) (f : Nat) (ih : MonoF d f) : ∀ x0 x1 x2 x3 r f', pKwBody d (f+1) x0 x1 x2 x3 = .ok r → (f+1) ≤ f' → pKwBody d f' x0 x1 x2 x3 = .ok r := by
  intros
  rename_i f' h hle
  obtain ⟨g, rfl⟩ : ∃ g, f' = g + 1 := ⟨f' - 1, by omega⟩
  unfold pKwBody at h ⊢
  split_run <;> grind (splits := 60) [closed_ok]

theorem monoF_pSelectStmt (d : Gen.D) (f : Nat) (ih : MonoF d f) : ∀ x0 x1 r f', pSelectStmt d (f+1) x0 x1 = .ok r → (f+1) ≤ f' → pSelectStmt d f' x0 x1 = .ok r := by
  intros
  rename_i f' h hle
  obtain ⟨g, rfl⟩ : ∃ g, f' = g + 1 := ⟨f' - 1, by omega⟩
  unfold pSelectStmt at h ⊢
  split_run <;> grind (splits := 60) [closed_ok]

theorem monoF_pCase (d : Gen.D) (f : Nat) (ih : MonoF d f) : ∀ x0 r f', pCase d (f+1) x0 = .ok r → (f+1) ≤ f' → pCase d f' x0 = .ok r := by
  intros
  rename_i f' h hle
  obtain ⟨g, rfl⟩ : ∃ g, f' = g + 1 := ⟨f' - 1, by omega⟩
  unfold pCase at h ⊢
  split_run <;> grind (splits := 60) [closed_ok]

theorem monoF_succ (d : Gen.D) (f : Nat) (ih : MonoF d f) : MonoF d (f+1) where
  pElement := by
    intros
    rename_i f' h hle
    obtain ⟨g, rfl⟩ : ∃ g, f' = g + 1 := ⟨f' - 1, by omega⟩
    unfold pElement at h ⊢
    split_run <;> grind (splits := 60) [closed_ok]
  pParen := by
    intros
    rename_i f' h hle
    obtain ⟨g, rfl⟩ : ∃ g, f' = g + 1 := ⟨f' - 1, by omega⟩
    unfold pParen at h ⊢
    split_run <;> grind (splits := 60) [closed_ok]
  pNamed := by
    intros
    rename_i f' h hle
    obtain ⟨g, rfl⟩ : ∃ g, f' = g + 1 := ⟨f' - 1, by omega⟩
    unfold pNamed at h ⊢
    split_run <;> grind (splits := 60) [closed_ok]
  pQualified := by
    intros
    rename_i f' h hle
    obtain ⟨g, rfl⟩ : ∃ g, f' = g + 1 := ⟨f' - 1, by omega⟩
    unfold pQualified at h ⊢
    split_run <;> grind (splits := 60) [closed_ok]
  pIndex := by
    intros
    rename_i f' h hle
    obtain ⟨g, rfl⟩ : ∃ g, f' = g + 1 := ⟨f' - 1, by omega⟩
    unfold pIndex at h ⊢
    split_run <;> grind (splits := 60) [closed_ok]
  pFuncIdx := by
    intros
    rename_i f' h hle
    obtain ⟨g, rfl⟩ : ∃ g, f' = g + 1 := ⟨f' - 1, by omega⟩
    unfold pFuncIdx at h ⊢
    split_run <;> grind (splits := 60) [closed_ok]
  pFunc := by
    intros
    rename_i f' h hle
    obtain ⟨g, rfl⟩ : ∃ g, f' = g + 1 := ⟨f' - 1, by omega⟩
    unfold pFunc at h ⊢
    split_run <;> grind (splits := 60) [closed_ok]
  pIfCall := by
    intros
    rename_i f' h hle
    obtain ⟨g, rfl⟩ : ∃ g, f' = g + 1 := ⟨f' - 1, by omega⟩
    unfold pIfCall at h ⊢
    split_run <;> grind (splits := 60) [closed_ok]
  pFirstDiscard := by
    intros
    rename_i f' h hle
    obtain ⟨g, rfl⟩ : ∃ g, f' = g + 1 := ⟨f' - 1, by omega⟩
    unfold pFirstDiscard at h ⊢
    split_run <;> grind (splits := 60) [closed_ok]
  pFirstArg := by
    intros
    rename_i f' h hle
    obtain ⟨g, rfl⟩ : ∃ g, f' = g + 1 := ⟨f' - 1, by omega⟩
    unfold pFirstArg at h ⊢
    split_run <;> grind (splits := 60) [closed_ok]
  pCall := by
    intros
    rename_i f' h hle
    obtain ⟨g, rfl⟩ : ∃ g, f' = g + 1 := ⟨f' - 1, by omega⟩
    unfold pCall at h ⊢
    split_run <;> grind (splits := 60) [closed_ok]
  pArgs := by
    intros
    rename_i f' h hle
    obtain ⟨g, rfl⟩ : ∃ g, f' = g + 1 := ⟨f' - 1, by omega⟩
    unfold pArgs at h ⊢
    split_run <;> grind (splits := 60) [closed_ok]
  pCase := monoF_pCase d f ih
  pElseEnd := by
    intros
    rename_i f' h hle
    obtain ⟨g, rfl⟩ : ∃ g, f' = g + 1 := ⟨f' - 1, by omega⟩
    unfold pElseEnd at h ⊢
    split_run <;> grind (splits := 60) [closed_ok]
  pWhens := by
    intros
    rename_i f' h hle
    obtain ⟨g, rfl⟩ : ∃ g, f' = g + 1 := ⟨f' - 1, by omega⟩
    unfold pWhens at h ⊢
    split_run <;> grind (splits := 60) [closed_ok]
  pUnary := by
    intros
    rename_i f' h hle
    obtain ⟨g, rfl⟩ : ∃ g, f' = g + 1 := ⟨f' - 1, by omega⟩
    unfold pUnary at h ⊢
    split_run <;> grind (splits := 60) [closed_ok]
  pCompute := by
    intros
    rename_i f' h hle
    obtain ⟨g, rfl⟩ : ∃ g, f' = g + 1 := ⟨f' - 1, by omega⟩
    unfold pCompute at h ⊢
    split_run <;> grind (splits := 60) [closed_ok]
  pComputeLoop := by
    intros
    rename_i f' h hle
    obtain ⟨g, rfl⟩ : ∃ g, f' = g + 1 := ⟨f' - 1, by omega⟩
    unfold pComputeLoop at h ⊢
    split_run <;> grind (splits := 60) [closed_ok]
  pKeyword := by
    intros
    rename_i f' h hle
    obtain ⟨g, rfl⟩ : ∃ g, f' = g + 1 := ⟨f' - 1, by omega⟩
    unfold pKeyword at h ⊢
    split_run <;> grind (splits := 60) [closed_ok]
  pKwFirst := by
    intros
    rename_i f' h hle
    obtain ⟨g, rfl⟩ : ∃ g, f' = g + 1 := ⟨f' - 1, by omega⟩
    unfold pKwFirst at h ⊢
    split_run <;> grind (splits := 60) [closed_ok]
  pKwRest := by
    intros
    rename_i f' h hle
    obtain ⟨g, rfl⟩ : ∃ g, f' = g + 1 := ⟨f' - 1, by omega⟩
    unfold pKwRest at h ⊢
    split_run <;> grind (splits := 60) [closed_ok]
  pKwBody := monoF_pKwBody d f ih
  pBetween := by
    intros
    rename_i f' h hle
    obtain ⟨g, rfl⟩ : ∃ g, f' = g + 1 := ⟨f' - 1, by omega⟩
    unfold pBetween at h ⊢
    split_run <;> grind (splits := 60) [closed_ok]
  pInBody := by
    intros
    rename_i f' h hle
    obtain ⟨g, rfl⟩ : ∃ g, f' = g + 1 := ⟨f' - 1, by omega⟩
    unfold pInBody at h ⊢
    split_run <;> grind (splits := 60) [closed_ok]
  pSplit := monoF_pSplit d f ih
  pCompare := by
    intros
    rename_i f' h hle
    obtain ⟨g, rfl⟩ : ∃ g, f' = g + 1 := ⟨f' - 1, by omega⟩
    unfold pCompare at h ⊢
    split_run <;> grind (splits := 60) [closed_ok]
  pCompareLoop := by
    intros
    rename_i f' h hle
    obtain ⟨g, rfl⟩ : ∃ g, f' = g + 1 := ⟨f' - 1, by omega⟩
    unfold pCompareLoop at h ⊢
    split_run <;> grind (splits := 60) [closed_ok]
  pNot := by
    intros
    rename_i f' h hle
    obtain ⟨g, rfl⟩ : ∃ g, f' = g + 1 := ⟨f' - 1, by omega⟩
    unfold pNot at h ⊢
    split_run <;> grind (splits := 60) [closed_ok]
  pAnd := by
    intros
    rename_i f' h hle
    obtain ⟨g, rfl⟩ : ∃ g, f' = g + 1 := ⟨f' - 1, by omega⟩
    unfold pAnd at h ⊢
    split_run <;> grind (splits := 60) [closed_ok]
  pAndLoop := by
    intros
    rename_i f' h hle
    obtain ⟨g, rfl⟩ : ∃ g, f' = g + 1 := ⟨f' - 1, by omega⟩
    unfold pAndLoop at h ⊢
    split_run <;> grind (splits := 60) [closed_ok]
  pXor := by
    intros
    rename_i f' h hle
    obtain ⟨g, rfl⟩ : ∃ g, f' = g + 1 := ⟨f' - 1, by omega⟩
    unfold pXor at h ⊢
    split_run <;> grind (splits := 60) [closed_ok]
  pXorLoop := by
    intros
    rename_i f' h hle
    obtain ⟨g, rfl⟩ : ∃ g, f' = g + 1 := ⟨f' - 1, by omega⟩
    unfold pXorLoop at h ⊢
    split_run <;> grind (splits := 60) [closed_ok]
  pOr := by
    intros
    rename_i f' h hle
    obtain ⟨g, rfl⟩ : ∃ g, f' = g + 1 := ⟨f' - 1, by omega⟩
    unfold pOr at h ⊢
    split_run <;> grind (splits := 60) [closed_ok]
  pOrLoop := by
    intros
    rename_i f' h hle
    obtain ⟨g, rfl⟩ : ∃ g, f' = g + 1 := ⟨f' - 1, by omega⟩
    unfold pOrLoop at h ⊢
    split_run <;> grind (splits := 60) [closed_ok]
  pSubQuery := by
    intros
    rename_i f' h hle
    obtain ⟨g, rfl⟩ : ∃ g, f' = g + 1 := ⟨f' - 1, by omega⟩
    unfold pSubQuery at h ⊢
    split_run <;> grind (splits := 60) [closed_ok]
  pCast := by
    intros
    rename_i f' h hle
    obtain ⟨g, rfl⟩ : ∃ g, f' = g + 1 := ⟨f' - 1, by omega⟩
    unfold pCast at h ⊢
    split_run <;> grind (splits := 60) [closed_ok]
  pExtract := by
    intros
    rename_i f' h hle
    obtain ⟨g, rfl⟩ : ∃ g, f' = g + 1 := ⟨f' - 1, by omega⟩
    unfold pExtract at h ⊢
    split_run <;> grind (splits := 60) [closed_ok]
  pExtractTail := by
    intros
    rename_i f' h hle
    obtain ⟨g, rfl⟩ : ∃ g, f' = g + 1 := ⟨f' - 1, by omega⟩
    unfold pExtractTail at h ⊢
    split_run <;> grind (splits := 60) [closed_ok]
  pWindow := by
    intros
    rename_i f' h hle
    obtain ⟨g, rfl⟩ : ∃ g, f' = g + 1 := ⟨f' - 1, by omega⟩
    unfold pWindow at h ⊢
    split_run <;> grind (splits := 60) [closed_ok]
  pWindowBody := by
    intros
    rename_i f' h hle
    obtain ⟨g, rfl⟩ : ∃ g, f' = g + 1 := ⟨f' - 1, by omega⟩
    unfold pWindowBody at h ⊢
    split_run <;> grind (splits := 60) [closed_ok]
  pPartitionBy := by
    intros
    rename_i f' h hle
    obtain ⟨g, rfl⟩ : ∃ g, f' = g + 1 := ⟨f' - 1, by omega⟩
    unfold pPartitionBy at h ⊢
    split_run <;> grind (splits := 60) [closed_ok]
  pComputeList := by
    intros
    rename_i f' h hle
    obtain ⟨g, rfl⟩ : ∃ g, f' = g + 1 := ⟨f' - 1, by omega⟩
    unfold pComputeList at h ⊢
    split_run <;> grind (splits := 60) [closed_ok]
  pOrderItem := by
    intros
    rename_i f' h hle
    obtain ⟨g, rfl⟩ : ∃ g, f' = g + 1 := ⟨f' - 1, by omega⟩
    unfold pOrderItem at h ⊢
    split_run <;> grind (splits := 60) [closed_ok]
  pOrderList := by
    intros
    rename_i f' h hle
    obtain ⟨g, rfl⟩ : ∃ g, f' = g + 1 := ⟨f' - 1, by omega⟩
    unfold pOrderList at h ⊢
    split_run <;> grind (splits := 60) [closed_ok]
  pOrderByOpt := by
    intros
    rename_i f' h hle
    obtain ⟨g, rfl⟩ : ∃ g, f' = g + 1 := ⟨f' - 1, by omega⟩
    unfold pOrderByOpt at h ⊢
    split_run <;> grind (splits := 60) [closed_ok]
  pSelectCol := by
    intros
    rename_i f' h hle
    obtain ⟨g, rfl⟩ : ∃ g, f' = g + 1 := ⟨f' - 1, by omega⟩
    unfold pSelectCol at h ⊢
    split_run <;> grind (splits := 60) [closed_ok]
  pSelectCols := by
    intros
    rename_i f' h hle
    obtain ⟨g, rfl⟩ : ∃ g, f' = g + 1 := ⟨f' - 1, by omega⟩
    unfold pSelectCols at h ⊢
    split_run <;> grind (splits := 60) [closed_ok]
  pTableExpr := by
    intros
    rename_i f' h hle
    obtain ⟨g, rfl⟩ : ∃ g, f' = g + 1 := ⟨f' - 1, by omega⟩
    unfold pTableExpr at h ⊢
    split_run <;> grind (splits := 60) [closed_ok]
  pFromTable := by
    intros
    rename_i f' h hle
    obtain ⟨g, rfl⟩ : ∃ g, f' = g + 1 := ⟨f' - 1, by omega⟩
    unfold pFromTable at h ⊢
    split_run <;> grind (splits := 60) [closed_ok]
  pFromTables := by
    intros
    rename_i f' h hle
    obtain ⟨g, rfl⟩ : ∃ g, f' = g + 1 := ⟨f' - 1, by omega⟩
    unfold pFromTables at h ⊢
    split_run <;> grind (splits := 60) [closed_ok]
  pJoin := by
    intros
    rename_i f' h hle
    obtain ⟨g, rfl⟩ : ∃ g, f' = g + 1 := ⟨f' - 1, by omega⟩
    unfold pJoin at h ⊢
    split_run <;> grind (splits := 60) [closed_ok]
  pJoinRule := by
    intros
    rename_i f' h hle
    obtain ⟨g, rfl⟩ : ∃ g, f' = g + 1 := ⟨f' - 1, by omega⟩
    unfold pJoinRule at h ⊢
    split_run <;> grind (splits := 60) [closed_ok]
  pJoins := by
    intros
    rename_i f' h hle
    obtain ⟨g, rfl⟩ : ∃ g, f' = g + 1 := ⟨f' - 1, by omega⟩
    unfold pJoins at h ⊢
    split_run <;> grind (splits := 60) [closed_ok]
  pOptOr := by
    intros
    rename_i f' h hle
    obtain ⟨g, rfl⟩ : ∃ g, f' = g + 1 := ⟨f' - 1, by omega⟩
    unfold pOptOr at h ⊢
    split_run <;> grind (splits := 60) [closed_ok]
  pGroupingElem := by
    intros
    rename_i f' h hle
    obtain ⟨g, rfl⟩ : ∃ g, f' = g + 1 := ⟨f' - 1, by omega⟩
    unfold pGroupingElem at h ⊢
    split_run <;> grind (splits := 60) [closed_ok]
  pClosedEach := by
    intros
    rename_i f' h hle
    obtain ⟨g, rfl⟩ : ∃ g, f' = g + 1 := ⟨f' - 1, by omega⟩
    unfold pClosedEach at h ⊢
    split_run <;> grind (splits := 60) [closed_ok]
  pGroupingElems := by
    intros
    rename_i f' h hle
    obtain ⟨g, rfl⟩ : ∃ g, f' = g + 1 := ⟨f' - 1, by omega⟩
    unfold pGroupingElems at h ⊢
    split_run <;> grind (splits := 60) [closed_ok]
  pGroupingSets := by
    intros
    rename_i f' h hle
    obtain ⟨g, rfl⟩ : ∃ g, f' = g + 1 := ⟨f' - 1, by omega⟩
    unfold pGroupingSets at h ⊢
    split_run <;> grind (splits := 60) [closed_ok]
  pGroupBy := by
    intros
    rename_i f' h hle
    obtain ⟨g, rfl⟩ : ∃ g, f' = g + 1 := ⟨f' - 1, by omega⟩
    unfold pGroupBy at h ⊢
    split_run <;> grind (splits := 60) [closed_ok]
  pGroupCols := by
    intros
    rename_i f' h hle
    obtain ⟨g, rfl⟩ : ∃ g, f' = g + 1 := ⟨f' - 1, by omega⟩
    unfold pGroupCols at h ⊢
    split_run <;> grind (splits := 60) [closed_ok]
  pGroupSetsOpt := by
    intros
    rename_i f' h hle
    obtain ⟨g, rfl⟩ : ∃ g, f' = g + 1 := ⟨f' - 1, by omega⟩
    unfold pGroupSetsOpt at h ⊢
    split_run <;> grind (splits := 60) [closed_ok]
  pWithTable := by
    intros
    rename_i f' h hle
    obtain ⟨g, rfl⟩ : ∃ g, f' = g + 1 := ⟨f' - 1, by omega⟩
    unfold pWithTable at h ⊢
    split_run <;> grind (splits := 60) [closed_ok]
  pWithBody := by
    intros
    rename_i f' h hle
    obtain ⟨g, rfl⟩ : ∃ g, f' = g + 1 := ⟨f' - 1, by omega⟩
    unfold pWithBody at h ⊢
    split_run <;> grind (splits := 60) [closed_ok]
  pWithTables := by
    intros
    rename_i f' h hle
    obtain ⟨g, rfl⟩ : ∃ g, f' = g + 1 := ⟨f' - 1, by omega⟩
    unfold pWithTables at h ⊢
    split_run <;> grind (splits := 60) [closed_ok]
  pWith := by
    intros
    rename_i f' h hle
    obtain ⟨g, rfl⟩ : ∃ g, f' = g + 1 := ⟨f' - 1, by omega⟩
    unfold pWith at h ⊢
    split_run <;> grind (splits := 60) [closed_ok]
  pSelectBody := by
    intros
    rename_i f' h hle
    obtain ⟨g, rfl⟩ : ∃ g, f' = g + 1 := ⟨f' - 1, by omega⟩
    unfold pSelectBody at h ⊢
    split_run <;> grind (splits := 60) [closed_ok]
  pFromOpt := by
    intros
    rename_i f' h hle
    obtain ⟨g, rfl⟩ : ∃ g, f' = g + 1 := ⟨f' - 1, by omega⟩
    unfold pFromOpt at h ⊢
    split_run <;> grind (splits := 60) [closed_ok]
  pSelectRest := by
    intros
    rename_i f' h hle
    obtain ⟨g, rfl⟩ : ∃ g, f' = g + 1 := ⟨f' - 1, by omega⟩
    unfold pSelectRest at h ⊢
    split_run <;> grind (splits := 60) [closed_ok]
  pSelectTail := by
    intros
    rename_i f' h hle
    obtain ⟨g, rfl⟩ : ∃ g, f' = g + 1 := ⟨f' - 1, by omega⟩
    unfold pSelectTail at h ⊢
    split_run <;> grind (splits := 60) [closed_ok]
  pWhereGroup := by
    intros
    rename_i f' h hle
    obtain ⟨g, rfl⟩ : ∃ g, f' = g + 1 := ⟨f' - 1, by omega⟩
    unfold pWhereGroup at h ⊢
    split_run <;> grind (splits := 60) [closed_ok]
  pHavingOrder := by
    intros
    rename_i f' h hle
    obtain ⟨g, rfl⟩ : ∃ g, f' = g + 1 := ⟨f' - 1, by omega⟩
    unfold pHavingOrder at h ⊢
    split_run <;> grind (splits := 60) [closed_ok]
  pHiveClauses := by
    intros
    rename_i f' h hle
    obtain ⟨g, rfl⟩ : ∃ g, f' = g + 1 := ⟨f' - 1, by omega⟩
    unfold pHiveClauses at h ⊢
    split_run <;> grind (splits := 60) [closed_ok]
  pSortBy := by
    intros
    rename_i f' h hle
    obtain ⟨g, rfl⟩ : ∃ g, f' = g + 1 := ⟨f' - 1, by omega⟩
    unfold pSortBy at h ⊢
    split_run <;> grind (splits := 60) [closed_ok]
  pByList := by
    intros
    rename_i f' h hle
    obtain ⟨g, rfl⟩ : ∃ g, f' = g + 1 := ⟨f' - 1, by omega⟩
    unfold pByList at h ⊢
    split_run <;> grind (splits := 60) [closed_ok]
  pLateral := by
    intros
    rename_i f' h hle
    obtain ⟨g, rfl⟩ : ∃ g, f' = g + 1 := ⟨f' - 1, by omega⟩
    unfold pLateral at h ⊢
    split_run <;> grind (splits := 60) [closed_ok]
  pLaterals := by
    intros
    rename_i f' h hle
    obtain ⟨g, rfl⟩ : ∃ g, f' = g + 1 := ⟨f' - 1, by omega⟩
    unfold pLaterals at h ⊢
    split_run <;> grind (splits := 60) [closed_ok]
  pSingle := by
    intros
    rename_i f' h hle
    obtain ⟨g, rfl⟩ : ∃ g, f' = g + 1 := ⟨f' - 1, by omega⟩
    unfold pSingle at h ⊢
    split_run <;> grind (splits := 60) [closed_ok]
  pSingleParen := by
    intros
    rename_i f' h hle
    obtain ⟨g, rfl⟩ : ∃ g, f' = g + 1 := ⟨f' - 1, by omega⟩
    unfold pSingleParen at h ⊢
    split_run <;> grind (splits := 60) [closed_ok]
  pSelectStmt := monoF_pSelectStmt d f ih
  pUnions := by
    intros
    rename_i f' h hle
    obtain ⟨g, rfl⟩ : ∃ g, f' = g + 1 := ⟨f' - 1, by omega⟩
    unfold pUnions at h ⊢
    split_run <;> grind (splits := 60) [closed_ok]

theorem monoF (d : Gen.D) : ∀ f, MonoF d f := by
  intro f
  induction f with
  | zero => constructor <;> simp [pElement, pParen, pNamed, pQualified, pIndex, pFuncIdx, pFunc, pIfCall, pFirstDiscard, pFirstArg, pCall, pArgs, pCase, pElseEnd, pWhens, pUnary, pCompute, pComputeLoop, pKeyword, pKwFirst, pKwRest, pKwBody, pBetween, pInBody, pSplit, pCompare, pCompareLoop, pNot, pAnd, pAndLoop, pXor, pXorLoop, pOr, pOrLoop, pSubQuery, pCast, pExtract, pExtractTail, pWindow, pWindowBody, pPartitionBy, pComputeList, pOrderItem, pOrderList, pOrderByOpt, pSelectCol, pSelectCols, pTableExpr, pFromTable, pFromTables, pJoin, pJoinRule, pJoins, pOptOr, pGroupingElem, pClosedEach, pGroupingElems, pGroupingSets, pGroupBy, pGroupCols, pGroupSetsOpt, pWithTable, pWithBody, pWithTables, pWith, pSelectBody, pFromOpt, pSelectRest, pSelectTail, pWhereGroup, pHavingOrder, pHiveClauses, pSortBy, pByList, pLateral, pLaterals, pSingle, pSingleParen, pSelectStmt, pUnions]
  | succ f ih => exact monoF_succ d f ih

end PM
