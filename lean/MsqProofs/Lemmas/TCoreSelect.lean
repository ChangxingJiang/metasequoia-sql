import MsqProofs.Lemmas.TSelect
import MsqProofs.Lemmas.StmtDispatch
/-!
# T-parse: the SELECT level over arbitrary clause renderings (C03 / C09)

`_parse_single_select_statement` runs one clause parser after the other, `_parse_select_statement` a SELECT and then the loop of the set
operators; neither looks inside what a clause parser has consumed.  So both are proved once, about token lists of which only this is
known (`Clause K K' p off ts x`): the clause parser `p` reads `ts` back as `x` in front of every continuation of the class `K` — what may
follow this clause — and `ts` in front of such a continuation is a continuation of the class `K'` of the clause before it.  The classes
are variables: each development (`TS`, `TSP`, `TQ3`) puts in its own (`Bd d k`, `Bd3 d k`, `Bd4 d k`) with its clause lemmas.  The WITH
list `ws` is only handed through to the result.
-/
open Lex PM Ast TP
namespace TC
variable {d : Gen.D}

structure Clause {α : Type} (K K' : List Tok → Prop) (p : Nat → List Tok → R α) (off : Nat) (ts : List Tok) (x : α) : Prop where
  reads : ∀ fol, K fol → OkAt (fun f => p f (ts ++ fol)) (20 * sizeL ts + off) (x, fol)
  before : ∀ fol, K fol → K' (ts ++ fol)

theorem Clause.absent {α : Type} {K : List Tok → Prop} {p : Nat → List Tok → R α} {x : α} (off : Nat)
    (h : ∀ fol, K fol → OkAt (fun f => p f fol) off (x, fol)) : Clause K K p off [] x :=
  ⟨fun fol hk => (h fol hk).mono (Nat.le_add_left _ _), fun _ hk => hk⟩

/-- a clause that is absent or starts with its word `w`, in front of what may follow it; `B k`: what may follow the clause number `k` -/
theorem before_kw {B : Nat → List Tok → Bool} (hm : ∀ {k k' : Nat} {x : List Tok}, B k x = true → k' ≤ k → B k' x = true) {k k' : Nat}
    (hk : k' ≤ k) {x : List Tok} (h : B k x = true) {w : String} (hw : ∀ r, B k' (opTok w :: r) = true) {ts : List Tok}
    (hts : ts = [] ∨ ∃ r, ts = opTok w :: r) : B k' (ts ++ x) = true := by
  rcases hts with rfl | ⟨r, rfl⟩
  · exact hm h hk
  · exact hw _

structure SelOK (d : Gen.D) (K : List Tok → Prop) (ws : List WithTable) (s : Select) (ts : List Tok) : Prop where
  parse : ∀ rest, K rest → OkAt (fun f => pSingle d f ws (ts ++ rest)) (20 * sizeL ts + 6) (s, rest)
  head : ∃ x, ts = opTok "SELECT" :: x

theorem select_kw : (opTok "SELECT").equalsStr "SELECT" = true ∧ (opTok "SELECT").has PAREN = false ∧
    (opTok "DISTINCT").srcEqUp "DISTINCT" = true := by decide

/-- the clauses in the order of `_parse_single_select_statement`; `hC0`, `hdist`: the select list does not start with the word the
parser takes for the DISTINCT flag; the offsets are those of the conclusions of `selectCol`, `selectCols`, `fromOpt`, `laterals`, `joins`,
`optOr`, `groupBy`, `orderByOpt` (MsqProofs/Lemmas/TCoreClause.lean, TCoreGroup.lean) -/
theorem single (ws : List WithTable) (dist : Bool) {t : Tok} {C C' CS F LA J W G H O HC L : List Tok}
    {c : Expr × Option String} {cs : List (Expr × Option String)} {fr : Option (List FromTable)} {lats : List Lateral} {js : List Join}
    {wh hv : Option Expr} {gb : Option GroupBy} {ob sb : Option (List OrderItem)} {db cb : Option (List Expr)}
    {lm : Option (Int × Option Int)} {KC K0 K1 K2 K3 K4 K5 K6 K7 K8 K9 : List Tok → Prop}
    (hC0 : C = t :: C') (hdist : dist = true ∨ t.srcEqUp "DISTINCT" = false)
    (hC : ∀ fol, KC fol → OkAt (fun f => pSelectCol d f (C ++ fol)) (20 * sizeL C + 16) (c, fol))
    (hCS : Clause K0 KC (fun f => pSelectCols d f [c]) 17 CS (c :: cs))
    (hF : Clause K1 K0 (pFromOpt d) 4 F fr)
    (hLA : Clause K2 K1 (fun f => pLaterals d f true [] []) 6 LA lats)
    (hJ : Clause K3 K2 (fun f => pJoins d f true [] []) 22 J js)
    (hW : Clause K4 K3 (fun f => pOptOr d f "WHERE") 16 W wh)
    (hG : Clause K5 K4 (pGroupBy d) 6 G gb)
    (hH : Clause K6 K5 (fun f => pOptOr d f "HAVING") 16 H hv)
    (hO : Clause K7 K6 (pOrderByOpt d) 6 O ob)
    (hHC : Clause K8 K7 (pHiveClauses d) 8 HC (sb, db, cb))
    (hL : ∀ fol, K9 fol → pLimit (L ++ fol) = .ok (lm, fol) ∧ K8 (L ++ fol)) :
    SelOK d K9 ws (.mk (some ws) dist (c :: cs) fr lats js wh gb hv ob sb db cb lm)
      (opTok "SELECT" :: ((if dist then [opTok "DISTINCT"] else []) ++
        (C ++ (CS ++ (F ++ (LA ++ (J ++ (W ++ (G ++ (H ++ (O ++ (HC ++ L)))))))))))) := by
  refine ⟨fun rest hr => ?_, _, rfl⟩
  obtain ⟨h11, k8⟩ := hL rest hr
  have k7 := hHC.before _ k8
  have k6 := hO.before _ k7
  have k5 := hH.before _ k6
  have k4 := hG.before _ k5
  have k3 := hW.before _ k4
  have k2 := hJ.before _ k3
  have k1 := hLA.before _ k2
  have k0 := hF.before _ k1
  obtain ⟨s1, s2, s3⟩ := select_kw
  have hpos : 1 ≤ sizeL C := by rw [hC0, sizeL_cons]; have := tok_size_pos t; omega
  refine OkAt.of_add 5 (by omega) fun g hg => ?_
  simp only [sizeL_cons, sizeL_append, size_opTok] at hg
  have h1 := hC _ (hCS.before _ k0) (g + 3) (by omega)
  have h2 := hCS.reads _ k0 (g + 3) (by omega)
  have h3 := hF.reads _ k1 (g + 2) (by omega)
  have h4 := hLA.reads _ k2 (g + 2) (by omega)
  have h5 := hJ.reads _ k3 (g + 2) (by omega)
  have h6 := hW.reads _ k4 g (by omega)
  have h7 := hG.reads _ k5 g (by omega)
  have h8 := hH.reads _ k6 g (by omega)
  have h9 := hO.reads _ k7 g (by omega)
  have h10 := hHC.reads _ k8 (g + 1) (by omega)
  simp only at h1 h2 h3 h4 h5 h6 h7 h8 h9 h10
  have hmove : ∀ x, moveStrUp ((if dist then [opTok "DISTINCT"] else []) ++ (C ++ x)) "DISTINCT" = (dist, C ++ x) := by
    intro x
    rcases hdist with rfl | hd
    · simp [moveStrUp, searchStrUp, s3]
    · cases dist <;> simp [moveStrUp, searchStrUp, hC0, hd, s3]
  unfold pSingle
  simp only [List.cons_append, List.append_assoc, searchMark, s2, Bool.not_false, if_true]
  unfold pSelectBody pSelectRest pSelectTail pWhereGroup pHavingOrder
  simp only [matchSeq, s1, if_true, hmove, h1, h2, h3, h4, h5, h6, h7, h8, h9, h10, h11]

/-! ### the set-operator loop, the query -/
structure SetOp (K : List Tok → Prop) (ty : String) (W : List Tok) : Prop where
  first : TS.firstEnumA Gen.unionTypes W = some (ty, W.length)
  head : ∃ t r, W = t :: r ∧ setOpHead [t] = true ∧ ∀ x, K (t :: x)

inductive Branches (d : Gen.D) (K : List Tok → Prop) (ws : List WithTable) : List (String × Select) → List Tok → Prop
  | nil : Branches d K ws [] []
  | cons {ty : String} {W : List Tok} {s : Select} {S : List Tok} {us : List (String × Select)} {U : List Tok} :
    SetOp K ty W → SelOK d K ws s S → Branches d K ws us U → Branches d K ws ((ty, s) :: us) (W ++ (S ++ U))

variable {K : List Tok → Prop} {ws : List WithTable}

theorem Branches.follow {us : List (String × Select)} {U : List Tok} (h : Branches d K ws us U) {rest : List Tok} (hr : K rest)
    (hso : setOpHead rest = false) : K (U ++ rest) ∧ setOpHead (U ++ rest) = !us.isEmpty := by
  cases h with
  | nil => exact ⟨hr, hso⟩
  | cons hty _ _ =>
    obtain ⟨t, r, rfl, hh, hk⟩ := hty.head
    exact ⟨hk _, by simpa [setOpHead] using hh⟩

theorem select_noUnionWord : ∀ e ∈ Gen.unionTypes, ∀ k ∈ e.2, (opTok "SELECT").equalsStr k = false := by decide

theorem unions {rest : List Tok} (hr : K rest) (hso : setOpHead rest = false) {us : List (String × Select)} {U : List Tok}
    (h : Branches d K ws us U) :
    ∀ acc, OkAt (fun f => pUnions d f ws acc (U ++ rest)) (20 * sizeL U + 1) (acc ++ us, rest) := by
  induction h with
  | nil => exact fun acc => OkAt.of_add 1 (by omega) fun g _ => by simp [pUnions, hso]
  | @cons ty W s S us U hty hs hus ih =>
    intro acc
    obtain ⟨t, r, hW, _, _⟩ := hty.head
    obtain ⟨x, hx⟩ := hs.head
    have hwpos : 1 ≤ sizeL W := by rw [hW, sizeL_cons]; have := tok_size_pos t; omega
    refine OkAt.of_add 1 (by omega) fun g hg => ?_
    simp only [sizeL_append] at hg
    have hhead := ((Branches.cons hty hs hus).follow hr hso).2
    have hfirst : firstEnum Gen.unionTypes (W ++ (S ++ (U ++ rest))) = some (ty, S ++ (U ++ rest)) := by
      rw [hx, List.cons_append, TS.firstEnum_app _ _ _ _ select_noUnionWord, hty.first]
      simp
    have h1 := hs.parse _ (hus.follow hr hso).1 g (by omega)
    have h2 := ih (acc ++ [(ty, s)]) g (by omega)
    simp only at h1
    unfold pUnions
    simp only [hhead, List.isEmpty_cons, Bool.not_false, Bool.not_true, Bool.false_eq_true, if_false]
    simp only [List.append_assoc, hfirst, h1]
    simpa using h2

/-- `_parse_select_statement` (WITH slot: not yet looked for, or already consumed) -/
theorem stmt_core (w : Option (List WithTable)) (hw : w.getD [] = ws) {s : Select} {S : List Tok} {us : List (String × Select)}
    {U : List Tok} (hs : SelOK d K ws s S) (hus : Branches d K ws us U) {rest : List Tok} (hr : K rest) (hso : setOpHead rest = false) :
    OkAt (fun f => pSelectStmt d f w (S ++ (U ++ rest))) (20 * sizeL (S ++ U) + 9)
      (if us.isEmpty then .single s else .union (some ws) (setWiths s) (us.map fun p => (p.1, setWiths p.2)), rest) := by
  refine OkAt.of_add 2 (by omega) fun g hg => ?_
  simp only [sizeL_append] at hg
  obtain ⟨x, hx⟩ := hs.head
  have h1 := hs.parse _ (hus.follow hr hso).1 (g + 1) (by omega)
  have h2 := unions hr hso hus [] (g + 1) (by omega)
  have hwith : pWith d (g + 1) (S ++ (U ++ rest)) = .ok ([], S ++ (U ++ rest)) := by
    simp only [hx, List.cons_append]; exact pWith_absent d g _ _ (by decide)
  simp only [List.nil_append] at h1 h2
  unfold pSelectStmt
  subst hw
  cases w <;> simp only [Option.getD_none, Option.getD_some] at h1 h2 ⊢ <;> simp only [hwith, h1, h2] <;> split <;> rfl

end TC
