import MsqProofs.Lemmas.TCoreSelect
/-!
# T-parse for the SELECT skeleton: the clauses in sequence (C03 / C01)

`Bd` is propagated from the end of the statement to the front (what follows clause `k` is the first word of a later clause, or what
follows the statement); `single` puts the clause lemmas of TSelect.lean into `TC.single`, the order of `_parse_single_select_statement`.
-/
open Lex PM Ast TP
namespace TS
variable {d : Gen.D}

theorem bdTok_kw {k : Nat} {w : String} (hs : stopTok d 14 (opTok w) = true)
    (h : (opTok w).has NAME = false ∧ (opTok w).has PAREN = false ∧ k < rank (up (opTok w).src) := by decide) : bdTok d k (opTok w) = true := by
  simp [bdTok, hs, h.1, h.2.1, h.2.2]
theorem bd_keywords : bdTok d 0 (opTok "FROM") = true ∧ bdTok d 2 (opTok "WHERE") = true ∧ bdTok d 3 (opTok "GROUP") = true ∧
    bdTok d 4 (opTok "HAVING") = true ∧ bdTok d 5 (opTok "ORDER") = true ∧ bdTok d 6 (opTok "LIMIT") = true :=
  ⟨bdTok_kw (kw_stops "FROM" (by decide)), bdTok_kw (kw_stops "WHERE" (by decide)), bdTok_kw (kw_stops "GROUP" (by decide)),
    bdTok_kw (kw_stops "HAVING" (by decide)), bdTok_kw (kw_stops "ORDER" (by decide)), bdTok_kw (kw_stops "LIMIT" (by decide))⟩

theorem bd_limit (lm : Option (Int × Option Int)) (rest : List Tok) (h : Bd d 7 rest = true) : Bd d 6 (toksLimit lm ++ rest) = true :=
  TC.before_kw (B := Bd d) bd_mono (by omega) h (fun _ => bd_keywords.2.2.2.2.2) (by rcases lm with _ | ⟨n, _ | m⟩ <;> simp [toksLimit])
theorem bd_order (ob : Option (List OrderItem)) (x : List Tok) (h : Bd d 6 x = true) : Bd d 5 (toksOrder d ob ++ x) = true :=
  TC.before_kw (B := Bd d) bd_mono (by omega) h (fun _ => bd_keywords.2.2.2.2.1) (by rcases ob with _ | _ | ⟨o, os⟩ <;> simp [toksOrder])
theorem bd_having (hv : Option Expr) (x : List Tok) (h : Bd d 5 x = true) : Bd d 4 (toksOpt d "HAVING" hv ++ x) = true :=
  TC.before_kw (B := Bd d) bd_mono (by omega) h (fun _ => bd_keywords.2.2.2.1) (by cases hv <;> simp [toksOpt])
theorem bd_group (gb : Option GroupBy) (x : List Tok) (h : Bd d 4 x = true) : Bd d 3 (toksGroup d gb ++ x) = true :=
  TC.before_kw (B := Bd d) bd_mono (by omega) h (fun _ => bd_keywords.2.2.1) (by rcases gb with _ | ⟨_ | ⟨e, es⟩, s, c, r⟩ <;> simp [toksGroup])
theorem bd_where (wh : Option Expr) (x : List Tok) (h : Bd d 3 x = true) : Bd d 2 (toksOpt d "WHERE" wh ++ x) = true :=
  TC.before_kw (B := Bd d) bd_mono (by omega) h (fun _ => bd_keywords.2.1) (by cases wh <;> simp [toksOpt])
theorem bd_from (fr : Option (List FromTable)) (x : List Tok) (h : Bd d 1 x = true) : Bd d 0 (toksFrom fr ++ x) = true :=
  TC.before_kw (B := Bd d) bd_mono (by omega) h (fun _ => bd_keywords.1) (by rcases fr with _ | _ | ⟨t, ts⟩ <;> simp [toksFrom])

theorem single (dist : Bool) (c : Expr × Option String) (cs : List (Expr × Option String)) (fr : Option (List FromTable)) (js : List Join)
    (wh : Option Expr) (gb : Option GroupBy) (hv : Option Expr) (ob : Option (List OrderItem)) (lm : Option (Int × Option Int))
    (hc : colOKS d c = true) (hcs : ∀ c' ∈ cs, colOKS d c' = true) (hdist : (dist || !searchStrUp (toksE d noX c.1) "DISTINCT") = true)
    (hfr : fromOK fr = true) (hjs : ∀ j ∈ js, joinOK d j = true)
    (hwh : optFrag d wh = true) (hgb : groupOK d gb = true) (hhv : optFrag d hv = true) (hob : orderOK d ob = true) (hlm : limitOK lm = true)
    (rest : List Tok) (hr : Bd d 7 rest = true) :
    OkAt (fun f => pSingle d f [] (toksS d (.mk (some []) dist (c :: cs) fr [] js wh gb hv ob none none none lm) ++ rest))
      (20 * sizeL (toksS d (.mk (some []) dist (c :: cs) fr [] js wh gb hv ob none none none lm)) + 30)
      (.mk (some []) dist (c :: cs) fr [] js wh gb hv ob none none none lm, rest) := by
  obtain ⟨t, ts', hh, _⟩ := (C02.rt d noX c.1 (by simp only [colOKS, Bool.and_eq_true] at hc; exact hc.1)).head
  have hd : dist = true ∨ t.srcEqUp "DISTINCT" = false := by
    cases dist
    · rw [hh] at hdist; simpa [searchStrUp] using hdist
    · exact .inl rfl
  have := (TC.single [] dist (C := toksCol d c) (by simp only [toksCol, hh, List.cons_append]; rfl) hd (selectCol c hc)
    ⟨fun fol hb => selectCols fol (.ofBd hb) (bd_comma hb) cs hcs [c], fun fol (hb : Bd d 0 fol = true) => Fol.tail (colsTail_shape cs) (.ofBd hb)⟩
    ⟨fromOpt fr hfr, bd_from fr⟩
    (.absent 6 fun fol hb => (noLaterals fol hb).mono (by omega))
    ⟨fun fol hb => joins fol hb js hjs [], fun fol hb => (joins_bd js hjs fol hb).1⟩
    ⟨optOr "WHERE" (by decide) 3 (by decide) wh hwh, bd_where wh⟩ ⟨groupBy gb hgb, bd_group gb⟩
    ⟨optOr "HAVING" (by decide) 5 (by decide) hv hhv, bd_having hv⟩ ⟨orderBy ob hob, bd_order ob⟩
    (.absent 8 fun fol (hb : Bd d 6 fol = true) => (hiveClauses fol hb).mono (by omega))
    fun fol hb => ⟨limit lm hlm fol hb, bd_limit lm fol hb⟩).parse rest hr
  refine OkAt.mono ?_ (Nat.add_le_add_left (by omega : 6 ≤ 30) _)
  simpa [toksS, toksRest] using this

end TS
