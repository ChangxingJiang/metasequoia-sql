import MsqModel.Parse.CostStmt
/-!
# C19, parser half: the cost model is a model OF the parser model — the base of the family `tools/gen_cost.py` prints

`(pX_k … κ).2 = pX …` for every function: the cost companion computes the same result as the function it counts, whatever the
accumulator.  The generated proofs (`tools/gen_cost.py`) unfold both definitions — the same term, the companion with its accumulator —
and walk them in lockstep (`proj_run`): a `split` of one side gives the equation that reduces the other side.
-/
open Lex
namespace PM

theorem closed_k_snd {α : Type} (x : Nat × R α) : (closed_k x).2 = closed x.2 := rfl
theorem closed_k_fst {α : Type} (x : Nat × R α) : (closed_k x).1 = x.1 + cClosed x.2 := rfl
/-- one lockstep step through an `if`; tried before `split`, which simplifies the whole goal at every step -/
theorem snd_ite {α β : Type} (c : Prop) [Decidable c] (a b : α × β) (a' b' : β) (h1 : c → a.2 = a') (h2 : ¬ c → b.2 = b') :
    (if c then a else b).2 = if c then a' else b' := by
  by_cases hc : c <;> simp [hc, h1, h2]
/-- lockstep case analysis of `(companion).2 = original`.  `snd_ite` is applied, not given as a term: where a term does not fit the
goal the elaborator looks for a coercion and unifies once more with every definition unfolded, and on a goal that is a `match` on a
keyword-table look-up that evaluates the look-up. -/
macro "proj_run" : tactic =>
  `(tactic| ((try simp only [closed_k_snd, *]); (try dsimp only); repeat' (first | (with_reducible rfl) | ((with_reducible apply snd_ite) <;> intro hc) | (split <;> (try simp only [closed_k_snd, *, ↓reduceIte, if_true, if_false])) | (simp only [closed_k_snd, *]; done))))

theorem popSrc_proj (ts : List Tok) (κ : Nat) : (popSrc_k ts κ).2 = popSrc ts := rfl

theorem eachClosed_k_snd {α : Type} (pk : List Tok → Nat → Nat × R α) (p : List Tok → R α) (hp : ∀ s κ, (pk s κ).2 = p s) :
    ∀ segs κ, (eachClosed_k pk segs κ).2 = eachClosed p segs := by
  intro segs
  induction segs with
  | nil => intro κ; rfl
  | cons sg rest ih =>
    intro κ
    unfold eachClosed_k eachClosed
    simp only [closed_k_snd, hp]
    proj_run

end PM
