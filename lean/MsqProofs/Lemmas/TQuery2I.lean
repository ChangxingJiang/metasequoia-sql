import MsqProofs.Props.C03Q2
/-!
# The larger nested fragment contains the nested fragment of Props/C03Q.lean (C03 / C02 / C01)

`TQ.FragE3 d e → TQ2.FragE4 d e` and `TQ.FragQ d q → TQ2.FragQ2 d q`, with EQUAL renderings (`toksE4 = toksE3`, `toksQ2 = toksQ`, any
choice of redundant brackets) — by the mutual induction on the common size (`inc_all`).  The expression half has the shape of
Lemmas/TQueryI.lean (`Frag2 ⊆ FragE3`), the SELECT half that of Lemmas/TQueryJ.lean.  Consequence:
`C03.tquery`, `C02.tparse3` (Props/C03Q.lean) are instances of `C03.tquery2`, `C02.tparse4`.
-/
open Lex PM Ast TP TS
namespace TQ2
variable {d : Gen.D} {ch : Expr → Bool}

def IncQ (d : Gen.D) (ch : Expr → Bool) (q : Query) : Prop := FragQ2 d q = true ∧ toksQ2 d ch q = TQ.toksQ d ch q
def Inc (d : Gen.D) (ch : Expr → Bool) (e : Expr) : Prop :=
  FragE4 d e = true ∧ toksE4 d ch e = TQ.toksE3 d ch e ∧ tl4 e = TQ.tl3 e
theorem incL : ∀ (ps : List Expr), (∀ a ∈ ps, Inc d ch a) →
    FragL4 d ps = true ∧ (∀ k, toksArgsTail4 d ch k ps = TQ.toksArgsTail3 d ch k ps) ∧ (∀ k, toksArgs4 d ch k ps = TQ.toksArgs3 d ch k ps) ∧
      shortL4 ps = TQ.shortL3 ps := by
  intro ps
  induction ps with
  | nil => intro _; exact ⟨by simp [FragL4], fun k => by simp [toksArgsTail4, TQ.toksArgsTail3], fun k => by simp [toksArgs4, TQ.toksArgs3], rfl⟩
  | cons a as ih =>
    intro h
    obtain ⟨h1, h2, h3⟩ := h a (by simp)
    obtain ⟨i1, i2, i3, i4⟩ := ih (fun x hx => h x (by simp [hx]))
    refine ⟨by simp [FragL4, h1, i1], fun k => by simp only [toksArgsTail4, TQ.toksArgsTail3, h2, i2], fun k => by simp only [toksArgs4, TQ.toksArgs3, h2, i2], ?_⟩
    simp only [shortL4, TQ.shortL3, List.all_cons, h3] at i4 ⊢
    rw [i4]
theorem incA : ∀ (cs : List (Expr × Expr)), (∀ p ∈ cs, Inc d ch p.1 ∧ Inc d ch p.2) →
    FragA4 d cs = true ∧ toksArms4 d ch cs = TQ.toksArms3 d ch cs ∧ tlA4 cs = TQ.tlA3 cs := by
  intro cs
  induction cs with
  | nil => intro _; exact ⟨by simp [FragA4], by simp [toksArms4, TQ.toksArms3], by simp [tlA4, TQ.tlA3]⟩
  | cons p r ih =>
    obtain ⟨w, t⟩ := p
    intro h
    obtain ⟨⟨a1, a2, a3⟩, ⟨b1, b2, b3⟩⟩ := h (w, t) (by simp)
    obtain ⟨i1, i2, i3⟩ := ih (fun x hx => h x (by simp [hx]))
    simp only at a1 a2 a3 b1 b2 b3
    exact ⟨by simp [FragA4, a1, b1, i1], by simp only [toksArms4, TQ.toksArms3, a2, b2, i2], by simp only [tlA4, TQ.tlA3, a3, b3, i3]⟩
theorem incO (o : Option Expr) (h : ∀ y, o = some y → Inc d ch y) :
    FragO4 d o = true ∧ toksElse4 d ch o = TQ.toksElse3 d ch o ∧ tlO4 o = TQ.tlO3 o := by
  cases o with
  | none => exact ⟨by simp [FragO4], by simp [toksElse4, TQ.toksElse3], by simp [tlO4, TQ.tlO3]⟩
  | some y =>
    obtain ⟨a1, a2, a3⟩ := h y rfl
    exact ⟨by simp [FragO4, a1], by simp only [toksElse4, TQ.toksElse3, a2], by simp only [tlO4, TQ.tlO3, a3]⟩

theorem frag2L_sz : ∀ (ps : List Expr), TQ.FragL3 d ps = true → ∀ a ∈ ps, TQ.FragE3 d a = true ∧ TQ.szE3 a ≤ TQ.szL3 ps :=
  TQ.frag2L_mem

theorem inc_expr_step (n : Nat) (ih : ∀ e, TQ.szE3 e ≤ n → TQ.FragE3 d e = true → Inc d ch e)
  (ihq : ∀ q, TQ.szQ q ≤ n → TQ.FragQ d q = true → IncQ d ch q) : ∀ e, TQ.szE3 e ≤ n + 1 → TQ.FragE3 d e = true → Inc d ch e := by
  intro e he hf
  have hL : ∀ ps, TQ.szL3 ps ≤ n → TQ.FragL3 d ps = true → ∀ a ∈ ps, Inc d ch a := fun ps hs hp a ha => by
    obtain ⟨x, y⟩ := frag2L_sz ps hp a ha; exact ih a (by omega) x
  have hA : ∀ cs, TQ.szA3 cs ≤ n → TQ.FragA3 d cs = true → ∀ p ∈ cs, Inc d ch p.1 ∧ Inc d ch p.2 := fun cs hs hp p hpm => by
    obtain ⟨⟨x1, x2⟩, ⟨y1, y2⟩⟩ := TQ.frag2A_mem cs hp p hpm; exact ⟨ih _ (by omega) x1, ih _ (by omega) y1⟩
  have hO : ∀ o, TQ.szO3 o ≤ n → TQ.FragO3 d o = true → ∀ y, o = some y → Inc d ch y := fun o hs hp y hy => by
    subst hy; simp only [TQ.FragO3] at hp; simp only [TQ.szO3] at hs; exact ih y hs hp
  cases e with
  | column t c => cases t <;> (simp only [TQ.FragE3] at hf; exact ⟨by simpa [FragE4] using hf, by simp [toksE4, TQ.toksE3], by simp [tl4, TQ.tl3]⟩)
  | literal v => simp only [TQ.FragE3] at hf; exact ⟨by simpa [FragE4] using hf, by simp [toksE4, TQ.toksE3], by simp [tl4, TQ.tl3]⟩
  | wildcard t => cases t <;> (simp only [TQ.FragE3] at hf; exact ⟨by simpa [FragE4] using hf, by simp [toksE4, TQ.toksE3], by simp [tl4, TQ.tl3]⟩)
  | func s nm ps =>
    simp only [TQ.FragE3, Bool.and_eq_true] at hf; simp only [TQ.szE3] at he
    obtain ⟨i1, _, i3, _⟩ := incL ps (hL ps (by omega) hf.2)
    exact ⟨by simp [FragE4, hf.1, i1], by cases s <;> simp only [toksE4, TQ.toksE3, i3], by simp [tl4, TQ.tl3]⟩
  | agg nm ps dist =>
    simp only [TQ.FragE3, Bool.and_eq_true] at hf; simp only [TQ.szE3] at he
    obtain ⟨i1, _, i3, _⟩ := incL ps (hL ps (by omega) hf.2)
    exact ⟨by simp [FragE4, hf.1, i1], by simp only [toksE4, TQ.toksE3, i3], by simp [tl4, TQ.tl3]⟩
  | caseCond cs els =>
    simp only [TQ.FragE3, Bool.and_eq_true] at hf; simp only [TQ.szE3] at he
    obtain ⟨a1, a2, a3⟩ := incA cs (hA cs (by omega) hf.1.1)
    obtain ⟨o1, o2, o3⟩ := incO els (hO els (by omega) hf.1.2)
    exact ⟨by simp only [FragE4, a1, o1, hf.2, Bool.and_self], by simp only [toksE4, TQ.toksE3, a2, o2], by simp only [tl4, TQ.tl3, a3, o3]⟩
  | caseVal v cs els =>
    simp only [TQ.FragE3, Bool.and_eq_true] at hf; simp only [TQ.szE3] at he
    obtain ⟨v1, v2, v3⟩ := ih v (by omega) hf.1.1.1
    obtain ⟨a1, a2, a3⟩ := incA cs (hA cs (by omega) hf.1.1.2)
    obtain ⟨o1, o2, o3⟩ := incO els (hO els (by omega) hf.1.2)
    exact ⟨by simp only [FragE4, v1, a1, o1, hf.2, Bool.and_self], by simp only [toksE4, TQ.toksE3, v2, a2, o2], by simp only [tl4, TQ.tl3, v3, a3, o3]⟩
  | unary o x =>
    simp only [TQ.FragE3, Bool.and_eq_true] at hf; simp only [TQ.szE3] at he
    obtain ⟨x1, x2, x3⟩ := ih x (by omega) hf.2
    exact ⟨by simp only [FragE4, hf.1, x1, Bool.and_self], by simp only [toksE4, TQ.toksE3, x2], by simp only [tl4, TQ.tl3, x3]⟩
  | compute l o r =>
    simp only [TQ.FragE3, Bool.and_eq_true] at hf; simp only [TQ.szE3] at he
    obtain ⟨l1, l2, l3⟩ := ih l (by omega) hf.1.2
    obtain ⟨r1, r2, r3⟩ := ih r (by omega) hf.2
    exact ⟨by simp only [FragE4, hf.1.1, l1, r1, Bool.and_self], by simp only [toksE4, TQ.toksE3, l2, r2], by simp only [tl4, TQ.tl3, l3, r3]⟩
  | kw kk n0 l r =>
    simp only [TQ.FragE3, Bool.and_eq_true, Bool.not_eq_true'] at hf; simp only [TQ.szE3] at he
    obtain ⟨⟨hl, hr⟩, hne⟩ := hf
    obtain ⟨l1, l2, l3⟩ := ih l (by omega) hl
    by_cases hk : kk = .in_
    · subst hk
      simp only [beq_self_eq_true, if_true] at hr
      cases r with
      | subValue vs =>
        simp only [TQ.inRhs3, Bool.and_eq_true] at hr; simp only [TQ.szE3] at he
        obtain ⟨i1, _, i3, i4⟩ := incL vs (hL vs (by omega) hr.1.1)
        refine ⟨?_, by simp only [toksE4, TQ.toksE3, l2, i3], by simp only [tl4, TQ.tl3, l3]⟩
        simp only [FragE4, l1, beq_self_eq_true, if_true, inRhs4, i1, hr.1.2, i4, hr.2, hne, Bool.not_false, Bool.and_self]
      | subQuery q =>
        simp only [TQ.inRhs3] at hr; simp only [TQ.szE3] at he
        obtain ⟨q1, q2⟩ := ihq q (by omega) hr
        refine ⟨?_, by simp only [toksE4, TQ.toksE3, l2, q2], by simp only [tl4, TQ.tl3, l3]⟩
        simp only [FragE4, l1, beq_self_eq_true, if_true, inRhs4, q1, hne, Bool.not_false, Bool.and_self]
      | _ => simp [TQ.inRhs3] at hr
    · have hk' : (kk == KwKind.in_) = false := by simpa using hk
      simp only [hk', Bool.false_eq_true, if_false] at hr
      obtain ⟨r1, r2, r3⟩ := ih r (by omega) hr
      exact ⟨by simp only [FragE4, l1, hk', Bool.false_eq_true, if_false, r1, hne, Bool.not_false, Bool.and_self],
        by simp only [toksE4, TQ.toksE3, l2, r2], by simp only [tl4, TQ.tl3, l3, r3]⟩
  | between n0 b f t =>
    simp only [TQ.FragE3, Bool.and_eq_true, Bool.not_eq_true'] at hf; simp only [TQ.szE3] at he
    obtain ⟨⟨⟨hb, hf'⟩, ht⟩, hne⟩ := hf
    obtain ⟨b1, b2, b3⟩ := ih b (by omega) hb
    obtain ⟨f1, f2, f3⟩ := ih f (by omega) hf'
    obtain ⟨t1, t2, t3⟩ := ih t (by omega) ht
    exact ⟨by simp only [FragE4, b1, f1, t1, hne, Bool.not_false, Bool.and_self],
      by simp only [toksE4, TQ.toksE3, b2, f2, t2], by simp only [tl4, TQ.tl3, b3, f3, t3]⟩
  | compare o l r =>
    simp only [TQ.FragE3, Bool.and_eq_true, Bool.not_eq_true'] at hf; simp only [TQ.szE3] at he
    obtain ⟨⟨⟨ho, hl⟩, hr⟩, hne⟩ := hf
    obtain ⟨l1, l2, l3⟩ := ih l (by omega) hl
    obtain ⟨r1, r2, r3⟩ := ih r (by omega) hr
    exact ⟨by simp only [FragE4, ho, l1, r1, hne, Bool.not_false, Bool.and_self],
      by simp only [toksE4, TQ.toksE3, l2, r2], by simp only [tl4, TQ.tl3, l3, r3]⟩
  | subQuery q =>
    simp only [TQ.FragE3] at hf; simp only [TQ.szE3] at he
    obtain ⟨q1, q2⟩ := ihq q (by omega) hf
    exact ⟨by simp only [FragE4, q1], by simp only [toksE4, TQ.toksE3, q2], by simp [tl4, TQ.tl3]⟩
  | exists_ v =>
    cases v with
    | subQuery q =>
      simp only [TQ.FragE3, TQ.isSubQ] at hf; simp only [TQ.szE3] at he
      obtain ⟨q1, q2⟩ := ihq q (by omega) hf
      exact ⟨by simp only [FragE4, isSubQ4, q1], by simp only [toksE4, TQ.toksE3, q2], by simp [tl4, TQ.tl3]⟩
    | _ => simp [TQ.FragE3, TQ.isSubQ] at hf
  | not_ x =>
    simp only [TQ.FragE3] at hf; simp only [TQ.szE3] at he
    obtain ⟨x1, x2, x3⟩ := ih x (by omega) hf
    exact ⟨by simp only [FragE4, x1], by simp only [toksE4, TQ.toksE3, x2], by simp only [tl4, TQ.tl3, x3]⟩
  | and_ l r =>
    simp only [TQ.FragE3, Bool.and_eq_true] at hf; simp only [TQ.szE3] at he
    obtain ⟨l1, l2, l3⟩ := ih l (by omega) hf.1
    obtain ⟨r1, r2, r3⟩ := ih r (by omega) hf.2
    exact ⟨by simp only [FragE4, l1, r1, Bool.and_self], by simp only [toksE4, TQ.toksE3, l2, r2], by simp only [tl4, TQ.tl3, l3, r3]⟩
  | xor l r =>
    simp only [TQ.FragE3, Bool.and_eq_true] at hf; simp only [TQ.szE3] at he
    obtain ⟨l1, l2, l3⟩ := ih l (by omega) hf.1
    obtain ⟨r1, r2, r3⟩ := ih r (by omega) hf.2
    exact ⟨by simp only [FragE4, l1, r1, Bool.and_self], by simp only [toksE4, TQ.toksE3, l2, r2], by simp only [tl4, TQ.tl3, l3, r3]⟩
  | or_ l r =>
    simp only [TQ.FragE3, Bool.and_eq_true] at hf; simp only [TQ.szE3] at he
    obtain ⟨l1, l2, l3⟩ := ih l (by omega) hf.1
    obtain ⟨r1, r2, r3⟩ := ih r (by omega) hf.2
    exact ⟨by simp only [FragE4, l1, r1, Bool.and_self], by simp only [toksE4, TQ.toksE3, l2, r2], by simp only [tl4, TQ.tl3, l3, r3]⟩
  | _ => simp [TQ.FragE3] at hf


/-! ### the SELECT half -/
theorem bd4_join {t : Tok} (h : bdTok d 1 t = true) (hj : PM.joinHead [t] = true) : bdTok4 d 2 t = true := by
  obtain ⟨h1, h2, h3, h4⟩ := TS.bd_parts h
  have hw : ["JOIN", "INNER", "LEFT", "RIGHT", "FULL", "CROSS"].contains (up t.src) = true := by simpa [PM.joinHead] using hj
  simp only [bdTok4, Bool.and_eq_true, Bool.or_eq_true, Bool.not_eq_true', decide_eq_true_eq]
  simp only [List.contains_cons, List.contains_nil, Bool.or_false, Bool.or_eq_true, beq_iff_eq] at hw
  refine ⟨⟨⟨⟨h1, ?_⟩, h3⟩, ?_⟩, ?_⟩
  · rcases h2 with h | h
    · left; exact h
    · right; simp [h]
  · rcases hw with h | h | h | h | h | h <;> rw [h] <;> decide
  · rcases hw with h | h | h | h | h | h <;> simp [Tok.srcEqUp, h]
theorem joinTy_inc {ty : String} (h : TS.joinTyOK d ty = true) : joinTyOK4 d ty = true := by
  simp only [TS.joinTyOK, Bool.and_eq_true] at h
  simp only [joinTyOK4, Bool.and_eq_true]
  refine ⟨h.1, ?_⟩
  have h2 := h.2
  cases hw : joinWords ty with
  | nil => simp [hw] at h2
  | cons t ws =>
    simp only [hw, Bool.and_eq_true] at h2 ⊢
    exact ⟨bd4_join h2.1 h2.2, h2.2⟩
theorem unionTy_inc {ty : String} (h : TQ.unionTyOK d ty = true) : unionTyOK4 d ty = true := by
  simp only [TQ.unionTyOK, Bool.and_eq_true] at h
  simp only [unionTyOK4, Bool.and_eq_true]
  refine ⟨h.1, ?_⟩
  have h2 := h.2
  cases hw : TQ.unionWords ty with
  | nil => simp [hw] at h2
  | cons t ws =>
    simp only [hw, Bool.and_eq_true, Bool.not_eq_true'] at h2 ⊢
    obtain ⟨⟨hb, hs⟩, ho⟩ := h2
    obtain ⟨h1, hn, h3, h4⟩ := TS.bd_parts hb
    refine ⟨?_, hs⟩
    simp only [bdTok4, Bool.and_eq_true, Bool.or_eq_true, Bool.not_eq_true', decide_eq_true_eq]
    refine ⟨⟨⟨⟨h1, ?_⟩, h3⟩, TQ3.rank_lt _ h4⟩, ho⟩
    rcases hn with h | h
    · left; exact h
    · right; simp [h]

section step
variable (n : Nat) (ihe : ∀ e, TQ.szE3 e ≤ n → TQ.FragE3 d e = true → Inc d ch e) (ihq : ∀ q, TQ.szQ q ≤ n → TQ.FragQ d q = true → IncQ d ch q)
include ihe in
theorem incCols : ∀ cs, TQ.szCols cs ≤ n → TQ.colsOK3 d cs = true →
    colsOK4 d cs = true ∧ toksCols4 d ch cs = TQ.toksCols3 d ch cs ∧ toksColsTail4 d ch cs = TQ.toksColsTail3 d ch cs := by
  intro cs
  induction cs with
  | nil => intro _ _; exact ⟨by simp [colsOK4], by simp [toksCols4, TQ.toksCols3], by simp [toksColsTail4, TQ.toksColsTail3]⟩
  | cons c cs ih =>
    obtain ⟨e, a⟩ := c
    intro hs h
    simp only [TQ.szCols] at hs
    simp only [TQ.colsOK3, Bool.and_eq_true] at h
    obtain ⟨i1, i2, i3⟩ := ih (by omega) h.2
    obtain ⟨e1, e2, _⟩ := ihe e (by omega) h.1.1
    exact ⟨by simp [colsOK4, e1, h.1.2, i1], by simp only [toksCols4, TQ.toksCols3, e2, i3], by simp only [toksColsTail4, TQ.toksColsTail3, e2, i3]⟩
include ihq in
theorem incTable (t : FromTable) (hs : TQ.szTable t ≤ n) (h : TQ.tableOK3 d t = true) : tableOK4 d t = true ∧ toksTable4 d ch t = TQ.toksTable3 d ch t := by
  obtain ⟨r, a⟩ := t
  simp only [TQ.tableOK3, Bool.and_eq_true] at h
  simp only [TQ.szTable] at hs
  cases r with
  | table s nm => exact ⟨by simpa [tableOK4, refOK4, TQ.refOK3] using h, by simp [toksTable4, toksRef4, TQ.toksTable3, TQ.toksRef3]⟩
  | sub q =>
    simp only [TQ.szRef] at hs
    have h1 := h.1
    simp only [TQ.refOK3] at h1
    obtain ⟨q1, q2⟩ := ihq q (by omega) h1
    exact ⟨by simp [tableOK4, refOK4, q1, h.2], by simp only [toksTable4, toksRef4, TQ.toksTable3, TQ.toksRef3, q2]⟩
include ihq in
theorem incTables : ∀ ts, TQ.szTables ts ≤ n → TQ.tablesOK3 d ts = true → tablesOK4 d ts = true ∧ toksTablesTail4 d ch ts = TQ.toksTablesTail3 d ch ts := by
  intro ts
  induction ts with
  | nil => intro _ _; exact ⟨by simp [tablesOK4], by simp [toksTablesTail4, TQ.toksTablesTail3]⟩
  | cons t ts ih =>
    intro hs h
    simp only [TQ.szTables] at hs
    simp only [TQ.tablesOK3, Bool.and_eq_true] at h
    obtain ⟨i1, i2⟩ := ih (by omega) h.2
    obtain ⟨e1, e2⟩ := incTable n ihq t (by omega) h.1
    exact ⟨by simp [tablesOK4, e1, i1], by simp only [toksTablesTail4, TQ.toksTablesTail3, e2, i2]⟩
include ihq in
theorem incFrom (fr : Option (List FromTable)) (hs : TQ.szFrom fr ≤ n) (h : TQ.fromOK3 d fr = true) : fromOK4 d fr = true ∧ toksFrom4 d ch fr = TQ.toksFrom3 d ch fr := by
  cases fr with
  | none => exact ⟨by simp [fromOK4], by simp [toksFrom4, TQ.toksFrom3]⟩
  | some l =>
    cases l with
    | nil => simp [TQ.fromOK3] at h
    | cons t ts =>
      simp only [TQ.fromOK3, Bool.and_eq_true] at h
      simp only [TQ.szFrom, TQ.szTables] at hs
      obtain ⟨i1, i2⟩ := incTables n ihq ts (by omega) h.2
      obtain ⟨e1, e2⟩ := incTable n ihq t (by omega) h.1
      exact ⟨by simp [fromOK4, e1, i1], by simp only [toksFrom4, TQ.toksFrom3, e2, i2]⟩
include ihe ihq in
theorem incJoins : ∀ js, TQ.szJoins js ≤ n → TQ.joinsOK3 d js = true → joinsOK4 d js = true ∧ toksJoins4 d ch js = TQ.toksJoins3 d ch js := by
  intro js
  induction js with
  | nil => intro _ _; exact ⟨by simp [joinsOK4], by simp [toksJoins4, TQ.toksJoins3]⟩
  | cons j js ih =>
    obtain ⟨ty, t, rule⟩ := j
    intro hs h
    simp only [TQ.szJoins, TQ.szJoin] at hs
    simp only [TQ.joinsOK3, TQ.joinOK3, Bool.and_eq_true] at h
    obtain ⟨i1, i2⟩ := ih (by omega) h.2
    obtain ⟨e1, e2⟩ := incTable n ihq t (by omega) h.1.1.2
    have hr : ruleOK4 d rule = true ∧ toksRule4 d ch rule = TQ.toksRule3 d ch rule := by
      cases rule with
      | none => exact ⟨by simp [ruleOK4], by simp [toksRule4, TQ.toksRule3]⟩
      | some r =>
        cases r with
        | on e =>
          have := h.1.2; simp only [TQ.ruleOK3] at this
          simp only [TQ.szRule] at hs
          obtain ⟨x1, x2, _⟩ := ihe e (by omega) this
          exact ⟨by simp [ruleOK4, x1], by simp only [toksRule4, TQ.toksRule3, x2]⟩
        | «using» u => have := h.1.2; simp [TQ.ruleOK3] at this
    exact ⟨by simp [joinsOK4, joinOK4, joinTy_inc h.1.1.1, e1, hr.1, i1], by simp only [toksJoins4, toksJoin4, TQ.toksJoins3, TQ.toksJoin3, e2, hr.2, i2]⟩
include ihe in
theorem incOpt (kw : String) (o : Option Expr) (hs : TQ.szO3 o ≤ n) (h : TQ.FragO3 d o = true) : FragO4 d o = true ∧ toksOptE4 d ch kw o = TQ.toksOptE3 d ch kw o := by
  cases o with
  | none => exact ⟨by simp [FragO4], by simp [toksOptE4, TQ.toksOptE3]⟩
  | some e =>
    simp only [TQ.FragO3] at h; simp only [TQ.szO3] at hs
    obtain ⟨x1, x2, _⟩ := ihe e hs h
    exact ⟨by simp [FragO4, x1], by simp only [toksOptE4, TQ.toksOptE3, x2]⟩
include ihe in
theorem incOrd (o : OrderItem) (hs : TQ.szOrdItem o ≤ n) (h : TQ.ordItemOK3 d o = true) : ordItemOK4 d o = true ∧ toksOrdItem4 d ch o = TQ.toksOrdItem3 d ch o := by
  obtain ⟨e, desc, nf, nl⟩ := o
  simp only [TQ.ordItemOK3, Bool.and_eq_true, Bool.not_eq_true'] at h; simp only [TQ.szOrdItem] at hs
  obtain ⟨x1, x2, _⟩ := ihe e hs h.1.1
  obtain ⟨⟨_, rfl⟩, rfl⟩ := h
  exact ⟨by simp [ordItemOK4, x1], by simp [toksOrdItem4, TQ.toksOrdItem3, x2]⟩
include ihe in
theorem incOrdTail : ∀ os, TQ.szOrdL os ≤ n → TQ.ordTailOK3 d os = true → ordTailOK4 d os = true ∧ toksOrdTail4 d ch os = TQ.toksOrdTail3 d ch os := by
  intro os
  induction os with
  | nil => intro _ _; exact ⟨by simp [ordTailOK4], by simp [toksOrdTail4, TQ.toksOrdTail3]⟩
  | cons o os ih =>
    intro hs h
    simp only [TQ.szOrdL] at hs
    simp only [TQ.ordTailOK3, Bool.and_eq_true] at h
    obtain ⟨i1, i2⟩ := ih (by omega) h.2
    obtain ⟨e1, e2⟩ := incOrd n ihe o (by omega) h.1
    exact ⟨by simp [ordTailOK4, e1, i1], by simp only [toksOrdTail4, TQ.toksOrdTail3, e2, i2]⟩
include ihe in
theorem incOrder (ob : Option (List OrderItem)) (hs : TQ.szOrder ob ≤ n) (h : TQ.orderOK3 d ob = true) : orderOK4 d ob = true ∧ toksOrder4 d ch ob = TQ.toksOrder3 d ch ob := by
  cases ob with
  | none => exact ⟨by simp [orderOK4], by simp [toksOrder4, TQ.toksOrder3]⟩
  | some l =>
    cases l with
    | nil => simp [TQ.orderOK3] at h
    | cons o os =>
      simp only [TQ.orderOK3, Bool.and_eq_true] at h
      simp only [TQ.szOrder, TQ.szOrdL] at hs
      obtain ⟨i1, i2⟩ := incOrdTail n ihe os (by omega) h.2
      obtain ⟨e1, e2⟩ := incOrd n ihe o (by omega) h.1
      exact ⟨by simp [orderOK4, e1, i1], by simp only [toksOrder4, TQ.toksOrder3, e2, i2]⟩
end step

/-- the GROUP BY clause: the fragment condition is stated on the rendering without redundant brackets, so the inclusion needs both choices -/
theorem incGroup (n : Nat) (ihe : ∀ e, TQ.szE3 e ≤ n → TQ.FragE3 d e = true → Inc d ch e) (ihx : ∀ e, TQ.szE3 e ≤ n → TQ.FragE3 d e = true → Inc d noX e)
    (gb : Option GroupBy) (hs : TQ.szGroup gb ≤ n) (h : TQ.groupOK3 d gb = true) : groupOK4 d gb = true ∧ toksGroup4 d ch gb = TQ.toksGroup3 d ch gb := by
  cases gb with
  | none => exact ⟨by simp [groupOK4], by simp [toksGroup4, TQ.toksGroup3]⟩
  | some g =>
    obtain ⟨cols, sets, cube, rollup⟩ := g
    cases cols with
    | nil => simp [TQ.groupOK3] at h
    | cons e es =>
      cases sets with
      | some l => simp [TQ.groupOK3] at h
      | none =>
        cases cube with
        | true => simp [TQ.groupOK3] at h
        | false =>
          cases rollup with
          | true => simp [TQ.groupOK3] at h
          | false =>
            simp only [TQ.groupOK3, Bool.and_eq_true, Bool.not_eq_true'] at h
            simp only [TQ.szGroup, TQ.szL3] at hs
            obtain ⟨e1, e2, _⟩ := ihe e (by omega) h.1.1
            obtain ⟨_, x2, _⟩ := ihx e (by omega) h.1.1
            obtain ⟨i1, i2, _, _⟩ := incL (ch := ch) es (fun a ha => by obtain ⟨p, q⟩ := TQ.frag2L_mem es h.1.2 a ha; exact ihe a (by omega) p)
            have hg := h.2
            simp only [TQ.W3] at hg
            refine ⟨by simp [groupOK4, e1, i1, x2, hg], ?_⟩
            simp [toksGroup4, TQ.toksGroup3, toksArgs4, toksSetsOpt4, e2, i2 8]

theorem incSelect (n : Nat) (ihe : ∀ e, TQ.szE3 e ≤ n → TQ.FragE3 d e = true → Inc d ch e) (ihx : ∀ e, TQ.szE3 e ≤ n → TQ.FragE3 d e = true → Inc d noX e)
    (ihq : ∀ q, TQ.szQ q ≤ n → TQ.FragQ d q = true → IncQ d ch q) (s : Select) (hs : TQ.szS3 s ≤ n + 1) (hf : TQ.FragS3 d s = true) :
    FragS4 d s = true ∧ toksS4 d ch s = TQ.toksS3 d ch s := by
  obtain ⟨ws, dist, cols, fr, lats, js, wh, gb, hv, ob, sb, db, cb, lm⟩ := s
  cases ws with
  | none => simp [TQ.FragS3] at hf
  | some w =>
  cases w with
  | cons x y => simp [TQ.FragS3] at hf
  | nil =>
  cases lats with
  | cons x y => simp [TQ.FragS3] at hf
  | nil =>
  cases sb with
  | some x => simp [TQ.FragS3] at hf
  | none =>
  cases db with
  | some x => simp [TQ.FragS3] at hf
  | none =>
  cases cb with
  | some x => simp [TQ.FragS3] at hf
  | none =>
    simp only [TQ.FragS3, Bool.and_eq_true, Bool.or_eq_true, Bool.not_eq_true'] at hf
    simp only [TQ.szS3] at hs
    obtain ⟨⟨⟨⟨⟨⟨⟨⟨⟨hc, hne⟩, hfr⟩, hjs⟩, hwh⟩, hgb⟩, hhv⟩, hob⟩, hlm⟩, hdist⟩ := hf
    obtain ⟨c1, c2, _⟩ := incCols (ch := ch) n ihe cols (by omega) hc
    obtain ⟨_, x2, _⟩ := incCols (ch := noX) n ihx cols (by omega) hc
    obtain ⟨f1, f2⟩ := incFrom n ihq fr (by omega) hfr
    obtain ⟨j1, j2⟩ := incJoins n ihe ihq js (by omega) hjs
    obtain ⟨w1, w2⟩ := incOpt n ihe "WHERE" wh (by omega) hwh
    obtain ⟨g1, g2⟩ := incGroup n ihe ihx gb (by omega) hgb
    obtain ⟨v1, v2⟩ := incOpt n ihe "HAVING" hv (by omega) hhv
    obtain ⟨o1, o2⟩ := incOrder n ihe ob (by omega) hob
    refine ⟨?_, ?_⟩
    · simp only [FragS4, c1, hne, f1, latsOK4, j1, w1, g1, v1, o1, orderOK4, byOK4, hlm, x2, Bool.true_and, Bool.and_true,
        ]
      simpa using hdist
    · simp [toksS4, TQ.toksS3, c2, f2, toksLats4, j2, w2, g2, v2, o2, toksSort4, toksBy4]

theorem incUn (n : Nat) (ihe : ∀ e, TQ.szE3 e ≤ n → TQ.FragE3 d e = true → Inc d ch e) (ihx : ∀ e, TQ.szE3 e ≤ n → TQ.FragE3 d e = true → Inc d noX e)
    (ihq : ∀ q, TQ.szQ q ≤ n → TQ.FragQ d q = true → IncQ d ch q) : ∀ us, TQ.szUn us ≤ n + 1 → TQ.FragUn d us = true →
    FragUn2 d us = true ∧ toksUn2 d ch us = TQ.toksUn d ch us := by
  intro us
  induction us with
  | nil => intro _ _; exact ⟨by simp [FragUn2], by simp [toksUn2, TQ.toksUn]⟩
  | cons p r ih =>
    obtain ⟨t, s⟩ := p
    intro hs hf
    simp only [TQ.szUn] at hs
    simp only [TQ.FragUn, Bool.and_eq_true] at hf
    obtain ⟨i1, i2⟩ := ih (by omega) hf.2
    obtain ⟨s1, s2⟩ := incSelect n ihe ihx ihq s (by omega) hf.1.2
    exact ⟨by simp [FragUn2, unionTy_inc hf.1.1, s1, i1], by simp only [toksUn2, TQ.toksUn, s2, i2]⟩
theorem inc_query_step (n : Nat) (ihe : ∀ e, TQ.szE3 e ≤ n → TQ.FragE3 d e = true → Inc d ch e) (ihx : ∀ e, TQ.szE3 e ≤ n → TQ.FragE3 d e = true → Inc d noX e)
    (ihq : ∀ q, TQ.szQ q ≤ n → TQ.FragQ d q = true → IncQ d ch q) : ∀ q, TQ.szQ q ≤ n + 1 → TQ.FragQ d q = true → IncQ d ch q := by
  intro q hs hf
  cases q with
  | single s =>
    simp only [TQ.FragQ] at hf; simp only [TQ.szQ] at hs
    obtain ⟨s1, s2⟩ := incSelect n ihe ihx ihq s (by omega) hf
    exact ⟨by simp [FragQ2, s1], by simp only [toksQ2, TQ.toksQ, s2]⟩
  | union ws s us =>
    simp only [TQ.szQ] at hs
    cases ws with
    | none => simp [TQ.FragQ] at hf
    | some l =>
      cases l with
      | cons _ _ => simp [TQ.FragQ] at hf
      | nil =>
        simp only [TQ.FragQ, Bool.and_eq_true, Bool.not_eq_true', Bool.true_and] at hf
        obtain ⟨s1, s2⟩ := incSelect n ihe ihx ihq s (by omega) hf.1.1
        obtain ⟨u1, u2⟩ := incUn n ihe ihx ihq us (by omega) hf.1.2
        exact ⟨by simp [FragQ2, s1, u1, hf.2], by simp only [toksQ2, TQ.toksQ, s2, u2]⟩

/-- **the mutual induction**: for both the given choice of redundant brackets and the printer's (none) -/
theorem inc_all (d : Gen.D) (ch : Expr → Bool) : ∀ n, (∀ e, TQ.szE3 e ≤ n → TQ.FragE3 d e = true → Inc d ch e ∧ Inc d noX e) ∧
    (∀ q, TQ.szQ q ≤ n → TQ.FragQ d q = true → IncQ d ch q ∧ IncQ d noX q) := by
  intro n
  induction n with
  | zero =>
    refine ⟨fun e he => ?_, fun q hq => ?_⟩
    · have := TQ.szE3_pos e; omega
    · cases q <;> simp [TQ.szQ] at hq
  | succ n ih =>
    have a1 : ∀ e, TQ.szE3 e ≤ n → TQ.FragE3 d e = true → Inc d ch e := fun e h1 h2 => (ih.1 e h1 h2).1
    have a2 : ∀ e, TQ.szE3 e ≤ n → TQ.FragE3 d e = true → Inc d noX e := fun e h1 h2 => (ih.1 e h1 h2).2
    have b1 : ∀ q, TQ.szQ q ≤ n → TQ.FragQ d q = true → IncQ d ch q := fun q h1 h2 => (ih.2 q h1 h2).1
    have b2 : ∀ q, TQ.szQ q ≤ n → TQ.FragQ d q = true → IncQ d noX q := fun q h1 h2 => (ih.2 q h1 h2).2
    exact ⟨fun e h1 h2 => ⟨inc_expr_step n a1 b1 e h1 h2, inc_expr_step n a2 b2 e h1 h2⟩,
      fun q h1 h2 => ⟨inc_query_step n a1 a2 b1 q h1 h2, inc_query_step n a2 a2 b2 q h1 h2⟩⟩
end TQ2

namespace C03
open TQ2
/-- **`FragQ ⊆ FragQ2`**: every query of the fragment of `C03.tquery` (Props/C03Q.lean) is in the larger fragment, with the same rendering
(for every choice of redundant brackets) -/
theorem fragQ_sub_fragQ2 (d : Gen.D) (ch : Expr → Bool) (q : Query) (hq : TQ.FragQ d q = true) :
    FragQ2 d q = true ∧ toksQ2 d ch q = TQ.toksQ d ch q :=
  ((inc_all d ch (TQ.szQ q)).2 q (Nat.le_refl _) hq).1
/-- `C03.tquery` as an instance of `C03.tquery2` -/
theorem tquery_instance (d : Gen.D) (q : Query) (hq : TQ.FragQ d q = true) (rest : List Tok) (hr : TQ.stopsQ d rest = true)
    (fuel : Nat) (hfuel : 20 * sizeL (TQ.toksQ d noX q) + 9 ≤ fuel) : pSelectStmt d fuel none (TQ.toksQ d noX q ++ rest) = .ok (q, rest) := by
  obtain ⟨h1, h2⟩ := fragQ_sub_fragQ2 d noX q hq
  rw [← h2] at hfuel ⊢
  exact tquery2_stopsQ d q h1 rest hr fuel hfuel
end C03
namespace C02
open TQ2
/-- **`FragE3 ⊆ FragE4`** with equal renderings -/
theorem fragE3_sub_fragE4 (d : Gen.D) (ch : Expr → Bool) (e : Expr) (he : TQ.FragE3 d e = true) :
    FragE4 d e = true ∧ toksE4 d ch e = TQ.toksE3 d ch e :=
  let r := ((inc_all d ch (TQ.szE3 e)).1 e (Nat.le_refl _) he).1
  ⟨r.1, r.2.1⟩
/-- `C02.tparse3` as an instance of `C02.tparse4` -/
theorem tparse3_instance (d : Gen.D) (e : Expr) (hf : TQ.FragE3 d e = true) (rest : List Tok) (hr : TP2.stops2 d rest = true)
    (fuel : Nat) (hfuel : 20 * sizeL (TQ.toksE3 d noX e) + 15 ≤ fuel) : pOr d fuel (TQ.toksE3 d noX e ++ rest) = .ok (e, rest) := by
  obtain ⟨h1, h2⟩ := fragE3_sub_fragE4 d noX e hf
  rw [← h2] at hfuel ⊢
  exact tparse4 d e h1 rest hr fuel hfuel
end C02
