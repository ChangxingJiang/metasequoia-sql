import MsqProofs.Lemmas.ParseRelStmt2
import MsqModel.Parse.Entry2
/-! GENERATED by tools/gen_rel.py — relational reading of the parser model: the functions behind the other 26 public entry points (MsqModel/Parse/Entry2.lean) on two related cursors.  Written by hand: `pWildcard_rel` (tools/hand/ParseRel8.lean.in, put in by tools/hand_blocks.py) -/
set_option linter.unusedVariables false
set_option linter.unusedSectionVars false
set_option linter.unusedSimpArgs false
open Lex Ast PMQ
namespace PM.Rel
variable [T : Theory]

attribute [local grind] mapE mapO mapTR mapFT mapJR mapLat mapW mapTN mapCT mapGC mapDC mapIC mapIx mapFK mapCI mapAO mapCS mapCR mapIH mapSt0

theorem pJoinType_rel : ∀ x0 y0, GEL T.E x0 y0 → GER T.E Eq (pJoinType x0) (pJoinType y0) := by
  intro ts ts' h_ts
  unfold pJoinType
  obtain ⟨hx, hy⟩ | ⟨jt, r, r', hx, hy, h_r⟩ := gel_firstEnum_join h_ts
  · simp only [hx, hy]; exact ger_err
  simp only [hx, hy]; clear hx hy
  exact ger_ok rfl h_r

theorem pUnionType_rel : ∀ x0 y0, GEL T.E x0 y0 → GER T.E Eq (pUnionType x0) (pUnionType y0) := by
  intro ts ts' h_ts
  unfold pUnionType
  obtain ⟨hx, hy⟩ | ⟨ut, r, r', hx, hy, h_r⟩ := gel_firstEnum_union h_ts
  · simp only [hx, hy]; exact ger_err
  simp only [hx, hy]; clear hx hy
  exact ger_ok rfl h_r

theorem pOrderType_rel : ∀ x0 y0, GEL T.E x0 y0 → GER T.E Eq (pOrderType x0) (pOrderType y0) := by
  intro ts ts' h_ts
  unfold pOrderType
  refine ger_if (gel_searchStrUp h_ts "DESC" plainT_DESC) ?_ ?_
  · exact ger_ok rfl (gel_drop h_ts 1)
  refine ger_if (gel_searchStrUp h_ts "ASC" plainT_ASC) ?_ ?_
  · exact ger_ok rfl (gel_drop h_ts 1)
  exact ger_ok rfl h_ts

theorem pCompareOp_rel : ∀ x0 y0, GEL T.E x0 y0 → GER T.E Eq (pCompareOp x0) (pCompareOp y0) := by
  intro ts ts' h_ts
  unfold pCompareOp
  rel_bind popSrc_srcRel ts ts' h_ts with s r s' r' h_s h_r
  rw [← h_s.compareOp]
  generalize compareOp? s = o1
  rcases o1 with _ | o
  · exact ger_err
  exact ger_ok rfl h_r

theorem pComputeOp_rel : ∀ x0 y0, GEL T.E x0 y0 → GER T.E Eq (pComputeOp x0) (pComputeOp y0) := by
  intro ts ts' h_ts
  unfold pComputeOp
  rel_bind popSrc_srcRel ts ts' h_ts with s r s' r' h_s h_r
  rw [← h_s.computeOp]
  generalize computeOp? (up s) = o1
  rcases o1 with _ | ⟨o, _⟩
  · exact ger_err
  exact ger_ok rfl h_r

theorem pCastDataType_rel : ∀ x0 y0, GEL T.E x0 y0 → GER T.E Eq (pCastDataType x0) (pCastDataType y0) := by
  intro ts ts' h_ts
  unfold pCastDataType
  obtain ⟨rfl, rfl⟩ | ⟨t, r, t', r', rfl, rfl, h_t, h_r⟩ := GEL.shape h_ts
  · dsimp only; exact ger_err
  dsimp only
  rw [← g_castTypes h_t]
  generalize Gen.castTypes.find? (fun k => t.equalsStr k.2) = o1
  rcases o1 with _ | ⟨ty, _⟩
  · exact ger_err
  exact ger_ok rfl h_r

theorem pWildcard_rel : ∀ x0 y0, GEL T.E x0 y0 → GER T.E (geq (Option.map T.m)) (pWildcard x0) (pWildcard y0) := by
  intro ts ts' h_ts
  unfold pWildcard
  refine ger_ite (gel_searchStr h_ts "*" (by decide)) (fun _ _ => ger_ok rfl (gel_drop h_ts 1)) fun _ _ => ?_
  -- three tokens, or fewer on both sides
  obtain ⟨rfl, rfl⟩ | ⟨a, r, a', r', rfl, rfl, h_a, h_r⟩ := GEL.shape h_ts
  · exact ger_err
  obtain ⟨rfl, rfl⟩ | ⟨b, r, b', r', rfl, rfl, h_b, h_r⟩ := GEL.shape h_r
  · exact ger_err
  obtain ⟨rfl, rfl⟩ | ⟨c, r, c', r', rfl, rfl, h_c, h_r⟩ := GEL.shape h_r
  · exact ger_err
  dsimp only
  refine ger_ite (congr (congrArg and (congr (congrArg and (T.has h_a NAME)) (T.equalsStr h_b "." plainT_k19))) (T.equalsStr h_c "*" plainT_k52)) (fun _ _ => ?_) fun _ _ => ger_err
  exact ger_ok (by simp [T.unify h_a]) h_r

theorem pJoinOn_rel (d : Gen.D) (f : Nat) : ∀ x0 y0, GEL T.E x0 y0 → GER T.E (geq (mapJR T.m)) (pJoinOn d f x0) (pJoinOn d f y0) := by
  intro ts ts' h_ts
  unfold pJoinOn
  rel_bind matchKw_rel h_ts "ON" plainT_ON with v1 r v1' r' h_v1 h_r
  rel_bind (genF_all d f).pOr r r' h_r with c r2 c' r2' h_c h_r2
  exact ger_ok (by grind -funext) h_r2

theorem pJoinUsing_rel (d : Gen.D) (f : Nat) : ∀ x0 y0, GEL T.E x0 y0 → GER T.E (geq (mapJR T.m)) (pJoinUsing d f x0) (pJoinUsing d f y0) := by
  intro ts ts' h_ts
  unfold pJoinUsing
  rel_bind (genF_all d f).pFunc ts ts' h_ts with u r u' r' h_u h_r
  exact ger_ok (by grind -funext) h_r

theorem pJoinExpr_rel (d : Gen.D) (f : Nat) : ∀ x0 y0, GEL T.E x0 y0 → GER T.E (geq (mapJR T.m)) (pJoinExpr d f x0) (pJoinExpr d f y0) := by
  intro ts ts' h_ts
  unfold pJoinExpr
  refine ger_if (gel_searchStrUp h_ts "ON" plainT_ON) ?_ ?_
  · exact pJoinOn_rel d f ts ts' h_ts
  refine ger_if (gel_searchStrUp h_ts "USING" plainT_USING) ?_ ?_
  · exact pJoinUsing_rel d f ts ts' h_ts
  exact ger_err

theorem pSelectClause_rel (d : Gen.D) (f : Nat) : ∀ x0 y0, GEL T.E x0 y0 → GER T.E (geq (Prod.map id (List.map (Prod.map (mapE T.m) (Option.map T.m))))) (pSelectClause d f x0) (pSelectClause d f y0) := by
  intro ts ts' h_ts
  unfold pSelectClause
  rel_bind matchKw_rel h_ts "SELECT" plainT_SELECT with v1 r0 v1' r0' h_v1 h_r0
  rel_bind (genF_all d f).pSelectCol (moveStrUp r0 "DISTINCT").2 (moveStrUp r0' "DISTINCT").2 (gel_moveStrUp h_r0 "DISTINCT" plainT_DISTINCT).2 with c r1 c' r1' h_c h_r1
  rel_bind (genF_all d f).pSelectCols [c] r1 [c'] r1' (by grind) h_r1 with cols r2 cols' r2' h_cols h_r2
  exact ger_ok (by grind -funext) h_r2

end PM.Rel
