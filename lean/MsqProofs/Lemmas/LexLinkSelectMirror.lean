import MsqProofs.Lemmas.LexLinkSelectPrint
import MsqProofs.Lemmas.PrintLemmas
/-!
# `String` against `List Char`: what the printers' string operations write, as character lists

`String` operations do not reduce in the kernel, so every link is stated on a `List Char` mirror and tied to the printer list
function by list function; here the facts about `joinS`, `quoteName`, aliases, brackets and LIMIT that all mirrors share.
-/
namespace LexLink
open Lex Spec C05 C06 C09 Ast TP TS

theorem intercalate_joinLL (sep : List Char) : ∀ l : List (List Char), sep.intercalate l = joinLL sep l
  | [] => by simp [List.intercalate, joinLL]
  | [a] => by simp [List.intercalate, joinLL]
  | a :: b :: r => by
    have := intercalate_joinLL sep (b :: r)
    simp only [List.intercalate, List.intersperse_cons_cons, List.flatten_cons, joinLL] at this ⊢
    rw [this]; simp

theorem toList_joinS (sep : String) (l : List String) : (PR.joinS sep l).toList = joinLL sep.toList (l.map String.toList) := by
  rw [PR.joinS, String.toList_intercalate, intercalate_joinLL]

theorem ofList_eq {s : String} {l : List Char} (h : s.toList = l) : s = String.ofList l := by
  rw [← h, String.ofList_toList]

theorem quoteName_alias (a : String) (h : aliasLex a) : PR.quoteName a = a := by
  simp [PR.quoteName, h.1, h.2]

theorem aliasSome (x a : String) (h : aliasLex a) :
    (s!"{x} AS {PR.quoteName a}").toList = x.toList ++ aliasL (some a) := by
  have e : (" AS " : String).toList = [' ', 'A', 'S', ' '] := rfl
  simp [quoteName_alias a h, toString, String.toList_append, aliasL, e]

theorem map_toList_ofList {α : Type} (f : α → List Char) (l : List α) :
    (l.map fun x => String.ofList (f x)).map String.toList = l.map f := by
  induction l with
  | nil => rfl
  | cons a r ih => simp [String.toList_ofList, ih]

/-! ## the optional clauses (named in `PrintLemmas.lean`: `PR.prOptFrom` …, `PR.prS_eq`) -/

theorem comp_toList_ofList {α : Type} (f : α → List Char) : (String.toList ∘ fun x => String.ofList (f x)) = f := by
  funext x; simp [String.toList_ofList]

theorem limit_eq (lm : Option (Int × Option Int)) :
    (match lm with | some l => [PR.limitSrc l] | none => []) = (limitC lm).map fun p => String.ofList p.1 := by
  cases lm with
  | none => rfl
  | some pr =>
    obtain ⟨n, m⟩ := pr
    have e1 : ("LIMIT " : String).toList = "LIMIT".toList ++ [' '] := rfl
    have e2 : (", " : String).toList = [',', ' '] := rfl
    cases m with
    | none =>
      simp only [limitC, List.map_cons, List.map_nil]
      congr 1
      apply ofList_eq
      simp [PR.limitSrc, toString, String.toList_append, e1]
    | some m =>
      simp only [limitC, List.map_cons, List.map_nil]
      congr 1
      apply ofList_eq
      simp [PR.limitSrc, toString, String.toList_append, e1, e2]

end LexLink
