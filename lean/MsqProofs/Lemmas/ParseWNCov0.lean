import MsqProofs.Lemmas.ParseWN
import MsqProofs.Lemmas.ParseAccount
/-!
# C02 at the clause level: every expression CONTAINED in a parsed SELECT is derived by the documented grammar

`Derives` treats a sub-query (and the specification of a window) as an opaque element.  This development opens them: for every
function of the SELECT part of the parser model, every expression that stands at a clause position of the returned structure
(select items, ON conditions and USING calls of joins, LATERAL VIEW calls, WHERE, GROUP BY columns and grouping sets, HAVING,
ORDER / SORT / DISTRIBUTE / CLUSTER BY items, the PARTITION BY / ORDER BY items of a window — recursively through sub-queries in
FROM, WITH tables and set operations: `exprsQ`) is `Cov`ered: derived by `Derives` from a CONTIGUOUS run of tokens of the cursor
(or of the content of a bracket group inside it, at any depth: `Sub`).

It is NOT a SELECT grammar: which clause a token run belongs to is not stated (that is C03's T-parse); it says that whatever
ends up at an expression position was built by the documented expression grammar from consecutive tokens of the input.
-/
open Lex
namespace WNG
open PM Ast

/-- `Sub T ts`: `ts` is a contiguous run of tokens of `T`, or of the content of a bracket group of such a run, at any depth -/
inductive Sub (T : List Tok) : List Tok → Prop
  | refl : Sub T T
  | mid {a ts b : List Tok} : Sub T (a ++ ts ++ b) → Sub T ts
  | child {ts : List Tok} {g : Tok} : Sub T ts → g ∈ ts → Sub T g.children

theorem Sub.sfx {T u r : List Tok} (h : Sub T (u ++ r)) : Sub T r := Sub.mid (a := u) (b := []) (by simpa using h)
theorem Sub.pfx {T u r : List Tok} (h : Sub T (u ++ r)) : Sub T u := Sub.mid (a := []) (b := r) (by simpa using h)
theorem Sub.of_cons {T ts r : List Tok} (h : Sub T ts) (hc : ∃ used, ts = used ++ r) : Sub T r := by
  obtain ⟨u, rfl⟩ := hc; exact h.sfx
theorem Sub.drop {T ts : List Tok} (h : Sub T ts) (k : Nat) : Sub T (ts.drop k) :=
  Sub.sfx (u := ts.take k) (by simpa using h)
theorem Sub.head_child {T r : List Tok} {g : Tok} (h : Sub T (g :: r)) : Sub T g.children := h.child (by simp)
theorem Sub.tail {T r : List Tok} {g : Tok} (h : Sub T (g :: r)) : Sub T r := Sub.sfx (u := [g]) h
theorem Sub.trans {T ts us : List Tok} (h1 : Sub T ts) (h2 : Sub ts us) : Sub T us := by
  induction h2 with
  | refl => exact h1
  | mid _ ih => exact ih.mid
  | child _ hm ih => exact ih.child hm

/-- the expression `e` is derived, at some level, from a contiguous run of tokens inside `T` -/
def Cov (d : Gen.D) (T : List Tok) (e : Expr) : Prop := ∃ L us, Sub T us ∧ Derives d L us e
def CovL (d : Gen.D) (T : List Tok) (es : List Expr) : Prop := ∀ e ∈ es, Cov d T e

theorem Cov.lift {d : Gen.D} {T ts : List Tok} {e : Expr} (h : Sub T ts) (hc : Cov d ts e) : Cov d T e := by
  obtain ⟨L, us, hs, hd⟩ := hc; exact ⟨L, us, h.trans hs, hd⟩
theorem CovL.lift {d : Gen.D} {T ts : List Tok} {es : List Expr} (h : Sub T ts) (hc : CovL d ts es) : CovL d T es :=
  fun e he => (hc e he).lift h
theorem CovL.nil {d : Gen.D} {T : List Tok} : CovL d T [] := by intro e he; cases he
theorem CovL.append {d : Gen.D} {T : List Tok} {a b : List Expr} (h1 : CovL d T a) (h2 : CovL d T b) : CovL d T (a ++ b) := by
  intro e he; rcases List.mem_append.mp he with h | h; exact h1 e h; exact h2 e h
theorem CovL.left {d : Gen.D} {T : List Tok} {a b : List Expr} (h : CovL d T (a ++ b)) : CovL d T a :=
  fun e he => h e (List.mem_append_left _ he)
theorem CovL.right {d : Gen.D} {T : List Tok} {a b : List Expr} (h : CovL d T (a ++ b)) : CovL d T b :=
  fun e he => h e (List.mem_append_right _ he)
theorem CovL.single {d : Gen.D} {T : List Tok} {e : Expr} (h : Cov d T e) : CovL d T [e] := by
  intro x hx; simp only [List.mem_cons, List.not_mem_nil, or_false] at hx; subst hx; exact h
theorem CovL.snoc {d : Gen.D} {T : List Tok} {a : List Expr} {e : Expr} (h1 : CovL d T a) (h2 : Cov d T e) : CovL d T (a ++ [e]) :=
  h1.append (.single h2)
theorem CovL.opt {d : Gen.D} {T : List Tok} {e : Expr} (h : Cov d T e) : CovL d T (some e).toList := CovL.single h

/-- what a run of an expression-level function gives (`[] ++ u`: the form in which `RE d L [] ts` hands the derivation over) -/
theorem cov_of_run {d : Gen.D} {L : Nat} {T ts r : List Tok} {e : Expr} (hs : Sub T ts)
    (h : ∃ u, ts = u ++ r ∧ Derives d L ([] ++ u) e) : Cov d T e := by
  obtain ⟨u, rfl, hd⟩ := h
  exact ⟨L, u, hs.pfx, by simpa using hd⟩

def oiE : OrderItem → Expr | .mk e _ _ _ => e
def latE : Lateral → Expr | .mk _ fn _ _ => fn
def oiEs (o : Option (List OrderItem)) : List Expr := (o.getD []).map oiE
def gbE : GroupBy → List Expr | .mk cols sets _ _ => cols ++ (sets.getD []).flatten
def ogbE : Option GroupBy → List Expr | none => [] | some g => gbE g
def jrE : JoinRule → List Expr | .on e => [e] | .using f => [f]
def ojrE : Option JoinRule → List Expr | none => [] | some j => jrE j

mutual
def exprsQ : Query → List Expr
  | .single s => exprsS s
  | .union w first rest => exprsOW w ++ (exprsS first ++ exprsUs rest)
def exprsS : Select → List Expr
  | .mk w _ cols fr lats js wh gb hv ob sb db cb _ =>
    exprsOW w ++ (cols.map (·.1) ++ (exprsOF fr ++ (lats.map latE ++ (exprsJs js ++ (wh.toList ++ (ogbE gb ++ (hv.toList ++ (oiEs ob ++
      (oiEs sb ++ (db.getD [] ++ cb.getD []))))))))))
def exprsOW : Option (List WithTable) → List Expr
  | none => []
  | some ws => exprsWs ws
def exprsWs : List WithTable → List Expr
  | [] => []
  | w :: ws => exprsW w ++ exprsWs ws
def exprsW : WithTable → List Expr
  | .mk _ q => exprsQ q
def exprsOF : Option (List FromTable) → List Expr
  | none => []
  | some fs => exprsFs fs
def exprsFs : List FromTable → List Expr
  | [] => []
  | f :: fs => exprsF f ++ exprsFs fs
def exprsF : FromTable → List Expr
  | .mk t _ => exprsT t
def exprsT : TableRef → List Expr
  | .table _ _ => []
  | .sub q => exprsQ q
def exprsJs : List Join → List Expr
  | [] => []
  | j :: js => exprsJ j ++ exprsJs js
def exprsJ : Join → List Expr
  | .mk _ t rule => exprsF t ++ ojrE rule
def exprsUs : List (String × Select) → List Expr
  | [] => []
  | (_, s) :: us => exprsS s ++ exprsUs us
end

theorem exprsWs_append (a b : List WithTable) : exprsWs (a ++ b) = exprsWs a ++ exprsWs b := by
  induction a with
  | nil => simp [exprsWs]
  | cons w a ih => simp [exprsWs, ih]
theorem exprsFs_append (a b : List FromTable) : exprsFs (a ++ b) = exprsFs a ++ exprsFs b := by
  induction a with
  | nil => simp [exprsFs]
  | cons w a ih => simp [exprsFs, ih]
theorem exprsJs_append (a b : List Join) : exprsJs (a ++ b) = exprsJs a ++ exprsJs b := by
  induction a with
  | nil => simp [exprsJs]
  | cons w a ih => simp [exprsJs, ih]
theorem exprsUs_append (a b : List (String × Select)) : exprsUs (a ++ b) = exprsUs a ++ exprsUs b := by
  induction a with
  | nil => simp [exprsUs]
  | cons w a ih => obtain ⟨x, s⟩ := w; simp [exprsUs, ih]

end WNG
