import MsqProofs.Props.C06
/-!
# The lexer link of T-parse, lexer side: compositional token lemmas on the shipped table

Everything is stated with `runTail` (the rest of a lexer run from a memory: feed, end of text, finish), from a memory
between tokens at position `|pre|` of a text `T = pre ++ u ++ rest`, with an ARBITRARY current frame `f` and
frame stack `fs`:

* `Tk u tk d`   — the text `u` followed by the character `d` appends exactly the token `tk` and continues between tokens
                  AT `d` (which is read afresh);
* `TkEnd u tk`  — the same at the end of the text;
* `Lx u ts`     — the text `u` followed by a delimiter (`Delim`: a blank, `)`, `,`, a line break, or the end of the text)
                  appends exactly the tokens `ts` and continues between tokens at the delimiter.

`LxD D u ts` is the same statement with the condition `D` on what follows as a parameter: `Lx = LxD Delim`,
`Tk u tk d ↔ LxD (NextIs d) u [tk]` (`Tk.ctx`), `LxAny = LxD (fun _ => True)`.  Two pieces compose when the second, with
what follows it, is a context of the first (`LxD.append`): blanks, line breaks, commas and prefix tokens are all that one
law (brackets, `LxD.paren`, come directly from the two bracket steps).  For CLOSED token texts (operators, keywords) `Tk` / `TkEnd` are decided on the regenerated table by
a path check (`tkCheck`, `tkEndCheck`); for the variable ones (back-quoted names, integers, quoted strings, words) they come
from the path of the piece through the table (`Lex.addPath`, `Lemmas/LexTok.lean`) and the cell that ends it.
-/
namespace LexLink
open Lex Spec C05 C06 C09

theorem runTail_cons_wait (T : List Char) (d : Char) (r : List Char) (n : Nat) (stk : List (List Tok)) :
    runTail Gen.cfgS T (d :: r) ⟨n, n, .WAIT, stk⟩ =
      (match dropFlag (handle Gen.cfgS T ⟨n, n, .WAIT, stk⟩ (.ch d)) with
        | .error e => .error e
        | .ok m => runTail Gen.cfgS T r m) := by
  have : d :: r = [d] ++ r := rfl
  rw [this, runTail_append, feedAllWith_one, feedWith_wait]
  cases dropFlag (Lex.handle Gen.cfgS T ⟨n, n, .WAIT, stk⟩ (.ch d)) <;> rfl

theorem step_blank (T r : List Char) (n : Nat) (stk : List (List Tok)) :
    runTail Gen.cfgS T (' ' :: r) ⟨n, n, .WAIT, stk⟩ = runTail Gen.cfgS T r ⟨n + 1, n + 1, .WAIT, stk⟩ := by
  rw [runTail_cons_wait, handle_skip shipped_code (m := ⟨n, n, .WAIT, stk⟩) wait_blank]
  rfl

theorem l_open : Gen.cfgS.lookup .WAIT (.ch '(') = some openParen := look (by decide +kernel)
theorem l_close : Gen.cfgS.lookup .WAIT (.ch ')') = some closeParen := look (by decide +kernel)

theorem step_open (T r : List Char) (n : Nat) (stk : List (List Tok)) :
    runTail Gen.cfgS T ('(' :: r) ⟨n, n, .WAIT, stk⟩ = runTail Gen.cfgS T r ⟨n + 1, n + 1, .WAIT, [] :: stk⟩ := by
  rw [runTail_cons_wait, handle_openParen shipped_code (m := ⟨n, n, .WAIT, stk⟩) l_open]
  rfl

theorem handle_closeParen_ok (T : List Char) (n : Nat) (g f : List Tok) (fs : List (List Tok)) :
    handle Gen.cfgS T ⟨n, n, .WAIT, g :: f :: fs⟩ (.ch ')') =
      .ok (⟨n + 1, n + 1, .WAIT, (f ++ [.group .paren g Gen.mark_PARENTHESIS]) :: fs⟩, true) := by
  simp [Lex.handle, l_close, closeParen, shipped_code, Gen.Cls.code, exec, appendTop, resolveMarks, Gen.mark_PARENTHESIS]

theorem step_close (T r : List Char) (n : Nat) (g f : List Tok) (fs : List (List Tok)) :
    runTail Gen.cfgS T (')' :: r) ⟨n, n, .WAIT, g :: f :: fs⟩ =
      runTail Gen.cfgS T r ⟨n + 1, n + 1, .WAIT, (f ++ [.group .paren g Gen.mark_PARENTHESIS]) :: fs⟩ := by
  rw [runTail_cons_wait, handle_closeParen_ok]
  rfl

/-! ## the three forms -/

def Tk (u : List Char) (tk : Tok) (d : Char) : Prop :=
  ∀ (T pre more : List Char) (f : List Tok) (fs : List (List Tok)), T = pre ++ u ++ d :: more →
    runTail Gen.cfgS T (u ++ d :: more) ⟨pre.length, pre.length, .WAIT, f :: fs⟩ =
      runTail Gen.cfgS T (d :: more) ⟨pre.length + u.length, pre.length + u.length, .WAIT, (f ++ [tk]) :: fs⟩

def TkEnd (u : List Char) (tk : Tok) : Prop :=
  ∀ (T pre : List Char) (f : List Tok) (fs : List (List Tok)), T = pre ++ u →
    runTail Gen.cfgS T u ⟨pre.length, pre.length, .WAIT, f :: fs⟩ =
      runTail Gen.cfgS T [] ⟨pre.length + u.length, pre.length + u.length, .WAIT, (f ++ [tk]) :: fs⟩

/-- what may follow a complete expression text: nothing, a blank, a closing bracket, a comma, a line break (the same four
characters in `Lx.of_tk`, `delim_hd`, `lxIs`, `lx_of_pending`) -/
def Delim (rest : List Char) : Prop :=
  rest = [] ∨ ∃ r, rest = ' ' :: r ∨ rest = ')' :: r ∨ rest = ',' :: r ∨ rest = '\n' :: r

def Lx (u : List Char) (ts : List Tok) : Prop :=
  ∀ (T pre rest : List Char) (f : List Tok) (fs : List (List Tok)), T = pre ++ u ++ rest → Delim rest →
    runTail Gen.cfgS T (u ++ rest) ⟨pre.length, pre.length, .WAIT, f :: fs⟩ =
      runTail Gen.cfgS T rest ⟨pre.length + u.length, pre.length + u.length, .WAIT, (f ++ ts) :: fs⟩

theorem Lx.of_tk {u : List Char} {tk : Tok} (hb : Tk u tk ' ') (hp : Tk u tk ')') (hc : Tk u tk ',') (hn : Tk u tk '\n')
    (he : TkEnd u tk) : Lx u [tk] := by
  intro T pre rest f fs hT hd
  rcases hd with rfl | ⟨r, rfl | rfl | rfl | rfl⟩
  · simp only [List.append_nil] at hT ⊢
    exact he T pre f fs hT
  · exact hb T pre r f fs hT
  · exact hp T pre r f fs hT
  · exact hc T pre r f fs hT
  · exact hn T pre r f fs hT

/-! ## the context as a parameter -/

-- `Lx u ts` and `LxD Delim u ts` unfold to the same term; the lemmas below pass one for the other
def LxD (D : List Char → Prop) (u : List Char) (ts : List Tok) : Prop :=
  ∀ (T pre rest : List Char) (f : List Tok) (fs : List (List Tok)), T = pre ++ u ++ rest → D rest →
    runTail Gen.cfgS T (u ++ rest) ⟨pre.length, pre.length, .WAIT, f :: fs⟩ =
      runTail Gen.cfgS T rest ⟨pre.length + u.length, pre.length + u.length, .WAIT, (f ++ ts) :: fs⟩

def NextIs (d : Char) (rest : List Char) : Prop := ∃ r, rest = d :: r

abbrev LxAny (g : List Char) (tg : List Tok) : Prop := LxD (fun _ => True) g tg

theorem Tk.ctx {u : List Char} {tk : Tok} {d : Char} : Tk u tk d ↔ LxD (NextIs d) u [tk] :=
  ⟨fun h T pre rest f fs hT ⟨r, hr⟩ => by subst hr; exact h T pre r f fs hT, fun h T pre more f fs hT => h T pre _ f fs hT ⟨more, rfl⟩⟩

theorem LxD.mono {D D' : List Char → Prop} {u : List Char} {ts : List Tok} (h : LxD D u ts) (hD : ∀ r, D' r → D r) : LxD D' u ts :=
  fun T pre rest f fs hT hd => h T pre rest f fs hT (hD rest hd)

theorem LxD.congr {D : List Char → Prop} {u u' : List Char} {ts ts' : List Tok} (h : LxD D u ts) (e1 : u = u') (e2 : ts = ts') :
    LxD D u' ts' := e1 ▸ e2 ▸ h

theorem LxAny.lx {g : List Char} {tg : List Tok} (h : LxAny g tg) : Lx g tg := LxD.mono h fun _ _ => trivial
theorem LxAny.tk {u : List Char} {tk : Tok} (h : LxAny u [tk]) (d : Char) : Tk u tk d := Tk.ctx.mpr (LxD.mono h fun _ _ => trivial)

theorem delim_hd {c : Char} (hc : c = ' ' ∨ c = ')' ∨ c = ',' ∨ c = '\n') {r : List Char} : Delim (c :: r) := by
  rcases hc with rfl | rfl | rfl | rfl
  · exact .inr ⟨r, .inl rfl⟩
  · exact .inr ⟨r, .inr (.inl rfl)⟩
  · exact .inr ⟨r, .inr (.inr (.inl rfl))⟩
  · exact .inr ⟨r, .inr (.inr (.inr rfl))⟩

/-- **two pieces**: `b` with its rest is a context of `a` -/
theorem LxD.append {D D' : List Char → Prop} {a b : List Char} {ta tb : List Tok} (ha : LxD D' a ta) (hb : LxD D b tb)
    (h : ∀ rest, D rest → D' (b ++ rest)) : LxD D (a ++ b) (ta ++ tb) := by
  intro T pre rest f fs hT hd
  have hT1 : T = pre ++ a ++ (b ++ rest) := by rw [hT]; simp
  have hT2 : T = (pre ++ a) ++ b ++ rest := by rw [hT]; simp
  have h1 := ha T pre (b ++ rest) f fs hT1 (h rest hd)
  have h2 := hb T (pre ++ a) rest (f ++ ta) fs hT2 hd
  simp only [List.length_append, List.append_assoc] at h1 h2 ⊢
  rw [h1, h2]
  congr 2 <;> omega

theorem LxD.paren {D : List Char → Prop} {a : List Char} {ta : List Tok} (ha : LxD (NextIs ')') a ta) :
    LxD D ('(' :: (a ++ [')'])) [.group .paren ta Gen.mark_PARENTHESIS] := by
  intro T pre rest f fs hT _
  have e1 : ('(' :: (a ++ [')'])) ++ rest = '(' :: (a ++ (')' :: rest)) := by simp
  rw [e1, step_open]
  have hT1 : T = (pre ++ ['(']) ++ a ++ (')' :: rest) := by rw [hT]; simp
  have := ha T (pre ++ ['(']) (')' :: rest) [] (f :: fs) hT1 ⟨_, rfl⟩
  simp only [List.length_append, List.length_cons, List.length_nil, List.nil_append] at this ⊢
  rw [this, step_close]
  congr 2 <;> omega

theorem LxD.prefix {D : List Char → Prop} {u b : List Char} {tk : Tok} {tb : List Tok} {c : Char} {b' : List Char} (hb : LxD D b tb)
    (hc : b = c :: b') (hu : Tk u tk c) : LxD D (u ++ b) (tk :: tb) :=
  LxD.append (Tk.ctx.mp hu) hb fun rest _ => ⟨b' ++ rest, by rw [hc]; rfl⟩

/-- `u`, read from between tokens in any context, is consumed entirely, appends exactly the token `tk` and leaves the
lexer between tokens -/
def FeedsTo (u : List Char) (tk : Tok) : Prop :=
  ∀ (T pre rest : List Char) (f : List Tok) (fs : List (List Tok)), T = pre ++ u ++ rest →
    feedAllWith (handle Gen.cfgS T) u ⟨pre.length, pre.length, .WAIT, f :: fs⟩ =
      .ok ⟨pre.length + u.length, pre.length + u.length, .WAIT, (f ++ [tk]) :: fs⟩

theorem LxAny.of_feed {u : List Char} {tk : Tok} (h : FeedsTo u tk) : LxAny u [tk] := by
  intro T pre rest f fs hT _
  rw [runTail_append_ok (h T pre rest f fs hT)]

theorem LxAny.paren {a : List Char} {ta : List Tok} (ha : Lx a ta) :
    LxAny ('(' :: (a ++ [')'])) [.group .paren ta Gen.mark_PARENTHESIS] :=
  LxD.paren (LxD.mono ha fun _ ⟨_, h⟩ => h ▸ delim_hd (.inr (.inl rfl)))

theorem gap_blank : LxAny [' '] [] := fun T pre rest f fs _ _ => by
  simpa using step_blank T rest pre.length (f :: fs)

theorem Lx.cat {a g b : List Char} {ta tg tb : List Tok} (ha : Lx a ta) (hg : LxAny g tg) (hd : ∀ r, Delim (g ++ r)) (hb : Lx b tb) :
    Lx (a ++ (g ++ b)) (ta ++ (tg ++ tb)) :=
  LxD.append ha (LxD.append hg hb fun _ _ => trivial) fun rest _ => by rw [List.append_assoc]; exact hd _

theorem Lx.sep {a b : List Char} {ta tb : List Tok} (ha : Lx a ta) (hb : Lx b tb) : Lx (a ++ ' ' :: b) (ta ++ tb) :=
  Lx.cat ha gap_blank (fun _ => delim_hd (.inl rfl)) hb

theorem Lx.paren {a : List Char} {ta : List Tok} (ha : Lx a ta) :
    Lx ('(' :: (a ++ [')'])) [.group .paren ta Gen.mark_PARENTHESIS] := (LxAny.paren ha).lx

theorem Lx.prefix {u b : List Char} {tk : Tok} {tb : List Tok} {c : Char} {b' : List Char} (hb : Lx b tb)
    (hc : b = c :: b') (hu : Tk u tk c) : Lx (u ++ b) (tk :: tb) := LxD.prefix hb hc hu

/-! ## closed token texts: a path check on the table -/

theorem tk_of_pending {u : List Char} {p : S} {d : Char} {o : Op} {tk : Tok} (hp : addPath Gen.cfgS .WAIT u = some p)
    (hl : Gen.cfgS.lookup p (.ch d) = some o) (ho : endsBefore o = true) (ht : endToks Gen.cfgS o u = [tk]) : Tk u tk d := by
  intro T pre more f fs hT
  have := feed_pending shipped_code hp hl ho pre more f fs
  rw [ht, ← hT] at this
  have e1 : u ++ d :: more = (u ++ [d]) ++ more := by simp
  rw [e1, runTail_append, this, runTail_cons_wait]
  cases dropFlag (Lex.handle Gen.cfgS T _ (.ch d)) <;> rfl

theorem feed_of_complete {ur : List Char} {c : Char} {p : S} {k : Nat} (hp : addPath Gen.cfgS .WAIT ur = some p)
    (hl : Gen.cfgS.lookup p (.ch c) = some (emitWith k) ∨ (Gen.cfgS.lookup p (.ch c) = some (emitStay k) ∧ p = .WAIT)) :
    FeedsTo (ur ++ [c]) (.single (ur ++ [c]) k) := by
  intro T pre rest f fs hT
  rcases hl with hl | ⟨hl, rfl⟩
  · rw [hT]; exact feed_complete shipped_code hp hl pre rest f fs
  · rw [feedAllWith_append_ok (addPath_run shipped_code T ur _ _ hp _ _ _), feedAllWith_one,
      feedWith_adv (handle_emitStay shipped_code (m := ⟨pre.length, pre.length + ur.length, .WAIT, f :: fs⟩) hl rfl)]
    have hw : win T ⟨pre.length, pre.length + ur.length, .WAIT, f :: fs⟩ (pre.length + ur.length + 1) = ur ++ [c] := by
      have := win_mid pre (ur ++ [c]) rest (pre.length + ur.length) .WAIT (f :: fs)
      rw [hT]; simpa [Nat.add_assoc] using this
    rw [hw]; simp [Nat.add_assoc]

theorem tk_of_feed {u : List Char} {tk : Tok} (h : FeedsTo u tk) (d : Char) : Tk u tk d := (LxAny.of_feed h).tk d

/-- the token that `u` becomes when its last character completes it: the cell is `emitWith`, or `emitStay` read in WAIT
(`emitStay` keeps the state, so only from WAIT does one land between tokens again); `none`: it does not -/
def completeCheck (u : List Char) : Option Tok :=
  match u.reverse with
  | [] => none
  | c :: ur =>
    match addPath Gen.cfgS .WAIT ur.reverse with
    | some p =>
      match Gen.cfgS.lookup p (.ch c) with
      | some o => if o == emitWith o.marks || (o == emitStay o.marks && p == .WAIT) then some (.single u o.marks) else none
      | none => none
    | none => none

theorem feed_of_completeCheck {u : List Char} {tk : Tok} (h : completeCheck u = some tk) : FeedsTo u tk := by
  unfold completeCheck at h
  cases hr : u.reverse with
  | nil => rw [hr] at h; cases h
  | cons c ur =>
    rw [hr] at h
    simp only at h
    have hu : u = ur.reverse ++ [c] := by simpa using congrArg List.reverse hr
    cases hp2 : addPath Gen.cfgS .WAIT ur.reverse with
    | none => rw [hp2] at h; cases h
    | some p =>
      rw [hp2] at h
      simp only at h
      cases ho : Gen.cfgS.lookup p (.ch c) with
      | none => rw [ho] at h; cases h
      | some o =>
        rw [ho] at h
        simp only at h
        split at h
        · rename_i hc
          cases h
          rw [hu]
          refine feed_of_complete hp2 ?_
          simp only [Bool.or_eq_true, Bool.and_eq_true, beq_iff_eq] at hc
          rcases hc with hc | ⟨hc, hw⟩
          · exact Or.inl (by rw [ho, ← hc])
          · exact Or.inr ⟨by rw [ho, ← hc], hw⟩
        · cases h

/-- `u`, read from between tokens and followed by `d`: the token it becomes (`none`: the check does not apply) -/
def tkCheck (u : List Char) (d : Char) : Option Tok :=
  match addPath Gen.cfgS .WAIT u with
  | some p =>
    -- pending: `d` must end the token without being taken
    match Gen.cfgS.lookup p (.ch d) with
    | some o => if endsBefore o then (match endToks Gen.cfgS o u with | [t] => some t | _ => none) else none
    | none => none
  | none => completeCheck u

theorem tk_of_check (u : List Char) (d : Char) (tk : Tok) (h : tkCheck u d = some tk) : Tk u tk d := by
  unfold tkCheck at h
  cases hp : addPath Gen.cfgS .WAIT u with
  | some p =>
    rw [hp] at h
    simp only at h
    cases ho : Gen.cfgS.lookup p (.ch d) with
    | none => rw [ho] at h; cases h
    | some o =>
      rw [ho] at h
      simp only at h
      split at h
      · rename_i hc
        split at h
        · rename_i t ht; cases h; exact tk_of_pending hp ho hc ht
        · cases h
      · cases h
  | none => rw [hp] at h; exact tk_of_feed (feed_of_completeCheck h) d

theorem runTail_nil_wait (T : List Char) (n : Nat) (stk : List (List Tok)) :
    runTail Gen.cfgS T [] ⟨n, n, .WAIT, stk⟩ = Lex.finish Gen.cfgS ⟨n, n, .END, stk⟩ := by
  simp only [runTail, feedAllWith, handle_finish shipped_code (m := ⟨n, n, .WAIT, stk⟩) wait_end]

theorem tkEnd_of_pending {u : List Char} {p : S} {o : Op} {tk : Tok} (hp : addPath Gen.cfgS .WAIT u = some p)
    (hl : Gen.cfgS.lookup p .eof = some o) (ho : endsAtEnd o = true) (ht : endToks Gen.cfgS o u = [tk]) : TkEnd u tk := by
  intro T pre f fs hT
  have h2 := handle_pending_eof shipped_code (u := u) hl ho pre f fs
  rw [ht, ← hT] at h2
  have := runTail_append_ok (addPath_run shipped_code T u _ _ hp pre.length pre.length (f :: fs)) []
  rw [List.append_nil] at this
  rw [this, runTail_nil_wait]
  simp only [runTail, feedAllWith, h2]

theorem tkEnd_of_feed {u : List Char} {tk : Tok} (h : FeedsTo u tk) : TkEnd u tk := by
  intro T pre f fs hT
  have := runTail_append_ok (h T pre [] f fs (by simpa using hT)) []
  simpa using this

def tkEndCheck (u : List Char) : Option Tok :=
  match addPath Gen.cfgS .WAIT u with
  | some p =>
    match Gen.cfgS.lookup p .eof with
    | some o => if endsAtEnd o then (match endToks Gen.cfgS o u with | [t] => some t | _ => none) else none
    | none => none
  | none => completeCheck u

theorem tkEnd_of_check (u : List Char) (tk : Tok) (h : tkEndCheck u = some tk) : TkEnd u tk := by
  unfold tkEndCheck at h
  cases hp : addPath Gen.cfgS .WAIT u with
  | some p =>
    rw [hp] at h
    simp only at h
    cases ho : Gen.cfgS.lookup p .eof with
    | none => rw [ho] at h; cases h
    | some o =>
      rw [ho] at h
      simp only at h
      split at h
      · rename_i hc
        split at h
        · rename_i t ht; cases h; exact tkEnd_of_pending hp ho hc ht
        · cases h
      · cases h
  | none => rw [hp] at h; exact tkEnd_of_feed (feed_of_completeCheck h)

/-- Bool forms, decidable by the kernel for closed token texts -/
def tkIs (u : List Char) (d : Char) (tk : Tok) : Bool := match tkCheck u d with | some t => Tok.eqb t tk | none => false
def tkEndIs (u : List Char) (tk : Tok) : Bool := match tkEndCheck u with | some t => Tok.eqb t tk | none => false
/-- `u` is a complete expression-level token: before a blank, `)`, `,`, a line break, and at the end of the text -/
def lxIs (u : List Char) (tk : Tok) : Bool :=
  tkIs u ' ' tk && tkIs u ')' tk && tkIs u ',' tk && tkIs u '\n' tk && tkEndIs u tk

theorem tk_of_is {u : List Char} {d : Char} {tk : Tok} (h : tkIs u d tk = true) : Tk u tk d := by
  unfold tkIs at h
  cases hc : tkCheck u d with
  | none => rw [hc] at h; cases h
  | some t => rw [hc] at h; exact Tok.eqb_sound t tk h ▸ tk_of_check u d t hc

theorem tkEnd_of_is {u : List Char} {tk : Tok} (h : tkEndIs u tk = true) : TkEnd u tk := by
  unfold tkEndIs at h
  cases hc : tkEndCheck u with
  | none => rw [hc] at h; cases h
  | some t => rw [hc] at h; exact Tok.eqb_sound t tk h ▸ tkEnd_of_check u t hc

theorem lx_of_is {u : List Char} {tk : Tok} (h : lxIs u tk = true) : Lx u [tk] := by
  simp only [lxIs, Bool.and_eq_true] at h
  exact Lx.of_tk (tk_of_is h.1.1.1.1) (tk_of_is h.1.1.1.2) (tk_of_is h.1.1.2) (tk_of_is h.1.2) (tkEnd_of_is h.2)

/-! ## the variable tokens -/

theorem lxany_name (c : List Char) (hc : ∀ x ∈ c, x ≠ '`') :
    LxAny ('`' :: (c ++ ['`'])) [.single ('`' :: (c ++ ['`'])) Gen.mark_NAME] :=
  LxAny.of_feed fun T pre rest f fs hT => by
    rw [hT]; exact backquote_in_context pre c rest (fun x hx => ⟨hc x hx, fun h => absurd rfl h⟩) f fs

theorem lx_name (c : List Char) (hc : ∀ x ∈ c, x ≠ '`') :
    Lx ('`' :: (c ++ ['`'])) [.single ('`' :: (c ++ ['`'])) Gen.mark_NAME] := (lxany_name c hc).lx

theorem lx_of_pending {u : List Char} {tk : Tok}
    (h : ∃ p, addPath Gen.cfgS .WAIT u = some p ∧
      (∀ d : Char, d = ' ' ∨ d = ')' ∨ d = ',' ∨ d = '\n' →
        ∃ o, Gen.cfgS.lookup p (.ch d) = some o ∧ endsBefore o = true ∧ endToks Gen.cfgS o u = [tk]) ∧
      ∃ o, Gen.cfgS.lookup p .eof = some o ∧ endsAtEnd o = true ∧ endToks Gen.cfgS o u = [tk]) : Lx u [tk] := by
  obtain ⟨p, hp, hd, oe, he1, he2, he3⟩ := h
  have hd1 : ∀ d : Char, d = ' ' ∨ d = ')' ∨ d = ',' ∨ d = '\n' → Tk u tk d := fun d hdd => by
    obtain ⟨o, h1, h2, h3⟩ := hd d hdd
    exact tk_of_pending hp h1 h2 h3
  exact Lx.of_tk (hd1 ' ' (Or.inl rfl)) (hd1 ')' (Or.inr (Or.inl rfl))) (hd1 ',' (Or.inr (Or.inr (Or.inl rfl))))
    (hd1 '\n' (Or.inr (Or.inr (Or.inr rfl)))) (tkEnd_of_pending hp he1 he2 he3)

theorem lx_int (ds : List Char) (hne : ds ≠ []) (hd : ∀ c ∈ ds, isDigit c.toNat = true) :
    Lx ds [.single ds (Gen.mark_LITERAL ||| Gen.mark_LITERAL_INT)] := by
  obtain ⟨q, hq, hp⟩ := int_path ds hne hd
  refine lx_of_pending ⟨q, hp, fun d hdd => ⟨emitBefore mInt, ?_, rfl, rfl⟩, emitAtEnd mInt, ?_, rfl, rfl⟩
  · rcases hq with rfl | rfl <;> rcases hdd with rfl | rfl | rfl | rfl <;> exact look (by decide +kernel)
  · rcases hq with rfl | rfl <;> exact lookEnd (by decide +kernel)

theorem lx_string (k : QK) (hk : k ≠ .bq) (body : List Char) (hb : strBody k.ch body = true) :
    Lx (k.wrap body) [.single (k.wrap body) (Gen.mark_LITERAL ||| Gen.mark_NAME)] := by
  refine lx_of_pending ⟨k.pending, wrap_path k hk body hb,
    fun d hdd => ⟨emitBefore (mString ||| mName), s_next k hk d ?_, rfl, rfl⟩, _, s_end k hk, rfl, rfl⟩
  rcases hdd with rfl | rfl | rfl | rfl <;> cases k <;> decide

theorem lx_of_inword (w : List Char) (hp : addPath Gen.cfgS .WAIT w = some .IN_WORD) : Lx w [.single w (C05.wordMark w)] :=
  lx_of_pending ⟨.IN_WORD, hp,
    fun d hdd => ⟨emitWordBefore, word_stop d (by rcases hdd with rfl | rfl | rfl | rfl <;> decide +kernel), rfl, rfl⟩,
    emitWordAtEnd, lookEnd (by decide +kernel), rfl, rfl⟩

/-- a word (not beginning with a digit or `b B x X`): the marks are the keyword table's, default NAME -/
theorem lx_word (w : List Char) (hw : isWord w = true) : Lx w [.single w (C05.wordMark w)] :=
  lx_of_inword w (word_path w hw)

end LexLink
