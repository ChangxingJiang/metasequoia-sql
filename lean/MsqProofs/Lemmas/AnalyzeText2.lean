import MsqProofs.Lemmas.AnalyzeText
/-!
# The table tokens of a fragment rendering are the printed names of the specified table list (C14 on texts)

One `mutual` block of structurally recursive theorems, one per function of the token-level printer (`TQ.toksE3` … `TQ.toksOrder3`):
each piece of a rendering is walked over by the scanner `AT.tabL` and yields exactly the tokens of the tables the specification
(`Spec.tablesE` … `Spec.tablesS`) lists for that piece.
-/
open Lex PM Ast TP TP2 TS TQ Spec
namespace AT
variable {d : Gen.D} (ch : Expr → Bool)

/-- a piece at a table position (after `FROM`, `JOIN` or a comma of the FROM list) -/
structure RefOK (ts : List Tok) (l : List Tbl) : Prop where
  scan : ∀ fl rest, tabL (.expect fl) (ts ++ rest) = l.map tk ++ tabL (.after fl) rest
  ok : AllOK l
/-- the rest of a FROM list: `, ref [AS a]` repeated -/
structure TailOK (ts : List Tok) (l : List Tbl) : Prop where
  scan : ∀ rest, tabL (.after true) (ts ++ rest) = l.map tk ++ tabL (.after true) rest
  ok : AllOK l

theorem refT_tbl (s : Option String) (n : String) : refT (tblTok s n) = [tblTok s n] := by cases s <;> rfl
theorem idle_from (r : List Tok) : tabL .idle (opTok "FROM" :: r) = tabL (.expect true) r := by
  have : (opTok "FROM").equalsStr "FROM" = true := by decide
  simp [tabL, this]
theorem after_comma (r : List Tok) : tabL (.after true) (TS.commaTok :: r) = tabL (.expect true) r := by
  have h1 : TS.commaTok.equalsStr "AS" = false := by decide
  have h2 : TS.commaTok.equalsStr "," = true := by decide
  simp [tabL, h1, h2]
theorem hd_ON (r : List Tok) : hdOK (opTok "ON" :: r) = true := by
  have h1 : (opTok "ON").equalsStr "AS" = false := by decide
  have h2 : (opTok "ON").equalsStr "," = false := by decide
  simp [hdOK, h1, h2]

theorem TabOKH.pre {p b : List Tok} {y : List Tbl} (hp : ∀ rest, tabL .idle (p ++ rest) = tabL .idle rest) (hb : TabOKH b y) :
    TabOKH (p ++ b) y :=
  ⟨fun rest hr => by rw [List.append_assoc, hp, hb.scan rest hr], hb.ok⟩

theorem hdp_joins (js : List Join) (h : joinsOK3 d js = true) : HdP (toksJoins3 d ch js) := by
  cases js with
  | nil => simp only [toksJoins3]; exact HdP.nil
  | cons j js =>
    cases j with
    | mk ty t rule =>
      simp only [joinsOK3, joinOK3, Bool.and_eq_true] at h
      simp only [toksJoins3, toksJoin3]
      intro rest _
      rw [List.append_assoc, List.append_assoc]
      exact (joinWords_facts h.1.1.1).2 _
theorem hdp_optE (kw : String) (h1 : (opTok kw).equalsStr "AS" = false) (h2 : (opTok kw).equalsStr "," = false) (e : Option Expr) :
    HdP (toksOptE3 d ch kw e) := by
  cases e with
  | none => simp only [toksOptE3]; exact HdP.nil
  | some e => simp only [toksOptE3]; exact HdP.cons h1 h2 _
theorem hdp_group (gb : Option GroupBy) : HdP (toksGroup3 d ch gb) := by
  cases gb with
  | none => simp only [toksGroup3]; exact HdP.nil
  | some g =>
    cases g with
    | mk cols sets cube rollup =>
      cases cols with
      | nil => simp only [toksGroup3]; exact HdP.nil
      | cons e es => simp only [toksGroup3]; exact HdP.cons (by decide) (by decide) _
theorem hdp_order (ob : Option (List OrderItem)) : HdP (toksOrder3 d ch ob) := by
  cases ob with
  | none => simp only [toksOrder3]; exact HdP.nil
  | some l =>
    cases l with
    | nil => simp only [toksOrder3]; exact HdP.nil
    | cons o os => simp only [toksOrder3]; exact HdP.cons (by decide) (by decide) _
theorem hdp_un (us : List (String × Select)) (h : FragUn d us = true) : HdP (toksUn d ch us) := by
  cases us with
  | nil => simp only [toksUn]; exact HdP.nil
  | cons p r =>
    obtain ⟨t, s⟩ := p
    simp only [FragUn, Bool.and_eq_true] at h
    simp only [toksUn]
    intro rest _
    rw [List.append_assoc]
    exact (unionWords_facts h.1.1).2 _

theorem fragS3_shape {ws : Option (List WithTable)} {dist : Bool} {cols : List (Expr × Option String)} {fr : Option (List FromTable)}
    {lats : List Lateral} {js : List Join} {wh : Option Expr} {gb : Option GroupBy} {hv : Option Expr} {ob sb : Option (List OrderItem)}
    {db cb : Option (List Expr)} {lm : Option (Int × Option Int)}
    (h : FragS3 d (.mk ws dist cols fr lats js wh gb hv ob sb db cb lm) = true) :
    ws = some [] ∧ lats = [] ∧ sb = none ∧ db = none ∧ cb = none := by
  rcases ws with _ | _ | _ <;> rcases lats with _ | _ <;> rcases sb with _ | _ <;> rcases db with _ | _ <;> rcases cb with _ | _ <;>
    first | (simp [FragS3] at h; done) | exact ⟨rfl, rfl, rfl, rfl, rfl⟩

mutual
theorem tE : ∀ (e : Expr), FragE3 d e = true → TabOK (toksE3 d ch e) (tablesE e)
  | e, h => by
    cases e <;> try simp only [FragE3, Bool.and_eq_true, Bool.false_eq_true] at h
    all_goals try simp only [toksE3, tablesE]
    case column t c =>
      cases t with
      | none => simp only [toksE3]; exact TabOK.one (skip_name c)
      | some t => simp only [toksE3]; exact TabOK.cons (skip_name t) (TabOK.cons sk (TabOK.one (skip_name c)))
    case literal v => exact TabOK.one (skip_lit v h)
    case wildcard t =>
      cases t with
      | none => simp only [toksE3]; exact TabOK.one sk
      | some t =>
        simp only [FragE3, wildOK] at h
        exact TabOK.cons (skip_q t (nm_has h)) (TabOK.cons sk (TabOK.one sk))
    case func s n ps =>
      have ha := (tArgs 14 ps h.2).grp
      have h1 := h.1
      cases s with
      | none =>
        simp only [fnOK, Bool.and_eq_true] at h1
        exact (TabOK.cons (skip_q n (nm_has h1.2.1)) ha).cast (by simp) rfl
      | some s =>
        simp only [fnOK, Bool.and_eq_true] at h1
        exact (TabOK.cons (skip_name s) (TabOK.cons (sk (w := ".")) (TabOK.cons (skip_q n (nm2_has h1.2.2)) ha))).cast (by simp [dotTok]) rfl
    case agg n ps dist =>
      simp only [aggOK, Bool.and_eq_true] at h
      exact (TabOK.cons (skip_agg n h.1.1.1) ((TabOK.ite dist (TabOK.one sk)).app (tArgs 14 ps h.2)).grp).cast rfl (by simp)
    case caseCond cs els =>
      exact (TabOK.cons sk ((tArms cs h.1.1).app ((tElse els h.1.2).app (TabOK.one sk)))).cast rfl (by simp)
    case caseVal v cs els =>
      exact (TabOK.cons sk (((tE v h.1.1.1).wrap _ _ _).app ((tArms cs h.1.1.2).app ((tElse els h.1.2).app (TabOK.one sk))))).cast rfl
        (by simp)
    case subQuery q => exact (tQ q h).grp
    case exists_ v => exact TabOK.cons sk (tSub v h)
    case unary o e => exact TabOK.cons (skip_cval o) ((tE e h.2).wrap _ _ _)
    case compute l o r => exact ((tE l h.1.2).wrap _ _ _).app (TabOK.cons (skip_cval o) ((tE r h.2).wrap _ _ _))
    case kw k n l r =>
      have hr : TabOK (toksE3 d ch r) (tablesE r) := by
        have h2 := h.1.2
        by_cases hk : (k == KwKind.in_) = true
        · simp only [hk, if_true] at h2; exact tIn r h2
        · simp only [hk] at h2; exact tE r h2
      exact (((tE l h.1.1).wrap _ _ _).app ((tab_kwToks k n).app (hr.wrap _ _ _))).cast rfl (by simp)
    case between n b f t =>
      exact (((tE b h.1.1.1).wrap _ _ _).app ((TabOK.ite n (TabOK.one sk)).app (TabOK.cons sk
        (((tE f h.1.1.2).wrap _ _ _).app (TabOK.cons sk ((tE t h.1.2).wrap _ _ _)))))).cast rfl (by simp)
    case compare o l r => exact ((tE l h.1.1.2).wrap _ _ _).app (TabOK.cons (skip_cmpVal o) ((tE r h.1.2).wrap _ _ _))
    case not_ e => exact TabOK.cons sk ((tE e h).wrap _ _ _)
    case and_ l r | xor l r | or_ l r => exact ((tE l h.1).wrap _ _ _).app (TabOK.cons sk ((tE r h.2).wrap _ _ _))
theorem tSub : ∀ (v : Expr), isSubQ d v = true → TabOK (toksE3 d ch v) (tablesE v)
  | v, h => by
    cases v with
    | subQuery q => simp only [isSubQ] at h; simp only [toksE3, tablesE]; exact (tQ q h).grp
    | _ => simp [isSubQ] at h
theorem tIn : ∀ (r : Expr), inRhs3 d r = true → TabOK (toksE3 d ch r) (tablesE r)
  | r, h => by
    cases r with
    | subQuery q => simp only [inRhs3] at h; simp only [toksE3, tablesE]; exact (tQ q h).grp
    | subValue vs =>
      simp only [inRhs3, Bool.and_eq_true] at h
      exact (tArgs 8 vs h.1.1).grp
    | _ => simp [inRhs3] at h
theorem tArgs (k : Nat) : ∀ (ps : List Expr), FragL3 d ps = true → TabOK (toksArgs3 d ch k ps) (tablesEs ps)
  | [], _ => by simp only [toksArgs3, tablesEs]; exact TabOK.nil
  | a :: as, h => by
    simp only [FragL3, Bool.and_eq_true] at h
    exact ((tE a h.1).wrap _ _ _).app (tArgsTail k as h.2)
theorem tArgsTail (k : Nat) : ∀ (ps : List Expr), FragL3 d ps = true → TabOK (toksArgsTail3 d ch k ps) (tablesEs ps)
  | [], _ => by simp only [toksArgsTail3, tablesEs]; exact TabOK.nil
  | a :: as, h => by
    simp only [FragL3, Bool.and_eq_true] at h
    exact TabOK.cons sk (((tE a h.1).wrap _ _ _).app (tArgsTail k as h.2))
theorem tArms : ∀ (cs : List (Expr × Expr)), FragA3 d cs = true → TabOK (toksArms3 d ch cs) (tablesArms cs)
  | [], _ => by simp only [toksArms3, tablesArms]; exact TabOK.nil
  | (w, t) :: r, h => by
    simp only [FragA3, Bool.and_eq_true] at h
    simp only [toksArms3, tablesArms]
    exact (TabOK.cons sk (((tE w h.1.1).wrap _ _ _).app (TabOK.cons sk (((tE t h.1.2).wrap _ _ _).app (tArms r h.2))))).cast rfl
      (by simp)
theorem tElse : ∀ (y : Option Expr), FragO3 d y = true → TabOK (toksElse3 d ch y) (tablesOE y)
  | none, _ => by simp only [toksElse3, tablesOE]; exact TabOK.nil
  | some y, h => by
    simp only [FragO3] at h
    exact TabOK.cons sk ((tE y h).wrap _ _ _)
theorem tQ : ∀ (q : Query), FragQ d q = true → TabOKH (toksQ d ch q) (tablesQ q)
  | .single s, h => by simp only [FragQ] at h; simp only [toksQ, tablesQ]; exact tS s h
  | .union ws s us, h => by
    simp only [FragQ, Bool.and_eq_true] at h
    have hw : ws = some [] := by
      rcases ws with _ | _ | _ <;> first | rfl | (have := h.1.1.1; simp at this)
    subst hw
    exact (tS s h.1.1.2).app (tUn us h.1.2) (hdp_un ch us h.1.2)
theorem tUn : ∀ (us : List (String × Select)), FragUn d us = true → TabOKH (toksUn d ch us) (tablesU us)
  | [], _ => by simp only [toksUn, tablesU]; exact TabOK.nil.toH
  | (t, s) :: r, h => by
    simp only [FragUn, Bool.and_eq_true] at h
    simp only [toksUn, tablesU]
    exact TabOKH.pre (unionWords_facts h.1.1).1 ((tS s h.1.2).app (tUn r h.2) (hdp_un ch r h.2))
theorem tS : ∀ (s : Select), FragS3 d s = true → TabOKH (toksS3 d ch s) (tablesS s)
  | s, h => by
    cases s with
    | mk ws dist cols fr lats js wh gb hv ob sb db cb lm =>
      obtain ⟨rfl, rfl, rfl, rfl, rfl⟩ := fragS3_shape h
      simp only [FragS3, Bool.and_eq_true] at h
      obtain ⟨⟨⟨⟨⟨⟨⟨⟨⟨hc, _⟩, hfr⟩, hjs⟩, hwh⟩, hgb⟩, hhv⟩, hob⟩, hlm⟩, _⟩ := h
      simp only [toksS3, tablesS, tablesWiths, tablesWs, tablesLats, tablesOOs, tablesOEs, List.nil_append, List.append_nil]
      have tail : TabOK (toksOptE3 d ch "WHERE" wh ++ (toksGroup3 d ch gb ++ (toksOptE3 d ch "HAVING" hv ++ (toksOrder3 d ch ob ++ toksLimit lm))))
          (tablesOE wh ++ (tablesOG gb ++ (tablesOE hv ++ (tablesOOs ob ++ [])))) :=
        (tOptE "WHERE" sk wh hwh).app ((tGroup gb hgb).app ((tOptE "HAVING" sk hv hhv).app ((tOrder ob hob).app (tab_limit lm hlm))))
      have hp1 : HdP (toksOptE3 d ch "WHERE" wh ++ (toksGroup3 d ch gb ++ (toksOptE3 d ch "HAVING" hv ++ (toksOrder3 d ch ob ++ toksLimit lm)))) :=
        (hdp_optE ch "WHERE" (by decide) (by decide) wh).app ((hdp_group ch gb).app ((hdp_optE ch "HAVING" (by decide) (by decide) hv).app
          ((hdp_order ch ob).app (hdp_limit lm))))
      exact (TabOK.consH sk ((TabOK.ite dist (TabOK.one sk)).appH ((tCols cols hc).appH
        ((tFrom fr hfr).app ((tJoins js hjs).app tail.toH hp1) ((hdp_joins ch js hjs).app hp1))))).cast rfl (by simp)
theorem tCols : ∀ (cs : List (Expr × Option String)), colsOK3 d cs = true → TabOK (toksCols3 d ch cs) (tablesCols cs)
  | [], _ => by simp only [toksCols3, tablesCols]; exact TabOK.nil
  | (e, a) :: cs, h => by
    simp only [colsOK3, Bool.and_eq_true] at h
    simp only [toksCols3, tablesCols]
    exact (((tE e h.1.1).app (tab_alias a h.1.2)).app (tColsTail cs h.2)).cast rfl (by simp)
theorem tColsTail : ∀ (cs : List (Expr × Option String)), colsOK3 d cs = true → TabOK (toksColsTail3 d ch cs) (tablesCols cs)
  | [], _ => by simp only [toksColsTail3, tablesCols]; exact TabOK.nil
  | (e, a) :: cs, h => by
    simp only [colsOK3, Bool.and_eq_true] at h
    simp only [toksColsTail3, tablesCols]
    exact (TabOK.cons sk (((tE e h.1.1).app (tab_alias a h.1.2)).app (tColsTail cs h.2))).cast rfl (by simp)
theorem tRef : ∀ (r : TableRef), refOK3 d r = true → RefOK (toksRef3 d ch r) (tablesRef r)
  | .table s n, h => by
    simp only [refOK3] at h
    simp only [toksRef3, tablesRef]
    exact ⟨fun fl rest => by simp [tabL, refT_tbl, tk], fun t ht => by simp only [List.mem_singleton] at ht; subst ht; exact h⟩
  | .sub q, h => by
    simp only [refOK3] at h
    simp only [toksRef3, tablesRef]
    have := (tQ q h).scan [] rfl
    simp only [List.append_nil, tabL] at this
    exact ⟨fun fl rest => by simp [tabL, grp, refT, this], (tQ q h).ok⟩
theorem tTable : ∀ (t : FromTable), tableOK3 d t = true → RefOK (toksTable3 d ch t) (tablesFT t)
  | .mk r a, h => by
    simp only [tableOK3, Bool.and_eq_true] at h
    simp only [toksTable3, tablesFT]
    exact ⟨fun fl rest => by rw [List.append_assoc, (tRef r h.1).scan, after_alias], (tRef r h.1).ok⟩
theorem tTablesTail : ∀ (ts : List FromTable), tablesOK3 d ts = true → TailOK (toksTablesTail3 d ch ts) (tablesFTs ts)
  | [], _ => by simp only [toksTablesTail3, tablesFTs]; exact ⟨fun rest => rfl, allOK_nil⟩
  | t :: ts, h => by
    simp only [tablesOK3, Bool.and_eq_true] at h
    simp only [toksTablesTail3, tablesFTs]
    exact ⟨fun rest => by
      rw [List.cons_append, after_comma, List.append_assoc, (tTable t h.1).scan, (tTablesTail ts h.2).scan, List.map_append,
        List.append_assoc], allOK_app (tTable t h.1).ok (tTablesTail ts h.2).ok⟩
theorem tFrom : ∀ (fr : Option (List FromTable)), fromOK3 d fr = true → TabOKH (toksFrom3 d ch fr) (tablesOFTs fr)
  | none, _ => by simp only [toksFrom3, tablesOFTs]; exact TabOK.nil.toH
  | some [], h => by simp [fromOK3] at h
  | some (t :: ts), h => by
    simp only [fromOK3, Bool.and_eq_true] at h
    simp only [toksFrom3, tablesOFTs, tablesFTs]
    exact ⟨fun rest hr => by
      rw [List.cons_append, idle_from, List.append_assoc, (tTable t h.1).scan, (tTablesTail ts h.2).scan, after_idle true hr,
        List.map_append, List.append_assoc], allOK_app (tTable t h.1).ok (tTablesTail ts h.2).ok⟩
theorem tJoin : ∀ (j : Join), joinOK3 d j = true → TabOKH (toksJoin3 d ch j) (tablesJ j)
  | .mk ty t none, h => by
    simp only [joinOK3, Bool.and_eq_true] at h
    simp only [toksJoin3, toksRule3, tablesJ, List.append_nil]
    exact ⟨fun rest hr => by rw [List.append_assoc, (joinWords_facts h.1.1).1, (tTable t h.1.2).scan, after_idle false hr],
      (tTable t h.1.2).ok⟩
  | .mk ty t (some (.on e)), h => by
    simp only [joinOK3, ruleOK3, Bool.and_eq_true] at h
    simp only [toksJoin3, toksRule3, tablesJ, tablesRule]
    exact ⟨fun rest hr => by
      rw [List.append_assoc, (joinWords_facts h.1.1).1, List.append_assoc, (tTable t h.1.2).scan, List.cons_append,
        after_idle false (hd_ON _), idle_skip sk, (tE e h.2).scan, List.map_append, List.append_assoc],
      allOK_app (tTable t h.1.2).ok (tE e h.2).ok⟩
  | .mk ty t (some (.using f)), h => by simp [joinOK3, ruleOK3] at h
theorem tJoins : ∀ (js : List Join), joinsOK3 d js = true → TabOKH (toksJoins3 d ch js) (tablesJs js)
  | [], _ => by simp only [toksJoins3, tablesJs]; exact TabOK.nil.toH
  | j :: js, h => by
    simp only [joinsOK3, Bool.and_eq_true] at h
    exact (tJoin j h.1).app (tJoins js h.2) (hdp_joins ch js h.2)
theorem tOptE (kw : String) (hk : Skip (opTok kw)) : ∀ (e : Option Expr), FragO3 d e = true → TabOK (toksOptE3 d ch kw e) (tablesOE e)
  | none, _ => by simp only [toksOptE3, tablesOE]; exact TabOK.nil
  | some e, h => by
    simp only [FragO3] at h
    exact TabOK.cons hk (tE e h)
theorem tGroup : ∀ (gb : Option GroupBy), groupOK3 d gb = true → TabOK (toksGroup3 d ch gb) (tablesOG gb)
  | none, _ => by simp only [toksGroup3, tablesOG]; exact TabOK.nil
  | some (.mk [] sets cube rollup), h => by simp [groupOK3] at h
  | some (.mk (e :: es) (some l) cube rollup), h => by simp [groupOK3] at h
  | some (.mk (e :: es) none cube rollup), h => by
    cases cube <;> cases rollup <;> try (simp [groupOK3] at h; done)
    simp only [groupOK3, Bool.and_eq_true] at h
    simp only [toksGroup3, tablesOG, tablesG, tablesEs, List.append_nil]
    exact TabOK.cons sk (TabOK.cons sk (((tE e h.1.1).wrap _ _ _).app (tArgsTail 8 es h.1.2)))
theorem tOrdItem : ∀ (o : OrderItem), ordItemOK3 d o = true → TabOK (toksOrdItem3 d ch o) (tablesO o)
  | .mk e desc nf nl, h => by
    simp only [ordItemOK3, Bool.and_eq_true] at h
    simp only [toksOrdItem3, tablesO]
    exact (((tE e h.1.1).wrap _ _ _).app (TabOK.ite desc (TabOK.one sk))).cast rfl (by simp)
theorem tOrdTail : ∀ (os : List OrderItem), ordTailOK3 d os = true → TabOK (toksOrdTail3 d ch os) (tablesOs os)
  | [], _ => by simp only [toksOrdTail3, tablesOs]; exact TabOK.nil
  | o :: os, h => by
    simp only [ordTailOK3, Bool.and_eq_true] at h
    exact TabOK.cons sk ((tOrdItem o h.1).app (tOrdTail os h.2))
theorem tOrder : ∀ (ob : Option (List OrderItem)), orderOK3 d ob = true → TabOK (toksOrder3 d ch ob) (tablesOOs ob)
  | none, _ => by simp only [toksOrder3, tablesOOs]; exact TabOK.nil
  | some [], h => by simp [orderOK3] at h
  | some (o :: os), h => by
    simp only [orderOK3, Bool.and_eq_true] at h
    exact TabOK.cons sk (TabOK.cons sk ((tOrdItem o h.1).app (tOrdTail os h.2)))
end

theorem tokTbl_tk (t : Tbl) (h : tblOK t.schema t.name = true) : tokTbl (tk t) = some t := by
  simp only [tblOK, Bool.and_eq_true] at h
  have h2 := h.1.2
  unfold tokTbl tk
  cases hs : splitName (tblTok t.schema t.name).src with
  | error e => rw [hs] at h2; simp [isOkPair] at h2
  | ok p =>
    obtain ⟨a, b⟩ := p
    rw [hs] at h2
    simp only [isOkPair, Bool.and_eq_true, beq_iff_eq] at h2
    obtain ⟨rfl, rfl⟩ := h2
    rfl
theorem names_of_toks : ∀ (l : List Tbl), AllOK l → (l.map tk).filterMap tokTbl = l
  | [], _ => rfl
  | t :: r, h => by
    have h1 := tokTbl_tk t (h t (by simp))
    have h2 := names_of_toks r (fun x hx => h x (by simp [hx]))
    simp [h1, h2]

/-- **the table tokens of a fragment rendering**: for every query of the nested fragment, whatever redundant brackets the rendering
carries, the scanner finds exactly the printed names of the specified table list, in order … -/
theorem tableToks_toksQ (q : Query) (h : FragQ d q = true) : tableToks (toksQ d ch q) = (tablesOf q).map tk := by
  have := (tQ ch q h).scan [] rfl
  simpa [tableToks, tabL, tablesOf] using this
/-- … and each of them reads back as its (schema, name) pair: the specified table list is a function of the TOKENS -/
theorem tableNames_toksQ (q : Query) (h : FragQ d q = true) : tableNames (toksQ d ch q) = tablesOf q := by
  unfold tableNames
  rw [tableToks_toksQ ch q h]
  exact names_of_toks _ (tQ ch q h).ok

/-- the FROM-only variant: the table tokens of the FROM segment of a branch's rendering -/
theorem tableNames_from (fr : Option (List FromTable)) (h : fromOK3 d fr = true) : tableNames (toksFrom3 d ch fr) = tablesOFTs fr := by
  have := (tFrom ch fr h).scan [] rfl
  simp only [List.append_nil, tabL] at this
  unfold tableNames tableToks
  rw [this]
  exact names_of_toks _ (tFrom ch fr h).ok
/-- the JOIN-only variant: the table tokens of the JOIN segment of a branch's rendering -/
theorem tableNames_joins (js : List Join) (h : joinsOK3 d js = true) : tableNames (toksJoins3 d ch js) = tablesJs js := by
  have := (tJoins ch js h).scan [] rfl
  simp only [List.append_nil, tabL] at this
  unfold tableNames tableToks
  rw [this]
  exact names_of_toks _ (tJoins ch js h).ok

end AT
