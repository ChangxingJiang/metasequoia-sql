import MsqProofs.Lemmas.ParseSubstDefs
import MsqProofs.Lemmas.ParseSubst4
import MsqProofs.Lemmas.ParseRelEntries
/-!
# C06, parser half: the relational family of `ParseRel*.lean` read at the theory `substT`
-/
open Lex PM Ast
namespace PMQ
variable [S : PaySet]

variable (d : Gen.D)

/-- **Payload invariance of the expression / SELECT parser**: all 80 functions of the mutual block -/
theorem subF_all : ∀ n, SubF d n := by
  intro n
  have G := Rel.genF_all (T := substT) d n
  have G' := G
  cases G'
  constructor <;> simp only [qel_eq, qell_eq, qer_eq, qex_eq, qeOpt_eq, qeq_eq, er_maps.E, er_maps.O, er_maps.TR, er_maps.FT, er_maps.J, er_maps.G, er_maps.Lat, er_maps.W, er_maps.S, er_maps.Q, erSt_map] <;> first
    | assumption
    | exact fun x0 x1 y0 y1 h0 hp h1 => Rel.GenF.pOptOr (T := substT) G x0 x1 y0 y1 h0 hp h1
    | exact fun x0 x1 y0 y1 h0 hp h1 => Rel.GenF.pByList (T := substT) G x0 x1 y0 y1 h0 hp h1
    | exact fun x0 x1 x2 y0 y1 y2 h0 h1 h2 => Rel.GenF.pCall (T := substT) G x0 x1 x2 y0 y1 y2 (Prod.ext h0 h1) h2

theorem pParen_qe (d : Gen.D) (f : Nat) : ∀ x0 x1 y0 y1, QE x0 y0 → QEL x1 y1 → QER (qeq erE) (pParen d f x0 x1) (pParen d f y0 y1) := (subF_all d f).pParen
theorem pNamed_qe (d : Gen.D) (f : Nat) : ∀ x0 x1 x2 y0 y1 y2, QE x0 y0 → QEL x1 y1 → QEL x2 y2 → QER (qeq erE) (pNamed d f x0 x1 x2) (pNamed d f y0 y1 y2) := (subF_all d f).pNamed
theorem pQualified_qe (d : Gen.D) (f : Nat) : ∀ x0 x1 x2 y0 y1 y2, QE x0 y0 → QEL x1 y1 → QEL x2 y2 → QER (qeq erE) (pQualified d f x0 x1 x2) (pQualified d f y0 y1 y2) := (subF_all d f).pQualified
theorem pIndex_qe (d : Gen.D) (f : Nat) : ∀ x0 x1 y0 y1, qeq erE x0 y0 → QEL x1 y1 → QER (qeq erE) (pIndex d f x0 x1) (pIndex d f y0 y1) := (subF_all d f).pIndex
theorem pFirstDiscard_qe (d : Gen.D) (f : Nat) : ∀ x0 y0, QEL x0 y0 → QEX QEL (pFirstDiscard d f x0) (pFirstDiscard d f y0) := (subF_all d f).pFirstDiscard
theorem pFirstArg_qe (d : Gen.D) (f : Nat) : ∀ x0 y0, QEL x0 y0 → QER (qeq (List.map erE)) (pFirstArg d f x0) (pFirstArg d f y0) := (subF_all d f).pFirstArg
theorem pCall_qe (d : Gen.D) (f : Nat) : ∀ x0 x1 x2 y0 y1 y2, qeq (Option.map er) x0 y0 → qeq er x1 y1 → QEL x2 y2 → QER (qeq erE) (pCall d f x0 x1 x2) (pCall d f y0 y1 y2) := (subF_all d f).pCall
theorem pArgs_qe (d : Gen.D) (f : Nat) : ∀ x0 x1 y0 y1, qeq (List.map erE) x0 y0 → QEL x1 y1 → QER (qeq (List.map erE)) (pArgs d f x0 x1) (pArgs d f y0 y1) := (subF_all d f).pArgs
theorem pElseEnd_qe (d : Gen.D) (f : Nat) : ∀ x0 y0, QEL x0 y0 → QER (qeq (Option.map erE)) (pElseEnd d f x0) (pElseEnd d f y0) := (subF_all d f).pElseEnd
theorem pWhens_qe (d : Gen.D) (f : Nat) : ∀ x0 x1 y0 y1, qeq (List.map (Prod.map erE erE)) x0 y0 → QEL x1 y1 → QER (qeq (List.map (Prod.map erE erE))) (pWhens d f x0 x1) (pWhens d f y0 y1) := (subF_all d f).pWhens
theorem pComputeLoop_qe (d : Gen.D) (f : Nat) : ∀ x0 x1 x2 y0 y1 y2, qeq erSt x0 y0 → qeq erE x1 y1 → QEL x2 y2 → QER (qeq erE) (pComputeLoop d f x0 x1 x2) (pComputeLoop d f y0 y1 y2) := (subF_all d f).pComputeLoop
theorem pKwFirst_qe (d : Gen.D) (f : Nat) : ∀ x0 x1 y0 y1, qeq (Option.map erE) x0 y0 → QEL x1 y1 → QER (qeq erE) (pKwFirst d f x0 x1) (pKwFirst d f y0 y1) := (subF_all d f).pKwFirst
theorem pKwRest_qe (d : Gen.D) (f : Nat) : ∀ x0 x1 x2 y0 y1 y2, qeq erE x0 y0 → x1 = y1 → QEL x2 y2 → QER (qeq erE) (pKwRest d f x0 x1 x2) (pKwRest d f y0 y1 y2) := (subF_all d f).pKwRest
theorem pKwBody_qe (d : Gen.D) (f : Nat) : ∀ x0 x1 x2 x3 y0 y1 y2 y3, kwRel x0 y0 → x1 = y1 → qeq erE x2 y2 → QEL x3 y3 → QEX (qeOpt (qeq erE)) (pKwBody d f x0 x1 x2 x3) (pKwBody d f y0 y1 y2 y3) := (subF_all d f).pKwBody
theorem pBetween_qe (d : Gen.D) (f : Nat) : ∀ x0 x1 x2 y0 y1 y2, x0 = y0 → qeq erE x1 y1 → QEL x2 y2 → QEX (qeOpt (qeq erE)) (pBetween d f x0 x1 x2) (pBetween d f y0 y1 y2) := (subF_all d f).pBetween
theorem pInBody_qe (d : Gen.D) (f : Nat) : ∀ x0 x1 x2 y0 y1 y2, x0 = y0 → qeq erE x1 y1 → QEL x2 y2 → QEX (qeOpt (qeq erE)) (pInBody d f x0 x1 x2) (pInBody d f y0 y1 y2) := (subF_all d f).pInBody
theorem pCompareLoop_qe (d : Gen.D) (f : Nat) : ∀ x0 x1 y0 y1, qeq erE x0 y0 → QEL x1 y1 → QER (qeq erE) (pCompareLoop d f x0 x1) (pCompareLoop d f y0 y1) := (subF_all d f).pCompareLoop
theorem pAndLoop_qe (d : Gen.D) (f : Nat) : ∀ x0 x1 y0 y1, qeq erE x0 y0 → QEL x1 y1 → QER (qeq erE) (pAndLoop d f x0 x1) (pAndLoop d f y0 y1) := (subF_all d f).pAndLoop
theorem pXorLoop_qe (d : Gen.D) (f : Nat) : ∀ x0 x1 y0 y1, qeq erE x0 y0 → QEL x1 y1 → QER (qeq erE) (pXorLoop d f x0 x1) (pXorLoop d f y0 y1) := (subF_all d f).pXorLoop
theorem pOrLoop_qe (d : Gen.D) (f : Nat) : ∀ x0 x1 y0 y1, qeq erE x0 y0 → QEL x1 y1 → QER (qeq erE) (pOrLoop d f x0 x1) (pOrLoop d f y0 y1) := (subF_all d f).pOrLoop
theorem pExtractTail_qe (d : Gen.D) (f : Nat) : ∀ x0 x1 y0 y1, qeq erE x0 y0 → QEL x1 y1 → QEX (qeq erE) (pExtractTail d f x0 x1) (pExtractTail d f y0 y1) := (subF_all d f).pExtractTail
theorem pWindowBody_qe (d : Gen.D) (f : Nat) : ∀ x0 x1 y0 y1, qeq erE x0 y0 → QEL x1 y1 → QEX (qeq erE) (pWindowBody d f x0 x1) (pWindowBody d f y0 y1) := (subF_all d f).pWindowBody
theorem pPartitionBy_qe (d : Gen.D) (f : Nat) : ∀ x0 y0, QEL x0 y0 → QER (qeq (List.map erE)) (pPartitionBy d f x0) (pPartitionBy d f y0) := (subF_all d f).pPartitionBy
theorem pComputeList_qe (d : Gen.D) (f : Nat) : ∀ x0 x1 y0 y1, qeq (List.map erE) x0 y0 → QEL x1 y1 → QER (qeq (List.map erE)) (pComputeList d f x0 x1) (pComputeList d f y0 y1) := (subF_all d f).pComputeList
theorem pOrderItem_qe (d : Gen.D) (f : Nat) : ∀ x0 y0, QEL x0 y0 → QER (qeq erO) (pOrderItem d f x0) (pOrderItem d f y0) := (subF_all d f).pOrderItem
theorem pOrderList_qe (d : Gen.D) (f : Nat) : ∀ x0 x1 y0 y1, qeq (List.map erO) x0 y0 → QEL x1 y1 → QER (qeq (List.map erO)) (pOrderList d f x0 x1) (pOrderList d f y0 y1) := (subF_all d f).pOrderList
theorem pJoinRule_qe (d : Gen.D) (f : Nat) : ∀ x0 x1 x2 y0 y1 y2, qeq er x0 y0 → qeq erFT x1 y1 → QEL x2 y2 → QER (qeq erJ) (pJoinRule d f x0 x1 x2) (pJoinRule d f y0 y1 y2) := (subF_all d f).pJoinRule
theorem pJoins_qe (d : Gen.D) (f : Nat) : ∀ x0 x1 x2 x3 y0 y1 y2 y3, x0 = y0 → QEL x1 y1 → qeq (List.map erJ) x2 y2 → QEL x3 y3 → QER (qeq (List.map erJ)) (pJoins d f x0 x1 x2 x3) (pJoins d f y0 y1 y2 y3) := (subF_all d f).pJoins
theorem pGroupingElem_qe (d : Gen.D) (f : Nat) : ∀ x0 y0, QEL x0 y0 → QEX (qeq (List.map erE)) (pGroupingElem d f x0) (pGroupingElem d f y0) := (subF_all d f).pGroupingElem
theorem pClosedEach_qe (d : Gen.D) (f : Nat) : ∀ x0 x1 y0 y1, qeq (List.map erE) x0 y0 → QELL x1 y1 → QEX (qeq (List.map erE)) (pClosedEach d f x0 x1) (pClosedEach d f y0 y1) := (subF_all d f).pClosedEach
theorem pGroupingElems_qe (d : Gen.D) (f : Nat) : ∀ x0 x1 y0 y1, qeq (List.map (List.map erE)) x0 y0 → QELL x1 y1 → QEX (qeq (List.map (List.map erE))) (pGroupingElems d f x0 x1) (pGroupingElems d f y0 y1) := (subF_all d f).pGroupingElems
theorem pGroupCols_qe (d : Gen.D) (f : Nat) : ∀ x0 y0, QEL x0 y0 → QER (qeq (List.map erE)) (pGroupCols d f x0) (pGroupCols d f y0) := (subF_all d f).pGroupCols
theorem pGroupSetsOpt_qe (d : Gen.D) (f : Nat) : ∀ x0 y0, QEL x0 y0 → QER (qeq (Option.map (List.map (List.map erE)))) (pGroupSetsOpt d f x0) (pGroupSetsOpt d f y0) := (subF_all d f).pGroupSetsOpt
theorem pWithBody_qe (d : Gen.D) (f : Nat) : ∀ x0 x1 y0 y1, qeq er x0 y0 → QEL x1 y1 → QER (qeq erW) (pWithBody d f x0 x1) (pWithBody d f y0 y1) := (subF_all d f).pWithBody
theorem pWithTables_qe (d : Gen.D) (f : Nat) : ∀ x0 x1 y0 y1, qeq (List.map erW) x0 y0 → QEL x1 y1 → QER (qeq (List.map erW)) (pWithTables d f x0 x1) (pWithTables d f y0 y1) := (subF_all d f).pWithTables
theorem pSelectBody_qe (d : Gen.D) (f : Nat) : ∀ x0 x1 x2 x3 y0 y1 y2 y3, qeq (List.map erW) x0 y0 → x1 = y1 → QEL x2 y2 → QEL x3 y3 → QER (qeq erS) (pSelectBody d f x0 x1 x2 x3) (pSelectBody d f y0 y1 y2 y3) := (subF_all d f).pSelectBody
theorem pFromOpt_qe (d : Gen.D) (f : Nat) : ∀ x0 y0, QEL x0 y0 → QER (qeq (Option.map (List.map erFT))) (pFromOpt d f x0) (pFromOpt d f y0) := (subF_all d f).pFromOpt
theorem pSelectRest_qe (d : Gen.D) (f : Nat) : ∀ x0 x1 x2 x3 x4 x5 y0 y1 y2 y3 y4 y5, qeq (List.map erW) x0 y0 → x1 = y1 → qeq (List.map (Prod.map erE (Option.map er))) x2 y2 → x3 = y3 → QEL x4 y4 → QEL x5 y5 → QER (qeq erS) (pSelectRest d f x0 x1 x2 x3 x4 x5) (pSelectRest d f y0 y1 y2 y3 y4 y5) := (subF_all d f).pSelectRest
theorem pSelectTail_qe (d : Gen.D) (f : Nat) : ∀ x0 x1 x2 x3 x4 x5 x6 y0 y1 y2 y3 y4 y5 y6, qeq (List.map erW) x0 y0 → x1 = y1 → qeq (List.map (Prod.map erE (Option.map er))) x2 y2 → qeq (Option.map (List.map erFT)) x3 y3 → qeq (List.map erLat) x4 y4 → qeq (List.map erJ) x5 y5 → QEL x6 y6 → QER (qeq erS) (pSelectTail d f x0 x1 x2 x3 x4 x5 x6) (pSelectTail d f y0 y1 y2 y3 y4 y5 y6) := (subF_all d f).pSelectTail
theorem pWhereGroup_qe (d : Gen.D) (f : Nat) : ∀ x0 y0, QEL x0 y0 → QER (qeq (Prod.map (Option.map erE) (Option.map erG))) (pWhereGroup d f x0) (pWhereGroup d f y0) := (subF_all d f).pWhereGroup
theorem pHavingOrder_qe (d : Gen.D) (f : Nat) : ∀ x0 y0, QEL x0 y0 → QER (qeq (Prod.map (Option.map erE) (Option.map (List.map erO)))) (pHavingOrder d f x0) (pHavingOrder d f y0) := (subF_all d f).pHavingOrder
theorem pHiveClauses_qe (d : Gen.D) (f : Nat) : ∀ x0 y0, QEL x0 y0 → QER (qeq (Prod.map (Option.map (List.map erO)) (Prod.map (Option.map (List.map erE)) (Option.map (List.map erE))))) (pHiveClauses d f x0) (pHiveClauses d f y0) := (subF_all d f).pHiveClauses
theorem pLaterals_qe (d : Gen.D) (f : Nat) : ∀ x0 x1 x2 x3 y0 y1 y2 y3, x0 = y0 → QEL x1 y1 → qeq (List.map erLat) x2 y2 → QEL x3 y3 → QER (qeq (List.map erLat)) (pLaterals d f x0 x1 x2 x3) (pLaterals d f y0 y1 y2 y3) := (subF_all d f).pLaterals
theorem pSingleParen_qe (d : Gen.D) (f : Nat) : ∀ x0 x1 x2 x3 y0 y1 y2 y3, qeq (List.map erW) x0 y0 → QEL x1 y1 → QELL x2 y2 → QEL x3 y3 → QER (qeq erS) (pSingleParen d f x0 x1 x2 x3) (pSingleParen d f y0 y1 y2 y3) := (subF_all d f).pSingleParen
theorem pUnions_qe (d : Gen.D) (f : Nat) : ∀ x0 x1 x2 y0 y1 y2, qeq (List.map erW) x0 y0 → qeq (List.map (Prod.map er erS)) x1 y1 → QEL x2 y2 → QER (qeq (List.map (Prod.map er erS))) (pUnions d f x0 x1 x2) (pUnions d f y0 y1 y2) := (subF_all d f).pUnions

theorem pop_qe : ∀ x0 y0, QEL x0 y0 → QER QE (pop x0) (pop y0) := by
  simp only [qel_eq, qer_eq]; exact Rel.pop_rel (T := substT)

/-! ### the statement level -/
theorem pStatement_qe (d : Gen.D) (f : Nat) : ∀ x0 y0, QEL x0 y0 → QER (qeq erSt0) (pStatement d f x0) (pStatement d f y0) := by
  simp only [qel_eq, qer_eq, qeq_eq, erSt0_map]; exact Rel.pStatement_rel (T := substT) d f
theorem statementsLoop_qe (d : Gen.D) (f : Nat) : ∀ x0 x1 x2 y0 y1 y2, x0 = y0 → qeq (List.map erSt0) x1 y1 → QEL x2 y2 → QEX (qeq (List.map erSt0)) (statementsLoop d f x0 x1 x2) (statementsLoop d f y0 y1 y2) := by
  simp only [qel_eq, qex_eq, qeq_eq, erSt0_map]; exact Rel.statementsLoop_rel (T := substT) d f
theorem pStatements_qe (d : Gen.D) (f : Nat) : ∀ x0 y0, QEL x0 y0 → QEX (qeq (List.map erSt0)) (pStatements d f x0) (pStatements d f y0) := by
  simp only [qel_eq, qex_eq, qeq_eq, erSt0_map]; exact Rel.pStatements_rel (T := substT) d f

end PMQ
