import MsqProofs.Lemmas.TSpellE4
/-! Spelling-generalised T-parse: the bracketed sub-query positions of expressions.  `QT d sp q` — the query-level statement for `q`
(what the mutual induction provides for the sub-queries of an expression). -/
open Lex PM Ast SR TP TP2 TQ
namespace TSP
variable {d : Gen.D} {sp : Sp}

structure QT (d : Gen.D) (sp : Sp) (q : Query) : Prop where
  parse : ∀ rest, stopsQ d rest = true → OkAt (fun f => pSelectStmt d f none (toksQ d sp q ++ rest)) (20 * sizeL (toksQ d sp q) + 9) (q, rest)
  head : ∃ x, toksQ d sp q = opTok "SELECT" :: x

theorem QT.subQ {q : Query} (hq : QT d sp q) : TC.SubQ d (toksQ d sp q) q :=
  ⟨by obtain ⟨x, hx⟩ := hq.head; rw [hx]; exact TP2.select_starts x, by simpa using hq.parse [] rfl⟩
theorem subq_ok (q : Query) (hq : QT d sp q) (rest : List Tok) :
    OkAt (fun f => pSubQuery d f (grp (toksQ d sp q) :: rest)) (20 * sizeL (toksQ d sp q) + 10) (.subQuery q, rest) := TC.subq_ok hq.subQ rest
theorem full2_subq (q : Query) (hq : QT d sp q) : Full2 d (P2 d) 2 0 [grp (toksQ d sp q)] (.subQuery q) :=
  TC.fullO_true.1 (TC.full2_subq hq.subQ).ofFalse
theorem cont9_exists (q : Query) (hq : QT d sp q) :
    Cont2 d (P9 d) (kwLoop d) 8 4 (opTok "EXISTS" :: [grp (toksQ d sp q)]) (.exists_ (.subQuery q)) :=
  TC.contO_true.1 (TC.cont9_exists hq.subQ).ofFalse
theorem cont9_inq (n0 : Bool) (l : Expr) (q : Query) (hq : QT d sp q) (hl : Cont2 d (P9 d) (kwLoop d) 8 4 (W3 d sp l 9) l) :
    Cont2 d (P9 d) (kwLoop d) 8 4 (W3 d sp l 9 ++ (kwToks .in_ n0 ++ [grp (toksQ d sp q)])) (.kw .in_ n0 l (.subQuery q)) :=
  TC.contO_true.1 (TC.cont9_inq n0 l (TC.contO_true.2 hl) hq.subQ).ofFalse

end TSP
