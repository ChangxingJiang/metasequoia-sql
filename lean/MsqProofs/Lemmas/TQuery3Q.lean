import MsqProofs.Lemmas.TQuery3S
/-!
# T-parse on the larger nested fragment: the single SELECT, the set-operator loop, the query (C03 / C01)

The clause lemmas of Lemmas/TQuery3S.lean, with the finer numbering of `Bd4`, go into `TC.single`; the set-operator loop and the query come
from `TC.stmt_core`.
-/
open Lex PM Ast TP TS
open TP2 (qTok fnOK nmOK nm2OK isOkNoneS fnNameOK aggOK dotTok starTok)
open TQ (tblTok unionWords lvlH isExists lvlH_eq lvlH_ge lvlH_of_le8 isOkPair tblOK)
namespace TQ3
variable {d : Gen.D} {ch : Expr → Bool}
local notation "commaTok" => TS.commaTok

/-! ### `Bd4` from the end of the statement to the front -/
theorem bd_keywords : bdTok4 d 0 (opTok "FROM") = true ∧ bdTok4 d 3 (opTok "WHERE") = true ∧ bdTok4 d 4 (opTok "GROUP") = true ∧
    bdTok4 d 5 (opTok "HAVING") = true ∧ bdTok4 d 6 (opTok "ORDER") = true ∧ bdTok4 d 7 (opTok "SORT") = true ∧
    bdTok4 d 8 (opTok "DISTRIBUTE") = true ∧ bdTok4 d 9 (opTok "CLUSTER") = true ∧ bdTok4 d 10 (opTok "LIMIT") = true := by cases d <;> decide
theorem bd3_limit (lm : Option (Int × Option Int)) (rest : List Tok) (h : Bd4 d 11 rest = true) : Bd4 d 10 (toksLimit lm ++ rest) = true :=
  TC.before_kw (B := Bd4 d) bd3_mono (by omega) h (fun _ => bd_keywords.2.2.2.2.2.2.2.2) (by rcases lm with _ | ⟨n, _ | m⟩ <;> simp [toksLimit])
theorem bd3_by (kw : String) (k : Nat) (hk : bdTok4 d k (opTok kw) = true) (o : Option (List Expr)) (x : List Tok) (h : Bd4 d (k + 1) x = true) :
    Bd4 d k (toksBy4 d ch kw o ++ x) = true :=
  TC.before_kw (B := Bd4 d) bd3_mono (by omega) h (fun _ => hk) (by rcases o with _ | _ | ⟨e, es⟩ <;> simp [toksBy4])
theorem bd3_sort (ob : Option (List OrderItem)) (x : List Tok) (h : Bd4 d 8 x = true) : Bd4 d 7 (toksSort4 d ch ob ++ x) = true :=
  TC.before_kw (B := Bd4 d) bd3_mono (by omega) h (fun _ => bd_keywords.2.2.2.2.2.1) (by rcases ob with _ | _ | ⟨o, os⟩ <;> simp [toksSort4])
theorem bd3_order (ob : Option (List OrderItem)) (x : List Tok) (h : Bd4 d 7 x = true) : Bd4 d 6 (toksOrder4 d ch ob ++ x) = true :=
  TC.before_kw (B := Bd4 d) bd3_mono (by omega) h (fun _ => bd_keywords.2.2.2.2.1) (by rcases ob with _ | _ | ⟨o, os⟩ <;> simp [toksOrder4])
theorem bd3_having (hv : Option Expr) (x : List Tok) (h : Bd4 d 6 x = true) : Bd4 d 5 (toksOptE4 d ch "HAVING" hv ++ x) = true :=
  TC.before_kw (B := Bd4 d) bd3_mono (by omega) h (fun _ => bd_keywords.2.2.2.1) (by cases hv <;> simp [toksOptE4])
theorem bd3_group (gb : Option GroupBy) (x : List Tok) (h : Bd4 d 5 x = true) : Bd4 d 4 (toksGroup4 d ch gb ++ x) = true :=
  TC.before_kw (B := Bd4 d) bd3_mono (by omega) h (fun _ => bd_keywords.2.2.1) (by rcases gb with _ | ⟨cols, s, c, r⟩ <;> simp [toksGroup4])
theorem bd3_where (wh : Option Expr) (x : List Tok) (h : Bd4 d 4 x = true) : Bd4 d 3 (toksOptE4 d ch "WHERE" wh ++ x) = true :=
  TC.before_kw (B := Bd4 d) bd3_mono (by omega) h (fun _ => bd_keywords.2.1) (by cases wh <;> simp [toksOptE4])
theorem bd3_from (fr : Option (List FromTable)) (x : List Tok) (h : Bd4 d 1 x = true) : Bd4 d 0 (toksFrom4 d ch fr ++ x) = true :=
  TC.before_kw (B := Bd4 d) bd3_mono (by omega) h (fun _ => bd_keywords.1) (by rcases fr with _ | _ | ⟨t, ts⟩ <;> simp [toksFrom4])

theorem limit4 (lm : Option (Int × Option Int)) (hl : limitOK lm = true) (fol : List Tok) (hb : Bd4 d 11 fol = true) :
    pLimit (toksLimit lm ++ fol) = .ok (lm, fol) := by
  have r7 : rank4 "LIMIT" = 11 := by decide
  have r0 : rank4 "OFFSET" = 0 := by decide
  have hk : (opTok "LIMIT").srcEqUp "LIMIT" = true := by decide
  cases lm with
  | none => exact C03.limit_absent _ (bd_search hb "LIMIT" (by omega))
  | some p =>
    obtain ⟨n, o⟩ := p
    cases o with
    | none =>
      simp only [limitOK, limOK, Bool.and_eq_true] at hl
      exact C03.limit_plain _ _ fol n hk (TS.isOkInt_eq hl.2) (bd_comma hb) (bd_search hb "OFFSET" (by omega))
    | some m =>
      simp only [limitOK, limOK, Bool.and_eq_true] at hl
      have hc : commaTok.srcEq "," = true := by decide
      exact C03.limit_comma _ _ _ _ fol m n hk (TS.isOkInt_eq hl.2.2) hc (TS.isOkInt_eq hl.1.2)
theorem hiveClauses (sb : Option (List OrderItem)) (db cb : Option (List Expr)) (hsb : OrderRec d ch sb) (hdb : ByRec d ch db) (hcb : ByRec d ch cb) :
    TC.Clause (Bd4 d 10 · = true) (Bd4 d 7 · = true) (pHiveClauses d) 8
      (toksSort4 d ch sb ++ (toksBy4 d ch "DISTRIBUTE" db ++ toksBy4 d ch "CLUSTER" cb)) (sb, db, cb) := by
  obtain ⟨_, _, _, _, _, _, kd, kc, _⟩ := @bd_keywords d
  have hb8 : ∀ x, Bd4 d 10 x = true → Bd4 d 8 (toksBy4 d ch "DISTRIBUTE" db ++ (toksBy4 d ch "CLUSTER" cb ++ x)) = true :=
    fun x hb => bd3_by "DISTRIBUTE" 8 kd db _ (bd3_by "CLUSTER" 9 kc cb x hb)
  refine ⟨fun x hb => ?_, fun x hb => by simpa only [List.append_assoc] using bd3_sort sb _ (hb8 x hb)⟩
  have r8 : rank4 "SORT" = 8 := by decide
  have r9 : rank4 "DISTRIBUTE" = 9 := by decide
  have r10 : rank4 "CLUSTER" = 10 := by decide
  have b9 := bd3_by (ch := ch) "CLUSTER" 9 kc cb x hb
  have b8 := hb8 x hb
  refine OkAt.of_add 1 (by omega) fun g hg => ?_
  simp only [sizeL_append] at hg
  have h1 := sortBy sb hsb _ (OFol.ofBd b8) (bd_comma b8) (bd_search2 b8 "SORT" "BY" (by omega)) g (by omega)
  have h2 := byList "DISTRIBUTE" (by decide) db hdb _ (TP2.stopLE2_mono (bd3_stops b9) (by omega)) (bd_comma b9)
    (bd_search2 b9 "DISTRIBUTE" "BY" (by omega)) g (by omega)
  have h3 := byList "CLUSTER" (by decide) cb hcb _ (TP2.stopLE2_mono (bd3_stops hb) (by omega)) (bd_comma hb)
    (bd_search2 hb "CLUSTER" "BY" (by omega)) g (by omega)
  simp only at h1 h2 h3
  unfold pHiveClauses
  simp only [List.append_assoc, h1, h2, h3]

def SRec (d : Gen.D) (ch : Expr → Bool) (s : Select) : Prop :=
  ∃ dist c cs fr lats js wh gb hv ob sb db cb lm, s = .mk (some []) dist (c :: cs) fr lats js wh gb hv ob sb db cb lm ∧
    ColRec d ch c ∧ (∀ c' ∈ cs, ColRec d ch c') ∧ (dist = true ∨ searchStrUp (toksCols4 d ch (c :: cs)) "DISTINCT" = false) ∧
    FromRec d ch fr ∧ (∀ l ∈ lats, LatRec d ch l) ∧ (∀ j ∈ js, JoinRec d ch j) ∧ OptRec d ch wh ∧ GroupRec d ch gb ∧ OptRec d ch hv ∧
    OrderRec d ch ob ∧ OrderRec d ch sb ∧ ByRec d ch db ∧ ByRec d ch cb ∧ limitOK lm = true
theorem SRec.selOK {s : Select} (h : SRec d ch s) : TC.SelOK d (Bd4 d 11 · = true) [] s (toksS5 d ch s) := by
  obtain ⟨dist, c, cs, fr, lats, js, wh, gb, hv, ob, sb, db, cb, lm, rfl, hc, hcs, hdist, hfr, hlats, hjs, hwh, hgb, hhv, hob, hsb, hdb, hcb,
    hlm⟩ := h
  obtain ⟨t, ts', hh, _⟩ := hc.1.head
  have hd : dist = true ∨ t.srcEqUp "DISTINCT" = false := hdist.imp_right fun h => by
    rw [toksCols4_cons] at h
    simp only [toksCol4, hh, List.cons_append] at h
    simpa [searchStrUp] using h
  have rW : rank4 "WHERE" = 4 := by decide
  have rH : rank4 "HAVING" = 6 := by decide
  have rO : rank4 "ORDER" = 7 := by decide
  have := TC.single [] dist (C := toksCol4 d ch c) (by simp only [toksCol4, hh, List.cons_append]; rfl) hd (selectCol c hc)
    ⟨fun fol hb => selectCols fol (.ofBd hb) (bd_comma hb) cs hcs [c],
      fun fol (hb : Bd4 d 0 fol = true) => Fol.tail (colsTail_shape cs) (.ofBd hb)⟩
    ⟨fromOpt fr hfr, bd3_from fr⟩
    ⟨fun fol hb => laterals fol hb lats hlats [], lats_bd lats⟩
    ⟨fun fol hb => joins fol hb js hjs [], fun fol hb => (joins_bd js hjs fol hb).1⟩
    ⟨optOr "WHERE" (by decide) 4 (by omega) wh hwh, bd3_where wh⟩ ⟨groupBy gb hgb, bd3_group gb⟩
    ⟨optOr "HAVING" (by decide) 6 (by omega) hv hhv, bd3_having hv⟩
    ⟨fun fol hb => orderBy ob hob fol (.ofBd hb) (bd_comma hb) (bd_search2 hb "ORDER" "BY" (by omega)), bd3_order ob⟩
    (hiveClauses sb db cb hsb hdb hcb)
    fun fol hb => ⟨limit4 lm hlm fol hb, bd3_limit lm fol hb⟩
  simpa [toksS5, toksCols4_cons] using this
theorem SRec.parse {s : Select} (h : SRec d ch s) (rest : List Tok) (hr : Bd4 d 11 rest = true) :
    OkAt (fun f => pSingle d f [] (toksS5 d ch s ++ rest)) (20 * sizeL (toksS5 d ch s) + 6) (s, rest) := h.selOK.parse rest hr
theorem SRec.head {s : Select} (h : SRec d ch s) : ∃ x, toksS5 d ch s = opTok "SELECT" :: x := h.selOK.head
theorem SRec.setWiths {s : Select} (h : SRec d ch s) : setWiths s = s := by
  obtain ⟨dist, c, cs, fr, lats, js, wh, gb, hv, ob, sb, db, cb, lm, rfl, _⟩ := h
  rfl

def UnRec (d : Gen.D) (ch : Expr → Bool) : List (String × Select) → Prop
  | [] => True
  | (t, s) :: r => unionTyOK4 d t = true ∧ SRec d ch s ∧ UnRec d ch r
theorem unionTy_parts {ty : String} (h : unionTyOK4 d ty = true) :
    firstEnumA Gen.unionTypes (unionWords ty) = some (ty, (unionWords ty).length) ∧
    ∃ t ws, unionWords ty = t :: ws ∧ bdTok4 d 11 t = true ∧ setOpHead [t] = true := by
  simp only [unionTyOK4, Bool.and_eq_true] at h
  obtain ⟨h1, h2⟩ := h
  refine ⟨?_, ?_⟩
  · split at h1
    · rename_i n k heq
      simp only [Bool.and_eq_true, beq_iff_eq] at h1
      rw [heq, h1.1, h1.2]
    · cases h1
  · split at h2
    · rename_i t ws heq
      simp only [Bool.and_eq_true] at h2
      exact ⟨t, ws, heq, h2.1, h2.2⟩
    · cases h2
theorem select_noUnionWord : ∀ e ∈ Gen.unionTypes, ∀ k ∈ e.2, (opTok "SELECT").equalsStr k = false := TC.select_noUnionWord
theorem setOp {ty : String} (h : unionTyOK4 d ty = true) : TC.SetOp (Bd4 d 11 · = true) ty (unionWords ty) :=
  have ⟨h1, t, r, hw, hb, hso⟩ := unionTy_parts h
  ⟨h1, t, r, hw, hso, fun x => bd3_of x hb⟩
theorem UnRec.branches : ∀ {us : List (String × Select)}, UnRec d ch us → TC.Branches d (Bd4 d 11 · = true) [] us (toksUn2 d ch us)
  | [], _ => .nil
  | (_, _) :: _, h => .cons (setOp h.1) h.2.1.selOK (UnRec.branches h.2.2)
theorem UnRec.setWiths : ∀ {us : List (String × Select)}, UnRec d ch us → us.map (fun p => (p.1, PM.setWiths p.2)) = us
  | [], _ => rfl
  | (t, s) :: r, h => by
    simp only [List.map_cons, h.2.1.setWiths, UnRec.setWiths h.2.2]
theorem unions_bd (us : List (String × Select)) (hus : UnRec d ch us) (rest : List Tok) (hr : stopsQ3 d rest = true) :
    Bd4 d 11 (toksUn2 d ch us ++ rest) = true ∧ setOpHead (toksUn2 d ch us ++ rest) = !us.isEmpty := by
  simp only [stopsQ3, Bool.and_eq_true, Bool.not_eq_true'] at hr
  exact hus.branches.follow hr.1 hr.2
theorem sizeL_toksS4_pos (s : Select) : 1 ≤ sizeL (toksS5 d ch s) := by
  obtain ⟨w, dist, cols, fr, lats, js, wh, gb, hv, ob, sb, db, cb, lm⟩ := s
  simp only [toksS5, sizeL_cons, size_opTok]; omega

/-- `_parse_select_statement` on the rendering of a query (`WITH` slot: not yet looked for, or already found absent) -/
theorem stmt_core (w : Option (List WithTable)) (hw : w = none ∨ w = some []) (s : Select) (us : List (String × Select))
    (hs : SRec d ch s) (hus : UnRec d ch us) (rest : List Tok) (hr : stopsQ3 d rest = true) :
    OkAt (fun f => pSelectStmt d f w (toksS5 d ch s ++ (toksUn2 d ch us ++ rest))) (20 * sizeL (toksS5 d ch s ++ toksUn2 d ch us) + 9)
      (if us.isEmpty then .single s else .union (some []) s us, rest) := by
  simp only [stopsQ3, Bool.and_eq_true, Bool.not_eq_true'] at hr
  simpa [hs.setWiths, hus.setWiths] using TC.stmt_core w (by rcases hw with rfl | rfl <;> rfl) hs.selOK hus.branches hr.1 hr.2

theorem qt_single (s : Select) (hs : SRec d ch s) : QT d ch (.single s) := by
  refine ⟨fun rest hr => ?_, by simpa [toksQ3] using hs.head⟩
  have := stmt_core none (Or.inl rfl) s [] hs trivial rest hr
  simpa [toksQ3, toksUn2] using this
theorem qt_union (s : Select) (us : List (String × Select)) (hs : SRec d ch s) (hus : UnRec d ch us) (hne : us.isEmpty = false) :
    QT d ch (.union (some []) s us) := by
  refine ⟨fun rest hr => ?_, ?_⟩
  · have := stmt_core none (Or.inl rfl) s us hs hus rest hr
    simpa [toksQ3, hne] using this
  · obtain ⟨x, hx⟩ := hs.head
    exact ⟨x ++ toksUn2 d ch us, by simp [toksQ3, hx]⟩

end TQ3
