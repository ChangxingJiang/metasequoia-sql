import MsqProofs.Lemmas.ParseCostBndDefs
/-! GENERATED by tools/gen_cost.py — C19 linear bound: the mutual block (fuel step `bndF_succ`, induction on the fuel).  The dearest steps are lemmas of their own in front of `bndF_succ`, because the steps of all 80 functions together exceed what one declaration should cost. -/
set_option linter.unusedSimpArgs false
open Lex PM Ast
namespace PM

variable (d : Gen.D)

theorem bndF_pKwBody (n : Nat) (ih : BndF d n) :
    ∀ x0 x1 x2 x3 κ, (pKwBody_k d (n+1) x0 x1 x2 x3 κ).1 + remO (70 * (adqWL x3)) (pKwBody_k d (n+1) x0 x1 x2 x3 κ).2 ≤ κ + 70 * (adqWL x3) + 125 := by
  have hC := consF_all d n
  have hP := projF_all d n
  intro x0 x1 x2 x3 κ
  generalize h : pKwBody_k d (n+1) x0 x1 x2 x3 κ = out
  unfold pKwBody_k at h
  split_run <;> grind -funext (gen := 40) (instances := 20000) [adqWL_append, Lost]

theorem bndF_pSplit (n : Nat) (ih : BndF d n) :
    ∀ x0 x1 x2 κ, (pSplit_k d (n+1) x0 x1 x2 κ).1 ≤ κ + 70 * (adqWL x1 + adqWL x2) + 63 := by
  have hC := consF_all d n
  have hP := projF_all d n
  intro x0 x1 x2 κ
  generalize h : pSplit_k d (n+1) x0 x1 x2 κ = out
  unfold pSplit_k at h
  split_run <;> grind -funext (gen := 40) (instances := 20000) [adqWL_append, Lost]

theorem bndF_pGroupingElem (n : Nat) (ih : BndF d n) :
    ∀ x0 κ, (pGroupingElem_k d (n+1) x0 κ).1 ≤ κ + 70 * (adqWL x0) + 65 := by
  have hC := consF_all d n
  have hP := projF_all d n
  intro x0 κ
  generalize h : pGroupingElem_k d (n+1) x0 κ = out
  unfold pGroupingElem_k at h
  split_run <;> grind -funext (gen := 40) (instances := 20000) [adqWL_append, Lost]

theorem bndF_pLateral (n : Nat) (ih : BndF d n) :
    ∀ x0 κ, (pLateral_k d (n+1) x0 κ).1 + remS 30 (pLateral_k d (n+1) x0 κ).2 ≤ κ + 70 * (adqWL x0) + 19 := by
  have hC := consF_all d n
  have hP := projF_all d n
  intro x0 κ
  generalize h : pLateral_k d (n+1) x0 κ = out
  unfold pLateral_k at h
  split_run <;> grind -funext (gen := 40) (instances := 20000) [adqWL_append, Lost]

theorem bndF_pNamed (n : Nat) (ih : BndF d n) :
    ∀ x0 x1 x2 κ, Sfx x1 x2 → (pNamed_k d (n+1) x0 x1 x2 κ).1 + rem (pNamed_k d (n+1) x0 x1 x2 κ).2 ≤ κ + 70 * (adqWL x2) + 57 := by
  have hC := consF_all d n
  have hP := projF_all d n
  intro x0 x1 x2 κ hsfx
  generalize h : pNamed_k d (n+1) x0 x1 x2 κ = out
  unfold pNamed_k at h
  split_run <;> grind -funext (gen := 40) (instances := 20000) [adqWL_append, Lost]

theorem bndF_pQualified (n : Nat) (ih : BndF d n) :
    ∀ x0 x1 x2 κ, Sfx x1 x2 → (pQualified_k d (n+1) x0 x1 x2 κ).1 + rem (pQualified_k d (n+1) x0 x1 x2 κ).2 ≤ κ + 70 * (adqWL x2) + 12 := by
  have hC := consF_all d n
  have hP := projF_all d n
  intro x0 x1 x2 κ hsfx
  generalize h : pQualified_k d (n+1) x0 x1 x2 κ = out
  unfold pQualified_k at h
  split_run <;> grind -funext (gen := 40) (instances := 20000) [adqWL_append, Lost]

theorem bndF_pSingleParen (n : Nat) (ih : BndF d n) :
    ∀ x0 x1 x2 x3 κ, (pSingleParen_k d (n+1) x0 x1 x2 x3 κ).1 + rem (pSingleParen_k d (n+1) x0 x1 x2 x3 κ).2 ≤ κ + 70 * (adqWL x1 + adqWL x3) + 7 + x2.length := by
  have hC := consF_all d n
  have hP := projF_all d n
  intro x0 x1 x2 x3 κ
  generalize h : pSingleParen_k d (n+1) x0 x1 x2 x3 κ = out
  unfold pSingleParen_k at h
  split_run <;> grind -funext (gen := 40) (instances := 20000) [adqWL_append, Lost]

theorem bndF_pTableExpr (n : Nat) (ih : BndF d n) :
    ∀ x0 κ, (pTableExpr_k d (n+1) x0 κ).1 + rem (pTableExpr_k d (n+1) x0 κ).2 ≤ κ + 70 * (adqWL x0) + 11 := by
  have hC := consF_all d n
  have hP := projF_all d n
  intro x0 κ
  generalize h : pTableExpr_k d (n+1) x0 κ = out
  unfold pTableExpr_k at h
  split_run <;> grind -funext (gen := 40) (instances := 20000) [adqWL_append, Lost]

theorem bndF_succ (n : Nat) (ih : BndF d n) : BndF d (n+1) := by
  have hC := consF_all d n
  have hP := projF_all d n
  constructor
  case pElement =>
    intro x0 κ
    generalize h : pElement_k d (n+1) x0 κ = out
    unfold pElement_k at h
    split_run <;> grind -funext (gen := 40) (instances := 20000) [adqWL_append, Lost]
  case pParen =>
    intro x0 x1 κ
    generalize h : pParen_k d (n+1) x0 x1 κ = out
    unfold pParen_k at h
    split_run <;> grind -funext (gen := 40) (instances := 20000) [adqWL_append, Lost]
  case pNamed => exact bndF_pNamed d n ih
  case pQualified => exact bndF_pQualified d n ih
  case pIndex =>
    intro x0 x1 κ
    generalize h : pIndex_k d (n+1) x0 x1 κ = out
    unfold pIndex_k at h
    split_run <;> grind -funext (gen := 40) (instances := 20000) [adqWL_append, Lost]
  case pFuncIdx =>
    intro x0 κ
    generalize h : pFuncIdx_k d (n+1) x0 κ = out
    unfold pFuncIdx_k at h
    split_run <;> grind -funext (gen := 40) (instances := 20000) [adqWL_append, Lost]
  case pFunc =>
    intro x0 κ
    generalize h : pFunc_k d (n+1) x0 κ = out
    unfold pFunc_k at h
    split_run <;> grind -funext (gen := 40) (instances := 20000) [adqWL_append, Lost]
  case pIfCall =>
    intro x0 κ
    generalize h : pIfCall_k d (n+1) x0 κ = out
    unfold pIfCall_k at h
    split_run <;> grind -funext (gen := 40) (instances := 20000) [adqWL_append, Lost]
  case pFirstDiscard =>
    intro x0 κ
    generalize h : pFirstDiscard_k d (n+1) x0 κ = out
    unfold pFirstDiscard_k at h
    split_run <;> grind -funext (gen := 40) (instances := 20000) [adqWL_append, Lost]
  case pFirstArg =>
    intro x0 κ
    generalize h : pFirstArg_k d (n+1) x0 κ = out
    unfold pFirstArg_k at h
    split_run <;> grind -funext (gen := 40) (instances := 20000) [adqWL_append, Lost]
  case pCall =>
    intro x0 x1 x2 κ
    generalize h : pCall_k d (n+1) x0 x1 x2 κ = out
    unfold pCall_k at h
    split_run <;> grind -funext (gen := 40) (instances := 20000) [adqWL_append, Lost]
  case pArgs =>
    intro x0 x1 κ
    generalize h : pArgs_k d (n+1) x0 x1 κ = out
    unfold pArgs_k at h
    split_run <;> grind -funext (gen := 40) (instances := 20000) [adqWL_append, Lost]
  case pCase =>
    intro x0 κ
    generalize h : pCase_k d (n+1) x0 κ = out
    unfold pCase_k at h
    split_run <;> grind -funext (gen := 40) (instances := 20000) [adqWL_append, Lost]
  case pElseEnd =>
    intro x0 κ
    generalize h : pElseEnd_k d (n+1) x0 κ = out
    unfold pElseEnd_k at h
    split_run <;> grind -funext (gen := 40) (instances := 20000) [adqWL_append, Lost]
  case pWhens =>
    intro x0 x1 κ
    generalize h : pWhens_k d (n+1) x0 x1 κ = out
    unfold pWhens_k at h
    split_run <;> grind -funext (gen := 40) (instances := 20000) [adqWL_append, Lost]
  case pUnary =>
    intro x0 κ
    generalize h : pUnary_k d (n+1) x0 κ = out
    unfold pUnary_k at h
    split_run <;> grind -funext (gen := 40) (instances := 20000) [adqWL_append, Lost]
  case pCompute =>
    intro x0 κ
    generalize h : pCompute_k d (n+1) x0 κ = out
    unfold pCompute_k at h
    split_run <;> grind -funext (gen := 40) (instances := 20000) [adqWL_append, Lost]
  case pComputeLoop =>
    intro x0 x1 x2 κ
    generalize h : pComputeLoop_k d (n+1) x0 x1 x2 κ = out
    unfold pComputeLoop_k at h
    split_run <;> grind -funext (gen := 40) (instances := 20000) [adqWL_append, Lost]
  case pKeyword =>
    intro x0 x1 κ
    generalize h : pKeyword_k d (n+1) x0 x1 κ = out
    unfold pKeyword_k at h
    split_run <;> grind -funext (gen := 40) (instances := 20000) [adqWL_append, Lost]
  case pKwFirst =>
    intro x0 x1 κ
    generalize h : pKwFirst_k d (n+1) x0 x1 κ = out
    unfold pKwFirst_k at h
    split_run <;> grind -funext (gen := 40) (instances := 20000) [adqWL_append, Lost]
  case pKwRest =>
    intro x0 x1 x2 κ
    generalize h : pKwRest_k d (n+1) x0 x1 x2 κ = out
    unfold pKwRest_k at h
    split_run <;> grind -funext (gen := 40) (instances := 20000) [adqWL_append, Lost]
  case pKwBody => exact bndF_pKwBody d n ih
  case pBetween =>
    intro x0 x1 x2 κ
    generalize h : pBetween_k d (n+1) x0 x1 x2 κ = out
    unfold pBetween_k at h
    split_run <;> grind -funext (gen := 40) (instances := 20000) [adqWL_append, Lost]
  case pInBody =>
    intro x0 x1 x2 κ
    generalize h : pInBody_k d (n+1) x0 x1 x2 κ = out
    unfold pInBody_k at h
    split_run <;> grind -funext (gen := 40) (instances := 20000) [adqWL_append, Lost]
  case pSplit => exact bndF_pSplit d n ih
  case pCompare =>
    intro x0 κ
    generalize h : pCompare_k d (n+1) x0 κ = out
    unfold pCompare_k at h
    split_run <;> grind -funext (gen := 40) (instances := 20000) [adqWL_append, Lost]
  case pCompareLoop =>
    intro x0 x1 κ
    generalize h : pCompareLoop_k d (n+1) x0 x1 κ = out
    unfold pCompareLoop_k at h
    split_run <;> grind -funext (gen := 40) (instances := 20000) [adqWL_append, Lost]
  case pNot =>
    intro x0 κ
    generalize h : pNot_k d (n+1) x0 κ = out
    unfold pNot_k at h
    split_run <;> grind -funext (gen := 40) (instances := 20000) [adqWL_append, Lost]
  case pAnd =>
    intro x0 κ
    generalize h : pAnd_k d (n+1) x0 κ = out
    unfold pAnd_k at h
    split_run <;> grind -funext (gen := 40) (instances := 20000) [adqWL_append, Lost]
  case pAndLoop =>
    intro x0 x1 κ
    generalize h : pAndLoop_k d (n+1) x0 x1 κ = out
    unfold pAndLoop_k at h
    split_run <;> grind -funext (gen := 40) (instances := 20000) [adqWL_append, Lost]
  case pXor =>
    intro x0 κ
    generalize h : pXor_k d (n+1) x0 κ = out
    unfold pXor_k at h
    split_run <;> grind -funext (gen := 40) (instances := 20000) [adqWL_append, Lost]
  case pXorLoop =>
    intro x0 x1 κ
    generalize h : pXorLoop_k d (n+1) x0 x1 κ = out
    unfold pXorLoop_k at h
    split_run <;> grind -funext (gen := 40) (instances := 20000) [adqWL_append, Lost]
  case pOr =>
    intro x0 κ
    generalize h : pOr_k d (n+1) x0 κ = out
    unfold pOr_k at h
    split_run <;> grind -funext (gen := 40) (instances := 20000) [adqWL_append, Lost]
  case pOrLoop =>
    intro x0 x1 κ
    generalize h : pOrLoop_k d (n+1) x0 x1 κ = out
    unfold pOrLoop_k at h
    split_run <;> grind -funext (gen := 40) (instances := 20000) [adqWL_append, Lost]
  case pSubQuery =>
    intro x0 κ
    generalize h : pSubQuery_k d (n+1) x0 κ = out
    unfold pSubQuery_k at h
    split_run <;> grind -funext (gen := 40) (instances := 20000) [adqWL_append, Lost]
  case pCast =>
    intro x0 κ
    generalize h : pCast_k d (n+1) x0 κ = out
    unfold pCast_k at h
    split_run <;> grind -funext (gen := 40) (instances := 20000) [adqWL_append, Lost]
  case pExtract =>
    intro x0 κ
    generalize h : pExtract_k d (n+1) x0 κ = out
    unfold pExtract_k at h
    split_run <;> grind -funext (gen := 40) (instances := 20000) [adqWL_append, Lost]
  case pExtractTail =>
    intro x0 x1 κ
    generalize h : pExtractTail_k d (n+1) x0 x1 κ = out
    unfold pExtractTail_k at h
    split_run <;> grind -funext (gen := 40) (instances := 20000) [adqWL_append, Lost]
  case pWindow =>
    intro x0 κ
    generalize h : pWindow_k d (n+1) x0 κ = out
    unfold pWindow_k at h
    split_run <;> grind -funext (gen := 40) (instances := 20000) [adqWL_append, Lost]
  case pWindowBody =>
    intro x0 x1 κ
    generalize h : pWindowBody_k d (n+1) x0 x1 κ = out
    unfold pWindowBody_k at h
    split_run <;> grind -funext (gen := 40) (instances := 20000) [adqWL_append, Lost]
  case pPartitionBy =>
    intro x0 κ
    generalize h : pPartitionBy_k d (n+1) x0 κ = out
    unfold pPartitionBy_k at h
    split_run <;> grind -funext (gen := 40) (instances := 20000) [adqWL_append, Lost]
  case pComputeList =>
    intro x0 x1 κ
    generalize h : pComputeList_k d (n+1) x0 x1 κ = out
    unfold pComputeList_k at h
    split_run <;> grind -funext (gen := 40) (instances := 20000) [adqWL_append, Lost]
  case pOrderItem =>
    intro x0 κ
    generalize h : pOrderItem_k d (n+1) x0 κ = out
    unfold pOrderItem_k at h
    split_run <;> grind -funext (gen := 40) (instances := 20000) [adqWL_append, Lost]
  case pOrderList =>
    intro x0 x1 κ
    generalize h : pOrderList_k d (n+1) x0 x1 κ = out
    unfold pOrderList_k at h
    split_run <;> grind -funext (gen := 40) (instances := 20000) [adqWL_append, Lost]
  case pOrderByOpt =>
    intro x0 κ
    generalize h : pOrderByOpt_k d (n+1) x0 κ = out
    unfold pOrderByOpt_k at h
    split_run <;> grind -funext (gen := 40) (instances := 20000) [adqWL_append, Lost]
  case pSelectCol =>
    intro x0 κ
    generalize h : pSelectCol_k d (n+1) x0 κ = out
    unfold pSelectCol_k at h
    split_run <;> grind -funext (gen := 40) (instances := 20000) [adqWL_append, Lost]
  case pSelectCols =>
    intro x0 x1 κ
    generalize h : pSelectCols_k d (n+1) x0 x1 κ = out
    unfold pSelectCols_k at h
    split_run <;> grind -funext (gen := 40) (instances := 20000) [adqWL_append, Lost]
  case pTableExpr => exact bndF_pTableExpr d n ih
  case pFromTable =>
    intro x0 κ
    generalize h : pFromTable_k d (n+1) x0 κ = out
    unfold pFromTable_k at h
    split_run <;> grind -funext (gen := 40) (instances := 20000) [adqWL_append, Lost]
  case pFromTables =>
    intro x0 x1 κ
    generalize h : pFromTables_k d (n+1) x0 x1 κ = out
    unfold pFromTables_k at h
    split_run <;> grind -funext (gen := 40) (instances := 20000) [adqWL_append, Lost]
  case pJoin =>
    intro x0 κ
    generalize h : pJoin_k d (n+1) x0 κ = out
    unfold pJoin_k at h
    split_run <;> grind -funext (gen := 40) (instances := 20000) [adqWL_append, Lost]
  case pJoinRule =>
    intro x0 x1 x2 κ
    generalize h : pJoinRule_k d (n+1) x0 x1 x2 κ = out
    unfold pJoinRule_k at h
    split_run <;> grind -funext (gen := 40) (instances := 20000) [adqWL_append, Lost]
  case pJoins =>
    intro x0 x1 x2 x3 κ
    generalize h : pJoins_k d (n+1) x0 x1 x2 x3 κ = out
    unfold pJoins_k at h
    split_run <;> grind -funext (gen := 40) (instances := 20000) [adqWL_append, Lost]
  case pOptOr =>
    intro x0 x1 κ
    generalize h : pOptOr_k d (n+1) x0 x1 κ = out
    unfold pOptOr_k at h
    split_run <;> grind -funext (gen := 40) (instances := 20000) [adqWL_append, Lost]
  case pGroupingElem => exact bndF_pGroupingElem d n ih
  case pClosedEach =>
    intro x0 x1 κ
    generalize h : pClosedEach_k d (n+1) x0 x1 κ = out
    unfold pClosedEach_k at h
    split_run <;> grind -funext (gen := 40) (instances := 20000) [adqWL_append, Lost]
  case pGroupingElems =>
    intro x0 x1 κ
    generalize h : pGroupingElems_k d (n+1) x0 x1 κ = out
    unfold pGroupingElems_k at h
    split_run <;> grind -funext (gen := 40) (instances := 20000) [adqWL_append, Lost]
  case pGroupingSets =>
    intro x0 κ
    generalize h : pGroupingSets_k d (n+1) x0 κ = out
    unfold pGroupingSets_k at h
    split_run <;> grind -funext (gen := 40) (instances := 20000) [adqWL_append, Lost]
  case pGroupBy =>
    intro x0 κ
    generalize h : pGroupBy_k d (n+1) x0 κ = out
    unfold pGroupBy_k at h
    split_run <;> grind -funext (gen := 40) (instances := 20000) [adqWL_append, Lost]
  case pGroupCols =>
    intro x0 κ
    generalize h : pGroupCols_k d (n+1) x0 κ = out
    unfold pGroupCols_k at h
    split_run <;> grind -funext (gen := 40) (instances := 20000) [adqWL_append, Lost]
  case pGroupSetsOpt =>
    intro x0 κ
    generalize h : pGroupSetsOpt_k d (n+1) x0 κ = out
    unfold pGroupSetsOpt_k at h
    split_run <;> grind -funext (gen := 40) (instances := 20000) [adqWL_append, Lost]
  case pWithTable =>
    intro x0 κ
    generalize h : pWithTable_k d (n+1) x0 κ = out
    unfold pWithTable_k at h
    split_run <;> grind -funext (gen := 40) (instances := 20000) [adqWL_append, Lost]
  case pWithBody =>
    intro x0 x1 κ
    generalize h : pWithBody_k d (n+1) x0 x1 κ = out
    unfold pWithBody_k at h
    split_run <;> grind -funext (gen := 40) (instances := 20000) [adqWL_append, Lost]
  case pWithTables =>
    intro x0 x1 κ
    generalize h : pWithTables_k d (n+1) x0 x1 κ = out
    unfold pWithTables_k at h
    split_run <;> grind -funext (gen := 40) (instances := 20000) [adqWL_append, Lost]
  case pWith =>
    intro x0 κ
    generalize h : pWith_k d (n+1) x0 κ = out
    unfold pWith_k at h
    split_run <;> grind -funext (gen := 40) (instances := 20000) [adqWL_append, Lost]
  case pSelectBody =>
    intro x0 x1 x2 x3 κ
    generalize h : pSelectBody_k d (n+1) x0 x1 x2 x3 κ = out
    unfold pSelectBody_k at h
    split_run <;> grind -funext (gen := 40) (instances := 20000) [adqWL_append, Lost]
  case pFromOpt =>
    intro x0 κ
    generalize h : pFromOpt_k d (n+1) x0 κ = out
    unfold pFromOpt_k at h
    split_run <;> grind -funext (gen := 40) (instances := 20000) [adqWL_append, Lost]
  case pSelectRest =>
    intro x0 x1 x2 x3 x4 x5 κ
    generalize h : pSelectRest_k d (n+1) x0 x1 x2 x3 x4 x5 κ = out
    unfold pSelectRest_k at h
    split_run <;> grind -funext (gen := 40) (instances := 20000) [adqWL_append, Lost]
  case pSelectTail =>
    intro x0 x1 x2 x3 x4 x5 x6 κ
    generalize h : pSelectTail_k d (n+1) x0 x1 x2 x3 x4 x5 x6 κ = out
    unfold pSelectTail_k at h
    split_run <;> grind -funext (gen := 40) (instances := 20000) [adqWL_append, Lost]
  case pWhereGroup =>
    intro x0 κ
    generalize h : pWhereGroup_k d (n+1) x0 κ = out
    unfold pWhereGroup_k at h
    split_run <;> grind -funext (gen := 40) (instances := 20000) [adqWL_append, Lost]
  case pHavingOrder =>
    intro x0 κ
    generalize h : pHavingOrder_k d (n+1) x0 κ = out
    unfold pHavingOrder_k at h
    split_run <;> grind -funext (gen := 40) (instances := 20000) [adqWL_append, Lost]
  case pHiveClauses =>
    intro x0 κ
    generalize h : pHiveClauses_k d (n+1) x0 κ = out
    unfold pHiveClauses_k at h
    split_run <;> grind -funext (gen := 40) (instances := 20000) [adqWL_append, Lost]
  case pSortBy =>
    intro x0 κ
    generalize h : pSortBy_k d (n+1) x0 κ = out
    unfold pSortBy_k at h
    split_run <;> grind -funext (gen := 40) (instances := 20000) [adqWL_append, Lost]
  case pByList =>
    intro x0 x1 κ
    generalize h : pByList_k d (n+1) x0 x1 κ = out
    unfold pByList_k at h
    split_run <;> grind -funext (gen := 40) (instances := 20000) [adqWL_append, Lost]
  case pLateral => exact bndF_pLateral d n ih
  case pLaterals =>
    intro x0 x1 x2 x3 κ
    generalize h : pLaterals_k d (n+1) x0 x1 x2 x3 κ = out
    unfold pLaterals_k at h
    split_run <;> grind -funext (gen := 40) (instances := 20000) [adqWL_append, Lost]
  case pSingle =>
    intro x0 x1 κ
    generalize h : pSingle_k d (n+1) x0 x1 κ = out
    unfold pSingle_k at h
    split_run <;> grind -funext (gen := 40) (instances := 20000) [adqWL_append, Lost]
  case pSingleParen => exact bndF_pSingleParen d n ih
  case pSelectStmt =>
    intro x0 x1 κ
    generalize h : pSelectStmt_k d (n+1) x0 x1 κ = out
    unfold pSelectStmt_k at h
    split_run <;> grind -funext (gen := 40) (instances := 20000) [adqWL_append, Lost]
  case pUnions =>
    intro x0 x1 x2 κ
    generalize h : pUnions_k d (n+1) x0 x1 x2 κ = out
    unfold pUnions_k at h
    split_run <;> grind -funext (gen := 40) (instances := 20000) [adqWL_append, Lost]

theorem bndF_all : ∀ n, BndF d n := by
  intro n
  induction n with
  | zero => constructor <;> (intros; simp only [pElement_k, pParen_k, pNamed_k, pQualified_k, pIndex_k, pFuncIdx_k, pFunc_k, pIfCall_k, pFirstDiscard_k, pFirstArg_k, pCall_k, pArgs_k, pCase_k, pElseEnd_k, pWhens_k, pUnary_k, pCompute_k, pComputeLoop_k, pKeyword_k, pKwFirst_k, pKwRest_k, pKwBody_k, pBetween_k, pInBody_k, pSplit_k, pCompare_k, pCompareLoop_k, pNot_k, pAnd_k, pAndLoop_k, pXor_k, pXorLoop_k, pOr_k, pOrLoop_k, pSubQuery_k, pCast_k, pExtract_k, pExtractTail_k, pWindow_k, pWindowBody_k, pPartitionBy_k, pComputeList_k, pOrderItem_k, pOrderList_k, pOrderByOpt_k, pSelectCol_k, pSelectCols_k, pTableExpr_k, pFromTable_k, pFromTables_k, pJoin_k, pJoinRule_k, pJoins_k, pOptOr_k, pGroupingElem_k, pClosedEach_k, pGroupingElems_k, pGroupingSets_k, pGroupBy_k, pGroupCols_k, pGroupSetsOpt_k, pWithTable_k, pWithBody_k, pWithTables_k, pWith_k, pSelectBody_k, pFromOpt_k, pSelectRest_k, pSelectTail_k, pWhereGroup_k, pHavingOrder_k, pHiveClauses_k, pSortBy_k, pByList_k, pLateral_k, pLaterals_k, pSingle_k, pSingleParen_k, pSelectStmt_k, pUnions_k, rem_error, remO_error, remS_error]; omega)
  | succ n ih => exact bndF_succ d n ih

theorem pElement_bnd (n : Nat) : ∀ x0 κ, (pElement_k d n x0 κ).1 + rem (pElement_k d n x0 κ).2 ≤ κ + 70 * (adqWL x0) + 58 := (bndF_all d n).pElement
theorem pParen_bnd (n : Nat) : ∀ x0 x1 κ, (pParen_k d n x0 x1 κ).1 + rem (pParen_k d n x0 x1 κ).2 ≤ κ + 70 * (adqW x0 + adqWL x1) + 6 := (bndF_all d n).pParen
theorem pNamed_bnd (n : Nat) : ∀ x0 x1 x2 κ, Sfx x1 x2 → (pNamed_k d n x0 x1 x2 κ).1 + rem (pNamed_k d n x0 x1 x2 κ).2 ≤ κ + 70 * (adqWL x2) + 57 := (bndF_all d n).pNamed
theorem pQualified_bnd (n : Nat) : ∀ x0 x1 x2 κ, Sfx x1 x2 → (pQualified_k d n x0 x1 x2 κ).1 + rem (pQualified_k d n x0 x1 x2 κ).2 ≤ κ + 70 * (adqWL x2) + 12 := (bndF_all d n).pQualified
theorem pIndex_bnd (n : Nat) : ∀ x0 x1 κ, (pIndex_k d n x0 x1 κ).1 + rem (pIndex_k d n x0 x1 κ).2 ≤ κ + 70 * (adqWL x1) + 4 := (bndF_all d n).pIndex
theorem pFuncIdx_bnd (n : Nat) : ∀ x0 κ, (pFuncIdx_k d n x0 κ).1 + rem (pFuncIdx_k d n x0 κ).2 ≤ κ + 70 * (adqWL x0) + 10 := (bndF_all d n).pFuncIdx
theorem pFunc_bnd (n : Nat) : ∀ x0 κ, (pFunc_k d n x0 κ).1 + rem (pFunc_k d n x0 κ).2 ≤ κ + 70 * (adqWL x0) + 6 := (bndF_all d n).pFunc
theorem pIfCall_bnd (n : Nat) : ∀ x0 κ, (pIfCall_k d n x0 κ).1 + rem (pIfCall_k d n x0 κ).2 ≤ κ + 70 * (adqWL x0) + 3 := (bndF_all d n).pIfCall
theorem pFirstDiscard_bnd (n : Nat) : ∀ x0 κ, (pFirstDiscard_k d n x0 κ).1 ≤ κ + 70 * (adqWL x0) + 209 := (bndF_all d n).pFirstDiscard
theorem pFirstArg_bnd (n : Nat) : ∀ x0 κ, (pFirstArg_k d n x0 κ).1 + rem (pFirstArg_k d n x0 κ).2 ≤ κ + 70 * (adqWL x0) + 209 := (bndF_all d n).pFirstArg
theorem pCall_bnd (n : Nat) : ∀ x0 x1 x2 κ, (pCall_k d n x0 x1 x2 κ).1 + rem (pCall_k d n x0 x1 x2 κ).2 ≤ κ + 70 * (adqWL x2) + 6 := (bndF_all d n).pCall
theorem pArgs_bnd (n : Nat) : ∀ x0 x1 κ, (pArgs_k d n x0 x1 κ).1 + rem (pArgs_k d n x0 x1 κ).2 ≤ κ + 70 * (adqWL x1) + 3 := (bndF_all d n).pArgs
theorem pCase_bnd (n : Nat) : ∀ x0 κ, (pCase_k d n x0 κ).1 + rem (pCase_k d n x0 κ).2 ≤ κ + 70 * (adqWL x0) + 3 := (bndF_all d n).pCase
theorem pElseEnd_bnd (n : Nat) : ∀ x0 κ, (pElseEnd_k d n x0 κ).1 + rem (pElseEnd_k d n x0 κ).2 ≤ κ + 70 * (adqWL x0) + 5 := (bndF_all d n).pElseEnd
theorem pWhens_bnd (n : Nat) : ∀ x0 x1 κ, (pWhens_k d n x0 x1 κ).1 + rem (pWhens_k d n x0 x1 κ).2 ≤ κ + 70 * (adqWL x1) + 5 := (bndF_all d n).pWhens
theorem pUnary_bnd (n : Nat) : ∀ x0 κ, (pUnary_k d n x0 κ).1 + rem (pUnary_k d n x0 κ).2 ≤ κ + 70 * (adqWL x0) + 59 := (bndF_all d n).pUnary
theorem pCompute_bnd (n : Nat) : ∀ x0 κ, (pCompute_k d n x0 κ).1 + rem (pCompute_k d n x0 κ).2 ≤ κ + 70 * (adqWL x0) + 61 := (bndF_all d n).pCompute
theorem pComputeLoop_bnd (n : Nat) : ∀ x0 x1 x2 κ, (pComputeLoop_k d n x0 x1 x2 κ).1 + rem (pComputeLoop_k d n x0 x1 x2 κ).2 ≤ κ + 70 * (adqWL x2) + 2 := (bndF_all d n).pComputeLoop
theorem pKeyword_bnd (n : Nat) : ∀ x0 x1 κ, (pKeyword_k d n x0 x1 κ).1 + rem (pKeyword_k d n x0 x1 κ).2 ≤ κ + 70 * (adqWL x1) + 194 := (bndF_all d n).pKeyword
theorem pKwFirst_bnd (n : Nat) : ∀ x0 x1 κ, (pKwFirst_k d n x0 x1 κ).1 + rem (pKwFirst_k d n x0 x1 κ).2 ≤ κ + 70 * (adqWL x1) + 61 := (bndF_all d n).pKwFirst
theorem pKwRest_bnd (n : Nat) : ∀ x0 x1 x2 κ, (pKwRest_k d n x0 x1 x2 κ).1 + rem (pKwRest_k d n x0 x1 x2 κ).2 ≤ κ + 70 * (adqWL x2) + 127 := (bndF_all d n).pKwRest
theorem pKwBody_bnd (n : Nat) : ∀ x0 x1 x2 x3 κ, (pKwBody_k d n x0 x1 x2 x3 κ).1 + remO (70 * (adqWL x3)) (pKwBody_k d n x0 x1 x2 x3 κ).2 ≤ κ + 70 * (adqWL x3) + 125 := (bndF_all d n).pKwBody
theorem pBetween_bnd (n : Nat) : ∀ x0 x1 x2 κ, (pBetween_k d n x0 x1 x2 κ).1 + remO (70 * (adqWL x2)) (pBetween_k d n x0 x1 x2 κ).2 ≤ κ + 70 * (adqWL x2) + 124 := (bndF_all d n).pBetween
theorem pInBody_bnd (n : Nat) : ∀ x0 x1 x2 κ, (pInBody_k d n x0 x1 x2 κ).1 + remO (70 * (adqWL x2)) (pInBody_k d n x0 x1 x2 κ).2 ≤ κ + 70 * (adqWL x2) + 6 := (bndF_all d n).pInBody
theorem pSplit_bnd (n : Nat) : ∀ x0 x1 x2 κ, (pSplit_k d n x0 x1 x2 κ).1 ≤ κ + 70 * (adqWL x1 + adqWL x2) + 63 := (bndF_all d n).pSplit
theorem pCompare_bnd (n : Nat) : ∀ x0 κ, (pCompare_k d n x0 κ).1 + rem (pCompare_k d n x0 κ).2 ≤ κ + 70 * (adqWL x0) + 197 := (bndF_all d n).pCompare
theorem pCompareLoop_bnd (n : Nat) : ∀ x0 x1 κ, (pCompareLoop_k d n x0 x1 κ).1 + rem (pCompareLoop_k d n x0 x1 κ).2 ≤ κ + 70 * (adqWL x1) + 3 := (bndF_all d n).pCompareLoop
theorem pNot_bnd (n : Nat) : ∀ x0 κ, (pNot_k d n x0 κ).1 + rem (pNot_k d n x0 κ).2 ≤ κ + 70 * (adqWL x0) + 200 := (bndF_all d n).pNot
theorem pAnd_bnd (n : Nat) : ∀ x0 κ, (pAnd_k d n x0 κ).1 + rem (pAnd_k d n x0 κ).2 ≤ κ + 70 * (adqWL x0) + 203 := (bndF_all d n).pAnd
theorem pAndLoop_bnd (n : Nat) : ∀ x0 x1 κ, (pAndLoop_k d n x0 x1 κ).1 + rem (pAndLoop_k d n x0 x1 κ).2 ≤ κ + 70 * (adqWL x1) + 3 := (bndF_all d n).pAndLoop
theorem pXor_bnd (n : Nat) : ∀ x0 κ, (pXor_k d n x0 κ).1 + rem (pXor_k d n x0 κ).2 ≤ κ + 70 * (adqWL x0) + 206 := (bndF_all d n).pXor
theorem pXorLoop_bnd (n : Nat) : ∀ x0 x1 κ, (pXorLoop_k d n x0 x1 κ).1 + rem (pXorLoop_k d n x0 x1 κ).2 ≤ κ + 70 * (adqWL x1) + 3 := (bndF_all d n).pXorLoop
theorem pOr_bnd (n : Nat) : ∀ x0 κ, (pOr_k d n x0 κ).1 + rem (pOr_k d n x0 κ).2 ≤ κ + 70 * (adqWL x0) + 209 := (bndF_all d n).pOr
theorem pOrLoop_bnd (n : Nat) : ∀ x0 x1 κ, (pOrLoop_k d n x0 x1 κ).1 + rem (pOrLoop_k d n x0 x1 κ).2 ≤ κ + 70 * (adqWL x1) + 3 := (bndF_all d n).pOrLoop
theorem pSubQuery_bnd (n : Nat) : ∀ x0 κ, (pSubQuery_k d n x0 κ).1 + rem (pSubQuery_k d n x0 κ).2 ≤ κ + 70 * (adqWL x0) + 3 := (bndF_all d n).pSubQuery
theorem pCast_bnd (n : Nat) : ∀ x0 κ, (pCast_k d n x0 κ).1 + rem (pCast_k d n x0 κ).2 ≤ κ + 70 * (adqWL x0) + 81 := (bndF_all d n).pCast
theorem pExtract_bnd (n : Nat) : ∀ x0 κ, (pExtract_k d n x0 κ).1 + rem (pExtract_k d n x0 κ).2 ≤ κ + 70 * (adqWL x0) + 2 := (bndF_all d n).pExtract
theorem pExtractTail_bnd (n : Nat) : ∀ x0 x1 κ, (pExtractTail_k d n x0 x1 κ).1 ≤ κ + 70 * (adqWL x1) + 3 := (bndF_all d n).pExtractTail
theorem pWindow_bnd (n : Nat) : ∀ x0 κ, (pWindow_k d n x0 κ).1 + rem (pWindow_k d n x0 κ).2 ≤ κ + 70 * (adqWL x0) + 55 := (bndF_all d n).pWindow
theorem pWindowBody_bnd (n : Nat) : ∀ x0 x1 κ, (pWindowBody_k d n x0 x1 κ).1 ≤ κ + 70 * (adqWL x1) + 41 := (bndF_all d n).pWindowBody
theorem pPartitionBy_bnd (n : Nat) : ∀ x0 κ, (pPartitionBy_k d n x0 κ).1 + rem (pPartitionBy_k d n x0 κ).2 ≤ κ + 70 * (adqWL x0) + 3 := (bndF_all d n).pPartitionBy
theorem pComputeList_bnd (n : Nat) : ∀ x0 x1 κ, (pComputeList_k d n x0 x1 κ).1 + rem (pComputeList_k d n x0 x1 κ).2 ≤ κ + 70 * (adqWL x1) + 3 := (bndF_all d n).pComputeList
theorem pOrderItem_bnd (n : Nat) : ∀ x0 κ, (pOrderItem_k d n x0 κ).1 + rem (pOrderItem_k d n x0 κ).2 ≤ κ + 70 * (adqWL x0) + 73 := (bndF_all d n).pOrderItem
theorem pOrderList_bnd (n : Nat) : ∀ x0 x1 κ, (pOrderList_k d n x0 x1 κ).1 + rem (pOrderList_k d n x0 x1 κ).2 ≤ κ + 70 * (adqWL x1) + 3 := (bndF_all d n).pOrderList
theorem pOrderByOpt_bnd (n : Nat) : ∀ x0 κ, (pOrderByOpt_k d n x0 κ).1 + rem (pOrderByOpt_k d n x0 κ).2 ≤ κ + 70 * (adqWL x0) + 3 := (bndF_all d n).pOrderByOpt
theorem pSelectCol_bnd (n : Nat) : ∀ x0 κ, (pSelectCol_k d n x0 κ).1 + rem (pSelectCol_k d n x0 κ).2 ≤ κ + 70 * (adqWL x0) + 216 := (bndF_all d n).pSelectCol
theorem pSelectCols_bnd (n : Nat) : ∀ x0 x1 κ, (pSelectCols_k d n x0 x1 κ).1 + rem (pSelectCols_k d n x0 x1 κ).2 ≤ κ + 70 * (adqWL x1) + 3 := (bndF_all d n).pSelectCols
theorem pTableExpr_bnd (n : Nat) : ∀ x0 κ, (pTableExpr_k d n x0 κ).1 + rem (pTableExpr_k d n x0 κ).2 ≤ κ + 70 * (adqWL x0) + 11 := (bndF_all d n).pTableExpr
theorem pFromTable_bnd (n : Nat) : ∀ x0 κ, (pFromTable_k d n x0 κ).1 + rem (pFromTable_k d n x0 κ).2 ≤ κ + 70 * (adqWL x0) + 18 := (bndF_all d n).pFromTable
theorem pFromTables_bnd (n : Nat) : ∀ x0 x1 κ, (pFromTables_k d n x0 x1 κ).1 + rem (pFromTables_k d n x0 x1 κ).2 ≤ κ + 70 * (adqWL x1) + 3 := (bndF_all d n).pFromTables
theorem pJoin_bnd (n : Nat) : ∀ x0 κ, (pJoin_k d n x0 κ).1 + remS 30 (pJoin_k d n x0 κ).2 ≤ κ + 70 * (adqWL x0) + 23 := (bndF_all d n).pJoin
theorem pJoinRule_bnd (n : Nat) : ∀ x0 x1 x2 κ, (pJoinRule_k d n x0 x1 x2 κ).1 + rem (pJoinRule_k d n x0 x1 x2 κ).2 ≤ κ + 70 * (adqWL x2) + 10 := (bndF_all d n).pJoinRule
theorem pJoins_bnd (n : Nat) : ∀ x0 x1 x2 x3 κ, (pJoins_k d n x0 x1 x2 x3 κ).1 + rem (pJoins_k d n x0 x1 x2 x3 κ).2 ≤ κ + 70 * (adqWL x3) + 24 := (bndF_all d n).pJoins
theorem pOptOr_bnd (n : Nat) : ∀ x0 x1 κ, (pOptOr_k d n x0 x1 κ).1 + rem (pOptOr_k d n x0 x1 κ).2 ≤ κ + 70 * (adqWL x1) + 3 := (bndF_all d n).pOptOr
theorem pGroupingElem_bnd (n : Nat) : ∀ x0 κ, (pGroupingElem_k d n x0 κ).1 ≤ κ + 70 * (adqWL x0) + 65 := (bndF_all d n).pGroupingElem
theorem pClosedEach_bnd (n : Nat) : ∀ x0 x1 κ, (pClosedEach_k d n x0 x1 κ).1 ≤ κ + 70 * (adqWLL x1) + 62 := (bndF_all d n).pClosedEach
theorem pGroupingElems_bnd (n : Nat) : ∀ x0 x1 κ, (pGroupingElems_k d n x0 x1 κ).1 ≤ κ + 70 * (adqWLL x1) + 65 := (bndF_all d n).pGroupingElems
theorem pGroupingSets_bnd (n : Nat) : ∀ x0 κ, (pGroupingSets_k d n x0 κ).1 + rem (pGroupingSets_k d n x0 κ).2 ≤ κ + 70 * (adqWL x0) + 5 := (bndF_all d n).pGroupingSets
theorem pGroupBy_bnd (n : Nat) : ∀ x0 κ, (pGroupBy_k d n x0 κ).1 + rem (pGroupBy_k d n x0 κ).2 ≤ κ + 70 * (adqWL x0) + 9 := (bndF_all d n).pGroupBy
theorem pGroupCols_bnd (n : Nat) : ∀ x0 κ, (pGroupCols_k d n x0 κ).1 + rem (pGroupCols_k d n x0 κ).2 ≤ κ + 70 * (adqWL x0) + 65 := (bndF_all d n).pGroupCols
theorem pGroupSetsOpt_bnd (n : Nat) : ∀ x0 κ, (pGroupSetsOpt_k d n x0 κ).1 + rem (pGroupSetsOpt_k d n x0 κ).2 ≤ κ + 70 * (adqWL x0) + 6 := (bndF_all d n).pGroupSetsOpt
theorem pWithTable_bnd (n : Nat) : ∀ x0 κ, (pWithTable_k d n x0 κ).1 + rem (pWithTable_k d n x0 κ).2 ≤ κ + 70 * (adqWL x0) + 4 := (bndF_all d n).pWithTable
theorem pWithBody_bnd (n : Nat) : ∀ x0 x1 κ, (pWithBody_k d n x0 x1 κ).1 + rem (pWithBody_k d n x0 x1 κ).2 ≤ κ + 70 * (adqWL x1) + 3 := (bndF_all d n).pWithBody
theorem pWithTables_bnd (n : Nat) : ∀ x0 x1 κ, (pWithTables_k d n x0 x1 κ).1 + rem (pWithTables_k d n x0 x1 κ).2 ≤ κ + 70 * (adqWL x1) + 3 := (bndF_all d n).pWithTables
theorem pWith_bnd (n : Nat) : ∀ x0 κ, (pWith_k d n x0 κ).1 + rem (pWith_k d n x0 κ).2 ≤ κ + 70 * (adqWL x0) + 3 := (bndF_all d n).pWith
theorem pSelectBody_bnd (n : Nat) : ∀ x0 x1 x2 x3 κ, (pSelectBody_k d n x0 x1 x2 x3 κ).1 + rem (pSelectBody_k d n x0 x1 x2 x3 κ).2 ≤ κ + 70 * (adqWL x3) + 5 := (bndF_all d n).pSelectBody
theorem pFromOpt_bnd (n : Nat) : ∀ x0 κ, (pFromOpt_k d n x0 κ).1 + rem (pFromOpt_k d n x0 κ).2 ≤ κ + 70 * (adqWL x0) + 3 := (bndF_all d n).pFromOpt
theorem pSelectRest_bnd (n : Nat) : ∀ x0 x1 x2 x3 x4 x5 κ, (pSelectRest_k d n x0 x1 x2 x3 x4 x5 κ).1 + rem (pSelectRest_k d n x0 x1 x2 x3 x4 x5 κ).2 ≤ κ + 70 * (adqWL x5) + 87 := (bndF_all d n).pSelectRest
theorem pSelectTail_bnd (n : Nat) : ∀ x0 x1 x2 x3 x4 x5 x6 κ, (pSelectTail_k d n x0 x1 x2 x3 x4 x5 x6 κ).1 + rem (pSelectTail_k d n x0 x1 x2 x3 x4 x5 x6 κ).2 ≤ κ + 70 * (adqWL x6) + 40 := (bndF_all d n).pSelectTail
theorem pWhereGroup_bnd (n : Nat) : ∀ x0 κ, (pWhereGroup_k d n x0 κ).1 + rem (pWhereGroup_k d n x0 κ).2 ≤ κ + 70 * (adqWL x0) + 12 := (bndF_all d n).pWhereGroup
theorem pHavingOrder_bnd (n : Nat) : ∀ x0 κ, (pHavingOrder_k d n x0 κ).1 + rem (pHavingOrder_k d n x0 κ).2 ≤ κ + 70 * (adqWL x0) + 6 := (bndF_all d n).pHavingOrder
theorem pHiveClauses_bnd (n : Nat) : ∀ x0 κ, (pHiveClauses_k d n x0 κ).1 + rem (pHiveClauses_k d n x0 κ).2 ≤ κ + 70 * (adqWL x0) + 9 := (bndF_all d n).pHiveClauses
theorem pSortBy_bnd (n : Nat) : ∀ x0 κ, (pSortBy_k d n x0 κ).1 + rem (pSortBy_k d n x0 κ).2 ≤ κ + 70 * (adqWL x0) + 3 := (bndF_all d n).pSortBy
theorem pByList_bnd (n : Nat) : ∀ x0 x1 κ, (pByList_k d n x0 x1 κ).1 + rem (pByList_k d n x0 x1 κ).2 ≤ κ + 70 * (adqWL x1) + 3 := (bndF_all d n).pByList
theorem pLateral_bnd (n : Nat) : ∀ x0 κ, (pLateral_k d n x0 κ).1 + remS 30 (pLateral_k d n x0 κ).2 ≤ κ + 70 * (adqWL x0) + 19 := (bndF_all d n).pLateral
theorem pLaterals_bnd (n : Nat) : ∀ x0 x1 x2 x3 κ, (pLaterals_k d n x0 x1 x2 x3 κ).1 + rem (pLaterals_k d n x0 x1 x2 x3 κ).2 ≤ κ + 70 * (adqWL x3) + 20 := (bndF_all d n).pLaterals
theorem pSingle_bnd (n : Nat) : ∀ x0 x1 κ, (pSingle_k d n x0 x1 κ).1 + rem (pSingle_k d n x0 x1 κ).2 ≤ κ + 70 * (adqWL x1) + 6 := (bndF_all d n).pSingle
theorem pSingleParen_bnd (n : Nat) : ∀ x0 x1 x2 x3 κ, (pSingleParen_k d n x0 x1 x2 x3 κ).1 + rem (pSingleParen_k d n x0 x1 x2 x3 κ).2 ≤ κ + 70 * (adqWL x1 + adqWL x3) + 7 + x2.length := (bndF_all d n).pSingleParen
theorem pSelectStmt_bnd (n : Nat) : ∀ x0 x1 κ, (pSelectStmt_k d n x0 x1 κ).1 + rem (pSelectStmt_k d n x0 x1 κ).2 ≤ κ + 70 * (adqWL x1) + 21 := (bndF_all d n).pSelectStmt
theorem pUnions_bnd (n : Nat) : ∀ x0 x1 x2 κ, (pUnions_k d n x0 x1 x2 κ).1 + rem (pUnions_k d n x0 x1 x2 κ).2 ≤ κ + 70 * (adqWL x2) + 12 := (bndF_all d n).pUnions

end PM
