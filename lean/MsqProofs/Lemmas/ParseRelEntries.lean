import MsqProofs.Lemmas.ParseRel8
/-!
# Relational reading of the parser model: every public entry point

`Outcome a b`: the two outcomes of an entry point agree up to the value — the same error kind, or success with related remaining cursors.
-/
open Lex Ast
namespace PM.Rel
variable [T : Theory]

def Outcome (a b : Except Err (Val × List Tok)) : Prop :=
  match a, b with
  | .ok (_, r), .ok (_, r') => GEL T.E r r'
  | .error e, .error e' => e = e'
  | _, _ => False
@[simp] theorem outcome_ok_ok (v v' : Val) (r r' : List Tok) : Outcome (.ok (v, r)) (.ok (v', r')) = GEL T.E r r' := by simp [Outcome]
@[simp] theorem outcome_err_err (e e' : Err) : Outcome (.error e) (.error e') = (e = e') := by simp [Outcome]
@[simp] theorem outcome_ok_err (p : Val × List Tok) (e : Err) : Outcome (.ok p) (.error e) = False := by
  obtain ⟨v, r⟩ := p; simp [Outcome]
@[simp] theorem outcome_err_ok (p : Val × List Tok) (e : Err) : Outcome (.error e) (.ok p) = False := by
  obtain ⟨v, r⟩ := p; simp [Outcome]

/-- one entry point from the lemma of the function it wraps -/
macro "entry_rel " t:term : tactic =>
  `(tactic| (obtain ⟨e, hx, hy⟩ | ⟨a, r, a', r', hx, hy, -, hr⟩ := GER.shape $t
             · simp only [exprEntry, stmtEntry, mapEntry, hx, hy, outcome_err_err]
             · simp only [exprEntry, stmtEntry, mapEntry, hx, hy, outcome_ok_ok, hr]))

/-- EVERY entry point `SQLParser.parse_*` of the model (`PM.entries`, 58 of them), on two token lists
related by `GEL T.E`: accepted / rejected alike, the same error kind, related remaining cursors. -/
theorem entries_rel : ∀ e ∈ PM.entries, ∀ (d : Gen.D) (f : Nat) (ts ts' : List Tok), GEL T.E ts ts' →
    Outcome (e.2 d f ts) (e.2 d f ts') := by
  unfold PM.entries
  simp only [List.forall_mem_cons, List.not_mem_nil, false_imp_iff, implies_true, and_true]
  and_intros
  all_goals intro d f ts ts' h
  all_goals try dsimp only [exprEntry, stmtEntry, mapEntry]
  -- `literal_expression`
  case _ => entry_rel popSrc_rel ts ts' h
  -- `table_name_expression`
  case _ => entry_rel pTblName_rel ts ts' h
  -- `column_name_expression`
  case _ => entry_rel pColumnName_rel ts ts' h
  -- `function_name_expression`
  case _ => entry_rel pFuncName_rel ts ts' h
  -- `function_expression`
  case _ => entry_rel (genF_all d f).pFunc ts ts' h
  -- `function_expression_and_index`
  case _ => entry_rel (genF_all d f).pFuncIdx ts ts' h
  -- `cast_function_expression`
  case _ => entry_rel (genF_all d f).pCast ts ts' h
  -- `extract_function_expression`
  case _ => entry_rel (genF_all d f).pExtract ts ts' h
  -- `if_function_expression`
  case _ => entry_rel (genF_all d f).pIfCall ts ts' h
  -- `window_expression`
  case _ => entry_rel (genF_all d f).pWindow ts ts' h
  -- `case_expression`
  case _ => entry_rel (genF_all d f).pCase ts ts' h
  -- `sub_query_expression`
  case _ => entry_rel (genF_all d f).pSubQuery ts ts' h
  -- `sub_value_expression`
  case _ => entry_rel pSubValue_rel d f ts ts' h
  -- `element_level_expression`
  case _ => entry_rel (genF_all d f).pElement ts ts' h
  -- `unary_level_expression`
  case _ => entry_rel (genF_all d f).pUnary ts ts' h
  -- `compute_expression`
  case _ => entry_rel (genF_all d f).pCompute ts ts' h
  -- `keyword_condition_level_expression`
  case _ => entry_rel (genF_all d f).pKeyword none ts none ts' rfl h
  -- `operator_condition_level_expression`
  case _ => entry_rel (genF_all d f).pCompare ts ts' h
  -- `logical_not_level_expression`
  case _ => entry_rel (genF_all d f).pNot ts ts' h
  -- `logical_and_level_expression`
  case _ => entry_rel (genF_all d f).pAnd ts ts' h
  -- `logical_xor_level_expression`
  case _ => entry_rel (genF_all d f).pXor ts ts' h
  -- `logical_or_level_expression`
  case _ => entry_rel (genF_all d f).pOr ts ts' h
  -- `from_table`
  case _ => entry_rel (genF_all d f).pFromTable ts ts' h
  -- `join_clause`
  case _ => entry_rel (genF_all d f).pJoin ts ts' h
  -- `table_expression`
  case _ => entry_rel (genF_all d f).pTableExpr ts ts' h
  -- `where_clause`
  case _ => entry_rel (genF_all d f).pOptOr "WHERE" ts "WHERE" ts' rfl (T.plain_of _ (by decide)) h
  -- `order_by_clause`
  case _ => entry_rel (genF_all d f).pOrderByOpt ts ts' h
  -- `group_by_clause`
  case _ => entry_rel (genF_all d f).pGroupBy ts ts' h
  -- `limit_clause`
  case _ => entry_rel pLimit_rel ts ts' h
  -- `with_clause`
  case _ => entry_rel (genF_all d f).pWith ts ts' h
  -- `lateral_view_clause`
  case _ => entry_rel (genF_all d f).pLateral ts ts' h
  -- `single_select_statement`
  case _ =>
    obtain ⟨e, hx, hy⟩ | ⟨w, r, w', r', hx, hy, hw, hr⟩ := GER.shape ((genF_all d f).pWith ts ts' h) <;> simp only [hx, hy, outcome_err_err]
    entry_rel (genF_all d f).pSingle w r w' r' hw hr
  -- `select_statement`
  case _ => entry_rel (genF_all d f).pSelectStmt none ts none ts' rfl h
  -- `config_string_expression`
  case _ => entry_rel pConfigStrExpr_rel ts ts' h
  -- `column_type_expression`
  case _ => entry_rel pColType_rel d f ts ts' h
  -- `partition_expression`
  case _ => entry_rel pPartition_rel d f false ts false ts' rfl h
  -- `foreign_key_expression`
  case _ => entry_rel pForeignKey_rel ts ts' h
  -- `index_column`
  case _ => entry_rel pIndexCol_rel ts ts' h
  -- `primary_index_expression`
  case _ => entry_rel pPrimaryIndex_rel ts ts' h
  -- `unique_index_expression`
  case _ => entry_rel pUniqueIndex_rel ts ts' h
  -- `normal_index_expression`
  case _ => entry_rel pNormalIndex_rel ts ts' h
  -- `fulltext_expression`
  case _ => entry_rel pFulltextIndex_rel ts ts' h
  -- `define_column_expression`
  case _ => entry_rel pDefCol_rel d f ts ts' h
  -- `column_or_index`
  case _ => entry_rel pColOrIdx_rel d f ts ts' h
  -- `alter_expression`
  case _ => entry_rel pAlterExpr_rel d f ts ts' h
  -- `set_statement`
  case _ => entry_rel pSet_rel ts ts' h
  -- `create_table_statement`
  case _ => entry_rel pCreateTable_rel d f ts ts' h
  -- `drop_table_statement`
  case _ => entry_rel pDropTable_rel ts ts' h
  -- `analyze_table_statement`
  case _ => entry_rel pAnalyze_rel d f ts ts' h
  -- `alter_table_statement`
  case _ => entry_rel pAlter_rel d f ts ts' h
  -- `msck_repair_table_statement`
  case _ => entry_rel pMsck_rel ts ts' h
  -- `use_statement`
  case _ => entry_rel pUse_rel ts ts' h
  -- `truncate_table_statement`
  case _ => entry_rel pTruncate_rel ts ts' h
  -- `update_statement`
  case _ => entry_rel pUpdate_rel d f none ts none ts' rfl h
  -- `delete_statement`
  case _ => entry_rel pDelete_rel d f ts ts' h
  -- `show_columns_statement`
  case _ => entry_rel pShowColumns_rel d f ts ts' h
  -- `insert_statement`
  case _ => entry_rel pInsert_rel d f none ts none ts' rfl h
  -- `statements`
  case _ =>
    obtain ⟨e, hx, hy⟩ | ⟨a, a', hx, hy, -⟩ := GEX.shape (pStatements_rel d f ts ts' h)
    · simp only [hx, hy, outcome_err_err]
    · simp only [hx, hy, outcome_ok_ok, gel_nil_nil]

example : PM.entries.length = 58 := by decide

/-- the same for the other 26 public entry points (`PM.entries2`, `MsqModel/Parse/Entry2.lean`; their
functions: `Lemmas/ParseRel8.lean`) -/
theorem entries2_rel : ∀ e ∈ PM.entries2, ∀ (d : Gen.D) (f : Nat) (ts ts' : List Tok), GEL T.E ts ts' →
    Outcome (e.2 d f ts) (e.2 d f ts') := by
  unfold PM.entries2
  simp only [List.forall_mem_cons, List.not_mem_nil, false_imp_iff, implies_true, and_true]
  and_intros
  all_goals intro d f ts ts' h
  -- `insert_type`
  case _ => entry_rel pInsertType_rel ts ts' h
  -- `join_type`
  case _ => entry_rel pJoinType_rel ts ts' h
  -- `order_type`
  case _ => entry_rel pOrderType_rel ts ts' h
  -- `union_type`
  case _ => entry_rel pUnionType_rel ts ts' h
  -- `compare_operator`
  case _ => entry_rel pCompareOp_rel ts ts' h
  -- `compute_operator`
  case _ => entry_rel pComputeOp_rel ts ts' h
  -- `cast_data_type`
  case _ => entry_rel pCastDataType_rel ts ts' h
  -- `window_row_item`
  case _ => entry_rel pRowItem_rel ts ts' h
  -- `window_row`
  case _ => entry_rel pWindowRow_rel ts ts' h
  -- `wildcard_expression`
  case _ => entry_rel pWildcard_rel ts ts' h
  -- `alias_expression`
  case _ => entry_rel pAlias_rel ts ts' h
  -- `multi_alias_expression`
  case _ => entry_rel pMultiAlias_rel ts ts' h
  -- `join_on_expression`
  case _ => entry_rel pJoinOn_rel d f ts ts' h
  -- `join_using_expression`
  case _ => entry_rel pJoinUsing_rel d f ts ts' h
  -- `join_expression`
  case _ => entry_rel pJoinExpr_rel d f ts ts' h
  -- `select_column`
  case _ => entry_rel (genF_all d f).pSelectCol ts ts' h
  -- `select_clause`
  case _ => entry_rel pSelectClause_rel d f ts ts' h
  -- `from_clause`
  case _ => entry_rel pFromClause_rel d f ts ts' h
  -- `grouping_sets`
  case _ => entry_rel (genF_all d f).pGroupingSets ts ts' h
  -- `having_clause`
  case _ => entry_rel (genF_all d f).pOptOr "HAVING" ts "HAVING" ts' rfl (T.plain_of _ (by decide)) h
  -- `sort_by_clause`
  case _ => entry_rel (genF_all d f).pSortBy ts ts' h
  -- `distribute_by_clause`
  case _ => entry_rel (genF_all d f).pByList "DISTRIBUTE" ts "DISTRIBUTE" ts' rfl (T.plain_of _ (by decide)) h
  -- `cluster_by_clause`
  case _ => entry_rel (genF_all d f).pByList "CLUSTER" ts "CLUSTER" ts' rfl (T.plain_of _ (by decide)) h
  -- `with_table`
  case _ => entry_rel (genF_all d f).pWithTable ts ts' h
  -- `update_set_column`
  case _ => entry_rel pUpdateSetCol_rel d f ts ts' h
  -- `update_set_clause`
  case _ => entry_rel pUpdateSet_rel d f ts ts' h

/-- all 84 public parsing entry points -/
theorem entriesAll_rel : ∀ e ∈ PM.entriesAll, ∀ (d : Gen.D) (f : Nat) (ts ts' : List Tok), GEL T.E ts ts' →
    Outcome (e.2 d f ts) (e.2 d f ts') := by
  intro e he
  simp only [entriesAll, List.mem_append] at he
  rcases he with he | he
  · exact entries_rel e he
  · exact entries2_rel e he
example : PM.entriesAll.length = 84 := by decide

omit T in
theorem tok_size_children (t : Tok) : Tok.size t = 1 + sizeL t.children := by cases t <;> rfl
mutual
theorem tok_size : ∀ t t' : Tok, T.E t t' → Tok.size t = Tok.size t'
  | .single s m, t', h => by
    have := gel_nil_left (T.children h)
    rw [tok_size_children t', this]; rfl
  | .group k cs m, t', h => by rw [tok_size_children t', ← gel_sizeL cs t'.children (T.children h)]; rfl
theorem gel_sizeL : ∀ ts ts' : List Tok, GEL T.E ts ts' → sizeL ts = sizeL ts'
  | [], ts', h => by rw [gel_nil_left h]
  | t :: ts, [], h => by simp at h
  | t :: ts, t' :: ts', h => by simp only [gel_cons_cons] at h; simp only [sizeL, tok_size t t' h.1, gel_sizeL ts ts' h.2]
end
theorem gel_fuelFor {ts ts' : List Tok} (h : GEL T.E ts ts') : fuelFor ts = fuelFor ts' := by simp [fuelFor, gel_sizeL ts ts' h]

omit T in
theorem gex_accept {α : Type} {rv : α → α → Prop} {a b : Except Err α} (h : GEX rv a b) {v : α} (ha : a = .ok v) : ∃ v', b = .ok v' ∧ rv v v' := by
  subst ha; cases b with
  | error e => simp at h
  | ok v' => exact ⟨v', rfl, by simpa using h⟩
omit T in
theorem gex_reject {α : Type} {rv : α → α → Prop} {a b : Except Err α} (h : GEX rv a b) {e : Err} (ha : a = .error e) : b = .error e := by
  subst ha; cases b with
  | error e' => simp at h; rw [h]
  | ok v' => simp at h

/-- the outcome of a text-level entry point up to the value: the same error kind, or success with the same number of unconsumed tokens -/
def OutcomeText (a b : Except Err (Val × Nat)) : Prop :=
  match a, b with
  | .ok (_, n), .ok (_, n') => n = n'
  | .error e, .error e' => e = e'
  | _, _ => False

/-- one entry run on the token lists of two texts, each with the fuel computed from its own token list -/
theorem run_entry_text (p : Entry) (hp : ∀ (d : Gen.D) (f : Nat) (ts ts' : List Tok), GEL T.E ts ts' → Outcome (p d f ts) (p d f ts'))
    (d : Gen.D) {ts ts' : List Tok} (h : GEL T.E ts ts') :
    OutcomeText (match p d (fuelFor ts) ts with | .ok (v, r) => .ok (v, r.length) | .error e => .error e)
      (match p d (fuelFor ts') ts' with | .ok (v, r) => .ok (v, r.length) | .error e => .error e) := by
  have := hp d (fuelFor ts) ts ts' h
  rw [← gel_fuelFor h]
  cases ha : p d (fuelFor ts) ts <;> cases hb : p d (fuelFor ts) ts' <;> rw [ha, hb] at this <;> simp_all [OutcomeText]
  exact gel_length this

/-- every text-level entry point `SQLParser.parse_<entry>(text, dialect)` of `PM.entries`, on two texts with related token lists -/
theorem parseText_rel (entry : String) (d : Gen.D) (text text' : List Char) {ts ts' : List Tok}
    (h1 : lex Gen.cfgS (dialectPre d text) = .ok ts) (h2 : lex Gen.cfgS (dialectPre d text') = .ok ts') (h : GEL T.E ts ts') :
    OutcomeText (parseText entry d text) (parseText entry d text') := by
  unfold parseText
  cases hf : PM.entries.find? (·.1 == entry) with
  | none => simp [OutcomeText]
  | some e => obtain ⟨n, p⟩ := e; simp only [h1, h2]; exact run_entry_text p (entries_rel (n, p) (List.mem_of_find?_eq_some hf)) d h
/-- all 84 public entry points -/
theorem parseText2_rel (entry : String) (d : Gen.D) (text text' : List Char) {ts ts' : List Tok}
    (h1 : lex Gen.cfgS (dialectPre d text) = .ok ts) (h2 : lex Gen.cfgS (dialectPre d text') = .ok ts') (h : GEL T.E ts ts') :
    OutcomeText (parseText2 entry d text) (parseText2 entry d text') := by
  unfold parseText2
  cases hf : PM.entriesAll.find? (·.1 == entry) with
  | none => simp [OutcomeText]
  | some e => obtain ⟨n, p⟩ := e; simp only [h1, h2]; exact run_entry_text p (entriesAll_rel (n, p) (List.mem_of_find?_eq_some hf)) d h
/-- … called with a `TokenScanner` (no dialect pre-pass) -/
theorem parseScanner2_rel (entry : String) (d : Gen.D) (text text' : List Char) {ts ts' : List Tok}
    (h1 : lex Gen.cfgS text = .ok ts) (h2 : lex Gen.cfgS text' = .ok ts') (h : GEL T.E ts ts') :
    OutcomeText (parseScanner2 entry d text) (parseScanner2 entry d text') := by
  unfold parseScanner2
  cases hf : PM.entriesAll.find? (·.1 == entry) with
  | none => simp [OutcomeText]
  | some e => obtain ⟨n, p⟩ := e; simp only [h1, h2]; exact run_entry_text p (entriesAll_rel (n, p) (List.mem_of_find?_eq_some hf)) d h

end PM.Rel
