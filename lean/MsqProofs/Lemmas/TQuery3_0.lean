import MsqProofs.Props.C03Q
/-!
# The larger nested fragment (CAST / EXTRACT / IF / array index / window functions; USING, GROUPING SETS / WITH CUBE / WITH ROLLUP, NULLS
FIRST / LAST, SORT / DISTRIBUTE / CLUSTER BY, LATERAL VIEW): base definitions (C03 / C02 / C01)

The clauses of `TQ2` (Lemmas/TQuery2_0.lean) over leaves of its own; `TQ2.FragQ2 ⊆ TQ3.FragQ3` with
equal renderings is proved in Lemmas/TQuery3I.lean.

* `toksE5 d ch e` / `toksS5 d ch s` / `toksQ3 d ch q` — the token-level printers (one `mutual` block).  On the constructors of `TQ` they are
  `TQ.toksE3` / `toksS3` / `toksQ` clause for clause.  In addition: `CAST(e AS [SIGNED] type [(p, …)])`, `EXTRACT(n FROM e)`, `fn OVER (…)`,
  `a[i]` (an ARRAY_INDEX group), order items with `NULLS FIRST` / `NULLS LAST`, `JOIN t f(…)` (the USING rule is a call), `GROUP BY keys
  [GROUPING SETS (…)] [WITH CUBE] [WITH ROLLUP]`, `LATERAL VIEW [OUTER] f(…) v AS a, b`, `SORT BY` / `DISTRIBUTE BY` / `CLUSTER BY`.
* continuations: `Bd4 d k rest` — `rest` may follow clause number `k` of a SELECT, with the finer clause numbering 0 select list, 1 FROM,
  2 LATERAL VIEW, 3 JOIN, 4 WHERE, 5 GROUP BY, 6 HAVING, 7 ORDER BY, 8 SORT BY, 9 DISTRIBUTE BY, 10 CLUSTER BY, 11 LIMIT (`rank4`), and the
  head is not `OVER`; `stopsQ3 d rest` = `Bd4 d 11 rest` and the head is no set operator (`TQ.stopsQ d rest → stopsQ3 d rest`:
  `stopsQ3_of_stopsQ`).
-/
open Lex PM Ast TP TP2 TS
open TQ (tblTok unionWords lvlH isExists lvlH_eq lvlH_ge lvlH_of_le8 isOkPair tblOK)
namespace TQ3

/-! ### the leaves that differ from `TQ2` (everything below is the text of Lemmas/TQuery2_0.lean; these names shadow the opened `TP.litTok`,
`TP.litOK`, `TS.aliasToks`, `TS.optAliasOK`) -/
def hexDigit (c : Char) : Bool := c.isDigit || (decide ('a' ≤ c) && decide (c ≤ 'f')) || (decide ('A' ≤ c) && decide (c ≤ 'F'))
def bitDigit (c : Char) : Bool := c == '0' || c == '1'
/-- `digits . digits`: one dot, digits around it (the first character is a digit) -/
def isDec (v : List Char) : Bool := v.all (fun c => c.isDigit || c == '.') && (v.filter (· == '.')).length == 1
/-- the body of `x'…'` / `b'…'` -/
def quotedBody (v : List Char) (p : Char → Bool) : Bool := (v.drop 2).getLast? == some '\'' && (v.drop 2).dropLast.all p
/-- the extra mark the lexer gives a number that is no integer (`2.5`: LITERAL_FLOAT), a hexadecimal literal (`0x1F`, `x'1F'`, `X'1F'`:
LITERAL_HEX) or a bit literal (`0b01`, `b'01'`, `B'01'`: LITERAL_BIT) -/
def numMark (v : List Char) : Option Nat :=
  if v.head?.any Char.isDigit then
    (if v.take 2 == ['0', 'x'] && !(v.drop 2).isEmpty && (v.drop 2).all hexDigit then some Gen.mark_LITERAL_HEX
     else if v.take 2 == ['0', 'b'] && !(v.drop 2).isEmpty && (v.drop 2).all bitDigit then some Gen.mark_LITERAL_BIT
     else if isDec v then some Gen.mark_LITERAL_FLOAT else none)
  else if (v.drop 1).head? == some '\'' then
    (if (v.head? == some 'x' || v.head? == some 'X') && quotedBody v hexDigit then some Gen.mark_LITERAL_HEX
     else if (v.head? == some 'b' || v.head? == some 'B') && quotedBody v bitDigit then some Gen.mark_LITERAL_BIT else none)
  else none
/-- literal leaf: as `TP.litMark` (integer, quoted string, literal word), and decimal / hexadecimal / bit literals -/
def litMark (v : String) : Nat :=
  if isDigits v then LITERAL ||| Gen.mark_LITERAL_INT
  else if v.toList.head? == some '\'' || v.toList.head? == some '"' then LITERAL ||| NAME
  else match numMark v.toList with
    | some m => LITERAL ||| m
    | none => wordMark v
def litTok (v : String) : Tok := .single v.toList (litMark v)
theorem src_litTok (v : String) : (litTok v).src = v := src_single v _
/-- the token of a literal carries the LITERAL mark and is no operator word -/
def litOK (d : Gen.D) (v : String) : Bool := (litTok v).has LITERAL && elemTok d (litTok v)
/-- an alias as the printer writes it: `AS` and the name through `quoteName` (bare, or back-quoted) -/
def aliasToks : Option String → List Tok
  | none => []
  | some a => [opTok "AS", qTok a]
/-- the (bare or back-quoted) token of an alias is a name and reads back as the alias -/
def aliasOK (a : String) : Bool := (qTok a).has NAME && unifyName (qTok a).src == a
def optAliasOK : Option String → Bool
  | none => true
  | some a => aliasOK a
theorem numMark_shape (v : List Char) (m : Nat) (h : numMark v = some m) : v.head?.any Char.isDigit = true ∨ (v.drop 1).head? = some '\'' := by
  unfold numMark at h
  by_cases h1 : v.head?.any Char.isDigit = true
  · exact Or.inl h1
  · simp only [h1, Bool.false_eq_true, if_false] at h
    by_cases h2 : ((v.drop 1).head? == some '\'') = true
    · exact Or.inr (by simpa using h2)
    · simp only [h2, Bool.false_eq_true, if_false] at h; cases h
theorem full2_literal (d : Gen.D) (v : String) (hv : litOK d v = true) : Full d (P2 d) 2 0 [litTok v] (.literal v) := by
  intro rest hr f hf
  simp only [sizeL, Tok.size, litTok] at hf
  obtain ⟨g, rfl⟩ : ∃ g, f = g + 2 := ⟨f - 2, by omega⟩
  simp only [litOK, elemTok, Bool.and_eq_true, Bool.not_eq_true'] at hv
  show pUnary d (g + 2) (litTok v :: rest) = _
  unfold pUnary
  simp only [hv.2.2, Bool.false_eq_true, if_false]
  unfold pElement
  simp [hv.1, src_litTok]
theorem alias_some (a : String) (h : aliasOK a = true) (fol : List Tok) : pAlias (opTok "AS" :: qTok a :: fol) = .ok (some a, fol) := by
  simp only [aliasOK, Bool.and_eq_true, beq_iff_eq] at h
  have h1 : searchStrUp (opTok "AS" :: qTok a :: fol) "AS" = true := by
    have : (opTok "AS").srcEqUp "AS" = true := by decide
    simpa [searchStrUp] using this
  unfold pAlias
  simp [h1, h.1, h.2]

/-! ### tokens -/
/-- an array index `[ … ]`: a slice group with the ARRAY_INDEX mark -/
def arr (cs : List Tok) : Tok := .group .slice cs ARRAY
def castVal (ty : String) : String := match Gen.castTypes.find? (·.1 == ty) with | some e => e.2 | none => ""
def intsTail : List Int → List Tok
  | [] => []
  | n :: r => TP2.commaTok :: intTok n :: intsTail r
def intsToks : List Int → List Tok
  | [] => []
  | n :: r => intTok n :: intsTail r
def castParamToks : Option (List Int) → List Tok
  | none => []
  | some l => [grp (intsToks l)]
def rowToks : RowItem → List Tok
  | .current => [opTok "CURRENT", opTok "ROW"]
  | .unbounded p => [opTok "UNBOUNDED", opTok (if p then "PRECEDING" else "FOLLOWING")]
  | .num n p => [intTok n, opTok (if p then "PRECEDING" else "FOLLOWING")]
def toksRows : Option (RowItem × RowItem) → List Tok
  | none => []
  | some (a, b) => opTok "ROWS" :: opTok "BETWEEN" :: (rowToks a ++ opTok "AND" :: rowToks b)
def aliasTail : List String → List Tok
  | [] => []
  | a :: r => TP2.commaTok :: qTok a :: aliasTail r
def aliasList : List String → List Tok
  | [] => []
  | a :: r => qTok a :: aliasTail r
def headIsGrp (ts : List Tok) : Bool := match ts with | t :: _ => t.has PAREN | [] => false

mutual
def toksE5 (d : Gen.D) (ch : Expr → Bool) : Expr → List Tok
  | .column none c => [nameTok c]
  | .column (some t) c => [nameTok t, dotTok, nameTok c]
  | .literal v => [litTok v]
  | .wildcard none => [starTok]
  | .wildcard (some t) => [qTok t, dotTok, starTok]
  | .func s n ps => (match s with | some s => [nameTok s, dotTok] | none => []) ++ [qTok n, grp (toksArgs4 d ch 14 ps)]
  | .agg n ps dist => [opTok n, grp ((if dist then [opTok "DISTINCT"] else []) ++ toksArgs4 d ch 14 ps)]
  | .cast e sg ty ps =>
      [opTok "CAST", grp (wrapT (ch e) e 8 (toksE5 d ch e) ++ opTok "AS" :: ((if sg then [opTok "SIGNED"] else []) ++ opTok (castVal ty) :: castParamToks ps))]
  | .extract n e => [opTok "EXTRACT", grp (wrapT (ch n) n 8 (toksE5 d ch n) ++ opTok "FROM" :: wrapT (ch e) e 8 (toksE5 d ch e))]
  | .window fn part ord rows =>
      toksE5 d ch fn ++ [opTok "OVER", grp (((if part.isEmpty then [] else [opTok "PARTITION", opTok "BY"]) ++ toksArgs4 d ch 8 part) ++
        (((if ord.isEmpty then [] else [opTok "ORDER", opTok "BY"]) ++ toksOrdList4 d ch ord) ++ toksRows rows))]
  | .caseCond cs els => opTok "CASE" :: (toksArms4 d ch cs ++ (toksElse4 d ch els ++ [opTok "END"]))
  | .caseVal v cs els =>
      opTok "CASE" :: (wrapT (ch v) v 14 (toksE5 d ch v) ++ (toksArms4 d ch cs ++ (toksElse4 d ch els ++ [opTok "END"])))
  | .subValue vs => [grp (toksArgs4 d ch 8 vs)]
  | .subQuery q => [grp (toksQ3 d ch q)]
  | .exists_ v => opTok "EXISTS" :: toksE5 d ch v
  | .index a i => toksE5 d ch a ++ [arr (wrapT (ch i) i 8 (toksE5 d ch i))]
  | .unary o e => opTok (cval o) :: wrapT (ch e) e 2 (toksE5 d ch e)
  | .compute l o r =>
      wrapT (ch l) l (PR.lvl (.compute l o r)) (toksE5 d ch l) ++ opTok (cval o) :: wrapT (ch r) r (PR.lvl (.compute l o r) - 1) (toksE5 d ch r)
  | .kw k n l r => wrapT (ch l) l 9 (toksE5 d ch l) ++ (kwToks k n ++ wrapT (ch r && k != .in_) r 8 (toksE5 d ch r))
  | .between n b f t =>
      wrapT (ch b) b 9 (toksE5 d ch b) ++ ((if n then [opTok "NOT"] else []) ++ opTok "BETWEEN" :: (wrapT (ch f) f 8 (toksE5 d ch f) ++ opTok "AND" :: wrapT (ch t) t 8 (toksE5 d ch t)))
  | .compare o l r => wrapT (ch l) l 10 (toksE5 d ch l) ++ opTok (cmpVal o) :: wrapT (ch r) r 9 (toksE5 d ch r)
  | .not_ e => opTok "NOT" :: wrapT (ch e) e 11 (toksE5 d ch e)
  | .and_ l r => wrapT (ch l) l 12 (toksE5 d ch l) ++ opTok "AND" :: wrapT (ch r) r 11 (toksE5 d ch r)
  | .xor l r => wrapT (ch l) l 13 (toksE5 d ch l) ++ opTok "XOR" :: wrapT (ch r) r 12 (toksE5 d ch r)
  | .or_ l r => wrapT (ch l) l 14 (toksE5 d ch l) ++ opTok "OR" :: wrapT (ch r) r 13 (toksE5 d ch r)
  | _ => []
def toksArgs4 (d : Gen.D) (ch : Expr → Bool) (k : Nat) : List Expr → List Tok
  | [] => []
  | a :: as => wrapT (ch a) a k (toksE5 d ch a) ++ toksArgsTail4 d ch k as
def toksArgsTail4 (d : Gen.D) (ch : Expr → Bool) (k : Nat) : List Expr → List Tok
  | [] => []
  | a :: as => TP2.commaTok :: (wrapT (ch a) a k (toksE5 d ch a) ++ toksArgsTail4 d ch k as)
def toksArms4 (d : Gen.D) (ch : Expr → Bool) : List (Expr × Expr) → List Tok
  | [] => []
  | (w, t) :: r =>
      opTok "WHEN" :: (wrapT (ch w) w 14 (toksE5 d ch w) ++ opTok "THEN" :: (wrapT (ch t) t 14 (toksE5 d ch t) ++ toksArms4 d ch r))
def toksElse4 (d : Gen.D) (ch : Expr → Bool) : Option Expr → List Tok
  | none => []
  | some y => opTok "ELSE" :: wrapT (ch y) y 14 (toksE5 d ch y)
def toksQ3 (d : Gen.D) (ch : Expr → Bool) : Query → List Tok
  | .single s => toksS5 d ch s
  | .union _ s us => toksS5 d ch s ++ toksUn2 d ch us
def toksUn2 (d : Gen.D) (ch : Expr → Bool) : List (String × Select) → List Tok
  | [] => []
  | (t, s) :: r => unionWords t ++ (toksS5 d ch s ++ toksUn2 d ch r)
def toksS5 (d : Gen.D) (ch : Expr → Bool) : Select → List Tok
  | .mk _ dist cols fr lats js wh gb hv ob sb db cb lm =>
      opTok "SELECT" :: ((if dist then [opTok "DISTINCT"] else []) ++ (toksCols4 d ch cols ++ (toksFrom4 d ch fr ++ (toksLats4 d ch lats ++
        (toksJoins4 d ch js ++ (toksOptE4 d ch "WHERE" wh ++ (toksGroup4 d ch gb ++ (toksOptE4 d ch "HAVING" hv ++ (toksOrder4 d ch ob ++
          (toksSort4 d ch sb ++ (toksBy4 d ch "DISTRIBUTE" db ++ (toksBy4 d ch "CLUSTER" cb ++ toksLimit lm))))))))))))
def toksCols4 (d : Gen.D) (ch : Expr → Bool) : List (Expr × Option String) → List Tok
  | [] => []
  | (e, a) :: cs => toksE5 d ch e ++ aliasToks a ++ toksColsTail4 d ch cs
def toksColsTail4 (d : Gen.D) (ch : Expr → Bool) : List (Expr × Option String) → List Tok
  | [] => []
  | (e, a) :: cs => TS.commaTok :: (toksE5 d ch e ++ aliasToks a ++ toksColsTail4 d ch cs)
def toksRef4 (d : Gen.D) (ch : Expr → Bool) : TableRef → List Tok
  | .table s n => [tblTok s n]
  | .sub q => [grp (toksQ3 d ch q)]
def toksTable4 (d : Gen.D) (ch : Expr → Bool) : FromTable → List Tok
  | .mk t a => toksRef4 d ch t ++ aliasToks a
def toksTablesTail4 (d : Gen.D) (ch : Expr → Bool) : List FromTable → List Tok
  | [] => []
  | t :: ts => TS.commaTok :: (toksTable4 d ch t ++ toksTablesTail4 d ch ts)
def toksFrom4 (d : Gen.D) (ch : Expr → Bool) : Option (List FromTable) → List Tok
  | some (t :: ts) => opTok "FROM" :: (toksTable4 d ch t ++ toksTablesTail4 d ch ts)
  | _ => []
def toksLat4 (d : Gen.D) (ch : Expr → Bool) : Lateral → List Tok
  | .mk o fn v as =>
      opTok "LATERAL" :: opTok "VIEW" :: ((if o then [opTok "OUTER"] else []) ++ (toksE5 d ch fn ++ opTok v :: opTok "AS" :: aliasList as))
def toksLats4 (d : Gen.D) (ch : Expr → Bool) : List Lateral → List Tok
  | [] => []
  | l :: ls => toksLat4 d ch l ++ toksLats4 d ch ls
def toksRule4 (d : Gen.D) (ch : Expr → Bool) : Option JoinRule → List Tok
  | some (.on e) => opTok "ON" :: toksE5 d ch e
  | some (.using u) => toksE5 d ch u
  | none => []
def toksJoin4 (d : Gen.D) (ch : Expr → Bool) : Join → List Tok
  | .mk ty t rule => joinWords ty ++ (toksTable4 d ch t ++ toksRule4 d ch rule)
def toksJoins4 (d : Gen.D) (ch : Expr → Bool) : List Join → List Tok
  | [] => []
  | j :: js => toksJoin4 d ch j ++ toksJoins4 d ch js
def toksOptE4 (d : Gen.D) (ch : Expr → Bool) (kw : String) : Option Expr → List Tok
  | some e => opTok kw :: toksE5 d ch e
  | none => []
/-- one grouping set: a single element bare unless its rendering starts with a bracket (then one more bracket), otherwise `(e₁, …, eₙ)` -/
def toksSet4 (d : Gen.D) (ch : Expr → Bool) : List Expr → List Tok
  | [] => [grp []]
  | [e] => if headIsGrp (wrapT (ch e) e 8 (toksE5 d ch e)) then [grp (wrapT (ch e) e 8 (toksE5 d ch e))] else wrapT (ch e) e 8 (toksE5 d ch e)
  | e :: e2 :: es => [grp (wrapT (ch e) e 8 (toksE5 d ch e) ++ TP2.commaTok :: (wrapT (ch e2) e2 8 (toksE5 d ch e2) ++ toksArgsTail4 d ch 8 es))]
def toksSetsTail4 (d : Gen.D) (ch : Expr → Bool) : List (List Expr) → List Tok
  | [] => []
  | g :: gs => TP2.commaTok :: (toksSet4 d ch g ++ toksSetsTail4 d ch gs)
def toksSets4 (d : Gen.D) (ch : Expr → Bool) : List (List Expr) → List Tok
  | [] => []
  | g :: gs => toksSet4 d ch g ++ toksSetsTail4 d ch gs
def toksSetsOpt4 (d : Gen.D) (ch : Expr → Bool) : Option (List (List Expr)) → List Tok
  | none => []
  | some l => [opTok "GROUPING", opTok "SETS", grp (toksSets4 d ch l)]
def toksGroup4 (d : Gen.D) (ch : Expr → Bool) : Option GroupBy → List Tok
  | some (.mk cols sets cube rollup) =>
      opTok "GROUP" :: opTok "BY" :: (toksArgs4 d ch 8 cols ++ (toksSetsOpt4 d ch sets ++
        ((if cube then [opTok "WITH", opTok "CUBE"] else []) ++ (if rollup then [opTok "WITH", opTok "ROLLUP"] else []))))
  | none => []
def toksOrdItem4 (d : Gen.D) (ch : Expr → Bool) : OrderItem → List Tok
  | .mk e desc nf nl => wrapT (ch e) e 8 (toksE5 d ch e) ++ ((if desc then [opTok "DESC"] else []) ++
      ((if nf then [opTok "NULLS", opTok "FIRST"] else []) ++ (if nl then [opTok "NULLS", opTok "LAST"] else [])))
def toksOrdTail4 (d : Gen.D) (ch : Expr → Bool) : List OrderItem → List Tok
  | [] => []
  | o :: os => TS.commaTok :: (toksOrdItem4 d ch o ++ toksOrdTail4 d ch os)
def toksOrdList4 (d : Gen.D) (ch : Expr → Bool) : List OrderItem → List Tok
  | [] => []
  | o :: os => toksOrdItem4 d ch o ++ toksOrdTail4 d ch os
def toksOrder4 (d : Gen.D) (ch : Expr → Bool) : Option (List OrderItem) → List Tok
  | some (o :: os) => opTok "ORDER" :: opTok "BY" :: (toksOrdItem4 d ch o ++ toksOrdTail4 d ch os)
  | _ => []
def toksSort4 (d : Gen.D) (ch : Expr → Bool) : Option (List OrderItem) → List Tok
  | some (o :: os) => opTok "SORT" :: opTok "BY" :: (toksOrdItem4 d ch o ++ toksOrdTail4 d ch os)
  | _ => []
def toksBy4 (d : Gen.D) (ch : Expr → Bool) (kw : String) : Option (List Expr) → List Tok
  | some (e :: es) => opTok kw :: opTok "BY" :: (wrapT (ch e) e 8 (toksE5 d ch e) ++ toksArgsTail4 d ch 8 es)
  | _ => []
end
def W4 (d : Gen.D) (ch : Expr → Bool) (e : Expr) (k : Nat) : List Tok := wrapT (ch e) e k (toksE5 d ch e)

/-! ### an upper bound for the number of top-level tokens of a rendering -/
mutual
def tl4 : Expr → Nat
  | .column (some _) _ => 3
  | .wildcard (some _) => 3
  | .func _ _ _ => 4
  | .agg _ _ _ => 2
  | .cast _ _ _ _ => 2
  | .extract _ _ => 2
  | .window fn _ _ _ => tl4 fn + 2
  | .index a _ => tl4 a + 1
  | .caseCond cs els => 2 + tlA4 cs + tlO4 els
  | .caseVal v cs els => 2 + tl4 v + tlA4 cs + tlO4 els
  | .exists_ v => 1 + tl4 v
  | .unary _ e => 1 + tl4 e
  | .compute l _ r => tl4 l + 1 + tl4 r
  | .kw _ _ l r => tl4 l + 2 + tl4 r
  | .between _ b f t => tl4 b + 3 + tl4 f + tl4 t
  | .compare _ l r => tl4 l + 1 + tl4 r
  | .not_ e => 1 + tl4 e
  | .and_ l r => tl4 l + 1 + tl4 r
  | .xor l r => tl4 l + 1 + tl4 r
  | .or_ l r => tl4 l + 1 + tl4 r
  | _ => 1
def tlA4 : List (Expr × Expr) → Nat
  | [] => 0
  | (w, t) :: r => 2 + tl4 w + tl4 t + tlA4 r
def tlO4 : Option Expr → Nat
  | none => 0
  | some y => 1 + tl4 y
end
theorem tl4_pos (e : Expr) : 1 ≤ tl4 e := by
  cases e with
  | column t c => cases t <;> simp [tl4]
  | wildcard t => cases t <;> simp [tl4]
  | _ => first | (simp only [tl4]; omega) | simp [tl4]
def shortL4 (vs : List Expr) : Bool := vs.all (fun v => decide (tl4 v ≤ 20))

/-! ### continuations -/
/-- the rank of the clause a word starts (finer than `TS.rank`: LATERAL VIEW and the three Hive clauses have their own numbers); 0 for the
words that continue a clause -/
def rank4 (u : String) : Nat :=
  if u == "FROM" then 1
  else if u == "LATERAL" then 2
  else if ["JOIN", "INNER", "LEFT", "RIGHT", "FULL", "CROSS"].contains u then 3
  else if u == "WHERE" then 4
  else if u == "GROUP" then 5
  else if u == "HAVING" then 6
  else if u == "ORDER" then 7
  else if u == "SORT" then 8
  else if u == "DISTRIBUTE" then 9
  else if u == "CLUSTER" then 10
  else if u == "LIMIT" then 11
  else if [",", "AS", "ON", "USING", "DISTINCT", "VIEW", "WITH", "GROUPING", "BY", "ASC", "DESC", "NULLS", "OFFSET", "SELECT"].contains u then 0
  else 12
/-- the head of a continuation: it does not continue an expression, is not read as an alias (no NAME mark, or one of the words `pAlias`
leaves alone), is no bracket, and starts a clause after clause `k` (or nothing of a SELECT) -/
def bdTok4 (d : Gen.D) (k : Nat) (t : Tok) : Bool :=
  stopTok d 14 t && (!t.has NAME || ["CROSS", "SORT", "DISTRIBUTE", "CLUSTER"].contains (up t.src)) && !t.has PAREN &&
    decide (k < rank4 (up t.src)) && !t.srcEqUp "OVER"
def Bd4 (d : Gen.D) (k : Nat) : List Tok → Bool
  | [] => true
  | t :: _ => bdTok4 d k t
def stopsQ3 (d : Gen.D) (rest : List Tok) : Bool := Bd4 d 11 rest && !setOpHead rest

/-! ### the fragment -/
/-- a join type whose words are found again as that type; its first word may follow FROM and LATERAL VIEW -/
def joinTyOK4 (d : Gen.D) (ty : String) : Bool :=
  (match firstEnumA Gen.joinTypes (joinWords ty) with | some (n, k) => n == ty && k == (joinWords ty).length | none => false) &&
    (match joinWords ty with | t :: _ => bdTok4 d 2 t && joinHead [t] | [] => false)
def unionTyOK4 (d : Gen.D) (ty : String) : Bool :=
  (match firstEnumA Gen.unionTypes (unionWords ty) with | some (n, k) => n == ty && k == (unionWords ty).length | none => false) &&
    (match unionWords ty with | t :: _ => bdTok4 d 11 t && setOpHead [t] | [] => false)
/-- a CAST type of the regenerated table: its word is found again as that type, and is not `SIGNED` -/
def castTyOK (ty : String) : Bool :=
  (match Gen.castTypes.find? (fun k => (opTok (castVal ty)).equalsStr k.2) with | some (t, _) => t == ty | none => false) &&
    !(opTok (castVal ty)).srcEqUp "SIGNED" && !(opTok (castVal ty)).has PAREN
/-- a non-negative integer whose decimal text `int()` reads back -/
def intOK (n : Int) : Bool := decide (0 ≤ n) && isOkInt (pyInt (intTok n).src) n
def castParamsOK : Option (List Int) → Bool
  | none => true
  | some l => l.all intOK
/-- a frame bound: `n PRECEDING / FOLLOWING` with `n` a non-negative integer (0 too) that is read back, and is none of the two words -/
def rowOK : RowItem → Bool
  | .num n _ => intOK n && !(intTok n).srcEqUp "CURRENT" && !(intTok n).srcEqUp "UNBOUNDED"
  | _ => true
def rowsOK : Option (RowItem × RowItem) → Bool
  | none => true
  | some (a, b) => rowOK a && rowOK b
/-- the aliases of a LATERAL VIEW: at least one, each printed by `quoteName` and read back -/
def aliasesOK : List String → Bool
  | [] => false
  | a :: as => (a :: as).all (fun x => nm2OK (qTok x) x)
/-- `IF(…)`: the parser stores the name `IF` itself -/
def ifOK (d : Gen.D) (s : Option String) (n : String) : Bool :=
  s.isNone && n == "IF" && nmOK d (qTok n) n && isOkNoneS (splitName (qTok n).src) n

mutual
def FragE5 (d : Gen.D) : Expr → Bool
  | .column none c => colOK d c
  | .column (some t) c => qcolOK d t c
  | .literal v => litOK d v
  | .wildcard none => true
  | .wildcard (some t) => wildOK d t
  | .func s n ps => (fnOK d s n || ifOK d s n) && FragL4 d ps
  | .agg n ps _ => aggOK d n && FragL4 d ps
  | .cast e _ ty ps => FragE5 d e && castTyOK ty && castParamsOK ps
  | .extract n e => FragE5 d n && FragE5 d e
  | .window fn part ord rows => winFnOK4 d fn && FragL4 d part && ordTailOK4 d ord && rowsOK rows
  | .index a i => idxBaseOK4 d a && FragE5 d i
  | .caseCond cs els => FragA4 d cs && FragO4 d els && !cs.isEmpty
  | .caseVal v cs els => FragE5 d v && FragA4 d cs && FragO4 d els && !cs.isEmpty
  | .subQuery q => FragQ3 d q
  | .exists_ v => isSubQ4 d v
  | .unary o e => unOK d o && FragE5 d e
  | .compute l o r => binOK d o && FragE5 d l && FragE5 d r
  | .kw k _ l r => FragE5 d l && (if k == .in_ then inRhs4 d r else FragE5 d r) && !isExists l
  | .between _ b f t => FragE5 d b && FragE5 d f && FragE5 d t && !isExists b
  | .compare o l r => cmpOK d o && FragE5 d l && FragE5 d r && !isExists l
  | .not_ e => FragE5 d e
  | .and_ l r => FragE5 d l && FragE5 d r
  | .xor l r => FragE5 d l && FragE5 d r
  | .or_ l r => FragE5 d l && FragE5 d r
  | _ => false
def FragL4 (d : Gen.D) : List Expr → Bool
  | [] => true
  | a :: as => FragE5 d a && FragL4 d as
def FragA4 (d : Gen.D) : List (Expr × Expr) → Bool
  | [] => true
  | (w, t) :: r => FragE5 d w && FragE5 d t && FragA4 d r
def FragO4 (d : Gen.D) : Option Expr → Bool
  | none => true
  | some y => FragE5 d y
def inRhs4 (d : Gen.D) : Expr → Bool
  | .subValue vs => FragL4 d vs && !vs.isEmpty && shortL4 vs
  | .subQuery q => FragQ3 d q
  | _ => false
def isSubQ4 (d : Gen.D) : Expr → Bool
  | .subQuery q => FragQ3 d q
  | _ => false
/-- the function of a window expression: a plain call or an aggregate call -/
def winFnOK4 (d : Gen.D) : Expr → Bool
  | .func none n ps => fnOK d none n && FragL4 d ps
  | .agg n ps _ => aggOK d n && FragL4 d ps
  | _ => false
/-- what an array index is applied to: a column or a plain call -/
def idxBaseOK4 (d : Gen.D) : Expr → Bool
  | .column none c => colOK d c
  | .column (some t) c => qcolOK d t c
  | .func none n ps => fnOK d none n && FragL4 d ps
  | _ => false
def FragQ3 (d : Gen.D) : Query → Bool
  | .single s => FragS5 d s
  | .union ws s us => (match ws with | some [] => true | _ => false) && FragS5 d s && FragUn2 d us && !us.isEmpty
def FragUn2 (d : Gen.D) : List (String × Select) → Bool
  | [] => true
  | (t, s) :: r => unionTyOK4 d t && FragS5 d s && FragUn2 d r
def FragS5 (d : Gen.D) : Select → Bool
  | .mk (some []) dist cols fr lats js wh gb hv ob sb db cb lm =>
      colsOK4 d cols && !cols.isEmpty && fromOK4 d fr && latsOK4 d lats && joinsOK4 d js && FragO4 d wh && groupOK4 d gb && FragO4 d hv &&
        orderOK4 d ob && orderOK4 d sb && byOK4 d db && byOK4 d cb && limitOK lm && (dist || !searchStrUp (toksCols4 d noX cols) "DISTINCT")
  | _ => false
def colsOK4 (d : Gen.D) : List (Expr × Option String) → Bool
  | [] => true
  | (e, a) :: cs => FragE5 d e && optAliasOK a && colsOK4 d cs
def refOK4 (d : Gen.D) : TableRef → Bool
  | .table s n => tblOK s n
  | .sub q => FragQ3 d q
def tableOK4 (d : Gen.D) : FromTable → Bool
  | .mk r a => refOK4 d r && optAliasOK a
def tablesOK4 (d : Gen.D) : List FromTable → Bool
  | [] => true
  | t :: ts => tableOK4 d t && tablesOK4 d ts
def fromOK4 (d : Gen.D) : Option (List FromTable) → Bool
  | none => true
  | some (t :: ts) => tableOK4 d t && tablesOK4 d ts
  | some [] => false
/-- the generator function of a LATERAL VIEW: a plain call whose name is not read as the word `OUTER` -/
def latFnOK4 (d : Gen.D) : Expr → Bool
  | .func none n ps => fnOK d none n && !(qTok n).srcEqUp "OUTER" && FragL4 d ps
  | _ => false
def latOK4 (d : Gen.D) : Lateral → Bool
  | .mk _ fn _ as => latFnOK4 d fn && aliasesOK as
def latsOK4 (d : Gen.D) : List Lateral → Bool
  | [] => true
  | l :: ls => latOK4 d l && latsOK4 d ls
/-- `USING (…)`: the parser reads a call; the tree stores the spelling of the word (F-C09-2) -/
def usingOK4 (d : Gen.D) : Expr → Bool
  | .func none n ps => fnOK d none n && (qTok n).srcEqUp "USING" && stopTok d 14 (qTok n) && FragL4 d ps
  | _ => false
def ruleOK4 (d : Gen.D) : Option JoinRule → Bool
  | none => true
  | some (.on e) => FragE5 d e
  | some (.using u) => usingOK4 d u
def joinOK4 (d : Gen.D) : Join → Bool
  | .mk ty t rule => joinTyOK4 d ty && tableOK4 d t && ruleOK4 d rule
def joinsOK4 (d : Gen.D) : List Join → Bool
  | [] => true
  | j :: js => joinOK4 d j && joinsOK4 d js
def setsOK4 (d : Gen.D) : List (List Expr) → Bool
  | [] => true
  | g :: gs => FragL4 d g && setsOK4 d gs
def groupOK4 (d : Gen.D) : Option GroupBy → Bool
  | none => true
  | some (.mk [] (some l) _ _) => setsOK4 d l
  | some (.mk (e :: es) sets _ _) =>
      FragE5 d e && FragL4 d es && !searchStrUp (wrapT (noX e) e 8 (toksE5 d noX e)) "GROUPING" && (match sets with | some l => setsOK4 d l | none => true)
  | _ => false
def ordItemOK4 (d : Gen.D) : OrderItem → Bool
  | .mk e _ nf nl => FragE5 d e && !(nf && nl)
def ordTailOK4 (d : Gen.D) : List OrderItem → Bool
  | [] => true
  | o :: os => ordItemOK4 d o && ordTailOK4 d os
def orderOK4 (d : Gen.D) : Option (List OrderItem) → Bool
  | none => true
  | some (o :: os) => ordItemOK4 d o && ordTailOK4 d os
  | some [] => false
def byOK4 (d : Gen.D) : Option (List Expr) → Bool
  | none => true
  | some (e :: es) => FragE5 d e && FragL4 d es
  | some [] => false
end

/-! ### the common size -/
mutual
def szE4 : Expr → Nat
  | .func _ _ ps => szL4 ps + 1
  | .agg _ ps _ => szL4 ps + 1
  | .cast e _ _ _ => szE4 e + 1
  | .extract n e => szE4 n + szE4 e + 1
  | .window fn part ord _ => szE4 fn + szL4 part + szOrdL ord + 1
  | .index a i => szE4 a + szE4 i + 1
  | .caseCond cs els => szA4 cs + szO4 els + 1
  | .caseVal v cs els => szE4 v + szA4 cs + szO4 els + 1
  | .subValue vs => szL4 vs + 1
  | .subQuery q => szQ2 q + 1
  | .exists_ v => szE4 v + 1
  | .unary _ e => szE4 e + 1
  | .compute l _ r => szE4 l + szE4 r + 1
  | .kw _ _ l r => szE4 l + szE4 r + 1
  | .between _ b f t => szE4 b + szE4 f + szE4 t + 1
  | .compare _ l r => szE4 l + szE4 r + 1
  | .not_ e => szE4 e + 1
  | .and_ l r => szE4 l + szE4 r + 1
  | .xor l r => szE4 l + szE4 r + 1
  | .or_ l r => szE4 l + szE4 r + 1
  | _ => 1
def szL4 : List Expr → Nat
  | [] => 0
  | a :: as => szE4 a + szL4 as
def szA4 : List (Expr × Expr) → Nat
  | [] => 0
  | (w, t) :: r => szE4 w + szE4 t + szA4 r
def szO4 : Option Expr → Nat
  | none => 0
  | some y => szE4 y
def szQ2 : Query → Nat
  | .single s => szS4 s + 1
  | .union _ s us => szS4 s + szUn2 us + 1
def szUn2 : List (String × Select) → Nat
  | [] => 0
  | (_, s) :: r => szS4 s + szUn2 r + 1
def szS4 : Select → Nat
  | .mk _ _ cols fr lats js wh gb hv ob sb db cb _ =>
      szCols cols + szFrom fr + szLats lats + szJoins js + szO4 wh + szGroup gb + szO4 hv + szOrder ob + szOrder sb + szBy db + szBy cb + 1
def szCols : List (Expr × Option String) → Nat
  | [] => 0
  | (e, _) :: cs => szE4 e + szCols cs
def szRef : TableRef → Nat
  | .table _ _ => 1
  | .sub q => szQ2 q + 1
def szTable : FromTable → Nat
  | .mk r _ => szRef r
def szTables : List FromTable → Nat
  | [] => 0
  | t :: ts => szTable t + szTables ts
def szFrom : Option (List FromTable) → Nat
  | none => 0
  | some ts => szTables ts
def szLat : Lateral → Nat
  | .mk _ fn _ _ => szE4 fn
def szLats : List Lateral → Nat
  | [] => 0
  | l :: ls => szLat l + szLats ls
def szRule : Option JoinRule → Nat
  | some (.on e) => szE4 e
  | some (.using u) => szE4 u
  | none => 0
def szJoin : Join → Nat
  | .mk _ t rule => szTable t + szRule rule
def szJoins : List Join → Nat
  | [] => 0
  | j :: js => szJoin j + szJoins js
def szSets : List (List Expr) → Nat
  | [] => 0
  | g :: gs => szL4 g + szSets gs
def szGroup : Option GroupBy → Nat
  | some (.mk es sets _ _) => szL4 es + (match sets with | some l => szSets l | none => 0)
  | none => 0
def szOrdItem : OrderItem → Nat
  | .mk e _ _ _ => szE4 e
def szOrdL : List OrderItem → Nat
  | [] => 0
  | o :: os => szOrdItem o + szOrdL os
def szOrder : Option (List OrderItem) → Nat
  | none => 0
  | some os => szOrdL os
def szBy : Option (List Expr) → Nat
  | none => 0
  | some es => szL4 es
end
theorem szE4_pos (e : Expr) : 1 ≤ szE4 e := by cases e <;> simp [szE4] <;> omega

end TQ3
