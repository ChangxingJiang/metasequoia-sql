import MsqProofs.Lemmas.TQueryX
/-!
# T-parse closed under nesting: the records of the clauses of a SELECT (C03 / C01)

`ColRec`, `TabRec`, `FromRec`, `JoinRec`, `OptRec`, `GroupRec`, `OrdRec`, `OrderRec`: what the mutual induction provides for the parts of a
SELECT — the expression record `RT3 d ch e` at every expression position, the query record `QT d ch q` for a derived table, the side
conditions of aliases, table names (`tblOK`: may be schema-qualified) and join types.  Continuations: `Bd3` (= `TS.Bd` and not `OVER`),
`Fol` (after a list element), `OFol` (after an ORDER BY key).
-/
open Lex PM Ast TP TS
open TC (tail_of)
namespace TQ
variable {d : Gen.D} {ch : Expr → Bool}
local notation "commaTok" => TS.commaTok

theorem b3 {k : Nat} {rest : List Tok} (h : Bd3 d k rest = true) : Bd d k rest = true := by
  simp only [Bd3, Bool.and_eq_true] at h; exact h.1
theorem b3o {k : Nat} {rest : List Tok} (h : Bd3 d k rest = true) : headIsOver rest = false := by
  simp only [Bd3, Bool.and_eq_true, Bool.not_eq_true'] at h; exact h.2
theorem bd3_mono {k k' : Nat} {rest : List Tok} (h : Bd3 d k rest = true) (hk : k' ≤ k) : Bd3 d k' rest = true := by
  simp only [Bd3, Bool.and_eq_true] at h ⊢; exact ⟨TS.bd_mono h.1 hk, h.2⟩
theorem bd3_stops {k : Nat} {rest : List Tok} (h : Bd3 d k rest = true) : TP2.stops2 d rest = true := by
  simp only [TP2.stops2, TP2.stopLE2, Bool.and_eq_true, Bool.not_eq_true']
  exact ⟨TS.bd_stops (b3 h), b3o h⟩
theorem bd3_of {k : Nat} {t : Tok} (x : List Tok) (h : bdTok d k t = true) (ho : t.srcEqUp "OVER" = false) : Bd3 d k (t :: x) = true := by
  simp only [Bd3, Bd, h, headIsOver, ho]; rfl

structure Fol (d : Gen.D) (fol : List Tok) : Prop where
  stops : TP2.stops2 d fol = true
  alias : pAlias fol = .ok (none, fol)
theorem Fol.ofBd {k : Nat} {fol : List Tok} (h : Bd3 d k fol = true) : Fol d fol := ⟨bd3_stops h, TS.bd_alias (b3 h)⟩
theorem Fol.comma (x : List Tok) : Fol d (commaTok :: x) := ⟨TP2.comma_stop2 x, TS.comma_alias x⟩
theorem Fol.tail {tl fol : List Tok} (h : tl = [] ∨ ∃ x, tl = commaTok :: x) (hf : Fol d fol) : Fol d (tl ++ fol) := tail_of Fol.comma h hf
theorem stops2_stops {fol : List Tok} (h : TP2.stops2 d fol = true) : TP.stops d fol = true := TP2.sl h

theorem as_stops2 (x : List Tok) : TP2.stops2 d (opTok "AS" :: x) = true := by
  have h : stopTok d 14 (opTok "AS") = true := by cases d <;> decide
  exact TP2.stop2_of x h (by decide)
def ColRec (d : Gen.D) (ch : Expr → Bool) (c : Expr × Option String) : Prop := RT3 d ch c.1 ∧ optAliasOK c.2 = true

theorem isOkPair_eq {r : Except Err (Option String × String)} {s : Option String} {n : String} (h : isOkPair r s n = true) : r = .ok (s, n) := by
  unfold isOkPair at h
  split at h
  · simp only [Bool.and_eq_true, beq_iff_eq] at h; obtain ⟨rfl, rfl⟩ := h; rfl
  · cases h
theorem fromTable_tbl {s : Option String} {n : String} (h : tblOK s n = true) {a : Option String} {ta fol : List Tok}
    (hdot : searchStr (ta ++ fol) "." = false) (ha : pAlias (ta ++ fol) = .ok (a, fol)) :
    OkAt (fun f => pFromTable d f (tblTok s n :: ta ++ fol)) 2 (.mk (.table s n) a, fol) := by
  simp only [tblOK, Bool.and_eq_true, Bool.not_eq_true', List.isEmpty_iff] at h
  obtain ⟨⟨⟨⟨hN, hP⟩, hC⟩, hsp⟩, _⟩ := h
  exact TC.fromTable_name hN hP hC (isOkPair_eq hsp) hdot ha
def RefRec (d : Gen.D) (ch : Expr → Bool) : TableRef → Prop
  | .table s n => tblOK s n = true
  | .sub q => QT d ch q
def TabRec (d : Gen.D) (ch : Expr → Bool) : FromTable → Prop
  | .mk r a => RefRec d ch r ∧ optAliasOK a = true
def FromRec (d : Gen.D) (ch : Expr → Bool) : Option (List FromTable) → Prop
  | none => True
  | some (t :: ts) => TabRec d ch t ∧ ∀ x ∈ ts, TabRec d ch x
  | some [] => False
def RuleRec (d : Gen.D) (ch : Expr → Bool) : Option JoinRule → Prop
  | none => True
  | some (.on e) => RT3 d ch e
  | some (.using _) => False
def JoinRec (d : Gen.D) (ch : Expr → Bool) : Join → Prop
  | .mk ty t rule => joinTyOK d ty = true ∧ TabRec d ch t ∧ RuleRec d ch rule
theorem on_fol (x : List Tok) : Fol d (opTok "ON" :: x) := by
  refine ⟨?_, (TS.on_fol (d := d) x).alias⟩
  have h : stopTok d 14 (opTok "ON") = true := by cases d <;> decide
  exact TP2.stop2_of x h (by decide)
def OptRec (d : Gen.D) (ch : Expr → Bool) : Option Expr → Prop
  | none => True
  | some e => RT3 d ch e
theorem comma_stop8 (x : List Tok) : TP2.stopLE2 d 8 (commaTok :: x) = true := TC.stopO_true.1 (TC.comma_stopO true (by omega) x)
def GroupRec (d : Gen.D) (ch : Expr → Bool) : Option GroupBy → Prop
  | none => True
  | some (.mk (e :: es) none false false) => RT3 d ch e ∧ (∀ x ∈ es, RT3 d ch x) ∧ searchStrUp (W3 d ch e 8) "GROUPING" = false
  | _ => False
structure OFol (d : Gen.D) (fol : List Tok) : Prop where
  desc : searchStrUp fol "DESC" = false
  asc : searchStrUp fol "ASC" = false
  nf : searchTwoUp fol "NULLS" "FIRST" = false
  nl : searchTwoUp fol "NULLS" "LAST" = false
  stop8 : TP2.stopLE2 d 8 fol = true
theorem OFol.ofBd {k : Nat} {fol : List Tok} (h : Bd3 d k fol = true) : OFol d fol := by
  have o := TS.OFol.ofBd (b3 h)
  exact ⟨o.desc, o.asc, o.nf, o.nl, TP2.stopLE2_mono (bd3_stops h) (by omega)⟩
theorem OFol.comma (x : List Tok) : OFol d (commaTok :: x) := by
  have o := TS.OFol.comma (d := d) x
  exact ⟨o.desc, o.asc, o.nf, o.nl, comma_stop8 x⟩
theorem desc_stop8 (x : List Tok) : TP2.stopLE2 d 8 (opTok "DESC" :: x) = true := by
  have h : stopTok d 8 (opTok "DESC") = true := by cases d <;> decide
  exact TP2.stop2_of x h (by decide)
theorem OFol.old {fol : List Tok} (h : OFol d fol) : TS.OFol d fol := ⟨h.desc, h.asc, h.nf, h.nl, TP2.sl h.stop8⟩
def OrdRec (d : Gen.D) (ch : Expr → Bool) : OrderItem → Prop
  | .mk e _ nf nl => RT3 d ch e ∧ nf = false ∧ nl = false
def OrderRec (d : Gen.D) (ch : Expr → Bool) : Option (List OrderItem) → Prop
  | none => True
  | some (o :: os) => OrdRec d ch o ∧ ∀ x ∈ os, OrdRec d ch x
  | some [] => False
end TQ
