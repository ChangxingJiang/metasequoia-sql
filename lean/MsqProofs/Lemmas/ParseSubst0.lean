import MsqModel.Parse.Entry
/-!
# C06, parser half: the payload set, the erasure of payload texts, the erasure on trees

The relational family `ParseRel*.lean` (`tools/gen_rel.py`), read at the theory `substT` (`ParseSubst3.lean`), compares two runs of the parser
model on token lists that differ only INSIDE quoted regions.  The results are compared after ERASING the texts that may differ:

* `PaySet` — a fixed set `P` of "payload texts" (the texts the parser may store from a replaced token: its source, its source without
  back-quotes) with the side conditions the proofs need (`inert`: no payload text is, after `str.upper()`, one of the function names the
  parser dispatches on — `CAST`, `EXTRACT`, `IF`, `SUBSTRING`, the aggregation names), and a second, larger set `P2` for the CONFIG STRINGS of
  `SET a.b-c = d` / `TBLPROPERTIES`, which the parser builds by CONCATENATING popped sources (`P2` is closed under `++`).
* `er s` — `s` if `s ∉ P`, the constant `c ∈ P` otherwise.  Because `c ∈ P`: `er x = er y ↔ x = y ∨ (x ∈ P ∧ y ∈ P)` (`er_eq_iff`), so two trees
  with equal erasures have the same shape and the same text in every slot, except that a slot may hold two DIFFERENT texts if both are
  payload texts.  `er2` the same for `P2`.
* `erE`, `erS`, `erQ`, … — the tree with `er` applied to every stored string.
-/
set_option linter.unusedSimpArgs false
open Lex PM Ast
namespace PMQ

/-- the function names `_parse_function_expression` dispatches on (compared with `str.upper()` of the UNIFIED name, i.e. after the
back-quotes have been stripped) -/
def inertB (s : String) : Bool := !(["CAST", "EXTRACT", "IF", "SUBSTRING"].contains (up s)) && !(Gen.aggNames.contains (up s))

/-- the payload texts (see the header) -/
class PaySet where
  P : String → Bool
  c : String
  hc : P c = true
  inert : ∀ s, P s = true → inertB s = true
  P2 : String → Bool
  c2 : String
  hc2 : P2 c2 = true
  sub : ∀ s, P s = true → P2 s = true
  catL : ∀ a b, P2 a = true → P2 (a ++ b) = true
  catR : ∀ a b, P2 b = true → P2 (a ++ b) = true

variable [S : PaySet]

def er (s : String) : String := if PaySet.P s then PaySet.c else s
def er2 (s : String) : String := if PaySet.P2 s then PaySet.c2 else s

theorem er_eq_iff (x y : String) : er x = er y ↔ x = y ∨ (PaySet.P x = true ∧ PaySet.P y = true) := by
  unfold er
  have hc := S.hc
  by_cases hx : PaySet.P x = true <;> by_cases hy : PaySet.P y = true <;> simp [hx, hy]
  · constructor
    · intro h; subst h; simp_all
    · intro h; subst h; simp_all
  · constructor
    · intro h; subst h; simp_all
    · intro h; subst h; simp_all
theorem er2_eq_iff (x y : String) : er2 x = er2 y ↔ x = y ∨ (PaySet.P2 x = true ∧ PaySet.P2 y = true) := by
  unfold er2
  have hc := S.hc2
  by_cases hx : PaySet.P2 x = true <;> by_cases hy : PaySet.P2 y = true <;> simp [hx, hy]
  · constructor
    · intro h; subst h; simp_all
    · intro h; subst h; simp_all
  · constructor
    · intro h; subst h; simp_all
    · intro h; subst h; simp_all
theorem er2_of_er {x y : String} (h : er x = er y) : er2 x = er2 y := by
  rw [er_eq_iff] at h; rw [er2_eq_iff]
  rcases h with h | ⟨h1, h2⟩
  · exact .inl h
  · exact .inr ⟨S.sub _ h1, S.sub _ h2⟩
/-- config strings are built by concatenation -/
theorem er2_append {a a' b b' : String} (h1 : er2 a = er2 a') (h2 : er2 b = er2 b') : er2 (a ++ b) = er2 (a' ++ b') := by
  rw [er2_eq_iff] at h1 h2 ⊢
  rcases h1 with rfl | ⟨h1, h1'⟩
  · rcases h2 with rfl | ⟨h2, h2'⟩
    · exact .inl rfl
    · exact .inr ⟨S.catR _ _ h2, S.catR _ _ h2'⟩
  · exact .inr ⟨S.catL _ _ h1, S.catL _ _ h1'⟩

mutual
def erE : Expr → Expr
  | .column t n => .column (t.map er) (er n)
  | .literal v => .literal (er v)
  | .wildcard t => .wildcard (t.map er)
  | .func s n ps => .func (s.map er) (er n) (erEs ps)
  | .agg n ps d => .agg (er n) (erEs ps) d
  | .cast e sg ty ps => .cast (erE e) sg (er ty) ps
  | .extract n e => .extract (erE n) (erE e)
  | .window fn part ord rows => .window (erE fn) (erEs part) (erOs ord) rows
  | .caseCond cs e => .caseCond (erArms cs) (erEo e)
  | .caseVal v cs e => .caseVal (erE v) (erArms cs) (erEo e)
  | .subValue vs => .subValue (erEs vs)
  | .subQuery q => .subQuery (erQ q)
  | .exists_ q => .exists_ (erE q)
  | .index a i => .index (erE a) (erE i)
  | .unary op e => .unary (er op) (erE e)
  | .compute l op r => .compute (erE l) (er op) (erE r)
  | .kw k n l r => .kw k n (erE l) (erE r)
  | .between n b f t => .between n (erE b) (erE f) (erE t)
  | .compare op l r => .compare (er op) (erE l) (erE r)
  | .not_ e => .not_ (erE e)
  | .and_ l r => .and_ (erE l) (erE r)
  | .xor l r => .xor (erE l) (erE r)
  | .or_ l r => .or_ (erE l) (erE r)
  | .mybatis s => .mybatis (er s)
def erEs : List Expr → List Expr
  | [] => [] | e :: r => erE e :: erEs r
def erEo : Option Expr → Option Expr
  | none => none | some e => some (erE e)
def erArms : List (Expr × Expr) → List (Expr × Expr)
  | [] => [] | (w, t) :: r => (erE w, erE t) :: erArms r
def erO : OrderItem → OrderItem
  | .mk e d nf nl => .mk (erE e) d nf nl
def erOs : List OrderItem → List OrderItem
  | [] => [] | o :: r => erO o :: erOs r
def erTR : TableRef → TableRef
  | .table s n => .table (s.map er) (er n)
  | .sub q => .sub (erQ q)
def erFT : FromTable → FromTable
  | .mk t a => .mk (erTR t) (a.map er)
def erFTs : List FromTable → List FromTable
  | [] => [] | t :: r => erFT t :: erFTs r
def erJR : JoinRule → JoinRule
  | .on e => .on (erE e) | .using f => .using (erE f)
def erJ : Join → Join
  | .mk ty t none => .mk (er ty) (erFT t) none
  | .mk ty t (some r) => .mk (er ty) (erFT t) (some (erJR r))
def erJs : List Join → List Join
  | [] => [] | j :: r => erJ j :: erJs r
def erEss : List (List Expr) → List (List Expr)
  | [] => [] | g :: r => erEs g :: erEss r
def erG : GroupBy → GroupBy
  | .mk cols none cube rollup => .mk (erEs cols) none cube rollup
  | .mk cols (some sets) cube rollup => .mk (erEs cols) (some (erEss sets)) cube rollup
def erLat : Lateral → Lateral
  | .mk o fn v as => .mk o (erE fn) (er v) (as.map er)
def erLats : List Lateral → List Lateral
  | [] => [] | l :: r => erLat l :: erLats r
def erW : WithTable → WithTable
  | .mk n q => .mk (er n) (erQ q)
def erWs : List WithTable → List WithTable
  | [] => [] | w :: r => erW w :: erWs r
def erCols : List (Expr × Option String) → List (Expr × Option String)
  | [] => [] | (e, a) :: r => (erE e, a.map er) :: erCols r
def erWso : Option (List WithTable) → Option (List WithTable)
  | none => none | some l => some (erWs l)
def erFTso : Option (List FromTable) → Option (List FromTable)
  | none => none | some l => some (erFTs l)
def erGo : Option GroupBy → Option GroupBy
  | none => none | some g => some (erG g)
def erOso : Option (List OrderItem) → Option (List OrderItem)
  | none => none | some l => some (erOs l)
def erEso : Option (List Expr) → Option (List Expr)
  | none => none | some l => some (erEs l)
def erS : Select → Select
  | .mk withs dist cols fr lats js wh gb hv ob sb db cb lm =>
    .mk (erWso withs) dist (erCols cols) (erFTso fr) (erLats lats) (erJs js) (erEo wh) (erGo gb) (erEo hv) (erOso ob) (erOso sb) (erEso db) (erEso cb) lm
def erUs : List (String × Select) → List (String × Select)
  | [] => [] | (n, s) :: r => (er n, erS s) :: erUs r
def erQ : Query → Query
  | .single s => .single (erS s)
  | .union withs first rest => .union (erWso withs) (erS first) (erUs rest)
end

/-- the stack of the compute loop -/
def erSt (st : List (Expr × String × Nat)) : List (Expr × String × Nat) := st.map fun p => (erE p.1, er p.2.1, p.2.2)

@[grind =] theorem erEs_eq : ∀ l, erEs l = l.map erE := by intro l; induction l <;> simp [erEs, *]
@[grind =] theorem erEo_eq : ∀ o, erEo o = o.map erE := by intro o; cases o <;> simp [erEo]
@[grind =] theorem erArms_eq : ∀ l, erArms l = l.map (Prod.map erE erE) := by
  intro l; induction l with | nil => simp [erArms] | cons p r ih => obtain ⟨w, t⟩ := p; simp [erArms, ih]
@[grind =] theorem erOs_eq : ∀ l, erOs l = l.map erO := by intro l; induction l <;> simp [erOs, *]
@[grind =] theorem erFTs_eq : ∀ l, erFTs l = l.map erFT := by intro l; induction l <;> simp [erFTs, *]
@[grind =] theorem erJs_eq : ∀ l, erJs l = l.map erJ := by intro l; induction l <;> simp [erJs, *]
@[grind =] theorem erEss_eq : ∀ l, erEss l = l.map (List.map erE) := by intro l; induction l <;> simp [erEss, erEs_eq, *]
@[grind =] theorem erLats_eq : ∀ l, erLats l = l.map erLat := by intro l; induction l <;> simp [erLats, *]
@[grind =] theorem erWs_eq : ∀ l, erWs l = l.map erW := by intro l; induction l <;> simp [erWs, *]
@[grind =] theorem erCols_eq : ∀ l, erCols l = l.map (Prod.map erE (Option.map er)) := by
  intro l; induction l with | nil => simp [erCols] | cons p r ih => obtain ⟨e, a⟩ := p; simp [erCols, ih]
@[grind =] theorem erUs_eq : ∀ l, erUs l = l.map (Prod.map er erS) := by
  intro l; induction l with | nil => simp [erUs] | cons p r ih => obtain ⟨n, s⟩ := p; simp [erUs, ih]
@[grind =] theorem erWso_eq : ∀ o, erWso o = o.map (List.map erW) := by intro o; cases o <;> simp [erWso, erWs_eq]
@[grind =] theorem erFTso_eq : ∀ o, erFTso o = o.map (List.map erFT) := by intro o; cases o <;> simp [erFTso, erFTs_eq]
@[grind =] theorem erGo_eq : ∀ o, erGo o = o.map erG := by intro o; cases o <;> simp [erGo]
@[grind =] theorem erOso_eq : ∀ o, erOso o = o.map (List.map erO) := by intro o; cases o <;> simp [erOso, erOs_eq]
@[grind =] theorem erEso_eq : ∀ o, erEso o = o.map (List.map erE) := by intro o; cases o <;> simp [erEso, erEs_eq]
@[grind =] theorem erJ_mk (ty : String) (t : FromTable) (r : Option JoinRule) : erJ (.mk ty t r) = .mk (er ty) (erFT t) (r.map erJR) := by
  cases r <;> simp [erJ]
@[grind =] theorem erG_mk (cols : List Expr) (sets : Option (List (List Expr))) (c r : Bool) :
    erG (.mk cols sets c r) = .mk (cols.map erE) (sets.map (List.map (List.map erE))) c r := by
  cases sets <;> simp [erG, erEs_eq, erEss_eq]
@[grind =] theorem erS_mk (withs : Option (List WithTable)) (dist : Bool) (cols : List (Expr × Option String)) (fr : Option (List FromTable))
    (lats : List Lateral) (js : List Join) (wh : Option Expr) (gb : Option GroupBy) (hv : Option Expr) (ob sb : Option (List OrderItem))
    (db cb : Option (List Expr)) (lm : Option (Int × Option Int)) :
    erS (.mk withs dist cols fr lats js wh gb hv ob sb db cb lm) =
      .mk (withs.map (List.map erW)) dist (cols.map (Prod.map erE (Option.map er))) (fr.map (List.map erFT)) (lats.map erLat) (js.map erJ)
        (wh.map erE) (gb.map erG) (hv.map erE) (ob.map (List.map erO)) (sb.map (List.map erO)) (db.map (List.map erE)) (cb.map (List.map erE)) lm := by
  simp [erS, erEs_eq, erEo_eq, erOs_eq, erFTs_eq, erJs_eq, erLats_eq, erWs_eq, erCols_eq, erWso_eq, erFTso_eq, erGo_eq, erOso_eq, erEso_eq]
@[grind =] theorem erQ_union (withs : Option (List WithTable)) (first : Select) (rest : List (String × Select)) :
    erQ (.union withs first rest) = .union (withs.map (List.map erW)) (erS first) (rest.map (Prod.map er erS)) := by
  simp [erQ, erWso_eq, erUs_eq]
@[grind =] theorem erQ_single (s : Select) : erQ (.single s) = .single (erS s) := by simp [erQ]

end PMQ
