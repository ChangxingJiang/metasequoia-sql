import MsqProofs.Lemmas.LexSim
import MsqProofs.Lemmas.LexLossless
import MsqProofs.Lemmas.LexSpec
import MsqProofs.Lemmas.LexSkel
/-!
# Lexing a text in front of a separator — generic part of C10 at text level

Used by `MsqProofs/Props/C10T.lean`.  Everything here is generic in the table (`cfg : Cfg Gen.Cls` with the generated
micro-code), the per-setting facts (summarisable code, `TableOK`, depth limit, end state) are hypotheses.

1. `PfxRel`: two runs of the lexer on texts with a common suffix whose memories agree up to position offsets and up to
   a list of tokens `P` standing in front of the BOTTOM frame of the first.  One summarised operation preserves the
   relation (`execCore_pfx`), hence `handle`, `feedWith`, `feedAllWith`, `finish` and `runTail` do (`runTail_pfx`):
   the first run returns `P ++` what the second returns, or both fail with the same error.
2. `closesWith cfg c s`: the cell of character `c` in state `s` ends the pending token exactly as the END cell of `s`
   does and reads `c` again between tokens.  `sepToks cfg c`: what the cell of `c` between tokens leaves behind (one
   token, or nothing).
3. `lexText_sep`: if `u1` is accepted with tokens `ts1`, ends in a state that `c` closes, then
   `lexText (u1 ++ c :: u2) = (lexText u2).map (ts1 ++ sepToks c ++ ·)` — whatever `u2` is, also when it is rejected.
-/
namespace Lex

/-! ## 1. a list of tokens in front of the bottom frame -/

def addPfx (P : List Tok) : List (List Tok) → List (List Tok)
  | [] => []
  | [f] => [P ++ f]
  | f :: g :: r => f :: addPfx P (g :: r)

theorem addPfx_length (P : List Tok) : ∀ stk, (addPfx P stk).length = stk.length
  | [] => rfl
  | [_] => rfl
  | _ :: g :: r => by simp [addPfx, addPfx_length P (g :: r)]

theorem addPfx_getLast? (P : List Tok) : ∀ stk, (addPfx P stk).getLast? = stk.getLast?.map (P ++ ·)
  | [] => rfl
  | [_] => rfl
  | f :: g :: r => by
    have := addPfx_getLast? P (g :: r)
    cases h : addPfx P (g :: r) with
    | nil => have := addPfx_length P (g :: r); rw [h] at this; cases this
    | cons x xs =>
      rw [h] at this
      simp only [addPfx, h, List.getLast?_cons_cons]
      exact this

theorem addPfx_nil (stk : List (List Tok)) : addPfx [] stk = stk := by
  induction stk with
  | nil => rfl
  | cons f fs ih =>
    cases fs with
    | nil => rfl
    | cons g r => simp [addPfx, ih]

theorem appendTop_addPfx (P : List Tok) (t : Tok) : ∀ {stk : List (List Tok)}, stk ≠ [] →
    appendTop t (addPfx P stk) = (appendTop t stk).map (addPfx P)
  | [f], _ => by simp [addPfx, appendTop]
  | f :: g :: r, _ => rfl

/-- memories that agree up to constant position offsets `A1`, `A2`, the first having `P` in front of its bottom frame -/
structure PfxRel (P : List Tok) (A1 A2 : Nat) (m1 m2 : Mem) : Prop where
  status : m1.status = m2.status
  stack : m1.stack = addPfx P m2.stack
  ne : m2.stack ≠ []
  pos : A1 ≤ m1.start ∧ A1 ≤ m1.now ∧ m2.start = A2 + (m1.start - A1) ∧ m2.now = A2 + (m1.now - A1)

theorem PfxRel.pos' {P : List Tok} {A1 A2 : Nat} {m1 m2 : Mem} (h : PfxRel P A1 A2 m1 m2) :
    ∃ i j, m1.start = A1 + i ∧ m2.start = A2 + i ∧ m1.now = A1 + j ∧ m2.now = A2 + j :=
  ⟨m1.start - A1, m1.now - A1, by have := h.pos; omega, h.pos.2.2.1, by have := h.pos; omega, h.pos.2.2.2⟩

abbrev PStepRel (P : List Tok) (A1 A2 : Nat) (x y : Mem × Bool) : Prop := PfxRel P A1 A2 x.1 y.1 ∧ x.2 = y.2

section psim
variable (P : List Tok) (env1 env2 : Env) (P1 P2 B : List Char)
  (hup : env1.upper = env2.upper) (hwm : env1.wordMarks = env2.wordMarks)
  (ht1 : env1.text = P1 ++ B) (ht2 : env2.text = P2 ++ B) (ss : S) (sm : Nat)
include hup hwm ht1 ht2

omit ht1 ht2 in
theorem grpStk_addPfx (grp : Grp) : ∀ {stk : List (List Tok)}, stk ≠ [] →
    grpStk env1 sm grp (addPfx P stk) = (grpStk env2 sm grp stk).map (addPfx P)
  | [f], _ => by cases grp <;> simp [grpStk, addPfx, appendTop]
  | f :: g :: r, _ => by
    cases grp with
    | none | push => rfl
    | pop k mk => simp only [addPfx, grpStk, hup, hwm]; exact appendTop_addPfx P _ (by simp)

theorem execCore_pfx (adv : Bool) (body : Body) (grp : Grp) (st : St) (ret : Bool) (m1 m2 : Mem)
    (hm : PfxRel P P1.length P2.length m1 m2) :
    ERel (PStepRel P P1.length P2.length) (execCore env1 ss sm adv body grp st ret m1)
      (execCore env2 ss sm adv body grp st ret m2) := by
  obtain ⟨i, j, h1, h2, h3, h4⟩ := hm.pos'
  obtain ⟨j', hj1, hj2⟩ : ∃ j', (if adv then m1.now + 1 else m1.now) = P1.length + j' ∧
      (if adv then m2.now + 1 else m2.now) = P2.length + j' := by
    cases adv
    · exact ⟨j, by simpa using h3, by simpa using h4⟩
    · exact ⟨j + 1, by simp; omega, by simp; omega⟩
  have hw : (env1.text.drop m1.start).take (P1.length + j' - m1.start) =
      (env2.text.drop m2.start).take (P2.length + j' - m2.start) := by
    rw [h1, h2, ht1, ht2, slice_suffix, slice_suffix]
  have hB : bodyStk env1 sm m1 (P1.length + j') body = (bodyStk env2 sm m2 (P2.length + j') body).map (addPfx P) := by
    cases body with
    | emit mk => simp only [bodyStk, hw, hup, hwm, hm.stack]; exact appendTop_addPfx P _ hm.ne
    | keep | drop => simp [bodyStk, hm.stack]
  rw [execCore_eq, execCore_eq, hj1, hj2, hB]
  cases hb2 : bodyStk env2 sm m2 (P2.length + j') body with
  | none => simp [ERel]
  | some stk =>
    have hne := bodyStk_ne_nil hb2 hm.ne
    simp only [Option.map_some, Option.bind_some, grpStk_addPfx P env1 env2 hup hwm sm grp hne]
    cases hg2 : grpStk env2 sm grp stk with
    | none => simp [ERel]
    | some stk' =>
      refine ⟨⟨by simp [hm.status], rfl, grpStk_ne_nil hg2 hne, ?_⟩, rfl⟩
      cases body <;> simp only [bodyStart] <;> omega

end psim

section pdrv
variable {Cls : Type} (cfg : Cfg Cls) (hsum : ∀ c, (summarize (cfg.code c)).isSome = true) (P : List Tok)
  (P1 P2 B : List Char)
include hsum

theorem handle_pfx (m1 m2 : Mem) (sym : Sym) (hm : PfxRel P P1.length P2.length m1 m2) :
    ERel (PStepRel P P1.length P2.length) (handle cfg (P1 ++ B) m1 sym) (handle cfg (P2 ++ B) m2 sym) := by
  cases ho : cfg.lookup m2.status sym with
  | none => simp [handle, hm.status, ho, ERel]
  | some o =>
    cases hs : summarize (cfg.code o.cls) with
    | none => have := hsum o.cls; rw [hs] at this; cases this
    | some sm =>
      rw [handle_eq cfg (P1 ++ B) m1 sym o sm (by rw [hm.status]; exact ho) hs, handle_eq cfg (P2 ++ B) m2 sym o sm ho hs]
      have hbl : sm.blocked m1 = sm.blocked m2 := by simp only [Summary.blocked, hm.stack, addPfx_length]
      simp only [execS, hbl]
      cases sm.blocked m2
      · cases sm.raises
        · simp only [Bool.false_eq_true, if_false]
          exact execCore_pfx P (cfg.env (P1 ++ B)) (cfg.env (P2 ++ B)) P1 P2 B rfl rfl rfl rfl _ _ _ _ _ _ _ m1 m2 hm
        · simp [ERel]
      · simp [ERel]

theorem feedAllWith_pfx (cs : List Char) (m1 m2 : Mem) (hm : PfxRel P P1.length P2.length m1 m2) :
    ERel (PfxRel P P1.length P2.length) (feedAllWith (handle cfg (P1 ++ B)) cs m1)
      (feedAllWith (handle cfg (P2 ++ B)) cs m2) :=
  feedAllWith_rel (fun a b sym h => handle_pfx cfg hsum P P1 P2 B a b sym h) cs m1 m2 hm

omit hsum in
theorem finish_pfx (m1 m2 : Mem) (hm : PfxRel P P1.length P2.length m1 m2) :
    finish cfg m1 = (finish cfg m2).map (P ++ ·) := by
  simp only [finish, hm.status, hm.stack, addPfx_length, addPfx_getLast?]
  split
  · rfl
  · split
    · rfl
    · cases m2.stack.getLast? <;> rfl

theorem runTail_pfx (cs : List Char) (m1 m2 : Mem) (hm : PfxRel P P1.length P2.length m1 m2) :
    runTail cfg (P1 ++ B) cs m1 = (runTail cfg (P2 ++ B) cs m2).map (P ++ ·) := by
  simp only [runTail]
  rcases (feedAllWith_pfx cfg hsum P P1 P2 B cs m1 m2 hm).cases with ⟨e, e1, e2⟩ | ⟨x, y, e1, e2, hxy⟩
  · rw [e1, e2]; rfl
  · rw [e1, e2]
    rcases (handle_pfx cfg hsum P P1 P2 B x y .eof hxy).cases with ⟨e, f1, f2⟩ | ⟨u, v, f1, f2, huv, _⟩
    · simp only [f1, f2]; rfl
    · simp only [f1, f2]; exact finish_pfx cfg P P1 P2 u.1 v.1 huv

end pdrv

/-! ## 2. separators -/

/-- what the cell of `c` between tokens leaves behind: one token (`emitStay`), or nothing (`skip`) -/
def sepToks (cfg : Cfg Gen.Cls) (c : Char) : Option (List Tok) :=
  match cfg.lookup .WAIT (.ch c) with
  | none => none
  | some o =>
    if o = Spec.skip then some []
    else if o = Spec.emitStay o.marks then some [.single [c] o.marks] else none

/-- the same as a decidable description: `some none` nothing, `some (some k)` one token with marks `k` -/
def sepMark (cfg : Cfg Gen.Cls) (c : Char) : Option (Option Nat) :=
  match cfg.lookup .WAIT (.ch c) with
  | none => none
  | some o =>
    if o = Spec.skip then some none
    else if o = Spec.emitStay o.marks then some (some o.marks) else none

def markToks (c : Char) : Option Nat → List Tok
  | none => []
  | some k => [.single [c] k]

theorem sepToks_of_mark {cfg : Cfg Gen.Cls} {c : Char} {k : Option Nat} (h : sepMark cfg c = some k) :
    sepToks cfg c = some (markToks c k) := by
  simp only [sepMark, sepToks] at *
  cases ho : cfg.lookup .WAIT (.ch c) with
  | none => rw [ho] at h; cases h
  | some o =>
    rw [ho] at h
    simp only at h ⊢
    by_cases h1 : o = Spec.skip
    · simp only [h1, if_true, Option.some.injEq] at h ⊢
      subst h; rfl
    · simp only [h1, if_false] at h ⊢
      by_cases h2 : o = Spec.emitStay o.marks
      · rw [if_pos h2] at h ⊢
        simp only [Option.some.injEq] at h
        subst h; rfl
      · rw [if_neg h2] at h; cases h

def closesWith (cfg : Cfg Gen.Cls) (c : Char) (s : S) : Bool :=
  match cfg.lookup s .eof, cfg.lookup s (.ch c) with
  | some oe, some oc =>
    (s == .WAIT && oe == Spec.finish) || (oe == Spec.emitAtEnd oe.marks && oc == Spec.emitBefore oe.marks)
      || (oe == Spec.emitWordAtEnd && oc == Spec.emitWordBefore) || (oe == Spec.dropAtEnd && oc == Spec.dropBefore)
  | _, _ => false

/-- the state at the end of a text (status projection of the run, `LexSkel.trace`) -/
def endState (cfg : Cfg Gen.Cls) (text : List Char) : S := (trace cfg .WAIT text).1

theorem goodCode_of {cfg : Cfg Gen.Cls} (hc : cfg.code = Gen.Cls.code) : GoodCode cfg := by
  intro c; rw [hc]; cases c <;> decide

section sep
variable {cfg : Cfg Gen.Cls} (hc : cfg.code = Gen.Cls.code)
include hc

theorem wait_sep (A B : List Char) (c : Char) (tc f : List Tok) (hs : sepToks cfg c = some tc) :
    handle cfg (A ++ c :: B) ⟨A.length, A.length, .WAIT, [f]⟩ (.ch c) =
      .ok (⟨A.length + 1, A.length + 1, .WAIT, [f ++ tc]⟩, true) := by
  simp only [sepToks] at hs
  cases ho : cfg.lookup .WAIT (.ch c) with
  | none => rw [ho] at hs; cases hs
  | some o =>
    rw [ho] at hs
    simp only at hs
    by_cases h1 : o = Spec.skip
    · simp only [h1, if_true, Option.some.injEq] at hs
      subst hs
      rw [handle_skip hc (m := ⟨A.length, A.length, .WAIT, [f]⟩) (by rw [ho, h1])]
      simp
    · simp only [h1, if_false] at hs
      by_cases h2 : o = Spec.emitStay o.marks
      · simp only [← h2, if_true, Option.some.injEq] at hs
        subst hs
        rw [handle_emitStay hc (m := ⟨A.length, A.length, .WAIT, [f]⟩) (k := o.marks) (f := f) (fs := [])
          (by rw [ho, ← h2]) rfl]
        simp [win]
      · simp [h2] at hs

omit hc in
theorem win_before (u x : List Char) (m : Mem) (n : Nat) (hn : n ≤ u.length) : win (u ++ x) m n = win u m n :=
  slice_prefix (u ++ x) u u.length m.start n (by simp) hn

theorem sep_step (hd : cfg.depthLimit ≤ 1) (u1 u2 : List Char) (c : Char) (m1 m' : Mem)
    (b : Bool) (ts1 tc : List Tok) (hnow : m1.now = u1.length) (hwait : m1.status = .WAIT → m1.start = m1.now)
    (h2 : handle cfg u1 m1 .eof = .ok (m', b)) (h3 : finish cfg m' = .ok ts1)
    (hcl : closesWith cfg c m1.status = true) (hs : sepToks cfg c = some tc) :
    feedWith (handle cfg (u1 ++ c :: u2)) m1 c = .ok ⟨u1.length + 1, u1.length + 1, .WAIT, [ts1 ++ tc]⟩ := by
  obtain ⟨_, hstk⟩ := finish_ok_inv hd h3
  obtain ⟨st, nw, q, stk⟩ := m1
  simp only at hnow hwait hcl
  subst hnow
  simp only [closesWith] at hcl
  cases hoe : cfg.lookup q .eof with
  | none => rw [hoe] at hcl; cases hcl
  | some oe =>
    cases hoc : cfg.lookup q (.ch c) with
    | none => rw [hoe, hoc] at hcl; cases hcl
    | some oc =>
      rw [hoe, hoc] at hcl
      simp only [Bool.or_eq_true, Bool.and_eq_true, beq_iff_eq] at hcl
      have hws := wait_sep hc u1 u2 c tc
      rcases hcl with ((⟨hq, hf⟩ | ⟨ha, hb⟩) | ⟨ha, hb⟩) | ⟨ha, hb⟩
      · -- between tokens
        subst hq
        rw [handle_finish hc (by rw [hoe, hf])] at h2
        simp only [Except.ok.injEq, Prod.mk.injEq] at h2
        rw [← h2.1] at hstk
        simp only at hstk
        subst hstk
        have := hwait rfl
        subst this
        exact feedWith_adv (hws ts1 hs)
      · have hl : cfg.lookup q .eof = some (Spec.emitAtEnd oe.marks) := by rw [hoe, ← ha]
        cases stk with
        | nil => simp [handle, hl, Spec.emitAtEnd, hc, Gen.Cls.code, exec, appendTop] at h2
        | cons f fs =>
          rw [handle_emitAtEnd hc hl rfl] at h2
          simp only [Except.ok.injEq, Prod.mk.injEq] at h2
          rw [← h2.1] at hstk
          simp only [List.cons.injEq] at hstk
          obtain ⟨h5, h6⟩ := hstk
          subst h6
          rw [feedWith_retry (handle_emitBefore hc (text := u1 ++ c :: u2) (by rw [hoc, hb]) rfl)]
          simp only
          rw [win_before u1 (c :: u2) _ _ (Nat.le_refl _), h5, hws _ hs]
      · have hl : cfg.lookup q .eof = some Spec.emitWordAtEnd := by rw [hoe, ← ha]
        cases stk with
        | nil => simp [handle, hl, Spec.emitWordAtEnd, hc, Gen.Cls.code, exec, appendTop] at h2
        | cons f fs =>
          rw [handle_emitWordAtEnd hc hl rfl] at h2
          simp only [Except.ok.injEq, Prod.mk.injEq] at h2
          rw [← h2.1] at hstk
          simp only [List.cons.injEq] at hstk
          obtain ⟨h5, h6⟩ := hstk
          subst h6
          rw [feedWith_retry (handle_emitWordBefore hc (text := u1 ++ c :: u2) (by rw [hoc, hb]) rfl)]
          simp only
          rw [win_before u1 (c :: u2) _ _ (Nat.le_refl _), h5, hws _ hs]
      · rw [handle_dropAtEnd hc (by rw [hoe, ha])] at h2
        simp only [Except.ok.injEq, Prod.mk.injEq] at h2
        rw [← h2.1] at hstk
        simp only at hstk
        subst hstk
        rw [feedWith_retry (handle_dropBefore hc (text := u1 ++ c :: u2) (by rw [hoc, hb]))]
        simp only
        rw [hws _ hs]

end sep

theorem lexText_sep {cfg : Cfg Gen.Cls} (hc : cfg.code = Gen.Cls.code)
    (hsum : ∀ c, (summarize (cfg.code c)).isSome = true) {advSt : List S} {wk : S → WK}
    (hT : TableOK cfg advSt wk = true) (hd : cfg.depthLimit ≤ 1)
    (u1 u2 : List Char) (c : Char) (ts1 tc : List Tok) (h1 : lexText cfg u1 = .ok ts1)
    (hcl : closesWith cfg c (endState cfg u1) = true) (hs : sepToks cfg c = some tc) :
    lexText cfg (u1 ++ c :: u2) = (lexText cfg u2).map (fun ts2 => ts1 ++ tc ++ ts2) := by
  simp only [lexText] at h1
  cases e1 : feedAllWith (handle cfg u1) u1 {} with
  | error x => rw [e1] at h1; cases h1
  | ok m1 =>
    rw [e1] at h1
    simp only at h1
    cases e2 : handle cfg u1 m1 .eof with
    | error x => rw [e2] at h1; cases h1
    | ok r =>
      obtain ⟨m', b⟩ := r
      rw [e2] at h1
      simp only at h1
      obtain ⟨segs1, hi1, hn1⟩ :=
        feedAll_inv cfg advSt wk u1 hT u1 {} m1 [] (Inv2.init cfg wk u1 (TableOK.wait hT)) (by simp) e1
      have hnow : m1.now = u1.length := by simpa using hn1
      have hwait : m1.status = .WAIT → m1.start = m1.now := fun hw => hi1.emptyWin (by simp [isEmptySt, hw])
      have hst : m1.status = endState cfg u1 := (feedAllWith_skel cfg hsum u1 u1 {} m1 e1 (by simp)).1
      rw [← hst] at hcl
      have hstep := sep_step hc hd u1 u2 c m1 m' b ts1 tc hnow hwait e2 h1 hcl hs
      have hA : feedAllWith (handle cfg (u1 ++ c :: u2)) u1 {} = .ok m1 := by
        rw [feedAllWith_context _ (goodCode_of hc)]; exact e1
      have hB : feedAllWith (handle cfg (u1 ++ c :: u2)) (u1 ++ [c]) {} =
          .ok ⟨u1.length + 1, u1.length + 1, .WAIT, [ts1 ++ tc]⟩ := by
        rw [feedAllWith_append_ok hA, feedAllWith_one, hstep]
      rw [lexText_eq_runTail, lexText_eq_runTail]
      have e : runTail cfg (u1 ++ c :: u2) (u1 ++ c :: u2) {} =
          runTail cfg (u1 ++ c :: u2) u2 ⟨u1.length + 1, u1.length + 1, .WAIT, [ts1 ++ tc]⟩ := by
        have : u1 ++ c :: u2 = (u1 ++ [c]) ++ u2 := by simp
        conv => lhs; arg 3; rw [this]
        exact runTail_append_ok hB _
      rw [e]
      have hp := runTail_pfx cfg hsum (ts1 ++ tc) (u1 ++ [c]) [] u2 u2
        ⟨u1.length + 1, u1.length + 1, .WAIT, [ts1 ++ tc]⟩ {}
        ⟨rfl, by simp [addPfx], by simp, by simp⟩
      simp only [List.append_assoc, List.singleton_append, List.nil_append] at hp
      rw [hp]
      cases runTail cfg u2 u2 {} <;> simp [Except.map]

end Lex
