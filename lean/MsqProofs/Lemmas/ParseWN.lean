import MsqProofs.Lemmas.ParseWNDefs
import MsqProofs.Lemmas.ParseAccountClosed
/-!
# C02 — `parse_derives`: every function of the expression block returns a tree that the documented grammar derives from the tokens it
consumed.  `wf_succ` is the fuel step, one case per function: a run at fuel `n + 1` is taken apart along one unfolding, the callees answer by
the hypothesis at fuel `n`, and the case exhibits the production of `Derives` that the path stands for.
-/
open Lex
namespace WNG
open PM Ast

section
variable {d : Gen.D} {n : Nat}

theorem re_ret {L : Nat} {pre ts : List Tok} {acc v : Expr} {r : List Tok} (hacc : Derives d L pre acc)
    (h : (Except.ok (acc, ts) : R Expr) = .ok (v, r)) : ∃ u, ts = u ++ r ∧ Derives d L (pre ++ u) v := by
  simp only [Except.ok.injEq, Prod.mk.injEq] at h
  obtain ⟨rfl, rfl⟩ := h
  exact ⟨[], by simp, by simpa using hacc⟩

/-- a function that runs `p` and hands its tree `e`, wrapped as `f e`, to a continuation: if `p`'s tree derives, `f e` derives with
the tokens `pre` in front, and the continuation extends what it is given, then the whole run derives (`pre = []`, `f = id`: an
operand followed by its loop; `pre` = left operand and operator: one round of a loop) -/
theorem RE.seq {L' M L : Nat} {pre ts : List Tok} {p : R Expr} {f : Expr → Expr} {k : Expr → List Tok → R Expr}
    (hp : RE d L' [] ts p) (hf : ∀ u e, Derives d L' u e → Derives d M (pre ++ u) (f e))
    (hk : ∀ e u r1, Derives d M u e → RE d L u r1 (k e r1)) :
    RE d L pre ts (match (generalizing := false) p with | .ok (e, r1) => k (f e) r1 | .error err => .error err) := by
  intro v r h
  rcases p with err | ⟨e, r1⟩
  · cases h
  · obtain ⟨u1, rfl, hd1⟩ := hp e r1 rfl
    obtain ⟨u2, rfl, hd2⟩ := hk _ _ r1 (hf _ _ hd1) v r h
    exact ⟨u1 ++ u2, by simp, by simpa using hd2⟩

theorem RE.shift {L : Nat} {pre r0 : List Tok} {t : Tok} {a : R Expr} (h : RE d L (pre ++ [t]) r0 a) : RE d L pre (t :: r0) a :=
  fun v r e => let ⟨u, hu, hd⟩ := h v r e; ⟨t :: u, by simp [hu], by simpa using hd⟩

theorem skipNot_spec (d : Gen.D) (r0 : List Tok) : ∃ ns, r0 = ns ++ (skipNot d r0).2 ∧ NotOpt d ns (skipNot d r0).1 := by
  unfold skipNot
  split
  · rename_i t r
    split
    · rename_i hc
      exact ⟨[t], rfl, .yes hc⟩
    · exact ⟨[], rfl, .no⟩
  · exact ⟨[], rfl, .no⟩

theorem segs_append {d : Gen.D} {a b : List (List Tok)} {x y : List Expr} (h1 : Segs d a x) (h2 : Segs d b y) : Segs d (a ++ b) (x ++ y) := by
  induction a generalizing x with
  | nil => cases h1; simpa using h2
  | cons s a ih =>
    cases h1 with
    | cons hd hs => exact .cons hd (ih hs)

theorem likeKind_of {k : String} (hc : (k == "LIKE" || k == "RLIKE" || k == "REGEXP") = true) :
    likeKind k = some (if k == "LIKE" then KwKind.like else if k == "RLIKE" then .rlike else .regexp) := by
  unfold likeKind
  by_cases h1 : (k == "LIKE") = true <;> by_cases h2 : (k == "RLIKE") = true <;> by_cases h3 : (k == "REGEXP") = true <;> simp_all

theorem notOpt_false {d : Gen.D} {ns : List Tok} (h : NotOpt d ns false) : ns = [] := by cases h; rfl

theorem matchSeq1_ok {ts r : List Tok} {k : String} (h : matchSeq ts [k] = .ok ((), r)) : ∃ t, ts = t :: r ∧ t.equalsStr k = true := by
  cases ts with
  | nil => simp [matchSeq] at h
  | cons t r0 =>
    simp only [matchSeq] at h
    split at h
    · rename_i hc
      simp only [Except.ok.injEq, Prod.mk.injEq, true_and] at h
      exact ⟨t, by rw [h], hc⟩
    · cases h

theorem pFuncName_spec {ts r : List Tok} {s : Option String} {nm : String} (h : pFuncName ts = .ok ((s, nm), r)) :
    ∃ u, ts = u ++ r ∧ FName u s nm := by
  unfold pFuncName at h
  split at h
  · rename_i a b c r0
    split at h
    · rename_i hc
      simp only [Bool.and_eq_true] at hc
      simp only [Except.ok.injEq, Prod.mk.injEq] at h
      obtain ⟨⟨rfl, rfl⟩, rfl⟩ := h
      exact ⟨[a, b, c], by simp, .dotted hc.1.1 hc.1.2 hc.2⟩
    · split at h
      · rename_i ha
        split at h
        · rename_i x hx
          simp only [Except.ok.injEq, Prod.mk.injEq] at h
          obtain ⟨rfl, rfl⟩ := h
          exact ⟨[a], by simp, .plain ha hx⟩
        · cases h
      · cases h
  · rename_i a r0 _
    split at h
    · rename_i ha
      split at h
      · rename_i x hx
        simp only [Except.ok.injEq, Prod.mk.injEq] at h
        obtain ⟨rfl, rfl⟩ := h
        exact ⟨[a], by simp, .plain ha hx⟩
      · cases h
    · cases h
  · cases h

theorem commaTail_nil {L : Nat} {es : List Expr} (h : CommaTail d L [] es) : es = [] := by
  cases h; rfl

/-- `pFirstArg` followed by `closed (pArgs …)` -/
theorem args_build {inner r2 u' : List Tok} {acc es : List Expr}
    (h1 : (inner = [] ∧ acc = [] ∧ r2 = []) ∨ ∃ u e, inner = u ++ r2 ∧ acc = [e] ∧ Derives d 14 u e)
    (h2 : r2 = u' ++ []) (h3 : CommaTail d 14 u' es) : Args d inner (acc ++ es) := by
  simp only [List.append_nil] at h2
  subst h2
  rcases h1 with ⟨rfl, rfl, rfl⟩ | ⟨u, e, rfl, rfl, hd⟩
  · have := commaTail_nil h3
    subst this
    exact .nil
  · exact .cons hd h3

end

variable (d : Gen.D)

theorem wf_succ (n : Nat) (ih : WF d n) : WF d (n+1) where
  pElement := by
    intro ts v r h
    unfold pElement at h
    split at h
    · cases h
    · rename_i n0 r0
      split at h
      · rename_i hl
        simp only [Except.ok.injEq, Prod.mk.injEq] at h
        obtain ⟨rfl, rfl⟩ := h
        exact ⟨[n0], by simp, Derives.literal hl⟩
      · rename_i hl
        split at h
        · rename_i hp
          exact ih.pParen n0 r0 (by simpa using hl) hp v r h
        · rename_i hp
          split at h
          · exact ih.pCase _ v r h
          · split at h
            · rename_i hst
              simp only [Except.ok.injEq, Prod.mk.injEq] at h
              obtain ⟨rfl, rfl⟩ := h
              exact ⟨[n0], by simp, Derives.wildcard hst⟩
            · exact ih.pNamed n0 r0 (by simpa using hl) (by simpa using hp) v r h
  pParen := by
    intro n0 r0 hl hp v r h
    unfold pParen at h
    split at h
    · rename_i hc
      obtain ⟨g, q, hg, rfl, hq⟩ := ih.pSubQuery _ v r h
      simp only [List.cons.injEq] at hg
      obtain ⟨rfl, rfl⟩ := hg
      exact ⟨[n0], by simp, Derives.subQuery hl hp hc hq⟩
    · rename_i hc
      split at h
      · rename_i e he
        simp only [Except.ok.injEq, Prod.mk.injEq] at h
        obtain ⟨rfl, rfl⟩ := h
        obtain ⟨u, hu, hd⟩ := ih.pOr _ e [] he
        simp only [List.append_nil] at hu
        exact ⟨[n0], by simp, Derives.paren hl hp (by simpa using hc) (by rw [hu]; simpa using hd)⟩
      · cases h
      · cases h
  pNamed := by
    intro n0 r0 hl hp v r h
    have hcol : ∀ x, pIndex d n (.column none (unifyName n0.src)) r0 = x → x = .ok (v, r) →
        ∃ u, n0 :: r0 = u ++ r ∧ Derives d 0 ([] ++ u) v := by
      intro x hx hxe
      subst hx
      have hb : Derives d 0 [n0] (.column none (unifyName n0.src)) := .column hl hp
      obtain ⟨u, rfl, hd⟩ := ih.pIndex _ _ r0 hb v r hxe
      exact ⟨n0 :: u, by simp, by simpa using hd⟩
    unfold pNamed at h
    split at h
    · rename_i n1 r1
      split at h
      · split at h
        · exact ih.pWindow _ v r h
        · exact ih.pFuncIdx _ v r h
      · split at h
        · rename_i hdot
          exact ih.pQualified n0 n1 r1 hdot v r h
        · exact hcol _ rfl h
    · exact hcol _ rfl h
  pQualified := by
    intro n0 n1 r1 hdot v r h
    unfold pQualified at h
    split at h
    · cases h
    · rename_i n2 r2
      split at h
      · rename_i hname
        split at h
        · exact ih.pFuncIdx _ v r h
        · have hb : Derives d 0 [n0, n1, n2] (.column (some (unifyName n0.src)) (unifyName n2.src)) := .qcolumn hdot hname
          obtain ⟨u, rfl, hd⟩ := ih.pIndex _ _ r2 hb v r h
          exact ⟨n0 :: n1 :: n2 :: u, by simp, by simpa using hd⟩
      · split at h
        · rename_i hst
          simp only [Except.ok.injEq, Prod.mk.injEq] at h
          obtain ⟨rfl, rfl⟩ := h
          exact ⟨[n0, n1, n2], by simp, Derives.qwildcard hdot hst⟩
        · cases h
  pIndex := by
    intro before pre ts hb v r h
    unfold pIndex at h
    split at h
    · rename_i t r0
      split at h
      · rename_i hc
        split at h
        · rename_i i hi
          simp only [Except.ok.injEq, Prod.mk.injEq] at h
          obtain ⟨rfl, rfl⟩ := h
          obtain ⟨u, hu, hd⟩ := ih.pCompute _ i [] hi
          simp only [List.append_nil] at hu
          exact ⟨[t], by simp, Derives.index hb hc (by rw [hu]; simpa using hd)⟩
        · cases h
        · cases h
      · exact re_ret hb h
    · exact re_ret hb h
  pFuncIdx := by
    intro ts
    unfold pFuncIdx
    exact RE.seq (pre := []) (f := id) (ih.pFunc ts) (fun _ _ h => h) ih.pIndex
  pFunc := by
    intro ts v r h
    unfold pFunc at h
    split at h
    · cases h
    · rename_i schema name r0 hf
      obtain ⟨nm, rfl, hn⟩ := pFuncName_spec hf
      have fin : ∀ {x : R Expr}, RE d 0 nm r0 x → x = .ok (v, r) → ∃ u, nm ++ r0 = u ++ r ∧ Derives d 0 ([] ++ u) v := by
        intro x hx hxe
        obtain ⟨u, rfl, hd⟩ := hx v r hxe
        exact ⟨nm ++ u, by simp, by simpa using hd⟩
      split at h
      · rename_i hc
        simp only [Bool.and_eq_true, Option.isNone_iff_eq_none, beq_iff_eq] at hc
        obtain ⟨rfl, hname⟩ := hc
        exact fin (ih.pCast nm name r0 hn hname) h
      split at h
      · rename_i hc
        simp only [Bool.and_eq_true, Option.isNone_iff_eq_none, beq_iff_eq] at hc
        obtain ⟨rfl, hname⟩ := hc
        exact fin (ih.pExtract nm name r0 hn hname) h
      split at h
      · rename_i hc
        simp only [Bool.and_eq_true, Option.isNone_iff_eq_none, beq_iff_eq] at hc
        obtain ⟨rfl, hname⟩ := hc
        exact fin (ih.pIfCall nm name r0 hn hname) h
      · exact fin (ih.pCall nm schema name r0 hn) h
  pIfCall := by
    intro nm name r hn hname v r' h
    unfold pIfCall at h
    split at h
    · cases h
    · rename_i g r0
      split at h
      · cases h
      · rename_i acc r2 h1
        split at h
        · rename_i ps hps
          simp only [Except.ok.injEq, Prod.mk.injEq] at h
          obtain ⟨rfl, rfl⟩ := h
          rw [closed_ok] at hps
          obtain ⟨u', es, hu', rfl, hct⟩ := ih.pArgs acc r2 ps [] hps
          have ha := args_build (ih.pFirstArg _ acc r2 h1) hu' hct
          exact ⟨[g], by simp, Derives.ifCall hn hname ha⟩
        · cases h
  pFirstArg := by
    intro inner acc r2 h
    unfold pFirstArg at h
    split at h
    · rename_i hc
      simp only [Except.ok.injEq, Prod.mk.injEq] at h
      obtain ⟨rfl, rfl⟩ := h
      left
      simpa using hc
    · split at h
      · rename_i e r h1
        simp only [Except.ok.injEq, Prod.mk.injEq] at h
        obtain ⟨rfl, rfl⟩ := h
        obtain ⟨u, hu, hd⟩ := ih.pOr inner e r h1
        exact .inr ⟨u, e, hu, rfl, by simpa using hd⟩
      · cases h
  pCall := by
    intro nm s name r hn v r' h
    unfold pCall at h
    split at h
    · cases h
    · rename_i g r0
      split at h
      · cases h
      · rename_i acc r2 h1
        split at h
        · rename_i ps hps
          simp only [Except.ok.injEq, Prod.mk.injEq] at h
          obtain ⟨rfl, rfl⟩ := h
          rw [closed_ok] at hps
          obtain ⟨u', es, hu', rfl, hct⟩ := ih.pArgs acc r2 ps [] hps
          have ha := args_build (ih.pFirstArg _ acc r2 h1) hu' hct
          exact ⟨[g], by simp, Derives.call hn ha⟩
        · cases h
  pArgs := by
    intro acc ts ps r h
    unfold pArgs at h
    by_cases hs : searchStr ts "," = true
    · simp only [moveStr, hs, ↓reduceIte] at h
      cases ts with
      | nil => simp [searchStr] at hs
      | cons t r0 =>
        simp only [searchStr] at hs
        simp only [List.drop_one, List.tail_cons] at h
        split at h
        · rename_i e r2 h1
          obtain ⟨u1, rfl, hd1⟩ := ih.pOr r0 e r2 h1
          obtain ⟨u2, es, rfl, rfl, hct⟩ := ih.pArgs _ r2 ps r h
          exact ⟨t :: u1 ++ u2, e :: es, by simp, by simp, .cons hs (by simpa using hd1) hct⟩
        · cases h
    · simp only [moveStr, hs] at h
      simp only [Bool.false_eq_true, ↓reduceIte, Except.ok.injEq, Prod.mk.injEq] at h
      obtain ⟨rfl, rfl⟩ := h
      exact ⟨[], [], by simp, by simp, .nil⟩
  pCase := by
    intro ts v r h
    unfold pCase at h
    split at h
    · cases h
    · rename_i r0 hm
      obtain ⟨tc, rfl, htc⟩ := matchKw_ok hm
      split at h
      · split at h
        · cases h
        · rename_i cs r2 hw
          obtain ⟨ws, cs', rfl, hcs, hwd⟩ := ih.pWhens [] r0 cs r2 hw
          simp only [List.nil_append] at hcs
          subst hcs
          split at h
          · rename_i el r5 he
            obtain ⟨ee, rfl, hee⟩ := ih.pElseEnd r2 el r5 he
            simp only [Except.ok.injEq, Prod.mk.injEq] at h
            obtain ⟨rfl, rfl⟩ := h
            exact ⟨tc :: ws ++ ee, by simp, by simpa using Derives.caseCond htc hwd hee⟩
          · cases h
      · split at h
        · cases h
        · rename_i v0 r1 h1
          obtain ⟨u, rfl, hd⟩ := ih.pOr r0 v0 r1 h1
          split at h
          · cases h
          · rename_i cs r2 hw
            obtain ⟨ws, cs', rfl, hcs, hwd⟩ := ih.pWhens [] r1 cs r2 hw
            simp only [List.nil_append] at hcs
            subst hcs
            split at h
            · rename_i el r5 he
              obtain ⟨ee, rfl, hee⟩ := ih.pElseEnd r2 el r5 he
              simp only [Except.ok.injEq, Prod.mk.injEq] at h
              obtain ⟨rfl, rfl⟩ := h
              exact ⟨tc :: u ++ ws ++ ee, by simp, by simpa using Derives.caseVal htc (by simpa using hd) hwd hee⟩
            · cases h
  pElseEnd := by
    intro ts el r h
    unfold pElseEnd at h
    split at h
    · rename_i hc
      cases ts with
      | nil => simp [searchStrUp] at hc
      | cons tl r0 =>
        simp only [searchStrUp] at hc
        simp only [List.drop_one, List.tail_cons] at h
        split at h
        · cases h
        · rename_i e r4 h1
          obtain ⟨u, rfl, hd⟩ := ih.pOr r0 e r4 h1
          split at h
          · rename_i r5 hm
            obtain ⟨te, rfl, hte⟩ := matchKw_ok hm
            simp only [Except.ok.injEq, Prod.mk.injEq] at h
            obtain ⟨rfl, rfl⟩ := h
            exact ⟨tl :: u ++ [te], by simp, .else_ hc (by simpa using hd) hte⟩
          · cases h
    · split at h
      · rename_i r5 hm
        obtain ⟨te, rfl, hte⟩ := matchKw_ok hm
        simp only [Except.ok.injEq, Prod.mk.injEq] at h
        obtain ⟨rfl, rfl⟩ := h
        exact ⟨[te], by simp, .end_ hte⟩
      · cases h
  pWhens := by
    intro acc ts cs r h
    unfold pWhens at h
    by_cases hs : searchStrUp ts "WHEN" = true
    · simp only [moveStrUp, hs, ↓reduceIte] at h
      cases ts with
      | nil => simp [searchStrUp] at hs
      | cons tw r0 =>
        simp only [searchStrUp] at hs
        simp only [List.drop_one, List.tail_cons] at h
        split at h
        · cases h
        · rename_i w r1 h1
          obtain ⟨u1, rfl, hd1⟩ := ih.pOr r0 w r1 h1
          split at h
          · cases h
          · rename_i r2 hm
            obtain ⟨tt, rfl, htt⟩ := matchKw_ok hm
            split at h
            · cases h
            · rename_i t r3 h2
              obtain ⟨u2, rfl, hd2⟩ := ih.pOr r2 t r3 h2
              obtain ⟨u3, cs', rfl, rfl, hw⟩ := ih.pWhens _ r3 cs r h
              exact ⟨tw :: u1 ++ tt :: u2 ++ u3, (w, t) :: cs', by simp, by simp,
                .cons hs (by simpa using hd1) htt (by simpa using hd2) hw⟩
    · simp only [moveStrUp, hs] at h
      simp only [Bool.false_eq_true, ↓reduceIte, Except.ok.injEq, Prod.mk.injEq] at h
      obtain ⟨rfl, rfl⟩ := h
      exact ⟨[], [], by simp, by simp, .nil⟩
  pUnary := by
    intro ts v r h
    unfold pUnary at h
    split at h
    · rename_i t r0
      split at h
      · rename_i hc
        split at h
        · cases h
        · rename_i o k ho
          split at h
          · rename_i e r2 h1
            simp only [Except.ok.injEq, Prod.mk.injEq] at h
            obtain ⟨rfl, rfl⟩ := h
            obtain ⟨u1, rfl, hd1⟩ := ih.pUnary r0 e r2 h1
            exact ⟨t :: u1, by simp, by simpa using Derives.unary hc ho hd1⟩
          · cases h
      · obtain ⟨u, hu, hd⟩ := ih.pElement _ v r h
        exact ⟨u, hu, hd.up (by omega)⟩
    · obtain ⟨u, hu, hd⟩ := ih.pElement _ v r h
      exact ⟨u, hu, hd.up (by omega)⟩
  pCompute := by
    intro ts
    unfold pCompute
    exact RE.seq (pre := []) (f := id) (ih.pUnary ts) (fun _ _ h => h) fun e u r1 hd => ih.pComputeLoop [] e r1 [] u 9 .nil hd
  pComputeLoop := by
    intro st top ts pre tt b hs ht v r h
    have hb := hs.two_le
    have hstop : ∀ ts', (Except.ok (PM.collapse st top, ts') : R Expr) = .ok (v, r) →
        ∃ u, ts' = u ++ r ∧ Derives d 8 (pre ++ tt ++ u) v := by
      intro ts' h
      simp only [Except.ok.injEq, Prod.mk.injEq] at h
      obtain ⟨rfl, rfl⟩ := h
      exact ⟨[], by simp, by simpa using collapse_derives hs ht (by omega)⟩
    unfold pComputeLoop at h
    split at h
    · rename_i t r0
      split at h
      · rename_i o k ho
        have hk := computeOp_level ho
        obtain ⟨pre', tt', b', m', h1, h2, h3, h4, h5, h6⟩ := reduceWhile_derives k hk.2 hs ht (by omega)
        cases hrw : PM.reduceWhile k st top with
        | mk st' top' =>
          rw [hrw] at h h1 h2
          simp only at h h1 h2
          split at h
          · rename_i e r2 hu
            obtain ⟨u1, rfl, hd1⟩ := ih.pUnary r0 e r2 hu
            have hnew : StackD d ((top', o, k) :: st') (pre' ++ tt' ++ [t]) k :=
              .cons h1 h5 (h2.up (by omega)) ho
            obtain ⟨u2, rfl, hd2⟩ := ih.pComputeLoop _ _ r2 _ _ _ hnew hd1 v r h
            refine ⟨t :: u1 ++ u2, by simp, ?_⟩
            rw [← h4]
            simpa using hd2
          · cases h
      · exact hstop _ h
    · exact hstop _ h
  pKeyword := by
    intro before pre ts hkb v r h
    unfold pKeyword at h
    split at h
    · rename_i hc
      simp only [Bool.and_eq_true, Option.isNone_iff_eq_none] at hc
      obtain ⟨rfl, hex⟩ := hc
      simp only [KB] at hkb
      subst hkb
      cases ts with
      | nil => simp [searchStrUp] at hex
      | cons te r0 =>
        simp only [searchStrUp] at hex
        simp only [List.drop_one, List.tail_cons] at h
        split at h
        · cases h
        · rename_i v0 r1 hs
          obtain ⟨g, q, rfl, rfl, hq⟩ := ih.pSubQuery r0 v0 r1 hs
          have hd0 : Derives d 9 [te, g] (.exists_ (.subQuery q)) := .exists_ hex hq
          split at h
          · obtain ⟨u, rfl, hd⟩ := ih.pKeyword (some _) [te, g] r1 hd0 v r h
            exact ⟨te :: g :: u, by simp, by simpa using hd⟩
          · simp only [Except.ok.injEq, Prod.mk.injEq] at h
            obtain ⟨rfl, rfl⟩ := h
            exact ⟨[te, g], by simp, by simpa using hd0⟩
    · split at h
      · cases h
      · rename_i bv r0 h1
        obtain ⟨u1, rfl, hd1⟩ := ih.pKwFirst before pre ts hkb bv r0 h1
        obtain ⟨ns, hns, hno⟩ := skipNot_spec d r0
        obtain ⟨u2, hu2, hd2⟩ := ih.pKwRest bv _ _ (pre ++ u1) ns hd1 hno v r h
        refine ⟨u1 ++ ns ++ u2, ?_, by simpa using hd2⟩
        rw [hns, hu2]; simp
  pKwFirst := by
    intro before pre ts hkb v r h
    unfold pKwFirst at h
    cases before with
    | some b => exact re_ret hkb h
    | none =>
      simp only at h
      simp only [KB] at hkb
      subst hkb
      obtain ⟨u, hu, hd⟩ := ih.pCompute ts v r h
      exact ⟨u, hu, hd.up (by omega)⟩
  pKwRest := by
    intro bv isN r1 pre ns hbv hno v r h
    have hret : ∀ ts', (if isN = true then (Except.error Err.parse : R Expr) else .ok (bv, ts')) = .ok (v, r) →
        ∃ u, ts' = u ++ r ∧ Derives d 9 (pre ++ ns ++ u) v := by
      intro ts' h
      cases isN with
      | true => simp at h
      | false =>
        have := notOpt_false hno
        subst this
        simp only [Bool.false_eq_true, ↓reduceIte] at h
        exact re_ret (by simpa using hbv) h
    unfold pKwRest at h
    split at h
    · exact hret _ h
    · rename_i t r2
      split at h
      · cases h
      · exact hret _ h
      · rename_i v0 r' hb
        obtain ⟨u, rfl, hd⟩ := ih.pKwBody (up t.src) isN bv r2 pre ns t hbv hno rfl v0 r' hb
        split at h
        · obtain ⟨u2, rfl, hd2⟩ := ih.pKeyword (some v0) _ r' hd v r h
          exact ⟨t :: u ++ u2, by simp, by simpa using hd2⟩
        · simp only [Except.ok.injEq, Prod.mk.injEq] at h
          obtain ⟨rfl, rfl⟩ := h
          exact ⟨t :: u, by simp, by simpa using hd⟩
  pKwBody := by
    intro k isN bv r2 pre ns tk hbv hno htk v r h
    unfold pKwBody at h
    split at h
    · rename_i hc
      exact ih.pBetween isN bv r2 pre ns tk hbv hno (by simpa [htk] using hc) v r h
    split at h
    · rename_i hc
      have hk : up tk.src = "IS" := by simpa [htk] using hc
      cases isN with
      | true =>
        simp only [↓reduceIte] at h
        split at h
        · cases h
        · rename_i av r4 hp
          obtain ⟨u, rfl, hd⟩ := ih.pCompute r2 av r4 hp
          simp only [Bool.true_or, Except.ok.injEq, Option.some.injEq, Prod.mk.injEq] at h
          obtain ⟨rfl, rfl⟩ := h
          exact ⟨u, by simp, by simpa using Derives.is_ hbv hno hk hd⟩
      | false =>
        have := notOpt_false hno
        subst this
        simp only [Bool.false_eq_true, ↓reduceIte, Bool.false_or] at h
        by_cases hs : searchStrUp r2 "NOT" = true
        · simp only [moveStrUp, hs, ↓reduceIte] at h
          cases r2 with
          | nil => simp [searchStrUp] at hs
          | cons tn r3 =>
            simp only [searchStrUp] at hs
            simp only [List.drop_one, List.tail_cons] at h
            split at h
            · cases h
            · rename_i av r4 hp
              obtain ⟨u, rfl, hd⟩ := ih.pCompute r3 av r4 hp
              simp only [Except.ok.injEq, Option.some.injEq, Prod.mk.injEq] at h
              obtain ⟨rfl, rfl⟩ := h
              exact ⟨tn :: u, by simp, by simpa using Derives.isNot_ hbv hk hs hd⟩
        · simp only [moveStrUp, hs] at h
          split at h
          · cases h
          · rename_i av r4 hp
            obtain ⟨u, rfl, hd⟩ := ih.pCompute r2 av r4 hp
            simp only [Except.ok.injEq, Option.some.injEq, Prod.mk.injEq] at h
            obtain ⟨rfl, rfl⟩ := h
            exact ⟨u, by simp, by simpa using Derives.is_ hbv NotOpt.no hk hd⟩
    split at h
    · rename_i hc
      exact ih.pInBody isN bv r2 pre ns tk hbv hno (by simpa [htk] using hc) v r h
    split at h
    · rename_i hc
      split at h
      · cases h
      · rename_i av r3 hp
        obtain ⟨u, rfl, hd⟩ := ih.pCompute r2 av r3 hp
        simp only [Except.ok.injEq, Option.some.injEq, Prod.mk.injEq] at h
        obtain ⟨rfl, rfl⟩ := h
        have hk := likeKind_of hc
        rw [← htk] at hk
        exact ⟨u, by simp, by simpa [htk] using Derives.like hbv hno hk hd⟩
    · cases h
  pBetween := by
    intro isN bv r2 pre ns tk hbv hno htk v r h
    unfold pBetween at h
    split at h
    · cases h
    · rename_i fv r3 h1
      obtain ⟨u1, rfl, hd1⟩ := ih.pCompute r2 fv r3 h1
      split at h
      · cases h
      · rename_i r4 hm
        obtain ⟨ta, rfl, hta⟩ := matchKw_ok hm
        split at h
        · cases h
        · rename_i tv r5 h2
          obtain ⟨u2, rfl, hd2⟩ := ih.pCompute r4 tv r5 h2
          simp only [Except.ok.injEq, Option.some.injEq, Prod.mk.injEq] at h
          obtain ⟨rfl, rfl⟩ := h
          refine ⟨u1 ++ ta :: u2, by simp, ?_⟩
          have := Derives.between hbv hno htk hd1 hta hd2
          simpa using this
  pInBody := by
    intro isN bv r2 pre ns tk hbv hno htk v r h
    unfold pInBody at h
    split at h
    · cases h
    · rename_i g r3
      split at h
      · rename_i hc
        split at h
        · rename_i q r4 hs
          obtain ⟨g', q', hg, rfl, hq⟩ := ih.pSubQuery _ q r4 hs
          simp only [List.cons.injEq] at hg
          obtain ⟨rfl, rfl⟩ := hg
          simp only [Except.ok.injEq, Option.some.injEq, Prod.mk.injEq] at h
          obtain ⟨rfl, rfl⟩ := h
          refine ⟨[g], by simp, ?_⟩
          have := Derives.inQuery hbv hno htk hc hq
          simpa using this
        · cases h
      · rename_i hc
        split at h
        · rename_i vs hs
          obtain ⟨vs', rfl, hsg⟩ := ih.pSplit [] [] g.children vs hs
          simp only [Except.ok.injEq, Option.some.injEq, Prod.mk.injEq] at h
          obtain ⟨rfl, rfl⟩ := h
          refine ⟨[g], by simp, ?_⟩
          have := Derives.inList hbv hno htk (by simpa using hc) hsg
          simpa using this
        · cases h
  pSplit := by
    intro acc cur ts vs h
    have hflush : ∀ vs0, (if cur.isEmpty = true then (Except.ok acc : Except Err (List Expr)) else
          match pCompute d n cur with
          | .ok (e, []) => .ok (acc ++ [e]) | .ok (_, _ :: _) => .error .parse | .error e => .error e) = .ok vs0 →
        ∃ vs', vs0 = acc ++ vs' ∧ Segs d (if cur.isEmpty = true then [] else [cur]) vs' := by
      intro vs0 h
      split at h
      · rename_i hc
        simp only [Except.ok.injEq] at h
        subst h
        exact ⟨[], by simp, by simpa [hc] using Segs.nil⟩
      · rename_i hc
        split at h
        · rename_i e he
          simp only [Except.ok.injEq] at h
          subst h
          obtain ⟨u, hu, hd⟩ := ih.pCompute cur e [] he
          simp only [List.append_nil] at hu
          subst hu
          exact ⟨[e], rfl, by simpa [hc] using Segs.cons (by simpa using hd) Segs.nil⟩
        · cases h
        · cases h
    unfold pSplit at h
    simp only at h
    split at h
    · obtain ⟨vs', h1, h2⟩ := hflush vs h
      refine ⟨vs', h1, ?_⟩
      simp only [splitBy]
      split <;> simp_all
    · rename_i t r
      split at h
      · rename_i hc
        split at h
        · rename_i acc' hfl
          obtain ⟨vs1, rfl, hs1⟩ := hflush acc' hfl
          obtain ⟨vs2, rfl, hs2⟩ := ih.pSplit _ [] r vs h
          refine ⟨vs1 ++ vs2, by simp, ?_⟩
          simp only [splitBy, hc, ↓reduceIte]
          split
          · rename_i hce
            simp only [hce, ↓reduceIte] at hs1
            cases hs1
            simpa using hs2
          · rename_i hce
            simp only [hce] at hs1
            rw [splitBy_acc]
            exact segs_append (by simpa using hs1) hs2
        · cases h
      · rename_i hc
        obtain ⟨vs2, rfl, hs2⟩ := ih.pSplit _ _ r vs h
        refine ⟨vs2, rfl, ?_⟩
        simp only [splitBy, hc]
        simpa using hs2
  pCompare := by
    intro ts
    unfold pCompare
    exact RE.seq (pre := []) (f := id) (ih.pKeyword none [] ts rfl) (fun _ _ h => h.up (Nat.le_succ _)) ih.pCompareLoop
  pCompareLoop := by
    intro acc pre ts hacc
    unfold pCompareLoop
    split
    · rename_i t r0
      split
      · rename_i o ho
        exact RE.shift (RE.seq (f := fun e => .compare o acc e) (ih.pKeyword none [] r0 rfl) (fun u e h => by simpa using Derives.compare hacc ho h) ih.pCompareLoop)
      · exact fun v r h => re_ret hacc h
    · exact fun v r h => re_ret hacc h
  pNot := by
    intro ts v r h
    unfold pNot at h
    split at h
    · rename_i t r0
      split at h
      · rename_i hc
        split at h
        · rename_i e r2 h1
          simp only [Except.ok.injEq, Prod.mk.injEq] at h
          obtain ⟨rfl, rfl⟩ := h
          obtain ⟨u1, rfl, hd1⟩ := ih.pNot r0 e r2 h1
          exact ⟨t :: u1, by simp, by simpa using Derives.not_ hc hd1⟩
        · cases h
      · obtain ⟨u, hu, hd⟩ := ih.pCompare _ v r h
        exact ⟨u, hu, hd.up (by omega)⟩
    · obtain ⟨u, hu, hd⟩ := ih.pCompare _ v r h
      exact ⟨u, hu, hd.up (by omega)⟩
  pAnd := by
    intro ts
    unfold pAnd
    exact RE.seq (pre := []) (f := id) (ih.pNot ts) (fun _ _ h => h.up (Nat.le_succ _)) ih.pAndLoop
  pAndLoop := by
    intro acc pre ts hacc
    unfold pAndLoop
    split
    · rename_i t r0
      split
      · rename_i hc
        exact RE.shift (RE.seq (f := fun e => .and_ acc e) (ih.pNot r0) (fun u e h => by simpa using Derives.and_ hacc hc h) ih.pAndLoop)
      · exact fun v r h => re_ret hacc h
    · exact fun v r h => re_ret hacc h
  pXor := by
    intro ts
    unfold pXor
    exact RE.seq (pre := []) (f := id) (ih.pAnd ts) (fun _ _ h => h.up (Nat.le_succ _)) ih.pXorLoop
  pXorLoop := by
    intro acc pre ts hacc
    unfold pXorLoop
    split
    · rename_i hc
      cases ts with
      | nil => simp [searchStrUp] at hc
      | cons t r0 =>
        simp only [searchStrUp] at hc
        simp only [List.drop_one, List.tail_cons]
        exact RE.shift (RE.seq (f := fun e => .xor acc e) (ih.pAnd r0) (fun u e h => by simpa using Derives.xor hacc hc h) ih.pXorLoop)
    · exact fun v r h => re_ret hacc h
  pOr := by
    intro ts
    unfold pOr
    exact RE.seq (pre := []) (f := id) (ih.pXor ts) (fun _ _ h => h.up (Nat.le_succ _)) ih.pOrLoop
  pOrLoop := by
    intro acc pre ts hacc
    unfold pOrLoop
    split
    · rename_i t r0
      split
      · rename_i hc
        exact RE.shift (RE.seq (f := fun e => .or_ acc e) (ih.pXor r0) (fun u e h => by simpa using Derives.or_ hacc hc h) ih.pOrLoop)
      · exact fun v r h => re_ret hacc h
    · exact fun v r h => re_ret hacc h
  pSubQuery := by
    intro ts v r h
    unfold pSubQuery at h
    split at h
    · cases h
    · rename_i g r0
      split at h
      · rename_i q hq
        simp only [Except.ok.injEq, Prod.mk.injEq] at h
        obtain ⟨rfl, rfl⟩ := h
        exact ⟨g, q, rfl, rfl, n, hq⟩
      · cases h
  pCast := by
    intro nm name r hn hname v r' h
    unfold pCast at h
    split at h
    · cases h
    · rename_i g r0
      split at h
      · cases h
      · rename_i e r1 h1
        obtain ⟨u, hu, hd⟩ := ih.pCompute _ e r1 h1
        split at h
        · cases h
        · rename_i r2 hm
          obtain ⟨ta, rfl, hta⟩ := matchSeq1_ok hm
          split at h
          · rename_i c hc
            simp only [Except.ok.injEq, Prod.mk.injEq] at h
            obtain ⟨rfl, rfl⟩ := h
            exact ⟨[g], by simp, Derives.cast hn hname hu (by simpa using hd) hta hc⟩
          · cases h
  pExtract := by
    intro nm name r hn hname v r' h
    unfold pExtract at h
    split at h
    · cases h
    · rename_i g r0
      split at h
      · cases h
      · rename_i a r1 h1
        obtain ⟨u, hu, hd⟩ := ih.pCompute _ a r1 h1
        split at h
        · rename_i x hx
          simp only [Except.ok.injEq, Prod.mk.injEq] at h
          obtain ⟨rfl, rfl⟩ := h
          obtain ⟨tf, u2, b, rfl, htf, hd2, rfl⟩ := ih.pExtractTail a r1 x hx
          exact ⟨[g], by simp, Derives.extract hn hname hu (by simpa using hd) htf hd2⟩
        · cases h
  pExtractTail := by
    intro a r1 x h
    unfold pExtractTail at h
    split at h
    · cases h
    · rename_i r2 hm
      obtain ⟨tf, rfl, htf⟩ := matchSeq1_ok hm
      split at h
      · rename_i c hc
        simp only [Except.ok.injEq] at h
        subst h
        rw [closed_ok] at hc
        obtain ⟨u, hu, hd⟩ := ih.pCompute r2 c [] hc
        simp only [List.append_nil] at hu
        subst hu
        exact ⟨tf, _, c, rfl, htf, by simpa using hd, rfl⟩
      · cases h
  pWindow := by
    intro ts v r h
    unfold pWindow at h
    split at h
    · cases h
    · rename_i fn r0 h1
      obtain ⟨u1, rfl, hd1⟩ := ih.pFuncIdx ts fn r0 h1
      split at h
      · cases h
      · rename_i r1 hm
        obtain ⟨tov, rfl, hov⟩ := matchSeq1_ok hm
        split at h
        · cases h
        · rename_i g r2
          split at h
          · rename_i w hw
            simp only [Except.ok.injEq, Prod.mk.injEq] at h
            obtain ⟨rfl, rfl⟩ := h
            exact ⟨u1 ++ [tov, g], by simp, by simpa using Derives.window (by simpa using hd1) hov ⟨n, hw⟩⟩
          · cases h

theorem wf_all : ∀ n, WF d n := by
  intro n
  induction n with
  | zero =>
    -- with no fuel every function fails, so the hypothesis about a successful run is absurd
    constructor <;> intros <;> first | exact fun _ _ h => nomatch h | (rename_i h; cases h)
  | succ n ih => exact wf_succ d n ih

end WNG
