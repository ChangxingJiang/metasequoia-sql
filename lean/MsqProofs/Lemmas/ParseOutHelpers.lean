import MsqProofs.Lemmas.ParseOut0
/-! GENERATED by tools/gen_out.py — what a run answers: the helper functions of MsqModel/Parse/Expr.lean outside the mutual block -/
set_option linter.unusedVariables false
open Lex Ast
namespace PM

theorem getAliasName_out (ts : List Tok) : Out ts (getAliasName ts) ∧ getAliasName ts ≠ .error .fuel := by
  generalize h : getAliasName ts = res
  unfold getAliasName at h
  split_run <;> grind -funext (gen := 40) (instances := 20000) [adqWL_append, Err.parserKind]
grind_pattern getAliasName_out => getAliasName ts

theorem multiAliasLoop_out : ∀ x0 x1 x2, Out x2 (multiAliasLoop x0 x1 x2) ∧ (x2.length < x0 → multiAliasLoop x0 x1 x2 ≠ .error .fuel) := by
  intro x0
  induction x0 with
  | zero => intro x1 x2; simp [multiAliasLoop, out_error, Err.parserKind]
  | succ g ih =>
    intro x1 x2
    generalize h : multiAliasLoop (g+1) x1 x2 = res
    unfold multiAliasLoop at h
    split_run <;> grind -funext (gen := 40) (instances := 20000) [adqWL_append, Err.parserKind]
grind_pattern multiAliasLoop_out => multiAliasLoop x0 x1 x2

theorem pMultiAlias_out (ts : List Tok) : Out ts (pMultiAlias ts) ∧ pMultiAlias ts ≠ .error .fuel := by
  generalize h : pMultiAlias ts = res
  unfold pMultiAlias at h
  split_run <;> grind -funext (gen := 40) (instances := 20000) [adqWL_append, Err.parserKind]
grind_pattern pMultiAlias_out => pMultiAlias ts

theorem splitName_out (s : String) : Kind (splitName s) ∧ splitName s ≠ .error .fuel := by
  generalize h : splitName s = res
  unfold splitName at h
  split_run <;> grind -funext (gen := 40) (instances := 20000) [adqWL_append, Err.parserKind]
grind_pattern splitName_out => splitName s

theorem pFuncName_out (ts : List Tok) : Out ts (pFuncName ts) ∧ pFuncName ts ≠ .error .fuel := by
  generalize h : pFuncName ts = res
  unfold pFuncName at h
  split_run <;> grind -funext (gen := 40) (instances := 20000) [adqWL_append, Err.parserKind]
grind_pattern pFuncName_out => pFuncName ts

theorem pAlias_out (ts : List Tok) : Out ts (pAlias ts) ∧ pAlias ts ≠ .error .fuel := by
  generalize h : pAlias ts = res
  unfold pAlias at h
  split_run <;> grind -funext (gen := 40) (instances := 20000) [adqWL_append, Err.parserKind]
grind_pattern pAlias_out => pAlias ts

theorem pTableName_out (ts : List Tok) : Out ts (pTableName ts) ∧ pTableName ts ≠ .error .fuel := by
  generalize h : pTableName ts = res
  unfold pTableName at h
  split_run <;> grind -funext (gen := 40) (instances := 20000) [adqWL_append, Err.parserKind]
grind_pattern pTableName_out => pTableName ts

theorem pRowItem_out (ts : List Tok) : Out ts (pRowItem ts) ∧ pRowItem ts ≠ .error .fuel := by
  generalize h : pRowItem ts = res
  unfold pRowItem at h
  split_run <;> grind -funext (gen := 40) (instances := 20000) [adqWL_append, Err.parserKind]
grind_pattern pRowItem_out => pRowItem ts

theorem pWindowRow_out (ts : List Tok) : Out ts (pWindowRow ts) ∧ pWindowRow ts ≠ .error .fuel := by
  generalize h : pWindowRow ts = res
  unfold pWindowRow at h
  split_run <;> grind -funext (gen := 40) (instances := 20000) [adqWL_append, Err.parserKind]
grind_pattern pWindowRow_out => pWindowRow ts

theorem orderTail_out (e : Expr) (ts : List Tok) : Out ts (orderTail e ts) ∧ orderTail e ts ≠ .error .fuel := by
  generalize h : orderTail e ts = res
  unfold orderTail at h
  split_run <;> grind -funext (gen := 40) (instances := 20000) [adqWL_append, Err.parserKind]
grind_pattern orderTail_out => orderTail e ts

theorem castParamsLoop_out : ∀ x0 x1 x2, Kind (castParamsLoop x0 x1 x2) ∧ (x2.length < x0 → castParamsLoop x0 x1 x2 ≠ .error .fuel) := by
  intro x0
  induction x0 with
  | zero => intro x1 x2; simp [castParamsLoop, kind_error, Err.parserKind]
  | succ g ih =>
    intro x1 x2
    generalize h : castParamsLoop (g+1) x1 x2 = res
    unfold castParamsLoop at h
    split_run <;> grind -funext (gen := 40) (instances := 20000) [adqWL_append, Err.parserKind]
grind_pattern castParamsLoop_out => castParamsLoop x0 x1 x2

theorem castParams_out (g : Tok) : Kind (castParams g) ∧ castParams g ≠ .error .fuel := by
  generalize h : castParams g = res
  unfold castParams at h
  split_run <;> grind -funext (gen := 40) (instances := 20000) [adqWL_append, Err.parserKind]
grind_pattern castParams_out => castParams g

theorem castTail_out (e : Expr) (ts : List Tok) : Kind (castTail e ts) ∧ castTail e ts ≠ .error .fuel := by
  generalize h : castTail e ts = res
  unfold castTail at h
  split_run <;> grind -funext (gen := 40) (instances := 20000) [adqWL_append, Err.parserKind]
grind_pattern castTail_out => castTail e ts

theorem pLimit_out (ts : List Tok) : Out ts (pLimit ts) ∧ pLimit ts ≠ .error .fuel := by
  generalize h : pLimit ts = res
  unfold pLimit at h
  split_run <;> grind -funext (gen := 40) (instances := 20000) [adqWL_append, Err.parserKind]
grind_pattern pLimit_out => pLimit ts

/-! ### the first answer alone: `pTableName_cons`, `pLimit_cons` are used by name (ParseCostBndS0), `pWindowRow_cons` is cited by the property files -/
theorem pTableName_cons (ts : List Tok) : ConsRel ts (pTableName ts) := (pTableName_out ts).1.1
grind_pattern pTableName_cons => pTableName ts
theorem pWindowRow_cons (ts : List Tok) : ConsRel ts (pWindowRow ts) := (pWindowRow_out ts).1.1
grind_pattern pWindowRow_cons => pWindowRow ts
theorem pLimit_cons (ts : List Tok) : ConsRel ts (pLimit ts) := (pLimit_out ts).1.1
grind_pattern pLimit_cons => pLimit ts

end PM
