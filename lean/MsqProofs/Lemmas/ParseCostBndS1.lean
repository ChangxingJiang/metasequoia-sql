import MsqProofs.Lemmas.ParseCostBndS0
/-! GENERATED by tools/gen_cost.py — C19 linear bound, statement level (Parse/Stmt.lean, `pStatements`), part 1 of 5: potential 250 * adqWL -/
set_option linter.unusedSimpArgs false
open Lex PM Ast
namespace PM

theorem pTblName_bnd2 (ts : List Tok) (κ : Nat) : (pTblName_k ts κ).1 + rem2 (pTblName_k ts κ).2 ≤ κ + 250 * adqWL ts + 5 := by
  generalize h : pTblName_k ts κ = out
  unfold pTblName_k at h
  split_run2 <;> grind -funext (gen := 40) (instances := 20000) [adqWL_append, Lost]
grind_pattern pTblName_bnd2 => pTblName_k ts κ

theorem pInsertType_bnd2 (ts : List Tok) (κ : Nat) : (pInsertType_k ts κ).1 + remS2 600 (pInsertType_k ts κ).2 ≤ κ + 250 * adqWL ts + 9 := by
  generalize h : pInsertType_k ts κ = out
  unfold pInsertType_k at h
  split_run2 <;> grind -funext (gen := 40) (instances := 20000) [adqWL_append, Lost]
grind_pattern pInsertType_bnd2 => pInsertType_k ts κ

theorem configStringLoop_bnd2  : ∀ x0 x1 x2 κ, (configStringLoop_k  x0 x1 x2 κ).1 + rem2 (configStringLoop_k  x0 x1 x2 κ).2 ≤ κ + 250 * adqWL x2 + 8 := by
  intro x0
  induction x0 with
  | zero => intro x1 x2 κ; simp only [configStringLoop_k, rem2_error]; omega
  | succ n ih =>
    intro x1 x2 κ
    generalize h : configStringLoop_k  (n+1) x1 x2 κ = out
    unfold configStringLoop_k at h
    split_run2 <;> grind -funext (gen := 40) (instances := 20000) [adqWL_append, Lost]
grind_pattern configStringLoop_bnd2 => configStringLoop_k x0 x1 x2 κ

theorem pConfigString_bnd2 (ts : List Tok) (κ : Nat) : (pConfigString_k ts κ).1 + rem2 (pConfigString_k ts κ).2 ≤ κ + 250 * adqWL ts + 10 := by
  generalize h : pConfigString_k ts κ = out
  unfold pConfigString_k at h
  split_run2 <;> grind -funext (gen := 40) (instances := 20000) [adqWL_append, Lost]
grind_pattern pConfigString_bnd2 => pConfigString_k ts κ

theorem pConfigStrExpr_bnd2 (ts : List Tok) (κ : Nat) : (pConfigStrExpr_k ts κ).1 + rem2 (pConfigStrExpr_k ts κ).2 ≤ κ + 250 * adqWL ts + 22 := by
  generalize h : pConfigStrExpr_k ts κ = out
  unfold pConfigStrExpr_k at h
  split_run2 <;> grind -funext (gen := 40) (instances := 20000) [adqWL_append, Lost]
grind_pattern pConfigStrExpr_bnd2 => pConfigStrExpr_k ts κ

theorem pColType_bnd2 (d : Gen.D) (f : Nat) (ts : List Tok) (κ : Nat) : (pColType_k d f ts κ).1 + rem2 (pColType_k d f ts κ).2 ≤ κ + 250 * adqWL ts + 5 := by
  have hE0 := eachClosed_k_rem2 (pCompute_k d f) 61 (by omega) (pCompute_bnd2 d f)
  generalize h : pColType_k d f ts κ = out
  unfold pColType_k at h
  split_run2 <;> grind -funext (gen := 40) (instances := 20000) [adqWL_append, Lost]
grind_pattern pColType_bnd2 => pColType_k d f ts κ

theorem pPartitionItem_bnd2 (d : Gen.D) (f : Nat) (ts : List Tok) (κ : Nat) : (pPartitionItem_k d f ts κ).1 + rem2 (pPartitionItem_k d f ts κ).2 ≤ κ + 250 * adqWL ts + 125 := by
  generalize h : pPartitionItem_k d f ts κ = out
  unfold pPartitionItem_k at h
  split_run2 <;> grind -funext (gen := 40) (instances := 20000) [adqWL_append, Lost]
grind_pattern pPartitionItem_bnd2 => pPartitionItem_k d f ts κ

theorem pPartition_bnd2 (d : Gen.D) (f : Nat) (already : Bool) (ts : List Tok) (κ : Nat) : (pPartition_k d f already ts κ).1 + rem2 (pPartition_k d f already ts κ).2 ≤ κ + 250 * adqWL ts + 4 := by
  have hE0 := eachClosed_k_rem2 (pPartitionItem_k d f) 125 (by omega) (pPartitionItem_bnd2 d f)
  generalize h : pPartition_k d f already ts κ = out
  unfold pPartition_k at h
  split_run2 <;> grind -funext (gen := 40) (instances := 20000) [adqWL_append, Lost]
grind_pattern pPartition_bnd2 => pPartition_k d f already ts κ

theorem pFkAction_bnd2 (ts : List Tok) (κ : Nat) : (pFkAction_k ts κ).1 + rem2 (pFkAction_k ts κ).2 ≤ κ + 250 * adqWL ts + 12 := by
  generalize h : pFkAction_k ts κ = out
  unfold pFkAction_k at h
  split_run2 <;> grind -funext (gen := 40) (instances := 20000) [adqWL_append, Lost]
grind_pattern pFkAction_bnd2 => pFkAction_k ts κ

theorem pOptFkAction_bnd2 (ts : List Tok) (a b : String) (κ : Nat) : (pOptFkAction_k ts a b κ).1 + rem2 (pOptFkAction_k ts a b κ).2 ≤ κ + 250 * adqWL ts + 15 := by
  generalize h : pOptFkAction_k ts a b κ = out
  unfold pOptFkAction_k at h
  split_run2 <;> grind -funext (gen := 40) (instances := 20000) [adqWL_append, Lost]
grind_pattern pOptFkAction_bnd2 => pOptFkAction_k ts a b κ

theorem pNameList_bnd2 (ts : List Tok) (κ : Nat) : (pNameList_k ts κ).1 + rem2 (pNameList_k ts κ).2 ≤ κ + 250 * adqWL ts + 2 := by
  have hE0 := eachClosed_k_rem2 popSrc_k 2 (by omega) (popSrc_k_bnd2)
  generalize h : pNameList_k ts κ = out
  unfold pNameList_k at h
  split_run2 <;> grind -funext (gen := 40) (instances := 20000) [adqWL_append, Lost]
grind_pattern pNameList_bnd2 => pNameList_k ts κ

theorem pForeignKey_bnd2 (ts : List Tok) (κ : Nat) : (pForeignKey_k ts κ).1 + rem2 (pForeignKey_k ts κ).2 ≤ κ + 250 * adqWL ts + 45 := by
  generalize h : pForeignKey_k ts κ = out
  unfold pForeignKey_k at h
  split_run2 <;> grind -funext (gen := 40) (instances := 20000) [adqWL_append, Lost]
grind_pattern pForeignKey_bnd2 => pForeignKey_k ts κ

theorem pIndexCol_bnd2 (ts : List Tok) (κ : Nat) : (pIndexCol_k ts κ).1 + rem2 (pIndexCol_k ts κ).2 ≤ κ + 250 * adqWL ts + 8 := by
  generalize h : pIndexCol_k ts κ = out
  unfold pIndexCol_k at h
  split_run2 <;> grind -funext (gen := 40) (instances := 20000) [adqWL_append, Lost]
grind_pattern pIndexCol_bnd2 => pIndexCol_k ts κ

theorem pIndexCols_bnd2 (ts : List Tok) (κ : Nat) : (pIndexCols_k ts κ).1 + rem2 (pIndexCols_k ts κ).2 ≤ κ + 250 * adqWL ts + 2 := by
  have hE0 := eachClosed_k_rem2 pIndexCol_k 8 (by omega) (pIndexCol_bnd2)
  generalize h : pIndexCols_k ts κ = out
  unfold pIndexCols_k at h
  split_run2 <;> grind -funext (gen := 40) (instances := 20000) [adqWL_append, Lost]
grind_pattern pIndexCols_bnd2 => pIndexCols_k ts κ

theorem pOptSrc_bnd2 (ts : List Tok) (k : String) (κ : Nat) : (pOptSrc_k ts k κ).1 + rem2 (pOptSrc_k ts k κ).2 ≤ κ + 250 * adqWL ts + 5 := by
  generalize h : pOptSrc_k ts k κ = out
  unfold pOptSrc_k at h
  split_run2 <;> grind -funext (gen := 40) (instances := 20000) [adqWL_append, Lost]
grind_pattern pOptSrc_bnd2 => pOptSrc_k ts k κ

theorem pIndexTail_bnd2 (kind : IndexKind) (name : Option String) (ts : List Tok) (κ : Nat) : (pIndexTail_k kind name ts κ).1 + rem2 (pIndexTail_k kind name ts κ).2 ≤ κ + 250 * adqWL ts + 17 := by
  generalize h : pIndexTail_k kind name ts κ = out
  unfold pIndexTail_k at h
  split_run2 <;> grind -funext (gen := 40) (instances := 20000) [adqWL_append, Lost]
grind_pattern pIndexTail_bnd2 => pIndexTail_k kind name ts κ

theorem pPrimaryIndex_bnd2 (ts : List Tok) (κ : Nat) : (pPrimaryIndex_k ts κ).1 + rem2 (pPrimaryIndex_k ts κ).2 ≤ κ + 250 * adqWL ts + 20 := by
  generalize h : pPrimaryIndex_k ts κ = out
  unfold pPrimaryIndex_k at h
  split_run2 <;> grind -funext (gen := 40) (instances := 20000) [adqWL_append, Lost]
grind_pattern pPrimaryIndex_bnd2 => pPrimaryIndex_k ts κ

theorem pNamedIndex_bnd2 (kind : IndexKind) (kws : List String) (ts : List Tok) (κ : Nat) : (pNamedIndex_k kind kws ts κ).1 + rem2 (pNamedIndex_k kind kws ts κ).2 ≤ κ + 250 * adqWL ts + 20 + kws.length := by
  generalize h : pNamedIndex_k kind kws ts κ = out
  unfold pNamedIndex_k at h
  split_run2 <;> grind -funext (gen := 40) (instances := 20000) [adqWL_append, Lost]
grind_pattern pNamedIndex_bnd2 => pNamedIndex_k kind kws ts κ

theorem pUniqueIndex_bnd2 : ∀ ts κ, (pUniqueIndex_k ts κ).1 + rem2 (pUniqueIndex_k ts κ).2 ≤ κ + 250 * adqWL ts + 22 := fun ts κ => pNamedIndex_bnd2 _ _ ts κ
grind_pattern pUniqueIndex_bnd2 => pUniqueIndex_k ts κ

theorem pNormalIndex_bnd2 : ∀ ts κ, (pNormalIndex_k ts κ).1 + rem2 (pNormalIndex_k ts κ).2 ≤ κ + 250 * adqWL ts + 21 := fun ts κ => pNamedIndex_bnd2 _ _ ts κ
grind_pattern pNormalIndex_bnd2 => pNormalIndex_k ts κ

theorem pFulltextIndex_bnd2 : ∀ ts κ, (pFulltextIndex_k ts κ).1 + rem2 (pFulltextIndex_k ts κ).2 ≤ κ + 250 * adqWL ts + 22 := fun ts κ => pNamedIndex_bnd2 _ _ ts κ
grind_pattern pFulltextIndex_bnd2 => pFulltextIndex_k ts κ

theorem pGenerated_bnd2 (d : Gen.D) (f : Nat) (ts : List Tok) (κ : Nat) : (pGenerated_k d f ts κ).1 + remG 600 (pGenerated_k d f ts κ).2 ≤ κ + 250 * adqWL ts + 69 := by
  generalize h : pGenerated_k d f ts κ = out
  unfold pGenerated_k at h
  split_run2 <;> grind -funext (gen := 40) (instances := 20000) [adqWL_append, Lost]
grind_pattern pGenerated_bnd2 => pGenerated_k d f ts κ

theorem pColumnName_bnd2 (ts : List Tok) (κ : Nat) : (pColumnName_k ts κ).1 + rem2 (pColumnName_k ts κ).2 ≤ κ + 250 * adqWL ts + 9 := by
  generalize h : pColumnName_k ts κ = out
  unfold pColumnName_k at h
  split_run2 <;> grind -funext (gen := 40) (instances := 20000) [adqWL_append, Lost]
grind_pattern pColumnName_bnd2 => pColumnName_k ts κ

theorem pOptColumns_bnd2 (ts : List Tok) (κ : Nat) : (pOptColumns_k ts κ).1 + rem2 (pOptColumns_k ts κ).2 ≤ κ + 250 * adqWL ts + 3 := by
  have hE0 := eachClosed_k_rem2 pColumnName_k 9 (by omega) (pColumnName_bnd2)
  generalize h : pOptColumns_k ts κ = out
  unfold pOptColumns_k at h
  split_run2 <;> grind -funext (gen := 40) (instances := 20000) [adqWL_append, Lost]
grind_pattern pOptColumns_bnd2 => pOptColumns_k ts κ

theorem pSet_bnd2 (ts : List Tok) (κ : Nat) : (pSet_k ts κ).1 + remS2 600 (pSet_k ts κ).2 ≤ κ + 250 * adqWL ts + 24 := by
  generalize h : pSet_k ts κ = out
  unfold pSet_k at h
  split_run2 <;> grind -funext (gen := 40) (instances := 20000) [adqWL_append, Lost]
grind_pattern pSet_bnd2 => pSet_k ts κ

theorem optEqSrc_bnd2 (ts : List Tok) (κ : Nat) : (optEqSrc_k ts κ).1 + rem2 (optEqSrc_k ts κ).2 ≤ κ + 250 * adqWL ts + 5 := by
  generalize h : optEqSrc_k ts κ = out
  unfold optEqSrc_k at h
  split_run2 <;> grind -funext (gen := 40) (instances := 20000) [adqWL_append, Lost]
grind_pattern optEqSrc_bnd2 => optEqSrc_k ts κ

theorem pDropTable_bnd2 (ts : List Tok) (κ : Nat) : (pDropTable_k ts κ).1 + remS2 600 (pDropTable_k ts κ).2 ≤ κ + 250 * adqWL ts + 11 := by
  generalize h : pDropTable_k ts κ = out
  unfold pDropTable_k at h
  split_run2 <;> grind -funext (gen := 40) (instances := 20000) [adqWL_append, Lost]
grind_pattern pDropTable_bnd2 => pDropTable_k ts κ

theorem pKwTable_bnd2 (kws : List String) (mk : TableName → Stmt) (ts : List Tok) (κ : Nat) : (pKwTable_k kws mk ts κ).1 + rem2 (pKwTable_k kws mk ts κ).2 ≤ κ + 250 * adqWL ts + 6 + kws.length := by
  generalize h : pKwTable_k kws mk ts κ = out
  unfold pKwTable_k at h
  split_run2 <;> grind -funext (gen := 40) (instances := 20000) [adqWL_append, Lost]
grind_pattern pKwTable_bnd2 => pKwTable_k kws mk ts κ

theorem pMsck_bnd2 : ∀ ts κ, (pMsck_k ts κ).1 + remS2 600 (pMsck_k ts κ).2 ≤ κ + 250 * adqWL ts + 9 := by
  intro ts κ
  generalize h : pMsck_k ts κ = out
  unfold pMsck_k pKwTable_k at h
  split_run2 <;> grind -funext (gen := 40) (instances := 20000) [adqWL_append, Lost]
grind_pattern pMsck_bnd2 => pMsck_k ts κ

theorem pTruncate_bnd2 : ∀ ts κ, (pTruncate_k ts κ).1 + remS2 600 (pTruncate_k ts κ).2 ≤ κ + 250 * adqWL ts + 8 := by
  intro ts κ
  generalize h : pTruncate_k ts κ = out
  unfold pTruncate_k pKwTable_k at h
  split_run2 <;> grind -funext (gen := 40) (instances := 20000) [adqWL_append, Lost]
grind_pattern pTruncate_bnd2 => pTruncate_k ts κ

theorem pUse_bnd2 (ts : List Tok) (κ : Nat) : (pUse_k ts κ).1 + remS2 600 (pUse_k ts κ).2 ≤ κ + 250 * adqWL ts + 4 := by
  generalize h : pUse_k ts κ = out
  unfold pUse_k at h
  split_run2 <;> grind -funext (gen := 40) (instances := 20000) [adqWL_append, Lost]
grind_pattern pUse_bnd2 => pUse_k ts κ

end PM
