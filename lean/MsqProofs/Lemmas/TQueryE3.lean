import MsqProofs.Lemmas.TQueryE2
import MsqProofs.Lemmas.TCoreCall
/-! Nested query fragment, expression layer: token facts of literals, names, operators and keywords (those that do not depend on the
fragment are the ones of Lemmas/TParse2New.lean); qualified columns and wildcards in the form `Full2`, from `TC.full2_qcol`, `TC.full2_star`, `TC.full2_qstar`. -/
open Lex PM Ast SR TP TP2
namespace TQ
variable {d : Gen.D} {ch : Expr → Bool}

theorem lit_up_ne (v w : String) (hv : litOK d v = true) (hw1 : Gen.wordMarks.find? (·.1 == w) = none)
    (hw2 : w.toList.head?.all (fun c => !c.isDigit && c != '\'' && c != '"') = true) : up v ≠ w := TP2.lit_up_ne v w hv hw1 hw2
theorem litTok_equals (v k : String) : (litTok v).equalsStr k = (up v == up k) := by
  simp [litTok, Tok.equalsStr, String.ofList_toList]
theorem lit_facts (v : String) (hv : litOK d v = true) : hdTok (litTok v) = true ∧ (litTok v).equalsStr "," = false := by
  have h1 := lit_up_ne v "WHEN" hv (by decide) (by decide)
  have h2 := lit_up_ne v "DISTINCT" hv (by decide) (by decide)
  have h3 := lit_up_ne v "," hv (by decide) (by decide)
  have hs : startTok (litTok v) = true := by
    simp only [litOK, elemTok, operandTok, Bool.and_eq_true] at hv; exact hv.2.1.1.1
  refine ⟨?_, ?_⟩
  · simp only [hdTok, hs, src_litTok, Bool.true_and, List.contains_cons, List.contains_nil, Bool.or_false, Bool.not_eq_true',
      Bool.or_eq_false_iff, beq_eq_false_iff_ne, ne_eq]
    exact ⟨h1, h2⟩
  · rw [litTok_equals, beq_eq_false_iff_ne]
    have : up "," = "," := by decide
    rw [this]; exact h3
theorem kwToks_nocomma (k : KwKind) (n : Bool) : NoComma (kwToks k n) := by
  intro t ht
  cases k <;> cases n <;> simp [kwToks] at ht <;> (try rcases ht with rfl | rfl) <;> (try subst ht) <;> decide

theorem full2_qcol (t c : String) (h : qcolOK d t c = true) :
    Full2 d (P2 d) 2 0 [nameTok t, dotTok, nameTok c] (.column (some t) c) := TC.fullO_true.1 (TC.full2_qcol t c h).ofFalse

theorem full2_star : Full2 d (P2 d) 2 0 [starTok] (.wildcard none) := TC.fullO_true.1 TC.full2_star.ofFalse
theorem full2_qstar (t : String) (h : wildOK d t = true) : Full2 d (P2 d) 2 0 [qTok t, dotTok, starTok] (.wildcard (some t)) :=
  TC.fullO_true.1 (TC.full2_qstar t h).ofFalse

end TQ
