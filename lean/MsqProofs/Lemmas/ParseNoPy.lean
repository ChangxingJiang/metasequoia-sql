import MsqProofs.Lemmas.ParseOut
/-! GENERATED by tools/gen_out.py — outcome typing of the expression / SELECT parser model: no function returns an error outside `Err.parserKind` (the second answer of `outF_all`) -/
open Lex PM Ast
namespace PM

structure NoPyF (d : Gen.D) (f : Nat) : Prop where
  pElement : ∀ x0 x, x.parserKind = false → pElement d f x0 ≠ .error x
  pParen : ∀ x0 x1 x, x.parserKind = false → pParen d f x0 x1 ≠ .error x
  pNamed : ∀ x0 x1 x2 x, x.parserKind = false → pNamed d f x0 x1 x2 ≠ .error x
  pQualified : ∀ x0 x1 x2 x, x.parserKind = false → pQualified d f x0 x1 x2 ≠ .error x
  pIndex : ∀ x0 x1 x, x.parserKind = false → pIndex d f x0 x1 ≠ .error x
  pFuncIdx : ∀ x0 x, x.parserKind = false → pFuncIdx d f x0 ≠ .error x
  pFunc : ∀ x0 x, x.parserKind = false → pFunc d f x0 ≠ .error x
  pIfCall : ∀ x0 x, x.parserKind = false → pIfCall d f x0 ≠ .error x
  pFirstDiscard : ∀ x0 x, x.parserKind = false → pFirstDiscard d f x0 ≠ .error x
  pFirstArg : ∀ x0 x, x.parserKind = false → pFirstArg d f x0 ≠ .error x
  pCall : ∀ x0 x1 x2 x, x.parserKind = false → pCall d f x0 x1 x2 ≠ .error x
  pArgs : ∀ x0 x1 x, x.parserKind = false → pArgs d f x0 x1 ≠ .error x
  pCase : ∀ x0 x, x.parserKind = false → pCase d f x0 ≠ .error x
  pElseEnd : ∀ x0 x, x.parserKind = false → pElseEnd d f x0 ≠ .error x
  pWhens : ∀ x0 x1 x, x.parserKind = false → pWhens d f x0 x1 ≠ .error x
  pUnary : ∀ x0 x, x.parserKind = false → pUnary d f x0 ≠ .error x
  pCompute : ∀ x0 x, x.parserKind = false → pCompute d f x0 ≠ .error x
  pComputeLoop : ∀ x0 x1 x2 x, x.parserKind = false → pComputeLoop d f x0 x1 x2 ≠ .error x
  pKeyword : ∀ x0 x1 x, x.parserKind = false → pKeyword d f x0 x1 ≠ .error x
  pKwFirst : ∀ x0 x1 x, x.parserKind = false → pKwFirst d f x0 x1 ≠ .error x
  pKwRest : ∀ x0 x1 x2 x, x.parserKind = false → pKwRest d f x0 x1 x2 ≠ .error x
  pKwBody : ∀ x0 x1 x2 x3 x, x.parserKind = false → pKwBody d f x0 x1 x2 x3 ≠ .error x
  pBetween : ∀ x0 x1 x2 x, x.parserKind = false → pBetween d f x0 x1 x2 ≠ .error x
  pInBody : ∀ x0 x1 x2 x, x.parserKind = false → pInBody d f x0 x1 x2 ≠ .error x
  pSplit : ∀ x0 x1 x2 x, x.parserKind = false → pSplit d f x0 x1 x2 ≠ .error x
  pCompare : ∀ x0 x, x.parserKind = false → pCompare d f x0 ≠ .error x
  pCompareLoop : ∀ x0 x1 x, x.parserKind = false → pCompareLoop d f x0 x1 ≠ .error x
  pNot : ∀ x0 x, x.parserKind = false → pNot d f x0 ≠ .error x
  pAnd : ∀ x0 x, x.parserKind = false → pAnd d f x0 ≠ .error x
  pAndLoop : ∀ x0 x1 x, x.parserKind = false → pAndLoop d f x0 x1 ≠ .error x
  pXor : ∀ x0 x, x.parserKind = false → pXor d f x0 ≠ .error x
  pXorLoop : ∀ x0 x1 x, x.parserKind = false → pXorLoop d f x0 x1 ≠ .error x
  pOr : ∀ x0 x, x.parserKind = false → pOr d f x0 ≠ .error x
  pOrLoop : ∀ x0 x1 x, x.parserKind = false → pOrLoop d f x0 x1 ≠ .error x
  pSubQuery : ∀ x0 x, x.parserKind = false → pSubQuery d f x0 ≠ .error x
  pCast : ∀ x0 x, x.parserKind = false → pCast d f x0 ≠ .error x
  pExtract : ∀ x0 x, x.parserKind = false → pExtract d f x0 ≠ .error x
  pExtractTail : ∀ x0 x1 x, x.parserKind = false → pExtractTail d f x0 x1 ≠ .error x
  pWindow : ∀ x0 x, x.parserKind = false → pWindow d f x0 ≠ .error x
  pWindowBody : ∀ x0 x1 x, x.parserKind = false → pWindowBody d f x0 x1 ≠ .error x
  pPartitionBy : ∀ x0 x, x.parserKind = false → pPartitionBy d f x0 ≠ .error x
  pComputeList : ∀ x0 x1 x, x.parserKind = false → pComputeList d f x0 x1 ≠ .error x
  pOrderItem : ∀ x0 x, x.parserKind = false → pOrderItem d f x0 ≠ .error x
  pOrderList : ∀ x0 x1 x, x.parserKind = false → pOrderList d f x0 x1 ≠ .error x
  pOrderByOpt : ∀ x0 x, x.parserKind = false → pOrderByOpt d f x0 ≠ .error x
  pSelectCol : ∀ x0 x, x.parserKind = false → pSelectCol d f x0 ≠ .error x
  pSelectCols : ∀ x0 x1 x, x.parserKind = false → pSelectCols d f x0 x1 ≠ .error x
  pTableExpr : ∀ x0 x, x.parserKind = false → pTableExpr d f x0 ≠ .error x
  pFromTable : ∀ x0 x, x.parserKind = false → pFromTable d f x0 ≠ .error x
  pFromTables : ∀ x0 x1 x, x.parserKind = false → pFromTables d f x0 x1 ≠ .error x
  pJoin : ∀ x0 x, x.parserKind = false → pJoin d f x0 ≠ .error x
  pJoinRule : ∀ x0 x1 x2 x, x.parserKind = false → pJoinRule d f x0 x1 x2 ≠ .error x
  pJoins : ∀ x0 x1 x2 x3 x, x.parserKind = false → pJoins d f x0 x1 x2 x3 ≠ .error x
  pOptOr : ∀ x0 x1 x, x.parserKind = false → pOptOr d f x0 x1 ≠ .error x
  pGroupingElem : ∀ x0 x, x.parserKind = false → pGroupingElem d f x0 ≠ .error x
  pClosedEach : ∀ x0 x1 x, x.parserKind = false → pClosedEach d f x0 x1 ≠ .error x
  pGroupingElems : ∀ x0 x1 x, x.parserKind = false → pGroupingElems d f x0 x1 ≠ .error x
  pGroupingSets : ∀ x0 x, x.parserKind = false → pGroupingSets d f x0 ≠ .error x
  pGroupBy : ∀ x0 x, x.parserKind = false → pGroupBy d f x0 ≠ .error x
  pGroupCols : ∀ x0 x, x.parserKind = false → pGroupCols d f x0 ≠ .error x
  pGroupSetsOpt : ∀ x0 x, x.parserKind = false → pGroupSetsOpt d f x0 ≠ .error x
  pWithTable : ∀ x0 x, x.parserKind = false → pWithTable d f x0 ≠ .error x
  pWithBody : ∀ x0 x1 x, x.parserKind = false → pWithBody d f x0 x1 ≠ .error x
  pWithTables : ∀ x0 x1 x, x.parserKind = false → pWithTables d f x0 x1 ≠ .error x
  pWith : ∀ x0 x, x.parserKind = false → pWith d f x0 ≠ .error x
  pSelectBody : ∀ x0 x1 x2 x3 x, x.parserKind = false → pSelectBody d f x0 x1 x2 x3 ≠ .error x
  pFromOpt : ∀ x0 x, x.parserKind = false → pFromOpt d f x0 ≠ .error x
  pSelectRest : ∀ x0 x1 x2 x3 x4 x5 x, x.parserKind = false → pSelectRest d f x0 x1 x2 x3 x4 x5 ≠ .error x
  pSelectTail : ∀ x0 x1 x2 x3 x4 x5 x6 x, x.parserKind = false → pSelectTail d f x0 x1 x2 x3 x4 x5 x6 ≠ .error x
  pWhereGroup : ∀ x0 x, x.parserKind = false → pWhereGroup d f x0 ≠ .error x
  pHavingOrder : ∀ x0 x, x.parserKind = false → pHavingOrder d f x0 ≠ .error x
  pHiveClauses : ∀ x0 x, x.parserKind = false → pHiveClauses d f x0 ≠ .error x
  pSortBy : ∀ x0 x, x.parserKind = false → pSortBy d f x0 ≠ .error x
  pByList : ∀ x0 x1 x, x.parserKind = false → pByList d f x0 x1 ≠ .error x
  pLateral : ∀ x0 x, x.parserKind = false → pLateral d f x0 ≠ .error x
  pLaterals : ∀ x0 x1 x2 x3 x, x.parserKind = false → pLaterals d f x0 x1 x2 x3 ≠ .error x
  pSingle : ∀ x0 x1 x, x.parserKind = false → pSingle d f x0 x1 ≠ .error x
  pSingleParen : ∀ x0 x1 x2 x3 x, x.parserKind = false → pSingleParen d f x0 x1 x2 x3 ≠ .error x
  pSelectStmt : ∀ x0 x1 x, x.parserKind = false → pSelectStmt d f x0 x1 ≠ .error x
  pUnions : ∀ x0 x1 x2 x, x.parserKind = false → pUnions d f x0 x1 x2 ≠ .error x

theorem noPyF (d : Gen.D) (f : Nat) : NoPyF d f :=
  have h := outF_all d f
  { pElement := fun x0 => (h.pElement x0).1.2.nopy,
    pParen := fun x0 x1 => (h.pParen x0 x1).1.2.nopy,
    pNamed := fun x0 x1 x2 => (h.pNamed x0 x1 x2).1.nopy,
    pQualified := fun x0 x1 x2 => (h.pQualified x0 x1 x2).1.nopy,
    pIndex := fun x0 x1 => (h.pIndex x0 x1).1.2.nopy,
    pFuncIdx := fun x0 => (h.pFuncIdx x0).1.2.nopy,
    pFunc := fun x0 => (h.pFunc x0).1.2.nopy,
    pIfCall := fun x0 => (h.pIfCall x0).1.2.nopy,
    pFirstDiscard := fun x0 => (h.pFirstDiscard x0).1.2.nopy,
    pFirstArg := fun x0 => (h.pFirstArg x0).1.2.nopy,
    pCall := fun x0 x1 x2 => (h.pCall x0 x1 x2).1.2.nopy,
    pArgs := fun x0 x1 => (h.pArgs x0 x1).1.2.nopy,
    pCase := fun x0 => (h.pCase x0).1.2.nopy,
    pElseEnd := fun x0 => (h.pElseEnd x0).1.2.nopy,
    pWhens := fun x0 x1 => (h.pWhens x0 x1).1.2.nopy,
    pUnary := fun x0 => (h.pUnary x0).1.2.nopy,
    pCompute := fun x0 => (h.pCompute x0).1.2.nopy,
    pComputeLoop := fun x0 x1 x2 => (h.pComputeLoop x0 x1 x2).1.2.nopy,
    pKeyword := fun x0 x1 => (h.pKeyword x0 x1).1.2.nopy,
    pKwFirst := fun x0 x1 => (h.pKwFirst x0 x1).1.2.nopy,
    pKwRest := fun x0 x1 x2 => (h.pKwRest x0 x1 x2).1.2.nopy,
    pKwBody := fun x0 x1 x2 x3 => (h.pKwBody x0 x1 x2 x3).1.2.nopy,
    pBetween := fun x0 x1 x2 => (h.pBetween x0 x1 x2).1.2.nopy,
    pInBody := fun x0 x1 x2 => (h.pInBody x0 x1 x2).1.2.nopy,
    pSplit := fun x0 x1 x2 => (h.pSplit x0 x1 x2).1.nopy,
    pCompare := fun x0 => (h.pCompare x0).1.2.nopy,
    pCompareLoop := fun x0 x1 => (h.pCompareLoop x0 x1).1.2.nopy,
    pNot := fun x0 => (h.pNot x0).1.2.nopy,
    pAnd := fun x0 => (h.pAnd x0).1.2.nopy,
    pAndLoop := fun x0 x1 => (h.pAndLoop x0 x1).1.2.nopy,
    pXor := fun x0 => (h.pXor x0).1.2.nopy,
    pXorLoop := fun x0 x1 => (h.pXorLoop x0 x1).1.2.nopy,
    pOr := fun x0 => (h.pOr x0).1.2.nopy,
    pOrLoop := fun x0 x1 => (h.pOrLoop x0 x1).1.2.nopy,
    pSubQuery := fun x0 => (h.pSubQuery x0).1.2.nopy,
    pCast := fun x0 => (h.pCast x0).1.2.nopy,
    pExtract := fun x0 => (h.pExtract x0).1.2.nopy,
    pExtractTail := fun x0 x1 => (h.pExtractTail x0 x1).1.nopy,
    pWindow := fun x0 => (h.pWindow x0).1.2.nopy,
    pWindowBody := fun x0 x1 => (h.pWindowBody x0 x1).1.nopy,
    pPartitionBy := fun x0 => (h.pPartitionBy x0).1.2.nopy,
    pComputeList := fun x0 x1 => (h.pComputeList x0 x1).1.2.nopy,
    pOrderItem := fun x0 => (h.pOrderItem x0).1.2.nopy,
    pOrderList := fun x0 x1 => (h.pOrderList x0 x1).1.2.nopy,
    pOrderByOpt := fun x0 => (h.pOrderByOpt x0).1.2.nopy,
    pSelectCol := fun x0 => (h.pSelectCol x0).1.2.nopy,
    pSelectCols := fun x0 x1 => (h.pSelectCols x0 x1).1.2.nopy,
    pTableExpr := fun x0 => (h.pTableExpr x0).1.2.nopy,
    pFromTable := fun x0 => (h.pFromTable x0).1.2.nopy,
    pFromTables := fun x0 x1 => (h.pFromTables x0 x1).1.2.nopy,
    pJoin := fun x0 => (h.pJoin x0).1.2.nopy,
    pJoinRule := fun x0 x1 x2 => (h.pJoinRule x0 x1 x2).1.2.nopy,
    pJoins := fun x0 x1 x2 x3 => (h.pJoins x0 x1 x2 x3).1.2.nopy,
    pOptOr := fun x0 x1 => (h.pOptOr x0 x1).1.2.nopy,
    pGroupingElem := fun x0 => (h.pGroupingElem x0).1.nopy,
    pClosedEach := fun x0 x1 => (h.pClosedEach x0 x1).1.nopy,
    pGroupingElems := fun x0 x1 => (h.pGroupingElems x0 x1).1.nopy,
    pGroupingSets := fun x0 => (h.pGroupingSets x0).1.2.nopy,
    pGroupBy := fun x0 => (h.pGroupBy x0).1.2.nopy,
    pGroupCols := fun x0 => (h.pGroupCols x0).1.2.nopy,
    pGroupSetsOpt := fun x0 => (h.pGroupSetsOpt x0).1.2.nopy,
    pWithTable := fun x0 => (h.pWithTable x0).1.2.nopy,
    pWithBody := fun x0 x1 => (h.pWithBody x0 x1).1.2.nopy,
    pWithTables := fun x0 x1 => (h.pWithTables x0 x1).1.2.nopy,
    pWith := fun x0 => (h.pWith x0).1.2.nopy,
    pSelectBody := fun x0 x1 x2 x3 => (h.pSelectBody x0 x1 x2 x3).1.2.nopy,
    pFromOpt := fun x0 => (h.pFromOpt x0).1.2.nopy,
    pSelectRest := fun x0 x1 x2 x3 x4 x5 => (h.pSelectRest x0 x1 x2 x3 x4 x5).1.2.nopy,
    pSelectTail := fun x0 x1 x2 x3 x4 x5 x6 => (h.pSelectTail x0 x1 x2 x3 x4 x5 x6).1.2.nopy,
    pWhereGroup := fun x0 => (h.pWhereGroup x0).1.2.nopy,
    pHavingOrder := fun x0 => (h.pHavingOrder x0).1.2.nopy,
    pHiveClauses := fun x0 => (h.pHiveClauses x0).1.2.nopy,
    pSortBy := fun x0 => (h.pSortBy x0).1.2.nopy,
    pByList := fun x0 x1 => (h.pByList x0 x1).1.2.nopy,
    pLateral := fun x0 => (h.pLateral x0).1.2.nopy,
    pLaterals := fun x0 x1 x2 x3 => (h.pLaterals x0 x1 x2 x3).1.2.nopy,
    pSingle := fun x0 x1 => (h.pSingle x0 x1).1.2.nopy,
    pSingleParen := fun x0 x1 x2 x3 => (h.pSingleParen x0 x1 x2 x3).1.2.nopy,
    pSelectStmt := fun x0 x1 => (h.pSelectStmt x0 x1).1.2.nopy,
    pUnions := fun x0 x1 x2 => (h.pUnions x0 x1 x2).1.2.nopy }

theorem pParen_nopy (d : Gen.D) (f : Nat) : ∀ x0 x1 x, x.parserKind = false → pParen d f x0 x1 ≠ .error x := (noPyF d f).pParen
theorem pNamed_nopy (d : Gen.D) (f : Nat) : ∀ x0 x1 x2 x, x.parserKind = false → pNamed d f x0 x1 x2 ≠ .error x := (noPyF d f).pNamed
theorem pQualified_nopy (d : Gen.D) (f : Nat) : ∀ x0 x1 x2 x, x.parserKind = false → pQualified d f x0 x1 x2 ≠ .error x := (noPyF d f).pQualified
theorem pIndex_nopy (d : Gen.D) (f : Nat) : ∀ x0 x1 x, x.parserKind = false → pIndex d f x0 x1 ≠ .error x := (noPyF d f).pIndex
theorem pFirstDiscard_nopy (d : Gen.D) (f : Nat) : ∀ x0 x, x.parserKind = false → pFirstDiscard d f x0 ≠ .error x := (noPyF d f).pFirstDiscard
theorem pFirstArg_nopy (d : Gen.D) (f : Nat) : ∀ x0 x, x.parserKind = false → pFirstArg d f x0 ≠ .error x := (noPyF d f).pFirstArg
theorem pCall_nopy (d : Gen.D) (f : Nat) : ∀ x0 x1 x2 x, x.parserKind = false → pCall d f x0 x1 x2 ≠ .error x := (noPyF d f).pCall
theorem pArgs_nopy (d : Gen.D) (f : Nat) : ∀ x0 x1 x, x.parserKind = false → pArgs d f x0 x1 ≠ .error x := (noPyF d f).pArgs
theorem pElseEnd_nopy (d : Gen.D) (f : Nat) : ∀ x0 x, x.parserKind = false → pElseEnd d f x0 ≠ .error x := (noPyF d f).pElseEnd
theorem pWhens_nopy (d : Gen.D) (f : Nat) : ∀ x0 x1 x, x.parserKind = false → pWhens d f x0 x1 ≠ .error x := (noPyF d f).pWhens
theorem pComputeLoop_nopy (d : Gen.D) (f : Nat) : ∀ x0 x1 x2 x, x.parserKind = false → pComputeLoop d f x0 x1 x2 ≠ .error x := (noPyF d f).pComputeLoop
theorem pKwFirst_nopy (d : Gen.D) (f : Nat) : ∀ x0 x1 x, x.parserKind = false → pKwFirst d f x0 x1 ≠ .error x := (noPyF d f).pKwFirst
theorem pKwRest_nopy (d : Gen.D) (f : Nat) : ∀ x0 x1 x2 x, x.parserKind = false → pKwRest d f x0 x1 x2 ≠ .error x := (noPyF d f).pKwRest
theorem pKwBody_nopy (d : Gen.D) (f : Nat) : ∀ x0 x1 x2 x3 x, x.parserKind = false → pKwBody d f x0 x1 x2 x3 ≠ .error x := (noPyF d f).pKwBody
theorem pBetween_nopy (d : Gen.D) (f : Nat) : ∀ x0 x1 x2 x, x.parserKind = false → pBetween d f x0 x1 x2 ≠ .error x := (noPyF d f).pBetween
theorem pInBody_nopy (d : Gen.D) (f : Nat) : ∀ x0 x1 x2 x, x.parserKind = false → pInBody d f x0 x1 x2 ≠ .error x := (noPyF d f).pInBody
theorem pCompareLoop_nopy (d : Gen.D) (f : Nat) : ∀ x0 x1 x, x.parserKind = false → pCompareLoop d f x0 x1 ≠ .error x := (noPyF d f).pCompareLoop
theorem pAndLoop_nopy (d : Gen.D) (f : Nat) : ∀ x0 x1 x, x.parserKind = false → pAndLoop d f x0 x1 ≠ .error x := (noPyF d f).pAndLoop
theorem pXorLoop_nopy (d : Gen.D) (f : Nat) : ∀ x0 x1 x, x.parserKind = false → pXorLoop d f x0 x1 ≠ .error x := (noPyF d f).pXorLoop
theorem pOrLoop_nopy (d : Gen.D) (f : Nat) : ∀ x0 x1 x, x.parserKind = false → pOrLoop d f x0 x1 ≠ .error x := (noPyF d f).pOrLoop
theorem pExtractTail_nopy (d : Gen.D) (f : Nat) : ∀ x0 x1 x, x.parserKind = false → pExtractTail d f x0 x1 ≠ .error x := (noPyF d f).pExtractTail
theorem pWindowBody_nopy (d : Gen.D) (f : Nat) : ∀ x0 x1 x, x.parserKind = false → pWindowBody d f x0 x1 ≠ .error x := (noPyF d f).pWindowBody
theorem pPartitionBy_nopy (d : Gen.D) (f : Nat) : ∀ x0 x, x.parserKind = false → pPartitionBy d f x0 ≠ .error x := (noPyF d f).pPartitionBy
theorem pComputeList_nopy (d : Gen.D) (f : Nat) : ∀ x0 x1 x, x.parserKind = false → pComputeList d f x0 x1 ≠ .error x := (noPyF d f).pComputeList
theorem pOrderItem_nopy (d : Gen.D) (f : Nat) : ∀ x0 x, x.parserKind = false → pOrderItem d f x0 ≠ .error x := (noPyF d f).pOrderItem
theorem pOrderList_nopy (d : Gen.D) (f : Nat) : ∀ x0 x1 x, x.parserKind = false → pOrderList d f x0 x1 ≠ .error x := (noPyF d f).pOrderList
theorem pJoinRule_nopy (d : Gen.D) (f : Nat) : ∀ x0 x1 x2 x, x.parserKind = false → pJoinRule d f x0 x1 x2 ≠ .error x := (noPyF d f).pJoinRule
theorem pJoins_nopy (d : Gen.D) (f : Nat) : ∀ x0 x1 x2 x3 x, x.parserKind = false → pJoins d f x0 x1 x2 x3 ≠ .error x := (noPyF d f).pJoins
theorem pGroupingElem_nopy (d : Gen.D) (f : Nat) : ∀ x0 x, x.parserKind = false → pGroupingElem d f x0 ≠ .error x := (noPyF d f).pGroupingElem
theorem pClosedEach_nopy (d : Gen.D) (f : Nat) : ∀ x0 x1 x, x.parserKind = false → pClosedEach d f x0 x1 ≠ .error x := (noPyF d f).pClosedEach
theorem pGroupingElems_nopy (d : Gen.D) (f : Nat) : ∀ x0 x1 x, x.parserKind = false → pGroupingElems d f x0 x1 ≠ .error x := (noPyF d f).pGroupingElems
theorem pGroupCols_nopy (d : Gen.D) (f : Nat) : ∀ x0 x, x.parserKind = false → pGroupCols d f x0 ≠ .error x := (noPyF d f).pGroupCols
theorem pGroupSetsOpt_nopy (d : Gen.D) (f : Nat) : ∀ x0 x, x.parserKind = false → pGroupSetsOpt d f x0 ≠ .error x := (noPyF d f).pGroupSetsOpt
theorem pWithBody_nopy (d : Gen.D) (f : Nat) : ∀ x0 x1 x, x.parserKind = false → pWithBody d f x0 x1 ≠ .error x := (noPyF d f).pWithBody
theorem pWithTables_nopy (d : Gen.D) (f : Nat) : ∀ x0 x1 x, x.parserKind = false → pWithTables d f x0 x1 ≠ .error x := (noPyF d f).pWithTables
theorem pSelectBody_nopy (d : Gen.D) (f : Nat) : ∀ x0 x1 x2 x3 x, x.parserKind = false → pSelectBody d f x0 x1 x2 x3 ≠ .error x := (noPyF d f).pSelectBody
theorem pFromOpt_nopy (d : Gen.D) (f : Nat) : ∀ x0 x, x.parserKind = false → pFromOpt d f x0 ≠ .error x := (noPyF d f).pFromOpt
theorem pSelectRest_nopy (d : Gen.D) (f : Nat) : ∀ x0 x1 x2 x3 x4 x5 x, x.parserKind = false → pSelectRest d f x0 x1 x2 x3 x4 x5 ≠ .error x := (noPyF d f).pSelectRest
theorem pSelectTail_nopy (d : Gen.D) (f : Nat) : ∀ x0 x1 x2 x3 x4 x5 x6 x, x.parserKind = false → pSelectTail d f x0 x1 x2 x3 x4 x5 x6 ≠ .error x := (noPyF d f).pSelectTail
theorem pWhereGroup_nopy (d : Gen.D) (f : Nat) : ∀ x0 x, x.parserKind = false → pWhereGroup d f x0 ≠ .error x := (noPyF d f).pWhereGroup
theorem pHavingOrder_nopy (d : Gen.D) (f : Nat) : ∀ x0 x, x.parserKind = false → pHavingOrder d f x0 ≠ .error x := (noPyF d f).pHavingOrder
theorem pHiveClauses_nopy (d : Gen.D) (f : Nat) : ∀ x0 x, x.parserKind = false → pHiveClauses d f x0 ≠ .error x := (noPyF d f).pHiveClauses
theorem pLaterals_nopy (d : Gen.D) (f : Nat) : ∀ x0 x1 x2 x3 x, x.parserKind = false → pLaterals d f x0 x1 x2 x3 ≠ .error x := (noPyF d f).pLaterals
theorem pSingleParen_nopy (d : Gen.D) (f : Nat) : ∀ x0 x1 x2 x3 x, x.parserKind = false → pSingleParen d f x0 x1 x2 x3 ≠ .error x := (noPyF d f).pSingleParen
theorem pUnions_nopy (d : Gen.D) (f : Nat) : ∀ x0 x1 x2 x, x.parserKind = false → pUnions d f x0 x1 x2 ≠ .error x := (noPyF d f).pUnions

end PM
