import MsqModel.Lex.Summary
/-! the driver and one operation, for any table: running an instruction list = running its summary (`exec_summarize`), whose
effect on the stack has a closed form (`execCore_eq`); what a successful run consists of; `ERel` (both runs fail with the
same error or succeed with related results) and its lifting from one `handle` call to whole runs -/
namespace Lex

/-! ## the driver: a run in pieces, and the two outcomes of one character -/

theorem feedAllWith_append (h : Mem → Sym → Except Err (Mem × Bool)) (a b : List Char) (m : Mem) :
    feedAllWith h (a ++ b) m = (match feedAllWith h a m with | .ok m' => feedAllWith h b m' | .error e => .error e) := by
  induction a generalizing m with
  | nil => simp [feedAllWith]
  | cons c cs ih =>
    simp only [List.cons_append, feedAllWith]
    cases feedWith h m c with
    | error e => rfl
    | ok m' => exact ih m'

theorem feedAllWith_append_ok {h : Mem → Sym → Except Err (Mem × Bool)} {a : List Char} {m m' : Mem}
    (ha : feedAllWith h a m = .ok m') (b : List Char) : feedAllWith h (a ++ b) m = feedAllWith h b m' := by
  rw [feedAllWith_append, ha]

theorem feedAllWith_append_err {h : Mem → Sym → Except Err (Mem × Bool)} {a : List Char} {m : Mem} {e : Err}
    (ha : feedAllWith h a m = .error e) (b : List Char) : feedAllWith h (a ++ b) m = .error e := by
  rw [feedAllWith_append, ha]

theorem feedAllWith_one (h : Mem → Sym → Except Err (Mem × Bool)) (c : Char) (m : Mem) :
    feedAllWith h [c] m = feedWith h m c := by
  simp only [feedAllWith]
  cases feedWith h m c <;> rfl

theorem feedWith_adv {h : Mem → Sym → Except Err (Mem × Bool)} {m m1 : Mem} {c : Char}
    (h1 : h m (.ch c) = .ok (m1, true)) : feedWith h m c = .ok m1 := by
  simp [feedWith, h1]

theorem feedAllWith_cons_adv {h : Mem → Sym → Except Err (Mem × Bool)} {m m1 : Mem} {c : Char}
    (h1 : h m (.ch c) = .ok (m1, true)) (cs : List Char) : feedAllWith h (c :: cs) m = feedAllWith h cs m1 := by
  simp [feedAllWith, feedWith_adv h1]

theorem feedWith_retry {h : Mem → Sym → Except Err (Mem × Bool)} {m m1 : Mem} {c : Char}
    (h1 : h m (.ch c) = .ok (m1, false)) : feedWith h m c =
      (match h m1 (.ch c) with | .error e => .error e | .ok (m2, _) => .ok m2) := by
  simp only [feedWith, h1]
  rfl

def dropFlag (r : Except Err (Mem × Bool)) : Except Err Mem :=
  match r with | .error e => .error e | .ok (m, _) => .ok m

theorem feedWith_retry' {h : Mem → Sym → Except Err (Mem × Bool)} {m m1 : Mem} {c : Char}
    (h1 : h m (.ch c) = .ok (m1, false)) : feedWith h m c = dropFlag (h m1 (.ch c)) := by
  rw [feedWith_retry h1]; rfl

theorem feedWith_err {h : Mem → Sym → Except Err (Mem × Bool)} {m : Mem} {c : Char} {e : Err}
    (h1 : h m (.ch c) = .error e) : feedWith h m c = .error e := by
  simp [feedWith, h1]

/-! ## the pre-pass leaves alone a text in which no pattern can begin -/

theorem replaceGo_noop (p0 : Char) (ps rep : List Char) (f : Nat) (t : List Char) (h : p0 ∉ t) :
    Py.replaceGo (p0 :: ps) rep f t = t := by
  induction f generalizing t with
  | zero => rfl
  | succ f ih =>
    cases t with
    | nil => rfl
    | cons c r =>
      have hc : p0 ≠ c := fun e => h (by simp [e])
      have hr : p0 ∉ r := fun e => h (by simp [e])
      simp [Py.replaceGo, List.isPrefixOf, hc, ih r hr]

/-- no pattern of the replacement chain can match in `t`: the first character of each pattern does not occur -/
def Untouched (chain : List (List Char × List Char)) (t : List Char) : Prop :=
  ∀ pr ∈ chain, match pr.1 with | [] => True | p0 :: _ => p0 ∉ t

theorem preWith_noop (chain : List (List Char × List Char)) (t : List Char) (h : Untouched chain t) :
    preWith chain t = t := by
  induction chain with
  | nil => rfl
  | cons pr rest ih =>
    have h1 := h pr (by simp)
    have hrest : Untouched rest t := fun q hq => h q (by simp [hq])
    have : Py.replace pr.1 pr.2 t = t := by
      cases hp : pr.1 with
      | nil => simp [Py.replace]
      | cons p0 ps =>
        rw [hp] at h1
        simp [Py.replace, replaceGo_noop p0 ps pr.2 _ t h1]
    simp only [preWith, List.foldl_cons, this]
    exact ih hrest

/-- `c` is not the first character of any pattern of the pre-pass replacement chain -/
def Plain (chain : List (List Char × List Char)) (c : Char) : Bool :=
  chain.all fun pr => match pr.1 with | [] => true | p0 :: _ => p0 != c

theorem untouched_of_plain (chain : List (List Char × List Char)) (t : List Char)
    (h : ∀ c ∈ t, Plain chain c = true) : Untouched chain t := by
  intro pr hpr
  cases hp : pr.1 with
  | nil => trivial
  | cons p0 ps =>
    show p0 ∉ t
    intro hm
    have := List.all_eq_true.mp (h p0 hm) pr hpr
    simp [hp] at this

/-! ## an instruction list and its summary -/

variable (env : Env) (ss : S) (sm : Nat) (sym : Sym)

theorem exec_ret (st : St × Bool) (is : List Instr) (h : parseRet is = some st) (r : Regs) (m : Mem) :
    exec env ss sm sym is r m = .ok ({ m with status := st.1.resolve ss m.status }, st.2) := by
  unfold parseRet at h
  split at h <;> simp at h <;> subst h <;> simp [exec, St.resolve]

theorem exec_tail (adv : Bool) (dg : Option Nat) (is : List Instr) (s : Summary)
    (h : parseTail adv dg is = some s) (m : Mem) :
    exec env ss sm sym is {} m = execCore env ss sm false s.body s.grp s.st s.ret m
      ∧ s.adv = adv ∧ s.depthGuard = dg ∧ s.raises = false := by
  unfold parseTail at h
  split at h
  all_goals
    simp only [Option.map_eq_some_iff] at h
    obtain ⟨x, hx, rfl⟩ := h
    refine ⟨?_, rfl, rfl, rfl⟩
  · simp only [exec, execCore, mkSummary]
    cases hap : appendTop _ m.stack with
    | none => simp [hap]
    | some stk => simp [hap, exec_ret env ss sm sym x _ hx]
  · simp [exec, execCore, mkSummary, exec_ret env ss sm sym x _ hx]
  · simp only [exec, execCore, mkSummary]
    cases hst : m.stack with
    | nil => simp
    | cons f fs =>
      simp only []
      cases hap : appendTop _ fs with
      | none => simp [hap]
      | some stk => simp [hap, exec_ret env ss sm sym x _ hx]
  · simp [exec, execCore, mkSummary, exec_ret env ss sm sym x _ hx]
  · simp [execCore, mkSummary, exec_ret env ss sm sym x _ hx]

theorem execCore_adv (body : Body) (grp : Grp) (st : St) (ret : Bool) (m : Mem) :
    execCore env ss sm true body grp st ret m =
      execCore env ss sm false body grp st ret { m with now := m.now + 1 } := by
  simp [execCore]

theorem exec_adv (dg : Option Nat) (is : List Instr) (s : Summary) (h : parseAdv dg is = some s) (m : Mem) :
    exec env ss sm sym is {} m = execCore env ss sm s.adv s.body s.grp s.st s.ret m
      ∧ s.depthGuard = dg ∧ s.raises = false := by
  unfold parseAdv at h
  split at h
  · rename_i is'
    obtain ⟨ht, ha, hd, hr⟩ := exec_tail env ss sm sym true dg is' s h { m with now := m.now + 1 }
    refine ⟨?_, hd, hr⟩
    simp only [exec]
    rw [ht, ha, execCore_adv]
  · obtain ⟨ht, ha, hd, hr⟩ := exec_tail env ss sm sym false dg is s h m
    exact ⟨by rw [ht, ha], hd, hr⟩

theorem exec_summarize (is : List Instr) (s : Summary) (h : summarize is = some s) (m : Mem) :
    exec env ss sm sym is {} m = execS env ss sm s m := by
  unfold summarize at h
  split at h
  · rename_i k is'
    obtain ⟨he, hd, hr⟩ := exec_adv env ss sm sym (some k) is' s h m
    simp only [exec, execS, Summary.blocked, hd, hr]
    by_cases hk : m.stack.length ≤ k
    · simp [hk]
    · simp [hk, he]
  · simp at h; subst h
    cases sym <;> simp [exec, execS, Summary.blocked]
  · simp at h; subst h
    simp [exec, execS, Summary.blocked]
  · obtain ⟨he, hd, hr⟩ := exec_adv env ss sm sym none is s h m
    simp [execS, Summary.blocked, hd, hr, he]

/-- the frame stack after the body of an operation: `emit` appends the window as a leaf to the top frame -/
def bodyStk (env : Env) (sm : Nat) (m : Mem) (now : Nat) : Body → Option (List (List Tok))
  | .emit mk =>
    let src := (env.text.drop m.start).take (now - m.start)
    appendTop (.single src (resolveMarks env.upper env.wordMarks sm src mk)) m.stack
  | _ => some m.stack

/-- … and after its group part: `push` opens a frame, `pop` closes the top frame into a group in the frame below -/
def grpStk (env : Env) (sm : Nat) : Grp → List (List Tok) → Option (List (List Tok))
  | .none, stk => some stk
  | .push, stk => some ([] :: stk)
  | .pop k mk, f :: fs => appendTop (.group k f (resolveMarks env.upper env.wordMarks sm [] mk)) fs
  | .pop _ _, [] => none

def bodyStart (m : Mem) (now : Nat) : Body → Nat
  | .keep => m.start
  | _ => now

theorem bodyStk_ne_nil {env : Env} {sm : Nat} {m : Mem} {now : Nat} {body : Body} {stk : List (List Tok)}
    (h : bodyStk env sm m now body = some stk) (hne : m.stack ≠ []) : stk ≠ [] := by
  cases body with
  | emit mk =>
    cases hs : m.stack with
    | nil => exact absurd hs hne
    | cons f fs => simp only [bodyStk, hs, appendTop, Option.some.injEq] at h; rw [← h]; simp
  | keep | drop => cases h; exact hne

theorem grpStk_ne_nil {env : Env} {sm : Nat} {grp : Grp} {stk stk' : List (List Tok)}
    (h : grpStk env sm grp stk = some stk') (hne : stk ≠ []) : stk' ≠ [] := by
  cases grp with
  | none => cases h; exact hne
  | push => cases h; simp
  | pop k mk =>
    match stk, h with
    | f :: g :: r, h => simp only [grpStk, appendTop, Option.some.injEq] at h; rw [← h]; simp

theorem execCore_eq (adv : Bool) (body : Body) (grp : Grp) (st : St) (ret : Bool) (m : Mem) :
    execCore env ss sm adv body grp st ret m =
      match (bodyStk env sm m (if adv then m.now + 1 else m.now) body).bind (grpStk env sm grp) with
      | none => .error (.py .IndexError)
      | some stk => .ok ({ start := bodyStart m (if adv then m.now + 1 else m.now) body,
                           now := if adv then m.now + 1 else m.now, status := st.resolve ss m.status, stack := stk }, ret) := by
  simp only [execCore]
  cases body with
  | emit mk =>
    simp only [bodyStk, bodyStart]
    cases appendTop _ m.stack with
    | none => rfl
    | some stk =>
      cases grp <;> try rfl
      cases stk <;> rfl
  | keep | drop =>
    cases grp <;> try rfl
    simp only [bodyStk, Option.bind_some]
    cases m.stack <;> rfl

theorem execCore_ok {adv : Bool} {body : Body} {grp : Grp} {st : St} {ret : Bool} {m m' : Mem} {b : Bool}
    (h : execCore env ss sm adv body grp st ret m = .ok (m', b)) :
    b = ret ∧ m'.now = (if adv then m.now + 1 else m.now) ∧ m'.status = st.resolve ss m.status ∧
    m'.start = bodyStart m m'.now body ∧
    ∃ stk, bodyStk env sm m m'.now body = some stk ∧ grpStk env sm grp stk = some m'.stack := by
  rw [execCore_eq] at h
  split at h
  · cases h
  · rename_i stk' hs
    cases h
    obtain ⟨stk, h1, h2⟩ := Option.bind_eq_some_iff.mp hs
    exact ⟨rfl, rfl, rfl, rfl, stk, h1, h2⟩

/-! ## the driver: what a successful run consists of -/

section driver
variable {Cls : Type} {h : Mem → Sym → Except Err (Mem × Bool)} {m m' : Mem}

theorem Cfg.lookup_ch_cases (cfg : Cfg Cls) (s : S) (c : Char) :
    (∃ e ∈ cfg.rows s, e.1 = c.toNat ∧ cfg.lookup s (.ch c) = some e.2) ∨ cfg.lookup s (.ch c) = cfg.dflt s := by
  simp only [Cfg.lookup]
  cases hf : (cfg.rows s).find? (fun e => e.1 == c.toNat) with
  | none => exact .inr rfl
  | some e => exact .inl ⟨e, List.mem_of_find?_eq_some hf, by simpa using List.find?_some hf, rfl⟩

theorem handle_eq (cfg : Cfg Cls) (text : List Char) (m : Mem) (sym : Sym) (o : OpRef Cls) (sm : Summary)
    (ho : cfg.lookup m.status sym = some o) (hs : summarize (cfg.code o.cls) = some sm) :
    handle cfg text m sym = execS (cfg.env text) o.status o.marks sm m := by
  simp [handle, ho, exec_summarize _ _ _ _ _ _ hs]

theorem execS_ok (env : Env) (ss : S) (smk : Nat) (s : Summary) (m m' : Mem) (b : Bool)
    (h : execS env ss smk s m = .ok (m', b)) :
    s.raises = false ∧ execCore env ss smk s.adv s.body s.grp s.st s.ret m = .ok (m', b) := by
  unfold execS at h
  split at h
  · cases h
  · split at h
    · cases h
    · rename_i hr
      exact ⟨by simpa using hr, h⟩

theorem handle_ok_of {cfg : Cfg Cls} {text : List Char} {m m' : Mem} {sym : Sym} {b : Bool}
    (hs : ∀ o, cfg.lookup m.status sym = some o → ∃ sm, summarize (cfg.code o.cls) = some sm)
    (h : handle cfg text m sym = .ok (m', b)) :
    ∃ o sm, cfg.lookup m.status sym = some o ∧ summarize (cfg.code o.cls) = some sm ∧ sm.raises = false ∧
      execCore (cfg.env text) o.status o.marks sm.adv sm.body sm.grp sm.st sm.ret m = .ok (m', b) := by
  cases ho : cfg.lookup m.status sym with
  | none => simp [handle, ho] at h
  | some o =>
    obtain ⟨sm, hsm⟩ := hs o ho
    rw [handle_eq cfg text m _ o sm ho hsm] at h
    exact ⟨o, sm, rfl, hsm, execS_ok _ _ _ sm m m' b h⟩

theorem feedWith_ok {c : Char} (hf : feedWith h m c = .ok m') :
    h m (.ch c) = .ok (m', true) ∨ ∃ m1 b, h m (.ch c) = .ok (m1, false) ∧ h m1 (.ch c) = .ok (m', b) := by
  unfold feedWith at hf
  split at hf
  · cases hf
  · rename_i m1 h1; cases hf; exact .inl h1
  · rename_i m1 h1
    split at hf
    · cases hf
    · rename_i m2 b h2; cases hf; exact .inr ⟨m1, b, h1, h2⟩

theorem feedAllWith_cons_ok {c : Char} {cs : List Char} (hf : feedAllWith h (c :: cs) m = .ok m') :
    ∃ m1, feedWith h m c = .ok m1 ∧ feedAllWith h cs m1 = .ok m' := by
  simp only [feedAllWith] at hf
  split at hf
  · cases hf
  · rename_i m1 h1; exact ⟨m1, h1, hf⟩

theorem finish_eq_ok {cfg : Cfg Cls} {ts : List Tok} (hf : finish cfg m = .ok ts) :
    m.status = cfg.endStatus ∧ m.stack.length ≤ cfg.depthLimit ∧ m.stack.getLast? = some ts := by
  simp only [finish] at hf
  split at hf
  · cases hf
  · rename_i hs
    split at hf
    · cases hf
    · rename_i hl
      split at hf
      · rename_i f hg; cases hf; exact ⟨by simpa using hs, by omega, hg⟩
      · cases hf

theorem finish_ok_inv {cfg : Cfg Cls} (hd : cfg.depthLimit ≤ 1) {ts : List Tok} (hf : finish cfg m = .ok ts) :
    m.status = cfg.endStatus ∧ m.stack = [ts] := by
  obtain ⟨hs, hl, hg⟩ := finish_eq_ok hf
  refine ⟨hs, ?_⟩
  match hk : m.stack with
  | [] => rw [hk] at hg; cases hg
  | [f] => rw [hk] at hg; simp at hg; rw [hg]
  | _ :: _ :: _ => rw [hk] at hl; simp at hl; omega

theorem lexWith_ok {cfg : Cfg Cls} {H : List Char → Mem → Sym → Except Err (Mem × Bool)} {raw : List Char} {ts : List Tok}
    (hl : lexWith cfg H raw = .ok ts) :
    ∃ m m' b, feedAllWith (H (cfg.pre raw)) (cfg.pre raw) {} = .ok m ∧ H (cfg.pre raw) m .eof = .ok (m', b) ∧
      finish cfg m' = .ok ts := by
  simp only [lexWith] at hl
  split at hl
  · cases hl
  · rename_i m hm
    split at hl
    · cases hl
    · rename_i m' b hm'; exact ⟨m, m', b, hm, hm', hl⟩

end driver

/-- both runs fail with the same error, or both succeed with related results -/
def ERel {α β : Type} (P : α → β → Prop) : Except Err α → Except Err β → Prop
  | .error e, .error e' => e = e'
  | .ok a, .ok b => P a b
  | _, _ => False

theorem ERel.eq {α : Type} {x y : Except Err α} (h : ERel Eq x y) : x = y := by
  cases x <;> cases y <;> simp_all [ERel]

theorem ERel.mono {α β : Type} {P Q : α → β → Prop} {x : Except Err α} {y : Except Err β} (hPQ : ∀ a b, P a b → Q a b)
    (h : ERel P x y) : ERel Q x y := by
  cases x <;> cases y <;> first | exact h | exact hPQ _ _ h

theorem ERel.cases {α β : Type} {P : α → β → Prop} {x : Except Err α} {y : Except Err β} (h : ERel P x y) :
    (∃ e, x = .error e ∧ y = .error e) ∨ ∃ a b, x = .ok a ∧ y = .ok b ∧ P a b := by
  match x, y, h with
  | .error e, .error _, h => exact .inl ⟨e, rfl, by rw [show e = _ from h]⟩
  | .ok a, .ok b, h => exact .inr ⟨a, b, rfl, rfl, h⟩

section lift
variable {Rm : Mem → Mem → Prop} {h1 h2 : Mem → Sym → Except Err (Mem × Bool)}
  (hh : ∀ m1 m2 sym, Rm m1 m2 → ERel (fun x y => Rm x.1 y.1 ∧ x.2 = y.2) (h1 m1 sym) (h2 m2 sym))
include hh

theorem feedWith_rel (m1 m2 : Mem) (c : Char) (hm : Rm m1 m2) : ERel Rm (feedWith h1 m1 c) (feedWith h2 m2 c) := by
  simp only [feedWith]
  rcases (hh m1 m2 (.ch c) hm).cases with ⟨e, e1, e2⟩ | ⟨⟨x1, xb⟩, ⟨y1, yb⟩, e1, e2, hmem, hb⟩
  · rw [e1, e2]; exact rfl
  · rw [e1, e2]
    simp only at hmem hb
    subst hb
    cases xb with
    | true => exact hmem
    | false =>
      rcases (hh x1 y1 (.ch c) hmem).cases with ⟨e, f1, f2⟩ | ⟨u, v, f1, f2, huv, _⟩
      · simp only [f1, f2]; exact rfl
      · simp only [f1, f2]; exact huv

theorem feedAllWith_rel (cs : List Char) : ∀ (m1 m2 : Mem), Rm m1 m2 →
    ERel Rm (feedAllWith h1 cs m1) (feedAllWith h2 cs m2) := by
  induction cs with
  | nil => intro m1 m2 hm; exact hm
  | cons c cs ih =>
    intro m1 m2 hm
    simp only [feedAllWith]
    rcases (feedWith_rel hh m1 m2 c hm).cases with ⟨e, e1, e2⟩ | ⟨x, y, e1, e2, hxy⟩
    · rw [e1, e2]; exact rfl
    · rw [e1, e2]; exact ih x y hxy

end lift


end Lex
