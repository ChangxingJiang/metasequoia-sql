import MsqProofs.Lemmas.LineageStore
/-!
# Lineage: one query level against the specification — qualified and unqualified references, with the error cases

`Resolves`: the names of a level, read through `lookup`, `Denote` the relations of the scope; `Agrees st spec model`: the model's step returns
the specified value (or the analysis error) and leaves the stores as `st` has them.
-/
namespace LineageL
open Ast AN LN Spec Flow

/-- the level's table names resolve, in the current stores, to lineage objects denoting the relations of the scope -/
def Resolves (cat : Cat) (st : St) (tn : List (String × StdTable)) (scope : Scope) : Prop :=
  All2 (fun kt kr => kt.1 = kr.1 ∧ ∃ L, lookup cat st.subq st.withT kt.2 = some L ∧ Denotes L kr.2) tn scope

theorem Resolves.same {cat : Cat} {st st' : St} {tn : List (String × StdTable)} {scope : Scope}
    (h : Resolves cat st tn scope) (hs : Same st st') : Resolves cat st' tn scope := by
  unfold Resolves at h ⊢
  rw [hs.1, hs.2]; exact h

theorem resolves_get {cat : Cat} {st : St} : ∀ {tn : List (String × StdTable)} {scope : Scope}, Resolves cat st tn scope → ∀ t : String,
    (dictGet? tn t = none ∧ dictGet? scope t = none) ∨
    (∃ std R L, dictGet? tn t = some std ∧ dictGet? scope t = some R ∧ lookup cat st.subq st.withT std = some L ∧ Denotes L R)
  | [], [], _, t => Or.inl ⟨rfl, rfl⟩
  | [], _ :: _, h, _ => nomatch h
  | _ :: _, [], h, _ => nomatch h
  | kt :: tn, kr :: scope, h, t => by
    cases h with
    | cons hd tl =>
      obtain ⟨hk, L, hl, hden⟩ := hd
      by_cases e : kt.1 = t
      · refine Or.inr ⟨kt.2, kr.2, L, ?_, ?_, hl, hden⟩
        · simp [dictGet?, List.find?, e]
        · simp [dictGet?, List.find?, ← hk, e]
      · have e1 : (kt.1 == t) = false := by simpa using e
        have e2 : (kr.1 == t) = false := by rw [← hk]; exact e1
        rcases resolves_get tl t with h | h
        · left; simpa [dictGet?, List.find?, e1, e2] using h
        · right; simpa [dictGet?, List.find?, e1, e2] using h

/-- the three outcomes of a step of the analysis against its specification: the specified value with a model result related
to it; the analysis error; or no claim -/
def Out {α β : Type} (spec : Except FErr α) (model : Except Err β) (good : α → β → Prop) : Prop :=
  match spec with
  | .ok v => ∃ b, model = .ok b ∧ good v b
  | .error .analysis => model = .error .analyzer
  | .error .outside => True

theorem Out.ok {α β : Type} {v : α} {b : β} {good : α → β → Prop} (h : good v b) : Out (.ok v) (.ok b) good := ⟨b, rfl, h⟩

theorem Out.bind {α β γ δ : Type} {s : Except FErr α} {m : Except Err β} {k : α → Except FErr γ} {g : β → Except Err δ}
    {G : α → β → Prop} {H : γ → δ → Prop} (h : Out s m G) (hk : ∀ v b, G v b → Out (k v) (g b) H) :
    Out (s >>= k) (m >>= g) H := by
  cases s with
  | ok v => obtain ⟨b, rfl, hb⟩ := h; exact hk v b hb
  | error e =>
    cases e with
    | analysis => cases (show m = .error .analyzer from h); exact rfl
    | outside => trivial

theorem Out.mono {α β : Type} {s : Except FErr α} {m : Except Err β} {G H : α → β → Prop} (h : Out s m G)
    (hGH : ∀ v b, G v b → H v b) : Out s m H := by
  cases s with
  | ok v => obtain ⟨b, e, hb⟩ := h; exact ⟨b, e, hGH v b hb⟩
  | error e => cases e <;> exact h

/-- a last step of the specification that the analysis does not perform -/
theorem Out.map {α β γ : Type} {s : Except FErr α} {m : Except Err β} {k : α → γ} {G : α → β → Prop} {H : γ → β → Prop}
    (h : Out s m G) (hk : ∀ v b, G v b → H (k v) b) : Out (s >>= fun v => pure (k v)) m H := by
  cases s with
  | ok v => obtain ⟨b, e, hb⟩ := h; exact ⟨b, e, hk v b hb⟩
  | error e => cases e <;> exact h

/-- a step of the analysis that the specification does not see -/
theorem Out.of_ok {α β γ : Type} {s : Except FErr α} {m : Except Err β} {b : β} {g : β → Except Err γ} {H : α → γ → Prop}
    (e : m = .ok b) (h : Out s (g b) H) : Out s (m >>= g) H := e ▸ h

/-- a step that leaves the stores as they are: the specified value, the analysis error, or no claim -/
def Agrees {α : Type} (st : St) (spec : Except FErr α) (model : Except Err (α × St)) : Prop :=
  Out spec model fun v p => p.1 = v ∧ Same st p.2

theorem agrees_def {α : Type} (st : St) (spec : Except FErr α) (model : Except Err (α × St)) :
    Agrees st spec model = match spec with
      | .ok v => ∃ st2, model = .ok (v, st2) ∧ Same st st2
      | .error .analysis => model = .error .analyzer
      | .error .outside => True := by
  cases spec with
  | ok v => exact propext ⟨fun ⟨⟨_, st2⟩, e, hv, h⟩ => ⟨st2, hv ▸ e, h⟩, fun ⟨st2, e, h⟩ => ⟨_, e, rfl, h⟩⟩
  | error e => cases e <;> rfl

/-- **a qualified reference `t.c`**: the sources the relation bound to `t` gives for `c`; an unknown `t` or a `c` the relation does
not have is the analysis error -/
theorem qualified_spec {cat : Cat} {st : St} {tn : List (String × StdTable)} {scope : Scope} (hres : Resolves cat st tn scope)
    (t n : String) (hn : (n != "*") = true) (st1 : St) (hs : Same st st1) :
    Agrees st (refQ scope t n) (analyzeQuoteColumn cat tn ⟨some t, some n, none⟩ st1) := by
  rw [agrees_def]; unfold refQ
  rcases resolves_get hres t with ⟨h1, h2⟩ | ⟨std, R, L, h1, h2, hl, hden⟩
  · simp [h2, analyzeQuoteColumn, h1]
  · simp only [h2]
    have hg := getTableLineage_lookup cat std st1
    rw [hs.1, hs.2, hl] at hg
    obtain ⟨st2, hg1, hg2⟩ := hg
    have hhas := hasColumn_denotes hden n hn
    by_cases hr : relHas R n = true
    · obtain ⟨s, hs'⟩ := dictGet_of_has R n hr
      simp only [hs']
      refine ⟨st2, ?_, hs.trans hg2⟩
      simp [analyzeQuoteColumn, h1, hg1, bind, Except.bind, hhas, hr, Lineage.srcByName, hn, hden.get, hs', pure, Except.pure]
    · have hr' : relHas R n = false := by simpa using hr
      rw [dictGet_none_of_not_has R n hr']
      simp [analyzeQuoteColumn, h1, hg1, bind, Except.bind, hhas, hr']

/-- the search of an unqualified name through the upstream relations, as the analysis performs it -/
def unqSpec (n : String) : List Rel → Bool → List SrcCol → Option (List SrcCol)
  | [], m, acc => if m then some acc else none
  | R :: r, m, acc =>
    if !relHas R n then unqSpec n r m acc
    else if m then none
    else match dictGet? R n with
      | some s => unqSpec n r true (acc ++ s)
      | none => none

theorem unqualified_loop {cat : Cat} {st : St} (n : String) (hn : (n != "*") = true) :
    ∀ (ts : List StdTable) (rs : List Rel),
      All2 (fun t R => ∃ L, lookup cat st.subq st.withT t = some L ∧ Denotes L R) ts rs →
      ∀ (m : Bool) (acc : List SrcCol) (st1 : St), Same st st1 →
      match unqSpec n rs m acc with
      | some s => ∃ st2, unqualifiedSources cat n ts m acc st1 = .ok (s, st2) ∧ Same st st2
      | none => unqualifiedSources cat n ts m acc st1 = .error .analyzer
  | [], [], _, m, acc, st1, hs => by
    cases m <;> simp [unqSpec, unqualifiedSources, hs]
  | [], _ :: _, h, _, _, _, _ => nomatch h
  | _ :: _, [], h, _, _, _, _ => nomatch h
  | t :: ts, R :: rs, h, m, acc, st1, hs => by
    cases h with
    | cons hd tl =>
      obtain ⟨L, hl, hden⟩ := hd
      have hg := getTableLineage_lookup cat t st1
      rw [hs.1, hs.2, hl] at hg
      obtain ⟨st2, hg1, hg2⟩ := hg
      have hhas := hasColumn_denotes hden n hn
      have hs2 := hs.trans hg2
      by_cases hr : relHas R n = true
      · cases m with
        | true => simp [unqSpec, unqualifiedSources, hg1, bind, Except.bind, hhas, hr, hn]
        | false =>
          obtain ⟨s, hs'⟩ := dictGet_of_has R n hr
          have ih := unqualified_loop n hn ts rs tl true (acc ++ s) st2 hs2
          simp only [unqSpec, hr, Bool.not_true, Bool.false_eq_true, if_false, hs']
          simp only [unqualifiedSources, hg1, bind, Except.bind, hhas, hr, Bool.not_true, Bool.false_eq_true, if_false,
            Bool.false_and, Lineage.srcByName, hn, if_true, hden.get, hs']
          exact ih
      · have hr' : relHas R n = false := by simpa using hr
        have ih := unqualified_loop n hn ts rs tl m acc st2 hs2
        simp only [unqSpec, hr', Bool.not_false, if_true]
        simp only [unqualifiedSources, hg1, bind, Except.bind, hhas, hr', Bool.not_false, if_true]
        exact ih

theorem unqSpec_true (n : String) : ∀ (rs : List Rel) (acc : List SrcCol),
    unqSpec n rs true acc = if rs.filter (fun R => relHas R n) = [] then some acc else none
  | [], acc => by simp [unqSpec]
  | R :: r, acc => by
    by_cases h : relHas R n = true
    · simp [unqSpec, h]
    · have h' : relHas R n = false := by simpa using h
      simp [unqSpec, h', unqSpec_true n r acc]

/-- the search succeeds exactly when ONE upstream relation has the name -/
theorem unqSpec_false (n : String) : ∀ (rs : List Rel),
    unqSpec n rs false [] = match rs.filter (fun R => relHas R n) with
      | [R] => dictGet? R n
      | _ => none
  | [] => by simp [unqSpec]
  | R :: r => by
    by_cases h : relHas R n = true
    · obtain ⟨s, hs⟩ := dictGet_of_has R n h
      simp only [unqSpec, h, Bool.not_true, Bool.false_eq_true, if_false, hs, List.nil_append, unqSpec_true, List.filter_cons, if_true]
      cases hf : r.filter (fun R => relHas R n) with
      | nil => simp [hs]
      | cons a b => simp
    · have h' : relHas R n = false := by simpa using h
      simp only [unqSpec, h', Bool.not_false, if_true, List.filter_cons, Bool.false_eq_true, if_false]
      exact unqSpec_false n r

theorem resolves_values {cat : Cat} {st : St} : ∀ {tn : List (String × StdTable)} {scope : Scope}, Resolves cat st tn scope →
    All2 (fun t R => ∃ L, lookup cat st.subq st.withT t = some L ∧ Denotes L R) (tn.map (·.2)) (scope.map (·.2))
  | [], [], _ => All2.nil
  | [], _ :: _, h => nomatch h
  | _ :: _, [], h => nomatch h
  | _ :: _, _ :: _, h => by
    cases h with
    | cons hd tl => exact All2.cons hd.2 (resolves_values tl)

/-- **an unqualified reference `c`**: the sources of the one upstream relation that has `c`; no such relation, or more than one
(counted per FROM / JOIN item), is the analysis error -/
theorem unqualified_spec {cat : Cat} {st : St} {tn : List (String × StdTable)} {scope : Scope} (hres : Resolves cat st tn scope)
    (n : String) (hn : (n != "*") = true) (st1 : St) (hs : Same st st1) :
    Agrees st (refU scope n) (analyzeQuoteColumn cat tn ⟨none, some n, none⟩ st1) := by
  have h := unqualified_loop (cat := cat) n hn _ _ (resolves_values hres) false [] st1 hs
  rw [unqSpec_false] at h
  rw [agrees_def]; unfold refU
  simp only [analyzeQuoteColumn]
  cases hf : (scope.map (·.2)).filter (fun R => relHas R n) with
  | nil => simpa [hf] using h
  | cons R r =>
    cases r with
    | nil =>
      simp only [hf] at h ⊢
      cases hg : dictGet? R n with
      | none => simpa [hg] using h
      | some s => simpa [hg] using h
    | cons R2 r2 => simpa [hf] using h

/-- **an aggregate without column argument**: one anonymous source per upstream table of every FROM / JOIN item -/
theorem anon_loop {cat : Cat} {st : St} : ∀ (ts : List StdTable) (rs : List Rel),
    All2 (fun t R => ∃ L, lookup cat st.subq st.withT t = some L ∧ Denotes L R) ts rs →
    ∀ (st1 : St), Same st st1 →
    ∃ st2, anonSources cat ts st1 = .ok (rs.flatMap (fun R => (relTables R).map fun t => (⟨t.1, t.2, none⟩ : SrcCol)), st2) ∧ Same st st2
  | [], [], _, st1, hs => ⟨st1, by simp [anonSources], hs⟩
  | [], _ :: _, h, _, _ => nomatch h
  | _ :: _, [], h, _, _ => nomatch h
  | t :: ts, R :: rs, h, st1, hs => by
    cases h with
    | cons hd tl =>
      obtain ⟨L, hl, hden⟩ := hd
      have hg := getTableLineage_lookup cat t st1
      rw [hs.1, hs.2, hl] at hg
      obtain ⟨st2, hg1, hg2⟩ := hg
      obtain ⟨st3, e3, s3⟩ := anon_loop ts rs tl st2 (hs.trans hg2)
      exact ⟨st3, by simp [anonSources, hg1, e3, bind, Except.bind, pure, Except.pure, hden.tables], s3⟩

theorem ref_spec {cat : Cat} {st : St} {tn : List (String × StdTable)} {scope : Scope} (hres : Resolves cat st tn scope)
    (r : QCol) (st1 : St) (hs : Same st st1) : Agrees st (ref scope r) (analyzeQuoteColumn cat tn r st1) := by
  obtain ⟨t, n, ix⟩ := r
  rw [agrees_def]; unfold ref
  cases ix with
  | some k => cases t <;> cases n <;> simp
  | none =>
    cases n with
    | none =>
      cases t with
      | some t => simp
      | none =>
        obtain ⟨st2, e2, s2⟩ := anon_loop (cat := cat) _ _ (resolves_values hres) st1 hs
        refine ⟨st2, ?_, s2⟩
        simp only [analyzeQuoteColumn, e2, anonOf, List.flatMap_map]
    | some n =>
      by_cases hstar : n = "*"
      · subst hstar; cases t <;> simp
      · have hn : (n != "*") = true := by simpa using hstar
        have hn' : (n == "*") = false := by simpa using hstar
        rw [← agrees_def]
        cases t with
        | some t => simpa [hn'] using qualified_spec hres t n hn st1 hs
        | none => simpa [hn'] using unqualified_spec hres n hn st1 hs

theorem refs_spec {cat : Cat} {st : St} {tn : List (String × StdTable)} {scope : Scope} (hres : Resolves cat st tn scope) :
    ∀ (qs : List QCol) (st1 : St), Same st st1 → Agrees st (refs scope qs) (analyzeQuoteColumns cat tn qs st1)
  | [], st1, hs => .ok ⟨rfl, hs⟩
  | r :: rest, st1, hs =>
    (ref_spec hres r st1 hs).bind fun _ ⟨_, st2⟩ ⟨ea, s2⟩ =>
      (refs_spec hres rest st2 s2).bind fun _ ⟨_, st3⟩ ⟨eb, s3⟩ => .ok ⟨by rw [← ea, ← eb], s3⟩

theorem sourcesLoop_spec {cat : Cat} {st : St} {tn : List (String × StdTable)} {scope : Scope} (hres : Resolves cat st tn scope) :
    ∀ (cur : List (SCol × List QCol)) (st1 : St), Same st st1 → Agrees st (curFlow scope cur) (sourcesLoop cat tn [] cur st1)
  | [], st1, hs => .ok ⟨rfl, hs⟩
  | (c, qs) :: r, st1, hs => by
    rw [sourcesLoop, mapLateral_nil]
    exact (refs_spec hres qs st1 hs).bind fun _ ⟨_, st2⟩ ⟨ea, s2⟩ =>
      (sourcesLoop_spec hres r st2 s2).bind fun _ ⟨_, st3⟩ ⟨eb, s3⟩ => .ok ⟨by rw [← ea, ← eb], s3⟩

theorem curFlow_items (scope : Scope) : ∀ (its : List (Expr × Option String)) (idx : Nat),
    curFlow scope (Flow.curOf its idx) = (itemsGo scope its).map (fun R => C16.number R idx)
  | [], idx => by simp [curFlow, itemsGo, Flow.curOf, C16.number, Except.map]
  | it :: r, idx => by
    have ih := curFlow_items scope r (idx + 1)
    simp only [Flow.curOf, curFlow, itemsGo, bind, Except.bind]
    cases hr : refs scope (colsE it.1) with
    | error e => simp [Except.map]
    | ok a =>
      simp only [ih]
      cases hrest : itemsGo scope r with
      | error e => simp [Except.map]
      | ok b => simp [Except.map, C16.number, pure, Except.pure]

theorem items_named (scope : Scope) (its : List (Expr × Option String)) (h : items scope its ≠ .error .outside) :
    ∀ it ∈ its, (itemName it).isSome = true := by
  unfold items at h
  by_cases ha : its.all (fun it => (itemName it).isSome) = true
  · intro it hit
    exact List.all_eq_true.mp ha it hit
  · simp [ha] at h

/-- **one level**: output columns and sources as specified; the first unknown or ambiguous reference is the analysis error -/
theorem level_spec {cat : Cat} {st : St} {tn : List (String × StdTable)} {scope : Scope} (hres : Resolves cat st tn scope)
    (its : List (Expr × Option String)) (st1 : St) (hs : Same st st1) :
    Agrees st ((items scope its).map (fun R => C16.number R 1))
      (do let (cur, st2) ← currentLevelSingle cat tn its 1 st1; sourcesLoop cat tn [] cur st2) := by
  by_cases ha : its.all (fun it => (itemName it).isSome) = true
  · have hnamed : ∀ it ∈ its, (itemName it).isSome = true := fun it hit => List.all_eq_true.mp ha it hit
    unfold items
    rw [currentLevelSingle_named cat tn its 1 st1 hnamed, if_pos ha, ← curFlow_items scope its 1]
    simpa [bind, Except.bind] using sourcesLoop_spec hres (Flow.curOf its 1) st1 hs
  · simp [items, ha, Except.map, agrees_def]

end LineageL
