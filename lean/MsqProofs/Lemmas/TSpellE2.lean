import MsqProofs.Lemmas.TSpellE1
/-! Spelling-generalised T-parse, expression layer: the record `RT3 d sp e` (as `TQ.RT3`, for the spelled rendering) and the node lemmas
of the operator productions: bracket group, unary, comparison (`!=` / `<>`), NOT (`NOT` / `!`), AND (`AND` / `&&`), XOR, OR (`OR` / `||`),
the keyword predicates. -/
open Lex PM Ast SR TP TP2 TQ
namespace TSP
variable (d : Gen.D) (sp : Sp)

structure RT3 (e : Expr) : Prop where
  own : Tower2 d (PR.lvl e) (toksE3 d sp e) e
  wrapped : Tower2 d 2 [grp (toksE3 d sp e)] e
  head : TQ.Head2 d e (toksE3 d sp e)
  nocomma : TQ.NoComma (toksE3 d sp e)
  len : (toksE3 d sp e).length ≤ tl3 e

variable {d} {sp}
theorem RT3.at {e : Expr} (h : RT3 d sp e) (L : Nat) (hL : 2 ≤ L) : Tower2 d L (W3 d sp e L) e :=
  Tower2.at h.own h.wrapped _ L hL

theorem RT3.headW {e : Expr} (h : RT3 d sp e) (L : Nat) :
    ∃ t ts', W3 d sp e L = t :: ts' ∧ hdTok t = true ∧ ((lvlH e ≤ 10 ∨ L < PR.lvl e) → operandTok d t = true) :=
  TP2.headW h.head _ L
theorem RT3.headOKW {e : Expr} (h : RT3 d sp e) (L : Nat) (hl : lvlH e ≤ 10 ∨ L < PR.lvl e) : HeadOK d (W3 d sp e L) := by
  obtain ⟨t, ts', h1, _, h3⟩ := h.headW L
  exact ⟨t, ts', h1, h3 hl⟩

/-! ### the operator productions: those of MsqProofs/Lemmas/TCoreNodes.lean at the spelled tokens, in front of `stopLE2` -/
open TC (fullO_true contO_true)
theorem full2_unary (o : String) (x : Expr) (ho : unOK d o = true) (hx : Full2 d (P2 d) 2 0 (W3 d sp x 2) x) :
    Full2 d (P2 d) 2 0 (opTok (cval o) :: W3 d sp x 2) (.unary o x) := fullO_true.1 (TC.full2_unary o x ho (fullO_true.2 hx))
theorem cont10_compare (o : String) (l r : Expr) (tk : Tok) (ho : CmpTokOK d o tk)
    (hl : Cont2 d (P10 d) (fun f => pCompareLoop d f) 9 7 (W3 d sp l 10) l) (hr : Full2 d (P9 d) 9 6 (W3 d sp r 9) r) :
    Cont2 d (P10 d) (fun f => pCompareLoop d f) 9 7 (W3 d sp l 10 ++ tk :: W3 d sp r 9) (.compare o l r) :=
  contO_true.1 (TC.cont10_compare ⟨⟨ho.stop, ho.notOver, ho.size⟩, ho.found⟩ l r (contO_true.2 hl) (fullO_true.2 hr))
theorem full11_not (x : Expr) (b : Bool) (hb : b = true → d = .HIVE) (hx : Full2 d (P11 d) 11 9 (W3 d sp x 11) x) :
    Full2 d (P11 d) 11 9 (notTok b :: W3 d sp x 11) (.not_ x) :=
  fullO_true.1 (TC.full11_not (notTok_in b hb) (notTok_facts b).1 x (fullO_true.2 hx))
theorem cont12_and (l r : Expr) (b : Bool) (hl : Cont2 d (P12 d) (fun f => pAndLoop d f) 11 10 (W3 d sp l 12) l) (hr : Full2 d (P11 d) 11 9 (W3 d sp r 11) r) :
    Cont2 d (P12 d) (fun f => pAndLoop d f) 11 10 (W3 d sp l 12 ++ andTok b :: W3 d sp r 11) (.and_ l r) :=
  contO_true.1 (TC.cont12_and ⟨⟨(andTok_facts d b).1, (andTok_facts d b).2.1, (andTok_facts d b).2.2.1⟩, and_loop b⟩ l r (contO_true.2 hl)
    (fullO_true.2 hr))
theorem cont13_xor (l r : Expr) (hl : Cont2 d (P13 d) (fun f => pXorLoop d f) 12 12 (W3 d sp l 13) l) (hr : Full2 d (P12 d) 12 11 (W3 d sp r 12) r) :
    Cont2 d (P13 d) (fun f => pXorLoop d f) 12 12 (W3 d sp l 13 ++ opTok "XOR" :: W3 d sp r 12) (.xor l r) :=
  contO_true.1 (TC.cont13_xor l r (contO_true.2 hl) (fullO_true.2 hr))
theorem cont14_or (l r : Expr) (b : Bool) (hl : Cont2 d (P14 d) (fun f => pOrLoop d f) 13 14 (W3 d sp l 14) l) (hr : Full2 d (P13 d) 13 13 (W3 d sp r 13) r) :
    Cont2 d (P14 d) (fun f => pOrLoop d f) 13 14 (W3 d sp l 14 ++ orTok b :: W3 d sp r 13) (.or_ l r) :=
  contO_true.1 (TC.cont14_or ⟨⟨(orTok_facts d b).1, (orTok_facts d b).2.1, (orTok_facts d b).2.2.1⟩, or_loop b⟩ l r (contO_true.2 hl)
    (fullO_true.2 hr))
theorem cont9_kw (k : KwKind) (n0 : Bool) (l r : Expr) (hk : k ≠ .in_)
    (hl : Cont2 d (P9 d) (kwLoop d) 8 4 (W3 d sp l 9) l) (hr : Full2 d (P8 d) 8 2 (W3 d sp r 8) r) (hh : HeadOK d (W3 d sp r 8)) :
    Cont2 d (P9 d) (kwLoop d) 8 4 (W3 d sp l 9 ++ (kwToks k n0 ++ W3 d sp r 8)) (.kw k n0 l r) :=
  contO_true.1 (TC.cont9_kw k n0 l r hk (contO_true.2 hl) (fullO_true.2 hr) hh)
theorem cont9_between (n0 : Bool) (b fr to : Expr)
    (hb : Cont2 d (P9 d) (kwLoop d) 8 4 (W3 d sp b 9) b) (hf : Full2 d (P8 d) 8 2 (W3 d sp fr 8) fr) (ht : Full2 d (P8 d) 8 2 (W3 d sp to 8) to) :
    Cont2 d (P9 d) (kwLoop d) 8 4
      (W3 d sp b 9 ++ ((if n0 then [opTok "NOT"] else []) ++ opTok "BETWEEN" :: (W3 d sp fr 8 ++ opTok "AND" :: W3 d sp to 8))) (.between n0 b fr to) :=
  contO_true.1 (TC.cont9_between n0 b fr to (contO_true.2 hb) (fullO_true.2 hf) (fullO_true.2 ht))

theorem RT3.mk' {e : Expr} (own : Tower2 d (PR.lvl e) (toksE3 d sp e) e) (head : TQ.Head2 d e (toksE3 d sp e))
    (nc : TQ.NoComma (toksE3 d sp e)) (hl : (toksE3 d sp e).length ≤ tl3 e) : RT3 d sp e :=
  ⟨own, Tower2.of2 (fullO_true.1 (TC.full2_group e (fullO_true.2 own.s14)
    (by obtain ⟨t, ts', h1, h2, _⟩ := head; exact ⟨t, ts', h1, TQ.hd_start h2⟩)).ofFalse) (grp_headOK _), head, nc, hl⟩

theorem head_left {e l : Expr} (hl : RT3 d sp l) (L : Nat) (ys : List Tok) (hL : lvlH e ≤ 10 → lvlH l ≤ 10 ∨ L < PR.lvl l) :
    TQ.Head2 d e (W3 d sp l L ++ ys) := by
  obtain ⟨t, ts', h1, h2, h3⟩ := hl.headW L
  exact ⟨t, ts' ++ ys, by rw [h1]; rfl, h2, fun he => h3 (hL he)⟩

end TSP
