import MsqProofs.Lemmas.TSpell0
/-!
# Spelling-generalised T-parse: with the printer's own spellings the spelled printers ARE the printers of the nested development (C09)

`TSP.toksQ d (plainCh ch) q = TQ.toksQ d ch q` and the same for each of the 22 mutually recursive printer functions — one mutual block of
structurally recursive theorems mirroring the mutual block of the printers.  Consequence (Props/C09S.lean): `C03.tquery_ch` is the instance
`sp = plainCh ch` of `C09.tquery_spellings`, and every admissible spelling parses like the printer's own output.
-/
open Lex PM Ast TP TS TQ
namespace TSP
theorem cmpTok_false (o : String) : cmpTok false o = opTok (cmpVal o) := by simp [cmpTok]
theorem cvalSp_false (o : String) : cvalSp false o = cval o := by simp [cvalSp]
theorem andTok_false : andTok false = opTok "AND" := rfl
theorem orTok_false : orTok false = opTok "OR" := rfl
theorem notTok_false : notTok false = opTok "NOT" := rfl
theorem aliasToksB_false (a : Option String) : aliasToksB false a = aliasToks a := by cases a <;> rfl
theorem ascToks_false (desc : Bool) : ascToks false desc = if desc then [opTok "DESC"] else [] := by cases desc <;> rfl
theorem toksLimitS_plainCh (ch : Expr → Bool) (lm : Option (Int × Option Int)) : toksLimitS (plainCh ch) lm = toksLimit lm := by
  cases lm with
  | none => rfl
  | some p => obtain ⟨n, o⟩ := p; cases o <;> simp [toksLimitS, toksLimit]
variable (d : Gen.D) (ch : Expr → Bool)
mutual
theorem plainE : ∀ e : Expr, toksE3 d (plainCh ch) e = TQ.toksE3 d ch e
  | .column t c => by cases t <;> simp only [toksE3, TQ.toksE3]
  | .literal v => by simp only [toksE3, TQ.toksE3]
  | .wildcard t => by cases t <;> simp only [toksE3, TQ.toksE3]
  | .func s n ps => by cases s <;> simp only [toksE3, TQ.toksE3, plainArgs 14 ps]
  | .agg n ps dist => by simp only [toksE3, TQ.toksE3, plainArgs 14 ps]
  | .caseCond cs els => by simp only [toksE3, TQ.toksE3, plainArms cs, plainElse els]
  | .caseVal v cs els => by simp only [toksE3, TQ.toksE3, plainE v, plainArms cs, plainElse els, plainCh_ch]
  | .subValue vs => by simp only [toksE3, TQ.toksE3, plainArgs 8 vs]
  | .subQuery q => by simp only [toksE3, TQ.toksE3, plainQ q]
  | .exists_ v => by simp only [toksE3, TQ.toksE3, plainE v]
  | .unary o e => by simp only [toksE3, TQ.toksE3, plainE e, plainCh_ch]
  | .compute l o r => by simp only [toksE3, TQ.toksE3, plainE l, plainE r, plainCh_ch, plainCh_word, cvalSp_false]
  | .kw kk n l r => by simp only [toksE3, TQ.toksE3, plainE l, plainE r, plainCh_ch]
  | .between n b f t => by simp only [toksE3, TQ.toksE3, plainE b, plainE f, plainE t, plainCh_ch]
  | .compare o l r => by simp only [toksE3, TQ.toksE3, plainE l, plainE r, plainCh_ch, plainCh_ne, cmpTok_false]
  | .not_ e => by simp only [toksE3, TQ.toksE3, plainE e, plainCh_ch, plainCh_bang, notTok_false]
  | .and_ l r => by simp only [toksE3, TQ.toksE3, plainE l, plainE r, plainCh_ch, plainCh_amp, andTok_false]
  | .xor l r => by simp only [toksE3, TQ.toksE3, plainE l, plainE r, plainCh_ch]
  | .or_ l r => by simp only [toksE3, TQ.toksE3, plainE l, plainE r, plainCh_ch, plainCh_bar, orTok_false]
  | .cast .. => by simp only [toksE3, TQ.toksE3]
  | .extract .. => by simp only [toksE3, TQ.toksE3]
  | .window .. => by simp only [toksE3, TQ.toksE3]
  | .index .. => by simp only [toksE3, TQ.toksE3]
  | .mybatis .. => by simp only [toksE3, TQ.toksE3]
theorem plainArgs (k : Nat) : ∀ ps : List Expr, toksArgs3 d (plainCh ch) k ps = TQ.toksArgs3 d ch k ps
  | [] => by simp only [toksArgs3, TQ.toksArgs3]
  | a :: as => by simp only [toksArgs3, TQ.toksArgs3, plainE a, plainArgsTail k as, plainCh_ch]
theorem plainArgsTail (k : Nat) : ∀ ps : List Expr, toksArgsTail3 d (plainCh ch) k ps = TQ.toksArgsTail3 d ch k ps
  | [] => by simp only [toksArgsTail3, TQ.toksArgsTail3]
  | a :: as => by simp only [toksArgsTail3, TQ.toksArgsTail3, plainE a, plainArgsTail k as, plainCh_ch]
theorem plainArms : ∀ cs : List (Expr × Expr), toksArms3 d (plainCh ch) cs = TQ.toksArms3 d ch cs
  | [] => by simp only [toksArms3, TQ.toksArms3]
  | (w, t) :: r => by simp only [toksArms3, TQ.toksArms3, plainE w, plainE t, plainArms r, plainCh_ch]
theorem plainElse : ∀ els : Option Expr, toksElse3 d (plainCh ch) els = TQ.toksElse3 d ch els
  | none => by simp only [toksElse3, TQ.toksElse3]
  | some y => by simp only [toksElse3, TQ.toksElse3, plainE y, plainCh_ch]
theorem plainQ : ∀ q : Query, toksQ d (plainCh ch) q = TQ.toksQ d ch q
  | .single s => by simp only [toksQ, TQ.toksQ, plainS s]
  | .union w s us => by simp only [toksQ, TQ.toksQ, plainS s, plainUn us]
theorem plainUn : ∀ us : List (String × Select), toksUn d (plainCh ch) us = TQ.toksUn d ch us
  | [] => by simp only [toksUn, TQ.toksUn]
  | (t, s) :: r => by simp only [toksUn, TQ.toksUn, plainS s, plainUn r]
theorem plainS : ∀ s : Select, toksS3 d (plainCh ch) s = TQ.toksS3 d ch s
  | .mk w dist cols fr lats js wh gb hv ob sb db cb lm => by
      simp only [toksS3, TQ.toksS3, plainCols cols, plainFrom fr, plainJoins js, plainOptE "WHERE" wh, plainGroup gb, plainOptE "HAVING" hv,
        plainOrder ob, toksLimitS_plainCh]
theorem plainCols : ∀ cs : List (Expr × Option String), toksCols3 d (plainCh ch) cs = TQ.toksCols3 d ch cs
  | [] => by simp only [toksCols3, TQ.toksCols3]
  | (e, a) :: cs => by simp only [toksCols3, TQ.toksCols3, plainE e, plainColsTail cs, plainCh_bareC, aliasToksB_false]
theorem plainColsTail : ∀ cs : List (Expr × Option String), toksColsTail3 d (plainCh ch) cs = TQ.toksColsTail3 d ch cs
  | [] => by simp only [toksColsTail3, TQ.toksColsTail3]
  | (e, a) :: cs => by simp only [toksColsTail3, TQ.toksColsTail3, plainE e, plainColsTail cs, plainCh_bareC, aliasToksB_false]
theorem plainRef : ∀ r : TableRef, toksRef3 d (plainCh ch) r = TQ.toksRef3 d ch r
  | .table s n => by simp only [toksRef3, TQ.toksRef3]
  | .sub q => by simp only [toksRef3, TQ.toksRef3, plainQ q]
theorem plainTable : ∀ t : FromTable, toksTable3 d (plainCh ch) t = TQ.toksTable3 d ch t
  | .mk r a => by simp only [toksTable3, TQ.toksTable3, plainRef r, plainCh_bareT, aliasToksB_false]
theorem plainTablesTail : ∀ ts : List FromTable, toksTablesTail3 d (plainCh ch) ts = TQ.toksTablesTail3 d ch ts
  | [] => by simp only [toksTablesTail3, TQ.toksTablesTail3]
  | t :: ts => by simp only [toksTablesTail3, TQ.toksTablesTail3, plainTable t, plainTablesTail ts]
theorem plainFrom : ∀ fr : Option (List FromTable), toksFrom3 d (plainCh ch) fr = TQ.toksFrom3 d ch fr
  | none => by simp only [toksFrom3, TQ.toksFrom3]
  | some [] => by simp only [toksFrom3, TQ.toksFrom3]
  | some (t :: ts) => by simp only [toksFrom3, TQ.toksFrom3, plainTable t, plainTablesTail ts]
theorem plainRule : ∀ r : Option JoinRule, toksRule3 d (plainCh ch) r = TQ.toksRule3 d ch r
  | none => by simp only [toksRule3, TQ.toksRule3]
  | some (.on e) => by simp only [toksRule3, TQ.toksRule3, plainE e]
  | some (.using u) => by simp only [toksRule3, TQ.toksRule3]
theorem plainJoin : ∀ j : Join, toksJoin3 d (plainCh ch) j = TQ.toksJoin3 d ch j
  | .mk ty t rule => by simp only [toksJoin3, TQ.toksJoin3, plainTable t, plainRule rule]
theorem plainJoins : ∀ js : List Join, toksJoins3 d (plainCh ch) js = TQ.toksJoins3 d ch js
  | [] => by simp only [toksJoins3, TQ.toksJoins3]
  | j :: js => by simp only [toksJoins3, TQ.toksJoins3, plainJoin j, plainJoins js]
theorem plainOptE (kw : String) : ∀ o : Option Expr, toksOptE3 d (plainCh ch) kw o = TQ.toksOptE3 d ch kw o
  | none => by simp only [toksOptE3, TQ.toksOptE3]
  | some e => by simp only [toksOptE3, TQ.toksOptE3, plainE e]
theorem plainGroup : ∀ gb : Option GroupBy, toksGroup3 d (plainCh ch) gb = TQ.toksGroup3 d ch gb
  | none => by simp only [toksGroup3, TQ.toksGroup3]
  | some (.mk [] _ _ _) => by simp only [toksGroup3, TQ.toksGroup3]
  | some (.mk (e :: es) _ _ _) => by simp only [toksGroup3, TQ.toksGroup3, plainE e, plainArgsTail 8 es, plainCh_ch]
theorem plainOrdItem : ∀ o : OrderItem, toksOrdItem3 d (plainCh ch) o = TQ.toksOrdItem3 d ch o
  | .mk e desc nf nl => by simp only [toksOrdItem3, TQ.toksOrdItem3, plainE e, plainCh_ch, plainCh_asc, ascToks_false]
theorem plainOrdTail : ∀ os : List OrderItem, toksOrdTail3 d (plainCh ch) os = TQ.toksOrdTail3 d ch os
  | [] => by simp only [toksOrdTail3, TQ.toksOrdTail3]
  | o :: os => by simp only [toksOrdTail3, TQ.toksOrdTail3, plainOrdItem o, plainOrdTail os]
theorem plainOrder : ∀ ob : Option (List OrderItem), toksOrder3 d (plainCh ch) ob = TQ.toksOrder3 d ch ob
  | none => by simp only [toksOrder3, TQ.toksOrder3]
  | some [] => by simp only [toksOrder3, TQ.toksOrder3]
  | some (o :: os) => by simp only [toksOrder3, TQ.toksOrder3, plainOrdItem o, plainOrdTail os]
end
end TSP
