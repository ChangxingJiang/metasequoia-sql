import MsqProofs.Lemmas.TQuery3P
/-!
# T-parse for data-change statements: base definitions (C03 / C01 / C08)

The definitions of Lemmas/TDml0.lean over the query development `TQ3` (Lemmas/TQuery3*.lean); `TDM2.FragStmt ⊆ TDM3.FragStmt`: Lemmas/TDmlRI.lean.

* `toksStmtG d ch tb s` — the token-level printer of a statement (`PR.prStmt` as tokens): DELETE, UPDATE, INSERT … VALUES, INSERT … query,
  SELECT, each with an optional leading `WITH name AS (q), …`.  `ch` chooses redundant brackets inside expressions (`noX`: none), `tb` says
  whether the word `TABLE` follows the INSERT words (the printer writes it for HIVE only; the parser accepts it everywhere).
  `toksStmt d s` = `toksStmtG d noX (d == .HIVE) s` is the printer's own choice.
* `FragStmt d s` — the fragment (a `Bool`): expressions of `TQ3.FragE5`, queries of `TQ3.FragQ3`.
* `stopsStmt d rest` — what may follow a statement: nothing that continues an expression, a clause, a set operation, a VALUES list
  (`= TQ.stopsQ`; `;` and the end of the token list satisfy it).
-/
open Lex PM Ast TP TS
open TP2 (qTok fnOK nmOK nm2OK isOkNoneS fnNameOK aggOK dotTok starTok)
open TQ (tblTok unionWords lvlH isExists isOkPair tblOK)
open TQ3
namespace TDM3

/-- the statement separator as the lexer emits it -/
def semiTok : Tok := Tok.single [';'] 0
def insertWords (ty : String) : List Tok :=
  match Gen.insertTypes.find? (·.1 == ty) with | some e => e.2.map opTok | none => []

/-- comma-joined token lists -/
def joinC : List (List Tok) → List Tok
  | [] => []
  | [s] => s
  | s :: r => s ++ TS.commaTok :: joinC r

/-! ### the printers of the parts -/
/-- ` WHERE … ORDER BY … LIMIT …` (`PR.prTail`) -/
def toksTail (d : Gen.D) (ch : Expr → Bool) (wh : Option Expr) (ob : Option (List OrderItem)) (lm : Option (Int × Option Int)) : List Tok :=
  toksOptE4 d ch "WHERE" wh ++ (toksOrder4 d ch ob ++ toksLimit lm)
/-- `` `c` = e `` -/
def toksSet (d : Gen.D) (ch : Expr → Bool) (p : String × Expr) : List Tok := nameTok p.1 :: opTok "=" :: toksE5 d ch p.2
def toksSetsTail (d : Gen.D) (ch : Expr → Bool) : List (String × Expr) → List Tok
  | [] => []
  | p :: r => TS.commaTok :: (toksSet d ch p ++ toksSetsTail d ch r)
def toksSets (d : Gen.D) (ch : Expr → Bool) : List (String × Expr) → List Tok
  | [] => []
  | p :: r => toksSet d ch p ++ toksSetsTail d ch r
/-- `name AS (q)` -/
def toksWith (d : Gen.D) (ch : Expr → Bool) : WithTable → List Tok
  | .mk n q => [qTok n, opTok "AS", grp (toksQ3 d ch q)]
def toksWithsTail (d : Gen.D) (ch : Expr → Bool) : List WithTable → List Tok
  | [] => []
  | w :: r => TS.commaTok :: (toksWith d ch w ++ toksWithsTail d ch r)
/-- `PR.prWithPrefix`: nothing for an empty clause -/
def toksWiths (d : Gen.D) (ch : Expr → Bool) : Option (List WithTable) → List Tok
  | some (w :: r) => opTok "WITH" :: (toksWith d ch w ++ toksWithsTail d ch r)
  | _ => []
/-- `PARTITION (item, …)` (`PR.prPartition`: every item printed by `prE`, no brackets added) -/
def toksPart (d : Gen.D) (ch : Expr → Bool) : Option (List Expr) → List Tok
  | none => []
  | some es => [opTok "PARTITION", grp (joinC (es.map (toksE5 d ch)))]
/-- one column of the explicit column list (`PR.columnSrc`) -/
def toksColName (c : Option String × String) : List Tok :=
  match c.1 with | none => [nameTok c.2] | some t => [nameTok t, dotTok, nameTok c.2]
def toksColNames : Option (List (Option String × String)) → List Tok
  | none => []
  | some cs => [grp (joinC (cs.map toksColName))]
/-- one row of VALUES: `ASTSubValueExpression.source` (`node.py:744`) brackets every value above the compute level -/
def toksRow (d : Gen.D) (ch : Expr → Bool) (vs : List Expr) : Tok := grp (joinC (vs.map (fun e => W4 d ch e 8)))
def toksRowsTail (d : Gen.D) (ch : Expr → Bool) : List (List Expr) → List Tok
  | [] => []
  | r :: rs => TS.commaTok :: toksRow d ch r :: toksRowsTail d ch rs
def toksRows (d : Gen.D) (ch : Expr → Bool) : List (List Expr) → List Tok
  | [] => []
  | r :: rs => toksRow d ch r :: toksRowsTail d ch rs
/-- `ASTInsertStatement._insert_str` without the WITH prefix -/
def toksTarget (d : Gen.D) (ch : Expr → Bool) (tb : Bool) (h : InsertHead) : List Tok :=
  insertWords h.type ++ ((if tb then [opTok "TABLE"] else []) ++ (tblTok h.table.schema h.table.name :: (toksPart d ch h.partition ++ toksColNames h.columns)))

/-- the WITH slot of a query -/
def withsOf : Query → Option (List WithTable)
  | .single (.mk w _ _ _ _ _ _ _ _ _ _ _ _ _) => w
  | .union w _ _ => w
/-- put a WITH clause on a SELECT / on a query (where `_parse_select_statement` records it) -/
def setW (ws : List WithTable) : Select → Select
  | .mk _ dist cols fr lats js wh gb hv ob sb db cb lm => .mk (some ws) dist cols fr lats js wh gb hv ob sb db cb lm
def setQW (ws : List WithTable) : Query → Query
  | .single s => .single (setW ws s)
  | .union _ s us => .union (some ws) s us
/-- the query without its WITH clause -/
def stripW (q : Query) : Query := setQW [] q

/-- **the token-level printer of a statement** -/
def toksStmtG (d : Gen.D) (ch : Expr → Bool) (tb : Bool) : Stmt → List Tok
  | .select q => toksWiths d ch (withsOf q) ++ toksQ3 d ch q
  | .insertValues h vs => toksWiths d ch h.withs ++ (toksTarget d ch tb h ++ opTok "VALUES" :: toksRows d ch vs)
  | .insertSelect h q => toksWiths d ch h.withs ++ (toksTarget d ch tb h ++ toksQ3 d ch q)
  | .update ws t sets wh ob lm =>
      toksWiths d ch ws ++ opTok "UPDATE" :: tblTok t.schema t.name :: opTok "SET" :: (toksSets d ch sets ++ toksTail d ch wh ob lm)
  | .delete t wh ob lm => opTok "DELETE" :: opTok "FROM" :: tblTok t.schema t.name :: toksTail d ch wh ob lm
  | _ => []
/-- the printer's own choices: no redundant brackets, `TABLE` for HIVE -/
def toksStmt (d : Gen.D) (s : Stmt) : List Tok := toksStmtG d noX (d == .HIVE) s

/-! ### the fragment -/
/-- a statement's target table: `tblOK`, and its token is not taken for the optional word `TABLE` -/
def tblOKD (t : TableName) : Bool := tblOK t.schema t.name && !(tblTok t.schema t.name).srcEqUp "TABLE"
/-- a WITH table: the (bare or back-quoted) name token reads back as the name, the body is a fragment query -/
def withOK (d : Gen.D) : WithTable → Bool
  | .mk n q => unifyName (qTok n).src == n && FragQ3 d q
def withsOK (d : Gen.D) : Option (List WithTable) → Bool
  | some ws => ws.all (withOK d)
  | none => false
/-- an assignment: the back-quoted column token reads back as the name -/
def setOK (d : Gen.D) (p : String × Expr) : Bool := unifyName (nameTok p.1).src == p.1 && FragE5 d p.2
/-- a static partition item `k = v` (key and value below the comparison level, as the partition parser reads them) -/
def staticOK (d : Gen.D) : Expr → Bool
  | .compare o l r => cmpOK d o && FragE5 d l && FragE5 d r && decide (PR.lvl l ≤ 8) && decide (PR.lvl r ≠ 9) &&
      (Gen.compareSet.contains (opTok (cmpVal o)).src)
  | _ => false
/-- a dynamic partition item: one expression below the comparison level -/
def dynOK (d : Gen.D) (e : Expr) : Bool := FragE5 d e && decide (PR.lvl e ≤ 8)
/-- the parser refuses a list that mixes static and dynamic items (`parser.py:1600`) -/
def partOK (d : Gen.D) : Option (List Expr) → Bool
  | none => true
  | some es => es.all (staticOK d) || es.all (dynOK d)
def colNameOK (c : Option String × String) : Bool :=
  nm2OK (nameTok c.2) c.2 && (match c.1 with | none => true | some t => nm2OK (nameTok t) t) &&
    !(["*", "CURRENT_DATE", "CURRENT_TIME", "CURRENT_TIMESTAMP"].contains c.2)
def colNamesOK : Option (List (Option String × String)) → Bool
  | none => true
  | some cs => cs.all colNameOK
def insertTyOK (ty : String) : Bool := ["INSERT_INTO", "INSERT_IGNORE_INTO", "INSERT_OVERWRITE"].contains ty
def headOK (d : Gen.D) (h : InsertHead) : Bool :=
  withsOK d h.withs && insertTyOK h.type && tblOKD h.table && partOK d h.partition && colNamesOK h.columns
def FragStmt (d : Gen.D) : Stmt → Bool
  | .select q => withsOK d (withsOf q) && FragQ3 d (stripW q)
  | .insertValues h vs => headOK d h && vs.all (FragL4 d)
  | .insertSelect h q => headOK d h && FragQ3 d q
  | .update ws t sets wh ob lm => withsOK d ws && tblOKD t && !sets.isEmpty && sets.all (setOK d) && FragO4 d wh && orderOK4 d ob && limitOK lm
  | .delete t wh ob lm => tblOKD t && FragO4 d wh && orderOK4 d ob && limitOK lm
  | _ => false

/-- what may follow a statement -/
def stopsStmt (d : Gen.D) (rest : List Tok) : Bool := stopsQ3 d rest

end TDM3
