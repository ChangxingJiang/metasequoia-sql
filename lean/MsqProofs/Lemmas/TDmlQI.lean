import MsqProofs.Lemmas.TDmlQ4
import MsqProofs.Lemmas.TDml3
import MsqProofs.Lemmas.TQuery2I
/-!
# The data-change fragment over `FragQ` is contained in the one over `FragQ2`, with equal renderings (C03 / C01)

`TDM.FragStmt d s → TDM2.FragStmt d s ∧ TDM2.toksStmtG d ch tb s = TDM.toksStmtG d ch tb s` (any choice of redundant brackets, `TABLE`
written or not) — from `TQ2.inc_all` (Lemmas/TQuery2I.lean: `FragE3 ⊆ FragE4`, `FragQ ⊆ FragQ2` with equal renderings), part by part.
Hence `C03.tstatement` (Props/C03D.lean) is `TDM.stmt_ok` below: `TDM3.stmt_ok` (Lemmas/TDmlR4.lean) at the same tree, through this inclusion and
`TDM3.fragStmt2_sub` (Lemmas/TDmlRI.lean).
-/
open Lex PM Ast TP TS
namespace TDM2
variable {d : Gen.D} {ch : Expr → Bool}

theorem incE (e : Expr) (h : TQ.FragE3 d e = true) : TQ2.Inc d ch e := ((TQ2.inc_all d ch (TQ.szE3 e)).1 e (Nat.le_refl _) h).1
theorem incQ (q : Query) (h : TQ.FragQ d q = true) : TQ2.IncQ d ch q := ((TQ2.inc_all d ch (TQ.szQ q)).2 q (Nat.le_refl _) h).1
theorem incW (e : Expr) (h : TQ.FragE3 d e = true) (k : Nat) : TQ2.W4 d ch e k = TQ.W3 d ch e k := by
  simp only [TQ2.W4, TQ.W3, (incE (ch := ch) e h).2.1]
theorem incOptE (kw : String) (o : Option Expr) (h : TQ.FragO3 d o = true) :
    TQ2.FragO4 d o = true ∧ TQ2.toksOptE4 d ch kw o = TQ.toksOptE3 d ch kw o :=
  TQ2.incOpt (TQ.szO3 o) (fun e _ he => incE e he) kw o (Nat.le_refl _) h
theorem incOrderBy (ob : Option (List OrderItem)) (h : TQ.orderOK3 d ob = true) :
    TQ2.orderOK4 d ob = true ∧ TQ2.toksOrder4 d ch ob = TQ.toksOrder3 d ch ob :=
  TQ2.incOrder (TQ.szOrder ob) (fun e _ he => incE e he) ob (Nat.le_refl _) h

theorem incTail (wh : Option Expr) (ob : Option (List OrderItem)) (lm : Option (Int × Option Int)) (h1 : TQ.FragO3 d wh = true)
    (h2 : TQ.orderOK3 d ob = true) : toksTail d ch wh ob lm = TDM.toksTail d ch wh ob lm := by
  simp only [toksTail, TDM.toksTail, (incOptE (ch := ch) "WHERE" wh h1).2, (incOrderBy (ch := ch) ob h2).2]

/-! ### the token helpers of the two namespaces are the same functions -/
theorem joinC_eq : ∀ (l : List (List Tok)), joinC l = TDM.joinC l
  | [] => rfl
  | [s] => rfl
  | s :: t :: r => by simp only [joinC, TDM.joinC, joinC_eq (t :: r)]
theorem toksColNames_eq (cs : Option (List (Option String × String))) : toksColNames cs = TDM.toksColNames cs := by
  cases cs with
  | none => rfl
  | some l =>
    have : l.map toksColName = l.map TDM.toksColName := List.map_congr_left fun c _ => rfl
    simp only [toksColNames, TDM.toksColNames, joinC_eq, this]
theorem insertWords_eq2 (ty : String) : insertWords ty = TDM.insertWords ty := rfl

theorem incWith (w : WithTable) (h : TDM.withOK d w = true) : withOK d w = true ∧ toksWith d ch w = TDM.toksWith d ch w := by
  obtain ⟨n, q⟩ := w
  simp only [TDM.withOK, Bool.and_eq_true] at h
  obtain ⟨q1, q2⟩ := incQ (ch := ch) q h.2
  exact ⟨by simp only [withOK, h.1, q1, Bool.and_self], by simp only [toksWith, TDM.toksWith, q2]⟩
theorem incWithsTail : ∀ (ws : List WithTable), ws.all (TDM.withOK d) = true →
    ws.all (withOK d) = true ∧ toksWithsTail d ch ws = TDM.toksWithsTail d ch ws := by
  intro ws
  induction ws with
  | nil => intro _; exact ⟨rfl, rfl⟩
  | cons w r ih =>
    intro h
    simp only [List.all_cons, Bool.and_eq_true] at h
    obtain ⟨a1, a2⟩ := incWith (ch := ch) w h.1
    obtain ⟨b1, b2⟩ := ih h.2
    exact ⟨by simp only [List.all_cons, a1, b1, Bool.and_self], by simp only [toksWithsTail, TDM.toksWithsTail, a2, b2]⟩
theorem incWiths (ws : Option (List WithTable)) (h : TDM.withsOK d ws = true) :
    withsOK d ws = true ∧ toksWiths d ch ws = TDM.toksWiths d ch ws := by
  cases ws with
  | none => simp [TDM.withsOK] at h
  | some l =>
    simp only [TDM.withsOK] at h
    obtain ⟨a1, a2⟩ := incWithsTail (ch := ch) l h
    refine ⟨by simpa only [withsOK] using a1, ?_⟩
    cases l with
    | nil => rfl
    | cons w r =>
      simp only [List.all_cons, Bool.and_eq_true] at h
      simp only [toksWiths, TDM.toksWiths, (incWith (ch := ch) w h.1).2, (incWithsTail (ch := ch) r h.2).2]

theorem incSets : ∀ (ss : List (String × Expr)), ss.all (TDM.setOK d) = true →
    ss.all (setOK d) = true ∧ toksSetsTail d ch ss = TDM.toksSetsTail d ch ss ∧ toksSets d ch ss = TDM.toksSets d ch ss := by
  intro ss
  induction ss with
  | nil => intro _; exact ⟨rfl, rfl, rfl⟩
  | cons p r ih =>
    intro h
    simp only [List.all_cons, Bool.and_eq_true] at h
    obtain ⟨b1, b2, _⟩ := ih h.2
    have hp := h.1
    simp only [TDM.setOK, Bool.and_eq_true] at hp
    obtain ⟨e1, e2, _⟩ := incE (ch := ch) p.2 hp.2
    have a1 : setOK d p = true := by simp only [setOK, hp.1, e1, Bool.and_self]
    have a2 : toksSet d ch p = TDM.toksSet d ch p := by simp only [toksSet, TDM.toksSet, e2]
    exact ⟨by simp only [List.all_cons, a1, b1, Bool.and_self], by simp only [toksSetsTail, TDM.toksSetsTail, a2, b2],
      by simp only [toksSets, TDM.toksSets, a2, b2]⟩
theorem incRow (vs : List Expr) (h : TQ.FragL3 d vs = true) : TQ2.FragL4 d vs = true ∧ toksRow d ch vs = TDM.toksRow d ch vs := by
  have hm := TQ2.frag2L_sz vs h
  have hI : ∀ a ∈ vs, TQ2.Inc d ch a := fun a ha => incE a (hm a ha).1
  refine ⟨(TQ2.incL vs hI).1, ?_⟩
  have : vs.map (fun e => TQ2.W4 d ch e 8) = vs.map (fun e => TQ.W3 d ch e 8) :=
    List.map_congr_left fun a ha => incW a (hm a ha).1 8
  simp only [toksRow, TDM.toksRow, this, joinC_eq]
theorem incRows : ∀ (rs : List (List Expr)), rs.all (TQ.FragL3 d) = true →
    rs.all (TQ2.FragL4 d) = true ∧ toksRowsTail d ch rs = TDM.toksRowsTail d ch rs ∧ toksRows d ch rs = TDM.toksRows d ch rs := by
  intro rs
  induction rs with
  | nil => intro _; exact ⟨rfl, rfl, rfl⟩
  | cons r rs ih =>
    intro h
    simp only [List.all_cons, Bool.and_eq_true] at h
    obtain ⟨a1, a2⟩ := incRow (ch := ch) r h.1
    obtain ⟨b1, b2, _⟩ := ih h.2
    exact ⟨by simp only [List.all_cons, a1, b1, Bool.and_self], by simp only [toksRowsTail, TDM.toksRowsTail, a2, b2],
      by simp only [toksRows, TDM.toksRows, a2, b2]⟩
theorem incStatic (e : Expr) (h : TDM.staticOK d e = true) : staticOK d e = true := by
  cases e with
  | compare o l r =>
    simp only [TDM.staticOK, Bool.and_eq_true] at h
    obtain ⟨⟨⟨⟨⟨h1, h2⟩, h3⟩, h4⟩, h5⟩, h6⟩ := h
    simp only [staticOK, h1, (incE (ch := noX) l h2).1, (incE (ch := noX) r h3).1, h4, h5, h6, Bool.and_self]
  | _ => simp [TDM.staticOK] at h
theorem incDyn (e : Expr) (h : TDM.dynOK d e = true) : dynOK d e = true := by
  simp only [TDM.dynOK, Bool.and_eq_true] at h
  simp only [dynOK, (incE (ch := noX) e h.1).1, h.2, Bool.and_self]
theorem incItemToks (e : Expr) (h : TDM.staticOK d e = true ∨ TDM.dynOK d e = true) : TQ2.toksE4 d ch e = TQ.toksE3 d ch e := by
  rcases h with h | h
  · cases e with
    | compare o l r =>
      simp only [TDM.staticOK, Bool.and_eq_true] at h
      obtain ⟨⟨⟨⟨⟨h1, h2⟩, h3⟩, _⟩, _⟩, _⟩ := h
      simp only [TQ2.toksE4, TQ.toksE3, (incE (ch := ch) l h2).2.1, (incE (ch := ch) r h3).2.1]
    | _ => simp [TDM.staticOK] at h
  · simp only [TDM.dynOK, Bool.and_eq_true] at h; exact (incE e h.1).2.1
theorem incPart (p : Option (List Expr)) (h : TDM.partOK d p = true) : partOK d p = true ∧ toksPart d ch p = TDM.toksPart d ch p := by
  cases p with
  | none => exact ⟨rfl, rfl⟩
  | some es =>
    simp only [TDM.partOK, Bool.or_eq_true, List.all_eq_true] at h
    have hm : es.map (TQ2.toksE4 d ch) = es.map (TQ.toksE3 d ch) := List.map_congr_left fun e he => by
      rcases h with h | h
      · exact incItemToks e (Or.inl (h e he))
      · exact incItemToks e (Or.inr (h e he))
    refine ⟨?_, by simp only [toksPart, TDM.toksPart, hm, joinC_eq]⟩
    simp only [partOK, Bool.or_eq_true, List.all_eq_true]
    rcases h with h | h
    · exact Or.inl fun e he => incStatic e (h e he)
    · exact Or.inr fun e he => incDyn e (h e he)
theorem incHead (tb : Bool) (h : InsertHead) (hh : TDM.headOK d h = true) :
    headOK d h = true ∧ toksWiths d ch h.withs = TDM.toksWiths d ch h.withs ∧ toksTarget d ch tb h = TDM.toksTarget d ch tb h := by
  simp only [TDM.headOK, Bool.and_eq_true] at hh
  obtain ⟨⟨⟨⟨h1, h2⟩, h3⟩, h4⟩, h5⟩ := hh
  obtain ⟨w1, w2⟩ := incWiths (ch := ch) h.withs h1
  obtain ⟨p1, p2⟩ := incPart (ch := ch) h.partition h4
  refine ⟨?_, w2, ?_⟩
  · have c2 : insertTyOK h.type = true := h2
    have c3 : tblOKD h.table = true := h3
    have c5 : colNamesOK h.columns = true := by
      have : ∀ cs, colNamesOK cs = TDM.colNamesOK cs := fun cs => by cases cs <;> rfl
      rw [this]; exact h5
    simp only [headOK, w1, p1, c2, c3, c5, Bool.and_self]
  · simp only [toksTarget, TDM.toksTarget, p2, toksColNames_eq, insertWords_eq2]

/-- **`TDM.FragStmt ⊆ TDM2.FragStmt` with equal renderings** -/
theorem fragStmt_sub (d : Gen.D) (ch : Expr → Bool) (tb : Bool) (s : Stmt) (hs : TDM.FragStmt d s = true) :
    FragStmt d s = true ∧ toksStmtG d ch tb s = TDM.toksStmtG d ch tb s := by
  cases s with
  | select q =>
    simp only [TDM.FragStmt, Bool.and_eq_true] at hs
    obtain ⟨w1, w2⟩ := incWiths (ch := ch) _ hs.1
    obtain ⟨q1, q2⟩ := incQ (ch := ch) _ hs.2
    have e1 : TDM.withsOf q = withsOf q := by cases q with | single s => cases s; rfl | union _ _ _ => rfl
    have e2 : TDM.stripW q = stripW q := by cases q with | single s => cases s; rfl | union _ _ _ => rfl
    rw [e1] at w1 w2; rw [e2] at q1 q2
    refine ⟨by simp only [FragStmt, w1, q1, Bool.and_self], ?_⟩
    have t1 := toksQ_stripW (d := d) (ch := ch) q
    have t2 := TDM.toksQ_stripW (d := d) (ch := ch) q
    rw [e2] at t2
    simp only [toksStmtG, TDM.toksStmtG, e1, w2, ← t1, ← t2, q2]
  | insertValues h vs =>
    simp only [TDM.FragStmt, Bool.and_eq_true] at hs
    obtain ⟨a1, a2, a3⟩ := incHead (ch := ch) tb h hs.1
    obtain ⟨b1, _, b3⟩ := incRows (ch := ch) vs hs.2
    exact ⟨by simp only [FragStmt, a1, b1, Bool.and_self], by simp only [toksStmtG, TDM.toksStmtG, a2, a3, b3]⟩
  | insertSelect h q =>
    simp only [TDM.FragStmt, Bool.and_eq_true] at hs
    obtain ⟨a1, a2, a3⟩ := incHead (ch := ch) tb h hs.1
    obtain ⟨q1, q2⟩ := incQ (ch := ch) q hs.2
    exact ⟨by simp only [FragStmt, a1, q1, Bool.and_self], by simp only [toksStmtG, TDM.toksStmtG, a2, a3, q2]⟩
  | update ws t sets wh ob lm =>
    simp only [TDM.FragStmt, Bool.and_eq_true] at hs
    obtain ⟨⟨⟨⟨⟨⟨h0, h1⟩, hne⟩, hsets⟩, h2⟩, h3⟩, h4⟩ := hs
    obtain ⟨w1, w2⟩ := incWiths (ch := ch) ws h0
    obtain ⟨s1, _, s3⟩ := incSets (ch := ch) sets hsets
    have ht := incTail (ch := ch) wh ob lm h2 h3
    refine ⟨?_, by simp only [toksStmtG, TDM.toksStmtG, w2, s3, ht]⟩
    simp only [FragStmt, w1, s1, hne, (incOptE (ch := ch) "WHERE" wh h2).1, (incOrderBy (ch := ch) ob h3).1, h4, Bool.and_true, Bool.true_and]
    exact h1
  | delete t wh ob lm =>
    simp only [TDM.FragStmt, Bool.and_eq_true] at hs
    obtain ⟨⟨⟨h1, h2⟩, h3⟩, h4⟩ := hs
    have ht := incTail (ch := ch) wh ob lm h2 h3
    refine ⟨?_, by simp only [toksStmtG, TDM.toksStmtG, ht]⟩
    simp only [FragStmt, (incOptE (ch := ch) "WHERE" wh h2).1, (incOrderBy (ch := ch) ob h3).1, h4, Bool.and_true]
    exact h1
  | _ => simp [TDM.FragStmt] at hs

end TDM2

namespace TDM
variable {d : Gen.D} {ch : Expr → Bool}

theorem stmt_ok (tb : Bool) (s : Stmt) (hs : FragStmt d s = true) (rest : List Tok) (hr : stopsStmt d rest = true) :
    OkAt (fun f => pStatement d f (toksStmtG d ch tb s ++ rest)) (20 * sizeL (toksStmtG d ch tb s) + 16) (s, rest) := by
  obtain ⟨h1, h2⟩ := TDM2.fragStmt_sub d ch tb s hs
  obtain ⟨h3, h4⟩ := TDM3.fragStmt2_sub d ch tb s h1
  rw [← h2, ← h4]
  exact TDM3.stmt_ok tb s h3 rest (TQ3.stopsQ3_of_stopsQ hr)

end TDM
