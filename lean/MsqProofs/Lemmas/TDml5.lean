import MsqProofs.Lemmas.TDml0
/-!
# Accounting for the renderings of the statement fragment (C08)

`lvE` / `lvQ` / `lvS` … — the names and literals STORED in an expression / query tree, in print order (defined on the tree, over the mutually
recursive expression / query types; `leaves` for statements: Lemmas/TDml6.lean).

`Acc ts l` — the token list `ts` reads as grammar words and operator spellings (`isKw`: a leaf whose upper-cased source is one of the words
the printers emit, `KWL`) interleaved with exactly the strings `l`, in order: a leaf token contributes its source with the back-quotes
stripped (`name`), its source as it stands (`lit`), or schema and name as `splitName` reads them (`table`); a bracket group contributes
what its children contribute.  Nothing else is allowed: every token of `ts` is a grammar word, a bracket, or the NEXT stored string.

`accE` / `accQ` … : for every fragment expression / query the rendering is accounted for by the stored strings (mutual structural
recursion over the trees, mirroring the printer).  `C08.dml_accounted` (Props/C03D.lean) is the statement level.
-/
open Lex PM Ast TP TP2 TS TQ
namespace TDM

/-! ### grammar words -/
def FIXED : List String := ["SELECT", "DISTINCT", "FROM", "AS", "ON", "WHERE", "GROUP", "BY", "HAVING", "ORDER", "DESC", "LIMIT", ",", ".", "*",
  "CASE", "WHEN", "THEN", "ELSE", "END", "EXISTS", "NOT", "AND", "OR", "XOR", "IS", "IN", "LIKE", "RLIKE", "REGEXP", "BETWEEN", "WITH",
  "INSERT", "INTO", "IGNORE", "OVERWRITE", "TABLE", "PARTITION", "VALUES", "UPDATE", "SET", "=", "DELETE", ";", ""]
/-- every word and operator spelling the printers of the fragment emit -/
def KWL : List String := FIXED ++ Gen.joinTypes.flatMap (·.2) ++ Gen.unionTypes.flatMap (·.2) ++ Gen.insertTypes.flatMap (·.2) ++
  Gen.computeEnum.map (·.2.1) ++ Gen.compareEnum.map (fun e => PR.joinS " " e.2)
def KWU : List String := KWL.map up
def isKw : Tok → Bool
  | .single cs _ => KWU.contains (up (String.ofList cs))
  | .group _ _ _ => false
def isSingle : Tok → Bool
  | .single _ _ => true
  | .group _ _ _ => false
theorem isKw_opTok (w : String) : isKw (opTok w) = KWU.contains (up w) := by simp [isKw, opTok, String.ofList_toList]
theorem kw_of_mem {w : String} (h : w ∈ KWL) : isKw (opTok w) = true := by
  rw [isKw_opTok]; exact List.contains_iff_mem.2 (List.mem_map_of_mem h)
theorem kw_fixed (w : String) (hw : w ∈ FIXED) : isKw (opTok w) = true :=
  kw_of_mem (by simp only [KWL, List.mem_append]; exact .inl (.inl (.inl (.inl (.inl hw)))))
theorem kw_cval (o : String) : isKw (opTok (cval o)) = true := by
  unfold cval
  split
  · rename_i e he
    exact kw_of_mem (by simp only [KWL, List.mem_append, List.mem_map]; exact .inl (.inr ⟨e, List.mem_of_find?_eq_some he, rfl⟩))
  · exact kw_fixed "" (by decide)
theorem kw_cmpVal (o : String) : isKw (opTok (cmpVal o)) = true := by
  unfold cmpVal
  split
  · rename_i e he
    exact kw_of_mem (by simp only [KWL, List.mem_append, List.mem_map]; exact .inr ⟨e, List.mem_of_find?_eq_some he, rfl⟩)
  · exact kw_fixed "" (by decide)
/-- the words of one entry of a table whose words all belong to `KWL` -/
theorem kw_words (tbl : List (String × List String)) (h : ∀ k ∈ tbl.flatMap (·.2), k ∈ KWL) (ty : String) :
    ∀ t ∈ (match tbl.find? (·.1 == ty) with | some e => e.2.map opTok | none => []), isKw t = true := by
  split
  · rename_i e he
    intro t ht
    obtain ⟨k, hk, rfl⟩ := List.mem_map.1 ht
    exact kw_of_mem (h k (List.mem_flatMap.2 ⟨e, List.mem_of_find?_eq_some he, hk⟩))
  · intro t ht; simp at ht
theorem join_kw : ∀ k ∈ Gen.joinTypes.flatMap (·.2), k ∈ KWL := fun k hk => by
  simp only [KWL, List.mem_append]; exact .inl (.inl (.inl (.inl (.inr hk))))
theorem union_kw : ∀ k ∈ Gen.unionTypes.flatMap (·.2), k ∈ KWL := fun k hk => by
  simp only [KWL, List.mem_append]; exact .inl (.inl (.inl (.inr hk)))
theorem insert_kw : ∀ k ∈ Gen.insertTypes.flatMap (·.2), k ∈ KWL := fun k hk => by
  simp only [KWL, List.mem_append]; exact .inl (.inl (.inr hk))

/-! ### the accounting relation -/
inductive Acc : List Tok → List String → Prop
  | nil : Acc [] []
  | kw {t : Tok} {ts : List Tok} {l : List String} : isKw t = true → Acc ts l → Acc (t :: ts) l
  | name {t : Tok} {ts : List Tok} {l : List String} : isSingle t = true → Acc ts l → Acc (t :: ts) (unifyName t.src :: l)
  | lit {t : Tok} {ts : List Tok} {l : List String} : isSingle t = true → Acc ts l → Acc (t :: ts) (t.src :: l)
  | table {t : Tok} {ts : List Tok} {l : List String} {s : Option String} {n : String} :
      isSingle t = true → splitName t.src = .ok (s, n) → Acc ts l → Acc (t :: ts) (s.toList ++ n :: l)
  | group {k : GK} {cs : List Tok} {m : Nat} {ts : List Tok} {l1 l2 : List String} : Acc cs l1 → Acc ts l2 → Acc (.group k cs m :: ts) (l1 ++ l2)

theorem Acc.cast {ts : List Tok} {l l' : List String} (h : l = l') (a : Acc ts l) : Acc ts l' := h ▸ a
theorem Acc.app {a b : List Tok} {l1 l2 : List String} (h1 : Acc a l1) (h2 : Acc b l2) : Acc (a ++ b) (l1 ++ l2) := by
  induction h1 with
  | nil => simpa using h2
  | kw hk _ ih => exact Acc.kw hk ih
  | name hs _ ih => exact Acc.name hs ih
  | lit hs _ ih => exact Acc.lit hs ih
  | table hs hn _ ih => exact (Acc.table hs hn ih).cast (by simp)
  | group hc _ ihc ih => exact (Acc.group hc ih).cast (by simp)
theorem Acc.kf (w : String) {ts : List Tok} {l : List String} (h : Acc ts l) (hw : w ∈ FIXED := by decide) : Acc (opTok w :: ts) l :=
  Acc.kw (kw_fixed w hw) h
theorem Acc.kws {ws : List Tok} (hw : ∀ t ∈ ws, isKw t = true) {ts : List Tok} {l : List String} (h : Acc ts l) : Acc (ws ++ ts) l := by
  induction ws with
  | nil => exact h
  | cons t r ih => exact Acc.kw (hw t (by simp)) (ih (fun u hu => hw u (by simp [hu])))
theorem Acc.g {cs ts : List Tok} {l1 l2 : List String} (h1 : Acc cs l1) (h2 : Acc ts l2) : Acc (grp cs :: ts) (l1 ++ l2) := Acc.group h1 h2
theorem Acc.g1 {cs : List Tok} {l : List String} (h : Acc cs l) : Acc [grp cs] l := (Acc.group h Acc.nil).cast (by simp)
theorem Acc.wrap {ts : List Tok} {l : List String} (x : Bool) (e : Expr) (k : Nat) (h : Acc ts l) : Acc (wrapT x e k ts) l := by
  unfold wrapT; split
  · exact h.g1
  · exact h
/-- `l op r`, either side bracketed or not -/
theorem Acc.bin {t : Tok} (hk : isKw t = true) {a b : List Tok} {l1 l2 : List String} {x y : Bool} {e e' : Expr} {k k' : Nat}
    (h1 : Acc a l1) (h2 : Acc b l2) : Acc (wrapT x e k a ++ t :: wrapT y e' k' b) (l1 ++ l2) :=
  Acc.app (h1.wrap _ _ _) (Acc.kw hk (h2.wrap _ _ _))
theorem Acc.optKw (b : Bool) (w : String) {ts : List Tok} {l : List String} (h : Acc ts l) (hw : w ∈ FIXED := by decide) :
    Acc ((if b then [opTok w] else []) ++ ts) l := by
  cases b
  · exact h
  · exact Acc.kf w h hw
theorem Acc.nm {t : Tok} {n : String} (hs : isSingle t = true) (hn : unifyName t.src = n) {ts : List Tok} {l : List String} (h : Acc ts l) :
    Acc (t :: ts) (n :: l) := hn ▸ Acc.name hs h
theorem single_nameTok (c : String) : isSingle (nameTok c) = true := rfl
theorem single_opTok (c : String) : isSingle (opTok c) = true := rfl
theorem single_litTok (c : String) : isSingle (litTok c) = true := rfl
theorem single_qTok (c : String) : isSingle (qTok c) = true := by unfold qTok; split <;> rfl
theorem single_tblTok (s : Option String) (n : String) : isSingle (tblTok s n) = true := by cases s <;> rfl
theorem Acc.lt (v : String) {ts : List Tok} {l : List String} (h : Acc ts l) : Acc (litTok v :: ts) (v :: l) :=
  (Acc.lit (single_litTok v) h).cast (by rw [src_litTok])

/-! ### the stored strings, in print order -/
def lvLimit : Option (Int × Option Int) → List String
  | none => []
  | some (n, none) => [toString n]
  | some (n, some m) => [toString m, toString n]
mutual
def lvE : Expr → List String
  | .column none c => [c]
  | .column (some t) c => [t, c]
  | .literal v => [v]
  | .wildcard none => []
  | .wildcard (some t) => [t]
  | .func s n ps => s.toList ++ n :: lvL ps
  | .agg n ps _ => n :: lvL ps
  | .caseCond cs els => lvA cs ++ lvO els
  | .caseVal v cs els => lvE v ++ (lvA cs ++ lvO els)
  | .subValue vs => lvL vs
  | .subQuery q => lvQ q
  | .exists_ v => lvE v
  | .unary _ e => lvE e
  | .compute l _ r => lvE l ++ lvE r
  | .kw _ _ l r => lvE l ++ lvE r
  | .between _ b f t => lvE b ++ (lvE f ++ lvE t)
  | .compare _ l r => lvE l ++ lvE r
  | .not_ e => lvE e
  | .and_ l r => lvE l ++ lvE r
  | .xor l r => lvE l ++ lvE r
  | .or_ l r => lvE l ++ lvE r
  | _ => []
def lvL : List Expr → List String
  | [] => []
  | a :: as => lvE a ++ lvL as
def lvA : List (Expr × Expr) → List String
  | [] => []
  | (w, t) :: r => lvE w ++ (lvE t ++ lvA r)
def lvO : Option Expr → List String
  | none => []
  | some y => lvE y
def lvQ : Query → List String
  | .single s => lvS s
  | .union _ s us => lvS s ++ lvUn us
def lvUn : List (String × Select) → List String
  | [] => []
  | (_, s) :: r => lvS s ++ lvUn r
def lvS : Select → List String
  | .mk _ _ cols fr _ js wh gb hv ob _ _ _ lm =>
      lvCols cols ++ (lvFrom fr ++ (lvJoins js ++ (lvO wh ++ (lvGroup gb ++ (lvO hv ++ (lvOrder ob ++ lvLimit lm))))))
def lvCols : List (Expr × Option String) → List String
  | [] => []
  | (e, a) :: cs => lvE e ++ (a.toList ++ lvCols cs)
def lvRef : TableRef → List String
  | .table s n => s.toList ++ [n]
  | .sub q => lvQ q
def lvTable : FromTable → List String
  | .mk t a => lvRef t ++ a.toList
def lvTables : List FromTable → List String
  | [] => []
  | t :: ts => lvTable t ++ lvTables ts
def lvFrom : Option (List FromTable) → List String
  | some ts => lvTables ts
  | none => []
def lvRule : Option JoinRule → List String
  | some (.on e) => lvE e
  | _ => []
def lvJoin : Join → List String
  | .mk _ t rule => lvTable t ++ lvRule rule
def lvJoins : List Join → List String
  | [] => []
  | j :: js => lvJoin j ++ lvJoins js
def lvGroup : Option GroupBy → List String
  | some (.mk es _ _ _) => lvL es
  | none => []
def lvOrdItem : OrderItem → List String
  | .mk e _ _ _ => lvE e
def lvOrdL : List OrderItem → List String
  | [] => []
  | o :: os => lvOrdItem o ++ lvOrdL os
def lvOrder : Option (List OrderItem) → List String
  | some os => lvOrdL os
  | none => []
end

variable {d : Gen.D}
theorem acc_alias (a : Option String) (h : optAliasOK a = true) {ts : List Tok} {l : List String} (hts : Acc ts l) :
    Acc (aliasToks a ++ ts) (a.toList ++ l) := by
  cases a with
  | none => simpa [aliasToks] using hts
  | some a =>
    simp only [optAliasOK, aliasOK, Bool.and_eq_true, beq_iff_eq] at h
    simpa [aliasToks] using Acc.kf "AS" (Acc.nm (single_opTok a) h.1.2 hts)
theorem acc_tbl (s : Option String) (n : String) (h : tblOK s n = true) {ts : List Tok} {l : List String} (hts : Acc ts l) :
    Acc (tblTok s n :: ts) (s.toList ++ n :: l) := by
  simp only [tblOK, Bool.and_eq_true] at h
  exact Acc.table (single_tblTok s n) (isOkPair_eq h.1.2) hts
theorem acc_limit (lm : Option (Int × Option Int)) : Acc (toksLimit lm) (lvLimit lm) := by
  cases lm with
  | none => exact Acc.nil
  | some p =>
    obtain ⟨n, o⟩ := p
    cases o with
    | none => exact Acc.kf "LIMIT" (Acc.lt _ Acc.nil)
    | some m => exact Acc.kf "LIMIT" (Acc.lt _ (Acc.kf "," (Acc.lt _ Acc.nil)))
theorem acc_kwToks (k : KwKind) (n : Bool) : ∀ t ∈ kwToks k n, isKw t = true := by
  intro t ht
  cases k <;> cases n <;> simp [kwToks] at ht <;> (try rcases ht with rfl | rfl) <;> (try subst ht) <;> exact kw_fixed _ (by decide)
theorem nmOK_name {t : Tok} {n : String} (h : nmOK d t n = true) : unifyName t.src = n := by
  simp only [nmOK, Bool.and_eq_true, beq_iff_eq] at h
  exact h.1.1.2
theorem nm2OK_name {t : Tok} {n : String} (h : nm2OK t n = true) : unifyName t.src = n := by
  simp only [nm2OK, Bool.and_eq_true, beq_iff_eq] at h
  exact h.1.2

/-! ### the mutual accounting theorem (mirrors the printer `toksE3` … `toksOrder3`) -/
mutual
theorem accE : ∀ (e : Expr), FragE3 d e = true → Acc (toksE3 d noX e) (lvE e)
  | e, h => by
    cases e with
    | column t c =>
      cases t with
      | none =>
        simp only [FragE3, colOK, Bool.and_eq_true, beq_iff_eq] at h
        exact Acc.nm (single_nameTok c) h.2 Acc.nil
      | some t =>
        simp only [FragE3, qcolOK, Bool.and_eq_true] at h
        exact Acc.nm (single_nameTok t) (nmOK_name h.1) (Acc.kf "." (Acc.nm (single_nameTok c) (nm2OK_name h.2) Acc.nil))
    | literal v => simp only [toksE3, lvE]; exact Acc.lt v Acc.nil
    | wildcard t =>
      cases t with
      | none => simp only [toksE3, lvE]; exact Acc.kf "*" Acc.nil
      | some t =>
        simp only [FragE3, wildOK] at h
        exact Acc.nm (single_qTok t) (nmOK_name h) (Acc.kf "." (Acc.kf "*" Acc.nil))
    | func s n ps =>
      have hps := accArgs 14 ps (by simp only [FragE3, Bool.and_eq_true] at h; exact h.2)
      cases s with
      | none =>
        simp only [FragE3, fnOK, Bool.and_eq_true] at h
        simp only [toksE3, lvE]
        exact (Acc.nm (single_qTok n) (nmOK_name h.1.2.1) hps.g1).cast (by simp)
      | some s =>
        simp only [FragE3, fnOK, Bool.and_eq_true] at h
        simp only [toksE3, lvE]
        exact (Acc.nm (single_nameTok s) (nmOK_name h.1.2.1) (Acc.kf "." (Acc.nm (single_qTok n) (nm2OK_name h.1.2.2) hps.g1))).cast (by simp)
    | agg n ps dist =>
      simp only [FragE3, aggOK, Bool.and_eq_true] at h
      have hps := accArgs 14 ps h.2
      exact Acc.nm (single_opTok n) (nmOK_name h.1.1.2) (Acc.g1 (Acc.optKw dist "DISTINCT" hps))
    | caseCond cs els =>
      simp only [FragE3, Bool.and_eq_true] at h
      simp only [toksE3, lvE]
      exact (Acc.kf "CASE" (Acc.app (accArms cs h.1.1) (Acc.app (accElse els h.1.2) (Acc.kf "END" Acc.nil)))).cast (by simp)
    | caseVal v cs els =>
      simp only [FragE3, Bool.and_eq_true] at h
      simp only [toksE3, lvE]
      exact (Acc.kf "CASE" (Acc.app ((accE v h.1.1.1).wrap _ _ _) (Acc.app (accArms cs h.1.1.2) (Acc.app (accElse els h.1.2) (Acc.kf "END" Acc.nil))))).cast (by simp)
    | subQuery q =>
      simp only [FragE3] at h
      exact (accQ q h).g1
    | exists_ v =>
      cases v with
      | subQuery q =>
        simp only [FragE3, isSubQ] at h
        exact Acc.kf "EXISTS" (accQ q h).g1
      | _ => simp [FragE3, isSubQ] at h
    | unary o e =>
      simp only [FragE3, Bool.and_eq_true] at h
      exact Acc.kw (kw_cval o) ((accE e h.2).wrap _ _ _)
    | compute l o r =>
      simp only [FragE3, Bool.and_eq_true] at h
      exact Acc.bin (kw_cval o) (accE l h.1.2) (accE r h.2)
    | kw k n l r =>
      simp only [FragE3, Bool.and_eq_true] at h
      refine Acc.app ((accE l h.1.1).wrap _ _ _) (Acc.kws (acc_kwToks k n) (Acc.wrap _ _ _ ?_))
      by_cases hk : (k == KwKind.in_) = true
      · have h2 := h.1.2
        simp only [hk, if_true] at h2
        cases r with
        | subValue vs =>
          simp only [inRhs3, Bool.and_eq_true] at h2
          exact (accArgs 8 vs h2.1.1).g1
        | subQuery q =>
          simp only [inRhs3] at h2
          exact (accQ q h2).g1
        | _ => simp [inRhs3] at h2
      · have h2 := h.1.2
        simp only [hk] at h2
        exact accE r h2
    | between n b f t =>
      simp only [FragE3, Bool.and_eq_true] at h
      exact Acc.app ((accE b h.1.1.1).wrap _ _ _)
        (Acc.optKw n "NOT" (Acc.kf "BETWEEN" (Acc.bin (kw_fixed "AND" (by decide)) (accE f h.1.1.2) (accE t h.1.2))))
    | compare o l r =>
      simp only [FragE3, Bool.and_eq_true] at h
      exact Acc.bin (kw_cmpVal o) (accE l h.1.1.2) (accE r h.1.2)
    | not_ e =>
      simp only [FragE3] at h
      exact Acc.kf "NOT" ((accE e h).wrap _ _ _)
    | and_ l r | xor l r | or_ l r =>
      simp only [FragE3, Bool.and_eq_true] at h
      exact Acc.bin (kw_fixed _ (by decide)) (accE l h.1) (accE r h.2)
    | _ => simp [FragE3] at h
theorem accArgs : ∀ (k : Nat) (es : List Expr), FragL3 d es = true → Acc (toksArgs3 d noX k es) (lvL es)
  | k, es, h => by
    cases es with
    | nil => simp only [toksArgs3, lvL]; exact Acc.nil
    | cons a as =>
      simp only [FragL3, Bool.and_eq_true] at h
      exact Acc.app ((accE a h.1).wrap _ _ _) (accArgsTail k as h.2)
theorem accArgsTail : ∀ (k : Nat) (es : List Expr), FragL3 d es = true → Acc (toksArgsTail3 d noX k es) (lvL es)
  | k, es, h => by
    cases es with
    | nil => simp only [toksArgsTail3, lvL]; exact Acc.nil
    | cons a as =>
      simp only [FragL3, Bool.and_eq_true] at h
      exact Acc.kf "," (Acc.app ((accE a h.1).wrap _ _ _) (accArgsTail k as h.2))
theorem accArms : ∀ (cs : List (Expr × Expr)), FragA3 d cs = true → Acc (toksArms3 d noX cs) (lvA cs)
  | cs, h => by
    cases cs with
    | nil => simp only [toksArms3, lvA]; exact Acc.nil
    | cons p r =>
      obtain ⟨w, t⟩ := p
      simp only [FragA3, Bool.and_eq_true] at h
      exact Acc.kf "WHEN" (Acc.app ((accE w h.1.1).wrap _ _ _) (Acc.kf "THEN" (Acc.app ((accE t h.1.2).wrap _ _ _) (accArms r h.2))))
theorem accElse : ∀ (o : Option Expr), FragO3 d o = true → Acc (toksElse3 d noX o) (lvO o)
  | o, h => by
    cases o with
    | none => simp only [toksElse3, lvO]; exact Acc.nil
    | some y =>
      simp only [FragO3] at h
      exact Acc.kf "ELSE" ((accE y h).wrap _ _ _)
theorem accQ : ∀ (q : Query), FragQ d q = true → Acc (toksQ d noX q) (lvQ q)
  | q, h => by
    cases q with
    | single s => simp only [FragQ] at h; simp only [toksQ, lvQ]; exact accS s h
    | union ws s us =>
      simp only [FragQ, Bool.and_eq_true] at h
      exact Acc.app (accS s h.1.1.2) (accUn us h.1.2)
theorem accUn : ∀ (us : List (String × Select)), FragUn d us = true → Acc (toksUn d noX us) (lvUn us)
  | us, h => by
    cases us with
    | nil => simp only [toksUn, lvUn]; exact Acc.nil
    | cons p r =>
      obtain ⟨t, s⟩ := p
      simp only [FragUn, Bool.and_eq_true] at h
      exact Acc.kws (kw_words Gen.unionTypes union_kw t) (Acc.app (accS s h.1.2) (accUn r h.2))
theorem accS : ∀ (s : Select), FragS3 d s = true → Acc (toksS3 d noX s) (lvS s)
  | s, h => by
    obtain ⟨w, dist, cols, fr, lats, js, wh, gb, hv, ob, sb, db, cb, lm⟩ := s
    cases w with
    | none => simp [FragS3] at h
    | some w =>
    cases w with
    | cons _ _ => simp [FragS3] at h
    | nil =>
    cases lats with
    | cons _ _ => simp [FragS3] at h
    | nil =>
    cases sb with
    | some _ => simp [FragS3] at h
    | none =>
    cases db with
    | some _ => simp [FragS3] at h
    | none =>
    cases cb with
    | some _ => simp [FragS3] at h
    | none =>
      simp only [FragS3, Bool.and_eq_true] at h
      obtain ⟨⟨⟨⟨⟨⟨⟨⟨⟨h1, _⟩, h3⟩, h4⟩, h5⟩, h6⟩, h7⟩, h8⟩, h9⟩, _⟩ := h
      have body := Acc.app (accCols cols h1) (Acc.app (accFrom fr h3) (Acc.app (accJoins js h4) (Acc.app (accOptE "WHERE" (by decide) wh h5)
        (Acc.app (accGroup gb h6) (Acc.app (accOptE "HAVING" (by decide) hv h7) (Acc.app (accOrder ob h8) (acc_limit lm)))))))
      exact Acc.kf "SELECT" (Acc.optKw dist "DISTINCT" body)
theorem accCols : ∀ (cs : List (Expr × Option String)), colsOK3 d cs = true → Acc (toksCols3 d noX cs) (lvCols cs)
  | cs, h => by
    cases cs with
    | nil => simp only [toksCols3, lvCols]; exact Acc.nil
    | cons p r =>
      obtain ⟨e, a⟩ := p
      simp only [colsOK3, Bool.and_eq_true] at h
      simp only [toksCols3, lvCols, List.append_assoc]
      exact Acc.app (accE e h.1.1) (acc_alias a h.1.2 (accColsTail r h.2))
theorem accColsTail : ∀ (cs : List (Expr × Option String)), colsOK3 d cs = true → Acc (toksColsTail3 d noX cs) (lvCols cs)
  | cs, h => by
    cases cs with
    | nil => simp only [toksColsTail3, lvCols]; exact Acc.nil
    | cons p r =>
      obtain ⟨e, a⟩ := p
      simp only [colsOK3, Bool.and_eq_true] at h
      simp only [toksColsTail3, lvCols, List.append_assoc]
      exact Acc.kf "," (Acc.app (accE e h.1.1) (acc_alias a h.1.2 (accColsTail r h.2)))
theorem accTable : ∀ (t : FromTable), tableOK3 d t = true → ∀ (ts : List Tok) (l : List String), Acc ts l → Acc (toksTable3 d noX t ++ ts) (lvTable t ++ l)
  | t, h, ts, l, hts => by
    obtain ⟨r, a⟩ := t
    simp only [tableOK3, Bool.and_eq_true] at h
    cases r with
    | table s n =>
      simp only [refOK3] at h
      simp only [toksTable3, toksRef3, lvTable, lvRef]
      exact (acc_tbl s n h.1 (acc_alias a h.2 hts)).cast (by simp)
    | sub q =>
      simp only [refOK3] at h
      simp only [toksTable3, toksRef3, lvTable, lvRef]
      exact (Acc.g (accQ q h.1) (acc_alias a h.2 hts)).cast (by simp)
theorem accTablesTail : ∀ (ts : List FromTable), tablesOK3 d ts = true → Acc (toksTablesTail3 d noX ts) (lvTables ts)
  | ts, h => by
    cases ts with
    | nil => simp only [toksTablesTail3, lvTables]; exact Acc.nil
    | cons t r =>
      simp only [tablesOK3, Bool.and_eq_true] at h
      exact Acc.kf "," (accTable t h.1 _ _ (accTablesTail r h.2))
theorem accFrom : ∀ (fr : Option (List FromTable)), fromOK3 d fr = true → Acc (toksFrom3 d noX fr) (lvFrom fr)
  | fr, h => by
    cases fr with
    | none => simp only [toksFrom3, lvFrom]; exact Acc.nil
    | some l =>
      cases l with
      | nil => simp [fromOK3] at h
      | cons t r =>
        simp only [fromOK3, Bool.and_eq_true] at h
        exact Acc.kf "FROM" (accTable t h.1 _ _ (accTablesTail r h.2))
theorem accJoins : ∀ (js : List Join), joinsOK3 d js = true → Acc (toksJoins3 d noX js) (lvJoins js)
  | js, h => by
    cases js with
    | nil => simp only [toksJoins3, lvJoins]; exact Acc.nil
    | cons j r =>
      obtain ⟨ty, t, rule⟩ := j
      simp only [joinsOK3, joinOK3, Bool.and_eq_true] at h
      simp only [toksJoins3, toksJoin3, lvJoins, lvJoin, List.append_assoc]
      refine Acc.kws (kw_words Gen.joinTypes join_kw ty) (accTable t h.1.1.2 _ _ ?_)
      cases rule with
      | none => simp only [toksRule3, lvRule]; simpa using accJoins r h.2
      | some ru =>
        cases ru with
        | on e =>
          simp only [ruleOK3] at h
          exact Acc.kf "ON" (Acc.app (accE e h.1.2) (accJoins r h.2))
        | «using» u => simp [ruleOK3] at h
theorem accOptE : ∀ (kw : String) (_ : kw ∈ FIXED) (o : Option Expr), FragO3 d o = true → Acc (toksOptE3 d noX kw o) (lvO o)
  | kw, hkw, o, h => by
    cases o with
    | none => simp only [toksOptE3, lvO]; exact Acc.nil
    | some e =>
      simp only [FragO3] at h
      exact Acc.kf kw (accE e h) hkw
theorem accGroup : ∀ (gb : Option GroupBy), groupOK3 d gb = true → Acc (toksGroup3 d noX gb) (lvGroup gb)
  | gb, h => by
    cases gb with
    | none => simp only [toksGroup3, lvGroup]; exact Acc.nil
    | some g =>
      obtain ⟨cols, sets, cube, rollup⟩ := g
      cases cols with
      | nil => simp [groupOK3] at h
      | cons e es =>
        cases sets with
        | some l => simp [groupOK3] at h
        | none =>
          cases cube with
          | true => simp [groupOK3] at h
          | false =>
            cases rollup with
            | true => simp [groupOK3] at h
            | false =>
              simp only [groupOK3, Bool.and_eq_true] at h
              exact Acc.kf "GROUP" (Acc.kf "BY" (Acc.app ((accE e h.1.1).wrap _ _ _) (accArgsTail 8 es h.1.2)))
theorem accOrdItem : ∀ (o : OrderItem), ordItemOK3 d o = true → ∀ (ts : List Tok) (l : List String), Acc ts l → Acc (toksOrdItem3 d noX o ++ ts) (lvOrdItem o ++ l)
  | o, h, ts, l, hts => by
    obtain ⟨e, desc, nf, nl⟩ := o
    simp only [ordItemOK3, Bool.and_eq_true] at h
    simp only [toksOrdItem3, lvOrdItem, List.append_assoc]
    exact Acc.app ((accE e h.1.1).wrap _ _ _) (Acc.optKw desc "DESC" hts)
theorem accOrdTail : ∀ (os : List OrderItem), ordTailOK3 d os = true → Acc (toksOrdTail3 d noX os) (lvOrdL os)
  | os, h => by
    cases os with
    | nil => simp only [toksOrdTail3, lvOrdL]; exact Acc.nil
    | cons o r =>
      simp only [ordTailOK3, Bool.and_eq_true] at h
      exact Acc.kf "," (accOrdItem o h.1 _ _ (accOrdTail r h.2))
theorem accOrder : ∀ (ob : Option (List OrderItem)), orderOK3 d ob = true → Acc (toksOrder3 d noX ob) (lvOrder ob)
  | ob, h => by
    cases ob with
    | none => simp only [toksOrder3, lvOrder]; exact Acc.nil
    | some l =>
      cases l with
      | nil => simp [orderOK3] at h
      | cons o r =>
        simp only [orderOK3, Bool.and_eq_true] at h
        exact Acc.kf "ORDER" (Acc.kf "BY" (accOrdItem o h.1 _ _ (accOrdTail r h.2)))
end

end TDM
