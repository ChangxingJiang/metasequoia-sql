import MsqProofs.Lemmas.AnalyzeText3b
import MsqModel.Analyze.ColumnsSpec
/-!
# Reading the column references off the tokens of one clause (C15 on texts)

`CT.colL st ts` walks over a token list at ONE bracket depth and returns the column references written there, in textual order, with
their qualifier (`AN.QCol`).  It never enters a bracket group that starts with `SELECT` / `WITH` (a sub-query); every other bracket group
(call arguments, a bracketed operand, an `IN` list) is scanned from the start.  Per token it looks at the token itself, the kind of the
NEXT token (a `.`, a bracket group, anything else), and its own state:

* a LITERAL-marked token is an operand and no reference;
* a word (NAME mark, bare or back-quoted) directly followed by `.` is a qualifier: `q . *` is the wildcard reference `q.*`,
  `q . name (…)` a schema-qualified call (no reference), `q . name` the qualified reference `q.name`;
* a bare word of `reserved` (CASE WHEN THEN ELSE END IS IN LIKE … DISTINCT DESC …) is no reference;  `AS` (not followed by a bracket
  group) announces an alias: the next token is skipped;
* a word directly followed by a bracket group is a function name (no reference); if it is one of the aggregate names (`Gen.aggNames`),
  the group is the argument list of an aggregate: its references, or ONE anonymous reference if there are none (`COUNT(1)`);
* any other word is an unqualified column reference — unless its name is one of the dialect variables (`Spec.isGlobal`: CURRENT_DATE …);
* a `*` where an operand is expected (state `expr false`: at the start, after an operator, a keyword, a comma) is the wildcard reference
  `*`; after an operand (a name, a literal, a bracket group, `END`) it is the multiplication sign;
* everything else (operator symbols, commas, the keywords the lexer gives no NAME mark: AND OR NOT ON …) is no reference and is followed
  by an operand.

`CT.clauseColumnTokens c seg`: the references of clause `c` read off its token segment (`CT.clauseToks`): the whole segment for the select
list, WHERE and HAVING; the `ON` conditions of the JOIN segment (`CT.cutOns`); for GROUP BY / ORDER BY the items between the top-level commas, an
item that is ONE integer literal (followed by nothing, `ASC` or `DESC`) being a select-list position.
-/
open Lex PM Ast TP TP2 TS TQ Spec
open AN (QCol Clause)
namespace CT

inductive St where
  /-- at expression level; `after = true`: an operand has just ended -/
  | expr (after : Bool)
  /-- the next token is the argument list of an aggregate -/
  | agg
  /-- the next token is the `.` after the qualifier `q` -/
  | dot (q : String)
  /-- the next token is what the qualifier `q` qualifies -/
  | member (q : String)
  /-- the next token is an alias -/
  | alias

def isGrp : Tok → Bool
  | .group _ _ _ => true
  | .single _ _ => false
def nextIsGrp : List Tok → Bool
  | t :: _ => isGrp t
  | [] => false
/-- a bracket group that starts with `SELECT` / `WITH` is a sub-query -/
def isSubq : List Tok → Bool
  | t :: _ => t.equalsStr "SELECT" || t.equalsStr "WITH"
  | [] => false
/-- a plain token with the NAME mark and without the LITERAL mark (strings carry both) -/
def isWord : Tok → Bool
  | .single s m => (Tok.single s m).has NAME && !(Tok.single s m).has LITERAL
  | .group _ _ _ => false
def quoted (t : Tok) : Bool := t.source.head? == some '`'
/-- bare words that are never a column reference -/
def reserved : List String :=
  ["CASE", "WHEN", "THEN", "ELSE", "END", "IS", "IN", "LIKE", "RLIKE", "REGEXP", "BETWEEN", "EXISTS", "DISTINCT", "DESC", "ASC", "XOR",
   "DIV", "MOD", "ALL", "ANY", "USING", "OUTER", "SEMI", "NULLS", "INTERVAL", "OVER", "PARTITION", "ROWS", "OFFSET"]
/-- the reserved words that END an operand -/
def endsOperand (t : Tok) : Bool := t.equalsStr "END" || t.equalsStr "DESC" || t.equalsStr "ASC"
/-- the name a word token stands for (`unify_name`: back quotes stripped) -/
def nm (t : Tok) : String := unifyName t.src
/-- an unqualified / qualified name as a reference: the dialect variables are none -/
def ref (q : Option String) (n : String) : List QCol := if isGlobal q n then [] else [⟨q, some n, none⟩]

/-- one step on a plain token: the references it contributes and the next state (`r`: the tokens after it) -/
def step (st : St) (t : Tok) (r : List Tok) : List QCol × St :=
  match st with
  | .alias => ([], .expr true)
  | .dot q => ([], .member q)
  | .member q =>
    if nextIsGrp r then ([], .expr false)
    else if isWord t then ([⟨some q, some (nm t), none⟩], .expr true)
    else if t.equalsStr "*" then ([⟨some q, some "*", none⟩], .expr true)
    else ([], .expr false)
  | st =>
    if t.has LITERAL then ([], .expr true)
    else if isWord t then
      if nextIs "." r then ([], .dot (nm t))
      else if t.equalsStr "AS" then ([], if nextIsGrp r then .expr false else .alias)
      else if !quoted t && reserved.contains (up t.src) then ([], .expr (endsOperand t))
      else if nextIsGrp r then ([], if Gen.aggNames.contains (up t.src) then .agg else .expr false)
      else (ref none (nm t), .expr true)
    else if t.equalsStr "*" then
      (match st with
       | .expr true => ([], .expr false)
       | _ => ([⟨none, some "*", none⟩], .expr true))
    else ([], .expr false)

mutual
/-- a bracket group met in state `st` -/
def colG (st : St) : Tok → List QCol
  | .single _ _ => []
  | .group _ cs _ =>
    match st with
    | .agg => if (colL (.expr false) cs).length > 0 then colL (.expr false) cs else [anon]
    | .alias => []
    | _ => if isSubq cs then [] else colL (.expr false) cs
/-- **the column references of a token list**, in textual order -/
def colL : St → List Tok → List QCol
  | _, [] => []
  | st, t :: r =>
    match t with
    | .group k cs m => colG st (.group k cs m) ++ colL (.expr true) r
    | .single s m => (step st (.single s m) r).1 ++ colL (step st (.single s m) r).2 r
end

/-! ### the clauses -/
/-- the pieces of a token list between its (top-level) commas -/
def splitC : List Tok → List (List Tok)
  | [] => [[]]
  | t :: r =>
    if t.equalsStr "," then [] :: splitC r
    else match splitC r with
      | s :: ss => (t :: s) :: ss
      | [] => [[t]]

def isDir (t : Tok) : Bool := t.equalsStr "DESC" || t.equalsStr "ASC"
/-- a token that is an integer literal, as a select-list position -/
def ordTok (t : Tok) : Option Int :=
  if t.has LITERAL then (match AN.ordinalOfSource t.src with | .ok k => k | .error _ => none) else none
/-- one item of GROUP BY / ORDER BY: a lone integer literal is a position, everything else is scanned -/
def itemT (ts : List Tok) : List QCol :=
  match ts with
  | [t] => (match ordTok t with | some k => [⟨none, none, some k⟩] | none => colL (.expr false) ts)
  | [t, u] => (match ordTok t with | some k => if isDir u then [⟨none, none, some k⟩] else colL (.expr false) ts | none => colL (.expr false) ts)
  | _ => colL (.expr false) ts

/-- the six clauses -/
def clauseColumnTokens6 (c : Clause) (seg : List Tok) : List QCol :=
  match c with
  | .select | .where_ | .having => colL (.expr false) seg
  | .join => colL (.expr false) (cutOns seg)
  | .group | .order => (splitC (seg.drop 2)).flatMap itemT
  | .all => []
/-- the number of a clause -/
def clauseNo : Clause → Nat
  | .select => 0 | .join => 2 | .where_ => 3 | .group => 4 | .having => 5 | .order => 6 | .all => 9
/-- **the token segment of clause `c`** of a SELECT branch's token list (`CT.cut`: by the clause words at bracket depth 0); for the
union: the whole list -/
def clauseSeg (c : Clause) (ts : List Tok) : List Tok :=
  match c with
  | .join => cutJoins ts
  | .all => ts
  | c => clauseToks (clauseNo c) ts
/-- **the references written in one clause**, read off the clause's token segment: the whole segment for the select list, WHERE and
HAVING; the `ON` conditions of the JOIN segment; the items of GROUP BY / ORDER BY; the union `all` is the concatenation of the six -/
def clauseColumnTokens (c : Clause) (seg : List Tok) : List QCol :=
  match c with
  | .all => [Clause.select, .join, .where_, .group, .having, .order].flatMap fun c' => clauseColumnTokens6 c' (clauseSeg c' seg)
  | c => clauseColumnTokens6 c seg
/-- the references of clause `c` of a SELECT branch, read off the branch's token list -/
def branchColumnTokens (c : Clause) (ts : List Tok) : List QCol := clauseColumnTokens c (clauseSeg c ts)

end CT
