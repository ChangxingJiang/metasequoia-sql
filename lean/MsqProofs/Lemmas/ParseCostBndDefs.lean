import MsqProofs.Lemmas.ParseCostBnd0
/-! GENERATED by tools/gen_cost.py — C19: the linear bound, helpers of Parse/Expr.lean and the induction hypothesis of the block (constants: tools/gen_cost.py --consts) -/
set_option linter.unusedSimpArgs false
open Lex PM Ast
namespace PM

theorem multiAliasLoop_bnd : ∀ x0 x1 x2 κ, (multiAliasLoop_k x0 x1 x2 κ).1 + rem (multiAliasLoop_k x0 x1 x2 κ).2 ≤ κ + 70 * adqWL x2 + 6 := by
  intro x0
  induction x0 with
  | zero => intro x1 x2 κ; simp only [multiAliasLoop_k, rem_error, remO_error]; omega
  | succ n ih =>
    intro x1 x2 κ
    generalize h : multiAliasLoop_k (n+1) x1 x2 κ = out
    unfold multiAliasLoop_k at h
    split_run <;> grind -funext (gen := 40) (instances := 20000) [adqWL_append, Lost]
grind_pattern multiAliasLoop_bnd => multiAliasLoop_k x0 x1 x2 κ

theorem pMultiAlias_bnd (ts : List Tok) (κ : Nat) : (pMultiAlias_k ts κ).1 + rem (pMultiAlias_k ts κ).2 ≤ κ + 70 * adqWL ts + 11 := by
  generalize h : pMultiAlias_k ts κ = out
  unfold pMultiAlias_k at h
  split_run <;> grind -funext (gen := 40) (instances := 20000) [adqWL_append, Lost]
grind_pattern pMultiAlias_bnd => pMultiAlias_k ts κ

theorem pAlias_bnd (ts : List Tok) (κ : Nat) : (pAlias_k ts κ).1 + rem (pAlias_k ts κ).2 ≤ κ + 70 * adqWL ts + 7 := by
  generalize h : pAlias_k ts κ = out
  unfold pAlias_k at h
  split_run <;> grind -funext (gen := 40) (instances := 20000) [adqWL_append, Lost]
grind_pattern pAlias_bnd => pAlias_k ts κ

theorem pTableName_bnd (ts : List Tok) (κ : Nat) : (pTableName_k ts κ).1 + rem (pTableName_k ts κ).2 ≤ κ + 70 * adqWL ts + 5 := by
  generalize h : pTableName_k ts κ = out
  unfold pTableName_k at h
  split_run <;> grind -funext (gen := 40) (instances := 20000) [adqWL_append, Lost]
grind_pattern pTableName_bnd => pTableName_k ts κ

theorem pRowItem_bnd (ts : List Tok) (κ : Nat) : (pRowItem_k ts κ).1 + rem (pRowItem_k ts κ).2 ≤ κ + 70 * adqWL ts + 14 := by
  generalize h : pRowItem_k ts κ = out
  unfold pRowItem_k at h
  split_run <;> grind -funext (gen := 40) (instances := 20000) [adqWL_append, Lost]
grind_pattern pRowItem_bnd => pRowItem_k ts κ

theorem pWindowRow_bnd (ts : List Tok) (κ : Nat) : (pWindowRow_k ts κ).1 + rem (pWindowRow_k ts κ).2 ≤ κ + 70 * adqWL ts + 33 := by
  generalize h : pWindowRow_k ts κ = out
  unfold pWindowRow_k at h
  split_run <;> grind -funext (gen := 40) (instances := 20000) [adqWL_append, Lost]
grind_pattern pWindowRow_bnd => pWindowRow_k ts κ

theorem orderTail_bnd (e : Expr) (ts : List Tok) (κ : Nat) : (orderTail_k e ts κ).1 + rem (orderTail_k e ts κ).2 ≤ κ + 70 * adqWL ts + 12 := by
  generalize h : orderTail_k e ts κ = out
  unfold orderTail_k at h
  split_run <;> grind -funext (gen := 40) (instances := 20000) [adqWL_append, Lost]
grind_pattern orderTail_bnd => orderTail_k e ts κ

theorem castParamsLoop_bnd : ∀ x0 x1 x2 κ, (castParamsLoop_k x0 x1 x2 κ).1 ≤ κ + 70 * adqWL x2 + 5 := by
  intro x0
  induction x0 with
  | zero => intro x1 x2 κ; simp only [castParamsLoop_k, rem_error, remO_error]; omega
  | succ n ih =>
    intro x1 x2 κ
    generalize h : castParamsLoop_k (n+1) x1 x2 κ = out
    unfold castParamsLoop_k at h
    split_run <;> grind -funext (gen := 40) (instances := 20000) [adqWL_append, Lost]
grind_pattern castParamsLoop_bnd => castParamsLoop_k x0 x1 x2 κ

theorem castParams_bnd (g : Tok) (κ : Nat) : (castParams_k g κ).1 ≤ κ + 70 * adqWL g.children + 7 := by
  generalize h : castParams_k g κ = out
  unfold castParams_k at h
  split_run <;> grind -funext (gen := 40) (instances := 20000) [adqWL_append, Lost]
grind_pattern castParams_bnd => castParams_k g κ

theorem castTail_bnd (e : Expr) (ts : List Tok) (κ : Nat) : (castTail_k e ts κ).1 ≤ κ + 70 * adqWL ts + 77 := by
  generalize h : castTail_k e ts κ = out
  unfold castTail_k at h
  split_run <;> grind -funext (gen := 40) (instances := 20000) [adqWL_append, Lost]
grind_pattern castTail_bnd => castTail_k e ts κ

theorem pLimit_bnd (ts : List Tok) (κ : Nat) : (pLimit_k ts κ).1 + rem (pLimit_k ts κ).2 ≤ κ + 70 * adqWL ts + 13 := by
  generalize h : pLimit_k ts κ = out
  unfold pLimit_k at h
  split_run <;> grind -funext (gen := 40) (instances := 20000) [adqWL_append, Lost]
grind_pattern pLimit_bnd => pLimit_k ts κ

structure BndF (d : Gen.D) (n : Nat) : Prop where
  pElement : ∀ x0 κ, (pElement_k d n x0 κ).1 + rem (pElement_k d n x0 κ).2 ≤ κ + 70 * (adqWL x0) + 58
  pParen : ∀ x0 x1 κ, (pParen_k d n x0 x1 κ).1 + rem (pParen_k d n x0 x1 κ).2 ≤ κ + 70 * (adqW x0 + adqWL x1) + 6
  pNamed : ∀ x0 x1 x2 κ, Sfx x1 x2 → (pNamed_k d n x0 x1 x2 κ).1 + rem (pNamed_k d n x0 x1 x2 κ).2 ≤ κ + 70 * (adqWL x2) + 57
  pQualified : ∀ x0 x1 x2 κ, Sfx x1 x2 → (pQualified_k d n x0 x1 x2 κ).1 + rem (pQualified_k d n x0 x1 x2 κ).2 ≤ κ + 70 * (adqWL x2) + 12
  pIndex : ∀ x0 x1 κ, (pIndex_k d n x0 x1 κ).1 + rem (pIndex_k d n x0 x1 κ).2 ≤ κ + 70 * (adqWL x1) + 4
  pFuncIdx : ∀ x0 κ, (pFuncIdx_k d n x0 κ).1 + rem (pFuncIdx_k d n x0 κ).2 ≤ κ + 70 * (adqWL x0) + 10
  pFunc : ∀ x0 κ, (pFunc_k d n x0 κ).1 + rem (pFunc_k d n x0 κ).2 ≤ κ + 70 * (adqWL x0) + 6
  pIfCall : ∀ x0 κ, (pIfCall_k d n x0 κ).1 + rem (pIfCall_k d n x0 κ).2 ≤ κ + 70 * (adqWL x0) + 3
  pFirstDiscard : ∀ x0 κ, (pFirstDiscard_k d n x0 κ).1 ≤ κ + 70 * (adqWL x0) + 209
  pFirstArg : ∀ x0 κ, (pFirstArg_k d n x0 κ).1 + rem (pFirstArg_k d n x0 κ).2 ≤ κ + 70 * (adqWL x0) + 209
  pCall : ∀ x0 x1 x2 κ, (pCall_k d n x0 x1 x2 κ).1 + rem (pCall_k d n x0 x1 x2 κ).2 ≤ κ + 70 * (adqWL x2) + 6
  pArgs : ∀ x0 x1 κ, (pArgs_k d n x0 x1 κ).1 + rem (pArgs_k d n x0 x1 κ).2 ≤ κ + 70 * (adqWL x1) + 3
  pCase : ∀ x0 κ, (pCase_k d n x0 κ).1 + rem (pCase_k d n x0 κ).2 ≤ κ + 70 * (adqWL x0) + 3
  pElseEnd : ∀ x0 κ, (pElseEnd_k d n x0 κ).1 + rem (pElseEnd_k d n x0 κ).2 ≤ κ + 70 * (adqWL x0) + 5
  pWhens : ∀ x0 x1 κ, (pWhens_k d n x0 x1 κ).1 + rem (pWhens_k d n x0 x1 κ).2 ≤ κ + 70 * (adqWL x1) + 5
  pUnary : ∀ x0 κ, (pUnary_k d n x0 κ).1 + rem (pUnary_k d n x0 κ).2 ≤ κ + 70 * (adqWL x0) + 59
  pCompute : ∀ x0 κ, (pCompute_k d n x0 κ).1 + rem (pCompute_k d n x0 κ).2 ≤ κ + 70 * (adqWL x0) + 61
  pComputeLoop : ∀ x0 x1 x2 κ, (pComputeLoop_k d n x0 x1 x2 κ).1 + rem (pComputeLoop_k d n x0 x1 x2 κ).2 ≤ κ + 70 * (adqWL x2) + 2
  pKeyword : ∀ x0 x1 κ, (pKeyword_k d n x0 x1 κ).1 + rem (pKeyword_k d n x0 x1 κ).2 ≤ κ + 70 * (adqWL x1) + 194
  pKwFirst : ∀ x0 x1 κ, (pKwFirst_k d n x0 x1 κ).1 + rem (pKwFirst_k d n x0 x1 κ).2 ≤ κ + 70 * (adqWL x1) + 61
  pKwRest : ∀ x0 x1 x2 κ, (pKwRest_k d n x0 x1 x2 κ).1 + rem (pKwRest_k d n x0 x1 x2 κ).2 ≤ κ + 70 * (adqWL x2) + 127
  pKwBody : ∀ x0 x1 x2 x3 κ, (pKwBody_k d n x0 x1 x2 x3 κ).1 + remO (70 * (adqWL x3)) (pKwBody_k d n x0 x1 x2 x3 κ).2 ≤ κ + 70 * (adqWL x3) + 125
  pBetween : ∀ x0 x1 x2 κ, (pBetween_k d n x0 x1 x2 κ).1 + remO (70 * (adqWL x2)) (pBetween_k d n x0 x1 x2 κ).2 ≤ κ + 70 * (adqWL x2) + 124
  pInBody : ∀ x0 x1 x2 κ, (pInBody_k d n x0 x1 x2 κ).1 + remO (70 * (adqWL x2)) (pInBody_k d n x0 x1 x2 κ).2 ≤ κ + 70 * (adqWL x2) + 6
  pSplit : ∀ x0 x1 x2 κ, (pSplit_k d n x0 x1 x2 κ).1 ≤ κ + 70 * (adqWL x1 + adqWL x2) + 63
  pCompare : ∀ x0 κ, (pCompare_k d n x0 κ).1 + rem (pCompare_k d n x0 κ).2 ≤ κ + 70 * (adqWL x0) + 197
  pCompareLoop : ∀ x0 x1 κ, (pCompareLoop_k d n x0 x1 κ).1 + rem (pCompareLoop_k d n x0 x1 κ).2 ≤ κ + 70 * (adqWL x1) + 3
  pNot : ∀ x0 κ, (pNot_k d n x0 κ).1 + rem (pNot_k d n x0 κ).2 ≤ κ + 70 * (adqWL x0) + 200
  pAnd : ∀ x0 κ, (pAnd_k d n x0 κ).1 + rem (pAnd_k d n x0 κ).2 ≤ κ + 70 * (adqWL x0) + 203
  pAndLoop : ∀ x0 x1 κ, (pAndLoop_k d n x0 x1 κ).1 + rem (pAndLoop_k d n x0 x1 κ).2 ≤ κ + 70 * (adqWL x1) + 3
  pXor : ∀ x0 κ, (pXor_k d n x0 κ).1 + rem (pXor_k d n x0 κ).2 ≤ κ + 70 * (adqWL x0) + 206
  pXorLoop : ∀ x0 x1 κ, (pXorLoop_k d n x0 x1 κ).1 + rem (pXorLoop_k d n x0 x1 κ).2 ≤ κ + 70 * (adqWL x1) + 3
  pOr : ∀ x0 κ, (pOr_k d n x0 κ).1 + rem (pOr_k d n x0 κ).2 ≤ κ + 70 * (adqWL x0) + 209
  pOrLoop : ∀ x0 x1 κ, (pOrLoop_k d n x0 x1 κ).1 + rem (pOrLoop_k d n x0 x1 κ).2 ≤ κ + 70 * (adqWL x1) + 3
  pSubQuery : ∀ x0 κ, (pSubQuery_k d n x0 κ).1 + rem (pSubQuery_k d n x0 κ).2 ≤ κ + 70 * (adqWL x0) + 3
  pCast : ∀ x0 κ, (pCast_k d n x0 κ).1 + rem (pCast_k d n x0 κ).2 ≤ κ + 70 * (adqWL x0) + 81
  pExtract : ∀ x0 κ, (pExtract_k d n x0 κ).1 + rem (pExtract_k d n x0 κ).2 ≤ κ + 70 * (adqWL x0) + 2
  pExtractTail : ∀ x0 x1 κ, (pExtractTail_k d n x0 x1 κ).1 ≤ κ + 70 * (adqWL x1) + 3
  pWindow : ∀ x0 κ, (pWindow_k d n x0 κ).1 + rem (pWindow_k d n x0 κ).2 ≤ κ + 70 * (adqWL x0) + 55
  pWindowBody : ∀ x0 x1 κ, (pWindowBody_k d n x0 x1 κ).1 ≤ κ + 70 * (adqWL x1) + 41
  pPartitionBy : ∀ x0 κ, (pPartitionBy_k d n x0 κ).1 + rem (pPartitionBy_k d n x0 κ).2 ≤ κ + 70 * (adqWL x0) + 3
  pComputeList : ∀ x0 x1 κ, (pComputeList_k d n x0 x1 κ).1 + rem (pComputeList_k d n x0 x1 κ).2 ≤ κ + 70 * (adqWL x1) + 3
  pOrderItem : ∀ x0 κ, (pOrderItem_k d n x0 κ).1 + rem (pOrderItem_k d n x0 κ).2 ≤ κ + 70 * (adqWL x0) + 73
  pOrderList : ∀ x0 x1 κ, (pOrderList_k d n x0 x1 κ).1 + rem (pOrderList_k d n x0 x1 κ).2 ≤ κ + 70 * (adqWL x1) + 3
  pOrderByOpt : ∀ x0 κ, (pOrderByOpt_k d n x0 κ).1 + rem (pOrderByOpt_k d n x0 κ).2 ≤ κ + 70 * (adqWL x0) + 3
  pSelectCol : ∀ x0 κ, (pSelectCol_k d n x0 κ).1 + rem (pSelectCol_k d n x0 κ).2 ≤ κ + 70 * (adqWL x0) + 216
  pSelectCols : ∀ x0 x1 κ, (pSelectCols_k d n x0 x1 κ).1 + rem (pSelectCols_k d n x0 x1 κ).2 ≤ κ + 70 * (adqWL x1) + 3
  pTableExpr : ∀ x0 κ, (pTableExpr_k d n x0 κ).1 + rem (pTableExpr_k d n x0 κ).2 ≤ κ + 70 * (adqWL x0) + 11
  pFromTable : ∀ x0 κ, (pFromTable_k d n x0 κ).1 + rem (pFromTable_k d n x0 κ).2 ≤ κ + 70 * (adqWL x0) + 18
  pFromTables : ∀ x0 x1 κ, (pFromTables_k d n x0 x1 κ).1 + rem (pFromTables_k d n x0 x1 κ).2 ≤ κ + 70 * (adqWL x1) + 3
  pJoin : ∀ x0 κ, (pJoin_k d n x0 κ).1 + remS 30 (pJoin_k d n x0 κ).2 ≤ κ + 70 * (adqWL x0) + 23
  pJoinRule : ∀ x0 x1 x2 κ, (pJoinRule_k d n x0 x1 x2 κ).1 + rem (pJoinRule_k d n x0 x1 x2 κ).2 ≤ κ + 70 * (adqWL x2) + 10
  pJoins : ∀ x0 x1 x2 x3 κ, (pJoins_k d n x0 x1 x2 x3 κ).1 + rem (pJoins_k d n x0 x1 x2 x3 κ).2 ≤ κ + 70 * (adqWL x3) + 24
  pOptOr : ∀ x0 x1 κ, (pOptOr_k d n x0 x1 κ).1 + rem (pOptOr_k d n x0 x1 κ).2 ≤ κ + 70 * (adqWL x1) + 3
  pGroupingElem : ∀ x0 κ, (pGroupingElem_k d n x0 κ).1 ≤ κ + 70 * (adqWL x0) + 65
  pClosedEach : ∀ x0 x1 κ, (pClosedEach_k d n x0 x1 κ).1 ≤ κ + 70 * (adqWLL x1) + 62
  pGroupingElems : ∀ x0 x1 κ, (pGroupingElems_k d n x0 x1 κ).1 ≤ κ + 70 * (adqWLL x1) + 65
  pGroupingSets : ∀ x0 κ, (pGroupingSets_k d n x0 κ).1 + rem (pGroupingSets_k d n x0 κ).2 ≤ κ + 70 * (adqWL x0) + 5
  pGroupBy : ∀ x0 κ, (pGroupBy_k d n x0 κ).1 + rem (pGroupBy_k d n x0 κ).2 ≤ κ + 70 * (adqWL x0) + 9
  pGroupCols : ∀ x0 κ, (pGroupCols_k d n x0 κ).1 + rem (pGroupCols_k d n x0 κ).2 ≤ κ + 70 * (adqWL x0) + 65
  pGroupSetsOpt : ∀ x0 κ, (pGroupSetsOpt_k d n x0 κ).1 + rem (pGroupSetsOpt_k d n x0 κ).2 ≤ κ + 70 * (adqWL x0) + 6
  pWithTable : ∀ x0 κ, (pWithTable_k d n x0 κ).1 + rem (pWithTable_k d n x0 κ).2 ≤ κ + 70 * (adqWL x0) + 4
  pWithBody : ∀ x0 x1 κ, (pWithBody_k d n x0 x1 κ).1 + rem (pWithBody_k d n x0 x1 κ).2 ≤ κ + 70 * (adqWL x1) + 3
  pWithTables : ∀ x0 x1 κ, (pWithTables_k d n x0 x1 κ).1 + rem (pWithTables_k d n x0 x1 κ).2 ≤ κ + 70 * (adqWL x1) + 3
  pWith : ∀ x0 κ, (pWith_k d n x0 κ).1 + rem (pWith_k d n x0 κ).2 ≤ κ + 70 * (adqWL x0) + 3
  pSelectBody : ∀ x0 x1 x2 x3 κ, (pSelectBody_k d n x0 x1 x2 x3 κ).1 + rem (pSelectBody_k d n x0 x1 x2 x3 κ).2 ≤ κ + 70 * (adqWL x3) + 5
  pFromOpt : ∀ x0 κ, (pFromOpt_k d n x0 κ).1 + rem (pFromOpt_k d n x0 κ).2 ≤ κ + 70 * (adqWL x0) + 3
  pSelectRest : ∀ x0 x1 x2 x3 x4 x5 κ, (pSelectRest_k d n x0 x1 x2 x3 x4 x5 κ).1 + rem (pSelectRest_k d n x0 x1 x2 x3 x4 x5 κ).2 ≤ κ + 70 * (adqWL x5) + 87
  pSelectTail : ∀ x0 x1 x2 x3 x4 x5 x6 κ, (pSelectTail_k d n x0 x1 x2 x3 x4 x5 x6 κ).1 + rem (pSelectTail_k d n x0 x1 x2 x3 x4 x5 x6 κ).2 ≤ κ + 70 * (adqWL x6) + 40
  pWhereGroup : ∀ x0 κ, (pWhereGroup_k d n x0 κ).1 + rem (pWhereGroup_k d n x0 κ).2 ≤ κ + 70 * (adqWL x0) + 12
  pHavingOrder : ∀ x0 κ, (pHavingOrder_k d n x0 κ).1 + rem (pHavingOrder_k d n x0 κ).2 ≤ κ + 70 * (adqWL x0) + 6
  pHiveClauses : ∀ x0 κ, (pHiveClauses_k d n x0 κ).1 + rem (pHiveClauses_k d n x0 κ).2 ≤ κ + 70 * (adqWL x0) + 9
  pSortBy : ∀ x0 κ, (pSortBy_k d n x0 κ).1 + rem (pSortBy_k d n x0 κ).2 ≤ κ + 70 * (adqWL x0) + 3
  pByList : ∀ x0 x1 κ, (pByList_k d n x0 x1 κ).1 + rem (pByList_k d n x0 x1 κ).2 ≤ κ + 70 * (adqWL x1) + 3
  pLateral : ∀ x0 κ, (pLateral_k d n x0 κ).1 + remS 30 (pLateral_k d n x0 κ).2 ≤ κ + 70 * (adqWL x0) + 19
  pLaterals : ∀ x0 x1 x2 x3 κ, (pLaterals_k d n x0 x1 x2 x3 κ).1 + rem (pLaterals_k d n x0 x1 x2 x3 κ).2 ≤ κ + 70 * (adqWL x3) + 20
  pSingle : ∀ x0 x1 κ, (pSingle_k d n x0 x1 κ).1 + rem (pSingle_k d n x0 x1 κ).2 ≤ κ + 70 * (adqWL x1) + 6
  pSingleParen : ∀ x0 x1 x2 x3 κ, (pSingleParen_k d n x0 x1 x2 x3 κ).1 + rem (pSingleParen_k d n x0 x1 x2 x3 κ).2 ≤ κ + 70 * (adqWL x1 + adqWL x3) + 7 + x2.length
  pSelectStmt : ∀ x0 x1 κ, (pSelectStmt_k d n x0 x1 κ).1 + rem (pSelectStmt_k d n x0 x1 κ).2 ≤ κ + 70 * (adqWL x1) + 21
  pUnions : ∀ x0 x1 x2 κ, (pUnions_k d n x0 x1 x2 κ).1 + rem (pUnions_k d n x0 x1 x2 κ).2 ≤ κ + 70 * (adqWL x2) + 12

grind_pattern BndF.pElement => BndF d n, pElement_k d n x0 κ
grind_pattern BndF.pParen => BndF d n, pParen_k d n x0 x1 κ
grind_pattern BndF.pNamed => BndF d n, pNamed_k d n x0 x1 x2 κ
grind_pattern BndF.pQualified => BndF d n, pQualified_k d n x0 x1 x2 κ
grind_pattern BndF.pIndex => BndF d n, pIndex_k d n x0 x1 κ
grind_pattern BndF.pFuncIdx => BndF d n, pFuncIdx_k d n x0 κ
grind_pattern BndF.pFunc => BndF d n, pFunc_k d n x0 κ
grind_pattern BndF.pIfCall => BndF d n, pIfCall_k d n x0 κ
grind_pattern BndF.pFirstDiscard => BndF d n, pFirstDiscard_k d n x0 κ
grind_pattern BndF.pFirstArg => BndF d n, pFirstArg_k d n x0 κ
grind_pattern BndF.pCall => BndF d n, pCall_k d n x0 x1 x2 κ
grind_pattern BndF.pArgs => BndF d n, pArgs_k d n x0 x1 κ
grind_pattern BndF.pCase => BndF d n, pCase_k d n x0 κ
grind_pattern BndF.pElseEnd => BndF d n, pElseEnd_k d n x0 κ
grind_pattern BndF.pWhens => BndF d n, pWhens_k d n x0 x1 κ
grind_pattern BndF.pUnary => BndF d n, pUnary_k d n x0 κ
grind_pattern BndF.pCompute => BndF d n, pCompute_k d n x0 κ
grind_pattern BndF.pComputeLoop => BndF d n, pComputeLoop_k d n x0 x1 x2 κ
grind_pattern BndF.pKeyword => BndF d n, pKeyword_k d n x0 x1 κ
grind_pattern BndF.pKwFirst => BndF d n, pKwFirst_k d n x0 x1 κ
grind_pattern BndF.pKwRest => BndF d n, pKwRest_k d n x0 x1 x2 κ
grind_pattern BndF.pKwBody => BndF d n, pKwBody_k d n x0 x1 x2 x3 κ
grind_pattern BndF.pBetween => BndF d n, pBetween_k d n x0 x1 x2 κ
grind_pattern BndF.pInBody => BndF d n, pInBody_k d n x0 x1 x2 κ
grind_pattern BndF.pSplit => BndF d n, pSplit_k d n x0 x1 x2 κ
grind_pattern BndF.pCompare => BndF d n, pCompare_k d n x0 κ
grind_pattern BndF.pCompareLoop => BndF d n, pCompareLoop_k d n x0 x1 κ
grind_pattern BndF.pNot => BndF d n, pNot_k d n x0 κ
grind_pattern BndF.pAnd => BndF d n, pAnd_k d n x0 κ
grind_pattern BndF.pAndLoop => BndF d n, pAndLoop_k d n x0 x1 κ
grind_pattern BndF.pXor => BndF d n, pXor_k d n x0 κ
grind_pattern BndF.pXorLoop => BndF d n, pXorLoop_k d n x0 x1 κ
grind_pattern BndF.pOr => BndF d n, pOr_k d n x0 κ
grind_pattern BndF.pOrLoop => BndF d n, pOrLoop_k d n x0 x1 κ
grind_pattern BndF.pSubQuery => BndF d n, pSubQuery_k d n x0 κ
grind_pattern BndF.pCast => BndF d n, pCast_k d n x0 κ
grind_pattern BndF.pExtract => BndF d n, pExtract_k d n x0 κ
grind_pattern BndF.pExtractTail => BndF d n, pExtractTail_k d n x0 x1 κ
grind_pattern BndF.pWindow => BndF d n, pWindow_k d n x0 κ
grind_pattern BndF.pWindowBody => BndF d n, pWindowBody_k d n x0 x1 κ
grind_pattern BndF.pPartitionBy => BndF d n, pPartitionBy_k d n x0 κ
grind_pattern BndF.pComputeList => BndF d n, pComputeList_k d n x0 x1 κ
grind_pattern BndF.pOrderItem => BndF d n, pOrderItem_k d n x0 κ
grind_pattern BndF.pOrderList => BndF d n, pOrderList_k d n x0 x1 κ
grind_pattern BndF.pOrderByOpt => BndF d n, pOrderByOpt_k d n x0 κ
grind_pattern BndF.pSelectCol => BndF d n, pSelectCol_k d n x0 κ
grind_pattern BndF.pSelectCols => BndF d n, pSelectCols_k d n x0 x1 κ
grind_pattern BndF.pTableExpr => BndF d n, pTableExpr_k d n x0 κ
grind_pattern BndF.pFromTable => BndF d n, pFromTable_k d n x0 κ
grind_pattern BndF.pFromTables => BndF d n, pFromTables_k d n x0 x1 κ
grind_pattern BndF.pJoin => BndF d n, pJoin_k d n x0 κ
grind_pattern BndF.pJoinRule => BndF d n, pJoinRule_k d n x0 x1 x2 κ
grind_pattern BndF.pJoins => BndF d n, pJoins_k d n x0 x1 x2 x3 κ
grind_pattern BndF.pOptOr => BndF d n, pOptOr_k d n x0 x1 κ
grind_pattern BndF.pGroupingElem => BndF d n, pGroupingElem_k d n x0 κ
grind_pattern BndF.pClosedEach => BndF d n, pClosedEach_k d n x0 x1 κ
grind_pattern BndF.pGroupingElems => BndF d n, pGroupingElems_k d n x0 x1 κ
grind_pattern BndF.pGroupingSets => BndF d n, pGroupingSets_k d n x0 κ
grind_pattern BndF.pGroupBy => BndF d n, pGroupBy_k d n x0 κ
grind_pattern BndF.pGroupCols => BndF d n, pGroupCols_k d n x0 κ
grind_pattern BndF.pGroupSetsOpt => BndF d n, pGroupSetsOpt_k d n x0 κ
grind_pattern BndF.pWithTable => BndF d n, pWithTable_k d n x0 κ
grind_pattern BndF.pWithBody => BndF d n, pWithBody_k d n x0 x1 κ
grind_pattern BndF.pWithTables => BndF d n, pWithTables_k d n x0 x1 κ
grind_pattern BndF.pWith => BndF d n, pWith_k d n x0 κ
grind_pattern BndF.pSelectBody => BndF d n, pSelectBody_k d n x0 x1 x2 x3 κ
grind_pattern BndF.pFromOpt => BndF d n, pFromOpt_k d n x0 κ
grind_pattern BndF.pSelectRest => BndF d n, pSelectRest_k d n x0 x1 x2 x3 x4 x5 κ
grind_pattern BndF.pSelectTail => BndF d n, pSelectTail_k d n x0 x1 x2 x3 x4 x5 x6 κ
grind_pattern BndF.pWhereGroup => BndF d n, pWhereGroup_k d n x0 κ
grind_pattern BndF.pHavingOrder => BndF d n, pHavingOrder_k d n x0 κ
grind_pattern BndF.pHiveClauses => BndF d n, pHiveClauses_k d n x0 κ
grind_pattern BndF.pSortBy => BndF d n, pSortBy_k d n x0 κ
grind_pattern BndF.pByList => BndF d n, pByList_k d n x0 x1 κ
grind_pattern BndF.pLateral => BndF d n, pLateral_k d n x0 κ
grind_pattern BndF.pLaterals => BndF d n, pLaterals_k d n x0 x1 x2 x3 κ
grind_pattern BndF.pSingle => BndF d n, pSingle_k d n x0 x1 κ
grind_pattern BndF.pSingleParen => BndF d n, pSingleParen_k d n x0 x1 x2 x3 κ
grind_pattern BndF.pSelectStmt => BndF d n, pSelectStmt_k d n x0 x1 κ
grind_pattern BndF.pUnions => BndF d n, pUnions_k d n x0 x1 x2 κ

end PM
