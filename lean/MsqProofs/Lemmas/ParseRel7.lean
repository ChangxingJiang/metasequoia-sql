import MsqProofs.Lemmas.ParseRel5
/-!
# Relational reading of the parser model: four fuel steps of the block by hand (`pSplit`, `pSelectStmt`, `pUnions`, `pTableExpr`)

`pSplit` holds a `let` that unfolding duplicates (named here: `flushOf`); `pSelectStmt` has an optional argument in the place of a run;
`pUnions` stores the member of the enumeration it has found; `pTableExpr` matches on the constructor of a tree.
-/
open Lex Ast PMQ
namespace PM.Rel
variable [T : Theory]

attribute [local grind] mapE mapO mapTR mapFT mapJR mapLat mapW
section hand
variable (d : Gen.D)


/-- `flush` of `pSplit`: the collected segment is parsed as one expression -/
def flushOf (f : Nat) (acc : List Expr) (cur : List Tok) : Except Err (List Expr) :=
  if cur.isEmpty then .ok acc else
    match pCompute d f cur with
    | .ok (e, []) => .ok (acc ++ [e]) | .ok (_, _ :: _) => .error .parse | .error e => .error e
omit T in
theorem pSplit_succ (f : Nat) (acc : List Expr) (cur ts : List Tok) : pSplit d (f+1) acc cur ts =
    match ts with
    | [] => flushOf d f acc cur
    | t :: r => if t.equalsStr "," then (match flushOf d f acc cur with | .ok acc' => pSplit d f acc' [] r | .error e => .error e)
                else pSplit d f acc (cur ++ [t]) r := by
  cases ts <;> simp only [pSplit, flushOf] <;> rfl
theorem flushOf_rel (n : Nat) (ih : GenF d n) : ∀ x0 x1 y0 y1, geq (List.map (mapE T.m)) x0 y0 → GEL T.E x1 y1 →
    GEX (geq (List.map (mapE T.m))) (flushOf d n x0 x1) (flushOf d n y0 y1) := by
  intro acc cur acc' cur' h_acc h_cur
  unfold flushOf
  refine gex_ite (gel_isEmpty h_cur) (fun _ _ => gex_ok h_acc) fun _ _ => ?_
  rel_bind ih.pCompute cur cur' h_cur with e r e' r' h_e h_r
  obtain ⟨rfl, rfl⟩ | ⟨_, _, _, _, rfl, rfl, _, _⟩ := GEL.shape h_r
  · exact gex_ok (by grind)
  · exact gex_err
theorem gel_snoc {a a' : List Tok} {t t' : Tok} (h1 : GEL T.E a a') (h2 : T.E t t') : GEL T.E (a ++ [t]) (a' ++ [t']) :=
  gel_append h1 (by simp [h2])
grind_pattern gel_snoc => GEL T.E a a', T.E t t', a ++ [t]
theorem genF_pSplit (n : Nat) (ih : GenF d n) :
    ∀ x0 x1 x2 y0 y1 y2, geq (List.map (mapE T.m)) x0 y0 → GEL T.E x1 y1 → GEL T.E x2 y2 → GEX (geq (List.map (mapE T.m))) (pSplit d (n+1) x0 x1 x2) (pSplit d (n+1) y0 y1 y2) := by
  intro acc cur ts acc' cur' ts' h_acc h_cur h_ts
  rw [pSplit_succ, pSplit_succ]
  have h_fl := flushOf_rel d n ih acc cur acc' cur' h_acc h_cur
  obtain ⟨rfl, rfl⟩ | ⟨t, r, t', r', rfl, rfl, h_t, h_r⟩ := GEL.shape h_ts
  · exact h_fl
  dsimp only
  refine gex_ite (T.equalsStr h_t "," (T.plain_of _ (by decide))) (fun _ _ => ?_) fun _ _ => ?_
  · rel_bindx h_fl with a a' h_a
    exact ih.pSplit a [] r a' [] r' h_a (by simp) h_r
  exact ih.pSplit acc (cur ++ [t]) r acc' (cur' ++ [t']) r' h_acc (gel_snoc h_cur h_t) h_r
theorem unionBranches_rel : ∀ (us us' : List (String × Select)), us.map (Prod.map T.m (mapS T.m)) = us'.map (Prod.map T.m (mapS T.m)) →
    (us.map fun p => (p.1, setWiths p.2)).map (Prod.map T.m (mapS T.m)) = (us'.map fun p => (p.1, setWiths p.2)).map (Prod.map T.m (mapS T.m)) := by
  intro us
  induction us with
  | nil => intro us' h; cases us' <;> simp_all
  | cons a us ih =>
    intro us' h
    cases us' with
    | nil => simp at h
    | cons a' us' =>
      obtain ⟨n, s⟩ := a; obtain ⟨n', s'⟩ := a'
      simp only [List.map_cons, List.cons.injEq, Prod.map, Prod.mk.injEq] at h ⊢
      exact ⟨⟨h.1.1, setWiths_rel h.1.2⟩, ih us' h.2⟩
omit T in
theorem map_isEmpty_eq {α β : Type} (f : α → β) (a b : List α) (h : a.map f = b.map f) : a.isEmpty = b.isEmpty := by
  cases a <;> cases b <;> simp_all
theorem genF_pSelectStmt (n : Nat) (ih : GenF d n) :
    ∀ x0 x1 y0 y1, geq (Option.map (List.map (mapW T.m))) x0 y0 → GEL T.E x1 y1 → GER T.E (geq (mapQ T.m)) (pSelectStmt d (n+1) x0 x1) (pSelectStmt d (n+1) y0 y1) := by
  intro withs? ts withs?' ts' h_withs h_ts
  unfold pSelectStmt
  -- the WITH clause is given, or it is parsed now; then both runs go on alike
  obtain ⟨rfl, rfl⟩ | ⟨withs, withs', rfl, rfl, h_ws⟩ := optmap_shape _ _ _ h_withs <;> dsimp only
  case' inl => rel_bind ih.pWith ts ts' h_ts with withs r withs' r' h_ws h_r
  case' inr => have h_r := h_ts
  all_goals
    rel_bind ih.pSingle _ _ _ _ h_ws h_r with s r1 s' r1' h_s h_r1
    rel_bind ih.pUnions _ [] r1 _ [] r1' h_ws rfl h_r1 with us r2 us' r2' h_us h_r2
    refine ger_ite (map_isEmpty_eq _ _ _ h_us) (fun _ _ => ?_) fun _ _ => ?_
    · exact ger_ok (by simpa [mapQ] using h_s) h_r2
    exact ger_ok (by simp only [geq_def, mapQ_union, Option.map_some, setWiths_rel h_s, unionBranches_rel us us' h_us, show List.map (mapW T.m) _ = List.map (mapW T.m) _ from h_ws]) h_r2
theorem genF_pUnions (n : Nat) (ih : GenF d n) :
    ∀ x0 x1 x2 y0 y1 y2, geq (List.map (mapW T.m)) x0 y0 → geq (List.map (Prod.map T.m (mapS T.m))) x1 y1 → GEL T.E x2 y2 → GER T.E (geq (List.map (Prod.map T.m (mapS T.m)))) (pUnions d (n+1) x0 x1 x2) (pUnions d (n+1) y0 y1 y2) := by
  intro withs acc ts withs' acc' ts' h_withs h_acc h_ts
  unfold pUnions
  refine ger_ite (congrArg not (gel_setOpHead h_ts)) (fun _ _ => ger_ok h_acc h_ts) fun _ _ => ?_
  obtain ⟨hx, hy⟩ | ⟨ut, r, r', hx, hy, h_r⟩ := gel_firstEnum_union h_ts
  · simp only [hx, hy]; exact ger_err
  simp only [hx, hy]; clear hx hy
  rel_bind ih.pSingle withs r withs' r' h_withs h_r with s r1 s' r1' h_s h_r1
  exact ih.pUnions withs (acc ++ [(ut, s)]) r1 withs' (acc' ++ [(ut, s')]) r1' h_withs (by grind) h_r1

theorem genF_pTableExpr (n : Nat) (ih : GenF d n) :
    ∀ x0 y0, GEL T.E x0 y0 → GER T.E (geq (mapTR T.m)) (pTableExpr d (n+1) x0) (pTableExpr d (n+1) y0) := by
  intro ts ts' h_ts
  unfold pTableExpr
  rel_bindx headChildren_rel ts ts' h_ts with cs cs' h_cs
  refine ger_ite (gel_startsSelect h_cs) (fun _ _ => ?_) fun _ _ => ?_
  · rel_bind ih.pSubQuery ts ts' h_ts with x r x' r' h_x h_r
    -- both results are sub-queries, or neither is
    obtain ⟨q, q', rfl, rfl, h_q⟩ | ⟨h1, h2⟩ := mapE_subQuery_cases h_x
    · exact ger_ok (by simp [mapTR, h_q]) h_r
    · split
      · rename_i heq; cases heq; exact absurd rfl (h1 _)
      · split
        · rename_i heq; cases heq; exact absurd rfl (h2 _)
        · exact ger_err
        · rename_i heq; cases heq
      · rename_i heq; cases heq
  refine ger_ite (gel_searchMark h_ts PAREN) (fun _ _ => ?_) fun _ _ => ?_
  · rel_bindx closed_rel (ih.pTableExpr cs cs' h_cs) with t t' h_t
    exact ger_ok h_t (gel_drop h_ts 1)
  exact pTableName_rel ts ts' h_ts
end hand

end PM.Rel
