import MsqProofs.Lemmas.LexLinkAnyR2
/-!
# The lexer link for SET: configuration strings

`PR.prStmt` writes `SET name=value`, both strings verbatim.  The token-level printer `TR.toksCfg` splits a string at `.` and `-` when every
piece is a word (`hive.exec.dynamic-partition` : five tokens), and renders it as ONE token otherwise.  The lexer agrees in the first case
(`tk_plain` before `.`, `tk_plain_dash` before `-`, `tk_dot`, `tk_minus`), and in the second case exactly when the string IS one lexer token.
`cfgLex s` says which strings are covered at text level:

* every piece a plain word (`plainL`: a letter or `_`, then letters / digits / `_`), any number of `.` / `-` between them; or
* no separator-split and the string is a raw-source payload of the CREATE TABLE link (`LD.srcLex`: a digit string, a quoted string of the
  escape grammar, a back-quoted name, a plain word).

NOT covered at text level (token level: `C03.tset`): a decimal number (`0.5`: one float token for the lexer and for `toksCfg`, no lexer lemma
for floats here), and strings like `x-1.5`, which `toksCfg` renders as ONE token (the piece `1` is no word) but the lexer reads as `x`, `-`,
`1.5` — there the token rendering is not what the lexer makes of the printed text (the parser still rebuilds the same string from the
lexer's pieces; evaluated in Props/C03RL.lean).
-/
namespace LL2.Any
open Lex Spec C05 C06 C09 Ast TP TS LexLink TQ2

theorem bx_dash : tkIs ['b'] '-' (.single ['b'] Gen.mark_NAME) = true ∧ tkIs ['B'] '-' (.single ['B'] Gen.mark_NAME) = true ∧
    tkIs ['x'] '-' (.single ['x'] Gen.mark_NAME) = true ∧ tkIs ['X'] '-' (.single ['X'] Gen.mark_NAME) = true := by decide +kernel

theorem tk_plain_dash (a : List Char) (h : plainL a = true) : Tk a (.single a (wmL a)) '-' := by
  rcases plain_path a h with hp | ⟨c, rfl, hbx⟩
  · rw [← wordMark_plain a h]; exact tk_of_inword a hp '-' (by decide +kernel)
  · rcases hbx with rfl | rfl | rfl | rfl
    · rw [wmL_bx.1]; exact tk_of_is bx_dash.1
    · rw [wmL_bx.2.1]; exact tk_of_is bx_dash.2.1
    · rw [wmL_bx.2.2.1]; exact tk_of_is bx_dash.2.2.1
    · rw [wmL_bx.2.2.2]; exact tk_of_is bx_dash.2.2.2


def tailTxt : List (Bool × String) → List Char
  | [] => []
  | (dot, p) :: r => (if dot then '.' else '-') :: (p.toList ++ tailTxt r)
/-- `TR.cfgTail` with the word tokens spelled out -/
def cfgTailW : List (Bool × String) → List Tok
  | [] => []
  | (dot, p) :: r => ctok [if dot then '.' else '-'] :: .single p.toList (wmL p.toList) :: cfgTailW r

def cfgLex (s : String) : Prop :=
  (plainL (TR.cfgSplit s).1.toList = true ∧ ∀ x ∈ (TR.cfgSplit s).2, plainL x.2.toList = true) ∨
  ((TR.cfgSplit s).2 = [] ∧ LD.srcLex (TR.cfgSplit s).1 ∧ TR.isDecimal (TR.cfgSplit s).1 = false)

theorem isDecimal_plain (p : String) (h : plainL p.toList = true) : TR.isDecimal p = false := by
  cases hv : p.toList with
  | nil => rw [hv] at h; cases h
  | cons c r =>
    rw [hv] at h
    simp only [plainL, Bool.and_eq_true] at h
    have hnd := alpha_not_digit c h.1
    simp only [TR.isDecimal, hv, List.span, List.span.loop, hnd]
    split
    · rename_i a b heq
      simp only [Prod.mk.injEq] at heq
      obtain ⟨rfl, _⟩ := heq
      rfl
    · rfl

theorem cfgTok_plain (p : String) (h : plainL p.toList = true) : TR.cfgTok p = .single p.toList (wmL p.toList) := by
  simp only [TR.cfgTok, isDecimal_plain p h, Bool.false_eq_true, if_false, LD.srcMark_plain p h]

theorem cfgTail_plain : ∀ (more : List (Bool × String)), (∀ x ∈ more, plainL x.2.toList = true) → TR.cfgTail more = cfgTailW more
  | [], _ => rfl
  | (dot, p) :: r, h => by
    have ih := cfgTail_plain r fun x hx => h x (by simp [hx])
    have e : opTok (if dot then "." else "-") = ctok [if dot then '.' else '-'] := by
      cases dot <;> simp [opTok_eq, ctok]
    simp only [TR.cfgTail, cfgTailW, ih, cfgTok_plain p (h (dot, p) (by simp)), e]

theorem cfgJoin_toList : ∀ (more : List (Bool × String)) (w : String), (TR.cfgJoin w more).toList = w.toList ++ tailTxt more
  | [], w => by simp [TR.cfgJoin, tailTxt]
  | (dot, p) :: r, w => by
    rw [TR.cfgJoin, cfgJoin_toList r]
    cases dot <;> simp [tailTxt, String.toList_append]

/-- the pieces, each a plain word, in front of a text `b` that a plain word may be followed by -/
theorem lx_cfgWords (b : List Char) (tb : List Tok) (H : ∀ p : List Char, plainL p = true → Lx (p ++ b) (.single p (wmL p) :: tb)) :
    ∀ (more : List (Bool × String)) (w : List Char), plainL w = true → (∀ x ∈ more, plainL x.2.toList = true) →
      Lx (w ++ (tailTxt more ++ b)) (.single w (wmL w) :: (cfgTailW more ++ tb))
  | [], w, hw, _ => by simpa [tailTxt, cfgTailW] using H w hw
  | (dot, p) :: r, w, hw, h => by
    have hp := h (dot, p) (by simp)
    have ih := lx_cfgWords b tb H r p.toList hp fun x hx => h x (by simp [hx])
    cases hv : p.toList with
    | nil => rw [hv] at hp; cases hp
    | cons c r' =>
      rw [hv] at ih hp
      simp only [plainL, Bool.and_eq_true] at hp
      have hc : c ≠ '-' := by
        intro e; subst e; exact absurd hp.1 (by decide)
      cases dot with
      | true =>
        have h1 := Lx.prefix ih rfl (tk_dot c)
        have h2 := Lx.prefix h1 rfl (tk_plain w hw '.' (Or.inr rfl))
        exact Lx.congr h2 (by simp [tailTxt, hv]) (by simp [cfgTailW, hv])
      | false =>
        have h1 := Lx.prefix ih rfl (tk_minus c hc)
        have h2 := Lx.prefix h1 rfl (tk_plain_dash w hw)
        exact Lx.congr h2 (by simp [tailTxt, hv]) (by simp [cfgTailW, hv])

theorem lx_cfg (s : String) (hok : TR.cfgOK s = true) (hl : cfgLex s) (b : List Char) (tb : List Tok)
    (H : ∀ p : List Char, plainL p = true → Lx (p ++ b) (.single p (wmL p) :: tb))
    (Hs : ∀ x : String, LD.srcLex x → Lx (x.toList ++ b) (TD.srcTok x :: tb)) : Lx (s.toList ++ b) (TR.toksCfg s ++ tb) := by
  have hs : s.toList = (TR.cfgSplit s).1.toList ++ tailTxt (TR.cfgSplit s).2 := by
    have : TR.cfgJoin (TR.cfgSplit s).1 (TR.cfgSplit s).2 = s := by simpa [TR.cfgOK] using hok
    rw [← cfgJoin_toList, this]
  rcases hl with ⟨h1, h2⟩ | ⟨h1, h2, h3⟩
  · have := lx_cfgWords b tb H (TR.cfgSplit s).2 (TR.cfgSplit s).1.toList h1 h2
    rw [hs]
    exact Lx.congr this (by simp) (by simp [TR.toksCfg, cfgTok_plain _ h1, cfgTail_plain _ h2])
  · have := Hs (TR.cfgSplit s).1 h2
    rw [hs, h1]
    refine Lx.congr this (by simp [tailTxt]) ?_
    simp [TR.toksCfg, h1, TR.cfgTail, TR.cfgTok, h3, TD.srcTok]

theorem allP_plainL (p : String) (h : plainL p.toList = true) : allP p.toList = true := LD.allP_src p (Or.inr (Or.inr (Or.inr h)))

theorem allP_tailTxt : ∀ (more : List (Bool × String)), (∀ x ∈ more, plainL x.2.toList = true) → allP (tailTxt more) = true
  | [], _ => rfl
  | (dot, p) :: r, h => by
    have ih := allP_tailTxt r fun x hx => h x (by simp [hx])
    have hp := allP_plainL p (h (dot, p) (by simp))
    cases dot
    · exact LD.allP_cons (by decide) (LD.allP_app hp ih)
    · exact LD.allP_cons (by decide) (LD.allP_app hp ih)

theorem allP_cfg (s : String) (hok : TR.cfgOK s = true) (hl : cfgLex s) : allP s.toList = true := by
  have hs : s.toList = (TR.cfgSplit s).1.toList ++ tailTxt (TR.cfgSplit s).2 := by
    have : TR.cfgJoin (TR.cfgSplit s).1 (TR.cfgSplit s).2 = s := by simpa [TR.cfgOK] using hok
    rw [← cfgJoin_toList, this]
  rw [hs]
  rcases hl with ⟨h1, h2⟩ | ⟨h1, h2, _⟩
  · exact LD.allP_app (allP_plainL _ h1) (allP_tailTxt _ h2)
  · rw [h1]; simpa [tailTxt] using LD.allP_src _ h2

theorem cfg_ne_nil (s : String) (hok : TR.cfgOK s = true) (hl : cfgLex s) : s.toList ≠ [] := by
  have hs : s.toList = (TR.cfgSplit s).1.toList ++ tailTxt (TR.cfgSplit s).2 := by
    have : TR.cfgJoin (TR.cfgSplit s).1 (TR.cfgSplit s).2 = s := by simpa [TR.cfgOK] using hok
    rw [← cfgJoin_toList, this]
  rw [hs]
  rcases hl with ⟨h1, _⟩ | ⟨_, h2, _⟩
  · cases hv : (TR.cfgSplit s).1.toList with
    | nil => rw [hv] at h1; cases h1
    | cons c r => simp
  · have := LD.src_ne_nil _ h2
    cases hv : (TR.cfgSplit s).1.toList with
    | nil => exact absurd hv this
    | cons c r => simp

def setStmtL (c : ConfigStr) : List Char := "SET".toList ++ ' ' :: (c.name.toList ++ '=' :: c.value.toList)

theorem set_good (d : Gen.D) (c : ConfigStr) (hk : TR.cfgOK c.name = true) (hv : TR.cfgOK c.value = true) (lk : cfgLex c.name) (lv : cfgLex c.value) :
    Pc (setStmtL c) (TR.toksSet c) ∧ PR.prStmt d (.set c) = .ok (String.ofList (setStmtL c)) := by
  have hV : Lx c.value.toList (TR.toksCfg c.value) := by
    have := lx_cfg c.value hv lv [] [] (fun p hp => by simpa using lx_plain p hp) (fun x hx => by simpa using LD.lx_src x hx)
    simpa using this
  have hE : Lx ('=' :: c.value.toList) (TD.eqTok :: TR.toksCfg c.value) :=
    LD.Lx.pre (u := ['=']) hV (cfg_ne_nil c.value hv lv) LD.tk_eq
  have hN := lx_cfg c.name hk lk ('=' :: c.value.toList) (TD.eqTok :: TR.toksCfg c.value)
    (fun p hp => Lx.prefix hE rfl (LD.tk_plain_eq p hp)) (fun x hx => Lx.prefix hE rfl (LD.tk_src_eq x hx))
  refine ⟨⟨?_, ?_⟩, ?_⟩
  · have := Lx.sep (pc_w "SET" (by simp [restWords])).lx hN
    delta setStmtL TR.toksSet
    exact Lx.congr this rfl (by simp)
  · delta setStmtL
    exact plainKit.sp (pc_w "SET" (by simp [restWords])).q (plainKit.sep _ _ '=' (show C05.plain '=' = true by decide) (allP_cfg c.name hk lk) (allP_cfg c.value hv lv))
  · simp only [PR.prStmt]
    refine congrArg Except.ok (ofList_eq ?_)
    have e1 : ("SET " : String).toList = "SET".toList ++ [' '] := by simp
    have e2 : ("=" : String).toList = ['='] := rfl
    delta setStmtL
    simp only [toString, String.toList_append, e1, e2]
    simp only [List.append_assoc, List.cons_append, List.nil_append]

end LL2.Any
