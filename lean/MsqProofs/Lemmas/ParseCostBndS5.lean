import MsqProofs.Lemmas.ParseCostBndS3
import MsqProofs.Lemmas.ParseCostBndS4
/-! GENERATED by tools/gen_cost.py — C19 linear bound, statement level (Parse/Stmt.lean, `pStatements`), part 5 of 5: potential 250 * adqWL.  Written by hand: `pStatement_bnd2` (tools/hand/ParseCostBndS5.lean.in, put in by tools/hand_blocks.py) -/
set_option linter.unusedSimpArgs false
open Lex PM Ast
namespace PM

theorem pStatement_bnd2 (d : Gen.D) (f : Nat) (ts : List Tok) (κ : Nat) : (pStatement_k d f ts κ).1 + remS2 600 (pStatement_k d f ts κ).2 ≤ κ + 250 * adqWL ts + 479 := by
  have hD := cMove_le (searchTwoUp ts "SHOW" "DATABASES")
  have hT := cMove_le (searchTwoUp ts "SHOW" "TABLES")
  obtain ⟨κ', hκ⟩ : ∃ κ', κ' = κ + 9 + cMove (searchTwoUp ts "SHOW" "DATABASES") + cMove (searchTwoUp ts "SHOW" "TABLES") + 1 := ⟨_, rfl⟩
  have hW := pWith_bnd2 d f ts κ'
  -- after the WITH clause: what it has cost, and the potential its rest still holds
  have hw : ∀ withs r, (pWith_k d f ts κ').2 = .ok (withs, r) → (pWith_k d f ts κ').1 + 250 * adqWL r ≤ κ + 250 * adqWL ts + 19 := by
    intro withs r h; rw [h, rem2_ok] at hW; omega
  refine pStatement_k_cases (P := fun out => out.1 + remS2 600 out.2 ≤ κ + 250 * adqWL ts + 479) d f ts κ κ' hκ
    (fun _ => Nat.le_trans (pSet_bnd2 ts _) (by omega)) (fun _ => Nat.le_trans (pDelete_bnd2 d f ts _) (by omega))
    (fun _ => Nat.le_trans (pDropTable_bnd2 ts _) (by omega)) (fun _ => Nat.le_trans (pCreateTable_bnd2 d f ts _) (by omega))
    (fun _ => Nat.le_trans (pAnalyze_bnd2 d f ts _) (by omega)) (fun _ => Nat.le_trans (pAlter_bnd2 d f ts _) (by omega))
    (fun _ => Nat.le_trans (pMsck_bnd2 ts _) (by omega)) (fun _ => Nat.le_trans (pUse_bnd2 ts _) (by omega))
    (fun _ => Nat.le_trans (pTruncate_bnd2 ts _) (by omega))
    (fun h => by have : Lost (ts.drop 2) ts := searchTwoUp_lost ts _ _ 1 h; have := this.le; simp only [remS2_ok]; omega)
    (fun h => by have : Lost (ts.drop 2) ts := searchTwoUp_lost ts _ _ 1 h; have := this.le; simp only [remS2_ok]; omega)
    (fun _ => Nat.le_trans (pShowColumns_bnd2 d f ts _) (by omega))
    (fun e h => by simp only [remS2_error]; omega)
    (fun withs r e h hq => by
      have := hw withs r h; have := pSelectStmt_bnd2 d f (some withs) r ((pWith_k d f ts κ').1 + 1)
      rw [hq] at this; simp only [remS2_error] at *; omega)
    (fun withs r q r1 h hq => by
      have := hw withs r h; have := pSelectStmt_bnd2 d f (some withs) r ((pWith_k d f ts κ').1 + 1)
      rw [hq] at this; simp only [remS2_ok] at *; omega)
    (fun withs r h _ => by have := hw withs r h; have := pInsert_bnd2 d f (some withs) r ((pWith_k d f ts κ').1 + 2); omega)
    (fun withs r h _ => by have := hw withs r h; have := pUpdate_bnd2 d f (some withs) r ((pWith_k d f ts κ').1 + 3); omega)
    (fun withs r h => by have := hw withs r h; simp only [remS2_error]; omega)
grind_pattern pStatement_bnd2 => pStatement_k d f ts κ

theorem statementsLoop_bnd2 (d : Gen.D) (f : Nat) : ∀ x0 x1 x2 κ, (statementsLoop_k d f x0 x1 x2 κ).1 ≤ κ + 250 * adqWL x2 + 482 := by
  intro x0
  induction x0 with
  | zero => intro x1 x2 κ; simp only [statementsLoop_k, rem2_error]; omega
  | succ n ih =>
    intro x1 x2 κ
    generalize h : statementsLoop_k d f (n+1) x1 x2 κ = out
    unfold statementsLoop_k at h
    split_run2 <;> grind -funext (gen := 40) (instances := 20000) [adqWL_append, Lost]
grind_pattern statementsLoop_bnd2 => statementsLoop_k d f x0 x1 x2 κ

theorem pStatements_bnd2 (d : Gen.D) (f : Nat) (ts : List Tok) (κ : Nat) : (pStatements_k d f ts κ).1 ≤ κ + 250 * adqWL ts + 482 := by
  generalize h : pStatements_k d f ts κ = out
  unfold pStatements_k at h
  split_run2 <;> grind -funext (gen := 40) (instances := 20000) [adqWL_append, Lost]
grind_pattern pStatements_bnd2 => pStatements_k d f ts κ

end PM
