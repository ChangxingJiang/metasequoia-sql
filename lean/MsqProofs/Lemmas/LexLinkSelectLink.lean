import MsqProofs.Lemmas.LexLinkKits
/-!
# The lexer link for the single SELECT over the operator fragment (`TS.FragS`), on its own mirror `prSL`

A SELECT of `TS.FragS` is the query `.single s` of the nested fragment: `select_bridge` — the mirror `prSL` (the clause list of
`LexLinkSelectPrint.lean`) is the mirror `prQL`, and a predicate on payload items follows from hypotheses on the expressions and table
names (`PB`; instances: the leaf hypotheses `LeafS`, "no payload contains `==`" `noEqEqS`).  Hence `good_select`: the record of the
SELECT on ITS mirror and rendering at any kit, from `good_query`; `lx_prS`, `prS_text`, `plain_prSL`, `hive_pre_select` are its fields.
-/
open Lex PM Ast TP TS TQ LexLink
namespace LexLink
section
/-- a predicate `P` on payload items follows, on the single SELECT, from a hypothesis `pe` on its expressions and `pn` on its table names -/
structure PB (d : Gen.D) (P : LeafItem → Prop) (pe : Expr → Prop) (pn : String → Prop) : Prop where
  e : ∀ e, Frag d e = true → Leaf d e → pe e → On P (leavesE e)
  a : ∀ a, aliasLex a → P (.alias a)
  n : ∀ n, nameLex n → pn n → P (.tbl none n)

variable {d : Gen.D} {P : LeafItem → Prop} {pe : Expr → Prop} {pn : String → Prop} (B : PB d P pe pn)
include B

theorem eb (e : Expr) (hf : Frag d e = true) (hl : Leaf d e) (hp : pe e) : prE3L d e = prEL d e ∧ On P (leavesE e) :=
  ⟨(frag_bridge d (TP.sz e) e (Nat.le_refl _) hf hl).1, B.e e hf hl hp⟩

theorem alias_ok {a : Option String} (h : optAliasLex a) : On P (leavesAlias a) := by
  cases a with
  | none => simp [leavesAlias]
  | some a => simpa [leavesAlias] using B.a a h

theorem cols_bridge (cs : List (Expr × Option String)) (h : ∀ c ∈ cs, Frag d c.1 = true ∧ Leaf d c.1 ∧ optAliasLex c.2 ∧ pe c.1) :
    prColsLL d cs = cs.map (colL d) ∧ On P (leavesCols cs) := by
  induction cs with
  | nil => exact ⟨rfl, by simp [leavesCols]⟩
  | cons c cs ih =>
    obtain ⟨e, a⟩ := c
    obtain ⟨hf, hl, ha, hp⟩ := h (e, a) (by simp)
    obtain ⟨m, lv⟩ := eb B e hf hl hp
    obtain ⟨m2, lv2⟩ := ih fun c hc => h c (by simp [hc])
    refine ⟨by simp only [prColsLL, List.map_cons, colL, m, m2], ?_⟩
    simp only [leavesCols, on_append]
    exact ⟨lv, alias_ok B ha, lv2⟩

theorem table_bridge (t : FromTable) (h : tableOK t = true) (hl : tableLex t) (hn : okTable pn t) :
    tableL3 d t = tableL t ∧ On P (leavesTable t) := by
  obtain ⟨r, a⟩ := t
  cases r with
  | sub q => simp [tableOK] at h
  | table s n =>
    cases s with
    | some s => simp [tableOK] at h
    | none =>
      refine ⟨by simp [tableL3, refL, tblL, tableL, tblName], ?_⟩
      simp only [leavesTable, leavesRef, on_append, on_cons, on_nil, and_true]
      exact ⟨B.n n hl.1 hn, alias_ok B hl.2⟩

theorem tables_bridge (ts : List FromTable) (h : ts.all tableOK = true) (hl : ∀ t ∈ ts, tableLex t) (hn : ∀ t ∈ ts, okTable pn t) :
    tablesLL d ts = ts.map tableL ∧ On P (leavesTables ts) := by
  induction ts with
  | nil => exact ⟨rfl, by simp [leavesTables]⟩
  | cons t ts ih =>
    simp only [List.all_cons, Bool.and_eq_true] at h
    obtain ⟨m, lv⟩ := table_bridge B t h.1 (hl t (by simp)) (hn t (by simp))
    obtain ⟨m2, lv2⟩ := ih h.2 (fun x hx => hl x (by simp [hx])) fun x hx => hn x (by simp [hx])
    refine ⟨by simp only [tablesLL, List.map_cons, m, m2], ?_⟩
    simp only [leavesTables, on_append]
    exact ⟨lv, lv2⟩

theorem joins_bridge (js : List Join) (h : js.all (joinOK d) = true) (hl : ∀ j ∈ js, joinLex d j) (hn : ∀ j ∈ js, okJoin pe pn j) :
    joinsLL d js = (js.map (joinC d)).map (·.1) ∧ On P (leavesJoins js) := by
  induction js with
  | nil => exact ⟨rfl, by simp [leavesJoins]⟩
  | cons j js ih =>
    obtain ⟨ty, t, rule⟩ := j
    simp only [List.all_cons, joinOK, Bool.and_eq_true] at h
    have hj := hl (.mk ty t rule) (by simp)
    have hk := hn (.mk ty t rule) (by simp)
    obtain ⟨m, lv⟩ := table_bridge B t h.1.1.2 hj.1 hk.1
    obtain ⟨m2, lv2⟩ := ih h.2 (fun x hx => hl x (by simp [hx])) fun x hx => hn x (by simp [hx])
    have r : ruleL3 d rule = ruleL d rule ∧ On P (leavesRule rule) := by
      cases rule with
      | none => exact ⟨rfl, by simp [leavesRule]⟩
      | some r =>
        cases r with
        | on e =>
          obtain ⟨m3, lv3⟩ := eb B e (by simpa [ruleOK] using h.1.2) hj.2 hk.2
          have e1 : (" ON " : String).toList = ' ' :: ("ON".toList ++ [' ']) := rfl
          exact ⟨by simp [ruleL3, ruleL, m3, e1], by simpa [leavesRule] using lv3⟩
        | «using» u => simp [ruleOK] at h
    refine ⟨by simp only [joinsLL, joinL3, List.map_cons, joinC, m, m2, r.1], ?_⟩
    simp only [leavesJoins, leavesJoin, on_append]
    exact ⟨⟨lv, r.2⟩, lv2⟩

theorem list8_bridge (es : List Expr) (h : ∀ e ∈ es, Frag d e = true ∧ Leaf d e ∧ pe e) :
    prList8LL d es = es.map (keyL d) ∧ On P (leavesL es) := by
  induction es with
  | nil => exact ⟨rfl, by simp [leavesL]⟩
  | cons e es ih =>
    obtain ⟨m, lv⟩ := eb B e (h e (by simp)).1 (h e (by simp)).2.1 (h e (by simp)).2.2
    obtain ⟨m2, lv2⟩ := ih fun x hx => h x (by simp [hx])
    refine ⟨by simp only [prList8LL, List.map_cons, keyL, m, m2], ?_⟩
    simp only [leavesL, on_append]
    exact ⟨lv, lv2⟩

theorem ords_bridge (os : List OrderItem) (h : os.all (ordOK d) = true) (hl : ∀ o ∈ os, ordLeaf d o) (hn : ∀ o ∈ os, okOrd pe o) :
    ordLL d os = os.map (ordItemL d) ∧ On P (leavesOrdL os) := by
  induction os with
  | nil => exact ⟨rfl, by simp [leavesOrdL]⟩
  | cons o os ih =>
    obtain ⟨e, desc, nf, nl⟩ := o
    simp only [List.all_cons, ordOK, Bool.and_eq_true] at h
    obtain ⟨m, lv⟩ := eb B e h.1.1.1 (hl (.mk e desc nf nl) (by simp)) (hn (.mk e desc nf nl) (by simp))
    obtain ⟨m2, lv2⟩ := ih h.2 (fun x hx => hl x (by simp [hx])) fun x hx => hn x (by simp [hx])
    have e1 : (" DESC" : String).toList = ' ' :: "DESC".toList := rfl
    refine ⟨by simp only [ordLL, ordItemL3, List.map_cons, ordItemL, keyL, m, m2, e1], ?_⟩
    simp only [leavesOrdL, leavesOrdItem, on_append]
    exact ⟨lv, lv2⟩

theorem opt_bridge (kw : String) (o : Option Expr) (h : optFrag d o = true) (hl : optLeaf d o) (hn : okOpt pe o) :
    optLL d kw o = (optC d kw o).map (·.1) ∧ On P (leavesO o) := by
  cases o with
  | none => exact ⟨rfl, by simp [leavesO]⟩
  | some e =>
    obtain ⟨m, lv⟩ := eb B e h hl hn
    exact ⟨by simp only [optLL, optC, List.map_cons, List.map_nil, m], by simpa [leavesO] using lv⟩

theorem select_bridge (s : Select) (hs : FragS d s = true) (hl : LeafS d s) (hok : OkS pe pn s) :
    prQL d (.single s) = prSL d s ∧ On P (leavesQ (.single s)) := by
  obtain ⟨ws, dist, cols, fr, lats, js, wh, gb, hv, ob, sb, db, cb, lm⟩ := s
  cases ws with
  | none => simp [FragS] at hs
  | some w =>
  cases w with
  | cons a b => simp [FragS] at hs
  | nil =>
  cases cols with
  | nil => simp [FragS] at hs
  | cons c cs =>
  cases lats with
  | cons a b => simp [FragS] at hs
  | nil =>
  cases sb with
  | some a => simp [FragS] at hs
  | none =>
  cases db with
  | some a => simp [FragS] at hs
  | none =>
  cases cb with
  | some a => simp [FragS] at hs
  | none =>
  simp only [FragS, Bool.and_eq_true] at hs
  obtain ⟨⟨⟨⟨⟨⟨⟨⟨⟨hc, hcs⟩, _⟩, hfr⟩, hjs⟩, hwh⟩, hgb⟩, hhv⟩, hob⟩, _⟩ := hs
  obtain ⟨lc, lf, lj, lw, lg, lh, lo⟩ := hl
  obtain ⟨kc, kf, kj, kw, kg, kh, ko⟩ := hok
  have bc := cols_bridge B (c :: cs) (by
    intro x hx
    have hx' : colOKS d x = true := by
      rcases List.mem_cons.mp hx with rfl | hx
      · exact hc
      · exact List.all_eq_true.mp hcs x hx
    simp only [colOKS, Bool.and_eq_true] at hx'
    exact ⟨hx'.1, (lc x hx).1, (lc x hx).2, kc x hx⟩)
  have bf : fromLL d fr = (fromC fr).map (·.1) ∧ On P (leavesFrom fr) := by
    cases fr with
    | none => exact ⟨rfl, by simp [leavesFrom]⟩
    | some l =>
      cases l with
      | nil => simp [fromOK] at hfr
      | cons t ts =>
        have := tables_bridge B (t :: ts) (by simpa [fromOK] using hfr) (lf _ rfl) (kf _ rfl)
        simp only [tablesLL, List.map_cons] at this
        exact ⟨by simp only [fromLL, fromC, List.map_cons, List.map_nil, this.1], by simpa [leavesFrom] using this.2⟩
  have bj := joins_bridge B js hjs lj kj
  have bw := opt_bridge B "WHERE" wh hwh lw kw
  have bh := opt_bridge B "HAVING" hv hhv lh kh
  have bg : groupLL d gb = (groupC d gb).map (·.1) ∧ On P (leavesGroup gb) := by
    cases gb with
    | none => exact ⟨rfl, by simp [leavesGroup]⟩
    | some g =>
      obtain ⟨gc, sets, cube, rollup⟩ := g
      cases gc with
      | nil => simp [groupOK] at hgb
      | cons e es =>
        have hall : ∀ x ∈ e :: es, Frag d x = true ∧ Leaf d x ∧ pe x := by
          cases sets <;> cases cube <;> cases rollup <;> simp only [groupOK, Bool.and_eq_true] at hgb <;> try (cases hgb; done)
          intro x hx
          rcases List.mem_cons.mp hx with rfl | hx'
          · exact ⟨hgb.1.1, lg _ hx, kg _ hx⟩
          · exact ⟨List.all_eq_true.mp hgb.1.2 x hx', lg _ hx, kg _ hx⟩
        have := list8_bridge B (e :: es) hall
        simp only [prList8LL, List.map_cons] at this
        have e1 : ("GROUP BY" : String).toList = "GROUP".toList ++ ' ' :: "BY".toList := rfl
        exact ⟨by simp [groupLL, groupC, this.1, e1], by simpa [leavesGroup] using this.2⟩
  have bo : orderLL d ob = (orderC d ob).map (·.1) ∧ On P (leavesOrder ob) := by
    cases ob with
    | none => exact ⟨rfl, by simp [leavesOrder]⟩
    | some l =>
      cases l with
      | nil => simp [orderOK] at hob
      | cons o os =>
        have := ords_bridge B (o :: os) (by simpa [orderOK] using hob) lo ko
        simp only [ordLL, List.map_cons] at this
        have e1 : ("ORDER BY" : String).toList = "ORDER".toList ++ ' ' :: "BY".toList := rfl
        exact ⟨by simp [orderLL, orderC, this.1, e1], by simpa [leavesOrder] using this.2⟩
  refine ⟨?_, ?_⟩
  · simp only [prQL, prS3L, prSL, clauses, selC, List.map_cons, List.map_append, bc.1, bf.1, bj.1, bw.1, bg.1, bh.1, bo.1]
  · simp only [leavesQ, leavesS, on_append]
    exact ⟨bc.2, bf.2, bj.2, bw.2, bg.2, bh.2, bo.2⟩

omit B in
theorem pb_leaf : PB d (leafOK d) (fun _ => True) (fun _ => True) :=
  ⟨fun e hf hl _ => (frag_bridge d (TP.sz e) e (Nat.le_refl _) hf hl).2, fun _ h => h, fun _ h _ => ⟨trivial, h⟩⟩

omit B in
/-- … and no payload contains `==` if no expression and no table name does: an alias is a plain name -/
theorem pb_noEq : PB d noEqItem C01.noEqEq (fun n => C01.occ n.toList = false) := by
  refine ⟨fun e hf _ hq => noEq_bridge e hf hq, fun a ha => ?_, fun n _ h => by simpa [noEqItem, strs] using h⟩
  have hp : plainL a.toList = true := by rw [← isPlainName_plainL]; exact ha.1
  have : C01.occ a.toList = false := C01.occ_none _ fun x hx =>
    alnum_ne_eq x (by
      cases hc : a.toList with
      | nil => rw [hc] at hx; cases hx
      | cons c r =>
        rw [hc] at hp hx
        simp only [plainL, Bool.and_eq_true, List.all_eq_true] at hp
        rcases List.mem_cons.mp hx with rfl | hx
        · exact plainL_head _ hp.1
        · exact hp.2 x hx)
  simpa [noEqItem, strs] using this

omit B in
theorem oks_true (s : Select) : OkS (fun _ => True) (fun _ => True) s := by
  obtain ⟨ws, dist, cols, fr, lats, js, wh, gb, hv, ob, sb, db, cb, lm⟩ := s
  refine ⟨fun _ _ => trivial, fun _ _ t _ => by cases t; trivial, fun j _ => ?_, by cases wh <;> trivial, ?_, by cases hv <;> trivial, ?_⟩
  · obtain ⟨_, t, r⟩ := j
    exact ⟨by cases t; trivial, by cases r with | none => trivial | some r => cases r <;> trivial⟩
  · cases gb with
    | none => trivial
    | some g => cases g; exact fun _ _ => trivial
  · cases ob with
    | none => trivial
    | some l => exact fun o _ => by cases o; trivial

end

theorem good_select (d : Gen.D) (K : QKit) (s : Select) (hs : FragS d s = true) (hl : LeafS d s)
    (hK : On (leafOK d) (leavesQ (.single s)) → On K.item (leavesQ (.single s))) :
    Lx (prSL d s) (toksS d s) ∧ PR.prS d s = .ok (String.ofList (prSL d s)) ∧ K.Q (prSL d s) := by
  obtain ⟨hm, hlv⟩ := select_bridge pb_leaf s hs hl (oks_true s)
  obtain ⟨hq, ht⟩ := C03.fragS_sub_query d s hs
  have g := good_query d K (.single s) hq fun x hx => ⟨hlv x hx, hK hlv x hx⟩
  rw [← hm, ← ht]
  exact ⟨g.lx, by simpa [PR.prQ] using g.pr, g.q⟩

theorem lx_prS (d : Gen.D) (s : Select) (hs : FragS d s = true) (hl : LeafS d s) : Lx (prSL d s) (toksS d s) :=
  (good_select d plainKit s hs hl plain_items).1
theorem prS_text (d : Gen.D) (s : Select) (hs : FragS d s = true) (hl : LeafS d s) :
    PR.prS d s = .ok (String.ofList (prSL d s)) :=
  (good_select d plainKit s hs hl plain_items).2.1
theorem plain_prSL (d : Gen.D) (s : Select) (hs : FragS d s = true) (hl : LeafS d s) : allP (prSL d s) = true :=
  (good_select d plainKit s hs hl plain_items).2.2

/-- the Hive pre-pass (`==` → `=`, a whole-text replacement) leaves the printed SELECT alone unless a payload contains `==` -/
theorem hive_pre_select (s : Select) (hs : FragS .HIVE s = true) (hl : LeafS .HIVE s) (hq : noEqEqS s) :
    PM.dialectPre .HIVE (prSL .HIVE s) = prSL .HIVE s :=
  C01.hivePre_no_occ _ (good_select .HIVE occKit s hs hl fun _ => (select_bridge pb_noEq s hs hl hq).2).2.2

end LexLink
