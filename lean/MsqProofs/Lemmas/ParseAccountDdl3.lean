import MsqProofs.Lemmas.ParseAccountDdl2
/-!
# C08, general accounting for the DDL classes — part 3: column definitions (`defColLoop`, `pDefCol`, `pColOrIdx`)

The attribute loop OVERWRITES a repeated attribute (finding F-C08-4: `a int DEFAULT 1 DEFAULT 2` loses `1`).  The accounting
statement therefore carries a hypothesis on the CONSUMED RUN of tokens `used` (the column definition as the parser delimits it):

  `AttrOK c used`: each of the six attribute keywords that store text — `CHARACTER` (SET), `COLLATE`, `DEFAULT`, `COMMENT`,
  (ON) `UPDATE`, `GENERATED` — occurs at most once among the top-level tokens of `used` (and not at all when the accumulator
  `c` has the attribute already).  For the empty accumulator of `pDefCol`: `NoRep used` = every count ≤ 1.

`AttrOK` is `Once` over the enumeration `AttrKey` of the six attributes (`attrOK_iff`); the loop is `attrLoop` over the one-attribute parser
`defColAttr` (`defColLoop_eq`, `ParseSteps.lean`), so the statement about the loop (`defColLoop_acc`) is `attrLoop_acc` once `defColAttr_step`
says, attribute by attribute, that `defColAttr` makes a `Step`.  The option loop of `ParseAccountDdl4.lean` goes the same way.

The flags (`NOT NULL`, `NULL`, `AUTO_INCREMENT`, `UNSIGNED`, `ZEROFILL`) may repeat: they store no text, the words are grammar words.
The count is over ALL top-level tokens of the run (also those inside a DEFAULT expression), so the hypothesis is slightly stronger
than "no attribute is assigned twice" (`DEFAULT comment COMMENT 'x'` is excluded although nothing is lost there).
-/
set_option linter.unusedVariables false
set_option linter.unusedSimpArgs false
open Lex PM Ast

namespace PA
namespace Ddl

def cnt (k : String) (us : List Tok) : Nat := us.countP (fun t => t.srcEqUp k)
theorem cnt_append (k : String) (a b : List Tok) : cnt k (a ++ b) = cnt k a + cnt k b := by simp [cnt, List.countP_append]
theorem cnt_pos {k : String} {us : List Tok} (h : ∃ t ∈ us, t.srcEqUp k = true) : 1 ≤ cnt k us := by
  obtain ⟨t, ht, hk⟩ := h
  exact List.countP_pos_iff.2 ⟨t, ht, hk⟩
def b2n (b : Bool) : Nat := if b then 1 else 0

/-! ### slots that a loop fills and a repeated keyword would overwrite
The count invariants of both loops (`AttrOK`, `CntO`) say the same of every slot `k` of the record: its word occurs at most once in the
run, and not at all once the slot is filled.  With the slots as an enumeration that is one statement, and filling a slot one lemma. -/
section slots
variable {σ ι : Type} (word : ι → String) (filled : ι → σ → Bool)
def Once (c : σ) (us : List Tok) : Prop := ∀ k, cnt (word k) us + b2n (filled k c) ≤ 1
variable {word filled}
theorem Once.mono {c : σ} {a b : List Tok} (h : Once word filled c (a ++ b)) : Once word filled c b := fun k => by
  have := h k; rw [cnt_append] at this; omega
/-- At a call `word` and `filled` are given explicitly: left to unification they are found by comparing string literals. -/
theorem Once.fill [DecidableEq ι] {c c2 : σ} {a m b : List Tok} (k : ι) (hk : ∃ t ∈ a, t.srcEqUp (word k) = true)
    (hc2 : ∀ j, filled j c2 = (decide (j = k) || filled j c)) (h : Once word filled c (a ++ (m ++ b))) :
    filled k c = false ∧ Once word filled c2 b := by
  have hp := cnt_pos hk
  have hk := h k
  simp only [cnt_append] at hk
  refine ⟨by cases hf : filled k c <;> simp [hf, b2n] at hk ⊢; omega, fun j => ?_⟩
  have hj := h j
  simp only [cnt_append] at hj
  rw [hc2 j]
  by_cases e : j = k
  · subst e; simp [b2n] at hj ⊢; omega
  · simp [e]; omega
end slots

def AttrOK (c : DefCol) (us : List Tok) : Prop :=
  cnt "CHARACTER" us + b2n c.charset.isSome ≤ 1 ∧ cnt "COLLATE" us + b2n c.collate.isSome ≤ 1 ∧
  cnt "DEFAULT" us + b2n c.default.isSome ≤ 1 ∧ cnt "COMMENT" us + b2n c.comment.isSome ≤ 1 ∧
  cnt "UPDATE" us + b2n c.onUpdate.isSome ≤ 1 ∧ cnt "GENERATED" us + b2n c.generated.isSome ≤ 1
def NoRep (us : List Tok) : Bool :=
  decide (cnt "CHARACTER" us ≤ 1) && decide (cnt "COLLATE" us ≤ 1) && decide (cnt "DEFAULT" us ≤ 1) && decide (cnt "COMMENT" us ≤ 1) &&
  decide (cnt "UPDATE" us ≤ 1) && decide (cnt "GENERATED" us ≤ 1)
theorem NoRep_sfx {a b : List Tok} (h : NoRep (a ++ b) = true) : NoRep b = true := by
  simp only [NoRep, Bool.and_eq_true, decide_eq_true_eq, cnt_append] at h ⊢
  omega
theorem NoRep_pfx {a b : List Tok} (h : NoRep (a ++ b) = true) : NoRep a = true := by
  simp only [NoRep, Bool.and_eq_true, decide_eq_true_eq, cnt_append] at h ⊢
  omega

inductive AttrKey | charset | collate | default | comment | onUpdate | generated
  deriving DecidableEq
def AttrKey.word : AttrKey → String
  | .charset => "CHARACTER" | .collate => "COLLATE" | .default => "DEFAULT" | .comment => "COMMENT" | .onUpdate => "UPDATE" | .generated => "GENERATED"
def AttrKey.filled : AttrKey → DefCol → Bool
  | .charset, c => c.charset.isSome | .collate, c => c.collate.isSome | .default, c => c.default.isSome | .comment, c => c.comment.isSome
  | .onUpdate, c => c.onUpdate.isSome | .generated, c => c.generated.isSome
theorem attrOK_iff (c : DefCol) (us : List Tok) : AttrOK c us ↔ Once AttrKey.word AttrKey.filled c us :=
  ⟨fun ⟨h1, h2, h3, h4, h5, h6⟩ k => match k with
    | .charset => h1 | .collate => h2 | .default => h3 | .comment => h4 | .onUpdate => h5 | .generated => h6,
   fun h => ⟨h .charset, h .collate, h .default, h .comment, h .onUpdate, h .generated⟩⟩
theorem attr_mono {c : DefCol} {a b : List Tok} (h : AttrOK c (a ++ b)) : AttrOK c b :=
  (attrOK_iff _ _).2 ((attrOK_iff _ _).1 h).mono
theorem none_of {α : Type} {o : Option α} (h : o.isSome = false) : o = none := by simpa using h

theorem searchStrUp_head {ts : List Tok} {k : String} (h : searchStrUp ts k = true) : ∃ t, ts = t :: ts.drop 1 ∧ t.srcEqUp k = true := by
  cases ts with
  | nil => simp [searchStrUp] at h
  | cons t r => exact ⟨t, by simp, by simpa [searchStrUp] using h⟩
theorem searchTwoUp_head {ts : List Tok} {a b : String} (h : searchTwoUp ts a b = true) :
    ∃ x y, ts = x :: y :: ts.drop 2 ∧ x.srcEqUp a = true ∧ y.srcEqUp b = true := by
  rcases ts with _ | ⟨x, _ | ⟨y, r⟩⟩ <;> simp only [searchTwoUp, Bool.and_eq_true, Bool.false_eq_true] at h
  exact ⟨x, y, by simp, h.1, h.2⟩
theorem searchThreeUp_head {ts : List Tok} {a b c : String} (h : searchThreeUp ts a b c = true) :
    ∃ x y z, ts = x :: y :: z :: ts.drop 3 ∧ x.srcEqUp a = true ∧ y.srcEqUp b = true ∧ z.srcEqUp c = true := by
  rcases ts with _ | ⟨x, _ | ⟨y, _ | ⟨z, r⟩⟩⟩ <;> simp only [searchThreeUp, Bool.and_eq_true, Bool.false_eq_true] at h
  exact ⟨x, y, z, by simp, h.1.1, h.1.2, h.2⟩
theorem searchStrUp_kws {ts : List Tok} {k : String} (h : searchStrUp ts k = true) (hk : kwOk k = true) :
    ∃ kws, ts = kws ++ ts.drop 1 ∧ (∀ t ∈ kws, KwTok t = true) ∧ (∃ t ∈ kws, t.srcEqUp k = true) := by
  obtain ⟨x, e, hx⟩ := searchStrUp_head h
  exact ⟨[x], by simpa using e, by simp; exact srcEqUp_kw hx hk, ⟨x, by simp, hx⟩⟩
theorem searchTwoUp_kws {ts : List Tok} {a b : String} (h : searchTwoUp ts a b = true) (ha : kwOk a = true) (hb : kwOk b = true) :
    ∃ kws, ts = kws ++ ts.drop 2 ∧ (∀ t ∈ kws, KwTok t = true) ∧ (∃ t ∈ kws, t.srcEqUp a = true) ∧ (∃ t ∈ kws, t.srcEqUp b = true) := by
  obtain ⟨x, y, e, hx, hy⟩ := searchTwoUp_head h
  exact ⟨[x, y], by simpa using e, by simp; exact ⟨srcEqUp_kw hx ha, srcEqUp_kw hy hb⟩, ⟨x, by simp, hx⟩, ⟨y, by simp, hy⟩⟩
theorem searchThreeUp_kws {ts : List Tok} {a b c : String} (h : searchThreeUp ts a b c = true) (ha : kwOk a = true) (hb : kwOk b = true) (hc : kwOk c = true) :
    ∃ kws, ts = kws ++ ts.drop 3 ∧ (∀ t ∈ kws, KwTok t = true) ∧ (∃ t ∈ kws, t.srcEqUp a = true) ∧ (∃ t ∈ kws, t.srcEqUp b = true) ∧
      (∃ t ∈ kws, t.srcEqUp c = true) := by
  obtain ⟨x, y, z, e, hx, hy, hz⟩ := searchThreeUp_head h
  exact ⟨[x, y, z], by simpa using e, by simp; exact ⟨srcEqUp_kw hx ha, srcEqUp_kw hy hb, srcEqUp_kw hz hc⟩,
    ⟨x, by simp, hx⟩, ⟨y, by simp, hy⟩, ⟨z, by simp, hz⟩⟩
theorem acc3_cancel {T : List String} {u r : List Tok} (h : Acc3 T (u ++ r) r) : AccAll T u := by
  obtain ⟨w, e, hw⟩ := h
  have := List.append_cancel_right e; subst this; exact hw
/-- an `AR` lemma and the consumption lemma of the same function: the consumed run, and its accounting -/
theorem ar_used {T : List String} {α : Type} {tx : α → List String} {pl : α → Bool} {cur : List Tok} {pre : List String} {ppl : Bool}
    {a : R α} {v : α} {r1 : List Tok} (hAR : AR T tx pl cur pre ppl a) (h : a = .ok (v, r1)) (hc : ∃ u, cur = u ++ r1) :
    ∃ u1, cur = u1 ++ r1 ∧ (pl v = true → Sub (tx v) T → AccAll T u1) := by
  obtain ⟨u, e⟩ := hc
  refine ⟨u, e, fun hp hs => ?_⟩
  have := ((hAR v r1 h hp).2 hs).1
  rw [e] at this; exact acc3_cancel this
theorem accAll_kws {T : List String} {kws : List Tok} (h : ∀ t ∈ kws, KwTok t = true) : AccAll T kws := fun t ht => .kw (h t ht)

macro "txd" : tactic =>
  `(tactic| (simp only [tDC_eq, tOS_none, tOS_some, tOGC_none, tOGC_some, tOpt_none, tOpt_some, sub_append, sub_cons, sub_nil, FullDC, FullOGC, FullO,
      Bool.and_eq_true] at *; grind))
theorem tx_charset {T : List String} {c : DefCol} (s : String) (hn : c.charset = none) (hs : Sub (tDC { c with charset := some s }) T) :
    s ∈ T ∧ Sub (tDC c) T := by
  rw [tDC_eq] at hs; rw [tDC_eq c]; simp only [hn] at hs ⊢; txd
theorem tx_collate {T : List String} {c : DefCol} (s : String) (hn : c.collate = none) (hs : Sub (tDC { c with collate := some s }) T) :
    s ∈ T ∧ Sub (tDC c) T := by
  rw [tDC_eq] at hs; rw [tDC_eq c]; simp only [hn] at hs ⊢; txd
theorem tx_comment {T : List String} {c : DefCol} (s : String) (hn : c.comment = none) (hs : Sub (tDC { c with comment := some s }) T) :
    s ∈ T ∧ Sub (tDC c) T := by
  rw [tDC_eq] at hs; rw [tDC_eq c]; simp only [hn] at hs ⊢; txd
theorem tx_default {T : List String} {c : DefCol} (e : Expr) (hn : c.default = none) (hs : Sub (tDC { c with default := some e }) T) :
    Sub (tE e) T ∧ Sub (tDC c) T := by
  rw [tDC_eq] at hs; rw [tDC_eq c]; simp only [hn] at hs ⊢; txd
theorem fl_default {c : DefCol} (e : Expr) (hn : c.default = none) (hf : FullDC { c with default := some e } = true) :
    FullE e = true ∧ FullDC c = true := by
  simp only [FullDC, hn, FullO, Bool.and_eq_true] at hf ⊢; grind
theorem tx_onUpdate {T : List String} {c : DefCol} (e : Expr) (hn : c.onUpdate = none) (hs : Sub (tDC { c with onUpdate := some e }) T) :
    Sub (tE e) T ∧ Sub (tDC c) T := by
  rw [tDC_eq] at hs; rw [tDC_eq c]; simp only [hn] at hs ⊢; txd
theorem fl_onUpdate {c : DefCol} (e : Expr) (hn : c.onUpdate = none) (hf : FullDC { c with onUpdate := some e } = true) :
    FullE e = true ∧ FullDC c = true := by
  simp only [FullDC, hn, FullO, Bool.and_eq_true] at hf ⊢; grind
theorem tx_generated {T : List String} {c : DefCol} (e : GenCol) (hn : c.generated = none) (hs : Sub (tDC { c with generated := some e }) T) :
    Sub (tOGC (some e)) T ∧ Sub (tDC c) T := by
  rw [tDC_eq] at hs; rw [tDC_eq c]; simp only [hn] at hs ⊢; txd
theorem fl_generated {c : DefCol} (e : GenCol) (hn : c.generated = none) (hf : FullDC { c with generated := some e } = true) :
    FullOGC (some e) = true ∧ FullDC c = true := by
  simp only [FullDC, hn, FullOGC, Bool.and_eq_true] at hf ⊢; grind

/-! ### the attribute loops
Both loops (`defColLoop`, `createOpts`) have the shape `attrLoop` (`ParseSteps.lean`): a stop test, else one attribute that says how the
record changes (`u`) and what it consumed (`u1`), then the loop again.  What the accounting statement says of a run of such a loop (`Q`) follows,
by one induction, from what it asks of one attribute (`Step`): the invariant `I` on the consumed run passes to the changed record on the rest,
the fragment `F` and the texts `tx` of the record before are those of the record after, and `u1` is accounted for (`A`). -/
section loop
variable {σ : Type} (T : List String) (I : σ → List Tok → Prop) (F : σ → Bool) (tx : σ → List String) (A : List Tok → Prop)
def Q (c : σ) (ts : List Tok) (c' : σ) (r : List Tok) : Prop :=
  ∃ used, ts = used ++ r ∧ (I c used → F c' = true → F c = true ∧ (Sub (tx c') T → A used ∧ Sub (tx c) T))
def Step (u : σ → σ) (u1 : List Tok) : Prop :=
  ∀ c u2, I c (u1 ++ u2) → I (u c) u2 ∧ (F (u c) = true → F c = true ∧ (Sub (tx (u c)) T → A u1 ∧ Sub (tx c) T))
variable {T I F tx A}
theorem Q.step {c c2 c' : σ} {ts u1 r1 r : List Tok} (hA : ∀ a b, A a → A b → A (a ++ b)) (hts : ts = u1 ++ r1)
    (hb : ∀ u2, I c (u1 ++ u2) → I c2 u2 ∧ (F c2 = true → F c = true ∧ (Sub (tx c2) T → A u1 ∧ Sub (tx c) T)))
    (ih : Q T I F tx A c2 r1 c' r) : Q T I F tx A c ts c' r := by
  obtain ⟨u2, e2, k⟩ := ih
  refine ⟨u1 ++ u2, by simp [hts, e2], fun hI hF => ?_⟩
  obtain ⟨hI2, k1⟩ := hb u2 hI
  obtain ⟨f2, k2⟩ := k hI2 hF
  obtain ⟨fc, k3⟩ := k1 f2
  refine ⟨fc, fun hT => ?_⟩
  obtain ⟨a2, s2⟩ := k2 hT
  obtain ⟨a1, s1⟩ := k3 s2
  exact ⟨hA _ _ a1 a2, s1⟩
theorem attrLoop_acc (stop : List Tok → Bool) (attr : List Tok → R (σ → σ)) (hA0 : A []) (hA : ∀ a b, A a → A b → A (a ++ b))
    (hattr : ∀ ts u r, attr ts = .ok (u, r) → ∃ u1, ts = u1 ++ r ∧ Step T I F tx A u u1) :
    ∀ g c ts c' r, attrLoop stop attr g c ts = .ok (c', r) → Q T I F tx A c ts c' r := by
  intro g
  induction g with
  | zero => intro c ts c' r h; simp [attrLoop] at h
  | succ g ih =>
    intro c ts c' r
    refine attrLoop_cases (P := fun x => x = .ok (c', r) → Q T I F tx A c ts c' r) stop attr g c ts ?_ ?_ ?_
    · intro _ h; simp only [Except.ok.injEq, Prod.mk.injEq] at h; obtain ⟨rfl, rfl⟩ := h
      exact ⟨[], by simp, fun _ hf => ⟨hf, fun hs => ⟨hA0, hs⟩⟩⟩
    · intro e _ _ h; cases h
    · intro u r1 _ ha h
      obtain ⟨u1, e, hs⟩ := hattr ts u r1 ha
      exact Q.step hA e (hs c) (ih _ _ _ _ h)
end loop

def QD (T : List String) (c : DefCol) (ts : List Tok) (c' : DefCol) (r : List Tok) : Prop :=
  ∃ used, ts = used ++ r ∧ (AttrOK c used → FullDC c' = true → FullDC c = true ∧ (Sub (tDC c') T → AccAll T used ∧ Sub (tDC c) T))
theorem accAll_app {T : List String} (a b : List Tok) (ha : AccAll T a) (hb : AccAll T b) : AccAll T (a ++ b) := by
  rw [accAll_append]; exact ⟨ha, hb⟩

/-- the single step of `attrLoop_acc` for the attribute loop, in the form the property's text cites (the loop lemma itself goes through `Q.step`) -/
theorem qd_step {T : List String} {c c2 c' : DefCol} {ts kws u1 r1 r : List Tok} (hts : ts = kws ++ (u1 ++ r1))
    (hb : ∀ u2, AttrOK c (kws ++ (u1 ++ u2)) → AttrOK c2 u2 ∧
      (FullDC c2 = true → FullDC c = true ∧ (Sub (tDC c2) T → AccAll T (kws ++ u1) ∧ Sub (tDC c) T)))
    (ih : QD T c2 r1 c' r) : QD T c ts c' r :=
  Q.step accAll_app (by simpa using hts) (fun u2 h => hb u2 (by simpa using h)) ih

abbrev StepD (T : List String) := Step T AttrOK FullDC tDC (AccAll T)
theorem step_flag {T : List String} {u : DefCol → DefCol} {ts kws r : List Tok} (e : ts = kws ++ r) (hkw : ∀ t ∈ kws, KwTok t = true)
    (hI : ∀ c us, AttrOK (u c) us = AttrOK c us) (hF : ∀ c, FullDC (u c) = FullDC c) (htx : ∀ c, tDC (u c) = tDC c) :
    ∃ u1, ts = u1 ++ r ∧ StepD T u u1 :=
  ⟨kws, e, fun c u2 h => ⟨by rw [hI]; exact attr_mono h, fun hf => ⟨hF c ▸ hf, fun hs => ⟨accAll_kws hkw, htx c ▸ hs⟩⟩⟩⟩
theorem step_slot {T : List String} {u : DefCol → DefCol} {kws u1 : List Tok} (k : AttrKey) (Fx : Bool) (x : List String)
    (hkw : ∀ t ∈ kws, KwTok t = true) (hkey : ∃ t ∈ kws ++ u1, t.srcEqUp k.word = true) (hu1 : Fx = true → Sub x T → AccAll T u1)
    (hc2 : ∀ c j, j.filled (u c) = (decide (j = k) || j.filled c))
    (hF : ∀ c, k.filled c = false → FullDC (u c) = true → Fx = true ∧ FullDC c = true)
    (htx : ∀ c, k.filled c = false → Sub (tDC (u c)) T → Sub x T ∧ Sub (tDC c) T) : StepD T u (kws ++ u1) := by
  intro c u2 h
  rw [attrOK_iff] at h ⊢
  obtain ⟨hn, h2⟩ := Once.fill (word := AttrKey.word) (filled := AttrKey.filled) (m := []) k hkey (hc2 c) (by simpa using h)
  refine ⟨h2, fun hf => ?_⟩
  obtain ⟨f1, f2⟩ := hF c hn hf
  refine ⟨f2, fun hs => ?_⟩
  obtain ⟨s1, s2⟩ := htx c hn hs
  exact ⟨accAll_app _ _ (accAll_kws hkw) (hu1 f1 s1), s2⟩
theorem mem_left {P : Tok → Prop} {a b : List Tok} : (∃ t ∈ a, P t) → ∃ t ∈ a ++ b, P t := fun ⟨t, h, p⟩ => ⟨t, List.mem_append_left _ h, p⟩

theorem defColAttr_step (T : List String) (d : Gen.D) (f : Nat) (ts : List Tok) (u : DefCol → DefCol) (r : List Tok)
    (h : defColAttr d f ts = .ok (u, r)) : ∃ u1, ts = u1 ++ r ∧ StepD T u u1 := by
  have hF := accA_all d T f
  have str : ∀ t : Tok, Sub [t.src] T → AccAll T [t] := fun t hs => by
    simpa [AccAll] using Acc.text (t := t) (by simpa [sub_cons, sub_nil] using hs)
  unfold defColAttr at h
  peel_if h with hcnd
  · obtain ⟨kws, e, hkw, _⟩ := searchTwoUp_kws hcnd kwOk_NOT kwOk_NULL
    simp only [Except.ok.injEq, Prod.mk.injEq] at h; obtain ⟨rfl, rfl⟩ := h
    exact step_flag e hkw (fun _ _ => rfl) (fun _ => rfl) (fun c => by rw [tDC_eq, tDC_eq c])
  peel_if h with hcnd
  · obtain ⟨kws, e, hkw, _⟩ := searchStrUp_kws hcnd kwOk_NULL
    simp only [Except.ok.injEq, Prod.mk.injEq] at h; obtain ⟨rfl, rfl⟩ := h
    exact step_flag e hkw (fun _ _ => rfl) (fun _ => rfl) (fun c => by rw [tDC_eq, tDC_eq c])
  peel_if h with hcnd
  · -- CHARACTER SET s
    obtain ⟨kws, e, hkw, hkey, _⟩ := searchTwoUp_kws hcnd kwOk_CHARACTER kwOk_SET
    split at h
    · rename_i s r1 hp
      simp only [Except.ok.injEq, Prod.mk.injEq] at h; obtain ⟨rfl, rfl⟩ := h
      obtain ⟨t, e1, rfl⟩ := popSrc_ok hp
      exact ⟨kws ++ [t], by rw [e, e1]; simp, step_slot .charset true [t.src] hkw (mem_left hkey) (fun _ => str t)
        (fun c j => by cases j <;> rfl) (fun c _ hf => ⟨rfl, hf⟩) (fun c hn hs => by simpa [sub_cons, sub_nil] using tx_charset t.src (none_of hn) hs)⟩
    · simp at h
  peel_if h with hcnd
  · -- COLLATE s
    obtain ⟨kws, e, hkw, hkey⟩ := searchStrUp_kws hcnd kwOk_COLLATE
    split at h
    · rename_i s r1 hp
      simp only [Except.ok.injEq, Prod.mk.injEq] at h; obtain ⟨rfl, rfl⟩ := h
      obtain ⟨t, e1, rfl⟩ := popSrc_ok hp
      exact ⟨kws ++ [t], by rw [e, e1]; simp, step_slot .collate true [t.src] hkw (mem_left hkey) (fun _ => str t)
        (fun c j => by cases j <;> rfl) (fun c _ hf => ⟨rfl, hf⟩) (fun c hn hs => by simpa [sub_cons, sub_nil] using tx_collate t.src (none_of hn) hs)⟩
    · simp at h
  peel_if h with hcnd
  · -- DEFAULT e
    obtain ⟨kws, e, hkw, hkey⟩ := searchStrUp_kws hcnd kwOk_DEFAULT
    split at h
    · rename_i v r1 hp
      simp only [Except.ok.injEq, Prod.mk.injEq] at h; obtain ⟨rfl, rfl⟩ := h
      obtain ⟨u1, e1, ha⟩ := ar_used (hF.pCompute _) hp (pCompute_consumes d f _ _ _ hp)
      exact ⟨kws ++ u1, by rw [e, e1]; simp, step_slot .default (FullE v) (tE v) hkw (mem_left hkey) ha
        (fun c j => by cases j <;> rfl) (fun c hn hf => fl_default v (none_of hn) hf) (fun c hn hs => tx_default v (none_of hn) hs)⟩
    · simp at h
  peel_if h with hcnd
  · -- COMMENT s
    obtain ⟨kws, e, hkw, hkey⟩ := searchStrUp_kws hcnd kwOk_COMMENT
    split at h
    · rename_i s r1 hp
      simp only [Except.ok.injEq, Prod.mk.injEq] at h; obtain ⟨rfl, rfl⟩ := h
      obtain ⟨t, e1, rfl⟩ := popSrc_ok hp
      exact ⟨kws ++ [t], by rw [e, e1]; simp, step_slot .comment true [t.src] hkw (mem_left hkey) (fun _ => str t)
        (fun c j => by cases j <;> rfl) (fun c _ hf => ⟨rfl, hf⟩) (fun c hn hs => by simpa [sub_cons, sub_nil] using tx_comment t.src (none_of hn) hs)⟩
    · simp at h
  peel_if h with hcnd
  · -- ON UPDATE e
    obtain ⟨kws, e, hkw, _, hkey⟩ := searchTwoUp_kws hcnd kwOk_ON kwOk_UPDATE
    split at h
    · rename_i v r1 hp
      simp only [Except.ok.injEq, Prod.mk.injEq] at h; obtain ⟨rfl, rfl⟩ := h
      obtain ⟨u1, e1, ha⟩ := ar_used (hF.pCompute _) hp (pCompute_consumes d f _ _ _ hp)
      exact ⟨kws ++ u1, by rw [e, e1]; simp, step_slot .onUpdate (FullE v) (tE v) hkw (mem_left hkey) ha
        (fun c j => by cases j <;> rfl) (fun c hn hf => fl_onUpdate v (none_of hn) hf) (fun c hn hs => tx_onUpdate v (none_of hn) hs)⟩
    · simp at h
  peel_if h with hcnd
  · obtain ⟨kws, e, hkw, _⟩ := searchStrUp_kws hcnd kwOk_AUTO_INCREMENT
    simp only [Except.ok.injEq, Prod.mk.injEq] at h; obtain ⟨rfl, rfl⟩ := h
    exact step_flag e hkw (fun _ _ => rfl) (fun _ => rfl) (fun c => by rw [tDC_eq, tDC_eq c])
  peel_if h with hcnd
  · obtain ⟨kws, e, hkw, _⟩ := searchStrUp_kws hcnd kwOk_UNSIGNED
    simp only [Except.ok.injEq, Prod.mk.injEq] at h; obtain ⟨rfl, rfl⟩ := h
    exact step_flag e hkw (fun _ _ => rfl) (fun _ => rfl) (fun c => by rw [tDC_eq, tDC_eq c])
  peel_if h with hcnd
  · obtain ⟨kws, e, hkw, _⟩ := searchStrUp_kws hcnd kwOk_ZEROFILL
    simp only [Except.ok.injEq, Prod.mk.injEq] at h; obtain ⟨rfl, rfl⟩ := h
    exact step_flag e hkw (fun _ _ => rfl) (fun _ => rfl) (fun c => by rw [tDC_eq, tDC_eq c])
  peel_if h with hcnd
  · -- GENERATED ALWAYS AS ( … ) mode: the word is the first token of what `pGenerated` consumes
    obtain ⟨x, e, hx⟩ := searchStrUp_head hcnd
    split at h
    · rename_i v r1 hp
      simp only [Except.ok.injEq, Prod.mk.injEq] at h; obtain ⟨rfl, rfl⟩ := h
      obtain ⟨u1, e1, ha⟩ := ar_used (accD_pGenerated T d f _) hp (pGenerated_consumes d f _ _ _ hp)
      obtain ⟨gg, r0, e0, m, hd, _, hm, _⟩ := closed_pGenerated hp
      have hx1 : ∃ t ∈ [] ++ u1, t.srcEqUp "GENERATED" = true := by
        cases u1 with
        | nil =>
          exfalso
          simp only [List.nil_append] at e1
          obtain ⟨tm, em, _⟩ := popSrc_ok hm
          have l1 := congrArg List.length hd
          rw [em, e1] at l1
          simp at l1; omega
        | cons a b =>
          rw [e] at e1
          simp only [List.cons_append, List.cons.injEq] at e1
          exact ⟨a, by simp, e1.1 ▸ hx⟩
      exact ⟨[] ++ u1, by simpa using e1, step_slot .generated (FullOGC (some v)) (tOGC (some v)) (by simp) hx1 ha
        (fun c j => by cases j <;> rfl) (fun c hn hf => fl_generated v (none_of hn) hf) (fun c hn hs => tx_generated v (none_of hn) hs)⟩
    · simp at h
    · simp at h
  · simp at h

theorem defColLoop_acc (T : List String) (d : Gen.D) (f : Nat) (g : Nat) (c : DefCol) (ts : List Tok) (c' : DefCol) (r : List Tok)
    (h : defColLoop d f g c ts = .ok (c', r)) : QD T c ts c' r := by
  rw [defColLoop_eq] at h
  exact attrLoop_acc defColStop (defColAttr d f) (by simp [AccAll]) accAll_app (defColAttr_step T d f) g c ts c' r h

/-- `_parse_define_column_expression`: under `NoRep` of the consumed run every token is accounted for -/
theorem pDefCol_acc (T : List String) (d : Gen.D) (f : Nat) (ts : List Tok) (c : DefCol) (r : List Tok) (h : pDefCol d f ts = .ok (c, r)) :
    ∃ used, ts = used ++ r ∧ (NoRep used = true → FullDC c = true → Sub (tDC c) T → AccAll T used) := by
  unfold pDefCol at h
  split at h
  · simp at h
  · rename_i n r0 hp
    obtain ⟨t, rfl, rfl⟩ := popSrc_ok hp
    split at h
    · simp at h
    · rename_i ty r1 hty
      obtain ⟨u1, e1, ha⟩ := ar_used (accD_pColType T d f _) hty (pColType_consumes d f _ _ _ hty)
      obtain ⟨u2, e2, k⟩ := defColLoop_acc T d f _ _ _ _ _ h
      subst e1 e2
      refine ⟨t :: (u1 ++ u2), by simp, fun hr hf hs => ?_⟩
      have hA : AttrOK { name := unifyName t.src, type := ty } u2 := by
        have := NoRep_sfx (a := t :: u1) (b := u2) (by simpa using hr)
        simp only [NoRep, Bool.and_eq_true, decide_eq_true_eq] at this
        simp only [AttrOK, Option.isSome_none, b2n]; simp; omega
      obtain ⟨hf1, k1⟩ := k hA hf
      obtain ⟨a2, s1⟩ := k1 hs
      rw [tDC_eq] at s1
      simp only [sub_cons, sub_append] at s1
      simp only [FullDC, Bool.and_eq_true] at hf1
      have : t :: (u1 ++ u2) = [t] ++ (u1 ++ u2) := rfl
      rw [this, accAll_append, accAll_append]
      exact ⟨by simpa [AccAll] using Acc.name s1.1, ha hf1.1 s1.2.1, a2⟩

end Ddl
end PA
