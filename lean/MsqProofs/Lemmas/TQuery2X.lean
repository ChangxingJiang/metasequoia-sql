import MsqProofs.Lemmas.TQuery2E4
/-! Larger nested fragment (TQ2), the bracketed sub-query positions of expressions -/
open Lex PM Ast SR TP TP2
open TQ (tblTok unionWords lvlH isExists lvlH_eq lvlH_ge lvlH_of_le8 isOkPair tblOK)
namespace TQ2
variable {d : Gen.D} {ch : Expr → Bool}

structure QT (d : Gen.D) (ch : Expr → Bool) (q : Query) : Prop where
  parse : ∀ rest, stopsQ2 d rest = true → OkAt (fun f => pSelectStmt d f none (toksQ2 d ch q ++ rest)) (20 * sizeL (toksQ2 d ch q) + 9) (q, rest)
  head : ∃ x, toksQ2 d ch q = opTok "SELECT" :: x

theorem select_starts (x : List Tok) : startsSelect (opTok "SELECT" :: x) = true := TP2.select_starts x
theorem QT.subQ {q : Query} (hq : QT d ch q) : TC.SubQ d (toksQ2 d ch q) q :=
  ⟨by obtain ⟨x, hx⟩ := hq.head; rw [hx]; exact select_starts x, by simpa using hq.parse [] rfl⟩
theorem subq_ok (q : Query) (hq : QT d ch q) (rest : List Tok) :
    OkAt (fun f => pSubQuery d f (grp (toksQ2 d ch q) :: rest)) (20 * sizeL (toksQ2 d ch q) + 10) (.subQuery q, rest) := TC.subq_ok hq.subQ rest
theorem full2_subq (q : Query) (hq : QT d ch q) : Full2 d (P2 d) 2 0 [grp (toksQ2 d ch q)] (.subQuery q) :=
  TC.fullO_true.1 (TC.full2_subq hq.subQ).ofFalse

theorem cont9_exists (q : Query) (hq : QT d ch q) :
    Cont2 d (P9 d) (kwLoop d) 8 4 (opTok "EXISTS" :: [grp (toksQ2 d ch q)]) (.exists_ (.subQuery q)) :=
  TC.contO_true.1 (TC.cont9_exists hq.subQ).ofFalse
theorem tower_of10w {ts x} (h : Cont2 d (P10 d) (fun f => pCompareLoop d f) 9 7 ts x)
    (hd : ∃ t ts', ts = t :: ts' ∧ (Gen.notSet d).contains (up t.src) = false) : Tower2 d 10 ts x :=
  TC.towerO_true.1 (.of10w (TC.contO_true.2 h) hd)

theorem cont9_inq (n0 : Bool) (l : Expr) (q : Query) (hq : QT d ch q) (hl : Cont2 d (P9 d) (kwLoop d) 8 4 (W4 d ch l 9) l) :
    Cont2 d (P9 d) (kwLoop d) 8 4 (W4 d ch l 9 ++ (kwToks .in_ n0 ++ [grp (toksQ2 d ch q)])) (.kw .in_ n0 l (.subQuery q)) :=
  TC.contO_true.1 (TC.cont9_inq n0 l (TC.contO_true.2 hl) hq.subQ).ofFalse

end TQ2
