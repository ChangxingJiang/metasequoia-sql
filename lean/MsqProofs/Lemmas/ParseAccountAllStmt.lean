import MsqProofs.Lemmas.ParseAccountAll2
/-! GENERATED by tools/gen_account_all.py — C08: general accounting lemmas for the statement level (MsqModel/Parse/Stmt.lean).  Written by hand: `accS_pStatement` (tools/hand/ParseAccountAllStmt.lean.in, put in by tools/hand_blocks.py) -/
set_option linter.unusedVariables false
open Lex PM Ast
namespace PA

theorem accS_pTblName (T : List String) : ∀ ts, AR T tTN tt ts [] true (PM.pTblName ts) := by
  have hA : Anchor T := trivial
  intro ts v r h hpl
  unfold pTblName at h
  split_run <;> grind -funext (splits := 20) (ematch := 20) (gen := 40) (instances := 20000) [closed_ok]
grind_pattern accS_pTblName => Anchor T, PM.pTblName ts

theorem accS_pInsertType (T : List String) : ∀ ts, KwRel ts (PM.pInsertType ts) := by
  have hA : Anchor T := trivial
  have hK0 := kwOk_INSERT
  have hK1 := kwOk_INTO
  have hK2 := kwOk_IGNORE
  have hK3 := kwOk_OVERWRITE
  intro ts v r h
  unfold pInsertType at h
  split_run <;> grind -funext (splits := 20) (ematch := 20) (gen := 40) (instances := 20000) [closed_ok]
grind_pattern accS_pInsertType => Anchor T, PM.pInsertType ts

theorem accS_pPartitionItem (T : List String) (d : Gen.D) (f : Nat) : ∀ ts, AR T tPI FullPI ts [] true (PM.pPartitionItem d f ts) := by
  have hA : Anchor T := trivial
  have hF := accA_all d T f
  intro ts v r h hpl
  unfold pPartitionItem at h
  split_run <;> grind -funext (splits := 20) (ematch := 20) (gen := 40) (instances := 20000) [closed_ok]
grind_pattern accS_pPartitionItem => Anchor T, PM.pPartitionItem d f ts

theorem eachClosed_partItem (T : List String) (d : Gen.D) (f : Nat) (segs : List (List Tok)) (items : List (Expr × Bool))
    (h : eachClosed (pPartitionItem d f) segs = .ok items) (hpl : FullL (items.map (·.1)) = true) (hs : Sub (tEs (items.map (·.1))) T) :
    AccAll T segs.flatten := by
  refine eachClosed_acc T (pPartitionItem d f) tPI FullPI (accS_pPartitionItem T d f) segs items h ?_ ?_
  · intro v hv; exact fullL_all _ hpl v.1 (List.mem_map.2 ⟨v, hv, rfl⟩)
  · rw [← tEs_flatMap] at hs
    have e : (fun a : Expr × Bool => tE a.1) = tPI := rfl
    simpa [List.flatMap_map, e] using hs
grind_pattern eachClosed_partItem => Anchor T, eachClosed (pPartitionItem d f) segs, Except.ok items

theorem accS_pPartition (T : List String) (d : Gen.D) (f : Nat) : ∀ already ts, AR T tEs FullNE ts [] true (PM.pPartition d f already ts) := by
  have hA : Anchor T := trivial
  have hF := accA_all d T f
  have hK0 := kwOk_PARTITION
  intro already ts v r h hpl
  unfold pPartition at h
  split_run <;> grind -funext (splits := 20) (ematch := 20) (gen := 40) (instances := 20000) [closed_ok]
grind_pattern accS_pPartition => Anchor T, PM.pPartition d f already ts

theorem accS_pWhereOrderLimit (T : List String) (d : Gen.D) (f : Nat) : ∀ ts, AR T tWOL FullWOL ts [] true (PM.pWhereOrderLimit d f ts) := by
  have hA : Anchor T := trivial
  have hF := accA_all d T f
  have hK0 := kwOk_WHERE
  intro ts v r h hpl
  unfold pWhereOrderLimit at h
  split_run <;> grind -funext (splits := 20) (ematch := 20) (gen := 40) (instances := 20000) [closed_ok]
grind_pattern accS_pWhereOrderLimit => Anchor T, PM.pWhereOrderLimit d f ts

theorem accS_valuesLoop (T : List String) (d : Gen.D) (f : Nat) : ∀ g acc ts, AR T tVals FullVals ts (tVals acc) (FullVals acc) (PM.valuesLoop d f g acc ts) := by
  have hA : Anchor T := trivial
  have hF := accA_all d T f
  have hK0 := kwOk_comma
  intro g
  induction g with
  | zero => intro acc ts v r h; simp [valuesLoop] at h
  | succ g ih =>
    intro acc ts v r h hpl
    unfold valuesLoop at h
    split_run <;> grind -funext (splits := 20) (ematch := 20) (gen := 40) (instances := 20000) [closed_ok]
grind_pattern accS_valuesLoop => Anchor T, PM.valuesLoop d f g acc ts

theorem accS_pColumnName (T : List String) : ∀ ts, AR T tFN tt ts [] true (PM.pColumnName ts) := by
  have hA : Anchor T := trivial
  have hK0 := kwOk_dot
  intro ts v r h hpl
  unfold pColumnName at h
  split_run <;> grind -funext (splits := 20) (ematch := 20) (gen := 40) (instances := 20000) [closed_ok]
grind_pattern accS_pColumnName => Anchor T, PM.pColumnName ts

theorem tCNs_flatMap (cs : List (Option String × String)) : cs.flatMap tFN = tCNs cs := by
  induction cs with
  | nil => simp [tCNs_nil]
  | cons c cs ih => obtain ⟨t, n⟩ := c; simp [tCNs_cons, tFN_def, ih]
theorem eachClosed_columnName (T : List String) (segs : List (List Tok)) (cs : List (Option String × String))
    (h : eachClosed pColumnName segs = .ok cs) (hs : Sub (tCNs cs) T) : AccAll T segs.flatten := by
  refine eachClosed_acc T pColumnName tFN tt (accS_pColumnName T) segs cs h (fun _ _ => rfl) ?_
  rw [tCNs_flatMap]; exact hs
grind_pattern eachClosed_columnName => Anchor T, eachClosed pColumnName segs, Except.ok cs

theorem accS_pOptPartition (T : List String) (d : Gen.D) (f : Nat) : ∀ ts, AR T tOL FullPart ts [] true (PM.pOptPartition d f ts) := by
  have hA : Anchor T := trivial
  have hF := accA_all d T f
  have hK0 := kwOk_PARTITION
  intro ts v r h hpl
  unfold pOptPartition at h
  split_run <;> grind -funext (splits := 20) (ematch := 20) (gen := 40) (instances := 20000) [closed_ok]
grind_pattern accS_pOptPartition => Anchor T, PM.pOptPartition d f ts

theorem accS_pOptColumns (T : List String) : ∀ ts, AR T tOCN tt ts [] true (PM.pOptColumns ts) := by
  have hA : Anchor T := trivial
  intro ts v r h hpl
  unfold pOptColumns at h
  split_run <;> grind -funext (splits := 20) (ematch := 20) (gen := 40) (instances := 20000) [closed_ok]
grind_pattern accS_pOptColumns => Anchor T, PM.pOptColumns ts

theorem accS_pWithOpt (T : List String) (d : Gen.D) (f : Nat) : ∀ w ts, AR T tWTs FullWTs ts (tOWTs w) (FullOWTs w) (PM.pWithOpt d f w ts) := by
  have hA : Anchor T := trivial
  have hF := accA_all d T f
  intro w ts v r h hpl
  unfold pWithOpt at h
  split_run <;> grind -funext (splits := 20) (ematch := 20) (gen := 40) (instances := 20000) [closed_ok]
grind_pattern accS_pWithOpt => Anchor T, PM.pWithOpt d f w ts

theorem accS_pInsert (T : List String) (d : Gen.D) (f : Nat) : ∀ w ts, AR T tStmt FullStmt ts (tOWTs w) (FullOWTs w) (PM.pInsert d f w ts) := by
  have hA : Anchor T := trivial
  have hF := accA_all d T f
  have hK0 := kwOk_TABLE
  have hK1 := kwOk_VALUES
  have hK2 := kwOk_SELECT
  intro w ts v r h hpl
  unfold pInsert at h
  split_run <;> grind -funext (splits := 20) (ematch := 20) (gen := 40) (instances := 20000) [closed_ok]
grind_pattern accS_pInsert => Anchor T, PM.pInsert d f w ts

theorem accS_pSet (T : List String) : ∀ ts, AR T tStmt FullStmt ts [] true (PM.pSet ts) := by
  have hA : Anchor T := trivial
  have hK0 := kwOk_SET
  intro ts v r h hpl
  unfold pSet at h
  split_run <;> grind -funext (splits := 20) (ematch := 20) (gen := 40) (instances := 20000) [closed_ok]
grind_pattern accS_pSet => Anchor T, PM.pSet ts

theorem accS_pCreateTable (T : List String) (d : Gen.D) (f : Nat) : ∀ ts, AR T tStmt FullStmt ts [] true (PM.pCreateTable d f ts) := by
  have hA : Anchor T := trivial
  have hF := accA_all d T f
  have hK0 := kwOk_CREATE
  have hK1 := kwOk_TABLE
  have hK2 := kwOk_IF
  have hK3 := kwOk_NOT
  have hK4 := kwOk_EXISTS
  have hK5 := kwOk_AS
  have hK6 := kwOk_semi
  have hS0 : allKw ["CREATE", "TABLE"] = true := by simp [allKw, kwOk_CREATE, kwOk_TABLE]
  intro ts v r h hpl
  unfold pCreateTable at h
  split_run <;> grind -funext (splits := 20) (ematch := 20) (gen := 40) (instances := 20000) [closed_ok]
grind_pattern accS_pCreateTable => Anchor T, PM.pCreateTable d f ts

theorem accS_pDropTable (T : List String) : ∀ ts, AR T tStmt FullStmt ts [] true (PM.pDropTable ts) := by
  have hA : Anchor T := trivial
  have hK0 := kwOk_DROP
  have hK1 := kwOk_TABLE
  have hK2 := kwOk_IF
  have hK3 := kwOk_EXISTS
  have hS0 : allKw ["DROP", "TABLE"] = true := by simp [allKw, kwOk_DROP, kwOk_TABLE]
  intro ts v r h hpl
  unfold pDropTable at h
  split_run <;> grind -funext (splits := 20) (ematch := 20) (gen := 40) (instances := 20000) [closed_ok]
grind_pattern accS_pDropTable => Anchor T, PM.pDropTable ts

theorem accS_pAnalyze (T : List String) (d : Gen.D) (f : Nat) : ∀ ts, AR T tStmt FullStmt ts [] true (PM.pAnalyze d f ts) := by
  have hA : Anchor T := trivial
  have hF := accA_all d T f
  have hK0 := kwOk_ANALYZE
  have hK1 := kwOk_TABLE
  have hK2 := kwOk_COMPUTE
  have hK3 := kwOk_STATISTICS
  have hK4 := kwOk_FOR
  have hK5 := kwOk_COLUMNS
  have hK6 := kwOk_CACHE
  have hK7 := kwOk_METADATA
  have hK8 := kwOk_NOSCAN
  have hS0 : allKw ["ANALYZE", "TABLE"] = true := by simp [allKw, kwOk_ANALYZE, kwOk_TABLE]
  intro ts v r h hpl
  unfold pAnalyze at h
  split_run <;> grind -funext (splits := 20) (ematch := 20) (gen := 40) (instances := 20000) [closed_ok]
grind_pattern accS_pAnalyze => Anchor T, PM.pAnalyze d f ts

theorem accS_pAlterExpr (T : List String) (d : Gen.D) (f : Nat) : ∀ ts, AR T tAO FullAO ts [] true (PM.pAlterExpr d f ts) := by
  have hA : Anchor T := trivial
  have hF := accA_all d T f
  have hK0 := kwOk_ADD
  have hK1 := kwOk_PARTITION
  have hK2 := kwOk_IF
  have hK3 := kwOk_NOT
  have hK4 := kwOk_EXISTS
  have hK5 := kwOk_MODIFY
  have hK6 := kwOk_CHANGE
  have hK7 := kwOk_RENAME
  have hK8 := kwOk_COLUMN
  have hK9 := kwOk_TO
  have hK10 := kwOk_DROP
  have hS0 : allKw ["ADD", "IF", "NOT", "EXISTS", "PARTITION"] = true := by simp [allKw, kwOk_ADD, kwOk_IF, kwOk_NOT, kwOk_EXISTS, kwOk_PARTITION]
  have hS1 : allKw ["DROP", "IF", "EXISTS", "PARTITION"] = true := by simp [allKw, kwOk_DROP, kwOk_IF, kwOk_EXISTS, kwOk_PARTITION]
  intro ts v r h hpl
  unfold pAlterExpr at h
  split_run <;> grind -funext (splits := 20) (ematch := 20) (gen := 40) (instances := 20000) [closed_ok]
grind_pattern accS_pAlterExpr => Anchor T, PM.pAlterExpr d f ts

theorem accS_alterLoop (T : List String) (d : Gen.D) (f : Nat) : ∀ g acc ts, AR T tAOs FullAOs ts (tAOs acc) (FullAOs acc) (PM.alterLoop d f g acc ts) := by
  have hA : Anchor T := trivial
  have hF := accA_all d T f
  have hK0 := kwOk_comma
  intro g
  induction g with
  | zero => intro acc ts v r h; simp [alterLoop] at h
  | succ g ih =>
    intro acc ts v r h hpl
    unfold alterLoop at h
    split_run <;> grind -funext (splits := 20) (ematch := 20) (gen := 40) (instances := 20000) [closed_ok]
grind_pattern accS_alterLoop => Anchor T, PM.alterLoop d f g acc ts

theorem accS_pAlter (T : List String) (d : Gen.D) (f : Nat) : ∀ ts, AR T tStmt FullStmt ts [] true (PM.pAlter d f ts) := by
  have hA : Anchor T := trivial
  have hF := accA_all d T f
  have hK0 := kwOk_ALTER
  have hK1 := kwOk_TABLE
  have hS0 : allKw ["ALTER", "TABLE"] = true := by simp [allKw, kwOk_ALTER, kwOk_TABLE]
  intro ts v r h hpl
  unfold pAlter at h
  split_run <;> grind -funext (splits := 20) (ematch := 20) (gen := 40) (instances := 20000) [closed_ok]
grind_pattern accS_pAlter => Anchor T, PM.pAlter d f ts

theorem accS_pMsck (T : List String) : ∀ ts, AR T tStmt FullStmt ts [] true (PM.pMsck ts) := by
  have hA : Anchor T := trivial
  have hK0 := kwOk_MSCK
  have hK1 := kwOk_REPAIR
  have hK2 := kwOk_TABLE
  have hS0 : allKw ["MSCK", "REPAIR", "TABLE"] = true := by simp [allKw, kwOk_MSCK, kwOk_REPAIR, kwOk_TABLE]
  intro ts v r h hpl
  unfold pMsck pKwTable at h
  split_run <;> grind -funext (splits := 20) (ematch := 20) (gen := 40) (instances := 20000) [closed_ok]
grind_pattern accS_pMsck => Anchor T, PM.pMsck ts

theorem accS_pTruncate (T : List String) : ∀ ts, AR T tStmt FullStmt ts [] true (PM.pTruncate ts) := by
  have hA : Anchor T := trivial
  have hK0 := kwOk_TRUNCATE
  have hK1 := kwOk_TABLE
  have hS0 : allKw ["TRUNCATE", "TABLE"] = true := by simp [allKw, kwOk_TRUNCATE, kwOk_TABLE]
  intro ts v r h hpl
  unfold pTruncate pKwTable at h
  split_run <;> grind -funext (splits := 20) (ematch := 20) (gen := 40) (instances := 20000) [closed_ok]
grind_pattern accS_pTruncate => Anchor T, PM.pTruncate ts

theorem accS_pUse (T : List String) : ∀ ts, AR T tStmt FullStmt ts [] true (PM.pUse ts) := by
  have hA : Anchor T := trivial
  have hK0 := kwOk_USE
  intro ts v r h hpl
  unfold pUse at h
  split_run <;> grind -funext (splits := 20) (ematch := 20) (gen := 40) (instances := 20000) [closed_ok]
grind_pattern accS_pUse => Anchor T, PM.pUse ts

theorem accS_pUpdateSetCol (T : List String) (d : Gen.D) (f : Nat) : ∀ ts, AR T tUSC FullUSC ts [] true (PM.pUpdateSetCol d f ts) := by
  have hA : Anchor T := trivial
  have hF := accA_all d T f
  have hK0 := kwOk_eq
  intro ts v r h hpl
  unfold pUpdateSetCol at h
  split_run <;> grind -funext (splits := 20) (ematch := 20) (gen := 40) (instances := 20000) [closed_ok]
grind_pattern accS_pUpdateSetCol => Anchor T, PM.pUpdateSetCol d f ts

theorem accS_updateSetLoop (T : List String) (d : Gen.D) (f : Nat) : ∀ g acc ts, AR T tSets FullUS ts (tSets acc) (FullUS acc) (PM.updateSetLoop d f g acc ts) := by
  have hA : Anchor T := trivial
  have hF := accA_all d T f
  have hK0 := kwOk_comma
  intro g
  induction g with
  | zero => intro acc ts v r h; simp [updateSetLoop] at h
  | succ g ih =>
    intro acc ts v r h hpl
    unfold updateSetLoop at h
    split_run <;> grind -funext (splits := 20) (ematch := 20) (gen := 40) (instances := 20000) [closed_ok]
grind_pattern accS_updateSetLoop => Anchor T, PM.updateSetLoop d f g acc ts

theorem accS_pUpdateSet (T : List String) (d : Gen.D) (f : Nat) : ∀ ts, AR T tSets FullUS ts [] true (PM.pUpdateSet d f ts) := by
  have hA : Anchor T := trivial
  have hF := accA_all d T f
  have hK0 := kwOk_SET
  intro ts v r h hpl
  unfold pUpdateSet at h
  split_run <;> grind -funext (splits := 20) (ematch := 20) (gen := 40) (instances := 20000) [closed_ok]
grind_pattern accS_pUpdateSet => Anchor T, PM.pUpdateSet d f ts

theorem accS_pUpdate (T : List String) (d : Gen.D) (f : Nat) : ∀ w ts, AR T tStmt FullStmt ts (tOWTs w) (FullOWTs w) (PM.pUpdate d f w ts) := by
  have hA : Anchor T := trivial
  have hF := accA_all d T f
  have hK0 := kwOk_UPDATE
  intro w ts v r h hpl
  unfold pUpdate at h
  split_run <;> grind -funext (splits := 20) (ematch := 20) (gen := 40) (instances := 20000) [closed_ok]
grind_pattern accS_pUpdate => Anchor T, PM.pUpdate d f w ts

theorem accS_pDelete (T : List String) (d : Gen.D) (f : Nat) : ∀ ts, AR T tStmt FullStmt ts [] true (PM.pDelete d f ts) := by
  have hA : Anchor T := trivial
  have hF := accA_all d T f
  have hK0 := kwOk_DELETE
  have hK1 := kwOk_FROM
  have hS0 : allKw ["DELETE", "FROM"] = true := by simp [allKw, kwOk_DELETE, kwOk_FROM]
  intro ts v r h hpl
  unfold pDelete at h
  split_run <;> grind -funext (splits := 20) (ematch := 20) (gen := 40) (instances := 20000) [closed_ok]
grind_pattern accS_pDelete => Anchor T, PM.pDelete d f ts

theorem accS_pFromClause (T : List String) (d : Gen.D) (f : Nat) : ∀ ts, AR T tFTs FullFTs ts [] true (PM.pFromClause d f ts) := by
  have hA : Anchor T := trivial
  have hF := accA_all d T f
  have hK0 := kwOk_FROM
  intro ts v r h hpl
  unfold pFromClause at h
  split_run <;> grind -funext (splits := 20) (ematch := 20) (gen := 40) (instances := 20000) [closed_ok]
grind_pattern accS_pFromClause => Anchor T, PM.pFromClause d f ts

theorem accS_pShowColumns (T : List String) (d : Gen.D) (f : Nat) : ∀ ts, AR T tStmt FullStmt ts [] true (PM.pShowColumns d f ts) := by
  have hA : Anchor T := trivial
  have hF := accA_all d T f
  have hK0 := kwOk_SHOW
  have hK1 := kwOk_COLUMNS
  have hK2 := kwOk_WHERE
  have hS0 : allKw ["SHOW", "COLUMNS"] = true := by simp [allKw, kwOk_SHOW, kwOk_COLUMNS]
  intro ts v r h hpl
  unfold pShowColumns at h
  split_run <;> grind -funext (splits := 20) (ematch := 20) (gen := 40) (instances := 20000) [closed_ok]
grind_pattern accS_pShowColumns => Anchor T, PM.pShowColumns d f ts

theorem accS_pStatement (T : List String) (d : Gen.D) (f : Nat) : ∀ ts, AR T tStmt FullStmt ts [] true (PM.pStatement d f ts) := by
  have hA : Anchor T := trivial
  have hF := accA_all d T f
  have hK0 := kwOk_SHOW
  have hK1 := kwOk_DATABASES
  have hK2 := kwOk_TABLES
  intro ts
  refine pStatement_cases (P := AR T tStmt FullStmt ts [] true) d f ts (fun _ => accS_pSet T ts) (fun _ => accS_pDelete T d f ts)
    (fun _ => accS_pDropTable T ts) (fun _ => accS_pCreateTable T d f ts) (fun _ => accS_pAnalyze T d f ts) (fun _ => accS_pAlter T d f ts)
    (fun _ => accS_pMsck T ts) (fun _ => accS_pUse T ts) (fun _ => accS_pTruncate T ts) ?showDb ?showTb (fun _ => accS_pShowColumns T d f ts)
    (fun e _ => by rw [ar_error]; trivial) (fun _ _ e _ _ => by rw [ar_error]; trivial) ?sel ?ins ?upd (by rw [ar_error]; trivial)
  case showDb => intro h; grind -funext (ematch := 20)
  case showTb => intro h; grind -funext (ematch := 20)
  case sel => intro withs r q r1 hw hq; grind -funext (ematch := 20)
  case ins => intro withs r hw _; have := accS_pInsert T d f (some withs) r; grind -funext (ematch := 20) [AR]
  case upd => intro withs r hw _; have := accS_pUpdate T d f (some withs) r; grind -funext (ematch := 20) [AR]
grind_pattern accS_pStatement => Anchor T, PM.pStatement d f ts

theorem accS_statementsLoop (T : List String) (d : Gen.D) (f : Nat) : ∀ g acc ts, ARV T tStmts FullStmts ts (tStmts acc) (FullStmts acc) (PM.statementsLoop d f g acc ts) := by
  have hA : Anchor T := trivial
  have hF := accA_all d T f
  have hK0 := kwOk_semi
  intro g
  induction g with
  | zero => intro acc ts v h; simp [statementsLoop] at h
  | succ g ih =>
    intro acc ts v h hpl
    unfold statementsLoop at h
    split_run <;> grind -funext (splits := 20) (ematch := 20) (gen := 40) (instances := 20000) [closed_ok]
grind_pattern accS_statementsLoop => Anchor T, PM.statementsLoop d f g acc ts

end PA
