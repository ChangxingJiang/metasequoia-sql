import MsqProofs.Lemmas.TQuery3N
/-! Larger nested fragment (TQ3), the expression half of the mutual induction step -/
open Lex PM Ast SR TP TP2
open TQ (tblTok unionWords lvlH isExists lvlH_eq lvlH_ge lvlH_of_le8 isOkPair tblOK)
namespace TQ3
variable {d : Gen.D} {ch : Expr → Bool}
theorem expr_step (n : Nat) (ih : ∀ e, szE4 e ≤ n → FragE5 d e = true → RT4 d ch e)
    (ihq : ∀ q, szQ2 q ≤ n → FragQ3 d q = true → QT d ch q) : ∀ e, szE4 e ≤ n + 1 → FragE5 d e = true → RT4 d ch e := by
  intro e he hf
  have k := @kw_nocomma
  cases e with
  | column t c =>
    cases t with
    | none =>
      simp only [FragE5] at hf
      have hh : operandTok d (nameTok c) = true := by simp only [colOK, elemTok, Bool.and_eq_true] at hf; exact hf.1.1.1.1
      obtain ⟨n1, n2, _⟩ := name_facts c
      exact RT4.mk2 [nameTok c] (by simp only [toksE5])
        ((Tower2.of2 (Full2.of (TP.full2_column c hf)) (headOK_tok _ _ hh)).relevel _ (by simp [PR.lvl])) (head_tok _ _ n1 hh) (nc_single n2)
        (by simp [tl4])
    | some t =>
      simp only [FragE5] at hf
      have hq := hf
      simp only [qcolOK, nm2OK, Bool.and_eq_true, Bool.not_eq_true'] at hq
      obtain ⟨_, ho, hd1, _, _, _, _, _, _, c1, _⟩ := nmOK_parts hq.1
      exact RT4.mk2 [nameTok t, dotTok, nameTok c] (by simp only [toksE5])
        ((Tower2.of2 (full2_qcol t c hf) (headOK_tok _ _ ho)).relevel _ (by simp [PR.lvl])) (head_tok _ _ hd1 ho)
        (NoComma.cons c1 (NoComma.cons k.2.2.2.2.2.2.2.2.2.2.2.2.2.2.2.1 (nc_single hq.2.2))) (by simp [tl4])
  | literal v =>
    simp only [FragE5] at hf
    have hh : operandTok d (litTok v) = true := by simp only [litOK, elemTok, Bool.and_eq_true] at hf; exact hf.2.1
    obtain ⟨l1, l2⟩ := lit_facts v hf
    exact RT4.mk2 [litTok v] (by simp only [toksE5])
      ((Tower2.of2 (Full2.of (full2_literal d v hf)) (headOK_tok _ _ hh)).relevel _ (by simp [PR.lvl])) (head_tok _ _ l1 hh) (nc_single l2)
      (by simp [tl4])
  | wildcard t =>
    obtain ⟨s1, s2, _⟩ := @star_head d
    cases t with
    | none =>
      exact RT4.mk2 [starTok] (by simp only [toksE5])
        ((Tower2.of2 full2_star (headOK_tok _ _ s2)).relevel _ (by simp [PR.lvl])) (head_tok _ _ s1 s2)
        (nc_single k.2.2.2.2.2.2.2.2.2.2.2.2.2.2.2.2) (by simp [tl4])
    | some t =>
      simp only [FragE5] at hf
      obtain ⟨_, ho, hd1, _, _, _, _, _, _, c1, _⟩ := nmOK_parts hf
      exact RT4.mk2 [qTok t, dotTok, starTok] (by simp only [toksE5])
        ((Tower2.of2 (full2_qstar t hf) (headOK_tok _ _ ho)).relevel _ (by simp [PR.lvl])) (head_tok _ _ hd1 ho)
        (NoComma.cons c1 (NoComma.cons k.2.2.2.2.2.2.2.2.2.2.2.2.2.2.2.1 (nc_single k.2.2.2.2.2.2.2.2.2.2.2.2.2.2.2.2))) (by simp [tl4])
  | func s nm ps =>
    simp only [FragE5, Bool.and_eq_true, Bool.or_eq_true] at hf
    by_cases hif : ifOK d s nm = true
    · exact rt_if s nm ps hif (fun a ha => by obtain ⟨x, y⟩ := frag2L_mem ps hf.2 a ha; simp only [szE4] at he; exact ih a (by omega) x)
    replace hf : fnOK d s nm = true ∧ FragL4 d ps = true := ⟨hf.1.resolve_right hif, hf.2⟩
    simp only [szE4] at he
    have hps : ∀ a ∈ ps, RT4 d ch a := fun a ha => by
      obtain ⟨x, y⟩ := frag2L_mem ps hf.2 a ha
      exact ih a (by omega) x
    cases s with
    | none =>
      have hq := hf.1
      simp only [fnOK, Bool.and_eq_true] at hq
      obtain ⟨_, ho, hd1, _, _, _, _, _, _, c1, _⟩ := nmOK_parts hq.2.1
      exact RT4.mk2 [qTok nm, grp (toksArgs4 d ch 14 ps)] (by simp only [toksE5, List.nil_append])
        ((Tower2.of2 (full2_func nm ps hf.1 hps) (headOK_tok _ _ ho)).relevel _ (by simp [PR.lvl])) (head_tok _ _ hd1 ho)
        (NoComma.cons c1 (grp_nocomma _)) (by simp [tl4])
    | some s =>
      have hq := hf.1
      simp only [fnOK, nm2OK, Bool.and_eq_true, Bool.not_eq_true'] at hq
      obtain ⟨_, ho, hd1, _, _, _, _, _, _, c1, _⟩ := nmOK_parts hq.2.1
      exact RT4.mk2 [nameTok s, dotTok, qTok nm, grp (toksArgs4 d ch 14 ps)] (by simp only [toksE5, List.cons_append, List.nil_append])
        ((Tower2.of2 (full2_qfunc s nm ps hf.1 hps) (headOK_tok _ _ ho)).relevel _ (by simp [PR.lvl])) (head_tok _ _ hd1 ho)
        (NoComma.cons c1 (NoComma.cons k.2.2.2.2.2.2.2.2.2.2.2.2.2.2.2.1 (NoComma.cons hq.2.2.2 (grp_nocomma _)))) (by simp [tl4])
  | agg nm ps dist =>
    simp only [FragE5, Bool.and_eq_true] at hf
    simp only [szE4] at he
    have hps : ∀ a ∈ ps, RT4 d ch a := fun a ha => by
      obtain ⟨x, y⟩ := frag2L_mem ps hf.2 a ha
      exact ih a (by omega) x
    have hq := hf.1
    simp only [aggOK, Bool.and_eq_true] at hq
    obtain ⟨_, ho, hd1, _, _, _, _, _, _, c1, _⟩ := nmOK_parts hq.1.2
    exact RT4.mk2 _ (by simp only [toksE5])
      ((Tower2.of2 (full2_agg nm ps dist hf.1 hps) (headOK_tok _ _ ho)).relevel _ (by simp [PR.lvl])) (head_tok _ _ hd1 ho)
      (NoComma.cons c1 (grp_nocomma _)) (by simp [tl4])
  | caseCond cs els =>
    simp only [FragE5, Bool.and_eq_true, Bool.not_eq_true', List.isEmpty_eq_false_iff] at hf
    simp only [szE4] at he
    obtain ⟨_, _, s3, s4, _⟩ := @star_head d
    have hcs : ∀ p ∈ cs, RT4 d ch p.1 ∧ RT4 d ch p.2 := fun p hp => by
      obtain ⟨⟨x1, x2⟩, ⟨y1, y2⟩⟩ := frag2A_mem cs hf.1.1 p hp
      exact ⟨ih _ (by omega) x1, ih _ (by omega) y1⟩
    have hels : ∀ y, els = some y → RT4 d ch y := fun y hy => by
      subst hy; simp only [FragO4] at hf; simp only [szO4] at he; exact ih y (by omega) hf.1.2
    obtain ⟨a1, a2⟩ := arms_nc cs hcs
    obtain ⟨e1, e2⟩ := else_nc els hels
    exact RT4.mk2 _ (by simp only [toksE5])
      ((Tower2.of2 (full2_caseCond cs els hf.2 hcs hels) (headOK_tok _ _ s4)).relevel _ (by simp [PR.lvl])) (head_tok _ _ s3 s4)
      (NoComma.cons k.2.2.2.2.2.2.2.2.2.2.1 (a1.append (e1.append (nc_single k.2.2.2.2.2.2.2.2.2.2.2.2.2.2.1))))
      (by simp only [tl4, List.length_cons, List.length_append, List.length_nil]; omega)
  | caseVal v cs els =>
    simp only [FragE5, Bool.and_eq_true, Bool.not_eq_true', List.isEmpty_eq_false_iff] at hf
    simp only [szE4] at he
    obtain ⟨_, _, s3, s4, _⟩ := @star_head d
    have hv := ih v (by omega) hf.1.1.1
    have hcs : ∀ p ∈ cs, RT4 d ch p.1 ∧ RT4 d ch p.2 := fun p hp => by
      obtain ⟨⟨x1, x2⟩, ⟨y1, y2⟩⟩ := frag2A_mem cs hf.1.1.2 p hp
      exact ⟨ih _ (by omega) x1, ih _ (by omega) y1⟩
    have hels : ∀ y, els = some y → RT4 d ch y := fun y hy => by
      subst hy; simp only [FragO4] at hf; simp only [szO4] at he; exact ih y (by omega) hf.1.2
    obtain ⟨a1, a2⟩ := arms_nc cs hcs
    obtain ⟨e1, e2⟩ := else_nc els hels
    have lv := hv.lenW 14
    exact RT4.mk2 (opTok "CASE" :: (W4 d ch v 14 ++ (toksArms4 d ch cs ++ (toksElse4 d ch els ++ [opTok "END"])))) (by simp only [toksE5, W4])
      ((Tower2.of2 (full2_caseVal v cs els hf.2 hv hcs hels) (headOK_tok _ _ s4)).relevel _ (by simp [PR.lvl])) (head_tok _ _ s3 s4)
      (NoComma.cons k.2.2.2.2.2.2.2.2.2.2.1 ((hv.ncW 14).append (a1.append (e1.append (nc_single k.2.2.2.2.2.2.2.2.2.2.2.2.2.2.1)))))
      (by simp only [tl4, List.length_cons, List.length_append, List.length_nil]; omega)
  | unary o x =>
    simp only [FragE5, Bool.and_eq_true] at hf
    simp only [szE4] at he
    have hx := ih x (by omega) hf.2
    have hh : operandTok d (opTok (cval o)) = true := by
      have := hf.1; simp only [unOK, Bool.and_eq_true] at this; exact this.1.2
    obtain ⟨u1, u2⟩ := unary_facts o hf.1
    have lx := hx.lenW 2
    exact RT4.mk2 (opTok (cval o) :: W4 d ch x 2) (by simp only [toksE5, W4])
      ((Tower2.of2 (full2_unary o x hf.1 ((hx.at 2 (by omega)).s2 (by omega))) (headOK_tok _ _ hh)).relevel _ (by simp [PR.lvl]))
      (head_tok _ _ u1 hh) (NoComma.cons u2 (hx.ncW 2)) (by simp only [tl4, List.length_cons]; omega)
  | compute l o r =>
    obtain ⟨hb, fl, fr⟩ := frag_compute d hf
    obtain ⟨h3, h8, _⟩ := binOK_parts d hb
    simp only [szE4] at he
    have hl := ih l (by omega) fl
    have hr := ih r (by omega) fr
    have f8 := compute_node d ch (.compute l o r) rfl hf
      (fun u fu su => ((ih u (by simp only [szE4] at su; omega) fu).at 2 (by omega)).s2 (by omega))
    have e1 : toksE5 d ch (.compute l o r) = W4 d ch l (binLevel o) ++ opTok (cval o) :: W4 d ch r (binLevel o - 1) := by
      simp only [toksE5, W4, lvl_compute]
    rw [e1] at f8
    have ll := hl.lenW (binLevel o); have lr := hr.lenW (binLevel o - 1)
    exact RT4.mk2 _ e1
      ((Tower2.of8 f8 ((hl.headOKW (binLevel o) (TC.hOK8 l _ (by omega))).append _)).relevel _ (by rw [lvl_compute]; omega))
      (head_left hl (binLevel o) _ (fun _ => TC.hOK8 l _ (by omega)))
      ((hl.ncW _).append (NoComma.cons (bin_nocomma o hb) (hr.ncW _))) (by simp only [tl4, List.length_cons, List.length_append]; omega)
  | kw kk n0 l r =>
    simp only [FragE5, Bool.and_eq_true] at hf
    obtain ⟨hf, hne⟩ := hf
    simp only [Bool.not_eq_true'] at hne
    simp only [szE4] at he
    have hl := ih l (by omega) hf.1
    have ll := hl.lenW 9
    have kl := kwToks_len kk n0
    by_cases hk : kk = .in_
    · subst hk
      simp only [beq_self_eq_true, if_true] at hf
      cases r with
      | subValue vs =>
        cases vs with
        | nil => simp [inRhs4] at hf
        | cons v as =>
          simp only [inRhs4, Bool.and_eq_true, shortL4, List.all_cons, decide_eq_true_eq, List.all_eq_true] at hf
          obtain ⟨_, ⟨⟨hfl, _⟩, hv20, has20⟩⟩ := hf
          simp only [szE4, szL4] at he
          have hmem := frag2L_mem (v :: as) hfl
          have hv : RT4 d ch v ∧ tl4 v ≤ 20 := ⟨ih v (by have := (hmem v (by simp)).2; simp only [szL4] at this; omega) (hmem v (by simp)).1, hv20⟩
          have has : ∀ a ∈ as, RT4 d ch a ∧ tl4 a ≤ 20 := fun a ha =>
            ⟨ih a (by have := (hmem a (by simp [ha])).2; simp only [szL4] at this; omega) (hmem a (by simp [ha])).1, has20 a ha⟩
          have c9 := cont9_in n0 l v as hv has ((hl.at 9 (by omega)).c9 (by omega))
          have e1 : toksE5 d ch (.kw .in_ n0 l (.subValue (v :: as))) =
              W4 d ch l 9 ++ (kwToks .in_ n0 ++ [grp (toksArgs4 d ch 8 (v :: as))]) := by
            simp [toksE5, W4, wrapT, PR.lvl]
          exact RT4.mk2 _ e1
            ((Tower2.of9 c9 ((hl.headOKW 9 (TC.hOKne l 9 (by omega) hne)).append _)).relevel _ (by simp [PR.lvl])) (head_left hl 9 _ (fun _ => TC.hOKne l 9 (by omega) hne))
            ((hl.ncW 9).append ((kwToks_nocomma _ _).append (grp_nocomma _)))
            (by simp only [tl4, List.length_cons, List.length_append, List.length_nil]; omega)
      | subQuery q =>
        simp only [inRhs4] at hf
        simp only [szE4] at he
        have hq := ihq q (by omega) hf.2
        have c9 := cont9_inq n0 l q hq ((hl.at 9 (by omega)).c9 (by omega))
        have e1 : toksE5 d ch (.kw .in_ n0 l (.subQuery q)) = W4 d ch l 9 ++ (kwToks .in_ n0 ++ [grp (toksQ3 d ch q)]) := by
          simp [toksE5, W4, wrapT, PR.lvl]
        exact RT4.mk2 _ e1
          ((Tower2.of9 c9 ((hl.headOKW 9 (TC.hOKne l 9 (by omega) hne)).append _)).relevel _ (by simp [PR.lvl]))
          (head_left hl 9 _ (fun _ => TC.hOKne l 9 (by omega) hne))
          ((hl.ncW 9).append ((kwToks_nocomma _ _).append (grp_nocomma _)))
          (by simp only [tl4, List.length_cons, List.length_append, List.length_nil]; omega)
      | _ => simp [inRhs4] at hf
    · have hk' : (kk == KwKind.in_) = false := by simpa using hk
      simp only [hk', Bool.false_eq_true, if_false] at hf
      have hr := ih r (by omega) hf.2
      have lr := hr.lenW 8
      have c9 := cont9_kw kk n0 l r hk ((hl.at 9 (by omega)).c9 (by omega)) ((hr.at 8 (by omega)).s8 (by omega)) (hr.headOKW 8 (TC.hOK8 r 8 (by omega)))
      have e1 : toksE5 d ch (.kw kk n0 l r) = W4 d ch l 9 ++ (kwToks kk n0 ++ W4 d ch r 8) := by
        have : (kk != KwKind.in_) = true := by simpa using hk
        simp only [toksE5, W4, this, Bool.and_true]
      exact RT4.mk2 _ e1
        ((Tower2.of9 c9 ((hl.headOKW 9 (TC.hOKne l 9 (by omega) hne)).append _)).relevel _ (by simp [PR.lvl])) (head_left hl 9 _ (fun _ => TC.hOKne l 9 (by omega) hne))
        ((hl.ncW 9).append ((kwToks_nocomma _ _).append (hr.ncW 8))) (by simp only [tl4, List.length_append]; omega)
  | between n0 b fr to =>
    simp only [FragE5, Bool.and_eq_true] at hf
    obtain ⟨hf, hne⟩ := hf
    simp only [Bool.not_eq_true'] at hne
    simp only [szE4] at he
    have hb := ih b (by omega) hf.1.1
    have hfr := ih fr (by omega) hf.1.2
    have hto := ih to (by omega) hf.2
    have c9 := cont9_between n0 b fr to ((hb.at 9 (by omega)).c9 (by omega)) ((hfr.at 8 (by omega)).s8 (by omega))
      ((hto.at 8 (by omega)).s8 (by omega))
    have l1 := hb.lenW 9; have l2 := hfr.lenW 8; have l3 := hto.lenW 8
    have hnc : NoComma (if n0 = true then [opTok "NOT"] else []) := by cases n0 <;> simp [NoComma.nil, nc_single k.1]
    exact RT4.mk2 (W4 d ch b 9 ++ ((if n0 then [opTok "NOT"] else []) ++ opTok "BETWEEN" :: (W4 d ch fr 8 ++ opTok "AND" :: W4 d ch to 8)))
      (by simp only [toksE5, W4])
      ((Tower2.of9 c9 ((hb.headOKW 9 (TC.hOKne b 9 (by omega) hne)).append _)).relevel _ (by simp [PR.lvl])) (head_left hb 9 _ (fun _ => TC.hOKne b 9 (by omega) hne))
      ((hb.ncW 9).append (hnc.append (NoComma.cons k.2.2.2.2.1 ((hfr.ncW 8).append (NoComma.cons k.2.1 (hto.ncW 8))))))
      (by cases n0 <;> simp only [tl4, List.length_cons, List.length_append, List.length_nil, if_true, if_false, Bool.false_eq_true] <;> omega)
  | compare o l r =>
    simp only [FragE5, Bool.and_eq_true] at hf
    obtain ⟨hf, hne⟩ := hf
    simp only [Bool.not_eq_true'] at hne
    simp only [szE4] at he
    have hl := ih l (by omega) hf.1.2
    have hr := ih r (by omega) hf.2
    have c10 := cont10_compare o l r hf.1.1 ((hl.at 10 (by omega)).c10 (by omega)) ((hr.at 9 (by omega)).s9 (by omega))
    have ll := hl.lenW 10; have lr := hr.lenW 9
    exact RT4.mk2 (W4 d ch l 10 ++ opTok (cmpVal o) :: W4 d ch r 9) (by simp only [toksE5, W4])
      ((Tower2.of10 c10 ((hl.headOKW 10 (TC.hOKne l 10 (by omega) hne)).append _)).relevel _ (by simp [PR.lvl])) (head_left hl 10 _ (fun _ => TC.hOKne l 10 (by omega) hne))
      ((hl.ncW _).append (NoComma.cons (cmp_nocomma o hf.1.1) (hr.ncW _))) (by simp only [tl4, List.length_cons, List.length_append]; omega)
  | not_ x =>
    simp only [FragE5] at hf
    simp only [szE4] at he
    have hx := ih x (by omega) hf
    have f11 := full11_not x ((hx.at 11 (by omega)).s11 (by omega))
    have lx := hx.lenW 11
    exact RT4.mk2 (opTok "NOT" :: W4 d ch x 11) (by simp only [toksE5, W4])
      ((Tower2.of11 f11).relevel _ (by simp [PR.lvl])) ⟨_, _, rfl, (@star_head d).2.2.2.2, fun h => by simp [lvlH, PR.lvl] at h⟩
      (NoComma.cons k.1 (hx.ncW _)) (by simp only [tl4, List.length_cons]; omega)
  | and_ l r =>
    simp only [FragE5, Bool.and_eq_true] at hf
    simp only [szE4] at he
    have hl := ih l (by omega) hf.1
    have hr := ih r (by omega) hf.2
    have c12 := cont12_and l r ((hl.at 12 (by omega)).c12 (by omega)) ((hr.at 11 (by omega)).s11 (by omega))
    have ll := hl.lenW 12; have lr := hr.lenW 11
    exact RT4.mk2 (W4 d ch l 12 ++ opTok "AND" :: W4 d ch r 11) (by simp only [toksE5, W4])
      ((Tower2.of12 c12).relevel _ (by simp [PR.lvl])) (head_left hl 12 _ (fun h => by simp [lvlH, PR.lvl] at h))
      ((hl.ncW _).append (NoComma.cons k.2.1 (hr.ncW _))) (by simp only [tl4, List.length_cons, List.length_append]; omega)
  | xor l r =>
    simp only [FragE5, Bool.and_eq_true] at hf
    simp only [szE4] at he
    have hl := ih l (by omega) hf.1
    have hr := ih r (by omega) hf.2
    have c13 := cont13_xor l r ((hl.at 13 (by omega)).c13 (by omega)) ((hr.at 12 (by omega)).s12 (by omega))
    have ll := hl.lenW 13; have lr := hr.lenW 12
    exact RT4.mk2 (W4 d ch l 13 ++ opTok "XOR" :: W4 d ch r 12) (by simp only [toksE5, W4])
      ((Tower2.of13 c13).relevel _ (by simp [PR.lvl])) (head_left hl 13 _ (fun h => by simp [lvlH, PR.lvl] at h))
      ((hl.ncW _).append (NoComma.cons k.2.2.2.1 (hr.ncW _))) (by simp only [tl4, List.length_cons, List.length_append]; omega)
  | or_ l r =>
    simp only [FragE5, Bool.and_eq_true] at hf
    simp only [szE4] at he
    have hl := ih l (by omega) hf.1
    have hr := ih r (by omega) hf.2
    have c14 := cont14_or l r (hl.at 14 (by omega)).c14 ((hr.at 13 (by omega)).s13 (by omega))
    have ll := hl.lenW 14; have lr := hr.lenW 13
    exact RT4.mk2 (W4 d ch l 14 ++ opTok "OR" :: W4 d ch r 13) (by simp only [toksE5, W4])
      ((Tower2.of14 c14).relevel _ (by simp [PR.lvl])) (head_left hl 14 _ (fun h => by simp [lvlH, PR.lvl] at h))
      ((hl.ncW _).append (NoComma.cons k.2.2.1 (hr.ncW _))) (by simp only [tl4, List.length_cons, List.length_append]; omega)
  | subQuery q =>
    simp only [FragE5] at hf
    simp only [szE4] at he
    have hq := ihq q (by omega) hf
    have ho : operandTok d (grp (toksQ3 d ch q)) = true := by
      obtain ⟨t, ts', h1, h2⟩ := grp_headOK (d := d) (toksQ3 d ch q)
      simp only [List.cons.injEq] at h1
      rw [h1.1]; exact h2
    exact RT4.mk2 [grp (toksQ3 d ch q)] (by simp only [toksE5])
      ((Tower2.of2 (full2_subq q hq) (headOK_tok _ _ ho)).relevel _ (by simp [PR.lvl])) (head_tok _ _ (grp_hdTok _) ho) (grp_nocomma _)
      (by simp [tl4])
  | exists_ v =>
    cases v with
    | subQuery q =>
      simp only [FragE5, isSubQ4] at hf
      simp only [szE4] at he
      have hq := ihq q (by omega) hf
      obtain ⟨_, _, x3, x4⟩ := exists_words
      exact RT4.mk2 (opTok "EXISTS" :: [grp (toksQ3 d ch q)]) (by simp only [toksE5])
        ((tower_of9w (cont9_exists q hq) ⟨_, _, rfl, exists_notSet⟩).relevel _ (by simp [PR.lvl]))
        ⟨_, _, rfl, x3, fun h => by simp [lvlH] at h⟩ (NoComma.cons x4 (grp_nocomma _)) (by simp [tl4])
    | _ => simp [FragE5, isSubQ4] at hf
  | cast e0 sg ty ps =>
    simp only [FragE5, Bool.and_eq_true] at hf
    simp only [szE4] at he
    exact rt_cast e0 sg ty ps (ih e0 (by omega) hf.1.1) hf.1.2 hf.2
  | extract n1 e0 =>
    simp only [FragE5, Bool.and_eq_true] at hf
    simp only [szE4] at he
    exact rt_extract n1 e0 (ih n1 (by omega) hf.1) (ih e0 (by omega) hf.2)
  | window fn part ord rows =>
    simp only [FragE5, Bool.and_eq_true] at hf
    simp only [szE4] at he
    have hpart : ∀ a ∈ part, RT4 d ch a := fun a ha => by
      obtain ⟨x, y⟩ := frag2L_mem part hf.1.1.2 a ha
      exact ih a (by omega) x
    exact rt_window fn part ord rows (winfn_rec ih fn (by omega) hf.1.1.1) hpart (ordl_rec ih ord (by omega) hf.1.2) hf.2
  | index a i =>
    simp only [FragE5, Bool.and_eq_true] at hf
    simp only [szE4] at he
    exact rt_index a i (idxbase_rec ih a (by omega) hf.1) (ih i (by omega) hf.2)
  | _ => simp [FragE5] at hf



end TQ3
