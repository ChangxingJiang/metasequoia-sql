import MsqModel.Analyze.LineageFlow
import MsqProofs.Props.C15
import MsqProofs.Lemmas.Dict
/-!
# Lineage: the stores as a pure lookup, and what a lineage object denotes

`lookup` is `getTableLineage` read without the state (`getTableLineage_lookup`); `Denotes L R` ties a lineage object of the analysis to a
relation of the specification.  Every later `Lineage*` file states its facts through these two.
-/
namespace C16
open Ast AN LN Spec

/-- numbering the specified output columns from `idx` -/
def number : List (String × List SrcCol) → Nat → List (SCol × List SrcCol)
  | [], _ => []
  | (n, s) :: r, idx => (⟨Int.ofNat idx, n⟩, s) :: number r (idx + 1)

theorem mk_names : ∀ (data : List (SCol × List SrcCol)) (l : Lineage),
    (mkLineage data l).names = l.names ++ data.map (·.1.name)
  | [], l => by simp [mkLineage]
  | (c, s) :: r, l => by simp [mkLineage, mk_names r]

theorem mk_srcOf : ∀ (data : List (SCol × List SrcCol)) (l : Lineage),
    (mkLineage data l).srcOf = data.foldl (fun m p => dictSet m p.1.name p.2) l.srcOf
  | [], l => rfl
  | (c, s) :: r, l => by simp [mkLineage, mk_srcOf r]

theorem go_names (c : CreateTable) : ∀ (ds : List DefCol) (i : Nat),
    (byCreateTable.go c ds i).map (fun p => (p.1.name, p.2)) =
      ds.map (fun d => (d.name, [(⟨c.table.schema, c.table.name, some d.name⟩ : SrcCol)]))
  | [], _ => rfl
  | d :: r, i => by simp [byCreateTable.go, go_names c r]

/-- the sources a base-table lineage answers for a column name are those of the relation the table denotes -/
theorem byCreate_srcOf (c : CreateTable) (n : String) :
    dictGet? (byCreateTable c).srcOf n = dictGet? (baseRel c) n := by
  have key : ∀ (ps : List (SCol × List SrcCol)), ps.foldl (fun m p => dictSet m p.1.name p.2) ([] : List (String × List SrcCol))
      = (ps.map (fun p => (p.1.name, p.2))).foldl (fun m p => dictSet m p.1 p.2) [] := by
    intro ps; rw [List.foldl_map]
  unfold byCreateTable
  rw [mk_srcOf]
  simp only [Lineage.empty]
  rw [key, go_names]
  simp only [baseRel]
  let g : String → List SrcCol := fun k => [⟨c.table.schema, c.table.name, some k⟩]
  have e1 : (c.columns.map fun d => (d.name, [(⟨c.table.schema, c.table.name, some d.name⟩ : SrcCol)]))
      = (c.columns.map (·.name)).map fun k => (k, g k) := by simp [g]
  rw [e1, List.foldl_map]
  have := dictGet_foldl_const g (c.columns.map (·.name)) [] n
  simp only [dictGet_map_const g]
  simpa [dictGet?] using this

theorem byCreate_names (c : CreateTable) : (byCreateTable c).names = c.columns.map (·.name) := by
  unfold byCreateTable
  rw [mk_names]
  have := congrArg (List.map (·.1)) (go_names c c.columns 0)
  simp only [List.map_map] at this
  simpa [Lineage.empty, Function.comp_def] using this

end C16

namespace LineageL
open Ast AN LN Spec Flow

inductive All2 {α β : Type} (P : α → β → Prop) : List α → List β → Prop
  | nil : All2 P [] []
  | cons {a : α} {b : β} {as : List α} {bs : List β} : P a b → All2 P as bs → All2 P (a :: as) (b :: bs)

/-- what `get_table_lineage` answers, as a function of the two stores and the catalogue: derived tables first, then WITH
tables, then the provider -/
def lookup (cat : Cat) (subq withT : List (String × Lineage)) (t : StdTable) : Option Lineage :=
  match dictGet? subq t.2 with
  | some l => some l
  | none => match dictGet? withT t.2 with
    | some l => some l
    | none => (catLookup cat t).map byCreateTable

/-- two states with the same stores (only the provider's request log may differ) -/
def Same (st st' : St) : Prop := st'.subq = st.subq ∧ st'.withT = st.withT

theorem Same.refl (st : St) : Same st st := ⟨rfl, rfl⟩
theorem Same.trans {a b c : St} (h1 : Same a b) (h2 : Same b c) : Same a c :=
  ⟨h2.1.trans h1.1, h2.2.trans h1.2⟩

theorem getTableLineage_lookup (cat : Cat) (t : StdTable) (st : St) :
    match lookup cat st.subq st.withT t with
    | some L => ∃ st', getTableLineage cat t st = .ok (L, st') ∧ Same st st'
    | none => getTableLineage cat t st = .error (.py .KeyError) := by
  unfold lookup getTableLineage
  cases h1 : dictGet? st.subq t.2 with
  | some l => exact ⟨st, rfl, Same.refl st⟩
  | none =>
    cases h2 : dictGet? st.withT t.2 with
    | some l => exact ⟨st, rfl, Same.refl st⟩
    | none =>
      unfold catLookup getStatement
      cases hf : cat.find? (·.1 == PM.unifyName (StdTable.source t)) with
      | none => simp
      | some p =>
        obtain ⟨k, c⟩ := p
        simp only [Option.map_some]
        refine ⟨_, rfl, ?_⟩
        unfold Same
        split <;> simp

/-- a lineage object denotes a relation: same column names in order, and the same sources under every name -/
structure Denotes (L : Lineage) (R : Rel) : Prop where
  names : L.names = R.map (·.1)
  get : ∀ n, dictGet? L.srcOf n = dictGet? R n
  tables : L.tables = relTables R
  std : ∃ cols, L.allStd = .ok cols ∧ cols.map (·.name) = R.map (·.1)

/-! ### what `mkLineage` and `byCreateTable` compute, field by field -/

theorem mk_data : ∀ (data : List (SCol × List SrcCol)) (l : Lineage), (mkLineage data l).data = l.data ++ data
  | [], l => by simp [mkLineage]
  | (c, s) :: r, l => by simp [mkLineage, mk_data r]

theorem mk_stdOf : ∀ (data : List (SCol × List SrcCol)) (l : Lineage),
    (mkLineage data l).stdOf = data.foldl (fun m p => dictSet m p.1.name p.1) l.stdOf
  | [], l => rfl
  | (c, s) :: r, l => by simp [mkLineage, mk_stdOf r]

theorem mk_idxSrc : ∀ (data : List (SCol × List SrcCol)) (l : Lineage),
    (mkLineage data l).idxSrc = data.foldl (fun m p => dictSet m p.1.idx p.2) l.idxSrc
  | [], l => rfl
  | (c, s) :: r, l => by simp [mkLineage, mk_idxSrc r]

theorem mk_tables : ∀ (data : List (SCol × List SrcCol)) (l : Lineage),
    (mkLineage data l).tables = tablesOfSrcs (data.map (·.2)) l.tables
  | [], l => rfl
  | (c, s) :: r, l => by simp [mkLineage, mk_tables r, tablesOfSrcs]

theorem go_srcs (c : CreateTable) : ∀ (ds : List DefCol) (i : Nat),
    (byCreateTable.go c ds i).map (·.2) = ds.map (fun d => [(⟨c.table.schema, c.table.name, some d.name⟩ : SrcCol)])
  | [], _ => rfl
  | d :: r, i => by simp [byCreateTable.go, go_srcs c r]

theorem number_names : ∀ (out : List (String × List SrcCol)) (idx : Nat), (C16.number out idx).map (·.1.name) = out.map (·.1)
  | [], _ => rfl
  | (n, s) :: r, idx => by simp [C16.number, number_names r]

theorem stdOf_inv : ∀ (data : List (SCol × List SrcCol)) (d : List (String × SCol)),
    (∀ k v, dictGet? d k = some v → v.name = k) →
    ∀ k v, dictGet? (data.foldl (fun m p => dictSet m p.1.name p.1) d) k = some v → v.name = k
  | [], d, h, k, v, hk => h k v hk
  | (c, s) :: r, d, h, k, v, hk => by
    refine stdOf_inv r (dictSet d c.name c) ?_ k v hk
    intro k' v' h'
    rw [dictGet?_dictSet] at h'
    by_cases e : c.name = k'
    · simp [e] at h'; subst h'; exact e
    · have : (c.name == k') = false := by simpa using e
      simp [this] at h'; exact h k' v' h'

theorem stdOf_mem : ∀ (data : List (SCol × List SrcCol)) (d : List (String × SCol)) (k : String),
    (k ∈ data.map (·.1.name) ∨ (dictGet? d k).isSome = true) →
    (dictGet? (data.foldl (fun m p => dictSet m p.1.name p.1) d) k).isSome = true
  | [], d, k, h => by
    rcases h with h | h
    · simp at h
    · exact h
  | (c, s) :: r, d, k, h => by
    refine stdOf_mem r (dictSet d c.name c) k ?_
    rw [dictGet?_dictSet]
    by_cases e : c.name = k
    · right; simp [e]
    · have he : (c.name == k) = false := by simpa using e
      rcases h with h | h
      · simp only [List.map_cons, List.mem_cons] at h
        rcases h with h | h
        · exact absurd h.symm e
        · left; exact h
      · right; simpa [he] using h

theorem mapM_std (f : String → Option SCol) : ∀ (ns : List String), (∀ n ∈ ns, ∃ c, f n = some c ∧ c.name = n) →
    ∃ cols, ns.mapM (fun n => match f n with | some c => (.ok c : Except Err SCol) | none => .error (.py .KeyError)) = .ok cols
      ∧ cols.map (·.name) = ns
  | [], _ => ⟨[], rfl, rfl⟩
  | n :: r, h => by
    obtain ⟨c, hc, hn⟩ := h n (by simp)
    obtain ⟨cols, e, hm⟩ := mapM_std f r (fun x hx => h x (by simp [hx]))
    exact ⟨c :: cols, by simp [List.mapM_cons, hc, e, bind, Except.bind, pure, Except.pure], by simp [hn, hm]⟩

theorem allStd_mk (data : List (SCol × List SrcCol)) :
    ∃ cols, (mkLineage data Lineage.empty).allStd = .ok cols ∧ cols.map (·.name) = data.map (·.1.name) := by
  have hn : (mkLineage data Lineage.empty).names = data.map (·.1.name) := by rw [C16.mk_names]; simp [Lineage.empty]
  unfold Lineage.allStd
  rw [hn, mk_stdOf]
  refine mapM_std (fun n => dictGet? (data.foldl (fun m p => dictSet m p.1.name p.1) Lineage.empty.stdOf) n) _ ?_
  intro n hnm
  have hsome := stdOf_mem data Lineage.empty.stdOf n (Or.inl hnm)
  cases hg : dictGet? (data.foldl (fun m p => dictSet m p.1.name p.1) Lineage.empty.stdOf) n with
  | none => simp [hg] at hsome
  | some c => exact ⟨c, rfl, stdOf_inv data _ (by simp [Lineage.empty, dictGet?]) n c hg⟩

theorem denotes_base (c : CreateTable) : Denotes (byCreateTable c) (baseRel c) :=
  ⟨by rw [C16.byCreate_names]; simp [baseRel], C16.byCreate_srcOf c, by
    unfold byCreateTable relTables
    rw [mk_tables, go_srcs]
    simp [Lineage.empty, baseRel, Function.comp_def], by
    obtain ⟨cols, e, hm⟩ := allStd_mk (byCreateTable.go c c.columns 0)
    refine ⟨cols, e, ?_⟩
    rw [hm]
    have := congrArg (List.map (·.1)) (C16.go_names c c.columns 0)
    simpa [baseRel, List.map_map, Function.comp_def] using this⟩

theorem number_map_name : ∀ (R : Rel) (i : Nat), (C16.number R i).map (fun p => (p.1.name, p.2)) = R
  | [], _ => rfl
  | (n, s) :: r, i => by simp [C16.number, number_map_name r]

theorem number_srcs : ∀ (R : Rel) (i : Nat), (C16.number R i).map (·.2) = R.map (·.2)
  | [], _ => rfl
  | (n, s) :: r, i => by simp [C16.number, number_srcs r]

/-- the lineage object built from a relation with pairwise distinct column names denotes that relation -/
theorem denotes_mk (R : Rel) (i : Nat) (h : (R.map (·.1)).Nodup) : Denotes (mkLineage (C16.number R i) Lineage.empty) R := by
  refine ⟨?_, ?_, by rw [mk_tables, number_srcs]; rfl, by
    obtain ⟨cols, e, hm⟩ := allStd_mk (C16.number R i)
    exact ⟨cols, e, by rw [hm]; exact number_names R i⟩⟩
  · rw [C16.mk_names, number_names]; simp [Lineage.empty]
  · intro n
    rw [C16.mk_srcOf]
    have key : (C16.number R i).foldl (fun m p => dictSet m p.1.name p.2) ([] : List (String × List SrcCol))
        = ((C16.number R i).map (fun p => (p.1.name, p.2))).foldl (fun m p => dictSet m p.1 p.2) [] := by
      rw [List.foldl_map]
    simp only [Lineage.empty]
    rw [key, number_map_name, foldl_dictSet_fresh R [] h (by simp)]
    simp

theorem relHas_eq (R : Rel) (n : String) : relHas R n = (dictGet? R n).isSome := by
  rw [dictGet?_isSome, relHas, List.contains_eq_any_beq, List.any_map]
  exact List.any_congr rfl fun p => Bool.beq_comm ..

theorem dictGet_of_has (R : Rel) (n : String) (h : relHas R n = true) : ∃ s, dictGet? R n = some s :=
  Option.isSome_iff_exists.1 (relHas_eq R n ▸ h)

theorem dictGet_none_of_not_has (R : Rel) (n : String) (h : relHas R n = false) : dictGet? R n = none :=
  Option.not_isSome_iff_eq_none.1 (by rw [← relHas_eq, h]; simp)

theorem hasColumn_denotes {L : Lineage} {R : Rel} (h : Denotes L R) (n : String) (hn : (n != "*") = true) :
    L.hasColumn n = relHas R n := by
  have : (n == "*") = false := by simpa using hn
  simp [Lineage.hasColumn, relHas, h.names, this]

/-! ### the model on a level whose select items are all named -/

theorem mapLateral_nil : ∀ qs : List QCol, mapLateral [] qs = qs
  | [] => rfl
  | c :: r => by
    have ih := mapLateral_nil r
    unfold mapLateral at ih ⊢
    rw [List.flatMap_cons, ih]
    obtain ⟨t, n, ix⟩ := c
    cases t <;> cases n <;> simp [dictGet?]

theorem currentLevelSingle_cons_named (cat : Cat) (tn : List (String × StdTable)) {it : Expr × Option String} {n : String}
    (h : itemName it = some n) (r : List (Expr × Option String)) (idx : Nat) (st : St) :
    currentLevelSingle cat tn (it :: r) idx st =
      currentLevelSingle cat tn r (idx + 1) st >>= fun p => pure ((⟨Int.ofNat idx, n⟩, colsE it.1) :: p.1, p.2) := by
  obtain ⟨e, a⟩ := it
  cases a with
  | some a => cases h; simp [currentLevelSingle, C15.expr_ok e, bind, Except.bind, pure, Except.pure]
  | none =>
    cases e <;> simp [itemName] at h
    case column t m => subst h; simp [currentLevelSingle, C15.expr_ok (.column t m), bind, Except.bind, pure, Except.pure]

theorem currentLevelSingle_named (cat : Cat) (tn : List (String × StdTable)) :
    ∀ (its : List (Expr × Option String)) (idx : Nat) (st : St), (∀ it ∈ its, (itemName it).isSome = true) →
      currentLevelSingle cat tn its idx st = .ok (Flow.curOf its idx, st)
  | [], idx, st, _ => by simp [currentLevelSingle, Flow.curOf]
  | it :: r, idx, st, h => by
    obtain ⟨n, hn⟩ := Option.isSome_iff_exists.1 (h it List.mem_cons_self)
    rw [currentLevelSingle_cons_named cat tn hn, currentLevelSingle_named cat tn r (idx + 1) st fun x hx => h x (List.mem_cons_of_mem _ hx)]
    simp [Flow.curOf, hn]; rfl

end LineageL
