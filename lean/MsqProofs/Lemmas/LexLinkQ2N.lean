import MsqProofs.Lemmas.LexLinkQ2E2
/-!
# The lexer link for the larger fragment: the expression productions beyond `FragE3`

CAST, EXTRACT, window functions (PARTITION BY / ORDER BY with NULLS FIRST / LAST / frames), array index; order items with all suffixes.

**Square brackets.**  The lexer opens a frame at `[` and closes it at `]` into ONE group token of kind `slice` with the ARRAY_INDEX mark whose
children are the tokens between — exactly `TQ2.arr`.  (F-C04-2: the `source` of that group renders with ROUND brackets; the parser reads
the children, so the link is not affected.)  What IS affected: `]` is no delimiter of the link's context predicate `Lx` (a text is followed
by nothing, a blank, `)`, `,` or a line break), and an index expression is followed by `]` directly.  Hence the context `LxAny` — a text that returns the
lexer between tokens WHATEVER follows (back-quoted names, bracket groups, calls) — and the restriction `idxInnerOK`: the index expression
is a column, a numeral, a quoted string, or is printed in brackets.  The base of an index (a column or a call, `TQ2.idxBaseOK4`) is always `LxAny`.
`LL2.LxA`, `LL2.LxR` are `LxAny` and `LxD (NextIs ']')` written out (`lxa_slice` is stated with them, `lxany_slice` reads it back).
-/
namespace LL2
open Lex Spec C05 C06 C09 Ast TP TS LexLink TQ2
open LLD (ps pc sp)

section
variable {d : Gen.D} {K : QKit}

theorem lv_alias {a : Option String} (h : Lv2 d K (leavesAlias2 a)) : optAliasLex a ∧ ∀ y, a = some y → K.Q y.toList := by
  cases a with
  | none => exact ⟨trivial, fun y hy => by cases hy⟩
  | some a =>
    simp only [leavesAlias2, leavesAlias, List.map_cons, List.map_nil, lv2_cons_old, lv2_nil, and_true] at h
    exact ⟨h.1, fun y hy => by cases hy; exact h.2 a (by simp [strs])⟩

def LxA (u : List Char) (ts : List Tok) : Prop :=
  ∀ (T pre rest : List Char) (f : List Tok) (fs : List (List Tok)), T = pre ++ u ++ rest →
    runTail Gen.cfgS T (u ++ rest) ⟨pre.length, pre.length, .WAIT, f :: fs⟩ =
      runTail Gen.cfgS T rest ⟨pre.length + u.length, pre.length + u.length, .WAIT, (f ++ ts) :: fs⟩

theorem l_openS : Gen.cfgS.lookup .WAIT (.ch '[') = some openSlice := look (by decide +kernel)
theorem l_closeS : Gen.cfgS.lookup .WAIT (.ch ']') = some closeSlice := look (by decide +kernel)

theorem step_openS (T r : List Char) (n : Nat) (stk : List (List Tok)) :
    runTail Gen.cfgS T ('[' :: r) ⟨n, n, .WAIT, stk⟩ = runTail Gen.cfgS T r ⟨n + 1, n + 1, .WAIT, [] :: stk⟩ := by
  have h : handle Gen.cfgS T ⟨n, n, .WAIT, stk⟩ (.ch '[') = .ok (⟨n + 1, n + 1, .WAIT, [] :: stk⟩, true) := by
    simp [Lex.handle, l_openS, openSlice, shipped_code, Gen.Cls.code, exec]
  rw [runTail_cons_wait, h]
  rfl

theorem step_closeS (T r : List Char) (n : Nat) (g f : List Tok) (fs : List (List Tok)) :
    runTail Gen.cfgS T (']' :: r) ⟨n, n, .WAIT, g :: f :: fs⟩ =
      runTail Gen.cfgS T r ⟨n + 1, n + 1, .WAIT, (f ++ [arr g]) :: fs⟩ := by
  have h : handle Gen.cfgS T ⟨n, n, .WAIT, g :: f :: fs⟩ (.ch ']') =
      .ok (⟨n + 1, n + 1, .WAIT, (f ++ [arr g]) :: fs⟩, true) := by
    simp [Lex.handle, l_closeS, closeSlice, shipped_code, Gen.Cls.code, exec, appendTop, resolveMarks, arr, Lex.ARRAY, Gen.mark_ARRAY_INDEX]
  rw [runTail_cons_wait, h]
  rfl

def LxR (u : List Char) (ts : List Tok) : Prop :=
  ∀ (T pre rest : List Char) (f : List Tok) (fs : List (List Tok)), T = pre ++ u ++ ']' :: rest →
    runTail Gen.cfgS T (u ++ ']' :: rest) ⟨pre.length, pre.length, .WAIT, f :: fs⟩ =
      runTail Gen.cfgS T (']' :: rest) ⟨pre.length + u.length, pre.length + u.length, .WAIT, (f ++ ts) :: fs⟩

/-- `[ … ]`: ONE slice group whose children are the tokens of the text between -/
theorem lxa_slice {a : List Char} {ta : List Tok} (ha : LxR a ta) : LxA ('[' :: (a ++ [']'])) [arr ta] := by
  intro T pre rest f fs hT
  have e1 : ('[' :: (a ++ [']'])) ++ rest = '[' :: (a ++ (']' :: rest)) := by simp
  rw [e1, step_openS]
  have hT1 : T = (pre ++ ['[']) ++ a ++ (']' :: rest) := by rw [hT]; simp
  have := ha T (pre ++ ['[']) rest [] (f :: fs) hT1
  simp only [List.length_append, List.length_cons, List.length_nil, List.nil_append] at this ⊢
  rw [this, step_closeS]
  congr 2 <;> omega

theorem lxany_slice {a : List Char} {ta : List Tok} (ha : LxD (NextIs ']') a ta) : LxAny ('[' :: (a ++ [']'])) [arr ta] :=
  fun T pre rest f fs hT _ => lxa_slice (fun T pre rest f fs hT => ha T pre _ f fs hT ⟨rest, rfl⟩) T pre rest f fs hT

structure GO4 (d : Gen.D) (K : QKit) (o : OrderItem) : Prop where
  lx : Lx (ordItem4L d o) (toksOrdItem4 d noX o)
  pr : PR.prOrd d o = .ok (String.ofList (ordItem4L d o))
  q : K.Q (ordItem4L d o)

def sufPieces (desc nf nl : Bool) : List (List Char) :=
  (if desc then [kwL "DESC"] else []) ++ ((if nf then [kwL "NULLS" ++ ' ' :: kwL "FIRST"] else []) ++
    (if nl then [kwL "NULLS" ++ ' ' :: kwL "LAST"] else []))
theorem ordSufL_eq (desc nf nl : Bool) : ordSufL desc nf nl = pc (sufPieces desc nf nl) := by
  cases desc <;> cases nf <;> cases nl <;> rfl

theorem pc_w2 (hK : QW2 K) (k : String) (hk : k ∈ q2Words) : Pc K k.toList [opTok k] := ⟨lx_w2 k hk, hK.ws k hk⟩

theorem segp_if (b : Bool) {u : List Char} {ts : List Tok} (h : Pc K u ts) : SegP K ' ' (if b then [u] else []) (if b then ts else []) := by
  cases b
  · exact SegP.nil _
  · exact SegP.one _ h

theorem go_item (hK : QW2 K) (e : Expr) (desc nf nl : Bool) (he : GE4 d K e) : GO4 d K (.mk e desc nf nl) := by
  have hN := pc_w2 hK "NULLS" (by simp [q2Words])
  have hseg : SegP K ' ' (sufPieces desc nf nl) ((if desc then [opTok "DESC"] else []) ++
      ((if nf then [opTok "NULLS", opTok "FIRST"] else []) ++ (if nl then [opTok "NULLS", opTok "LAST"] else []))) :=
    SegP.append sp (segp_if desc (pc_cw "DESC" (by simp [clauseWords]))) (SegP.append sp
      (segp_if nf (hN.sep (pc_w2 hK "FIRST" (by simp [q2Words])))) (segp_if nl (hN.sep (pc_w2 hK "LAST" (by simp [q2Words])))))
  have hp := (he.pcw 8).tail hseg
  rw [← ordSufL_eq] at hp
  refine ⟨Lx.congr hp.lx (by simp only [ordItem4L]) (by simp only [toksOrdItem4]), ?_, by simpa only [ordItem4L] using hp.q⟩
  simp only [PR.prOrd, he.pr, Except.map, wrap_ofList]
  refine ok_ofList ?_
  have e1 : (" DESC" : String).toList = ' ' :: kwL "DESC" := rfl
  have e2 : (" NULLS FIRST" : String).toList = ' ' :: (kwL "NULLS" ++ ' ' :: kwL "FIRST") := rfl
  have e3 : (" NULLS LAST" : String).toList = ' ' :: (kwL "NULLS" ++ ' ' :: kwL "LAST") := rfl
  cases desc <;> cases nf <;> cases nl <;>
    simp [toString, String.toList_append, String.toList_ofList, ordItem4L, ordSufL, e1, e2, e3]

theorem ord4LL_eq (os : List OrderItem) : ord4LL d os = os.map (ordItem4L d) := by
  induction os with
  | nil => simp [ord4LL]
  | cons o r ih => simp [ord4LL, ih]
theorem pr_ordList (os : List OrderItem) : (∀ o ∈ os, GO4 d K o) → PR.prOrdList d os = .ok ((os.map (ordItem4L d)).map String.ofList) := by
  induction os with
  | nil => intro _; rfl
  | cons o r ih =>
    intro h
    have h1 := (h o (by simp)).pr
    have h2 := ih fun y hy => h y (by simp [hy])
    simp only [PR.prOrdList, h1, h2, bind, Except.bind, pure, Except.pure, List.map_cons]
theorem toksOrdList4_eq : ∀ (os : List OrderItem) (o : OrderItem),
    toksOrdList4 d noX (o :: os) = toksOrdItem4 d noX o ++ toksOrdTail4 d noX os := fun _ _ => by simp only [toksOrdList4]
theorem pc_ordList (o : OrderItem) (os : List OrderItem) (h : ∀ x ∈ o :: os, GO4 d K x) :
    Pc K (joinLL [',', ' '] ((o :: os).map (ordItem4L d))) (toksOrdItem4 d noX o ++ toksOrdTail4 d noX os) :=
  Pc.commaList (ordItem4L d) (toksOrdItem4 d noX) (toksOrdTail4 d noX) (by simp [toksOrdTail4])
    (by intro x xs; simp [toksOrdTail4]) os o fun y hy => ⟨(h y hy).lx, (h y hy).q⟩
theorem lx_ordList (o : OrderItem) (os : List OrderItem) (h : ∀ x ∈ o :: os, GO4 d K x) :
    Lx (joinLL [',', ' '] ((o :: os).map (ordItem4L d))) (toksOrdItem4 d noX o ++ toksOrdTail4 d noX os) := (pc_ordList o os h).lx
theorem q_ordList (os : List OrderItem) (h : ∀ x ∈ os, GO4 d K x) : K.Q (joinLL [',', ' '] (os.map (ordItem4L d))) :=
  K.joinLL2 _ fun y hy => by
    obtain ⟨o, ho, rfl⟩ := List.mem_map.mp hy
    exact (h o ho).q

theorem castVal_mem (ty : String) (h : castTyOK ty = true) :
    ∃ e ∈ Gen.castTypes, castVal ty = e.2 ∧ PR.valueSrc Gen.castTypes ty = .ok e.2 := by
  cases hf : Gen.castTypes.find? (·.1 == ty) with
  | some e => exact ⟨e, List.mem_of_find?_eq_some hf, by simp [castVal, hf], by simp [PR.valueSrc, hf]⟩
  | none =>
    have hv : castVal ty = "" := by simp [castVal, hf]
    have hno : Gen.castTypes.find? (fun k => (opTok "").equalsStr k.2) = none := by decide
    simp [castTyOK, hv, hno] at h

theorem pc_ints (l : List Int) (h : l.all intOK = true) : Pc K (joinLL [',', ' '] (l.map fun n => (toString n).toList)) (intsToks l) := by
  have hall : ∀ m ∈ l, 0 ≤ m := fun m hm => by
    have := (List.all_eq_true.mp h) m hm
    simp only [intOK, Bool.and_eq_true, decide_eq_true_eq] at this
    exact this.1
  cases l with
  | nil => simpa [joinLL, intsToks] using (Pc.nil (K := K))
  | cons n r =>
    exact (Pc.commaList (fun m : Int => (toString m).toList) (fun m => [intTok m]) intsTail (by simp [intsTail])
      (by intro x xs; simp [intsTail, TS.commaTok, TP2.commaTok]) r n
      fun y hy => ⟨lx_intTok y (hall y hy), K.num y (hall y hy)⟩).congr rfl (by simp [intsToks])

theorem castParts_good (hK : QW2 K) (sg : Bool) (ty : String) (ps : Option (List Int)) (hty : castTyOK ty = true) (hps : castParamsOK ps = true) :
    SegP K ' ' (castPartsL sg ty ps) ((if sg then [opTok "SIGNED"] else []) ++ opTok (castVal ty) :: castParamToks ps) := by
  obtain ⟨e, he, hv, _⟩ := castVal_mem ty hty
  have hT : Pc K (castVal ty).toList [opTok (castVal ty)] :=
    hv ▸ ⟨lx_kwd ((List.all_eq_true.mp cast_words_plainL) e he), hK.cts e he⟩
  have hP : SegP K ' ' (castParamPieces ps) (castParamToks ps) := by
    cases ps with
    | none => exact SegP.nil _
    | some l => exact SegP.one _ ((pc_ints l hps).paren.congr rfl (by simp [castParamToks, grp_eq]))
  have := SegP.append sp (segp_if sg (pc_w2 hK "SIGNED" (by simp [q2Words]))) (SegP.cons sp hT hP)
  cases sg <;> exact this

theorem plain_castExtract : plainL "CAST".toList = true ∧ plainL "EXTRACT".toList = true := by decide

theorem ge_cast (hK : QW2 K) (e : Expr) (sg : Bool) (ty : String) (ps : Option (List Int)) (hty : castTyOK ty = true)
    (hps : castParamsOK ps = true) (he : GE4 d K e) : GE4 d K (.cast e sg ty ps) :=
  GE4.of
    (((Pc.call (tk_plain "CAST".toList plain_castExtract.1 '(' (Or.inl rfl)) (hK.ws "CAST" (by simp [q2Words]))
      ((he.pcw 8).sep ((pc_cw "AS" (by simp [clauseWords])).sep ((castParts_good hK sg ty ps hty hps).pc sp)))).congr
      (by simp [prE4L, castL]) (by simp [toksE4, grp_eq, opTok_eq])))
    (by
      obtain ⟨e', he', hv, hsrc⟩ := castVal_mem ty hty
      simp only [PR.prE, he.pr, hsrc, Except.map, bind, Except.bind, pure, Except.pure, wrap_ofList, prE4L, castL]
      refine ok_ofList ?_
      have e3 : (", " : String).toList = [',', ' '] := rfl
      have e4 : (" " : String).toList = [' '] := rfl
      cases sg <;> cases ps <;>
        simp [toString, String.toList_append, String.toList_ofList, toList_joinS, castPartsL, castParamPieces, hv, joinLL, e3, e4, Function.comp_def]
    )
    ⟨'C', _, by simp only [prE4L, castL]; rfl, by decide⟩

theorem ge_extract (hK : QW2 K) (n e : Expr) (hn : GE4 d K n) (he : GE4 d K e) : GE4 d K (.extract n e) :=
  GE4.of
    ((Pc.call (tk_plain "EXTRACT".toList plain_castExtract.2 '(' (Or.inl rfl)) (hK.ws "EXTRACT" (by simp [q2Words]))
      ((hn.pcw 8).sep ((pc_cw "FROM" (by simp [clauseWords])).sep (he.pcw 8)))).congr
      (by simp [prE4L, extractL]) (by simp [toksE4, grp_eq, opTok_eq]))
    (by
      simp only [PR.prE, hn.pr, he.pr, Except.map, bind, Except.bind, pure, Except.pure, wrap_ofList, prE4L, extractL]
      refine ok_ofList ?_
      have e1 : ("EXTRACT(" : String).toList = kwL "EXTRACT" ++ ['('] := rfl
      have e2 : (" FROM " : String).toList = ' ' :: (kwL "FROM" ++ [' ']) := rfl
      have e3 : (")" : String).toList = [')'] := rfl
      simp [toString, String.toList_append, String.toList_ofList, e1, e2, e3]
    )
    ⟨'E', _, by simp only [prE4L, extractL]; rfl, by decide⟩

def rowOK0 : RowItem → Prop
  | .num n _ => 0 ≤ n
  | _ => True
theorem rowOK0_of {r : RowItem} (h : rowOK r = true) : rowOK0 r := by
  cases r with
  | num n p =>
    simp only [rowOK, intOK, Bool.and_eq_true, decide_eq_true_eq] at h
    exact h.1.1.1
  | _ => trivial

theorem row_good (hK : QW2 K) (r : RowItem) (h : rowOK0 r) : Pc K (rowL r) (rowToks r) := by
  have w2 := pc_w2 hK
  have hF := w2 "FOLLOWING" (by simp [q2Words])
  have hP := w2 "PRECEDING" (by simp [q2Words])
  cases r with
  | current => exact (w2 "CURRENT" (by simp [q2Words])).sep (w2 "ROW" (by simp [q2Words]))
  | unbounded p =>
    have a := w2 "UNBOUNDED" (by simp [q2Words])
    cases p
    · exact a.sep hF
    · exact a.sep hP
  | num n p =>
    have a : Pc K (toString n).toList [intTok n] := ⟨lx_intTok n h, K.num n h⟩
    cases p
    · exact a.sep hF
    · exact a.sep hP

theorem rows_good (hK : QW2 K) (rows : Option (RowItem × RowItem)) (h : rowsOK rows = true) :
    SegP K ' ' (rowsPieces rows) (toksRows rows) := by
  cases rows with
  | none => exact SegP.nil _
  | some p =>
    obtain ⟨a, b⟩ := p
    simp only [rowsOK, Bool.and_eq_true] at h
    exact SegP.one _ (((pc_w2 hK "ROWS" (by simp [q2Words])).sep ((pc_kw "BETWEEN" (by simp [keywords])).sep
      ((row_good hK a (rowOK0_of h.1)).sep ((pc_kw "AND" (by simp [keywords])).sep (row_good hK b (rowOK0_of h.2)))))).congr
      (by simp) (by simp [toksRows]))

theorem rowSrc_eq (r : RowItem) : (PR.rowSrc r).toList = rowL r := by
  have e1 : ("UNBOUNDED " : String).toList = kwL "UNBOUNDED" ++ [' '] := rfl
  have e2 : (" " : String).toList = [' '] := rfl
  have e3 : ("PRECEDING" : String).toList = kwL "PRECEDING" := rfl
  have e4 : ("FOLLOWING" : String).toList = kwL "FOLLOWING" := rfl
  cases r with
  | current => rfl
  | unbounded p => cases p <;> simp only [PR.rowSrc, rowL, String.toList_append, e1, e3, e4, Bool.false_eq_true, if_false, if_true, List.append_assoc, List.singleton_append]
  | num n p => cases p <;> simp only [PR.rowSrc, rowL, toString, String.toList_append, e2, e3, e4, Bool.false_eq_true, if_false, if_true, List.append_assoc, List.singleton_append]

theorem ge_window (hK : QW2 K) (fn : Expr) (part : List Expr) (ord : List OrderItem) (rows : Option (RowItem × RowItem))
    (hfn : GE4 d K fn) (hpart : ∀ a ∈ part, GE4 d K a) (hord : ∀ o ∈ ord, GO4 d K o) (hrows : rowsOK rows = true) :
    GE4 d K (.window fn part ord rows) := by
  have hP : SegP K ' ' (if part.isEmpty then [] else [kwL "PARTITION" ++ ' ' :: (kwL "BY" ++ ' ' :: joinLL [',', ' '] (prList84LL d part))])
      ((if part.isEmpty then [] else [opTok "PARTITION", opTok "BY"]) ++ toksArgs4 d noX 8 part) := by
    cases part with
    | nil => simpa [toksArgs4] using SegP.nil (K := K) ' '
    | cons a as =>
      exact SegP.one _ (((pc_w2 hK "PARTITION" (by simp [q2Words])).sep ((pc_cw "BY" (by simp [clauseWords])).sep
        (pc_args8 (a :: as) hpart))).congr (by simp) (by simp))
  have hO : SegP K ' ' (if ord.isEmpty then [] else [kwL "ORDER" ++ ' ' :: (kwL "BY" ++ ' ' :: joinLL [',', ' '] (ord4LL d ord))])
      ((if ord.isEmpty then [] else [opTok "ORDER", opTok "BY"]) ++ toksOrdList4 d noX ord) := by
    cases ord with
    | nil => simpa [toksOrdList4] using SegP.nil (K := K) ' '
    | cons o os =>
      exact SegP.one _ (((pc_cw "ORDER" (by simp [clauseWords])).sep ((pc_cw "BY" (by simp [clauseWords])).sep
        (pc_ordList o os hord))).congr (by simp [ord4LL_eq]) (by simp [toksOrdList4]))
  have hin : Pc K (joinLL [' '] (winPieces part.isEmpty (prList84LL d part) ord.isEmpty (ord4LL d ord) rows)) _ :=
    (SegP.append sp hP (SegP.append sp hO (rows_good hK rows hrows))).pc sp
  refine GE4.of ((hfn.pc.sep ((pc_w2 hK "OVER" (by simp [q2Words])).sep hin.paren)).congr (by simp [prE4L, windowL]) (by simp [toksE4, grp_eq])) ?_ ?_
  · simp only [PR.prE, hfn.pr, pr_list8 part hpart, pr_ordList ord hord, bind, Except.bind, pure, Except.pure, prE4L, windowL]
    refine ok_ofList ?_
    have e3 : (", " : String).toList = [',', ' '] := rfl
    have e4 : (" " : String).toList = [' '] := rfl
    have eP : ("PARTITION BY " : String).toList = kwL "PARTITION" ++ ' ' :: (kwL "BY" ++ [' ']) := rfl
    have eO : ("ORDER BY " : String).toList = kwL "ORDER" ++ ' ' :: (kwL "BY" ++ [' ']) := rfl
    have eR : ("ROWS BETWEEN " : String).toList = kwL "ROWS" ++ ' ' :: (kwL "BETWEEN" ++ [' ']) := rfl
    have eA : (" AND " : String).toList = ' ' :: (kwL "AND" ++ [' ']) := rfl
    have eV : (" OVER (" : String).toList = ' ' :: (kwL "OVER" ++ [' ', '(']) := rfl
    rcases rows with _ | ⟨a, b⟩ <;> cases hp : part.isEmpty <;> cases ho : ord.isEmpty <;>
      simp [toString, String.toList_append, String.toList_ofList, toList_joinS, winPieces, rowsPieces, joinLL, e3, e4,
        eP, eO, eR, eA, eV, rowSrc_eq, ord4LL_eq, Function.comp_def]
  · obtain ⟨c, b', hc, hne⟩ := hfn.fc
    exact ⟨c, b' ++ (' ' :: (kwL "OVER" ++ ' ' :: '(' :: (joinLL [' '] (winPieces part.isEmpty (prList84LL d part) ord.isEmpty (ord4LL d ord) rows) ++ [')']))),
      by simp only [prE4L, windowL, hc]; rfl, hne⟩

theorem base_any (a : Expr) (hb : idxBaseOK4 d a = true) (hl : Lv2 d K (leavesE4 a))
    (hargs : ∀ n ps, a = .func none n ps → ∀ x ∈ ps, GE4 d K x) : LxAny (prE4L d a) (toksE4 d noX a) := by
  cases a <;> try (simp [idxBaseOK4] at hb; done)
  case column t c =>
    simp only [leavesE4, lv2_cons_old, lv2_nil, and_true] at hl
    exact any_col t c hl.1
  case func s n ps =>
    cases s with
    | some s => simp [idxBaseOK4] at hb
    | none =>
      simp only [leavesE4, lv2_cons_old] at hl
      exact (any_call n ps hl.1.1.2 (hargs n ps rfl)).congr (by simp [prE4L, fnameL]) (by simp [toksE4, grp_eq])

theorem inner_rb (i : Expr) (hi : idxInnerOK i = true) (hl : Lv2 d K (leavesE4 i)) (gi : GE4 d K i) :
    LxD (NextIs ']') (wrapL i 8 (prE4L d i)) (wrapT (noX i) i 8 (toksE4 d noX i)) := by
  by_cases hlv : PR.lvl i > 8
  · have e1 : wrapL i 8 (prE4L d i) = '(' :: (prE4L d i ++ [')']) := by unfold wrapL; simp [hlv]
    have e2 : wrapT (noX i) i 8 (toksE4 d noX i) = [.group .paren (toksE4 d noX i) Gen.mark_PARENTHESIS] := by
      unfold wrapT; simp [hlv, noX, grp_eq]
    rw [e1, e2]; exact (LxAny.paren gi.lx).mono fun _ _ => trivial
  · have e1 : wrapL i 8 (prE4L d i) = prE4L d i := by unfold wrapL; simp [hlv]
    have e2 : wrapT (noX i) i 8 (toksE4 d noX i) = toksE4 d noX i := by unfold wrapT; simp [hlv, noX]
    rw [e1, e2]
    simp only [idxInnerOK, hlv, decide_false, Bool.false_or] at hi
    cases i <;> try (simp at hi; done)
    case column t c =>
      simp only [leavesE4, lv2_cons_old, lv2_nil, and_true] at hl
      exact (any_col t c hl.1).mono fun _ _ => trivial
    case literal v =>
      simp only [leavesE4, lv2_cons_old, lv2_nil, and_true] at hl
      have hlit : litLex v := hl.1
      rcases hlit with ⟨hne, hd⟩ | ⟨k, body, hk, hv, hb, _⟩ | ⟨hw, _⟩
      · simpa [prE4L, toksE4, litTok_digits v hne hd] using Tk.ctx.mp (tk_int v.toList hne hd ']' (.inl rfl))
      · have := Tk.ctx.mp (tk_string k hk body hb ']' (by cases k <;> decide))
        rw [← hv] at this
        simpa [prE4L, toksE4, litTok_quoted v k hk body hv] using this
      · -- a word is neither a numeral nor quoted
        exfalso
        cases hv : v.toList with
        | nil => rw [hv] at hw; cases hw
        | cons c cs =>
          have hsw : startsWord c = true := by rw [hv] at hw; simp only [isWord, Bool.and_eq_true] at hw; exact hw.1
          simp only [startsWord, Bool.and_eq_true, Bool.not_eq_eq_eq_not, Bool.not_true] at hsw
          have hnd : isDigit c.toNat = false := hsw.1.1.2
          have hnq := isWordChar_not_quote c hsw.1.1.1
          simp only [numeralB, quotedB, hv, List.head?_cons, List.all_cons, hnd, Bool.false_and, Bool.and_false, Bool.false_or,
            Bool.or_eq_true, beq_iff_eq, Option.some.injEq] at hi
          rcases hi with e | e
          · exact hnq.1 e
          · exact hnq.2 e

theorem ge_index (hK : QW2 K) (a i : Expr) (hd : d = .HIVE) (hb : idxBaseOK4 d a = true) (hi : idxInnerOK i = true)
    (la : Lv2 d K (leavesE4 a)) (li : Lv2 d K (leavesE4 i)) (ga : GE4 d K a) (gi : GE4 d K i)
    (hargs : ∀ n ps, a = .func none n ps → ∀ x ∈ ps, GE4 d K x) : GE4 d K (.index a i) where
  lx := Lx.congr (LxAny.lx (LxD.append (base_any a hb la hargs) (lxany_slice (inner_rb i hi li gi)) fun _ _ => trivial))
    (by simp only [prE4L, indexL]) (by simp only [toksE4])
  pr := by
    subst hd
    simp only [PR.prE, ga.pr, gi.pr, Except.map, bind, Except.bind, pure, Except.pure, wrap_ofList, prE4L, indexL]
    refine ok_ofList ?_
    simp [toString, String.toList_append, String.toList_ofList]
  q := by
    have := K.sep _ _ '[' hK.s_lb ga.q (K.post hK.s_rb (gi.qw 8))
    simpa [prE4L, indexL] using this
  fc := by
    obtain ⟨c, b', hc, hne⟩ := ga.fc
    exact ⟨c, b' ++ '[' :: (wrapL i 8 (prE4L d i) ++ [']']), by simp only [prE4L, indexL, hc]; rfl, hne⟩

end
end LL2
