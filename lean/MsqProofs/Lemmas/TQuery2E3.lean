import MsqProofs.Lemmas.TQuery2E2
/-! Larger nested fragment (TQ2), expression layer: names, calls, CASE as the instances of Lemmas/TCoreCall.lean at the renderings of the
fragment -/
open Lex PM Ast SR TP TP2
open TQ (tblTok unionWords lvlH isExists lvlH_eq lvlH_ge lvlH_of_le8 isOkPair tblOK)
namespace TQ2
variable {d : Gen.D} {ch : Expr → Bool}

theorem lit_up_ne (v w : String) (hv : litOK d v = true) (hw1 : Gen.wordMarks.find? (·.1 == w) = none)
    (hw2 : w.toList.head?.all (fun c => !c.isDigit && c != '\'' && c != '"') = true) : up v ≠ w := TP2.lit_up_ne v w hv hw1 hw2

theorem nmOK_parts {t : Tok} {n : String} (h : nmOK d t n = true) :
    (Gen.unarySet d).contains t.src = false ∧ operandTok d t = true ∧ hdTok t = true ∧ t.has NAME = true ∧ t.has LITERAL = false ∧
      t.has PAREN = false ∧ t.srcEqUp "CASE" = false ∧ t.srcEq "*" = false ∧ unifyName t.src = n ∧ t.equalsStr "," = false ∧
      t.equalsStr "." = false := TP2.nmOK_parts h
theorem dot_facts : dotTok.has PAREN = false ∧ dotTok.srcEq "." = true ∧ dotTok.equalsStr "." = true ∧ dotTok.size = 1 ∧
    starTok.has NAME = false ∧ starTok.srcEq "*" = true ∧ starTok.has LITERAL = false ∧ starTok.has PAREN = false ∧
    starTok.srcEqUp "CASE" = false ∧ starTok.size = 1 ∧ commaTok.size = 1 := TP2.dot_facts

theorem RT4.hdW {e : Expr} (h : RT4 d ch e) (L : Nat) : TC.Hd (W4 d ch e L) :=
  let ⟨t, ts', h1, h2, _⟩ := h.headW L; ⟨t, ts', h1, h2⟩
theorem RT4.arg {e : Expr} (h : RT4 d ch e) : TC.Arg d (W4 d ch e 14) e := ⟨TC.fullO_true.2 (h.at 14 (by omega)).s14, h.hdW 14⟩
theorem toksArgsTail4_eq (k : Nat) (es : List Expr) : toksArgsTail4 d ch k es = TC.commaTail (W4 d ch · k) es := by
  induction es with
  | nil => simp only [toksArgsTail4, TC.commaTail]
  | cons e es ih => simp only [toksArgsTail4, TC.commaTail, ih, W4]; rfl
theorem toksArgs4_eq (k : Nat) (es : List Expr) : toksArgs4 d ch k es = TC.commaList (W4 d ch · k) es := by
  cases es <;> simp only [toksArgs4, TC.commaList, toksArgsTail4_eq, W4]
theorem args_rel (ps : List Expr) (h : ∀ a ∈ ps, RT4 d ch a) : TC.CommaSep (TC.Arg d) (toksArgs4 d ch 14 ps) ps :=
  ⟨_, toksArgs4_eq 14 ps, fun a ha => (h a ha).arg⟩

theorem args_ok (ps : List Expr) (h : ∀ a ∈ ps, RT4 d ch a) :
    ∃ acc r2, OkAt (fun f => pFirstArg d f (toksArgs4 d ch 14 ps)) (20 * sizeL (toksArgs4 d ch 14 ps) + 18) (acc, r2) ∧
      OkAt (fun f => pArgs d f acc r2) (20 * sizeL (toksArgs4 d ch 14 ps) + 18) (ps, []) := TC.args_run (args_rel ps h)
theorem args_noDistinct (ps : List Expr) (h : ∀ a ∈ ps, RT4 d ch a) : searchStrUp (toksArgs4 d ch 14 ps) "DISTINCT" = false :=
  TC.args_noDistinct (args_rel ps h)

theorem pFuncName_plain (nm : Tok) (n : String) (A rest : List Tok) (hn : nm.has NAME = true) (hs : splitName nm.src = .ok (none, n)) :
    pFuncName (nm :: grp A :: rest) = .ok ((none, n), grp A :: rest) := TC.pFuncName_plain nm n A rest hn hs
theorem isOkNoneS_eq {r : Except Err (Option String × String)} {n : String} (h : isOkNoneS r n = true) : r = .ok (none, n) := TP2.isOkNoneS_eq h
theorem fnName_parts {n : String} (h : fnNameOK n = true) :
    (up n == "CAST") = false ∧ (up n == "EXTRACT") = false ∧ (up n == "IF") = false ∧ (up n == "SUBSTRING") = false ∧
      Gen.aggNames.contains (up n) = false := TP2.fnName_parts h
theorem callPrep_func (n : String) (A : List Tok) (h : fnNameOK n = true) : callPrep n (grp A) = (false, false, A) := TC.callPrep_func n A h
theorem full2_func (n : String) (ps : List Expr) (hn : fnOK d none n = true) (hps : ∀ a ∈ ps, RT4 d ch a) :
    Full2 d (P2 d) 2 0 [qTok n, grp (toksArgs4 d ch 14 ps)] (.func none n ps) := TC.fullO_true.1 (TC.full2_func n ps hn (args_rel ps hps))
theorem full2_qfunc (s n : String) (ps : List Expr) (hn : fnOK d (some s) n = true) (hps : ∀ a ∈ ps, RT4 d ch a) :
    Full2 d (P2 d) 2 0 [nameTok s, dotTok, qTok n, grp (toksArgs4 d ch 14 ps)] (.func (some s) n ps) :=
  TC.fullO_true.1 (TC.full2_qfunc s n ps hn (args_rel ps hps)).ofFalse
theorem full2_agg (n : String) (ps : List Expr) (dist : Bool) (hn : aggOK d n = true) (hps : ∀ a ∈ ps, RT4 d ch a) :
    Full2 d (P2 d) 2 0 [opTok n, grp ((if dist then [opTok "DISTINCT"] else []) ++ toksArgs4 d ch 14 ps)] (.agg n ps dist) :=
  TC.fullO_true.1 (TC.full2_agg n ps dist hn (args_rel ps hps))

theorem arms_rel (cs : List (Expr × Expr)) (h : ∀ p ∈ cs, RT4 d ch p.1 ∧ RT4 d ch p.2) : TC.Arms d (toksArms4 d ch cs) cs := by
  induction cs with
  | nil => simp only [toksArms4]; exact .nil
  | cons p r ih =>
    obtain ⟨w, t⟩ := p
    simp only [toksArms4]
    exact .cons (h (w, t) (by simp)).1.arg.full (h (w, t) (by simp)).2.arg.full (ih fun p' hp' => h p' (by simp [hp']))
theorem else_rel (els : Option Expr) (h : ∀ y, els = some y → RT4 d ch y) : TC.Else d (toksElse4 d ch els) els := by
  cases els with
  | none => simp only [toksElse4]; exact .none
  | some y => simp only [toksElse4]; exact .some (h y rfl).arg.full
theorem full2_caseCond (cs : List (Expr × Expr)) (els : Option Expr) (hne : cs ≠ []) (hcs : ∀ p ∈ cs, RT4 d ch p.1 ∧ RT4 d ch p.2)
    (hels : ∀ y, els = some y → RT4 d ch y) :
    Full2 d (P2 d) 2 0 (opTok "CASE" :: (toksArms4 d ch cs ++ (toksElse4 d ch els ++ [opTok "END"]))) (.caseCond cs els) :=
  TC.fullO_true.1 (TC.full2_caseCond hne (arms_rel cs hcs) (else_rel els hels)).ofFalse
set_option linter.unusedVariables false in
theorem full2_caseVal (v : Expr) (cs : List (Expr × Expr)) (els : Option Expr) (hne : cs ≠ []) (hv : RT4 d ch v)
    (hcs : ∀ p ∈ cs, RT4 d ch p.1 ∧ RT4 d ch p.2) (hels : ∀ y, els = some y → RT4 d ch y) :
    Full2 d (P2 d) 2 0 (opTok "CASE" :: (W4 d ch v 14 ++ (toksArms4 d ch cs ++ (toksElse4 d ch els ++ [opTok "END"])))) (.caseVal v cs els) :=
  TC.fullO_true.1 (TC.full2_caseVal hv.arg (arms_rel cs hcs) (else_rel els hels)).ofFalse

end TQ2
