import MsqProofs.Props.C02T
import MsqProofs.Props.C03
/-!
# T-parse for the SELECT skeleton, base definitions (C03 / C01)

* `toksS d s` — the TOKEN-level printer of a single SELECT: what `PR.prS d s` prints, clause by clause, as the tokens the lexer makes
  of it.  Every expression position re-uses `TP.toksE d TP.noX` (select items, `ON`, `WHERE`, `HAVING`: unwrapped; `GROUP BY` and
  `ORDER BY` keys: `TP.W … 8`, the printer's `wrap e 8`); table names are the back-quoted NAME token `tableNameSrc` prints; aliases are
  printed bare after `AS` (`quoteName` of a plain name that is no word of `Gen.wordMarks`); `LIMIT n` / `LIMIT m, n` as `limitSrc`.
  The link `lex (prS d s) = toksS d s` is the lexer's business and is proved separately (`C03.lex_prS`, Props/C03L.lean).
* `FragS d s` — the SELECT fragment (a `Bool`); see `MsqProofs/Props/C03T.lean`.
* `Bd d k rest` — the continuation `rest` may follow clause number `k` (0 select list, 1 FROM, 2 JOINs, 3 WHERE, 4 GROUP BY, 5 HAVING,
  6 ORDER BY, 7 LIMIT): it is empty, or its head does not continue an expression (`TP.stopTok d 14`), carries no NAME mark (it would be
  read as an alias; `CROSS` excepted, as in the parser), and is not a word a clause parser of rank `≤ k` looks for (`rank`).
  `stopsS d rest = Bd d 7 rest`: nothing of a SELECT follows.
-/
open Lex PM Ast TP
namespace TS

/-! ### tokens -/
def commaTok : Tok := opTok ","
/-- `LIMIT` arguments as `limitSrc` prints them -/
def intTok (n : Int) : Tok := litTok (toString n)
def aliasToks : Option String → List Tok
  | none => []
  | some a => [opTok "AS", opTok a]
def joinWords (ty : String) : List Tok :=
  match Gen.joinTypes.find? (·.1 == ty) with | some e => e.2.map opTok | none => []

variable (d : Gen.D)
def toksCol (c : Expr × Option String) : List Tok := toksE d noX c.1 ++ aliasToks c.2
def toksColsTail : List (Expr × Option String) → List Tok
  | [] => []
  | c :: cs => commaTok :: (toksCol d c ++ toksColsTail cs)
def tblName : TableRef → String
  | .table _ n => n
  | .sub _ => ""
def toksTable : FromTable → List Tok
  | .mk t a => nameTok (tblName t) :: aliasToks a
def toksTablesTail : List FromTable → List Tok
  | [] => []
  | t :: ts => commaTok :: (toksTable t ++ toksTablesTail ts)
def toksFrom : Option (List FromTable) → List Tok
  | some (t :: ts) => opTok "FROM" :: (toksTable t ++ toksTablesTail ts)
  | _ => []
def toksRule : Option JoinRule → List Tok
  | some (.on e) => opTok "ON" :: toksE d noX e
  | _ => []
def toksJoin : Join → List Tok
  | .mk ty t rule => joinWords ty ++ (toksTable t ++ toksRule d rule)
def toksJoins : List Join → List Tok
  | [] => []
  | j :: js => toksJoin d j ++ toksJoins js
def toksOpt (kw : String) : Option Expr → List Tok
  | some e => opTok kw :: toksE d noX e
  | none => []
def toksKeysTail : List Expr → List Tok
  | [] => []
  | e :: es => commaTok :: (W d noX e 8 ++ toksKeysTail es)
def toksGroup : Option GroupBy → List Tok
  | some (.mk (e :: es) _ _ _) => opTok "GROUP" :: opTok "BY" :: (W d noX e 8 ++ toksKeysTail d es)
  | _ => []
def toksOrdItem : OrderItem → List Tok
  | .mk e desc _ _ => W d noX e 8 ++ (if desc then [opTok "DESC"] else [])
def toksOrdTail : List OrderItem → List Tok
  | [] => []
  | o :: os => commaTok :: (toksOrdItem d o ++ toksOrdTail os)
def toksOrder : Option (List OrderItem) → List Tok
  | some (o :: os) => opTok "ORDER" :: opTok "BY" :: (toksOrdItem d o ++ toksOrdTail d os)
  | _ => []
def toksLimit : Option (Int × Option Int) → List Tok
  | some (n, none) => [opTok "LIMIT", intTok n]
  | some (n, some m) => [opTok "LIMIT", intTok m, commaTok, intTok n]
  | none => []
/-- everything after the select list -/
def toksRest (fr : Option (List FromTable)) (js : List Join) (wh : Option Expr) (gb : Option GroupBy) (hv : Option Expr)
    (ob : Option (List OrderItem)) (lm : Option (Int × Option Int)) : List Tok :=
  toksFrom fr ++ (toksJoins d js ++ (toksOpt d "WHERE" wh ++ (toksGroup d gb ++ (toksOpt d "HAVING" hv ++ (toksOrder d ob ++ toksLimit lm)))))
def toksS : Select → List Tok
  | .mk _ dist (c :: cs) fr _ js wh gb hv ob _ _ _ lm =>
      opTok "SELECT" :: ((if dist then [opTok "DISTINCT"] else []) ++ (toksCol d c ++ (toksColsTail d cs ++ toksRest d fr js wh gb hv ob lm)))
  | _ => []

/-! ### what may follow a clause -/
/-- the rank of the clause a word starts; 0 for the words that continue a clause or belong to clauses outside the fragment -/
def rank (u : String) : Nat :=
  if u == "FROM" then 1
  else if ["JOIN", "INNER", "LEFT", "RIGHT", "FULL", "CROSS"].contains u then 2
  else if u == "WHERE" then 3
  else if u == "GROUP" then 4
  else if u == "HAVING" then 5
  else if u == "ORDER" then 6
  else if u == "LIMIT" then 7
  else if [",", "AS", "ON", "USING", "DISTINCT", "LATERAL", "VIEW", "WITH", "GROUPING", "BY", "ASC", "DESC", "NULLS", "OFFSET", "SORT",
      "DISTRIBUTE", "CLUSTER", "SELECT"].contains u then 0
  else 8
def bdTok (k : Nat) (t : Tok) : Bool :=
  stopTok d 14 t && (!t.has NAME || up t.src == "CROSS") && !t.has PAREN && decide (k < rank (up t.src))
def Bd (k : Nat) : List Tok → Bool
  | [] => true
  | t :: _ => bdTok d k t
/-- nothing of a SELECT follows (`;`, a set operator, the end of a bracket group, …) -/
def stopsS (rest : List Tok) : Bool := Bd d 7 rest

/-! ### the fragment -/
/-- an alias the printer prints bare: it comes back as itself -/
def aliasOK (a : String) : Bool := (opTok a).has NAME && unifyName (opTok a).src == a && PR.quoteName a == a
def optAliasOK : Option String → Bool
  | none => true
  | some a => aliasOK a
def isOkNone (r : Except Err (Option String × String)) (n : String) : Bool :=
  match r with | .ok (none, m) => m == n | _ => false
/-- an unqualified table name: its back-quoted token is read back as that name -/
def tableOK : FromTable → Bool
  | .mk (.table none n) a => isOkNone (splitName (nameTok n).src) n && optAliasOK a
  | _ => false
def isOkInt (r : Except Err Int) (n : Int) : Bool := match r with | .ok m => m == n | _ => false
/-- a LIMIT argument: a non-negative integer whose decimal text is read back as that integer -/
def limOK (n : Int) : Bool := decide (0 ≤ n) && isOkInt (asInt (intTok n).src) n
def ruleOK : Option JoinRule → Bool
  | none => true
  | some (.on e) => Frag d e
  | some (.using _) => false
/-- a join type of the regenerated table whose words are found again as that type -/
def firstEnumA (tbl : List (String × List String)) (a : List Tok) : Option (String × Nat) :=
  match tbl with
  | [] => none
  | (n, ks) :: rest => if decide (ks.length ≤ a.length) && searchSeq a ks then some (n, ks.length) else firstEnumA rest a
def joinTyOK (ty : String) : Bool :=
  (match firstEnumA Gen.joinTypes (joinWords ty) with | some (n, k) => n == ty && k == (joinWords ty).length | none => false) &&
    (match joinWords ty with | t :: _ => bdTok d 1 t && joinHead [t] | [] => false)
def joinOK : Join → Bool
  | .mk ty t rule => joinTyOK d ty && tableOK t && ruleOK d rule
def ordOK : OrderItem → Bool
  | .mk e _ nf nl => Frag d e && !nf && !nl
def limitOK : Option (Int × Option Int) → Bool
  | none => true
  | some (n, none) => limOK n
  | some (n, some m) => limOK n && limOK m
def groupOK : Option GroupBy → Bool
  | none => true
  | some (.mk (e :: es) none false false) => Frag d e && es.all (Frag d) && !searchStrUp (W d noX e 8) "GROUPING"
  | _ => false
def orderOK : Option (List OrderItem) → Bool
  | none => true
  | some (o :: os) => ordOK d o && os.all (ordOK d)
  | some [] => false
def fromOK : Option (List FromTable) → Bool
  | none => true
  | some (t :: ts) => tableOK t && ts.all tableOK
  | some [] => false
def optFrag : Option Expr → Bool
  | none => true
  | some e => Frag d e
def colOKS (c : Expr × Option String) : Bool := Frag d c.1 && optAliasOK c.2

def FragS : Select → Bool
  | .mk (some []) dist (c :: cs) fr [] js wh gb hv ob none none none lm =>
      colOKS d c && cs.all (colOKS d) && (dist || !searchStrUp (toksE d noX c.1) "DISTINCT") && fromOK fr && js.all (joinOK d) &&
        optFrag d wh && groupOK d gb && optFrag d hv && orderOK d ob && limitOK lm
  | _ => false

end TS
