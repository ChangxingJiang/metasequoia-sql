import MsqProofs.Lemmas.LexSem
/-!
# Simulation of a machine with intercepts by its base machine

Generic in the machine: `ConsExt mc cls` collects the (Boolean, hence `decide`-able) facts about the intercept list and
the base table under which `mc` — run on a text in which the opener `#` is never directly followed by `{` — goes
through exactly the memories of the base machine, up to the label of the one state "directly after a `#` read in WAIT"
(`CUSTOM_1` for the plug-in, `IN_EXPLAIN_1` for the base machine).
-/
namespace Lex
variable {Cls : Type}

/-! ## what `exec` does to the status -/

theorem exec_status (P : S → Prop) (env : Env) (ss : S) (sm : Nat) (sym : Sym) (hss : P ss) :
    ∀ (is : List Instr) (r : Regs) (m m' : Mem) (b : Bool), (∀ s, Instr.setStatus s ∈ is → P s) → P m.status →
      exec env ss sm sym is r m = .ok (m', b) → P m'.status := by
  intro is
  induction is with
  | nil => intro r m m' b _ _ h; simp [exec] at h
  | cons i is ih =>
    intro r m m' b hcode hm h
    have hcode' : ∀ s, Instr.setStatus s ∈ is → P s := fun s hs => hcode s (List.mem_cons_of_mem _ hs)
    cases i with
    | incNow => simp only [exec] at h; refine ih _ _ _ _ hcode' ?_ h; exact hm
    | setStartNow => simp only [exec] at h; refine ih _ _ _ _ hcode' ?_ h; exact hm
    | setStatus s => exact ih _ { m with status := s } _ _ hcode' (hcode s (List.mem_cons_self ..)) (by simpa [exec] using h)
    | setStatusSelf => exact ih _ { m with status := ss } _ _ hcode' hss (by simpa [exec] using h)
    | sliceWindow => simp only [exec] at h; refine ih _ _ _ _ hcode' ?_ h; exact hm
    | emitSingle mk =>
      simp only [exec] at h
      split at h
      · simp at h
      · split at h
        · simp at h
        · refine ih _ _ _ _ hcode' ?_ h; exact hm
    | pushStack => simp only [exec] at h; refine ih _ _ _ _ hcode' ?_ h; exact hm
    | popStack =>
      simp only [exec] at h
      split at h
      · simp at h
      · refine ih _ _ _ _ hcode' ?_ h; exact hm
    | emitGroup k mk =>
      simp only [exec] at h
      split at h
      · simp at h
      · split at h
        · simp at h
        · refine ih _ _ _ _ hcode' ?_ h; exact hm
    | raiseIfDepthLE k =>
      simp only [exec] at h
      split at h
      · simp at h
      · refine ih _ _ _ _ hcode' ?_ h; exact hm
    | raiseIfEnd =>
      simp only [exec] at h
      split at h
      · simp at h
      · refine ih _ _ _ _ hcode' ?_ h; exact hm
    | raise => simp [exec] at h
    | ret b' =>
      simp only [exec, Except.ok.injEq, Prod.mk.injEq] at h
      obtain ⟨rfl, _⟩ := h
      exact hm

/-! ## tables that never name a "bad" status -/

/-- no cell of the table (explicit, default, END) and no `setStatus` of the code of the classes `cls` names a status in `bad` -/
def Cfg.avoids (cfg : Cfg Cls) (bad : S → Bool) (cls : List Cls) : Bool :=
  (allS.all fun s =>
    ((cfg.rows s).all fun e => !bad e.2.status) &&
    (match cfg.dflt s with | some o => !bad o.status | none => true) &&
    (match cfg.atEnd s with | some o => !bad o.status | none => true)) &&
  (cls.all fun c => (cfg.code c).all fun i => match i with | .setStatus s => !bad s | _ => true)

theorem Cfg.lookup_avoids (cfg : Cfg Cls) (bad : S → Bool) (cls : List Cls) (h : cfg.avoids bad cls = true)
    (s : S) (sym : Sym) (o : OpRef Cls) (hl : cfg.lookup s sym = some o) : bad o.status = false := by
  simp only [Cfg.avoids, Bool.and_eq_true, List.all_eq_true] at h
  obtain ⟨⟨hrows, hd⟩, he⟩ := h.1 s (mem_allS s)
  cases sym with
  | eof =>
    simp only [Cfg.lookup] at hl
    rw [hl] at he; simpa using he
  | ch c =>
    rcases cfg.lookup_ch_cases s c with ⟨e, hm, _, he⟩ | he <;> rw [he] at hl
    · cases hl; simpa using hrows e hm
    · rw [hl] at hd; simpa using hd

theorem handle_avoids (cfg : Cfg Cls) (bad : S → Bool) (cls : List Cls) (h : cfg.avoids bad cls = true)
    (hcls : ∀ c, c ∈ cls) (text : List Char) (m m' : Mem) (sym : Sym) (b : Bool) (hm : bad m.status = false)
    (hh : handle cfg text m sym = .ok (m', b)) : bad m'.status = false := by
  unfold handle at hh
  split at hh
  · simp at hh
  · rename_i o hl
    refine exec_status (fun s => bad s = false) _ _ _ _ (cfg.lookup_avoids bad cls h _ _ o hl) _ _ _ _ _ ?_ hm hh
    intro s hs
    simp only [Cfg.avoids, Bool.and_eq_true, List.all_eq_true] at h
    have := h.2 _ (hcls o.cls) _ hs
    simpa using this

/-! ## the conditions on the intercept list -/
namespace Sim

def custom (s : S) : Bool := s == .CUSTOM_1 || s == .CUSTOM_2

/-- the normal form of `FSMOperate.add_cache_to(status)`: advance, keep the window, go to the operation's own status, done -/
def addCacheSummary : Summary := ⟨none, false, false, true, .keep, .none, .self, true⟩

/-- among the intercepts of state `s`, everything before the first one that does not test for `brace` tests for `brace`,
and that one fires on every symbol and only re-labels the state as `tgt` -/
def redirectsAfter (s tgt : S) (brace : List Char) : List (Intercept Cls) → Bool
  | [] => false
  | i :: is =>
    if i.status == s then
      (if i.ch == .lit brace then redirectsAfter s tgt brace is else i.ch == .any && i.redirect == some tgt)
    else redirectsAfter s tgt brace is

/-- the facts (all Boolean) under which `mc` is a conservative extension of its base table -/
structure ConsExt (mc : Machine Cls) (cls : List Cls) : Prop where
  /-- `cls` lists every operation class -/
  cls_all : ∀ c, c ∈ cls
  /-- the base table never enters a custom state -/
  base_closed : mc.cfg.avoids custom cls = true
  /-- an intercept belongs to (WAIT, `#`) or to a custom state -/
  states : mc.intercepts.all (fun i => (i.status == .WAIT && i.ch == .lit ['#']) || i.status == .CUSTOM_1 || i.status == .CUSTOM_2) = true
  /-- the END marker is neither `#` nor `{` -/
  marker : (mc.endMarker != ['#'] && mc.endMarker != ['{']) = true
  /-- what the plug-in does for `#` in WAIT: `add_cache_to(CUSTOM_1)` -/
  opener : (match mc.intercepts.find? (fun i => i.fires mc.endMarker .WAIT (.ch '#')) with
    | some i => i.redirect.isNone && i.op.status == .CUSTOM_1 && summarize (mc.cfg.code i.op.cls) == some addCacheSummary
    | none => false) = true
  /-- what the base table does for `#` in WAIT: `add_cache_to(IN_EXPLAIN_1)` -/
  base_cell : (match mc.cfg.lookup .WAIT (.ch '#') with
    | some o => o.status == .IN_EXPLAIN_1 && summarize (mc.cfg.code o.cls) == some addCacheSummary
    | none => false) = true
  /-- after `#`: `{` or else re-label as the base line-comment state and call the base machine -/
  after : redirectsAfter .CUSTOM_1 .IN_EXPLAIN_1 ['{'] mc.intercepts = true

theorem redirectsAfter_find (e : List Char) (s tgt : S) (brace : List Char) (sym : Sym) (hsym : sym.pyStr e ≠ brace) :
    ∀ l : List (Intercept Cls), redirectsAfter s tgt brace l = true →
      ∃ i, l.find? (fun i => i.fires e s sym) = some i ∧ i.redirect = some tgt := by
  intro l
  induction l with
  | nil => simp [redirectsAfter]
  | cons i is ih =>
    intro h
    simp only [redirectsAfter] at h
    by_cases hs : (i.status == s) = true
    · simp only [hs, if_true] at h
      by_cases hb : (i.ch == .lit brace) = true
      · simp only [hb, if_true] at h
        obtain ⟨j, hj, hr⟩ := ih h
        refine ⟨j, ?_, hr⟩
        have hb' : i.ch = .lit brace := by simpa using hb
        have : i.fires e s sym = false := by
          simp only [Intercept.fires, hb', hs, Bool.true_and]
          simpa using fun h => hsym h.symm
        simp [this, hj]
      · simp only [hb] at h
        simp only [Bool.false_eq_true, if_false, Bool.and_eq_true] at h
        have ha : i.ch = .any := by simpa using h.1
        refine ⟨i, ?_, by simpa using h.2⟩
        have : i.fires e s sym = true := by simp [Intercept.fires, ha, hs]
        simp [this]
    · have hs' : (i.status == s) = false := by simpa using hs
      simp only [hs', Bool.false_eq_true, if_false] at h
      obtain ⟨j, hj, hr⟩ := ih h
      refine ⟨j, ?_, hr⟩
      have : i.fires e s sym = false := by simp [Intercept.fires, hs']
      simp [this, hj]

/-! ## the simulation -/

/-- plug-in memory `mM` vs. base memory `mB`: equal outside the custom states, or the plug-in is directly behind a `#`
read in WAIT (`CUSTOM_1`) where the base machine has opened a line comment (`IN_EXPLAIN_1`) -/
def Rel (mM mB : Mem) : Prop :=
  (mM = mB ∧ custom mM.status = false) ∨ (mM.status = .CUSTOM_1 ∧ mB = { mM with status := .IN_EXPLAIN_1 })

/-- results of one `handle` call for `sym`, the base machine being in state `sB` before the call -/
def RelRes (sB : S) (sym : Sym) : Except Err (Mem × Bool) → Except Err (Mem × Bool) → Prop :=
  ERel fun x y => x.2 = y.2 ∧ Rel x.1 y.1 ∧ (x.1.status = .CUSTOM_1 → sym = .ch '#' ∧ sB = .WAIT)

theorem RelRes_same (sB : S) (sym : Sym) (r : Except Err (Mem × Bool))
    (h : ∀ m b, r = .ok (m, b) → custom m.status = false) : RelRes sB sym r r := by
  match r, h with
  | .error e, _ => exact rfl
  | .ok (m, b), h =>
    have hc := h m b rfl
    refine ⟨rfl, .inl ⟨rfl, hc⟩, fun (h1 : m.status = .CUSTOM_1) => ?_⟩
    simp [custom, h1] at hc

theorem exec_addCache (env : Env) (ss : S) (sm : Nat) (sym : Sym) (is : List Instr)
    (h : summarize is = some addCacheSummary) (m : Mem) :
    exec env ss sm sym is {} m = .ok ({ m with now := m.now + 1, status := ss }, true) := by
  rw [exec_summarize env ss sm sym is _ h]
  simp [execS, Summary.blocked, addCacheSummary, execCore, St.resolve]

variable {mc : Machine Cls} {cls : List Cls}

theorem handle_sim (H : ConsExt mc cls) (text : List Char) (mM mB : Mem) (sym : Sym) (hR : Rel mM mB)
    (hs : mM.status = .CUSTOM_1 → sym ≠ .ch '{') :
    RelRes mB.status sym (mc.handle text mM sym) (handle mc.cfg text mB sym) := by
  have hmk := H.marker
  simp only [Bool.and_eq_true, bne_iff_ne, ne_eq] at hmk
  rcases hR with ⟨rfl, hc⟩ | ⟨hc1, rfl⟩
  · -- same memory, not in a custom state
    unfold Machine.handle
    cases hf : mc.intercepts.find? (fun i => i.fires mc.endMarker mM.status sym) with
    | none =>
      exact RelRes_same _ _ _ fun m b hh => handle_avoids mc.cfg custom cls H.base_closed H.cls_all text mM m sym b hc hh
    | some i =>
      have hmem := List.mem_of_find?_eq_some hf
      have hfire := List.find?_some hf
      have hst := List.all_eq_true.mp H.states i hmem
      simp only [Intercept.fires, Bool.and_eq_true, beq_iff_eq] at hfire
      obtain ⟨hi, hch⟩ := hfire
      rw [hi] at hst
      simp only [custom, Bool.or_eq_false_iff] at hc
      simp only [hc.1, hc.2, Bool.or_false, Bool.and_eq_true, beq_iff_eq] at hst
      obtain ⟨hw, hlit⟩ := hst
      rw [hlit] at hch
      have hsym : sym = .ch '#' := by
        cases sym with
        | eof => simp [Sym.pyStr] at hch; exact absurd hch.symm hmk.1
        | ch c => simp [Sym.pyStr] at hch; rw [hch]
      subst hsym
      rw [hw] at hf
      have hop := H.opener
      rw [hf] at hop
      simp only [Bool.and_eq_true, Option.isNone_iff_eq_none, beq_iff_eq] at hop
      obtain ⟨⟨hred, hos⟩, hsum⟩ := hop
      have hbc := H.base_cell
      unfold handle
      rw [hw]
      cases hl : mc.cfg.lookup .WAIT (.ch '#') with
      | none => simp [hl] at hbc
      | some o =>
        simp only [hl, Bool.and_eq_true, beq_iff_eq] at hbc
        simp only [hred]
        rw [exec_addCache _ _ _ _ _ hsum, exec_addCache _ _ _ _ _ hbc.2, hos, hbc.1]
        exact ⟨rfl, .inr ⟨rfl, rfl⟩, fun _ => ⟨rfl, rfl⟩⟩
  · -- directly behind `#`: the redirect fires
    have hne : sym.pyStr mc.endMarker ≠ ['{'] := by
      have := hs hc1
      cases sym with
      | eof => exact hmk.2
      | ch c => simp [Sym.pyStr]; intro h; exact this (by rw [h])
    obtain ⟨i, hf, hred⟩ := redirectsAfter_find mc.endMarker .CUSTOM_1 .IN_EXPLAIN_1 ['{'] sym hne _ H.after
    unfold Machine.handle
    rw [hc1, hf]
    simp only [hred]
    exact RelRes_same _ _ _ fun m b hh =>
      handle_avoids mc.cfg custom cls H.base_closed H.cls_all text _ m sym b (by simp [custom]) hh

/-- the state in which `feedWith` makes its last `handle` call for the character `c`, i.e. the state in which `c` is
consumed (`handle` returns false when the pending window was closed first and `c` has to be handled again) -/
def consumedIn (h : Mem → Sym → Except Err (Mem × Bool)) (m : Mem) (c : Char) : Option S :=
  match h m (.ch c) with
  | .error _ => none
  | .ok (_, true) => some m.status
  | .ok (m1, false) => some m1.status

def RelMem (P : Mem → Prop) : Except Err Mem → Except Err Mem → Prop := ERel fun mM mB => Rel mM mB ∧ P mM

theorem feed_sim (H : ConsExt mc cls) (text : List Char) (mM mB : Mem) (c : Char) (hR : Rel mM mB)
    (hs : mM.status = .CUSTOM_1 → c ≠ '{') :
    RelMem (fun mM' => mM'.status = .CUSTOM_1 → c = '#' ∧ consumedIn (handle mc.cfg text) mB c = some .WAIT)
      (feedWith (mc.handle text) mM c) (feedWith (handle mc.cfg text) mB c) := by
  unfold feedWith consumedIn
  rcases (handle_sim H text mM mB (.ch c) hR (fun h hc => hs h (by simpa using hc))).cases with
    ⟨e, hM, hB⟩ | ⟨⟨m1M, b⟩, ⟨m1B, b'⟩, hM, hB, hb, hR1, hp1⟩
  · rw [hM, hB]; exact rfl
  · simp only at hb hR1 hp1
    subst hb
    rw [hM, hB]
    cases b with
    | true =>
      refine ⟨hR1, fun h => ?_⟩
      obtain ⟨h3, h4⟩ := hp1 h
      exact ⟨by simpa using h3, by simp [h4]⟩
    | false =>
      have hp1' : m1M.status = .CUSTOM_1 → c = '#' := fun h => by simpa using (hp1 h).1
      rcases (handle_sim H text m1M m1B (.ch c) hR1
          (fun h hc => by have := hp1' h; simp at hc; rw [this] at hc; exact absurd hc (by decide))).cases with
        ⟨e, hM2, hB2⟩ | ⟨⟨m2M, b2⟩, ⟨m2B, b2'⟩, hM2, hB2, _, hR2, hp2⟩
      · simp only [hM2, hB2]; exact rfl
      · simp only [hM2, hB2]
        refine ⟨hR2, fun h => ?_⟩
        obtain ⟨h3, h4⟩ := hp2 h
        exact ⟨by simpa using h3, by simp [h4]⟩

theorem feedAllWith_snoc (h : Mem → Sym → Except Err (Mem × Bool)) (c : Char) (m1 : Mem) (pre : List Char) (m0 m : Mem)
    (h0 : feedAllWith h pre m0 = .ok m) (h1 : feedWith h m c = .ok m1) : feedAllWith h (pre ++ [c]) m0 = .ok m1 := by
  rw [feedAllWith_append_ok h0, feedAllWith_one, h1]

/-- the text `pre ++ cs`, of which `pre` has been read: wherever `#{` occurs, the base machine does not consume that `#` in WAIT -/
theorem feedAll_sim (H : ConsExt mc cls) (text : List Char) (m0 : Mem) :
    ∀ (cs pre : List Char) (mM mB : Mem),
      (∀ p q m, pre ++ cs = p ++ '#' :: '{' :: q → feedAllWith (handle mc.cfg text) p m0 = .ok m →
        consumedIn (handle mc.cfg text) m '#' ≠ some .WAIT) →
      feedAllWith (handle mc.cfg text) pre m0 = .ok mB → Rel mM mB →
      (mM.status = .CUSTOM_1 → cs.head? ≠ some '{') →
      RelMem (fun _ => True) (feedAllWith (mc.handle text) cs mM) (feedAllWith (handle mc.cfg text) cs mB)
  | [], pre, mM, mB, _, _, hR, _ => ⟨hR, trivial⟩
  | c :: cs, pre, mM, mB, hG, hpre, hR, hs => by
    unfold feedAllWith
    rcases (feed_sim H text mM mB c hR (fun h hc => hs h (by simp [hc]))).cases with
      ⟨e, hM, hB⟩ | ⟨m1M, m1B, hM, hB, hR1, hp1⟩
    · rw [hM, hB]; exact rfl
    · rw [hM, hB]
      refine feedAll_sim H text m0 cs (pre ++ [c]) m1M m1B ?_ (feedAllWith_snoc _ c m1B pre m0 mB hpre hB) hR1 ?_
      · intro p q m hpq
        exact hG p q m (by simpa using hpq)
      · intro h
        obtain ⟨hc, hw⟩ := hp1 h
        subst hc
        cases cs with
        | nil => simp
        | cons d ds =>
          simp only [List.head?_cons, ne_eq, Option.some.injEq]
          intro hd
          subst hd
          exact hG pre ds mB rfl hpre hw

/-- every `#{` of the (pre-processed) text `t` is harmless: the base machine does not consume that `#` in state WAIT
(it is inside a string literal, a comment, …) or has failed before -/
def Harmless (cfg : Cfg Cls) (t : List Char) : Prop :=
  ∀ p q m, t = p ++ '#' :: '{' :: q → feedAllWith (handle cfg t) p {} = .ok m → consumedIn (handle cfg t) m '#' ≠ some .WAIT

/-- **conservative extension, sharp form**: if every `#{` of the pre-processed text is harmless, the machine with
intercepts and the base machine return the same result (the same token tree or the same error) -/
theorem lex_conservative_sharp (H : ConsExt mc cls) (raw : List Char) (hno : Harmless mc.cfg (mc.cfg.pre raw)) :
    mc.lex raw = lex mc.cfg raw := by
  unfold Machine.lex lex lexWith
  simp only []
  rcases (feedAll_sim H (mc.cfg.pre raw) {} (mc.cfg.pre raw) [] {} {}
      (fun p q m hpq => hno p q m (by simpa using hpq)) (by simp [feedAllWith])
      (.inl ⟨rfl, by simp [custom]⟩) (by simp)).cases with ⟨e, hM, hB⟩ | ⟨mM, mB, hM, hB, hR1, _⟩
  · rw [hM, hB]
  · rw [hM, hB]
    rcases (handle_sim H (mc.cfg.pre raw) mM mB .eof hR1 (fun _ => by simp)).cases with
      ⟨e, hM2, hB2⟩ | ⟨⟨m2M, b2⟩, ⟨m2B, b2'⟩, hM2, hB2, _, hR2, hp2⟩
    · simp only [hM2, hB2]
    · simp only [hM2, hB2]
      rcases hR2 with ⟨rfl, _⟩ | ⟨hc1, _⟩
      · rfl
      · exact absurd (hp2 hc1).1 (by simp)

/-- **conservative extension**: if `#` is nowhere directly followed by `{` in the pre-processed text, the machine with
intercepts and the base machine return the same result -/
theorem lex_conservative (H : ConsExt mc cls) (raw : List Char) (hno : ¬ (['#', '{'] <:+: mc.cfg.pre raw)) :
    mc.lex raw = lex mc.cfg raw :=
  lex_conservative_sharp H raw fun p q _ ht _ => absurd ⟨p, q, by simp [ht]⟩ hno

theorem lex_no_intercepts (mc : Machine Cls) (h : mc.intercepts = []) (raw : List Char) : mc.lex raw = lex mc.cfg raw := by
  have : mc.handle = handle mc.cfg := by funext t m sym; simp [Machine.handle, h]
  simp [Machine.lex, lex, this]

/-! ## the pre-pass (`preproc_sql`) cannot create the opener -/

/-- "`#` is somewhere directly followed by `{`", as one scan (so that `decide` works on concrete texts) -/
def hasOpener : List Char → Bool
  | a :: b :: rest => (a == '#' && b == '{') || hasOpener (b :: rest)
  | _ => false

theorem hasOpener_iff : ∀ t : List Char, hasOpener t = true ↔ ['#', '{'] <:+: t
  | [] => by
    simp only [hasOpener, Bool.false_eq_true, false_iff]
    rintro ⟨p, q, h⟩
    have := congrArg List.length h
    simp at this
  | [a] => by
    simp only [hasOpener, Bool.false_eq_true, false_iff]
    rintro ⟨p, q, h⟩
    have := congrArg List.length h
    simp at this
    omega
  | a :: b :: rest => by
    simp only [hasOpener, Bool.or_eq_true, Bool.and_eq_true, beq_iff_eq, hasOpener_iff (b :: rest)]
    constructor
    · rintro (⟨rfl, rfl⟩ | ⟨p, q, hpq⟩)
      · exact ⟨[], rest, by simp⟩
      · exact ⟨a :: p, q, by simp [← hpq]⟩
    · rintro ⟨p, q, hpq⟩
      cases p with
      | nil =>
        simp only [List.nil_append, List.cons_append, List.cons.injEq] at hpq
        exact .inl ⟨hpq.1.symm, hpq.2.1.symm⟩
      | cons x p' =>
        simp only [List.cons_append, List.cons.injEq] at hpq
        exact .inr ⟨p', q, by simpa using hpq.2⟩

theorem hasOpener_eq_false (t : List Char) : hasOpener t = false ↔ ¬ (['#', '{'] <:+: t) := by
  rw [← hasOpener_iff, Bool.not_eq_true]

theorem noOpener_cons_of_ne {p : Char} {t : List Char} (hp : p ≠ '#') (h : hasOpener t = false) :
    hasOpener (p :: t) = false := by
  cases t with
  | nil => rfl
  | cons b rest => simp [hasOpener, hp, h]

theorem noOpener_tail {p : Char} {t : List Char} (h : hasOpener (p :: t) = false) : hasOpener t = false := by
  cases t with
  | nil => rfl
  | cons b rest => simp only [hasOpener, Bool.or_eq_false_iff] at h; exact h.2

theorem noOpener_drop : ∀ (n : Nat) (t : List Char), hasOpener t = false → hasOpener (t.drop n) = false
  | 0, t, h => by simpa using h
  | n + 1, [], _ => by simp [hasOpener]
  | n + 1, _ :: t, h => by simpa using noOpener_drop n t (noOpener_tail h)

/-- a replacement text that cannot take part in an opener: not empty, no `#`, no `{` -/
def cleanRep (rep : List Char) : Bool := !rep.isEmpty && rep.all (fun c => c != '#' && c != '{')

theorem noOpener_rep (Y : List Char) (hY : hasOpener Y = false) :
    ∀ (rep : List Char) (p : Char), cleanRep rep = true → hasOpener (p :: (rep ++ Y)) = false
  | [], _, h => by simp [cleanRep] at h
  | [x], p, h => by
    simp only [cleanRep, List.isEmpty_cons, Bool.not_false, List.all_cons, List.all_nil, Bool.and_true, Bool.true_and,
      Bool.and_eq_true, bne_iff_ne, ne_eq] at h
    simp [hasOpener, h.2, noOpener_cons_of_ne h.1 hY]
  | x :: y :: rep, p, h => by
    have hx : x ≠ '#' ∧ x ≠ '{' := by
      simp only [cleanRep, List.all_cons, Bool.and_eq_true, bne_iff_ne, ne_eq] at h
      exact h.2.1
    have h' : cleanRep (y :: rep) = true := by
      simp only [cleanRep, List.all_cons, Bool.and_eq_true] at h ⊢
      exact ⟨by simp, h.2.2⟩
    have := noOpener_rep Y hY (y :: rep) x h'
    show ((p == '#' && x == '{') || hasOpener (x :: (y :: rep ++ Y))) = false
    rw [this]; simp [hx.2]

theorem replaceGo_noOpener (pat rep : List Char) (hrep : cleanRep rep = true) :
    ∀ (f : Nat) (p : Char) (t : List Char), hasOpener (p :: t) = false → hasOpener (p :: Py.replaceGo pat rep f t) = false
  | 0, p, t, h => by simpa [Py.replaceGo] using h
  | f + 1, p, [], h => by simpa [Py.replaceGo] using h
  | f + 1, p, c :: r, h => by
    simp only [Py.replaceGo]
    split
    · have h1 : hasOpener ((c :: r).drop pat.length) = false := noOpener_drop _ _ (noOpener_tail h)
      have h2 := replaceGo_noOpener pat rep hrep f ' ' _ (noOpener_cons_of_ne (by decide) h1)
      exact noOpener_rep _ (noOpener_tail h2) rep p hrep
    · have h3 := replaceGo_noOpener pat rep hrep f c r (noOpener_tail h)
      simp only [hasOpener, Bool.or_eq_false_iff] at h ⊢
      exact ⟨h.1, h3⟩

theorem replace_noOpener (pat rep : List Char) (hrep : cleanRep rep = true) (t : List Char) (h : hasOpener t = false) :
    hasOpener (Py.replace pat rep t) = false := by
  unfold Py.replace
  split
  · exact h
  · exact noOpener_tail (replaceGo_noOpener pat rep hrep _ ' ' t (noOpener_cons_of_ne (by decide) h))

theorem preWith_noOpener : ∀ (chain : List (List Char × List Char)) (t : List Char),
    chain.all (fun pr => cleanRep pr.2) = true → hasOpener t = false → hasOpener (preWith chain t) = false
  | [], t, _, h => by simpa [preWith] using h
  | pr :: chain, t, hc, h => by
    simp only [List.all_cons, Bool.and_eq_true] at hc
    have := preWith_noOpener chain (Py.replace pr.1 pr.2 t) hc.2 (replace_noOpener pr.1 pr.2 hc.1 t h)
    simpa [preWith] using this

/-- **conservative extension, stated on the raw text**: the pre-pass only inserts characters other than `#` and `{`
and never joins two characters of the text, so a raw text without `#{` stays without `#{` -/
theorem lex_conservative_raw (H : ConsExt mc cls) (hpre : mc.cfg.preChain.all (fun pr => cleanRep pr.2) = true)
    (raw : List Char) (hno : ¬ (['#', '{'] <:+: raw)) : mc.lex raw = lex mc.cfg raw :=
  lex_conservative H raw ((hasOpener_eq_false _).mp (preWith_noOpener _ raw hpre ((hasOpener_eq_false raw).mpr hno)))

/-! ## a checker for `Harmless` on concrete texts -/

def harmlessB (cfg : Cfg Cls) (t : List Char) : Bool :=
  (List.range t.length).all fun i =>
    !(['#', '{'].isPrefixOf (t.drop i)) ||
      (match feedAllWith (handle cfg t) (t.take i) {} with
       | .ok m => consumedIn (handle cfg t) m '#' != some .WAIT
       | .error _ => true)

theorem harmless_of_harmlessB (cfg : Cfg Cls) (t : List Char) (h : harmlessB cfg t = true) : Harmless cfg t := by
  intro p q m ht hm
  simp only [harmlessB, List.all_eq_true, List.mem_range] at h
  have hlen : p.length < t.length := by rw [ht]; simp
  have := h p.length hlen
  have htake : t.take p.length = p := by rw [ht]; simp
  have hdrop : t.drop p.length = '#' :: '{' :: q := by rw [ht]; simp
  rw [htake, hdrop, hm] at this
  simpa using this

end Sim
end Lex
