import MsqProofs.Lemmas.LexLinkDdl3
import MsqProofs.Props.C18T
/-!
# The Hive side of a converted MySQL table, from hypotheses on the MySQL table only

`c` a table of the MySQL fragment with lexable payloads, `c'` its conversion with the shipped map.  Then the Hive projection of `c'`
is in the Hive fragment (`frag_conv`), has lexable payloads (`leaf_conv`) and — if no payload of `c` contains `==` — none of its
payloads does (`noEq_conv`).  The one thing that does not transfer by itself is the DIALECT of the expression fragment for the type
parameters Hive keeps (`DECIMAL(p, s)` when `remove_param = False`): `HiveParams rp c` asks them to be in the Hive expression fragment
(`hiveParams_of_B`: a Bool form; integer literals satisfy it).
-/
namespace LD
open Lex Spec C05 C06 C09 Ast TP TS TD LexLink Conv PM

def ConvOf (rp : Bool) (col col' : DefCol) : Prop :=
  ∃ h, lookup Gen.mysqlToHive col.type.name = some h ∧ col' = { col with type := ⟨h, if rp then none else col.type.params⟩ }

theorem changeColsT_mem (rp : Bool) : ∀ (cols cols' : List DefCol), changeColsT Gen.mysqlToHive rp cols = .ok cols' →
    ∀ x ∈ cols', ∃ col ∈ cols, ConvOf rp col x
  | [], cols', h, x, hx => by
    simp only [changeColsT] at h
    injection h with h; subst h; cases hx
  | c :: r, cols', h, x, hx => by
    unfold changeColsT changeColT at h
    cases hl : lookup Gen.mysqlToHive c.type.name with
    | none => simp [hl] at h
    | some y =>
      simp only [hl] at h
      cases hr : changeColsT Gen.mysqlToHive rp r with
      | error e => simp [hr] at h
      | ok r' =>
        simp only [hr] at h
        injection h with h; subst h
        rcases List.mem_cons.mp hx with rfl | hx
        · exact ⟨c, by simp, y, hl, rfl⟩
        · obtain ⟨col, hc, hco⟩ := changeColsT_mem rp r r' hr x hx
          exact ⟨col, by simp [hc], hco⟩

theorem changeTypeT_cols (rp : Bool) (c c' : CreateTable) (h : changeTypeT Gen.mysqlToHive rp c = .ok c') :
    (∀ x ∈ c'.columns, ∃ col ∈ c.columns, ConvOf rp col x) ∧ c' = { c with columns := c'.columns } := by
  unfold changeTypeT at h
  cases hc : changeColsT Gen.mysqlToHive rp c.columns with
  | error e => simp [hc] at h
  | ok cols =>
    simp only [hc] at h
    injection h with h; subst h
    exact ⟨changeColsT_mem rp _ _ hc, rfl⟩

theorem lookup_mem (n h : String) (hl : lookup Gen.mysqlToHive n = some h) : ∃ p ∈ Gen.mysqlToHive, p.2 = h := by
  unfold lookup at hl
  cases hf : Gen.mysqlToHive.find? (·.1 == Gen.pyUpperS n) with
  | none => rw [hf] at hl; cases hl
  | some p =>
    rw [hf] at hl
    simp only [Option.map_some, Option.some.injEq] at hl
    exact ⟨p, List.mem_of_find?_eq_some hf, hl⟩

theorem images_facts : Gen.mysqlToHive.all (fun p => plainL p.2.toList && !(opTok p.2).equalsStr ",") = true := by decide +kernel

theorem columnSrc_hm (c : String) : PR.columnSrc .HIVE none c = PR.columnSrc .MYSQL none c := rfl

theorem leaf_hive : ∀ (n : Nat) (e : Expr), sz e ≤ n → Leaf .MYSQL e → Leaf .HIVE e := by
  intro n
  induction n with
  | zero => intro e he; cases e <;> simp [sz] at he
  | succ n ih =>
    intro e he h
    cases e <;> simp only [sz] at he <;> simp only [Leaf] at h ⊢ <;> try trivial
    case unary o y => exact ih y (by omega) h
    case compute l o r => exact ⟨ih l (by omega) h.1, ih r (by omega) h.2⟩
    case kw k n0 l r => exact ⟨ih l (by omega) h.1, ih r (by omega) h.2⟩
    case between n0 b f t => exact ⟨ih b (by omega) h.1, ih f (by omega) h.2.1, ih t (by omega) h.2.2⟩
    case compare o l r => exact ⟨ih l (by omega) h.1, ih r (by omega) h.2⟩
    case not_ y => exact ih y (by omega) h
    case and_ l r => exact ⟨ih l (by omega) h.1, ih r (by omega) h.2⟩
    case xor l r => exact ⟨ih l (by omega) h.1, ih r (by omega) h.2⟩
    case or_ l r => exact ⟨ih l (by omega) h.1, ih r (by omega) h.2⟩

/-- the parameters the Hive DDL will state (`remove_param = False`, image `DECIMAL`) are in the HIVE expression fragment and none of
their renderings is empty or has a top-level comma -/
def HiveParams (rp : Bool) (c : CreateTable) : Prop :=
  rp = false → ∀ col ∈ c.columns, ∀ h, lookup Gen.mysqlToHive col.type.name = some h → hiveKeepsParams h = true →
    ∀ ps, col.type.params = some ps → ps.all (Frag .HIVE) = true ∧ segsOK (ps.map fun e => W .HIVE noX e 8) = true

def hiveParamsB (rp : Bool) (c : CreateTable) : Bool :=
  rp || c.columns.all fun col =>
    match lookup Gen.mysqlToHive col.type.name, col.type.params with
    | some h, some ps => !hiveKeepsParams h || (ps.all (Frag .HIVE) && segsOK (ps.map fun e => W .HIVE noX e 8))
    | _, _ => true

theorem hiveParams_of_B (rp : Bool) (c : CreateTable) (h : hiveParamsB rp c = true) : HiveParams rp c := by
  intro hrp col hc y hl hk ps hps
  subst hrp
  simp only [hiveParamsB, Bool.false_or, List.all_eq_true] at h
  have := h col hc
  rw [hl, hps] at this
  simp only [hk, Bool.not_true, Bool.false_or, Bool.and_eq_true, List.all_eq_true] at this
  exact ⟨List.all_eq_true.mpr this.1, this.2⟩

theorem noComma_mem {ts : List Tok} (h : noComma ts = true) (t : Tok) (ht : t ∈ ts) : t.equalsStr "," = false := by
  simp only [noComma, List.all_eq_true, Bool.not_eq_true'] at h
  exact h t ht

theorem src_ne_eq (s : String) (h : srcLex s) : (s != "=") = true := by
  simp only [bne_iff_ne, ne_eq]
  intro e
  have := src_head s h '=' (by rw [e]; rfl)
  exact this rfl

theorem hiveColOK_conv (rp : Bool) (col col' : DefCol) (hcv : ConvOf rp col col') (hok : TD.colOK .MYSQL col = true)
    (hnc : noComma (toksDefCol .MYSQL col) = true)
    (hpar : rp = false → ∀ h, lookup Gen.mysqlToHive col.type.name = some h → hiveKeepsParams h = true →
      ∀ ps, col.type.params = some ps → ps.all (Frag .HIVE) = true ∧ segsOK (ps.map fun e => W .HIVE noX e 8) = true) :
    C18.hiveColOK col' = true := by
  obtain ⟨h, hl, rfl⟩ := hcv
  obtain ⟨p, hp, rfl⟩ := lookup_mem _ _ hl
  have himg := (List.all_eq_true.mp images_facts) p hp
  simp only [Bool.and_eq_true, Bool.not_eq_eq_eq_not, Bool.not_true] at himg
  obtain ⟨n, ⟨tn, ps⟩, us, zf, cs, co, gen, an, nn, ai, df, ou, cm⟩ := col
  have hm : (Gen.D.HIVE == Gen.D.MYSQL) = false := rfl
  have hh : (Gen.D.HIVE == Gen.D.HIVE) = true := rfl
  simp only [TD.colOK, Bool.and_eq_true] at hok
  have hname : nameOK n = true := hok.1.1
  -- the comment token is not the comma
  have hcm : ∀ s, cm = some s → (srcTok s).equalsStr "," = false := by
    intro s hs
    subst hs
    refine noComma_mem hnc _ ?_
    simp [toksDefCol, toksAttrs, toksMyAttrs, toksComment]
  have hkeep : hiveDrops .HIVE ⟨p.2, some []⟩ = !hiveKeepsParams p.2 := by simp [hiveDrops, hiveKeepsParams]
  have hdrop : ∀ l : List Expr, hiveDrops .HIVE ⟨p.2, some l⟩ = !hiveKeepsParams p.2 := by intro l; simp [hiveDrops, hiveKeepsParams]
  simp only [C18.hiveColOK, Bool.and_eq_true]
  constructor
  · -- colOK HIVE (hiveCol col')
    simp only [TD.colOK, hiveCol, hm, Bool.false_eq_true, if_false, hname, Bool.true_and, Option.isNone_none, Bool.not_false, Bool.and_true]
    cases hk : hiveKeepsParams p.2 with
    | false => simp [typeOK]
    | true =>
      cases rp with
      | true => simp [typeOK]
      | false =>
        cases ps with
        | none => simp [typeOK]
        | some l =>
          have := hpar rfl p.2 hl hk l rfl
          simp only [Bool.false_eq_true, if_false, if_true, typeOK, hdrop, hk, Bool.not_true, Bool.not_false, Bool.true_and, Bool.and_eq_true]
          exact ⟨by simpa [paramOK] using this.1, this.2⟩
  · -- no top-level comma in the Hive line
    have hcmt : noComma (toksComment cm) = true := by
      cases cm with
      | none => rfl
      | some s =>
        simp only [toksComment, noComma, List.all_cons, List.all_nil, Bool.and_true, Bool.and_eq_true, Bool.not_eq_eq_eq_not, Bool.not_true]
        exact ⟨by decide, hcm s rfl⟩
    have hpt : noComma (toksParams .HIVE ⟨p.2, if rp = true then none else ps⟩) = true := by
      cases rp <;> cases ps <;> simp only [toksParams, Bool.false_eq_true, if_false, if_true] <;>
        first | rfl | (split <;> simp [noComma, equalsStr_grp])
    simp only [toksDefCol, toksType, toksAttrs, hm, Bool.false_eq_true, if_false, noComma, List.all_cons, List.all_append, Bool.and_eq_true,
      Bool.not_eq_eq_eq_not, Bool.not_true] at hcmt hpt ⊢
    exact ⟨equalsStr_nameTok _ _ (by decide), ⟨himg.2, hpt⟩, hcmt⟩

section
variable (rp : Bool) (c c' : CreateTable) (hf : FragCreate .MYSQL c = true) (hl : LeafC .MYSQL c)
  (h : changeTypeT Gen.mysqlToHive rp c = .ok c')
include hf hl h

theorem my_parts : (c.partitionedBy = [] ∧ c.tblproperties = []) ∧ c.rowFormatSerde = none ∧ c.rowFormatDelimited = none ∧
    c.storedAsInputformat = none ∧ c.outputformat = none ∧ c.location = none := by
  have hm : (Gen.D.MYSQL == Gen.D.MYSQL) = true := rfl
  simp only [FragCreate, hm, if_true, Bool.and_eq_true] at hf
  obtain ⟨_, ⟨⟨⟨⟨⟨⟨⟨⟨_, h7⟩, h8⟩, h9⟩, h10⟩, _⟩, h12⟩, h13⟩, h14⟩⟩ := hf
  refine ⟨⟨List.isEmpty_iff.mp h7, List.isEmpty_iff.mp h14⟩, ?_, ?_, ?_, ?_, ?_⟩
  · exact Option.isNone_iff_eq_none.mp h8
  · exact Option.isNone_iff_eq_none.mp h9
  · exact Option.isNone_iff_eq_none.mp h10
  · exact Option.isNone_iff_eq_none.mp h12
  · exact Option.isNone_iff_eq_none.mp h13

theorem frag_conv (hp : HiveParams rp c) : FragCreate .HIVE (hiveProj c') = true := by
  obtain ⟨hcols, hc'⟩ := changeTypeT_cols rp c c' h
  obtain ⟨⟨e1, e2⟩, e3, e4, e5, e6, e7⟩ := my_parts rp c c' hf hl h
  have hm : (Gen.D.MYSQL == Gen.D.MYSQL) = true := rfl
  have hf0 := hf
  simp only [FragCreate, hm, if_true, Bool.and_eq_true, List.all_eq_true] at hf0
  have htbl := hf0.1.1.1
  have hcok := hf0.1.1.2
  have hsegs : ∀ col ∈ c.columns, noComma (toksDefCol .MYSQL col) = true := by
    intro col hc
    have := hf0.1.2
    simp only [segsOK, List.all_eq_true, Bool.and_eq_true] at this
    exact (this (toksDefCol .MYSQL col) (by simp only [toksLines, List.mem_append, List.mem_map]; exact Or.inl ⟨col, hc, rfl⟩)).2
  apply C18.fragHive_of_conv
  rw [hc']
  simp only [C18.hiveOK, e1, e2, e3, e4, e5, e6, e7, List.all_nil, List.map_nil, segsOK, valOK, Bool.and_true, Bool.and_eq_true,
    List.all_eq_true]
  refine ⟨⟨htbl, ?_⟩, ?_⟩
  · intro x hx
    obtain ⟨col, hc, hcv⟩ := hcols x hx
    exact hiveColOK_conv rp col x hcv (hcok col hc) (hsegs col hc) (fun hr y hy hk ps hps => hp hr col hc y hy hk ps hps)
  · cases hcm : c.comment with
    | none => rfl
    | some s => exact src_ne_eq s (by have := hl.comment; rw [hcm] at this; exact this)

theorem leaf_conv : LeafC .HIVE (hiveProj c') := by
  obtain ⟨hcols, hc'⟩ := changeTypeT_cols rp c c' h
  obtain ⟨⟨e1, e2⟩, e3, e4, e5, e6, e7⟩ := my_parts rp c c' hf hl h
  rw [hc']
  refine ⟨hl.schema, hl.table, ?_, ?_, ?_, ?_, ?_, ?_, ?_, hl.comment, trivial, trivial, trivial, trivial, trivial, hl.serde, hl.delimited,
    hl.inputformat, hl.outputformat, hl.location, hl.props⟩
  · intro x hx
    simp only [hiveProj, emptyCreate, List.mem_map] at hx
    obtain ⟨x', hx', rfl⟩ := hx
    obtain ⟨col, hc, y, hy, rfl⟩ := hcols x' hx'
    obtain ⟨p, hp, rfl⟩ := lookup_mem _ _ hy
    have himg := (List.all_eq_true.mp images_facts) p hp
    simp only [Bool.and_eq_true] at himg
    have hlc := hl.cols col hc
    refine ⟨hlc.name, ⟨himg.1, ?_⟩, trivial, trivial, trivial, trivial, trivial, hlc.comment⟩
    intro ps hps e he
    simp only [hiveCol] at hps
    split at hps
    · split at hps
      · cases hps
      · exact leaf_hive _ e (Nat.le_refl _) (hlc.type.2 ps hps e he)
    · cases hps
  · intro i hi; simp [hiveProj, emptyCreate] at hi
  · intro i hi; simp [hiveProj, emptyCreate] at hi
  · intro i hi; simp [hiveProj, emptyCreate] at hi
  · intro i hi; simp [hiveProj, emptyCreate] at hi
  · intro i hi; simp [hiveProj, emptyCreate] at hi
  · intro x hx; simp [hiveProj, emptyCreate, e1] at hx

theorem noEq_conv (hq : NoEqC c) : NoEqC (hiveProj c') := by
  obtain ⟨hcols, hc'⟩ := changeTypeT_cols rp c c' h
  obtain ⟨⟨e1, e2⟩, e3, e4, e5, e6, e7⟩ := my_parts rp c c' hf hl h
  rw [hc']
  refine ⟨hq.table, ?_, ?_, hq.comment, hq.serde, hq.delimited, hq.inputformat, hq.outputformat, hq.location, hq.props⟩
  · intro x hx
    simp only [hiveProj, emptyCreate, List.mem_map] at hx
    obtain ⟨x', hx', rfl⟩ := hx
    obtain ⟨col, hc, y, hy, rfl⟩ := hcols x' hx'
    have hqc := hq.cols col hc
    refine ⟨hqc.name, ?_, hqc.comment⟩
    intro ps hps e he
    simp only [hiveCol] at hps
    split at hps
    · split at hps
      · cases hps
      · exact hqc.params ps hps e he
    · cases hps
  · intro x hx; simp [hiveProj, emptyCreate, e1] at hx
end

end LD
