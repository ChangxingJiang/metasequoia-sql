import MsqProofs.Lemmas.LexLinkSelectMirror
import MsqProofs.Lemmas.LexLinkText
/-!
# A predicate on the expressions and table names of a SELECT, collected; "`==` does not occur" in the join words

`OkS okE okN s`: `okE` holds of every expression of the SELECT, `okN` of every table name; `noEqEqS` is the instance "no payload
contains `==`" (the hypothesis of `hive_pre_select`, `LexLinkSelectLink.lean`).
-/
namespace LexLink
open Lex Spec C05 C06 C09 Ast TP TS

def okTable (okN : String → Prop) : FromTable → Prop
  | .mk r _ => okN (tblName r)
def okRule (okE : Expr → Prop) : Option JoinRule → Prop
  | some (.on e) => okE e
  | _ => True
def okJoin (okE : Expr → Prop) (okN : String → Prop) : Join → Prop
  | .mk _ t rule => okTable okN t ∧ okRule okE rule
def okOpt (okE : Expr → Prop) : Option Expr → Prop
  | some e => okE e
  | none => True
def okGroup (okE : Expr → Prop) : Option GroupBy → Prop
  | some (.mk cs _ _ _) => ∀ e ∈ cs, okE e
  | none => True
def okOrd (okE : Expr → Prop) : OrderItem → Prop
  | .mk e _ _ _ => okE e
def okOrder (okE : Expr → Prop) : Option (List OrderItem) → Prop
  | some l => ∀ o ∈ l, okOrd okE o
  | none => True
def OkS (okE : Expr → Prop) (okN : String → Prop) : Select → Prop
  | .mk _ _ cols fr _ js wh gb hv ob _ _ _ _ =>
    (∀ c ∈ cols, okE c.1) ∧ (∀ l, fr = some l → ∀ t ∈ l, okTable okN t) ∧ (∀ j ∈ js, okJoin okE okN j) ∧
    okOpt okE wh ∧ okGroup okE gb ∧ okOpt okE hv ∧ okOrder okE ob

theorem alnum_ne_eq (c : Char) (h : alnumU c = true) : c ≠ '=' := by
  intro e; subst e; revert h; decide

/-- a plain word has no `=` at all -/
theorem occ_plainL (a : List Char) (h : plainL a = true) : C01.occ a = false := by
  refine C01.occ_none a fun x hx => ?_
  cases a with
  | nil => cases hx
  | cons c r =>
    simp only [plainL, Bool.and_eq_true, List.all_eq_true] at h
    rcases List.mem_cons.mp hx with rfl | hx
    · exact alnum_ne_eq x (plainL_head x h.1)
    · exact alnum_ne_eq x (h.2 x hx)

def noEqEqS (s : Select) : Prop := OkS C01.noEqEq (fun n => C01.occ n.toList = false) s

end LexLink
