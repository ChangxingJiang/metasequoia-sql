import MsqProofs.Lemmas.TSpellM
/-!
# T-parse closed under nesting: the printer's own spelling as an instance of the spelled development (C03 / C02 / C01)

The records of the nested fragment (`RT3`, `QT`, `ColRec`, `TabRec`, … `SRec`, `UnRec`) depend on the bracket choice `ch` only through the
renderings, and `TSP.toksQ d (plainCh ch) q = toksQ d ch q` (Lemmas/TSpellP.lean): each record IS the record of the spelled development
(Lemmas/TSpell*.lean) at the spelling `plainCh ch` (`rt3_plain` … `unRec_plain`).  Every theorem about a record is therefore the instance
`sp := plainCh ch` of the theorem of the same name in `TSP`; the mutual induction (`TSP.all`) is run once, there.

`ChOK d ch`: the two first-word side conditions of the fragment (no leading `DISTINCT` in the select list, no leading `GROUPING` in the
first GROUP BY key) are stated for the rendering without redundant brackets (`noX`); the records for another bracket choice `ch` need
them for that choice.
-/
open Lex PM Ast TP TS
namespace TQ
variable {d : Gen.D} {ch : Expr → Bool}

structure ChOK (d : Gen.D) (ch : Expr → Bool) : Prop where
  dist : ∀ cols, searchStrUp (toksCols3 d noX cols) "DISTINCT" = false → searchStrUp (toksCols3 d ch cols) "DISTINCT" = false
  grouping : ∀ e, searchStrUp (W3 d noX e 8) "GROUPING" = false → searchStrUp (W3 d ch e 8) "GROUPING" = false
theorem chOK_noX : ChOK d noX := ⟨fun _ h => h, fun _ h => h⟩

open TSP (plainCh)
theorem w3_plain (e : Expr) (k : Nat) : TSP.W3 d (plainCh ch) e k = W3 d ch e k := by
  simp only [TSP.W3, W3, TSP.plainE, TSP.plainCh_ch]
theorem optBareOK_false (a : Option String) : TSP.optBareOK d false a = true := by cases a <;> rfl
theorem spOK_plainCh (hch : ChOK d ch) : TSP.SpOK d (plainCh ch) :=
  ⟨fun e h => by rw [w3_plain]; exact hch.grouping e h, fun _ h => Bool.noConfusion h, fun _ => optBareOK_false _, fun _ _ => optBareOK_false _⟩

theorem rt3_plain (e : Expr) : TSP.RT3 d (plainCh ch) e ↔ RT3 d ch e := by
  have h := TSP.plainE d ch e
  constructor <;> rintro ⟨a, b, c, g, l⟩
  · rw [h] at a b c g l; exact ⟨a, b, c, g, l⟩
  · rw [← h] at a b c g l; exact ⟨a, b, c, g, l⟩
theorem qt_plain (q : Query) : TSP.QT d (plainCh ch) q ↔ QT d ch q := by
  have h := TSP.plainQ d ch q
  constructor <;> rintro ⟨a, b⟩
  · rw [h] at a b; exact ⟨a, b⟩
  · rw [← h] at a b; exact ⟨a, b⟩
theorem colRec_plain (c : Expr × Option String) : TSP.ColRec d (plainCh ch) c ↔ ColRec d ch c := by
  simp only [TSP.ColRec, ColRec, rt3_plain, TSP.plainCh_bareC, optBareOK_false, and_true]
theorem refRec_plain : ∀ r : TableRef, TSP.RefRec d (plainCh ch) r ↔ RefRec d ch r
  | .table _ _ => Iff.rfl
  | .sub q => qt_plain q
theorem tabRec_plain : ∀ t : FromTable, TSP.TabRec d (plainCh ch) t ↔ TabRec d ch t
  | .mk r a => by simp only [TSP.TabRec, TabRec, refRec_plain, TSP.plainCh_bareT, optBareOK_false, and_true]
theorem fromRec_plain : ∀ fr : Option (List FromTable), TSP.FromRec d (plainCh ch) fr ↔ FromRec d ch fr
  | none | some [] => Iff.rfl
  | some (t :: ts) => by simp only [TSP.FromRec, FromRec, tabRec_plain]
theorem ruleRec_plain : ∀ r : Option JoinRule, TSP.RuleRec d (plainCh ch) r ↔ RuleRec d ch r
  | none | some (.using _) => Iff.rfl
  | some (.on e) => rt3_plain e
theorem joinRec_plain : ∀ j : Join, TSP.JoinRec d (plainCh ch) j ↔ JoinRec d ch j
  | .mk ty t rule => by simp only [TSP.JoinRec, JoinRec, tabRec_plain, ruleRec_plain]
theorem optRec_plain : ∀ o : Option Expr, TSP.OptRec d (plainCh ch) o ↔ OptRec d ch o
  | none => Iff.rfl
  | some e => rt3_plain e
theorem groupRec_plain (gb : Option GroupBy) : TSP.GroupRec d (plainCh ch) gb ↔ GroupRec d ch gb := by
  unfold TSP.GroupRec GroupRec
  split <;> simp only [rt3_plain, w3_plain]
theorem ordRec_plain : ∀ o : OrderItem, TSP.OrdRec d (plainCh ch) o ↔ OrdRec d ch o
  | .mk e _ nf nl => by simp only [TSP.OrdRec, OrdRec, rt3_plain]
theorem orderRec_plain : ∀ ob : Option (List OrderItem), TSP.OrderRec d (plainCh ch) ob ↔ OrderRec d ch ob
  | none | some [] => Iff.rfl
  | some (o :: os) => by simp only [TSP.OrderRec, OrderRec, ordRec_plain]
theorem sRec_plain (s : Select) : TSP.SRec d (plainCh ch) s ↔ SRec d ch s := by
  simp only [TSP.SRec, SRec, colRec_plain, TSP.plainCols, fromRec_plain, joinRec_plain, optRec_plain, groupRec_plain, orderRec_plain]
theorem unRec_plain : ∀ us : List (String × Select), TSP.UnRec d (plainCh ch) us ↔ UnRec d ch us
  | [] => Iff.rfl
  | (t, s) :: r => by simp only [TSP.UnRec, UnRec, sRec_plain, unRec_plain r]

theorem fromTables (fol : List Tok) (hf : Fol d fol) (hc : searchStr fol "," = false) :
    ∀ (ts : List FromTable), (∀ t ∈ ts, TabRec d ch t) → ∀ acc,
    OkAt (fun f => pFromTables d f acc (toksTablesTail3 d ch ts ++ fol)) (20 * sizeL (toksTablesTail3 d ch ts) + 3) (acc ++ ts, fol) := by
  intro ts hts
  have := TSP.fromTables (sp := plainCh ch) fol hf hc ts (fun t ht => (tabRec_plain t).2 (hts t ht))
  rwa [TSP.plainTablesTail] at this
theorem groupBy (gb : Option GroupBy) (hg : GroupRec d ch gb) (fol : List Tok) (hb : Bd3 d 4 fol = true) :
    OkAt (fun f => pGroupBy d f (toksGroup3 d ch gb ++ fol)) (20 * sizeL (toksGroup3 d ch gb) + 6) (gb, fol) := by
  have := TSP.groupBy gb ((groupRec_plain gb).2 hg) fol hb
  rwa [TSP.plainGroup] at this
theorem orderBy (ob : Option (List OrderItem)) (ho : OrderRec d ch ob) (fol : List Tok) (hb : Bd3 d 6 fol = true) :
    OkAt (fun f => pOrderByOpt d f (toksOrder3 d ch ob ++ fol)) (20 * sizeL (toksOrder3 d ch ob) + 6) (ob, fol) := by
  have := TSP.orderBy ob ((orderRec_plain ob).2 ho) fol hb
  rwa [TSP.plainOrder] at this
theorem SRec.parse {s : Select} (h : SRec d ch s) (rest : List Tok) (hr : Bd3 d 7 rest = true) :
    OkAt (fun f => pSingle d f [] (toksS3 d ch s ++ rest)) (20 * sizeL (toksS3 d ch s) + 6) (s, rest) := by
  have := ((sRec_plain s).2 h).parse rest hr
  rwa [TSP.plainS] at this
theorem SRec.head {s : Select} (h : SRec d ch s) : ∃ x, toksS3 d ch s = opTok "SELECT" :: x := by
  have := ((sRec_plain s).2 h).head
  rwa [TSP.plainS] at this
theorem stmt_core (w : Option (List WithTable)) (hw : w = none ∨ w = some []) (s : Select) (us : List (String × Select))
    (hs : SRec d ch s) (hus : UnRec d ch us) (rest : List Tok) (hr : stopsQ d rest = true) :
    OkAt (fun f => pSelectStmt d f w (toksS3 d ch s ++ (toksUn d ch us ++ rest))) (20 * sizeL (toksS3 d ch s ++ toksUn d ch us) + 9)
      (if us.isEmpty then .single s else .union (some []) s us, rest) := by
  have := TSP.stmt_core w hw s us ((sRec_plain s).2 hs) ((unRec_plain us).2 hus) rest hr
  rwa [TSP.plainS, TSP.plainUn] at this

/-! ### the mutual induction, run in `TSP` -/
theorem rt3 (hch : ChOK d ch) (e : Expr) (hf : FragE3 d e = true) : RT3 d ch e := (rt3_plain e).1 (TSP.rt3 (spOK_plainCh hch) e hf)
theorem qt (hch : ChOK d ch) (q : Query) (hf : FragQ d q = true) : QT d ch q := (qt_plain q).1 (TSP.qt (spOK_plainCh hch) q hf)
/-- the records of every fragment expression / query in the form the audit names (`lean/props.json`): from `rt3` / `qt`, i.e. from `TSP.all`
at the printer's own spelling.  The size bounds are not used; they stay because the registered statement is the one with them -/
theorem all (hch : ChOK d ch) : ∀ n, (∀ e, szE3 e ≤ n → FragE3 d e = true → RT3 d ch e) ∧ (∀ q, szQ q ≤ n → FragQ d q = true → QT d ch q) :=
  fun _ => ⟨fun e _ hf => rt3 hch e hf, fun q _ hf => qt hch q hf⟩
theorem srec_of (hch : ChOK d ch) (s : Select) (hf : FragS3 d s = true) : SRec d ch s :=
  (sRec_plain s).1 (TSP.srec_of (spOK_plainCh hch) s hf)
theorem unrec_of (hch : ChOK d ch) (us : List (String × Select)) (hf : FragUn d us = true) : UnRec d ch us :=
  (unRec_plain us).1 (TSP.unrec_of (spOK_plainCh hch) us hf)

/-- `_parse_select_statement` with the WITH slot already consumed (as `pStatement` calls it) -/
theorem stmt_some (hch : ChOK d ch) (q : Query) (hq : FragQ d q = true) (rest : List Tok) (hr : stopsQ d rest = true) :
    OkAt (fun f => pSelectStmt d f (some []) (toksQ d ch q ++ rest)) (20 * sizeL (toksQ d ch q) + 9) (q, rest) := by
  have := TSP.stmt_some (spOK_plainCh hch) q hq rest hr
  rwa [TSP.plainQ] at this
theorem toksQ_head (hch : ChOK d ch) (q : Query) (hq : FragQ d q = true) : ∃ x, toksQ d ch q = opTok "SELECT" :: x :=
  (qt hch q hq).head

end TQ
