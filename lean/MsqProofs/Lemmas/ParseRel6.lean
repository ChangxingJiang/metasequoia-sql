import MsqProofs.Lemmas.ParseRel5
import MsqProofs.Lemmas.ParseRel4
/-!
# Relational reading of the parser model: facts for the statement level (config strings, the empty CREATE TABLE record, partition items)
-/
open Lex Ast PMQ
namespace PM.Rel
variable [T : Theory]

/-- one step of `_parse_config_string`: `acc + "." + source` -/
theorem m2_app3 {a a' b b' sep : String} (h1 : T.m2 a = T.m2 a') (h2 : T.m2 b = T.m2 b') : T.m2 (a ++ sep ++ b) = T.m2 (a' ++ sep ++ b') :=
  T.m2_append (T.m2_append h1 rfl) h2
grind_pattern m2_app3 => T.m2 (a ++ sep ++ b), T.m2 (a' ++ sep ++ b')

theorem emptyCreate_rel (t t' : TableName) (b : Bool) (h : (mapTN T.m) t = (mapTN T.m) t') : (mapCR T.m T.m2) (emptyCreate t b) = (mapCR T.m T.m2) (emptyCreate t' b) := by
  simp [emptyCreate, mapCR, h]
grind_pattern emptyCreate_rel => emptyCreate t b, emptyCreate t' b

/-- partition items `(expression, is non-dynamic)`: the flags are the same, the expressions related -/
theorem items_any {l l' : List (Expr × Bool)} (h : l.map (Prod.map (mapE T.m) id) = l'.map (Prod.map (mapE T.m) id)) (p : Bool → Bool) :
    (l.any fun i => p i.2) = (l'.any fun i => p i.2) := by
  induction l generalizing l' with
  | nil => cases l' <;> simp_all
  | cons a l ih =>
    cases l' with
    | nil => simp at h
    | cons a' l' =>
      obtain ⟨e, b⟩ := a; obtain ⟨e', b'⟩ := a'
      simp [Prod.map] at h
      simp only [List.any_cons, ih h.2, h.1.2]
theorem items_any_snd {l l' : List (Expr × Bool)} (h : geq (List.map (Prod.map (mapE T.m) id)) l l') :
    (l.any (·.2)) = (l'.any (·.2)) ∧ (l.any fun i => !i.2) = (l'.any fun i => !i.2) :=
  ⟨items_any h id, items_any h (!·)⟩
grind_pattern items_any_snd => geq (List.map (Prod.map (mapE T.m) id)) l l'
theorem items_fst {l l' : List (Expr × Bool)} (h : geq (List.map (Prod.map (mapE T.m) id)) l l') :
    (l.map (·.1)).map (mapE T.m) = (l'.map (·.1)).map (mapE T.m) := by
  have := congrArg (List.map Prod.fst) h
  simpa [List.map_map, Function.comp_def, Prod.map] using this
grind_pattern items_fst => geq (List.map (Prod.map (mapE T.m) id)) l l'

end PM.Rel
