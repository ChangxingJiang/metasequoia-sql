import MsqProofs.Lemmas.AnalyzeText3e
import MsqProofs.Lemmas.TQueryM
/-!
# The column references of each clause of a fragment SELECT, read off its token segment (C15 on texts)

`CT.clause_cols : FragS3 d s → colsOf c s = clauseColumnTokens c (clauseSeg c (toksS3 d noX s))` for the six clauses and their union:
the references the specification `Spec.colsOf` lists for clause `c` (before the alias / position substitution) are what the scanner
`CT.colL` reads off the tokens of that clause, the clause being cut out of the branch's token list by the clause words at bracket depth 0.
-/
open Lex PM Ast TP TP2 TS TQ Spec
open AN (QCol Clause)
namespace CT

/-! ### an alias is no `.` -/
theorem alpha_lt (c : Char) (h : (c.isAlpha || c == '_') = true) : c.toNat < 128 := by
  simp only [Char.isAlpha, Char.isUpper, Char.isLower, Bool.or_eq_true, Bool.and_eq_true, decide_eq_true_eq, beq_iff_eq] at h
  rcases h with (⟨_, h2⟩ | ⟨_, h2⟩) | rfl
  · have := UInt32.le_iff_toNat_le.1 h2
    have e : 'Z'.val.toNat = 90 := by decide
    simp only [Char.toNat]; omega
  · have := UInt32.le_iff_toNat_le.1 h2
    have e : 'z'.val.toNat = 122 := by decide
    simp only [Char.toNat]; omega
  · decide
theorem alpha_tab : ∀ n : Fin 128, ((Char.ofNat n.val).isAlpha || Char.ofNat n.val == '_') = true → Py.upperAsciiChar (Char.ofNat n.val) ≠ '.' := by
  decide
theorem alpha_up_nodot (c : Char) (h : (c.isAlpha || c == '_') = true) : Py.upperAsciiChar c ≠ '.' := by
  have hl := alpha_lt c h
  have := alpha_tab ⟨c.toNat, hl⟩
  simp only [Char.ofNat_toNat] at this
  exact this h
theorem named_nodot (a : String) (h : (opTok a).has NAME = true) : (opTok a).equalsStr "." = false := by
  rw [TP2.opTok_equals, beq_eq_false_iff_ne]
  intro he
  have e1 : up "." = "." := by decide
  rw [e1] at he
  have hf : Gen.wordMarks.find? (·.1 == ".") = none := by decide
  simp only [opTok, Tok.has, Tok.marks, wordMark, he, hf] at h
  by_cases hw : isWordS a = true
  · simp only [isWordS] at hw
    cases hc : a.toList with
    | nil => simp [hc] at hw
    | cons c r =>
      rw [hc] at hw
      simp only [List.head?_cons, Option.any_some] at hw
      have := TP2.up_head a c r hc (alpha_lt c hw)
      rw [he] at this
      have e2 : ".".toList.head? = some '.' := by decide
      rw [e2] at this
      injection this with this
      exact alpha_up_nodot c hw this.symm
  · simp only [hw, Bool.false_eq_true, if_false] at h
    exact absurd h (by decide)

theorem colL_alias (a : String) (h : aliasOK a = true) (r : List Tok) :
    colL (.expr true) (opTok "AS" :: opTok a :: r) = colL (.expr true) r := by
  simp only [aliasOK, Bool.and_eq_true] at h
  have h1 : (opTok "AS").has LITERAL = false := by decide
  have h2 : isWord (opTok "AS") = true := by decide
  have h3 : nextIs "." (opTok a :: r) = false := named_nodot a h.1.1
  have h4 : (opTok "AS").equalsStr "AS" = true := by decide
  have h5 : nextIsGrp (opTok a :: r) = false := rfl
  rw [colL_tok (by rfl), colL_tok (by rfl)]
  simp [step, h1, h2, h3, h4, h5]

variable {d : Gen.D} (ch : Expr → Bool)

/-! ### the select list -/
theorem hdS_aliasTail (a : Option String) (cs : List (Expr × Option String)) : hdS (aliasToks a ++ toksColsTail3 d ch cs) = true := by
  cases a with
  | some a => exact hdS_cons rfl (by decide) _
  | none =>
    cases cs with
    | nil => rfl
    | cons p r => obtain ⟨e, a⟩ := p; simp only [aliasToks, toksColsTail3, List.nil_append]; exact hdS_cons rfl (by decide) _
theorem colL_aliasToks (a : Option String) (h : optAliasOK a = true) (r : List Tok) :
    colL (.expr true) (aliasToks a ++ r) = colL (.expr true) r := by
  cases a with
  | none => rfl
  | some a => exact colL_alias a h r
theorem cColsTail : ∀ (cs : List (Expr × Option String)), colsOK3 d cs = true →
    colL (.expr true) (toksColsTail3 d ch cs) = colsSelectItems cs
  | [], _ => by simp only [toksColsTail3, colsSelectItems]; exact colL_nil _
  | (e, a) :: cs, h => by
    simp only [colsOK3, Bool.and_eq_true] at h
    have he := cE ch e h.1.1
    simp only [toksColsTail3, colsSelectItems, List.append_assoc]
    rw [colL_kw kw_comma true _ (he.nodot _), he.scan _ (hdS_aliasTail ch a cs), colL_aliasToks a h.1.2, cColsTail cs h.2]
theorem cCols : ∀ (cs : List (Expr × Option String)), colsOK3 d cs = true →
    colL (.expr false) (toksCols3 d ch cs) = colsSelectItems cs ∧ nextIs "." (toksCols3 d ch cs) = false
  | [], _ => by simp only [toksCols3, colsSelectItems]; exact ⟨colL_nil _, rfl⟩
  | (e, a) :: cs, h => by
    simp only [colsOK3, Bool.and_eq_true] at h
    have he := cE ch e h.1.1
    simp only [toksCols3, colsSelectItems, List.append_assoc]
    exact ⟨by rw [he.scan _ (hdS_aliasTail ch a cs), colL_aliasToks a h.1.2, cColsTail ch cs h.2], he.nodot _⟩

/-! ### WHERE / HAVING, the ON conditions -/
theorem cOptE (kw : String) (hk : kwOut (opTok kw) = some false) : ∀ (e : Option Expr), FragO3 d e = true →
    colL (.expr false) (toksOptE3 d ch kw e) = colsOE e
  | none, _ => by simp only [toksOptE3, colsOE]; exact colL_nil _
  | some e, h => by
    simp only [FragO3] at h
    have he := cE ch e h
    simp only [toksOptE3, colsOE]
    rw [colL_kw hk false _ (by simpa using he.nodot []), he.inner]
theorem hdS_onToks : ∀ (js : List Join), hdS (onToks d ch js) = true
  | [] => rfl
  | .mk ty t none :: js => by simp only [onToks, joinOn, toksRule3, List.nil_append]; exact hdS_onToks js
  | .mk ty t (some (.on e)) :: js => by simp only [onToks, joinOn, toksRule3, List.cons_append]; exact hdS_cons rfl (by decide) _
  | .mk ty t (some (.using f)) :: js => by simp only [onToks, joinOn, toksRule3, List.nil_append]; exact hdS_onToks js
theorem cOns : ∀ (js : List Join), joinsOK3 d js = true → ∀ b, colL (.expr b) (onToks d ch js) = colsJoins js
  | [], _, b => by simp only [onToks, colsJoins]; exact colL_nil _
  | .mk ty t none :: js, h, b => by
    simp only [joinsOK3, Bool.and_eq_true] at h
    exact cOns js h.2 b
  | .mk ty t (some (.on e)) :: js, h, b => by
    simp only [joinsOK3, joinOK3, ruleOK3, Bool.and_eq_true] at h
    have he := cE ch e h.1.2
    simp only [onToks, joinOn, toksRule3, colsJoins, colsJoin, List.cons_append]
    rw [colL_kw (k0 "ON") b _ (he.nodot _), he.scan _ (hdS_onToks ch js), cOns js h.2 true]
  | .mk ty t (some (.using f)) :: js, h, b => by simp [joinsOK3, joinOK3, ruleOK3] at h

/-! ### GROUP BY / ORDER BY: the items -/
theorem splitC_cons {a : List Tok} (ha : TQ.NoComma a) (b : List Tok) : splitC (a ++ opTok "," :: b) = a :: splitC b := by
  induction a with
  | nil =>
    have : (opTok ",").equalsStr "," = true := by decide
    simp [splitC, this]
  | cons t a ih =>
    have ht : t.equalsStr "," = false := ha t (by simp)
    have := ih (fun x hx => ha x (by simp [hx]))
    simp only [List.cons_append, splitC, ht, Bool.false_eq_true, if_false, this]
theorem splitC_last {a : List Tok} (ha : TQ.NoComma a) : splitC a = [a] := by
  induction a with
  | nil => rfl
  | cons t a ih =>
    have ht : t.equalsStr "," = false := ha t (by simp)
    have := ih (fun x hx => ha x (by simp [hx]))
    simp only [splitC, ht, Bool.false_eq_true, if_false, this]

theorem w3_nocomma (e : Expr) (h : FragE3 d e = true) (k : Nat) : TQ.NoComma (W3 d noX e k) := by
  unfold W3 wrapT
  split
  · intro t ht; simp at ht; subst ht; rfl
  · exact (TQ.rt3 TQ.chOK_noX e h).nocomma

theorem itemRefs_nonlit (e : Expr) (h : ∀ v, e ≠ .literal v) : itemRefs e = colsE e := by
  cases e <;> simp_all [itemRefs, ordinalOfExpr]
theorem kwOut_nolit {t : Tok} {a : Bool} (h : kwOut t = some a) : t.has LITERAL = false := by
  unfold kwOut at h
  cases hl : t.has LITERAL with
  | false => rfl
  | true => simp [hl] at h

theorem len_app {A X : List Tok} {t : Tok} {r : List Tok} (hA : A ≠ []) (h : A ++ X = t :: r) : X.length ≤ r.length := by
  cases A with
  | nil => exact absurd rfl hA
  | cons a A =>
    simp only [List.cons_append, List.cons.injEq] at h
    rw [← h.2]; simp
theorem kwToks_len (k : KwKind) (n : Bool) : 1 ≤ (kwToks k n).length := by cases k <;> cases n <;> simp [kwToks]

theorem wrapT_ne {ts : List Tok} (h : ts ≠ []) (b : Bool) (e : Expr) (k : Nat) : wrapT b e k ts ≠ [] := by
  unfold wrapT; split
  · exact List.cons_ne_nil _ _
  · exact h
/-- a rendering whose first token carries the LITERAL mark is a literal, or has at least three tokens: the other renderings
start with a name, a key word or a bracket, or are `l op r …` with `l` and `r` not empty -/
theorem lit_head (e : Expr) (hf : FragE3 d e = true) (hnl : ∀ v, e ≠ .literal v) :
    ∀ t r, W3 d noX e 8 = t :: r → t.has LITERAL = true → 2 ≤ r.length := by
  intro t r hw hl
  have no : ∀ {a : Tok} {x : List Tok}, a :: x = t :: r → a.has LITERAL = false → 2 ≤ r.length := fun h ha => by
    rw [(List.cons.inj h).1, hl] at ha; cases ha
  have wne : ∀ (x : Expr) (k : Nat), FragE3 d x = true → wrapT (noX x) x k (toksE3 d noX x) ≠ [] :=
    fun x k hx => wrapT_ne (cE noX x hx).ne _ _ _
  have far : ∀ {A X : List Tok}, A ≠ [] → A ++ X = t :: r → 2 ≤ X.length → 2 ≤ r.length :=
    fun hA h hX => Nat.le_trans hX (len_app hA h)
  have two : ∀ {x : Tok} {X : List Tok}, X ≠ [] → 2 ≤ (x :: X).length := fun h => Nat.succ_le_succ (List.length_pos_iff.2 h)
  unfold W3 wrapT at hw
  split at hw
  · exact no hw (grp_literal _)
  cases e with
  | literal v => exact absurd rfl (hnl v)
  | column q c => cases q <;> exact no hw (name_nolit _)
  | wildcard q =>
    cases q with
    | none => exact no hw (by decide)
    | some q => exact no hw (q_facts (by simpa only [FragE3, wildOK] using hf)).2.1
  | func s n ps =>
    cases s with
    | none =>
      simp only [FragE3, fnOK, Bool.and_eq_true] at hf
      exact no hw (q_facts hf.1.2.1).2.1
    | some s => exact no hw (name_nolit _)
  | agg n ps dist =>
    simp only [FragE3, aggOK, Bool.and_eq_true] at hf
    exact no hw (nm_facts hf.1.1.2).2.1
  | caseCond _ _ | caseVal _ _ _ | exists_ _ | not_ _ => exact no hw (by decide)
  | subQuery q => exact no hw (grp_literal _)
  | unary o x =>
    simp only [FragE3, Bool.and_eq_true] at hf
    exact no hw (kwOut_nolit (unary_ok hf.1).1)
  | compute l o r' =>
    simp only [FragE3, Bool.and_eq_true] at hf
    exact far (wne l _ hf.1.2) hw (two (wne r' _ hf.2))
  | compare o l r' =>
    simp only [FragE3, Bool.and_eq_true] at hf
    exact far (wne l _ hf.1.1.2) hw (two (wne r' _ hf.1.2))
  | and_ l r' | xor l r' | or_ l r' =>
    simp only [FragE3, Bool.and_eq_true] at hf
    exact far (wne l _ hf.1) hw (two (wne r' _ hf.2))
  | between n b f t' =>
    simp only [FragE3, Bool.and_eq_true] at hf
    refine far (wne b 9 hf.1.1.1) hw ?_
    simp only [List.length_append, List.length_cons]
    omega
  | kw k n l r' =>
    simp only [FragE3, Bool.and_eq_true] at hf
    have hr' : toksE3 d noX r' ≠ [] := by
      have h2 := hf.1.2
      by_cases hk : (k == KwKind.in_) = true
      · simp only [hk, if_true] at h2
        cases r' with
        | subQuery q => exact List.cons_ne_nil _ _
        | subValue vs => exact List.cons_ne_nil _ _
        | _ => simp [inRhs3] at h2
      · simp only [hk] at h2
        exact (cE noX r' h2).ne
    refine far (wne l 9 hf.1.1) hw ?_
    have := kwToks_len k n
    have := List.length_pos_iff.2 (wrapT_ne hr' (noX r' && k != KwKind.in_) r' 8)
    simp only [List.length_append]
    omega
  | _ => simp [FragE3] at hf

theorem ordTok_lit {t : Tok} {k : Int} (h : ordTok t = some k) : t.has LITERAL = true := by
  unfold ordTok at h
  cases hl : t.has LITERAL with
  | true => rfl
  | false => simp [hl] at h
theorem itemT_eq (ts : List Tok) (h : ∀ t r k, ts = t :: r → ordTok t = some k → 2 ≤ r.length) : itemT ts = colL (.expr false) ts := by
  match ts, h with
  | [], _ => rfl
  | [t], h =>
    cases hk : ordTok t with
    | none => simp [itemT, hk]
    | some k => have := h t [] k rfl hk; simp at this
  | [t, u], h =>
    cases hk : ordTok t with
    | none => simp [itemT, hk]
    | some k => have := h t [u] k rfl hk; simp at this
  | t :: u :: v :: w, _ => rfl

/-- **one item of GROUP BY / ORDER BY** (with its optional `DESC`): a lone integer literal is a position -/
theorem itemT_expr (e : Expr) (hf : FragE3 d e = true) (desc : Bool) :
    itemT (W3 d noX e 8 ++ (if desc then [opTok "DESC"] else [])) = itemRefs e := by
  have hdesc : colL (.expr true) (if desc then [opTok "DESC"] else []) = [] := by
    cases desc
    · exact colL_nil _
    · simp only [if_true]; rw [colL_kw kw_DESC true [] rfl]; exact colL_nil _
  have hdS' : hdS (if desc then [opTok "DESC"] else []) = true := by cases desc <;> rfl
  by_cases hl : ∃ v, e = .literal v
  · obtain ⟨v, rfl⟩ := hl
    simp only [FragE3] at hf
    have hw : W3 d noX (.literal v) 8 = [litTok v] := by simp [W3, wrapT, PR.lvl, noX, toksE3]
    have hord : ordTok (litTok v) = ordinalOfExpr (.literal v) := by
      simp only [ordTok, lit_has v hf, src_litTok, ordinalOfExpr, if_true]
      cases AN.ordinalOfSource v <;> rfl
    have hscan : colL (.expr false) ([litTok v] ++ (if desc then [opTok "DESC"] else [])) = [] := by
      rw [List.singleton_append, colL_lit rfl (lit_has v hf), hdesc]
    have hD : isDir (opTok "DESC") = true := by decide
    rw [hw]
    unfold itemRefs
    rw [← hord]
    cases desc with
    | false =>
      simp only [Bool.false_eq_true, if_false, List.append_nil, itemT] at hscan ⊢
      cases hk : ordTok (litTok v) with
      | none => simp [hscan, colsE]
      | some k => rfl
    | true =>
      simp only [if_true, List.singleton_append, itemT, hD] at hscan ⊢
      cases hk : ordTok (litTok v) with
      | none => simp [hscan, colsE]
      | some k => rfl
  · have hnl : ∀ v, e ≠ .literal v := fun v hv => hl ⟨v, hv⟩
    rw [itemRefs_nonlit e hnl, itemT_eq]
    · have := ((cE noX e hf).wrap (noX e) e 8).scan _ hdS'
      rw [hdesc, List.append_nil] at this
      exact this
    · intro t r k he hk
      have hne := ((cE noX e hf).wrap (noX e) e 8).ne
      cases hW : W3 d noX e 8 with
      | nil => exact absurd hW hne
      | cons t0 r0 =>
        rw [hW, List.cons_append, List.cons.injEq] at he
        have := lit_head e hf hnl t0 r0 hW (by rw [he.1]; exact ordTok_lit hk)
        rw [← he.2, List.length_append]; omega

theorem nocomma_item (e : Expr) (hf : FragE3 d e = true) (desc : Bool) :
    TQ.NoComma (W3 d noX e 8 ++ (if desc then [opTok "DESC"] else [])) := by
  intro t ht
  rcases List.mem_append.1 ht with h | h
  · exact w3_nocomma e hf 8 t h
  · cases desc
    · simp at h
    · simp only [if_true, List.mem_singleton] at h; subst h; decide

theorem cGroupTail : ∀ (es : List Expr), FragL3 d es = true → ∀ (a : List Tok), TQ.NoComma a →
    (splitC (a ++ toksArgsTail3 d noX 8 es)).flatMap itemT = itemT a ++ colsGroupItems es
  | [], _, a, ha => by simp [toksArgsTail3, colsGroupItems, splitC_last ha]
  | e :: es, h, a, ha => by
    simp only [FragL3, Bool.and_eq_true] at h
    have := cGroupTail es h.2 (W3 d noX e 8) (w3_nocomma e h.1 8)
    have hi := itemT_expr e h.1 false
    simp only [Bool.false_eq_true, if_false, List.append_nil] at hi
    simp only [toksArgsTail3, colsGroupItems]
    rw [show TP2.commaTok = opTok "," from rfl, splitC_cons ha, List.flatMap_cons]
    unfold W3 at this hi
    rw [this, hi]
theorem cOrdTail : ∀ (os : List OrderItem), ordTailOK3 d os = true → ∀ (a : List Tok), TQ.NoComma a →
    (splitC (a ++ toksOrdTail3 d noX os)).flatMap itemT = itemT a ++ colsOrderItems os
  | [], _, a, ha => by simp [toksOrdTail3, colsOrderItems, splitC_last ha]
  | .mk e desc nf nl :: os, h, a, ha => by
    simp only [ordTailOK3, ordItemOK3, Bool.and_eq_true] at h
    have := cOrdTail os h.2 _ (nocomma_item e h.1.1.1 desc)
    have hi := itemT_expr e h.1.1.1 desc
    simp only [toksOrdTail3, toksOrdItem3, colsOrderItems]
    rw [show TS.commaTok = opTok "," from rfl, splitC_cons ha, List.flatMap_cons]
    unfold W3 at this hi
    rw [this, hi]

/-- **the raw references of each of the six clauses** are what the scanner reads off the clause's piece of the rendering -/
theorem clause_cols6 (s : Select) (h : FragS3 d s = true) (c : Clause) (hc : c ≠ .all) :
    colsOf c s = clauseColumnTokens6 c (seg d noX (clauseNo c) s) := by
  cases s with
  | mk ws dist cols fr lats js wh gb hv ob sb db cb lm =>
    obtain ⟨rfl, rfl, rfl, rfl, rfl⟩ := AT.fragS3_shape h
    have hfrag := h
    simp only [FragS3, Bool.and_eq_true] at h
    obtain ⟨⟨⟨⟨⟨⟨⟨⟨⟨hcols, _⟩, hfr⟩, hjs⟩, hwh⟩, hgb⟩, hhv⟩, hob⟩, hlm⟩, _⟩ := h
    cases c with
    | all => exact absurd rfl hc
    | select =>
      obtain ⟨c1, c2⟩ := cCols noX cols hcols
      have hnd : nextIs "." ((if dist then [opTok "DISTINCT"] else []) ++ toksCols3 d noX cols) = false := by
        cases dist
        · simpa using c2
        · rfl
      simp only [colsOf, clauseColumnTokens6, clauseNo, seg]
      rw [colL_kw kw_SELECT false _ hnd]
      cases dist
      · simpa using c1.symm
      · simp only [if_true, List.singleton_append]; rw [colL_kw (k0 "DISTINCT") false _ c2, c1]
    | join =>
      simp only [colsOf, clauseColumnTokens6, clauseNo]
      rw [cutOns_seg noX _ hfrag]
      exact (cOns noX js hjs false).symm
    | where_ =>
      exact (cOptE noX "WHERE" (k0 "WHERE") wh hwh).symm
    | having =>
      exact (cOptE noX "HAVING" (k0 "HAVING") hv hhv).symm
    | group =>
      simp only [colsOf, clauseColumnTokens6, clauseNo, seg]
      match gb, hgb with
      | none, _ => simp [toksGroup3, colsGroup, splitC, itemT, colL_nil]
      | some (.mk [] sets cube rollup), hgb => simp [groupOK3] at hgb
      | some (.mk (e :: es) (some l) cube rollup), hgb => simp [groupOK3] at hgb
      | some (.mk (e :: es) none cube rollup), hgb =>
        cases cube <;> cases rollup <;> try (simp [groupOK3] at hgb; done)
        simp only [groupOK3, Bool.and_eq_true] at hgb
        have := cGroupTail es hgb.1.2 (W3 d noX e 8) (w3_nocomma e hgb.1.1 8)
        have hi := itemT_expr e hgb.1.1 false
        simp only [Bool.false_eq_true, if_false, List.append_nil] at hi
        unfold W3 at this hi
        simp only [toksGroup3, colsGroup, colsGroupItems, List.drop, List.append_nil, this, hi]
    | order =>
      simp only [colsOf, clauseColumnTokens6, clauseNo, seg]
      match ob, hob with
      | none, _ => simp [toksOrder3, colsOrder, splitC, itemT, colL_nil]
      | some [], hob => simp [orderOK3] at hob
      | some (.mk e desc nf nl :: os), hob =>
        simp only [orderOK3, ordItemOK3, Bool.and_eq_true] at hob
        have := cOrdTail os hob.2 _ (nocomma_item e hob.1.1.1 desc)
        have hi := itemT_expr e hob.1.1.1 desc
        unfold W3 at this hi
        simp only [toksOrder3, toksOrdItem3, colsOrder, colsOrderItems, List.drop, this, hi]

theorem clauseSeg_toksS3 (s : Select) (h : FragS3 d s = true) (c : Clause) (hc : c ≠ .all) :
    clauseSeg c (toksS3 d noX s) = seg d noX (clauseNo c) s := by
  cases c with
  | all => exact absurd rfl hc
  | join => exact cutJoins_toksS3 noX s h
  | select => exact cut_toksS3 noX s h 0 (by decide) (by decide)
  | where_ => exact cut_toksS3 noX s h 3 (by decide) (by decide)
  | group => exact cut_toksS3 noX s h 4 (by decide) (by decide)
  | having => exact cut_toksS3 noX s h 5 (by decide) (by decide)
  | order => exact cut_toksS3 noX s h 6 (by decide) (by decide)

/-- **C15 on the tokens of one SELECT branch**: for every clause `c` (the six and their union), the references the specification lists
for clause `c` of `s` — before the alias / position substitution — are exactly what the scanner reads off the segment of clause `c` of
the branch's token rendering -/
theorem clause_cols (s : Select) (h : FragS3 d s = true) (c : Clause) :
    colsOf c s = clauseColumnTokens c (clauseSeg c (toksS3 d noX s)) := by
  have h6 : ∀ c, c ≠ Clause.all → colsOf c s = clauseColumnTokens6 c (clauseSeg c (toksS3 d noX s)) := fun c hc => by
    rw [clauseSeg_toksS3 s h c hc]; exact clause_cols6 s h c hc
  cases c with
  | all =>
    have e1 := h6 .select (by decide); have e2 := h6 .join (by decide); have e3 := h6 .where_ (by decide)
    have e4 := h6 .group (by decide); have e5 := h6 .having (by decide); have e6 := h6 .order (by decide)
    simp only [clauseColumnTokens, clauseSeg, List.flatMap_cons, List.flatMap_nil, List.append_nil] at *
    rw [← e1, ← e2, ← e3, ← e4, ← e5, ← e6]
    cases s; simp [colsOf, colsOf.colsOf']
  | select => exact h6 _ (by decide)
  | join => exact h6 _ (by decide)
  | where_ => exact h6 _ (by decide)
  | group => exact h6 _ (by decide)
  | having => exact h6 _ (by decide)
  | order => exact h6 _ (by decide)

end CT
