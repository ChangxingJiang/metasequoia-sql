import MsqModel.Parse.Entry
import MsqProofs.Lemmas.ParseSteps
/-!
# Outcome typing of the parser model: the primitives (below the family `tools/gen_out.py` prints)

`Err.parserKind x` = "`x` is one of the errors the parser model produces by itself": the library's `SqlParseError`
(`.parse`), exhaustion of the model's recursion budget (`.fuel`) or a named exit from the modelled fragment
(`.unmodelled _`).  Everything else — a foreign Python exception `.py _`, but also `.lexical`, `.notSupported`,
`.analyzer`, `.diverges` — is *not* a parser kind.  The lemmas below show, primitive by primitive, that no cursor
primitive of `MsqModel/Parse/Prim.lean` returns an error outside `parserKind`, with ONE exception that is stated
exactly: `pyInt` (Python's `int(str)`) returns `.py .ValueError` on a non-integer text and on an integer literal of more than
4300 digits (`pyInt_error`); its callers
`popInt` (`_pop_as_int`, which catches the `ValueError`) and `asInt` (`as_int`, which tests `is_int_literal` first and catches
the `ValueError` of the digit limit) do not let it escape (`popInt_nopy`, `asInt_nopy`).

`MsqProofs/Lemmas/ParseOut*.lean` (generated by `tools/gen_out.py`) lifts this to every function of the model, as the second of the three
answers of `ParseOut0.lean`; `ParseNoPy.lean` / `ParseNoPyStmt.lean` read it off.

Proof style: every `grind` call comes after `split_run` (`ParseSteps.lean`), so that `grind` never meets a `match` (when it does it adds
auxiliary declarations about the matcher to the module, and two modules that did so independently cannot be imported
together).
-/
open Lex

def Err.parserKind : Err → Bool
  | .parse | .fuel | .unmodelled _ => true
  | _ => false

theorem Err.parserKind_iff (x : Err) : x.parserKind = true ↔ x = .parse ∨ x = .fuel ∨ ∃ w, x = .unmodelled w := by
  cases x <;> simp [Err.parserKind]

theorem Err.parserKind_py (e : Py.Exc) : (Err.py e).parserKind = false := rfl

namespace PM

theorem pop_nopy (ts : List Tok) (x : Err) (hx : x.parserKind = false) : pop ts ≠ .error x := by
  intro h; unfold pop at h; split_run <;> grind [Err.parserKind]
theorem matchKw_nopy (ts : List Tok) (k : String) (x : Err) (hx : x.parserKind = false) : matchKw ts k ≠ .error x := by
  intro h; unfold matchKw at h; split_run <;> grind [Err.parserKind]
theorem matchSeq_nopy (ts : List Tok) (ks : List String) (x : Err) (hx : x.parserKind = false) : matchSeq ts ks ≠ .error x := by
  induction ks generalizing ts with
  | nil => simp [matchSeq]
  | cons k ks ih =>
    cases ts with
    | nil => intro h; simp [matchSeq] at h; subst h; simp [Err.parserKind] at hx
    | cons t ts =>
      simp only [matchSeq]; split
      · exact ih ts
      · intro h; simp at h; subst h; simp [Err.parserKind] at hx
theorem popSrc_nopy (ts : List Tok) (x : Err) (hx : x.parserKind = false) : popSrc ts ≠ .error x := by
  intro h; unfold popSrc at h; split_run <;> grind [Err.parserKind]
theorem headChildren_nopy (ts : List Tok) (x : Err) (hx : x.parserKind = false) : headChildren ts ≠ .error x := by
  intro h; unfold headChildren at h; split_run <;> grind [Err.parserKind]

/-! ### `int(str)`, `_pop_as_int`, `as_int` -/

/-- CPython's `sys.get_int_max_str_digits()`: `int(str)` refuses more digits than this -/
def tooManyDigits (s : String) : Bool := decide (4300 < ((intBody s.toList).filter Char.isDigit).length)

/-- EXACTLY when and how `int(s)` fails in the model: outside the modelled fragment on non-ASCII text, and with Python's
`ValueError` — a foreign exception — on ASCII text that is not an integer literal OR is one with more than 4300 digits. -/
theorem pyInt_error (s : String) (x : Err) :
    pyInt s = .error x ↔
      (hasNonAscii s = true ∧ x = .unmodelled "int() of non-ASCII text") ∨
      (hasNonAscii s = false ∧ (isAsciiIntBody (intBody s.toList) = false ∨ tooManyDigits s = true) ∧ x = .py .ValueError) := by
  unfold pyInt tooManyDigits
  by_cases h1 : hasNonAscii s = true
  · simp [h1]; exact eq_comm
  · simp only [h1]
    by_cases h2 : isAsciiIntBody (intBody s.toList) = true
    · by_cases h3 : 4300 < ((intBody s.toList).filter Char.isDigit).length
      · simp [h2, h3]; exact eq_comm
      · simp [h2, h3]
    · simp [h2]; exact eq_comm

/-- `int(s)` CAN let a foreign exception through (witnesses: the text `x`; 4301 digits), and `ValueError` is the only one -/
theorem pyInt_py (s : String) (e : Py.Exc) (h : pyInt s = .error (.py e)) : e = .ValueError := by
  rw [pyInt_error] at h; grind

theorem pyInt_py_witness : pyInt "x" = .error (.py .ValueError) := by
  rw [pyInt_error]; exact .inr ⟨by decide, .inl (by decide), rfl⟩

/-- when `int(s)` succeeds: ASCII, the shape `int()` accepts, at most 4300 digits -/
theorem pyInt_ok_iff (s : String) :
    (∃ n, pyInt s = .ok n) ↔ hasNonAscii s = false ∧ isAsciiIntBody (intBody s.toList) = true ∧ tooManyDigits s = false := by
  constructor
  · rintro ⟨n, hn⟩
    have key : ∀ x, pyInt s ≠ .error x := fun x hx => by rw [hn] at hx; cases hx
    refine ⟨?_, ?_, ?_⟩
    · cases h : hasNonAscii s with
      | false => rfl
      | true => exact absurd ((pyInt_error s _).mpr (.inl ⟨h, rfl⟩)) (key _)
    · cases h : isAsciiIntBody (intBody s.toList) with
      | true => rfl
      | false =>
        cases h1 : hasNonAscii s with
        | true => exact absurd ((pyInt_error s _).mpr (.inl ⟨h1, rfl⟩)) (key _)
        | false => exact absurd ((pyInt_error s _).mpr (.inr ⟨h1, .inl h, rfl⟩)) (key _)
    · cases h : tooManyDigits s with
      | false => rfl
      | true =>
        cases h1 : hasNonAscii s with
        | true => exact absurd ((pyInt_error s _).mpr (.inl ⟨h1, rfl⟩)) (key _)
        | false => exact absurd ((pyInt_error s _).mpr (.inr ⟨h1, .inr h, rfl⟩)) (key _)
  · rintro ⟨h1, h2, h3⟩
    cases h : pyInt s with
    | ok n => exact ⟨n, rfl⟩
    | error x =>
      rw [pyInt_error] at h
      rcases h with ⟨h, _⟩ | ⟨_, h | h, _⟩
      · rw [h1] at h; cases h
      · rw [h2] at h; cases h
      · rw [h3] at h; cases h

/-- `_pop_as_int` turns the `ValueError` of `int()` into `SqlParseError` -/
theorem popInt_nopy (ts : List Tok) (x : Err) (hx : x.parserKind = false) : popInt ts ≠ .error x := by
  intro h
  unfold popInt at h
  split at h
  · cases h; simp [Err.parserKind] at hx
  · split at h
    · cases h
    · cases h; simp [Err.parserKind] at hx
    · rename_i e hne he
      cases h
      rw [pyInt_error] at he
      rcases he with ⟨_, rfl⟩ | ⟨_, _, rfl⟩
      · simp [Err.parserKind] at hx
      · exact hne rfl

theorem not_infix_of_all_digit (cs : List Char) (h : cs.all Char.isDigit = true) : ¬ (['_', '_'] <:+: cs) := by
  rintro ⟨a, b, rfl⟩
  simp [Char.isDigit] at h

/-- `^[+-]?\d+$` implies the shape `int()` accepts -/
theorem isAsciiIntBody_of_isIntLiteral (s : String) (h : isIntLiteral s = true) : isAsciiIntBody (intBody s.toList) = true := by
  unfold isIntLiteral at h
  simp only [Bool.and_eq_true, Bool.not_eq_true'] at h
  obtain ⟨hne, hall⟩ := h
  generalize intBody s.toList = b at *
  cases b with
  | nil => simp at hne
  | cons c r =>
    unfold isAsciiIntBody
    have h1 : (c :: r).all (fun c => c.isDigit || c == '_') = true := by
      rw [List.all_eq_true] at hall ⊢
      intro y hy; simp [hall y hy]
    have h2 : (c :: r).head?.any Char.isDigit = true := by
      simp only [List.all_cons, Bool.and_eq_true] at hall
      simp [hall.1]
    have h3 : (c :: r).getLast?.any Char.isDigit = true := by
      rw [List.all_eq_true] at hall
      have hm : (c :: r).getLast (by simp) ∈ (c :: r) := List.getLast_mem _
      rw [List.getLast?_eq_some_getLast (by simp)]
      simp only [Option.any_some]
      exact hall _ hm
    have h4 : (String.ofList (c :: r)).contains "__" = false := by
      rw [String.contains_string_eq_false_iff]
      simpa using not_infix_of_all_digit (c :: r) hall
    simp only [h1, h2, h3, h4]
    rfl

/-- `ASTLiteralExpression.as_int` tests `is_int_literal` first and (since the repair 26a7a5d) catches the `ValueError` that
`int()` still raises for an integer literal of more than 4300 digits: no foreign exception -/
theorem asInt_nopy (s : String) (x : Err) (hx : x.parserKind = false) : asInt s ≠ .error x := by
  intro h
  unfold asInt at h
  split at h
  · cases h; simp [Err.parserKind] at hx
  · split at h
    · split at h
      · cases h; simp [Err.parserKind] at hx
      · rename_i hne
        have h' := h
        rw [pyInt_error] at h'
        rcases h' with ⟨_, rfl⟩ | ⟨_, _, rfl⟩
        · simp [Err.parserKind] at hx
        · exact hne h
    · cases h; simp [Err.parserKind] at hx

/-- what `as_int` answers on an integer literal, exactly: the integer, or `SqlParseError` when it has more than 4300 digits
(before the repair in /repo: Python's `ValueError`).  `is_int_literal` implies the shape `int()`
accepts, which is what makes the second case the only failure. -/
theorem asInt_of_isIntLiteral (s : String) (hna : hasNonAscii s = false) (hlit : isIntLiteral s = true) :
    (tooManyDigits s = false ∧ ∃ n, asInt s = .ok n ∧ pyInt s = .ok n) ∨ (tooManyDigits s = true ∧ asInt s = .error .parse) := by
  have hb := isAsciiIntBody_of_isIntLiteral s hlit
  unfold asInt
  simp only [hna, hlit, Bool.false_eq_true, if_false, if_true]
  cases ht : tooManyDigits s with
  | false =>
    obtain ⟨n, hn⟩ := (pyInt_ok_iff s).mpr ⟨hna, hb, ht⟩
    exact .inl ⟨rfl, n, by rw [hn], hn⟩
  | true =>
    have : pyInt s = .error (.py .ValueError) := (pyInt_error s _).mpr (.inr ⟨hna, .inr ht, rfl⟩)
    exact .inr ⟨rfl, by rw [this]⟩

theorem popAsInt_nopy (ts : List Tok) (x : Err) (hx : x.parserKind = false) : popAsInt ts ≠ .error x := by
  intro h
  unfold popAsInt at h
  split at h
  · cases h; simp [Err.parserKind] at hx
  · split at h
    · cases h
    · rename_i e he
      cases h
      exact asInt_nopy _ _ hx he

end PM
