import MsqProofs.Lemmas.SR
/-!
# An operator grammar over opaque operands is unambiguous

Abstract form of "the table, left associativity and the position of the operands dictate the tree".  Items are opaque operands
(`atom`) and operator tokens (`op`); a token may be a binary operator of some level (`binL`), a prefix operator of some level
(`preL`), or both (`-`).  `G L items x`: the item list is an expression of level at most `L` with the tree `x` —

    leaf                                   an operand
    pre   t : p,  operand : p              prefix operator of level p (NOT; the unary signs)
    bin   left : k,  t : k,  right : k-1   binary operator of level k, left associative

`unique`: `G L items x → G L' items y → x = y` — provided no binary level equals a prefix level (true of the documented table:
binary 2 … 8, 10, 12, 13, 14; prefix 1 and 11).  The role of a token (prefix or binary) is determined by its position
(`ann`: a scan of the items), the root by the last binary-role operator of maximal level (`SR.T.split_unique`).
-/
namespace OPG

inductive Item (α τ : Type) where
  | atom (a : α)
  | op (t : τ)

inductive Tr (α τ : Type) where
  | leaf (a : α)
  | pre (t : τ) (x : Tr α τ)
  | bin (l : Tr α τ) (t : τ) (r : Tr α τ)

structure Sig (τ : Type) where
  binL : τ → Option Nat
  preL : τ → Option Nat
  bin_pos : ∀ {t k}, binL t = some k → 1 ≤ k
  apart : ∀ {t t' k p}, binL t = some k → preL t' = some p → k ≠ p

variable {α τ : Type}

inductive G (S : Sig τ) : Nat → List (Item α τ) → Tr α τ → Prop
  | leaf {L : Nat} {a : α} : G S L [.atom a] (.leaf a)
  | up {L L' : Nat} {is : List (Item α τ)} {x : Tr α τ} : G S L is x → L ≤ L' → G S L' is x
  | pre {p : Nat} {t : τ} {r : List (Item α τ)} {x : Tr α τ} : S.preL t = some p → G S p r x → G S p (.op t :: r) (.pre t x)
  | bin {k : Nat} {t : τ} {l r : List (Item α τ)} {a b : Tr α τ} :
      S.binL t = some k → G S k l a → G S (k - 1) r b → G S k (l ++ .op t :: r) (.bin a t b)

/-- scan state after the items: `false` = an operand is expected, `true` = an operator is expected -/
def st : Bool → List (Item α τ) → Bool
  | s, [] => s
  | _, .atom _ :: r => st true r
  | _, .op _ :: r => st false r
/-- the items with their role: `true` = operator token in BINARY position -/
def ann : Bool → List (Item α τ) → List (Item α τ × Bool)
  | _, [] => []
  | _, .atom a :: r => (.atom a, false) :: ann true r
  | s, .op t :: r => (.op t, s) :: ann false r

theorem st_append (s : Bool) (a b : List (Item α τ)) : st s (a ++ b) = st (st s a) b := by
  induction a generalizing s with
  | nil => rfl
  | cons i a ih => cases i <;> simp [st, ih]
theorem ann_append (s : Bool) (a b : List (Item α τ)) : ann s (a ++ b) = ann s a ++ ann (st s a) b := by
  induction a generalizing s with
  | nil => rfl
  | cons i a ih => cases i <;> simp [st, ann, ih]
theorem ann_fst (s : Bool) (a : List (Item α τ)) : (ann s a).map Prod.fst = a := by
  induction a generalizing s with
  | nil => rfl
  | cons i a ih => cases i <;> simp [ann, ih]

variable {S : Sig τ}

theorem G.ne_nil {L : Nat} {is : List (Item α τ)} {x : Tr α τ} (h : G S L is x) : is ≠ [] := by
  induction h with
  | leaf => simp
  | up _ _ ih => exact ih
  | pre _ _ _ => simp
  | bin _ _ _ _ _ => simp

theorem G.st_true {L : Nat} {is : List (Item α τ)} {x : Tr α τ} (h : G S L is x) : st false is = true := by
  induction h with
  | leaf => rfl
  | up _ _ ih => exact ih
  | pre _ _ ih => simpa [st] using ih
  | bin _ _ _ ih1 ih2 => rw [st_append, ih1]; simpa [st] using ih2

/-- level of an annotated item: the binary level of a token in binary position, 0 otherwise -/
def lv (S : Sig τ) : Item α τ × Bool → Nat
  | (.op t, true) => (S.binL t).getD 0
  | _ => 0

theorem ann_bin {k : Nat} {l r : List (Item α τ)} {a : Tr α τ} {t : τ} (hl : G S k l a) :
    ann false (l ++ .op t :: r) = ann false l ++ (.op t, true) :: ann false r := by
  rw [ann_append, hl.st_true]; rfl

/-- every operator in binary position has a level within the level of the derivation -/
theorem G.lv_le {L : Nat} {is : List (Item α τ)} {x : Tr α τ} (h : G S L is x) : ∀ p ∈ ann false is, lv S p ≤ L := by
  induction h with
  | leaf => intro p hp; simp [ann] at hp; subst hp; simp [lv]
  | up _ hl ih => intro p hp; exact Nat.le_trans (ih p hp) hl
  | pre _ _ ih =>
    intro p hp
    simp only [ann, List.mem_cons] at hp
    rcases hp with rfl | hp
    · simp [lv]
    · exact ih p hp
  | @bin k t l r a b hb h1 h2 ih1 ih2 =>
    intro p hp
    rw [ann_bin h1] at hp
    simp only [List.mem_append, List.mem_cons] at hp
    rcases hp with hp | rfl | hp
    · exact ih1 p hp
    · simp [lv, hb]
    · have := ih2 p hp; omega

/-- a derivable item list that starts with an operator token starts with a PREFIX operator of a level within the derivation's -/
theorem G.head_op {L : Nat} {is : List (Item α τ)} {x : Tr α τ} (h : G S L is x) :
    ∀ t r0, is = .op t :: r0 → ∃ p, S.preL t = some p ∧ p ≤ L := by
  induction h with
  | leaf => intro t r0 h; simp at h
  | up _ hl ih => intro t r0 h; obtain ⟨p, h1, h2⟩ := ih t r0 h; exact ⟨p, h1, by omega⟩
  | @pre p t r x hp _ _ => intro t' r0 h; simp only [List.cons.injEq, Item.op.injEq] at h; exact ⟨p, h.1 ▸ hp, Nat.le_refl _⟩
  | @bin k t l r a b hb h1 h2 ih1 ih2 =>
    intro t' r0 h
    cases l with
    | nil => exact absurd rfl h1.ne_nil
    | cons i l0 =>
      simp only [List.cons_append, List.cons.injEq] at h
      exact ih1 t' l0 (by rw [h.1])

/-- the root production of a derivation (`up` peeled off) -/
theorem G.root {L : Nat} {is : List (Item α τ)} {x : Tr α τ} (h : G S L is x) :
    (∃ a, is = [.atom a] ∧ x = .leaf a) ∨
    (∃ t p r x0, S.preL t = some p ∧ p ≤ L ∧ is = .op t :: r ∧ x = .pre t x0 ∧ G S p r x0) ∨
    (∃ t k l r a b, S.binL t = some k ∧ k ≤ L ∧ is = l ++ .op t :: r ∧ x = .bin a t b ∧ G S k l a ∧ G S (k - 1) r b) := by
  induction h with
  | leaf => exact .inl ⟨_, rfl, rfl⟩
  | up _ hl ih =>
    rcases ih with h | ⟨t, p, r, x0, h1, h2, h3⟩ | ⟨t, k, l, r, a, b, h1, h2, h3⟩
    · exact .inl h
    · exact .inr (.inl ⟨t, p, r, x0, h1, by omega, h3⟩)
    · exact .inr (.inr ⟨t, k, l, r, a, b, h1, by omega, h3⟩)
  | pre hp h _ => exact .inr (.inl ⟨_, _, _, _, hp, Nat.le_refl _, rfl, rfl, h⟩)
  | bin hb h1 h2 _ _ => exact .inr (.inr ⟨_, _, _, _, _, _, hb, Nat.le_refl _, rfl, rfl, h1, h2⟩)

theorem mem_op_of_split {is l r : List (Item α τ)} {t : τ} (h : is = l ++ .op t :: r) : Item.op t ∈ is := by
  rw [h]; simp

/-- **the grammar is unambiguous**: the item list determines the tree, whatever the levels asked for -/
theorem unique : ∀ (n : Nat) (is : List (Item α τ)), is.length ≤ n → ∀ {L L' : Nat} {x y : Tr α τ}, G S L is x → G S L' is y → x = y := by
  intro n
  induction n with
  | zero => intro is hn L L' x y hx; exact absurd (List.length_eq_zero_iff.mp (by omega)) hx.ne_nil
  | succ n ih =>
    intro is hn L L' x y hx hy
    rcases hx.root with ⟨a, e1, rfl⟩ | ⟨t, p, r, x0, hp, hpl, e1, rfl, hx0⟩ | ⟨t, k, l, r, a, b, hb, hkl, e1, rfl, ha, hb2⟩
    · -- leaf
      rcases hy.root with ⟨a', e2, rfl⟩ | ⟨t, p, r, x0, _, _, e2, _⟩ | ⟨t, k, l, r, a', b, _, _, e2, _⟩
      · rw [e1] at e2; simp only [List.cons.injEq, Item.atom.injEq, and_true] at e2; rw [e2]
      · rw [e1] at e2; simp at e2
      · have := mem_op_of_split e2; rw [e1] at this; simp at this
    · -- prefix
      rcases hy.root with ⟨a', e2, rfl⟩ | ⟨t', p', r', y0, hp', _, e2, rfl, hy0⟩ | ⟨t', k, l, r', a', b, hb, _, e2, rfl, ha, hb2⟩
      · rw [e1] at e2; simp at e2
      · rw [e1] at e2
        simp only [List.cons.injEq, Item.op.injEq] at e2
        obtain ⟨rfl, rfl⟩ := e2
        have hpp : p = p' := by rw [hp] at hp'; exact Option.some.inj hp'
        subst hpp
        have : r.length ≤ n := by rw [e1] at hn; simp at hn; omega
        rw [ih r this hx0 hy0]
      · exfalso
        -- `t'` is in binary position inside `r`, so `k ≤ p`; the left operand starts with the prefix `t`, so `p ≤ k`
        have hl : l ≠ [] := ha.ne_nil
        cases l with
        | nil => exact hl rfl
        | cons i l0 =>
          rw [e1] at e2
          simp only [List.cons_append, List.cons.injEq] at e2
          obtain ⟨rfl, e3⟩ := e2
          obtain ⟨p2, hp2, hle⟩ := ha.head_op t l0 rfl
          rw [hp] at hp2
          have hpe : p = p2 := Option.some.inj hp2
          subst hpe
          have hmem : (Item.op t', true) ∈ ann false (Item.op t :: l0 ++ Item.op t' :: r') := by
            rw [ann_bin ha]; simp
          have hmem2 : (Item.op t', true) ∈ ann false r := by
            rw [List.cons_append, ← e3] at hmem
            simpa [ann] using hmem
          have := hx0.lv_le _ hmem2
          simp only [lv, hb, Option.getD_some] at this
          exact S.apart hb hp (by omega)
    · -- binary
      rcases hy.root with ⟨a', e2, rfl⟩ | ⟨t', p', r', y0, hp', _, e2, rfl, hy0⟩ | ⟨t', k', l', r', a', b', hb', _, e2, rfl, ha', hb2'⟩
      · have := mem_op_of_split e1; rw [e2] at this; simp at this
      · exfalso
        have hl : l ≠ [] := ha.ne_nil
        cases l with
        | nil => exact hl rfl
        | cons i l0 =>
          rw [e2] at e1
          simp only [List.cons_append, List.cons.injEq] at e1
          obtain ⟨rfl, e3⟩ := e1
          obtain ⟨p2, hp2, hle⟩ := ha.head_op t' l0 rfl
          rw [hp'] at hp2
          have hpe : p' = p2 := Option.some.inj hp2
          subst hpe
          have hmem : (Item.op t, true) ∈ ann false (Item.op t' :: l0 ++ Item.op t :: r) := by
            rw [ann_bin ha]; simp
          have hmem2 : (Item.op t, true) ∈ ann false r' := by
            rw [List.cons_append, ← e3] at hmem
            simpa [ann] using hmem
          have := hy0.lv_le _ hmem2
          simp only [lv, hb, Option.getD_some] at this
          exact S.apart hb hp' (by omega)
      · have hk := S.bin_pos hb
        have hk' := S.bin_pos hb'
        have e : ann false l ++ (Item.op t, true) :: ann false r = ann false l' ++ (Item.op t', true) :: ann false r' := by
          rw [← ann_bin ha, ← ann_bin ha', ← e1, ← e2]
        have hlv : lv S ((Item.op t, true) : Item α τ × Bool) = k := by simp [lv, hb]
        have hlv' : lv S ((Item.op t', true) : Item α τ × Bool) = k' := by simp [lv, hb']
        obtain ⟨el, em, er⟩ := SR.T.split_unique (lv S) _ _ _ _ _ _ e
          (fun p hp => by rw [hlv]; exact ha.lv_le p hp)
          (fun p hp => by rw [hlv]; have := hb2.lv_le p hp; omega)
          (fun p hp => by rw [hlv']; exact ha'.lv_le p hp)
          (fun p hp => by rw [hlv']; have := hb2'.lv_le p hp; omega)
        have el2 : l = l' := by rw [← ann_fst false l, el, ann_fst]
        have er2 : r = r' := by rw [← ann_fst false r, er, ann_fst]
        simp only [Prod.mk.injEq, Item.op.injEq, and_true] at em
        subst el2; subst er2; subst em
        have hkk : k = k' := by rw [hb] at hb'; exact Option.some.inj hb'
        subst hkk
        have h1 : l.length ≤ n := by rw [e1] at hn; simp at hn; omega
        have h2 : r.length ≤ n := by rw [e1] at hn; simp at hn; omega
        rw [ih l h1 ha ha', ih r h2 hb2 hb2']

theorem G.unique {L L' : Nat} {is : List (Item α τ)} {x y : Tr α τ} (hx : G S L is x) (hy : G S L' is y) : x = y :=
  OPG.unique is.length is (Nat.le_refl _) hx hy


/-! ### the tree-level form: well-nested operator trees

`x.WN`: at every binary node of level `k` the left operand has level ≤ k, the right operand level < k (left associativity); under a
prefix operator of level `p` the operand has level ≤ p; an operand (`leaf`) has level 0 — whatever it is (a bracket group, a call …).
`G L is x` gives `x.flat = is`, `x.WN` and `x.lvl ≤ L` (`G.flat_eq`, `G.wn`, `G.lvl_le_level`), and `x.WN` gives `G x.lvl x.flat x` (`G.of_wn`); hence a well-nested tree is THE well-nested tree over its items (`WN_unique`). -/
def Tr.flat : Tr α τ → List (Item α τ)
  | .leaf a => [.atom a]
  | .pre t x => .op t :: x.flat
  | .bin l t r => l.flat ++ .op t :: r.flat
def Tr.lvl (S : Sig τ) : Tr α τ → Nat
  | .leaf _ => 0
  | .pre t _ => (S.preL t).getD 0
  | .bin _ t _ => (S.binL t).getD 0
def Tr.WN (S : Sig τ) : Tr α τ → Prop
  | .leaf _ => True
  | .pre t x => (S.preL t).isSome ∧ x.WN S ∧ x.lvl S ≤ (S.preL t).getD 0
  | .bin l t r => (S.binL t).isSome ∧ l.WN S ∧ r.WN S ∧ l.lvl S ≤ (S.binL t).getD 0 ∧ r.lvl S < (S.binL t).getD 0

theorem G.flat_eq {L : Nat} {is : List (Item α τ)} {x : Tr α τ} (h : G S L is x) : x.flat = is := by
  induction h with
  | leaf => rfl
  | up _ _ ih => exact ih
  | pre _ _ ih => simp [Tr.flat, ih]
  | bin _ _ _ ih1 ih2 => simp [Tr.flat, ih1, ih2]
theorem G.lvl_le_level {L : Nat} {is : List (Item α τ)} {x : Tr α τ} (h : G S L is x) : x.lvl S ≤ L := by
  induction h with
  | leaf => simp [Tr.lvl]
  | up _ hl ih => omega
  | pre hp _ _ => simp [Tr.lvl, hp]
  | bin hb _ _ _ _ => simp [Tr.lvl, hb]
theorem G.wn {L : Nat} {is : List (Item α τ)} {x : Tr α τ} (h : G S L is x) : x.WN S := by
  induction h with
  | leaf => trivial
  | up _ _ ih => exact ih
  | pre hp h ih => exact ⟨by simp [hp], ih, by simpa [hp] using h.lvl_le_level⟩
  | bin hb h1 h2 ih1 ih2 =>
    have := S.bin_pos hb
    exact ⟨by simp [hb], ih1, ih2, by simpa [hb] using h1.lvl_le_level, by have := h2.lvl_le_level; simp [hb]; omega⟩
theorem G.of_wn : ∀ (x : Tr α τ), x.WN S → G S (x.lvl S) x.flat x
  | .leaf _, _ => .leaf
  | .pre t x, h => by
    obtain ⟨hp, hx, hl⟩ := h
    obtain ⟨p, hp⟩ := Option.isSome_iff_exists.mp hp
    simp only [hp, Option.getD_some] at hl
    simpa [Tr.lvl, Tr.flat, hp] using G.pre hp ((G.of_wn x hx).up hl)
  | .bin l t r, h => by
    obtain ⟨hb, hl, hr, h1, h2⟩ := h
    obtain ⟨k, hb⟩ := Option.isSome_iff_exists.mp hb
    simp only [hb, Option.getD_some] at h1 h2
    simpa [Tr.lvl, Tr.flat, hb] using G.bin hb ((G.of_wn l hl).up h1) ((G.of_wn r hr).up (by omega))

/-- **a well-nested tree is THE well-nested tree over its items** (`SR.T.WN_unique` with prefix operators, all levels) -/
theorem WN_unique {x y : Tr α τ} (hx : x.WN S) (hy : y.WN S) (h : x.flat = y.flat) : x = y :=
  (G.of_wn x hx).unique (h ▸ G.of_wn y hy)

end OPG
