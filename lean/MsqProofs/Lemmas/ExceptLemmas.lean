/-!
# `Except`: when a bind or a map succeeds
-/
namespace PR

theorem bind_eq_ok {ε α β : Type} (x : Except ε α) (f : α → Except ε β) (b : β) :
    (x >>= f) = .ok b ↔ ∃ a, x = .ok a ∧ f a = .ok b := by
  cases x <;> simp [bind, Except.bind]

theorem map_eq_ok {ε α β : Type} (x : Except ε α) (f : α → β) (b : β) :
    Except.map f x = .ok b ↔ ∃ a, x = .ok a ∧ f a = b := by
  cases x <;> simp [Except.map]

theorem ok_bind {ε α β : Type} (a : α) (f : α → Except ε β) : (Except.ok a >>= f) = f a := rfl
theorem ok_map {ε α β : Type} (a : α) (f : α → β) : Except.map f (Except.ok a : Except ε α) = .ok (f a) := rfl

theorem not_ok_bind {ε α β : Type} {x : Except ε α} {f : α → Except ε β} (h : ∀ a, x ≠ .ok a) : ∀ b, (x >>= f) ≠ .ok b :=
  fun b hb => let ⟨a, ha, _⟩ := (bind_eq_ok x f b).1 hb; h a ha
theorem not_ok_then {ε α β : Type} {x : Except ε α} {f : α → Except ε β} (h : ∀ a b, f a ≠ .ok b) : ∀ b, (x >>= f) ≠ .ok b :=
  fun b hb => let ⟨a, _, ha⟩ := (bind_eq_ok x f b).1 hb; h a b ha
theorem not_ok_map {ε α β : Type} {x : Except ε α} {f : α → β} (h : ∀ a, x ≠ .ok a) : ∀ b, Except.map f x ≠ .ok b :=
  fun b hb => let ⟨a, ha, _⟩ := (map_eq_ok x f b).1 hb; h a ha

theorem not_ok_iff_error {ε α : Type} (x : Except ε α) : (∀ a, x ≠ .ok a) ↔ ∃ e, x = .error e := by
  cases x <;> simp

end PR
