import MsqModel.Lex.Spec
/-!
# One pass over a table row, arranged for the kernel

The table obligations evaluate a predicate on every cell `(state, code)` of a generated table.  Looking every code up
in its row by `List.find?` (the 97 codes of `codesAsc` — LF, 32 … 126 and `other` — × up to 96 entries per state) would cost some 200 000 row steps for each
obligation, all of them in the kernel; that is why the check has the shape of a pass.  The rows of the generated tables have ascending keys, so ONE pass over the
ascending code list and the row (`walk`) visits the same cells: `walk_sound`.
-/
namespace Lex
open Spec

/-- the answer of a row for a code: first entry with that key, else the default -/
def lk (dflt : Option Op) (row : List (Nat × Op)) (n : Nat) : Option Op :=
  match row.find? (fun e => Nat.beq e.1 n) with
  | some e => some e.2
  | none => dflt

/-- one pass over an ascending list of codes and a row with ascending keys -/
def walk (P : Option Op → Nat → Bool) (dflt : Option Op) : List Nat → List (Nat × Op) → Bool
  | [], _ => true
  | n :: ns, [] => P dflt n && walk P dflt ns []
  | n :: ns, e :: row =>
    bif Nat.beq e.1 n then P (some e.2) n && walk P dflt ns row
    else bif Nat.blt n e.1 then P dflt n && walk P dflt ns (e :: row)
    else false

def ascending : List Nat → Bool
  | [] => true
  | [_] => true
  | a :: b :: r => Nat.blt a b && ascending (b :: r)

theorem ascending_tail {a : Nat} {l : List Nat} (h : ascending (a :: l) = true) : ascending l = true := by
  cases l with
  | nil => rfl
  | cons b r => simp only [ascending, Bool.and_eq_true] at h; exact h.2

theorem ascending_lt {a : Nat} {l : List Nat} (h : ascending (a :: l) = true) : ∀ b ∈ l, a < b := by
  induction l generalizing a with
  | nil => intro b hb; cases hb
  | cons c r ih =>
    intro b hb
    simp only [ascending, Bool.and_eq_true, Nat.blt_eq] at h
    rcases List.mem_cons.mp hb with rfl | hb
    · exact h.1
    · exact Nat.lt_trans h.1 (ih h.2 b hb)

theorem lk_none (dflt : Option Op) (row : List (Nat × Op)) (n : Nat) (h : ∀ e ∈ row, n < e.1) : lk dflt row n = dflt := by
  have : row.find? (fun e => Nat.beq e.1 n) = none := by
    rw [List.find?_eq_none]
    intro e he hb
    have := h e he
    have : e.1 = n := by simpa using hb
    omega
  simp [lk, this]

theorem walk_sound (P : Option Op → Nat → Bool) (dflt : Option Op) :
    ∀ (ns : List Nat) (row : List (Nat × Op)), ascending ns = true → ascending (row.map (·.1)) = true →
      walk P dflt ns row = true → ∀ n ∈ ns, P (lk dflt row n) n = true := by
  intro ns
  induction ns with
  | nil => intro _ _ _ _ n hn; cases hn
  | cons n ns ih =>
    intro row hns hrow hw m hm
    have hgt := ascending_lt hns
    cases row with
    | nil =>
      simp only [walk, Bool.and_eq_true] at hw
      rcases List.mem_cons.mp hm with rfl | hm
      · simpa [lk] using hw.1
      · exact ih [] (ascending_tail hns) rfl hw.2 m hm
    | cons e row =>
      simp only [walk] at hw
      simp only [List.map_cons] at hrow
      have hkeys := ascending_lt hrow
      cases hk : Nat.beq e.1 n with
      | true =>
        simp only [hk, cond_true, Bool.and_eq_true] at hw
        have hk' : e.1 = n := by simpa using hk
        rcases List.mem_cons.mp hm with rfl | hm
        · simpa [lk, hk] using hw.1
        · have hne : Nat.beq e.1 m = false := by
            have := hgt m hm
            cases hb : Nat.beq e.1 m with
            | false => rfl
            | true => have : e.1 = m := by simpa using hb
                      omega
          have := ih row (ascending_tail hns) (ascending_tail hrow) hw.2 m hm
          simpa [lk, List.find?_cons, hne] using this
      | false =>
        cases hlt : Nat.blt n e.1 with
        | false => simp [hk, hlt] at hw
        | true =>
          simp only [hk, hlt, cond_true, cond_false, Bool.and_eq_true] at hw
          simp only [Nat.blt_eq] at hlt
          rcases List.mem_cons.mp hm with rfl | hm
          · rw [lk_none]
            · exact hw.1
            · intro e' he'
              rcases List.mem_cons.mp he' with rfl | he'
              · exact hlt
              · exact Nat.lt_trans hlt (hkeys e'.1 (List.mem_map.mpr ⟨e', he', rfl⟩))
          · exact ih (e :: row) (ascending_tail hns) hrow hw.2 m hm

/-- the codes of `other :: ascii`, ascending -/
def codesAsc : List Nat := ascii ++ [other]

theorem ascii_asc : ascending ascii = true := by decide

theorem codesAsc_asc : ascending codesAsc = true := by decide

theorem mem_codesAsc {n : Nat} (h : n ∈ other :: ascii) : n ∈ codesAsc := by
  simp only [codesAsc, List.mem_append, List.mem_singleton]
  rcases List.mem_cons.mp h with h | h
  · exact .inr h
  · exact .inl h

end Lex
