import MsqModel.Parse.Entry
/-!
# C09, parser half: the case-equivalence of token lists and of trees

* `CE t t'` / `CEL ts ts'` — the two tokens (token lists) differ at most in the LETTER CASE OF WORDS: same shape, same marks, and a
  leaf is either literally the same or both leaves are *case words* (`caseWord`: only ASCII letters, digits and `_`, at least one
  letter — so no quote, no back-quote, no dot, no operator character) with the same `str.upper()`.  A bracket group that carries
  the NAME mark (the lexer never emits one) must be literally the same.
* `upE`, `upS`, `upQ`, … — `upAll`: the tree with EVERY string in it mapped through `str.upper()` (`up`).  Two trees are equal up to
  the letter case of the texts they store iff their `upAll` are equal.
* `CER rv a b` — the two runs `a`, `b` agree: both fail with the same error kind, or both succeed with values related by `rv`
  and remaining cursors related by `CEL`.  `CEX` the same for results without a cursor.

The family itself is proved once, over an abstract token theory (`ParseRel*.lean`, `tools/gen_rel.py`); `ParseCase3.lean` shows that `CE` / `up`
is such a theory (`caseT`).
-/
set_option linter.unusedSimpArgs false
open Lex Ast
namespace PM

mutual
def upE : Expr → Expr
  | .column t n => .column (t.map up) (up n)
  | .literal v => .literal (up v)
  | .wildcard t => .wildcard (t.map up)
  | .func s n ps => .func (s.map up) (up n) (upEs ps)
  | .agg n ps d => .agg (up n) (upEs ps) d
  | .cast e sg ty ps => .cast (upE e) sg (up ty) ps
  | .extract n e => .extract (upE n) (upE e)
  | .window fn part ord rows => .window (upE fn) (upEs part) (upOs ord) rows
  | .caseCond cs e => .caseCond (upArms cs) (upEo e)
  | .caseVal v cs e => .caseVal (upE v) (upArms cs) (upEo e)
  | .subValue vs => .subValue (upEs vs)
  | .subQuery q => .subQuery (upQ q)
  | .exists_ q => .exists_ (upE q)
  | .index a i => .index (upE a) (upE i)
  | .unary op e => .unary (up op) (upE e)
  | .compute l op r => .compute (upE l) (up op) (upE r)
  | .kw k n l r => .kw k n (upE l) (upE r)
  | .between n b f t => .between n (upE b) (upE f) (upE t)
  | .compare op l r => .compare (up op) (upE l) (upE r)
  | .not_ e => .not_ (upE e)
  | .and_ l r => .and_ (upE l) (upE r)
  | .xor l r => .xor (upE l) (upE r)
  | .or_ l r => .or_ (upE l) (upE r)
  | .mybatis s => .mybatis (up s)
def upEs : List Expr → List Expr
  | [] => [] | e :: r => upE e :: upEs r
def upEo : Option Expr → Option Expr
  | none => none | some e => some (upE e)
def upArms : List (Expr × Expr) → List (Expr × Expr)
  | [] => [] | (w, t) :: r => (upE w, upE t) :: upArms r
def upO : OrderItem → OrderItem
  | .mk e d nf nl => .mk (upE e) d nf nl
def upOs : List OrderItem → List OrderItem
  | [] => [] | o :: r => upO o :: upOs r
def upTR : TableRef → TableRef
  | .table s n => .table (s.map up) (up n)
  | .sub q => .sub (upQ q)
def upFT : FromTable → FromTable
  | .mk t a => .mk (upTR t) (a.map up)
def upFTs : List FromTable → List FromTable
  | [] => [] | t :: r => upFT t :: upFTs r
def upJR : JoinRule → JoinRule
  | .on e => .on (upE e) | .using f => .using (upE f)
def upJ : Join → Join
  | .mk ty t none => .mk (up ty) (upFT t) none
  | .mk ty t (some r) => .mk (up ty) (upFT t) (some (upJR r))
def upJs : List Join → List Join
  | [] => [] | j :: r => upJ j :: upJs r
def upEss : List (List Expr) → List (List Expr)
  | [] => [] | g :: r => upEs g :: upEss r
def upG : GroupBy → GroupBy
  | .mk cols none cube rollup => .mk (upEs cols) none cube rollup
  | .mk cols (some sets) cube rollup => .mk (upEs cols) (some (upEss sets)) cube rollup
def upLat : Lateral → Lateral
  | .mk o fn v as => .mk o (upE fn) (up v) (as.map up)
def upLats : List Lateral → List Lateral
  | [] => [] | l :: r => upLat l :: upLats r
def upW : WithTable → WithTable
  | .mk n q => .mk (up n) (upQ q)
def upWs : List WithTable → List WithTable
  | [] => [] | w :: r => upW w :: upWs r
def upCols : List (Expr × Option String) → List (Expr × Option String)
  | [] => [] | (e, a) :: r => (upE e, a.map up) :: upCols r
def upWso : Option (List WithTable) → Option (List WithTable)
  | none => none | some l => some (upWs l)
def upFTso : Option (List FromTable) → Option (List FromTable)
  | none => none | some l => some (upFTs l)
def upGo : Option GroupBy → Option GroupBy
  | none => none | some g => some (upG g)
def upOso : Option (List OrderItem) → Option (List OrderItem)
  | none => none | some l => some (upOs l)
def upEso : Option (List Expr) → Option (List Expr)
  | none => none | some l => some (upEs l)
def upS : Select → Select
  | .mk withs dist cols fr lats js wh gb hv ob sb db cb lm =>
    .mk (upWso withs) dist (upCols cols) (upFTso fr) (upLats lats) (upJs js) (upEo wh) (upGo gb) (upEo hv) (upOso ob) (upOso sb) (upEso db) (upEso cb) lm
def upUs : List (String × Select) → List (String × Select)
  | [] => [] | (n, s) :: r => (up n, upS s) :: upUs r
def upQ : Query → Query
  | .single s => .single (upS s)
  | .union withs first rest => .union (upWso withs) (upS first) (upUs rest)
end

/-- the stack of the compute loop -/
def upSt (st : List (Expr × String × Nat)) : List (Expr × String × Nat) := st.map fun p => (upE p.1, up p.2.1, p.2.2)

@[grind =] theorem upEs_eq : ∀ l, upEs l = l.map upE := by intro l; induction l <;> simp [upEs, *]
@[grind =] theorem upEo_eq : ∀ o, upEo o = o.map upE := by intro o; cases o <;> simp [upEo]
@[grind =] theorem upArms_eq : ∀ l, upArms l = l.map (Prod.map upE upE) := by
  intro l; induction l with | nil => simp [upArms] | cons p r ih => obtain ⟨w, t⟩ := p; simp [upArms, ih]
@[grind =] theorem upOs_eq : ∀ l, upOs l = l.map upO := by intro l; induction l <;> simp [upOs, *]
@[grind =] theorem upFTs_eq : ∀ l, upFTs l = l.map upFT := by intro l; induction l <;> simp [upFTs, *]
@[grind =] theorem upJs_eq : ∀ l, upJs l = l.map upJ := by intro l; induction l <;> simp [upJs, *]
@[grind =] theorem upEss_eq : ∀ l, upEss l = l.map (List.map upE) := by intro l; induction l <;> simp [upEss, upEs_eq, *]
@[grind =] theorem upLats_eq : ∀ l, upLats l = l.map upLat := by intro l; induction l <;> simp [upLats, *]
@[grind =] theorem upWs_eq : ∀ l, upWs l = l.map upW := by intro l; induction l <;> simp [upWs, *]
@[grind =] theorem upCols_eq : ∀ l, upCols l = l.map (Prod.map upE (Option.map up)) := by
  intro l; induction l with | nil => simp [upCols] | cons p r ih => obtain ⟨e, a⟩ := p; simp [upCols, ih]
@[grind =] theorem upUs_eq : ∀ l, upUs l = l.map (Prod.map up upS) := by
  intro l; induction l with | nil => simp [upUs] | cons p r ih => obtain ⟨n, s⟩ := p; simp [upUs, ih]
@[grind =] theorem upWso_eq : ∀ o, upWso o = o.map (List.map upW) := by intro o; cases o <;> simp [upWso, upWs_eq]
@[grind =] theorem upFTso_eq : ∀ o, upFTso o = o.map (List.map upFT) := by intro o; cases o <;> simp [upFTso, upFTs_eq]
@[grind =] theorem upGo_eq : ∀ o, upGo o = o.map upG := by intro o; cases o <;> simp [upGo]
@[grind =] theorem upOso_eq : ∀ o, upOso o = o.map (List.map upO) := by intro o; cases o <;> simp [upOso, upOs_eq]
@[grind =] theorem upEso_eq : ∀ o, upEso o = o.map (List.map upE) := by intro o; cases o <;> simp [upEso, upEs_eq]
@[grind =] theorem upJ_mk (ty : String) (t : FromTable) (r : Option JoinRule) : upJ (.mk ty t r) = .mk (up ty) (upFT t) (r.map upJR) := by
  cases r <;> simp [upJ]
@[grind =] theorem upG_mk (cols : List Expr) (sets : Option (List (List Expr))) (c r : Bool) :
    upG (.mk cols sets c r) = .mk (cols.map upE) (sets.map (List.map (List.map upE))) c r := by
  cases sets <;> simp [upG, upEs_eq, upEss_eq]
@[grind =] theorem upS_mk (withs : Option (List WithTable)) (dist : Bool) (cols : List (Expr × Option String)) (fr : Option (List FromTable))
    (lats : List Lateral) (js : List Join) (wh : Option Expr) (gb : Option GroupBy) (hv : Option Expr) (ob sb : Option (List OrderItem))
    (db cb : Option (List Expr)) (lm : Option (Int × Option Int)) :
    upS (.mk withs dist cols fr lats js wh gb hv ob sb db cb lm) =
      .mk (withs.map (List.map upW)) dist (cols.map (Prod.map upE (Option.map up))) (fr.map (List.map upFT)) (lats.map upLat) (js.map upJ)
        (wh.map upE) (gb.map upG) (hv.map upE) (ob.map (List.map upO)) (sb.map (List.map upO)) (db.map (List.map upE)) (cb.map (List.map upE)) lm := by
  simp [upS, upEs_eq, upEo_eq, upOs_eq, upFTs_eq, upJs_eq, upLats_eq, upWs_eq, upCols_eq, upWso_eq, upFTso_eq, upGo_eq, upOso_eq, upEso_eq]
@[grind =] theorem upQ_union (withs : Option (List WithTable)) (first : Select) (rest : List (String × Select)) :
    upQ (.union withs first rest) = .union (withs.map (List.map upW)) (upS first) (rest.map (Prod.map up upS)) := by
  simp [upQ, upWso_eq, upUs_eq]
@[grind =] theorem upQ_single (s : Select) : upQ (.single s) = .single (upS s) := by simp [upQ]

end PM
