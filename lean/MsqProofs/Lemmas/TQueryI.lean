import MsqProofs.Lemmas.TQuery0
/-!
# T-parse closed under nesting: the nested expression fragment contains the larger expression fragment (C02)

`TP2.Frag2 d e → TQ.FragE3 d e`, and on `Frag2` the token printers and the top-level token bounds agree (`frag2_sub`): the statements about
`Frag2` (Props/C02T2.lean) are instances of the statements about `FragE3`.
-/
open Lex PM Ast TP
namespace TQ
variable {d : Gen.D} {ch : Expr → Bool}

def Inc (d : Gen.D) (ch : Expr → Bool) (e : Expr) : Prop :=
  FragE3 d e = true ∧ toksE3 d ch e = TP2.toksE2 d ch e ∧ tl3 e = TP2.tl e
theorem frag2_notExists {l : Expr} (h : TP2.Frag2 d l = true) : isExists l = false := by
  cases l <;> first | rfl | simp [TP2.Frag2] at h
theorem incL : ∀ (ps : List Expr), (∀ a ∈ ps, Inc d ch a) →
    FragL3 d ps = true ∧ (∀ k, toksArgsTail3 d ch k ps = TP2.toksArgsTail d ch k ps) ∧ (∀ k, toksArgs3 d ch k ps = TP2.toksArgs d ch k ps) ∧
      shortL3 ps = TP2.shortL ps := by
  intro ps
  induction ps with
  | nil => intro _; exact ⟨by simp [FragL3], fun k => by simp [toksArgsTail3, TP2.toksArgsTail], fun k => by simp [toksArgs3, TP2.toksArgs], rfl⟩
  | cons a as ih =>
    intro h
    obtain ⟨h1, h2, h3⟩ := h a (by simp)
    obtain ⟨i1, i2, i3, i4⟩ := ih (fun x hx => h x (by simp [hx]))
    refine ⟨by simp [FragL3, h1, i1], fun k => by simp only [toksArgsTail3, TP2.toksArgsTail, h2, i2], fun k => by simp only [toksArgs3, TP2.toksArgs, h2, i2], ?_⟩
    simp only [shortL3, TP2.shortL, List.all_cons, h3] at i4 ⊢
    rw [i4]
theorem incA : ∀ (cs : List (Expr × Expr)), (∀ p ∈ cs, Inc d ch p.1 ∧ Inc d ch p.2) →
    FragA3 d cs = true ∧ toksArms3 d ch cs = TP2.toksArms d ch cs ∧ tlA3 cs = TP2.tlA cs := by
  intro cs
  induction cs with
  | nil => intro _; exact ⟨by simp [FragA3], by simp [toksArms3, TP2.toksArms], by simp [tlA3, TP2.tlA]⟩
  | cons p r ih =>
    obtain ⟨w, t⟩ := p
    intro h
    obtain ⟨⟨a1, a2, a3⟩, ⟨b1, b2, b3⟩⟩ := h (w, t) (by simp)
    obtain ⟨i1, i2, i3⟩ := ih (fun x hx => h x (by simp [hx]))
    simp only at a1 a2 a3 b1 b2 b3
    exact ⟨by simp [FragA3, a1, b1, i1], by simp only [toksArms3, TP2.toksArms, a2, b2, i2], by simp only [tlA3, TP2.tlA, a3, b3, i3]⟩
theorem incO (o : Option Expr) (h : ∀ y, o = some y → Inc d ch y) :
    FragO3 d o = true ∧ toksElse3 d ch o = TP2.toksElse d ch o ∧ tlO3 o = TP2.tlO o := by
  cases o with
  | none => exact ⟨by simp [FragO3], by simp [toksElse3, TP2.toksElse], by simp [tlO3, TP2.tlO]⟩
  | some y =>
    obtain ⟨a1, a2, a3⟩ := h y rfl
    exact ⟨by simp [FragO3, a1], by simp only [toksElse3, TP2.toksElse, a2], by simp only [tlO3, TP2.tlO, a3]⟩

theorem frag2L_sz : ∀ (ps : List Expr), TP2.Frag2L d ps = true → ∀ a ∈ ps, TP2.Frag2 d a = true ∧ TP2.sz2 a ≤ TP2.sz2L ps := by
  intro ps
  induction ps with
  | nil => intro _ a ha; simp at ha
  | cons p ps ih =>
    intro h a ha
    simp only [TP2.Frag2L, Bool.and_eq_true] at h
    simp only [TP2.sz2L]
    rcases List.mem_cons.1 ha with rfl | ha
    · exact ⟨h.1, by omega⟩
    · have := ih h.2 a ha; exact ⟨this.1, by omega⟩
theorem frag2A_sz : ∀ (cs : List (Expr × Expr)), TP2.Frag2A d cs = true → ∀ p ∈ cs,
    (TP2.Frag2 d p.1 = true ∧ TP2.sz2 p.1 ≤ TP2.sz2A cs) ∧ (TP2.Frag2 d p.2 = true ∧ TP2.sz2 p.2 ≤ TP2.sz2A cs) := by
  intro cs
  induction cs with
  | nil => intro _ a ha; simp at ha
  | cons q cs ih =>
    obtain ⟨w, t⟩ := q
    intro h a ha
    simp only [TP2.Frag2A, Bool.and_eq_true] at h
    simp only [TP2.sz2A]
    rcases List.mem_cons.1 ha with rfl | ha
    · exact ⟨⟨h.1.1, by dsimp only; omega⟩, ⟨h.1.2, by dsimp only; omega⟩⟩
    · have := ih h.2 a ha; exact ⟨⟨this.1.1, by omega⟩, ⟨this.2.1, by omega⟩⟩

theorem frag2_sub : ∀ n e, TP2.sz2 e ≤ n → TP2.Frag2 d e = true → Inc d ch e := by
  intro n
  induction n with
  | zero => intro e he; have := TP2.sz2_pos e; omega
  | succ n ih =>
    intro e he hf
    have hL : ∀ ps, TP2.sz2L ps ≤ n → TP2.Frag2L d ps = true → ∀ a ∈ ps, Inc d ch a := fun ps hs hp a ha => by
      obtain ⟨x, y⟩ := frag2L_sz ps hp a ha; exact ih a (by omega) x
    have hA : ∀ cs, TP2.sz2A cs ≤ n → TP2.Frag2A d cs = true → ∀ p ∈ cs, Inc d ch p.1 ∧ Inc d ch p.2 := fun cs hs hp p hpm => by
      obtain ⟨⟨x1, x2⟩, ⟨y1, y2⟩⟩ := frag2A_sz cs hp p hpm; exact ⟨ih _ (by omega) x1, ih _ (by omega) y1⟩
    have hO : ∀ o, TP2.sz2O o ≤ n → TP2.Frag2O d o = true → ∀ y, o = some y → Inc d ch y := fun o hs hp y hy => by
      subst hy; simp only [TP2.Frag2O] at hp; simp only [TP2.sz2O] at hs; exact ih y hs hp
    cases e with
    | column t c => cases t <;> (simp only [TP2.Frag2] at hf; exact ⟨by simpa [FragE3] using hf, by simp [toksE3, TP2.toksE2], by simp [tl3, TP2.tl]⟩)
    | literal v => simp only [TP2.Frag2] at hf; exact ⟨by simpa [FragE3] using hf, by simp [toksE3, TP2.toksE2], by simp [tl3, TP2.tl]⟩
    | wildcard t => cases t <;> (simp only [TP2.Frag2] at hf; exact ⟨by simpa [FragE3] using hf, by simp [toksE3, TP2.toksE2], by simp [tl3, TP2.tl]⟩)
    | func s nm ps =>
      simp only [TP2.Frag2, Bool.and_eq_true] at hf; simp only [TP2.sz2] at he
      obtain ⟨i1, _, i3, _⟩ := incL ps (hL ps (by omega) hf.2)
      exact ⟨by simp [FragE3, hf.1, i1], by cases s <;> simp only [toksE3, TP2.toksE2, i3], by simp [tl3, TP2.tl]⟩
    | agg nm ps dist =>
      simp only [TP2.Frag2, Bool.and_eq_true] at hf; simp only [TP2.sz2] at he
      obtain ⟨i1, _, i3, _⟩ := incL ps (hL ps (by omega) hf.2)
      exact ⟨by simp [FragE3, hf.1, i1], by simp only [toksE3, TP2.toksE2, i3], by simp [tl3, TP2.tl]⟩
    | caseCond cs els =>
      simp only [TP2.Frag2, Bool.and_eq_true] at hf; simp only [TP2.sz2] at he
      obtain ⟨a1, a2, a3⟩ := incA cs (hA cs (by omega) hf.1.1)
      obtain ⟨o1, o2, o3⟩ := incO els (hO els (by omega) hf.1.2)
      exact ⟨by simp only [FragE3, a1, o1, hf.2, Bool.and_self], by simp only [toksE3, TP2.toksE2, a2, o2], by simp only [tl3, TP2.tl, a3, o3]⟩
    | caseVal v cs els =>
      simp only [TP2.Frag2, Bool.and_eq_true] at hf; simp only [TP2.sz2] at he
      obtain ⟨v1, v2, v3⟩ := ih v (by omega) hf.1.1.1
      obtain ⟨a1, a2, a3⟩ := incA cs (hA cs (by omega) hf.1.1.2)
      obtain ⟨o1, o2, o3⟩ := incO els (hO els (by omega) hf.1.2)
      exact ⟨by simp only [FragE3, v1, a1, o1, hf.2, Bool.and_self], by simp only [toksE3, TP2.toksE2, v2, a2, o2], by simp only [tl3, TP2.tl, v3, a3, o3]⟩
    | unary o x =>
      simp only [TP2.Frag2, Bool.and_eq_true] at hf; simp only [TP2.sz2] at he
      obtain ⟨x1, x2, x3⟩ := ih x (by omega) hf.2
      exact ⟨by simp only [FragE3, hf.1, x1, Bool.and_self], by simp only [toksE3, TP2.toksE2, x2], by simp only [tl3, TP2.tl, x3]⟩
    | compute l o r =>
      simp only [TP2.Frag2, Bool.and_eq_true] at hf; simp only [TP2.sz2] at he
      obtain ⟨l1, l2, l3⟩ := ih l (by omega) hf.1.2
      obtain ⟨r1, r2, r3⟩ := ih r (by omega) hf.2
      exact ⟨by simp only [FragE3, hf.1.1, l1, r1, Bool.and_self], by simp only [toksE3, TP2.toksE2, l2, r2], by simp only [tl3, TP2.tl, l3, r3]⟩
    | kw kk n0 l r =>
      simp only [TP2.Frag2, Bool.and_eq_true] at hf; simp only [TP2.sz2] at he
      obtain ⟨l1, l2, l3⟩ := ih l (by omega) hf.1
      have hne := frag2_notExists hf.1
      by_cases hk : kk = .in_
      · subst hk
        simp only [beq_self_eq_true, if_true] at hf
        cases r with
        | subValue vs =>
          simp only [TP2.inRhs, Bool.and_eq_true] at hf; simp only [TP2.sz2] at he
          obtain ⟨i1, _, i3, i4⟩ := incL vs (hL vs (by omega) hf.2.1.1)
          refine ⟨?_, by simp only [toksE3, TP2.toksE2, l2, i3], by simp only [tl3, TP2.tl, l3]⟩
          simp only [FragE3, l1, beq_self_eq_true, if_true, inRhs3, i1, hf.2.1.2, i4, hf.2.2, hne, Bool.not_false, Bool.and_self]
        | _ => simp [TP2.inRhs] at hf
      · have hk' : (kk == KwKind.in_) = false := by simpa using hk
        simp only [hk', Bool.false_eq_true, if_false] at hf
        obtain ⟨r1, r2, r3⟩ := ih r (by omega) hf.2
        exact ⟨by simp only [FragE3, l1, hk', Bool.false_eq_true, if_false, r1, hne, Bool.not_false, Bool.and_self],
          by simp only [toksE3, TP2.toksE2, l2, r2], by simp only [tl3, TP2.tl, l3, r3]⟩
    | between n0 b f t =>
      simp only [TP2.Frag2, Bool.and_eq_true] at hf; simp only [TP2.sz2] at he
      obtain ⟨b1, b2, b3⟩ := ih b (by omega) hf.1.1
      obtain ⟨f1, f2, f3⟩ := ih f (by omega) hf.1.2
      obtain ⟨t1, t2, t3⟩ := ih t (by omega) hf.2
      exact ⟨by simp only [FragE3, b1, f1, t1, frag2_notExists hf.1.1, Bool.not_false, Bool.and_self],
        by simp only [toksE3, TP2.toksE2, b2, f2, t2], by simp only [tl3, TP2.tl, b3, f3, t3]⟩
    | compare o l r =>
      simp only [TP2.Frag2, Bool.and_eq_true] at hf; simp only [TP2.sz2] at he
      obtain ⟨l1, l2, l3⟩ := ih l (by omega) hf.1.2
      obtain ⟨r1, r2, r3⟩ := ih r (by omega) hf.2
      exact ⟨by simp only [FragE3, hf.1.1, l1, r1, frag2_notExists hf.1.2, Bool.not_false, Bool.and_self],
        by simp only [toksE3, TP2.toksE2, l2, r2], by simp only [tl3, TP2.tl, l3, r3]⟩
    | not_ x =>
      simp only [TP2.Frag2] at hf; simp only [TP2.sz2] at he
      obtain ⟨x1, x2, x3⟩ := ih x (by omega) hf
      exact ⟨by simp only [FragE3, x1], by simp only [toksE3, TP2.toksE2, x2], by simp only [tl3, TP2.tl, x3]⟩
    | and_ l r =>
      simp only [TP2.Frag2, Bool.and_eq_true] at hf; simp only [TP2.sz2] at he
      obtain ⟨l1, l2, l3⟩ := ih l (by omega) hf.1
      obtain ⟨r1, r2, r3⟩ := ih r (by omega) hf.2
      exact ⟨by simp only [FragE3, l1, r1, Bool.and_self], by simp only [toksE3, TP2.toksE2, l2, r2], by simp only [tl3, TP2.tl, l3, r3]⟩
    | xor l r =>
      simp only [TP2.Frag2, Bool.and_eq_true] at hf; simp only [TP2.sz2] at he
      obtain ⟨l1, l2, l3⟩ := ih l (by omega) hf.1
      obtain ⟨r1, r2, r3⟩ := ih r (by omega) hf.2
      exact ⟨by simp only [FragE3, l1, r1, Bool.and_self], by simp only [toksE3, TP2.toksE2, l2, r2], by simp only [tl3, TP2.tl, l3, r3]⟩
    | or_ l r =>
      simp only [TP2.Frag2, Bool.and_eq_true] at hf; simp only [TP2.sz2] at he
      obtain ⟨l1, l2, l3⟩ := ih l (by omega) hf.1
      obtain ⟨r1, r2, r3⟩ := ih r (by omega) hf.2
      exact ⟨by simp only [FragE3, l1, r1, Bool.and_self], by simp only [toksE3, TP2.toksE2, l2, r2], by simp only [tl3, TP2.tl, l3, r3]⟩
    | _ => simp [TP2.Frag2] at hf

end TQ
