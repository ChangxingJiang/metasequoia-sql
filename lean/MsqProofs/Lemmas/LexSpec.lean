import MsqModel.Lex.Spec
import MsqProofs.Lemmas.LexSem
/-!
# Table = specification automaton, and what one step / one run of the lexer does

The finite check `Spec.agreeFin` (per generated table the kernel decides `agreeFinW`, `Lemmas/LexSpecWalk.lean`, of which it
follows) implies agreement on EVERY state and EVERY character code (`agree_of_fin`), hence the two lexers are the same
function (`lex_eq`); the same way a fact "on every character of class P the cell is `o`" comes from a finite check
(`cellD_class`).  Then, for any table with the generated micro-code, what `handle` does for each operation of the vocabulary.
-/
namespace Spec
open Lex

/-! ## 1. agreement on all of Unicode from the finite check -/

theorem isAscii_iff (c : Nat) : isAscii c = true ↔ c ∈ ascii := by
  simp only [isAscii, ascii, Bool.or_eq_true, Bool.and_eq_true, Nat.beq_eq, Nat.ble_eq, List.mem_cons,
    List.mem_range'_1]
  omega

theorem norm_of_not_ascii {c : Nat} (h : c ∉ ascii) : norm c = other := by
  have : isAscii c = false := by
    cases hc : isAscii c with
    | false => rfl
    | true => exact absurd ((isAscii_iff c).mp hc) h
  simp [norm, this]

theorem norm_other : norm other = other := by decide

theorem cellD_of_not_ascii (bits : Nat) (s : S) {c : Nat} (h : c ∉ ascii) : cellD bits s c = cellD bits s other := by
  simp only [cellD, cell, norm_of_not_ascii h, norm_other]

theorem lookupN_of_not_key (cfg : Cfg Gen.Cls) (s : S) (c : Nat) (h : c ∉ (cfg.rows s).map (·.1)) :
    lookupN cfg s c = cfg.dflt s := by
  have : (cfg.rows s).find? (fun e => Nat.beq e.1 c) = none := by
    rw [List.find?_eq_none]
    intro e he hec
    exact h (List.mem_map.mpr ⟨e, he, by simpa using hec⟩)
  simp [lookupN, this]

theorem agree_of_fin (cfg : Cfg Gen.Cls) (bits : Nat) (h : agreeFin cfg bits = true) (s : S) :
    (∀ c : Nat, lookupN cfg s c = cellD bits s c) ∧ cfg.atEnd s = atEndD bits s := by
  have hs := (List.all_eq_true.mp h) s (mem_allS s)
  simp only [Bool.and_eq_true, beq_iff_eq] at hs
  obtain ⟨⟨hp, hd⟩, he⟩ := hs
  refine ⟨fun c => ?_, he⟩
  have hp' := List.all_eq_true.mp hp
  by_cases ha : c ∈ ascii
  · simpa using hp' c (by simp [probe, ha])
  · by_cases hk : c ∈ (cfg.rows s).map (·.1)
    · have : c ∈ probe cfg s := by
        simp only [probe, List.mem_append, List.mem_filter]
        refine Or.inr ⟨hk, ?_⟩
        cases hc : isAscii c with
        | false => rfl
        | true => exact absurd ((isAscii_iff c).mp hc) ha
      simpa using hp' c this
    · rw [lookupN_of_not_key cfg s c hk, cellD_of_not_ascii bits s ha, hd]

theorem lookup_ch (cfg : Cfg Gen.Cls) (s : S) (c : Char) : cfg.lookup s (.ch c) = lookupN cfg s c.toNat := by
  have hf : (fun e : Nat × Op => e.1 == c.toNat) = (fun e => Nat.beq e.1 c.toNat) := by
    funext e
    cases hb : Nat.beq e.1 c.toNat with
    | true => simpa using Nat.eq_of_beq_eq_true hb
    | false => simpa using Nat.ne_of_beq_eq_false hb
  simp only [Cfg.lookup, lookupN, hf]
  cases List.find? (fun e : Nat × Op => Nat.beq e.fst c.toNat) (cfg.rows s) <;> rfl

theorem lookupN_norm (cfg : Cfg Gen.Cls) (bits : Nat) (h : agreeFin cfg bits = true) (s : S) (n : Nat) :
    lookupN cfg s n = lookupN cfg s (norm n) := by
  rw [(agree_of_fin cfg bits h s).1 n, (agree_of_fin cfg bits h s).1 (norm n)]
  by_cases ha : n ∈ ascii
  · have : norm n = n := by simp [norm, (isAscii_iff n).mpr ha]
    rw [this]
  · rw [norm_of_not_ascii ha, cellD_of_not_ascii bits s ha]

theorem lookup_eq (cfg : Cfg Gen.Cls) (bits : Nat) (h : agreeFin cfg bits = true) (s : S) (sym : Sym) :
    cfg.lookup s sym = lookupD bits s sym := by
  cases sym with
  | eof => exact (agree_of_fin cfg bits h s).2
  | ch c => rw [lookup_ch]; exact (agree_of_fin cfg bits h s).1 c.toNat

theorem handle_agree (cfg : Cfg Gen.Cls) (bits : Nat) (h : agreeFin cfg bits = true) :
    Lex.handle cfg = Spec.handle cfg bits := by
  funext text m sym
  simp only [Lex.handle, Spec.handle, lookup_eq cfg bits h]
  cases lookupD bits m.status sym <;> rfl

theorem lex_eq (cfg : Cfg Gen.Cls) (bits : Nat) (h : agreeFin cfg bits = true) (raw : List Char) :
    Lex.lex cfg raw = Spec.lex cfg bits raw := by
  simp only [Lex.lex, Spec.lex, handle_agree cfg bits h]

/-! ## 2. class lemmas -/

/-- "on every character code of class `P` the cell of state `s` is `o`".  `h`: the 96 codes of `ascii`, decided; `h'`:
either the cell for `other` is `o` as well (the class reaches outside `ascii`), or the class has no code outside `ascii` -/
theorem cellD_class (bits : Nat) (s : S) (P : Nat → Bool) (o : Option Op)
    (h : (ascii.all fun n => !P n || cellD bits s n == o) = true)
    (h' : (cellD bits s other == o) = true ∨ ∀ n, n ∉ ascii → P n = false) :
    ∀ n, P n = true → cellD bits s n = o := by
  intro n hn
  by_cases ha : n ∈ ascii
  · have := (List.all_eq_true.mp h) n ha
    simpa [hn] using this
  · rcases h' with h' | h'
    · rw [cellD_of_not_ascii bits s ha]; simpa using h'
    · rw [h' n ha] at hn; cases hn

theorem cellD_all (bits : Nat) (s : S) (Q : Option Op → Bool)
    (h : ((ascii.all fun n => Q (cellD bits s n)) && Q (cellD bits s other)) = true) : ∀ n, Q (cellD bits s n) = true := by
  intro n
  simp only [Bool.and_eq_true] at h
  by_cases ha : n ∈ ascii
  · exact (List.all_eq_true.mp h.1) n ha
  · rw [cellD_of_not_ascii bits s ha]; exact h.2

end Spec

namespace Lex

/-- the part of `lex` after the pre-pass -/
def lexText (cfg : Cfg Gen.Cls) (text : List Char) : Except Err (List Tok) :=
  match feedAllWith (handle cfg text) text {} with
  | .error e => .error e
  | .ok m =>
    match handle cfg text m .eof with
    | .error e => .error e
    | .ok (m', _) => finish cfg m'

theorem lex_eq_lexText (cfg : Cfg Gen.Cls) (raw : List Char) : lex cfg raw = lexText cfg (cfg.pre raw) := rfl

/-! ## 3b. what `handle` does for each operation of the vocabulary (for any table with the generated micro-code) -/

abbrev win (text : List Char) (m : Mem) (now : Nat) : List Char := (text.drop m.start).take (now - m.start)

section steps
variable {cfg : Cfg Gen.Cls} (hc : cfg.code = Gen.Cls.code) {text : List Char} {m : Mem} {sym : Sym}
include hc

theorem handle_addTo {q : S} (hl : cfg.lookup m.status sym = some (Spec.addTo q)) :
    handle cfg text m sym = .ok ({ m with now := m.now + 1, status := q }, true) := by
  simp [handle, hl, Spec.addTo, hc, Gen.Cls.code, exec]

theorem handle_reject (hl : cfg.lookup m.status sym = some Spec.reject) :
    handle cfg text m sym = .error .lexical := by
  cases sym <;> simp [handle, hl, Spec.reject, hc, Gen.Cls.code, exec]

theorem handle_emitBefore {k : Nat} {f : List Tok} {fs : List (List Tok)}
    (hl : cfg.lookup m.status sym = some (Spec.emitBefore k)) (hs : m.stack = f :: fs) :
    handle cfg text m sym =
      .ok (⟨m.now, m.now, .WAIT, (f ++ [.single (win text m m.now) k]) :: fs⟩, false) := by
  simp [handle, hl, Spec.emitBefore, hc, Gen.Cls.code, exec, hs, appendTop, resolveMarks, Cfg.env]

theorem handle_emitWordBefore {f : List Tok} {fs : List (List Tok)}
    (hl : cfg.lookup m.status sym = some Spec.emitWordBefore) (hs : m.stack = f :: fs) :
    handle cfg text m sym =
      .ok (⟨m.now, m.now, .WAIT,
        (f ++ [.single (win text m m.now) (resolveMarks cfg.upper cfg.wordMarks 0 (win text m m.now) (.word 2))]) :: fs⟩,
        false) := by
  simp [handle, hl, Spec.emitWordBefore, hc, Gen.Cls.code, exec, hs, appendTop, Cfg.env]

theorem handle_emitWith {k : Nat} {f : List Tok} {fs : List (List Tok)}
    (hl : cfg.lookup m.status sym = some (Spec.emitWith k)) (hs : m.stack = f :: fs) :
    handle cfg text m sym =
      .ok (⟨m.now + 1, m.now + 1, .WAIT, (f ++ [.single (win text m (m.now + 1)) k]) :: fs⟩, true) := by
  simp [handle, hl, Spec.emitWith, hc, Gen.Cls.code, exec, hs, appendTop, resolveMarks, Cfg.env]

theorem handle_emitStay {k : Nat} {f : List Tok} {fs : List (List Tok)}
    (hl : cfg.lookup m.status sym = some (Spec.emitStay k)) (hs : m.stack = f :: fs) :
    handle cfg text m sym =
      .ok (⟨m.now + 1, m.now + 1, m.status, (f ++ [.single (win text m (m.now + 1)) k]) :: fs⟩, true) := by
  simp [handle, hl, Spec.emitStay, hc, Gen.Cls.code, exec, hs, appendTop, resolveMarks, Cfg.env]

theorem handle_emitAtEnd {k : Nat} {f : List Tok} {fs : List (List Tok)}
    (hl : cfg.lookup m.status sym = some (Spec.emitAtEnd k)) (hs : m.stack = f :: fs) :
    handle cfg text m sym =
      .ok (⟨m.now, m.now, .END, (f ++ [.single (win text m m.now) k]) :: fs⟩, true) := by
  simp [handle, hl, Spec.emitAtEnd, hc, Gen.Cls.code, exec, hs, appendTop, resolveMarks, Cfg.env]

theorem handle_emitWordAtEnd {f : List Tok} {fs : List (List Tok)}
    (hl : cfg.lookup m.status sym = some Spec.emitWordAtEnd) (hs : m.stack = f :: fs) :
    handle cfg text m sym =
      .ok (⟨m.now, m.now, .END,
        (f ++ [.single (win text m m.now) (resolveMarks cfg.upper cfg.wordMarks 0 (win text m m.now) (.word 2))]) :: fs⟩,
        true) := by
  simp [handle, hl, Spec.emitWordAtEnd, hc, Gen.Cls.code, exec, hs, appendTop, Cfg.env]

theorem handle_skip (hl : cfg.lookup m.status sym = some Spec.skip) :
    handle cfg text m sym = .ok (⟨m.now + 1, m.now + 1, m.status, m.stack⟩, true) := by
  simp [handle, hl, Spec.skip, hc, Gen.Cls.code, exec]

theorem handle_skipWith (hl : cfg.lookup m.status sym = some Spec.skipWith) :
    handle cfg text m sym = .ok (⟨m.now + 1, m.now + 1, .WAIT, m.stack⟩, true) := by
  simp [handle, hl, Spec.skipWith, hc, Gen.Cls.code, exec]

theorem handle_dropBefore (hl : cfg.lookup m.status sym = some Spec.dropBefore) :
    handle cfg text m sym = .ok (⟨m.now, m.now, .WAIT, m.stack⟩, false) := by
  simp [handle, hl, Spec.dropBefore, hc, Gen.Cls.code, exec]

theorem handle_dropAtEnd (hl : cfg.lookup m.status sym = some Spec.dropAtEnd) :
    handle cfg text m sym = .ok (⟨m.now, m.now, .END, m.stack⟩, true) := by
  simp [handle, hl, Spec.dropAtEnd, hc, Gen.Cls.code, exec]

theorem handle_finish (hl : cfg.lookup m.status sym = some Spec.finish) :
    handle cfg text m sym = .ok ({ m with status := .END }, true) := by
  simp [handle, hl, Spec.finish, hc, Gen.Cls.code, exec]

theorem handle_openParen (hl : cfg.lookup m.status sym = some Spec.openParen) :
    handle cfg text m sym = .ok (⟨m.now + 1, m.now + 1, m.status, [] :: m.stack⟩, true) := by
  simp [handle, hl, Spec.openParen, hc, Gen.Cls.code, exec]

theorem handle_closeParen_top {f : List Tok} (hl : cfg.lookup m.status sym = some Spec.closeParen)
    (hs : m.stack = [f]) : handle cfg text m sym = .error .lexical := by
  simp [handle, hl, Spec.closeParen, hc, Gen.Cls.code, exec, hs]

end steps

theorem finish_end (cfg : Cfg Gen.Cls) (hd : cfg.depthLimit = 1) (he : cfg.endStatus = .END) (st nw : Nat)
    (f : List Tok) : finish cfg ⟨st, nw, .END, [f]⟩ = .ok f := by
  simp [finish, hd, he]

theorem finish_open (cfg : Cfg Gen.Cls) (hd : cfg.depthLimit = 1) (he : cfg.endStatus = .END) (st nw : Nat)
    (f g : List Tok) (fs : List (List Tok)) : finish cfg ⟨st, nw, .END, f :: g :: fs⟩ = .error .lexical := by
  simp [finish, hd, he]

theorem lexText_ok {cfg : Cfg Gen.Cls} {text : List Char} {m m' : Mem} {b : Bool}
    (h1 : feedAllWith (handle cfg text) text {} = .ok m) (h2 : handle cfg text m .eof = .ok (m', b)) :
    lexText cfg text = finish cfg m' := by
  simp [lexText, h1, h2]

theorem lexText_err_eof {cfg : Cfg Gen.Cls} {text : List Char} {m : Mem} {e : Err}
    (h1 : feedAllWith (handle cfg text) text {} = .ok m) (h2 : handle cfg text m .eof = .error e) :
    lexText cfg text = .error e := by
  simp [lexText, h1, h2]

theorem lexText_err_feed {cfg : Cfg Gen.Cls} {text : List Char} {e : Err}
    (h1 : feedAllWith (handle cfg text) text {} = .error e) : lexText cfg text = .error e := by
  simp [lexText, h1]

/-! ## 3c. characters and codes; plain texts; windows -/

theorem isCh_toNat (c ch : Char) : Spec.isCh c.toNat ch = decide (c = ch) := by
  simp only [Spec.isCh]
  by_cases h : c = ch
  · subst h; simp
  · have : c.toNat ≠ ch.toNat := fun e => h (Char.toNat_inj.mp e)
    cases hb : Nat.beq c.toNat ch.toNat with
    | true => exact absurd (Nat.eq_of_beq_eq_true hb) this
    | false => simp [h]

theorem lex_plain (cfg : Cfg Gen.Cls) (raw : List Char) (h : ∀ c ∈ raw, Plain cfg.preChain c = true) :
    lex cfg raw = lexText cfg raw := by
  rw [lex_eq_lexText, Cfg.pre, preWith_noop _ _ (untouched_of_plain _ _ h)]

theorem win_mid (pfx w rest : List Char) (now : Nat) (q : S) (stk : List (List Tok)) :
    win (pfx ++ w ++ rest) ⟨pfx.length, now, q, stk⟩ (pfx.length + w.length) = w := by
  simp [win]

end Lex
