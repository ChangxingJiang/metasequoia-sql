import MsqProofs.Props.C03T
import MsqModel.Convert
/-!
# T-parse for CREATE TABLE, base definitions (C18 / C03 / C01)

* `toksCreate d c` — the TOKEN-level printer of a table definition: what `PR.prCreateMysql c` (for `d = MYSQL`) resp.
  `PR.prCreateHive c` (every other dialect; the printer itself only serves HIVE) prints, as the tokens the lexer makes of it:
  `CREATE TABLE [IF NOT EXISTS]`, ONE back-quoted NAME token for the (schema-qualified) table name (`tableNameSrc`), one PARENTHESIS
  group holding the comma-separated lines (column definitions, then — MySQL — `PRIMARY KEY`, `UNIQUE KEY`s, `KEY`s, `FULLTEXT KEY`s,
  `CONSTRAINT … FOREIGN KEY`s),
  then the table options in the printer's order.  A column definition is: back-quoted name, type word, a group with the
  comma-separated parameters, each bracketed when above the compute level (dropped by the Hive printer outside DECIMAL / VARCHAR / CHAR: `hiveDrops`), the attributes in the order
  of `prDefCol` (MySQL only: UNSIGNED, ZEROFILL, CHARACTER SET s, COLLATE s, GENERATED ALWAYS AS (e) mode, NULL, NOT NULL,
  AUTO_INCREMENT, DEFAULT e, ON UPDATE e),
  `COMMENT s`.  Strings the tree stores as raw source (comments, charset names, engine …) are one token `srcTok s`.
  The link `lex (prStmt d (.createTable c)) = toksCreate d c` is the lexer's business; it is checked by compiled evaluation
  (`#guard`s in `MsqProofs/Props/C18T.lean`).
* `FragCreate d c` — the fragment (a `Bool`), see `MsqProofs/Props/C18T.lean`.
* `hiveProj c` — what the Hive DDL of `c` can state: every MySQL-only attribute, key and option dropped, type parameters kept only
  where Hive has them; `toksCreate HIVE c = toksCreate HIVE (hiveProj c)`.
-/
open Lex PM Ast TP TS
namespace TD

/-! ### tokens -/
/-- the marks the lexer gives a token with source `s`: integer, quoted string, back-quoted name, word / symbol -/
def srcMark (s : String) : Nat :=
  if isDigits s then LITERAL ||| Gen.mark_LITERAL_INT
  else if s.toList.head? == some '\'' || s.toList.head? == some '"' then LITERAL ||| NAME
  else if s.toList.head? == some '`' then NAME
  else wordMark s
/-- a raw-source string of the tree (comment, charset, engine, index name …) as one leaf -/
def srcTok (s : String) : Tok := .single s.toList (srcMark s)
def eqTok : Tok := opTok "="
/-- `tableNameSrc` without the back-quotes -/
def tblStr (t : TableName) : String := match t.schema with | some s => s ++ "." ++ t.name | none => t.name
def tblTok (t : TableName) : Tok := nameTok (tblStr t)

/-- comma-separated segments -/
def sepTail : List (List Tok) → List Tok
  | [] => []
  | s :: r => commaTok :: (s ++ sepTail r)
def sepAll : List (List Tok) → List Tok
  | [] => []
  | s :: r => s ++ sepTail r

variable (d : Gen.D)

/-- the Hive printer drops the parameters of this type (`node.py:1361`) -/
def hiveDrops (t : ColType) : Bool := d == .HIVE && !(["DECIMAL", "VARCHAR", "CHAR"].contains (Gen.pyUpperS t.name))
def toksParams (t : ColType) : List Tok :=
  match t.params with
  | none => []
  | some ps => if hiveDrops d t then [] else [grp (sepAll (ps.map fun e => W d noX e 8))]
def toksType (t : ColType) : List Tok := opTok t.name :: toksParams d t
def toksComment : Option String → List Tok
  | some s => [opTok "COMMENT", srcTok s]
  | none => []
def flag (b : Bool) (ts : List Tok) : List Tok := if b then ts else []
def toksDefault : Option Expr → List Tok
  | some e => opTok "DEFAULT" :: W d noX e 8
  | none => []
def toksOnUpdate : Option Expr → List Tok
  | some e => opTok "ON" :: opTok "UPDATE" :: W d noX e 8
  | none => []
def toksCharset : Option String → List Tok
  | some s => [opTok "CHARACTER", opTok "SET", srcTok s]
  | none => []
def toksCollate : Option String → List Tok
  | some s => [opTok "COLLATE", srcTok s]
  | none => []
/-- `GENERATED ALWAYS AS (e) VIRTUAL|STORED` -/
def toksGenerated : Option GenCol → List Tok
  | some ⟨e, some m⟩ => [opTok "GENERATED", opTok "ALWAYS", opTok "AS", grp (W d noX e 8), srcTok m]
  | _ => []
/-- the MySQL-only attributes, in the order of `prDefCol` -/
def toksMyAttrs (c : DefCol) (tail : List Tok) : List Tok :=
  flag c.unsigned [opTok "UNSIGNED"] ++ (flag c.zerofill [opTok "ZEROFILL"] ++ (toksCharset c.charset ++ (toksCollate c.collate ++
    (toksGenerated d c.generated ++ (flag c.allowNull [opTok "NULL"] ++ (flag c.notNull [opTok "NOT", opTok "NULL"] ++ (flag c.autoInc [opTok "AUTO_INCREMENT"] ++
      (toksDefault d c.default ++ (toksOnUpdate d c.onUpdate ++ tail)))))))))
def toksAttrs (c : DefCol) : List Tok :=
  if d == .MYSQL then toksMyAttrs d c (toksComment c.comment) else toksComment c.comment
def toksDefCol (c : DefCol) : List Tok := nameTok c.name :: (toksType d c.type ++ toksAttrs d c)

def toksIdxCol (c : IndexCol) : List Tok :=
  nameTok c.name :: (match c.maxLen with | none => [] | some n => [grp [intTok n]])
def kindToks : IndexKind → List Tok
  | .primary => [opTok "PRIMARY", opTok "KEY"]
  | .unique => [opTok "UNIQUE", opTok "KEY"]
  | .normal => [opTok "KEY"]
  | .fulltext => [opTok "FULLTEXT", opTok "KEY"]
def optKw (kw : String) : Option String → List Tok
  | some s => [opTok kw, srcTok s]
  | none => []
def toksKbs : Option Int → List Tok
  | some n => [opTok "KEY_BLOCK_SIZE", eqTok, intTok n]
  | none => []
def toksIdxName : Option String → List Tok
  | some n => [srcTok n]
  | none => []
/-- what follows the key words and the name: the column group and `USING … COMMENT … KEY_BLOCK_SIZE=n` -/
def toksIdxTail (i : Index) : List Tok :=
  grp (sepAll (i.cols.map toksIdxCol)) :: (optKw "USING" i.usingMethod ++ (optKw "COMMENT" i.comment ++ toksKbs i.keyBlockSize))
def toksIndex (i : Index) : List Tok := kindToks i.kind ++ (toksIdxName i.name ++ toksIdxTail i)

/-- a foreign-key action as `_parse_foreign_key_action` stores it -/
def actToks (s : String) : List Tok :=
  if s == "NO ACTION" then [opTok "NO", opTok "ACTION"] else if s == "SET NULL" then [opTok "SET", opTok "NULL"] else [opTok s]
def toksFkAct (b : String) : Option String → List Tok
  | some s => opTok "ON" :: opTok b :: actToks s
  | none => []
/-- a bracketed list of raw names -/
def toksNames (ns : List String) : Tok := grp (sepAll (ns.map fun n => [srcTok n]))
/-- `ASTForeignKeyExpression.source` -/
def toksFk (k : ForeignKey) : List Tok :=
  opTok "CONSTRAINT" :: srcTok k.constraint :: opTok "FOREIGN" :: opTok "KEY" :: toksNames k.slave :: opTok "REFERENCES" ::
    srcTok k.master :: toksNames k.masterCols :: (toksFkAct "DELETE" k.onDelete ++ toksFkAct "UPDATE" k.onUpdate)

def optList {α : Type} : Option α → List α | some a => [a] | none => []
/-- the lines inside the bracket of CREATE TABLE -/
def toksLines (c : CreateTable) : List (List Tok) :=
  c.columns.map (toksDefCol d) ++
    (if d == .MYSQL then
      (optList c.primaryKey).map toksIndex ++ (c.uniqueKey.map toksIndex ++ (c.key.map toksIndex ++
        (c.fulltextKey.map toksIndex ++ c.foreignKey.map toksFk)))
     else [])

/-- `KW=s` (MySQL) -/
def optEq (kws : List Tok) : Option String → List Tok
  | some s => kws ++ [eqTok, srcTok s]
  | none => []
/-- `KW s` (Hive) -/
def optSp (kws : List Tok) : Option String → List Tok
  | some s => kws ++ [srcTok s]
  | none => []
def toksAutoInc : Option Int → List Tok
  | some n => [opTok "AUTO_INCREMENT", eqTok, intTok n]
  | none => []
def toksMyOpts (c : CreateTable) : List Tok :=
  optEq [opTok "ENGINE"] c.engine ++ (toksAutoInc c.autoIncrement ++ (optEq [opTok "DEFAULT", opTok "CHARSET"] c.defaultCharset ++
    (optEq [opTok "COLLATE"] c.collate ++ (optEq [opTok "ROW_FORMAT"] c.rowFormat ++ (optEq [opTok "STATS_PERSISTENT"] c.statesPersistent ++
      optEq [opTok "COMMENT"] c.comment)))))
def toksPartitioned (ps : List DefCol) : List Tok :=
  if ps.isEmpty then [] else [opTok "PARTITIONED", opTok "BY", grp (sepAll (ps.map (toksDefCol d)))]
def toksProp (p : ConfigStr) : List Tok := [srcTok p.name, eqTok, srcTok p.value]
def toksProps (ps : List ConfigStr) : List Tok :=
  if ps.isEmpty then [] else [opTok "TBLPROPERTIES", grp (sepAll (ps.map toksProp))]
def toksHiveOpts (c : CreateTable) : List Tok :=
  optSp [opTok "COMMENT"] c.comment ++ (toksPartitioned d c.partitionedBy ++ (optSp [opTok "ROW", opTok "FORMAT", opTok "SERDE"] c.rowFormatSerde ++
    (optSp [opTok "ROW", opTok "FORMAT", opTok "DELIMITED", opTok "FIELDS", opTok "TERMINATED", opTok "BY"] c.rowFormatDelimited ++
      (optSp [opTok "STORED", opTok "AS", opTok "INPUTFORMAT"] c.storedAsInputformat ++
        (flag c.storedAsTextfile [opTok "STORED", opTok "AS", opTok "TEXTFILE"] ++ (optSp [opTok "OUTPUTFORMAT"] c.outputformat ++
          (optSp [opTok "LOCATION"] c.location ++ toksProps c.tblproperties)))))))
def toksOpts (c : CreateTable) : List Tok := if d == .MYSQL then toksMyOpts c else toksHiveOpts d c

/-- **the token-level printer of CREATE TABLE** -/
def toksCreate (c : CreateTable) : List Tok :=
  opTok "CREATE" :: opTok "TABLE" :: (flag c.ifNotExists [opTok "IF", opTok "NOT", opTok "EXISTS"] ++
    tblTok c.table :: grp (sepAll (toksLines d c)) :: toksOpts d c)

/-! ### the fragment -/
def noComma (ts : List Tok) : Bool := ts.all fun t => !t.equalsStr ","
/-- segments that `split_by(",")` gives back: none is empty, none has a `,` at its top level -/
def segsOK (segs : List (List Tok)) : Bool := segs.all fun s => !s.isEmpty && noComma s
/-- the back-quoted token of a name reads back as that name -/
def nameOK (n : String) : Bool := unifyName (nameTok n).src == n
def isOkName (r : Except Err (Option String × String)) (t : TableName) : Bool :=
  match r with | .ok (s, n) => s == t.schema && n == t.name | _ => false
/-- the one back-quoted token of the table name is split into the same schema and table (excludes F-C18-3: dots inside) -/
def tblOK (t : TableName) : Bool := isOkName (splitName (tblTok t).src) t
/-- an integer the printer writes as a non-negative decimal that `int()` reads back -/
def intOK (n : Int) : Bool := decide (0 ≤ n) && isOkInt (pyInt (intTok n).src) n
/-- a type parameter: a tree of the expression fragment (integers, in practice; the printer brackets what is above the compute
level: `source_with_parenthesis(param, sql_type, 8)`) -/
def paramOK (e : Expr) : Bool := Frag d e
def typeOK (t : ColType) : Bool :=
  match t.params with
  | none => true
  | some ps => !hiveDrops d t && ps.all (paramOK d) && segsOK (ps.map fun e => W d noX e 8)
def optFragE : Option Expr → Bool
  | none => true
  | some e => Frag d e
/-- the save mode of a generated column is the word the parser maps to itself (`VIRTUAL`, `STORED`) -/
def modeOK (m : String) : Bool := match Gen.genColSaveModes.find? (·.1 == up m) with | some sm => sm.2 == m | none => false
def genOK : Option GenCol → Bool
  | none => true
  | some ⟨e, some m⟩ => Frag d e && modeOK m
  | some ⟨_, none⟩ => false
/-- a column definition; outside MySQL none of the attributes only the MySQL printer writes -/
def colOK (c : DefCol) : Bool :=
  nameOK c.name && typeOK d c.type &&
    (if d == .MYSQL then optFragE d c.default && optFragE d c.onUpdate && genOK d c.generated
     else c.generated.isNone && !c.unsigned && !c.zerofill && c.charset.isNone && c.collate.isNone && !c.allowNull && !c.notNull && !c.autoInc &&
       c.default.isNone && c.onUpdate.isNone)
def idxColOK (c : IndexCol) : Bool := nameOK c.name && (match c.maxLen with | none => true | some n => intOK n)
def optIntOK : Option Int → Bool | none => true | some n => intOK n
/-- a key: PRIMARY KEY has no name, the others have one -/
def idxOK (k : IndexKind) (i : Index) : Bool :=
  i.kind == k && (if k == .primary then i.name.isNone else i.name.isSome) && i.cols.all idxColOK && optIntOK i.keyBlockSize
def optIdxOK : Option Index → Bool | none => true | some i => idxOK .primary i
def actOK : Option String → Bool
  | none => true
  | some s => ["NO ACTION", "SET NULL", "CASCADE", "RESTRICT"].contains s
/-- a foreign key: the actions are the four the parser knows, the name lists split back -/
def fkOK (k : ForeignKey) : Bool :=
  segsOK (k.slave.map fun n => [srcTok n]) && segsOK (k.masterCols.map fun n => [srcTok n]) && actOK k.onDelete && actOK k.onUpdate
/-- the value of a blank-separated option is not `=` (which the option parser skips) -/
def valOK : Option String → Bool | none => true | some s => s != "="

/-- **the CREATE TABLE fragment** -/
def FragCreate (c : CreateTable) : Bool :=
  tblOK c.table && c.columns.all (colOK d) && segsOK (toksLines d c) &&
    (if d == .MYSQL then
      c.foreignKey.all fkOK && optIdxOK c.primaryKey && c.uniqueKey.all (idxOK .unique) && c.key.all (idxOK .normal) && c.fulltextKey.all (idxOK .fulltext) &&
        optIntOK c.autoIncrement &&
        c.partitionedBy.isEmpty && c.rowFormatSerde.isNone && c.rowFormatDelimited.isNone && c.storedAsInputformat.isNone &&
        !c.storedAsTextfile && c.outputformat.isNone && c.location.isNone && c.tblproperties.isEmpty
     else
      c.foreignKey.isEmpty && c.primaryKey.isNone && c.uniqueKey.isEmpty && c.key.isEmpty && c.fulltextKey.isEmpty && c.engine.isNone && c.autoIncrement.isNone &&
        c.defaultCharset.isNone && c.collate.isNone && c.rowFormat.isNone && c.statesPersistent.isNone &&
        c.partitionedBy.all (colOK d) && segsOK (c.partitionedBy.map (toksDefCol d)) && segsOK (c.tblproperties.map toksProp) &&
        valOK c.comment && valOK c.rowFormatSerde && valOK c.rowFormatDelimited && valOK c.storedAsInputformat && valOK c.outputformat &&
        valOK c.location)

/-- what may follow a CREATE TABLE statement: nothing, or the `;` the statement parser swallows itself -/
def endsC (rest : List Tok) : Bool := rest.isEmpty || searchStr rest ";"

/-! ### what the Hive DDL can state -/
def hiveCol (c : DefCol) : DefCol :=
  { name := c.name, type := ⟨c.type.name, if Conv.hiveKeepsParams c.type.name then c.type.params else none⟩, comment := c.comment }
def hiveProj (c : CreateTable) : CreateTable :=
  { emptyCreate c.table c.ifNotExists with
    columns := c.columns.map hiveCol, partitionedBy := c.partitionedBy.map hiveCol, comment := c.comment,
    rowFormatSerde := c.rowFormatSerde, rowFormatDelimited := c.rowFormatDelimited, storedAsInputformat := c.storedAsInputformat,
    storedAsTextfile := c.storedAsTextfile, outputformat := c.outputformat, location := c.location, tblproperties := c.tblproperties }

end TD
