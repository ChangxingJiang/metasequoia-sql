import MsqProofs.Lemmas.ParseAccountClosed
import MsqModel.Val
/-!
# C08, accounting: every consumed token is stored in the tree or is a word of the grammar (hand-written base)

* `Val.texts v` — every string stored anywhere in a generic value: `str` fields, enum member names, integers as decimal text.
  `tE e = (Expr.toVal e).texts` is therefore EVERY string of the tree the canonical dump (and the check's accounting oracle) sees:
  column / table / function / alias names after `unifyName`, literal texts, operator member names.
* `KW` — the fixed finite set of grammar words of the expression grammar: the constants the model compares token sources with
  (`search*` / `match*` / `move*` / `==`), plus the keys of the generated operator tables (`Gen.computeHash`, `Gen.compareHash`,
  `Gen.notSet d` for every dialect `d`).
* `Acc T t` — the token `t` is accounted for by the set of texts `T`: its source is in `T`, or its source after `unifyName` is,
  or its (upper-cased) source is a grammar word, or it is a bracket group (`PARENTHESIS` / `ARRAY_INDEX` mark — what the parser
  tests) all of whose children are accounted for.  Token granularity: multiplicities are the check's oracle.
* `Acc3 T ts r` — `r` is a rest of the cursor `ts` and every token consumed in between is accounted for by `T`.
* `Plain e` — the tree is built from columns, literals, wildcards, array indexing, unary / binary compute operators, comparison,
  `IS` / `LIKE` / `RLIKE` / `REGEXP` / `BETWEEN`, `NOT` / `AND` / `XOR` / `OR` and both forms of `CASE`.  NOT plain: function calls
  (normal, aggregate, `CAST`, `EXTRACT`, `IF`), window expressions, `IN`, `EXISTS`, sub-queries — see `MsqProofs/Props/C08.lean`
  for why they need hypotheses on the token list that the plain fragment does not.

`ParseAccountAll1.lean` (namespace `PA`) has relations and lemmas of the same names (`Acc`, `Acc3`, `KwSeg`, `KwRel`, `KwTok`, `isKW`, `kwOk`, the
`_kw` lemmas of the cursor primitives) over the larger word list `KWA` and with two more rules; the namespace tells them apart.  There are two
because `PM.Acc ⊂ PA.Acc`: the statement here, on the plain fragment, says more than the general one restricted to plain results.
-/
open Lex PM Ast

mutual
def Val.texts : Val → List String
  | .none => [] | .bool _ => [] | .int n => [toString n] | .str s => [s] | .enum _ n => [n]
  | .tuple xs => Val.textsL xs | .list xs => Val.textsL xs | .node _ fs => Val.textsF fs
def Val.textsL : List Val → List String
  | [] => [] | v :: vs => v.texts ++ Val.textsL vs
def Val.textsF : List (String × Val) → List String
  | [] => [] | (_, v) :: fs => v.texts ++ Val.textsF fs
end

namespace PM

/-! ### texts of the results of the expression parsers -/
def tE (e : Expr) : List String := e.toVal.texts
def tEs (es : List Expr) : List String := Val.textsL (exprs es)
def tOpt (e : Option Expr) : List String := (optExpr e).texts
def tArms (cs : List (Expr × Expr)) : List String := Val.textsL (arms "" cs)
/-- the operand / operator stack of the compute loop -/
def tSt : List (Expr × String × Nat) → List String
  | [] => [] | (l, o, _) :: st => tE l ++ o :: tSt st

theorem textsL_arms (c : String) (cs : List (Expr × Expr)) : Val.textsL (arms c cs) = tArms cs := by
  induction cs with
  | nil => simp [tArms, arms, Val.textsL]
  | cons p cs ih => obtain ⟨w, t⟩ := p; simp_all [tArms, arms, Val.textsL, Val.texts, Val.textsF]

@[grind =] theorem tE_column (t : Option String) (n : String) : tE (.column t n) = (match t with | some a => [a, n] | none => [n]) := by
  cases t <;> simp [tE, Expr.toVal, Val.texts, Val.textsF, Val.optStr, Val.ofOpt]
@[grind =] theorem tE_column_none (n : String) : tE (.column none n) = [n] := by simp [tE_column]
@[grind =] theorem tE_column_some (a n : String) : tE (.column (some a) n) = [a, n] := by simp [tE_column]
@[grind =] theorem tE_literal (s : String) : tE (.literal s) = [s] := by simp [tE, Expr.toVal, Val.texts, Val.textsF]
@[grind =] theorem tE_wildcard_none : tE (.wildcard none) = [] := by simp [tE, Expr.toVal, Val.texts, Val.textsF, Val.optStr, Val.ofOpt]
@[grind =] theorem tE_wildcard_some (a : String) : tE (.wildcard (some a)) = [a] := by
  simp [tE, Expr.toVal, Val.texts, Val.textsF, Val.optStr, Val.ofOpt]
@[grind =] theorem tE_index (a i : Expr) : tE (.index a i) = tE a ++ tE i := by simp [tE, Expr.toVal, Val.texts, Val.textsF]
@[grind =] theorem tE_unary (o : String) (e : Expr) : tE (.unary o e) = o :: tE e := by simp [tE, Expr.toVal, Val.texts, Val.textsF]
@[grind =] theorem tE_compute (l r : Expr) (o : String) : tE (.compute l o r) = tE l ++ (tE r ++ [o]) := by
  simp [tE, Expr.toVal, Val.texts, Val.textsF]
@[grind =] theorem tE_kw (k : KwKind) (n : Bool) (l r : Expr) : tE (.kw k n l r) = tE l ++ tE r := by simp [tE, Expr.toVal, Val.texts, Val.textsF]
@[grind =] theorem tE_between (n : Bool) (b f t : Expr) : tE (.between n b f t) = tE b ++ (tE f ++ tE t) := by
  simp [tE, Expr.toVal, Val.texts, Val.textsF]
@[grind =] theorem tE_compare (o : String) (l r : Expr) : tE (.compare o l r) = tE l ++ (tE r ++ [o]) := by
  simp [tE, Expr.toVal, Val.texts, Val.textsF]
@[grind =] theorem tE_not (e : Expr) : tE (.not_ e) = tE e := by simp [tE, Expr.toVal, Val.texts, Val.textsF]
@[grind =] theorem tE_and (l r : Expr) : tE (.and_ l r) = tE l ++ tE r := by simp [tE, Expr.toVal, Val.texts, Val.textsF]
@[grind =] theorem tE_xor (l r : Expr) : tE (.xor l r) = tE l ++ tE r := by simp [tE, Expr.toVal, Val.texts, Val.textsF]
@[grind =] theorem tE_or (l r : Expr) : tE (.or_ l r) = tE l ++ tE r := by simp [tE, Expr.toVal, Val.texts, Val.textsF]
@[grind =] theorem tE_caseCond (cs : List (Expr × Expr)) (e : Option Expr) : tE (.caseCond cs e) = tArms cs ++ tOpt e := by
  simp [tE, tOpt, Expr.toVal, Val.texts, Val.textsF, textsL_arms]
@[grind =] theorem tE_caseVal (v : Expr) (cs : List (Expr × Expr)) (e : Option Expr) : tE (.caseVal v cs e) = tE v ++ (tArms cs ++ tOpt e) := by
  simp [tE, tOpt, Expr.toVal, Val.texts, Val.textsF, textsL_arms]
@[grind =] theorem tOpt_none : tOpt none = [] := by simp [tOpt, optExpr, Val.texts]
@[grind =] theorem tOpt_some (e : Expr) : tOpt (some e) = tE e := by simp [tOpt, tE, optExpr]
@[grind =] theorem tEs_nil : tEs [] = [] := by simp [tEs, exprs, Val.textsL]
@[grind =] theorem tEs_cons (e : Expr) (es : List Expr) : tEs (e :: es) = tE e ++ tEs es := by simp [tEs, tE, exprs, Val.textsL]
@[grind =] theorem tEs_append (as bs : List Expr) : tEs (as ++ bs) = tEs as ++ tEs bs := by
  induction as with
  | nil => simp [tEs_nil]
  | cons a as ih => simp [tEs_cons, ih]
@[grind =] theorem tArms_nil : tArms [] = [] := by simp [tArms, arms, Val.textsL]
@[grind =] theorem tArms_cons (w t : Expr) (cs : List (Expr × Expr)) : tArms ((w, t) :: cs) = tE w ++ (tE t ++ tArms cs) := by
  simp [tArms, tE, arms, Val.textsL, Val.texts, Val.textsF]
@[grind =] theorem tArms_append (as bs : List (Expr × Expr)) : tArms (as ++ bs) = tArms as ++ tArms bs := by
  induction as with
  | nil => simp [tArms_nil]
  | cons a as ih => obtain ⟨w, t⟩ := a; simp [tArms_cons, ih]
@[grind =] theorem tSt_nil : tSt [] = [] := rfl
@[grind =] theorem tSt_cons (l : Expr) (o : String) (k : Nat) (st) : tSt ((l, o, k) :: st) = tE l ++ o :: tSt st := rfl

/-! ### the plain fragment -/
mutual
def Plain : Expr → Bool
  | .column _ _ => true | .literal _ => true | .wildcard _ => true
  | .index a i => Plain a && Plain i
  | .unary _ e => Plain e
  | .compute l _ r => Plain l && Plain r
  | .kw k _ l r => k != .in_ && (Plain l && Plain r)
  | .between _ b f t => Plain b && (Plain f && Plain t)
  | .compare _ l r => Plain l && Plain r
  | .not_ e => Plain e
  | .and_ l r => Plain l && Plain r
  | .xor l r => Plain l && Plain r
  | .or_ l r => Plain l && Plain r
  | .caseCond cs e => PlainA cs && PlainO e
  | .caseVal v cs e => Plain v && (PlainA cs && PlainO e)
  | .func _ _ _ => false | .agg _ _ _ => false | .cast _ _ _ _ => false | .extract _ _ => false | .window _ _ _ _ => false
  | .subValue _ => false | .subQuery _ => false | .exists_ _ => false | .mybatis _ => false
def PlainA : List (Expr × Expr) → Bool
  | [] => true | (w, t) :: r => Plain w && (Plain t && PlainA r)
def PlainO : Option Expr → Bool
  | none => true | some e => Plain e
end
def PlainL : List Expr → Bool
  | [] => true | e :: r => Plain e && PlainL r
def PlainSt : List (Expr × String × Nat) → Bool
  | [] => true | (l, _, _) :: st => Plain l && PlainSt st

attribute [grind =] Plain PlainA PlainO PlainL PlainSt
@[grind =] theorem PlainL_append (as bs : List Expr) : PlainL (as ++ bs) = (PlainL as && PlainL bs) := by
  induction as with
  | nil => simp [PlainL]
  | cons a as ih => simp [PlainL, ih, Bool.and_assoc]
@[grind =] theorem PlainA_append (as bs : List (Expr × Expr)) : PlainA (as ++ bs) = (PlainA as && PlainA bs) := by
  induction as with
  | nil => simp [PlainA]
  | cons a as ih => obtain ⟨w, t⟩ := a; simp [PlainA, ih, Bool.and_assoc]
@[grind =] theorem Plain_callNode (s : Option String) (n : String) (a dd : Bool) (ps : List Expr) : Plain (callNode s n a dd ps) = false := by
  unfold callNode; split <;> simp [Plain]

/-! ### inclusion of text sets -/
def Sub (A B : List String) : Prop := ∀ x, x ∈ A → x ∈ B
@[grind =] theorem sub_self (A : List String) : Sub A A = True := by simp [Sub]
@[grind =] theorem sub_nil (A : List String) : Sub [] A = True := by simp [Sub]
@[grind =] theorem sub_append (A B C : List String) : Sub (A ++ B) C = (Sub A C ∧ Sub B C) := by
  simp only [Sub, List.mem_append, eq_iff_iff]
  exact ⟨fun h => ⟨fun x hx => h x (Or.inl hx), fun x hx => h x (Or.inr hx)⟩, fun h x hx => hx.elim (h.1 x) (h.2 x)⟩
@[grind =] theorem sub_cons (a : String) (A C : List String) : Sub (a :: A) C = (a ∈ C ∧ Sub A C) := by
  simp only [Sub, List.mem_cons, eq_iff_iff]
  exact ⟨fun h => ⟨h a (Or.inl rfl), fun x hx => h x (Or.inr hx)⟩, fun h x hx => hx.elim (fun e => e ▸ h.1) (h.2 x)⟩

/-! ### grammar words -/
def KW : List String :=
  ["*", ".", ",", "CASE", "WHEN", "THEN", "ELSE", "END", "AND", "&&", "OR", "||", "XOR", "NOT", "BETWEEN", "IS", "IN", "LIKE", "RLIKE",
   "REGEXP", "EXISTS"] ++ Gen.computeHash.map (·.1) ++ Gen.compareHash.map (·.1) ++ Gen.allD.flatMap Gen.notSet
def isKW (s : String) : Bool := KW.contains s
/-- a constant of the model that is compared with upper-cased sources (`equals`, `*_use_upper`) or with raw sources -/
def kwOk (k : String) : Bool := isKW k && isKW (up k)
def KwTok (t : Tok) : Bool := isKW (up t.src) || isKW t.src
@[grind =] theorem kwTok_def (t : Tok) : KwTok t = (isKW (up t.src) || isKW t.src) := rfl

theorem computeOp_kw (s : String) (x : String × Nat) (h : computeOp? s = some x) : isKW s = true := by
  unfold computeOp? at h
  split at h
  · simp at h
  · rename_i k nm hf
    have := List.mem_of_find?_eq_some hf
    have hk : k = s := by simpa using List.find?_some hf
    subst hk
    simp only [isKW, KW, List.contains_eq_mem, List.mem_append, List.mem_map, decide_eq_true_eq]
    exact Or.inl (Or.inl (Or.inr ⟨_, this, rfl⟩))
grind_pattern computeOp_kw => computeOp? s, some x
theorem compareOp_kw (s : String) (o : String) (h : compareOp? s = some o) : isKW s = true := by
  unfold compareOp? at h
  simp only [Option.map_eq_some_iff] at h
  obtain ⟨p, hf, _⟩ := h
  have := List.mem_of_find?_eq_some hf
  have hk : p.1 = s := by simpa using List.find?_some hf
  subst hk
  simp only [isKW, KW, List.contains_eq_mem, List.mem_append, List.mem_map, decide_eq_true_eq]
  exact Or.inl (Or.inr ⟨_, this, rfl⟩)
grind_pattern compareOp_kw => compareOp? s, some o
theorem notSet_kw (d : Gen.D) (s : String) (h : (Gen.notSet d).contains s = true) : isKW s = true := by
  simp only [isKW, KW, List.contains_eq_mem, List.mem_append, List.mem_flatMap, decide_eq_true_eq] at h ⊢
  exact Or.inr ⟨d, by cases d <;> simp [Gen.allD], h⟩
grind_pattern notSet_kw => (Gen.notSet d).contains s

/-! ### accounted tokens -/
def IsBracket (t : Tok) : Bool := t.has PAREN || t.has ARRAY
@[grind =] theorem isBracket_def (t : Tok) : IsBracket t = (t.has PAREN || t.has ARRAY) := rfl

inductive Acc (T : List String) : Tok → Prop
  | text {t : Tok} : t.src ∈ T → Acc T t
  | name {t : Tok} : unifyName t.src ∈ T → Acc T t
  | kw {t : Tok} : KwTok t = true → Acc T t
  | group {t : Tok} : IsBracket t = true → (∀ c, c ∈ t.children → Acc T c) → Acc T t

def Acc3 (T : List String) (ts r : List Tok) : Prop := ∃ used, ts = used ++ r ∧ ∀ t, t ∈ used → Acc T t
def KwSeg (ts r : List Tok) : Prop := ∃ used, ts = used ++ r ∧ ∀ t, t ∈ used → KwTok t = true

theorem Acc3.sfx {T ts r} (h : Acc3 T ts r) : Sfx r ts := by obtain ⟨u, hu, _⟩ := h; exact ⟨u, hu⟩
theorem Acc3.refl (T : List String) (ts : List Tok) : Acc3 T ts ts := ⟨[], rfl, by simp⟩
@[grind =] theorem acc3_self (T : List String) (ts : List Tok) : Acc3 T ts ts = True := by simp [Acc3.refl]
theorem Acc3.trans {T a b c} (h1 : Acc3 T a b) (h2 : Acc3 T b c) : Acc3 T a c := by
  obtain ⟨u, rfl, hu⟩ := h1; obtain ⟨w, rfl, hw⟩ := h2
  exact ⟨u ++ w, by simp, fun t ht => (List.mem_append.1 ht).elim (hu t) (hw t)⟩
grind_pattern Acc3.trans => Acc3 T a b, Acc3 T b c
theorem acc3_cons {T : List String} {t : Tok} {r r' : List Tok} (ht : Acc T t) (h : Acc3 T r r') : Acc3 T (t :: r) r' := by
  obtain ⟨u, rfl, hu⟩ := h
  exact ⟨t :: u, rfl, fun x hx => (List.mem_cons.1 hx).elim (fun e => e ▸ ht) (hu x)⟩
grind_pattern acc3_cons => Acc3 T (t :: r) r'
theorem acc3_all {T : List String} {cs : List Tok} (h : Acc3 T cs []) : ∀ c, c ∈ cs → Acc T c := by
  obtain ⟨u, hu, h⟩ := h; simp at hu; subst hu; exact h
theorem acc_group {T : List String} {t : Tok} (hb : IsBracket t = true) (h : Acc3 T t.children []) : Acc T t := .group hb (acc3_all h)
grind_pattern acc_group => Acc3 T t.children []
theorem acc_text {T : List String} {t : Tok} (h : t.src ∈ T) : Acc T t := .text h
grind_pattern acc_text => t.src ∈ T
theorem acc_name {T : List String} {t : Tok} (h : unifyName t.src ∈ T) : Acc T t := .name h
grind_pattern acc_name => unifyName t.src ∈ T
theorem acc_kw {T : List String} {t : Tok} (h : KwTok t = true) : Acc T t := .kw h
grind_pattern acc_kw => Acc T t, KwTok t

theorem KwSeg.refl (ts : List Tok) : KwSeg ts ts := ⟨[], rfl, by simp⟩
@[grind =] theorem kwSeg_self (ts : List Tok) : KwSeg ts ts = True := by simp [KwSeg.refl]
theorem KwSeg.acc3 {ts r} (h : KwSeg ts r) (T : List String) : Acc3 T ts r := by
  obtain ⟨u, hu, h⟩ := h; exact ⟨u, hu, fun t ht => .kw (h t ht)⟩
grind_pattern KwSeg.acc3 => KwSeg ts r, Acc3 T ts r
theorem KwSeg.trans {a b c} (h1 : KwSeg a b) (h2 : KwSeg b c) : KwSeg a c := by
  obtain ⟨u, rfl, hu⟩ := h1; obtain ⟨w, rfl, hw⟩ := h2
  exact ⟨u ++ w, by simp, fun t ht => (List.mem_append.1 ht).elim (hu t) (hw t)⟩
grind_pattern KwSeg.trans => KwSeg a b, KwSeg b c
theorem kwSeg_acc3_trans {T a b c} (h1 : KwSeg a b) (h2 : Acc3 T b c) : Acc3 T a c := (h1.acc3 T).trans h2
grind_pattern kwSeg_acc3_trans => KwSeg a b, Acc3 T b c
theorem acc3_kwSeg_trans {T a b c} (h1 : Acc3 T a b) (h2 : KwSeg b c) : Acc3 T a c := h1.trans (h2.acc3 T)
grind_pattern acc3_kwSeg_trans => Acc3 T a b, KwSeg b c
theorem kwSeg_cons {t : Tok} {r : List Tok} (h : KwTok t = true) : KwSeg (t :: r) r := ⟨[t], rfl, by simpa using h⟩
grind_pattern kwSeg_cons => t :: r
theorem kwSeg_cons2 {a b : Tok} {r : List Tok} (ha : KwTok a = true) (hb : KwTok b = true) : KwSeg (a :: b :: r) r :=
  ⟨[a, b], rfl, by simp [ha, hb]⟩

/-! ### the cursor primitives consume grammar words only -/
theorem srcEqUp_kw {t : Tok} {k : String} (h : t.srcEqUp k = true) (hk : kwOk k = true) : KwTok t = true := by
  simp only [Tok.srcEqUp, beq_iff_eq] at h
  simp only [kwOk, Bool.and_eq_true] at hk
  simp [KwTok, h, hk.1]
grind_pattern srcEqUp_kw => t.srcEqUp k
theorem srcEq_kw {t : Tok} {k : String} (h : t.srcEq k = true) (hk : kwOk k = true) : KwTok t = true := by
  simp only [Tok.srcEq, beq_iff_eq] at h
  simp only [kwOk, Bool.and_eq_true] at hk
  simp [KwTok, h, hk.1]
grind_pattern srcEq_kw => t.srcEq k
theorem equalsStr_kw {t : Tok} {k : String} (h : t.equalsStr k = true) (hk : kwOk k = true) : KwTok t = true := by
  simp only [kwOk, Bool.and_eq_true] at hk
  cases t with
  | single s m =>
    simp only [Tok.equalsStr, beq_iff_eq] at h
    have : Tok.src (.single s m) = String.ofList s := rfl
    simp [KwTok, this, h, hk.2]
  | group k cs m => simp [Tok.equalsStr] at h
grind_pattern equalsStr_kw => t.equalsStr k

def KwRel {α : Type} (ts : List Tok) (a : R α) : Prop := ∀ v r, a = .ok (v, r) → KwSeg ts r
@[grind =] theorem kwRel_ok {α : Type} (ts : List Tok) (v : α) (r : List Tok) : KwRel ts (.ok (v, r) : R α) = KwSeg ts r := by simp [KwRel]
@[grind =] theorem kwRel_error {α : Type} (ts : List Tok) (e : Err) : KwRel ts (.error e : R α) = True := by simp [KwRel]

theorem matchKw_kw (ts : List Tok) (k : String) (hk : kwOk k = true) : KwRel ts (matchKw ts k) := by
  intro v r h
  cases ts with
  | nil => simp [matchKw] at h
  | cons t ts =>
    simp only [matchKw] at h
    split at h <;> simp at h
    rename_i he; subst h; exact kwSeg_cons (equalsStr_kw he hk)
grind_pattern matchKw_kw => matchKw ts k
theorem searchStrUp_kw (ts : List Tok) (k : String) (h : searchStrUp ts k = true) (hk : kwOk k = true) : KwSeg ts (ts.drop 1) := by
  cases ts with
  | nil => simp [searchStrUp] at h
  | cons t r => exact kwSeg_cons (srcEqUp_kw (by simpa [searchStrUp] using h) hk)
grind_pattern searchStrUp_kw => searchStrUp ts k, List.drop 1 ts
theorem searchStr_kw (ts : List Tok) (k : String) (h : searchStr ts k = true) (hk : kwOk k = true) : KwSeg ts (ts.drop 1) := by
  cases ts with
  | nil => simp [searchStr] at h
  | cons t r => exact kwSeg_cons (srcEq_kw (by simpa [searchStr] using h) hk)
grind_pattern searchStr_kw => searchStr ts k, List.drop 1 ts
theorem moveStrUp_kw (ts : List Tok) (k : String) (hk : kwOk k = true) : KwSeg ts (moveStrUp ts k).2 := by
  unfold moveStrUp; split
  · rename_i h; exact searchStrUp_kw ts k h hk
  · exact KwSeg.refl _
grind_pattern moveStrUp_kw => moveStrUp ts k
theorem moveStr_kw (ts : List Tok) (k : String) (hk : kwOk k = true) : KwSeg ts (moveStr ts k).2 := by
  unfold moveStr; split
  · rename_i h; exact searchStr_kw ts k h hk
  · exact KwSeg.refl _
grind_pattern moveStr_kw => moveStr ts k
theorem skipNot_kw (d : Gen.D) (ts : List Tok) : KwSeg ts (skipNot d ts).2 := by
  unfold skipNot; split
  · split
    · rename_i h; exact kwSeg_cons (by simp [KwTok, notSet_kw d _ h])
    · exact KwSeg.refl _
  · exact KwSeg.refl _
grind_pattern skipNot_kw => skipNot d ts

/-! ### the operand stack of the compute loop -/
theorem sub_collapse (T : List String) : ∀ st top, Sub (tE (collapse st top)) T = (Sub (tSt st) T ∧ Sub (tE top) T) := by
  intro st
  induction st with
  | nil => intro top; simp [collapse, tSt_nil, sub_nil]
  | cons p st ih =>
    intro top; obtain ⟨l, o, k⟩ := p
    simp only [collapse, ih, tSt_cons, tE_compute, sub_append, sub_cons, sub_nil, eq_iff_iff]
    constructor <;> (intro h; simp_all)
grind_pattern sub_collapse => Sub (tE (collapse st top)) T
theorem plain_collapse : ∀ st top, Plain (collapse st top) = (PlainSt st && Plain top) := by
  intro st
  induction st with
  | nil => intro top; simp [collapse, PlainSt]
  | cons p st ih =>
    intro top; obtain ⟨l, o, k⟩ := p
    simp only [collapse, ih, PlainSt, Plain]
    cases Plain l <;> cases PlainSt st <;> cases Plain top <;> rfl
grind_pattern plain_collapse => Plain (collapse st top)
theorem sub_reduceWhile (T : List String) (lvl : Nat) : ∀ st top,
    (Sub (tSt (reduceWhile lvl st top).1) T ∧ Sub (tE (reduceWhile lvl st top).2) T) = (Sub (tSt st) T ∧ Sub (tE top) T) := by
  intro st
  induction st with
  | nil => intro top; simp [reduceWhile, tSt_nil, sub_nil]
  | cons p st ih =>
    intro top; obtain ⟨l, o, k⟩ := p
    simp only [reduceWhile]
    split
    · rw [ih]; simp only [tSt_cons, tE_compute, sub_append, sub_cons, sub_nil, eq_iff_iff]; constructor <;> (intro h; simp_all)
    · rfl
theorem sub_reduceWhile' (T : List String) (lvl : Nat) (st top st' top') (h : reduceWhile lvl st top = (st', top')) :
    (Sub (tSt st') T ∧ Sub (tE top') T) = (Sub (tSt st) T ∧ Sub (tE top) T) := by
  have := sub_reduceWhile T lvl st top; rw [h] at this; exact this
grind_pattern sub_reduceWhile' => reduceWhile lvl st top, Sub (tSt st') T, (st', top')
theorem plain_reduceWhile (lvl : Nat) : ∀ st top,
    (PlainSt (reduceWhile lvl st top).1 && Plain (reduceWhile lvl st top).2) = (PlainSt st && Plain top) := by
  intro st
  induction st with
  | nil => intro top; simp [reduceWhile]
  | cons p st ih =>
    intro top; obtain ⟨l, o, k⟩ := p
    simp only [reduceWhile]
    split
    · rw [ih]; simp only [PlainSt, Plain]; cases Plain l <;> cases PlainSt st <;> cases Plain top <;> rfl
    · rfl
theorem plain_reduceWhile' (lvl : Nat) (st top st' top') (h : reduceWhile lvl st top = (st', top')) :
    (PlainSt st' && Plain top') = (PlainSt st && Plain top) := by
  have := plain_reduceWhile lvl st top; rw [h] at this; exact this
grind_pattern plain_reduceWhile' => reduceWhile lvl st top, (st', top')

/-! ### the relations the accounting lemmas are stated with

`AccRel tx pl ts pre prePl a`: if the run `a` on the cursor `ts` succeeds with `(v, r)` and `v` is plain, then the values the
function was handed (accumulators; their texts `pre`, their plainness `prePl`) are plain, and for EVERY set of texts `T` that
contains the texts of `v`: the consumed tokens are accounted for by `T`, and `T` contains the texts of what was handed in.
(Stated for every `T ⊇ texts v` so that `grind` finds the instance it needs from the inclusion it is given.) -/
def AccRel {α : Type} (tx : α → List String) (pl : α → Bool) (ts : List Tok) (pre : List String) (prePl : Bool) (a : R α) : Prop :=
  ∀ v r, a = .ok (v, r) → pl v = true → prePl = true ∧ ∀ T, Sub (tx v) T → Acc3 T ts r ∧ Sub pre T
@[grind =] theorem accRel_ok {α : Type} (tx : α → List String) (pl : α → Bool) (ts pre prePl) (v : α) (r : List Tok) :
    AccRel tx pl ts pre prePl (.ok (v, r)) = (pl v = true → prePl = true ∧ ∀ T, Sub (tx v) T → Acc3 T ts r ∧ Sub pre T) := by
  simp [AccRel]
@[grind =] theorem accRel_error {α : Type} (tx : α → List String) (pl : α → Bool) (ts pre prePl) (e : Err) :
    AccRel tx pl ts pre prePl (.error e : R α) = True := by simp [AccRel]
/-- the same with the head token `n0` of the cursor handed in separately (`pNamed`, `pQualified`) -/
def AccRelH (n0 : Tok) (ts : List Tok) (a : R Expr) : Prop :=
  ∀ v r, a = .ok (v, r) → Plain v = true → ∀ T, Sub (tE v) T → Acc3 T ts r ∧ Acc T n0
@[grind =] theorem accRelH_ok (n0 ts) (v : Expr) (r : List Tok) :
    AccRelH n0 ts (.ok (v, r)) = (Plain v = true → ∀ T, Sub (tE v) T → Acc3 T ts r ∧ Acc T n0) := by simp [AccRelH]
@[grind =] theorem accRelH_error (n0 ts) (e : Err) : AccRelH n0 ts (.error e) = True := by simp [AccRelH]
/-- the same for the functions that return `Option (value × cursor)`; `kw`: the keyword the caller has consumed is a grammar word -/
def AccRelO (ts : List Tok) (bv : Expr) (kw : Bool) (a : Except Err (Option (Expr × List Tok))) : Prop :=
  ∀ v r, a = .ok (some (v, r)) → Plain v = true → Plain bv = true ∧ kw = true ∧ ∀ T, Sub (tE v) T → Acc3 T ts r ∧ Sub (tE bv) T
@[grind =] theorem accRelO_some (ts bv kw) (v : Expr) (r : List Tok) :
    AccRelO ts bv kw (.ok (some (v, r))) = (Plain v = true → Plain bv = true ∧ kw = true ∧ ∀ T, Sub (tE v) T → Acc3 T ts r ∧ Sub (tE bv) T) := by
  simp [AccRelO]
@[grind =] theorem accRelO_none (ts bv kw) : AccRelO ts bv kw (.ok none) = True := by simp [AccRelO]
@[grind =] theorem accRelO_error (ts bv kw) (e : Err) : AccRelO ts bv kw (.error e) = True := by simp [AccRelO]
/-- the result is never plain (function calls, windows, `IN`, sub-queries) -/
def NotPlain (a : R Expr) : Prop := ∀ v r, a = .ok (v, r) → Plain v = false
@[grind =] theorem notPlain_ok (v : Expr) (r : List Tok) : NotPlain (.ok (v, r)) = (Plain v = false) := by simp [NotPlain]
@[grind =] theorem notPlain_error (e : Err) : NotPlain (.error e) = True := by simp [NotPlain]
def NotPlainV (a : Except Err Expr) : Prop := ∀ v, a = .ok v → Plain v = false
@[grind =] theorem notPlainV_ok (v : Expr) : NotPlainV (.ok v) = (Plain v = false) := by simp [NotPlainV]
@[grind =] theorem notPlainV_error (e : Err) : NotPlainV (.error e) = True := by simp [NotPlainV]
def NotPlainO (a : Except Err (Option (Expr × List Tok))) : Prop := ∀ v r, a = .ok (some (v, r)) → Plain v = false
@[grind =] theorem notPlainO_some (v : Expr) (r : List Tok) : NotPlainO (.ok (some (v, r))) = (Plain v = false) := by simp [NotPlainO]
@[grind =] theorem notPlainO_none : NotPlainO (.ok none) = True := by simp [NotPlainO]
@[grind =] theorem notPlainO_error (e : Err) : NotPlainO (.error e) = True := by simp [NotPlainO]

theorem castTail_notPlain (e : Expr) (ts : List Tok) : NotPlainV (castTail e ts) := by
  intro v h
  unfold castTail at h
  simp only at h
  split_run <;> grind

end PM
