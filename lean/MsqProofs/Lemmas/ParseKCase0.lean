import MsqProofs.Lemmas.ParseCase2
/-!
# C09, parser half, SHARP form for the lexer's reserved words: the text map `km` and `kmAll` on the typed trees

`reservedL` — the entries of the lexer's keyword table that carry NO mark (24 of the 27: the other three, `TRUE` `FALSE` `NULL`, are
LITERAL tokens and are stored by the parser as they are written).
`km s` — the stored text `s` with the one thing forgotten that the letter case of a reserved word can change in a tree: a text that IS a
reserved word (case-insensitively), or the rendering `(`…`)` of a bracket group, is mapped to its `str.upper()`; every other text is kept.
`kmE`, `kmS`, `kmQ`, … — the tree with every stored text mapped through `km`.  Two trees with the same `kmAll` are EQUAL except that a stored reserved word / bracket text may differ in case.
-/
set_option linter.unusedSimpArgs false
open Lex Ast
namespace PM

/-- the keyword-table entries without a mark: the reserved words -/
def reservedL : List (List Char) := (Gen.wordMarks.filter (·.2 == 0)).map (·.1.toList)
/-- the text is (case-insensitively) a reserved word, or starts like the rendering of a bracket group -/
def kmHit (s : String) : Bool := reservedL.contains (Gen.pyUpper s.toList) || s.toList.head? == some '('
/-- a stored text up to the letter case of reserved words -/
def km (s : String) : String := if kmHit s then up s else s

theorem km_word {s : List Char} (h : reservedL.contains (Gen.pyUpper s) = true) : km (String.ofList s) = up (String.ofList s) := by
  have : kmHit (String.ofList s) = true := by simp only [kmHit, String.toList_ofList, h, Bool.true_or]
  simp only [km, this, if_true]
theorem km_paren (l : List Char) : km (String.ofList ('(' :: l)) = up (String.ofList ('(' :: l)) := by
  have : kmHit (String.ofList ('(' :: l)) = true := by simp [kmHit, String.toList_ofList]
  simp only [km, this, if_true]
theorem km_of_not_hit {s : String} (h : kmHit s = false) : km s = s := by simp [km, h]

mutual
def kmE : Expr → Expr
  | .column t n => .column (t.map km) (km n)
  | .literal v => .literal (km v)
  | .wildcard t => .wildcard (t.map km)
  | .func s n ps => .func (s.map km) (km n) (kmEs ps)
  | .agg n ps d => .agg (km n) (kmEs ps) d
  | .cast e sg ty ps => .cast (kmE e) sg (km ty) ps
  | .extract n e => .extract (kmE n) (kmE e)
  | .window fn part ord rows => .window (kmE fn) (kmEs part) (kmOs ord) rows
  | .caseCond cs e => .caseCond (kmArms cs) (kmEo e)
  | .caseVal v cs e => .caseVal (kmE v) (kmArms cs) (kmEo e)
  | .subValue vs => .subValue (kmEs vs)
  | .subQuery q => .subQuery (kmQ q)
  | .exists_ q => .exists_ (kmE q)
  | .index a i => .index (kmE a) (kmE i)
  | .unary op e => .unary (km op) (kmE e)
  | .compute l op r => .compute (kmE l) (km op) (kmE r)
  | .kw k n l r => .kw k n (kmE l) (kmE r)
  | .between n b f t => .between n (kmE b) (kmE f) (kmE t)
  | .compare op l r => .compare (km op) (kmE l) (kmE r)
  | .not_ e => .not_ (kmE e)
  | .and_ l r => .and_ (kmE l) (kmE r)
  | .xor l r => .xor (kmE l) (kmE r)
  | .or_ l r => .or_ (kmE l) (kmE r)
  | .mybatis s => .mybatis (km s)
def kmEs : List Expr → List Expr
  | [] => [] | e :: r => kmE e :: kmEs r
def kmEo : Option Expr → Option Expr
  | none => none | some e => some (kmE e)
def kmArms : List (Expr × Expr) → List (Expr × Expr)
  | [] => [] | (w, t) :: r => (kmE w, kmE t) :: kmArms r
def kmO : OrderItem → OrderItem
  | .mk e d nf nl => .mk (kmE e) d nf nl
def kmOs : List OrderItem → List OrderItem
  | [] => [] | o :: r => kmO o :: kmOs r
def kmTR : TableRef → TableRef
  | .table s n => .table (s.map km) (km n)
  | .sub q => .sub (kmQ q)
def kmFT : FromTable → FromTable
  | .mk t a => .mk (kmTR t) (a.map km)
def kmFTs : List FromTable → List FromTable
  | [] => [] | t :: r => kmFT t :: kmFTs r
def kmJR : JoinRule → JoinRule
  | .on e => .on (kmE e) | .using f => .using (kmE f)
def kmJ : Join → Join
  | .mk ty t none => .mk (km ty) (kmFT t) none
  | .mk ty t (some r) => .mk (km ty) (kmFT t) (some (kmJR r))
def kmJs : List Join → List Join
  | [] => [] | j :: r => kmJ j :: kmJs r
def kmEss : List (List Expr) → List (List Expr)
  | [] => [] | g :: r => kmEs g :: kmEss r
def kmG : GroupBy → GroupBy
  | .mk cols none cube rollup => .mk (kmEs cols) none cube rollup
  | .mk cols (some sets) cube rollup => .mk (kmEs cols) (some (kmEss sets)) cube rollup
def kmLat : Lateral → Lateral
  | .mk o fn v as => .mk o (kmE fn) (km v) (as.map km)
def kmLats : List Lateral → List Lateral
  | [] => [] | l :: r => kmLat l :: kmLats r
def kmW : WithTable → WithTable
  | .mk n q => .mk (km n) (kmQ q)
def kmWs : List WithTable → List WithTable
  | [] => [] | w :: r => kmW w :: kmWs r
def kmCols : List (Expr × Option String) → List (Expr × Option String)
  | [] => [] | (e, a) :: r => (kmE e, a.map km) :: kmCols r
def kmWso : Option (List WithTable) → Option (List WithTable)
  | none => none | some l => some (kmWs l)
def kmFTso : Option (List FromTable) → Option (List FromTable)
  | none => none | some l => some (kmFTs l)
def kmGo : Option GroupBy → Option GroupBy
  | none => none | some g => some (kmG g)
def kmOso : Option (List OrderItem) → Option (List OrderItem)
  | none => none | some l => some (kmOs l)
def kmEso : Option (List Expr) → Option (List Expr)
  | none => none | some l => some (kmEs l)
def kmS : Select → Select
  | .mk withs dist cols fr lats js wh gb hv ob sb db cb lm =>
    .mk (kmWso withs) dist (kmCols cols) (kmFTso fr) (kmLats lats) (kmJs js) (kmEo wh) (kmGo gb) (kmEo hv) (kmOso ob) (kmOso sb) (kmEso db) (kmEso cb) lm
def kmUs : List (String × Select) → List (String × Select)
  | [] => [] | (n, s) :: r => (km n, kmS s) :: kmUs r
def kmQ : Query → Query
  | .single s => .single (kmS s)
  | .union withs first rest => .union (kmWso withs) (kmS first) (kmUs rest)
end

/-- the stack of the compute loop -/
def kmSt (st : List (Expr × String × Nat)) : List (Expr × String × Nat) := st.map fun p => (kmE p.1, km p.2.1, p.2.2)

@[grind =] theorem kmEs_eq : ∀ l, kmEs l = l.map kmE := by intro l; induction l <;> simp [kmEs, *]
@[grind =] theorem kmEo_eq : ∀ o, kmEo o = o.map kmE := by intro o; cases o <;> simp [kmEo]
@[grind =] theorem kmArms_eq : ∀ l, kmArms l = l.map (Prod.map kmE kmE) := by
  intro l; induction l with | nil => simp [kmArms] | cons p r ih => obtain ⟨w, t⟩ := p; simp [kmArms, ih]
@[grind =] theorem kmOs_eq : ∀ l, kmOs l = l.map kmO := by intro l; induction l <;> simp [kmOs, *]
@[grind =] theorem kmFTs_eq : ∀ l, kmFTs l = l.map kmFT := by intro l; induction l <;> simp [kmFTs, *]
@[grind =] theorem kmJs_eq : ∀ l, kmJs l = l.map kmJ := by intro l; induction l <;> simp [kmJs, *]
@[grind =] theorem kmEss_eq : ∀ l, kmEss l = l.map (List.map kmE) := by intro l; induction l <;> simp [kmEss, kmEs_eq, *]
@[grind =] theorem kmLats_eq : ∀ l, kmLats l = l.map kmLat := by intro l; induction l <;> simp [kmLats, *]
@[grind =] theorem kmWs_eq : ∀ l, kmWs l = l.map kmW := by intro l; induction l <;> simp [kmWs, *]
@[grind =] theorem kmCols_eq : ∀ l, kmCols l = l.map (Prod.map kmE (Option.map km)) := by
  intro l; induction l with | nil => simp [kmCols] | cons p r ih => obtain ⟨e, a⟩ := p; simp [kmCols, ih]
@[grind =] theorem kmUs_eq : ∀ l, kmUs l = l.map (Prod.map km kmS) := by
  intro l; induction l with | nil => simp [kmUs] | cons p r ih => obtain ⟨n, s⟩ := p; simp [kmUs, ih]
@[grind =] theorem kmWso_eq : ∀ o, kmWso o = o.map (List.map kmW) := by intro o; cases o <;> simp [kmWso, kmWs_eq]
@[grind =] theorem kmFTso_eq : ∀ o, kmFTso o = o.map (List.map kmFT) := by intro o; cases o <;> simp [kmFTso, kmFTs_eq]
@[grind =] theorem kmGo_eq : ∀ o, kmGo o = o.map kmG := by intro o; cases o <;> simp [kmGo]
@[grind =] theorem kmOso_eq : ∀ o, kmOso o = o.map (List.map kmO) := by intro o; cases o <;> simp [kmOso, kmOs_eq]
@[grind =] theorem kmEso_eq : ∀ o, kmEso o = o.map (List.map kmE) := by intro o; cases o <;> simp [kmEso, kmEs_eq]
@[grind =] theorem kmJ_mk (ty : String) (t : FromTable) (r : Option JoinRule) : kmJ (.mk ty t r) = .mk (km ty) (kmFT t) (r.map kmJR) := by
  cases r <;> simp [kmJ]
@[grind =] theorem kmG_mk (cols : List Expr) (sets : Option (List (List Expr))) (c r : Bool) :
    kmG (.mk cols sets c r) = .mk (cols.map kmE) (sets.map (List.map (List.map kmE))) c r := by
  cases sets <;> simp [kmG, kmEs_eq, kmEss_eq]
@[grind =] theorem kmS_mk (withs : Option (List WithTable)) (dist : Bool) (cols : List (Expr × Option String)) (fr : Option (List FromTable))
    (lats : List Lateral) (js : List Join) (wh : Option Expr) (gb : Option GroupBy) (hv : Option Expr) (ob sb : Option (List OrderItem))
    (db cb : Option (List Expr)) (lm : Option (Int × Option Int)) :
    kmS (.mk withs dist cols fr lats js wh gb hv ob sb db cb lm) =
      .mk (withs.map (List.map kmW)) dist (cols.map (Prod.map kmE (Option.map km))) (fr.map (List.map kmFT)) (lats.map kmLat) (js.map kmJ)
        (wh.map kmE) (gb.map kmG) (hv.map kmE) (ob.map (List.map kmO)) (sb.map (List.map kmO)) (db.map (List.map kmE)) (cb.map (List.map kmE)) lm := by
  simp [kmS, kmEs_eq, kmEo_eq, kmOs_eq, kmFTs_eq, kmJs_eq, kmLats_eq, kmWs_eq, kmCols_eq, kmWso_eq, kmFTso_eq, kmGo_eq, kmOso_eq, kmEso_eq]
@[grind =] theorem kmQ_union (withs : Option (List WithTable)) (first : Select) (rest : List (String × Select)) :
    kmQ (.union withs first rest) = .union (withs.map (List.map kmW)) (kmS first) (rest.map (Prod.map km kmS)) := by
  simp [kmQ, kmWso_eq, kmUs_eq]
@[grind =] theorem kmQ_single (s : Select) : kmQ (.single s) = .single (kmS s) := by simp [kmQ]

end PM
