import MsqProofs.Lemmas.LexLinkAnyD2
import MsqProofs.Lemmas.LexLinkDdl4
import MsqProofs.Lemmas.TRest3
import MsqProofs.Props.C03QL2
/-!
# The lexer link for the remaining statement classes (`TR.FragRest`): pieces, words, the simple classes, ANALYZE, SHOW COLUMNS, CREATE TABLE … AS

Built on the link for data-change statements over `FragQ2` (`LexLinkAnyD0-2.lean`), the Q2 link (`LexLinkQ2*.lean`) and the
CREATE TABLE link (`LexLinkDdl*.lean`, namespace `LD`: raw-source payloads `srcLex`, back-quoted names, blank-joined pieces `tailL`).

One lemma per class: the mirror text, `Pc` of it against the token rendering of `Lemmas/TRest0.lean`, and the printer equation.
-/
namespace LL2.Any
open Lex Spec C05 C06 C09 Ast TP TS LexLink TQ2
open LLD (tbl_good)
open LD (tailL wordsP flagP parenL PAll)

instance : QWc plainKit := ⟨qw2_plain⟩

/-- a text piece: lexes to `ts` in context, no pre-pass character — `LexLink.Pc plainKit u ts` (`Pc.gen`, `Pc.of`), the form the statement
classes of this and the following files are stated in; everywhere else a bare `Pc K …` is `LexLink.Pc` -/
structure Pc (u : List Char) (ts : List Tok) : Prop where
  lx : Lx u ts
  q : allP u = true
/-- blank-separated pieces: `LexLink.SegP plainKit ' ' us ts` -/
structure SegP (us : List (List Char)) (ts : List Tok) : Prop where
  seg : Seg ' ' us ts
  q : PAll us

theorem Pc.gen {u : List Char} {ts : List Tok} (h : Pc u ts) : LexLink.Pc plainKit u ts := ⟨h.lx, h.q⟩
theorem Pc.of {u : List Char} {ts : List Tok} (h : LexLink.Pc plainKit u ts) : Pc u ts := ⟨h.lx, h.q⟩
theorem SegP.gen {us : List (List Char)} {ts : List Tok} (h : SegP us ts) : LexLink.SegP plainKit ' ' us ts := ⟨h.seg, h.q⟩
theorem SegP.of {us : List (List Char)} {ts : List Tok} (h : LexLink.SegP plainKit ' ' us ts) : SegP us ts := ⟨h.seg, h.q⟩

theorem SegP.nil : SegP [] [] := .of (LexLink.SegP.nil _)
theorem SegP.one {u : List Char} {ts : List Tok} (h : Pc u ts) : SegP [u] ts := .of (LexLink.SegP.one _ h.gen)
theorem SegP.cons {u : List Char} {us : List (List Char)} {t ts : List Tok} (h : Pc u t) (hs : SegP us ts) : SegP (u :: us) (t ++ ts) :=
  .of (LexLink.SegP.cons (Or.inl rfl) h.gen hs.gen)
theorem SegP.append {us vs : List (List Char)} {ts tv : List Tok} (h1 : SegP us ts) (h2 : SegP vs tv) : SegP (us ++ vs) (ts ++ tv) :=
  .of (LexLink.SegP.append (Or.inl rfl) h1.gen h2.gen)
theorem SegP.congr {us us' : List (List Char)} {ts ts' : List Tok} (h : SegP us ts) (e1 : us = us') (e2 : ts = ts') : SegP us' ts' :=
  e1 ▸ e2 ▸ h
theorem Pc.congr {u u' : List Char} {ts ts' : List Tok} (h : Pc u ts) (e1 : u = u') (e2 : ts = ts') : Pc u' ts' := e1 ▸ e2 ▸ h
theorem Pc.tail {a : List Char} {ta : List Tok} {us : List (List Char)} {ts : List Tok} (ha : Pc a ta) (hs : SegP us ts) :
    Pc (a ++ tailL us) (ta ++ ts) := .of (ha.gen.tail hs.gen)
theorem Pc.sep {a b : List Char} {ta tb : List Tok} (ha : Pc a ta) (hb : Pc b tb) : Pc (a ++ ' ' :: b) (ta ++ tb) :=
  .of (ha.gen.sep hb.gen)
theorem Pc.paren {a : List Char} {ta : List Tok} (ha : Pc a ta) : Pc (parenL a) [grp ta] := .of (LD.pc_paren ha.gen)

def restWords : List String :=
  ["DROP", "TABLE", "IF", "EXISTS", "NOT", "TRUNCATE", "MSCK", "REPAIR", "USE", "SHOW", "DATABASES", "TABLES", "COLUMNS", "SET", "ANALYZE",
   "PARTITION", "COMPUTE", "STATISTICS", "FOR", "CACHE", "METADATA", "NOSCAN", "ALTER", "ADD", "MODIFY", "CHANGE", "RENAME", "COLUMN", "TO",
   "CREATE", "AS"]
theorem rest_words_plainL : restWords.all (fun k => plainL k.toList) = true := by decide +kernel

theorem pc_w (k : String) (hk : k ∈ restWords) : Pc k.toList [opTok k] :=
  ⟨lx_kwd ((List.all_eq_true.mp rest_words_plainL) k hk), plainL_allP _ ((List.all_eq_true.mp rest_words_plainL) k hk)⟩
theorem segp_restWords (ws : List String) (h : ∀ w ∈ ws, w ∈ restWords) : SegP (wordsP ws) (ws.map opTok) := by
  induction ws with
  | nil => exact SegP.nil
  | cons w r ih =>
    exact SegP.congr (SegP.cons (pc_w w (h w (by simp))) (ih fun x hx => h x (by simp [hx]))) rfl (by simp)
theorem segp_flag (b : Bool) (ws : List String) (h : ∀ w ∈ ws, w ∈ restWords) : SegP (flagP b ws) (TD.flag b (ws.map opTok)) := by
  cases b
  · exact SegP.nil
  · exact segp_restWords ws h

/-- a table name as `PR.tn` prints it: ONE back-quoted token -/
def tnL (t : TableName) : List Char := tblL t.schema t.name
def tblLeaf (t : TableName) : Prop := LexLink.optNameLex t.schema ∧ nameLex t.name

theorem pc_tn (t : TableName) (h : tblLeaf t) : Pc (tnL t) [TR.tbl t] ∧ PR.tn t = String.ofList (tnL t) := by
  have hi : plainKit.item (.tbl t.schema t.name) := plain_item .MYSQL (.tbl t.schema t.name) h
  obtain ⟨a, b, c⟩ := tbl_good (K := plainKit) t.schema t.name h hi
  exact ⟨⟨a, b⟩, c⟩

theorem bool_str (b : Bool) (s : String) (ws : List String) (h : s.toList = (wordsP ws).flatMap (· ++ [' '])) :
    (if b then s else "").toList = (flagP b ws).flatMap (· ++ [' ']) := by
  cases b
  · rfl
  · simpa [flagP] using h

def dropL (b : Bool) (t : TableName) : List Char := "DROP".toList ++ tailL ("TABLE".toList :: (flagP b ["IF", "EXISTS"] ++ [tnL t]))
def truncateL (t : TableName) : List Char := "TRUNCATE".toList ++ tailL ["TABLE".toList, tnL t]
def msckL (t : TableName) : List Char := "MSCK".toList ++ tailL ["REPAIR".toList, "TABLE".toList, tnL t]
def useL (s : String) : List Char := "USE".toList ++ tailL [s.toList]

theorem pc_drop (b : Bool) (t : TableName) (h : tblLeaf t) : Pc (dropL b t) (TR.toksDrop b t) := by
  have := Pc.tail (pc_w "DROP" (by simp [restWords])) (SegP.cons (pc_w "TABLE" (by simp [restWords]))
    (SegP.append (segp_flag b ["IF", "EXISTS"] (by simp [restWords])) (SegP.one (pc_tn t h).1)))
  exact this.congr rfl (by simp [TR.toksDrop])
theorem pr_drop (d : Gen.D) (b : Bool) (t : TableName) (h : tblLeaf t) :
    PR.prStmt d (.dropTable b t) = .ok (String.ofList (dropL b t)) := by
  simp only [PR.prStmt, (pc_tn t h).2]
  refine congrArg Except.ok (ofList_eq ?_)
  have e1 : ("DROP TABLE " : String).toList = "DROP".toList ++ ' ' :: ("TABLE".toList ++ [' ']) := by simp
  have e2 : ("IF EXISTS " : String).toList = "IF".toList ++ ' ' :: ("EXISTS".toList ++ [' ']) := by simp
  delta dropL
  cases b
  · simp only [Bool.false_eq_true, ↓reduceIte, toString, String.toList_append, String.toList_ofList, e1, flagP]
    simp
  · simp only [↓reduceIte, toString, String.toList_append, String.toList_ofList, e1, e2, flagP, wordsP]
    simp

theorem pc_truncate (t : TableName) (h : tblLeaf t) : Pc (truncateL t) (TR.toksTruncate t) := by
  have := Pc.tail (pc_w "TRUNCATE" (by simp [restWords])) (SegP.cons (pc_w "TABLE" (by simp [restWords])) (SegP.one (pc_tn t h).1))
  exact this.congr rfl (by simp [TR.toksTruncate])
theorem pr_truncate (d : Gen.D) (t : TableName) (h : tblLeaf t) : PR.prStmt d (.truncate t) = .ok (String.ofList (truncateL t)) := by
  simp only [PR.prStmt, (pc_tn t h).2]
  refine congrArg Except.ok (ofList_eq ?_)
  have e1 : ("TRUNCATE TABLE " : String).toList = "TRUNCATE".toList ++ ' ' :: ("TABLE".toList ++ [' ']) := by simp
  delta truncateL
  simp only [toString, String.toList_append, String.toList_ofList, e1]
  simp

theorem pc_msck (t : TableName) (h : tblLeaf t) : Pc (msckL t) (TR.toksMsck t) := by
  have := Pc.tail (pc_w "MSCK" (by simp [restWords])) (SegP.cons (pc_w "REPAIR" (by simp [restWords]))
    (SegP.cons (pc_w "TABLE" (by simp [restWords])) (SegP.one (pc_tn t h).1)))
  exact this.congr rfl (by simp [TR.toksMsck])
theorem pr_msck (d : Gen.D) (t : TableName) (h : tblLeaf t) : PR.prStmt d (.msck t) = .ok (String.ofList (msckL t)) := by
  simp only [PR.prStmt, (pc_tn t h).2]
  refine congrArg Except.ok (ofList_eq ?_)
  have e1 : ("MSCK REPAIR TABLE " : String).toList = "MSCK".toList ++ ' ' :: ("REPAIR".toList ++ ' ' :: ("TABLE".toList ++ [' '])) := by simp
  delta msckL
  simp only [toString, String.toList_append, String.toList_ofList, e1]
  simp

theorem pc_plainSrc (s : String) (h : LD.srcLex s) : Pc s.toList [TD.srcTok s] := ⟨LD.lx_src s h, LD.allP_src s h⟩

theorem pc_use (s : String) (h : LD.srcLex s) : Pc (useL s) (TR.toksUse s) := by
  have := Pc.tail (pc_w "USE" (by simp [restWords])) (SegP.one (pc_plainSrc s h))
  exact this.congr rfl (by simp [TR.toksUse])
theorem pr_use (d : Gen.D) (s : String) : PR.prStmt d (.use s) = .ok (String.ofList (useL s)) := by
  simp only [PR.prStmt]
  refine congrArg Except.ok (ofList_eq ?_)
  have e1 : ("USE " : String).toList = "USE".toList ++ [' '] := by simp
  delta useL
  simp only [toString, String.toList_append, e1]
  simp

def showDbL : List Char := "SHOW".toList ++ tailL ["DATABASES".toList]
def showTblL : List Char := "SHOW".toList ++ tailL ["TABLES".toList]
theorem pc_showDb : Pc showDbL [opTok "SHOW", opTok "DATABASES"] :=
  (Pc.tail (pc_w "SHOW" (by simp [restWords])) (SegP.one (pc_w "DATABASES" (by simp [restWords])))).congr rfl rfl
theorem pc_showTbl : Pc showTblL [opTok "SHOW", opTok "TABLES"] :=
  (Pc.tail (pc_w "SHOW" (by simp [restWords])) (SegP.one (pc_w "TABLES" (by simp [restWords])))).congr rfl rfl
theorem pr_showDb (d : Gen.D) : PR.prStmt d .showDatabases = .ok (String.ofList showDbL) :=
  congrArg Except.ok (ofList_eq (by decide +kernel))
theorem pr_showTbl (d : Gen.D) : PR.prStmt d .showTables = .ok (String.ofList showTblL) :=
  congrArg Except.ok (ofList_eq (by decide +kernel))

end LL2.Any
