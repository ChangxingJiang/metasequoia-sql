import MsqProofs.Lemmas.ParseAccount
import MsqProofs.Lemmas.ParseOutStmt
/-! GENERATED by tools/gen_out.py — C08: every function of MsqModel/Parse/Stmt.lean returns a rest of its cursor (the first answer of `f_out`), function by function -/
set_option linter.unusedVariables false
open Lex PM
namespace PM

theorem cons_pTblName : ∀ ts, ConsRel ts (PM.pTblName ts) := fun ts => (pTblName_out ts).1.1
grind_pattern cons_pTblName => PM.pTblName ts
theorem cons_pInsertType : ∀ ts, ConsRel ts (PM.pInsertType ts) := fun ts => (pInsertType_out ts).1.1
grind_pattern cons_pInsertType => PM.pInsertType ts
theorem cons_configStringLoop : ∀ g acc ts, ConsRel ts (PM.configStringLoop g acc ts) := fun g acc ts => (configStringLoop_out g acc ts).1.1
grind_pattern cons_configStringLoop => PM.configStringLoop g acc ts
theorem cons_pConfigString : ∀ ts, ConsRel ts (PM.pConfigString ts) := fun ts => (pConfigString_out ts).1.1
grind_pattern cons_pConfigString => PM.pConfigString ts
theorem cons_pConfigStrExpr : ∀ ts, ConsRel ts (PM.pConfigStrExpr ts) := fun ts => (pConfigStrExpr_out ts).1.1
grind_pattern cons_pConfigStrExpr => PM.pConfigStrExpr ts
theorem cons_pColType (d : Gen.D) (f : Nat) : ∀ ts, ConsRel ts (PM.pColType d f ts) := fun ts => (pColType_out d f ts).1.1
grind_pattern cons_pColType => PM.pColType d f ts
theorem cons_pPartitionItem (d : Gen.D) (f : Nat) : ∀ ts, ConsRel ts (PM.pPartitionItem d f ts) := fun ts => (pPartitionItem_out d f ts).1.1
grind_pattern cons_pPartitionItem => PM.pPartitionItem d f ts
theorem cons_pPartition (d : Gen.D) (f : Nat) : ∀ already ts, ConsRel ts (PM.pPartition d f already ts) := fun already ts => (pPartition_out d f already ts).1.1
grind_pattern cons_pPartition => PM.pPartition d f already ts
theorem cons_pFkAction : ∀ ts, ConsRel ts (PM.pFkAction ts) := fun ts => (pFkAction_out ts).1.1
grind_pattern cons_pFkAction => PM.pFkAction ts
theorem cons_pOptFkAction : ∀ ts a b, ConsRel ts (PM.pOptFkAction ts a b) := fun ts a b => (pOptFkAction_out ts a b).1.1
grind_pattern cons_pOptFkAction => PM.pOptFkAction ts a b
theorem cons_pNameList : ∀ ts, ConsRel ts (PM.pNameList ts) := fun ts => (pNameList_out ts).1.1
grind_pattern cons_pNameList => PM.pNameList ts
theorem cons_pForeignKey : ∀ ts, ConsRel ts (PM.pForeignKey ts) := fun ts => (pForeignKey_out ts).1.1
grind_pattern cons_pForeignKey => PM.pForeignKey ts
theorem cons_pIndexCol : ∀ ts, ConsRel ts (PM.pIndexCol ts) := fun ts => (pIndexCol_out ts).1.1
grind_pattern cons_pIndexCol => PM.pIndexCol ts
theorem cons_pIndexCols : ∀ ts, ConsRel ts (PM.pIndexCols ts) := fun ts => (pIndexCols_out ts).1.1
grind_pattern cons_pIndexCols => PM.pIndexCols ts
theorem cons_pOptSrc : ∀ ts k, ConsRel ts (PM.pOptSrc ts k) := fun ts k => (pOptSrc_out ts k).1.1
grind_pattern cons_pOptSrc => PM.pOptSrc ts k
theorem cons_pIndexTail : ∀ kind name ts, ConsRel ts (PM.pIndexTail kind name ts) := fun kind name ts => (pIndexTail_out kind name ts).1.1
grind_pattern cons_pIndexTail => PM.pIndexTail kind name ts
theorem cons_pPrimaryIndex : ∀ ts, ConsRel ts (PM.pPrimaryIndex ts) := fun ts => (pPrimaryIndex_out ts).1.1
grind_pattern cons_pPrimaryIndex => PM.pPrimaryIndex ts
theorem cons_pNamedIndex : ∀ kind kws ts, ConsRel ts (PM.pNamedIndex kind kws ts) := fun kind kws ts => (pNamedIndex_out kind kws ts).1.1
grind_pattern cons_pNamedIndex => PM.pNamedIndex kind kws ts
theorem cons_pUniqueIndex : ∀ ts, ConsRel ts (PM.pUniqueIndex ts) := fun ts => (pUniqueIndex_out ts).1.1
grind_pattern cons_pUniqueIndex => PM.pUniqueIndex ts
theorem cons_pNormalIndex : ∀ ts, ConsRel ts (PM.pNormalIndex ts) := fun ts => (pNormalIndex_out ts).1.1
grind_pattern cons_pNormalIndex => PM.pNormalIndex ts
theorem cons_pFulltextIndex : ∀ ts, ConsRel ts (PM.pFulltextIndex ts) := fun ts => (pFulltextIndex_out ts).1.1
grind_pattern cons_pFulltextIndex => PM.pFulltextIndex ts
theorem cons_pGenerated (d : Gen.D) (f : Nat) : ∀ ts, ConsRel ts (PM.pGenerated d f ts) := fun ts => (pGenerated_out d f ts).1.1
grind_pattern cons_pGenerated => PM.pGenerated d f ts
theorem cons_defColLoop (d : Gen.D) (f : Nat) : ∀ g c ts, ConsRel ts (PM.defColLoop d f g c ts) := fun g c ts => (defColLoop_out d f g c ts).1.1
grind_pattern cons_defColLoop => PM.defColLoop d f g c ts
theorem cons_pDefCol (d : Gen.D) (f : Nat) : ∀ ts, ConsRel ts (PM.pDefCol d f ts) := fun ts => (pDefCol_out d f ts).1.1
grind_pattern cons_pDefCol => PM.pDefCol d f ts
theorem cons_pColOrIdx (d : Gen.D) (f : Nat) : ∀ ts, ConsRel ts (PM.pColOrIdx d f ts) := fun ts => (pColOrIdx_out d f ts).1.1
grind_pattern cons_pColOrIdx => PM.pColOrIdx d f ts
theorem cons_pWhereOrderLimit (d : Gen.D) (f : Nat) : ∀ ts, ConsRel ts (PM.pWhereOrderLimit d f ts) := fun ts => (pWhereOrderLimit_out d f ts).1.1
grind_pattern cons_pWhereOrderLimit => PM.pWhereOrderLimit d f ts
theorem cons_valuesLoop (d : Gen.D) (f : Nat) : ∀ g acc ts, ConsRel ts (PM.valuesLoop d f g acc ts) := fun g acc ts => (valuesLoop_out d f g acc ts).1.1
grind_pattern cons_valuesLoop => PM.valuesLoop d f g acc ts
theorem cons_pColumnName : ∀ ts, ConsRel ts (PM.pColumnName ts) := fun ts => (pColumnName_out ts).1.1
grind_pattern cons_pColumnName => PM.pColumnName ts
theorem cons_pOptPartition (d : Gen.D) (f : Nat) : ∀ ts, ConsRel ts (PM.pOptPartition d f ts) := fun ts => (pOptPartition_out d f ts).1.1
grind_pattern cons_pOptPartition => PM.pOptPartition d f ts
theorem cons_pOptColumns : ∀ ts, ConsRel ts (PM.pOptColumns ts) := fun ts => (pOptColumns_out ts).1.1
grind_pattern cons_pOptColumns => PM.pOptColumns ts
theorem cons_pWithOpt (d : Gen.D) (f : Nat) : ∀ w ts, ConsRel ts (PM.pWithOpt d f w ts) := fun w ts => (pWithOpt_out d f w ts).1.1
grind_pattern cons_pWithOpt => PM.pWithOpt d f w ts
theorem cons_pInsert (d : Gen.D) (f : Nat) : ∀ w ts, ConsRel ts (PM.pInsert d f w ts) := fun w ts => (pInsert_out d f w ts).1.1
grind_pattern cons_pInsert => PM.pInsert d f w ts
theorem cons_pSet : ∀ ts, ConsRel ts (PM.pSet ts) := fun ts => (pSet_out ts).1.1
grind_pattern cons_pSet => PM.pSet ts
theorem cons_optEqSrc : ∀ ts, ConsRel ts (PM.optEqSrc ts) := fun ts => (optEqSrc_out ts).1.1
grind_pattern cons_optEqSrc => PM.optEqSrc ts
theorem cons_createOpts (d : Gen.D) (f : Nat) : ∀ g c ts, ConsRel ts (PM.createOpts d f g c ts) := fun g c ts => (createOpts_out d f g c ts).1.1
grind_pattern cons_createOpts => PM.createOpts d f g c ts
theorem cons_pCreateTable (d : Gen.D) (f : Nat) : ∀ ts, ConsRel ts (PM.pCreateTable d f ts) := fun ts => (pCreateTable_out d f ts).1.1
grind_pattern cons_pCreateTable => PM.pCreateTable d f ts
theorem cons_pDropTable : ∀ ts, ConsRel ts (PM.pDropTable ts) := fun ts => (pDropTable_out ts).1.1
grind_pattern cons_pDropTable => PM.pDropTable ts
theorem cons_pAnalyze (d : Gen.D) (f : Nat) : ∀ ts, ConsRel ts (PM.pAnalyze d f ts) := fun ts => (pAnalyze_out d f ts).1.1
grind_pattern cons_pAnalyze => PM.pAnalyze d f ts
theorem cons_pAlterExpr (d : Gen.D) (f : Nat) : ∀ ts, ConsRel ts (PM.pAlterExpr d f ts) := fun ts => (pAlterExpr_out d f ts).1.1
grind_pattern cons_pAlterExpr => PM.pAlterExpr d f ts
theorem cons_alterLoop (d : Gen.D) (f : Nat) : ∀ g acc ts, ConsRel ts (PM.alterLoop d f g acc ts) := fun g acc ts => (alterLoop_out d f g acc ts).1.1
grind_pattern cons_alterLoop => PM.alterLoop d f g acc ts
theorem cons_pAlter (d : Gen.D) (f : Nat) : ∀ ts, ConsRel ts (PM.pAlter d f ts) := fun ts => (pAlter_out d f ts).1.1
grind_pattern cons_pAlter => PM.pAlter d f ts
theorem cons_pKwTable : ∀ kws mk ts, ConsRel ts (PM.pKwTable kws mk ts) := fun kws mk ts => (pKwTable_out kws mk ts).1.1
grind_pattern cons_pKwTable => PM.pKwTable kws mk ts
theorem cons_pMsck : ∀ ts, ConsRel ts (PM.pMsck ts) := fun ts => (pMsck_out ts).1.1
grind_pattern cons_pMsck => PM.pMsck ts
theorem cons_pTruncate : ∀ ts, ConsRel ts (PM.pTruncate ts) := fun ts => (pTruncate_out ts).1.1
grind_pattern cons_pTruncate => PM.pTruncate ts
theorem cons_pUse : ∀ ts, ConsRel ts (PM.pUse ts) := fun ts => (pUse_out ts).1.1
grind_pattern cons_pUse => PM.pUse ts
theorem cons_pUpdateSetCol (d : Gen.D) (f : Nat) : ∀ ts, ConsRel ts (PM.pUpdateSetCol d f ts) := fun ts => (pUpdateSetCol_out d f ts).1.1
grind_pattern cons_pUpdateSetCol => PM.pUpdateSetCol d f ts
theorem cons_updateSetLoop (d : Gen.D) (f : Nat) : ∀ g acc ts, ConsRel ts (PM.updateSetLoop d f g acc ts) := fun g acc ts => (updateSetLoop_out d f g acc ts).1.1
grind_pattern cons_updateSetLoop => PM.updateSetLoop d f g acc ts
theorem cons_pUpdateSet (d : Gen.D) (f : Nat) : ∀ ts, ConsRel ts (PM.pUpdateSet d f ts) := fun ts => (pUpdateSet_out d f ts).1.1
grind_pattern cons_pUpdateSet => PM.pUpdateSet d f ts
theorem cons_pUpdate (d : Gen.D) (f : Nat) : ∀ w ts, ConsRel ts (PM.pUpdate d f w ts) := fun w ts => (pUpdate_out d f w ts).1.1
grind_pattern cons_pUpdate => PM.pUpdate d f w ts
theorem cons_pDelete (d : Gen.D) (f : Nat) : ∀ ts, ConsRel ts (PM.pDelete d f ts) := fun ts => (pDelete_out d f ts).1.1
grind_pattern cons_pDelete => PM.pDelete d f ts
theorem cons_pFromClause (d : Gen.D) (f : Nat) : ∀ ts, ConsRel ts (PM.pFromClause d f ts) := fun ts => (pFromClause_out d f ts).1.1
grind_pattern cons_pFromClause => PM.pFromClause d f ts
theorem cons_pShowColumns (d : Gen.D) (f : Nat) : ∀ ts, ConsRel ts (PM.pShowColumns d f ts) := fun ts => (pShowColumns_out d f ts).1.1
grind_pattern cons_pShowColumns => PM.pShowColumns d f ts
theorem cons_pStatement (d : Gen.D) (f : Nat) : ∀ ts, ConsRel ts (PM.pStatement d f ts) := fun ts => (pStatement_out d f ts).1.1
grind_pattern cons_pStatement => PM.pStatement d f ts

theorem pTblName_consumes : ∀ ts v r, (PM.pTblName ts) = .ok (v, r) → ∃ used, ts = used ++ r :=
  fun ts v r h => cons_pTblName ts v r h
theorem pInsertType_consumes : ∀ ts v r, (PM.pInsertType ts) = .ok (v, r) → ∃ used, ts = used ++ r :=
  fun ts v r h => cons_pInsertType ts v r h
theorem configStringLoop_consumes : ∀ g acc ts v r, (PM.configStringLoop g acc ts) = .ok (v, r) → ∃ used, ts = used ++ r :=
  fun g acc ts v r h => cons_configStringLoop g acc ts v r h
theorem pConfigString_consumes : ∀ ts v r, (PM.pConfigString ts) = .ok (v, r) → ∃ used, ts = used ++ r :=
  fun ts v r h => cons_pConfigString ts v r h
theorem pConfigStrExpr_consumes : ∀ ts v r, (PM.pConfigStrExpr ts) = .ok (v, r) → ∃ used, ts = used ++ r :=
  fun ts v r h => cons_pConfigStrExpr ts v r h
theorem pColType_consumes (d : Gen.D) (f : Nat) : ∀ ts v r, (PM.pColType d f ts) = .ok (v, r) → ∃ used, ts = used ++ r :=
  fun ts v r h => cons_pColType d f ts v r h
theorem pPartitionItem_consumes (d : Gen.D) (f : Nat) : ∀ ts v r, (PM.pPartitionItem d f ts) = .ok (v, r) → ∃ used, ts = used ++ r :=
  fun ts v r h => cons_pPartitionItem d f ts v r h
theorem pPartition_consumes (d : Gen.D) (f : Nat) : ∀ already ts v r, (PM.pPartition d f already ts) = .ok (v, r) → ∃ used, ts = used ++ r :=
  fun already ts v r h => cons_pPartition d f already ts v r h
theorem pFkAction_consumes : ∀ ts v r, (PM.pFkAction ts) = .ok (v, r) → ∃ used, ts = used ++ r :=
  fun ts v r h => cons_pFkAction ts v r h
theorem pOptFkAction_consumes : ∀ ts a b v r, (PM.pOptFkAction ts a b) = .ok (v, r) → ∃ used, ts = used ++ r :=
  fun ts a b v r h => cons_pOptFkAction ts a b v r h
theorem pNameList_consumes : ∀ ts v r, (PM.pNameList ts) = .ok (v, r) → ∃ used, ts = used ++ r :=
  fun ts v r h => cons_pNameList ts v r h
theorem pForeignKey_consumes : ∀ ts v r, (PM.pForeignKey ts) = .ok (v, r) → ∃ used, ts = used ++ r :=
  fun ts v r h => cons_pForeignKey ts v r h
theorem pIndexCol_consumes : ∀ ts v r, (PM.pIndexCol ts) = .ok (v, r) → ∃ used, ts = used ++ r :=
  fun ts v r h => cons_pIndexCol ts v r h
theorem pIndexCols_consumes : ∀ ts v r, (PM.pIndexCols ts) = .ok (v, r) → ∃ used, ts = used ++ r :=
  fun ts v r h => cons_pIndexCols ts v r h
theorem pOptSrc_consumes : ∀ ts k v r, (PM.pOptSrc ts k) = .ok (v, r) → ∃ used, ts = used ++ r :=
  fun ts k v r h => cons_pOptSrc ts k v r h
theorem pIndexTail_consumes : ∀ kind name ts v r, (PM.pIndexTail kind name ts) = .ok (v, r) → ∃ used, ts = used ++ r :=
  fun kind name ts v r h => cons_pIndexTail kind name ts v r h
theorem pPrimaryIndex_consumes : ∀ ts v r, (PM.pPrimaryIndex ts) = .ok (v, r) → ∃ used, ts = used ++ r :=
  fun ts v r h => cons_pPrimaryIndex ts v r h
theorem pNamedIndex_consumes : ∀ kind kws ts v r, (PM.pNamedIndex kind kws ts) = .ok (v, r) → ∃ used, ts = used ++ r :=
  fun kind kws ts v r h => cons_pNamedIndex kind kws ts v r h
theorem pUniqueIndex_consumes : ∀ ts v r, (PM.pUniqueIndex ts) = .ok (v, r) → ∃ used, ts = used ++ r :=
  fun ts v r h => cons_pUniqueIndex ts v r h
theorem pNormalIndex_consumes : ∀ ts v r, (PM.pNormalIndex ts) = .ok (v, r) → ∃ used, ts = used ++ r :=
  fun ts v r h => cons_pNormalIndex ts v r h
theorem pFulltextIndex_consumes : ∀ ts v r, (PM.pFulltextIndex ts) = .ok (v, r) → ∃ used, ts = used ++ r :=
  fun ts v r h => cons_pFulltextIndex ts v r h
theorem pGenerated_consumes (d : Gen.D) (f : Nat) : ∀ ts v r, (PM.pGenerated d f ts) = .ok (v, r) → ∃ used, ts = used ++ r :=
  fun ts v r h => cons_pGenerated d f ts v r h
theorem defColLoop_consumes (d : Gen.D) (f : Nat) : ∀ g c ts v r, (PM.defColLoop d f g c ts) = .ok (v, r) → ∃ used, ts = used ++ r :=
  fun g c ts v r h => cons_defColLoop d f g c ts v r h
theorem pDefCol_consumes (d : Gen.D) (f : Nat) : ∀ ts v r, (PM.pDefCol d f ts) = .ok (v, r) → ∃ used, ts = used ++ r :=
  fun ts v r h => cons_pDefCol d f ts v r h
theorem pColOrIdx_consumes (d : Gen.D) (f : Nat) : ∀ ts v r, (PM.pColOrIdx d f ts) = .ok (v, r) → ∃ used, ts = used ++ r :=
  fun ts v r h => cons_pColOrIdx d f ts v r h
theorem pWhereOrderLimit_consumes (d : Gen.D) (f : Nat) : ∀ ts v r, (PM.pWhereOrderLimit d f ts) = .ok (v, r) → ∃ used, ts = used ++ r :=
  fun ts v r h => cons_pWhereOrderLimit d f ts v r h
theorem valuesLoop_consumes (d : Gen.D) (f : Nat) : ∀ g acc ts v r, (PM.valuesLoop d f g acc ts) = .ok (v, r) → ∃ used, ts = used ++ r :=
  fun g acc ts v r h => cons_valuesLoop d f g acc ts v r h
theorem pColumnName_consumes : ∀ ts v r, (PM.pColumnName ts) = .ok (v, r) → ∃ used, ts = used ++ r :=
  fun ts v r h => cons_pColumnName ts v r h
theorem pOptPartition_consumes (d : Gen.D) (f : Nat) : ∀ ts v r, (PM.pOptPartition d f ts) = .ok (v, r) → ∃ used, ts = used ++ r :=
  fun ts v r h => cons_pOptPartition d f ts v r h
theorem pOptColumns_consumes : ∀ ts v r, (PM.pOptColumns ts) = .ok (v, r) → ∃ used, ts = used ++ r :=
  fun ts v r h => cons_pOptColumns ts v r h
theorem pWithOpt_consumes (d : Gen.D) (f : Nat) : ∀ w ts v r, (PM.pWithOpt d f w ts) = .ok (v, r) → ∃ used, ts = used ++ r :=
  fun w ts v r h => cons_pWithOpt d f w ts v r h
theorem pInsert_consumes (d : Gen.D) (f : Nat) : ∀ w ts v r, (PM.pInsert d f w ts) = .ok (v, r) → ∃ used, ts = used ++ r :=
  fun w ts v r h => cons_pInsert d f w ts v r h
theorem pSet_consumes : ∀ ts v r, (PM.pSet ts) = .ok (v, r) → ∃ used, ts = used ++ r :=
  fun ts v r h => cons_pSet ts v r h
theorem optEqSrc_consumes : ∀ ts v r, (PM.optEqSrc ts) = .ok (v, r) → ∃ used, ts = used ++ r :=
  fun ts v r h => cons_optEqSrc ts v r h
theorem createOpts_consumes (d : Gen.D) (f : Nat) : ∀ g c ts v r, (PM.createOpts d f g c ts) = .ok (v, r) → ∃ used, ts = used ++ r :=
  fun g c ts v r h => cons_createOpts d f g c ts v r h
theorem pCreateTable_consumes (d : Gen.D) (f : Nat) : ∀ ts v r, (PM.pCreateTable d f ts) = .ok (v, r) → ∃ used, ts = used ++ r :=
  fun ts v r h => cons_pCreateTable d f ts v r h
theorem pDropTable_consumes : ∀ ts v r, (PM.pDropTable ts) = .ok (v, r) → ∃ used, ts = used ++ r :=
  fun ts v r h => cons_pDropTable ts v r h
theorem pAnalyze_consumes (d : Gen.D) (f : Nat) : ∀ ts v r, (PM.pAnalyze d f ts) = .ok (v, r) → ∃ used, ts = used ++ r :=
  fun ts v r h => cons_pAnalyze d f ts v r h
theorem pAlterExpr_consumes (d : Gen.D) (f : Nat) : ∀ ts v r, (PM.pAlterExpr d f ts) = .ok (v, r) → ∃ used, ts = used ++ r :=
  fun ts v r h => cons_pAlterExpr d f ts v r h
theorem alterLoop_consumes (d : Gen.D) (f : Nat) : ∀ g acc ts v r, (PM.alterLoop d f g acc ts) = .ok (v, r) → ∃ used, ts = used ++ r :=
  fun g acc ts v r h => cons_alterLoop d f g acc ts v r h
theorem pAlter_consumes (d : Gen.D) (f : Nat) : ∀ ts v r, (PM.pAlter d f ts) = .ok (v, r) → ∃ used, ts = used ++ r :=
  fun ts v r h => cons_pAlter d f ts v r h
theorem pKwTable_consumes : ∀ kws mk ts v r, (PM.pKwTable kws mk ts) = .ok (v, r) → ∃ used, ts = used ++ r :=
  fun kws mk ts v r h => cons_pKwTable kws mk ts v r h
theorem pMsck_consumes : ∀ ts v r, (PM.pMsck ts) = .ok (v, r) → ∃ used, ts = used ++ r :=
  fun ts v r h => cons_pMsck ts v r h
theorem pTruncate_consumes : ∀ ts v r, (PM.pTruncate ts) = .ok (v, r) → ∃ used, ts = used ++ r :=
  fun ts v r h => cons_pTruncate ts v r h
theorem pUse_consumes : ∀ ts v r, (PM.pUse ts) = .ok (v, r) → ∃ used, ts = used ++ r :=
  fun ts v r h => cons_pUse ts v r h
theorem pUpdateSetCol_consumes (d : Gen.D) (f : Nat) : ∀ ts v r, (PM.pUpdateSetCol d f ts) = .ok (v, r) → ∃ used, ts = used ++ r :=
  fun ts v r h => cons_pUpdateSetCol d f ts v r h
theorem updateSetLoop_consumes (d : Gen.D) (f : Nat) : ∀ g acc ts v r, (PM.updateSetLoop d f g acc ts) = .ok (v, r) → ∃ used, ts = used ++ r :=
  fun g acc ts v r h => cons_updateSetLoop d f g acc ts v r h
theorem pUpdateSet_consumes (d : Gen.D) (f : Nat) : ∀ ts v r, (PM.pUpdateSet d f ts) = .ok (v, r) → ∃ used, ts = used ++ r :=
  fun ts v r h => cons_pUpdateSet d f ts v r h
theorem pUpdate_consumes (d : Gen.D) (f : Nat) : ∀ w ts v r, (PM.pUpdate d f w ts) = .ok (v, r) → ∃ used, ts = used ++ r :=
  fun w ts v r h => cons_pUpdate d f w ts v r h
theorem pDelete_consumes (d : Gen.D) (f : Nat) : ∀ ts v r, (PM.pDelete d f ts) = .ok (v, r) → ∃ used, ts = used ++ r :=
  fun ts v r h => cons_pDelete d f ts v r h
theorem pFromClause_consumes (d : Gen.D) (f : Nat) : ∀ ts v r, (PM.pFromClause d f ts) = .ok (v, r) → ∃ used, ts = used ++ r :=
  fun ts v r h => cons_pFromClause d f ts v r h
theorem pShowColumns_consumes (d : Gen.D) (f : Nat) : ∀ ts v r, (PM.pShowColumns d f ts) = .ok (v, r) → ∃ used, ts = used ++ r :=
  fun ts v r h => cons_pShowColumns d f ts v r h
theorem pStatement_consumes (d : Gen.D) (f : Nat) : ∀ ts v r, (PM.pStatement d f ts) = .ok (v, r) → ∃ used, ts = used ++ r :=
  fun ts v r h => cons_pStatement d f ts v r h

end PM
