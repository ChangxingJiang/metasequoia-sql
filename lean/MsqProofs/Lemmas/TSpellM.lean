import MsqProofs.Lemmas.TSpellM1
import MsqProofs.Lemmas.TSpellQ
/-! Spelling-generalised T-parse: the mutual induction.  `all`: for every `n`, every fragment expression of size `≤ n` has its record `RT3`
and every fragment query of size `≤ n` has its record `QT` — by induction on the common size (`szE3` / `szQ`, Lemmas/TQuery0.lean); the
query half of the step (`query_step`) builds the records of the parts of a SELECT from the induction hypothesis and composes them with
`qt_single` / `qt_union` (TSpellQ.lean: `TC.single` and `TC.stmt_core` at `SRec.selOK` / `UnRec.branches`).  `stmt_some`: the query with the WITH slot already consumed, as `pStatement` calls it. -/
open Lex PM Ast TP TS TQ
namespace TSP
variable {d : Gen.D} {sp : Sp}

/-- the side conditions of a spelling choice: the first-word condition of the first GROUP BY key (stated in the fragment for the printer's
own rendering) holds for the chosen one; `!` for NOT only in the Hive dialect; an alias is written without `AS` only if it is no word that
continues the expression before it or that the alias parser refuses (`bareOK`) -/
structure SpOK (d : Gen.D) (sp : Sp) : Prop where
  grouping : ∀ e, searchStrUp (TQ.W3 d noX e 8) "GROUPING" = false → searchStrUp (W3 d sp e 8) "GROUPING" = false
  bang : ∀ e, sp.bang e = true → d = .HIVE
  bareC : ∀ c, optBareOK d (sp.bareC c) c.2 = true
  bareT : ∀ t a, optBareOK d (sp.bareT (.mk t a)) a = true

section step
variable (n : Nat) (ihe : ∀ e, szE3 e ≤ n → FragE3 d e = true → RT3 d sp e) (ihq : ∀ q, szQ q ≤ n → FragQ d q = true → QT d sp q)
include ihe in
theorem cols_rec (hch : SpOK d sp) : ∀ cs, szCols cs ≤ n → colsOK3 d cs = true → ∀ c ∈ cs, ColRec d sp c := by
  intro cs
  induction cs with
  | nil => intro _ _ c hc; simp at hc
  | cons p cs ihc =>
    obtain ⟨e, a⟩ := p
    intro hs hf c hc
    simp only [szCols] at hs
    simp only [colsOK3, Bool.and_eq_true] at hf
    rcases List.mem_cons.1 hc with rfl | hc
    · exact ⟨ihe e (by omega) hf.1.1, hf.1.2, hch.bareC (e, a)⟩
    · exact ihc (by omega) hf.2 c hc
include ihq in
theorem ref_rec (r : TableRef) (hs : szRef r ≤ n) (hf : refOK3 d r = true) : RefRec d sp r := by
  cases r with
  | table s nm => simp only [refOK3] at hf; exact hf
  | sub q =>
    simp only [refOK3] at hf; simp only [szRef] at hs
    show QT d sp q
    exact ihq q (by omega) hf
include ihq in
theorem table_rec (hch : SpOK d sp) (t : FromTable) (hs : szTable t ≤ n) (hf : tableOK3 d t = true) : TabRec d sp t := by
  obtain ⟨r, a⟩ := t
  simp only [tableOK3, Bool.and_eq_true] at hf; simp only [szTable] at hs
  exact ⟨ref_rec n ihq r hs hf.1, hf.2, hch.bareT r a⟩
include ihq in
theorem tables_rec (hch : SpOK d sp) : ∀ ts, szTables ts ≤ n → tablesOK3 d ts = true → ∀ t ∈ ts, TabRec d sp t := by
  intro ts
  induction ts with
  | nil => intro _ _ c hc; simp at hc
  | cons t ts iht =>
    intro hs hf c hc
    simp only [szTables] at hs
    simp only [tablesOK3, Bool.and_eq_true] at hf
    rcases List.mem_cons.1 hc with rfl | hc
    · exact table_rec n ihq hch _ (by omega) hf.1
    · exact iht (by omega) hf.2 c hc
include ihq in
theorem from_rec (hch : SpOK d sp) (fr : Option (List FromTable)) (hs : szFrom fr ≤ n) (hf : fromOK3 d fr = true) : FromRec d sp fr := by
  cases fr with
  | none => trivial
  | some l =>
    cases l with
    | nil => simp [fromOK3] at hf
    | cons t ts =>
      simp only [fromOK3, Bool.and_eq_true] at hf; simp only [szFrom, szTables] at hs
      exact ⟨table_rec n ihq hch t (by omega) hf.1, tables_rec n ihq hch ts (by omega) hf.2⟩
include ihe in
theorem rule_rec (r : Option JoinRule) (hs : szRule r ≤ n) (hf : ruleOK3 d r = true) : RuleRec d sp r := by
  cases r with
  | none => trivial
  | some r =>
    cases r with
    | on e => simp only [ruleOK3] at hf; simp only [szRule] at hs; exact ihe e hs hf
    | «using» u => simp [ruleOK3] at hf
include ihe ihq in
theorem joins_rec (hch : SpOK d sp) : ∀ js, szJoins js ≤ n → joinsOK3 d js = true → ∀ j ∈ js, JoinRec d sp j := by
  intro js
  induction js with
  | nil => intro _ _ c hc; simp at hc
  | cons j js ihj =>
    intro hs hf c hc
    simp only [szJoins] at hs
    simp only [joinsOK3, Bool.and_eq_true] at hf
    rcases List.mem_cons.1 hc with rfl | hc
    · obtain ⟨ty, t, rule⟩ := c
      have h1 := hf.1
      simp only [joinOK3, Bool.and_eq_true] at h1; simp only [szJoin] at hs
      exact ⟨h1.1.1, table_rec n ihq hch t (by omega) h1.1.2, rule_rec n ihe rule (by omega) h1.2⟩
    · exact ihj (by omega) hf.2 c hc
include ihe in
theorem opt_rec (o : Option Expr) (hs : szO3 o ≤ n) (hf : FragO3 d o = true) : OptRec d sp o := by
  cases o with
  | none => trivial
  | some e => simp only [FragO3] at hf; simp only [szO3] at hs; exact ihe e hs hf
include ihe in
theorem group_rec (hch : SpOK d sp) (gb : Option GroupBy) (hs : szGroup gb ≤ n) (hf : groupOK3 d gb = true) : GroupRec d sp gb := by
  cases gb with
  | none => trivial
  | some g =>
    obtain ⟨cols, sets, cube, rollup⟩ := g
    cases cols with
    | nil => simp [groupOK3] at hf
    | cons e es =>
      cases sets with
      | some l => simp [groupOK3] at hf
      | none =>
        cases cube with
        | true => simp [groupOK3] at hf
        | false =>
          cases rollup with
          | true => simp [groupOK3] at hf
          | false =>
            simp only [groupOK3, Bool.and_eq_true, Bool.not_eq_true'] at hf
            simp only [szGroup, szL3] at hs
            refine ⟨ihe e (by omega) hf.1.1, fun x hx => ?_, hch.grouping e hf.2⟩
            obtain ⟨a, b⟩ := TQ.frag2L_mem es hf.1.2 x hx
            exact ihe x (by omega) a
include ihe in
theorem ord_rec (o : OrderItem) (hs : szOrdItem o ≤ n) (hf : ordItemOK3 d o = true) : OrdRec d sp o := by
  obtain ⟨e, desc, nf, nl⟩ := o
  simp only [ordItemOK3, Bool.and_eq_true, Bool.not_eq_true'] at hf; simp only [szOrdItem] at hs
  exact ⟨ihe e hs hf.1.1, hf.1.2, hf.2⟩
include ihe in
theorem ordtail_rec : ∀ os, szOrdL os ≤ n → ordTailOK3 d os = true → ∀ o ∈ os, OrdRec d sp o := by
  intro os
  induction os with
  | nil => intro _ _ c hc; simp at hc
  | cons o os iho =>
    intro hs hf c hc
    simp only [szOrdL] at hs
    simp only [ordTailOK3, Bool.and_eq_true] at hf
    rcases List.mem_cons.1 hc with rfl | hc
    · exact ord_rec n ihe _ (by omega) hf.1
    · exact iho (by omega) hf.2 c hc
include ihe in
theorem order_rec (ob : Option (List OrderItem)) (hs : szOrder ob ≤ n) (hf : orderOK3 d ob = true) : OrderRec d sp ob := by
  cases ob with
  | none => trivial
  | some l =>
    cases l with
    | nil => simp [orderOK3] at hf
    | cons o os =>
      simp only [orderOK3, Bool.and_eq_true] at hf; simp only [szOrder, szOrdL] at hs
      exact ⟨ord_rec n ihe o (by omega) hf.1, ordtail_rec n ihe os (by omega) hf.2⟩

include ihe ihq in
theorem srec (hch : SpOK d sp) (s : Select) (hs : szS3 s ≤ n + 1) (hf : FragS3 d s = true) : SRec d sp s := by
  obtain ⟨w, dist, cols, fr, lats, js, wh, gb, hv, ob, sb, db, cb, lm⟩ := s
  cases w with
  | none => simp [FragS3] at hf
  | some w =>
  cases w with
  | cons _ _ => simp [FragS3] at hf
  | nil =>
  cases lats with
  | cons _ _ => simp [FragS3] at hf
  | nil =>
  cases sb with
  | some _ => simp [FragS3] at hf
  | none =>
  cases db with
  | some _ => simp [FragS3] at hf
  | none =>
  cases cb with
  | some _ => simp [FragS3] at hf
  | none =>
  cases cols with
  | nil => simp [FragS3] at hf
  | cons c cs =>
    simp only [FragS3, Bool.and_eq_true, Bool.or_eq_true, Bool.not_eq_true'] at hf
    simp only [szS3] at hs
    obtain ⟨⟨⟨⟨⟨⟨⟨⟨⟨h1, _⟩, h3⟩, h4⟩, h5⟩, h6⟩, h7⟩, h8⟩, h9⟩, h10⟩ := hf
    have hc := cols_rec n ihe hch (c :: cs) (by omega) h1
    refine ⟨dist, c, cs, fr, js, wh, gb, hv, ob, lm, rfl, hc c (by simp), fun c' h' => hc c' (by simp [h']), ?_,
      from_rec n ihq hch fr (by omega) h3, joins_rec n ihe ihq hch js (by omega) h4, opt_rec n ihe wh (by omega) h5,
      group_rec n ihe hch gb (by omega) h6, opt_rec n ihe hv (by omega) h7, order_rec n ihe ob (by omega) h8, h9⟩
    refine Or.inr ?_
    obtain ⟨t, ts', hh, hd, _⟩ := (hc c (by simp)).1.head
    rw [toksCols3_cons]
    simp only [toksCol3, hh, List.cons_append, searchStrUp]
    simp only [TP2.hdTok, Bool.and_eq_true, Bool.not_eq_true', List.contains_cons, List.contains_nil, Bool.or_false, Bool.or_eq_false_iff,
      beq_eq_false_iff_ne, ne_eq] at hd
    simpa [Tok.srcEqUp] using hd.2.2
include ihe ihq in
theorem un_rec (hch : SpOK d sp) : ∀ us, szUn us ≤ n + 1 → FragUn d us = true → UnRec d sp us := by
  intro us
  induction us with
  | nil => intro _ _; trivial
  | cons p r ihu =>
    obtain ⟨t, s⟩ := p
    intro hs hf
    simp only [szUn] at hs
    simp only [FragUn, Bool.and_eq_true] at hf
    exact ⟨hf.1.1, srec n ihe ihq hch s (by omega) hf.1.2, ihu (by omega) hf.2⟩
include ihe ihq in
theorem query_step (hch : SpOK d sp) : ∀ q, szQ q ≤ n + 1 → FragQ d q = true → QT d sp q := by
  intro q hs hf
  cases q with
  | single s =>
    simp only [FragQ] at hf; simp only [szQ] at hs
    exact qt_single s (srec n ihe ihq hch s (by omega) hf)
  | union ws s us =>
    simp only [szQ] at hs
    cases ws with
    | none => simp [FragQ] at hf
    | some l =>
      cases l with
      | cons _ _ => simp [FragQ] at hf
      | nil =>
        simp only [FragQ, Bool.and_eq_true, Bool.not_eq_true', Bool.true_and] at hf
        exact qt_union s us (srec n ihe ihq hch s (by omega) hf.1.1) (un_rec n ihe ihq hch us (by omega) hf.1.2) hf.2
end step

theorem all (hch : SpOK d sp) : ∀ n, (∀ e, szE3 e ≤ n → FragE3 d e = true → RT3 d sp e) ∧ (∀ q, szQ q ≤ n → FragQ d q = true → QT d sp q) := by
  intro n
  induction n with
  | zero =>
    refine ⟨fun e he => ?_, fun q hq => ?_⟩
    · have := szE3_pos e; omega
    · cases q <;> simp [szQ] at hq
  | succ n ih => exact ⟨expr_step hch.bang n ih.1 ih.2, query_step n ih.1 ih.2 hch⟩
theorem rt3 (hch : SpOK d sp) (e : Expr) (hf : FragE3 d e = true) : RT3 d sp e := (all hch (szE3 e)).1 e (Nat.le_refl _) hf
theorem qt (hch : SpOK d sp) (q : Query) (hf : FragQ d q = true) : QT d sp q := (all hch (szQ q)).2 q (Nat.le_refl _) hf
theorem srec_of (hch : SpOK d sp) (s : Select) (hf : FragS3 d s = true) : SRec d sp s :=
  srec (szS3 s) (fun e _ h => rt3 hch e h) (fun q _ h => qt hch q h) hch s (by omega) hf
theorem unrec_of (hch : SpOK d sp) (us : List (String × Select)) (hf : FragUn d us = true) : UnRec d sp us :=
  un_rec (szUn us) (fun e _ h => rt3 hch e h) (fun q _ h => qt hch q h) hch us (by omega) hf

/-- `_parse_select_statement` with the WITH slot already consumed (as `pStatement` calls it) -/
theorem stmt_some (hsp : SpOK d sp) (q : Query) (hq : FragQ d q = true) (rest : List Tok) (hr : stopsQ d rest = true) :
    OkAt (fun f => pSelectStmt d f (some []) (toksQ d sp q ++ rest)) (20 * sizeL (toksQ d sp q) + 9) (q, rest) := by
  cases q with
  | single s =>
    simp only [FragQ] at hq
    have := stmt_core (some []) (Or.inr rfl) s [] (srec_of hsp s hq) trivial rest hr
    simpa [toksQ, toksUn] using this
  | union ws s us =>
    cases ws with
    | none => simp [FragQ] at hq
    | some l =>
      cases l with
      | cons _ _ => simp [FragQ] at hq
      | nil =>
        simp only [FragQ, Bool.and_eq_true, Bool.not_eq_true', Bool.true_and] at hq
        have := stmt_core (some []) (Or.inr rfl) s us (srec_of hsp s hq.1.1) (unrec_of hsp us hq.1.2) rest hr
        simpa [toksQ, hq.2] using this
theorem toksQ_head (hsp : SpOK d sp) (q : Query) (hq : FragQ d q = true) : ∃ x, toksQ d sp q = opTok "SELECT" :: x :=
  (qt hsp q hq).head

end TSP
