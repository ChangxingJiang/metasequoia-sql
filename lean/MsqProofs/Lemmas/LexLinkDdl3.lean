import MsqProofs.Lemmas.LexLinkDdl2
/-!
# The printed CREATE TABLE text and the two pre-passes

The walk of `LexLinkDdl1.lean` at the two kits in use:

* `plainKit` — `lx_createMy` / `lx_createHive` (the link in context) and `allP_createMy` / `allP_createHive`: every character of `createL d c`
  is left alone by the lexer's own pre-pass (TAB / CR / U+3000); the payload condition `QMy` / `QHive` follows from `LeafC`;
* `occKit` — `occ_createHive`: `==` does not occur in the Hive rendering unless a payload contains it (`NoEqC`), so the Hive dialect pre-pass
  (`==` → `=`, a whole-text replacement — findings F-C06-1/2) leaves the text alone.
-/
namespace LD
open Lex Spec C05 C06 C09 Ast TP TS TD LexLink

def PAll (us : P) : Prop := ∀ u ∈ us, allP u = true
theorem PAll.append {us vs : P} (h1 : PAll us) (h2 : PAll vs) : PAll (us ++ vs) := by
  intro x hx; rcases List.mem_append.mp hx with hx | hx; exact h1 x hx; exact h2 x hx

theorem allP_app {a b : List Char} (ha : allP a = true) (hb : allP b = true) : allP (a ++ b) = true := by
  simp only [allP, List.all_append, Bool.and_eq_true] at ha hb ⊢; exact ⟨ha, hb⟩
theorem allP_cons {c : Char} {b : List Char} (hc : plain c = true) (hb : allP b = true) : allP (c :: b) = true := by
  simp only [allP, List.all_cons, Bool.and_eq_true] at hb ⊢; exact ⟨hc, hb⟩
theorem allP_lit (s : String) (h : s.toList.all plain = true) : allP s.toList = true := h

theorem kd_plain : KD plainKit := ⟨plainL_allP, fun _ _ ha hb _ _ => allP_app ha (allP_cons (by decide) hb)⟩

theorem optQ_plain (o : Option String) (h : optSrcLex o) : optQ plainKit o := by
  cases o with
  | none => trivial
  | some s => exact allP_src s h
theorem qe_plain (d : Gen.D) (e : Expr) : QE plainKit d e := plain_items
theorem optQE_plain (d : Gen.D) (o : Option Expr) : optQE plainKit d o := by
  cases o with
  | none => trivial
  | some e => exact qe_plain d e

theorem qcol_plain {d : Gen.D} {c : DefCol} (hl : LeafCol d c) : QCol plainKit d c where
  name := nameLex_allP hl.name
  params := fun _ _ e _ => qe_plain d e
  comment := optQ_plain _ hl.comment
  charset := fun _ => optQ_plain _ hl.charset
  collate := fun _ => optQ_plain _ hl.collate
  gen := fun _ g _ => qe_plain d g.e
  dflt := fun _ => optQE_plain d _
  onUp := fun _ => optQE_plain d _
theorem qidx_plain {i : Index} (hl : LeafIdx i) : QIdx plainKit i :=
  ⟨optQ_plain _ hl.name, fun c hc => nameLex_allP (hl.cols c hc), optQ_plain _ hl.using_, optQ_plain _ hl.comment⟩
theorem qfk_plain {k : ForeignKey} (hl : LeafFk k) : QFk plainKit k :=
  ⟨allP_src _ hl.constraint, fun n hn => allP_src n (hl.slave n hn), allP_src _ hl.master, fun n hn => allP_src n (hl.masterCols n hn)⟩

/-- the column, key and foreign-key texts with both facts (the ALTER TABLE clauses use them) -/
theorem plain_defCol (d : Gen.D) (c : DefCol) (hf : TD.colOK d c = true) (hl : LeafCol d c) : Pc plainKit (defColL d c) (toksDefCol d c) :=
  pc_defCol kd_plain d c hf hl (qcol_plain hl)
theorem plain_index (i : Index) (hc : i.cols.all idxColOK = true) (hk : optIntOK i.keyBlockSize = true) (hl : LeafIdx i) :
    Pc plainKit (indexL i) (toksIndex i) := pc_index kd_plain i hc hk hl (qidx_plain hl)
theorem plain_fk (k : ForeignKey) (hf : fkOK k = true) (hl : LeafFk k) : Pc plainKit (fkL k) (toksFk k) := pc_fk kd_plain k hf hl (qfk_plain hl)

theorem plain_createMy (c : CreateTable) (hf : FragCreate .MYSQL c = true) (hl : LeafC .MYSQL c) :
    Pc plainKit (createL .MYSQL c) (toksCreate .MYSQL c) :=
  pc_createMy kd_plain c hf hl
    { table := nameLex_allP (nameLex_tbl c.table hl.schema hl.table), cols := fun x hx => qcol_plain (hl.cols x hx),
      pk := fun i hi => qidx_plain (hl.pk i hi), uk := fun i hi => qidx_plain (hl.uk i hi), key := fun i hi => qidx_plain (hl.key i hi),
      ft := fun i hi => qidx_plain (hl.ft i hi), fk := fun k hk => qfk_plain (hl.fk k hk), engine := optQ_plain _ hl.engine,
      charset := optQ_plain _ hl.charset, collate := optQ_plain _ hl.collate, rowFormat := optQ_plain _ hl.rowFormat,
      stats := optQ_plain _ hl.stats, comment := optQ_plain _ hl.comment }
theorem plain_createHive (c : CreateTable) (hf : FragCreate .HIVE c = true) (hl : LeafC .HIVE c) :
    Pc plainKit (createL .HIVE c) (toksCreate .HIVE c) :=
  pc_createHive kd_plain c hf hl
    { table := nameLex_allP (nameLex_tbl c.table hl.schema hl.table), cols := fun x hx => qcol_plain (hl.cols x hx),
      parts := fun x hx => qcol_plain (hl.parts x hx), comment := optQ_plain _ hl.comment, serde := optQ_plain _ hl.serde,
      delimited := optQ_plain _ hl.delimited, inputformat := optQ_plain _ hl.inputformat, outputformat := optQ_plain _ hl.outputformat,
      location := optQ_plain _ hl.location, props := fun p hp => ⟨allP_src _ (hl.props p hp).1, allP_src _ (hl.props p hp).2⟩ }

theorem lx_createMy (c : CreateTable) (hf : FragCreate .MYSQL c = true) (hl : LeafC .MYSQL c) :
    Lx (createL .MYSQL c) (toksCreate .MYSQL c) := (plain_createMy c hf hl).lx
theorem allP_createMy (c : CreateTable) (hf : FragCreate .MYSQL c = true) (hl : LeafC .MYSQL c) : allP (createL .MYSQL c) = true :=
  (plain_createMy c hf hl).q
theorem lx_createHive (c : CreateTable) (hf : FragCreate .HIVE c = true) (hl : LeafC .HIVE c) :
    Lx (createL .HIVE c) (toksCreate .HIVE c) := (plain_createHive c hf hl).lx
theorem allP_createHive (c : CreateTable) (hf : FragCreate .HIVE c = true) (hl : LeafC .HIVE c) : allP (createL .HIVE c) = true :=
  (plain_createHive c hf hl).q

open C01 (occ)

def POcc (us : P) : Prop := ∀ u ∈ us, occ u = false
theorem POcc.append {us vs : P} (h1 : POcc us) (h2 : POcc vs) : POcc (us ++ vs) := by
  intro x hx; rcases List.mem_append.mp hx with hx | hx; exact h1 x hx; exact h2 x hx

def optNoEq : Option String → Prop
  | none => True
  | some s => occ s.toList = false
structure NoEqCol (c : DefCol) : Prop where
  name : occ c.name.toList = false
  params : ∀ ps, c.type.params = some ps → ∀ e ∈ ps, C01.noEqEq e
  comment : optNoEq c.comment

structure NoEqC (c : CreateTable) : Prop where
  table : occ (tblStr c.table).toList = false
  cols : ∀ x ∈ c.columns, NoEqCol x
  parts : ∀ x ∈ c.partitionedBy, NoEqCol x
  comment : optNoEq c.comment
  serde : optNoEq c.rowFormatSerde
  delimited : optNoEq c.rowFormatDelimited
  inputformat : optNoEq c.storedAsInputformat
  outputformat : optNoEq c.outputformat
  location : optNoEq c.location
  props : ∀ p ∈ c.tblproperties, occ p.name.toList = false ∧ occ p.value.toList = false

theorem occ_eqJoin (a b : List Char) (ha : occ a = false) (hb : occ b = false) (hla : ∀ x, a.getLast? = some x → x ≠ '=')
    (hhb : ∀ x, b.head? = some x → x ≠ '=') : occ (a ++ '=' :: b) = false := by
  induction a with
  | nil =>
    cases b with
    | nil => rfl
    | cons y r =>
      have hy : (y == '=') = false := by simpa using hhb y rfl
      have : (some y == some '=') = false := by simpa using hhb y rfl
      simp only [List.nil_append, occ, List.head?_cons, this, Bool.and_false, Bool.false_or]
      exact hb
  | cons x a' ih =>
    cases a' with
    | nil =>
      have hx : (x == '=') = false := by simpa using hla x rfl
      have h0 := ih rfl (by intro z hz; cases hz)
      simp only [List.cons_append, List.nil_append] at h0 ⊢
      rw [C01.occ_cons2, hx, h0]; rfl
    | cons y a'' =>
      simp only [C01.occ_cons2, Bool.or_eq_false_iff] at ha
      have h0 := ih ha.2 (by intro z hz; exact hla z (by simpa using hz))
      simp only [List.cons_append] at h0 ⊢
      rw [C01.occ_cons2, ha.1, h0]; rfl

theorem kd_occ : KD occKit := ⟨occ_plainL, occ_eqJoin⟩

theorem optQ_occ (o : Option String) (h : optNoEq o) : optQ occKit o := by
  cases o with
  | none => trivial
  | some s => exact h

theorem qcol_occ {c : DefCol} (hf : TD.colOK .HIVE c = true) (hq : NoEqCol c) : QCol occKit .HIVE c where
  name := hq.name
  params := fun ps hps e he _ => by
    have ht : typeOK .HIVE c.type = true := by simp only [TD.colOK, Bool.and_eq_true] at hf; exact hf.1.2
    simp only [typeOK, hps, Bool.and_eq_true, Bool.not_eq_eq_eq_not, Bool.not_true, List.all_eq_true] at ht
    have hfe : Frag .HIVE e = true := ht.1.2 e he
    exact noEq_bridge e hfe (hq.params ps hps e he)
  comment := optQ_occ _ hq.comment
  charset := fun h => nomatch h
  collate := fun h => nomatch h
  gen := fun h => nomatch h
  dflt := fun h => nomatch h
  onUp := fun h => nomatch h

theorem occ_createHive (c : CreateTable) (hf : FragCreate .HIVE c = true) (hl : LeafC .HIVE c) (hq : NoEqC c) :
    occ (createL .HIVE c) = false := by
  have hm : (Gen.D.HIVE == Gen.D.MYSQL) = false := rfl
  have hf' := hf
  simp only [FragCreate, hm, Bool.false_eq_true, if_false, Bool.and_eq_true, List.all_eq_true] at hf'
  exact (pc_createHive kd_occ c hf hl
    { table := hq.table, cols := fun x hx => qcol_occ (hf'.1.1.2 x hx) (hq.cols x hx),
      -- `hf'.2.1.1.1.1.1.1.1.1.2`: the conjunct on `partitionedBy` of `FragCreate`
      parts := fun x hx => qcol_occ (hf'.2.1.1.1.1.1.1.1.1.2 x hx) (hq.parts x hx), comment := optQ_occ _ hq.comment,
      serde := optQ_occ _ hq.serde, delimited := optQ_occ _ hq.delimited, inputformat := optQ_occ _ hq.inputformat,
      outputformat := optQ_occ _ hq.outputformat, location := optQ_occ _ hq.location, props := hq.props }).q

end LD
