import MsqProofs.Lemmas.TParse2_0
/-!
# T-parse, larger fragment: the level statements in front of a continuation that does not start with `OVER` (C02 / C01)

`stopLE2` (additionally: the head of the continuation is not `OVER`) in the place of `stopLE`: `Full2`, `Cont2`, `Tower2` are the forms of
MsqProofs/Lemmas/TCoreLift.lean at the flag `true` (`fullO_true`, `contO_true`, `towerO_true`), and the lifts are read off there.
-/
open Lex PM Ast TP
namespace TP2
variable (d : Gen.D)

def Full2 (p : Nat → List Tok → R Expr) (L off : Nat) (ts : List Tok) (x : Expr) : Prop :=
  ∀ rest, stopLE2 d L rest = true → OkAt (fun f => p f (ts ++ rest)) (20 * sizeL ts + off) (x, rest)
def Cont2 (p : Nat → List Tok → R Expr) (loop : Nat → Expr → List Tok → R Expr) (L off : Nat) (ts : List Tok) (x : Expr) : Prop :=
  ∀ rest, stopLE2 d L rest = true → ∀ n res, OkAt (fun f => loop f x rest) n res → OkAt (fun f => p f (ts ++ rest)) (n + 20 * sizeL ts + off) res
variable {d}
theorem Full2.of {p L off ts x} (h : Full d p L off ts x) : Full2 d p L off ts x := fun rest hr => h rest (sl hr)
theorem Cont2.of {p loop L off ts x} (h : Cont d p loop L off ts x) : Cont2 d p loop L off ts x := fun rest hr => h rest (sl hr)

variable (d)
structure Tower2 (L0 : Nat) (ts : List Tok) (x : Expr) : Prop where
  s2 : L0 ≤ 2 → Full2 d (P2 d) 2 0 ts x
  s8 : L0 ≤ 8 → Full2 d (P8 d) 8 2 ts x
  c9 : L0 ≤ 9 → Cont2 d (P9 d) (kwLoop d) 8 4 ts x
  s9 : L0 ≤ 9 → Full2 d (P9 d) 9 6 ts x
  c10 : L0 ≤ 10 → Cont2 d (P10 d) (fun f => pCompareLoop d f) 9 7 ts x
  s10 : L0 ≤ 10 → Full2 d (P10 d) 10 8 ts x
  s11 : L0 ≤ 11 → Full2 d (P11 d) 11 9 ts x
  c12 : L0 ≤ 12 → Cont2 d (P12 d) (fun f => pAndLoop d f) 11 10 ts x
  s12 : L0 ≤ 12 → Full2 d (P12 d) 12 11 ts x
  c13 : L0 ≤ 13 → Cont2 d (P13 d) (fun f => pXorLoop d f) 12 12 ts x
  s13 : L0 ≤ 13 → Full2 d (P13 d) 13 13 ts x
  c14 : Cont2 d (P14 d) (fun f => pOrLoop d f) 13 14 ts x
  s14 : Full2 d (P14 d) 14 15 ts x
variable {d}
end TP2

namespace TC
open TP2
variable {d : Gen.D}
theorem stopO_true {L : Nat} {rest : List Tok} : StopO d true L rest ↔ stopLE2 d L rest = true := by
  simp only [StopO, stopLE2, Bool.and_eq_true, Bool.not_eq_true', forall_const]
theorem fullO_true {p L off ts x} : FullO d true p L off ts x ↔ Full2 d p L off ts x :=
  ⟨fun h rest hr => h rest (stopO_true.2 hr), fun h rest hr => h rest (stopO_true.1 hr)⟩
theorem contO_true {p loop L off ts x} : ContO d true p loop L off ts x ↔ Cont2 d p loop L off ts x :=
  ⟨fun h rest hr => h rest (stopO_true.2 hr), fun h rest hr => h rest (stopO_true.1 hr)⟩
theorem towerO_true {L0 ts x} : TowerO d true L0 ts x ↔ Tower2 d L0 ts x :=
  ⟨fun T => ⟨fun g => fullO_true.1 (T.s2 g), fun g => fullO_true.1 (T.s8 g), fun g => contO_true.1 (T.c9 g), fun g => fullO_true.1 (T.s9 g),
     fun g => contO_true.1 (T.c10 g), fun g => fullO_true.1 (T.s10 g), fun g => fullO_true.1 (T.s11 g), fun g => contO_true.1 (T.c12 g),
     fun g => fullO_true.1 (T.s12 g), fun g => contO_true.1 (T.c13 g), fun g => fullO_true.1 (T.s13 g), contO_true.1 T.c14, fullO_true.1 T.s14⟩,
   fun T => ⟨fun g => fullO_true.2 (T.s2 g), fun g => fullO_true.2 (T.s8 g), fun g => contO_true.2 (T.c9 g), fun g => fullO_true.2 (T.s9 g),
     fun g => contO_true.2 (T.c10 g), fun g => fullO_true.2 (T.s10 g), fun g => fullO_true.2 (T.s11 g), fun g => contO_true.2 (T.c12 g),
     fun g => fullO_true.2 (T.s12 g), fun g => contO_true.2 (T.c13 g), fun g => fullO_true.2 (T.s13 g), contO_true.2 T.c14, fullO_true.2 T.s14⟩⟩
end TC

namespace TP2
open TC (fullO_true contO_true towerO_true)
variable {d : Gen.D}
theorem Tower2.of2 {ts x} (h : Full2 d (P2 d) 2 0 ts x) (hd : HeadOK d ts) : Tower2 d 2 ts x := towerO_true.1 (.of2 (fullO_true.2 h) hd)
theorem Tower2.of8 {ts x} (h : Full2 d (P8 d) 8 2 ts x) (hd : HeadOK d ts) : Tower2 d 8 ts x := towerO_true.1 (.of8 (fullO_true.2 h) hd)
theorem Tower2.of9 {ts x} (h : Cont2 d (P9 d) (kwLoop d) 8 4 ts x) (hd : HeadOK d ts) : Tower2 d 9 ts x := towerO_true.1 (.of9 (contO_true.2 h) hd)
theorem Tower2.of10 {ts x} (h : Cont2 d (P10 d) (fun f => pCompareLoop d f) 9 7 ts x) (hd : HeadOK d ts) : Tower2 d 10 ts x :=
  towerO_true.1 (.of10 (contO_true.2 h) hd)
theorem Tower2.of11 {ts x} (h : Full2 d (P11 d) 11 9 ts x) : Tower2 d 11 ts x := towerO_true.1 (.of11 (fullO_true.2 h))
theorem Tower2.of12 {ts x} (h : Cont2 d (P12 d) (fun f => pAndLoop d f) 11 10 ts x) : Tower2 d 12 ts x := towerO_true.1 (.of12 (contO_true.2 h))
theorem Tower2.of13 {ts x} (h : Cont2 d (P13 d) (fun f => pXorLoop d f) 12 12 ts x) : Tower2 d 13 ts x := towerO_true.1 (.of13 (contO_true.2 h))
theorem Tower2.of14 {ts x} (h : Cont2 d (P14 d) (fun f => pOrLoop d f) 13 14 ts x) : Tower2 d 14 ts x := towerO_true.1 (.of14 (contO_true.2 h))
theorem Tower2.weaken {ts x} {L0 L1 : Nat} (T : Tower2 d L0 ts x) (h : L0 ≤ L1) : Tower2 d L1 ts x :=
  towerO_true.1 ((towerO_true.2 T).weaken h)
theorem Tower2.at {e : Expr} {ts : List Tok} (own : Tower2 d (PR.lvl e) ts e) (wrapped : Tower2 d 2 [grp ts] e) (x : Bool) (L : Nat) (hL : 2 ≤ L) :
    Tower2 d L (wrapT x e L ts) e := by
  unfold wrapT
  split
  · exact wrapped.weaken hL
  · rename_i hle
    have : ¬ PR.lvl e > L := fun h => hle (Or.inl h)
    exact own.weaken (by omega)
theorem grp_hdTok (cs : List Tok) : hdTok (grp cs) = true := by
  have h2 : (up (grp cs).src).toList.head? = some '(' := by simp [toList_up_grp]
  have a : ["WHEN", "DISTINCT"].contains (up (grp cs).src) = false := not_contains_of_head h2 (by decide)
  simp only [hdTok, grp_startTok, a]; rfl
theorem headW {e : Expr} {ts : List Tok} (head : ∃ t ts', ts = t :: ts' ∧ hdTok t = true ∧ (TQ.lvlH e ≤ 10 → operandTok d t = true))
    (x : Bool) (L : Nat) :
    ∃ t ts', wrapT x e L ts = t :: ts' ∧ hdTok t = true ∧ ((TQ.lvlH e ≤ 10 ∨ L < PR.lvl e) → operandTok d t = true) := by
  unfold wrapT
  split
  · refine ⟨grp _, [], rfl, grp_hdTok _, fun _ => ?_⟩
    obtain ⟨t, ts', h1, h2⟩ := grp_headOK (d := d) ts
    simp only [List.cons.injEq] at h1
    rw [h1.1]; exact h2
  · rename_i hle
    have : ¬ PR.lvl e > L := fun h => hle (Or.inl h)
    obtain ⟨t, ts', h1, h2, h3⟩ := head
    exact ⟨t, ts', h1, h2, fun hh => h3 (by rcases hh with hh | hh; exact hh; omega)⟩

end TP2
