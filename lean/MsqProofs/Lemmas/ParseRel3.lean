import MsqProofs.Lemmas.ParseRel0
/-!
# Relational reading of the parser model: the look-aheads and pure helpers of the parser on two related cursors

One lemma per primitive of `MsqModel/Parse/Prim.lean` / helper of `Expr.lean` that is not a run, each with a `grind_pattern` on the term
for the FIRST cursor.  A comparison with a constant `k` needs `T.plain k = true`: for the constants of the model `grind` has one rule each
(`plainT_<WORD>` for a word, `plainT_k<n>` for punctuation, `plainT_l<n>` for a list of constants: head of `ParseRelHelpers.lean`, from the
facts `plainB k = true` of `ParseSubstKw.lean`).
-/
set_option linter.unusedSectionVars false
open Lex Ast PMQ
namespace PM.Rel

variable [T : Theory]

theorem all_plain {ks : List String} (h : ks.all plainB = true) : ks.all T.plain = true :=
  List.all_eq_true.2 fun k hk => T.plain_of k (List.all_eq_true.1 h k hk)
theorem all_plain_tbl {tbl : List (String × List String)} (h : (tbl.all fun e => e.2.all plainB) = true) : (tbl.all fun e => e.2.all T.plain) = true :=
  List.all_eq_true.2 fun e he => all_plain (List.all_eq_true.1 h e he)

omit T in
theorem closed_rel {α : Type} {E : Tok → Tok → Prop} {rv : α → α → Prop} {a b : R α} (h : GER E rv a b) : GEX rv (closed a) (closed b) := by
  match a, b, h with
  | .ok (v, r), .ok (v', r'), h =>
    simp at h
    cases r <;> cases r' <;> simp_all [closed]
  | .error e, .error e', h => simp at h; simp [closed, h]
  | .ok (_, _), .error _, h => simp at h
  | .error _, .ok (_, _), h => simp at h
grind_pattern closed_rel => GER E rv a b, closed a

theorem g_kwRel_strEq {k k' : String} (h : T.kwRel k k') (w : String) (hw : T.plain w = true) : strEq k w = strEq k' w := T.kw_strEq h w hw
grind_pattern g_kwRel_strEq => T.kwRel k k', strEq k w
/-- a related (schema, name) pair: what `pFunc` tests and what `callNode` / `pTableName` store -/
theorem g_fn {s s' : Option String} {n n' : String} (h : T.fnRel (s, n) (s', n')) :
    s.map T.m = s'.map T.m ∧ T.m n = T.m n' ∧ s.isNone = s'.isNone ∧ strEq (up n) "CAST" = strEq (up n') "CAST" ∧
    strEq (up n) "EXTRACT" = strEq (up n') "EXTRACT" ∧ strEq (up n) "IF" = strEq (up n') "IF" := by
  have h1 := (T.fn_m h).1
  refine ⟨h1, (T.fn_m h).2, ?_, T.fn_word h _ (by decide), T.fn_word h _ (by decide), T.fn_word h _ (by decide)⟩
  cases s <;> cases s' <;> simp_all
grind_pattern g_fn => T.fnRel (s, n) (s', n')
theorem g_fn_names {a a' c c' : Tok} (ha : T.E a a') (hc : T.E c c') (h1 : a.has NAME = true) (h2 : c.has NAME = true) :
    T.fnRel (some (unifyName a.src), unifyName c.src) (some (unifyName a'.src), unifyName c'.src) := T.fn_names ha h1 hc h2
grind_pattern g_fn_names => T.E a a', T.E c c', T.fnRel (some (unifyName a.src), unifyName c.src) (some (unifyName a'.src), unifyName c'.src)
theorem g_m2_app {a a' b b' : String} (h1 : T.m2 a = T.m2 a') (h2 : T.m2 b = T.m2 b') : T.m2 (a ++ b) = T.m2 (a' ++ b') := T.m2_append h1 h2
grind_pattern g_m2_app => T.m2 a, T.m2 a', T.m2 (a ++ b), T.m2 (a' ++ b')
theorem g_has {t t' : Tok} (h : T.E t t') (m : Nat) : t.has m = t'.has m := T.has h m
grind_pattern g_has => T.E t t', Tok.has t m
theorem g_src {t t' : Tok} (h : T.E t t') : T.m t.src = T.m t'.src := T.src h
grind_pattern g_src => T.E t t', Tok.src t
theorem g_srcEqUp {t t' : Tok} (h : T.E t t') (k : String) (hk : T.plain k = true) : t.srcEqUp k = t'.srcEqUp k := T.srcEqUp h k hk
grind_pattern g_srcEqUp => T.E t t', Tok.srcEqUp t k
theorem g_srcEq {t t' : Tok} (h : T.E t t') (k : String) (hk : opLit k = true) : t.srcEq k = t'.srcEq k := T.srcEq h k hk
grind_pattern g_srcEq => T.E t t', Tok.srcEq t k
@[grind =] theorem opLit_comma : opLit "," = true := by decide
@[grind =] theorem opLit_dot : opLit "." = true := by decide
@[grind =] theorem opLit_semi : opLit ";" = true := by decide
@[grind =] theorem opLit_star : opLit "*" = true := by decide
@[grind =] theorem opLit_eq : opLit "=" = true := by decide
@[grind =] theorem opLit_minus : opLit "-" = true := by decide
theorem g_equalsStr {t t' : Tok} (h : T.E t t') (k : String) (hk : T.plain k = true) : t.equalsStr k = t'.equalsStr k := T.equalsStr h k hk
grind_pattern g_equalsStr => T.E t t', Tok.equalsStr t k
theorem g_strEq_up {t t' : Tok} (h : T.E t t') (k : String) (hk : T.plain k = true) : strEq (up t.src) k = strEq (up t'.src) k := T.strEqUp h k hk
grind_pattern g_strEq_up => T.E t t', strEq (up (Tok.src t)) k
theorem g_kwRel {t t' : Tok} (h : T.E t t') : T.kwRel (up t.src) (up t'.src) := T.kw h
grind_pattern g_kwRel => T.E t t', up (Tok.src t)
theorem g_children {t t' : Tok} (h : T.E t t') : GEL T.E t.children t'.children := T.children h
grind_pattern g_children => T.E t t', Tok.children t
theorem g_unarySet {t t' : Tok} (h : T.E t t') (d : Gen.D) : (Gen.unarySet d).contains t.src = (Gen.unarySet d).contains t'.src := T.unarySet h d
grind_pattern g_unarySet => T.E t t', (Gen.unarySet d).contains (Tok.src t)
theorem g_notSet {t t' : Tok} (h : T.E t t') (d : Gen.D) : (Gen.notSet d).contains (up t.src) = (Gen.notSet d).contains (up t'.src) :=
  T.containsUp h _ (all_plain (by cases d <;> decide))
grind_pattern g_notSet => T.E t t', (Gen.notSet d).contains (up (Tok.src t))
/-- the alias guard of `_parse_alias_expression`: applied to the RAW source, so a back-quoted `` `cross` `` is never one of the words -/
theorem g_aliasGuard {t t' : Tok} (h : T.E t t') :
    ["CROSS", "USING", "SORT", "DISTRIBUTE", "CLUSTER"].contains (up t.src) = ["CROSS", "USING", "SORT", "DISTRIBUTE", "CLUSTER"].contains (up t'.src) :=
  T.containsUp h _ (all_plain (by decide))
grind_pattern g_aliasGuard => T.E t t', ["CROSS", "USING", "SORT", "DISTRIBUTE", "CLUSTER"].contains (up (Tok.src t))
theorem g_compareOp {t t' : Tok} (h : T.E t t') : compareOp? t.src = compareOp? t'.src := T.compareOp h
grind_pattern g_compareOp => T.E t t', compareOp? (Tok.src t)
theorem g_computeOp {t t' : Tok} (h : T.E t t') : computeOp? (up t.src) = computeOp? (up t'.src) := T.computeOp h
grind_pattern g_computeOp => T.E t t', computeOp? (up (Tok.src t))
/-- `EnumCastDataType`: the member whose word the token is (case-insensitively) -/
theorem g_castTypes {t t' : Tok} (h : T.E t t') :
    Gen.castTypes.find? (fun k => t.equalsStr k.2) = Gen.castTypes.find? (fun k => t'.equalsStr k.2) := by
  have : ∀ (l : List (String × String)), (l.all fun e => plainB e.2) = true →
      l.find? (fun k => t.equalsStr k.2) = l.find? (fun k => t'.equalsStr k.2) := by
    intro l hl
    induction l with
    | nil => rfl
    | cons e l ih =>
      simp only [List.all_cons, Bool.and_eq_true] at hl
      simp only [List.find?_cons, T.equalsStr h e.2 (T.plain_of _ hl.1), ih hl.2]
  exact this _ (by decide)
grind_pattern g_castTypes => T.E t t', Gen.castTypes.find? (fun k => t.equalsStr k.2)
theorem g_pyInt {t t' : Tok} (h : T.E t t') : pyInt t.src = pyInt t'.src := T.pyInt h
grind_pattern g_pyInt => T.E t t', pyInt (Tok.src t)
theorem g_asInt {t t' : Tok} (h : T.E t t') : asInt t.src = asInt t'.src := T.asInt h
grind_pattern g_asInt => T.E t t', asInt (Tok.src t)
theorem g_unifyName {t t' : Tok} (h : T.E t t') : T.m (unifyName t.src) = T.m (unifyName t'.src) := T.unify h
grind_pattern g_unifyName => T.E t t', unifyName (Tok.src t)
/-- `_parse_function_name_expression` / `_parse_table_name_expression` on ONE token: only for NAME tokens -/
theorem g_splitName {t t' : Tok} (h : T.E t t') (hn : t.has NAME = true) : GEX T.fnRel (splitName t.src) (splitName t'.src) := T.splitName h hn
grind_pattern g_splitName => T.E t t', splitName (Tok.src t)

section cur
variable {ts ts' : List Tok} (h : GEL T.E ts ts')
include h
theorem gel_searchStrUp (k : String) (hk : T.plain k = true) : searchStrUp ts k = searchStrUp ts' k := by
  cases ts <;> cases ts' <;> simp_all [searchStrUp]; exact T.srcEqUp h.1 k hk
theorem gel_searchStr (k : String) (hk : opLit k = true) : searchStr ts k = searchStr ts' k := by
  cases ts <;> cases ts' <;> simp_all [searchStr]; exact T.srcEq h.1 k hk
theorem gel_searchMark (m : Nat) : searchMark ts m = searchMark ts' m := by
  cases ts <;> cases ts' <;> simp_all [searchMark]; exact T.has h.1 m
theorem gel_searchSetUp (ks : List String) (hk : ks.all T.plain = true) : searchSetUp ts ks = searchSetUp ts' ks := by
  cases ts with
  | nil => rw [gel_nil_left h]
  | cons t r => cases ts' with
    | nil => simp at h
    | cons t' r' => simp at h; simp only [searchSetUp]; exact T.containsUp h.1 ks hk
theorem gel_searchSet_compare : searchSet ts Gen.compareSet = searchSet ts' Gen.compareSet := by
  cases ts with
  | nil => rw [gel_nil_left h]
  | cons t r => cases ts' with
    | nil => simp at h
    | cons t' r' => simp at h; simp only [searchSet]; exact T.compareSet h.1
theorem gel_searchTwoUp (a b : String) (ha : T.plain a = true) (hb : T.plain b = true) : searchTwoUp ts a b = searchTwoUp ts' a b := by
  unfold searchTwoUp
  match ts, ts', h with
  | [], [], _ => rfl
  | [_], [_], _ => rfl
  | x :: y :: _, x' :: y' :: _, h => simp at h; simp [T.srcEqUp h.1 a ha, T.srcEqUp h.2.1 b hb]
  | [], _ :: _, h => simp at h
  | _ :: _, [], h => simp at h
  | [_], _ :: _ :: _, h => simp at h
  | _ :: _ :: _, [_], h => simp at h
theorem gel_searchThreeUp (a b c : String) (ha : T.plain a = true) (hb : T.plain b = true) (hc : T.plain c = true) :
    searchThreeUp ts a b c = searchThreeUp ts' a b c := by
  unfold searchThreeUp
  match ts, ts', h with
  | [], [], _ => rfl
  | [_], [_], _ => rfl
  | [_, _], [_, _], _ => rfl
  | x :: y :: z :: _, x' :: y' :: z' :: _, h => simp at h; simp [T.srcEqUp h.1 a ha, T.srcEqUp h.2.1 b hb, T.srcEqUp h.2.2.1 c hc]
  | [], _ :: _, h => simp at h
  | _ :: _, [], h => simp at h
  | [_], _ :: _ :: _, h => simp at h
  | _ :: _ :: _, [_], h => simp at h
  | [_, _], _ :: _ :: _ :: _, h => simp at h
  | _ :: _ :: _ :: _, [_, _], h => simp at h
theorem gel_searchSeq (ks : List String) (hk : ks.all T.plain = true) : searchSeq ts ks = searchSeq ts' ks := by
  induction ks generalizing ts ts' with
  | nil => simp [searchSeq]
  | cons k ks ih =>
    simp only [List.all_cons, Bool.and_eq_true] at hk
    cases ts <;> cases ts' <;> simp_all [searchSeq]
    rw [T.equalsStr h.1 k hk.1, ih h.2]
theorem gel_startsSelect : startsSelect ts = startsSelect ts' := gel_searchSetUp h _ (all_plain (by decide))
theorem gel_headIsOver : headIsOver ts = headIsOver ts' := by
  cases ts <;> cases ts' <;> simp_all [headIsOver]; exact T.srcEqUp h.1 _ (T.plain_of _ (by decide))
theorem gel_setOpHead : setOpHead ts = setOpHead ts' := by
  cases ts <;> cases ts' <;> simp_all [setOpHead]; simpa using T.containsUp h.1 ["UNION","EXCEPT","INTERSECT","MINUS"] (all_plain (by decide))
theorem gel_joinHead : joinHead ts = joinHead ts' := by
  cases ts <;> cases ts' <;> simp_all [joinHead]; simpa using T.containsUp h.1 ["JOIN","INNER","LEFT","RIGHT","FULL","CROSS"] (all_plain (by decide))
theorem gel_onUsingHead : onUsingHead ts = onUsingHead ts' := by
  cases ts <;> cases ts' <;> simp_all [onUsingHead]; simpa using T.containsUp h.1 ["ON","USING"] (all_plain (by decide))
theorem gel_chainsOn : chainsOn ts = chainsOn ts' := by
  cases ts <;> cases ts' <;> simp_all [chainsOn]
  simpa using T.containsUp h.1 ["NOT","BETWEEN","IS","IN","LIKE","RLIKE","REGEXP"] (all_plain (by decide))
theorem gel_skipNot (d : Gen.D) : (skipNot d ts).1 = (skipNot d ts').1 ∧ GEL T.E (skipNot d ts).2 (skipNot d ts').2 := by
  cases ts with
  | nil => rw [gel_nil_left h]; simp [skipNot]
  | cons t r => cases ts' with
    | nil => simp at h
    | cons t' r' =>
      simp at h; simp only [skipNot]
      rw [g_notSet h.1 d]; split <;> simp_all
theorem gel_moveStrUp (k : String) (hk : T.plain k = true) : (moveStrUp ts k).1 = (moveStrUp ts' k).1 ∧ GEL T.E (moveStrUp ts k).2 (moveStrUp ts' k).2 := by
  unfold moveStrUp; rw [gel_searchStrUp h k hk]; split <;> first | exact ⟨rfl, gel_drop h _⟩ | exact ⟨rfl, h⟩
theorem gel_moveStr (k : String) (hk : opLit k = true) : (moveStr ts k).1 = (moveStr ts' k).1 ∧ GEL T.E (moveStr ts k).2 (moveStr ts' k).2 := by
  unfold moveStr; rw [gel_searchStr h k hk]; split <;> first | exact ⟨rfl, gel_drop h _⟩ | exact ⟨rfl, h⟩
theorem gel_moveSetUp (ks : List String) (hk : ks.all T.plain = true) : (moveSetUp ts ks).1 = (moveSetUp ts' ks).1 ∧ GEL T.E (moveSetUp ts ks).2 (moveSetUp ts' ks).2 := by
  unfold moveSetUp; rw [gel_searchSetUp h ks hk]; split <;> first | exact ⟨rfl, gel_drop h _⟩ | exact ⟨rfl, h⟩
theorem gel_moveSeq (ks : List String) (hk : ks.all T.plain = true) : (moveSeq ts ks).1 = (moveSeq ts' ks).1 ∧ GEL T.E (moveSeq ts ks).2 (moveSeq ts' ks).2 := by
  unfold moveSeq; rw [gel_searchSeq h ks hk]; split <;> first | exact ⟨rfl, gel_drop h _⟩ | exact ⟨rfl, h⟩
theorem gel_moveTwoUp (a b : String) (ha : T.plain a = true) (hb : T.plain b = true) :
    (moveTwoUp ts a b).1 = (moveTwoUp ts' a b).1 ∧ GEL T.E (moveTwoUp ts a b).2 (moveTwoUp ts' a b).2 := by
  unfold moveTwoUp; rw [gel_searchTwoUp h a b ha hb]; split <;> first | exact ⟨rfl, gel_drop h _⟩ | exact ⟨rfl, h⟩
theorem gel_moveThreeUp (a b c : String) (ha : T.plain a = true) (hb : T.plain b = true) (hc : T.plain c = true) :
    (moveThreeUp ts a b c).1 = (moveThreeUp ts' a b c).1 ∧ GEL T.E (moveThreeUp ts a b c).2 (moveThreeUp ts' a b c).2 := by
  unfold moveThreeUp; rw [gel_searchThreeUp h a b c ha hb hc]; split <;> first | exact ⟨rfl, gel_drop h _⟩ | exact ⟨rfl, h⟩
/-- `for m in Enum: if search_and_move(*m.value)`: the same member, related rests -/
theorem gel_firstEnum (tbl : List (String × List String)) (ht : (tbl.all fun e => e.2.all T.plain) = true) :
    (firstEnum tbl ts = none ∧ firstEnum tbl ts' = none) ∨
    (∃ n r r', firstEnum tbl ts = some (n, r) ∧ firstEnum tbl ts' = some (n, r') ∧ GEL T.E r r') := by
  induction tbl with
  | nil => simp [firstEnum]
  | cons e tbl ih =>
    obtain ⟨n, ks⟩ := e
    simp only [List.all_cons, Bool.and_eq_true] at ht
    simp only [firstEnum, gel_searchSeq h ks ht.1]
    split
    · exact .inr ⟨n, _, _, rfl, rfl, gel_drop h _⟩
    · exact ih ht.2
theorem gel_firstEnum_join :
    (firstEnum Gen.joinTypes ts = none ∧ firstEnum Gen.joinTypes ts' = none) ∨
    (∃ n r r', firstEnum Gen.joinTypes ts = some (n, r) ∧ firstEnum Gen.joinTypes ts' = some (n, r') ∧ GEL T.E r r') :=
  gel_firstEnum h _ (all_plain_tbl (by decide))
theorem gel_firstEnum_union :
    (firstEnum Gen.unionTypes ts = none ∧ firstEnum Gen.unionTypes ts' = none) ∨
    (∃ n r r', firstEnum Gen.unionTypes ts = some (n, r) ∧ firstEnum Gen.unionTypes ts' = some (n, r') ∧ GEL T.E r r') :=
  gel_firstEnum h _ (all_plain_tbl (by decide))
theorem gel_substringRewrite (u u' : String) (hu : strEq u "SUBSTRING" = strEq u' "SUBSTRING") : GEL T.E (substringRewrite u ts) (substringRewrite u' ts') := by
  unfold substringRewrite
  simp only [strEq] at hu
  rw [hu]
  split
  · induction ts generalizing ts' with
    | nil => rw [gel_nil_left h]; simp
    | cons t ts ih =>
      cases ts' with
      | nil => simp at h
      | cons t' ts' =>
        simp at h
        have e1 := T.strEqUp h.1 "FROM" (T.plain_of _ (by decide))
        have e2 := T.strEqUp h.1 "FOR" (T.plain_of _ (by decide))
        simp only [strEq] at e1 e2
        simp only [List.map_cons, gel_cons_cons, e1, e2]
        refine ⟨?_, ih h.2⟩
        split
        · exact T.refl _
        · exact h.1
  · exact h
end cur
grind_pattern gel_searchStrUp => GEL T.E ts ts', searchStrUp ts k
grind_pattern gel_searchStr => GEL T.E ts ts', searchStr ts k
grind_pattern gel_searchMark => GEL T.E ts ts', searchMark ts m
grind_pattern gel_searchSetUp => GEL T.E ts ts', searchSetUp ts ks
grind_pattern gel_searchSet_compare => GEL T.E ts ts', searchSet ts Gen.compareSet
grind_pattern gel_searchTwoUp => GEL T.E ts ts', searchTwoUp ts a b
grind_pattern gel_searchThreeUp => GEL T.E ts ts', searchThreeUp ts a b c
grind_pattern gel_searchSeq => GEL T.E ts ts', searchSeq ts ks
grind_pattern gel_startsSelect => GEL T.E ts ts', startsSelect ts
grind_pattern gel_headIsOver => GEL T.E ts ts', headIsOver ts
grind_pattern gel_setOpHead => GEL T.E ts ts', setOpHead ts
grind_pattern gel_joinHead => GEL T.E ts ts', joinHead ts
grind_pattern gel_onUsingHead => GEL T.E ts ts', onUsingHead ts
grind_pattern gel_chainsOn => GEL T.E ts ts', chainsOn ts
grind_pattern gel_skipNot => GEL T.E ts ts', skipNot d ts
grind_pattern gel_moveStrUp => GEL T.E ts ts', moveStrUp ts k
grind_pattern gel_moveStr => GEL T.E ts ts', moveStr ts k
grind_pattern gel_moveSetUp => GEL T.E ts ts', moveSetUp ts ks
grind_pattern gel_moveSeq => GEL T.E ts ts', moveSeq ts ks
grind_pattern gel_moveTwoUp => GEL T.E ts ts', moveTwoUp ts a b
grind_pattern gel_moveThreeUp => GEL T.E ts ts', moveThreeUp ts a b c
grind_pattern gel_firstEnum_join => GEL T.E ts ts', firstEnum Gen.joinTypes ts
grind_pattern gel_firstEnum_union => GEL T.E ts ts', firstEnum Gen.unionTypes ts

/-- `pop_as_children_scanner_list_split_by(",")` -/
theorem gel_splitBy (sep : String) (hs : T.plain sep = true) : ∀ (ts ts' cur cur' : List Tok) (acc acc' : List (List Tok)), GEL T.E ts ts' → GEL T.E cur cur' → GELL T.E acc acc' →
    GELL T.E (splitBy sep ts cur acc) (splitBy sep ts' cur' acc') := by
  intro ts
  induction ts with
  | nil =>
    intro ts' cur cur' acc acc' h hc ha
    rw [gel_nil_left h]
    simp only [splitBy, gel_isEmpty hc]
    split
    · exact ha
    · exact gell_append ha (by simp [hc])
  | cons t r ih =>
    intro ts' cur cur' acc acc' h hc ha
    cases ts' with
    | nil => simp at h
    | cons t' r' =>
      simp at h
      simp only [splitBy, T.equalsStr h.1 sep hs, gel_isEmpty hc]
      split
      · split
        · exact ih _ _ _ _ _ h.2 (by simp) ha
        · exact ih _ _ _ _ _ h.2 (by simp) (gell_append ha (by simp [hc]))
      · exact ih _ _ _ _ _ h.2 (gel_append hc (by simp [h.1])) ha
theorem gel_splitBy0 {ts ts' : List Tok} (h : GEL T.E ts ts') : GELL T.E (splitBy "," ts [] []) (splitBy "," ts' [] []) :=
  gel_splitBy "," (T.plain_of _ (by decide)) ts ts' [] [] [] [] h (by simp) (by simp)
grind_pattern gel_splitBy0 => GEL T.E ts ts', splitBy "," ts [] []

/-- `_parse_function_expression`, the pure part: aggregate?, DISTINCT seen?, argument tokens; of the name only these two tests are made -/
theorem gel_callPrep_of {name name' : String} {g g' : Tok} (ha : Gen.aggNames.contains (up name) = Gen.aggNames.contains (up name'))
    (hu : strEq (up name) "SUBSTRING" = strEq (up name') "SUBSTRING") (h : T.E g g') :
    (callPrep name g).1 = (callPrep name' g').1 ∧ (callPrep name g).2.1 = (callPrep name' g').2.1 ∧ GEL T.E (callPrep name g).2.2 (callPrep name' g').2.2 := by
  have hs := gel_substringRewrite (T.children h) (up name) (up name') hu
  have hm := gel_moveStrUp hs "DISTINCT" (T.plain_of _ (by decide))
  unfold callPrep
  simp only [← ha]
  split <;> simp_all
theorem gel_callPrep {s s' : Option String} {name name' : String} {g g' : Tok} (hn : T.fnRel (s, name) (s', name')) (h : T.E g g') :
    (callPrep name g).1 = (callPrep name' g').1 ∧ (callPrep name g).2.1 = (callPrep name' g').2.1 ∧ GEL T.E (callPrep name g).2.2 (callPrep name' g').2.2 :=
  gel_callPrep_of (T.fn_agg hn) (T.fn_word hn "SUBSTRING" (by decide)) h
grind_pattern gel_callPrep => T.fnRel (s, name) (s', name'), T.E g g', callPrep name g, callPrep name' g'
omit T in
theorem callNode_map {m : String → String} {schema schema' : Option String} {name name' : String} {a d : Bool} {ps ps' : List Expr}
    (hs : schema.map m = schema'.map m) (hn : m name = m name') (hp : ps.map (mapE m) = ps'.map (mapE m)) :
    mapE m (callNode schema name a d ps) = mapE m (callNode schema' name' a d ps') := by
  have : schema.isNone = schema'.isNone := by cases schema <;> cases schema' <;> simp_all
  unfold callNode
  rw [this]
  split <;> simp [mapE, mapEs_eq, hs, hn, hp]
theorem callNode_rel {schema schema' : Option String} {name name' : String} {a d : Bool} {ps ps' : List Expr}
    (hf : T.fnRel (schema, name) (schema', name')) (hp : ps.map (mapE T.m) = ps'.map (mapE T.m)) :
    mapE T.m (callNode schema name a d ps) = mapE T.m (callNode schema' name' a d ps') :=
  callNode_map (T.fn_m hf).1 (T.fn_m hf).2 hp
grind_pattern callNode_rel => T.fnRel (schema, name) (schema', name'), callNode schema name a d ps, callNode schema' name' a d ps'

theorem reduceWhile_rel (lvl : Nat) : ∀ (st st' : List (Expr × String × Nat)) (top top' : Expr), (mapSt T.m) st = (mapSt T.m) st' → (mapE T.m) top = (mapE T.m) top' →
    (mapSt T.m) (reduceWhile lvl st top).1 = (mapSt T.m) (reduceWhile lvl st' top').1 ∧ (mapE T.m) (reduceWhile lvl st top).2 = (mapE T.m) (reduceWhile lvl st' top').2 := by
  intro st
  induction st with
  | nil => intro st' top top' hs ht; cases st' <;> simp_all [mapSt, reduceWhile]
  | cons p st ih =>
    intro st' top top' hs ht
    cases st' with
    | nil => simp [mapSt] at hs
    | cons p' st' =>
      obtain ⟨l, o, k⟩ := p; obtain ⟨l', o', k'⟩ := p'
      simp [mapSt] at hs
      obtain ⟨⟨h1, h2, rfl⟩, h3⟩ := hs
      simp only [reduceWhile]
      split
      · exact ih st' _ _ (by simpa [mapSt] using h3) (by simp [mapE, h1, h2, ht])
      · simp [mapSt, h1, h2, h3, ht]
grind_pattern reduceWhile_rel => reduceWhile lvl st top, reduceWhile lvl st' top'
theorem collapse_rel : ∀ (st st' : List (Expr × String × Nat)) (top top' : Expr), (mapSt T.m) st = (mapSt T.m) st' → (mapE T.m) top = (mapE T.m) top' →
    (mapE T.m) (collapse st top) = (mapE T.m) (collapse st' top') := by
  intro st
  induction st with
  | nil => intro st' top top' hs ht; cases st' <;> simp_all [mapSt, collapse]
  | cons p st ih =>
    intro st' top top' hs ht
    cases st' with
    | nil => simp [mapSt] at hs
    | cons p' st' =>
      obtain ⟨l, o, k⟩ := p; obtain ⟨l', o', k'⟩ := p'
      simp [mapSt] at hs
      obtain ⟨⟨h1, h2, rfl⟩, h3⟩ := hs
      simp only [collapse]
      exact ih st' _ _ (by simpa [mapSt] using h3) (by simp [mapE, h1, h2, ht])
grind_pattern collapse_rel => collapse st top, collapse st' top'
@[grind =] theorem mapSt_cons (l : Expr) (o : String) (k : Nat) (st : List (Expr × String × Nat)) :
    (mapSt T.m) ((l, o, k) :: st) = ((mapE T.m) l, T.m o, k) :: (mapSt T.m) st := by simp [mapSt]
@[grind =] theorem mapSt_nil : mapSt T.m [] = [] := rfl
theorem setWiths_rel {s s' : Select} (h : (mapS T.m) s = (mapS T.m) s') : (mapS T.m) (setWiths s) = (mapS T.m) (setWiths s') := by
  cases s; cases s'
  simp only [mapS_mk, Select.mk.injEq] at h
  simp only [setWiths, mapS_mk, Select.mk.injEq]
  simp_all
grind_pattern setWiths_rel => setWiths s, setWiths s'

end PM.Rel
