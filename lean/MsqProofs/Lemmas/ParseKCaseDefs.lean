import MsqProofs.Lemmas.ParseKCase3

/-! C09, parser half, sharp form: the statement about the mutual block of MsqModel/Parse/Expr.lean at one fuel, as a record -/
set_option linter.unusedVariables false
set_option linter.unusedSectionVars false
set_option linter.unusedSimpArgs false
open Lex PM Ast
namespace PM

/-- every function of the mutual block, with fuel `n`, on case-equivalent arguments: the same outcome, trees equal km to the case of stored texts -/
structure KCaseF (d : Gen.D) (n : Nat) : Prop where
  pElement : ∀ x0 y0, KEL x0 y0 → KER (ceq kmE) (pElement d n x0) (pElement d n y0)
  pParen : ∀ x0 x1 y0 y1, KE x0 y0 → KEL x1 y1 → KER (ceq kmE) (pParen d n x0 x1) (pParen d n y0 y1)
  pNamed : ∀ x0 x1 x2 y0 y1 y2, KE x0 y0 → KEL x1 y1 → KEL x2 y2 → KER (ceq kmE) (pNamed d n x0 x1 x2) (pNamed d n y0 y1 y2)
  pQualified : ∀ x0 x1 x2 y0 y1 y2, KE x0 y0 → KEL x1 y1 → KEL x2 y2 → KER (ceq kmE) (pQualified d n x0 x1 x2) (pQualified d n y0 y1 y2)
  pIndex : ∀ x0 x1 y0 y1, ceq kmE x0 y0 → KEL x1 y1 → KER (ceq kmE) (pIndex d n x0 x1) (pIndex d n y0 y1)
  pFuncIdx : ∀ x0 y0, KEL x0 y0 → KER (ceq kmE) (pFuncIdx d n x0) (pFuncIdx d n y0)
  pFunc : ∀ x0 y0, KEL x0 y0 → KER (ceq kmE) (pFunc d n x0) (pFunc d n y0)
  pIfCall : ∀ x0 y0, KEL x0 y0 → KER (ceq kmE) (pIfCall d n x0) (pIfCall d n y0)
  pFirstDiscard : ∀ x0 y0, KEL x0 y0 → KEX KEL (pFirstDiscard d n x0) (pFirstDiscard d n y0)
  pFirstArg : ∀ x0 y0, KEL x0 y0 → KER (ceq (List.map kmE)) (pFirstArg d n x0) (pFirstArg d n y0)
  pCall : ∀ x0 x1 x2 y0 y1 y2, x0 = y0 → x1 = y1 → KEL x2 y2 → KER (ceq kmE) (pCall d n x0 x1 x2) (pCall d n y0 y1 y2)
  pArgs : ∀ x0 x1 y0 y1, ceq (List.map kmE) x0 y0 → KEL x1 y1 → KER (ceq (List.map kmE)) (pArgs d n x0 x1) (pArgs d n y0 y1)
  pCase : ∀ x0 y0, KEL x0 y0 → KER (ceq kmE) (pCase d n x0) (pCase d n y0)
  pElseEnd : ∀ x0 y0, KEL x0 y0 → KER (ceq (Option.map kmE)) (pElseEnd d n x0) (pElseEnd d n y0)
  pWhens : ∀ x0 x1 y0 y1, ceq (List.map (Prod.map kmE kmE)) x0 y0 → KEL x1 y1 → KER (ceq (List.map (Prod.map kmE kmE))) (pWhens d n x0 x1) (pWhens d n y0 y1)
  pUnary : ∀ x0 y0, KEL x0 y0 → KER (ceq kmE) (pUnary d n x0) (pUnary d n y0)
  pCompute : ∀ x0 y0, KEL x0 y0 → KER (ceq kmE) (pCompute d n x0) (pCompute d n y0)
  pComputeLoop : ∀ x0 x1 x2 y0 y1 y2, ceq kmSt x0 y0 → ceq kmE x1 y1 → KEL x2 y2 → KER (ceq kmE) (pComputeLoop d n x0 x1 x2) (pComputeLoop d n y0 y1 y2)
  pKeyword : ∀ x0 x1 y0 y1, ceq (Option.map kmE) x0 y0 → KEL x1 y1 → KER (ceq kmE) (pKeyword d n x0 x1) (pKeyword d n y0 y1)
  pKwFirst : ∀ x0 x1 y0 y1, ceq (Option.map kmE) x0 y0 → KEL x1 y1 → KER (ceq kmE) (pKwFirst d n x0 x1) (pKwFirst d n y0 y1)
  pKwRest : ∀ x0 x1 x2 y0 y1 y2, ceq kmE x0 y0 → x1 = y1 → KEL x2 y2 → KER (ceq kmE) (pKwRest d n x0 x1 x2) (pKwRest d n y0 y1 y2)
  pKwBody : ∀ x0 x1 x2 x3 y0 y1 y2 y3, x0 = y0 → x1 = y1 → ceq kmE x2 y2 → KEL x3 y3 → KEX (keOpt (ceq kmE)) (pKwBody d n x0 x1 x2 x3) (pKwBody d n y0 y1 y2 y3)
  pBetween : ∀ x0 x1 x2 y0 y1 y2, x0 = y0 → ceq kmE x1 y1 → KEL x2 y2 → KEX (keOpt (ceq kmE)) (pBetween d n x0 x1 x2) (pBetween d n y0 y1 y2)
  pInBody : ∀ x0 x1 x2 y0 y1 y2, x0 = y0 → ceq kmE x1 y1 → KEL x2 y2 → KEX (keOpt (ceq kmE)) (pInBody d n x0 x1 x2) (pInBody d n y0 y1 y2)
  pSplit : ∀ x0 x1 x2 y0 y1 y2, ceq (List.map kmE) x0 y0 → KEL x1 y1 → KEL x2 y2 → KEX (ceq (List.map kmE)) (pSplit d n x0 x1 x2) (pSplit d n y0 y1 y2)
  pCompare : ∀ x0 y0, KEL x0 y0 → KER (ceq kmE) (pCompare d n x0) (pCompare d n y0)
  pCompareLoop : ∀ x0 x1 y0 y1, ceq kmE x0 y0 → KEL x1 y1 → KER (ceq kmE) (pCompareLoop d n x0 x1) (pCompareLoop d n y0 y1)
  pNot : ∀ x0 y0, KEL x0 y0 → KER (ceq kmE) (pNot d n x0) (pNot d n y0)
  pAnd : ∀ x0 y0, KEL x0 y0 → KER (ceq kmE) (pAnd d n x0) (pAnd d n y0)
  pAndLoop : ∀ x0 x1 y0 y1, ceq kmE x0 y0 → KEL x1 y1 → KER (ceq kmE) (pAndLoop d n x0 x1) (pAndLoop d n y0 y1)
  pXor : ∀ x0 y0, KEL x0 y0 → KER (ceq kmE) (pXor d n x0) (pXor d n y0)
  pXorLoop : ∀ x0 x1 y0 y1, ceq kmE x0 y0 → KEL x1 y1 → KER (ceq kmE) (pXorLoop d n x0 x1) (pXorLoop d n y0 y1)
  pOr : ∀ x0 y0, KEL x0 y0 → KER (ceq kmE) (pOr d n x0) (pOr d n y0)
  pOrLoop : ∀ x0 x1 y0 y1, ceq kmE x0 y0 → KEL x1 y1 → KER (ceq kmE) (pOrLoop d n x0 x1) (pOrLoop d n y0 y1)
  pSubQuery : ∀ x0 y0, KEL x0 y0 → KER (ceq kmE) (pSubQuery d n x0) (pSubQuery d n y0)
  pCast : ∀ x0 y0, KEL x0 y0 → KER (ceq kmE) (pCast d n x0) (pCast d n y0)
  pExtract : ∀ x0 y0, KEL x0 y0 → KER (ceq kmE) (pExtract d n x0) (pExtract d n y0)
  pExtractTail : ∀ x0 x1 y0 y1, ceq kmE x0 y0 → KEL x1 y1 → KEX (ceq kmE) (pExtractTail d n x0 x1) (pExtractTail d n y0 y1)
  pWindow : ∀ x0 y0, KEL x0 y0 → KER (ceq kmE) (pWindow d n x0) (pWindow d n y0)
  pWindowBody : ∀ x0 x1 y0 y1, ceq kmE x0 y0 → KEL x1 y1 → KEX (ceq kmE) (pWindowBody d n x0 x1) (pWindowBody d n y0 y1)
  pPartitionBy : ∀ x0 y0, KEL x0 y0 → KER (ceq (List.map kmE)) (pPartitionBy d n x0) (pPartitionBy d n y0)
  pComputeList : ∀ x0 x1 y0 y1, ceq (List.map kmE) x0 y0 → KEL x1 y1 → KER (ceq (List.map kmE)) (pComputeList d n x0 x1) (pComputeList d n y0 y1)
  pOrderItem : ∀ x0 y0, KEL x0 y0 → KER (ceq kmO) (pOrderItem d n x0) (pOrderItem d n y0)
  pOrderList : ∀ x0 x1 y0 y1, ceq (List.map kmO) x0 y0 → KEL x1 y1 → KER (ceq (List.map kmO)) (pOrderList d n x0 x1) (pOrderList d n y0 y1)
  pOrderByOpt : ∀ x0 y0, KEL x0 y0 → KER (ceq (Option.map (List.map kmO))) (pOrderByOpt d n x0) (pOrderByOpt d n y0)
  pSelectCol : ∀ x0 y0, KEL x0 y0 → KER (ceq (Prod.map kmE (Option.map km))) (pSelectCol d n x0) (pSelectCol d n y0)
  pSelectCols : ∀ x0 x1 y0 y1, ceq (List.map (Prod.map kmE (Option.map km))) x0 y0 → KEL x1 y1 → KER (ceq (List.map (Prod.map kmE (Option.map km)))) (pSelectCols d n x0 x1) (pSelectCols d n y0 y1)
  pTableExpr : ∀ x0 y0, KEL x0 y0 → KER (ceq kmTR) (pTableExpr d n x0) (pTableExpr d n y0)
  pFromTable : ∀ x0 y0, KEL x0 y0 → KER (ceq kmFT) (pFromTable d n x0) (pFromTable d n y0)
  pFromTables : ∀ x0 x1 y0 y1, ceq (List.map kmFT) x0 y0 → KEL x1 y1 → KER (ceq (List.map kmFT)) (pFromTables d n x0 x1) (pFromTables d n y0 y1)
  pJoin : ∀ x0 y0, KEL x0 y0 → KER (ceq kmJ) (pJoin d n x0) (pJoin d n y0)
  pJoinRule : ∀ x0 x1 x2 y0 y1 y2, ceq km x0 y0 → ceq kmFT x1 y1 → KEL x2 y2 → KER (ceq kmJ) (pJoinRule d n x0 x1 x2) (pJoinRule d n y0 y1 y2)
  pJoins : ∀ x0 x1 x2 x3 y0 y1 y2 y3, x0 = y0 → KEL x1 y1 → ceq (List.map kmJ) x2 y2 → KEL x3 y3 → KER (ceq (List.map kmJ)) (pJoins d n x0 x1 x2 x3) (pJoins d n y0 y1 y2 y3)
  pOptOr : ∀ x0 x1 y0 y1, x0 = y0 → KEL x1 y1 → KER (ceq (Option.map kmE)) (pOptOr d n x0 x1) (pOptOr d n y0 y1)
  pGroupingElem : ∀ x0 y0, KEL x0 y0 → KEX (ceq (List.map kmE)) (pGroupingElem d n x0) (pGroupingElem d n y0)
  pClosedEach : ∀ x0 x1 y0 y1, ceq (List.map kmE) x0 y0 → KELL x1 y1 → KEX (ceq (List.map kmE)) (pClosedEach d n x0 x1) (pClosedEach d n y0 y1)
  pGroupingElems : ∀ x0 x1 y0 y1, ceq (List.map (List.map kmE)) x0 y0 → KELL x1 y1 → KEX (ceq (List.map (List.map kmE))) (pGroupingElems d n x0 x1) (pGroupingElems d n y0 y1)
  pGroupingSets : ∀ x0 y0, KEL x0 y0 → KER (ceq (List.map (List.map kmE))) (pGroupingSets d n x0) (pGroupingSets d n y0)
  pGroupBy : ∀ x0 y0, KEL x0 y0 → KER (ceq (Option.map kmG)) (pGroupBy d n x0) (pGroupBy d n y0)
  pGroupCols : ∀ x0 y0, KEL x0 y0 → KER (ceq (List.map kmE)) (pGroupCols d n x0) (pGroupCols d n y0)
  pGroupSetsOpt : ∀ x0 y0, KEL x0 y0 → KER (ceq (Option.map (List.map (List.map kmE)))) (pGroupSetsOpt d n x0) (pGroupSetsOpt d n y0)
  pWithTable : ∀ x0 y0, KEL x0 y0 → KER (ceq kmW) (pWithTable d n x0) (pWithTable d n y0)
  pWithBody : ∀ x0 x1 y0 y1, ceq km x0 y0 → KEL x1 y1 → KER (ceq kmW) (pWithBody d n x0 x1) (pWithBody d n y0 y1)
  pWithTables : ∀ x0 x1 y0 y1, ceq (List.map kmW) x0 y0 → KEL x1 y1 → KER (ceq (List.map kmW)) (pWithTables d n x0 x1) (pWithTables d n y0 y1)
  pWith : ∀ x0 y0, KEL x0 y0 → KER (ceq (List.map kmW)) (pWith d n x0) (pWith d n y0)
  pSelectBody : ∀ x0 x1 x2 x3 y0 y1 y2 y3, ceq (List.map kmW) x0 y0 → x1 = y1 → KEL x2 y2 → KEL x3 y3 → KER (ceq kmS) (pSelectBody d n x0 x1 x2 x3) (pSelectBody d n y0 y1 y2 y3)
  pFromOpt : ∀ x0 y0, KEL x0 y0 → KER (ceq (Option.map (List.map kmFT))) (pFromOpt d n x0) (pFromOpt d n y0)
  pSelectRest : ∀ x0 x1 x2 x3 x4 x5 y0 y1 y2 y3 y4 y5, ceq (List.map kmW) x0 y0 → x1 = y1 → ceq (List.map (Prod.map kmE (Option.map km))) x2 y2 → x3 = y3 → KEL x4 y4 → KEL x5 y5 → KER (ceq kmS) (pSelectRest d n x0 x1 x2 x3 x4 x5) (pSelectRest d n y0 y1 y2 y3 y4 y5)
  pSelectTail : ∀ x0 x1 x2 x3 x4 x5 x6 y0 y1 y2 y3 y4 y5 y6, ceq (List.map kmW) x0 y0 → x1 = y1 → ceq (List.map (Prod.map kmE (Option.map km))) x2 y2 → ceq (Option.map (List.map kmFT)) x3 y3 → ceq (List.map kmLat) x4 y4 → ceq (List.map kmJ) x5 y5 → KEL x6 y6 → KER (ceq kmS) (pSelectTail d n x0 x1 x2 x3 x4 x5 x6) (pSelectTail d n y0 y1 y2 y3 y4 y5 y6)
  pWhereGroup : ∀ x0 y0, KEL x0 y0 → KER (ceq (Prod.map (Option.map kmE) (Option.map kmG))) (pWhereGroup d n x0) (pWhereGroup d n y0)
  pHavingOrder : ∀ x0 y0, KEL x0 y0 → KER (ceq (Prod.map (Option.map kmE) (Option.map (List.map kmO)))) (pHavingOrder d n x0) (pHavingOrder d n y0)
  pHiveClauses : ∀ x0 y0, KEL x0 y0 → KER (ceq (Prod.map (Option.map (List.map kmO)) (Prod.map (Option.map (List.map kmE)) (Option.map (List.map kmE))))) (pHiveClauses d n x0) (pHiveClauses d n y0)
  pSortBy : ∀ x0 y0, KEL x0 y0 → KER (ceq (Option.map (List.map kmO))) (pSortBy d n x0) (pSortBy d n y0)
  pByList : ∀ x0 x1 y0 y1, x0 = y0 → KEL x1 y1 → KER (ceq (Option.map (List.map kmE))) (pByList d n x0 x1) (pByList d n y0 y1)
  pLateral : ∀ x0 y0, KEL x0 y0 → KER (ceq kmLat) (pLateral d n x0) (pLateral d n y0)
  pLaterals : ∀ x0 x1 x2 x3 y0 y1 y2 y3, x0 = y0 → KEL x1 y1 → ceq (List.map kmLat) x2 y2 → KEL x3 y3 → KER (ceq (List.map kmLat)) (pLaterals d n x0 x1 x2 x3) (pLaterals d n y0 y1 y2 y3)
  pSingle : ∀ x0 x1 y0 y1, ceq (List.map kmW) x0 y0 → KEL x1 y1 → KER (ceq kmS) (pSingle d n x0 x1) (pSingle d n y0 y1)
  pSingleParen : ∀ x0 x1 x2 x3 y0 y1 y2 y3, ceq (List.map kmW) x0 y0 → KEL x1 y1 → KELL x2 y2 → KEL x3 y3 → KER (ceq kmS) (pSingleParen d n x0 x1 x2 x3) (pSingleParen d n y0 y1 y2 y3)
  pSelectStmt : ∀ x0 x1 y0 y1, ceq (Option.map (List.map kmW)) x0 y0 → KEL x1 y1 → KER (ceq kmQ) (pSelectStmt d n x0 x1) (pSelectStmt d n y0 y1)
  pUnions : ∀ x0 x1 x2 y0 y1 y2, ceq (List.map kmW) x0 y0 → ceq (List.map (Prod.map km kmS)) x1 y1 → KEL x2 y2 → KER (ceq (List.map (Prod.map km kmS))) (pUnions d n x0 x1 x2) (pUnions d n y0 y1 y2)

grind_pattern KCaseF.pElement => KCaseF d n, pElement d n x0, pElement d n y0
grind_pattern KCaseF.pParen => KCaseF d n, pParen d n x0 x1, pParen d n y0 y1
grind_pattern KCaseF.pNamed => KCaseF d n, pNamed d n x0 x1 x2, pNamed d n y0 y1 y2
grind_pattern KCaseF.pQualified => KCaseF d n, pQualified d n x0 x1 x2, pQualified d n y0 y1 y2
grind_pattern KCaseF.pIndex => KCaseF d n, pIndex d n x0 x1, pIndex d n y0 y1
grind_pattern KCaseF.pFuncIdx => KCaseF d n, pFuncIdx d n x0, pFuncIdx d n y0
grind_pattern KCaseF.pFunc => KCaseF d n, pFunc d n x0, pFunc d n y0
grind_pattern KCaseF.pIfCall => KCaseF d n, pIfCall d n x0, pIfCall d n y0
grind_pattern KCaseF.pFirstDiscard => KCaseF d n, pFirstDiscard d n x0, pFirstDiscard d n y0
grind_pattern KCaseF.pFirstArg => KCaseF d n, pFirstArg d n x0, pFirstArg d n y0
grind_pattern KCaseF.pCall => KCaseF d n, pCall d n x0 x1 x2, pCall d n y0 y1 y2
grind_pattern KCaseF.pArgs => KCaseF d n, pArgs d n x0 x1, pArgs d n y0 y1
grind_pattern KCaseF.pCase => KCaseF d n, pCase d n x0, pCase d n y0
grind_pattern KCaseF.pElseEnd => KCaseF d n, pElseEnd d n x0, pElseEnd d n y0
grind_pattern KCaseF.pWhens => KCaseF d n, pWhens d n x0 x1, pWhens d n y0 y1
grind_pattern KCaseF.pUnary => KCaseF d n, pUnary d n x0, pUnary d n y0
grind_pattern KCaseF.pCompute => KCaseF d n, pCompute d n x0, pCompute d n y0
grind_pattern KCaseF.pComputeLoop => KCaseF d n, pComputeLoop d n x0 x1 x2, pComputeLoop d n y0 y1 y2
grind_pattern KCaseF.pKeyword => KCaseF d n, pKeyword d n x0 x1, pKeyword d n y0 y1
grind_pattern KCaseF.pKwFirst => KCaseF d n, pKwFirst d n x0 x1, pKwFirst d n y0 y1
grind_pattern KCaseF.pKwRest => KCaseF d n, pKwRest d n x0 x1 x2, pKwRest d n y0 y1 y2
grind_pattern KCaseF.pKwBody => KCaseF d n, pKwBody d n x0 x1 x2 x3, pKwBody d n y0 y1 y2 y3
grind_pattern KCaseF.pBetween => KCaseF d n, pBetween d n x0 x1 x2, pBetween d n y0 y1 y2
grind_pattern KCaseF.pInBody => KCaseF d n, pInBody d n x0 x1 x2, pInBody d n y0 y1 y2
grind_pattern KCaseF.pSplit => KCaseF d n, pSplit d n x0 x1 x2, pSplit d n y0 y1 y2
grind_pattern KCaseF.pCompare => KCaseF d n, pCompare d n x0, pCompare d n y0
grind_pattern KCaseF.pCompareLoop => KCaseF d n, pCompareLoop d n x0 x1, pCompareLoop d n y0 y1
grind_pattern KCaseF.pNot => KCaseF d n, pNot d n x0, pNot d n y0
grind_pattern KCaseF.pAnd => KCaseF d n, pAnd d n x0, pAnd d n y0
grind_pattern KCaseF.pAndLoop => KCaseF d n, pAndLoop d n x0 x1, pAndLoop d n y0 y1
grind_pattern KCaseF.pXor => KCaseF d n, pXor d n x0, pXor d n y0
grind_pattern KCaseF.pXorLoop => KCaseF d n, pXorLoop d n x0 x1, pXorLoop d n y0 y1
grind_pattern KCaseF.pOr => KCaseF d n, pOr d n x0, pOr d n y0
grind_pattern KCaseF.pOrLoop => KCaseF d n, pOrLoop d n x0 x1, pOrLoop d n y0 y1
grind_pattern KCaseF.pSubQuery => KCaseF d n, pSubQuery d n x0, pSubQuery d n y0
grind_pattern KCaseF.pCast => KCaseF d n, pCast d n x0, pCast d n y0
grind_pattern KCaseF.pExtract => KCaseF d n, pExtract d n x0, pExtract d n y0
grind_pattern KCaseF.pExtractTail => KCaseF d n, pExtractTail d n x0 x1, pExtractTail d n y0 y1
grind_pattern KCaseF.pWindow => KCaseF d n, pWindow d n x0, pWindow d n y0
grind_pattern KCaseF.pWindowBody => KCaseF d n, pWindowBody d n x0 x1, pWindowBody d n y0 y1
grind_pattern KCaseF.pPartitionBy => KCaseF d n, pPartitionBy d n x0, pPartitionBy d n y0
grind_pattern KCaseF.pComputeList => KCaseF d n, pComputeList d n x0 x1, pComputeList d n y0 y1
grind_pattern KCaseF.pOrderItem => KCaseF d n, pOrderItem d n x0, pOrderItem d n y0
grind_pattern KCaseF.pOrderList => KCaseF d n, pOrderList d n x0 x1, pOrderList d n y0 y1
grind_pattern KCaseF.pOrderByOpt => KCaseF d n, pOrderByOpt d n x0, pOrderByOpt d n y0
grind_pattern KCaseF.pSelectCol => KCaseF d n, pSelectCol d n x0, pSelectCol d n y0
grind_pattern KCaseF.pSelectCols => KCaseF d n, pSelectCols d n x0 x1, pSelectCols d n y0 y1
grind_pattern KCaseF.pTableExpr => KCaseF d n, pTableExpr d n x0, pTableExpr d n y0
grind_pattern KCaseF.pFromTable => KCaseF d n, pFromTable d n x0, pFromTable d n y0
grind_pattern KCaseF.pFromTables => KCaseF d n, pFromTables d n x0 x1, pFromTables d n y0 y1
grind_pattern KCaseF.pJoin => KCaseF d n, pJoin d n x0, pJoin d n y0
grind_pattern KCaseF.pJoinRule => KCaseF d n, pJoinRule d n x0 x1 x2, pJoinRule d n y0 y1 y2
grind_pattern KCaseF.pJoins => KCaseF d n, pJoins d n x0 x1 x2 x3, pJoins d n y0 y1 y2 y3
grind_pattern KCaseF.pOptOr => KCaseF d n, pOptOr d n x0 x1, pOptOr d n y0 y1
grind_pattern KCaseF.pGroupingElem => KCaseF d n, pGroupingElem d n x0, pGroupingElem d n y0
grind_pattern KCaseF.pClosedEach => KCaseF d n, pClosedEach d n x0 x1, pClosedEach d n y0 y1
grind_pattern KCaseF.pGroupingElems => KCaseF d n, pGroupingElems d n x0 x1, pGroupingElems d n y0 y1
grind_pattern KCaseF.pGroupingSets => KCaseF d n, pGroupingSets d n x0, pGroupingSets d n y0
grind_pattern KCaseF.pGroupBy => KCaseF d n, pGroupBy d n x0, pGroupBy d n y0
grind_pattern KCaseF.pGroupCols => KCaseF d n, pGroupCols d n x0, pGroupCols d n y0
grind_pattern KCaseF.pGroupSetsOpt => KCaseF d n, pGroupSetsOpt d n x0, pGroupSetsOpt d n y0
grind_pattern KCaseF.pWithTable => KCaseF d n, pWithTable d n x0, pWithTable d n y0
grind_pattern KCaseF.pWithBody => KCaseF d n, pWithBody d n x0 x1, pWithBody d n y0 y1
grind_pattern KCaseF.pWithTables => KCaseF d n, pWithTables d n x0 x1, pWithTables d n y0 y1
grind_pattern KCaseF.pWith => KCaseF d n, pWith d n x0, pWith d n y0
grind_pattern KCaseF.pSelectBody => KCaseF d n, pSelectBody d n x0 x1 x2 x3, pSelectBody d n y0 y1 y2 y3
grind_pattern KCaseF.pFromOpt => KCaseF d n, pFromOpt d n x0, pFromOpt d n y0
grind_pattern KCaseF.pSelectRest => KCaseF d n, pSelectRest d n x0 x1 x2 x3 x4 x5, pSelectRest d n y0 y1 y2 y3 y4 y5
grind_pattern KCaseF.pSelectTail => KCaseF d n, pSelectTail d n x0 x1 x2 x3 x4 x5 x6, pSelectTail d n y0 y1 y2 y3 y4 y5 y6
grind_pattern KCaseF.pWhereGroup => KCaseF d n, pWhereGroup d n x0, pWhereGroup d n y0
grind_pattern KCaseF.pHavingOrder => KCaseF d n, pHavingOrder d n x0, pHavingOrder d n y0
grind_pattern KCaseF.pHiveClauses => KCaseF d n, pHiveClauses d n x0, pHiveClauses d n y0
grind_pattern KCaseF.pSortBy => KCaseF d n, pSortBy d n x0, pSortBy d n y0
grind_pattern KCaseF.pByList => KCaseF d n, pByList d n x0 x1, pByList d n y0 y1
grind_pattern KCaseF.pLateral => KCaseF d n, pLateral d n x0, pLateral d n y0
grind_pattern KCaseF.pLaterals => KCaseF d n, pLaterals d n x0 x1 x2 x3, pLaterals d n y0 y1 y2 y3
grind_pattern KCaseF.pSingle => KCaseF d n, pSingle d n x0 x1, pSingle d n y0 y1
grind_pattern KCaseF.pSingleParen => KCaseF d n, pSingleParen d n x0 x1 x2 x3, pSingleParen d n y0 y1 y2 y3
grind_pattern KCaseF.pSelectStmt => KCaseF d n, pSelectStmt d n x0 x1, pSelectStmt d n y0 y1
grind_pattern KCaseF.pUnions => KCaseF d n, pUnions d n x0 x1 x2, pUnions d n y0 y1 y2

end PM
