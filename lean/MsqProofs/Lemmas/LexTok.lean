import MsqProofs.Lemmas.LexSim
/-!
# Pieces of text read from between tokens, on any table with the generated micro-code

The characters of a token are a PATH through the table: `addPath cfg s u = some p` says that, read in state `s`, every
character of `u` is taken into the window and the state is `p` afterwards — a fold over the cells, with no memory, no
position and no text in it.  ONE lemma, `addPath_run`, turns a path into a run of the driver, at any position of any
text with any frame stack; a class of tokens (digits, word characters, a string body, a comment body) contributes only its
path, and what ends the pending window is one cell (`C09.endsBefore`, `endsAtEnd`, `endToks`).
-/
namespace C09
open Lex Spec

/-- the operations that end the pending token WITHOUT taking the character, which is then read again between tokens
(in `C09`: `Props/C09.lean` states `gap_irrelevant_pending` with it) -/
def endsBefore (o : Op) : Bool := o == emitBefore o.marks || o == emitWordBefore || o == dropBefore

end C09

namespace Lex
open Spec
open C09 (endsBefore)

def addPath (cfg : Cfg Gen.Cls) : S → List Char → Option S
  | s, [] => some s
  | s, c :: cs =>
    match cfg.lookup s (.ch c) with
    | some o => if o == addTo o.status then addPath cfg o.status cs else none
    | none => none

section path
variable {cfg : Cfg Gen.Cls}

theorem addPath_cons {s q : S} {c : Char} (h : cfg.lookup s (.ch c) = some (addTo q)) (cs : List Char) :
    addPath cfg s (c :: cs) = addPath cfg q cs := by
  simp [addPath, h, addTo]

theorem addPath_append (s : S) (a b : List Char) :
    addPath cfg s (a ++ b) = (addPath cfg s a).bind fun q => addPath cfg q b := by
  induction a generalizing s with
  | nil => rfl
  | cons c cs ih =>
    simp only [List.cons_append, addPath]
    cases cfg.lookup s (.ch c) with
    | none => rfl
    | some o =>
      simp only []
      split
      · exact ih _
      · rfl

theorem addPath_snoc {s p q : S} {u : List Char} {c : Char} (hu : addPath cfg s u = some p)
    (h : cfg.lookup p (.ch c) = some (addTo q)) : addPath cfg s (u ++ [c]) = some q := by
  rw [addPath_append, hu, Option.bind_some, addPath_cons h]; rfl

theorem addPath_loop {q : S} {P : Char → Prop} (hstep : ∀ c, P c → cfg.lookup q (.ch c) = some (addTo q))
    (p : List Char) (hp : ∀ c ∈ p, P c) : addPath cfg q p = some q := by
  induction p with
  | nil => rfl
  | cons c cs ih => rw [addPath_cons (hstep c (hp c (by simp)))]; exact ih fun d hd => hp d (by simp [hd])

end path

/-- what an operation that ends the pending window `w` appends to the current frame.  The word operations look the marks
up with own marks `0` and default `.word 2`: literally what `Gen.Cls.code .cHandleCacheWordToWait` / `…ToEnd` runs
(`Gen/LexOps.lean`; 2 = `Gen.mark_NAME`), so at `Gen.cfgS` the token is `.single w (C05.wordMark w)` -/
def endToks (cfg : Cfg Gen.Cls) (o : Op) (w : List Char) : List Tok :=
  match o.cls with
  | .cHandleCacheToWait | .cHandleCacheToEnd => [.single w o.marks]
  | .cHandleCacheWordToWait | .cHandleCacheWordToEnd => [.single w (resolveMarks cfg.upper cfg.wordMarks 0 w (.word 2))]
  | _ => []

def endsAtEnd (o : Op) : Bool := o == emitAtEnd o.marks || o == emitWordAtEnd || o == dropAtEnd

theorem endsBefore_emitBefore (k : Nat) : endsBefore (emitBefore k) = true := by simp [endsBefore, emitBefore]
theorem endsAtEnd_emitAtEnd (k : Nat) : endsAtEnd (emitAtEnd k) = true := by simp [endsAtEnd, emitAtEnd]

section run
variable {cfg : Cfg Gen.Cls} (hc : cfg.code = Gen.Cls.code)
include hc

theorem addPath_run (T : List Char) : ∀ (cs : List Char) (s s' : S), addPath cfg s cs = some s' →
    ∀ (st nw : Nat) (stk : List (List Tok)),
    feedAllWith (handle cfg T) cs ⟨st, nw, s, stk⟩ = .ok ⟨st, nw + cs.length, s', stk⟩ := by
  intro cs
  induction cs with
  | nil => intro s s' h st nw stk; cases h; rfl
  | cons c cs ih =>
    intro s s' h st nw stk
    simp only [addPath] at h
    cases ho : cfg.lookup s (.ch c) with
    | none => rw [ho] at h; cases h
    | some o =>
      rw [ho] at h
      simp only at h
      split at h
      · rename_i heq
        have h1 := handle_addTo hc (text := T) (m := ⟨st, nw, s, stk⟩) (q := o.status) (sym := .ch c)
          (by rw [ho, ← eq_of_beq heq])
        rw [feedAllWith_cons_adv h1, ih o.status s' h]
        simp only [List.length_cons]; congr 2; omega
      · cases h

theorem handle_endsBefore {o : Op} (ho : endsBefore o = true) (T : List Char) {m : Mem} {c : Char} {f : List Tok}
    {fs : List (List Tok)} (hl : cfg.lookup m.status (.ch c) = some o) (hs : m.stack = f :: fs) :
    handle cfg T m (.ch c) = .ok (⟨m.now, m.now, .WAIT, (f ++ endToks cfg o (win T m m.now)) :: fs⟩, false) := by
  simp only [endsBefore, Bool.or_eq_true, beq_iff_eq] at ho
  rcases ho with (ho | ho) | ho <;> rw [ho] at hl ⊢
  · rw [handle_emitBefore hc hl hs]; rfl
  · rw [handle_emitWordBefore hc hl hs]; rfl
  · rw [handle_dropBefore hc hl, hs]; simp [endToks, dropBefore]

theorem handle_endsAtEnd {o : Op} (ho : endsAtEnd o = true) (T : List Char) {m : Mem} {f : List Tok}
    {fs : List (List Tok)} (hl : cfg.lookup m.status .eof = some o) (hs : m.stack = f :: fs) :
    handle cfg T m .eof = .ok (⟨m.now, m.now, .END, (f ++ endToks cfg o (win T m m.now)) :: fs⟩, true) := by
  simp only [endsAtEnd, Bool.or_eq_true, beq_iff_eq] at ho
  rcases ho with (ho | ho) | ho <;> rw [ho] at hl ⊢
  · rw [handle_emitAtEnd hc hl hs]; rfl
  · rw [handle_emitWordAtEnd hc hl hs]; rfl
  · rw [handle_dropAtEnd hc hl, hs]; simp [endToks, dropAtEnd]

variable {u : List Char} {p : S} (hp : addPath cfg .WAIT u = some p)
include hp

theorem feed_pending {d : Char} {o : Op} (hl : cfg.lookup p (.ch d) = some o) (ho : endsBefore o = true)
    (pre more : List Char) (f : List Tok) (fs : List (List Tok)) :
    feedAllWith (handle cfg (pre ++ u ++ d :: more)) (u ++ [d]) ⟨pre.length, pre.length, .WAIT, f :: fs⟩ =
      dropFlag (handle cfg (pre ++ u ++ d :: more)
        ⟨pre.length + u.length, pre.length + u.length, .WAIT, (f ++ endToks cfg o u) :: fs⟩ (.ch d)) := by
  rw [feedAllWith_append_ok (addPath_run hc _ u _ _ hp _ _ _), feedAllWith_one,
    feedWith_retry' (handle_endsBefore hc ho _ (m := ⟨pre.length, pre.length + u.length, p, f :: fs⟩) hl rfl), win_mid]

omit hp in
theorem handle_pending_eof {o : Op} (hl : cfg.lookup p .eof = some o) (ho : endsAtEnd o = true)
    (pre : List Char) (f : List Tok) (fs : List (List Tok)) :
    handle cfg (pre ++ u) ⟨pre.length, pre.length + u.length, p, f :: fs⟩ .eof =
      .ok (⟨pre.length + u.length, pre.length + u.length, .END, (f ++ endToks cfg o u) :: fs⟩, true) := by
  have hw := win_mid pre u [] (pre.length + u.length) p (f :: fs)
  rw [List.append_nil] at hw
  rw [handle_endsAtEnd hc ho _ (m := ⟨pre.length, pre.length + u.length, p, f :: fs⟩) hl rfl, hw]

theorem feed_complete {c : Char} {k : Nat} (hl : cfg.lookup p (.ch c) = some (emitWith k))
    (pre rest : List Char) (f : List Tok) (fs : List (List Tok)) :
    feedAllWith (handle cfg (pre ++ (u ++ [c]) ++ rest)) (u ++ [c]) ⟨pre.length, pre.length, .WAIT, f :: fs⟩ =
      .ok ⟨pre.length + (u ++ [c]).length, pre.length + (u ++ [c]).length, .WAIT, (f ++ [.single (u ++ [c]) k]) :: fs⟩ := by
  have hw : win (pre ++ (u ++ [c]) ++ rest) ⟨pre.length, pre.length + u.length, p, f :: fs⟩ (pre.length + u.length + 1) =
      u ++ [c] := by
    have := win_mid pre (u ++ [c]) rest (pre.length + u.length) p (f :: fs)
    simpa [Nat.add_assoc] using this
  rw [feedAllWith_append_ok (addPath_run hc _ u _ _ hp _ _ _), feedAllWith_one,
    feedWith_adv (handle_emitWith hc (m := ⟨pre.length, pre.length + u.length, p, f :: fs⟩) hl rfl), hw]
  simp [Nat.add_assoc]

variable (hd : cfg.depthLimit = 1) (he : cfg.endStatus = .END)
include hd he

theorem lexText_pending_eof {o : Op} (hl : cfg.lookup p .eof = some o) (ho : endsAtEnd o = true) :
    lexText cfg u = .ok (endToks cfg o u) := by
  have h1 := addPath_run hc u u _ _ hp 0 0 [[]]
  have h2 := handle_pending_eof hc (u := u) hl ho [] [] []
  simp only [List.nil_append, List.length_nil] at h2
  rw [lexText_ok h1 h2]
  exact finish_end _ hd he _ _ _

omit hd he in
theorem lexText_pending_reject (hl : cfg.lookup p .eof = some reject) : lexText cfg u = .error .lexical :=
  lexText_err_eof (addPath_run hc u u _ _ hp 0 0 [[]]) (handle_reject hc hl)

theorem lexText_complete {c : Char} {k : Nat} (hl : cfg.lookup p (.ch c) = some (emitWith k))
    (hfin : cfg.lookup .WAIT .eof = some Spec.finish) : lexText cfg (u ++ [c]) = .ok [.single (u ++ [c]) k] := by
  have h1 := feed_complete hc hp hl [] [] [] []
  simp only [List.nil_append, List.append_nil, List.length_nil, Nat.zero_add] at h1
  rw [lexText_ok h1 (handle_finish hc hfin)]
  exact finish_end _ hd he _ _ _

theorem lexText_pending_skip {d : Char} {o : Op} (hl : cfg.lookup p (.ch d) = some o) (ho : endsBefore o = true)
    (hskip : cfg.lookup .WAIT (.ch d) = some skip) (hfin : cfg.lookup .WAIT .eof = some Spec.finish) :
    lexText cfg (u ++ [d]) = .ok (endToks cfg o u) := by
  have h1 := feed_pending hc hp hl ho [] [] [] []
  simp only [List.nil_append, List.length_nil, Nat.zero_add] at h1
  rw [handle_skip hc hskip] at h1
  rw [lexText_ok h1 (handle_finish hc hfin)]
  exact finish_end _ hd he _ _ _

end run
end Lex
