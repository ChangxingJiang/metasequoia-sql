import MsqProofs.Lemmas.TDmlR0
import MsqProofs.Lemmas.StmtDispatch
/-!
# T-parse for data-change statements: the shared pieces, DELETE and UPDATE (C03 / C01)

What DELETE and UPDATE share — the records of the query development from the `Bool` fragment (by `TQ3.rt4`), the three optional clauses
of `pWhereOrderLimit`, the target table (`_parse_table_name_expression` on its one back-quoted token) — and the two statement parsers on
their renderings.
-/
open Lex PM Ast TP TS
open TP2 (qTok fnOK nmOK nm2OK isOkNoneS fnNameOK aggOK dotTok starTok)
open TQ (tblTok unionWords lvlH isExists isOkPair tblOK)
open TQ3
namespace TDM3
variable {d : Gen.D} {ch : Expr → Bool}

theorem optRec (o : Option Expr) (h : FragO4 d o = true) : OptRec d ch o :=
  opt_rec (szO4 o) (fun e _ h => rt4 e h) o (Nat.le_refl _) h
theorem orderRec (ob : Option (List OrderItem)) (h : orderOK4 d ob = true) : OrderRec d ch ob :=
  order_rec (szOrder ob) (fun e _ h => rt4 e h) ob (Nat.le_refl _) h

theorem bd3_tail (wh : Option Expr) (ob : Option (List OrderItem)) (lm : Option (Int × Option Int)) (rest : List Tok) (hr : Bd4 d 11 rest = true) :
    Bd4 d 3 (toksTail d ch wh ob lm ++ rest) = true := by
  have b6 := bd3_limit lm rest hr
  have b5 := bd3_order (ch := ch) ob _ (bd3_mono b6 (by omega))
  have b2 := bd3_where (ch := ch) wh _ (bd3_mono b5 (by omega))
  simpa [toksTail, List.append_assoc] using b2
theorem whereOrderLimit (wh : Option Expr) (ob : Option (List OrderItem)) (lm : Option (Int × Option Int))
    (hwh : OptRec d ch wh) (hob : OrderRec d ch ob) (hlm : limitOK lm = true) (rest : List Tok) (hr : Bd4 d 11 rest = true) :
    OkAt (fun f => pWhereOrderLimit d f (toksTail d ch wh ob lm ++ rest)) (20 * sizeL (toksTail d ch wh ob lm) + 16) ((wh, ob, lm), rest) := by
  have b6 := TQ3.bd3_limit lm rest hr
  have b5 := TQ3.bd3_order (ch := ch) ob _ (TQ3.bd3_mono b6 (by omega))
  intro f hf'
  simp only [toksTail, sizeL_append] at hf'
  have h1 := TQ3.optOr "WHERE" (by decide) 4 (by decide) wh hwh _ (TQ3.bd3_mono b5 (by omega)) f (by omega)
  have h2 := TQ3.orderBy ob hob _ (TQ3.OFol.ofBd b6) (TQ3.bd_comma b6) (TQ3.bd_search2 b6 "ORDER" "BY" (by decide)) f (by omega)
  have h3 := TQ3.limit4 lm hlm rest hr
  simp only at h1 h2
  unfold pWhereOrderLimit
  simp only [toksTail, List.append_assoc, h1, h2, h3]

theorem tblName_ok (t : TableName) (ht : tblOKD t = true) (x : List Tok) (hdot : searchStr x "." = false) :
    pTblName (tblTok t.schema t.name :: x) = .ok (t, x) := by
  simp only [tblOKD, tblOK, Bool.and_eq_true, Bool.not_eq_true', List.isEmpty_iff] at ht
  obtain ⟨⟨⟨⟨⟨hN, hP⟩, hC⟩, hsp⟩, _⟩, _⟩ := ht
  have hsp' := isOkPair_eq hsp
  unfold pTblName pTableName
  simp only [hN, Bool.not_true, Bool.false_eq_true, if_false, hdot, hsp']
theorem tbl_notTable (t : TableName) (ht : tblOKD t = true) : (tblTok t.schema t.name).srcEqUp "TABLE" = false := by
  simp only [tblOKD, Bool.and_eq_true, Bool.not_eq_true'] at ht; exact ht.2
theorem bd3_notDot {k : Nat} {x : List Tok} (h : Bd4 d k x = true) : searchStr x "." = false :=
  TS.stops_notDot (TQ3.bd_stops h)

/-! ### DELETE -/
theorem kw_delete : (opTok "DELETE").equalsStr "DELETE" = true ∧ (opTok "FROM").equalsStr "FROM" = true ∧
    (opTok "DELETE").srcEqUp "SET" = false ∧ (opTok "DELETE").srcEqUp "DELETE" = true ∧ (opTok "FROM").srcEqUp "FROM" = true := by decide
theorem delete_ok (t : TableName) (wh : Option Expr) (ob : Option (List OrderItem)) (lm : Option (Int × Option Int))
    (ht : tblOKD t = true) (hwh : OptRec d ch wh) (hob : OrderRec d ch ob) (hlm : limitOK lm = true) (rest : List Tok) (hr : Bd4 d 11 rest = true) :
    OkAt (fun f => pDelete d f (opTok "DELETE" :: opTok "FROM" :: tblTok t.schema t.name :: (toksTail d ch wh ob lm ++ rest)))
      (20 * sizeL (toksTail d ch wh ob lm) + 16) (.delete t wh ob lm, rest) := by
  obtain ⟨k1, k2, _, _, _⟩ := kw_delete
  intro f hf'
  have h1 := tblName_ok t ht _ (bd3_notDot (bd3_tail (ch := ch) wh ob lm rest hr))
  have h2 := whereOrderLimit wh ob lm hwh hob hlm rest hr f hf'
  simp only at h2
  unfold pDelete
  simp only [matchSeq, k1, k2, if_true, h1, h2]
theorem delete_stmt (t : TableName) (wh : Option Expr) (ob : Option (List OrderItem)) (lm : Option (Int × Option Int))
    (ht : tblOKD t = true) (hwh : OptRec d ch wh) (hob : OrderRec d ch ob) (hlm : limitOK lm = true) (rest : List Tok) (hr : Bd4 d 11 rest = true) :
    OkAt (fun f => pStatement d f (opTok "DELETE" :: opTok "FROM" :: tblTok t.schema t.name :: (toksTail d ch wh ob lm ++ rest)))
      (20 * sizeL (toksTail d ch wh ob lm) + 16) (.delete t wh ob lm, rest) := by
  obtain ⟨_, _, k3, k4, k5⟩ := kw_delete
  intro f hf'
  have := delete_ok t wh ob lm ht hwh hob hlm rest hr f hf'
  simp only at this
  unfold pStatement
  simp only [searchStrUp, k3, Bool.false_eq_true, if_false, searchTwoUp, k4, k5, Bool.and_self, if_true, this]

/-! ### UPDATE -/
theorem kw_update : (opTok "UPDATE").equalsStr "UPDATE" = true ∧ (opTok "SET").equalsStr "SET" = true ∧ (opTok "=").equalsStr "=" = true := by decide
def SetRec (d : Gen.D) (ch : Expr → Bool) (p : String × Expr) : Prop := unifyName (nameTok p.1).src = p.1 ∧ RT4 d ch p.2
theorem setRec (p : String × Expr) (h : setOK d p = true) : SetRec d ch p := by
  simp only [setOK, Bool.and_eq_true, beq_iff_eq] at h
  exact ⟨h.1, rt4 p.2 h.2⟩
theorem updateSetCol (p : String × Expr) (hp : SetRec d ch p) (fol : List Tok) (hs : TP2.stops2 d fol = true) :
    OkAt (fun f => pUpdateSetCol d f (toksSet d ch p ++ fol)) (20 * sizeL (toksSet d ch p) + 15) (p, fol) := by
  obtain ⟨c, e⟩ := p
  obtain ⟨hc, he⟩ := hp
  obtain ⟨_, _, k3⟩ := kw_update
  intro f hf'
  simp only [toksSet, sizeL_cons] at hf'
  have he : RT4 d ch e := he
  have h1 : pOr d f (toksE5 d ch e ++ fol) = .ok (e, fol) := he.own.s14 fol hs f (by omega)
  simp only at hc
  unfold pUpdateSetCol
  simp only [toksSet, List.cons_append, popSrc, matchKw, k3, if_true, h1, hc]
theorem toksSetsTail_eq (ss : List (String × Expr)) : toksSetsTail d ch ss = TC.commaTail (toksSet d ch) ss := by
  induction ss with
  | nil => rfl
  | cons p r ih => simp only [toksSetsTail, TC.commaTail, ih]
theorem setsTail_stops (ss : List (String × Expr)) {fol : List Tok} (hs : TP2.stops2 d fol = true) :
    TP2.stops2 d (toksSetsTail d ch ss ++ fol) = true := by
  rw [toksSetsTail_eq]; exact TC.tail_of (C := fun x => TP2.stops2 d x = true) comma_stops2 (TC.commaTail_shape _ ss) hs
theorem sizeL_toksSet_pos (p : String × Expr) : 2 ≤ sizeL (toksSet d ch p) := by
  simp only [toksSet, sizeL_cons, size_opTok]
  have := tok_size_pos (nameTok p.1); omega
/-- the loop `while search_and_move(","): append(set column)`: `g` counts the iterations -/
theorem updateSetLoop_ok (fol : List Tok) (hs : TP2.stops2 d fol = true) (hc : searchStr fol "," = false) :
    ∀ (ss : List (String × Expr)), (∀ p ∈ ss, SetRec d ch p) → ∀ acc f g, 20 * sizeL (toksSetsTail d ch ss) + 15 ≤ f → ss.length + 1 ≤ g →
    updateSetLoop d f g acc (toksSetsTail d ch ss ++ fol) = .ok (acc ++ ss, fol) := by
  intro ss hss acc f g hf
  rw [toksSetsTail_eq] at hf ⊢
  exact TC.commaLoop_ok (item := fun _ ts => pUpdateSetCol d f ts) (fun _ _ _ h => by simp [updateSetLoop, h])
    (fun _ _ _ _ _ h h' => by rw [updateSetLoop, if_pos h, h']) (toksSet d ch) (fun _ => 0) (fun ss => ss.length + 1) (by omega)
    (fun _ _ => by simp only [List.length_cons]; omega) fol hc ss
    (fun p hp xs' _ _ => updateSetCol p (hss p hp) _ (TC.tail_of (C := fun x => TP2.stops2 d x = true) comma_stops2 (TC.commaTail_shape _ xs') hs) f
      (by have := TC.sizeL_commaTail_mem (toksSet d ch) ss p hp; omega)) acc g
theorem updateSet_ok (p : String × Expr) (ss : List (String × Expr)) (hp : SetRec d ch p) (hss : ∀ q ∈ ss, SetRec d ch q)
    (fol : List Tok) (hb : Bd4 d 3 fol = true) :
    OkAt (fun f => pUpdateSet d f (opTok "SET" :: (toksSets d ch (p :: ss) ++ fol))) (20 * sizeL (toksSets d ch (p :: ss)) + 15) (p :: ss, fol) := by
  obtain ⟨_, k2, _⟩ := kw_update
  have hs := bd3_stops hb
  intro f hf'
  simp only [toksSets, sizeL_append] at hf'
  have h1 : pUpdateSetCol d f (toksSet d ch p ++ (toksSetsTail d ch ss ++ fol)) = .ok (p, toksSetsTail d ch ss ++ fol) :=
    updateSetCol p hp _ (setsTail_stops ss hs) f (by omega)
  have h2 := updateSetLoop_ok fol hs (TQ3.bd_comma hb) ss hss [p] f ((toksSetsTail d ch ss ++ fol).length + 1) (by omega)
    (by rw [toksSetsTail_eq]; have := TC.length_le_commaTail (toksSet d ch) ss; simp only [List.length_append]; omega)
  unfold pUpdateSet
  simp only [matchKw, k2, if_true, toksSets, List.append_assoc, h1]
  simpa using h2
theorem set_notDot (x : List Tok) : searchStr (opTok "SET" :: x) "." = false := by
  have : (opTok "SET").srcEq "." = false := by decide
  simpa [searchStr] using this
theorem update_ok (w : Option (List WithTable)) (t : TableName) (p : String × Expr) (ss : List (String × Expr))
    (wh : Option Expr) (ob : Option (List OrderItem)) (lm : Option (Int × Option Int))
    (ht : tblOKD t = true) (hp : SetRec d ch p) (hss : ∀ q ∈ ss, SetRec d ch q)
    (hwh : OptRec d ch wh) (hob : OrderRec d ch ob) (hlm : limitOK lm = true) (rest : List Tok) (hr : Bd4 d 11 rest = true) :
    OkAt (fun f => pUpdate d f w (opTok "UPDATE" :: tblTok t.schema t.name :: opTok "SET" :: (toksSets d ch (p :: ss) ++ (toksTail d ch wh ob lm ++ rest))))
      (20 * sizeL (toksSets d ch (p :: ss) ++ toksTail d ch wh ob lm) + 16) (.update w t (p :: ss) wh ob lm, rest) := by
  obtain ⟨k1, _, _⟩ := kw_update
  intro f hf'
  simp only [sizeL_append] at hf'
  have h1 := tblName_ok t ht _ (set_notDot (toksSets d ch (p :: ss) ++ (toksTail d ch wh ob lm ++ rest)))
  have h2 := updateSet_ok p ss hp hss _ (bd3_tail (ch := ch) wh ob lm rest hr) f (by omega)
  have h3 := whereOrderLimit wh ob lm hwh hob hlm rest hr f (by omega)
  simp only at h2 h3
  unfold pUpdate
  simp only [matchKw, k1, if_true, h1, h2, h3]

end TDM3
