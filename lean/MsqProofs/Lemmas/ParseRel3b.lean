import MsqProofs.Lemmas.ParseRel3
/-!
# Relational reading of the parser model: two related runs walked in lockstep; `match(*tokens)`, `pop_as_source`

Two related runs fail alike or both succeed with related values and related rests (`GER.shape`).  A bind of the model,
`match p x with | .error e => .error e | .ok (a, r) => k a r`, is therefore walked on both runs at once: the lemma that relates the two
callee runs gives equations for BOTH discriminants, rewriting with them reduces the two matches, and what is left is the two
continuations on related values (a rule stated with a `match` of its own would not unify with the matcher of the model's function).  An
`if` is walked by `ger_if` (the test answers alike; `ger_ite` where a branch needs the answer of the test), a match on the cursor by
`GEL.shape`.  So the proof that two runs of a function stay related is as long as the function, not as the product of its paths, and it
names at every call the lemma that relates the two calls.
-/
open Lex Ast
namespace PM.Rel

theorem GER.shape {E : Tok → Tok → Prop} {α : Type} {rv : α → α → Prop} {x y : R α} (h : GER E rv x y) :
    (∃ e, x = .error e ∧ y = .error e) ∨ ∃ a r a' r', x = .ok (a, r) ∧ y = .ok (a', r') ∧ rv a a' ∧ GEL E r r' := by
  rcases x with e | ⟨a, r⟩ <;> rcases y with e' | ⟨a', r'⟩ <;> simp only [ger_ok_ok, ger_err_err, ger_ok_err, ger_err_ok] at h
  · exact .inl ⟨e, rfl, h ▸ rfl⟩
  · exact .inr ⟨a, r, a', r', rfl, rfl, h.1, h.2⟩
theorem GEX.shape {α : Type} {rv : α → α → Prop} {x y : Except Err α} (h : GEX rv x y) :
    (∃ e, x = .error e ∧ y = .error e) ∨ ∃ a a', x = .ok a ∧ y = .ok a' ∧ rv a a' := by
  rcases x with e | a <;> rcases y with e' | a' <;> simp only [gex_ok_ok, gex_err_err, gex_ok_err, gex_err_ok] at h
  · exact .inl ⟨e, rfl, h ▸ rfl⟩
  · exact .inr ⟨a, a', rfl, rfl, h⟩
theorem GEL.shape {E : Tok → Tok → Prop} {ts ts' : List Tok} (h : GEL E ts ts') :
    (ts = [] ∧ ts' = []) ∨ ∃ t r t' r', ts = t :: r ∧ ts' = t' :: r' ∧ E t t' ∧ GEL E r r' := by
  cases ts with
  | nil => exact .inl ⟨rfl, gel_nil_left h⟩
  | cons t r => obtain ⟨t', r', rfl, h1, h2⟩ := gel_cons_left h; exact .inr ⟨t, r, t', r', rfl, rfl, h1, h2⟩
theorem GELL.shape {E : Tok → Tok → Prop} {a b : List (List Tok)} (h : GELL E a b) :
    (a = [] ∧ b = []) ∨ ∃ s r s' r', a = s :: r ∧ b = s' :: r' ∧ GEL E s s' ∧ GELL E r r' := by
  cases a <;> cases b <;> simp only [gell_nil_nil, gell_cons_cons, gell_nil_cons, gell_cons_nil] at h
  · exact .inl ⟨rfl, rfl⟩
  · exact .inr ⟨_, _, _, _, rfl, rfl, h.1, h.2⟩
theorem gOpt.shape {E : Tok → Tok → Prop} {α : Type} {rv : α → α → Prop} {x y : Option (α × List Tok)} (h : gOpt E rv x y) :
    (x = none ∧ y = none) ∨ ∃ a r a' r', x = some (a, r) ∧ y = some (a', r') ∧ rv a a' ∧ GEL E r r' := by
  rcases x with _ | ⟨a, r⟩ <;> rcases y with _ | ⟨a', r'⟩ <;> simp only [gOpt_some_some, gOpt_none_none, gOpt_some_none, gOpt_none_some] at h
  · exact .inl ⟨rfl, rfl⟩
  · exact .inr ⟨a, r, a', r', rfl, rfl, h.1, h.2⟩

theorem ger_ok {E : Tok → Tok → Prop} {α : Type} {rv : α → α → Prop} {v v' : α} {r r' : List Tok} (hv : rv v v') (hr : GEL E r r') :
    GER E rv (.ok (v, r)) (.ok (v', r')) := by simp [hv, hr]
theorem ger_err {E : Tok → Tok → Prop} {α : Type} {rv : α → α → Prop} {e : Err} : GER E rv (.error e) (.error e) := by simp
theorem gex_ok {α : Type} {rv : α → α → Prop} {v v' : α} (hv : rv v v') : GEX rv (.ok v) (.ok v') := by simp [hv]
theorem gex_err {α : Type} {rv : α → α → Prop} {e : Err} : GEX rv (.error e) (.error e) := by simp
theorem GER.mono {E : Tok → Tok → Prop} {α : Type} {rv rw : α → α → Prop} {x y : R α} (h : GER E rv x y) (hw : ∀ v v', rv v v' → rw v v') : GER E rw x y := by
  obtain ⟨e, rfl, rfl⟩ | ⟨a, r, a', r', rfl, rfl, hv, hr⟩ := h.shape
  · exact ger_err
  · exact ger_ok (hw _ _ hv) hr

/-- one bind of the two runs in lockstep: `L` relates the two callee runs; both fail with the same error (that goal is closed), or both
go on with `a`, `r` / `a'`, `r'` related by `hv`, `hr` -/
macro "rel_bind " L:term " with " a:ident r:ident a':ident r':ident hv:ident hr:ident : tactic =>
  `(tactic| (obtain ⟨e, hx, hy⟩ | ⟨$a:ident, $r:ident, $a':ident, $r':ident, hx, hy, $hv:ident, $hr:ident⟩ := GER.shape $L
             · simp only [hx, hy, ger_err_err, gex_err_err]
             simp only [hx, hy]; clear hx hy))
/-- the same for two callee runs without a cursor (`closed`, `eachClosed`, …) -/
macro "rel_bindx " L:term " with " a:ident a':ident hv:ident : tactic =>
  `(tactic| (obtain ⟨e, hx, hy⟩ | ⟨$a:ident, $a':ident, hx, hy, $hv:ident⟩ := GEX.shape $L
             · simp only [hx, hy, ger_err_err, gex_err_err]
             simp only [hx, hy]; clear hx hy))

theorem ger_if {E : Tok → Tok → Prop} {α : Type} {rv : α → α → Prop} {b b' : Bool} {x y x' y' : R α} (hc : b = b')
    (h1 : GER E rv x x') (h2 : GER E rv y y') : GER E rv (if b then x else y) (if b' then x' else y') := by
  subst hc; cases b <;> simp only [Bool.false_eq_true, ↓reduceIte, h1, h2]
theorem gex_if {α : Type} {rv : α → α → Prop} {b b' : Bool} {x y x' y' : Except Err α} (hc : b = b')
    (h1 : GEX rv x x') (h2 : GEX rv y y') : GEX rv (if b then x else y) (if b' then x' else y') := by
  subst hc; cases b <;> simp only [Bool.false_eq_true, ↓reduceIte, h1, h2]
theorem ger_ite {E : Tok → Tok → Prop} {α : Type} {rv : α → α → Prop} {b b' : Bool} {x y x' y' : R α} (hc : b = b')
    (h1 : b = true → b' = true → GER E rv x x') (h2 : b = false → b' = false → GER E rv y y') :
    GER E rv (if b then x else y) (if b' then x' else y') := by
  subst hc; cases b <;> simp_all
theorem gex_ite {α : Type} {rv : α → α → Prop} {b b' : Bool} {x y x' y' : Except Err α} (hc : b = b')
    (h1 : b = true → b' = true → GEX rv x x') (h2 : b = false → b' = false → GEX rv y y') :
    GEX rv (if b then x else y) (if b' then x' else y') := by
  subst hc; cases b <;> simp_all

variable [T : Theory]
theorem matchSeq_rel {ts ts' : List Tok} (h : GEL T.E ts ts') (ks : List String) (hk : ks.all T.plain = true) :
    GER T.E Eq (matchSeq ts ks) (matchSeq ts' ks) := by
  induction ks generalizing ts ts' with
  | nil => simp [matchSeq, h]
  | cons k ks ih =>
    simp only [List.all_cons, Bool.and_eq_true] at hk
    cases ts <;> cases ts' <;> simp_all [matchSeq]
    rw [T.equalsStr h.1 k hk.1]
    split
    · exact ih h.2
    · simp
grind_pattern matchSeq_rel => GEL T.E ts ts', matchSeq ts ks
theorem matchKw_rel {ts ts' : List Tok} (h : GEL T.E ts ts') (k : String) (hk : T.plain k = true) : GER T.E Eq (matchKw ts k) (matchKw ts' k) := by
  cases ts <;> cases ts' <;> simp_all [matchKw]
  rw [T.equalsStr h.1 k hk]
  split <;> simp [h.2]
grind_pattern matchKw_rel => GEL T.E ts ts', matchKw ts k

/-- what two popped sources have in common: stored as it is, stored after `unifyName`, stored inside a config string, looked up in the
compare-operator table, looked up (upper-cased) in the table of saving modes of a generated column / in the compute-operator table -/
def srcRel (s s' : String) : Prop :=
  T.m s = T.m s' ∧ T.m (unifyName s) = T.m (unifyName s') ∧ T.m2 s = T.m2 s' ∧ compareOp? s = compareOp? s' ∧ genModeOf (up s) = genModeOf (up s') ∧ computeOp? (up s) = computeOp? (up s')
-- the leaves of the chains (`by grind`) read the parts off through `srcRel_def`; the projections are for the steps that are terms or rewrites
@[simp, grind =] theorem srcRel_def (s s' : String) :
    srcRel s s' = (T.m s = T.m s' ∧ T.m (unifyName s) = T.m (unifyName s') ∧ T.m2 s = T.m2 s' ∧ compareOp? s = compareOp? s' ∧ genModeOf (up s) = genModeOf (up s') ∧ computeOp? (up s) = computeOp? (up s')) := rfl
namespace srcRel
variable {s s' : String} (h : srcRel s s')
include h
theorem m : T.m s = T.m s' := h.1
theorem unify : T.m (unifyName s) = T.m (unifyName s') := h.2.1
theorem m2 : T.m2 s = T.m2 s' := h.2.2.1
theorem compareOp : compareOp? s = compareOp? s' := h.2.2.2.1
theorem genMode : genModeOf (up s) = genModeOf (up s') := h.2.2.2.2.1
theorem computeOp : computeOp? (up s) = computeOp? (up s') := h.2.2.2.2.2
end srcRel
/-- `pop_as_source` on two related cursors, with everything the callers do with the popped word (`popSrc_rel`, its weak form, says only
that the stored text agrees) -/
theorem popSrc_srcRel : ∀ x0 y0, GEL T.E x0 y0 → GER T.E srcRel (popSrc x0) (popSrc y0) := by
  intro x0 y0 h
  cases x0 <;> cases y0 <;> simp_all [popSrc]
  exact ⟨T.src h.1, T.unify h.1, T.src2 h.1, T.compareOp h.1, T.genMode h.1, T.computeOp h.1⟩
grind_pattern popSrc_srcRel => popSrc x0, popSrc y0

end PM.Rel
