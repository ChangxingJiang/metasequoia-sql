import MsqProofs.Lemmas.ParseWN0
/-!
# C02 — `parse_derives`: the induction hypothesis (one field per function of the expression block) and the stack invariant
of the shift/reduce loop, stated with `Derives`.
-/
open Lex
namespace WNG
open PM Ast

/-- induction over `Derives` alone: `Derives.rec` with no hypothesis about the five list relations of the mutual block -/
theorem Derives.ind {d : Gen.D} {motive : (L : Nat) → (ts : List Tok) → (e : Expr) → Derives d L ts e → Prop}
    (up : ∀ {L L' ts e} (h : Derives d L ts e) (hl : L ≤ L'), motive L ts e h → motive L' ts e (h.up hl))
    (or_ : ∀ {l r t a b} (h1 : Derives d 14 l a) (ht : isOr t = true) (h2 : Derives d 13 r b),
      motive 14 l a h1 → motive 13 r b h2 → motive 14 (l ++ t :: r) (.or_ a b) (.or_ h1 ht h2))
    (xor : ∀ {l r t a b} (h1 : Derives d 13 l a) (ht : isXor t = true) (h2 : Derives d 12 r b),
      motive 13 l a h1 → motive 12 r b h2 → motive 13 (l ++ t :: r) (.xor a b) (.xor h1 ht h2))
    (and_ : ∀ {l r t a b} (h1 : Derives d 12 l a) (ht : isAnd t = true) (h2 : Derives d 11 r b),
      motive 12 l a h1 → motive 11 r b h2 → motive 12 (l ++ t :: r) (.and_ a b) (.and_ h1 ht h2))
    (not_ : ∀ {r t a} (ht : isNot d t = true) (h : Derives d 11 r a), motive 11 r a h → motive 11 (t :: r) (.not_ a) (.not_ ht h))
    (compare : ∀ {l r} {t : Tok} {o a b} (h1 : Derives d 10 l a) (ht : compareOp? t.src = some o) (h2 : Derives d 9 r b),
      motive 10 l a h1 → motive 9 r b h2 → motive 10 (l ++ t :: r) (.compare o a b) (.compare h1 ht h2))
    (between : ∀ {l ns u1 u2 n} {tb ta : Tok} {b f t} (hb : Derives d 9 l b) (hn : NotOpt d ns n) (htb : _root_.up tb.src = "BETWEEN")
      (hf : Derives d 8 u1 f) (hta : ta.equalsStr "AND" = true) (ht : Derives d 8 u2 t),
      motive 9 l b hb → motive 8 u1 f hf → motive 8 u2 t ht →
      motive 9 (l ++ ns ++ tb :: u1 ++ ta :: u2) (.between n b f t) (.between hb hn htb hf hta ht))
    (is_ : ∀ {l ns r n} {ti : Tok} {b a} (hb : Derives d 9 l b) (hn : NotOpt d ns n) (hti : _root_.up ti.src = "IS") (hr : Derives d 8 r a),
      motive 9 l b hb → motive 8 r a hr → motive 9 (l ++ ns ++ ti :: r) (.kw .is n b a) (.is_ hb hn hti hr))
    (isNot_ : ∀ {l r} {ti tn : Tok} {b a} (hb : Derives d 9 l b) (hti : _root_.up ti.src = "IS") (htn : tn.srcEqUp "NOT" = true)
      (hr : Derives d 8 r a),
      motive 9 l b hb → motive 8 r a hr → motive 9 (l ++ ti :: tn :: r) (.kw .is true b a) (.isNot_ hb hti htn hr))
    (like : ∀ {l ns r n} {tk : Tok} {k b a} (hb : Derives d 9 l b) (hn : NotOpt d ns n) (hk : likeKind (_root_.up tk.src) = some k)
      (hr : Derives d 8 r a),
      motive 9 l b hb → motive 8 r a hr → motive 9 (l ++ ns ++ tk :: r) (.kw k n b a) (.like hb hn hk hr))
    (inList : ∀ {l ns n} {ti g : Tok} {b vs} (hb : Derives d 9 l b) (hn : NotOpt d ns n) (hti : _root_.up ti.src = "IN")
      (hs : startsSelect g.children = false) (hv : Segs d (splitBy "," g.children [] []) vs),
      motive 9 l b hb → motive 9 (l ++ ns ++ [ti, g]) (.kw .in_ n b (.subValue vs)) (.inList hb hn hti hs hv))
    (inQuery : ∀ {l ns n} {ti g : Tok} {b q} (hb : Derives d 9 l b) (hn : NotOpt d ns n) (hti : _root_.up ti.src = "IN")
      (hs : startsSelect g.children = true) (hq : SubQ d g q),
      motive 9 l b hb → motive 9 (l ++ ns ++ [ti, g]) (.kw .in_ n b (.subQuery q)) (.inQuery hb hn hti hs hq))
    (exists_ : ∀ {te g : Tok} {q} (hte : te.srcEqUp "EXISTS" = true) (hq : SubQ d g q),
      motive 9 [te, g] (.exists_ (.subQuery q)) (.exists_ hte hq))
    (compute : ∀ {l r} {t : Tok} {o k a b} (ho : computeOp? (_root_.up t.src) = some (o, k)) (h1 : Derives d k l a) (h2 : Derives d (k - 1) r b),
      motive k l a h1 → motive (k - 1) r b h2 → motive k (l ++ t :: r) (.compute a o b) (.compute ho h1 h2))
    (unary : ∀ {r t o k a} (hu : isUnary d t = true) (ho : computeOp? (_root_.up t.src) = some (o, k)) (h : Derives d 1 r a),
      motive 1 r a h → motive 1 (t :: r) (.unary o a) (.unary hu ho h))
    (literal : ∀ {t : Tok} (h : t.has LITERAL = true), motive 0 [t] (.literal t.src) (.literal h))
    (paren : ∀ {g : Tok} {e} (hl : g.has LITERAL = false) (hp : g.has PAREN = true) (hs : startsSelect g.children = false)
      (h : Derives d 14 g.children e), motive 14 g.children e h → motive 0 [g] e (.paren hl hp hs h))
    (subQuery : ∀ {g : Tok} {q} (hl : g.has LITERAL = false) (hp : g.has PAREN = true) (hs : startsSelect g.children = true)
      (hq : SubQ d g q), motive 0 [g] (.subQuery q) (.subQuery hl hp hs hq))
    (caseCond : ∀ {tc : Tok} {ws ee cs el} (hc : tc.equalsStr "CASE" = true) (hw : Whens d ws cs) (he : ElseEnd d ee el),
      motive 0 (tc :: ws ++ ee) (.caseCond cs el) (.caseCond hc hw he))
    (caseVal : ∀ {tc : Tok} {u ws ee v cs el} (hc : tc.equalsStr "CASE" = true) (hv : Derives d 14 u v) (hw : Whens d ws cs)
      (he : ElseEnd d ee el), motive 14 u v hv → motive 0 (tc :: u ++ ws ++ ee) (.caseVal v cs el) (.caseVal hc hv hw he))
    (wildcard : ∀ {t : Tok} (h : t.srcEq "*" = true), motive 0 [t] (.wildcard none) (.wildcard h))
    (column : ∀ {t : Tok} (hl : t.has LITERAL = false) (hp : t.has PAREN = false),
      motive 0 [t] (.column none (unifyName t.src)) (.column hl hp))
    (qcolumn : ∀ {n0 dot n2 : Tok} (hd : dot.srcEq "." = true) (hn : n2.has NAME = true),
      motive 0 [n0, dot, n2] (.column (some (unifyName n0.src)) (unifyName n2.src)) (.qcolumn hd hn))
    (qwildcard : ∀ {n0 dot st : Tok} (hd : dot.srcEq "." = true) (hs : st.srcEq "*" = true),
      motive 0 [n0, dot, st] (.wildcard (some (unifyName n0.src))) (.qwildcard hd hs))
    (index : ∀ {u} {t : Tok} {b i} (hb : Derives d 0 u b) (ht : t.has ARRAY = true) (hi : Derives d 8 t.children i),
      motive 0 u b hb → motive 8 t.children i hi → motive 0 (u ++ [t]) (.index b i) (.index hb ht hi))
    (call : ∀ {nm} {g : Tok} {s n ps} (hf : FName nm s n) (ha : Args d (callPrep n g).2.2 ps),
      motive 0 (nm ++ [g]) (callNode s n (callPrep n g).1 (callPrep n g).2.1 ps) (.call hf ha))
    (ifCall : ∀ {nm} {g : Tok} {n ps} (hf : FName nm none n) (hn : _root_.up n = "IF") (ha : Args d g.children ps),
      motive 0 (nm ++ [g]) (.func none "IF" ps) (.ifCall hf hn ha))
    (cast : ∀ {nm u tl} {g ta : Tok} {n e c} (hf : FName nm none n) (hn : _root_.up n = "CAST") (hg : g.children = u ++ ta :: tl)
      (he : Derives d 8 u e) (hta : ta.equalsStr "AS" = true) (hc : castTail e tl = .ok c),
      motive 8 u e he → motive 0 (nm ++ [g]) c (.cast hf hn hg he hta hc))
    (extract : ∀ {nm u1 u2} {g tf : Tok} {n a b} (hf : FName nm none n) (hn : _root_.up n = "EXTRACT") (hg : g.children = u1 ++ tf :: u2)
      (ha : Derives d 8 u1 a) (htf : tf.equalsStr "FROM" = true) (hb : Derives d 8 u2 b),
      motive 8 u1 a ha → motive 8 u2 b hb → motive 0 (nm ++ [g]) (.extract a b) (.extract hf hn hg ha htf hb))
    (window : ∀ {u} {tov g : Tok} {fn w} (hf : Derives d 0 u fn) (ht : tov.equalsStr "OVER" = true) (hw : WinSpec d fn g.children w),
      motive 0 u fn hf → motive 0 (u ++ [tov, g]) w (.window hf ht hw))
    {L : Nat} {ts : List Tok} {e : Expr} (h : Derives d L ts e) : motive L ts e h :=
  @Derives.rec d motive (fun _ _ _ _ => True) (fun _ _ _ => True) (fun _ _ _ => True) (fun _ _ _ => True) (fun _ _ _ => True)
    up or_ xor and_ not_ compare between is_ isNot_ like (fun hb hn hti hs hv ih _ => inList hb hn hti hs hv ih) inQuery exists_
    compute unary literal paren subQuery (fun hc hw he _ _ => caseCond hc hw he)
    (fun hc hv hw he ih _ _ => caseVal hc hv hw he ih) wildcard column qcolumn qwildcard index (fun hf ha _ => call hf ha)
    (fun hf hn ha _ => ifCall hf hn ha) cast extract window
    trivial (fun _ _ _ _ _ => trivial) trivial (fun _ _ _ _ => trivial) trivial (fun _ _ _ _ _ _ _ _ => trivial)
    (fun _ => trivial) (fun _ _ _ _ => trivial) trivial (fun _ _ _ _ => trivial) L ts e h

/-- a successful run on the cursor `ts` has consumed a prefix `u` of it, and `pre ++ u` derives the returned tree at level `L`
(`pre`: what the caller has already consumed for the left operand of a loop) -/
def RE (d : Gen.D) (L : Nat) (pre ts : List Tok) (a : R Expr) : Prop :=
  ∀ v r, a = .ok (v, r) → ∃ u, ts = u ++ r ∧ Derives d L (pre ++ u) v

/-- the `before_value` handed to the keyword level: nothing yet, or a derived left operand -/
def KB (d : Gen.D) : Option Expr → List Tok → Prop
  | none, pre => pre = []
  | some b, pre => Derives d 9 pre b

theorem computeEnum_levels : Gen.computeEnum.all (fun e => decide (2 ≤ e.2.2 ∧ e.2.2 ≤ 8)) = true := by decide

theorem computeOp?_some {s o : String} {k : Nat} (h : computeOp? s = some (o, k)) :
    ∃ e, Gen.computeEnum.find? (·.1 == o) = some e ∧ e.2.2 = k := by
  unfold computeOp? at h
  split at h
  · cases h
  · rename_i nm _
    cases hf : Gen.computeEnum.find? (·.1 == nm) with
    | none => rw [hf] at h; cases h
    | some e =>
      rw [hf] at h
      cases h
      exact ⟨e, hf, rfl⟩

theorem computeOp_level {s o : String} {k : Nat} (h : computeOp? s = some (o, k)) : 2 ≤ k ∧ k ≤ 8 := by
  obtain ⟨e, hf, rfl⟩ := computeOp?_some h
  simpa using List.all_eq_true.mp computeEnum_levels e (List.mem_of_find?_eq_some hf)

/-! ### the stack of `_parse_compute_expression` (parser.py:838-846) -/
/-- `StackD st pre b`: the pending entries `l o` of the stack (top first) stand for the tokens `pre`; every pending left operand
derives at the level of its operator; the levels strictly increase downwards; `b` is the level of the top entry (9 if none) -/
inductive StackD (d : Gen.D) : List (Expr × String × Nat) → List Tok → Nat → Prop
  | nil : StackD d [] [] 9
  | cons {st : List (Expr × String × Nat)} {pre ls : List Tok} {b k : Nat} {t : Tok} {l : Expr} {o : String} :
      StackD d st pre b → k < b → Derives d k ls l → computeOp? (up t.src) = some (o, k) →
      StackD d ((l, o, k) :: st) (pre ++ ls ++ [t]) k

theorem StackD.two_le {d : Gen.D} {st pre b} (h : StackD d st pre b) : 2 ≤ b := by
  cases h with
  | nil => omega
  | cons _ _ _ ho => exact (computeOp_level ho).1

/-- the final `while len(stack) >= 3` -/
theorem collapse_derives {d : Gen.D} {st pre b} (hs : StackD d st pre b) :
    ∀ {m tt top}, Derives d m tt top → m < b → Derives d 8 (pre ++ tt) (PM.collapse st top) := by
  induction hs with
  | nil => intro m tt top ht hm; simpa [PM.collapse] using Derives.up ht (by omega)
  | @cons st pre ls b k t l o hst hk hl ho ih =>
    intro m tt top ht hm
    simp only [PM.collapse]
    have hc : Derives d k (ls ++ t :: tt) (.compute l o top) := Derives.compute ho hl (Derives.up ht (by omega))
    have := ih hc hk
    simpa using this

/-- the inner `while … compute_operator.level >= stack[-2].level` -/
theorem reduceWhile_derives {d : Gen.D} (lvl : Nat) (hl8 : lvl ≤ 8) {st pre b} (hs : StackD d st pre b) :
    ∀ {m tt top}, Derives d m tt top → m < b →
      ∃ pre' tt' b' m', StackD d (PM.reduceWhile lvl st top).1 pre' b' ∧ Derives d m' tt' (PM.reduceWhile lvl st top).2 ∧ m' < b' ∧
        pre' ++ tt' = pre ++ tt ∧ lvl < b' ∧ m' ≤ max m lvl := by
  induction hs with
  | nil => intro m tt top ht hm; exact ⟨[], tt, 9, m, .nil, by simpa [PM.reduceWhile] using ht, hm, rfl, by omega, by omega⟩
  | @cons st pre ls b k t l o hst hk hl ho ih =>
    intro m tt top ht hm
    simp only [PM.reduceWhile]
    split
    · rename_i hge
      have hc : Derives d k (ls ++ t :: tt) (.compute l o top) := Derives.compute ho hl (Derives.up ht (by omega))
      obtain ⟨pre', tt', b', m', h1, h2, h3, h4, h5, h6⟩ := ih hc hk
      exact ⟨pre', tt', b', m', h1, h2, h3, by simpa using h4, h5, by omega⟩
    · rename_i hlt
      exact ⟨pre ++ ls ++ [t], tt, k, m, .cons hst hk hl ho, ht, hm, rfl, by omega, by omega⟩

structure WF (d : Gen.D) (n : Nat) : Prop where
  pElement : ∀ ts, RE d 0 [] ts (pElement d n ts)
  pParen : ∀ n0 r0, n0.has LITERAL = false → n0.has PAREN = true → RE d 0 [] (n0 :: r0) (pParen d n n0 r0)
  pNamed : ∀ n0 r0, n0.has LITERAL = false → n0.has PAREN = false → RE d 0 [] (n0 :: r0) (pNamed d n n0 r0 (n0 :: r0))
  pQualified : ∀ n0 n1 r1, n1.srcEq "." = true → RE d 0 [] (n0 :: n1 :: r1) (pQualified d n n0 r1 (n0 :: n1 :: r1))
  pIndex : ∀ before pre ts, Derives d 0 pre before → RE d 0 pre ts (pIndex d n before ts)
  pFuncIdx : ∀ ts, RE d 0 [] ts (pFuncIdx d n ts)
  pFunc : ∀ ts, RE d 0 [] ts (pFunc d n ts)
  pIfCall : ∀ nm name r, FName nm none name → up name = "IF" → RE d 0 nm r (pIfCall d n r)
  pFirstArg : ∀ inner acc r2, pFirstArg d n inner = .ok (acc, r2) →
      (inner = [] ∧ acc = [] ∧ r2 = []) ∨ ∃ u e, inner = u ++ r2 ∧ acc = [e] ∧ Derives d 14 u e
  pCall : ∀ nm s name r, FName nm s name → RE d 0 nm r (pCall d n s name r)
  pArgs : ∀ acc ts ps r, pArgs d n acc ts = .ok (ps, r) → ∃ u es, ts = u ++ r ∧ ps = acc ++ es ∧ CommaTail d 14 u es
  pCase : ∀ ts, RE d 0 [] ts (pCase d n ts)
  pElseEnd : ∀ ts el r, pElseEnd d n ts = .ok (el, r) → ∃ u, ts = u ++ r ∧ ElseEnd d u el
  pWhens : ∀ acc ts cs r, pWhens d n acc ts = .ok (cs, r) → ∃ u cs', ts = u ++ r ∧ cs = acc ++ cs' ∧ Whens d u cs'
  pUnary : ∀ ts, RE d 1 [] ts (pUnary d n ts)
  pCompute : ∀ ts, RE d 8 [] ts (pCompute d n ts)
  pComputeLoop : ∀ st top ts pre tt b, StackD d st pre b → Derives d 1 tt top → RE d 8 (pre ++ tt) ts (pComputeLoop d n st top ts)
  pKeyword : ∀ before pre ts, KB d before pre → RE d 9 pre ts (pKeyword d n before ts)
  pKwFirst : ∀ before pre ts, KB d before pre → RE d 9 pre ts (pKwFirst d n before ts)
  pKwRest : ∀ bv isN r1 pre ns, Derives d 9 pre bv → NotOpt d ns isN → RE d 9 (pre ++ ns) r1 (pKwRest d n bv isN r1)
  pKwBody : ∀ k isN bv r2 pre ns tk, Derives d 9 pre bv → NotOpt d ns isN → up tk.src = k →
      ∀ v r, pKwBody d n k isN bv r2 = .ok (some (v, r)) → ∃ u, r2 = u ++ r ∧ Derives d 9 (pre ++ ns ++ tk :: u) v
  pBetween : ∀ isN bv r2 pre ns tk, Derives d 9 pre bv → NotOpt d ns isN → up tk.src = "BETWEEN" →
      ∀ v r, pBetween d n isN bv r2 = .ok (some (v, r)) → ∃ u, r2 = u ++ r ∧ Derives d 9 (pre ++ ns ++ tk :: u) v
  pInBody : ∀ isN bv r2 pre ns tk, Derives d 9 pre bv → NotOpt d ns isN → up tk.src = "IN" →
      ∀ v r, pInBody d n isN bv r2 = .ok (some (v, r)) → ∃ u, r2 = u ++ r ∧ Derives d 9 (pre ++ ns ++ tk :: u) v
  pSplit : ∀ acc cur ts vs, pSplit d n acc cur ts = .ok vs → ∃ vs', vs = acc ++ vs' ∧ Segs d (splitBy "," ts cur []) vs'
  pCompare : ∀ ts, RE d 10 [] ts (pCompare d n ts)
  pCompareLoop : ∀ acc pre ts, Derives d 10 pre acc → RE d 10 pre ts (pCompareLoop d n acc ts)
  pNot : ∀ ts, RE d 11 [] ts (pNot d n ts)
  pAnd : ∀ ts, RE d 12 [] ts (pAnd d n ts)
  pAndLoop : ∀ acc pre ts, Derives d 12 pre acc → RE d 12 pre ts (pAndLoop d n acc ts)
  pXor : ∀ ts, RE d 13 [] ts (pXor d n ts)
  pXorLoop : ∀ acc pre ts, Derives d 13 pre acc → RE d 13 pre ts (pXorLoop d n acc ts)
  pOr : ∀ ts, RE d 14 [] ts (pOr d n ts)
  pOrLoop : ∀ acc pre ts, Derives d 14 pre acc → RE d 14 pre ts (pOrLoop d n acc ts)
  pSubQuery : ∀ ts v r, pSubQuery d n ts = .ok (v, r) → ∃ g q, ts = g :: r ∧ v = .subQuery q ∧ SubQ d g q
  pCast : ∀ nm name r, FName nm none name → up name = "CAST" → RE d 0 nm r (pCast d n r)
  pExtract : ∀ nm name r, FName nm none name → up name = "EXTRACT" → RE d 0 nm r (pExtract d n r)
  pExtractTail : ∀ a r1 x, pExtractTail d n a r1 = .ok x →
      ∃ tf u2 b, r1 = tf :: u2 ∧ tf.equalsStr "FROM" = true ∧ Derives d 8 u2 b ∧ x = .extract a b
  pWindow : ∀ ts, RE d 0 [] ts (pWindow d n ts)

end WNG
