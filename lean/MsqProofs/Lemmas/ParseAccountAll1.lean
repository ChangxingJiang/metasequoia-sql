import MsqProofs.Lemmas.ParseAccountAll0
import MsqProofs.Lemmas.ParseAccountAllKwOk
/-!
# C08, accounting for EVERY function of the parser model — hand-written base, part 2: accounted tokens, primitives, helpers

* `KWA` (generated, `ParseAccountAllKw.lean`): the union of the entries of `kwOf` (per function of the model, the string constants it compares token
  sources with) and the keys of the generated operator / enum tables.  `KwTok t`: the (upper-cased, or unquoted and upper-cased)
  source of `t` is one of them.  `isKW`, `kwOk` and the facts `kwOk_<word>` for the words the lemmas name: `ParseAccountAllKwOk.lean` (generated).
* `Acc T t` — the token `t` is accounted for by the set of texts `T`:
  `text` its source is in `T`; `name` its source after `unifyName` is; `dotted` it is a dotted name in one token and both halves are;
  `int` it is an integer literal and the decimal text of its VALUE is (`LIMIT 010` is stored as `10`); `kw` it is a grammar word;
  `group` it is a bracket group (`PARENTHESIS` / `ARRAY_INDEX` mark, or it has children) and all its children are accounted for.
  `text` / `name` applied to a GROUP token is class F-C08-5 (the concatenated text of a bracket group taken as a name): the
  relation descends only where the parser did.
* `AR T tx pl ts pre prePl a` — the run `a` on the cursor `ts`: if it succeeds with `(v, r)` and `v` is in the `Full` fragment (`pl v`),
  then what the function was handed is (`prePl`), and if `T` contains the texts of `v` then every token consumed between `ts` and
  `r` is accounted for by `T`, and `T` contains the texts handed in (`pre`).  `T` is FIXED throughout the induction.

`ParseAccountTexts0.lean` (namespace `PM`, opened here) has relations and lemmas of the same names (`Acc`, `Acc3`, `KwSeg`, `KwRel`, `KwTok`, `isKW`,
`kwOk`, the `_kw` lemmas of the cursor primitives) for the plain expression fragment: four of the six rules, the 51 words `KW`.  The namespace tells
them apart; `PM.Acc ⊂ PA.Acc`, so that development is not an instance of this one (its statement is the stronger one on plain results).
-/
set_option linter.unusedVariables false
open Lex PM Ast

namespace PA

/-! ### grammar words -/
def allKw (ks : List String) : Bool := ks.all kwOk
def tblKw (tbl : List (String × List String)) : Bool := tbl.all fun e => allKw e.2
def KwTok (t : Tok) : Bool := isKW (up t.src) || isKW t.src || isKW (up (unifyName t.src))
@[grind =] theorem kwTok_def (t : Tok) : KwTok t = (isKW (up t.src) || isKW t.src || isKW (up (unifyName t.src))) := rfl

/-- a bracket group: what the parser tests (`PARENTHESIS` / `ARRAY_INDEX` mark), or a token that has children -/
def Groupish (t : Tok) : Bool := t.has PAREN || t.has ARRAY || !t.children.isEmpty
@[grind =] theorem groupish_def (t : Tok) : Groupish t = (t.has PAREN || t.has ARRAY || !t.children.isEmpty) := rfl

inductive Acc (T : List String) : Tok → Prop
  | text {t : Tok} : t.src ∈ T → Acc T t
  | name {t : Tok} : unifyName t.src ∈ T → Acc T t
  | dotted {t : Tok} {a b : String} : splitName t.src = .ok (some a, b) → a ∈ T → b ∈ T → Acc T t
  | int {t : Tok} {n : Int} : pyInt t.src = .ok n → toString n ∈ T → Acc T t
  | kw {t : Tok} : KwTok t = true → Acc T t
  | group {t : Tok} : Groupish t = true → (∀ c, c ∈ t.children → Acc T c) → Acc T t

/-- a term that mentions `T` (for the patterns of the lemmas below) -/
def Anchor (T : List String) : Prop := True
def AccAll (T : List String) (ts : List Tok) : Prop := ∀ t, t ∈ ts → Acc T t
def Acc3 (T : List String) (ts r : List Tok) : Prop := ∃ used, ts = used ++ r ∧ AccAll T used
def KwSeg (ts r : List Tok) : Prop := ∃ used, ts = used ++ r ∧ ∀ t, t ∈ used → KwTok t = true

@[grind =] theorem accAll_nil (T) : AccAll T [] = True := by simp [AccAll]
@[grind =] theorem accAll_cons (T) (t : Tok) (ts) : AccAll T (t :: ts) = (Acc T t ∧ AccAll T ts) := by simp [AccAll]
@[grind =] theorem accAll_append (T) (a b : List Tok) : AccAll T (a ++ b) = (AccAll T a ∧ AccAll T b) := by
  simp only [AccAll, List.mem_append, eq_iff_iff]
  exact ⟨fun h => ⟨fun t ht => h t (Or.inl ht), fun t ht => h t (Or.inr ht)⟩, fun h t ht => ht.elim (h.1 t) (h.2 t)⟩
theorem Acc3.sfx {T ts r} (h : Acc3 T ts r) : Sfx r ts := by obtain ⟨u, hu, _⟩ := h; exact ⟨u, hu⟩
theorem Acc3.refl (T : List String) (ts : List Tok) : Acc3 T ts ts := ⟨[], rfl, by simp [AccAll]⟩
@[grind =] theorem acc3_self (T : List String) (ts : List Tok) : Acc3 T ts ts = True := by simp [Acc3.refl]
theorem Acc3.trans {T a b c} (h1 : Acc3 T a b) (h2 : Acc3 T b c) : Acc3 T a c := by
  obtain ⟨u, rfl, hu⟩ := h1; obtain ⟨w, rfl, hw⟩ := h2
  exact ⟨u ++ w, by simp, by rw [accAll_append]; exact ⟨hu, hw⟩⟩
grind_pattern Acc3.trans => Acc3 T a b, Acc3 T b c
theorem acc3_cons {T : List String} {t : Tok} {r r' : List Tok} (ht : Acc T t) (h : Acc3 T r r') : Acc3 T (t :: r) r' := by
  obtain ⟨u, rfl, hu⟩ := h
  exact ⟨t :: u, rfl, by rw [accAll_cons]; exact ⟨ht, hu⟩⟩
grind_pattern acc3_cons => Acc3 T (t :: r) r'
@[grind =] theorem acc3_nil (T : List String) (cs : List Tok) : Acc3 T cs [] = AccAll T cs := by
  simp only [Acc3, List.append_nil, eq_iff_iff]
  exact ⟨fun ⟨u, hu, h⟩ => hu ▸ h, fun h => ⟨cs, rfl, h⟩⟩
theorem acc3_accAll {T : List String} {ts r : List Tok} (h : Acc3 T ts r) (h' : AccAll T r) : AccAll T ts := by
  obtain ⟨u, rfl, hu⟩ := h; rw [accAll_append]; exact ⟨hu, h'⟩
grind_pattern acc3_accAll => Acc3 T ts r, AccAll T r
theorem acc3_drop1 {T : List String} {t : Tok} {r : List Tok} (ht : Acc T t) : Acc3 T (t :: r) r := acc3_cons ht (Acc3.refl T r)
theorem acc_group {T : List String} {t : Tok} (h : AccAll T t.children) (hb : Groupish t = true) : Acc T t := .group hb h
grind_pattern acc_group => AccAll T t.children
theorem acc_text {T : List String} {t : Tok} (h : t.src ∈ T) : Acc T t := .text h
grind_pattern acc_text => t.src ∈ T
theorem acc_name {T : List String} {t : Tok} (h : unifyName t.src ∈ T) : Acc T t := .name h
grind_pattern acc_name => unifyName t.src ∈ T
theorem acc_kw {T : List String} {t : Tok} (h : KwTok t = true) : Acc T t := .kw h
grind_pattern acc_kw => Acc T t, KwTok t

theorem KwSeg.refl (ts : List Tok) : KwSeg ts ts := ⟨[], rfl, by simp⟩
@[grind =] theorem kwSeg_self (ts : List Tok) : KwSeg ts ts = True := by simp [KwSeg.refl]
theorem KwSeg.acc3 {ts r} (h : KwSeg ts r) (T : List String) : Acc3 T ts r := by
  obtain ⟨u, hu, h⟩ := h; exact ⟨u, hu, fun t ht => .kw (h t ht)⟩
grind_pattern KwSeg.acc3 => KwSeg ts r, Anchor T
theorem KwSeg.trans {a b c} (h1 : KwSeg a b) (h2 : KwSeg b c) : KwSeg a c := by
  obtain ⟨u, rfl, hu⟩ := h1; obtain ⟨w, rfl, hw⟩ := h2
  exact ⟨u ++ w, by simp, fun t ht => (List.mem_append.1 ht).elim (hu t) (hw t)⟩
grind_pattern KwSeg.trans => KwSeg a b, KwSeg b c
theorem kwSeg_acc3_trans {T a b c} (h1 : KwSeg a b) (h2 : Acc3 T b c) : Acc3 T a c := (h1.acc3 T).trans h2
grind_pattern kwSeg_acc3_trans => KwSeg a b, Acc3 T b c
theorem acc3_kwSeg_trans {T a b c} (h1 : Acc3 T a b) (h2 : KwSeg b c) : Acc3 T a c := h1.trans (h2.acc3 T)
grind_pattern acc3_kwSeg_trans => Acc3 T a b, KwSeg b c
theorem kwSeg_cons {t : Tok} {r : List Tok} (h : KwTok t = true) : KwSeg (t :: r) r := ⟨[t], rfl, by simpa using h⟩
grind_pattern kwSeg_cons => t :: r
theorem kwSeg_cons_of {t : Tok} {r r' : List Tok} (h : KwTok t = true) (h' : KwSeg r r') : KwSeg (t :: r) r' := (kwSeg_cons h).trans h'
theorem kwSeg_nil_accAll {T ts} (h : KwSeg ts []) : AccAll T ts := by
  have := h.acc3 T; rwa [acc3_nil] at this

/-! ### the relations the accounting lemmas are stated with -/
def AR (T : List String) {α : Type} (tx : α → List String) (pl : α → Bool) (ts : List Tok) (pre : List String) (prePl : Bool) (a : R α) : Prop :=
  ∀ v r, a = .ok (v, r) → pl v = true → prePl = true ∧ (Sub (tx v) T → Acc3 T ts r ∧ Sub pre T)
@[grind =] theorem ar_ok (T) {α : Type} (tx : α → List String) (pl : α → Bool) (ts pre prePl) (v : α) (r : List Tok) :
    AR T tx pl ts pre prePl (.ok (v, r)) = (pl v = true → prePl = true ∧ (Sub (tx v) T → Acc3 T ts r ∧ Sub pre T)) := by simp [AR]
@[grind =] theorem ar_error (T) {α : Type} (tx : α → List String) (pl : α → Bool) (ts pre prePl) (e : Err) :
    AR T tx pl ts pre prePl (.error e : R α) = True := by simp [AR]
/-- the functions that return `Option (value × cursor)`; `kw`: the keyword the caller has consumed is a grammar word -/
def ARO (T : List String) (ts : List Tok) (bv : Expr) (kw : Bool) (a : Except Err (Option (Expr × List Tok))) : Prop :=
  ∀ v r, a = .ok (some (v, r)) → FullE v = true → FullE bv = true ∧ kw = true ∧ (Sub (tE v) T → Acc3 T ts r ∧ Sub (tE bv) T)
@[grind =] theorem aro_some (T ts bv kw) (v : Expr) (r : List Tok) :
    ARO T ts bv kw (.ok (some (v, r))) = (FullE v = true → FullE bv = true ∧ kw = true ∧ (Sub (tE v) T → Acc3 T ts r ∧ Sub (tE bv) T)) := by
  simp [ARO]
@[grind =] theorem aro_none (T ts bv kw) : ARO T ts bv kw (.ok none) = True := by simp [ARO]
@[grind =] theorem aro_error (T ts bv kw) (e : Err) : ARO T ts bv kw (.error e) = True := by simp [ARO]
/-- the functions that run on a whole (child) cursor and return no rest: every token of `ts` is accounted for -/
def ARV (T : List String) {α : Type} (tx : α → List String) (pl : α → Bool) (ts : List Tok) (pre : List String) (prePl : Bool) (a : Except Err α) : Prop :=
  ∀ v, a = .ok v → pl v = true → prePl = true ∧ (Sub (tx v) T → AccAll T ts ∧ Sub pre T)
@[grind =] theorem arv_ok (T) {α : Type} (tx : α → List String) (pl : α → Bool) (ts pre prePl) (v : α) :
    ARV T tx pl ts pre prePl (.ok v) = (pl v = true → prePl = true ∧ (Sub (tx v) T → AccAll T ts ∧ Sub pre T)) := by simp [ARV]
@[grind =] theorem arv_error (T) {α : Type} (tx : α → List String) (pl : α → Bool) (ts pre prePl) (e : Err) :
    ARV T tx pl ts pre prePl (.error e : Except Err α) = True := by simp [ARV]
/-- `pSingleParen`: the whole inner cursor is parsed, the rest is the outer cursor -/
def ARP (T : List String) (inner outer : List Tok) (pre : List String) (prePl : Bool) (a : R Select) : Prop :=
  ∀ v r, a = .ok (v, r) → FullSel v = true → prePl = true ∧ r = outer ∧ (Sub (tSel v) T → AccAll T inner ∧ Sub pre T)
@[grind =] theorem arp_ok (T inner outer pre prePl) (v : Select) (r : List Tok) :
    ARP T inner outer pre prePl (.ok (v, r)) = (FullSel v = true → prePl = true ∧ r = outer ∧ (Sub (tSel v) T → AccAll T inner ∧ Sub pre T)) := by
  simp [ARP]
@[grind =] theorem arp_error (T inner outer pre prePl) (e : Err) : ARP T inner outer pre prePl (.error e) = True := by simp [ARP]
/-- the WITH clause a SELECT-building function was handed is the one it stores -/
def WRel (w : List WithTable) (a : R Select) : Prop := ∀ v r, a = .ok (v, r) → withsOf v = some w
@[grind =] theorem wrel_ok (w) (v : Select) (r : List Tok) : WRel w (.ok (v, r)) = (withsOf v = some w) := by simp [WRel]
@[grind =] theorem wrel_error (w) (e : Err) : WRel w (.error e) = True := by simp [WRel]
def KwRel {α : Type} (ts : List Tok) (a : R α) : Prop := ∀ v r, a = .ok (v, r) → KwSeg ts r
@[grind =] theorem kwRel_ok {α : Type} (ts : List Tok) (v : α) (r : List Tok) : KwRel ts (.ok (v, r) : R α) = KwSeg ts r := by simp [KwRel]
@[grind =] theorem kwRel_error {α : Type} (ts : List Tok) (e : Err) : KwRel ts (.error e : R α) = True := by simp [KwRel]

def tS (s : String) : List String := [s]
def tU (s : String) : List String := [unifyName s]
def tI (n : Int) : List String := [toString n]
def tt {α : Type} (_ : α) : Bool := true
@[grind =] theorem tS_def (s) : tS s = [s] := rfl
@[grind =] theorem tU_def (s) : tU s = [unifyName s] := rfl
@[grind =] theorem tI_def (n) : tI n = [toString n] := rfl
@[grind =] theorem tt_def {α : Type} (a : α) : tt a = true := rfl
def tWG (p : Option Expr × Option GroupBy) : List String := tOpt p.1 ++ tOGB p.2
def FullWG (p : Option Expr × Option GroupBy) : Bool := FullO p.1 && FullOGB p.2
def tHO (p : Option Expr × Option (List OrderItem)) : List String := tOpt p.1 ++ tOOrds p.2
def FullHO (p : Option Expr × Option (List OrderItem)) : Bool := FullO p.1 && FullOOrds p.2
def tHC (p : Option (List OrderItem) × Option (List Expr) × Option (List Expr)) : List String := tOOrds p.1 ++ (tOL p.2.1 ++ tOL p.2.2)
def FullHC (p : Option (List OrderItem) × Option (List Expr) × Option (List Expr)) : Bool := FullOOrds p.1 && (FullOL p.2.1 && FullOL p.2.2)
def FullSets (gs : List (List Expr)) : Bool := FullOLL (some gs)
@[grind =] theorem tWG_def (a b) : tWG (a, b) = tOpt a ++ tOGB b := rfl
@[grind =] theorem FullWG_def (a b) : FullWG (a, b) = (FullO a && FullOGB b) := rfl
@[grind =] theorem tHO_def (a b) : tHO (a, b) = tOpt a ++ tOOrds b := rfl
@[grind =] theorem FullHO_def (a b) : FullHO (a, b) = (FullO a && FullOOrds b) := rfl
@[grind =] theorem tHC_def (a b c) : tHC (a, b, c) = tOOrds a ++ (tOL b ++ tOL c) := rfl
@[grind =] theorem FullHC_def (a b c) : FullHC (a, b, c) = (FullOOrds a && (FullOL b && FullOL c)) := rfl
@[grind =] theorem FullSets_def (gs) : FullSets gs = FullOLL (some gs) := rfl
@[grind =] theorem mem_singleton_str (a b : String) : (a ∈ [b]) = (a = b) := by simp

/-! ### the cursor primitives -/
@[grind =] theorem drop_drop_g (i j : Nat) (ts : List Tok) : (ts.drop j).drop i = ts.drop (j + i) := by simp [Nat.add_comm]
theorem srcEqUp_kw {t : Tok} {k : String} (h : t.srcEqUp k = true) (hk : kwOk k = true) : KwTok t = true := by
  simp only [Tok.srcEqUp, beq_iff_eq] at h
  simp only [kwOk, Bool.and_eq_true] at hk
  simp [KwTok, h, hk.1]
grind_pattern srcEqUp_kw => t.srcEqUp k, kwOk k
theorem srcEq_kw {t : Tok} {k : String} (h : t.srcEq k = true) (hk : kwOk k = true) : KwTok t = true := by
  simp only [Tok.srcEq, beq_iff_eq] at h
  simp only [kwOk, Bool.and_eq_true] at hk
  simp [KwTok, h, hk.1]
grind_pattern srcEq_kw => t.srcEq k, kwOk k
theorem equalsStr_kw {t : Tok} {k : String} (h : t.equalsStr k = true) (hk : kwOk k = true) : KwTok t = true := by
  simp only [kwOk, Bool.and_eq_true] at hk
  cases t with
  | single s m =>
    simp only [Tok.equalsStr, beq_iff_eq] at h
    have : Tok.src (.single s m) = String.ofList s := rfl
    simp [KwTok, this, h, hk.2]
  | group k cs m => simp [Tok.equalsStr] at h
grind_pattern equalsStr_kw => t.equalsStr k, kwOk k
theorem upsrc_kw {t : Tok} {k : String} (h : up t.src = k) (hk : kwOk k = true) : KwTok t = true := by
  simp only [kwOk, Bool.and_eq_true] at hk
  simp [KwTok, h, hk.1]
grind_pattern upsrc_kw => up t.src, kwOk k

theorem matchKw_kw (ts : List Tok) (k : String) (hk : kwOk k = true) : KwRel ts (matchKw ts k) := by
  intro v r h
  cases ts with
  | nil => simp [matchKw] at h
  | cons t ts =>
    simp only [matchKw] at h
    split at h <;> simp at h
    rename_i he; subst h; exact kwSeg_cons (equalsStr_kw he hk)
grind_pattern matchKw_kw => matchKw ts k, kwOk k
theorem searchStrUp_kw (ts : List Tok) (k : String) (h : searchStrUp ts k = true) (hk : kwOk k = true) : KwSeg ts (ts.drop 1) := by
  cases ts with
  | nil => simp [searchStrUp] at h
  | cons t r => exact kwSeg_cons (srcEqUp_kw (by simpa [searchStrUp] using h) hk)
grind_pattern searchStrUp_kw => searchStrUp ts k, kwOk k
theorem searchStr_kw (ts : List Tok) (k : String) (h : searchStr ts k = true) (hk : kwOk k = true) : KwSeg ts (ts.drop 1) := by
  cases ts with
  | nil => simp [searchStr] at h
  | cons t r => exact kwSeg_cons (srcEq_kw (by simpa [searchStr] using h) hk)
grind_pattern searchStr_kw => searchStr ts k, kwOk k
theorem moveStrUp_kw (ts : List Tok) (k : String) (hk : kwOk k = true) : KwSeg ts (moveStrUp ts k).2 := by
  unfold moveStrUp; split
  · rename_i h; exact searchStrUp_kw ts k h hk
  · exact KwSeg.refl _
grind_pattern moveStrUp_kw => moveStrUp ts k, kwOk k
theorem moveStr_kw (ts : List Tok) (k : String) (hk : kwOk k = true) : KwSeg ts (moveStr ts k).2 := by
  unfold moveStr; split
  · rename_i h; exact searchStr_kw ts k h hk
  · exact KwSeg.refl _
grind_pattern moveStr_kw => moveStr ts k, kwOk k
theorem searchTwoUp_kw (ts : List Tok) (a b : String) (h : searchTwoUp ts a b = true) (ha : kwOk a = true) (hb : kwOk b = true) :
    KwSeg ts (ts.drop 2) := by
  rcases ts with _ | ⟨x, _ | ⟨y, r⟩⟩ <;> simp only [searchTwoUp, Bool.and_eq_true, Bool.false_eq_true] at h
  exact kwSeg_cons_of (srcEqUp_kw h.1 ha) (kwSeg_cons (srcEqUp_kw h.2 hb))
grind_pattern searchTwoUp_kw => searchTwoUp ts a b, kwOk a, kwOk b
theorem moveTwoUp_kw (ts : List Tok) (a b : String) (ha : kwOk a = true) (hb : kwOk b = true) : KwSeg ts (moveTwoUp ts a b).2 := by
  unfold moveTwoUp; split
  · rename_i h; exact searchTwoUp_kw ts a b h ha hb
  · exact KwSeg.refl _
grind_pattern moveTwoUp_kw => moveTwoUp ts a b, kwOk a, kwOk b
theorem searchThreeUp_kw (ts : List Tok) (a b c : String) (h : searchThreeUp ts a b c = true) (ha : kwOk a = true) (hb : kwOk b = true)
    (hc : kwOk c = true) : KwSeg ts (ts.drop 3) := by
  rcases ts with _ | ⟨x, _ | ⟨y, _ | ⟨z, r⟩⟩⟩ <;> simp only [searchThreeUp, Bool.and_eq_true, Bool.false_eq_true] at h
  exact kwSeg_cons_of (srcEqUp_kw h.1.1 ha) (kwSeg_cons_of (srcEqUp_kw h.1.2 hb) (kwSeg_cons (srcEqUp_kw h.2 hc)))
grind_pattern searchThreeUp_kw => searchThreeUp ts a b c, kwOk a, kwOk b, kwOk c
theorem moveThreeUp_kw (ts : List Tok) (a b c : String) (ha : kwOk a = true) (hb : kwOk b = true) (hc : kwOk c = true) :
    KwSeg ts (moveThreeUp ts a b c).2 := by
  unfold moveThreeUp; split
  · rename_i h; exact searchThreeUp_kw ts a b c h ha hb hc
  · exact KwSeg.refl _
grind_pattern moveThreeUp_kw => moveThreeUp ts a b c, kwOk a, kwOk b, kwOk c
theorem searchSeq_kw : ∀ (ks : List String) (ts : List Tok), searchSeq ts ks = true → allKw ks = true → KwSeg ts (ts.drop ks.length) := by
  intro ks
  induction ks with
  | nil => intro ts _ _; simp [KwSeg.refl]
  | cons k ks ih =>
    intro ts h hk
    cases ts with
    | nil => simp [searchSeq] at h
    | cons t r =>
      simp only [searchSeq, Bool.and_eq_true] at h
      simp only [allKw, List.all_cons, Bool.and_eq_true] at hk
      exact kwSeg_cons_of (equalsStr_kw h.1 hk.1) (by simpa using ih r h.2 (by simpa [allKw] using hk.2))
theorem searchSeq_kw_g (ks : List String) (ts : List Tok) (n : Nat) (h : searchSeq ts ks = true) (hk : allKw ks = true) (hn : n = ks.length) :
    KwSeg ts (ts.drop n) := hn ▸ searchSeq_kw ks ts h hk
grind_pattern searchSeq_kw_g => searchSeq ts ks, List.drop n ts, allKw ks
theorem matchSeq_kw : ∀ (ks : List String) (ts : List Tok), allKw ks = true → KwRel ts (matchSeq ts ks) := by
  intro ks
  induction ks with
  | nil => intro ts _ v r h; simp [matchSeq] at h; subst h; exact KwSeg.refl _
  | cons k ks ih =>
    intro ts hk v r h
    simp only [allKw, List.all_cons, Bool.and_eq_true] at hk
    cases ts with
    | nil => simp [matchSeq] at h
    | cons t ts =>
      simp only [matchSeq] at h
      split at h
      · rename_i he
        exact kwSeg_cons_of (equalsStr_kw he hk.1) (ih ts (by simpa [allKw] using hk.2) v r h)
      · simp at h
grind_pattern matchSeq_kw => matchSeq ts ks, allKw ks
theorem firstEnum_kw (tbl : List (String × List String)) (ts : List Tok) (n : String) (r : List Tok)
    (h : firstEnum tbl ts = some (n, r)) (hk : tblKw tbl = true) : KwSeg ts r := by
  induction tbl with
  | nil => simp [firstEnum] at h
  | cons e tbl ih =>
    obtain ⟨m, ks⟩ := e
    simp only [tblKw, List.all_cons, Bool.and_eq_true] at hk
    simp only [firstEnum] at h
    split at h
    · rename_i hs
      simp only [Option.some.injEq, Prod.mk.injEq] at h; rw [← h.2]; exact searchSeq_kw ks ts hs hk.1
    · exact ih h (by simpa [tblKw] using hk.2)
grind_pattern firstEnum_kw => firstEnum tbl ts, some (n, r), tblKw tbl
theorem notSet_kw (d : Gen.D) (s : String) (h : (Gen.notSet d).contains s = true) : isKW s = true := by
  simp only [isKW, KWA, kwTables, List.contains_eq_mem, List.mem_append, List.mem_flatMap, decide_eq_true_eq] at h ⊢
  exact Or.inr (Or.inl (Or.inl (Or.inl (Or.inl (Or.inl (Or.inl (Or.inr ⟨d, by cases d <;> simp [Gen.allD], h⟩)))))))
grind_pattern notSet_kw => (Gen.notSet d).contains s
theorem unarySet_kw (d : Gen.D) (s : String) (h : (Gen.unarySet d).contains s = true) : isKW s = true := by
  simp only [isKW, KWA, kwTables, List.contains_eq_mem, List.mem_append, List.mem_flatMap, decide_eq_true_eq] at h ⊢
  exact Or.inr (Or.inl (Or.inl (Or.inl (Or.inl (Or.inl (Or.inr ⟨d, by cases d <;> simp [Gen.allD], h⟩))))))
grind_pattern unarySet_kw => (Gen.unarySet d).contains s
theorem computeOp_kw (s : String) (x : String × Nat) (h : computeOp? s = some x) : isKW s = true := by
  unfold computeOp? at h
  split at h
  · simp at h
  · rename_i k nm hf
    have := List.mem_of_find?_eq_some hf
    have hk : k = s := by simpa using List.find?_some hf
    subst hk
    simp only [isKW, KWA, kwTables, List.contains_eq_mem, List.mem_append, List.mem_map, decide_eq_true_eq]
    exact Or.inr (Or.inl (Or.inl (Or.inl (Or.inl (Or.inl (Or.inl (Or.inl (Or.inl ⟨_, this, rfl⟩))))))))
grind_pattern computeOp_kw => computeOp? s, some x
theorem compareOp_kw (s : String) (o : String) (h : compareOp? s = some o) : isKW s = true := by
  unfold compareOp? at h
  simp only [Option.map_eq_some_iff] at h
  obtain ⟨p, hf, _⟩ := h
  have := List.mem_of_find?_eq_some hf
  have hk : p.1 = s := by simpa using List.find?_some hf
  subst hk
  simp only [isKW, KWA, kwTables, List.contains_eq_mem, List.mem_append, List.mem_map, decide_eq_true_eq]
  exact Or.inr (Or.inl (Or.inl (Or.inl (Or.inl (Or.inl (Or.inl (Or.inl (Or.inr ⟨_, this, rfl⟩))))))))
grind_pattern compareOp_kw => compareOp? s, some o
theorem skipNot_kw (d : Gen.D) (ts : List Tok) : KwSeg ts (skipNot d ts).2 := by
  unfold skipNot; split
  · split
    · rename_i h; exact kwSeg_cons (by simp [KwTok, notSet_kw d _ h])
    · exact KwSeg.refl _
  · exact KwSeg.refl _
grind_pattern skipNot_kw => skipNot d ts

/-! ### primitives that store what they consume -/
theorem pop_src (ts : List Tok) (t : Tok) (r : List Tok) (h : pop ts = .ok (t, r)) : ts = t :: r := by
  cases ts <;> simp [pop] at h; obtain ⟨rfl, rfl⟩ := h; rfl
/-- `pop_as_source`: the source is stored verbatim, or after `unifyName`, or it is a grammar word -/
theorem popSrc_acc (T) (ts : List Tok) (s : String) (r : List Tok) (h : popSrc ts = .ok (s, r)) :
    (s ∈ T → Acc3 T ts r) ∧ (unifyName s ∈ T → Acc3 T ts r) ∧ ((isKW (up s) || isKW s || isKW (up (unifyName s))) = true → KwSeg ts r) := by
  cases ts <;> simp [popSrc] at h
  obtain ⟨rfl, rfl⟩ := h
  exact ⟨fun hs => acc3_drop1 (.text hs), fun hs => acc3_drop1 (.name hs), fun hk => kwSeg_cons hk⟩
grind_pattern popSrc_acc => popSrc ts, Except.ok (s, r), Anchor T
theorem asInt_pyInt (s : String) (n : Int) (h : asInt s = .ok n) : pyInt s = .ok n := by
  unfold asInt at h
  split at h
  · simp at h
  · split at h
    · split at h <;> simp_all
    · simp at h
theorem popInt_acc (T) (ts : List Tok) (n : Int) (r : List Tok) (h : popInt ts = .ok (n, r)) (hn : toString n ∈ T) : Acc3 T ts r := by
  cases ts with
  | nil => simp [popInt] at h
  | cons t ts =>
    simp only [popInt] at h
    split at h <;> simp at h
    rename_i m hm
    obtain ⟨rfl, rfl⟩ := h
    exact acc3_drop1 (.int hm hn)
grind_pattern popInt_acc => popInt ts, Except.ok (n, r), toString n ∈ T
theorem popAsInt_acc (T) (ts : List Tok) (n : Int) (r : List Tok) (h : popAsInt ts = .ok (n, r)) (hn : toString n ∈ T) : Acc3 T ts r := by
  cases ts with
  | nil => simp [popAsInt] at h
  | cons t ts =>
    simp only [popAsInt] at h
    split at h <;> simp at h
    rename_i m hm
    obtain ⟨rfl, rfl⟩ := h
    exact acc3_drop1 (.int (asInt_pyInt _ _ hm) hn)
grind_pattern popAsInt_acc => popAsInt ts, Except.ok (n, r), toString n ∈ T
theorem getAliasName_acc (T) (ts : List Tok) (n : String) (r : List Tok) (h : getAliasName ts = .ok (n, r)) (hn : n ∈ T) : Acc3 T ts r := by
  cases ts with
  | nil => simp [getAliasName] at h
  | cons t ts =>
    simp only [getAliasName] at h
    split at h <;> simp at h
    obtain ⟨rfl, rfl⟩ := h
    exact acc3_drop1 (.name hn)
grind_pattern getAliasName_acc => getAliasName ts, Except.ok (n, r), n ∈ T


/-! ### bracket groups -/
theorem acc_group2 {T : List String} {t : Tok} (h : AccAll T t.children)
    (hb : t.children ≠ [] ∨ t.has PAREN = true ∨ t.has ARRAY = true) : Acc T t := by
  refine .group ?_ h
  rcases hb with hb | hb | hb <;> simp [Groupish, hb]
grind_pattern acc_group2 => AccAll T t.children
theorem fullNE_ne (ps : List Expr) (h : FullNE ps = true) : ps ≠ [] := by cases ps <;> simp_all [FullNE]
grind_pattern fullNE_ne => FullNE ps
theorem fullNE_L (ps : List Expr) (h : FullNE ps = true) : FullL ps = true := by cases ps <;> simp_all [FullNE, FullL]
grind_pattern fullNE_L => FullNE ps
/-- splitting at commas loses commas only -/
theorem accAll_splitBy (T) (cs : List Tok) (h : AccAll T (splitBy "," cs [] []).flatten) : AccAll T cs := by
  have hk := kwOk_comma
  rw [splitBy_flatten] at h
  intro t ht
  by_cases hc : t.equalsStr "," = true
  · exact .kw (equalsStr_kw hc hk)
  · exact h t (by simp [ht, hc])
grind_pattern accAll_splitBy => AccAll T (splitBy "," cs [] []).flatten
theorem splitBy_nil_or (cs : List Tok) : cs ≠ [] ∨ splitBy "," cs [] [] = [] := by
  cases cs <;> simp [splitBy]
grind_pattern splitBy_nil_or => splitBy "," cs [] []
theorem accAll_drop1 (T) (l : List Tok) (k : String) (h : AccAll T (l.drop 1)) (hs : searchStrUp l k = true) (hk : kwOk k = true) : AccAll T l := by
  cases l with
  | nil => simp [searchStrUp] at hs
  | cons x r =>
    rw [accAll_cons]
    exact ⟨.kw (srcEqUp_kw (by simpa [searchStrUp] using hs) hk), by simpa using h⟩
theorem accAll_substringRewrite (T) (u : String) (cs : List Tok) (h : AccAll T (substringRewrite u cs)) : AccAll T cs := by
  have h1 := kwOk_FROM
  have h2 := kwOk_FOR
  unfold substringRewrite at h
  split at h
  · intro t ht
    by_cases hc : (up t.src == "FROM" || up t.src == "FOR") = true
    · simp only [Bool.or_eq_true, beq_iff_eq] at hc
      rcases hc with hc | hc
      · exact .kw (upsrc_kw hc h1)
      · exact .kw (upsrc_kw hc h2)
    · apply h
      simp only [List.mem_map]
      exact ⟨t, ht, by simp [hc]⟩
  · exact h
/-- the argument tokens of a call: `FROM` / `FOR` of `SUBSTRING` and a leading `DISTINCT` are grammar words -/
theorem accAll_callPrep (T) (name : String) (g : Tok) (h : AccAll T (callPrep name g).2.2) : AccAll T g.children := by
  have h3 := kwOk_DISTINCT
  rcases callPrep_args name g with ⟨_, h2⟩ | ⟨_, hs, h2⟩
  · rw [h2] at h; exact accAll_substringRewrite T _ _ h
  · rw [h2] at h; exact accAll_substringRewrite T _ _ (accAll_drop1 T _ _ h hs h3)
grind_pattern accAll_callPrep => AccAll T (callPrep name g).2.2
theorem callPrep_nil_or (name : String) (g : Tok) : g.children ≠ [] ∨ (callPrep name g).2.2 = [] := by
  by_cases h : g.children = []
  · right
    rcases callPrep_args name g with ⟨_, h2⟩ | ⟨_, _, h2⟩ <;> rw [h2, h] <;> simp [substringRewrite]
  · exact Or.inl h
grind_pattern callPrep_nil_or => (callPrep name g).2.2

/-! ### degenerate results: the parser was handed an empty child cursor -/
theorem call_nonempty (d : Gen.D) (n : Nat) (cs : List Tok) (acc : List Expr) (r2 : List Tok) (ps : List Expr) (r3 : List Tok)
    (h1 : pFirstArg d n cs = .ok (acc, r2)) (h2 : pArgs d n acc r2 = .ok (ps, r3)) : cs ≠ [] ∨ ps = [] := by
  by_cases hc : cs = []
  · right; subst hc
    cases n with
    | zero => simp [pFirstArg] at h1
    | succ n =>
      simp [pFirstArg] at h1
      obtain ⟨rfl, rfl⟩ := h1
      simp [pArgs, moveStr, searchStr] at h2
      exact h2.1
  · exact Or.inl hc
grind_pattern call_nonempty => pFirstArg d n cs, pArgs d n acc r2, Except.ok (acc, r2), Except.ok (ps, r3)
theorem split_nonempty (d : Gen.D) (n : Nat) (cs : List Tok) (vs : List Expr) (h : pSplit d n [] [] cs = .ok vs) : cs ≠ [] ∨ vs = [] := by
  by_cases hc : cs = []
  · right; subst hc
    cases n with
    | zero => simp [pSplit] at h
    | succ n => simp [pSplit] at h; exact h
  · exact Or.inl hc
grind_pattern split_nonempty => pSplit d n [] [] cs, Except.ok vs
theorem windowBody_nonempty (d : Gen.D) (n : Nat) (fn : Expr) (cs : List Tok) (w : Expr) (h : pWindowBody d n fn cs = .ok w) :
    cs ≠ [] ∨ w = .window fn [] [] none := by
  by_cases hc : cs = []
  · right; subst hc
    cases n with
    | zero => simp [pWindowBody] at h
    | succ n =>
      cases n with
      | zero => simp [pWindowBody, pPartitionBy] at h
      | succ n =>
        simp [pWindowBody, pPartitionBy, pOrderByOpt, searchTwoUp] at h
        exact h.symm
  · exact Or.inl hc
grind_pattern windowBody_nonempty => pWindowBody d n fn cs, Except.ok w
theorem groupingElems_nonempty (d : Gen.D) (n : Nat) (segs : List (List Tok)) (gs : List (List Expr))
    (h : pGroupingElems d n [] segs = .ok gs) : segs ≠ [] ∨ gs = [] := by
  by_cases hc : segs = []
  · right; subst hc
    cases n with
    | zero => simp [pGroupingElems] at h
    | succ n => simp [pGroupingElems] at h; exact h
  · exact Or.inl hc
grind_pattern groupingElems_nonempty => pGroupingElems d n [] segs, Except.ok gs

/-! ### the helper functions of `MsqModel/Parse/Expr.lean` outside the mutual block -/
def AGRIND := 0
macro "agrind" : tactic => `(tactic| grind -funext (splits := 20) (ematch := 20) (gen := 40) (instances := 20000))

theorem multiAliasLoop_acc (T) : ∀ g acc ts, AR T tStrs tt ts (tStrs acc) true (multiAliasLoop g acc ts) := by
  have hA : Anchor T := trivial
  have hK0 := kwOk_comma
  intro g
  induction g with
  | zero => intro acc ts v r h; simp [multiAliasLoop] at h
  | succ g ih =>
    intro acc ts v r h hpl
    unfold multiAliasLoop at h
    split_run <;> agrind
grind_pattern multiAliasLoop_acc => Anchor T, multiAliasLoop g acc ts
theorem pMultiAlias_acc (T) (ts : List Tok) : AR T tStrs tt ts [] true (pMultiAlias ts) := by
  have hA : Anchor T := trivial
  have hK0 := kwOk_AS
  intro v r h hpl
  unfold pMultiAlias at h
  split_run <;> agrind
grind_pattern pMultiAlias_acc => Anchor T, pMultiAlias ts
theorem splitName_acc (T) (t : Tok) (sch : Option String) (n : String) (h : splitName t.src = .ok (sch, n)) (hs : Sub (tOS sch) T) (hn : n ∈ T) :
    Acc T t := by
  cases sch with
  | some a => exact .dotted h (by simpa [tOS_some, sub_cons, sub_nil] using hs) hn
  | none =>
    unfold splitName at h
    split at h
    · split at h <;> simp at h
    · simp at h; exact .name (h ▸ hn)
grind_pattern splitName_acc => splitName t.src, Except.ok (sch, n), Anchor T
theorem splitName_kw (t : Tok) (n : String) (h : splitName t.src = .ok (none, n)) (hk : isKW (up n) = true) : KwTok t = true := by
  unfold splitName at h
  split at h
  · split at h <;> simp at h
  · simp at h; subst h; simp [KwTok, hk]
def tFN (p : Option String × String) : List String := tOS p.1 ++ [p.2]
@[grind =] theorem tFN_def (a b) : tFN (a, b) = tOS a ++ [b] := rfl
theorem pFuncName_acc (T) (ts : List Tok) : AR T tFN tt ts [] true (pFuncName ts) := by
  have hA : Anchor T := trivial
  have hK0 := kwOk_dot
  intro v r h hpl
  unfold pFuncName at h
  split_run <;> agrind
grind_pattern pFuncName_acc => Anchor T, pFuncName ts
/-- the special function names `CAST` / `EXTRACT` / `IF` are grammar words -/
theorem pFuncName_kw0 (ts : List Tok) (n : String) (r : List Tok) (h : pFuncName ts = .ok ((none, n), r)) (hk : isKW (up n) = true) : KwSeg ts r := by
  unfold pFuncName at h
  split at h
  · split at h
    · simp at h
    · split at h
      · split at h <;> simp at h
        rename_i x hx
        obtain ⟨rfl, rfl⟩ := h
        exact kwSeg_cons (splitName_kw _ _ hx hk)
      · simp at h
  · split at h
    · split at h <;> simp at h
      rename_i x hx
      obtain ⟨rfl, rfl⟩ := h
      exact kwSeg_cons (splitName_kw _ _ hx hk)
    · simp at h
  · simp at h
theorem pFuncName_kw (ts : List Tok) (sch : Option String) (n : String) (r : List Tok) (h : pFuncName ts = .ok ((sch, n), r))
    (hs : sch.isNone = true) (hk : isKW (up n) = true) : KwSeg ts r := by
  cases sch with
  | none => exact pFuncName_kw0 ts n r h hk
  | some a => simp at hs
grind_pattern pFuncName_kw => pFuncName ts, Except.ok ((sch, n), r), Option.isNone sch
theorem pAlias_acc (T) (ts : List Tok) : AR T tOS tt ts [] true (pAlias ts) := by
  have hA : Anchor T := trivial
  have hK0 := kwOk_AS
  intro v r h hpl
  unfold pAlias at h
  split_run <;> agrind
grind_pattern pAlias_acc => Anchor T, pAlias ts
theorem pTableName_acc (T) (ts : List Tok) : AR T tTR tt ts [] true (pTableName ts) := by
  have hA : Anchor T := trivial
  have hK0 := kwOk_dot
  intro v r h hpl
  unfold pTableName at h
  split_run <;> agrind
grind_pattern pTableName_acc => Anchor T, pTableName ts
theorem pRowItem_acc (T) (ts : List Tok) : AR T tRow tt ts [] true (pRowItem ts) := by
  have hA : Anchor T := trivial
  have hK0 := kwOk_CURRENT
  have hK1 := kwOk_ROW
  have hK2 := kwOk_UNBOUNDED
  have hK3 := kwOk_PRECEDING
  have hK4 := kwOk_FOLLOWING
  intro v r h hpl
  unfold pRowItem at h
  split_run <;> agrind
grind_pattern pRowItem_acc => Anchor T, pRowItem ts
def tRows (p : RowItem × RowItem) : List String := tRow p.1 ++ tRow p.2
@[grind =] theorem tRows_def (p) : tRows p = tRow p.1 ++ tRow p.2 := rfl
theorem pWindowRow_acc (T) (ts : List Tok) : AR T tRows tt ts [] true (pWindowRow ts) := by
  have hA : Anchor T := trivial
  have hS0 : allKw ["ROWS", "BETWEEN"] = true := by simp [allKw, kwOk_ROWS, kwOk_BETWEEN]
  have hS1 : allKw ["AND"] = true := by simp [allKw, kwOk_AND]
  intro v r h hpl
  unfold pWindowRow at h
  split_run <;> agrind
grind_pattern pWindowRow_acc => Anchor T, pWindowRow ts
theorem orderTail_acc (T) (e : Expr) (ts : List Tok) : AR T tOrd FullOrd ts (tE e) (FullE e) (orderTail e ts) := by
  have hA : Anchor T := trivial
  have hK0 := kwOk_DESC
  have hK1 := kwOk_ASC
  have hK2 := kwOk_NULLS
  have hK3 := kwOk_FIRST
  have hK4 := kwOk_LAST
  intro v r h hpl
  unfold orderTail at h
  simp only at h
  split_run <;> agrind
grind_pattern orderTail_acc => Anchor T, orderTail e ts
theorem pLimit_acc (T) (ts : List Tok) : AR T tLim tt ts [] true (pLimit ts) := by
  have hA : Anchor T := trivial
  have hK0 := kwOk_LIMIT
  have hK1 := kwOk_comma
  have hK2 := kwOk_OFFSET
  intro v r h hpl
  unfold pLimit at h
  split_run <;> agrind
grind_pattern pLimit_acc => Anchor T, pLimit ts
theorem castParamsLoop_acc (T) : ∀ f acc ts, ARV T tInts tt ts (tInts acc) true (castParamsLoop f acc ts) := by
  have hA : Anchor T := trivial
  have hK0 := kwOk_comma
  intro f
  induction f with
  | zero => intro acc ts v h; simp [castParamsLoop] at h
  | succ f ih =>
    intro acc ts v h hpl
    unfold castParamsLoop at h
    split_run <;> agrind
grind_pattern castParamsLoop_acc => Anchor T, castParamsLoop f acc ts
theorem castParams_acc (T) (g : Tok) : ARV T tInts tt g.children [] true (castParams g) := by
  have hA : Anchor T := trivial
  intro v h hpl
  unfold castParams at h
  split_run <;> agrind
grind_pattern castParams_acc => Anchor T, castParams g
theorem find_some_g {α : Type} (p : α → Bool) (l : List α) (a : α) (h : l.find? p = some a) : p a = true ∧ a ∈ l :=
  ⟨List.find?_some h, List.mem_of_find?_eq_some h⟩
grind_pattern find_some_g => List.find? p l, some a
theorem castTypes_up : Gen.castTypes.all (fun k => up k.2 == k.2) = true := by decide +kernel
/-- a type word of `CAST` is a key of a table in `kwTables`, hence in `KWA` -/
theorem castTypes_mem_kw (k : String × String) (h : k ∈ Gen.castTypes) : kwOk k.2 = true := by
  have hu : up k.2 = k.2 := by simpa using (List.all_eq_true.1 castTypes_up) k h
  have : isKW k.2 = true := by
    simp only [isKW, KWA, kwTables, List.contains_eq_mem, List.mem_append, List.mem_map, decide_eq_true_eq]
    exact Or.inr (Or.inl (Or.inl (Or.inr ⟨k, h, rfl⟩)))
  simp [kwOk, hu, this]
grind_pattern castTypes_mem_kw => k ∈ Gen.castTypes
theorem castTail_acc (T) (e : Expr) (ts : List Tok) : ARV T tE FullE ts (tE e) (FullE e) (castTail e ts) := by
  have hA : Anchor T := trivial
  have hK0 := kwOk_SIGNED
  intro v h hpl
  unfold castTail at h
  simp only at h
  split_run <;> agrind
grind_pattern castTail_acc => Anchor T, castTail e ts


theorem kwOk_isKW (k : String) (h : kwOk k = true) : isKW k = true := by
  simp only [kwOk, Bool.and_eq_true] at h; exact h.1
grind_pattern kwOk_isKW => kwOk k
theorem isNone_eq {α : Type} (o : Option α) (h : o.isNone = true) : o = none := by cases o <;> simp_all
grind_pattern isNone_eq => o.isNone

/-! ### the operand stack of the compute loop -/
theorem full_collapse : ∀ st top, FullE (collapse st top) = (FullSt st && FullE top) := by
  intro st
  induction st with
  | nil => intro top; simp [collapse, FullSt]
  | cons p st ih =>
    intro top; obtain ⟨l, o, k⟩ := p
    simp only [collapse, ih, FullSt, FullE]
    cases FullE l <;> cases FullSt st <;> cases FullE top <;> rfl
grind_pattern full_collapse => FullE (collapse st top)
theorem full_reduceWhile (lvl : Nat) : ∀ st top,
    (FullSt (reduceWhile lvl st top).1 && FullE (reduceWhile lvl st top).2) = (FullSt st && FullE top) := by
  intro st
  induction st with
  | nil => intro top; simp [reduceWhile]
  | cons p st ih =>
    intro top; obtain ⟨l, o, k⟩ := p
    simp only [reduceWhile]
    split
    · rw [ih]; simp only [FullSt, FullE]; cases FullE l <;> cases FullSt st <;> cases FullE top <;> rfl
    · rfl
theorem full_reduceWhile2 (lvl : Nat) (st top st' top') (h : reduceWhile lvl st top = (st', top')) :
    (FullSt st' && FullE top') = (FullSt st && FullE top) := by
  have := full_reduceWhile lvl st top; rw [h] at this; exact this
grind_pattern full_reduceWhile2 => reduceWhile lvl st top, (st', top')

/-! ### nothing is parsed from an empty cursor -/
theorem pCompute_nil (d : Gen.D) (n : Nat) (cs : List Tok) (v : Expr) (r : List Tok) (h : pCompute d n cs = .ok (v, r)) : cs ≠ [] := by
  rintro rfl
  rcases n with _ | _ | _ | n <;> simp [pCompute, pUnary, pElement] at h
grind_pattern pCompute_nil => pCompute d n cs, Except.ok (v, r)
theorem pSelectStmt_nil (d : Gen.D) (n : Nat) (w : Option (List WithTable)) (cs : List Tok) (v : Query) (r : List Tok)
    (h : pSelectStmt d n w cs = .ok (v, r)) : cs ≠ [] := by
  rintro rfl
  cases w <;> rcases n with _ | _ | _ | _ | n <;>
    simp [pSelectStmt, pWith, pSingle, pSelectBody, matchSeq, searchStrUp, searchMark] at h
grind_pattern pSelectStmt_nil => pSelectStmt d n w cs, Except.ok (v, r)

/-! ### unions -/
theorem fullQ_unionS (w : List WithTable) (s : Select) (us : List (String × Select)) :
    FullQ (.union (some w) (setWiths s) (us.map fun p => (p.1, setWiths p.2))) = (FullWTs w && (FullSel (setWiths s) && FullUnS us)) := by
  simp [FullQ, FullUnS, FullOWTs]
theorem tQ_unionS (w : List WithTable) (s : Select) (us : List (String × Select)) :
    tQ (.union (some w) (setWiths s) (us.map fun p => (p.1, setWiths p.2))) = tWTs w ++ (tSel (setWiths s) ++ tUnS us) := by
  simp [tQ_union, tUnS, tOWTs]
theorem sub_tSel_w (T : List String) (s : Select) : Sub (tSel s) T = (Sub (tOWTs (withsOf s)) T ∧ Sub (tSel (setWiths s)) T) := by
  rw [tSel_split s, sub_append]
grind_pattern sub_tSel_w => withsOf s, Sub (tSel s) T
theorem fullSel_w (s : Select) : FullSel s = (FullOWTs (withsOf s) && FullSel (setWiths s)) := FullSel_split s
grind_pattern fullSel_w => withsOf s, FullSel s

theorem headChildren_ok (ts cs : List Tok) (h : headChildren ts = .ok cs) : ∃ g r, ts = g :: r ∧ cs = g.children := by
  cases ts with
  | nil => simp [headChildren] at h
  | cons g r => simp [headChildren] at h; exact ⟨g, r, rfl, h.symm⟩
grind_pattern headChildren_ok => headChildren ts, Except.ok cs

end PA
