import MsqProofs.Lemmas.LexLinkQuery
/-!
# The lexer link for nested queries: the `List Char` mirror of the printer on `TQ.FragQ`, the leaf payloads

* `prE3L d e` / `prS3L d s` / `prQL d q` — what `PR.prE` / `PR.prS` / `PR.prQ` write on the nested fragment, as character lists, in ONE
  mutually recursive block shaped like the printer (pieces joined by `joinLL`), so that `String` never has to be reduced;
* `leavesE` / `leavesS` / `leavesQ` — the payloads of a tree (column names, literal payloads, names of calls, aliases, table names) as a
  LIST of `LeafItem`s: every hypothesis about payloads is a predicate on items, required of all members of that list;
* `leafOK d x` — what the link genuinely needs of a payload (the lexer reads it back as the token the token-level printer expects);
  `C03.leafOKB` (Props/C03QL.lean) a decidable sufficient condition;
* `QKit` — a property of texts that holds of the empty text and survives joining with "safe" separators, for the two instances
  "no character the lexer's pre-pass rewrites" and "`==` does not occur" (Hive pre-pass).
-/
namespace LexLink
open Lex Spec C05 C06 C09 Ast TP TS TQ

/-- `tableNameSrc s n` -/
def tblL (s : Option String) (n : String) : List Char :=
  match s with
  | none => '`' :: (n.toList ++ ['`'])
  | some s => '`' :: (s.toList ++ '.' :: (n.toList ++ ['`']))
/-- `fnameSrc s n` -/
def fnameL (s : Option String) (n : String) : List Char :=
  match s with
  | none => qnameL n
  | some s => '`' :: (s.toList ++ '`' :: '.' :: qnameL n)
def unionWordsL (ty : String) : List Char :=
  match Gen.unionTypes.find? (·.1 == ty) with | some e => joinLL [' '] (e.2.map String.toList) | none => []
def ind4 (l : List Char) : List Char := ' ' :: ' ' :: ' ' :: ' ' :: l

mutual
def prE3L (d : Gen.D) : Expr → List Char
  | .column none c => '`' :: (c.toList ++ ['`'])
  | .column (some t) c => '`' :: (t.toList ++ '`' :: '.' :: '`' :: (c.toList ++ ['`']))
  | .literal v => v.toList
  | .wildcard none => ['*']
  | .wildcard (some t) => qnameL t ++ ['.', '*']
  | .func s n ps => fnameL s n ++ '(' :: (joinLL [',', ' '] (prListLL d ps) ++ [')'])
  | .agg n ps dist => n.toList ++ '(' :: ((if dist then "DISTINCT ".toList else []) ++ (joinLL [',', ' '] (prListLL d ps) ++ [')']))
  | .caseCond cs els => joinLL [' '] ("CASE".toList :: (prArmsLL d cs ++ (prElseLL d els ++ ["END".toList])))
  | .caseVal v cs els =>
      joinLL ['\n'] ("CASE".toList :: prE3L d v :: ((prArmsLL d cs).map ind4 ++ ((prElseLL d els).map ind4 ++ ["END".toList])))
  | .subValue vs => '(' :: (joinLL [',', ' '] (prList8LL d vs) ++ [')'])
  | .subQuery q => '(' :: (prQL d q ++ [')'])
  | .exists_ v => "EXISTS".toList ++ ' ' :: prE3L d v
  | .unary o e =>
      if (cval o).toList = ['-'] ∧ (wrapL e 2 (prE3L d e)).head? = some '-' then (cval o).toList ++ ' ' :: wrapL e 2 (prE3L d e)
      else (cval o).toList ++ wrapL e 2 (prE3L d e)
  | .compute l o r =>
      wrapL l (PR.lvl (.compute l o r)) (prE3L d l) ++ ' ' :: ((cval o).toList ++ ' ' :: wrapL r (PR.lvl (.compute l o r) - 1) (prE3L d r))
  | .kw k n l r => wrapL l 9 (prE3L d l) ++ ' ' :: ((PR.kwSrc k n).toList ++ ' ' :: wrapL r 8 (prE3L d r))
  | .between n b f t =>
      wrapL b 9 (prE3L d b) ++ ' ' :: ((if n then "NOT ".toList else []) ++ ("BETWEEN".toList ++ ' ' ::
        (wrapL f 8 (prE3L d f) ++ ' ' :: ("AND".toList ++ ' ' :: wrapL t 8 (prE3L d t)))))
  | .compare o l r => wrapL l 10 (prE3L d l) ++ ' ' :: ((cmpVal o).toList ++ ' ' :: wrapL r 9 (prE3L d r))
  | .not_ e => "NOT".toList ++ ' ' :: wrapL e 11 (prE3L d e)
  | .and_ l r => wrapL l 12 (prE3L d l) ++ ' ' :: ("AND".toList ++ ' ' :: wrapL r 11 (prE3L d r))
  | .xor l r => wrapL l 13 (prE3L d l) ++ ' ' :: ("XOR".toList ++ ' ' :: wrapL r 12 (prE3L d r))
  | .or_ l r => wrapL l 14 (prE3L d l) ++ ' ' :: ("OR".toList ++ ' ' :: wrapL r 13 (prE3L d r))
  | _ => []
def prListLL (d : Gen.D) : List Expr → List (List Char)
  | [] => []
  | a :: as => prE3L d a :: prListLL d as
def prList8LL (d : Gen.D) : List Expr → List (List Char)
  | [] => []
  | a :: as => wrapL a 8 (prE3L d a) :: prList8LL d as
def prArmsLL (d : Gen.D) : List (Expr × Expr) → List (List Char)
  | [] => []
  | (w, t) :: r => ("WHEN".toList ++ ' ' :: (prE3L d w ++ ' ' :: ("THEN".toList ++ ' ' :: prE3L d t))) :: prArmsLL d r
def prElseLL (d : Gen.D) : Option Expr → List (List Char)
  | none => []
  | some y => ["ELSE".toList ++ ' ' :: prE3L d y]
def prQL (d : Gen.D) : Query → List Char
  | .single s => prS3L d s
  | .union _ s us => joinLL ['\n'] (prS3L d s :: prUnLL d us)
def prUnLL (d : Gen.D) : List (String × Select) → List (List Char)
  | [] => []
  | (t, s) :: r => unionWordsL t :: prS3L d s :: prUnLL d r
def prS3L (d : Gen.D) : Select → List Char
  | .mk _ dist cols fr _ js wh gb hv ob _ _ _ lm =>
      joinLL ['\n'] (("SELECT".toList ++ ' ' :: ((if dist then "DISTINCT ".toList else []) ++ joinLL [',', ' '] (prColsLL d cols))) ::
        (fromLL d fr ++ (joinsLL d js ++ (optLL d "WHERE" wh ++ (groupLL d gb ++ (optLL d "HAVING" hv ++ (orderLL d ob ++
          (limitC lm).map (·.1))))))))
def prColsLL (d : Gen.D) : List (Expr × Option String) → List (List Char)
  | [] => []
  | (e, a) :: cs => (prE3L d e ++ aliasL a) :: prColsLL d cs
def refL (d : Gen.D) : TableRef → List Char
  | .table s n => tblL s n
  | .sub q => '(' :: (prQL d q ++ [')'])
def tableL3 (d : Gen.D) : FromTable → List Char
  | .mk t a => refL d t ++ aliasL a
def tablesLL (d : Gen.D) : List FromTable → List (List Char)
  | [] => []
  | t :: ts => tableL3 d t :: tablesLL d ts
def fromLL (d : Gen.D) : Option (List FromTable) → List (List Char)
  | some (t :: ts) => ["FROM".toList ++ ' ' :: joinLL [',', ' '] (tableL3 d t :: tablesLL d ts)]
  | _ => []
def ruleL3 (d : Gen.D) : Option JoinRule → List Char
  | some (.on e) => ' ' :: ("ON".toList ++ ' ' :: prE3L d e)
  | _ => []
def joinL3 (d : Gen.D) : Join → List Char
  | .mk ty t rule => joinWordsL ty ++ ' ' :: (tableL3 d t ++ ruleL3 d rule)
def joinsLL (d : Gen.D) : List Join → List (List Char)
  | [] => []
  | j :: js => joinL3 d j :: joinsLL d js
def optLL (d : Gen.D) (kw : String) : Option Expr → List (List Char)
  | some e => [kw.toList ++ ' ' :: prE3L d e]
  | none => []
def groupLL (d : Gen.D) : Option GroupBy → List (List Char)
  | some (.mk (e :: es) _ _ _) => ["GROUP".toList ++ ' ' :: ("BY".toList ++ ' ' :: joinLL [',', ' '] (wrapL e 8 (prE3L d e) :: prList8LL d es))]
  | _ => []
def ordItemL3 (d : Gen.D) : OrderItem → List Char
  | .mk e desc _ _ => wrapL e 8 (prE3L d e) ++ (if desc then ' ' :: "DESC".toList else [])
def ordLL (d : Gen.D) : List OrderItem → List (List Char)
  | [] => []
  | o :: os => ordItemL3 d o :: ordLL d os
def orderLL (d : Gen.D) : Option (List OrderItem) → List (List Char)
  | some (o :: os) => ["ORDER".toList ++ ' ' :: ("BY".toList ++ ' ' :: joinLL [',', ' '] (ordItemL3 d o :: ordLL d os))]
  | _ => []
end

inductive LeafItem
  | col (t : Option String) (c : String)
  | lit (v : String)
  | wild (t : String)
  | fn (s : Option String) (n : String)
  | agg (n : String)
  | alias (a : String)
  | tbl (s : Option String) (n : String)

def leavesAlias : Option String → List LeafItem
  | none => []
  | some a => [.alias a]

mutual
def leavesE : Expr → List LeafItem
  | .column t c => [.col t c]
  | .literal v => [.lit v]
  | .wildcard none => []
  | .wildcard (some t) => [.wild t]
  | .func s n ps => .fn s n :: leavesL ps
  | .agg n ps _ => .agg n :: leavesL ps
  | .caseCond cs els => leavesA cs ++ leavesO els
  | .caseVal v cs els => leavesE v ++ (leavesA cs ++ leavesO els)
  | .subValue vs => leavesL vs
  | .subQuery q => leavesQ q
  | .exists_ v => leavesE v
  | .unary _ e => leavesE e
  | .compute l _ r => leavesE l ++ leavesE r
  | .kw _ _ l r => leavesE l ++ leavesE r
  | .between _ b f t => leavesE b ++ (leavesE f ++ leavesE t)
  | .compare _ l r => leavesE l ++ leavesE r
  | .not_ e => leavesE e
  | .and_ l r => leavesE l ++ leavesE r
  | .xor l r => leavesE l ++ leavesE r
  | .or_ l r => leavesE l ++ leavesE r
  | _ => []
def leavesL : List Expr → List LeafItem
  | [] => []
  | a :: as => leavesE a ++ leavesL as
def leavesA : List (Expr × Expr) → List LeafItem
  | [] => []
  | (w, t) :: r => leavesE w ++ (leavesE t ++ leavesA r)
def leavesO : Option Expr → List LeafItem
  | none => []
  | some y => leavesE y
def leavesQ : Query → List LeafItem
  | .single s => leavesS s
  | .union _ s us => leavesS s ++ leavesUn us
def leavesUn : List (String × Select) → List LeafItem
  | [] => []
  | (_, s) :: r => leavesS s ++ leavesUn r
def leavesS : Select → List LeafItem
  | .mk _ _ cols fr _ js wh gb hv ob _ _ _ _ =>
      leavesCols cols ++ (leavesFrom fr ++ (leavesJoins js ++ (leavesO wh ++ (leavesGroup gb ++ (leavesO hv ++ leavesOrder ob)))))
def leavesCols : List (Expr × Option String) → List LeafItem
  | [] => []
  | (e, a) :: cs => leavesE e ++ (leavesAlias a ++ leavesCols cs)
def leavesRef : TableRef → List LeafItem
  | .table s n => [.tbl s n]
  | .sub q => leavesQ q
def leavesTable : FromTable → List LeafItem
  | .mk t a => leavesRef t ++ leavesAlias a
def leavesTables : List FromTable → List LeafItem
  | [] => []
  | t :: ts => leavesTable t ++ leavesTables ts
def leavesFrom : Option (List FromTable) → List LeafItem
  | none => []
  | some ts => leavesTables ts
def leavesRule : Option JoinRule → List LeafItem
  | some (.on e) => leavesE e
  | _ => []
def leavesJoin : Join → List LeafItem
  | .mk _ t rule => leavesTable t ++ leavesRule rule
def leavesJoins : List Join → List LeafItem
  | [] => []
  | j :: js => leavesJoin j ++ leavesJoins js
def leavesGroup : Option GroupBy → List LeafItem
  | some (.mk es _ _ _) => leavesL es
  | none => []
def leavesOrdItem : OrderItem → List LeafItem
  | .mk e _ _ _ => leavesE e
def leavesOrdL : List OrderItem → List LeafItem
  | [] => []
  | o :: os => leavesOrdItem o ++ leavesOrdL os
def leavesOrder : Option (List OrderItem) → List LeafItem
  | none => []
  | some os => leavesOrdL os
end

def On (P : LeafItem → Prop) (l : List LeafItem) : Prop := ∀ x ∈ l, P x
@[simp] theorem on_nil (P : LeafItem → Prop) : On P [] ↔ True := by simp [On]
@[simp] theorem on_cons (P : LeafItem → Prop) (a : LeafItem) (l : List LeafItem) : On P (a :: l) ↔ P a ∧ On P l := by simp [On]
@[simp] theorem on_append (P : LeafItem → Prop) (l1 l2 : List LeafItem) : On P (l1 ++ l2) ↔ On P l1 ∧ On P l2 := by
  simp only [On, List.mem_append]
  exact ⟨fun h => ⟨fun x hx => h x (Or.inl hx), fun x hx => h x (Or.inr hx)⟩, fun h x hx => hx.elim (h.1 x) (h.2 x)⟩

/-- a qualified column is printed as two back-quoted names around a dot; both free of back-quotes and pre-pass characters -/
def qcolLex (d : Gen.D) (t c : String) : Prop :=
  (PR.columnSrc d (some t) c).toList = '`' :: (t.toList ++ '`' :: '.' :: '`' :: (c.toList ++ ['`'])) ∧ nameLex t ∧ nameLex c
def optNameLex : Option String → Prop
  | none => True
  | some s => nameLex s
/-- **the leaf hypotheses**: column names printed back-quoted verbatim (`colLex` / `qcolLex`), literal payloads the lexer reads as one
token (`litLex`), names of wildcards / functions / schemas / tables without back-quote and pre-pass characters (`nameLex`; they are
printed bare or back-quoted by `quoteName`), aggregate names plain words, aliases plain non-keywords (`aliasLex`) -/
def leafOK (d : Gen.D) : LeafItem → Prop
  | .col none c => colLex d c
  | .col (some t) c => qcolLex d t c
  | .lit v => litLex v
  | .wild t => nameLex t
  | .fn s n => optNameLex s ∧ nameLex n
  | .agg n => PR.isPlainName n = true
  | .alias a => aliasLex a
  | .tbl s n => optNameLex s ∧ nameLex n

def strs : LeafItem → List String
  | .col none c => [c]
  | .col (some t) c => [t, c]
  | .lit v => [v]
  | .wild t => [t]
  | .fn none n => [n]
  | .fn (some s) n => [s, n]
  | .agg n => [n]
  | .alias a => [a]
  | .tbl none n => [n]
  | .tbl (some s) n => [s, n]

def allWords : List String := keywords ++ clauseWords ++ queryWords

structure QKit where
  Q : List Char → Prop
  safe : Char → Prop
  nil : Q []
  sep : ∀ (a b : List Char) (c : Char), safe c → Q a → Q b → Q (a ++ c :: b)
  s_sp : safe ' '
  s_cm : safe ','
  s_nl : safe '\n'
  s_lp : safe '('
  s_rp : safe ')'
  s_bq : safe '`'
  s_dot : safe '.'
  s_un : safe '!' ∧ safe '+' ∧ safe '-' ∧ safe '~'
  num : ∀ n : Int, 0 ≤ n → Q (toString n).toList
  words : ∀ k ∈ allWords, Q k.toList
  cops : ∀ e ∈ Gen.computeEnum, Q e.2.1.toList
  cmps : ∀ e ∈ Gen.compareEnum, ∀ x, e.2 = [x] → Q x.toList
  jws : ∀ e ∈ Gen.joinTypes, ∀ w ∈ e.2, Q w.toList
  uws : ∀ e ∈ Gen.unionTypes, ∀ w ∈ e.2, Q w.toList

def QKit.item (K : QKit) (x : LeafItem) : Prop := ∀ s ∈ strs x, K.Q s.toList

def Lv (d : Gen.D) (K : QKit) (l : List LeafItem) : Prop := On (fun x => leafOK d x ∧ K.item x) l

end LexLink
