import MsqProofs.Lemmas.LexLinkQueryExpr
/-!
# The lexer link for nested queries: the record of a query, facts about calls and the indented CASE form

`GQ d K q` — the record of a query text (as `GE` for expressions).
-/
namespace LexLink
open Lex Spec C05 C06 C09 Ast TP TS TQ

structure GQ (d : Gen.D) (K : QKit) (q : Query) : Prop where
  lx : Lx (prQL d q) (toksQ d noX q)
  pr : PR.prQ d q = .ok (String.ofList (prQL d q))
  q : K.Q (prQL d q)

section
variable {d : Gen.D} {K : QKit}

theorem map_map_ofList (l : List (List Char)) : (l.map String.ofList).map String.toList = l := by
  induction l with
  | nil => rfl
  | cons a r ih => simp [String.toList_ofList, ih]

theorem fnameSrc_toList (s : Option String) (n : String) : (PR.fnameSrc s n).toList = fnameL s n := by
  cases s with
  | none => simp [PR.fnameSrc, fnameL, quoteName_toList]
  | some s => simp [PR.fnameSrc, fnameL, toString, String.toList_append, quoteName_toList]

theorem grp_eq (ts : List Tok) : grp ts = .group .paren ts Gen.mark_PARENTHESIS := rfl

theorem plain_fc (n : String) (h : PR.isPlainName n = true) : ∃ c r, n.toList = c :: r ∧ c ≠ '=' := by
  unfold PR.isPlainName at h
  cases hc : n.toList with
  | nil => rw [hc] at h; cases h
  | cons c r =>
    rw [hc] at h
    simp only [Bool.and_eq_true] at h
    exact ⟨c, r, rfl, alphaU_ne_eq c h.1⟩

theorem lx_ind4 {x : List Char} {tx : List Tok} (h : Lx x tx) : Lx (ind4 x) tx := Lx.blank (Lx.blank (Lx.blank (Lx.blank h)))
theorem q_ind4 (K : QKit) {x : List Char} (h : K.Q x) : K.Q (ind4 x) := K.pre K.s_sp (K.pre K.s_sp (K.pre K.s_sp (K.pre K.s_sp h)))

end
end LexLink
