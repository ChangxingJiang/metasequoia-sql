import MsqProofs.Lemmas.ParseAccountAllStmt
/-!
# C08, general accounting for the DDL classes — part 0: the relation with RUNS, configuration strings, `SET`

`AccD T ctx t` extends `PA.Acc T t` (every rule of `Acc` is the rule `whole`) by the alternative

  `part`: the token lies in a run `us` of CONSECUTIVE tokens of the token list `ctx` it is read from
          (`ctx = pre ++ us ++ post`) and the concatenation of the sources of EXACTLY this run is a stored string (`catSrc us ∈ T`).

The relation is indexed by the token list the token stands in (`ctx`), so that the rule cannot be satisfied by inventing
neighbours: `AccAllD T ts` says `∀ t ∈ ts, AccD T ts t`, and a bracket group is accounted for when every child is, with respect
to the list of its children.  `_parse_config_string` (`pConfigString` / `configStringLoop`) stores `name ("." | "-") name …` as
one string: that is the only producer of the rule (`SET a.b-c = v`, `TBLPROPERTIES ('k' = 'v', a.b = c)`).
-/
open Lex PM Ast

namespace PA
namespace Ddl

def catSrc : List Tok → String
  | [] => ""
  | t :: r => t.src ++ catSrc r
theorem catSrc_append (a b : List Tok) : catSrc (a ++ b) = catSrc a ++ catSrc b := by
  induction a with
  | nil => simp [catSrc]
  | cons t a ih => simp [catSrc, ih, String.append_assoc]

inductive AccD (T : List String) : List Tok → Tok → Prop
  | whole {ctx : List Tok} {t : Tok} : Acc T t → AccD T ctx t
  | part {ctx : List Tok} {t : Tok} (pre us post : List Tok) : ctx = pre ++ us ++ post → t ∈ us → catSrc us ∈ T → AccD T ctx t
  | group {ctx : List Tok} {t : Tok} : Groupish t = true → (∀ c, c ∈ t.children → AccD T t.children c) → AccD T ctx t

def AccAllD (T : List String) (ts : List Tok) : Prop := ∀ t, t ∈ ts → AccD T ts t
/-- `r` is a rest of `ts` and the consumed run is accounted for (with respect to itself) -/
def Acc3D (T : List String) (ts r : List Tok) : Prop := ∃ used, ts = used ++ r ∧ AccAllD T used

theorem AccD.ctx {T : List String} {ctx : List Tok} {t : Tok} (h : AccD T ctx t) (a b : List Tok) : AccD T (a ++ ctx ++ b) t := by
  cases h with
  | whole h => exact .whole h
  | part pre us post e hm hs => exact .part (a ++ pre) us (post ++ b) (by simp [e]) hm hs
  | group hb hc => exact .group hb hc
theorem accAllD_nil (T : List String) : AccAllD T [] := by simp [AccAllD]
theorem accAllD_append {T : List String} {a b : List Tok} (ha : AccAllD T a) (hb : AccAllD T b) : AccAllD T (a ++ b) := by
  intro t ht
  rcases List.mem_append.1 ht with h | h
  · simpa using (ha t h).ctx [] b
  · simpa using (hb t h).ctx a []
theorem accAllD_of_acc {T : List String} {ts : List Tok} (h : AccAll T ts) : AccAllD T ts := fun t ht => .whole (h t ht)
theorem accAllD_run {T : List String} {us : List Tok} (h : catSrc us ∈ T) : AccAllD T us :=
  fun t ht => .part [] us [] (by simp) ht h
theorem accAllD_one {T : List String} {t : Tok} (h : Acc T t) : AccAllD T [t] := accAllD_of_acc (by simpa [AccAll] using h)
theorem accD_group {T : List String} {ctx : List Tok} {t : Tok} (hb : Groupish t = true) (h : AccAllD T t.children) : AccD T ctx t :=
  .group hb h
theorem accAllD_group {T : List String} {t : Tok} (hb : Groupish t = true) (h : AccAllD T t.children) : AccAllD T [t] := by
  intro x hx; simp at hx; subst hx; exact accD_group hb h

theorem Acc3D.refl (T : List String) (ts : List Tok) : Acc3D T ts ts := ⟨[], rfl, accAllD_nil T⟩
theorem Acc3D.trans {T a b c} (h1 : Acc3D T a b) (h2 : Acc3D T b c) : Acc3D T a c := by
  obtain ⟨u, rfl, hu⟩ := h1; obtain ⟨w, rfl, hw⟩ := h2
  exact ⟨u ++ w, by simp, accAllD_append hu hw⟩
theorem Acc3.toD {T ts r} (h : Acc3 T ts r) : Acc3D T ts r := by
  obtain ⟨u, e, hu⟩ := h; exact ⟨u, e, accAllD_of_acc hu⟩
theorem kwSeg_toD {ts r} (h : KwSeg ts r) (T : List String) : Acc3D T ts r := Acc3.toD (h.acc3 T)
theorem acc3D_nil {T : List String} {cs : List Tok} (h : Acc3D T cs []) : AccAllD T cs := by
  obtain ⟨u, e, hu⟩ := h; simp at e; subst e; exact hu
theorem accAllD_acc3D {T : List String} {cs : List Tok} (h : AccAllD T cs) : Acc3D T cs [] := ⟨cs, by simp, h⟩

/-! ### splitting at commas: every segment is accounted for with respect to ITSELF, the commas are grammar words -/
theorem splitBy_cover (sep : String) (T : List String) (hsep : ∀ t : Tok, t.equalsStr sep = true → Acc T t) :
    ∀ (ts cur ctx pre : List Tok), ctx = pre ++ cur ++ ts →
      (∀ sg ∈ splitBy sep ts cur [], AccAllD T sg) → ∀ t ∈ cur ++ ts, AccD T ctx t := by
  intro ts
  induction ts with
  | nil =>
    intro cur ctx pre e h t ht
    simp only [splitBy] at h
    simp only [List.append_nil] at ht e
    split at h
    · rename_i hc; simp at hc; subst hc; simp at ht
    · have h1 := h cur (by simp)
      simpa [e] using (h1 t ht).ctx pre []
  | cons x r ih =>
    intro cur ctx pre e h t ht
    simp only [splitBy] at h
    split at h
    · rename_i hx
      split at h
      · rename_i hc; simp at hc; subst hc
        simp only [List.nil_append, List.mem_cons] at ht
        rcases ht with rfl | ht
        · exact .whole (hsep _ hx)
        · exact ih [] ctx (pre ++ [x]) (by simp [e]) h t (by simpa using ht)
      · rw [splitBy_acc] at h
        have ht2 : t ∈ cur ∨ t = x ∨ t ∈ r := by simpa using ht
        rcases ht2 with ht | rfl | ht
        · have := (h cur (by simp)) t ht
          simpa [e] using this.ctx pre (x :: r)
        · exact .whole (hsep _ hx)
        · exact ih [] ctx (pre ++ cur ++ [x]) (by simp [e]) (fun sg hsg => h sg (by simp [hsg])) t (by simpa using ht)
    · exact ih (cur ++ [x]) ctx pre (by simp [e]) h t (by simpa using ht)

theorem accAllD_splitBy (T : List String) (cs : List Tok) (h : ∀ sg ∈ splitBy "," cs [] [], AccAllD T sg) : AccAllD T cs := by
  have hk := kwOk_comma
  intro t ht
  exact splitBy_cover "," T (fun t ht => .kw (equalsStr_kw ht hk)) cs [] cs [] (by simp) h t (by simpa using ht)

theorem searchStr_head {ts : List Tok} {k : String} (h : searchStr ts k = true) : ∃ t r, ts = t :: r ∧ t.src = k := by
  cases ts with
  | nil => simp [searchStr] at h
  | cons t r => exact ⟨t, r, rfl, by simpa [searchStr, Tok.srcEq] using h⟩
theorem popSrc_ok {ts : List Tok} {s : String} {r : List Tok} (h : popSrc ts = .ok (s, r)) : ∃ t, ts = t :: r ∧ s = t.src := by
  cases ts with
  | nil => simp [popSrc] at h
  | cons t r' => simp [popSrc] at h; exact ⟨t, by rw [h.2], h.1.symm⟩

theorem configStringLoop_run : ∀ (f : Nat) (acc : String) (ts : List Tok) (s : String) (r : List Tok),
    configStringLoop f acc ts = .ok (s, r) → ∃ us, ts = us ++ r ∧ s = acc ++ catSrc us := by
  intro f
  induction f with
  | zero => intro acc ts s r h; simp [configStringLoop] at h
  | succ f ih =>
    intro acc ts s r h
    unfold configStringLoop at h
    split at h
    · rename_i hd
      obtain ⟨t, r0, rfl, ht⟩ := searchStr_head hd
      simp only [List.drop_succ_cons, List.drop_zero] at h
      split at h
      · rename_i x r1 hp
        obtain ⟨t2, rfl, rfl⟩ := popSrc_ok hp
        obtain ⟨us, rfl, rfl⟩ := ih _ _ _ _ h
        exact ⟨t :: t2 :: us, by simp, by simp [catSrc, ht, String.append_assoc]⟩
      · simp at h
    · split at h
      · rename_i hd
        obtain ⟨t, r0, rfl, ht⟩ := searchStr_head hd
        simp only [List.drop_succ_cons, List.drop_zero] at h
        split at h
        · rename_i x r1 hp
          obtain ⟨t2, rfl, rfl⟩ := popSrc_ok hp
          obtain ⟨us, rfl, rfl⟩ := ih _ _ _ _ h
          exact ⟨t :: t2 :: us, by simp, by simp [catSrc, ht, String.append_assoc]⟩
        · simp at h
      · simp at h; obtain ⟨rfl, rfl⟩ := h; exact ⟨[], by simp, by simp [catSrc]⟩

/-- `_parse_config_string`: the stored string is the concatenation of the sources of EXACTLY the consumed run (never empty) -/
theorem pConfigString_run {ts : List Tok} {s : String} {r : List Tok} (h : pConfigString ts = .ok (s, r)) :
    ∃ us, ts = us ++ r ∧ us ≠ [] ∧ s = catSrc us := by
  unfold pConfigString at h
  split at h
  · simp at h
  · rename_i x r1 hp
    obtain ⟨t, rfl, rfl⟩ := popSrc_ok hp
    obtain ⟨us, rfl, rfl⟩ := configStringLoop_run _ _ _ _ _ h
    exact ⟨t :: us, by simp, by simp, by simp [catSrc]⟩
theorem pConfigString_acc (T : List String) {ts : List Tok} {s : String} {r : List Tok} (h : pConfigString ts = .ok (s, r)) (hs : s ∈ T) :
    Acc3D T ts r := by
  obtain ⟨us, e, _, rfl⟩ := pConfigString_run h
  exact ⟨us, e, accAllD_run hs⟩

def tCS (c : ConfigStr) : List String := [c.name, c.value]
theorem tCS_eq (c : ConfigStr) : tCS c = c.toVal.texts := by simp [tCS, ConfigStr.toVal, Val.texts, Val.textsF]
/-- `_parse_config_string_expression`: `name = value`, both sides runs -/
theorem pConfigStrExpr_acc (T : List String) {ts : List Tok} {c : ConfigStr} {r : List Tok} (h : pConfigStrExpr ts = .ok (c, r))
    (hs : Sub (tCS c) T) : Acc3D T ts r := by
  have hk := kwOk_eq
  unfold pConfigStrExpr at h
  split at h
  · simp at h
  · rename_i n r0 h0
    split at h
    · simp at h
    · rename_i u r1 h1
      split at h
      · simp at h
      · rename_i v r2 h2
        simp at h; obtain ⟨rfl, rfl⟩ := h
        simp only [tCS, sub_cons, sub_nil, and_true] at hs
        obtain ⟨t, rfl, ht⟩ := matchKw_ok h1
        exact (pConfigString_acc T h0 hs.1).trans ((kwSeg_toD (kwSeg_cons (equalsStr_kw ht hk)) T).trans (pConfigString_acc T h2 hs.2))

end Ddl
end PA
