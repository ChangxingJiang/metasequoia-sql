import MsqModel.Cache
/-! the file-name encoding of the cache (`Cache.enc` = `urllib.parse.quote(·, safe="")`): it has a left inverse (`dec_enc`), so it is
injective; its image has no path separator and no NUL; `decStem` recognises exactly the image -/
namespace Cache

theorem toNat_lt (c : Char) : c.toNat < 0x110000 := by
  have h := c.valid
  simp only [Char.toNat]
  rcases h with h | ⟨_, h⟩
  · have : c.val.toNat < 0xd800 := h
    omega
  · exact h

/-- the model's UTF-8 is Lean core's `String.utf8EncodeChar` (whose decoder round trip is proved in `Init.Data.String.Decode`) -/
theorem utf8_eq_core (c : Char) : utf8 c = (String.utf8EncodeChar c).map (·.toNat) := by
  have hv := toNat_lt c
  unfold utf8 String.utf8EncodeChar
  simp only [Char.toNat] at hv ⊢
  by_cases h1 : c.val.toNat ≤ 0x7f
  · have : c.val.toNat < 0x80 := by omega
    simp only [this, h1, ↓reduceIte, List.map_cons, List.map_nil, UInt8.toNat_ofNat']
    congr 1; omega
  · have n1 : ¬ c.val.toNat < 0x80 := by omega
    by_cases h2 : c.val.toNat ≤ 0x7ff
    · have : c.val.toNat < 0x800 := by omega
      simp only [this, h1, h2, n1, ↓reduceIte, List.map_cons, List.map_nil, UInt8.toNat_ofNat']
      congr 1
      · omega
      · congr 1; omega
    · have n2 : ¬ c.val.toNat < 0x800 := by omega
      by_cases h3 : c.val.toNat ≤ 0xffff
      · have : c.val.toNat < 0x10000 := by omega
        simp only [this, h1, h2, h3, n1, n2, ↓reduceIte, List.map_cons, List.map_nil, UInt8.toNat_ofNat']
        congr 1
        · omega
        · congr 1
          · omega
          · congr 1; omega
      · have n3 : ¬ c.val.toNat < 0x10000 := by omega
        simp only [h1, h2, h3, n1, n2, n3, ↓reduceIte, List.map_cons, List.map_nil, UInt8.toNat_ofNat']
        congr 1
        · omega
        · congr 1
          · omega
          · congr 1
            · omega
            · congr 1; omega

theorem hexVal_hexU : ∀ d : Fin 16, hexVal (hexU d.val) = some d.val := by decide

theorem hexU_ok : ∀ d : Fin 16, hexU d.val ≠ '/' ∧ hexU d.val ≠ '\x00' ∧ hexU d.val ≠ '%' := by decide

theorem pctByte_pct (b : Nat) (r : List Char) (hb : b < 256) : pctByte (pct b ++ r) = some (b, r) := by
  have h1 := hexVal_hexU ⟨b / 16, by omega⟩
  have h2 := hexVal_hexU ⟨b % 16, by omega⟩
  simp only at h1 h2
  simp only [pct, List.cons_append, List.nil_append, pctByte, h1, h2]
  congr 2
  omega

theorem utf8_lt (c : Char) : ∀ b ∈ utf8 c, b < 256 := by
  have hv := toNat_lt c
  intro b hb
  unfold utf8 at hb
  simp only at hb
  split at hb
  · simp only [List.mem_cons, List.not_mem_nil, or_false] at hb; omega
  · split at hb
    · simp only [List.mem_cons, List.not_mem_nil, or_false] at hb; omega
    · split at hb
      · simp only [List.mem_cons, List.not_mem_nil, or_false] at hb; omega
      · simp only [List.mem_cons, List.not_mem_nil, or_false] at hb; omega

theorem decAux_pct (g b0 : Nat) (rest : List Char) (hb : b0 < 256) :
    decAux (g + 1) (pct b0 ++ rest) =
      if b0 < 0x80 then (decAux g rest).map (Char.ofNat b0 :: ·)
      else if b0 < 0xE0 then
        (pctByte rest).bind fun p1 =>
          (decAux g p1.2).map (Char.ofNat ((b0 - 0xC0) * 64 + (p1.1 - 0x80)) :: ·)
      else if b0 < 0xF0 then
        (pctByte rest).bind fun p1 => (pctByte p1.2).bind fun p2 =>
          (decAux g p2.2).map (Char.ofNat (((b0 - 0xE0) * 64 + (p1.1 - 0x80)) * 64 + (p2.1 - 0x80)) :: ·)
      else
        (pctByte rest).bind fun p1 => (pctByte p1.2).bind fun p2 => (pctByte p2.2).bind fun p3 =>
          (decAux g p3.2).map (Char.ofNat ((((b0 - 0xF0) * 64 + (p1.1 - 0x80)) * 64 + (p2.1 - 0x80)) * 64 + (p3.1 - 0x80)) :: ·) := by
  have h := pctByte_pct b0 rest hb
  simp only [pct, List.cons_append, List.nil_append] at h ⊢
  simp only [decAux, ↓reduceIte, h, Option.bind_some]

theorem decAux_plain (g : Nat) (c : Char) (rest : List Char) (hc : c ≠ '%') :
    decAux (g + 1) (c :: rest) = (decAux g rest).map (c :: ·) := by
  simp only [decAux, hc, ↓reduceIte]

theorem safe_not_pct (c : Char) (h : safeChar c = true) : c ≠ '%' := by
  intro hc
  subst hc
  revert h
  decide

theorem safe_not_sep (c : Char) (h : safeChar c = true) : c ≠ '/' ∧ c ≠ '\x00' := by
  constructor <;> (intro hc; subst hc; revert h; decide)

theorem decAux_encC (g : Nat) (c : Char) (rest : List Char) :
    decAux (g + 1) (encC c ++ rest) = (decAux g rest).map (c :: ·) := by
  unfold encC
  split
  · rename_i hs
    exact decAux_plain g c rest (safe_not_pct c hs)
  · have hv := toNat_lt c
    have hlt := utf8_lt c
    have hof := Char.ofNat_toNat c
    unfold utf8 at hlt ⊢
    simp only at hlt ⊢
    split
    · rename_i h1
      simp only [List.flatMap_cons, List.flatMap_nil, List.append_nil]
      rw [decAux_pct g _ _ (by omega), if_pos h1, hof]
    · rename_i h1
      split
      · rename_i h2
        have hb := hlt
        simp only [h1, h2, ↓reduceIte, List.mem_cons, List.not_mem_nil, or_false, forall_eq_or_imp, forall_eq] at hb
        simp only [List.flatMap_cons, List.flatMap_nil, List.append_nil, List.append_assoc]
        rw [decAux_pct g _ _ hb.1, if_neg (by omega), if_pos (by omega), pctByte_pct _ _ hb.2, Option.bind_some]
        simp only
        have e : (0xC0 + c.toNat / 64 - 0xC0) * 64 + (0x80 + c.toNat % 64 - 0x80) = c.toNat := by omega
        rw [e, hof]
      · rename_i h2
        split
        · rename_i h3
          have hb := hlt
          simp only [h1, h2, h3, ↓reduceIte, List.mem_cons, List.not_mem_nil, or_false, forall_eq_or_imp, forall_eq] at hb
          simp only [List.flatMap_cons, List.flatMap_nil, List.append_nil, List.append_assoc]
          rw [decAux_pct g _ _ hb.1, if_neg (by omega), if_neg (by omega), if_pos (by omega), pctByte_pct _ _ hb.2.1, Option.bind_some]
          simp only
          rw [pctByte_pct _ _ hb.2.2, Option.bind_some]
          simp only
          have e : ((0xE0 + c.toNat / 4096 - 0xE0) * 64 + (0x80 + c.toNat / 64 % 64 - 0x80)) * 64 + (0x80 + c.toNat % 64 - 0x80) = c.toNat := by omega
          rw [e, hof]
        · rename_i h3
          have hb := hlt
          simp only [h1, h2, h3, ↓reduceIte, List.mem_cons, List.not_mem_nil, or_false, forall_eq_or_imp, forall_eq] at hb
          simp only [List.flatMap_cons, List.flatMap_nil, List.append_nil, List.append_assoc]
          rw [decAux_pct g _ _ hb.1, if_neg (by omega), if_neg (by omega), if_neg (by omega), pctByte_pct _ _ hb.2.1, Option.bind_some]
          simp only
          rw [pctByte_pct _ _ hb.2.2.1, Option.bind_some]
          simp only
          rw [pctByte_pct _ _ hb.2.2.2, Option.bind_some]
          simp only
          have e : (((0xF0 + c.toNat / 262144 - 0xF0) * 64 + (0x80 + c.toNat / 4096 % 64 - 0x80)) * 64 + (0x80 + c.toNat / 64 % 64 - 0x80)) * 64
              + (0x80 + c.toNat % 64 - 0x80) = c.toNat := by omega
          rw [e, hof]

theorem encC_length_pos (c : Char) : 1 ≤ (encC c).length := by
  unfold encC
  split
  · simp
  · unfold utf8
    simp only
    split
    · simp [pct]
    · split
      · simp [pct]
      · split <;> simp [pct]

theorem decAux_enc (n : Name) : ∀ f, (enc n).length ≤ f → decAux f (enc n) = some n := by
  induction n with
  | nil => intro f _; cases f <;> simp [enc, decAux]
  | cons c r ih =>
    intro f hf
    have he : enc (c :: r) = encC c ++ enc r := by simp [enc]
    rw [he] at hf ⊢
    have hp := encC_length_pos c
    rw [List.length_append] at hf
    obtain ⟨g, rfl⟩ : ∃ g, f = g + 1 := ⟨f - 1, by omega⟩
    rw [decAux_encC, ih g (by omega)]
    rfl

/-- **the encoding has a left inverse** -/
theorem dec_enc (n : Name) : dec (enc n) = some n := decAux_enc n _ (Nat.le_refl _)

/-- **the encoding is injective**: two table names never share a file name -/
theorem enc_injective : Function.Injective enc := by
  intro a b h
  have := dec_enc a
  rw [h, dec_enc b] at this
  injection this with this
  exact this.symm

theorem decStem_iff (s : List Char) (n : Name) : decStem s = some n ↔ enc n = s := by
  unfold decStem
  constructor
  · intro h
    split at h
    · rename_i m _
      split at h
      · rename_i he
        injection h with h
        subst h
        exact he
      · cases h
    · cases h
  · intro h
    subst h
    simp [dec_enc]

theorem decStem_enc (n : Name) : decStem (enc n) = some n := (decStem_iff _ _).2 rfl

/-- **no path separator, no NUL** in an encoded name -/
theorem enc_chars (n : Name) : ∀ x ∈ enc n, x ≠ '/' ∧ x ≠ '\x00' := by
  intro x hx
  simp only [enc, List.mem_flatMap] at hx
  obtain ⟨c, _, hx⟩ := hx
  unfold encC at hx
  split at hx
  · rename_i hs
    simp only [List.mem_cons, List.not_mem_nil, or_false] at hx
    subst hx
    exact safe_not_sep x hs
  · simp only [List.mem_flatMap] at hx
    obtain ⟨b, hb, hx⟩ := hx
    have hlt := utf8_lt c b hb
    simp only [pct, List.mem_cons, List.not_mem_nil, or_false] at hx
    rcases hx with hx | hx | hx
    · subst hx; decide
    · have := hexU_ok ⟨b / 16, by omega⟩
      subst hx
      exact ⟨this.1, this.2.1⟩
    · have := hexU_ok ⟨b % 16, by omega⟩
      subst hx
      exact ⟨this.1, this.2.1⟩

/-- a name made only of safe characters is its own encoding: such tables keep the file names they had before /repo 69f92c3 -/
theorem enc_safe (n : Name) (h : ∀ c ∈ n, safeChar c = true) : enc n = n := by
  induction n with
  | nil => rfl
  | cons c r ih =>
    have hc : safeChar c = true := h c (by simp)
    have : enc (c :: r) = encC c ++ enc r := by simp [enc]
    rw [this, ih (fun d hd => h d (by simp [hd]))]
    simp [encC, hc]

end Cache
