import MsqProofs.Lemmas.TDmlR1
/-!
# T-parse for data-change statements: INSERT (C03 / C01)

The VALUES rows and the target of an INSERT (INSERT words, optional TABLE, table name, `PARTITION (k = v, …)` / `PARTITION (k, …)`, column
list) up to the body, which `insertBody` names (VALUES or a query: Lemmas/TDmlR3.lean).  A bracket group holding comma-joined renderings is
split again by `pop_as_children_scanner_list_split_by(",")`: `joinC (xs.map tk)` is `TC.commaList tk xs` (`joinC_map`), the split is
`TC.splitBy_commaList`, one parser per segment `TC.eachClosed_map` (MsqProofs/Lemmas/TCoreGroup.lean).  The comma after a VALUES row is
optional for the parser.
-/
open Lex PM Ast TP TS
open TP2 (qTok fnOK nmOK nm2OK isOkNoneS fnNameOK aggOK dotTok starTok)
open TQ (tblTok unionWords lvlH isExists isOkPair tblOK)
open TQ3
namespace TDM3
variable {d : Gen.D} {ch : Expr → Bool}

theorem joinC_map {β : Type} (tk : β → List Tok) : ∀ xs : List β, joinC (xs.map tk) = TC.commaList tk xs
  | [] => rfl
  | [x] => by simp only [List.map_cons, List.map_nil, joinC, TC.commaList, TC.commaTail, List.append_nil]
  | x :: y :: r => by
    have := joinC_map tk (y :: r)
    simp only [List.map_cons, joinC, TC.commaList, TC.commaTail] at this ⊢
    rw [this]
theorem splitBy_joinC {β : Type} (tk : β → List Tok) (xs : List β) (h : ∀ x ∈ xs, TC.Seg (tk x)) :
    splitBy "," (joinC (xs.map tk)) [] [] = xs.map tk := by
  rw [joinC_map]; simpa using TC.splitBy_commaList tk xs h []
theorem sizeL_joinC_mem {β : Type} (tk : β → List Tok) (xs : List β) (x : β) (hx : x ∈ xs) : sizeL (tk x) ≤ sizeL (joinC (xs.map tk)) := by
  rw [joinC_map]; exact TC.sizeL_commaList_mem tk xs x hx

/-! ### VALUES -/
theorem row_ok (vs : List Expr) (hvs : ∀ e ∈ vs, RT4 d ch e) (f : Nat) (hf : 20 * sizeL (joinC (vs.map (fun e => W4 d ch e 8))) + 2 ≤ f) :
    eachClosed (pCompute d f) (splitBy "," (toksRow d ch vs).children [] []) = .ok vs := by
  have hsp := splitBy_joinC (fun e => W4 d ch e 8) vs fun e he => ⟨(hvs e he).neW 8, (hvs e he).ncW 8⟩
  have := TC.eachClosed_map (pCompute d f) (fun e => W4 d ch e 8) (fun e => e) vs (by
    intro e he
    have hsz := sizeL_joinC_mem (fun e => W4 d ch e 8) vs e he
    have := TQ3.key8 e (hvs e he) [] (TP2.stopLE2_nil d 8) f (by omega)
    simpa using this)
  simpa [toksRow, children_grp, hsp] using this
theorem grp_notComma (cs : List Tok) : (grp cs).srcEq "," = false := by
  simp only [Tok.srcEq, beq_eq_false_iff_ne, ne_eq]
  exact ne_of_head (c := '(') (by rw [toList_src_grp]; rfl) (by decide)
theorem moveStr_rowsTail (rs : List (List Expr)) (rest : List Tok) (hc : searchStr rest "," = false) :
    (moveStr (toksRowsTail d ch rs ++ rest) ",").2 = toksRows d ch rs ++ rest := by
  cases rs with
  | nil => simp [toksRowsTail, toksRows, moveStr, hc]
  | cons r rs => simp [toksRowsTail, toksRows, moveStr, TS.comma_search]
theorem sizeL_rows_split (r : List Expr) (rs : List (List Expr)) :
    sizeL (toksRows d ch (r :: rs)) = 1 + sizeL (joinC (r.map (fun e => W4 d ch e 8))) + sizeL (toksRowsTail d ch rs) := by
  simp only [toksRows, sizeL_cons, toksRow, size_grp]
theorem sizeL_rows_le (rs : List (List Expr)) : sizeL (toksRows d ch rs) ≤ sizeL (toksRowsTail d ch rs) := by
  cases rs with
  | nil => simp [toksRows, toksRowsTail]
  | cons r rs => simp only [toksRows, toksRowsTail, sizeL_cons]; omega
/-- the row loop: `g` counts the iterations -/
theorem valuesLoop_ok (rest : List Tok) (hb : Bd4 d 11 rest = true) :
    ∀ (rows : List (List Expr)), (∀ r ∈ rows, ∀ e ∈ r, RT4 d ch e) → ∀ acc f g, 20 * sizeL (toksRows d ch rows) + 2 ≤ f → rows.length + 1 ≤ g →
    valuesLoop d f g acc (toksRows d ch rows ++ rest) = .ok (acc ++ rows, rest) := by
  intro rows
  induction rows with
  | nil =>
    intro _ acc f g _ hg
    obtain ⟨g', rfl⟩ : ∃ g', g = g' + 1 := ⟨g - 1, by simp at hg; omega⟩
    cases rest with
    | nil => simp [toksRows, valuesLoop]
    | cons t r =>
      have hp : t.has PAREN = false := (TQ3.bd_parts (k := 11) (t := t) hb).2.2.1
      simp [toksRows, valuesLoop, hp]
  | cons r rs ih =>
    intro hrows acc f g hf' hg
    rw [sizeL_rows_split] at hf'
    obtain ⟨g', rfl⟩ : ∃ g', g = g' + 1 := ⟨g - 1, by simp at hg; omega⟩
    have h1 := row_ok r (hrows r (by simp)) f (by omega)
    have h2 := ih (fun q hq => hrows q (by simp [hq])) (acc ++ [r]) f g'
      (by have := sizeL_rows_le (d := d) (ch := ch) rs; omega) (by simp at hg ⊢; omega)
    have hm := moveStr_rowsTail (d := d) (ch := ch) rs rest (TQ3.bd_comma hb)
    have hp : (toksRow d ch r).has PAREN = true := grp_paren _
    have e0 : toksRows d ch (r :: rs) ++ rest = toksRow d ch r :: (toksRowsTail d ch rs ++ rest) := rfl
    rw [e0]
    unfold valuesLoop
    simp only [hp, if_true, h1, hm]
    simpa using h2
theorem length_rows (rs : List (List Expr)) : rs.length ≤ (toksRows d ch rs).length := by
  have : ∀ rs : List (List Expr), rs.length ≤ (toksRowsTail d ch rs).length := by
    intro rs
    induction rs with
    | nil => simp [toksRowsTail]
    | cons r rs ih => simp only [toksRowsTail, List.length_cons]; omega
  cases rs with
  | nil => simp [toksRows]
  | cons r rs => have := this rs; simp only [toksRows, List.length_cons]; omega

/-! ### PARTITION -/
/-- the record of a partition list: all items static (`k = v`) or all dynamic (`k`) -/
def StaticRec (d : Gen.D) (ch : Expr → Bool) (e : Expr) : Prop :=
  ∃ o l r, e = .compare o l r ∧ cmpOK d o = true ∧ RT4 d ch l ∧ RT4 d ch r ∧ PR.lvl l ≤ 8 ∧ PR.lvl r ≠ 9 ∧
    Gen.compareSet.contains (opTok (cmpVal o)).src = true
def DynRec (d : Gen.D) (ch : Expr → Bool) (e : Expr) : Prop := RT4 d ch e ∧ PR.lvl e ≤ 8
theorem staticRec (e : Expr) (h : staticOK d e = true) : StaticRec d ch e := by
  cases e with
  | compare o l r =>
    simp only [staticOK, Bool.and_eq_true, decide_eq_true_eq] at h
    obtain ⟨⟨⟨⟨⟨h1, h2⟩, h3⟩, h4⟩, h5⟩, h6⟩ := h
    exact ⟨o, l, r, rfl, h1, rt4 l h2, rt4 r h3, h4, h5, h6⟩
  | _ => simp [staticOK] at h
theorem dynRec (e : Expr) (h : dynOK d e = true) : DynRec d ch e := by
  simp only [dynOK, Bool.and_eq_true, decide_eq_true_eq] at h
  exact ⟨rt4 e h.1, h.2⟩
/-- the printer brackets the left operand of a comparison above level 10 and the right one above 9; `staticOK` puts both at `≤ 8` resp. `≠ 9`,
so the partition parser, which reads at level 8, meets the same brackets -/
theorem W4_level {e : Expr} {k k' : Nat} (h : PR.lvl e > k ↔ PR.lvl e > k') : W4 d ch e k = W4 d ch e k' := by
  unfold W4 wrapT
  simp only [h]
theorem static_toks {o : String} {l r : Expr} (hl : PR.lvl l ≤ 8) (hr : PR.lvl r ≠ 9) :
    toksE5 d ch (.compare o l r) = W4 d ch l 8 ++ opTok (cmpVal o) :: W4 d ch r 8 := by
  have h1 : W4 d ch l 10 = W4 d ch l 8 := W4_level (by omega)
  have h2 : W4 d ch r 9 = W4 d ch r 8 := W4_level (by omega)
  simp only [toksE5]
  simp only [W4] at h1 h2
  rw [h1, h2]; rfl
theorem static_item (e : Expr) (he : StaticRec d ch e) :
    OkAt (fun f => pPartitionItem d f (toksE5 d ch e)) (20 * sizeL (toksE5 d ch e) + 2) ((e, true), []) ∧
    toksE5 d ch e ≠ [] ∧ NoComma (toksE5 d ch e) := by
  obtain ⟨o, l, r, rfl, ho, hl, hr, hll, hlr, hset⟩ := he
  have e1 := static_toks (d := d) (ch := ch) (o := o) hll hlr
  have ho' := ho
  simp only [cmpOK, Bool.and_eq_true, beq_iff_eq] at ho'
  obtain ⟨⟨hop, hstop0⟩, _⟩ := ho'
  refine ⟨?_, ?_, ?_⟩
  · intro f hf'
    rw [e1] at hf' ⊢
    simp only [sizeL_append, sizeL_cons, size_opTok] at hf'
    have hstop : TP2.stopLE2 d 8 (opTok (cmpVal o) :: (W4 d ch r 8 ++ [])) = true :=
      TQ.stop2_of _ (TP.stopTok_mono hstop0 (by omega)) (TC.cmp_notOver hop)
    have h1 := TQ3.key8 l hl _ hstop f (by omega)
    have h2 := TQ3.key8 r hr [] (TP2.stopLE2_nil d 8) f (by omega)
    simp only [List.append_nil] at h1 h2
    have hs : searchSet (opTok (cmpVal o) :: W4 d ch r 8) Gen.compareSet = true := by simpa [searchSet] using hset
    unfold pPartitionItem
    simp only [h1, hs, if_true, popSrc, hop, h2]
  · rw [e1]
    obtain ⟨t, ts', h, _⟩ := hl.headW 8
    rw [h]; simp
  · rw [e1]
    intro t ht
    rcases List.mem_append.1 ht with ht | ht
    · exact hl.ncW 8 t ht
    · rcases List.mem_cons.1 ht with rfl | ht
      · exact TP2.cmp_nocomma o ho
      · exact hr.ncW 8 t ht
theorem dyn_item (e : Expr) (he : DynRec d ch e) :
    OkAt (fun f => pPartitionItem d f (toksE5 d ch e)) (20 * sizeL (toksE5 d ch e) + 2) ((e, false), []) ∧
    toksE5 d ch e ≠ [] ∧ NoComma (toksE5 d ch e) := by
  obtain ⟨he, hl⟩ := he
  refine ⟨?_, ?_, he.nocomma⟩
  · intro f hf'
    have h1 := he.own.s8 hl [] (TP2.stopLE2_nil d 8) f (by omega)
    simp only [List.append_nil] at h1
    unfold pPartitionItem
    simp only [h1, searchSet, Bool.false_eq_true, if_false]
  · obtain ⟨t, ts', h, _⟩ := he.head
    rw [h]; simp
def PartRec (d : Gen.D) (ch : Expr → Bool) : Option (List Expr) → Prop
  | none => True
  | some es => (∀ e ∈ es, StaticRec d ch e) ∨ (∀ e ∈ es, DynRec d ch e)
theorem partRec (p : Option (List Expr)) (h : partOK d p = true) : PartRec d ch p := by
  cases p with
  | none => trivial
  | some es =>
    simp only [partOK, Bool.or_eq_true, List.all_eq_true] at h
    rcases h with h | h
    · exact Or.inl fun e he => staticRec e (h e he)
    · exact Or.inr fun e he => dynRec e (h e he)
theorem kw_partition : (opTok "PARTITION").equalsStr "PARTITION" = true ∧ (opTok "PARTITION").srcEqUp "PARTITION" = true ∧
    (opTok "PARTITION").size = 1 := by decide
/-- the items of a partition list, whatever their kind: every segment is parsed with the same flag -/
theorem items_ok (es : List Expr) (flag : Bool)
    (h : ∀ e ∈ es, OkAt (fun f => pPartitionItem d f (toksE5 d ch e)) (20 * sizeL (toksE5 d ch e) + 2) ((e, flag), []) ∧
      toksE5 d ch e ≠ [] ∧ NoComma (toksE5 d ch e)) (x : List Tok) :
    OkAt (fun f => pPartition d f false (opTok "PARTITION" :: grp (joinC (es.map (toksE5 d ch))) :: x))
      (20 * sizeL (joinC (es.map (toksE5 d ch))) + 2) (es, x) := by
  obtain ⟨k1, _, _⟩ := kw_partition
  intro f hf'
  have hsp := splitBy_joinC (toksE5 d ch) es fun e he => (h e he).2
  have hec := TC.eachClosed_map (pPartitionItem d f) (toksE5 d ch) (fun e => (e, flag)) es (by
    intro e he
    have hsz := sizeL_joinC_mem (toksE5 d ch) es e he
    exact (h e he).1 f (by omega))
  have hany : ((es.map (fun e => (e, flag))).any (·.2) && (es.map (fun e => (e, flag))).any (fun i => !i.2)) = false := by
    cases flag
    · have : (es.map (fun e => (e, false))).any (·.2) = false := by simp
      simp [this]
    · have : (es.map (fun e => (e, true))).any (fun i => !i.2) = false := by simp
      simp [this]
  have hm : ∀ l : List Expr, (l.map (fun e => (e, flag))).map (·.1) = l := by
    intro l; induction l with
    | nil => rfl
    | cons a r ih => simp only [List.map_cons, ih]
  have hm := hm es
  unfold pPartition
  simp only [Bool.false_eq_true, if_false, matchKw, k1, if_true, popSplit, children_grp, hsp, hec, hany, hm]
theorem sizeL_part (p : Option (List Expr)) : sizeL (toksPart d ch p) = match p with | none => 0 | some es => 2 + sizeL (joinC (es.map (toksE5 d ch))) := by
  cases p with
  | none => rfl
  | some es => simp only [toksPart, sizeL_cons, size_opTok, size_grp, sizeL]; omega
theorem grp_srcEqUp (cs : List Tok) (k : String) (hk : (k.toList.head? != some '(') = true) : (grp cs).srcEqUp k = false := by
  simp only [Tok.srcEqUp, beq_eq_false_iff_ne, ne_eq]
  exact ne_of_head (c := '(') (by rw [toList_up_grp]; rfl) hk
/-- `PARTITION (…)` if present; `x` (the column list, VALUES or SELECT) does not start with the word PARTITION -/
theorem optPartition_ok (p : Option (List Expr)) (hp : PartRec d ch p) (x : List Tok) (hx : searchStrUp x "PARTITION" = false) :
    OkAt (fun f => pOptPartition d f (toksPart d ch p ++ x)) (20 * sizeL (toksPart d ch p) + 2) (p, x) := by
  obtain ⟨_, k2, _⟩ := kw_partition
  intro f hf'
  rw [sizeL_part] at hf'
  cases p with
  | none => simp [toksPart, pOptPartition, hx]
  | some es =>
    simp only at hf'
    have hs : searchStrUp (opTok "PARTITION" :: grp (joinC (es.map (toksE5 d ch))) :: x) "PARTITION" = true := by simpa [searchStrUp] using k2
    have h1 : pPartition d f false (opTok "PARTITION" :: grp (joinC (es.map (toksE5 d ch))) :: x) = .ok (es, x) := by
      rcases hp with hp | hp
      · exact items_ok es true (fun e he => static_item e (hp e he)) x f (by omega)
      · exact items_ok es false (fun e he => dyn_item e (hp e he)) x f (by omega)
    unfold pOptPartition
    simp only [toksPart, List.cons_append, List.nil_append, hs, if_true, h1]

/-! ### the explicit column list -/
theorem dot_words : dotTok.equalsStr "," = false ∧ dotTok.srcEq "." = true := by decide
theorem colName_item (c : Option String × String) (hc : colNameOK c = true) :
    pColumnName (toksColName c) = .ok (c, []) ∧ toksColName c ≠ [] ∧ NoComma (toksColName c) := by
  obtain ⟨t, n⟩ := c
  simp only [colNameOK, Bool.and_eq_true] at hc
  obtain ⟨⟨h1, h2⟩, _⟩ := hc
  simp only [nm2OK, Bool.and_eq_true, beq_iff_eq, Bool.not_eq_true'] at h1
  obtain ⟨⟨n1, n2⟩, n3⟩ := h1
  cases t with
  | none =>
    refine ⟨?_, by simp [toksColName], ?_⟩
    · simp [toksColName, pColumnName, n1, n2, searchStr]
    · intro t ht; simp [toksColName] at ht; subst ht; exact n3
  | some t =>
    simp only [nm2OK, Bool.and_eq_true, beq_iff_eq, Bool.not_eq_true'] at h2
    obtain ⟨⟨t1, t2⟩, t3⟩ := h2
    refine ⟨?_, by simp [toksColName], ?_⟩
    · simp [toksColName, pColumnName, t1, t2, n1, n2, searchStr, dot_words.2]
    · intro u hu
      simp [toksColName] at hu
      rcases hu with rfl | rfl | rfl
      · exact t3
      · exact dot_words.1
      · exact n3
theorem kw_noParen : (opTok "VALUES").has PAREN = false ∧ (opTok "SELECT").has PAREN = false := by decide
theorem columns_ok (cs : Option (List (Option String × String))) (hcs : colNamesOK cs = true) (x : List Tok) (hx : searchMark x PAREN = false) :
    pOptColumns (toksColNames cs ++ x) = .ok (cs, x) := by
  cases cs with
  | none => simp [toksColNames, pOptColumns, hx]
  | some l =>
    simp only [colNamesOK, List.all_eq_true] at hcs
    have hsp := splitBy_joinC toksColName l fun c hc => (colName_item c (hcs c hc)).2
    have hec := TC.eachClosed_map pColumnName toksColName (fun c => c) l (fun c hc => (colName_item c (hcs c hc)).1)
    simp only [List.map_id'] at hec
    unfold pOptColumns
    simp [toksColNames, searchMark, grp_paren, popSplit, children_grp, hsp, hec]

theorem kw_insert : (opTok "INSERT").srcEqUp "INSERT" = true ∧ (opTok "INTO").srcEqUp "INTO" = true ∧ (opTok "IGNORE").srcEqUp "IGNORE" = true ∧
    (opTok "OVERWRITE").srcEqUp "OVERWRITE" = true ∧ (opTok "IGNORE").srcEqUp "INTO" = false ∧ (opTok "OVERWRITE").srcEqUp "INTO" = false ∧
    (opTok "OVERWRITE").srcEqUp "IGNORE" = false ∧ (opTok "TABLE").srcEqUp "TABLE" = true := by decide
theorem insertWords_eq : insertWords "INSERT_INTO" = [opTok "INSERT", opTok "INTO"] ∧
    insertWords "INSERT_IGNORE_INTO" = [opTok "INSERT", opTok "IGNORE", opTok "INTO"] ∧
    insertWords "INSERT_OVERWRITE" = [opTok "INSERT", opTok "OVERWRITE"] := by
  refine ⟨?_, ?_, ?_⟩ <;> simp [insertWords, Gen.insertTypes]
theorem insertType_ok (ty : String) (hty : insertTyOK ty = true) (x : List Tok) : pInsertType (insertWords ty ++ x) = .ok (ty, x) := by
  obtain ⟨k1, k2, k3, k4, k5, k6, k7, _⟩ := kw_insert
  obtain ⟨w1, w2, w3⟩ := insertWords_eq
  simp only [insertTyOK, List.contains_cons, List.contains_nil, Bool.or_false, Bool.or_eq_true, beq_iff_eq] at hty
  unfold pInsertType
  rcases hty with rfl | rfl | rfl
  · simp [w1, searchTwoUp, k1, k2]
  · simp [w2, searchTwoUp, searchThreeUp, k1, k2, k3, k5]
  · cases x with
    | nil => simp [w3, searchTwoUp, searchThreeUp, k1, k4, k6]
    | cons y r => simp [w3, searchTwoUp, searchThreeUp, k1, k4, k6, k7]
theorem sizeL_insertWords (ty : String) (hty : insertTyOK ty = true) : 2 ≤ sizeL (insertWords ty) := by
  obtain ⟨w1, w2, w3⟩ := insertWords_eq
  simp only [insertTyOK, List.contains_cons, List.contains_nil, Bool.or_false, Bool.or_eq_true, beq_iff_eq] at hty
  rcases hty with rfl | rfl | rfl
  · simp [w1, sizeL_cons, size_opTok, sizeL]
  · simp [w2, sizeL_cons, size_opTok, sizeL]
  · simp [w3, sizeL_cons, size_opTok, sizeL]
theorem insertWords_head (ty : String) (hty : insertTyOK ty = true) : ∃ y, insertWords ty = opTok "INSERT" :: y := by
  obtain ⟨w1, w2, w3⟩ := insertWords_eq
  simp only [insertTyOK, List.contains_cons, List.contains_nil, Bool.or_false, Bool.or_eq_true, beq_iff_eq] at hty
  rcases hty with rfl | rfl | rfl
  · exact ⟨_, w1⟩
  · exact ⟨_, w2⟩
  · exact ⟨_, w3⟩

/-! ### the target: INSERT words, optional TABLE, table name, partition, column list -/
structure HeadRec (d : Gen.D) (ch : Expr → Bool) (h : InsertHead) : Prop where
  ty : insertTyOK h.type = true
  tbl : tblOKD h.table = true
  part : PartRec d ch h.partition
  cols : colNamesOK h.columns = true
theorem moveTable (tb : Bool) (t : TableName) (ht : tblOKD t = true) (x : List Tok) :
    (moveStrUp ((if tb then [opTok "TABLE"] else []) ++ (tblTok t.schema t.name :: x)) "TABLE").2 = tblTok t.schema t.name :: x := by
  cases tb
  · simp [moveStrUp, searchStrUp, tbl_notTable t ht]
  · simp [moveStrUp, searchStrUp, kw_insert.2.2.2.2.2.2.2]  -- the last conjunct: `(opTok "TABLE").srcEqUp "TABLE" = true`
theorem part_head (p : Option (List Expr)) (x : List Tok) (hx : searchStr x "." = false) : searchStr (toksPart d ch p ++ x) "." = false := by
  cases p with
  | none => simpa [toksPart] using hx
  | some es =>
    have : (opTok "PARTITION").srcEq "." = false := by decide
    simp [toksPart, searchStr, this]
theorem cols_head (cs : Option (List (Option String × String))) (x : List Tok) (k : String) (hk : (k.toList.head? != some '(') = true)
    (hx : searchStrUp x k = false) : searchStrUp (toksColNames cs ++ x) k = false := by
  cases cs with
  | none => simpa [toksColNames] using hx
  | some l => simp [toksColNames, searchStrUp, grp_srcEqUp _ k hk]
theorem grp_notDot (cs : List Tok) : (grp cs).srcEq "." = false := by
  simp only [Tok.srcEq, beq_eq_false_iff_ne, ne_eq]
  exact ne_of_head (c := '(') (by rw [toList_src_grp]; rfl) (by decide)
theorem cols_notDot (cs : Option (List (Option String × String))) (x : List Tok) (hx : searchStr x "." = false) :
    searchStr (toksColNames cs ++ x) "." = false := by
  cases cs with
  | none => simpa [toksColNames] using hx
  | some l => simp [toksColNames, searchStr, grp_notDot]

/-- `pInsert` up to the body: what the body parser is handed -/
def insertBody (d : Gen.D) (f : Nat) (h : InsertHead) (r4 : List Tok) : R Stmt :=
  if searchStrUp r4 "VALUES" then
    (match valuesLoop d f (r4.length + 1) [] (r4.drop 1) with
     | .ok (vs, r5) => .ok (.insertValues h vs, r5) | .error e => .error e)
  else if searchStrUp r4 "SELECT" then
    (match pSelectStmt d f (some []) r4 with
     | .ok (q, r5) => .ok (.insertSelect h q, r5) | .error e => .error e)
  else .error .parse
theorem insert_target (tb : Bool) (h : InsertHead) (ws : List WithTable) (hw : h.withs = some ws) (hh : HeadRec d ch h) (body : List Tok)
    (hb1 : searchStrUp body "PARTITION" = false) (hb2 : searchMark body PAREN = false) (hb3 : searchStr body "." = false) :
    ∀ f, 20 * sizeL (toksPart d ch h.partition) + 2 ≤ f →
    pInsert d f (some ws) (toksTarget d ch tb h ++ body) = insertBody d f h body := by
  intro f hf'
  obtain ⟨ws', ty, tbl, part, cols⟩ := h
  simp only at hw; subst hw
  have h1 := insertType_ok ty hh.ty ((if tb then [opTok "TABLE"] else []) ++ (tblTok tbl.schema tbl.name :: (toksPart d ch part ++ (toksColNames cols ++ body))))
  have h2 := moveTable tb tbl hh.tbl (toksPart d ch part ++ (toksColNames cols ++ body))
  have h3 := tblName_ok tbl hh.tbl (toksPart d ch part ++ (toksColNames cols ++ body)) (part_head part _ (cols_notDot cols body hb3))
  have h4 := optPartition_ok part hh.part (toksColNames cols ++ body) (cols_head cols body "PARTITION" (by decide) hb1) f hf'
  have h5 := columns_ok cols hh.cols body hb2
  simp only at h4
  unfold pInsert insertBody
  simp only [pWithOpt, toksTarget, List.append_assoc, List.cons_append, h1, h2, h3, h4, h5]
  rfl

end TDM3
