import MsqProofs.Lemmas.LexLinkAnyD1
/-!
# The lexer link for data-change statements over `FragQ2`: the INSERT head, the WITH clause of a query, the statement record

`good_stmt` is the statement-level record; the link over the smaller fragment `TDM.FragStmt` reads its records off this one (`LexLinkDml2.lean`).
What does not mention the fragment comes from `LLD` (`LexLinkPc.lean`, `LexLinkDml0–1.lean`).
-/
namespace LL2.Any
open Lex Spec C05 C06 C09 Ast TP TS LexLink TQ2
open LLD (ps pc ps_cons ps_append lx_pc2 sp q_pc dmlWords lx_dw DW insertWordsL insertPrintable printableStmt tbl_good wrapL_le wrapL_gt colsStr prInsertHead_eq prSRest_w)

structure GSt (d : Gen.D) (K : QKit) (s : Stmt) : Prop where
  lx : Lx (stmtL d s) (TDM2.toksStmt d s)
  pr : PR.prStmt d s = .ok (String.ofList (stmtL d s))
  q : K.Q (stmtL d s)

section
variable {d : Gen.D} {K : QKit} [QWc K]

theorem insertWords_good (hK : DW K) (ty : String) (h : TDM2.insertTyOK ty = true) :
    LexLink.Pc K (insertWordsL ty) (TDM2.insertWords ty) ∧ ∃ s, PR.wordsSrc Gen.insertTypes ty = .ok s ∧ s.toList = insertWordsL ty := by
  have hne : Gen.insertTypes.all (fun e => !e.2.isEmpty) = true := by decide
  cases hf : Gen.insertTypes.find? (·.1 == ty) with
  | none =>
    have ht : ty = "INSERT_INTO" ∨ ty = "INSERT_IGNORE_INTO" ∨ ty = "INSERT_OVERWRITE" := by simpa [TDM2.insertTyOK] using h
    rcases ht with rfl | rfl | rfl <;> simp [Gen.insertTypes] at hf
  | some e =>
    simp only [insertWordsL, TDM2.insertWords, hf]
    exact phrase_good LLD.insert_words_plainL hK.iws hf fun he => by
      have := (List.all_eq_true.mp hne) e (List.mem_of_find?_eq_some hf)
      simp [he] at this

/-- a partition item of the fragment: the partition printer (`prPartItem`, brackets above the compute level) prints what the general
expression printer prints -/
theorem partItem_good (e : Expr) (h : (TDM2.staticOK d e || TDM2.dynOK d e) = true) (hl : Lv2 d K (leavesE4 e)) :
    GE4 d K e ∧ PR.prPartItem d e = .ok (String.ofList (prE4L d e)) := by
  rcases Bool.or_eq_true_iff.mp h with h | h
  · cases e with
    | compare o l r =>
      simp only [TDM2.staticOK, Bool.and_eq_true, decide_eq_true_eq] at h
      obtain ⟨⟨⟨⟨⟨ho, hfl⟩, hfr⟩, hll⟩, hlr⟩, _⟩ := h
      simp only [leavesE4, lv2_append] at hl
      have gl := good_expr d K QWc.out l hfl hl.1
      have gr := good_expr d K QWc.out r hfr hl.2
      refine ⟨ge_compare o l r ho gl gr, ?_⟩
      simp only [PR.prPartItem, gl.pr, gr.pr, cmpOK_prints ho, Except.map, bind, Except.bind, pure, Except.pure, wrap_ofList, prE4L]
      refine congrArg Except.ok ?_
      apply String.toList_inj.mp
      have e1 : wrapL l 8 (prE4L d l) = wrapL l 10 (prE4L d l) := by
        rw [wrapL_le l 8 _ hll, wrapL_le l 10 _ (by omega)]
      have e2 : wrapL r 8 (prE4L d r) = wrapL r 9 (prE4L d r) := by
        by_cases hr : PR.lvl r ≤ 8
        · rw [wrapL_le r 8 _ hr, wrapL_le r 9 _ (by omega)]
        · rw [wrapL_gt r 8 _ (by omega), wrapL_gt r 9 _ (by omega)]
      simp [toString, String.toList_append, String.toList_ofList, e1, e2]
    | _ => simp [TDM2.staticOK] at h
  · simp only [TDM2.dynOK, Bool.and_eq_true, decide_eq_true_eq] at h
    have g := good_expr d K QWc.out e h.1 hl
    refine ⟨g, ?_⟩
    have hp : PR.prPartItem d e = (PR.prE d e).map (PR.wrap e 8) := by
      cases e <;> first | rfl | (simp [PR.lvl] at h)
    rw [hp, g.pr]
    simp only [Except.map, wrap_ofList, wrapL_le e 8 _ h.2]

theorem partItems_good (es : List Expr) (h : (es.all (TDM2.staticOK d) || es.all (TDM2.dynOK d)) = true) (hl : Lv2 d K (leavesL4 es)) :
    ∀ e ∈ es, GE4 d K e ∧ PR.prPartItem d e = .ok (String.ofList (prE4L d e)) := by
  have hall : ∀ e ∈ es, (TDM2.staticOK d e || TDM2.dynOK d e) = true := by
    intro e he
    rcases Bool.or_eq_true_iff.mp h with h | h
    · rw [(List.all_eq_true.mp h) e he]; rfl
    · rw [(List.all_eq_true.mp h) e he]; simp
  clear h
  induction es with
  | nil => intro e he; cases he
  | cons a r ih =>
    simp only [leavesL4, lv2_append] at hl
    intro e he
    rcases List.mem_cons.mp he with rfl | he
    · exact partItem_good e (hall e (by simp)) hl.1
    · exact ih hl.2 (fun x hx => hall x (by simp [hx])) e he

theorem pr_partList (es : List Expr) (h : ∀ e ∈ es, PR.prPartItem d e = .ok (String.ofList (prE4L d e))) :
    PR.prPartList d es = .ok ((es.map (prE4L d)).map String.ofList) := by
  induction es with
  | nil => rfl
  | cons a r ih =>
    have h2 := ih fun x hx => h x (by simp [hx])
    simp only [PR.prPartList, h a (by simp), h2, bind, Except.bind, pure, Except.pure, List.map_cons]

theorem part_good (hK : DW K) (p : Option (List Expr)) (hf : TDM2.partOK d p = true) (hl : Lv2 d K (leavesPart p)) :
    Seg ' ' (partPieces d p) (TDM2.toksPart d noX p) ∧ (∀ x ∈ partPieces d p, K.Q x) ∧
      PR.prOptPartition d p = .ok (String.ofList (ps (partPieces d p))) := by
  cases p with
  | none => exact ⟨Seg.nil _, fun x hx => by simp [partPieces] at hx, rfl⟩
  | some es =>
    have hall := partItems_good (K := K) es (by simpa [TDM2.partOK] using hf) (by simpa [leavesPart] using hl)
    have hp := ((⟨lx_dw "PARTITION" (by simp [dmlWords]), hK.dws "PARTITION" (by simp [dmlWords])⟩ : LexLink.Pc K _ _).sep
      (pc_joinC (prE4L d) (toksE4 d noX) es fun e he => (hall e he).1.pc).paren).congr
      (u' := "PARTITION".toList ++ ' ' :: '(' :: (joinLL [',', ' '] (es.map (prE4L d)) ++ [')'])) (ts' := TDM2.toksPart d noX (some es))
      (by simp) (by simp [TDM2.toksPart, grp_eq])
    refine ⟨Seg.one _ hp.lx, fun x hx => ?_, ?_⟩
    · simp only [partPieces, List.mem_singleton] at hx
      exact hx ▸ hp.q
    · simp only [PR.prOptPartition, PR.prPartition, pr_partList es (fun e he => (hall e he).2), Except.map]
      refine congrArg Except.ok ?_
      apply ofList_eq
      have e3 : (", " : String).toList = [',', ' '] := rfl
      simp [toString, String.toList_append, toList_joinS, e3, partPieces, ps, Function.comp_def, String.toList_ofList]

theorem colName_good (c : Option String × String) (hl : leafOK d (.col c.1 c.2)) (hq : K.item (.col c.1 c.2)) :
    LexLink.Pc K (colNameL d c) (TDM2.toksColName c) ∧ PR.columnSrc d c.1 c.2 = String.ofList (colNameL d c) := by
  obtain ⟨t, n⟩ := c
  have g : GE4 d K (.column t n) := by
    cases t with
    | none => exact ge_col n hl (hq n (by simp [strs]))
    | some t => exact ge_qcol t n hl (hq t (by simp [strs])) (hq n (by simp [strs]))
  refine ⟨⟨?_, g.q⟩, ?_⟩
  · have := g.lx
    cases t <;> exact this
  · have := g.pr
    simp only [PR.prE, Except.ok.injEq] at this
    exact this

theorem cols_good (cs : Option (List (Option String × String))) (hl : Lv2 d K (leavesColNames cs)) :
    LexLink.SegP K ' ' (colPieces d cs) (TDM2.toksColNames cs) ∧ colsStr d cs = String.ofList (ps (colPieces d cs)) := by
  cases cs with
  | none => exact ⟨LexLink.SegP.nil _, rfl⟩
  | some cs =>
    have hall : ∀ c ∈ cs, LexLink.Pc K (colNameL d c) (TDM2.toksColName c) ∧ PR.columnSrc d c.1 c.2 = String.ofList (colNameL d c) := by
      intro c hc
      have := hl (.old (.col c.1 c.2)) (by simp only [leavesColNames]; exact List.mem_map.mpr ⟨c, hc, rfl⟩)
      exact colName_good c this.1 this.2
    refine ⟨LexLink.SegP.one _ ((pc_joinC (colNameL d) TDM2.toksColName cs fun c hc => (hall c hc).1).paren.congr (by simp)
      (by simp [TDM2.toksColNames, grp_eq])), ?_⟩
    have hm : (cs.map fun (p : Option String × String) => PR.columnSrc d p.1 p.2) = (cs.map (colNameL d)).map String.ofList := by
      rw [List.map_map]
      exact List.map_congr_left fun c hc => (hall c hc).2
    simp only [colsStr]
    apply ofList_eq
    have e3 : (", " : String).toList = [',', ' '] := rfl
    have e1 : ("(" : String).toList = ['('] := rfl
    have e2 : (") " : String).toList = [')', ' '] := rfl
    rw [String.toList_append, String.toList_append, toList_joinS, hm, map_map_ofList, e1, e2, e3]
    simp [colPieces, ps]

theorem head_good (hK : DW K) (h : InsertHead) (hf : TDM2.headOK d h = true) (hp : insertPrintable d h = true)
    (hl : Lv2 d K (leavesHead h)) :
    (∀ l, h.withs = some l → ∀ w ∈ l, GW d K w) ∧ (∃ l, h.withs = some l) ∧
    LexLink.SegP K ' ' (headPieces d h) (TDM2.toksTarget d noX (d == .HIVE) h) ∧
      PR.prInsertHead d h = .ok (String.ofList (withPrefixL d ['\n'] h.withs ++ ps (headPieces d h))) := by
  simp only [TDM2.headOK, Bool.and_eq_true] at hf
  obtain ⟨⟨⟨⟨hws, hty⟩, htb⟩, hpt⟩, hcs⟩ := hf
  simp only [leavesHead, lv2_append, lv2_cons] at hl
  obtain ⟨lws, ⟨ltb, lqtb⟩, lpt, lcs⟩ := hl
  obtain ⟨iw, ty, iw3, iw4⟩ := insertWords_good hK h.type hty
  obtain ⟨tb1, tb2, tb3⟩ := tbl_good h.table.schema h.table.name ltb lqtb
  obtain ⟨pt1, pt2, pt3⟩ := part_good hK h.partition hpt lpt
  obtain ⟨cs, cs3⟩ := cols_good h.columns lcs
  have hW : ∀ l, h.withs = some l → ∀ w ∈ l, GW d K w := by
    intro l hl
    rw [hl] at hws lws
    exact withs_good l (by simpa [TDM2.withsOK] using hws) (by simpa [leavesWiths] using lws)
  have hsome : ∃ l, h.withs = some l := by
    cases hw : h.withs with
    | none => rw [hw] at hws; simp [TDM2.withsOK] at hws
    | some l => exact ⟨l, rfl⟩
  have hT : LexLink.SegP K ' ' (if d == .HIVE then ["TABLE".toList] else []) (if (d == .HIVE) = true then [opTok "TABLE"] else []) := by
    cases (d == Gen.D.HIVE)
    · exact LexLink.SegP.nil _
    · exact LexLink.SegP.one _ ⟨lx_dw "TABLE" (by simp [dmlWords]), hK.dws "TABLE" (by simp [dmlWords])⟩
  refine ⟨hW, hsome, ?_, ?_⟩
  · have := LexLink.SegP.cons sp iw (LexLink.SegP.append sp hT (LexLink.SegP.cons sp ⟨tb1, tb2⟩ (LexLink.SegP.append sp ⟨pt1, pt2⟩ cs)))
    simpa [headPieces, TDM2.toksTarget] using this
  · obtain ⟨l, hl⟩ := hsome
    have hw := pr_withPre (d := d) (K := K) "\n" l (hW l hl)
    have hguard : (h.type == "INSERT_OVERWRITE" && !(d == Gen.D.HIVE || d == Gen.D.DEFAULT)) = false := by
      simp only [insertPrintable, Bool.not_eq_true'] at hp; exact hp
    rw [prInsertHead_eq]
    simp only [hguard, Bool.false_eq_true, if_false, iw3, pt3, hl, hw, cs3, PR.tn, tb3, bind, Except.bind, pure, Except.pure]
    refine congrArg Except.ok ?_
    apply ofList_eq
    have e1 : ("\n" : String).toList = ['\n'] := rfl
    have e2 : ("TABLE " : String).toList = "TABLE".toList ++ [' '] := rfl
    cases hd : (d == Gen.D.HIVE) <;>
      simp [toString, String.toList_append, String.toList_ofList, iw4, e1, e2, headPieces, ps_cons, ps_append, hd]

theorem prQL_stripW (q : Query) : prQ2L d (TDM2.stripW q) = prQ2L d q := by
  cases q with
  | single s => obtain ⟨w, dist, cols, fr, lats, js, wh, gb, hv, ob, sb, db, cb, lm⟩ := s; simp only [TDM2.stripW, TDM2.setQW, TDM2.setW, prQ2L, prS4L]
  | union w s us => simp only [TDM2.stripW, TDM2.setQW, prQ2L]

theorem toksQ_stripW (q : Query) : toksQ2 d noX (TDM2.stripW q) = toksQ2 d noX q := by
  cases q with
  | single s => obtain ⟨w, dist, cols, fr, lats, js, wh, gb, hv, ob, sb, db, cb, lm⟩ := s; simp only [TDM2.stripW, TDM2.setQW, TDM2.setW, toksQ2, toksS4]
  | union w s us => simp only [TDM2.stripW, TDM2.setQW, toksQ2]

theorem leavesQ_stripW (q : Query) : leavesQ2 (TDM2.stripW q) = leavesQ2 q := by
  cases q with
  | single s => obtain ⟨w, dist, cols, fr, lats, js, wh, gb, hv, ob, sb, db, cb, lm⟩ := s; simp only [TDM2.stripW, TDM2.setQW, TDM2.setW, leavesQ2, leavesS4]
  | union w s us => simp only [TDM2.stripW, TDM2.setQW, leavesQ2]

theorem prQ_with (q : Query) (w body : String) (hw : PR.prWithPrefix d "\n" (TDM2.withsOf q) = .ok w)
    (hb : PR.prQ d (TDM2.stripW q) = .ok body) : PR.prQ d q = .ok (w ++ body) := by
  have h0 : PR.prWithPrefix d "\n" (some []) = .ok "" := by simp [PR.prWithPrefix]
  cases q with
  | single s =>
    obtain ⟨ws, dist, cols, fr, lats, js, wh, gb, hv, ob, sb, db, cb, lm⟩ := s
    simp only [TDM2.withsOf] at hw
    simp only [TDM2.stripW, TDM2.setQW, TDM2.setW, PR.prQ] at hb ⊢
    rw [PR.prS_eq] at hb ⊢
    rw [h0] at hb
    rw [hw]
    simp only [PR.ok_bind] at hb ⊢
    cases hg : PR.prSGuard d lats sb db cb with
    | error e => rw [hg] at hb; cases hb
    | ok u =>
      rw [hg] at hb
      simp only [PR.ok_bind] at hb ⊢
      rw [prSRest_w, hb]
      rfl
  | union ws s us =>
    simp only [TDM2.withsOf] at hw
    simp only [TDM2.stripW, TDM2.setQW, PR.prQ] at hb ⊢
    rw [h0] at hb
    rw [hw]
    simp only [PR.ok_bind] at hb ⊢
    cases h1 : PR.prS d s with
    | error e => rw [h1] at hb; cases hb
    | ok a =>
      rw [h1] at hb
      simp only [PR.ok_bind] at hb ⊢
      cases h2 : PR.prUnions d us with
      | error e => rw [h2] at hb; cases hb
      | ok b =>
        rw [h2] at hb
        simp only [PR.ok_bind, pure, Except.pure, Except.ok.injEq] at hb ⊢
        rw [← hb]
        simp

theorem good_stmt (hK : DW K) (s : Stmt) (hs : TDM2.FragStmt d s = true) (hp : printableStmt d s = true) (hl : Lv2 d K (leavesStmt s)) :
    GSt d K s := by
  have dw : ∀ k, k ∈ dmlWords → LexLink.Pc K k.toList [opTok k] := fun k hk => ⟨lx_dw k hk, hK.dws k hk⟩
  cases s <;> try (simp [TDM2.FragStmt] at hs; done)
  case select q =>
    simp only [TDM2.FragStmt, Bool.and_eq_true] at hs
    simp only [leavesStmt, lv2_append] at hl
    have gq := good_query d K QWc.out (TDM2.stripW q) hs.2 (by rw [leavesQ_stripW]; exact hl.2)
    have hW : ∀ l, TDM2.withsOf q = some l → ∀ w ∈ l, GW d K w := by
      intro l hl'
      have h1 := hs.1; have h2 := hl.1
      rw [hl'] at h1 h2
      exact withs_good l (by simpa [TDM2.withsOK] using h1) (by simpa [leavesWiths] using h2)
    obtain ⟨l, hsome⟩ : ∃ l, TDM2.withsOf q = some l := by
      cases hw : TDM2.withsOf q with
      | none => have := hs.1; rw [hw] at this; simp [TDM2.withsOK] at this
      | some l => exact ⟨l, rfl⟩
    have hp' := pc_withPre hK ['\n'] (Or.inl rfl) (TDM2.withsOf q) hW gq.pc
    rw [prQL_stripW, toksQ_stripW] at hp'
    refine ⟨Lx.congr hp'.lx (by simp only [stmtL]) (by simp only [TDM2.toksStmt, TDM2.toksStmtG]), ?_, hp'.q⟩
    have hw := pr_withPre (d := d) (K := K) "\n" l (hW l hsome)
    rw [← hsome] at hw
    have := prQ_with q _ _ hw gq.pr
    simp only [PR.prStmt, this, stmtL]
    refine congrArg Except.ok ?_
    apply ofList_eq
    simp only [String.toList_append, String.toList_ofList, prQL_stripW]
    rfl
  case insertValues h vs =>
    simp only [TDM2.FragStmt, Bool.and_eq_true] at hs
    simp only [leavesStmt, lv2_append] at hl
    obtain ⟨hW, ⟨l, hsome⟩, hseg, hpr⟩ := head_good hK h hs.1 hp hl.1
    have hrows := vrows_good (K := K) vs hs.2 hl.2
    have hR : LexLink.Pc K (joinLL [',', ' '] (vs.map (vrowL d))) (TDM2.toksRows d noX vs) := by
      rw [toksRows_joinC]
      exact pc_joinC (vrowL d) (fun r => [TDM2.toksRow d noX r]) vs fun r hr => by
        have := (hrows r hr).pc
        rw [row_tok] at this
        exact this
    have hp' := pc_withPre hK ['\n'] (Or.inl rfl) h.withs hW (hseg.head ((dw "VALUES" (by simp [dmlWords])).sep hR))
    refine ⟨Lx.congr hp'.lx (by simp only [stmtL]) (by simp [TDM2.toksStmt, TDM2.toksStmtG]), ?_, hp'.q⟩
    simp only [PR.prStmt, pr_rows vs hrows, hpr, bind, Except.bind, pure, Except.pure, stmtL]
    refine congrArg Except.ok ?_
    apply ofList_eq
    have e3 : (", " : String).toList = [',', ' '] := rfl
    have e1 : ("VALUES " : String).toList = "VALUES".toList ++ [' '] := rfl
    simp [toString, String.toList_append, String.toList_ofList, toList_joinS, e3, e1, Function.comp_def]
  case insertSelect h q =>
    simp only [TDM2.FragStmt, Bool.and_eq_true] at hs
    simp only [leavesStmt, lv2_append] at hl
    obtain ⟨hW, ⟨l, hsome⟩, hseg, hpr⟩ := head_good hK h hs.1 hp hl.1
    have gq := good_query d K QWc.out q hs.2 hl.2
    have hp' := pc_withPre hK ['\n'] (Or.inl rfl) h.withs hW (hseg.head ⟨Lx.blank gq.lx, K.pre K.s_sp gq.q⟩)
    refine ⟨Lx.congr hp'.lx (by simp only [stmtL]) (by simp [TDM2.toksStmt, TDM2.toksStmtG]), ?_, hp'.q⟩
    simp only [PR.prStmt, gq.pr, hpr, bind, Except.bind, pure, Except.pure, stmtL]
    refine congrArg Except.ok ?_
    apply ofList_eq
    simp [toString, String.toList_append, String.toList_ofList]
  case update ws t sets wh ob lm =>
    simp only [TDM2.FragStmt, Bool.and_eq_true, Bool.not_eq_true'] at hs
    obtain ⟨⟨⟨⟨⟨⟨hws, htb⟩, hne⟩, hsets⟩, hwh⟩, hob⟩, hlm⟩ := hs
    simp only [leavesStmt, lv2_append, lv2_cons] at hl
    obtain ⟨lws, ⟨ltb, lqtb⟩, lsets, lwh, lob⟩ := hl
    obtain ⟨tb1, tb2, tb3⟩ := tbl_good t.schema t.name ltb lqtb
    obtain ⟨tl1, tl2, tl3⟩ := tail_good (K := K) wh ob lm hwh hob hlm lwh lob
    have hS := asgs_good hK sets hsets lsets
    have hW : ∀ l, ws = some l → ∀ w ∈ l, GW d K w := by
      intro l hl'
      subst hl'
      exact withs_good l (by simpa [TDM2.withsOK] using hws) (by simpa [leavesWiths] using lws)
    obtain ⟨l, hsome⟩ : ∃ l, ws = some l := by
      cases ws with
      | none => simp [TDM2.withsOK] at hws
      | some l => exact ⟨l, rfl⟩
    have hSL : LexLink.Pc K (joinLL [',', ' '] (sets.map (setL d))) (TDM2.toksSets d noX sets) := by
      rw [toksSets_joinC]
      exact pc_joinC (setL d) (TDM2.toksSet d noX) sets fun p hp' =>
        have a := asg_good p (hS p hp').1 (hS p hp').2.1 hK (hS p hp').2.2
        ⟨a.1, a.2⟩
    have hp' := pc_withPre hK ['\n', '\n'] (Or.inr rfl) ws hW
      ((dw "UPDATE" (by simp [dmlWords])).sep ((⟨tb1, tb2⟩ : LexLink.Pc K _ _).sep ((dw "SET" (by simp [dmlWords])).sep (hSL.tail ⟨tl1, tl2⟩))))
    refine ⟨Lx.congr hp'.lx (by simp only [stmtL]) (by simp [TDM2.toksStmt, TDM2.toksStmtG]), ?_, hp'.q⟩
    subst hsome
    have hw := pr_withPre (d := d) (K := K) "\n\n" l (hW l rfl)
    simp only [PR.prStmt, hw, pr_asgs sets (fun p hp' => (hS p hp').2.2), tl3, PR.tn, tb3, bind, Except.bind, pure, Except.pure, stmtL]
    refine congrArg Except.ok ?_
    apply ofList_eq
    have e3 : (", " : String).toList = [',', ' '] := rfl
    have e1 : ("\n\n" : String).toList = ['\n', '\n'] := rfl
    simp [toString, String.toList_append, String.toList_ofList, toList_joinS, e3, e1, Function.comp_def]
  case delete t wh ob lm =>
    simp only [TDM2.FragStmt, Bool.and_eq_true] at hs
    obtain ⟨⟨⟨htb, hwh⟩, hob⟩, hlm⟩ := hs
    simp only [leavesStmt, lv2_append, lv2_cons] at hl
    obtain ⟨⟨ltb, lqtb⟩, lwh, lob⟩ := hl
    obtain ⟨tb1, tb2, tb3⟩ := tbl_good t.schema t.name ltb lqtb
    obtain ⟨tl1, tl2, tl3⟩ := tail_good (K := K) wh ob lm hwh hob hlm lwh lob
    have hD := dw "DELETE" (by simp [dmlWords])
    have hF : LexLink.Pc K _ _ := pc_cw "FROM" (by simp [clauseWords])
    refine ⟨?_, ?_, ?_⟩
    · have := lx_pc2 (Lx.sep hD.lx (Lx.sep hF.lx tb1)) tl1
      exact Lx.congr this (by simp [stmtL]) (by simp [TDM2.toksStmt, TDM2.toksStmtG])
    · simp only [PR.prStmt, tl3, PR.tn, tb3, bind, Except.bind, pure, Except.pure, stmtL]
      refine congrArg Except.ok ?_
      apply ofList_eq
      simp [toString, String.toList_append, String.toList_ofList]
    · have h1 : K.Q ("DELETE".toList ++ ' ' :: ("FROM".toList ++ ' ' :: (tblL t.schema t.name ++ [' ']))) :=
        K.sp hD.q (K.sp hF.q (K.post K.s_sp tb2))
      have := q_pc K _ tl2 _ h1
      simpa [stmtL] using this

end
end LL2.Any
