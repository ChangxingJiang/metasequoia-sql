import MsqProofs.Lemmas.TSelect0
/-!
# T-parse: the clause parsers of a SELECT over arbitrary item renderings (C03 / C01)

A clause lemma never looks inside the token lists of the items of its clause: it needs their run equations and a few facts about what
follows.  So the lemmas are stated here once, over a VARIABLE item renderer `tk` (or the token lists themselves), the run equations of
the items as hypotheses, and the class of continuations an item is read back in front of as a variable predicate `C` that holds of the
separator; each token printer (`TS.toksS`, `TSP.toksS3`, `TQ3.toksS5`, and `TQ2.toksS4` for the clause lemmas of Lemmas/TQuery2S.lean) supplies its
renderers through an equation such as `toksTablesTail4 d ch ts = commaTail (toksTable4 d ch) ts`.  Fuel bounds are parameters where the developments differ
(`commaLoop_ok`), in the token-size measure otherwise (`commaLoop_sz`).  Parsers with one body up to a word have one lemma with what the
parser does as hypotheses (`kwList_ok`, `headLoop_ok`).  `commaTail`, `commaList`, `kwList`, `kwOpt`, `ordTail`, `flat` are renderers (functions to
token lists); a lemma named after a parser says that this parser reads the matching rendering back.
-/
open Lex PM Ast TP

namespace TS
theorem comma_search (x : List Tok) : searchStr (commaTok :: x) "," = true := (by decide : commaTok.srcEq "," = true)
theorem size_commaTok : commaTok.size = 1 := size_opTok ","
variable {d : Gen.D}
theorem kw_stops : ∀ w ∈ [",", "AS", "ON", "DESC", "FROM", "WHERE", "GROUP", "HAVING", "ORDER", "LIMIT"], stopTok d 14 (opTok w) = true := by
  cases d <;> decide
theorem searchSeq_app (t : Tok) (r : List Tok) : ∀ (ks : List String) (a : List Tok), (∀ k ∈ ks, t.equalsStr k = false) →
    searchSeq (a ++ t :: r) ks = (decide (ks.length ≤ a.length) && searchSeq a ks) := by
  intro ks
  induction ks with
  | nil => intro a _; simp [searchSeq]
  | cons k ks ih =>
    intro a h
    cases a with
    | nil => simp [searchSeq, h k (by simp)]
    | cons x a =>
      simp only [List.cons_append, searchSeq, ih a (fun k' hk' => h k' (by simp [hk'])), List.length_cons, Nat.add_le_add_iff_right]
      cases x.equalsStr k <;> cases decide (ks.length ≤ a.length) <;> simp
theorem firstEnum_app (t : Tok) (r : List Tok) (a : List Tok) : ∀ (tbl : List (String × List String)),
    (∀ e ∈ tbl, ∀ k ∈ e.2, t.equalsStr k = false) →
    firstEnum tbl (a ++ t :: r) = (firstEnumA tbl a).map (fun p => (p.1, (a ++ t :: r).drop p.2)) := by
  intro tbl
  induction tbl with
  | nil => intro _; rfl
  | cons e tbl ih =>
    intro h
    obtain ⟨n, ks⟩ := e
    simp only [firstEnum, firstEnumA, searchSeq_app t r ks a (h (n, ks) (by simp))]
    split
    · rfl
    · exact ih (fun e he => h e (by simp [he]))
end TS

namespace TC
open TS (commaTok comma_search size_commaTok)
variable {d : Gen.D}

/-! ### comma-separated lists: what is printed after the first element, and the loop that reads it -/
def commaTail {α : Type} (tk : α → List Tok) : List α → List Tok
  | [] => []
  | x :: xs => commaTok :: (tk x ++ commaTail tk xs)
theorem commaTail_shape {α : Type} (tk : α → List Tok) (xs : List α) : commaTail tk xs = [] ∨ ∃ x, commaTail tk xs = commaTok :: x := by
  cases xs with
  | nil => exact Or.inl rfl
  | cons c cs => exact Or.inr ⟨_, rfl⟩
theorem length_le_commaTail {α : Type} (tk : α → List Tok) : ∀ xs : List α, xs.length ≤ (commaTail tk xs).length
  | [] => Nat.le_refl 0
  | x :: xs => by have := length_le_commaTail tk xs; simp only [commaTail, List.length_cons, List.length_append]; omega
theorem sizeL_commaTail_mem {α : Type} (tk : α → List Tok) : ∀ (xs : List α) (x : α), x ∈ xs → sizeL (tk x) ≤ sizeL (commaTail tk xs) := by
  intro xs
  induction xs with
  | nil => intro x h; simp at h
  | cons a r ih =>
    intro x hx
    simp only [commaTail, sizeL_cons, sizeL_append]
    rcases List.mem_cons.1 hx with rfl | hx
    · omega
    · have := ih x hx; omega
def commaList {α : Type} (tk : α → List Tok) : List α → List Tok
  | [] => []
  | x :: xs => tk x ++ commaTail tk xs
theorem sizeL_commaList_mem {α : Type} (tk : α → List Tok) : ∀ (xs : List α) (x : α), x ∈ xs → sizeL (tk x) ≤ sizeL (commaList tk xs) := by
  intro xs x hx
  cases xs with
  | nil => simp at hx
  | cons a r =>
    simp only [commaList, sizeL_append]
    rcases List.mem_cons.1 hx with rfl | hx
    · omega
    · have := sizeL_commaTail_mem tk r x hx; omega
theorem sizeL_commaTail_le {α : Type} (tk : α → List Tok) (xs : List α) : sizeL (commaTail tk xs) ≤ sizeL (commaList tk xs) + 1 := by
  cases xs with
  | nil => simp [commaTail, commaList, sizeL]
  | cons x r => simp only [commaTail, commaList, sizeL_cons, sizeL_append, size_commaTok]; omega
theorem tail_of {C : List Tok → Prop} (hC : ∀ x, C (commaTok :: x)) {tl fol : List Tok} (h : tl = [] ∨ ∃ x, tl = commaTok :: x)
    (hf : C fol) : C (tl ++ fol) := by
  rcases h with rfl | ⟨x, rfl⟩
  · exact hf
  · exact hC _

/-- `while search_and_move(","): append(item)`: with items that are read back in front of every tail of the list (`b x` the fuel an
item needs, `B` any bound that grows by more than one element's need), the loop appends the list to its accumulator -/
theorem commaLoop_ok {α : Type} {item : Nat → List Tok → R α} {loop : Nat → List α → List Tok → R (List α)}
    (hstop : ∀ f acc ts, searchStr ts "," = false → loop (f + 1) acc ts = .ok (acc, ts))
    (hstep : ∀ f acc ts c r, searchStr ts "," = true → item f (ts.drop 1) = .ok (c, r) → loop (f + 1) acc ts = loop f (acc ++ [c]) r)
    (tk : α → List Tok) (b : α → Nat) (B : List α → Nat) (hB0 : 0 < B []) (hB : ∀ x xs, b x < B (x :: xs) ∧ B xs < B (x :: xs))
    (fol : List Tok) (hc : searchStr fol "," = false) :
    ∀ (xs : List α), (∀ x ∈ xs, ∀ xs', OkAt (fun f => item f (tk x ++ (commaTail tk xs' ++ fol))) (b x) (x, commaTail tk xs' ++ fol)) →
    ∀ acc, OkAt (fun f => loop f acc (commaTail tk xs ++ fol)) (B xs) (acc ++ xs, fol) := by
  intro xs
  induction xs with
  | nil =>
    intro _ acc
    refine OkAt.of_add 1 hB0 fun g _ => ?_
    simpa [commaTail] using hstop g acc fol hc
  | cons x xs ih =>
    intro hx acc
    have hb := hB x xs
    refine OkAt.of_add 1 (by omega) fun g hg => ?_
    have h1 := hx x (by simp) xs g (by omega)
    have h2 := ih (fun y hy => hx y (by simp [hy])) (acc ++ [x]) g (by omega)
    have e : commaTail tk (x :: xs) ++ fol = commaTok :: (tk x ++ (commaTail tk xs ++ fol)) := by simp [commaTail]
    rw [e, hstep g acc _ x _ (comma_search _) h1]
    simpa using h2
theorem commaLoop_sz {α : Type} {item : Nat → List Tok → R α} {loop : Nat → List α → List Tok → R (List α)}
    (hstop : ∀ f acc ts, searchStr ts "," = false → loop (f + 1) acc ts = .ok (acc, ts))
    (hstep : ∀ f acc ts c r, searchStr ts "," = true → item f (ts.drop 1) = .ok (c, r) → loop (f + 1) acc ts = loop f (acc ++ [c]) r)
    {C : List Tok → Prop} (hC : ∀ x, C (commaTok :: x)) (tk : α → List Tok) (c : Nat) (fol : List Tok) (hf : C fol)
    (hc : searchStr fol "," = false) (xs : List α)
    (hx : ∀ x ∈ xs, ∀ fol', C fol' → OkAt (fun f => item f (tk x ++ fol')) (20 * sizeL (tk x) + c) (x, fol')) (acc : List α) :
    OkAt (fun f => loop f acc (commaTail tk xs ++ fol)) (20 * sizeL (commaTail tk xs) + (c + 1)) (acc ++ xs, fol) :=
  commaLoop_ok hstop hstep tk (fun x => 20 * sizeL (tk x) + c) (fun xs => 20 * sizeL (commaTail tk xs) + (c + 1)) (by omega)
    (fun x xs => by simp only [commaTail, sizeL_cons, sizeL_append, size_commaTok]; omega) fol hc xs
    (fun x hx' xs' => hx x hx' _ (tail_of hC (commaTail_shape tk xs') hf)) acc

section
variable {C : List Tok → Prop} (hC : ∀ x, C (commaTok :: x)) (fol : List Tok) (hf : C fol) (hc : searchStr fol "," = false)
include hC hf hc
theorem selectCols (tk : Expr × Option String → List Tok) (cs : List (Expr × Option String))
    (hcs : ∀ c ∈ cs, ∀ fol', C fol' → OkAt (fun f => pSelectCol d f (tk c ++ fol')) (20 * sizeL (tk c) + 16) (c, fol')) (acc) :
    OkAt (fun f => pSelectCols d f acc (commaTail tk cs ++ fol)) (20 * sizeL (commaTail tk cs) + 17) (acc ++ cs, fol) :=
  commaLoop_sz (fun _ _ _ h => by simp [pSelectCols, h]) (fun _ _ _ _ _ h h' => by rw [pSelectCols, if_pos h, h']) hC tk 16 fol hf hc cs hcs acc
theorem fromTables (tk : FromTable → List Tok) (ts : List FromTable)
    (hts : ∀ t ∈ ts, ∀ fol', C fol' → OkAt (fun f => pFromTable d f (tk t ++ fol')) (20 * sizeL (tk t) + 2) (t, fol')) (acc) :
    OkAt (fun f => pFromTables d f acc (commaTail tk ts ++ fol)) (20 * sizeL (commaTail tk ts) + 3) (acc ++ ts, fol) :=
  commaLoop_sz (fun _ _ _ h => by simp [pFromTables, h]) (fun _ _ _ _ _ h h' => by rw [pFromTables, if_pos h, h']) hC tk 2 fol hf hc ts hts acc
theorem computeList (tk : Expr → List Tok) (es : List Expr)
    (hes : ∀ e ∈ es, ∀ fol', C fol' → OkAt (fun f => pCompute d f (tk e ++ fol')) (20 * sizeL (tk e) + 2) (e, fol')) (acc) :
    OkAt (fun f => pComputeList d f acc (commaTail tk es ++ fol)) (20 * sizeL (commaTail tk es) + 3) (acc ++ es, fol) :=
  commaLoop_sz (fun _ _ _ h => by simp [pComputeList, h]) (fun _ _ _ _ _ h h' => by rw [pComputeList, if_pos h, h']) hC tk 2 fol hf hc es hes acc
end
/-- `, a₁, a₂ …` of `_parse_multi_alias_expression`, a name `a` printed as a token `tk a` that is read back as `a` -/
theorem multiAlias (tk : String → Tok) (fol : List Tok) (hc : searchStr fol "," = false) (as : List String)
    (has : ∀ a ∈ as, ∀ x, getAliasName (tk a :: x) = .ok (a, x)) (acc : List String) :
    OkAt (fun f => multiAliasLoop f acc (commaTail (fun a => [tk a]) as ++ fol)) (as.length + 1) (acc ++ as, fol) :=
  commaLoop_ok (item := fun _ ts => getAliasName ts) (fun _ _ _ h => by simp [multiAliasLoop, h])
    (fun _ _ _ _ _ h h' => by rw [multiAliasLoop, if_pos h, h']) (fun a => [tk a]) (fun _ => 0) (fun as => as.length + 1) (by omega)
    (fun _ _ => by simp only [List.length_cons]; omega) fol hc as (fun a ha _ _ _ => has a ha _) acc

theorem search_cons (a : Tok) (x : List Tok) (p : String) : searchStr (a :: x) p = a.srcEq p := rfl
theorem searchUp_cons (a : Tok) (x : List Tok) (p : String) : searchStrUp (a :: x) p = a.srcEqUp p := rfl
theorem searchTwoUp_pair (a b : Tok) (x : List Tok) (p q : String) : searchTwoUp (a :: b :: x) p q = (a.srcEqUp p && b.srcEqUp q) := rfl

-- `rk` numbers the words that start a clause in clause order and gives 0 to `,` and the words that continue a clause (`TS.rank`, `rank4`);
-- a continuation whose head has a rank `> k` — what `TS.Bd` / `Bd4` say at `k` — holds no word of the clauses up to `k`
section
variable {rk : String → Nat} {k : Nat} {rest : List Tok} (h : ∀ t r, rest = t :: r → k < rk (up t.src))
include h
theorem rank_head (ws : List String) (hw : ∀ w ∈ ws, rk w ≤ k) {t : Tok} {r : List Tok} (e : rest = t :: r) : ws.contains (up t.src) = false := by
  have := h t r e
  cases hc : ws.contains (up t.src) with
  | false => rfl
  | true => have := hw _ (List.contains_iff_mem.1 hc); omega
theorem rank_search (w : String) (hw : rk w ≤ k) : searchStrUp rest w = false := by
  cases rest with
  | nil => rfl
  | cons t r =>
    have := h t r rfl
    simp only [searchStrUp, Tok.srcEqUp, beq_eq_false_iff_ne, ne_eq]
    intro he; rw [he] at this; omega
theorem rank_search2 (a b : String) (hw : rk a ≤ k) : searchTwoUp rest a b = false := by
  have := rank_search h a hw
  rcases rest with _ | ⟨x, _ | ⟨y, r⟩⟩ <;> simp_all [searchTwoUp, searchStrUp]
theorem rank_comma (h0 : rk "," = 0) : searchStr rest "," = false := by
  cases rest with
  | nil => rfl
  | cons t r =>
    have := h t r rfl
    simp only [searchStr, Tok.srcEq, beq_eq_false_iff_ne, ne_eq]
    intro he
    rw [he, (by decide : up "," = ","), h0] at this
    omega
end

/-! ### select items and tables: an expression or a table reference, then an optional alias -/
theorem selectCol {e : Expr} {a : Option String} {te ta fol : List Tok}
    (he : OkAt (fun f => pOr d f (te ++ (ta ++ fol))) (20 * sizeL te + 15) (e, ta ++ fol)) (ha : pAlias (ta ++ fol) = .ok (a, fol)) :
    OkAt (fun f => pSelectCol d f (te ++ ta ++ fol)) (20 * sizeL (te ++ ta) + 16) ((e, a), fol) := by
  refine OkAt.of_add 1 (by omega) fun g hg => ?_
  rw [sizeL_append] at hg
  have h1 : pOr d g (te ++ (ta ++ fol)) = .ok (e, ta ++ fol) := he g (by omega)
  rw [pSelectCol, List.append_assoc, h1]
  simp only [ha]

theorem fromTable_name {t0 : Tok} {sch : Option String} {n : String} {a : Option String} {ta fol : List Tok}
    (hN : t0.has NAME = true) (hP : t0.has PAREN = false) (hC : t0.children = []) (hsp : splitName t0.src = .ok (sch, n))
    (hdot : searchStr (ta ++ fol) "." = false) (ha : pAlias (ta ++ fol) = .ok (a, fol)) :
    OkAt (fun f => pFromTable d f (t0 :: ta ++ fol)) 2 (.mk (.table sch n) a, fol) := by
  refine OkAt.of_add 2 (Nat.le_refl 2) fun g _ => ?_
  show pFromTable d (g + 2) (t0 :: (ta ++ fol)) = _
  unfold pFromTable pTableExpr
  simp only [headChildren, hC, startsSelect, searchSetUp, Bool.false_eq_true, if_false, searchMark, hP]
  unfold pTableName
  simp only [hN, Bool.not_true, Bool.false_eq_true, if_false, hdot, hsp, ha]
theorem fromTable_sub {q : Query} {a : Option String} {tq ta fol : List Tok} {B : Nat} (hs : startsSelect tq = true)
    (hq : OkAt (fun f => pSubQuery d f (grp tq :: (ta ++ fol))) B (.subQuery q, ta ++ fol)) (ha : pAlias (ta ++ fol) = .ok (a, fol)) :
    OkAt (fun f => pFromTable d f (grp tq :: ta ++ fol)) (B + 2) (.mk (.sub q) a, fol) := by
  refine OkAt.of_add 2 (by omega) fun g hg => ?_
  have h1 : pSubQuery d g (grp tq :: (ta ++ fol)) = .ok (.subQuery q, ta ++ fol) := hq g (by omega)
  show pFromTable d (g + 2) (grp tq :: (ta ++ fol)) = _
  unfold pFromTable pTableExpr
  simp only [headChildren, children_grp, hs, if_true, h1, ha]

/-! ### optional clauses that are a comma-separated list: `FROM`, `ORDER BY` / `SORT BY`, `DISTRIBUTE BY` / `CLUSTER BY` -/
def kwList {α : Type} (ws : List Tok) (tk : α → List Tok) : Option (List α) → List Tok
  | some (x :: xs) => ws ++ (tk x ++ commaTail tk xs)
  | _ => []

/-- the parsers of such a clause have one body, up to the look-ahead `present`, the number `n` of words and the item: `hno`, `hyes` -/
theorem kwList_ok {α : Type} {item : Nat → List Tok → R α} {loop : Nat → List α → List Tok → R (List α)}
    {p : Nat → List Tok → R (Option (List α))} {present : List Tok → Bool} {n : Nat}
    (hno : ∀ f ts, present ts = false → p (f + 1) ts = .ok (none, ts))
    (hyes : ∀ f ts x r xs r2, present ts = true → item f (ts.drop n) = .ok (x, r) → loop f [x] r = .ok (xs, r2) →
      p (f + 1) ts = .ok (some xs, r2))
    (hstop : ∀ f acc ts, searchStr ts "," = false → loop (f + 1) acc ts = .ok (acc, ts))
    (hstep : ∀ f acc ts c r, searchStr ts "," = true → item f (ts.drop 1) = .ok (c, r) → loop (f + 1) acc ts = loop f (acc ++ [c]) r)
    {C : List Tok → Prop} (hC : ∀ x, C (commaTok :: x)) (ws : List Tok) (hws : ∀ x, present (ws ++ x) = true ∧ (ws ++ x).drop n = x)
    (tk : α → List Tok) (c : Nat) {c' : Nat} (hcc : c + 2 ≤ c') (fol : List Tok) (hf : C fol) (hc : searchStr fol "," = false)
    (hn : present fol = false) (l : Option (List α)) (hne : l ≠ some [])
    (hx : ∀ x ∈ l.getD [], ∀ fol', C fol' → OkAt (fun f => item f (tk x ++ fol')) (20 * sizeL (tk x) + c) (x, fol')) :
    OkAt (fun f => p f (kwList ws tk l ++ fol)) (20 * sizeL (kwList ws tk l) + c') (l, fol) := by
  rcases l with _ | _ | ⟨x, xs⟩
  · exact OkAt.of_add 1 (by omega) fun g _ => hno g _ hn
  · exact absurd rfl hne
  · refine OkAt.of_add 1 (by omega) fun g hg => ?_
    simp only [kwList, sizeL_append] at hg
    have h1 := hx x (by simp) _ (tail_of hC (commaTail_shape tk xs) hf) g (by omega)
    have h2 := commaLoop_sz hstop hstep hC tk c fol hf hc xs (fun y hy => hx y (by simp [hy])) [x] g (by omega)
    rw [← (hws (tk x ++ (commaTail tk xs ++ fol))).2] at h1
    simpa [kwList] using hyes g _ x _ _ fol (hws _).1 h1 h2

section
variable {C : List Tok → Prop} (hC : ∀ x, C (commaTok :: x)) (fol : List Tok) (hf : C fol) (hc : searchStr fol "," = false)
include hC hf hc
theorem fromOpt (tk : FromTable → List Tok) (hn : searchStrUp fol "FROM" = false) (fr : Option (List FromTable)) (hne : fr ≠ some [])
    (hts : ∀ t ∈ fr.getD [], ∀ fol', C fol' → OkAt (fun f => pFromTable d f (tk t ++ fol')) (20 * sizeL (tk t) + 2) (t, fol')) :
    OkAt (fun f => pFromOpt d f (kwList [opTok "FROM"] tk fr ++ fol)) (20 * sizeL (kwList [opTok "FROM"] tk fr) + 4) (fr, fol) :=
  kwList_ok (item := pFromTable d) (loop := pFromTables d) (present := fun ts => searchStrUp ts "FROM") (n := 1)
    (fun _ _ h => by simp [pFromOpt, h]) (fun _ _ _ _ _ _ h h1 h2 => by rw [pFromOpt, if_pos h, h1]; simp only [h2])
    (fun _ _ _ h => by simp [pFromTables, h]) (fun _ _ _ _ _ h h' => by rw [pFromTables, if_pos h, h']) hC [opTok "FROM"]
    (fun _ => ⟨(by decide : (opTok "FROM").srcEqUp "FROM" = true), rfl⟩) tk 2 (Nat.le_refl 4) fol hf hc hn fr hne hts
/-- `ORDER BY` and `SORT BY`: the word `kw` and its parser `p` (`hno`, `hyes`: what `p` does) -/
theorem orderBy (kw : String) (hk : (opTok kw).srcEqUp kw = true) {p : Nat → List Tok → R (Option (List OrderItem))}
    (hno : ∀ f ts, searchTwoUp ts kw "BY" = false → p (f + 1) ts = .ok (none, ts))
    (hyes : ∀ f ts o r os r2, searchTwoUp ts kw "BY" = true → pOrderItem d f (ts.drop 2) = .ok (o, r) → pOrderList d f [o] r = .ok (os, r2) →
      p (f + 1) ts = .ok (some os, r2))
    (tk : OrderItem → List Tok) (hn : searchTwoUp fol kw "BY" = false) (ob : Option (List OrderItem)) (hne : ob ≠ some [])
    (hos : ∀ o ∈ ob.getD [], ∀ fol', C fol' → OkAt (fun f => pOrderItem d f (tk o ++ fol')) (20 * sizeL (tk o) + 3) (o, fol')) :
    OkAt (fun f => p f (kwList [opTok kw, opTok "BY"] tk ob ++ fol)) (20 * sizeL (kwList [opTok kw, opTok "BY"] tk ob) + 6) (ob, fol) :=
  kwList_ok (present := fun ts => searchTwoUp ts kw "BY") (n := 2) hno hyes
    (fun _ _ _ h => by simp [pOrderList, h]) (fun _ _ _ _ _ h h' => by rw [pOrderList, if_pos h, h']) hC [opTok kw, opTok "BY"]
    (fun _ => ⟨by simp [searchTwoUp, hk, (by decide : (opTok "BY").srcEqUp "BY" = true)], rfl⟩) tk 3 (by omega) fol hf hc hn ob hne hos
theorem orderByOpt (tk : OrderItem → List Tok) (hn : searchTwoUp fol "ORDER" "BY" = false) (ob : Option (List OrderItem)) (hne : ob ≠ some [])
    (hos : ∀ o ∈ ob.getD [], ∀ fol', C fol' → OkAt (fun f => pOrderItem d f (tk o ++ fol')) (20 * sizeL (tk o) + 3) (o, fol')) :
    OkAt (fun f => pOrderByOpt d f (kwList [opTok "ORDER", opTok "BY"] tk ob ++ fol)) (20 * sizeL (kwList [opTok "ORDER", opTok "BY"] tk ob) + 6)
      (ob, fol) :=
  orderBy hC fol hf hc "ORDER" (by decide) (fun _ _ h => by simp [pOrderByOpt, h])
    (fun _ _ _ _ _ _ h h1 h2 => by rw [pOrderByOpt, if_pos h, h1]; simp only [h2]) tk hn ob hne hos
theorem sortBy (tk : OrderItem → List Tok) (hn : searchTwoUp fol "SORT" "BY" = false) (ob : Option (List OrderItem)) (hne : ob ≠ some [])
    (hos : ∀ o ∈ ob.getD [], ∀ fol', C fol' → OkAt (fun f => pOrderItem d f (tk o ++ fol')) (20 * sizeL (tk o) + 3) (o, fol')) :
    OkAt (fun f => pSortBy d f (kwList [opTok "SORT", opTok "BY"] tk ob ++ fol)) (20 * sizeL (kwList [opTok "SORT", opTok "BY"] tk ob) + 6)
      (ob, fol) :=
  orderBy hC fol hf hc "SORT" (by decide) (fun _ _ h => by simp [pSortBy, h])
    (fun _ _ _ _ _ _ h h1 h2 => by rw [pSortBy, if_pos h, h1]; simp only [h2]) tk hn ob hne hos
theorem byList (kw : String) (hk : (opTok kw).srcEqUp kw = true) (tk : Expr → List Tok) (hn : searchTwoUp fol kw "BY" = false)
    (o : Option (List Expr)) (hne : o ≠ some [])
    (hes : ∀ e ∈ o.getD [], ∀ fol', C fol' → OkAt (fun f => pCompute d f (tk e ++ fol')) (20 * sizeL (tk e) + 2) (e, fol')) :
    OkAt (fun f => pByList d f kw (kwList [opTok kw, opTok "BY"] tk o ++ fol)) (20 * sizeL (kwList [opTok kw, opTok "BY"] tk o) + 6) (o, fol) :=
  kwList_ok (item := pCompute d) (loop := pComputeList d) (p := fun f ts => pByList d f kw ts) (present := fun ts => searchTwoUp ts kw "BY")
    (n := 2) (fun _ _ h => by simp [pByList, h]) (fun _ _ _ _ _ _ h h1 h2 => by rw [pByList, if_pos h, h1]; simp only [h2])
    (fun _ _ _ h => by simp [pComputeList, h]) (fun _ _ _ _ _ h h' => by rw [pComputeList, if_pos h, h']) hC [opTok kw, opTok "BY"]
    (fun _ => ⟨by simp [searchTwoUp, hk, (by decide : (opTok "BY").srcEqUp "BY" = true)], rfl⟩) tk 2 (by omega) fol hf hc hn o hne hes
end

def kwOpt (kw : String) (tk : Expr → List Tok) : Option Expr → List Tok
  | some e => opTok kw :: tk e
  | none => []
theorem optOr (kw : String) (hk : (opTok kw).srcEqUp kw = true) (tk : Expr → List Tok) (o : Option Expr) (fol : List Tok)
    (hn : searchStrUp fol kw = false) (he : ∀ e, o = some e → OkAt (fun f => pOr d f (tk e ++ fol)) (20 * sizeL (tk e) + 15) (e, fol)) :
    OkAt (fun f => pOptOr d f kw (kwOpt kw tk o ++ fol)) (20 * sizeL (kwOpt kw tk o) + 16) (o, fol) := by
  refine OkAt.of_add 1 (by omega) fun g hg => ?_
  cases o with
  | none => simp [kwOpt, pOptOr, hn]
  | some e =>
    simp only [kwOpt, sizeL_cons] at hg
    have h2 : pOr d g (tk e ++ fol) = .ok (e, fol) := he e rfl g (by omega)
    have hs : searchStrUp (opTok kw :: (tk e ++ fol)) kw = true := hk
    rw [pOptOr]
    simp [kwOpt, hs, h2]

theorem orderItem {e : Expr} {it : OrderItem} {tk tt fol : List Tok}
    (he : OkAt (fun f => pCompute d f (tk ++ (tt ++ fol))) (20 * sizeL tk + 2) (e, tt ++ fol)) (ht : orderTail e (tt ++ fol) = .ok (it, fol)) :
    OkAt (fun f => pOrderItem d f (tk ++ tt ++ fol)) (20 * sizeL (tk ++ tt) + 3) (it, fol) := by
  refine OkAt.of_add 1 (by omega) fun g hg => ?_
  rw [sizeL_append] at hg
  have h1 : pCompute d g (tk ++ (tt ++ fol)) = .ok (e, tt ++ fol) := he g (by omega)
  rw [pOrderItem, List.append_assoc, h1]
  exact ht
def ordTail (desc nf nl : Bool) : List Tok :=
  (if desc then [opTok "DESC"] else []) ++ ((if nf then [opTok "NULLS", opTok "FIRST"] else []) ++ (if nl then [opTok "NULLS", opTok "LAST"] else []))
theorem orderTail_ok (e : Expr) (desc nf nl : Bool) (hn : (nf && nl) = false) (fol : List Tok) (h1 : searchStrUp fol "DESC" = false)
    (h2 : searchStrUp fol "ASC" = false) (h3 : searchTwoUp fol "NULLS" "FIRST" = false) (h4 : searchTwoUp fol "NULLS" "LAST" = false) :
    orderTail e (ordTail desc nf nl ++ fol) = .ok (.mk e desc nf nl, fol) := by
  have k : (opTok "DESC").srcEqUp "DESC" = true ∧ (opTok "NULLS").srcEqUp "DESC" = false ∧ (opTok "NULLS").srcEqUp "ASC" = false ∧
      (opTok "NULLS").srcEqUp "NULLS" = true ∧ (opTok "FIRST").srcEqUp "FIRST" = true ∧ (opTok "LAST").srcEqUp "LAST" = true ∧
      (opTok "LAST").srcEqUp "FIRST" = false := by decide
  unfold orderTail
  cases desc <;> cases nf <;> cases nl <;> first | (cases hn; done) |
    simp [ordTail, searchUp_cons, searchTwoUp_pair, moveTwoUp, k, h1, h2, h3, h4]
theorem ordTail_stop {o : Bool} (desc nf nl : Bool) {fol : List Tok} (hs : StopO d o 8 fol) : StopO d o 8 (ordTail desc nf nl ++ fol) := by
  have k : stopTok d 8 (opTok "DESC") = true ∧ stopTok d 8 (opTok "NULLS") = true := by cases d <;> decide
  cases desc <;> cases nf <;> cases nl <;>
    first | exact hs | exact stopO_of o _ k.1 (by decide) | exact stopO_of o _ k.2 (by decide)

/-! ### loops led by a look-ahead: JOINs, LATERAL VIEWs -/
def flat {α : Type} (tk : α → List Tok) : List α → List Tok
  | [] => []
  | x :: xs => tk x ++ flat tk xs
/-- `while more(): append(item)`: every item starts with what `more` looks for and is read back in front of the class `C`, which holds of
what follows the loop and of every item -/
theorem headLoop_ok {α : Type} {item : Nat → List Tok → R α} {loop : Nat → List α → List Tok → R (List α)} {more : List Tok → Bool}
    (hstop : ∀ f acc ts, more ts = false → loop (f + 1) acc ts = .ok (acc, ts))
    (hstep : ∀ f acc ts c r, more ts = true → item f ts = .ok (c, r) → loop (f + 1) acc ts = loop f (acc ++ [c]) r)
    {C : List Tok → Prop} (tk : α → List Tok) (c : Nat) (fol : List Tok) (hf : C fol) (hm : more fol = false) :
    ∀ (xs : List α), (∀ x ∈ xs, (∀ y, more (tk x ++ y) = true ∧ C (tk x ++ y)) ∧ 1 ≤ sizeL (tk x) ∧
        ∀ fol', C fol' → OkAt (fun f => item f (tk x ++ fol')) (20 * sizeL (tk x) + c) (x, fol')) →
    ∀ acc, OkAt (fun f => loop f acc (flat tk xs ++ fol)) (20 * sizeL (flat tk xs) + (c + 2)) (acc ++ xs, fol) := by
  intro xs
  induction xs with
  | nil =>
    intro _ acc
    refine OkAt.of_add 1 (by omega) fun g _ => ?_
    simpa [flat] using hstop g acc fol hm
  | cons x xs ih =>
    intro hx acc
    obtain ⟨hh, hpos, hi⟩ := hx x (by simp)
    have hx' : ∀ y ∈ xs, _ := fun y hy => hx y (by simp [hy])
    have hnext : C (flat tk xs ++ fol) := by
      cases xs with
      | nil => exact hf
      | cons y ys => simpa [flat] using ((hx' y (by simp)).1 (flat tk ys ++ fol)).2
    refine OkAt.of_add 1 (by omega) fun g hg => ?_
    simp only [flat, sizeL_append] at hg
    have h1 := hi _ hnext g (by omega)
    have h2 := ih hx' (acc ++ [x]) g (by omega)
    simp only [flat, List.append_assoc]
    rw [hstep g acc _ x _ (hh _).1 h1]
    simpa using h2

theorem joinRule_none (ty : String) (t : FromTable) {fol : List Tok} (h : onUsingHead fol = false) :
    OkAt (fun f => pJoinRule d f ty t fol) 1 (.mk ty t none, fol) :=
  OkAt.of_add 1 (Nat.le_refl 1) fun g _ => by simp [pJoinRule, h]
theorem joinRule_on (ty : String) (t : FromTable) {e : Expr} {te fol : List Tok}
    (he : OkAt (fun f => pOr d f (te ++ fol)) (20 * sizeL te + 15) (e, fol)) :
    OkAt (fun f => pJoinRule d f ty t (opTok "ON" :: te ++ fol)) (20 * sizeL te + 16) (.mk ty t (some (.on e)), fol) := by
  refine OkAt.of_add 1 (by omega) fun g hg => ?_
  have h2 : pOr d g (te ++ fol) = .ok (e, fol) := he g (by omega)
  have ho : onUsingHead (opTok "ON" :: (te ++ fol)) = true := (by decide : ["ON", "USING"].contains (up (opTok "ON").src) = true)
  have hs : searchStrUp (opTok "ON" :: (te ++ fol)) "ON" = true := (by decide : (opTok "ON").srcEqUp "ON" = true)
  rw [pJoinRule]
  simp [ho, hs, h2]
/-- the USING rule is a call -/
theorem joinRule_using (ty : String) (t : FromTable) {u : Expr} {tu fol : List Tok} {B : Nat} (h1 : onUsingHead tu = true)
    (h2 : searchStrUp tu "ON" = false) (hu : OkAt (fun f => pFunc d f tu) B (u, fol)) :
    OkAt (fun f => pJoinRule d f ty t tu) (B + 1) (.mk ty t (some (.using u)), fol) := by
  refine OkAt.of_add 1 (by omega) fun g hg => ?_
  have h3 : pFunc d g tu = .ok (u, fol) := hu g (by omega)
  rw [pJoinRule]
  simp [h1, h2, h3]
/-- what the side condition on a join type says, `b` the condition on its first word -/
theorem joinTy_parts {b : Tok → Bool} {ty : String}
    (h : ((match TS.firstEnumA Gen.joinTypes (TS.joinWords ty) with | some (n, k) => n == ty && k == (TS.joinWords ty).length | none => false) &&
      (match TS.joinWords ty with | t :: _ => b t && PM.joinHead [t] | [] => false)) = true) :
    TS.firstEnumA Gen.joinTypes (TS.joinWords ty) = some (ty, (TS.joinWords ty).length) ∧
    ∃ t ws, TS.joinWords ty = t :: ws ∧ b t = true ∧ PM.joinHead [t] = true := by
  simp only [Bool.and_eq_true] at h
  obtain ⟨h1, h2⟩ := h
  refine ⟨?_, ?_⟩
  · split at h1
    · rename_i n k hk
      simp only [Bool.and_eq_true, beq_iff_eq] at h1
      rw [hk, h1.1, h1.2]
    · cases h1
  · split at h2
    · rename_i t ws hw
      simp only [Bool.and_eq_true] at h2
      exact ⟨t, ws, hw, h2.1, h2.2⟩
    · cases h2
theorem join {ty : String} {t : FromTable} {j : Join} {tt tr fol : List Tok}
    (hty : TS.firstEnumA Gen.joinTypes (TS.joinWords ty) = some (ty, (TS.joinWords ty).length))
    (hnj : ∃ t0 tt', tt = t0 :: tt' ∧ ∀ e ∈ Gen.joinTypes, ∀ k ∈ e.2, t0.equalsStr k = false)
    (ht : OkAt (fun f => pFromTable d f (tt ++ (tr ++ fol))) (20 * sizeL tt + 2) (t, tr ++ fol))
    (hr : OkAt (fun f => pJoinRule d f ty t (tr ++ fol)) (20 * sizeL tr + 19) (j, fol)) :
    OkAt (fun f => pJoin d f (TS.joinWords ty ++ (tt ++ tr) ++ fol)) (20 * sizeL (TS.joinWords ty ++ (tt ++ tr)) + 20) (j, fol) := by
  obtain ⟨t0, tt', rfl, hnj⟩ := hnj
  refine OkAt.of_add 1 (by omega) fun g hg => ?_
  simp only [sizeL_append] at hg
  have h1 : pFromTable d g (t0 :: tt' ++ (tr ++ fol)) = .ok (t, tr ++ fol) := ht g (by omega)
  have h2 : pJoinRule d g ty t (tr ++ fol) = .ok (j, fol) := hr g (by omega)
  have hfirst : firstEnum Gen.joinTypes (TS.joinWords ty ++ t0 :: (tt' ++ (tr ++ fol))) = some (ty, t0 :: (tt' ++ (tr ++ fol))) := by
    rw [TS.firstEnum_app _ _ _ _ hnj, hty]; simp
  rw [pJoin]
  simp only [List.append_assoc, List.cons_append, hfirst]
  simp only [List.cons_append] at h1
  simp only [h1, h2]
theorem joins {C : List Tok → Prop} (tk : Join → List Tok) (fol : List Tok) (hf : C fol) (hm : joinHead fol = false) (js : List Join)
    (hjs : ∀ j ∈ js, (∀ y, joinHead (tk j ++ y) = true ∧ C (tk j ++ y)) ∧ 1 ≤ sizeL (tk j) ∧
      ∀ fol', C fol' → OkAt (fun f => pJoin d f (tk j ++ fol')) (20 * sizeL (tk j) + 20) (j, fol')) (acc : List Join) :
    OkAt (fun f => pJoins d f true [] acc (flat tk js ++ fol)) (20 * sizeL (flat tk js) + 22) (acc ++ js, fol) :=
  headLoop_ok (loop := fun f acc ts => pJoins d f true [] acc ts) (more := joinHead) (fun _ _ _ h => by simp [pJoins, h])
    (fun _ _ _ _ _ h h' => by rw [pJoins]; simp only [if_true, h, h']) tk 20 fol hf hm js hjs acc

/-- `LATERAL VIEW [OUTER] f(…) v AS a₁, a₂, …`: the call starts with a token `t0` that is not `OUTER`; a name `a` is a token `tk a` -/
theorem lateral {fn : Expr} {t0 : Tok} {tf : List Tok} (o : Bool) (v : String) (tk : String → Tok) (a : String) (r : List String)
    (fol : List Tok) (hc : searchStr fol "," = false) (hno : t0.srcEqUp "OUTER" = false)
    (hfn : ∀ rest, OkAt (fun f => pFunc d f (t0 :: tf ++ rest)) (20 * sizeL (t0 :: tf)) (fn, rest))
    (has : ∀ x ∈ a :: r, ∀ y, getAliasName (tk x :: y) = .ok (x, y)) :
    OkAt (fun f => pLateral d f (opTok "LATERAL" :: opTok "VIEW" :: ((if o then [opTok "OUTER"] else []) ++
        (t0 :: tf ++ opTok v :: opTok "AS" :: tk a :: commaTail (fun a => [tk a]) r)) ++ fol))
      (20 * sizeL (opTok "LATERAL" :: opTok "VIEW" :: ((if o then [opTok "OUTER"] else []) ++
        (t0 :: tf ++ opTok v :: opTok "AS" :: tk a :: commaTail (fun a => [tk a]) r))) + 4) (.mk o fn v (a :: r), fol) := by
  have k : (opTok "LATERAL").equalsStr "LATERAL" = true ∧ (opTok "VIEW").equalsStr "VIEW" = true ∧ (opTok "OUTER").srcEqUp "OUTER" = true ∧
      (opTok "AS").equalsStr "AS" = true := by decide
  refine OkAt.of_add 1 (by omega) fun g hg => ?_
  simp only [sizeL_cons, sizeL_append, size_opTok] at hg
  have h1 : pFunc d g (t0 :: tf ++ (opTok v :: opTok "AS" :: tk a :: (commaTail (fun a => [tk a]) r ++ fol))) = .ok (fn, _) :=
    hfn _ g (by simp only [sizeL_cons]; omega)
  have hm : ∀ x, moveStrUp ((if o then [opTok "OUTER"] else []) ++ (t0 :: x)) "OUTER" = (o, t0 :: x) := by
    intro x; cases o <;> simp [moveStrUp, searchUp_cons, k, hno]
  have h3 := multiAlias tk fol hc r (fun x hx => has x (by simp [hx])) [a] ((commaTail (fun a => [tk a]) r ++ fol).length + 1) (by
    have := length_le_commaTail (fun a => [tk a]) r
    simp only [List.length_append]; omega)
  simp only [List.cons_append] at h1
  rw [pLateral]
  simp only [List.cons_append, List.append_assoc, matchSeq, k, if_true, hm, h1, popSrc, src_opTok, pMultiAlias, matchKw,
    has a (by simp), h3]
  rfl
theorem laterals {C : List Tok → Prop} (tk : Lateral → List Tok) (fol : List Tok) (hf : C fol) (hm : searchTwoUp fol "LATERAL" "VIEW" = false)
    (ls : List Lateral)
    (hls : ∀ l ∈ ls, (∀ y, searchTwoUp (tk l ++ y) "LATERAL" "VIEW" = true ∧ C (tk l ++ y)) ∧ 1 ≤ sizeL (tk l) ∧
      ∀ fol', C fol' → OkAt (fun f => pLateral d f (tk l ++ fol')) (20 * sizeL (tk l) + 4) (l, fol')) (acc : List Lateral) :
    OkAt (fun f => pLaterals d f true [] acc (flat tk ls ++ fol)) (20 * sizeL (flat tk ls) + 6) (acc ++ ls, fol) :=
  headLoop_ok (loop := fun f acc ts => pLaterals d f true [] acc ts) (more := fun ts => searchTwoUp ts "LATERAL" "VIEW")
    (fun _ _ _ h => by simp [pLaterals, h]) (fun _ _ _ _ _ h h' => by rw [pLaterals]; simp only [if_true, h, h']) tk 4 fol hf hm ls hls acc

end TC
