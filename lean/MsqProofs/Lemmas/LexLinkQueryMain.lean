import MsqProofs.Lemmas.LexLinkQ2M
import MsqProofs.Lemmas.TQuery2I
/-!
# The lexer link for nested queries: `TQ.FragQ` as a part of the larger fragment `TQ2.FragQ2`

On `TQ.FragQ` the mirror `prQL` is the mirror `prQ2L` of the larger development and the payloads `leavesQ2 q` are the payloads
`leavesQ q` (no guards) — one structural recursion over the fragment (`subE` … `subQ`).  With `TQ.FragQ ⊆ TQ2.FragQ2` and the equal
renderings of `Lemmas/TQuery2I.lean` the records `GE` / `GQ` are the records `GE4` / `GQ4` of `LexLinkQ2*.lean`.

(`QKit`, `K.Q`, `Lv`: Lemmas/LexLinkQueryDefs.lean; `QW2`: Lemmas/LexLinkQ2Defs.lean.)  The kit's property is the exception: the larger development needs it of the words of the productions it has beyond `FragQ` (`QW2 K`), this fragment
does not, so the same recursion proves it for every kit (`Sub.q`); the other fields are taken at the kit `topKit` that holds of every text.
-/
namespace LexLink
open Lex Spec C05 C06 C09 Ast TP TS TQ TQ2 LL2

/-- one text `a` of the mirror of `TQ.FragQ`, payloads `l`, against the text `b` of the larger mirror, payloads `l2` -/
structure Sub (d : Gen.D) (K : QKit) (a b : List Char) (l : List LeafItem) (l2 : List Leaf2) : Prop where
  mir : b = a
  lv : l2 = l.map .old
  q : Lv d K l → K.Q a
structure SubL (d : Gen.D) (K : QKit) (a b : List (List Char)) (l : List LeafItem) (l2 : List Leaf2) : Prop where
  mir : b = a
  lv : l2 = l.map .old
  q : Lv d K l → ∀ x ∈ a, K.Q x

section
variable {d : Gen.D} {K : QKit}

@[simp] theorem lv_nil : Lv d K [] ↔ True := by simp [Lv]
@[simp] theorem lv_cons (a : LeafItem) (l : List LeafItem) : Lv d K (a :: l) ↔ (leafOK d a ∧ K.item a) ∧ Lv d K l := by simp [Lv]
@[simp] theorem lv_append (l1 l2 : List LeafItem) : Lv d K (l1 ++ l2) ↔ Lv d K l1 ∧ Lv d K l2 := by simp [Lv]

theorem lv_alias {a : Option String} (h : Lv d K (leavesAlias a)) : ∀ y, a = some y → K.Q y.toList := by
  rintro y rfl
  exact (h (.alias y) (by simp [leavesAlias])).2 y (by simp [strs])

theorem isSubQ_frag {v : Expr} (h : isSubQ d v = true) : FragE3 d v = true := by
  cases v <;> simp_all [isSubQ, FragE3]

theorem lv2_map_old (l : List LeafItem) : Lv2 d K (l.map .old) ↔ Lv d K l := by
  simp [Lv2, Lv, On2, On, leafOK2, item2]

theorem SubL.nil : SubL d K [] [] [] [] := ⟨rfl, rfl, fun _ x hx => by cases hx⟩

theorem Sub.alias {a b : List Char} {l : List LeafItem} {l2 : List Leaf2} (h : Sub d K a b l l2) (al : Option String) :
    Sub d K (a ++ aliasL al) (b ++ aliasL al) (l ++ leavesAlias al) (l2 ++ leavesAlias2 al) :=
  ⟨by rw [h.mir], by simp [h.lv, leavesAlias2], fun hl => by
    simp only [lv_append] at hl
    exact q_alias3 K (h.q hl.1) al (lv_alias hl.2)⟩

theorem Sub.bin {a a' b b' m : List Char} {la lb : List LeafItem} {la2 lb2 : List Leaf2} (x : Sub d K a a' la la2)
    (y : Sub d K b b' lb lb2) (l r : Expr) (i j : Nat) (hm : K.Q m) :
    Sub d K (wrapL l i a ++ ' ' :: (m ++ ' ' :: wrapL r j b)) (wrapL l i a' ++ ' ' :: (m ++ ' ' :: wrapL r j b')) (la ++ lb) (la2 ++ lb2) :=
  ⟨by rw [x.mir, y.mir], by simp [x.lv, y.lv], fun hl => by
    simp only [lv_append] at hl
    exact q3 K (K.wrap _ _ (x.q hl.1)) hm (K.wrap _ _ (y.q hl.2))⟩

mutual
theorem subE (e : Expr) (hf : FragE3 d e = true) : Sub d K (prE3L d e) (prE4L d e) (leavesE e) (leavesE4 e) := by
  cases e <;> (try simp only [FragE3, Bool.and_eq_true] at hf) <;> try (simp at hf; done)
  case column t c =>
    refine ⟨by cases t <;> rfl, by cases t <;> rfl, fun hl => ?_⟩
    simp only [leavesE, lv_cons, lv_nil, and_true] at hl
    cases t with
    | none => exact K.bq (hl.2 c (by simp [strs]))
    | some t =>
      have := K.sep _ _ '.' K.s_dot (K.bq (hl.2 t (by simp [strs]))) (K.bq (hl.2 c (by simp [strs])))
      simpa [prE3L] using this
  case literal v =>
    refine ⟨rfl, rfl, fun hl => ?_⟩
    simp only [leavesE, lv_cons, lv_nil, and_true] at hl
    simpa [prE3L] using hl.2 v (by simp [strs])
  case wildcard t =>
    refine ⟨by cases t <;> rfl, by cases t <;> rfl, fun hl => ?_⟩
    cases t with
    | none => exact K.word "*" (mem_qw (by simp [queryWords]))
    | some t =>
      simp only [leavesE, lv_cons, lv_nil, and_true] at hl
      have := K.sep _ _ '.' K.s_dot (q_qname t (hl.2 t (by simp [strs]))) (K.word "*" (mem_qw (by simp [queryWords])))
      simpa [prE3L] using this
  case func s nm ps =>
    have a := subL ps hf.2
    refine ⟨by simp only [prE4L, prE3L, a.mir], by simp [leavesE4, leavesE, a.lv], fun hl => ?_⟩
    simp only [leavesE, lv_cons] at hl
    have hn : K.Q (fnameL s nm) := by
      cases s with
      | none => exact q_qname nm (hl.1.2 nm (by simp [strs]))
      | some s =>
        have := K.sep _ _ '.' K.s_dot (K.bq (hl.1.2 s (by simp [strs]))) (q_qname nm (hl.1.2 nm (by simp [strs])))
        simpa [fnameL] using this
    exact K.sep _ _ '(' K.s_lp hn (K.post K.s_rp (K.joinLL2 _ (a.q hl.2)))
  case agg nm ps dist =>
    have a := subL ps hf.2
    refine ⟨by simp only [prE4L, prE3L, a.mir], by simp [leavesE4, leavesE, a.lv], fun hl => ?_⟩
    simp only [leavesE, lv_cons] at hl
    have h0 := K.post K.s_rp (K.joinLL2 _ (a.q hl.2))
    have h1 : K.Q ((if dist then "DISTINCT ".toList else []) ++ (joinLL [',', ' '] (prListLL d ps) ++ [')'])) := by
      cases dist with
      | false => simpa using h0
      | true =>
        have e1 : "DISTINCT ".toList = "DISTINCT".toList ++ [' '] := rfl
        simpa [e1] using K.sp (K.word "DISTINCT" (mem_qw (by simp [queryWords]))) h0
    exact K.sep _ _ '(' K.s_lp (hl.1.2 nm (by simp [strs])) h1
  case caseCond cs els =>
    have a := subA cs hf.1.1
    have b := subO els hf.1.2
    refine ⟨by simp only [prE4L, prE3L, a.mir, b.mir], by simp [leavesE4, leavesE, a.lv, b.lv], fun hl => ?_⟩
    simp only [leavesE, lv_append] at hl
    simp only [prE3L]
    refine K.joinLL1 ' ' K.s_sp _ fun x hx => ?_
    simp only [List.mem_cons, List.mem_append, List.mem_nil_iff, or_false] at hx
    rcases hx with rfl | hx | hx | rfl
    · exact K.word "CASE" (mem_qw (by simp [queryWords]))
    · exact a.q hl.1 x hx
    · exact b.q hl.2 x hx
    · exact K.word "END" (mem_qw (by simp [queryWords]))
  case caseVal v cs els =>
    have c := subE v hf.1.1.1
    have a := subA cs hf.1.1.2
    have b := subO els hf.1.2
    refine ⟨by simp only [prE4L, prE3L, c.mir, a.mir, b.mir], by simp [leavesE4, leavesE, c.lv, a.lv, b.lv], fun hl => ?_⟩
    simp only [leavesE, lv_append] at hl
    simp only [prE3L]
    refine K.joinLL1 '\n' K.s_nl _ fun x hx => ?_
    simp only [List.mem_cons, List.mem_append, List.mem_map, List.mem_nil_iff, or_false] at hx
    rcases hx with rfl | rfl | ⟨y, hy, rfl⟩ | ⟨y, hy, rfl⟩ | rfl
    · exact K.word "CASE" (mem_qw (by simp [queryWords]))
    · exact c.q hl.1
    · exact q_ind4 K (a.q hl.2.1 y hy)
    · exact q_ind4 K (b.q hl.2.2 y hy)
    · exact K.word "END" (mem_qw (by simp [queryWords]))
  case subQuery q =>
    have a := subQ q hf
    exact ⟨by simp only [prE4L, prE3L, a.mir], by simp only [leavesE4, leavesE, a.lv], fun hl => K.paren (a.q (by simpa [leavesE] using hl))⟩
  case exists_ v =>
    have a := subE v (isSubQ_frag hf)
    exact ⟨by simp only [prE4L, prE3L, a.mir], by simp only [leavesE4, leavesE, a.lv], fun hl =>
      K.sp (K.word "EXISTS" (mem_qw (by simp [queryWords]))) (a.q (by simpa [leavesE] using hl))⟩
  case unary o y =>
    have a := subE y hf.2
    refine ⟨by simp only [prE4L, prE3L, a.mir], by simp only [leavesE4, leavesE, a.lv], fun hl => ?_⟩
    have h1 := K.wrap y 2 (a.q (by simpa [leavesE] using hl))
    have hsp := unary_spelling d o (by have := hf.1; simp only [unOK, Bool.and_eq_true] at this; exact this.1.1.1)
    simp only [prE3L]
    split
    · exact K.sp (K.cv (d := d) o (unOK_prints hf.1)) h1
    · rcases hsp with e | e | e | e <;> rw [e]
      · exact K.pre K.s_un.1 h1
      · exact K.pre K.s_un.2.1 h1
      · exact K.pre K.s_un.2.2.1 h1
      · exact K.pre K.s_un.2.2.2 h1
  case compute l o r =>
    simpa only [prE3L, prE4L, leavesE, leavesE4] using
      (subE l hf.1.2).bin (subE r hf.2) l r _ _ (K.cv (d := d) o (binOK_prints hf.1.1))
  case kw k n0 l r =>
    have a := subE l hf.1.1
    have b : Sub d K (prE3L d r) (prE4L d r) (leavesE r) (leavesE4 r) := by
      by_cases hk : k = .in_
      · subst hk
        have hr := hf.1.2
        simp only [beq_self_eq_true, if_true] at hr
        cases r <;> try (simp [inRhs3] at hr; done)
        case subValue vs =>
          simp only [inRhs3, Bool.and_eq_true] at hr
          have c := subL8 vs hr.1.1
          exact ⟨by simp only [prE4L, prE3L, c.mir], by simp only [leavesE4, leavesE, c.lv], fun hl =>
            K.paren (K.joinLL2 _ (c.q (by simpa [leavesE] using hl)))⟩
        case subQuery q => exact subE _ (by simpa [FragE3, inRhs3] using hr)
      · have hr := hf.1.2
        simp only [show (k == KwKind.in_) = false by simpa using hk, Bool.false_eq_true, if_false] at hr
        exact subE r hr
    simpa only [prE3L, prE4L, leavesE, leavesE4] using a.bin b l r 9 8 (q_kwSrc K k n0)
  case between n0 b f t =>
    have x := subE b hf.1.1.1
    have y := subE f hf.1.1.2
    have z := subE t hf.1.2
    refine ⟨by simp only [prE4L, prE3L, x.mir, y.mir, z.mir], by simp [leavesE4, leavesE, x.lv, y.lv, z.lv], fun hl => ?_⟩
    simp only [leavesE, lv_append] at hl
    have kw := fun w h => K.word w (mem_kw h)
    have inner := K.sp (kw "BETWEEN" (by simp [keywords])) (q3 K (K.wrap f 8 (y.q hl.2.1)) (kw "AND" (by simp [keywords])) (K.wrap t 8 (z.q hl.2.2)))
    simp only [prE3L]
    cases n0 with
    | false => simpa using K.sp (K.wrap b 9 (x.q hl.1)) inner
    | true =>
      have hN : "NOT ".toList = "NOT".toList ++ [' '] := rfl
      simpa [hN] using K.sp (K.wrap b 9 (x.q hl.1)) (K.sp (kw "NOT" (by simp [keywords])) inner)
  case compare o l r =>
    simpa only [prE3L, prE4L, leavesE, leavesE4] using
      (subE l hf.1.1.2).bin (subE r hf.1.2) l r 10 9 (K.cmp o (cmpOK_prints hf.1.1.1))
  case not_ y =>
    have a := subE y hf
    exact ⟨by simp only [prE4L, prE3L, a.mir], by simp only [leavesE4, leavesE, a.lv], fun hl =>
      K.sp (K.word "NOT" (mem_kw (by simp [keywords]))) (K.wrap y 11 (a.q (by simpa [leavesE] using hl)))⟩
  case and_ l r =>
    simpa only [prE3L, prE4L, leavesE, leavesE4] using
      (subE l hf.1).bin (subE r hf.2) l r 12 11 (K.word "AND" (mem_kw (by simp [keywords])))
  case xor l r =>
    simpa only [prE3L, prE4L, leavesE, leavesE4] using
      (subE l hf.1).bin (subE r hf.2) l r 13 12 (K.word "XOR" (mem_kw (by simp [keywords])))
  case or_ l r =>
    simpa only [prE3L, prE4L, leavesE, leavesE4] using
      (subE l hf.1).bin (subE r hf.2) l r 14 13 (K.word "OR" (mem_kw (by simp [keywords])))
theorem subL (ps : List Expr) (hf : FragL3 d ps = true) : SubL d K (prListLL d ps) (prList4LL d ps) (leavesL ps) (leavesL4 ps) := by
  cases ps with
  | nil => exact SubL.nil
  | cons p ps =>
    simp only [FragL3, Bool.and_eq_true] at hf
    have a := subE p hf.1
    have b := subL ps hf.2
    refine ⟨by simp only [prList4LL, prListLL, a.mir, b.mir], by simp [leavesL4, leavesL, a.lv, b.lv], fun hl x hx => ?_⟩
    simp only [leavesL, lv_append] at hl
    rcases List.mem_cons.mp hx with rfl | hx
    · exact a.q hl.1
    · exact b.q hl.2 x hx
theorem subL8 (ps : List Expr) (hf : FragL3 d ps = true) : SubL d K (prList8LL d ps) (prList84LL d ps) (leavesL ps) (leavesL4 ps) := by
  cases ps with
  | nil => exact SubL.nil
  | cons p ps =>
    simp only [FragL3, Bool.and_eq_true] at hf
    have a := subE p hf.1
    have b := subL8 ps hf.2
    refine ⟨by simp only [prList84LL, prList8LL, a.mir, b.mir], by simp [leavesL4, leavesL, a.lv, b.lv], fun hl x hx => ?_⟩
    simp only [leavesL, lv_append] at hl
    rcases List.mem_cons.mp hx with rfl | hx
    · exact K.wrap p 8 (a.q hl.1)
    · exact b.q hl.2 x hx
theorem subA (cs : List (Expr × Expr)) (hf : FragA3 d cs = true) : SubL d K (prArmsLL d cs) (prArms4LL d cs) (leavesA cs) (leavesA4 cs) := by
  cases cs with
  | nil => exact SubL.nil
  | cons p cs =>
    obtain ⟨w, t⟩ := p
    simp only [FragA3, Bool.and_eq_true] at hf
    have a := subE w hf.1.1
    have b := subE t hf.1.2
    have c := subA cs hf.2
    refine ⟨by simp only [prArms4LL, prArmsLL, a.mir, b.mir, c.mir], by simp [leavesA4, leavesA, a.lv, b.lv, c.lv], fun hl x hx => ?_⟩
    simp only [leavesA, lv_append] at hl
    rcases List.mem_cons.mp hx with rfl | hx
    · exact K.sp (K.word "WHEN" (mem_qw (by simp [queryWords]))) (K.sp (a.q hl.1) (K.sp (K.word "THEN" (mem_qw (by simp [queryWords]))) (b.q hl.2.1)))
    · exact c.q hl.2.2 x hx
theorem subO (o : Option Expr) (hf : FragO3 d o = true) : SubL d K (prElseLL d o) (prElse4LL d o) (leavesO o) (leavesO4 o) := by
  cases o with
  | none => exact SubL.nil
  | some y =>
    have a := subE y (by simpa [FragO3] using hf)
    refine ⟨by simp only [prElse4LL, prElseLL, a.mir], by simp only [leavesO4, leavesO, a.lv], fun hl x hx => ?_⟩
    simp only [prElseLL, List.mem_singleton] at hx
    subst hx
    exact K.sp (K.word "ELSE" (mem_qw (by simp [queryWords]))) (a.q (by simpa [leavesO] using hl))
theorem subQ (q : Query) (hf : FragQ d q = true) : Sub d K (prQL d q) (prQ2L d q) (leavesQ q) (leavesQ2 q) := by
  cases q with
  | single s =>
    have a := subS s (by simpa [FragQ] using hf)
    exact ⟨by simp only [prQ2L, prQL, a.mir], by simp only [leavesQ2, leavesQ, a.lv], fun hl => by simpa [prQL] using a.q (by simpa [leavesQ] using hl)⟩
  | union ws s us =>
    simp only [FragQ, Bool.and_eq_true] at hf
    have a := subS s hf.1.1.2
    have b := subUn us hf.1.2
    refine ⟨by simp only [prQ2L, prQL, a.mir, b.mir], by simp [leavesQ2, leavesQ, a.lv, b.lv], fun hl => ?_⟩
    simp only [leavesQ, lv_append] at hl
    simp only [prQL]
    refine K.joinLL1 '\n' K.s_nl _ fun x hx => ?_
    rcases List.mem_cons.mp hx with rfl | hx
    · exact a.q hl.1
    · exact b.q hl.2 x hx
theorem subUn (us : List (String × Select)) (hf : FragUn d us = true) : SubL d K (prUnLL d us) (prUn2LL d us) (leavesUn us) (leavesUn2 us) := by
  cases us with
  | nil => exact SubL.nil
  | cons p us =>
    obtain ⟨t, s⟩ := p
    simp only [FragUn, Bool.and_eq_true] at hf
    have a := subS s hf.1.2
    have b := subUn us hf.2
    refine ⟨by simp only [prUn2LL, prUnLL, a.mir, b.mir], by simp [leavesUn2, leavesUn, a.lv, b.lv], fun hl x hx => ?_⟩
    simp only [leavesUn, lv_append] at hl
    simp only [prUnLL, List.mem_cons] at hx
    rcases hx with rfl | rfl | hx
    · exact q_unionWords K t
    · exact a.q hl.1
    · exact b.q hl.2 x hx
theorem subS (s : Select) (hf : FragS3 d s = true) : Sub d K (prS3L d s) (prS4L d s) (leavesS s) (leavesS4 s) := by
  obtain ⟨ws, dist, cols, fr, lats, js, wh, gb, hv, ob, sb, db, cb, lm⟩ := s
  cases ws with
  | none => simp [FragS3] at hf
  | some w =>
  cases w with
  | cons a b => simp [FragS3] at hf
  | nil =>
  cases lats with
  | cons a b => simp [FragS3] at hf
  | nil =>
  cases sb with
  | some a => simp [FragS3] at hf
  | none =>
  cases db with
  | some a => simp [FragS3] at hf
  | none =>
  cases cb with
  | some a => simp [FragS3] at hf
  | none =>
  simp only [FragS3, Bool.and_eq_true] at hf
  obtain ⟨⟨⟨⟨⟨⟨⟨⟨⟨hcols, _⟩, hfr⟩, hjs⟩, hwh⟩, hgb⟩, hhv⟩, hob⟩, hlm⟩, _⟩ := hf
  have c := subCols cols hcols
  have f := subFrom fr hfr
  have j := subJoins js hjs
  have w := subOpt "WHERE" (by simp [clauseWords]) wh hwh
  have g := subGroup gb hgb
  have h := subOpt "HAVING" (by simp [clauseWords]) hv hhv
  have o := subOrder ob hob
  refine ⟨?_, ?_, fun hl => ?_⟩
  · simp only [prS4L, prS3L, c.mir, f.mir, j.mir, w.mir, g.mir, h.mir, o.mir, lats4LL, order4LL, by4LL, List.nil_append]
  · simp [leavesS4, leavesS, c.lv, f.lv, j.lv, w.lv, g.lv, h.lv, o.lv, leavesLats4, leavesOrder4, leavesBy4]
  · simp only [leavesS, lv_append] at hl
    obtain ⟨lc, lf, lj, lw, lg, lh, lo⟩ := hl
    have e4 : ("DISTINCT " : String).toList = "DISTINCT".toList ++ [' '] := rfl
    have qc := K.joinLL2 _ (c.q lc)
    have qsel : K.Q ("SELECT".toList ++ ' ' :: ((if dist then "DISTINCT ".toList else []) ++ joinLL [',', ' '] (prColsLL d cols))) := by
      cases dist with
      | false => simpa using K.sp (K.word "SELECT" (mem_cw (by simp [clauseWords]))) qc
      | true =>
        have := K.sp (K.word "SELECT" (mem_cw (by simp [clauseWords]))) (K.sp (K.word "DISTINCT" (mem_cw (by simp [clauseWords]))) qc)
        simpa [e4] using this
    simp only [prS3L]
    refine K.joinLL1 '\n' K.s_nl _ fun x hx => ?_
    simp only [List.mem_cons, List.mem_append] at hx
    rcases hx with rfl | hx | hx | hx | hx | hx | hx | hx
    · exact qsel
    · exact f.q lf x hx
    · exact j.q lj x hx
    · exact w.q lw x hx
    · exact g.q lg x hx
    · exact h.q lh x hx
    · exact o.q lo x hx
    · exact (cl_limit (K := K) lm hlm).q x hx
theorem subCols (cols : List (Expr × Option String)) (hf : colsOK3 d cols = true) :
    SubL d K (prColsLL d cols) (prCols4LL d cols) (leavesCols cols) (leavesCols4 cols) := by
  cases cols with
  | nil => exact SubL.nil
  | cons p cs =>
    obtain ⟨e, al⟩ := p
    simp only [colsOK3, Bool.and_eq_true] at hf
    have a0 := subE e hf.1.1
    have a := a0.alias al
    have b := subCols cs hf.2
    refine ⟨by simp only [prCols4LL, prColsLL, a.mir, b.mir], by simp [leavesCols4, leavesCols, leavesAlias2, a0.lv, b.lv], fun hl x hx => ?_⟩
    simp only [leavesCols, ← List.append_assoc, lv_append] at hl
    rcases List.mem_cons.mp hx with rfl | hx
    · exact a.q (by simpa only [lv_append] using hl.1)
    · exact b.q hl.2 x hx
theorem subTable (t : FromTable) (hf : tableOK3 d t = true) : Sub d K (tableL3 d t) (table4L d t) (leavesTable t) (leavesTable4 t) := by
  obtain ⟨r, al⟩ := t
  simp only [tableOK3, Bool.and_eq_true] at hf
  have a : Sub d K (refL d r) (ref4L d r) (leavesRef r) (leavesRef4 r) := by
    cases r with
    | table s n =>
      refine ⟨rfl, rfl, fun hl => ?_⟩
      simp only [leavesRef, lv_cons, lv_nil, and_true] at hl
      cases s with
      | none => exact K.bq (hl.2 n (by simp [strs]))
      | some s =>
        have := K.bq (K.sep _ _ '.' K.s_dot (hl.2 s (by simp [strs])) (hl.2 n (by simp [strs])))
        simpa [refL, tblL] using this
    | sub q =>
      have b := subQ q (by simpa [refOK3] using hf.1)
      exact ⟨by simp only [ref4L, refL, b.mir], by simp only [leavesRef4, leavesRef, b.lv], fun hl => K.paren (b.q (by simpa [leavesRef] using hl))⟩
  simpa only [tableL3, table4L, leavesTable, leavesTable4] using a.alias al
theorem subTables (ts : List FromTable) (hf : tablesOK3 d ts = true) : SubL d K (tablesLL d ts) (tables4LL d ts) (leavesTables ts) (leavesTables4 ts) := by
  cases ts with
  | nil => exact SubL.nil
  | cons t ts =>
    simp only [tablesOK3, Bool.and_eq_true] at hf
    have a := subTable t hf.1
    have b := subTables ts hf.2
    refine ⟨by simp only [tables4LL, tablesLL, a.mir, b.mir], by simp [leavesTables4, leavesTables, a.lv, b.lv], fun hl x hx => ?_⟩
    simp only [leavesTables, lv_append] at hl
    rcases List.mem_cons.mp hx with rfl | hx
    · exact a.q hl.1
    · exact b.q hl.2 x hx
theorem subFrom (fr : Option (List FromTable)) (hf : fromOK3 d fr = true) : SubL d K (fromLL d fr) (from4LL d fr) (leavesFrom fr) (leavesFrom4 fr) := by
  cases fr with
  | none => exact SubL.nil
  | some l =>
    cases l with
    | nil => simp [fromOK3] at hf
    | cons t ts =>
      have a := subTables (t :: ts) (by simpa [fromOK3, tablesOK3] using hf)
      refine ⟨?_, by simp only [leavesFrom4, leavesFrom, a.lv], fun hl x hx => ?_⟩
      · have := a.mir
        simp only [tables4LL, tablesLL] at this
        simp only [from4LL, fromLL, this]
      · simp only [fromLL, List.mem_singleton] at hx
        subst hx
        exact K.sp (K.word "FROM" (mem_cw (by simp [clauseWords]))) (K.joinLL2 _ (by simpa only [tablesLL] using a.q (by simpa [leavesFrom] using hl)))
theorem subJoins (js : List Join) (hf : joinsOK3 d js = true) : SubL d K (joinsLL d js) (joins4LL d js) (leavesJoins js) (leavesJoins4 js) := by
  cases js with
  | nil => exact SubL.nil
  | cons j js =>
    obtain ⟨ty, t, rule⟩ := j
    simp only [joinsOK3, joinOK3, Bool.and_eq_true] at hf
    have a := subTable t hf.1.1.2
    have r : rule4L d rule = ruleL3 d rule ∧ leavesRule4 rule = (leavesRule rule).map .old ∧
        (Lv d K (leavesRule rule) → ∀ x, K.Q x → K.Q (x ++ ruleL3 d rule)) := by
      cases rule with
      | none => exact ⟨rfl, rfl, fun _ x hx => by simpa [ruleL3] using hx⟩
      | some r =>
        cases r with
        | on e =>
          have b := subE e (by simpa [ruleOK3] using hf.1.2)
          refine ⟨by simp only [rule4L, ruleL3, b.mir], by simp only [leavesRule4, leavesRule, b.lv], fun hl x hx => ?_⟩
          simp only [ruleL3]
          exact K.sp hx (K.sp (K.word "ON" (mem_cw (by simp [clauseWords]))) (b.q (by simpa [leavesRule] using hl)))
        | «using» u => simp [ruleOK3] at hf
    have b := subJoins js hf.2
    refine ⟨by simp only [joins4LL, joinsLL, join4L, joinL3, a.mir, r.1, b.mir],
      by simp [leavesJoins4, leavesJoins, leavesJoin4, leavesJoin, a.lv, r.2.1, b.lv], fun hl x hx => ?_⟩
    simp only [leavesJoins, leavesJoin, lv_append] at hl
    rcases List.mem_cons.mp hx with rfl | hx
    · exact K.sp (q_joinWords K ty) (r.2.2 hl.1.2 _ (a.q hl.1.1))
    · exact b.q hl.2 x hx
theorem subOpt (kw : String) (hkw : kw ∈ clauseWords) (o : Option Expr) (hf : FragO3 d o = true) :
    SubL d K (optLL d kw o) (opt4LL d kw o) (leavesO o) (leavesO4 o) := by
  cases o with
  | none => exact SubL.nil
  | some y =>
    have a := subE y (by simpa [FragO3] using hf)
    refine ⟨by simp only [opt4LL, optLL, a.mir], by simp only [leavesO4, leavesO, a.lv], fun hl x hx => ?_⟩
    simp only [optLL, List.mem_singleton] at hx
    subst hx
    exact K.sp (K.word kw (mem_cw hkw)) (a.q (by simpa [leavesO] using hl))
theorem subGroup (gb : Option GroupBy) (hf : groupOK3 d gb = true) : SubL d K (groupLL d gb) (group4LL d gb) (leavesGroup gb) (leavesGroup4 gb) := by
  cases gb with
  | none => exact SubL.nil
  | some g =>
    obtain ⟨gc, sets, cube, rollup⟩ := g
    cases gc with
    | nil => simp [groupOK3] at hf
    | cons e es =>
    cases sets with
    | some x => simp [groupOK3] at hf
    | none =>
    cases cube with
    | true => simp [groupOK3] at hf
    | false =>
    cases rollup with
    | true => simp [groupOK3] at hf
    | false =>
      simp only [groupOK3, Bool.and_eq_true] at hf
      have a := subL8 (e :: es) (by simp only [FragL3, Bool.and_eq_true]; exact hf.1)
      refine ⟨?_, by simp [leavesGroup4, leavesGroup, leavesSetsOpt4, a.lv], fun hl x hx => ?_⟩
      · have := a.mir
        simp only [prList84LL, prList8LL] at this
        simp [group4LL, groupLL, groupL, setsOpt4L, prList84LL, this]
      · simp only [groupLL, List.mem_singleton] at hx
        subst hx
        exact K.sp (K.word "GROUP" (mem_cw (by simp [clauseWords]))) (K.sp (K.word "BY" (mem_cw (by simp [clauseWords])))
          (K.joinLL2 _ (by simpa only [prList8LL] using a.q (by simpa [leavesGroup] using hl))))
theorem subOrds (os : List OrderItem) (hf : ordTailOK3 d os = true) : SubL d K (ordLL d os) (ord4LL d os) (leavesOrdL os) (leavesOrdL4 os) := by
  cases os with
  | nil => exact SubL.nil
  | cons o os =>
    obtain ⟨e, desc, nf, nl⟩ := o
    simp only [ordTailOK3, ordItemOK3, Bool.and_eq_true, Bool.not_eq_true'] at hf
    obtain ⟨⟨⟨h1, rfl⟩, rfl⟩, h2⟩ := hf
    have a := subE e h1
    have b := subOrds os h2
    refine ⟨by simp [ord4LL, ordLL, ordItem4L, ordItemL3, ordSufL, a.mir, b.mir],
      by simp [leavesOrdL4, leavesOrdL, leavesOrdItem4, leavesOrdItem, a.lv, b.lv], fun hl x hx => ?_⟩
    simp only [leavesOrdL, leavesOrdItem, lv_append] at hl
    rcases List.mem_cons.mp hx with rfl | hx
    · cases desc with
      | false => simpa [ordItemL3] using K.wrap e 8 (a.q hl.1)
      | true => simpa [ordItemL3] using K.sp (K.wrap e 8 (a.q hl.1)) (K.word "DESC" (mem_cw (by simp [clauseWords])))
    · exact b.q hl.2 x hx
theorem subOrder (ob : Option (List OrderItem)) (hf : orderOK3 d ob = true) : SubL d K (orderLL d ob) (order4LL d "ORDER" ob) (leavesOrder ob) (leavesOrder4 ob) := by
  cases ob with
  | none => exact SubL.nil
  | some l =>
    cases l with
    | nil => simp [orderOK3] at hf
    | cons o os =>
      have a := subOrds (o :: os) (by simpa [orderOK3, ordTailOK3] using hf)
      refine ⟨?_, by simp only [leavesOrder4, leavesOrder, a.lv], fun hl x hx => ?_⟩
      · have := a.mir
        simp only [ord4LL, ordLL] at this
        simp [order4LL, orderLL, byL, this]
      · simp only [orderLL, List.mem_singleton] at hx
        subst hx
        exact K.sp (K.word "ORDER" (mem_cw (by simp [clauseWords]))) (K.sp (K.word "BY" (mem_cw (by simp [clauseWords])))
          (K.joinLL2 _ (by simpa only [ordLL] using a.q (by simpa [leavesOrder] using hl))))
end

/-- the kit that holds of every text -/
def topKit : QKit :=
  ⟨fun _ => True, fun _ => True, trivial, fun _ _ _ _ _ _ => trivial, trivial, trivial, trivial, trivial, trivial, trivial, trivial,
    ⟨trivial, trivial, trivial, trivial⟩, fun _ _ => trivial, fun _ _ => trivial, fun _ _ => trivial, fun _ _ _ _ => trivial,
    fun _ _ _ _ => trivial, fun _ _ _ _ => trivial⟩
theorem qw2_top : QW2 topKit := ⟨fun _ _ => trivial, fun _ _ => trivial, trivial, trivial⟩
theorem lv2_top {l : List LeafItem} (h : Lv d K l) : Lv2 d topKit (l.map .old) :=
  (lv2_map_old l).mpr fun x hx => ⟨(h x hx).1, fun _ _ => trivial⟩

end

theorem good_expr (d : Gen.D) (K : QKit) (e : Expr) (hf : FragE3 d e = true) (hl : Lv d K (leavesE e)) : GE d K e := by
  have s := subE (K := K) e hf
  obtain ⟨h4, ht⟩ := C02.fragE3_sub_fragE4 d noX e hf
  have g := LL2.good_expr d topKit qw2_top e h4 (by rw [s.lv]; exact lv2_top hl)
  exact ⟨by rw [← s.mir, ← ht]; exact g.lx, by rw [← s.mir]; exact g.pr, s.q hl, by rw [← s.mir]; exact g.fc⟩
theorem good_query (d : Gen.D) (K : QKit) (q : Query) (hf : FragQ d q = true) (hl : Lv d K (leavesQ q)) : GQ d K q := by
  have s := subQ (K := K) q hf
  obtain ⟨h4, ht⟩ := C03.fragQ_sub_fragQ2 d noX q hf
  have g := LL2.good_query d topKit qw2_top q h4 (by rw [s.lv]; exact lv2_top hl)
  exact ⟨by rw [← s.mir, ← ht]; exact g.lx, by rw [← s.mir]; exact g.pr, s.q hl⟩

/-- the records of every fragment expression / query in the form the audit names (`lean/props.json`): `good_expr` / `good_query` above, i.e.
`LL2.good_expr` / `LL2.good_query` (Lemmas/LexLinkQ2M.lean, corollaries of `LL2.good_all`) at `topKit`, through `subE` … `subQ`; `n` is unused -/
theorem good_all (d : Gen.D) (K : QKit) : ∀ n,
    (∀ e, szE3 e ≤ n → FragE3 d e = true → Lv d K (leavesE e) → GE d K e) ∧
    (∀ q, szQ q ≤ n → FragQ d q = true → Lv d K (leavesQ q) → GQ d K q) :=
  fun _ => ⟨fun e _ => good_expr d K e, fun q _ => good_query d K q⟩

end LexLink
