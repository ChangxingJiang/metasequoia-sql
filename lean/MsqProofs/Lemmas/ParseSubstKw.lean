import MsqProofs.Lemmas.ParsePlain
/-! GENERATED by tools/gen_rel.py — relational reading of the parser model: one fact `plainB k = true` per string constant (and per literal list of constants) of the parser model -/
set_option maxRecDepth 100000
open Lex PM Ast
namespace PMQ

theorem plain_k0 : plainB "__" = true := by decide
theorem plain_k1 : plainB "int() of non-ASCII text" = true := by decide
theorem plain_k2 : plainB "as_int of non-ASCII text" = true := by decide
theorem plain_k3 : plainB "SELECT" = true := by decide
theorem plain_k4 : plainB "WITH" = true := by decide
theorem plain_k5 : plainB "OVER" = true := by decide
theorem plain_k6 : plainB "," = true := by decide
theorem plain_k7 : plainB "AS" = true := by decide
theorem plain_k8 : plainB "NOT" = true := by decide
theorem plain_k9 : plainB "BETWEEN" = true := by decide
theorem plain_k10 : plainB "IS" = true := by decide
theorem plain_k11 : plainB "IN" = true := by decide
theorem plain_k12 : plainB "LIKE" = true := by decide
theorem plain_k13 : plainB "RLIKE" = true := by decide
theorem plain_k14 : plainB "REGEXP" = true := by decide
theorem plain_k15 : plainB "SUBSTRING" = true := by decide
theorem plain_k16 : plainB "FROM" = true := by decide
theorem plain_k17 : plainB "FOR" = true := by decide
theorem plain_k18 : plainB "DISTINCT" = true := by decide
theorem plain_k19 : plainB "." = true := by decide
theorem plain_k20 : plainB "split" = true := by decide
theorem plain_k21 : plainB "CROSS" = true := by decide
theorem plain_k22 : plainB "USING" = true := by decide
theorem plain_k23 : plainB "SORT" = true := by decide
theorem plain_k24 : plainB "DISTRIBUTE" = true := by decide
theorem plain_k25 : plainB "CLUSTER" = true := by decide
theorem plain_k26 : plainB "CURRENT" = true := by decide
theorem plain_k27 : plainB "ROW" = true := by decide
theorem plain_k28 : plainB "UNBOUNDED" = true := by decide
theorem plain_k29 : plainB "PRECEDING" = true := by decide
theorem plain_k30 : plainB "FOLLOWING" = true := by decide
theorem plain_k31 : plainB "ROWS" = true := by decide
theorem plain_k32 : plainB "AND" = true := by decide
theorem plain_k33 : plainB "DESC" = true := by decide
theorem plain_k34 : plainB "ASC" = true := by decide
theorem plain_k35 : plainB "NULLS" = true := by decide
theorem plain_k36 : plainB "FIRST" = true := by decide
theorem plain_k37 : plainB "LAST" = true := by decide
theorem plain_k38 : plainB "SIGNED" = true := by decide
theorem plain_k39 : plainB "LIMIT" = true := by decide
theorem plain_k40 : plainB "OFFSET" = true := by decide
theorem plain_k41 : plainB "UNION" = true := by decide
theorem plain_k42 : plainB "EXCEPT" = true := by decide
theorem plain_k43 : plainB "INTERSECT" = true := by decide
theorem plain_k44 : plainB "MINUS" = true := by decide
theorem plain_k45 : plainB "JOIN" = true := by decide
theorem plain_k46 : plainB "INNER" = true := by decide
theorem plain_k47 : plainB "LEFT" = true := by decide
theorem plain_k48 : plainB "RIGHT" = true := by decide
theorem plain_k49 : plainB "FULL" = true := by decide
theorem plain_k50 : plainB "ON" = true := by decide
theorem plain_k51 : plainB "CASE" = true := by decide
theorem plain_k52 : plainB "*" = true := by decide
theorem plain_k53 : plainB "CAST" = true := by decide
theorem plain_k54 : plainB "EXTRACT" = true := by decide
theorem plain_k55 : plainB "IF" = true := by decide
theorem plain_k56 : plainB "WHEN" = true := by decide
theorem plain_k57 : plainB "ELSE" = true := by decide
theorem plain_k58 : plainB "END" = true := by decide
theorem plain_k59 : plainB "THEN" = true := by decide
theorem plain_k60 : plainB "EXISTS" = true := by decide
theorem plain_k61 : plainB "&&" = true := by decide
theorem plain_k62 : plainB "XOR" = true := by decide
theorem plain_k63 : plainB "OR" = true := by decide
theorem plain_k64 : plainB "||" = true := by decide
theorem plain_k65 : plainB "PARTITION" = true := by decide
theorem plain_k66 : plainB "BY" = true := by decide
theorem plain_k67 : plainB "ORDER" = true := by decide
theorem plain_k68 : plainB "impossible" = true := by decide
theorem plain_k69 : plainB "GROUPING" = true := by decide
theorem plain_k70 : plainB "SETS" = true := by decide
theorem plain_k71 : plainB "GROUP" = true := by decide
theorem plain_k72 : plainB "CUBE" = true := by decide
theorem plain_k73 : plainB "ROLLUP" = true := by decide
theorem plain_k74 : plainB "WHERE" = true := by decide
theorem plain_k75 : plainB "HAVING" = true := by decide
theorem plain_k76 : plainB "LATERAL" = true := by decide
theorem plain_k77 : plainB "VIEW" = true := by decide
theorem plain_k78 : plainB "OUTER" = true := by decide
theorem plain_k79 : plainB "INSERT" = true := by decide
theorem plain_k80 : plainB "INTO" = true := by decide
theorem plain_k81 : plainB "INSERT_INTO" = true := by decide
theorem plain_k82 : plainB "IGNORE" = true := by decide
theorem plain_k83 : plainB "INSERT_IGNORE_INTO" = true := by decide
theorem plain_k84 : plainB "OVERWRITE" = true := by decide
theorem plain_k85 : plainB "INSERT_OVERWRITE" = true := by decide
theorem plain_k86 : plainB "-" = true := by decide
theorem plain_k87 : plainB "=" = true := by decide
theorem plain_k88 : plainB "NO" = true := by decide
theorem plain_k89 : plainB "ACTION" = true := by decide
theorem plain_k90 : plainB "NO ACTION" = true := by decide
theorem plain_k91 : plainB "SET" = true := by decide
theorem plain_k92 : plainB "NULL" = true := by decide
theorem plain_k93 : plainB "SET NULL" = true := by decide
theorem plain_k94 : plainB "CASCADE" = true := by decide
theorem plain_k95 : plainB "RESTRICT" = true := by decide
theorem plain_k96 : plainB "CONSTRAINT" = true := by decide
theorem plain_k97 : plainB "FOREIGN" = true := by decide
theorem plain_k98 : plainB "KEY" = true := by decide
theorem plain_k99 : plainB "REFERENCES" = true := by decide
theorem plain_k100 : plainB "DELETE" = true := by decide
theorem plain_k101 : plainB "UPDATE" = true := by decide
theorem plain_k102 : plainB "COMMENT" = true := by decide
theorem plain_k103 : plainB "KEY_BLOCK_SIZE" = true := by decide
theorem plain_k104 : plainB "PRIMARY" = true := by decide
theorem plain_k105 : plainB "UNIQUE" = true := by decide
theorem plain_k106 : plainB "FULLTEXT" = true := by decide
theorem plain_k107 : plainB "GENERATED" = true := by decide
theorem plain_k108 : plainB "ALWAYS" = true := by decide
theorem plain_k109 : plainB ";" = true := by decide
theorem plain_k110 : plainB "CHARACTER" = true := by decide
theorem plain_k111 : plainB "COLLATE" = true := by decide
theorem plain_k112 : plainB "DEFAULT" = true := by decide
theorem plain_k113 : plainB "AUTO_INCREMENT" = true := by decide
theorem plain_k114 : plainB "UNSIGNED" = true := by decide
theorem plain_k115 : plainB "ZEROFILL" = true := by decide
theorem plain_k116 : plainB "TABLE" = true := by decide
theorem plain_k117 : plainB "VALUES" = true := by decide
theorem plain_k118 : plainB "ENGINE" = true := by decide
theorem plain_k119 : plainB "CHARSET" = true := by decide
theorem plain_k120 : plainB "ROW_FORMAT" = true := by decide
theorem plain_k121 : plainB "STATS_PERSISTENT" = true := by decide
theorem plain_k122 : plainB "PARTITIONED" = true := by decide
theorem plain_k123 : plainB "FORMAT" = true := by decide
theorem plain_k124 : plainB "SERDE" = true := by decide
theorem plain_k125 : plainB "DELIMITED" = true := by decide
theorem plain_k126 : plainB "FIELDS" = true := by decide
theorem plain_k127 : plainB "TERMINATED" = true := by decide
theorem plain_k128 : plainB "STORED" = true := by decide
theorem plain_k129 : plainB "INPUTFORMAT" = true := by decide
theorem plain_k130 : plainB "TEXTFILE" = true := by decide
theorem plain_k131 : plainB "OUTPUTFORMAT" = true := by decide
theorem plain_k132 : plainB "LOCATION" = true := by decide
theorem plain_k133 : plainB "TBLPROPERTIES" = true := by decide
theorem plain_k134 : plainB "CREATE" = true := by decide
theorem plain_k135 : plainB "DROP" = true := by decide
theorem plain_k136 : plainB "ANALYZE" = true := by decide
theorem plain_k137 : plainB "COMPUTE" = true := by decide
theorem plain_k138 : plainB "STATISTICS" = true := by decide
theorem plain_k139 : plainB "COLUMNS" = true := by decide
theorem plain_k140 : plainB "CACHE" = true := by decide
theorem plain_k141 : plainB "METADATA" = true := by decide
theorem plain_k142 : plainB "NOSCAN" = true := by decide
theorem plain_k143 : plainB "ADD" = true := by decide
theorem plain_k144 : plainB "MODIFY" = true := by decide
theorem plain_k145 : plainB "CHANGE" = true := by decide
theorem plain_k146 : plainB "RENAME" = true := by decide
theorem plain_k147 : plainB "COLUMN" = true := by decide
theorem plain_k148 : plainB "TO" = true := by decide
theorem plain_k149 : plainB "ALTER" = true := by decide
theorem plain_k150 : plainB "MSCK" = true := by decide
theorem plain_k151 : plainB "REPAIR" = true := by decide
theorem plain_k152 : plainB "TRUNCATE" = true := by decide
theorem plain_k153 : plainB "USE" = true := by decide
theorem plain_k154 : plainB "SHOW" = true := by decide
theorem plain_k155 : plainB "DATABASES" = true := by decide
theorem plain_k156 : plainB "TABLES" = true := by decide
theorem plain_k157 : plainB "CURRENT TIMESTAMP" = true := by decide
theorem plain_k158 : plainB "CURRENT_TIMESTAMP" = true := by decide
theorem plain_k159 : plainB "CURRENT TIME" = true := by decide
theorem plain_k160 : plainB "CURRENT_TIME" = true := by decide
theorem plain_k161 : plainB "CURRENT DATE" = true := by decide
theorem plain_k162 : plainB "CURRENT_DATE" = true := by decide
theorem plain_k163 : plainB "==" = true := by decide
theorem plain_k164 : plainB "literal_expression" = true := by decide
theorem plain_k165 : plainB "table_name_expression" = true := by decide
theorem plain_k166 : plainB "column_name_expression" = true := by decide
theorem plain_k167 : plainB "function_name_expression" = true := by decide
theorem plain_k168 : plainB "function_expression" = true := by decide
theorem plain_k169 : plainB "function_expression_and_index" = true := by decide
theorem plain_k170 : plainB "cast_function_expression" = true := by decide
theorem plain_k171 : plainB "extract_function_expression" = true := by decide
theorem plain_k172 : plainB "if_function_expression" = true := by decide
theorem plain_k173 : plainB "window_expression" = true := by decide
theorem plain_k174 : plainB "case_expression" = true := by decide
theorem plain_k175 : plainB "sub_query_expression" = true := by decide
theorem plain_k176 : plainB "sub_value_expression" = true := by decide
theorem plain_k177 : plainB "element_level_expression" = true := by decide
theorem plain_k178 : plainB "unary_level_expression" = true := by decide
theorem plain_k179 : plainB "compute_expression" = true := by decide
theorem plain_k180 : plainB "keyword_condition_level_expression" = true := by decide
theorem plain_k181 : plainB "operator_condition_level_expression" = true := by decide
theorem plain_k182 : plainB "logical_not_level_expression" = true := by decide
theorem plain_k183 : plainB "logical_and_level_expression" = true := by decide
theorem plain_k184 : plainB "logical_xor_level_expression" = true := by decide
theorem plain_k185 : plainB "logical_or_level_expression" = true := by decide
theorem plain_k186 : plainB "from_table" = true := by decide
theorem plain_k187 : plainB "join_clause" = true := by decide
theorem plain_k188 : plainB "table_expression" = true := by decide
theorem plain_k189 : plainB "where_clause" = true := by decide
theorem plain_k190 : plainB "order_by_clause" = true := by decide
theorem plain_k191 : plainB "group_by_clause" = true := by decide
theorem plain_k192 : plainB "limit_clause" = true := by decide
theorem plain_k193 : plainB "with_clause" = true := by decide
theorem plain_k194 : plainB "lateral_view_clause" = true := by decide
theorem plain_k195 : plainB "single_select_statement" = true := by decide
theorem plain_k196 : plainB "select_statement" = true := by decide
theorem plain_k197 : plainB "config_string_expression" = true := by decide
theorem plain_k198 : plainB "column_type_expression" = true := by decide
theorem plain_k199 : plainB "partition_expression" = true := by decide
theorem plain_k200 : plainB "foreign_key_expression" = true := by decide
theorem plain_k201 : plainB "index_column" = true := by decide
theorem plain_k202 : plainB "primary_index_expression" = true := by decide
theorem plain_k203 : plainB "unique_index_expression" = true := by decide
theorem plain_k204 : plainB "normal_index_expression" = true := by decide
theorem plain_k205 : plainB "fulltext_expression" = true := by decide
theorem plain_k206 : plainB "define_column_expression" = true := by decide
theorem plain_k207 : plainB "column_or_index" = true := by decide
theorem plain_k208 : plainB "alter_expression" = true := by decide
theorem plain_k209 : plainB "set_statement" = true := by decide
theorem plain_k210 : plainB "create_table_statement" = true := by decide
theorem plain_k211 : plainB "drop_table_statement" = true := by decide
theorem plain_k212 : plainB "analyze_table_statement" = true := by decide
theorem plain_k213 : plainB "alter_table_statement" = true := by decide
theorem plain_k214 : plainB "msck_repair_table_statement" = true := by decide
theorem plain_k215 : plainB "use_statement" = true := by decide
theorem plain_k216 : plainB "truncate_table_statement" = true := by decide
theorem plain_k217 : plainB "update_statement" = true := by decide
theorem plain_k218 : plainB "delete_statement" = true := by decide
theorem plain_k219 : plainB "show_columns_statement" = true := by decide
theorem plain_k220 : plainB "insert_statement" = true := by decide
theorem plain_k221 : plainB "statements" = true := by decide
theorem plain_k222 : plainB "entry point " = true := by decide
theorem plain_k223 : plainB "ASTInsertType" = true := by decide
theorem plain_k224 : plainB "enum" = true := by decide
theorem plain_k225 : plainB "EnumInsertType" = true := by decide
theorem plain_k226 : plainB "ASTJoinType" = true := by decide
theorem plain_k227 : plainB "EnumJoinType" = true := by decide
theorem plain_k228 : plainB "ASTOrderType" = true := by decide
theorem plain_k229 : plainB "EnumOrderType" = true := by decide
theorem plain_k230 : plainB "ASTUnionType" = true := by decide
theorem plain_k231 : plainB "EnumUnionType" = true := by decide
theorem plain_k232 : plainB "ASTCompareOperator" = true := by decide
theorem plain_k233 : plainB "EnumCompareOperator" = true := by decide
theorem plain_k234 : plainB "ASTComputeOperator" = true := by decide
theorem plain_k235 : plainB "EnumComputeOperator" = true := by decide
theorem plain_k236 : plainB "EnumCastDataType" = true := by decide
theorem plain_k237 : plainB "ASTMultiAlisaExpression" = true := by decide
theorem plain_k238 : plainB "names" = true := by decide
theorem plain_k239 : plainB "ASTWindowRow" = true := by decide
theorem plain_k240 : plainB "from_row" = true := by decide
theorem plain_k241 : plainB "to_row" = true := by decide
theorem plain_k242 : plainB "ASTSelectColumn" = true := by decide
theorem plain_k243 : plainB "value" = true := by decide
theorem plain_k244 : plainB "alias" = true := by decide
theorem plain_k245 : plainB "ASTSelectClause" = true := by decide
theorem plain_k246 : plainB "distinct" = true := by decide
theorem plain_k247 : plainB "columns" = true := by decide
theorem plain_k248 : plainB "ASTFromClause" = true := by decide
theorem plain_k249 : plainB "tables" = true := by decide
theorem plain_k250 : plainB "ASTGroupingSets" = true := by decide
theorem plain_k251 : plainB "grouping_list" = true := by decide
theorem plain_k252 : plainB "ASTUpdateSetColumn" = true := by decide
theorem plain_k253 : plainB "column_name" = true := by decide
theorem plain_k254 : plainB "column_value" = true := by decide
theorem plain_k255 : plainB "ASTUpdateSetClause" = true := by decide
theorem plain_k256 : plainB "insert_type" = true := by decide
theorem plain_k257 : plainB "join_type" = true := by decide
theorem plain_k258 : plainB "order_type" = true := by decide
theorem plain_k259 : plainB "union_type" = true := by decide
theorem plain_k260 : plainB "compare_operator" = true := by decide
theorem plain_k261 : plainB "compute_operator" = true := by decide
theorem plain_k262 : plainB "cast_data_type" = true := by decide
theorem plain_k263 : plainB "window_row_item" = true := by decide
theorem plain_k264 : plainB "window_row" = true := by decide
theorem plain_k265 : plainB "wildcard_expression" = true := by decide
theorem plain_k266 : plainB "alias_expression" = true := by decide
theorem plain_k267 : plainB "multi_alias_expression" = true := by decide
theorem plain_k268 : plainB "join_on_expression" = true := by decide
theorem plain_k269 : plainB "join_using_expression" = true := by decide
theorem plain_k270 : plainB "join_expression" = true := by decide
theorem plain_k271 : plainB "select_column" = true := by decide
theorem plain_k272 : plainB "select_clause" = true := by decide
theorem plain_k273 : plainB "from_clause" = true := by decide
theorem plain_k274 : plainB "grouping_sets" = true := by decide
theorem plain_k275 : plainB "having_clause" = true := by decide
theorem plain_k276 : plainB "sort_by_clause" = true := by decide
theorem plain_k277 : plainB "distribute_by_clause" = true := by decide
theorem plain_k278 : plainB "cluster_by_clause" = true := by decide
theorem plain_k279 : plainB "with_table" = true := by decide
theorem plain_k280 : plainB "update_set_column" = true := by decide
theorem plain_k281 : plainB "update_set_clause" = true := by decide
theorem plain_l0 : ["SELECT", "WITH"].all plainB = true := by decide
theorem plain_l1 : ["NOT", "BETWEEN", "IS", "IN", "LIKE", "RLIKE", "REGEXP"].all plainB = true := by decide
theorem plain_l2 : ["CROSS", "USING", "SORT", "DISTRIBUTE", "CLUSTER"].all plainB = true := by decide
theorem plain_l3 : ["ROWS", "BETWEEN"].all plainB = true := by decide
theorem plain_l4 : ["AND"].all plainB = true := by decide
theorem plain_l5 : ["UNION", "EXCEPT", "INTERSECT", "MINUS"].all plainB = true := by decide
theorem plain_l6 : ["JOIN", "INNER", "LEFT", "RIGHT", "FULL", "CROSS"].all plainB = true := by decide
theorem plain_l7 : ["ON", "USING"].all plainB = true := by decide
theorem plain_l8 : ["AS"].all plainB = true := by decide
theorem plain_l9 : ["FROM"].all plainB = true := by decide
theorem plain_l10 : ["OVER"].all plainB = true := by decide
theorem plain_l11 : ["GROUPING", "SETS"].all plainB = true := by decide
theorem plain_l12 : ["SELECT"].all plainB = true := by decide
theorem plain_l13 : ["LATERAL", "VIEW"].all plainB = true := by decide
theorem plain_l14 : ["FOREIGN", "KEY"].all plainB = true := by decide
theorem plain_l15 : ["PRIMARY", "KEY"].all plainB = true := by decide
theorem plain_l16 : ["UNIQUE", "KEY"].all plainB = true := by decide
theorem plain_l17 : ["KEY"].all plainB = true := by decide
theorem plain_l18 : ["FULLTEXT", "KEY"].all plainB = true := by decide
theorem plain_l19 : ["ROW", "FORMAT", "DELIMITED", "FIELDS", "TERMINATED", "BY"].all plainB = true := by decide
theorem plain_l20 : ["CREATE", "TABLE"].all plainB = true := by decide
theorem plain_l21 : ["DROP", "TABLE"].all plainB = true := by decide
theorem plain_l22 : ["ANALYZE", "TABLE"].all plainB = true := by decide
theorem plain_l23 : ["ADD", "IF", "NOT", "EXISTS", "PARTITION"].all plainB = true := by decide
theorem plain_l24 : ["DROP", "IF", "EXISTS", "PARTITION"].all plainB = true := by decide
theorem plain_l25 : ["ALTER", "TABLE"].all plainB = true := by decide
theorem plain_l26 : ["MSCK", "REPAIR", "TABLE"].all plainB = true := by decide
theorem plain_l27 : ["TRUNCATE", "TABLE"].all plainB = true := by decide
theorem plain_l28 : ["DELETE", "FROM"].all plainB = true := by decide
theorem plain_l29 : ["SHOW", "COLUMNS"].all plainB = true := by decide

end PMQ
