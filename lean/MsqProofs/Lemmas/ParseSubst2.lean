import MsqProofs.Lemmas.ParseSubst1
/-!
# C06, parser half: what the token-level tests of the parser see of two `QE`-related tokens

Two related tokens are equal, or their sources are `SrcQ`: both begin with a quote character (or `(`).  Every comparison the parser makes
with a token source is a comparison with a PLAIN constant (`plainB k`: `k` is empty or begins with an ASCII character that is no quote
character and not `(`) — one generated fact `plainB "WHEN" = true` per string constant of the model (`ParseSubstKw.lean`) — so it answers
`false` on both sides:
`srcEqUp`, `srcEq`, `equalsStr`, membership of `src` / `up src` in a set of plain words, the operator tables, the CAST type table.
`int()` / `as_int` fail alike.  The texts stored from the two tokens (`src`, `unifyName src`, the pair of `splitName`) are payload texts,
hence equal after erasure.
-/
set_option linter.unusedSimpArgs false
open Lex PM Ast
namespace PMQ

/-! ### plain constants and opaque texts (no payload set involved) -/
/-- a text that begins with a quote character or `(` -/
def Opq (x : String) : Prop := opaqueHead x.toList = true
theorem opaqueHead_eq (s : List Char) : opaqueHead s = (match s with | c :: _ => opqCh c | [] => false) := by
  cases s <;> simp [opaqueHead, opqCh]
theorem opqCh_lt (c : Char) (h : opqCh c = true) : c.toNat < 128 := by
  simp [opqCh] at h; rcases h with ((rfl | rfl) | rfl) | rfl <;> decide
theorem upperAscii_fin : ∀ n : Fin 128, opqCh (Py.upperAsciiChar (Char.ofNat n.val)) = opqCh (Char.ofNat n.val) ∧
    (Py.upperAsciiChar (Char.ofNat n.val)).toNat < 128 := by decide
theorem upperAscii_opq (c : Char) (h : c.toNat < 128) : opqCh (Py.upperAsciiChar c) = opqCh c ∧ (Py.upperAsciiChar c).toNat < 128 := by
  have := upperAscii_fin ⟨c.toNat, h⟩
  simpa [Char.ofNat_toNat] using this
theorem pyUpper_cons (c : Char) (r : List Char) (h : c.toNat < 128) : Gen.pyUpper (c :: r) = Py.upperAsciiChar c :: Gen.pyUpper r := by
  simp [Gen.pyUpper, Py.upperWith, h]
theorem up_toList (x : String) : (up x).toList = Gen.pyUpper x.toList := by simp [up, Gen.pyUpperS]

theorem opq_up {x : String} (h : Opq x) : Opq (up x) := by
  unfold Opq at h ⊢
  rw [up_toList]
  cases hx : x.toList with
  | nil => rw [hx] at h; simp [opaqueHead] at h
  | cons c r =>
    rw [hx, opaqueHead_eq] at h; simp only at h
    rw [pyUpper_cons c r (opqCh_lt c h), opaqueHead_eq]; simp only
    rw [(upperAscii_opq c (opqCh_lt c h)).1]; exact h
theorem plain_up {k : String} (h : plainB k = true) : plainB (up k) = true := by
  unfold plainB at h ⊢
  rw [up_toList]
  cases hk : k.toList with
  | nil => simp [Gen.pyUpper, Py.upperWith]
  | cons c r =>
    rw [hk] at h; simp only [Bool.and_eq_true, decide_eq_true_eq, Bool.not_eq_true'] at h
    rw [pyUpper_cons c r h.1]; simp only [Bool.and_eq_true, decide_eq_true_eq, Bool.not_eq_true']
    have := upperAscii_opq c h.1
    exact ⟨this.2, by rw [this.1]; exact h.2⟩
theorem opq_ne_plain {x k : String} (hx : Opq x) (hk : plainB k = true) : x ≠ k := by
  rintro rfl
  unfold Opq at hx; unfold plainB at hk
  cases h : x.toList with
  | nil => rw [h] at hx; simp [opaqueHead] at hx
  | cons c r =>
    rw [h, opaqueHead_eq] at hx; rw [h] at hk
    simp only [Bool.and_eq_true, decide_eq_true_eq, Bool.not_eq_true'] at hk hx
    rw [hx] at hk; exact absurd hk.2 (by simp)
theorem opq_strEq {x k : String} (hx : Opq x) (hk : plainB k = true) : strEq x k = false := by
  simpa [strEq] using opq_ne_plain hx hk
theorem opq_contains {x : String} (hx : Opq x) (ks : List String) (hk : ks.all plainB = true) : ks.contains x = false := by
  induction ks with
  | nil => rfl
  | cons k ks ih =>
    simp only [List.all_cons, Bool.and_eq_true] at hk
    have := opq_ne_plain hx hk.1
    simp only [List.contains_cons, ih hk.2, Bool.or_false]
    simpa using this
theorem opq_find {α : Type} {x : String} (hx : Opq x) (l : List (String × α)) (hl : (l.all fun e => plainB e.1) = true) :
    l.find? (·.1 == x) = none := by
  induction l with
  | nil => rfl
  | cons e l ih =>
    simp only [List.all_cons, Bool.and_eq_true] at hl
    have := opq_ne_plain hx hl.1
    rw [List.find?_cons, ih hl.2]
    have h2 : (e.1 == x) = false := by simpa using fun h => this h.symm
    simp [h2]
theorem opq_ofList {s : List Char} (h : opaqueHead s = true) : Opq (String.ofList s) := by
  simpa [Opq, String.toList_ofList] using h
theorem opq_intBody {s : List Char} (h : opaqueHead s = true) : intBody s = s ∧ isAsciiIntBody s = false ∧ (!s.isEmpty && s.all Char.isDigit) = false := by
  cases s with
  | nil => simp [opaqueHead] at h
  | cons c r =>
    rw [opaqueHead_eq] at h; simp only at h
    simp [opqCh] at h
    rcases h with ((rfl | rfl) | rfl) | rfl <;> refine ⟨rfl, ?_, ?_⟩ <;> simp [isAsciiIntBody] <;> decide
theorem opq_pyInt {s : List Char} (h : opaqueHead s = true) :
    pyInt (String.ofList s) = if s.any p128 then .error (.unmodelled "int() of non-ASCII text") else .error (.py .ValueError) := by
  obtain ⟨h1, h2, _⟩ := opq_intBody h
  simp only [pyInt, hasNonAscii, String.toList_ofList, h1, h2]
  rfl
theorem opq_asInt {s : List Char} (h : opaqueHead s = true) :
    asInt (String.ofList s) = if s.any p128 then .error (.unmodelled "as_int of non-ASCII text") else .error .parse := by
  obtain ⟨h1, _, h3⟩ := opq_intBody h
  simp only [asInt, hasNonAscii, isIntLiteral, String.toList_ofList, h1, h3]
  rfl

/-- a bracket group renders as `(`…`)`: `str.strip("`")` has nothing to strip -/
theorem unifyName_paren (l : List Char) : unifyName (String.ofList ('(' :: (l ++ [')']))) = String.ofList ('(' :: (l ++ [')'])) := by
  simp [unifyName, String.toList_ofList, List.dropWhile]

def genModeOf (u : String) : Option (String × String) := Gen.genColSaveModes.find? (fun x => x.1 == u)
theorem genModes_find (s : String) : Gen.genColSaveModes.find? (fun x => x.1 == up s) = genModeOf (up s) := rfl
/-- a word the parser passes on to a chain of comparisons with plain constants (`pKwBody`) -/
def kwRel (k k' : String) : Prop := ∀ w, plainB w = true → strEq k w = strEq k' w
theorem kwRel_strEq {k k' : String} (h : kwRel k k') (w : String) (hw : plainB w = true) : strEq k w = strEq k' w := h w hw
grind_pattern kwRel_strEq => kwRel k k', strEq k w

/-- `AMTBase.equals(str)` answers `False` unless the upper-cased source is the upper-cased word -/
theorem equalsStr_false {t : Tok} {k : String} (h : up t.src ≠ up k) : t.equalsStr k = false := by
  cases t
  · simpa [Tok.equalsStr, Tok.src, Tok.source] using h
  · rfl

variable [S : PaySet]

section tok
variable {t t' : Tok} (h : QE t t')
include h
theorem qe_marks : t.marks = t'.marks := by
  cases t <;> cases t' <;> simp_all [QE, Tok.marks]
theorem qe_has (m : Nat) : t.has m = t'.has m := by simp [Tok.has, qe_marks h]
theorem qe_children : QEL t.children t'.children := by
  cases t <;> cases t' <;> simp_all [QE, Tok.children]
/-- the tokens are equal, or their sources are opaque payload texts -/
theorem qe_cases : t = t' ∨ (SrcQ (Tok.source t) (Tok.source t') ∧
    (t.has NAME = false ∨ (dotOK (Tok.source t) = true ∧ dotOK (Tok.source t') = true))) := by
  cases t with
  | single s m => cases t' with
    | single s' m' =>
      simp only [QE] at h
      obtain ⟨rfl, h2⟩ := h
      rcases h2 with rfl | ⟨h1, h3⟩
      · exact .inl rfl
      · refine .inr ⟨h1, ?_⟩
        rcases h3 with h3 | h3
        · left; simp [Tok.has, Tok.marks, h3]
        · right; exact h3
    | group _ _ _ => simp [QE] at h
  | group k cs m => cases t' with
    | single _ _ => simp [QE] at h
    | group k' cs' m' =>
      simp only [QE] at h
      obtain ⟨rfl, rfl, _, h4⟩ := h
      rcases h4 with rfl | ⟨h5, h6⟩
      · exact .inl rfl
      · exact .inr ⟨h6, .inl (by simp [Tok.has, Tok.marks, h5])⟩
theorem qe_opq : t = t' ∨ (Opq t.src ∧ Opq t'.src ∧ Opq (up t.src) ∧ Opq (up t'.src)) := by
  rcases qe_cases h with e | ⟨⟨h1, h2, _⟩, _⟩
  · exact .inl e
  · exact .inr ⟨opq_ofList h1, opq_ofList h2, opq_up (opq_ofList h1), opq_up (opq_ofList h2)⟩
theorem qe_srcEq (k : String) (hk : plainB k = true) : t.srcEq k = t'.srcEq k := by
  rcases qe_opq h with rfl | ⟨h1, h2, _, _⟩
  · rfl
  · have a := opq_ne_plain h1 hk; have b := opq_ne_plain h2 hk
    simp only [Tok.srcEq, beq_eq_false_iff_ne.mpr a, beq_eq_false_iff_ne.mpr b]
theorem qe_equalsStr (k : String) (hk : plainB k = true) : t.equalsStr k = t'.equalsStr k := by
  rcases qe_opq h with rfl | ⟨_, _, h3, h4⟩
  · rfl
  · rw [equalsStr_false (opq_ne_plain h3 (plain_up hk)), equalsStr_false (opq_ne_plain h4 (plain_up hk))]
theorem qe_strEq_up (k : String) (hk : plainB k = true) : strEq (up t.src) k = strEq (up t'.src) k := by
  rcases qe_opq h with rfl | ⟨_, _, h3, h4⟩
  · rfl
  · rw [opq_strEq h3 hk, opq_strEq h4 hk]
theorem qe_strEq_src (k : String) (hk : plainB k = true) : strEq t.src k = strEq t'.src k := by
  rcases qe_opq h with rfl | ⟨h1, h2, _, _⟩
  · rfl
  · rw [opq_strEq h1 hk, opq_strEq h2 hk]
theorem qe_kwRel : kwRel (up t.src) (up t'.src) := fun w hw => qe_strEq_up h w hw
theorem qe_contains_src (ks : List String) (hk : ks.all plainB = true) : ks.contains t.src = ks.contains t'.src := by
  rcases qe_opq h with rfl | ⟨h1, h2, _, _⟩
  · rfl
  · rw [opq_contains h1 ks hk, opq_contains h2 ks hk]
theorem qe_unarySet (d : Gen.D) : (Gen.unarySet d).contains t.src = (Gen.unarySet d).contains t'.src :=
  qe_contains_src h _ (by cases d <;> decide)
theorem qe_compareOp : compareOp? t.src = compareOp? t'.src := by
  rcases qe_opq h with rfl | ⟨h1, h2, _, _⟩
  · rfl
  · simp only [compareOp?, opq_find h1 Gen.compareHash (by decide), opq_find h2 Gen.compareHash (by decide)]
theorem qe_pyInt : pyInt t.src = pyInt t'.src := by
  rcases qe_cases h with rfl | ⟨⟨h1, h2, h3, _⟩, _⟩
  · rfl
  · simp only [Tok.src, opq_pyInt h1, opq_pyInt h2, h3]
theorem qe_asInt : asInt t.src = asInt t'.src := by
  rcases qe_cases h with rfl | ⟨⟨h1, h2, h3, _⟩, _⟩
  · rfl
  · simp only [Tok.src, opq_asInt h1, opq_asInt h2, h3]
/-- the stored source: a payload text on both sides, or the same -/
theorem qe_er_src : er t.src = er t'.src := by
  rcases qe_cases h with rfl | ⟨⟨_, _, _, h4, h5, _, _⟩, _⟩
  · rfl
  · rw [er_eq_iff]; exact .inr ⟨h4, h5⟩
theorem qe_er_unify : er (unifyName t.src) = er (unifyName t'.src) := by
  rcases qe_cases h with rfl | ⟨⟨_, _, _, _, _, h6, h7⟩, _⟩
  · rfl
  · rw [er_eq_iff]; exact .inr ⟨h6, h7⟩
theorem qe_splitName (hn : t.has NAME = true) :
    splitName t.src = splitName t'.src ∨
    (splitName t.src = .ok (none, unifyName t.src) ∧ splitName t'.src = .ok (none, unifyName t'.src)) := by
  rcases qe_cases h with rfl | ⟨_, h8⟩
  · exact .inl rfl
  · rcases h8 with h8 | ⟨h8, h9⟩
    · rw [h8] at hn; cases hn
    · right
      simp only [dotOK, bne_iff_ne, ne_eq] at h8 h9
      simp only [splitName, Tok.src, String.toList_ofList]
      constructor
      · rw [if_neg (by simpa using h8)]
      · rw [if_neg (by simpa using h9)]
end tok

end PMQ
