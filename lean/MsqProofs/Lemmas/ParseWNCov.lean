import MsqProofs.Lemmas.ParseWNCovE2
/-!
# C02 at the clause level: induction on the fuel
-/
open Lex
namespace WNG
open PM Ast
variable (d : Gen.D)

/-- every function of the SELECT part of the parser model: every expression at a clause position of its result is derived by the
documented grammar from a contiguous run of tokens inside its cursor -/
theorem cv_all : ∀ n, CV d n := by
  intro n
  induction n with
  | zero =>
    constructor <;> (intros; rename_i h; cases h)
  | succ n ih =>
    exact ⟨cv_pSubQuery ih, cv_pWindowBody ih, cv_pPartitionBy ih, cv_pComputeList ih, cv_pOrderItem ih, cv_pOrderList ih,
      cv_pOrderByOpt ih, cv_pSelectCol ih, cv_pSelectCols ih, cv_pTableExpr ih, cv_pFromTable ih, cv_pFromTables ih, cv_pJoin ih,
      cv_pJoinRule ih, cv_pJoins ih, cv_pOptOr ih, cv_pGroupingElem ih, cv_pClosedEach ih, cv_pGroupingElems ih, cv_pGroupingSets ih,
      cv_pGroupBy ih, cv_pGroupCols ih, cv_pGroupSetsOpt ih, cv_pWithTable ih, cv_pWithBody ih, cv_pWithTables ih, cv_pWith ih,
      cv_pSelectBody ih, cv_pFromOpt ih, cv_pSelectRest ih, cv_pSelectTail ih, cv_pWhereGroup ih, cv_pHavingOrder ih, cv_pHiveClauses ih,
      cv_pSortBy ih, cv_pByList ih, cv_pLateral ih, cv_pLaterals ih, cv_pSingle ih, cv_pSingleParen ih, cv_pSelectStmt ih, cv_pUnions ih⟩

/-- the opaque leaf `SubQ` of `Derives`, opened: every clause expression of the sub-query is derived from tokens of the group -/
theorem subQ_covered {d : Gen.D} {g : Tok} {q : Query} (h : SubQ d g q) : CovL d g.children (exprsQ q) := by
  obtain ⟨f, h⟩ := h
  rw [closed_ok] at h
  exact (cv_all d f).pSelectStmt g.children none g.children q [] .refl (by simpa [exprsOW] using CovL.nil) h

/-- the opaque leaf `WinSpec`, opened: the PARTITION BY and ORDER BY items of a window are derived from tokens of the group -/
theorem winSpec_covered {d : Gen.D} {fn w : Expr} {cs : List Tok} (h : WinSpec d fn cs w) :
    ∃ part ord rows, w = .window fn part ord rows ∧ CovL d cs (part ++ ord.map oiE) := by
  obtain ⟨f, h⟩ := h
  exact (cv_all d f).pWindowBody cs fn cs w .refl h

end WNG
