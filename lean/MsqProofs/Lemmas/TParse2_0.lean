import MsqProofs.Props.C02T
/-!
# T-parse on the larger expression fragment, base definitions (C02 / C01)

Contains the fragment of `TP` (Lemmas/TParse0.lean … Props/C02T.lean) with equal renderings (`frag_sub`, `toksE2_eq`).

* `toksE2 d ch e` — the token-level printer extended to qualified columns `t.c`, the wildcards `*` / `t.*`, normal function calls
  `[s.]f(a₁, …, aₙ)`, aggregate calls `AGG([DISTINCT] a₁, …)`, both forms of `CASE`, and `[NOT] IN (v₁, …, vₙ)` (the value list itself never gets a redundant bracket: `a IN ((1, 2))` is something else); on the
  constructors of `TP.Frag` it is `TP.toksE` clause for clause (`toksE2_eq`).  Brackets by `PR.wrap`'s rule (`TP.wrapT`) with the bounds of
  `PR.prE`: call arguments, CASE operands: never wrapped by the rule (bound 14); IN values: bound 8 (`prList8`).
* `Frag2 d e` — the fragment (a `Bool`), `Frag2 ⊇ Frag` (`frag_sub`).
* `stopLE2 d L rest` = `TP.stopLE d L rest` and the head is not `OVER` (a call followed by `OVER` is a window expression).
-/
open Lex PM Ast TP
namespace TP2

/-! ### tokens -/
def dotTok : Tok := opTok "."
def starTok : Tok := opTok "*"
def commaTok : Tok := opTok ","
/-- a name as `quoteName` prints it: bare if it is a plain name and no word of `Gen.wordMarks`, back-quoted otherwise -/
def qTok (n : String) : Tok := if PR.quoteName n == n then opTok n else nameTok n

mutual
def toksE2 (d : Gen.D) (ch : Expr → Bool) : Expr → List Tok
  | .column none c => [nameTok c]
  | .column (some t) c => [nameTok t, dotTok, nameTok c]
  | .literal v => [litTok v]
  | .wildcard none => [starTok]
  | .wildcard (some t) => [qTok t, dotTok, starTok]
  | .func s n ps => (match s with | some s => [nameTok s, dotTok] | none => []) ++ [qTok n, grp (toksArgs d ch 14 ps)]
  | .agg n ps dist => [opTok n, grp ((if dist then [opTok "DISTINCT"] else []) ++ toksArgs d ch 14 ps)]
  | .caseCond cs els => opTok "CASE" :: (toksArms d ch cs ++ (toksElse d ch els ++ [opTok "END"]))
  | .caseVal v cs els =>
      opTok "CASE" :: (wrapT (ch v) v 14 (toksE2 d ch v) ++ (toksArms d ch cs ++ (toksElse d ch els ++ [opTok "END"])))
  | .subValue vs => [grp (toksArgs d ch 8 vs)]
  | .unary o e => opTok (cval o) :: wrapT (ch e) e 2 (toksE2 d ch e)
  | .compute l o r =>
      wrapT (ch l) l (PR.lvl (.compute l o r)) (toksE2 d ch l) ++ opTok (cval o) :: wrapT (ch r) r (PR.lvl (.compute l o r) - 1) (toksE2 d ch r)
  | .kw k n l r => wrapT (ch l) l 9 (toksE2 d ch l) ++ (kwToks k n ++ wrapT (ch r && k != .in_) r 8 (toksE2 d ch r))
  | .between n b f t =>
      wrapT (ch b) b 9 (toksE2 d ch b) ++ ((if n then [opTok "NOT"] else []) ++ opTok "BETWEEN" :: (wrapT (ch f) f 8 (toksE2 d ch f) ++ opTok "AND" :: wrapT (ch t) t 8 (toksE2 d ch t)))
  | .compare o l r => wrapT (ch l) l 10 (toksE2 d ch l) ++ opTok (cmpVal o) :: wrapT (ch r) r 9 (toksE2 d ch r)
  | .not_ e => opTok "NOT" :: wrapT (ch e) e 11 (toksE2 d ch e)
  | .and_ l r => wrapT (ch l) l 12 (toksE2 d ch l) ++ opTok "AND" :: wrapT (ch r) r 11 (toksE2 d ch r)
  | .xor l r => wrapT (ch l) l 13 (toksE2 d ch l) ++ opTok "XOR" :: wrapT (ch r) r 12 (toksE2 d ch r)
  | .or_ l r => wrapT (ch l) l 14 (toksE2 d ch l) ++ opTok "OR" :: wrapT (ch r) r 13 (toksE2 d ch r)
  | _ => []
def toksArgs (d : Gen.D) (ch : Expr → Bool) (k : Nat) : List Expr → List Tok
  | [] => []
  | a :: as => wrapT (ch a) a k (toksE2 d ch a) ++ toksArgsTail d ch k as
def toksArgsTail (d : Gen.D) (ch : Expr → Bool) (k : Nat) : List Expr → List Tok
  | [] => []
  | a :: as => commaTok :: (wrapT (ch a) a k (toksE2 d ch a) ++ toksArgsTail d ch k as)
def toksArms (d : Gen.D) (ch : Expr → Bool) : List (Expr × Expr) → List Tok
  | [] => []
  | (w, t) :: r =>
      opTok "WHEN" :: (wrapT (ch w) w 14 (toksE2 d ch w) ++ opTok "THEN" :: (wrapT (ch t) t 14 (toksE2 d ch t) ++ toksArms d ch r))
def toksElse (d : Gen.D) (ch : Expr → Bool) : Option Expr → List Tok
  | none => []
  | some y => opTok "ELSE" :: wrapT (ch y) y 14 (toksE2 d ch y)
end
def W2 (d : Gen.D) (ch : Expr → Bool) (e : Expr) (k : Nat) : List Tok := wrapT (ch e) e k (toksE2 d ch e)

/-! ### continuations -/
def stopLE2 (d : Gen.D) (L : Nat) (rest : List Tok) : Bool := stopLE d L rest && !headIsOver rest
def stops2 (d : Gen.D) (rest : List Tok) : Bool := stopLE2 d 14 rest
theorem sl {d : Gen.D} {L : Nat} {rest : List Tok} (h : stopLE2 d L rest = true) : stopLE d L rest = true := by
  simp only [stopLE2, Bool.and_eq_true] at h; exact h.1
theorem so {d : Gen.D} {L : Nat} {rest : List Tok} (h : stopLE2 d L rest = true) : headIsOver rest = false := by
  simp only [stopLE2, Bool.and_eq_true, Bool.not_eq_true'] at h; exact h.2
theorem stopLE2_mono {d : Gen.D} {L L' : Nat} {rest : List Tok} (h : stopLE2 d L rest = true) (hl : L' ≤ L) : stopLE2 d L' rest = true := by
  simp only [stopLE2, Bool.and_eq_true] at h ⊢; exact ⟨stopLE_mono h.1 hl, h.2⟩
theorem stopLE2_nil (d : Gen.D) (L : Nat) : stopLE2 d L [] = true := rfl

/-! ### what may start a rendering: additionally not `WHEN` (after `CASE x`) and not `DISTINCT` (first argument of an aggregate) -/
def hdTok (t : Tok) : Bool := startTok t && !["WHEN", "DISTINCT"].contains (up t.src)

/-! ### an upper bound for the number of TOP-LEVEL tokens of a rendering (whatever brackets are added) -/
mutual
def tl : Expr → Nat
  | .column (some _) _ => 3
  | .wildcard (some _) => 3
  | .func _ _ _ => 4
  | .agg _ _ _ => 2
  | .caseCond cs els => 2 + tlA cs + tlO els
  | .caseVal v cs els => 2 + tl v + tlA cs + tlO els
  | .unary _ e => 1 + tl e
  | .compute l _ r => tl l + 1 + tl r
  | .kw _ _ l r => tl l + 2 + tl r
  | .between _ b f t => tl b + 3 + tl f + tl t
  | .compare _ l r => tl l + 1 + tl r
  | .not_ e => 1 + tl e
  | .and_ l r => tl l + 1 + tl r
  | .xor l r => tl l + 1 + tl r
  | .or_ l r => tl l + 1 + tl r
  | _ => 1
def tlA : List (Expr × Expr) → Nat
  | [] => 0
  | (w, t) :: r => 2 + tl w + tl t + tlA r
def tlO : Option Expr → Nat
  | none => 0
  | some y => 1 + tl y
end
/-- every value of an `IN` list has at most 20 top-level tokens (what is inside brackets and calls does not count): the comma
splitter spends one unit of fuel per token BEFORE the value is parsed, which the uniform bound `20 * tokens` only covers for short
values -/
def shortL (vs : List Expr) : Bool := vs.all (fun v => decide (tl v ≤ 20))

/-! ### the fragment -/
/-- a name token (bare or back-quoted) that reads back as the name, is no word of the grammar, and is an identifier for the parser -/
def nmOK (d : Gen.D) (t : Tok) (n : String) : Bool :=
  elemTok d t && hdTok t && t.has NAME && !t.has LITERAL && !t.has PAREN && !t.srcEqUp "CASE" && !t.srcEq "*" && unifyName t.src == n &&
    !t.equalsStr "," && !t.equalsStr "."
def isOkNoneS (r : Except Err (Option String × String)) (n : String) : Bool :=
  match r with | .ok (none, m) => m == n | _ => false
/-- the second part of a qualified name -/
def nm2OK (t : Tok) (n : String) : Bool := t.has NAME && unifyName t.src == n && !t.equalsStr ","
def qcolOK (d : Gen.D) (t c : String) : Bool := nmOK d (nameTok t) t && nm2OK (nameTok c) c
def wildOK (d : Gen.D) (t : String) : Bool := nmOK d (qTok t) t
/-- a normal function name: not one of the special forms (the model's own tests in `pFunc` / `callPrep`), no aggregate -/
def fnNameOK (n : String) : Bool :=
  !(["CAST", "EXTRACT", "IF"].contains (up n)) && up n != "SUBSTRING" && !Gen.aggNames.contains (up n)
def fnOK (d : Gen.D) (s : Option String) (n : String) : Bool :=
  fnNameOK n && (match s with
    | none => nmOK d (qTok n) n && isOkNoneS (splitName (qTok n).src) n
    | some s => nmOK d (nameTok s) s && nm2OK (qTok n) n)
def aggOK (d : Gen.D) (n : String) : Bool :=
  Gen.aggNames.contains (up n) && nmOK d (opTok n) n && isOkNoneS (splitName (opTok n).src) n

mutual
def Frag2 (d : Gen.D) : Expr → Bool
  | .column none c => colOK d c
  | .column (some t) c => qcolOK d t c
  | .literal v => litOK d v
  | .wildcard none => true
  | .wildcard (some t) => wildOK d t
  | .func s n ps => fnOK d s n && Frag2L d ps
  | .agg n ps _ => aggOK d n && Frag2L d ps
  | .caseCond cs els => Frag2A d cs && Frag2O d els && !cs.isEmpty
  | .caseVal v cs els => Frag2 d v && Frag2A d cs && Frag2O d els && !cs.isEmpty
  | .unary o e => unOK d o && Frag2 d e
  | .compute l o r => binOK d o && Frag2 d l && Frag2 d r
  | .kw k _ l r => Frag2 d l && (if k == .in_ then inRhs d r else Frag2 d r)
  | .between _ b f t => Frag2 d b && Frag2 d f && Frag2 d t
  | .compare o l r => cmpOK d o && Frag2 d l && Frag2 d r
  | .not_ e => Frag2 d e
  | .and_ l r => Frag2 d l && Frag2 d r
  | .xor l r => Frag2 d l && Frag2 d r
  | .or_ l r => Frag2 d l && Frag2 d r
  | _ => false
def Frag2L (d : Gen.D) : List Expr → Bool
  | [] => true
  | a :: as => Frag2 d a && Frag2L d as
def Frag2A (d : Gen.D) : List (Expr × Expr) → Bool
  | [] => true
  | (w, t) :: r => Frag2 d w && Frag2 d t && Frag2A d r
def Frag2O (d : Gen.D) : Option Expr → Bool
  | none => true
  | some y => Frag2 d y
/-- the right side of `IN`: a non-empty value list -/
def inRhs (d : Gen.D) : Expr → Bool
  | .subValue vs => Frag2L d vs && !vs.isEmpty && shortL vs
  | _ => false
end

mutual
def sz2 : Expr → Nat
  | .func _ _ ps => sz2L ps + 1
  | .agg _ ps _ => sz2L ps + 1
  | .caseCond cs els => sz2A cs + sz2O els + 1
  | .caseVal v cs els => sz2 v + sz2A cs + sz2O els + 1
  | .subValue vs => sz2L vs + 1
  | .unary _ e => sz2 e + 1
  | .compute l _ r => sz2 l + sz2 r + 1
  | .kw _ _ l r => sz2 l + sz2 r + 1
  | .between _ b f t => sz2 b + sz2 f + sz2 t + 1
  | .compare _ l r => sz2 l + sz2 r + 1
  | .not_ e => sz2 e + 1
  | .and_ l r => sz2 l + sz2 r + 1
  | .xor l r => sz2 l + sz2 r + 1
  | .or_ l r => sz2 l + sz2 r + 1
  | _ => 1
def sz2L : List Expr → Nat
  | [] => 0
  | a :: as => sz2 a + sz2L as
def sz2A : List (Expr × Expr) → Nat
  | [] => 0
  | (w, t) :: r => sz2 w + sz2 t + sz2A r
def sz2O : Option Expr → Nat
  | none => 0
  | some y => sz2 y
end

theorem sz2_pos (e : Expr) : 1 ≤ sz2 e := by cases e <;> simp [sz2] <;> omega

/-! ### `Frag2 ⊇ Frag`, and on `Frag` the printers agree -/
theorem frag_sub (d : Gen.D) : ∀ n e, TP.sz e ≤ n → Frag d e = true → Frag2 d e = true := by
  intro n
  induction n with
  | zero => intro e he; cases e <;> simp [TP.sz] at he
  | succ n ih =>
    intro e he hf
    cases e <;> (try simp only [TP.sz] at he) <;> (try simp only [Frag, Bool.and_eq_true, bne_iff_ne, ne_eq] at hf) <;> try (simp at hf; done)
    case column t c => cases t <;> simp_all [Frag, Frag2]
    case literal v => simpa [Frag2] using hf
    case unary o x => simp only [Frag2, Bool.and_eq_true]; exact ⟨hf.1, ih x (by omega) hf.2⟩
    case compute l o r => simp only [Frag2, Bool.and_eq_true]; exact ⟨⟨hf.1.1, ih l (by omega) hf.1.2⟩, ih r (by omega) hf.2⟩
    case kw k n0 l r =>
      have hk : (k == KwKind.in_) = false := by simpa using hf.1.1
      simp only [Frag2, Bool.and_eq_true, hk, Bool.false_eq_true, if_false]
      exact ⟨ih l (by omega) hf.1.2, ih r (by omega) hf.2⟩
    case between n0 b f t => simp only [Frag2, Bool.and_eq_true]; exact ⟨⟨ih b (by omega) hf.1.1, ih f (by omega) hf.1.2⟩, ih t (by omega) hf.2⟩
    case compare o l r => simp only [Frag2, Bool.and_eq_true]; exact ⟨⟨hf.1.1, ih l (by omega) hf.1.2⟩, ih r (by omega) hf.2⟩
    case not_ x => simp only [Frag2]; exact ih x (by omega) hf
    case and_ l r => simp only [Frag2, Bool.and_eq_true]; exact ⟨ih l (by omega) hf.1, ih r (by omega) hf.2⟩
    case xor l r => simp only [Frag2, Bool.and_eq_true]; exact ⟨ih l (by omega) hf.1, ih r (by omega) hf.2⟩
    case or_ l r => simp only [Frag2, Bool.and_eq_true]; exact ⟨ih l (by omega) hf.1, ih r (by omega) hf.2⟩
theorem toksE2_eq (d : Gen.D) (ch : Expr → Bool) : ∀ n e, TP.sz e ≤ n → Frag d e = true → toksE2 d ch e = toksE d ch e := by
  intro n
  induction n with
  | zero => intro e he; cases e <;> simp [TP.sz] at he
  | succ n ih =>
    intro e he hf
    cases e <;> (try simp only [TP.sz] at he) <;> (try simp only [Frag, Bool.and_eq_true, bne_iff_ne, ne_eq] at hf) <;> try (simp at hf; done)
    case column t c => cases t <;> simp_all [Frag, toksE2, toksE]
    case literal v => simp [toksE2, toksE]
    case unary o x => simp only [toksE2, toksE, ih x (by omega) hf.2]
    case compute l o r => simp only [toksE2, toksE, ih l (by omega) hf.1.2, ih r (by omega) hf.2]
    case kw k n0 l r =>
      have hk : (k != KwKind.in_) = true := by simpa using hf.1.1
      simp only [toksE2, toksE, ih l (by omega) hf.1.2, ih r (by omega) hf.2, hk, Bool.and_true]
    case between n0 b f t => simp only [toksE2, toksE, ih b (by omega) hf.1.1, ih f (by omega) hf.1.2, ih t (by omega) hf.2]
    case compare o l r => simp only [toksE2, toksE, ih l (by omega) hf.1.2, ih r (by omega) hf.2]
    case not_ x => simp only [toksE2, toksE, ih x (by omega) hf]
    case and_ l r => simp only [toksE2, toksE, ih l (by omega) hf.1, ih r (by omega) hf.2]
    case xor l r => simp only [toksE2, toksE, ih l (by omega) hf.1, ih r (by omega) hf.2]
    case or_ l r => simp only [toksE2, toksE, ih l (by omega) hf.1, ih r (by omega) hf.2]

theorem sizeL_W2_le (d : Gen.D) (ch : Expr → Bool) (e : Expr) (k : Nat) : sizeL (toksE2 d ch e) ≤ sizeL (W2 d ch e k) := by
  unfold W2 wrapT; split <;> simp [sizeL, size_grp]
theorem sizeL_W2_ge (d : Gen.D) (ch : Expr → Bool) (e : Expr) (k : Nat) : sizeL (W2 d ch e k) ≤ 1 + sizeL (toksE2 d ch e) := by
  unfold W2 wrapT; split <;> simp [sizeL, size_grp]

theorem frag_sub_all (d : Gen.D) (e : Expr) (h : Frag d e = true) : Frag2 d e = true := frag_sub d (TP.sz e) e (Nat.le_refl _) h
theorem toksE2_eq_all (d : Gen.D) (ch : Expr → Bool) (e : Expr) (h : Frag d e = true) : toksE2 d ch e = toksE d ch e :=
  toksE2_eq d ch (TP.sz e) e (Nat.le_refl _) h
theorem nameTok_marks (n : String) : (nameTok n).has NAME = true ∧ (nameTok n).has LITERAL = false ∧ (nameTok n).has PAREN = false := by
  refine ⟨?_, ?_, ?_⟩ <;> (simp [nameTok, Tok.has, Tok.marks]; decide)

end TP2
