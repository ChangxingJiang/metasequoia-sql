import MsqProofs.Props.C10T
import MsqProofs.Props.C03L
/-!
# Printed statements never end open; scripts of printed SELECTs (C10 ∘ C03 ∘ C01)

`C10.lx_not_open`: a text `u` that satisfies the compositional lexer relation `LexLink.Lx u ts` (followed by a delimiter
it appends exactly the tokens `ts` and continues between tokens) does not end inside a line comment — otherwise
`u ++ " y"` would lex to `ts` (the comment swallows ` y`) and to `ts ++ [y]` (by `Lx`).  Hence the printed text of every
fragment expression and every fragment SELECT does not end open (`printed_expr_not_open`, `printed_select_not_open`),
and the hypothesis `EndsOpen … = false` of `C10.script_text` is discharged for printed statements:

`C10.script_printed`: for SELECTs `s1 … sn` of the C03 fragment (lexable leaves, dialect pre-pass hypothesis as in
`C03.tselect_text`), the model of `parse_statements` on the script `print s1 sep1 … print sn sepn` (separators: blanks
and line breaks around one `;`; the last one optional) returns exactly `[s1, …, sn]`.

`C10.printed_part`: the same discharge for any printed text with `Lx` and plain characters, in the form `script_text_std` asks of a part
(used for the scripts of statements, Props/C03QL2.lean and Props/C03RL.lean, through `script_of_printed` / `script_of_printed_prep`).
-/
namespace C10
open Lex PM Ast TP TS LexLink

theorem l_lc_blank : Gen.cfgS.lookup .IN_EXPLAIN_1 (.ch ' ') = some (Spec.addTo .IN_EXPLAIN_1) := by decide +kernel
theorem l_lc_y : Gen.cfgS.lookup .IN_EXPLAIN_1 (.ch 'y') = some (Spec.addTo .IN_EXPLAIN_1) := by decide +kernel
theorem l_lc_end : Gen.cfgS.lookup .IN_EXPLAIN_1 .eof = some Spec.dropAtEnd := by decide +kernel

theorem lx_not_open {u : List Char} {ts : List Tok} (h : Lx u ts) : endState Gen.cfgS u ≠ .IN_EXPLAIN_1 := by
  intro he
  have hu := C01.lexText_of_lx h
  simp only [lexText] at hu
  cases e1 : feedAllWith (handle Gen.cfgS u) u {} with
  | error x => rw [e1] at hu; cases hu
  | ok m1 =>
    rw [e1] at hu
    simp only at hu
    have hst : m1.status = .IN_EXPLAIN_1 := by
      rw [(feedAllWith_skel Gen.cfgS (C04.summarizable 7) u u {} m1 e1 (by simp)).1]; exact he
    obtain ⟨st, nw, q, stk⟩ := m1
    simp only at hst
    subst hst
    rw [handle_dropAtEnd C05.shipped_code l_lc_end] at hu
    simp only at hu
    obtain ⟨_, hstk⟩ := finish_ok_inv (cfg := Gen.cfgS) (by decide) hu
    simp only at hstk
    subst hstk
    -- the comment swallows ` y`
    have hA : feedAllWith (handle Gen.cfgS (u ++ [' ', 'y'])) u {} = .ok ⟨st, nw, .IN_EXPLAIN_1, [ts]⟩ := by
      rw [feedAllWith_context _ C06.shipped_good]; exact e1
    have hB : feedAllWith (handle Gen.cfgS (u ++ [' ', 'y'])) (u ++ [' ', 'y']) {} =
        .ok ⟨st, nw + 1 + 1, .IN_EXPLAIN_1, [ts]⟩ := by
      rw [feedAllWith_append_ok hA,
        feedAllWith_cons_adv (handle_addTo C05.shipped_code (m := ⟨st, nw, .IN_EXPLAIN_1, [ts]⟩) l_lc_blank),
        feedAllWith_cons_adv (handle_addTo C05.shipped_code (m := ⟨st, nw + 1, .IN_EXPLAIN_1, [ts]⟩) l_lc_y)]
      rfl
    have hL : lexText Gen.cfgS (u ++ [' ', 'y']) = .ok ts := by
      rw [lexText_ok hB (handle_dropAtEnd C05.shipped_code (m := ⟨st, nw + 1 + 1, .IN_EXPLAIN_1, [ts]⟩) l_lc_end)]
      exact finish_end _ C05.shipped_depth C05.shipped_end _ _ _
    -- by `Lx`, it does not
    have h1 := h (u ++ [' ', 'y']) [] [' ', 'y'] [] [] (by simp) (Or.inr ⟨['y'], Or.inl rfl⟩)
    simp only [List.length_nil, Nat.zero_add, List.nil_append] at h1
    have h2 := lx_word ['y'] (by decide) (u ++ [' ', 'y']) (u ++ [' ']) [] ts [] (by simp) (Or.inl rfl)
    simp only [List.append_nil, List.length_append, List.length_cons, List.length_nil] at h2
    have hR : lexText Gen.cfgS (u ++ [' ', 'y']) = .ok (ts ++ [.single ['y'] (C05.wordMark ['y'])]) := by
      rw [lexText_eq_runTail]
      show runTail Gen.cfgS (u ++ [' ', 'y']) (u ++ [' ', 'y']) ⟨0, 0, .WAIT, [[]]⟩ = _
      rw [h1, step_blank, h2, runTail_nil_wait]
      exact finish_end _ C05.shipped_depth C05.shipped_end _ _ _
    rw [hL] at hR
    have := congrArg (fun r => match r with | .ok (l : List Tok) => l.length | .error _ => 0) hR
    simp at this

theorem pre_plain (t : List Char) (h : t.all C05.plain = true) : Gen.cfgS.pre t = t :=
  preWith_noop _ _ (untouched_of_plain _ _ (fun c hc => List.all_eq_true.mp h c hc))

theorem not_open_of_lx {u : List Char} {ts : List Tok} (h : Lx u ts) (hp : u.all C05.plain = true) :
    EndsOpen Gen.cfgS u = false := by
  rw [endsOpen_shipped, pre_plain u hp]
  simp [lx_not_open h]

theorem printed_part {d : Gen.D} {l sep : List Char} {ts : List Tok} {st : Stmt} (hlx : Lx l ts) (hq : l.all C05.plain = true)
    (hpre : dialectPre d l = l) (hp : pStatement d (fuelFor ts) ts = .ok (st, [])) (hsep : ∀ c ∈ sep, isSepChar c = true) :
    Lex.lex Gen.cfgS (dialectPre d l) = .ok ts ∧ pStatement d (fuelFor ts) ts = .ok (st, []) ∧
      (EndsOpen Gen.cfgS (dialectPre d l) = false ∨ sep.head? = some '\n') ∧ (∀ c ∈ sep, isSepChar c = true) ∧
      (dialectPre d l).getLast? ≠ some '\r' := by
  rw [hpre]
  refine ⟨?_, hp, Or.inl (not_open_of_lx hlx hq), hsep, fun hc => ?_⟩
  · rw [Lex.lex_plain _ _ (fun c hc => (List.all_eq_true.mp hq) c hc)]; exact C01.lexText_of_lx hlx
  · have := List.all_eq_true.mp hq _ (List.mem_of_getLast? hc)
    revert this; decide

def stmtPartOf (txt : Stmt → List Char) (toks : Stmt → List Tok) (it : Stmt × List Char) : Part := ⟨txt it.1, it.2, toks it.1, it.1⟩

theorem script_of_printed (d : Gen.D) (hd : d ≠ .DB2) (txt : Stmt → List Char) (toks : Stmt → List Tok) (items : List (Stmt × List Char))
    (h : ∀ it ∈ items, Lx (txt it.1) (toks it.1) ∧ (txt it.1).all C05.plain = true ∧ dialectPre d (txt it.1) = txt it.1 ∧
      pStatement d (fuelFor (toks it.1)) (toks it.1) = .ok (it.1, []) ∧ ∀ c ∈ it.2, isSepChar c = true)
    (hseps : SepsOK (items.map (stmtPartOf txt toks))) :
    parseStatementsText d (scriptOf Part.text (items.map (stmtPartOf txt toks))) = .ok (items.map (·.1)) := by
  have := script_text_std d hd (items.map (stmtPartOf txt toks)) (fun p hp => by
    obtain ⟨it, hit, rfl⟩ := List.mem_map.mp hp
    obtain ⟨hlx, hq, hpre, hp, hsep⟩ := h it hit
    exact printed_part hlx hq hpre hp hsep) hseps
  simpa [List.map_map, Function.comp_def, stmtPartOf] using this

/-- the same for every dialect, the commutation of the pre-passes with cutting the script at the separators as a hypothesis -/
theorem script_of_printed_prep (d : Gen.D) (txt : Stmt → List Char) (toks : Stmt → List Tok) (items : List (Stmt × List Char))
    (h : ∀ it ∈ items, Lx (txt it.1) (toks it.1) ∧ (txt it.1).all C05.plain = true ∧ dialectPre d (txt it.1) = txt it.1 ∧
      pStatement d (fuelFor (toks it.1)) (toks it.1) = .ok (it.1, []) ∧ ∀ c ∈ it.2, isSepChar c = true)
    (hseps : SepsOK (items.map (stmtPartOf txt toks)))
    (hprep : prep d (scriptOf Part.text (items.map (stmtPartOf txt toks))) =
      scriptOf (fun p => prep d p.text) (items.map (stmtPartOf txt toks))) :
    parseStatementsText d (scriptOf Part.text (items.map (stmtPartOf txt toks))) = .ok (items.map (·.1)) := by
  have := script_text d (items.map (stmtPartOf txt toks)) (fun p hp => by
    obtain ⟨it, hit, rfl⟩ := List.mem_map.mp hp
    obtain ⟨hlx, hq, hpre, hp, hsep⟩ := h it hit
    have hpt := printed_part (d := d) hlx hq hpre hp hsep
    exact ⟨hpt.1, hpt.2.1, hpt.2.2.1, hpt.2.2.2.1⟩) hseps hprep
  simpa [List.map_map, Function.comp_def, stmtPartOf] using this

theorem printed_expr_not_open (d : Gen.D) (e : Expr) (hf : Frag d e = true) (hl : Leaf d e) :
    EndsOpen Gen.cfgS (prEL d e) = false :=
  not_open_of_lx (C01.lex_prE_in_context d e hf hl) (plain_prEL d e hf hl)

theorem printed_select_not_open (d : Gen.D) (s : Select) (hs : FragS d s = true) (hl : LeafS d s) :
    EndsOpen Gen.cfgS (prSL d s) = false :=
  not_open_of_lx (C03.lex_prS_in_context d s hs hl) (plain_prSL d s hs hl)

def partOf (d : Gen.D) (it : Select × List Char) : Part :=
  ⟨prSL d it.1, it.2, toksS d it.1, .select (.single it.1)⟩

/-- **scripts of printed SELECTs** parse back to the SELECTs: no "ends open" hypothesis, no hypothesis on parse results -/
theorem script_printed (d : Gen.D) (hd : d ≠ .DB2) (items : List (Select × List Char))
    (h : ∀ it ∈ items, FragS d it.1 = true ∧ LeafS d it.1 ∧ dialectPre d (prSL d it.1) = prSL d it.1 ∧
      ∀ c ∈ it.2, isSepChar c = true)
    (hseps : SepsOK (items.map (partOf d))) :
    parseStatementsText d (scriptOf Part.text (items.map (partOf d))) =
      .ok (items.map fun it => Stmt.select (.single it.1)) := by
  have := script_text_std d hd (items.map (partOf d)) (fun p hp => by
    obtain ⟨it, hit, rfl⟩ := List.mem_map.mp hp
    obtain ⟨hs, hl, hpre, hsep⟩ := h it hit
    simp only [partOf]
    rw [hpre]
    refine ⟨?_, ?_, Or.inl (printed_select_not_open d it.1 hs hl), hsep, ?_⟩
    · obtain ⟨str, _, h2, h3⟩ := C03.lex_prS d it.1 hs hl
      rw [← h2]; exact h3
    · have := C03.tselect_statement d it.1 hs [] rfl rfl (fuelFor (toksS d it.1)) (by simp only [fuelFor]; omega)
      simpa using this
    · intro hc
      have hm : '\r' ∈ prSL d it.1 := List.mem_of_getLast? hc
      have := List.all_eq_true.mp (plain_prSL d it.1 hs hl) _ hm
      revert this; decide) hseps
  simpa [List.map_map, Function.comp_def, partOf] using this

/-- an instance, hypotheses decided by the kernel: `SELECT DISTINCT a AS k, 'x' FROM t AS u` and `SELECT 1`, printed (clauses on
separate lines), with ` ;` + line break between them and a final `;` -/
example : parseStatementsText .MYSQL
      (scriptOf Part.text ([(C03.s5, " ;\n".toList), (C03.s2, ";".toList)].map (partOf .MYSQL))) =
    .ok [.select (.single C03.s5), .select (.single C03.s2)] :=
  script_printed .MYSQL (by decide) [(C03.s5, " ;\n".toList), (C03.s2, ";".toList)]
    (by
      intro it hit
      simp only [List.mem_cons, List.not_mem_nil, or_false] at hit
      rcases hit with rfl | rfl
      · exact ⟨by decide, C03.leafS_of_B _ _ (by decide +kernel), C01.dialectPre_id _ (by decide) (by decide) _, by decide⟩
      · exact ⟨by decide, C03.leafS_of_B _ _ (by decide +kernel), C01.dialectPre_id _ (by decide) (by decide) _, by decide⟩)
    ⟨by decide, (by decide : (semis ";".toList).length ≤ 1)⟩

#guard EndsOpen Gen.cfgS (prSL .MYSQL C03.s5) == false && EndsOpen Gen.cfgS (prSL .HIVE C03.s2) == false
#guard count (parseStatementsText .MYSQL
  (scriptOf Part.text ([(C03.s5, " ;\n".toList), (C03.s2, ";".toList)].map (partOf .MYSQL)))) == some 2

end C10
