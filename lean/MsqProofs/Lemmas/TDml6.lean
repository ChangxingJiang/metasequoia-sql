import MsqProofs.Lemmas.TDml5
/-!
# Accounting for the renderings of data-change statements (C08)

`leaves s` — the names and literals stored in the tree of a statement, in print order; `stmt_accounted`: on the fragment the rendering
`toksStmtG d noX tb s` reads as grammar words interleaved with exactly `leaves s` (relation `Acc`, Lemmas/TDml5.lean).
The INSERT kind is stored as an enum member, not as text: its words are grammar words.
-/
open Lex PM Ast TP TP2 TS TQ
namespace TDM
variable {d : Gen.D}

def lvWith : WithTable → List String
  | .mk n q => n :: lvQ q
def lvWiths : Option (List WithTable) → List String
  | some ws => ws.flatMap lvWith
  | none => []
def lvTbl (t : TableName) : List String := t.schema.toList ++ [t.name]
def lvPart : Option (List Expr) → List String
  | none => []
  | some es => es.flatMap lvE
def lvColName (c : Option String × String) : List String := c.1.toList ++ [c.2]
def lvColNames : Option (List (Option String × String)) → List String
  | none => []
  | some cs => cs.flatMap lvColName
def lvRows (vs : List (List Expr)) : List String := vs.flatMap (fun r => r.flatMap lvE)
def lvSet (p : String × Expr) : List String := p.1 :: lvE p.2
def lvSets (ss : List (String × Expr)) : List String := ss.flatMap lvSet
def lvTail (wh : Option Expr) (ob : Option (List OrderItem)) (lm : Option (Int × Option Int)) : List String := lvO wh ++ (lvOrder ob ++ lvLimit lm)
/-- **the strings stored in a statement**, in print order -/
def leaves : Stmt → List String
  | .select q => lvWiths (withsOf q) ++ lvQ q
  | .insertValues h vs => lvWiths h.withs ++ (lvTbl h.table ++ (lvPart h.partition ++ (lvColNames h.columns ++ lvRows vs)))
  | .insertSelect h q => lvWiths h.withs ++ (lvTbl h.table ++ (lvPart h.partition ++ (lvColNames h.columns ++ lvQ q)))
  | .update ws t sets wh ob lm => lvWiths ws ++ (lvTbl t ++ (lvSets sets ++ lvTail wh ob lm))
  | .delete t wh ob lm => lvTbl t ++ lvTail wh ob lm
  | _ => []

/-! ### comma-joined segments -/
theorem acc_joinC {β : Type} (tk : β → List Tok) (lf : β → List String) :
    ∀ xs : List β, (∀ x ∈ xs, Acc (tk x) (lf x)) → Acc (joinC (xs.map tk)) (xs.flatMap lf) := by
  intro xs
  induction xs with
  | nil => intro _; exact Acc.nil
  | cons x r ih =>
    intro h
    have hx := h x (by simp)
    have hr := ih (fun y hy => h y (by simp [hy]))
    cases r with
    | nil => simpa [joinC] using hx
    | cons y r' =>
      simp only [List.map_cons, joinC, List.flatMap_cons] at hr ⊢
      exact Acc.app hx (Acc.kf "," hr)

/-- a tail `, x₁ , x₂ …` of items accounted one by one -/
theorem acc_commaTail {β : Type} (tk : β → List Tok) (lf : β → List String) (tail : List β → List Tok) (h0 : tail [] = [])
    (h1 : ∀ x r, tail (x :: r) = TS.commaTok :: (tk x ++ tail r)) :
    ∀ xs : List β, (∀ x ∈ xs, Acc (tk x) (lf x)) → Acc (tail xs) (xs.flatMap lf)
  | [], _ => h0 ▸ Acc.nil
  | x :: r, h => by
    rw [h1, List.flatMap_cons]
    exact Acc.kf "," (Acc.app (h x List.mem_cons_self) (acc_commaTail tk lf tail h0 h1 r fun y hy => h y (List.mem_cons_of_mem _ hy)))

theorem acc_tail (wh : Option Expr) (ob : Option (List OrderItem)) (lm : Option (Int × Option Int))
    (h1 : FragO3 d wh = true) (h2 : orderOK3 d ob = true) : Acc (toksTail d noX wh ob lm) (lvTail wh ob lm) :=
  Acc.app (accOptE "WHERE" (by decide) wh h1) (Acc.app (accOrder ob h2) (acc_limit lm))
theorem acc_target (t : TableName) (ht : tblOKD t = true) {ts : List Tok} {l : List String} (h : Acc ts l) :
    Acc (tblTok t.schema t.name :: ts) (lvTbl t ++ l) := by
  simp only [tblOKD, Bool.and_eq_true] at ht
  exact (acc_tbl t.schema t.name ht.1 h).cast (by simp [lvTbl])
theorem acc_set (p : String × Expr) (hp : setOK d p = true) : Acc (toksSet d noX p) (lvSet p) := by
  simp only [setOK, Bool.and_eq_true, beq_iff_eq] at hp
  exact Acc.nm (single_nameTok p.1) hp.1 (Acc.kf "=" (accE p.2 hp.2))
theorem acc_setsTail (ss : List (String × Expr)) (h : ∀ p ∈ ss, setOK d p = true) : Acc (toksSetsTail d noX ss) (lvSets ss) :=
  acc_commaTail (toksSet d noX) lvSet _ rfl (fun _ _ => rfl) ss fun p hp => acc_set p (h p hp)
theorem acc_sets (ss : List (String × Expr)) (h : ∀ p ∈ ss, setOK d p = true) : Acc (toksSets d noX ss) (lvSets ss) := by
  cases ss with
  | nil => exact Acc.nil
  | cons p r =>
    simp only [toksSets, lvSets, List.flatMap_cons]
    exact Acc.app (acc_set p (h p (by simp))) (acc_setsTail r (fun q hq => h q (by simp [hq])))
theorem acc_with (w : WithTable) (hw : withOK d w = true) : Acc (toksWith d noX w) (lvWith w) := by
  obtain ⟨n, q⟩ := w
  simp only [withOK, Bool.and_eq_true, beq_iff_eq] at hw
  exact Acc.nm (single_qTok n) hw.1 (Acc.kf "AS" (accQ q hw.2).g1)
theorem acc_withsTail (ws : List WithTable) (h : ∀ w ∈ ws, withOK d w = true) : Acc (toksWithsTail d noX ws) (ws.flatMap lvWith) :=
  acc_commaTail (toksWith d noX) lvWith _ rfl (fun _ _ => rfl) ws fun w hw => acc_with w (h w hw)
theorem acc_withs (ws : Option (List WithTable)) (h : withsOK d ws = true) : Acc (toksWiths d noX ws) (lvWiths ws) := by
  cases ws with
  | none => simp [withsOK] at h
  | some l =>
    simp only [withsOK, List.all_eq_true] at h
    cases l with
    | nil => exact Acc.nil
    | cons w r =>
      simp only [toksWiths, lvWiths, List.flatMap_cons]
      exact Acc.kf "WITH" (Acc.app (acc_with w (h w (by simp))) (acc_withsTail r (fun u hu => h u (by simp [hu]))))
theorem acc_partItem (e : Expr) (h : staticOK d e = true ∨ dynOK d e = true) : Acc (toksE3 d noX e) (lvE e) := by
  rcases h with h | h
  · cases e with
    | compare o l r =>
      simp only [staticOK, Bool.and_eq_true] at h
      exact Acc.bin (kw_cmpVal o) (accE l h.1.1.1.1.2) (accE r h.1.1.1.2)
    | _ => simp [staticOK] at h
  · simp only [dynOK, Bool.and_eq_true] at h
    exact accE e h.1
theorem acc_part (p : Option (List Expr)) (h : partOK d p = true) : Acc (toksPart d noX p) (lvPart p) := by
  cases p with
  | none => exact Acc.nil
  | some es =>
    simp only [partOK, Bool.or_eq_true, List.all_eq_true] at h
    refine Acc.kf "PARTITION" (Acc.g1 (acc_joinC (toksE3 d noX) lvE es (fun e he => acc_partItem e ?_)))
    rcases h with h | h
    · exact Or.inl (h e he)
    · exact Or.inr (h e he)
theorem acc_colName (c : Option String × String) (hc : colNameOK c = true) : Acc (toksColName c) (lvColName c) := by
  obtain ⟨t, n⟩ := c
  simp only [colNameOK, Bool.and_eq_true] at hc
  cases t with
  | none => exact Acc.nm (single_nameTok n) (nm2OK_name hc.1.1) Acc.nil
  | some t => exact Acc.nm (single_nameTok t) (nm2OK_name hc.1.2) (Acc.kf "." (Acc.nm (single_nameTok n) (nm2OK_name hc.1.1) Acc.nil))
theorem acc_colNames (cs : Option (List (Option String × String))) (h : colNamesOK cs = true) : Acc (toksColNames cs) (lvColNames cs) := by
  cases cs with
  | none => exact Acc.nil
  | some l =>
    simp only [colNamesOK, List.all_eq_true] at h
    exact Acc.g1 (acc_joinC toksColName lvColName l (fun c hc => acc_colName c (h c hc)))
theorem frag_mem : ∀ (r : List Expr), FragL3 d r = true → ∀ e ∈ r, FragE3 d e = true := by
  intro r
  induction r with
  | nil => intro _ e he; simp at he
  | cons a as ih =>
    intro h e he
    simp only [FragL3, Bool.and_eq_true] at h
    rcases List.mem_cons.1 he with rfl | he
    · exact h.1
    · exact ih h.2 e he
theorem acc_row (r : List Expr) (h : FragL3 d r = true) {ts : List Tok} {l : List String} (hts : Acc ts l) :
    Acc (toksRow d noX r :: ts) (r.flatMap lvE ++ l) :=
  Acc.g (acc_joinC (fun e => W3 d noX e 8) lvE r (fun e he => (accE e (frag_mem r h e he)).wrap _ _ _)) hts
theorem acc_rowsTail (vs : List (List Expr)) (h : ∀ r ∈ vs, FragL3 d r = true) : Acc (toksRowsTail d noX vs) (lvRows vs) :=
  acc_commaTail (fun r => [toksRow d noX r]) (fun r => r.flatMap lvE) _ rfl (fun _ _ => rfl) vs
    fun r hr => (acc_row r (h r hr) Acc.nil).cast (List.append_nil _)
theorem acc_rows (vs : List (List Expr)) (h : ∀ r ∈ vs, FragL3 d r = true) : Acc (toksRows d noX vs) (lvRows vs) := by
  cases vs with
  | nil => exact Acc.nil
  | cons r rs =>
    simp only [toksRows, lvRows, List.flatMap_cons]
    exact acc_row r (h r (by simp)) (acc_rowsTail rs (fun u hu => h u (by simp [hu])))
theorem acc_insertWords (ty : String) : ∀ t ∈ insertWords ty, isKw t = true := kw_words Gen.insertTypes insert_kw ty
theorem acc_head (tb : Bool) (h : InsertHead) (hh : headOK d h = true) {ts : List Tok} {l : List String} (hts : Acc ts l) :
    Acc (toksWiths d noX h.withs ++ (toksTarget d noX tb h ++ ts)) (lvWiths h.withs ++ (lvTbl h.table ++ (lvPart h.partition ++ (lvColNames h.columns ++ l)))) := by
  simp only [headOK, Bool.and_eq_true] at hh
  obtain ⟨⟨⟨⟨h1, _⟩, h3⟩, h4⟩, h5⟩ := hh
  refine Acc.app (acc_withs h.withs h1) ?_
  simp only [toksTarget, List.append_assoc, List.cons_append]
  exact Acc.kws (acc_insertWords h.type) (Acc.optKw tb "TABLE"
    (acc_target h.table h3 (Acc.app (acc_part h.partition h4) (Acc.app (acc_colNames h.columns h5) hts))))
theorem lvQ_stripW (q : Query) : lvQ (stripW q) = lvQ q := by
  cases q with
  | single s => obtain ⟨w, dist, cols, fr, lats, js, wh, gb, hv, ob, sb, db, cb, lm⟩ := s; simp only [stripW, setQW, setW, lvQ, lvS]
  | union w s us => simp only [stripW, setQW, lvQ]
theorem toksQ_strip (q : Query) : toksQ d noX (stripW q) = toksQ d noX q := by
  cases q with
  | single s => obtain ⟨w, dist, cols, fr, lats, js, wh, gb, hv, ob, sb, db, cb, lm⟩ := s; simp only [stripW, setQW, setW, toksQ, toksS3]
  | union w s us => simp only [stripW, setQW, toksQ]

/-- **accounting, statement level**: the rendering of a fragment statement is grammar words interleaved with exactly the strings stored in
the tree, in order — nothing else, nothing missing, nothing twice -/
theorem stmt_accounted (tb : Bool) (s : Stmt) (hs : FragStmt d s = true) : Acc (toksStmtG d noX tb s) (leaves s) := by
  cases s with
  | delete t wh ob lm =>
    simp only [FragStmt, Bool.and_eq_true] at hs
    exact Acc.kf "DELETE" (Acc.kf "FROM" (acc_target t hs.1.1.1 (acc_tail wh ob lm hs.1.1.2 hs.1.2)))
  | update w t sets wh ob lm =>
    simp only [FragStmt, Bool.and_eq_true, List.all_eq_true] at hs
    exact Acc.app (acc_withs w hs.1.1.1.1.1.1) (Acc.kf "UPDATE" (acc_target t hs.1.1.1.1.1.2 (Acc.kf "SET"
      (Acc.app (acc_sets sets hs.1.1.1.2) (acc_tail wh ob lm hs.1.1.2 hs.1.2)))))
  | insertValues h vs =>
    simp only [FragStmt, Bool.and_eq_true, List.all_eq_true] at hs
    exact acc_head tb h hs.1 (Acc.kf "VALUES" (acc_rows vs hs.2))
  | insertSelect h q =>
    simp only [FragStmt, Bool.and_eq_true] at hs
    exact acc_head tb h hs.1 (accQ q hs.2)
  | select q =>
    simp only [FragStmt, Bool.and_eq_true] at hs
    have := accQ (stripW q) hs.2
    rw [toksQ_strip, lvQ_stripW] at this
    exact Acc.app (acc_withs _ hs.1) this
  | _ => simp [FragStmt] at hs

/-! ### what the relation says, unfolded -/
mutual
def flatT : Tok → List Tok
  | .single s m => [.single s m]
  | .group _ cs _ => flatL cs
def flatL : List Tok → List Tok
  | [] => []
  | t :: ts => flatT t ++ flatL ts
end
theorem flatT_single {t : Tok} (h : isSingle t = true) : flatT t = [t] := by
  cases t with
  | single s m => simp [flatT]
  | group k cs m => cases h
theorem single_of_kw {t : Tok} (h : isKw t = true) : isSingle t = true := by cases t <;> first | rfl | cases h
theorem flatL_single {t : Tok} (h : isSingle t = true) (ts : List Tok) : flatL (t :: ts) = t :: flatL ts := by
  rw [flatL, flatT_single h]; rfl
theorem flatL_group (k : GK) (cs : List Tok) (m : Nat) (ts : List Tok) : flatL (.group k cs m :: ts) = flatL cs ++ flatL ts := by
  rw [flatL, flatT]
/-- `t` is a grammar word or spells one of the strings `l` -/
def Stored (l : List String) (t : Tok) : Prop :=
  isKw t = true ∨ unifyName t.src ∈ l ∨ t.src ∈ l ∨ ∃ s n, splitName t.src = .ok (s, n) ∧ n ∈ l
theorem Stored.mono {l l' : List String} {t : Tok} (hl : ∀ x ∈ l, x ∈ l') (h : Stored l t) : Stored l' t :=
  h.imp_right (Or.imp (hl _) (Or.imp (hl _) fun ⟨s, n, h1, h2⟩ => ⟨s, n, h1, hl _ h2⟩))
theorem Stored.cons {t0 : Tok} {ts : List Tok} {l l' : List String} (hs : isSingle t0 = true) (h0 : Stored l' t0) (hl : ∀ x ∈ l, x ∈ l')
    (ih : ∀ t ∈ flatL ts, Stored l t) : ∀ t ∈ flatL (t0 :: ts), Stored l' t := by
  rw [flatL_single hs]
  exact List.forall_mem_cons.2 ⟨h0, fun t ht => (ih t ht).mono hl⟩
/-- every token of an accounted rendering is a grammar word or spells a stored string -/
theorem Acc.tokens_stored {ts : List Tok} {l : List String} (h : Acc ts l) : ∀ t ∈ flatL ts, Stored l t := by
  induction h with
  | nil => intro t ht; cases ht
  | kw hk _ ih => exact Stored.cons (single_of_kw hk) (.inl hk) (fun _ h => h) ih
  | name hs _ ih => exact Stored.cons hs (.inr (.inl List.mem_cons_self)) (fun _ => List.mem_cons_of_mem _) ih
  | lit hs _ ih => exact Stored.cons hs (.inr (.inr (.inl List.mem_cons_self))) (fun _ => List.mem_cons_of_mem _) ih
  | table hs hn _ ih =>
    exact Stored.cons hs (.inr (.inr (.inr ⟨_, _, hn, List.mem_append_right _ List.mem_cons_self⟩)))
      (fun _ h => List.mem_append_right _ (List.mem_cons_of_mem _ h)) ih
  | group _ _ ihc ih =>
    intro t ht
    rw [flatL_group] at ht
    rcases List.mem_append.1 ht with ht | ht
    · exact (ihc t ht).mono fun _ => List.mem_append_left _
    · exact (ih t ht).mono fun _ => List.mem_append_right _
/-- the tokens that are no grammar words are matched one-to-one by stored strings: none of them is lost -/
theorem Acc.count {ts : List Tok} {l : List String} (h : Acc ts l) : ((flatL ts).filter (fun t => !isKw t)).length ≤ l.length := by
  induction h with
  | nil => simp [flatL]
  | @kw t0 ts l hk _ ih =>
    simp only [flatL, flatT_single (single_of_kw hk), List.cons_append, List.nil_append, List.filter_cons, hk, Bool.not_true, Bool.false_eq_true, if_false]
    exact ih
  | @name t0 ts l hs _ ih =>
    simp only [flatL, flatT_single hs, List.cons_append, List.nil_append, List.filter_cons, List.length_cons]
    split <;> (try simp only [List.length_cons]) <;> omega
  | @lit t0 ts l hs _ ih =>
    simp only [flatL, flatT_single hs, List.cons_append, List.nil_append, List.filter_cons, List.length_cons]
    split <;> (try simp only [List.length_cons]) <;> omega
  | @table t0 ts l s0 n0 hs hn _ ih =>
    simp only [flatL, flatT_single hs, List.cons_append, List.nil_append, List.filter_cons, List.length_append, List.length_cons]
    split <;> (try simp only [List.length_cons]) <;> omega
  | @group k cs m ts l1 l2 _ _ ihc ih =>
    simp only [flatL, flatT, List.filter_append, List.length_append]
    omega
theorem exists_flatL_tail {P : Tok → Prop} {t0 : Tok} {ts : List Tok} : (∃ t ∈ flatL ts, P t) → ∃ t ∈ flatL (t0 :: ts), P t
  | ⟨t, ht, h⟩ => ⟨t, by rw [flatL]; exact List.mem_append_right _ ht, h⟩
theorem mem_flatL_head {t0 : Tok} (hs : isSingle t0 = true) (ts : List Tok) : t0 ∈ flatL (t0 :: ts) := by
  rw [flatL_single hs]; exact List.mem_cons_self
/-- and every stored string is spelled by a token -/
theorem Acc.stored_tokens {ts : List Tok} {l : List String} (h : Acc ts l) :
    ∀ x ∈ l, ∃ t ∈ flatL ts, x = unifyName t.src ∨ x = t.src ∨ ∃ s n, splitName t.src = .ok (s, n) ∧ (x = n ∨ s = some x) := by
  induction h with
  | nil => intro x hx; cases hx
  | kw hk _ ih => exact fun x hx => exists_flatL_tail (ih x hx)
  | @name t0 ts _ hs _ ih =>
    intro x hx
    rcases List.mem_cons.1 hx with rfl | hx
    · exact ⟨t0, mem_flatL_head hs ts, .inl rfl⟩
    · exact exists_flatL_tail (ih x hx)
  | @lit t0 ts _ hs _ ih =>
    intro x hx
    rcases List.mem_cons.1 hx with rfl | hx
    · exact ⟨t0, mem_flatL_head hs ts, .inr (.inl rfl)⟩
    · exact exists_flatL_tail (ih x hx)
  | @table t0 ts _ s0 n0 hs hn _ ih =>
    intro x hx
    rcases List.mem_append.1 hx with hx | hx
    · exact ⟨t0, mem_flatL_head hs ts, .inr (.inr ⟨s0, n0, hn, .inr (Option.mem_toList.1 hx)⟩)⟩
    · rcases List.mem_cons.1 hx with rfl | hx
      · exact ⟨t0, mem_flatL_head hs ts, .inr (.inr ⟨s0, x, hn, .inl rfl⟩)⟩
      · exact exists_flatL_tail (ih x hx)
  | group _ _ ihc ih =>
    intro x hx
    simp only [flatL_group, List.mem_append]
    rcases List.mem_append.1 hx with hx | hx
    · obtain ⟨t, ht, h⟩ := ihc x hx
      exact ⟨t, .inl ht, h⟩
    · obtain ⟨t, ht, h⟩ := ih x hx
      exact ⟨t, .inr ht, h⟩

/-! ### what the relation excludes -/
/-- a token that is no grammar word cannot be dropped, a stored string cannot be invented -/
theorem acc_not_trivial : ¬ Acc [nameTok "a"] [] ∧ ¬ Acc [] ["a"] ∧ ¬ Acc [nameTok "a"] ["b"] ∧ Acc [nameTok "a"] ["a"] := by
  have hk : isKw (nameTok "a") = false := by decide +kernel
  have hu : unifyName (nameTok "a").src = "a" := by decide
  have hs : (nameTok "a").src ≠ "b" := by decide
  have hsp : splitName (nameTok "a").src = .ok (none, "a") := isOkPair_eq (by decide)
  refine ⟨?_, ?_, ?_, Acc.nm (single_nameTok "a") hu Acc.nil⟩
  · intro h
    generalize hl : ([] : List String) = l at h
    cases h with
    | kw h1 _ => rw [hk] at h1; cases h1
    | name _ _ => cases hl
    | lit _ _ => cases hl
    | table _ _ _ => simp at hl
  · intro h; cases h
  · intro h
    generalize hl : ["b"] = l at h
    cases h with
    | kw h1 h2 => rw [hk] at h1; cases h1
    | name _ _ => simp only [List.cons.injEq] at hl; rw [hu] at hl; exact absurd hl.1 (by decide)
    | lit _ _ => simp only [List.cons.injEq] at hl; exact hs hl.1.symm
    | table _ hn _ =>
      rw [hsp] at hn
      simp only [Except.ok.injEq, Prod.mk.injEq] at hn
      obtain ⟨rfl, rfl⟩ := hn
      simp at hl

end TDM
