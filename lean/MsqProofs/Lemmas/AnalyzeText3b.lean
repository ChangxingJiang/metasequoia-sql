import MsqProofs.Lemmas.AnalyzeText3
/-!
# The cut of a fragment SELECT's rendering returns the printer's own pieces (C14 / C15 on texts)

`CT.seg d ch k s` — the piece number `k` the token-level printer `TQ.toksS3` concatenates for the SELECT `s` (0 = `SELECT [DISTINCT] list`,
1 = FROM, 2 = all JOINs, 3 = WHERE, 4 = GROUP BY, 5 = HAVING, 6 = ORDER BY, 7 = LIMIT).
`CT.cut_toksS3 : FragS3 d s → clauseToks k (toksS3 d ch s) = seg d ch k s` for every `k` other than 2 and 8 (the JOINs with their ON conditions:
`cutJoins_toksS3`, `cutOns_toksS3`) and every choice `ch` of redundant brackets.
-/
open Lex PM Ast TP TP2 TS TQ Spec
namespace CT

/-- whatever clause we are in: the first token of the piece starts clause `k`, the rest stays there -/
def Starts (k : Nat) (ts : List Tok) : Prop :=
  ∀ p cur rest, cut p cur false (ts ++ rest) = (if p k then ts else []) ++ cut p k false rest
/-- inside clause `k` the piece stays there -/
def In (k : Nat) (ts : List Tok) : Prop :=
  ∀ p rest, cut p k false (ts ++ rest) = (if p k then ts else []) ++ cut p k false rest

theorem Starts.toIn {k : Nat} {ts : List Tok} (h : Starts k ts) : In k ts := fun p rest => h p k rest
theorem Inert.toIn {ts : List Tok} (h : Inert ts) (k : Nat) : In k ts := fun p rest => h p k rest
theorem In.app {k : Nat} {a b : List Tok} (ha : In k a) (hb : In k b) : In k (a ++ b) := fun p rest => by
  rw [List.append_assoc, ha, hb, ← List.append_assoc, ite_app]
theorem Starts.app {k : Nat} {a b : List Tok} (ha : Starts k a) (hb : In k b) : Starts k (a ++ b) := fun p cur rest => by
  rw [List.append_assoc, ha, hb, ← List.append_assoc, ite_app]
theorem Starts.cast {k : Nat} {a b : List Tok} (h : Starts k a) (e : a = b) : Starts k b := e ▸ h
theorem In.cast {k : Nat} {a b : List Tok} (h : In k a) (e : a = b) : In k b := e ▸ h

theorem rank_indep {t : Tok} (h : t.equalsStr "CROSS" = false) (next : List Tok) : clauseRank t next = clauseRank t [] := by
  simp [clauseRank, h]
/-- the clause words other than `CROSS`, with the clause each starts -/
def clauseWords : List (String × Nat) :=
  [("FROM", 1), ("JOIN", 2), ("INNER", 2), ("LEFT", 2), ("RIGHT", 2), ("FULL", 2), ("WHERE", 3), ("GROUP", 4), ("HAVING", 5), ("ORDER", 6),
   ("LIMIT", 7), ("ON", 8)]
theorem clauseWords_ok : clauseWords.all (fun e =>
    clauseRank (opTok e.1) [] == some e.2 && !(opTok e.1).equalsStr "CROSS" && !(opTok e.1).equalsStr "AS") = true := by decide
theorem Starts.word (w : String) (k : Nat) (h : (w, k) ∈ clauseWords := by decide) : Starts k [opTok w] := fun p cur rest => by
  have := List.all_eq_true.1 clauseWords_ok _ h
  simp only [Bool.and_eq_true, beq_iff_eq, Bool.not_eq_true'] at this
  simp only [List.singleton_append, cut_step, rank_indep this.1.2, this.1.1, Option.getD_some, Bool.false_eq_true, if_false, this.2,
    Bool.and_false]
theorem starts_cross : Starts 2 [opTok "CROSS", opTok "JOIN"] := fun p cur rest => by
  have h1 : ∀ r, clauseRank (opTok "CROSS") (opTok "JOIN" :: r) = some 2 := fun r => by
    have : clauseRank (opTok "CROSS") [opTok "JOIN"] = some 2 := by decide
    exact this
  have h2 : (opTok "CROSS").equalsStr "AS" = false := by decide
  have h3 := Starts.word "JOIN" 2 (by decide) p 2 rest
  simp only [List.singleton_append] at h3
  simp only [List.cons_append, List.nil_append, cut_step (t := opTok "CROSS"), h1, Option.getD_some, Bool.false_eq_true, if_false, h2,
    Bool.and_false, h3]
  by_cases hc : p 2 = true <;> simp [hc]

theorem in2 (w : String) (h : w ∈ kwList := by simp [kwList]) : In 2 [opTok w] := (Inert.one (dull_kw w h)).toIn 2

theorem starts_joinWords {d : Gen.D} {ty : String} (h : joinTyOK d ty = true) : Starts 2 (joinWords ty) := by
  unfold joinWords
  cases hf : Gen.joinTypes.find? (·.1 == ty) with
  | none => simp [joinTyOK, joinWords, hf] at h
  | some e =>
    have hm := List.mem_of_find?_eq_some hf
    simp only [Gen.joinTypes, List.mem_cons, List.mem_nil_iff, or_false] at hm
    rcases hm with rfl | rfl | rfl | rfl | rfl | rfl | rfl | rfl | rfl | rfl | rfl <;> simp only [List.map]
    · exact Starts.word "JOIN" 2
    · exact (Starts.word "INNER" 2).app (Starts.word "JOIN" 2).toIn
    · exact (Starts.word "LEFT" 2).app (Starts.word "JOIN" 2).toIn
    · exact (Starts.word "LEFT" 2).app ((in2 "OUTER").app (Starts.word "JOIN" 2).toIn)
    · exact (Starts.word "LEFT" 2).app ((in2 "SEMI").app (Starts.word "JOIN" 2).toIn)
    · exact (Starts.word "RIGHT" 2).app (Starts.word "JOIN" 2).toIn
    · exact (Starts.word "RIGHT" 2).app ((in2 "OUTER").app (Starts.word "JOIN" 2).toIn)
    · exact (Starts.word "RIGHT" 2).app ((in2 "SEMI").app (Starts.word "JOIN" 2).toIn)
    · exact (Starts.word "FULL" 2).app (Starts.word "JOIN" 2).toIn
    · exact (Starts.word "FULL" 2).app ((in2 "OUTER").app (Starts.word "JOIN" 2).toIn)
    · exact starts_cross

variable {d : Gen.D} (ch : Expr → Bool)

theorem iColsTail : ∀ (cs : List (Expr × Option String)), colsOK3 d cs = true → Inert (toksColsTail3 d ch cs)
  | [], _ => by simp only [toksColsTail3]; exact Inert.nil
  | (e, a) :: cs, h => by
    simp only [colsOK3, Bool.and_eq_true] at h
    exact Inert.cons dk (((iE ch e h.1.1).app (inert_alias a)).app (iColsTail cs h.2))
theorem iCols : ∀ (cs : List (Expr × Option String)), colsOK3 d cs = true → Inert (toksCols3 d ch cs)
  | [], _ => by simp only [toksCols3]; exact Inert.nil
  | (e, a) :: cs, h => by
    simp only [colsOK3, Bool.and_eq_true] at h
    exact ((iE ch e h.1.1).app (inert_alias a)).app (iColsTail ch cs h.2)
theorem iRef : ∀ (r : TableRef), Inert (toksRef3 d ch r)
  | .table s n => by simp only [toksRef3]; exact Inert.one (dull_tbl s n)
  | .sub q => by simp only [toksRef3]; exact Inert.grp _
theorem iTable : ∀ (t : FromTable), Inert (toksTable3 d ch t)
  | .mk r a => by simp only [toksTable3]; exact (iRef ch r).app (inert_alias a)
theorem iTablesTail : ∀ (ts : List FromTable), Inert (toksTablesTail3 d ch ts)
  | [] => by simp only [toksTablesTail3]; exact Inert.nil
  | t :: ts => by simp only [toksTablesTail3]; exact Inert.cons dk ((iTable ch t).app (iTablesTail ts))

/-- an optional clause: absent, or a piece that starts clause `k` -/
def OptCl (k : Nat) (ts : List Tok) : Prop := ts = [] ∨ Starts k ts

theorem clFrom : ∀ (fr : Option (List FromTable)), OptCl 1 (toksFrom3 d ch fr)
  | none => Or.inl (by simp only [toksFrom3])
  | some [] => Or.inl (by simp only [toksFrom3])
  | some (t :: ts) => Or.inr (by
      exact ((Starts.word "FROM" 1).app (((iTable ch t).app (iTablesTail ch ts)).toIn 1)).cast rfl)
/-- the head of a JOIN (`… JOIN table [AS alias]`, clause 2) and its `ON` condition (clause 8) -/
def joinHd (d : Gen.D) (ch : Expr → Bool) : Join → List Tok
  | .mk ty t _ => joinWords ty ++ toksTable3 d ch t
def joinOn (d : Gen.D) (ch : Expr → Bool) : Join → List Tok
  | .mk _ _ rule => toksRule3 d ch rule
/-- what the cut keeps of a list of JOINs -/
def joinsSel (d : Gen.D) (ch : Expr → Bool) (p : Nat → Bool) : List Join → List Tok
  | [] => []
  | j :: js => (if p 2 then joinHd d ch j else []) ++ ((if p 8 then joinOn d ch j else []) ++ joinsSel d ch p js)
/-- a piece of which the cut keeps `A`, whatever clause we are in and whatever follows -/
def Pc (p : Nat → Bool) (a A : List Tok) : Prop := ∀ cur rest, ∃ cur', cut p cur false (a ++ rest) = A ++ cut p cur' false rest
theorem Pc.nil (p : Nat → Bool) : Pc p [] [] := fun cur _ => ⟨cur, rfl⟩
theorem Pc.app {p : Nat → Bool} {a A b B : List Tok} (ha : Pc p a A) (hb : Pc p b B) : Pc p (a ++ b) (A ++ B) := fun cur rest => by
  obtain ⟨c1, e1⟩ := ha cur (b ++ rest)
  obtain ⟨c2, e2⟩ := hb c1 rest
  exact ⟨c2, by rw [List.append_assoc, e1, e2, List.append_assoc]⟩
theorem Pc.cast {p : Nat → Bool} {a A a' A' : List Tok} (h : Pc p a A) (e1 : a = a') (e2 : A = A') : Pc p a' A' := by
  subst e1; subst e2; exact h
theorem Starts.pc {k : Nat} {ts : List Tok} (h : Starts k ts) (p : Nat → Bool) : Pc p ts (if p k then ts else []) :=
  fun cur rest => ⟨k, h p cur rest⟩
theorem pcJoin (p : Nat → Bool) : ∀ (j : Join), joinOK3 d j = true →
    Pc p (toksJoin3 d ch j) ((if p 2 then joinHd d ch j else []) ++ (if p 8 then joinOn d ch j else []))
  | .mk ty t none, h => by
    simp only [joinOK3, Bool.and_eq_true] at h
    simp only [toksJoin3, toksRule3, joinHd, joinOn, List.append_nil]
    exact (((starts_joinWords h.1.1).app ((iTable ch t).toIn 2)).pc p).cast rfl (by simp)
  | .mk ty t (some (.on e)), h => by
    simp only [joinOK3, ruleOK3, Bool.and_eq_true] at h
    simp only [toksJoin3, toksRule3, joinHd, joinOn]
    have h1 := ((starts_joinWords h.1.1).app ((iTable (d := d) ch t).toIn 2)).pc p
    have h2 := ((Starts.word "ON" 8).app ((iE ch e h.2).toIn 8)).pc p
    exact (h1.app h2).cast (by simp) rfl
  | .mk ty t (some (.using f)), h => by simp [joinOK3, ruleOK3] at h
theorem pcJoins (p : Nat → Bool) : ∀ (js : List Join), joinsOK3 d js = true → Pc p (toksJoins3 d ch js) (joinsSel d ch p js)
  | [], _ => by simp only [toksJoins3, joinsSel]; exact Pc.nil p
  | j :: js, h => by
    simp only [joinsOK3, Bool.and_eq_true] at h
    simp only [toksJoins3, joinsSel]
    exact ((pcJoin ch p j h.1).app (pcJoins p js h.2)).cast rfl (by simp)
theorem joinsSel_all : ∀ (js : List Join), joinsSel d ch (fun k => k == 2 || k == 8) js = toksJoins3 d ch js
  | [] => rfl
  | .mk ty t rule :: js => by simp [joinsSel, joinHd, joinOn, toksJoins3, toksJoin3, joinsSel_all js]
def onToks (d : Gen.D) (ch : Expr → Bool) : List Join → List Tok
  | [] => []
  | j :: js => joinOn d ch j ++ onToks d ch js
theorem joinsSel_on : ∀ (js : List Join), joinsSel d ch (· == 8) js = onToks d ch js
  | [] => rfl
  | j :: js => by simp [joinsSel, onToks, joinsSel_on js]
theorem clOptE (kw : String) (k : Nat) (hk : (kw, k) ∈ clauseWords) : ∀ (e : Option Expr), FragO3 d e = true → OptCl k (toksOptE3 d ch kw e)
  | none, _ => Or.inl (by simp only [toksOptE3])
  | some e, h => Or.inr (by
      simp only [FragO3] at h
      exact ((Starts.word kw k hk).app ((iE ch e h).toIn k)).cast rfl)
theorem clGroup : ∀ (gb : Option GroupBy), groupOK3 d gb = true → OptCl 4 (toksGroup3 d ch gb)
  | none, _ => Or.inl (by simp only [toksGroup3])
  | some (.mk [] sets cube rollup), h => by simp [groupOK3] at h
  | some (.mk (e :: es) (some l) cube rollup), h => by simp [groupOK3] at h
  | some (.mk (e :: es) none cube rollup), h => by
    cases cube <;> cases rollup <;> try (simp [groupOK3] at h; done)
    simp only [groupOK3, Bool.and_eq_true] at h
    exact Or.inr (((Starts.word "GROUP" 4).app
      ((Inert.cons dk (((iE ch e h.1.1).wrap _ _ _).app (iArgsTail ch 8 es h.1.2))).toIn 4)).cast rfl)
theorem iOrdItem : ∀ (o : OrderItem), ordItemOK3 d o = true → Inert (toksOrdItem3 d ch o)
  | .mk e desc nf nl, h => by
    simp only [ordItemOK3, Bool.and_eq_true] at h
    exact ((iE ch e h.1.1).wrap _ _ _).app (Inert.ite desc (Inert.one dk))
theorem iOrdTail : ∀ (os : List OrderItem), ordTailOK3 d os = true → Inert (toksOrdTail3 d ch os)
  | [], _ => by simp only [toksOrdTail3]; exact Inert.nil
  | o :: os, h => by
    simp only [ordTailOK3, Bool.and_eq_true] at h
    exact Inert.cons dk ((iOrdItem ch o h.1).app (iOrdTail os h.2))
theorem clOrder : ∀ (ob : Option (List OrderItem)), orderOK3 d ob = true → OptCl 6 (toksOrder3 d ch ob)
  | none, _ => Or.inl (by simp only [toksOrder3])
  | some [], h => by simp [orderOK3] at h
  | some (o :: os), h => by
    simp only [orderOK3, Bool.and_eq_true] at h
    exact Or.inr (((Starts.word "ORDER" 6).app
      ((Inert.cons dk ((iOrdItem ch o h.1).app (iOrdTail ch os h.2))).toIn 6)).cast rfl)
theorem clLimit (lm : Option (Int × Option Int)) (h : limitOK lm = true) : OptCl 7 (toksLimit lm) := by
  have hl : Starts 7 [opTok "LIMIT"] := Starts.word "LIMIT" 7
  rcases lm with _ | ⟨n, _ | m⟩
  · exact Or.inl rfl
  · simp only [limitOK, limOK, Bool.and_eq_true, decide_eq_true_eq] at h
    exact Or.inr ((hl.app ((Inert.one (dull_int n h.1)).toIn 7)).cast rfl)
  · simp only [limitOK, limOK, Bool.and_eq_true, decide_eq_true_eq] at h
    exact Or.inr ((hl.app ((Inert.cons (dull_int m h.2.1) (Inert.cons dk (Inert.one (dull_int n h.1.1)))).toIn 7)).cast rfl)

theorem OptCl.pc {k : Nat} {a : List Tok} (ha : OptCl k a) (p : Nat → Bool) : Pc p a (if p k then a else []) := by
  rcases ha with rfl | hs
  · exact (Pc.nil p).cast rfl (by simp)
  · exact hs.pc p
theorem chain_end {p : Nat → Bool} {a A : List Tok} (ha : Pc p a A) : ∀ cur, cut p cur false a = A := by
  intro cur
  obtain ⟨c1, e1⟩ := ha cur []
  simpa [cut] using e1
theorem chain_step {p : Nat → Bool} {a A b X : List Tok} (ha : Pc p a A) (hb : ∀ cur, cut p cur false b = X) :
    ∀ cur, cut p cur false (a ++ b) = A ++ X := by
  intro cur
  obtain ⟨c1, e1⟩ := ha cur b
  rw [e1, hb]

/-- the piece number `k` of the rendering of a SELECT -/
def seg (d : Gen.D) (ch : Expr → Bool) (k : Nat) : Select → List Tok
  | .mk _ dist cols fr _ js wh gb hv ob _ _ _ lm =>
    match k with
    | 0 => opTok "SELECT" :: ((if dist then [opTok "DISTINCT"] else []) ++ toksCols3 d ch cols)
    | 1 => toksFrom3 d ch fr
    | 2 => toksJoins3 d ch js
    | 3 => toksOptE3 d ch "WHERE" wh
    | 4 => toksGroup3 d ch gb
    | 5 => toksOptE3 d ch "HAVING" hv
    | 6 => toksOrder3 d ch ob
    | 7 => toksLimit lm
    | _ => []
def joinsOf : Select → List Join
  | .mk _ _ _ _ _ js _ _ _ _ _ _ _ _ => js

theorem toksS3_segs (s : Select) :
    toksS3 d ch s = seg d ch 0 s ++ (seg d ch 1 s ++ (seg d ch 2 s ++ (seg d ch 3 s ++ (seg d ch 4 s ++ (seg d ch 5 s ++ (seg d ch 6 s ++ seg d ch 7 s)))))) := by
  cases s; simp [toksS3, seg]

/-- **the cut of a fragment SELECT's rendering**: whatever clauses `p` selects, the cut of the token list returns the pieces of the
selected clauses (of the JOIN segment: the heads and / or the ON conditions) -/
theorem cut_all (s : Select) (h : FragS3 d s = true) (p : Nat → Bool) :
    cut p 0 false (toksS3 d ch s) = (if p 0 then seg d ch 0 s else []) ++ ((if p 1 then seg d ch 1 s else []) ++
      (joinsSel d ch p (joinsOf s) ++ ((if p 3 then seg d ch 3 s else []) ++ ((if p 4 then seg d ch 4 s else []) ++
      ((if p 5 then seg d ch 5 s else []) ++ ((if p 6 then seg d ch 6 s else []) ++ (if p 7 then seg d ch 7 s else []))))))) := by
  cases s with
  | mk ws dist cols fr lats js wh gb hv ob sb db cb lm =>
    obtain ⟨rfl, rfl, rfl, rfl, rfl⟩ := AT.fragS3_shape h
    simp only [FragS3, Bool.and_eq_true] at h
    obtain ⟨⟨⟨⟨⟨⟨⟨⟨⟨hc, _⟩, hfr⟩, hjs⟩, hwh⟩, hgb⟩, hhv⟩, hob⟩, hlm⟩, _⟩ := h
    have isel : Inert (opTok "SELECT" :: ((if dist then [opTok "DISTINCT"] else []) ++ toksCols3 d ch cols)) :=
      Inert.cons dk ((Inert.ite dist (Inert.one dk)).app (iCols ch cols hc))
    have tail := chain_step ((clFrom (d := d) ch fr).pc p) (chain_step (pcJoins ch p js hjs)
      (chain_step ((clOptE ch "WHERE" 3 (by decide) wh hwh).pc p) (chain_step ((clGroup ch gb hgb).pc p)
      (chain_step ((clOptE ch "HAVING" 5 (by decide) hv hhv).pc p) (chain_step ((clOrder ch ob hob).pc p)
      (chain_end ((clLimit lm hlm).pc p)))))))
    have := isel p 0 (toksFrom3 d ch fr ++ (toksJoins3 d ch js ++ (toksOptE3 d ch "WHERE" wh ++ (toksGroup3 d ch gb ++
      (toksOptE3 d ch "HAVING" hv ++ (toksOrder3 d ch ob ++ toksLimit lm))))))
    rw [tail 0] at this
    simp only [toksS3, seg, joinsOf, List.cons_append, List.append_assoc] at this ⊢
    exact this

theorem joinsSel_none (p : Nat → Bool) (h2 : p 2 = false) (h8 : p 8 = false) : ∀ js, joinsSel d ch p js = []
  | [] => rfl
  | j :: js => by simp [joinsSel, h2, h8, joinsSel_none p h2 h8 js]
/-- **every clause but JOIN**: the cut returns the printer's piece -/
theorem cut_toksS3 (s : Select) (h : FragS3 d s = true) (k : Nat) (hk : k ≠ 2) (hk8 : k ≠ 8) : clauseToks k (toksS3 d ch s) = seg d ch k s := by
  unfold clauseToks
  rw [cut_all ch s h, joinsSel_none ch (· == k) (by simpa using fun e => hk e.symm) (by simpa using fun e => hk8 e.symm)]
  match k with
  | 0 | 1 | 3 | 4 | 5 | 6 | 7 => simp
  | 2 => exact absurd rfl hk
  | 8 => exact absurd rfl hk8
  | k + 9 => cases s; simp [seg]
theorem cutJoins_toksS3 (s : Select) (h : FragS3 d s = true) : cutJoins (toksS3 d ch s) = seg d ch 2 s := by
  unfold cutJoins
  rw [cut_all ch s h, joinsSel_all]
  cases s; simp [seg, joinsOf]
theorem cutOns_toksS3 (s : Select) (h : FragS3 d s = true) : cutOns (toksS3 d ch s) = onToks d ch (joinsOf s) := by
  unfold cutOns clauseToks
  rw [cut_all ch s h, joinsSel_on]
  simp
theorem cutOns_seg (s : Select) (h : FragS3 d s = true) : cutOns (seg d ch 2 s) = onToks d ch (joinsOf s) := by
  cases s with
  | mk ws dist cols fr lats js wh gb hv ob sb db cb lm =>
    obtain ⟨rfl, rfl, rfl, rfl, rfl⟩ := AT.fragS3_shape h
    simp only [FragS3, Bool.and_eq_true] at h
    have := chain_end (pcJoins ch (· == 8) js h.1.1.1.1.1.1.2) 0
    simp only [cutOns, clauseToks, seg, joinsOf, this, joinsSel_on]

end CT
