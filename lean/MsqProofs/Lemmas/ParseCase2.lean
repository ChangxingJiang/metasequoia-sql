import MsqProofs.Lemmas.ParseCase1
/-!
# C09, parser half: what the parser's token tests see of two case-equivalent tokens / cursors
-/
set_option linter.unusedSimpArgs false
open Lex Ast
namespace PM

/-- a literal the model compares a source with case-SENSITIVELY and that no case word can be: it starts with a character that is
neither a letter, a digit, `_` nor `(` -/
def isOpLit (k : String) : Bool := match k.toList with | c :: _ => !(plainCh c) && c != '(' | [] => false

section word
variable {s : List Char} (h : caseWord s = true)
include h
theorem caseWord_hasNonAscii : hasNonAscii (String.ofList s) = false := by
  simp only [hasNonAscii, String.toList_ofList, List.any_eq_false]
  intro c hc; have := plainCh_lt c (caseWord_all h c hc); simp; omega
theorem caseWord_dropWhile : s.dropWhile (· == '`') = s := by
  obtain ⟨c, r, rfl, hc⟩ := caseWord_head h
  have : (c == '`') = false := by simpa using plainCh_ne c '`' hc (by decide)
  simp [List.dropWhile, this]
theorem caseWord_unifyName : unifyName (String.ofList s) = String.ofList s := by
  have hr : s.reverse.dropWhile (· == '`') = s.reverse := by
    have hl : s.getLast (caseWord_ne_nil h) ≠ '`' :=
      plainCh_ne _ '`' (caseWord_all h _ (List.getLast_mem _)) (by decide)
    cases hrev : s.reverse with
    | nil => rfl
    | cons c r =>
      have : c = s.getLast (caseWord_ne_nil h) := by
        have := List.head?_reverse (l := s); rw [hrev] at this; simp at this
        rw [List.getLast?_eq_some_getLast (caseWord_ne_nil h)] at this; simpa using this
      have hl' : (s.getLast (caseWord_ne_nil h) == '`') = false := by simpa using hl
      simp [List.dropWhile, this, hl']
  simp [unifyName, String.toList_ofList, caseWord_dropWhile h, hr]
theorem caseWord_splitName : splitName (String.ofList s) = .ok (none, String.ofList s) := by
  have : s.filter (· == '.') = [] := by
    simp only [List.filter_eq_nil_iff]; intro c hc; have := plainCh_ne c '.' (caseWord_all h c hc) (by decide); simpa using this
  simp [splitName, String.toList_ofList, this, caseWord_unifyName h]
theorem caseWord_intBody : intBody s = s := by
  obtain ⟨c, r, rfl, hc⟩ := caseWord_head h
  have h1 : c ≠ '+' := plainCh_ne c '+' hc (by decide)
  have h2 : c ≠ '-' := plainCh_ne c '-' hc (by decide)
  unfold intBody; split <;> simp_all
theorem caseWord_pyInt : pyInt (String.ofList s) = .error (.py .ValueError) := by
  have hb : isAsciiIntBody s = false := by
    obtain ⟨c, r, rfl, hc⟩ := caseWord_head h
    have := (caseWord_not_digits h).1
    simp only [isAsciiIntBody, this, Bool.false_and]
  simp [pyInt, caseWord_hasNonAscii h, String.toList_ofList, caseWord_intBody h, hb]
theorem caseWord_asInt : asInt (String.ofList s) = .error .parse := by
  have hb : isIntLiteral (String.ofList s) = false := by
    simp [isIntLiteral, String.toList_ofList, caseWord_intBody h, (caseWord_not_digits h).2]
  simp [asInt, caseWord_hasNonAscii h, hb]
theorem caseWord_notOp (k : String) (hk : isOpLit k = true) : String.ofList s ≠ k := by
  rintro rfl
  obtain ⟨c, r, rfl, hc⟩ := caseWord_head h
  simp [isOpLit, String.toList_ofList, hc] at hk
end word

abbrev p128 : Char → Bool := fun c => decide (c.toNat ≥ 128)
mutual
theorem ce_source : ∀ t t' : Tok, CE t t' →
    Gen.pyUpper (Tok.source t) = Gen.pyUpper (Tok.source t') ∧ (Tok.source t).any p128 = (Tok.source t').any p128
  | .single s m, .single s' m', h => by
    simp only [CE] at h
    rcases h.2 with rfl | ⟨h1, h2, h3⟩
    · exact ⟨rfl, rfl⟩
    · refine ⟨by simpa [Tok.source] using h3, ?_⟩
      have a := caseWord_hasNonAscii h1; have b := caseWord_hasNonAscii h2
      simp only [hasNonAscii, String.toList_ofList] at a b
      show (s.any fun c => decide (c.toNat ≥ 128)) = (s'.any fun c => decide (c.toNat ≥ 128))
      rw [a, b]
  | .group k cs m, .group k' cs' m', h => by
    simp only [CE] at h
    have := cel_sourceL cs cs' h.2.2.1
    have e : ∀ l : List Char, Gen.pyUpper ('(' :: (l ++ [')'])) = Gen.pyUpper ['('] ++ (Gen.pyUpper l ++ Gen.pyUpper [')']) := fun l => by
      rw [← pyUpper_append, ← pyUpper_append]; rfl
    constructor
    · simp only [Tok.source]; rw [e, e, this.1]
    · simp only [Tok.source, List.any_cons, List.any_append, this.2]
  | .single _ _, .group _ _ _, h => by simp [CE] at h
  | .group _ _ _, .single _ _, h => by simp [CE] at h
theorem cel_sourceL : ∀ ts ts' : List Tok, CEL ts ts' →
    Gen.pyUpper (sourceL ts) = Gen.pyUpper (sourceL ts') ∧ (sourceL ts).any p128 = (sourceL ts').any p128
  | [], [], _ => ⟨rfl, rfl⟩
  | t :: ts, t' :: ts', h => by
    simp only [cel_cons_cons] at h
    have a := ce_source t t' h.1; have b := cel_sourceL ts ts' h.2
    simp only [sourceL, pyUpper_append, List.any_append, a.1, a.2, b.1, b.2, and_self]
  | [], _ :: _, h => by simp at h
  | _ :: _, [], h => by simp at h
end

/-- a bracket group renders as `(`…`)`: `str.strip("`")` has nothing to strip -/
theorem unifyName_paren (l : List Char) : unifyName (String.ofList ('(' :: (l ++ [')']))) = String.ofList ('(' :: (l ++ [')'])) := by
  simp [unifyName, String.toList_ofList, List.dropWhile]

section tok
variable {t t' : Tok} (h : CE t t')
include h
theorem ce_marks : t.marks = t'.marks := by
  cases t <;> cases t' <;> simp_all [CE, Tok.marks]
theorem ce_has (m : Nat) : t.has m = t'.has m := by simp [Tok.has, ce_marks h]
theorem ce_up_src : up t.src = up t'.src := by
  simp only [Tok.src, up_ofList, (ce_source t t' h).1]
theorem ce_hasNonAscii : hasNonAscii t.src = hasNonAscii t'.src := by
  have := (ce_source t t' h).2
  simp only [hasNonAscii, Tok.src, String.toList_ofList]; exact this
theorem ce_srcEqUp (k : String) : t.srcEqUp k = t'.srcEqUp k := by simp [Tok.srcEqUp, ce_up_src h]
theorem ce_equalsStr (k : String) : t.equalsStr k = t'.equalsStr k := by
  have := ce_up_src h
  cases t <;> cases t' <;> simp_all [CE, Tok.equalsStr, Tok.src, Tok.source]
theorem ce_children : CEL t.children t'.children := by
  cases t <;> cases t' <;> simp_all [CE, Tok.children]
/-- the sources are the same, or both are case words (leaves), or both are bracket groups -/
theorem ce_src_cases : t.src = t'.src ∨ (∃ s s', t.src = String.ofList s ∧ t'.src = String.ofList s' ∧ caseWord s = true ∧ caseWord s' = true)
    ∨ (∃ l l', t.src = String.ofList ('(' :: (l ++ [')'])) ∧ t'.src = String.ofList ('(' :: (l' ++ [')'])) ∧ t.has NAME = false ∧ t'.has NAME = false) := by
  cases t with
  | single s m => cases t' with
    | single s' m' =>
      simp only [CE] at h
      rcases h.2 with rfl | ⟨h1, h2, _⟩
      · exact .inl rfl
      · exact .inr (.inl ⟨s, s', rfl, rfl, h1, h2⟩)
    | group _ _ _ => simp [CE] at h
  | group k cs m => cases t' with
    | single _ _ => simp [CE] at h
    | group k' cs' m' =>
      simp only [CE] at h
      rcases h.2.2.2 with hm | rfl
      · refine .inr (.inr ⟨_, _, rfl, rfl, ?_, ?_⟩) <;> simp [Tok.has, Tok.marks, ← h.2.1, hm]
      · exact .inl rfl
theorem ce_notOp (k : String) (hk : isOpLit k = true) : (t.src == k) = (t'.src == k) := by
  rcases ce_src_cases h with e | ⟨s, s', e1, e2, h1, h2⟩ | ⟨l, l', e1, e2, _, _⟩
  · rw [e]
  · have a := caseWord_notOp h1 k hk; have b := caseWord_notOp h2 k hk
    rw [e1, e2, beq_eq_false_iff_ne.mpr a, beq_eq_false_iff_ne.mpr b]
  · have a : String.ofList ('(' :: (l ++ [')'])) ≠ k := by rintro rfl; simp [isOpLit, String.toList_ofList] at hk
    have b : String.ofList ('(' :: (l' ++ [')'])) ≠ k := by rintro rfl; simp [isOpLit, String.toList_ofList] at hk
    rw [e1, e2, beq_eq_false_iff_ne.mpr a, beq_eq_false_iff_ne.mpr b]
theorem ce_srcEq (k : String) (hk : isOpLit k = true) : t.srcEq k = t'.srcEq k := by simpa [Tok.srcEq] using ce_notOp h k hk
theorem ce_contains (ks : List String) (hks : ks.all isOpLit = true) : ks.contains t.src = ks.contains t'.src := by
  induction ks with
  | nil => rfl
  | cons k ks ih =>
    simp only [List.all_cons, Bool.and_eq_true] at hks
    simp only [List.contains_cons, ce_notOp h k hks.1, ih hks.2]
theorem ce_unarySet (d : Gen.D) : (Gen.unarySet d).contains t.src = (Gen.unarySet d).contains t'.src :=
  ce_contains h _ (by cases d <;> decide)
theorem ce_compareOp : compareOp? t.src = compareOp? t'.src := by
  have : ∀ (l : List (String × String)), (l.all fun e => isOpLit e.1) = true → l.find? (·.1 == t.src) = l.find? (·.1 == t'.src) := by
    intro l hl
    induction l with
    | nil => rfl
    | cons e l ih =>
      simp only [List.all_cons, Bool.and_eq_true] at hl
      have := ce_notOp h e.1 hl.1
      simp only [List.find?_cons, BEq.comm (a := e.1), this, ih hl.2]
  simp only [compareOp?, this Gen.compareHash (by decide)]
theorem ce_pyInt : pyInt t.src = pyInt t'.src := by
  rcases ce_src_cases h with e | ⟨s, s', e1, e2, h1, h2⟩ | ⟨l, l', e1, e2, _, _⟩
  · rw [e]
  · rw [e1, e2, caseWord_pyInt h1, caseWord_pyInt h2]
  · have hn := ce_hasNonAscii h
    have body : ∀ l : List Char, isAsciiIntBody (intBody ('(' :: (l ++ [')']))) = false := by
      intro l; simp [intBody, isAsciiIntBody]
    unfold pyInt
    rw [hn, e1, e2]
    simp [String.toList_ofList, body]
theorem ce_asInt : asInt t.src = asInt t'.src := by
  rcases ce_src_cases h with e | ⟨s, s', e1, e2, h1, h2⟩ | ⟨l, l', e1, e2, _, _⟩
  · rw [e]
  · rw [e1, e2, caseWord_asInt h1, caseWord_asInt h2]
  · have hn := ce_hasNonAscii h
    have lit : ∀ l : List Char, isIntLiteral (String.ofList ('(' :: (l ++ [')']))) = false := by
      intro l; simp [isIntLiteral, intBody, String.toList_ofList]
    unfold asInt
    rw [hn, e1, e2, lit, lit]; simp
theorem ce_unifyName : up (unifyName t.src) = up (unifyName t'.src) := by
  have hu := ce_up_src h
  rcases ce_src_cases h with e | ⟨s, s', e1, e2, h1, h2⟩ | ⟨l, l', e1, e2, _, _⟩
  · rw [e]
  · rw [e1, e2, caseWord_unifyName h1, caseWord_unifyName h2, ← e1, ← e2, hu]
  · rw [e1, e2, unifyName_paren, unifyName_paren, ← e1, ← e2, hu]
end tok

end PM
