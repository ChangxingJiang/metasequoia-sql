import MsqProofs.Lemmas.TDml0
import MsqProofs.Props.C18T
import MsqProofs.Lemmas.TQuery3P
import MsqProofs.Lemmas.TDmlR4
/-!
# T-parse for the remaining statement classes and the union of all fragments: base definitions (C03 / C01)

Over the query developments (`TQ`, `TQ3`), the data-change developments (`TDM` over `FragQ`; `TDM3` over `FragQ3`, the same clauses:
Lemmas/TDmlR0–4.lean, with `TDM.FragStmt ⊆ TDM3.FragStmt`: Lemmas/TDmlQI.lean, Lemmas/TDmlRI.lean) and the CREATE TABLE development (`TD`).
Namespace `TR3`.

* token-level printers mirroring `PR.prStmt`: `toksDrop`, `toksTruncate`, `toksMsck`, `toksUse`, `toksSet`, `toksAnalyze`, `toksAlter`
  (`toksAlterOp`, `toksColOrIdx`), `toksShowColumns`, `toksCreateAs`, the two constant statements `SHOW DATABASES` / `SHOW TABLES`;
* `FragRest d s` — the fragment of the remaining classes (a `Bool`);
* `FragAny d s` / `toksAny d s` — the union with `TQ3.FragQ3` (queries), `TDM3.FragStmt` (data-change statements, WITH) and
  `TD.FragCreate` (CREATE TABLE);
* `stopsAny d rest` — what may follow a statement of the union: nothing, or a `;` (a leaf with source `;` that continues nothing);
  `restAfter s rest` — what `pStatement` leaves: CREATE TABLE swallows one `;` itself (`parser.py:2017`), every other statement leaves it.
-/
open Lex PM Ast TP TS
namespace TR3

/-! ### tokens -/
/-- the ONE back-quoted token of a (schema-qualified) table name, as in the data-change development -/
def tbl (t : TableName) : Tok := TQ.tblTok t.schema t.name

/-- a configuration string (`_parse_config_string`: words joined by `.` and `-`) is split at its `.` and `-` characters -/
-- pieces: maximal runs without `.` / `-`, with the separator in front of each piece but the first
def cfgPieces : List Char → List Char → List (Char × List Char)
  | [], cur => [(' ', cur)]
  | c :: r, cur => if c == '.' || c == '-' then (' ', cur) :: (match cfgPieces r [] with
      | (_, p) :: more => (c, p) :: more
      | [] => [])
    else cfgPieces r (cur ++ [c])
/-- a piece the lexer reads as one word: letters, digits, `_`, not starting with a digit -/
def cfgWord (p : List Char) : Bool :=
  (match p with | c :: _ => !c.isDigit | [] => false) && p.all (fun c => c.isAlphanum || c == '_')
/-- (first piece, [(separator is `.`, piece)]); a string whose pieces are not all words (a quoted string, a number) is ONE token -/
def cfgSplit (s : String) : String × List (Bool × String) :=
  match cfgPieces s.toList [] with
  | (_, p) :: more =>
    if cfgWord p && more.all (fun x => cfgWord x.2) then (String.ofList p, more.map fun x => (x.1 == '.', String.ofList x.2)) else (s, [])
  | [] => (s, [])
/-- `digits.digits` -/
def isDecimal (s : String) : Bool :=
  match s.toList.span Char.isDigit with
  | (a, '.' :: b) => !a.isEmpty && !b.isEmpty && b.all Char.isDigit
  | _ => false
/-- one piece as a leaf, with the marks the lexer gives it (a decimal number: LITERAL | LITERAL_FLOAT; otherwise as `TD.srcTok`) -/
def cfgTok (s : String) : Tok := .single s.toList (if isDecimal s then LITERAL ||| Gen.mark_LITERAL_FLOAT else TD.srcMark s)
/-- what `configStringLoop` rebuilds from the pieces -/
def cfgJoin (w : String) : List (Bool × String) → String
  | [] => w
  | (dot, p) :: r => cfgJoin (w ++ (if dot then "." else "-") ++ p) r
def cfgTail : List (Bool × String) → List Tok
  | [] => []
  | (dot, p) :: r => opTok (if dot then "." else "-") :: cfgTok p :: cfgTail r
/-- the tokens of a configuration string -/
def toksCfg (s : String) : List Tok := cfgTok (cfgSplit s).1 :: cfgTail (cfgSplit s).2
/-- the string is what the parser rebuilds from its pieces -/
def cfgOK (s : String) : Bool := cfgJoin (cfgSplit s).1 (cfgSplit s).2 == s

def toksDrop (b : Bool) (t : TableName) : List Tok :=
  opTok "DROP" :: opTok "TABLE" :: (TD.flag b [opTok "IF", opTok "EXISTS"] ++ [tbl t])
def toksTruncate (t : TableName) : List Tok := [opTok "TRUNCATE", opTok "TABLE", tbl t]
def toksMsck (t : TableName) : List Tok := [opTok "MSCK", opTok "REPAIR", opTok "TABLE", tbl t]
def toksUse (s : String) : List Tok := [opTok "USE", TD.srcTok s]
/-- `SET k=v` -/
def toksSet (c : ConfigStr) : List Tok := opTok "SET" :: (toksCfg c.name ++ TD.eqTok :: toksCfg c.value)
/-- `ANALYZE TABLE t [PARTITION (…)] COMPUTE STATISTICS [FOR COLUMNS] [CACHE METADATA] [NOSCAN]` for HIVE; `ANALYZE TABLE t` otherwise
(the printer serves MYSQL that way and refuses the other dialects) -/
def toksAnalyze (d : Gen.D) (t : TableName) (p : Option (List Expr)) (fc cm ns : Bool) : List Tok :=
  opTok "ANALYZE" :: opTok "TABLE" :: tbl t ::
    (if d == .HIVE then
      TDM3.toksPart d noX p ++ (opTok "COMPUTE" :: opTok "STATISTICS" :: (TD.flag fc [opTok "FOR", opTok "COLUMNS"] ++
        (TD.flag cm [opTok "CACHE", opTok "METADATA"] ++ TD.flag ns [opTok "NOSCAN"])))
     else [])

/-- a column definition, a key or a foreign key (`PR.prColOrIdx`) -/
def toksColOrIdx (d : Gen.D) : ColOrIdx → List Tok
  | .col c => TD.toksDefCol d c
  | .idx i => TD.toksIndex i
  | .fk k => TD.toksFk k
/-- the bracket group of a partition list -/
def partGrp (d : Gen.D) (p : List Expr) : Tok := grp (TDM3.joinC (p.map (TQ3.toksE5 d noX)))
/-- one clause of ALTER TABLE (`PR.prAlterOp`) -/
def toksAlterOp (d : Gen.D) : AlterOp → List Tok
  | .addPartition b p => opTok "ADD" :: (TD.flag b [opTok "IF", opTok "NOT", opTok "EXISTS"] ++ [opTok "PARTITION", partGrp d p])
  | .add x => opTok "ADD" :: toksColOrIdx d x
  | .modify x => opTok "MODIFY" :: toksColOrIdx d x
  | .change f t => opTok "CHANGE" :: nameTok f :: toksColOrIdx d t
  | .renameColumn f t => [opTok "RENAME", opTok "COLUMN", nameTok f, opTok "TO", nameTok t]
  | .dropColumn c => [opTok "DROP", opTok "COLUMN", nameTok c]
  | .dropPartition b p => opTok "DROP" :: (TD.flag b [opTok "IF", opTok "EXISTS"] ++ [opTok "PARTITION", partGrp d p])
def toksAlterTail (d : Gen.D) : List AlterOp → List Tok
  | [] => []
  | o :: r => commaTok :: (toksAlterOp d o ++ toksAlterTail d r)
def toksAlterOps (d : Gen.D) : List AlterOp → List Tok
  | [] => []
  | o :: r => toksAlterOp d o ++ toksAlterTail d r
def toksAlter (d : Gen.D) (t : TableName) (ops : List AlterOp) : List Tok :=
  opTok "ALTER" :: opTok "TABLE" :: tbl t :: toksAlterOps d ops
/-- `SHOW COLUMNS FROM t, … [WHERE e]` -/
def toksShowColumns (d : Gen.D) (fr : List FromTable) (wh : Option Expr) : List Tok :=
  opTok "SHOW" :: opTok "COLUMNS" :: (TQ3.toksFrom4 d noX (some fr) ++ TQ3.toksOptE4 d noX "WHERE" wh)
/-- a query as a statement: `[WITH name AS (q), …]` in front of a query of the larger fragment `FragQ3` (`TDM3.FragStmt`, which contains the
queries of `FragQ3` with the empty clause; the second alternative only keeps `FragQ3` visible in the definition) -/
def toksSel (d : Gen.D) (q : Query) : List Tok := if TDM3.FragStmt d (.select q) then TDM3.toksStmt d (.select q) else TQ3.toksQ3 d noX q
def selOK (d : Gen.D) (q : Query) : Bool := TDM3.FragStmt d (.select q) || TQ3.FragQ3 d q
/-- `CREATE TABLE t AS [WITH …] <query>` -/
def toksCreateAs (d : Gen.D) (t : TableName) (ine : Bool) (q : Query) : List Tok :=
  opTok "CREATE" :: opTok "TABLE" :: ((if ine then [opTok "IF", opTok "NOT", opTok "EXISTS"] else []) ++ (tbl t :: opTok "AS" :: toksSel d q))

/-- **the token-level printer of the new statement classes** -/
def toksRest (d : Gen.D) : Stmt → List Tok
  | .dropTable b t => toksDrop b t
  | .truncate t => toksTruncate t
  | .msck t => toksMsck t
  | .use s => toksUse s
  | .set c => toksSet c
  | .analyze t p fc cm ns => toksAnalyze d t p fc cm ns
  | .alter t ops => toksAlter d t ops
  | .showDatabases => [opTok "SHOW", opTok "DATABASES"]
  | .showTables => [opTok "SHOW", opTok "TABLES"]
  | .showColumns fr wh => toksShowColumns d fr wh
  | .createTableAs t ine q => toksCreateAs d t ine q
  | _ => []

/-! ### the fragment -/
def colOrIdxOK (d : Gen.D) : ColOrIdx → Bool
  | .col c => TD.colOK d c
  | .idx i => TD.idxOK i.kind i
  | .fk k => TD.fkOK k
def alterOpOK (d : Gen.D) : AlterOp → Bool
  | .addPartition _ p => TDM3.partOK d (some p)
  | .add x => colOrIdxOK d x
  | .modify x => colOrIdxOK d x
  | .change f t => TD.nameOK f && colOrIdxOK d t
  | .renameColumn f t => TD.nameOK f && TD.nameOK t
  | .dropColumn c => TD.nameOK c
  | .dropPartition _ p => TDM3.partOK d (some p)
/-- **the fragment of the new statement classes** -/
def FragRest (d : Gen.D) : Stmt → Bool
  | .dropTable _ t => TDM3.tblOKD t
  | .truncate t => TDM3.tblOKD t
  | .msck t => TDM3.tblOKD t
  | .use _ => true
  | .set c => cfgOK c.name && cfgOK c.value
  | .analyze t p fc cm ns => TDM3.tblOKD t && (if d == .HIVE then TDM3.partOK d p else p.isNone && !fc && !cm && !ns)
  | .alter t ops => TDM3.tblOKD t && !ops.isEmpty && ops.all (alterOpOK d)
  | .showDatabases => true
  | .showTables => true
  | .showColumns fr wh => TQ3.fromOK4 d (some fr) && TQ3.FragO4 d wh
  | .createTableAs t _ q => TDM3.tblOKD t && selOK d q
  | _ => false

/-! ### the union -/
/-- **the union of all statement fragments**: a query of `FragQ3`, a statement of `TDM3.FragStmt` (DELETE, UPDATE, INSERT, WITH … over
`FragQ3` / `FragE5`; it contains `TDM.FragStmt`, the same over `FragQ`: `TDM3.fragStmt_sub`), a CREATE TABLE of `TD.FragCreate`, or a
statement of the new classes -/
def FragAny (d : Gen.D) (s : Stmt) : Bool :=
  (match s with
   | .select q => TQ3.FragQ3 d q
   | .createTable c => TD.FragCreate d c
   | _ => false) || TDM3.FragStmt d s || FragRest d s
/-- **the token-level printer of the union** (on `TDM.FragStmt` it is `TDM.toksStmt`: `TDM3.fragStmt_sub`) -/
def toksAny (d : Gen.D) : Stmt → List Tok
  | .select q => toksSel d q
  | .createTable c => TD.toksCreate d c
  | .insertValues h vs => TDM3.toksStmt d (.insertValues h vs)
  | .insertSelect h q => TDM3.toksStmt d (.insertSelect h q)
  | .update ws t sets wh ob lm => TDM3.toksStmt d (.update ws t sets wh ob lm)
  | .delete t wh ob lm => TDM3.toksStmt d (.delete t wh ob lm)
  | s => toksRest d s

/-- what may follow a statement: nothing, or a `;` that continues nothing -/
def stopsAny (d : Gen.D) (rest : List Tok) : Bool := TDM.stopsStmt d rest && TD.endsC rest
/-- what `pStatement` leaves of `rest`: CREATE TABLE swallows one `;` itself -/
def restAfter (s : Stmt) (rest : List Tok) : List Tok :=
  match s with
  | .createTable _ => (moveStr rest ";").2
  | _ => rest

end TR3
