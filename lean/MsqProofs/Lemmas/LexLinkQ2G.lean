import MsqProofs.Lemmas.LexLinkQ2C
/-!
# The lexer link for the larger fragment: GROUP BY with GROUPING SETS / WITH CUBE / WITH ROLLUP, and the record of a SELECT
-/
namespace LL2
open Lex Spec C05 C06 C09 Ast TP TS LexLink TQ2
open LLD (pc sp pc_join)

section
variable {d : Gen.D} {K : QKit}

theorem startsWith_paren (l : List Char) : (String.ofList l).startsWith "(" = decide (l.head? = some '(') := by
  rw [Bool.eq_iff_iff]
  simp only [String.startsWith_string_iff, String.toList_ofList, decide_eq_true_eq]
  have : ("(" : String).toList = ['('] := rfl
  rw [this]
  cases l with
  | nil => simp
  | cons c r => simp [eq_comm]

theorem grp_has (x : List Tok) : (grp x).has Lex.PAREN = true := by
  show (Lex.PAREN &&& Lex.PAREN != 0) = true
  decide

/-- under `setElemOK` the first character of the element's text is `(` exactly when its first token is a bracket group -/
theorem head_iff (e : Expr) (hs : setElemOK e = true) :
    ((wrapL e 8 (prE4L d e)).head? = some '(') ↔ headIsGrp (wrapT (noX e) e 8 (toksE4 d noX e)) = true := by
  by_cases hlv : PR.lvl e > 8
  · have e1 : wrapL e 8 (prE4L d e) = '(' :: (prE4L d e ++ [')']) := by unfold wrapL; simp [hlv]
    have e2 : wrapT (noX e) e 8 (toksE4 d noX e) = [grp (toksE4 d noX e)] := by unfold wrapT; simp [hlv, noX]
    rw [e1, e2]
    simp [headIsGrp, grp_has]
  · have e1 : wrapL e 8 (prE4L d e) = prE4L d e := by unfold wrapL; simp [hlv]
    have e2 : wrapT (noX e) e 8 (toksE4 d noX e) = toksE4 d noX e := by unfold wrapT; simp [hlv, noX]
    rw [e1, e2]
    simp only [setElemOK, hlv, decide_false, Bool.false_or] at hs
    cases e <;> try (simp at hs; done)
    case column t c =>
      have hn : ∀ x : String, (nameTok x).has Lex.PAREN = false := fun x => by simp [nameTok, Tok.has, Tok.marks]; decide
      cases t <;> simp [prE4L, toksE4, headIsGrp, hn]
    case subValue vs => simp [prE4L, toksE4, headIsGrp, grp_has]
    case subQuery q => simp [prE4L, toksE4, headIsGrp, grp_has]

theorem set_good (g : List Expr) (hg : ∀ e ∈ g, GE4 d K e) (hs : ∀ e, g = [e] → setElemOK e = true) :
    Pc K (setOfL (prList84LL d g)) (toksSet4 d noX g) := by
  match g, hg, hs with
  | [], _, _ => exact (Pc.nil (K := K)).paren.congr (by simp [setOfL, prList84LL, joinLL]) (by simp [toksSet4, grp_eq])
  | [e], hg, hs =>
    have ge := (hg e (by simp)).pcw 8
    have hi := head_iff (d := d) e (hs e rfl)
    by_cases hh : (wrapL e 8 (prE4L d e)).head? = some '('
    · exact ge.paren.congr (by simp [setOfL, prList84LL, hh]) (by simp [toksSet4, hi.mp hh, grp_eq])
    · have ht : headIsGrp (wrapT (noX e) e 8 (toksE4 d noX e)) = false := by
        cases h : headIsGrp (wrapT (noX e) e 8 (toksE4 d noX e)) with
        | false => rfl
        | true => exact absurd (hi.mpr h) hh
      exact ge.congr (by simp [setOfL, prList84LL, hh]) (by simp [toksSet4, ht])
  | e1 :: e2 :: es, hg, _ =>
    exact (pc_args8 (e1 :: e2 :: es) hg).paren.congr (by simp [setOfL, prList84LL]) (by simp [toksSet4, toksArgs4, toksArgsTail4, grp_eq])

theorem sets4LL_eq (l : List (List Expr)) : sets4LL d l = l.map (fun g => setOfL (prList84LL d g)) := by
  induction l with
  | nil => simp [sets4LL]
  | cons g r ih => simp [sets4LL, ih]

theorem pr_sets (l : List (List Expr)) : (∀ g ∈ l, ∀ e ∈ g, GE4 d K e) → PR.prSets d l = .ok ((sets4LL d l).map String.ofList) := by
  induction l with
  | nil => intro _; rfl
  | cons g r ih =>
    intro h
    have hg := h g (by simp)
    have h2 := ih fun y hy => h y (by simp [hy])
    have e3 : (", " : String).toList = [',', ' '] := rfl
    match g, hg with
    | [], _ =>
      simp only [PR.prSets, PR.prList8, h2, Except.map, bind, Except.bind, pure, Except.pure, sets4LL, List.map_cons]
      refine congrArg Except.ok ?_
      congr 1
      all_goals (apply ofList_eq; simp [toString, String.toList_append, toList_joinS, setOfL, prList84LL, joinLL, PR.joinS])
    | [e], hg =>
      have he := (hg e (by simp)).pr
      simp only [PR.prSets, PR.prList8, he, h2, Except.map, bind, Except.bind, pure, Except.pure, sets4LL, List.map_cons, wrap_ofList,
        startsWith_paren]
      refine congrArg Except.ok ?_
      congr 1
      apply ofList_eq
      by_cases hh : (wrapL e 8 (prE4L d e)).head? = some '('
      · simp [toString, String.toList_append, String.toList_ofList, setOfL, prList84LL, hh]
      · simp [String.toList_ofList, setOfL, prList84LL, hh]
    | e1 :: e2 :: es, hg =>
      have hp := pr_list8 (e1 :: e2 :: es) hg
      simp only [prList84LL, List.map_cons] at hp
      simp only [PR.prSets, hp, h2, Except.map, bind, Except.bind, pure, Except.pure, sets4LL, List.map_cons]
      refine congrArg Except.ok ?_
      congr 1
      apply ofList_eq
      simp [toString, String.toList_append, String.toList_ofList, toList_joinS, setOfL, prList84LL, e3, joinLL]

def setsPieces (d : Gen.D) : Option (List (List Expr)) → List (List Char)
  | none => []
  | some l => [kwL "GROUPING" ++ ' ' :: (kwL "SETS" ++ ' ' :: '(' :: (joinLL [',', ' '] (sets4LL d l) ++ [')']))]
def gtailPieces (d : Gen.D) (sets : Option (List (List Expr))) (cube rollup : Bool) : List (List Char) :=
  setsPieces d sets ++ ((if cube then [kwL "WITH" ++ ' ' :: kwL "CUBE"] else []) ++ (if rollup then [kwL "WITH" ++ ' ' :: kwL "ROLLUP"] else []))
theorem groupL_eq (keys : List (List Char)) (sets : Option (List (List Expr))) (cube rollup : Bool) :
    groupL keys (setsOpt4L d sets) cube rollup =
      "GROUP".toList ++ ' ' :: ("BY".toList ++ ' ' :: (joinLL [',', ' '] keys ++ pc (gtailPieces d sets cube rollup))) := by
  cases sets <;> cases cube <;> cases rollup <;> simp [groupL, setsOpt4L, setsOptL, gtailPieces, setsPieces, pc]

theorem toksSetsTail4_eq : ∀ (x : List Expr) (xs : List (List Expr)),
    toksSetsTail4 d noX (x :: xs) = TS.commaTok :: (toksSet4 d noX x ++ toksSetsTail4 d noX xs) := by
  intro x xs; simp [toksSetsTail4, TS.commaTok, TP2.commaTok]

theorem gtail_good (hK : QW2 K) (sets : Option (List (List Expr))) (cube rollup : Bool)
    (hsets : ∀ l, sets = some l → ∀ g ∈ l, (∀ e ∈ g, GE4 d K e) ∧ (∀ e, g = [e] → setElemOK e = true)) :
    SegP K ' ' (gtailPieces d sets cube rollup) (toksSetsOpt4 d noX sets ++
      ((if cube then [opTok "WITH", opTok "CUBE"] else []) ++ (if rollup then [opTok "WITH", opTok "ROLLUP"] else []))) := by
  have w2 := pc_w2 hK
  have hW := w2 "WITH" (by simp [q2Words])
  have hS : SegP K ' ' (setsPieces d sets) (toksSetsOpt4 d noX sets) := by
    cases sets with
    | none => exact SegP.nil _
    | some l =>
      have hall := hsets l rfl
      have hin : Pc K (joinLL [',', ' '] (sets4LL d l)) (toksSets4 d noX l) := by
        rw [sets4LL_eq]
        cases l with
        | nil => simpa [joinLL, toksSets4] using (Pc.nil (K := K))
        | cons g r =>
          exact (Pc.commaList (fun g => setOfL (prList84LL d g)) (toksSet4 d noX) (toksSetsTail4 d noX) (by simp [toksSetsTail4])
            toksSetsTail4_eq r g fun y hy => set_good y (hall y hy).1 (hall y hy).2).congr rfl (by simp [toksSets4])
      exact SegP.one _ (((w2 "GROUPING" (by simp [q2Words])).sep ((w2 "SETS" (by simp [q2Words])).sep hin.paren)).congr
        (by simp) (by simp [toksSetsOpt4, grp_eq]))
  have hC := segp_if cube ((hW.sep (w2 "CUBE" (by simp [q2Words]))).congr (u' := kwL "WITH" ++ ' ' :: kwL "CUBE") (by simp) rfl)
  have hR := segp_if rollup ((hW.sep (w2 "ROLLUP" (by simp [q2Words]))).congr (u' := kwL "WITH" ++ ' ' :: kwL "ROLLUP") (by simp) rfl)
  exact SegP.append sp hS (SegP.append sp hC hR)

theorem cl_group (hK : QW2 K) (gb : Option GroupBy)
    (hne : ∀ cols sets cube rollup, gb = some (.mk cols sets cube rollup) → cols ≠ [] ∨ sets ≠ none)
    (hcols : ∀ cols sets cube rollup, gb = some (.mk cols sets cube rollup) → ∀ e ∈ cols, GE4 d K e)
    (hsets : ∀ cols l cube rollup, gb = some (.mk cols (some l) cube rollup) → ∀ g ∈ l, (∀ e ∈ g, GE4 d K e) ∧ (∀ e, g = [e] → setElemOK e = true)) :
    CL K (PR.prOptGroup d gb) (group4LL d gb) (toksGroup4 d noX gb) := by
  cases gb with
  | none => exact ⟨Seg.nil _, rfl, fun x hx => by simp [group4LL] at hx⟩
  | some g =>
    obtain ⟨cols, sets, cube, rollup⟩ := g
    have hc := hcols cols sets cube rollup rfl
    have t := gtail_good hK sets cube rollup (fun l hl g hg => by subst hl; exact hsets cols l cube rollup rfl g hg)
    have hkeys : Pc K (joinLL [',', ' '] (prList84LL d cols) ++ pc (gtailPieces d sets cube rollup))
        (toksArgs4 d noX 8 cols ++ (toksSetsOpt4 d noX sets ++
          ((if cube then [opTok "WITH", opTok "CUBE"] else []) ++ (if rollup then [opTok "WITH", opTok "ROLLUP"] else [])))) := by
      refine ⟨?_, ((pc_args8 cols hc).tail t).q⟩
      cases cols with
      | cons e es => exact ((pc_args8 (e :: es) hc).tail t).lx
      | nil =>
        have hs : sets ≠ none := by
          rcases hne [] sets cube rollup rfl with h | h
          · exact absurd rfl h
          · exact h
        have hp : gtailPieces d sets cube rollup ≠ [] := by
          cases sets with
          | none => exact absurd rfl hs
          | some l => simp [gtailPieces, setsPieces]
        rw [pc_join _ hp]
        simpa [prList84LL, joinLL, toksArgs4] using Lx.blank (t.seg.lx hp)
    have hg := ((pc_cw "GROUP" (by simp [clauseWords])).sep ((pc_cw "BY" (by simp [clauseWords])).sep hkeys)).congr
      (u' := groupL (prList84LL d cols) (setsOpt4L d sets) cube rollup) (ts' := toksGroup4 d noX (some (.mk cols sets cube rollup)))
      (by simp only [groupL_eq]) (by simp [toksGroup4])
    refine ⟨Seg.one _ hg.lx, ?_, fun x hx => ?_⟩
    · have hps : (match sets with
          | some l => (PR.prSets d l).map fun x => " GROUPING SETS (" ++ PR.joinS ", " x ++ ")"
          | none => (pure "" : PR.P)) = .ok (String.ofList (setsOpt4L d sets)) := by
        cases sets with
        | none => rfl
        | some l =>
          have := pr_sets (K := K) l (fun g hg => (hsets cols l cube rollup rfl g hg).1)
          simp only [this, Except.map, setsOpt4L, setsOptL]
          refine congrArg Except.ok ?_
          apply ofList_eq
          have e3 : (", " : String).toList = [',', ' '] := rfl
          simp [String.toList_append, toList_joinS, e3]
      have hpl := pr_list8 cols hc
      cases sets with
      | none =>
        simp only [PR.prOptGroup, PR.prGroupBy, hpl, bind, Except.bind, pure, Except.pure, Except.map, group4LL, List.map_cons, List.map_nil]
        refine congrArg Except.ok ?_
        congr 1
        apply ofList_eq
        have e3 : (", " : String).toList = [',', ' '] := rfl
        cases cube <;> cases rollup <;>
          simp [toString, String.toList_append, toList_joinS, e3, groupL, setsOpt4L]
      | some l =>
        have := pr_sets (K := K) l (fun g hg => (hsets cols l cube rollup rfl g hg).1)
        simp only [PR.prOptGroup, PR.prGroupBy, hpl, this, bind, Except.bind, pure, Except.pure, Except.map, group4LL, List.map_cons, List.map_nil]
        refine congrArg Except.ok ?_
        congr 1
        apply ofList_eq
        have e3 : (", " : String).toList = [',', ' '] := rfl
        cases cube <;> cases rollup <;>
          simp [toString, String.toList_append, toList_joinS, e3, groupL, setsOpt4L, setsOptL]
    · simp only [group4LL, List.mem_singleton] at hx
      exact hx ▸ hg.q

/-- **the record of a single SELECT** from the records of its thirteen clauses; `hG1` / `hG2`: the printer's dialect guards -/
theorem gs_select (dist : Bool) (cols : List (Expr × Option String)) (fr : Option (List FromTable)) (lats : List Lateral) (js : List Join)
    (wh : Option Expr) (gb : Option GroupBy) (hv : Option Expr) (ob sb : Option (List OrderItem)) (db cb : Option (List Expr))
    (lm : Option (Int × Option Int))
    (hG1 : (sb.isSome || db.isSome || cb.isSome) = true → d = .HIVE) (hG2 : lats ≠ [] → d = .HIVE ∨ d = .DEFAULT)
    (hcols : Lx (joinLL [',', ' '] (prCols4LL d cols)) (toksCols4 d noX cols) ∧
      PR.prCols d cols = .ok ((prCols4LL d cols).map String.ofList) ∧ K.Q (joinLL [',', ' '] (prCols4LL d cols)))
    (cfr : CL K (PR.prOptFrom d fr) (from4LL d fr) (toksFrom4 d noX fr))
    (clt : CL K (PR.prLateralList d lats) (lats4LL d lats) (toksLats4 d noX lats))
    (cjs : CL K (PR.prJoinList d js) (joins4LL d js) (toksJoins4 d noX js))
    (cwh : CL K (PR.prOptWhere d wh) (opt4LL d "WHERE" wh) (toksOptE4 d noX "WHERE" wh))
    (cgb : CL K (PR.prOptGroup d gb) (group4LL d gb) (toksGroup4 d noX gb))
    (chv : CL K (PR.prOptHaving d hv) (opt4LL d "HAVING" hv) (toksOptE4 d noX "HAVING" hv))
    (cob : CL K (PR.prOptOrder d ob) (order4LL d "ORDER" ob) (toksOrder4 d noX ob))
    (csb : CL K (PR.prOptSort d sb) (order4LL d "SORT" sb) (toksSort4 d noX sb))
    (cdb : CL K (PR.prOptDistribute d db) (by4LL d "DISTRIBUTE" db) (toksBy4 d noX "DISTRIBUTE" db))
    (ccb : CL K (PR.prOptCluster d cb) (by4LL d "CLUSTER" cb) (toksBy4 d noX "CLUSTER" cb))
    (clm : CL K (.ok ((limitC lm).map fun p => String.ofList p.1)) ((limitC lm).map (·.1)) (toksLimit lm)) :
    GS4 d K (.mk (some []) dist cols fr lats js wh gb hv ob sb db cb lm) := by
  have e4 : ("DISTINCT " : String).toList = "DISTINCT".toList ++ [' '] := rfl
  have hc : Pc K _ _ := ⟨hcols.1, hcols.2.2⟩
  have hsel : Pc K ("SELECT".toList ++ ' ' :: ((if dist then "DISTINCT ".toList else []) ++ joinLL [',', ' '] (prCols4LL d cols)))
      (opTok "SELECT" :: ((if dist then [opTok "DISTINCT"] else []) ++ toksCols4 d noX cols)) := by
    cases dist with
    | false =>
      simp only [Bool.false_eq_true, ↓reduceIte, List.nil_append]
      exact (pc_cw "SELECT" (by simp [clauseWords])).sep hc
    | true =>
      simp only [↓reduceIte]
      rw [e4]
      exact ((pc_cw "SELECT" (by simp [clauseWords])).sep ((pc_cw "DISTINCT" (by simp [clauseWords])).sep hc)).congr
        (by simp only [List.append_assoc, List.singleton_append]) rfl
  have s0 := (SegP.cons nl hsel (SegP.append nl cfr.segp (SegP.append nl clt.segp (SegP.append nl cjs.segp (SegP.append nl cwh.segp
    (SegP.append nl cgb.segp (SegP.append nl chv.segp (SegP.append nl cob.segp (SegP.append nl csb.segp (SegP.append nl cdb.segp
      (SegP.append nl ccb.segp clm.segp))))))))))).pc nl
  refine ⟨Lx.congr s0.lx (by simp only [prS4L]) (by simp only [toksS4, List.cons_append, List.append_assoc]), ?_,
    by simpa only [prS4L] using s0.q⟩
  · have e_guard : PR.prSGuard d lats sb db cb = .ok () := by
      unfold PR.prSGuard
      have h1 : (d != Gen.D.HIVE && (sb.isSome || db.isSome || cb.isSome)) = false := by
        cases hb : (sb.isSome || db.isSome || cb.isSome) with
        | false => simp
        | true => rw [hG1 hb]; rfl
      have h2 : (!(d == Gen.D.HIVE || d == Gen.D.DEFAULT) && !lats.isEmpty) = false := by
        cases lats with
        | nil => simp
        | cons a b => rcases hG2 (by simp) with h | h <;> rw [h] <;> rfl
      simp only [h1, h2, Bool.false_eq_true, if_false]
    have e_hive : PR.prHive d sb db cb =
        .ok ((order4LL d "SORT" sb ++ (by4LL d "DISTRIBUTE" db ++ by4LL d "CLUSTER" cb)).map String.ofList) := by
      unfold PR.prHive
      by_cases hd : d = .HIVE
      · subst hd
        simp only [beq_self_eq_true, if_true, csb.pr, cdb.pr, ccb.pr, bind, Except.bind, pure, Except.pure, List.map_append, List.append_assoc]
      · have hb : (sb.isSome || db.isSome || cb.isSome) = false := by
          cases hb : (sb.isSome || db.isSome || cb.isSome) with
          | false => rfl
          | true => exact absurd (hG1 hb) hd
        have hne : (d == Gen.D.HIVE) = false := by simpa using hd
        simp only [Bool.or_eq_false_iff, Option.isSome_eq_false_iff, Option.isNone_iff_eq_none] at hb
        obtain ⟨⟨rfl, rfl⟩, rfl⟩ := hb
        simp [hne, order4LL, by4LL]
        rfl
    have hlim : ∀ pr, [(PR.limitSrc pr).toList] = (limitC (some pr)).map (·.1) := by
      intro pr
      have := congrArg (List.map String.toList) (limit_eq (some pr))
      simpa [List.map_map, Function.comp_def, String.toList_ofList] using this
    have hlim0 : (limitC none).map (·.1) = [] := rfl
    have e0 : ("" : String).toList = [] := rfl
    have hhead : (PR.joinS " " ("SELECT" :: ((if dist = true then ["DISTINCT"] else []) ++
        [PR.joinS ", " (List.map String.ofList (prCols4LL d cols))]))).toList =
        "SELECT".toList ++ ' ' :: ((if dist then "DISTINCT ".toList else []) ++ joinLL [',', ' '] (prCols4LL d cols)) := by
      rw [toList_joinS]
      cases dist <;> simp [joinLL, toList_joinS]
    rw [PR.prS_eq]
    cases lm <;>
    · simp only [PR.prWithPrefix, List.isEmpty_nil, if_true, e_guard, PR.prSRest, hcols.2.1, cfr.pr, clt.pr, cjs.pr,
        cwh.pr, cgb.pr, chv.pr, cob.pr, e_hive, bind, Except.bind, pure, Except.pure]
      refine ok_ofList ?_
      rw [String.toList_append, e0, List.nil_append, toList_joinS]
      simp only [prS4L]
      congr 1
      simp only [List.map_append, List.map_cons, List.map_nil, map_map_ofList, List.append_assoc, List.cons_append, List.nil_append,
        hlim, hlim0, hhead, List.append_nil]

end
end LL2
