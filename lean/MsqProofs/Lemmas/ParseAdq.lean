import MsqProofs.Lemmas.ParseAdqDefs
import MsqProofs.Lemmas.ParseOut
/-! GENERATED by tools/gen_out.py — C07/C19 fuel adequacy: the mutual block (the third answer of `outF_all`), function by function; the strictly consuming functions of the block -/
open Lex PM Ast
namespace PM

variable (d : Gen.D)

theorem adqF_all (n : Nat) : AdqF d n :=
  have h := outF_all d n
  { pElement := fun x0 => (h.pElement x0).2,
    pParen := fun x0 x1 => (h.pParen x0 x1).2,
    pNamed := fun x0 x1 x2 hp => ((h.pNamed x0 x1 x2).2 hp).2,
    pQualified := fun x0 x1 x2 hp => ((h.pQualified x0 x1 x2).2 hp).2,
    pIndex := fun x0 x1 => (h.pIndex x0 x1).2,
    pFuncIdx := fun x0 => (h.pFuncIdx x0).2,
    pFunc := fun x0 => (h.pFunc x0).2,
    pIfCall := fun x0 => (h.pIfCall x0).2,
    pFirstDiscard := fun x0 => (h.pFirstDiscard x0).2,
    pFirstArg := fun x0 => (h.pFirstArg x0).2,
    pCall := fun x0 x1 x2 => (h.pCall x0 x1 x2).2,
    pArgs := fun x0 x1 => (h.pArgs x0 x1).2,
    pCase := fun x0 => (h.pCase x0).2,
    pElseEnd := fun x0 => (h.pElseEnd x0).2,
    pWhens := fun x0 x1 => (h.pWhens x0 x1).2,
    pUnary := fun x0 => (h.pUnary x0).2,
    pCompute := fun x0 => (h.pCompute x0).2,
    pComputeLoop := fun x0 x1 x2 => (h.pComputeLoop x0 x1 x2).2,
    pKeyword := fun x0 x1 => (h.pKeyword x0 x1).2,
    pKwFirst := fun x0 x1 => (h.pKwFirst x0 x1).2,
    pKwRest := fun x0 x1 x2 => (h.pKwRest x0 x1 x2).2,
    pKwBody := fun x0 x1 x2 x3 => (h.pKwBody x0 x1 x2 x3).2,
    pBetween := fun x0 x1 x2 => (h.pBetween x0 x1 x2).2,
    pInBody := fun x0 x1 x2 => (h.pInBody x0 x1 x2).2,
    pSplit := fun x0 x1 x2 => (h.pSplit x0 x1 x2).2,
    pCompare := fun x0 => (h.pCompare x0).2,
    pCompareLoop := fun x0 x1 => (h.pCompareLoop x0 x1).2,
    pNot := fun x0 => (h.pNot x0).2,
    pAnd := fun x0 => (h.pAnd x0).2,
    pAndLoop := fun x0 x1 => (h.pAndLoop x0 x1).2,
    pXor := fun x0 => (h.pXor x0).2,
    pXorLoop := fun x0 x1 => (h.pXorLoop x0 x1).2,
    pOr := fun x0 => (h.pOr x0).2,
    pOrLoop := fun x0 x1 => (h.pOrLoop x0 x1).2,
    pSubQuery := fun x0 => (h.pSubQuery x0).2,
    pCast := fun x0 => (h.pCast x0).2,
    pExtract := fun x0 => (h.pExtract x0).2,
    pExtractTail := fun x0 x1 => (h.pExtractTail x0 x1).2,
    pWindow := fun x0 => (h.pWindow x0).2,
    pWindowBody := fun x0 x1 => (h.pWindowBody x0 x1).2,
    pPartitionBy := fun x0 => (h.pPartitionBy x0).2,
    pComputeList := fun x0 x1 => (h.pComputeList x0 x1).2,
    pOrderItem := fun x0 => (h.pOrderItem x0).2,
    pOrderList := fun x0 x1 => (h.pOrderList x0 x1).2,
    pOrderByOpt := fun x0 => (h.pOrderByOpt x0).2,
    pSelectCol := fun x0 => (h.pSelectCol x0).2,
    pSelectCols := fun x0 x1 => (h.pSelectCols x0 x1).2,
    pTableExpr := fun x0 => (h.pTableExpr x0).2,
    pFromTable := fun x0 => (h.pFromTable x0).2,
    pFromTables := fun x0 x1 => (h.pFromTables x0 x1).2,
    pJoin := fun x0 => (h.pJoin x0).2,
    pJoinRule := fun x0 x1 x2 => (h.pJoinRule x0 x1 x2).2,
    pJoins := fun x0 x1 x2 x3 => (h.pJoins x0 x1 x2 x3).2,
    pOptOr := fun x0 x1 => (h.pOptOr x0 x1).2,
    pGroupingElem := fun x0 => (h.pGroupingElem x0).2,
    pClosedEach := fun x0 x1 => (h.pClosedEach x0 x1).2,
    pGroupingElems := fun x0 x1 => (h.pGroupingElems x0 x1).2,
    pGroupingSets := fun x0 => (h.pGroupingSets x0).2,
    pGroupBy := fun x0 => (h.pGroupBy x0).2,
    pGroupCols := fun x0 => (h.pGroupCols x0).2,
    pGroupSetsOpt := fun x0 => (h.pGroupSetsOpt x0).2,
    pWithTable := fun x0 => (h.pWithTable x0).2,
    pWithBody := fun x0 x1 => (h.pWithBody x0 x1).2,
    pWithTables := fun x0 x1 => (h.pWithTables x0 x1).2,
    pWith := fun x0 => (h.pWith x0).2,
    pSelectBody := fun x0 x1 x2 x3 => (h.pSelectBody x0 x1 x2 x3).2,
    pFromOpt := fun x0 => (h.pFromOpt x0).2,
    pSelectRest := fun x0 x1 x2 x3 x4 x5 => (h.pSelectRest x0 x1 x2 x3 x4 x5).2,
    pSelectTail := fun x0 x1 x2 x3 x4 x5 x6 => (h.pSelectTail x0 x1 x2 x3 x4 x5 x6).2,
    pWhereGroup := fun x0 => (h.pWhereGroup x0).2,
    pHavingOrder := fun x0 => (h.pHavingOrder x0).2,
    pHiveClauses := fun x0 => (h.pHiveClauses x0).2,
    pSortBy := fun x0 => (h.pSortBy x0).2,
    pByList := fun x0 x1 => (h.pByList x0 x1).2,
    pLateral := fun x0 => (h.pLateral x0).2,
    pLaterals := fun x0 x1 x2 x3 => (h.pLaterals x0 x1 x2 x3).2,
    pSingle := fun x0 x1 => (h.pSingle x0 x1).2,
    pSingleParen := fun x0 x1 x2 x3 => (h.pSingleParen x0 x1 x2 x3).2,
    pSelectStmt := fun x0 x1 => (h.pSelectStmt x0 x1).2,
    pUnions := fun x0 x1 x2 => (h.pUnions x0 x1 x2).2 }

theorem pParen_adq (n : Nat) : ∀ x0 x1, 2 + (adqW x0 + adqWL x1) ≤ n → pParen d n x0 x1 ≠ .error .fuel := (adqF_all d n).pParen
theorem pNamed_adq (n : Nat) : ∀ x0 x1 x2, Sfx x1 x2 → 4 + (adqWL x2) ≤ n → pNamed d n x0 x1 x2 ≠ .error .fuel := (adqF_all d n).pNamed
theorem pQualified_adq (n : Nat) : ∀ x0 x1 x2, Sfx x1 x2 → 3 + (adqWL x2) ≤ n → pQualified d n x0 x1 x2 ≠ .error .fuel := (adqF_all d n).pQualified
theorem pIndex_adq (n : Nat) : ∀ x0 x1, 1 + (adqWL x1) ≤ n → pIndex d n x0 x1 ≠ .error .fuel := (adqF_all d n).pIndex
theorem pFirstDiscard_adq (n : Nat) : ∀ x0, 15 + (adqWL x0) ≤ n → pFirstDiscard d n x0 ≠ .error .fuel := (adqF_all d n).pFirstDiscard
theorem pFirstArg_adq (n : Nat) : ∀ x0, 15 + (adqWL x0) ≤ n → pFirstArg d n x0 ≠ .error .fuel := (adqF_all d n).pFirstArg
theorem pCall_adq (n : Nat) : ∀ x0 x1 x2, 1 + (adqWL x2) ≤ n → pCall d n x0 x1 x2 ≠ .error .fuel := (adqF_all d n).pCall
theorem pArgs_adq (n : Nat) : ∀ x0 x1, 1 + (adqWL x1) ≤ n → pArgs d n x0 x1 ≠ .error .fuel := (adqF_all d n).pArgs
theorem pElseEnd_adq (n : Nat) : ∀ x0, 1 + (adqWL x0) ≤ n → pElseEnd d n x0 ≠ .error .fuel := (adqF_all d n).pElseEnd
theorem pWhens_adq (n : Nat) : ∀ x0 x1, 1 + (adqWL x1) ≤ n → pWhens d n x0 x1 ≠ .error .fuel := (adqF_all d n).pWhens
theorem pComputeLoop_adq (n : Nat) : ∀ x0 x1 x2, 1 + (adqWL x2) ≤ n → pComputeLoop d n x0 x1 x2 ≠ .error .fuel := (adqF_all d n).pComputeLoop
theorem pKwFirst_adq (n : Nat) : ∀ x0 x1, 8 + (adqWL x1) ≤ n → pKwFirst d n x0 x1 ≠ .error .fuel := (adqF_all d n).pKwFirst
theorem pKwRest_adq (n : Nat) : ∀ x0 x1 x2, 1 + (adqWL x2) ≤ n → pKwRest d n x0 x1 x2 ≠ .error .fuel := (adqF_all d n).pKwRest
theorem pKwBody_adq (n : Nat) : ∀ x0 x1 x2 x3, 9 + (adqWL x3) ≤ n → pKwBody d n x0 x1 x2 x3 ≠ .error .fuel := (adqF_all d n).pKwBody
theorem pBetween_adq (n : Nat) : ∀ x0 x1 x2, 8 + (adqWL x2) ≤ n → pBetween d n x0 x1 x2 ≠ .error .fuel := (adqF_all d n).pBetween
theorem pInBody_adq (n : Nat) : ∀ x0 x1 x2, 2 + (adqWL x2) ≤ n → pInBody d n x0 x1 x2 ≠ .error .fuel := (adqF_all d n).pInBody
theorem pCompareLoop_adq (n : Nat) : ∀ x0 x1, 1 + (adqWL x1) ≤ n → pCompareLoop d n x0 x1 ≠ .error .fuel := (adqF_all d n).pCompareLoop
theorem pAndLoop_adq (n : Nat) : ∀ x0 x1, 1 + (adqWL x1) ≤ n → pAndLoop d n x0 x1 ≠ .error .fuel := (adqF_all d n).pAndLoop
theorem pXorLoop_adq (n : Nat) : ∀ x0 x1, 1 + (adqWL x1) ≤ n → pXorLoop d n x0 x1 ≠ .error .fuel := (adqF_all d n).pXorLoop
theorem pOrLoop_adq (n : Nat) : ∀ x0 x1, 1 + (adqWL x1) ≤ n → pOrLoop d n x0 x1 ≠ .error .fuel := (adqF_all d n).pOrLoop
theorem pExtractTail_adq (n : Nat) : ∀ x0 x1, 1 + (adqWL x1) ≤ n → pExtractTail d n x0 x1 ≠ .error .fuel := (adqF_all d n).pExtractTail
theorem pWindowBody_adq (n : Nat) : ∀ x0 x1, 2 + (adqWL x1) ≤ n → pWindowBody d n x0 x1 ≠ .error .fuel := (adqF_all d n).pWindowBody
theorem pPartitionBy_adq (n : Nat) : ∀ x0, 1 + (adqWL x0) ≤ n → pPartitionBy d n x0 ≠ .error .fuel := (adqF_all d n).pPartitionBy
theorem pComputeList_adq (n : Nat) : ∀ x0 x1, 1 + (adqWL x1) ≤ n → pComputeList d n x0 x1 ≠ .error .fuel := (adqF_all d n).pComputeList
theorem pOrderItem_adq (n : Nat) : ∀ x0, 8 + (adqWL x0) ≤ n → pOrderItem d n x0 ≠ .error .fuel := (adqF_all d n).pOrderItem
theorem pOrderList_adq (n : Nat) : ∀ x0 x1, 1 + (adqWL x1) ≤ n → pOrderList d n x0 x1 ≠ .error .fuel := (adqF_all d n).pOrderList
theorem pJoinRule_adq (n : Nat) : ∀ x0 x1 x2, 2 + (adqWL x2) ≤ n → pJoinRule d n x0 x1 x2 ≠ .error .fuel := (adqF_all d n).pJoinRule
theorem pJoins_adq (n : Nat) : ∀ x0 x1 x2 x3, 2 + (adqWL x3) ≤ n → pJoins d n x0 x1 x2 x3 ≠ .error .fuel := (adqF_all d n).pJoins
theorem pGroupingElem_adq (n : Nat) : ∀ x0, 8 + (adqWL x0) ≤ n → pGroupingElem d n x0 ≠ .error .fuel := (adqF_all d n).pGroupingElem
theorem pClosedEach_adq (n : Nat) : ∀ x0 x1, 8 + (adqWLL x1) ≤ n → pClosedEach d n x0 x1 ≠ .error .fuel := (adqF_all d n).pClosedEach
theorem pGroupingElems_adq (n : Nat) : ∀ x0 x1, 9 + (adqWLL x1) ≤ n → pGroupingElems d n x0 x1 ≠ .error .fuel := (adqF_all d n).pGroupingElems
theorem pGroupCols_adq (n : Nat) : ∀ x0, 8 + (adqWL x0) ≤ n → pGroupCols d n x0 ≠ .error .fuel := (adqF_all d n).pGroupCols
theorem pGroupSetsOpt_adq (n : Nat) : ∀ x0, 2 + (adqWL x0) ≤ n → pGroupSetsOpt d n x0 ≠ .error .fuel := (adqF_all d n).pGroupSetsOpt
theorem pWithBody_adq (n : Nat) : ∀ x0 x1, 1 + (adqWL x1) ≤ n → pWithBody d n x0 x1 ≠ .error .fuel := (adqF_all d n).pWithBody
theorem pWithTables_adq (n : Nat) : ∀ x0 x1, 1 + (adqWL x1) ≤ n → pWithTables d n x0 x1 ≠ .error .fuel := (adqF_all d n).pWithTables
theorem pSelectBody_adq (n : Nat) : ∀ x0 x1 x2 x3, 1 + (adqWL x3) ≤ n → pSelectBody d n x0 x1 x2 x3 ≠ .error .fuel := (adqF_all d n).pSelectBody
theorem pFromOpt_adq (n : Nat) : ∀ x0, 1 + (adqWL x0) ≤ n → pFromOpt d n x0 ≠ .error .fuel := (adqF_all d n).pFromOpt
theorem pSelectRest_adq (n : Nat) : ∀ x0 x1 x2 x3 x4 x5, 4 + (adqWL x5) ≤ n → pSelectRest d n x0 x1 x2 x3 x4 x5 ≠ .error .fuel := (adqF_all d n).pSelectRest
theorem pSelectTail_adq (n : Nat) : ∀ x0 x1 x2 x3 x4 x5 x6, 3 + (adqWL x6) ≤ n → pSelectTail d n x0 x1 x2 x3 x4 x5 x6 ≠ .error .fuel := (adqF_all d n).pSelectTail
theorem pWhereGroup_adq (n : Nat) : ∀ x0, 2 + (adqWL x0) ≤ n → pWhereGroup d n x0 ≠ .error .fuel := (adqF_all d n).pWhereGroup
theorem pHavingOrder_adq (n : Nat) : ∀ x0, 2 + (adqWL x0) ≤ n → pHavingOrder d n x0 ≠ .error .fuel := (adqF_all d n).pHavingOrder
theorem pHiveClauses_adq (n : Nat) : ∀ x0, 2 + (adqWL x0) ≤ n → pHiveClauses d n x0 ≠ .error .fuel := (adqF_all d n).pHiveClauses
theorem pLaterals_adq (n : Nat) : ∀ x0 x1 x2 x3, 2 + (adqWL x3) ≤ n → pLaterals d n x0 x1 x2 x3 ≠ .error .fuel := (adqF_all d n).pLaterals
theorem pSingleParen_adq (n : Nat) : ∀ x0 x1 x2 x3, 2 + (adqWL x1 + adqWL x3) ≤ n → pSingleParen d n x0 x1 x2 x3 ≠ .error .fuel := (adqF_all d n).pSingleParen
theorem pUnions_adq (n : Nat) : ∀ x0 x1 x2, 1 + (adqWL x2) ≤ n → pUnions d n x0 x1 x2 ≠ .error .fuel := (adqF_all d n).pUnions

/-! `pJoin`, `pLateral` (the bodies of the two loops of the SELECT parser whose look-ahead may be on ANOTHER cursor — the two-cursor
quirk of `_parse_single_select_statement`) and `pSelectBody`, `pSingle`, `pSelectStmt` (needed for the loop of `parse_statements`):
a successful run returns a cursor that lost at least one token, at every fuel -/
theorem pJoin_strict (n : Nat) : ∀ x0, StrictRel x0 (PM.pJoin d n x0) := (outF_all d n).pJoin_s
grind_pattern pJoin_strict => PM.pJoin d n x0
theorem pLateral_strict (n : Nat) : ∀ x0, StrictRel x0 (PM.pLateral d n x0) := (outF_all d n).pLateral_s
grind_pattern pLateral_strict => PM.pLateral d n x0
theorem pSelectBody_strict (n : Nat) : ∀ x0 x1 x2 x3, StrictRel x3 (PM.pSelectBody d n x0 x1 x2 x3) := (outF_all d n).pSelectBody_s
grind_pattern pSelectBody_strict => PM.pSelectBody d n x0 x1 x2 x3
theorem pSingle_strict (n : Nat) : ∀ x0 x1, StrictRel x1 (PM.pSingle d n x0 x1) := (outF_all d n).pSingle_s
grind_pattern pSingle_strict => PM.pSingle d n x0 x1
theorem pSelectStmt_strict (n : Nat) : ∀ x0 x1, StrictRel x1 (PM.pSelectStmt d n x0 x1) := (outF_all d n).pSelectStmt_s
grind_pattern pSelectStmt_strict => PM.pSelectStmt d n x0 x1

end PM
