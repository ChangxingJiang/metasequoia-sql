import MsqProofs.Lemmas.ParseCase0
import MsqProofs.Lemmas.ParseRel0
/-!
# C09, parser half: case-equivalent tokens; what the token-level tests of the parser see

See `ParseCase0.lean` for the definitions in words.  This file: `CE`, `CEL`, `CELL`; the result relations `CER`, `CEX`; and, for
`CE t t'`, every fact about a token the parser model ever uses:
same marks; same `up src` (hence the same answer to every case-INSENSITIVE comparison: `equalsStr`, `srcEqUp`, membership of
`up src` in a word set); the same answer to every case-SENSITIVE comparison with a literal that starts with an operator character
(`,` `.` `;` `*` `=` `-`, the compare / unary operator sets) because a case word is none of them; related children; the same `int()`;
stored names (`unifyName`) equal up to case; `splitName` related for NAME tokens.
-/
open Lex Ast
namespace PM

def plainCh (c : Char) : Bool := c.isAlphanum || c == '_'
/-- a word whose letter case can vary: ASCII letters, digits, `_` only, and at least one letter -/
def caseWord (s : List Char) : Bool := s.all plainCh && s.any Char.isAlpha

theorem plainCh_lt (c : Char) (h : plainCh c = true) : c.toNat < 128 := by
  simp [plainCh, Char.isAlphanum, Char.isAlpha, Char.isUpper, Char.isLower, Char.isDigit, UInt32.le_iff_toNat_le] at h
  rcases h with ((h | h) | h) | h
  · omega
  · omega
  · omega
  · subst h; decide
theorem plainCh_ne (c x : Char) (h : plainCh c = true) (hx : plainCh x = false) : c ≠ x := by
  rintro rfl; rw [h] at hx; cases hx
theorem alpha_not_digit (c : Char) (h : c.isAlpha = true) : (c.isDigit || c == '_') = false := by
  simp [Char.isAlpha, Char.isUpper, Char.isLower, Char.isDigit, UInt32.le_iff_toNat_le] at h ⊢
  constructor
  · rcases h with h | h <;> (intro h1; omega)
  · rintro rfl; revert h; decide

theorem caseWord_ne_nil {s : List Char} (h : caseWord s = true) : s ≠ [] := by
  rintro rfl; simp [caseWord] at h
theorem caseWord_all {s : List Char} (h : caseWord s = true) : ∀ c ∈ s, plainCh c = true := by
  simp [caseWord] at h; exact h.1
theorem caseWord_head {s : List Char} (h : caseWord s = true) : ∃ c r, s = c :: r ∧ plainCh c = true := by
  cases s with
  | nil => exact absurd rfl (caseWord_ne_nil h)
  | cons c r => exact ⟨c, r, rfl, caseWord_all h c (by simp)⟩
theorem caseWord_no {s : List Char} (h : caseWord s = true) (x : Char) (hx : plainCh x = false) : x ∉ s := by
  intro hm; exact plainCh_ne _ _ (caseWord_all h x hm) hx rfl
theorem caseWord_not_digits {s : List Char} (h : caseWord s = true) : s.all (fun c => c.isDigit || c == '_') = false ∧ s.all Char.isDigit = false := by
  simp [caseWord] at h
  obtain ⟨c, hc, ha⟩ := h.2
  have := alpha_not_digit c ha
  simp at this
  constructor
  · simp; exact ⟨c, hc, this.1, this.2⟩
  · simp; exact ⟨c, hc, this.1⟩

mutual
/-- the two tokens differ at most in the letter case of words -/
def CE : Tok → Tok → Prop
  | .single s m, .single s' m' => m = m' ∧ (s = s' ∨ (caseWord s = true ∧ caseWord s' = true ∧ Gen.pyUpper s = Gen.pyUpper s'))
  | .group k cs m, .group k' cs' m' => k = k' ∧ m = m' ∧ CEL cs cs' ∧ (m &&& NAME = 0 ∨ cs = cs')
  | .single _ _, .group _ _ _ => False
  | .group _ _ _, .single _ _ => False
def CEL : List Tok → List Tok → Prop
  | [], [] => True
  | t :: ts, t' :: ts' => CE t t' ∧ CEL ts ts'
  | [], _ :: _ => False
  | _ :: _, [] => False
end
def CELL : List (List Tok) → List (List Tok) → Prop
  | [], [] => True
  | a :: as, b :: bs => CEL a b ∧ CELL as bs
  | [], _ :: _ => False
  | _ :: _, [] => False

@[simp, grind =] theorem cel_nil_nil : CEL [] [] = True := by simp [CEL]
@[simp, grind =] theorem cel_cons_cons (t t' : Tok) (ts ts' : List Tok) : CEL (t :: ts) (t' :: ts') = (CE t t' ∧ CEL ts ts') := by simp [CEL]
@[simp, grind =] theorem cel_nil_cons (t : Tok) (ts : List Tok) : CEL [] (t :: ts) = False := by simp [CEL]
@[simp, grind =] theorem cel_cons_nil (t : Tok) (ts : List Tok) : CEL (t :: ts) [] = False := by simp [CEL]
@[simp, grind =] theorem cell_nil_nil : CELL [] [] = True := by simp [CELL]
@[simp, grind =] theorem cell_cons_cons (a b : List Tok) (as bs : List (List Tok)) : CELL (a :: as) (b :: bs) = (CEL a b ∧ CELL as bs) := by simp [CELL]
@[simp, grind =] theorem cell_nil_cons (a : List Tok) (as : List (List Tok)) : CELL [] (a :: as) = False := by simp [CELL]
@[simp, grind =] theorem cell_cons_nil (a : List Tok) (as : List (List Tok)) : CELL (a :: as) [] = False := by simp [CELL]

mutual
theorem CE.refl : ∀ t : Tok, CE t t
  | .single s m => by simp [CE]
  | .group k cs m => by simp [CE]; exact CEL.refl cs
theorem CEL.refl : ∀ ts : List Tok, CEL ts ts
  | [] => by simp
  | t :: ts => by simp; exact ⟨CE.refl t, CEL.refl ts⟩
end
/-- both runs fail with the same error, or both succeed with related values and related remaining cursors -/
def CER {α : Type} (rv : α → α → Prop) (a b : R α) : Prop :=
  match a, b with
  | .ok (v, r), .ok (v', r') => rv v v' ∧ CEL r r'
  | .error e, .error e' => e = e'
  | _, _ => False
@[simp, grind =] theorem cer_ok_ok {α : Type} (rv : α → α → Prop) (v v' : α) (r r' : List Tok) :
    CER rv (.ok (v, r)) (.ok (v', r')) = (rv v v' ∧ CEL r r') := by simp [CER]
@[simp, grind =] theorem cer_err_err {α : Type} (rv : α → α → Prop) (e e' : Err) : CER rv (.error e) (.error e') = (e = e') := by simp [CER]
@[simp, grind =] theorem cer_ok_err {α : Type} (rv : α → α → Prop) (p : α × List Tok) (e : Err) : CER rv (.ok p) (.error e) = False := by
  obtain ⟨v, r⟩ := p; simp [CER]
@[simp, grind =] theorem cer_err_ok {α : Type} (rv : α → α → Prop) (p : α × List Tok) (e : Err) : CER rv (.error e) (.ok p) = False := by
  obtain ⟨v, r⟩ := p; simp [CER]
def CEX {α : Type} (rv : α → α → Prop) (a b : Except Err α) : Prop :=
  match a, b with
  | .ok v, .ok v' => rv v v'
  | .error e, .error e' => e = e'
  | _, _ => False
@[simp, grind =] theorem cex_ok_ok {α : Type} (rv : α → α → Prop) (v v' : α) : CEX rv (.ok v) (.ok v') = rv v v' := by simp [CEX]
@[simp, grind =] theorem cex_err_err {α : Type} (rv : α → α → Prop) (e e' : Err) : CEX rv (.error e) (.error e') = (e = e') := by simp [CEX]
@[simp, grind =] theorem cex_ok_err {α : Type} (rv : α → α → Prop) (v : α) (e : Err) : CEX rv (.ok v) (.error e) = False := by simp [CEX]
@[simp, grind =] theorem cex_err_ok {α : Type} (rv : α → α → Prop) (v : α) (e : Err) : CEX rv (.error e) (.ok v) = False := by simp [CEX]
/-- related optional (value, cursor) pairs: `pKwBody`, `pBetween`, `pInBody` -/
def ceOpt {α : Type} (rv : α → α → Prop) (a b : Option (α × List Tok)) : Prop :=
  match a, b with
  | some (v, r), some (v', r') => rv v v' ∧ CEL r r'
  | none, none => True
  | _, _ => False
@[simp, grind =] theorem ceOpt_some_some {α : Type} (rv : α → α → Prop) (v v' : α) (r r' : List Tok) :
    ceOpt rv (some (v, r)) (some (v', r')) = (rv v v' ∧ CEL r r') := by simp [ceOpt]
@[simp, grind =] theorem ceOpt_none_none {α : Type} (rv : α → α → Prop) : ceOpt rv none none = True := by simp [ceOpt]
@[simp, grind =] theorem ceOpt_some_none {α : Type} (rv : α → α → Prop) (p : α × List Tok) : ceOpt rv (some p) none = False := by
  obtain ⟨v, r⟩ := p; simp [ceOpt]
@[simp, grind =] theorem ceOpt_none_some {α : Type} (rv : α → α → Prop) (p : α × List Tok) : ceOpt rv none (some p) = False := by
  obtain ⟨v, r⟩ := p; simp [ceOpt]

theorem cel_eq : CEL = Rel.GEL CE := by
  funext ts ts'
  induction ts generalizing ts' with
  | nil => cases ts' <;> simp
  | cons t ts ih => cases ts' <;> simp [ih]
theorem cell_eq : CELL = Rel.GELL CE := by
  funext a b
  induction a generalizing b with
  | nil => cases b <;> simp
  | cons x a ih => cases b <;> simp [ih, cel_eq]
theorem cel_nil_left {ts : List Tok} (h : CEL [] ts) : ts = [] := Rel.gel_nil_left (cel_eq ▸ h)
theorem cel_nil_right {ts : List Tok} (h : CEL ts []) : ts = [] := Rel.gel_nil_right (cel_eq ▸ h)
theorem cel_cons_left {t : Tok} {ts r : List Tok} (h : CEL (t :: ts) r) : ∃ t' ts', r = t' :: ts' ∧ CE t t' ∧ CEL ts ts' := by
  rw [cel_eq] at h ⊢; exact Rel.gel_cons_left h
theorem cel_cons_right {t : Tok} {ts r : List Tok} (h : CEL r (t :: ts)) : ∃ t' ts', r = t' :: ts' ∧ CE t' t ∧ CEL ts' ts := by
  rw [cel_eq] at h ⊢; exact Rel.gel_cons_right h
theorem cel_length {ts ts' : List Tok} (h : CEL ts ts') : ts.length = ts'.length := Rel.gel_length (cel_eq ▸ h)
theorem cel_isEmpty {ts ts' : List Tok} (h : CEL ts ts') : ts.isEmpty = ts'.isEmpty := Rel.gel_isEmpty (cel_eq ▸ h)
theorem cel_drop {ts ts' : List Tok} (h : CEL ts ts') (n : Nat) : CEL (ts.drop n) (ts'.drop n) := by
  rw [cel_eq] at h ⊢; exact Rel.gel_drop h n
theorem cel_append {a a' b b' : List Tok} (h1 : CEL a a') (h2 : CEL b b') : CEL (a ++ b) (a' ++ b') := by
  rw [cel_eq] at h1 h2 ⊢; exact Rel.gel_append h1 h2
theorem cell_append {a a' b b' : List (List Tok)} (h1 : CELL a a') (h2 : CELL b b') : CELL (a ++ b) (a' ++ b') := by
  rw [cell_eq] at h1 h2 ⊢; exact Rel.gell_append h1 h2
theorem cer_eq : @CER = @Rel.GER CE := by
  funext α rv a b
  rcases a with e | ⟨v, r⟩ <;> rcases b with e' | ⟨v', r'⟩ <;> simp [cel_eq]
theorem cex_eq : @CEX = @Rel.GEX := by
  funext α rv a b
  rcases a with e | v <;> rcases b with e' | v' <;> simp
theorem ceOpt_eq : @ceOpt = @Rel.gOpt CE := by
  funext α rv a b
  rcases a with _ | ⟨v, r⟩ <;> rcases b with _ | ⟨v', r'⟩ <;> simp [cel_eq]

theorem up_ofList (s : List Char) : up (String.ofList s) = String.ofList (Gen.pyUpper s) := by
  simp [up, Gen.pyUpperS]
theorem pyUpper_append (a b : List Char) : Gen.pyUpper (a ++ b) = Gen.pyUpper a ++ Gen.pyUpper b := by
  simp [Gen.pyUpper, Py.upperWith]
theorem up_append (a b : String) : up (a ++ b) = up a ++ up b := by
  simp [up, Gen.pyUpperS, pyUpper_append, String.ofList_append]

end PM
