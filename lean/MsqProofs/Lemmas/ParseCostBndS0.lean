import MsqProofs.Lemmas.ParseCostBnd
import MsqProofs.Lemmas.ParseStepsCost
/-!
# C19, parser half: the linear bound on cursor operations, statement level — the base of the family `tools/gen_cost.py` prints

The statement level (`Parse/Stmt.lean`, `pStatements`) uses the potential `250 * adqWL ts` (the expression / SELECT block: `70 * adqWL ts`).
The multiplier is larger because the parsers that run on every segment of a comma split (`pDefCol`, `pPartitionItem`, the index and foreign-key
parsers) have larger constants than the segment parsers of the block, and the ONE unit that a segment has in `adqWLL` must pay the constant of its
parser and the `close()` of its cursor.  A bound of the block with multiplier 70 lifts to any larger multiplier as soon as the rest of the run is
no heavier than the cursor (`lift_rem2`; consumption is `ConsF`).
-/
open Lex
namespace PM

set_option hygiene false in
/-- split the hypothesis `h` about a counted run completely: every `if`, every `match`, through the `let`s of the accumulator -/
macro "split_run2" : tactic => `(tactic| repeat' (first | peel_if h with hc | split at h | (dsimp only at h)))

/-- potential left in the result of a counted run, statement level -/
def rem2 {α : Type} (res : R α) : Nat := match res with | .ok (_, r) => 250 * adqWL r | .error _ => 0
@[grind =] theorem rem2_ok {α : Type} (v : α) (r : List Tok) : rem2 (.ok (v, r) : R α) = 250 * adqWL r := rfl
@[grind =] theorem rem2_error {α : Type} (e : Err) : rem2 (.error e : R α) = 0 := rfl

/-- … of a run that has consumed at least one token when it succeeds (statements, `INSERT …` heads): `s` units are left over to pay the next
look-ahead of the loop that called it -/
def remS2 {α : Type} (s : Nat) (res : R α) : Nat := match res with | .ok (_, r) => 250 * adqWL r + s | .error _ => 0
@[grind =] theorem remS2_ok {α : Type} (s : Nat) (v : α) (r : List Tok) : remS2 s (.ok (v, r) : R α) = 250 * adqWL r + s := rfl
@[grind =] theorem remS2_error {α : Type} (s : Nat) (e : Err) : remS2 s (.error e : R α) = 0 := rfl
theorem rem2_le_remS2 {α : Type} (s : Nat) (res : R α) : rem2 res ≤ remS2 s res := by
  unfold remS2 rem2; split <;> omega
grind_pattern rem2_le_remS2 => remS2 s res
/-- … of `GENERATED ALWAYS AS (…) mode` (`pGenerated`): slack when the clause was there -/
def remG {α : Type} (s : Nat) (res : R (Option α)) : Nat :=
  match res with | .ok (some _, r) => 250 * adqWL r + s | .ok (none, r) => 250 * adqWL r | .error _ => 0
@[grind =] theorem remG_some {α : Type} (s : Nat) (v : α) (r : List Tok) : remG s (.ok (some v, r) : R (Option α)) = 250 * adqWL r + s := rfl
@[grind =] theorem remG_none {α : Type} (s : Nat) (r : List Tok) : remG s (.ok (none, r) : R (Option α)) = 250 * adqWL r := rfl
@[grind =] theorem remG_error {α : Type} (s : Nat) (e : Err) : remG s (.error e : R (Option α)) = 0 := rfl

theorem rem2_consRel {α : Type} (ts : List Tok) (a : R α) (h : ConsRel ts a) : rem2 a ≤ 250 * adqWL ts := by
  cases a with
  | error e => simp [rem2_error]
  | ok p => obtain ⟨v, r⟩ := p; have := (sfx_adqWL (h v r rfl)).1; simp only [rem2_ok]; omega
grind_pattern rem2_consRel => ConsRel ts a, rem2 a

/-- a bound with the multiplier of the block is a bound with the multiplier of the statement level (the run does not make the cursor heavier) -/
theorem lift_rem2 {α : Type} (x : Nat × R α) (κ W c : Nat) (h : x.1 + rem x.2 ≤ κ + 70 * W + c)
    (hc : ∀ v r, x.2 = .ok (v, r) → adqWL r ≤ W) : x.1 + rem2 x.2 ≤ κ + 250 * W + c := by
  obtain ⟨k, res⟩ := x
  cases res with
  | error e => simp only [rem_error, rem2_error] at *; omega
  | ok p =>
    obtain ⟨v, r⟩ := p
    have := hc v r rfl
    simp only [rem_ok, rem2_ok] at *; omega

/-- … with slack when the run consumes at least one token: the difference of the multipliers on 19 units of weight -/
theorem lift_remS2 {α : Type} (x : Nat × R α) (κ W c s : Nat) (h : x.1 + rem x.2 ≤ κ + 70 * W + c)
    (hc : ∀ v r, x.2 = .ok (v, r) → adqWL r + 19 ≤ W) (hs : s ≤ (250 - 70) * 19) : x.1 + remS2 s x.2 ≤ κ + 250 * W + c := by
  obtain ⟨k, res⟩ := x
  cases res with
  | error e => simp only [rem_error, remS2_error] at *; omega
  | ok p =>
    obtain ⟨v, r⟩ := p
    have := hc v r rfl
    simp only [rem_ok, remS2_ok] at *; omega

/-- the potential bound of a counted attribute loop: the stop test costs at most `S`, an attribute at most `A` on top of the potential
it consumes, and a successful attribute leaves `S + A` to spare (it has consumed a token) to pay for the next iteration -/
theorem attrLoop_k_bnd2 {σ : Type} (stop : List Tok → Bool) (stopCost : List Tok → Nat) (attr : List Tok → Nat → Nat × R (σ → σ)) (S A : Nat)
    (hS : ∀ ts, stopCost ts ≤ S) (hattr : ∀ ts κ, (attr ts κ).1 + remS2 (S + A) (attr ts κ).2 ≤ κ + 250 * adqWL ts + A) :
    ∀ g c ts κ, (attrLoop_k stop stopCost attr g c ts κ).1 + rem2 (attrLoop_k stop stopCost attr g c ts κ).2 ≤ κ + 250 * adqWL ts + (S + A) := by
  intro g
  induction g with
  | zero => intro c ts κ; simp only [attrLoop_k, rem2_error]; omega
  | succ g ih =>
    intro c ts κ
    have hs := hS ts
    have ha := hattr ts (κ + stopCost ts)
    rw [attrLoop_k]
    by_cases hst : stop ts = true
    · rw [if_pos hst]; simp only [rem2_ok]; omega
    · rw [if_neg hst]; unfold andThen_k
      rcases h : (attr ts (κ + stopCost ts)).2 with e | ⟨u, r⟩
      · rw [h, remS2_error] at ha; simp only [rem2_error]; omega
      · rw [h, remS2_ok] at ha; have := ih (u c) r (attr ts (κ + stopCost ts)).1; simp only at this ⊢; omega

theorem consRel_adqWL {α : Type} {ts : List Tok} {a : R α} (h : ConsRel ts a) : ∀ v r, a = .ok (v, r) → adqWL r ≤ adqWL ts := by
  intro v r e
  exact (sfx_adqWL (h v r e)).1

/-! ### the functions of the block that the statement level calls -/
section
variable (d : Gen.D) (n : Nat)
theorem pCompute_bnd2 (ts : List Tok) (κ : Nat) : (pCompute_k d n ts κ).1 + rem2 (pCompute_k d n ts κ).2 ≤ κ + 250 * adqWL ts + 61 :=
  lift_rem2 _ _ _ _ (pCompute_bnd d n ts κ) (by rw [pCompute_proj]; exact consRel_adqWL ((consF_all d n).pCompute ts))
grind_pattern pCompute_bnd2 => pCompute_k d n ts κ
theorem pOr_bnd2 (ts : List Tok) (κ : Nat) : (pOr_k d n ts κ).1 + rem2 (pOr_k d n ts κ).2 ≤ κ + 250 * adqWL ts + 209 :=
  lift_rem2 _ _ _ _ (pOr_bnd d n ts κ) (by rw [pOr_proj]; exact consRel_adqWL ((consF_all d n).pOr ts))
grind_pattern pOr_bnd2 => pOr_k d n ts κ
theorem pSelectStmt_bnd2 (w : Option (List Ast.WithTable)) (ts : List Tok) (κ : Nat) :
    (pSelectStmt_k d n w ts κ).1 + remS2 600 (pSelectStmt_k d n w ts κ).2 ≤ κ + 250 * adqWL ts + 21 :=
  lift_remS2 _ _ _ _ _ (pSelectStmt_bnd d n w ts κ) (by rw [pSelectStmt_proj]; exact fun v r h => (pSelectStmt_strict d n w ts v r h).1) (by omega)
grind_pattern pSelectStmt_bnd2 => pSelectStmt_k d n w ts κ
theorem pWith_bnd2 (ts : List Tok) (κ : Nat) : (pWith_k d n ts κ).1 + rem2 (pWith_k d n ts κ).2 ≤ κ + 250 * adqWL ts + 3 :=
  lift_rem2 _ _ _ _ (pWith_bnd d n ts κ) (by rw [pWith_proj]; exact consRel_adqWL ((consF_all d n).pWith ts))
grind_pattern pWith_bnd2 => pWith_k d n ts κ
theorem pOptOr_bnd2 (k : String) (ts : List Tok) (κ : Nat) : (pOptOr_k d n k ts κ).1 + rem2 (pOptOr_k d n k ts κ).2 ≤ κ + 250 * adqWL ts + 3 :=
  lift_rem2 _ _ _ _ (pOptOr_bnd d n k ts κ) (by rw [pOptOr_proj]; exact consRel_adqWL ((consF_all d n).pOptOr k ts))
grind_pattern pOptOr_bnd2 => pOptOr_k d n k ts κ
theorem pOrderByOpt_bnd2 (ts : List Tok) (κ : Nat) : (pOrderByOpt_k d n ts κ).1 + rem2 (pOrderByOpt_k d n ts κ).2 ≤ κ + 250 * adqWL ts + 3 :=
  lift_rem2 _ _ _ _ (pOrderByOpt_bnd d n ts κ) (by rw [pOrderByOpt_proj]; exact consRel_adqWL ((consF_all d n).pOrderByOpt ts))
grind_pattern pOrderByOpt_bnd2 => pOrderByOpt_k d n ts κ
theorem pFromTable_bnd2 (ts : List Tok) (κ : Nat) : (pFromTable_k d n ts κ).1 + rem2 (pFromTable_k d n ts κ).2 ≤ κ + 250 * adqWL ts + 18 :=
  lift_rem2 _ _ _ _ (pFromTable_bnd d n ts κ) (by rw [pFromTable_proj]; exact consRel_adqWL ((consF_all d n).pFromTable ts))
grind_pattern pFromTable_bnd2 => pFromTable_k d n ts κ
theorem pFromTables_bnd2 (acc : List Ast.FromTable) (ts : List Tok) (κ : Nat) :
    (pFromTables_k d n acc ts κ).1 + rem2 (pFromTables_k d n acc ts κ).2 ≤ κ + 250 * adqWL ts + 3 :=
  lift_rem2 _ _ _ _ (pFromTables_bnd d n acc ts κ) (by rw [pFromTables_proj]; exact consRel_adqWL ((consF_all d n).pFromTables acc ts))
grind_pattern pFromTables_bnd2 => pFromTables_k d n acc ts κ
end
theorem pLimit_bnd2 (ts : List Tok) (κ : Nat) : (pLimit_k ts κ).1 + rem2 (pLimit_k ts κ).2 ≤ κ + 250 * adqWL ts + 13 :=
  lift_rem2 _ _ _ _ (pLimit_bnd ts κ) (by rw [pLimit_proj]; exact consRel_adqWL (pLimit_cons ts))
grind_pattern pLimit_bnd2 => pLimit_k ts κ
theorem pTableName_bnd2 (ts : List Tok) (κ : Nat) : (pTableName_k ts κ).1 + rem2 (pTableName_k ts κ).2 ≤ κ + 250 * adqWL ts + 5 :=
  lift_rem2 _ _ _ _ (pTableName_bnd ts κ) (by rw [pTableName_proj]; exact consRel_adqWL (pTableName_cons ts))
grind_pattern pTableName_bnd2 => pTableName_k ts κ
theorem popSrc_k_bnd2 (ts : List Tok) (κ : Nat) : (popSrc_k ts κ).1 + rem2 (popSrc_k ts κ).2 ≤ κ + 250 * adqWL ts + 2 := by
  have h := popSrc_cons ts
  unfold popSrc_k
  cases hp : popSrc ts with
  | error e => simp only [rem2_error]; omega
  | ok p => obtain ⟨v, r⟩ := p; have := (sfx_adqWL (h v r hp)).1; simp only [rem2_ok]; omega
grind_pattern popSrc_k_bnd2 => popSrc_k ts κ

theorem popSplit_cost2 (ts : List Tok) (segs : List (List Tok)) (r : List Tok) (h : popSplit ts = .ok (segs, r)) :
    250 * adqWLL segs + cSplit ts + 250 * adqWL r + 35 ≤ 250 * adqWL ts := by
  have := popSplit_cost ts segs r h; omega
grind_pattern popSplit_cost2 => popSplit ts, Except.ok (segs, r)
theorem splitBy_children3 (sep : String) (t : Tok) : 250 * adqWLL (splitBy sep t.children [] []) + t.children.length + 37 ≤ 250 * adqW t := by
  have := splitBy_children2 sep t; omega
grind_pattern splitBy_children3 => splitBy sep (Tok.children t) [] []

/-- a counted segment parser that costs at most `250 * weight of the segment + C`: the segment loop costs at most `250 * weight of the
segment list` (which holds `250 ≥ C + 1` per segment) -/
theorem eachClosed_k_bnd2 {α : Type} (pk : List Tok → Nat → Nat × R α) (C : Nat) (hC : C + 1 ≤ 250)
    (hp : ∀ s κ, (pk s κ).1 ≤ κ + 250 * adqWL s + C) : ∀ segs κ, (eachClosed_k pk segs κ).1 ≤ κ + 250 * adqWLL segs := by
  intro segs
  induction segs with
  | nil => intro κ; simp [eachClosed_k]
  | cons sg rest ih =>
    intro κ
    have h1 := hp sg κ
    have h2 := cClosed_le (pk sg κ).2
    have h3 := ih ((closed_k (pk sg κ)).1)
    unfold eachClosed_k
    simp only [closed_k_fst, adqWLL_cons] at *
    split
    · simp only []; rw [Nat.mul_add, Nat.mul_add]; omega
    · split <;> (simp only []; rw [Nat.mul_add, Nat.mul_add]; omega)
theorem eachClosed_k_rem2 {α : Type} (pk : List Tok → Nat → Nat × R α) (C : Nat) (hC : C + 1 ≤ 250)
    (hp : ∀ s κ, (pk s κ).1 + rem2 (pk s κ).2 ≤ κ + 250 * adqWL s + C) : ∀ segs κ, (eachClosed_k pk segs κ).1 ≤ κ + 250 * adqWLL segs :=
  eachClosed_k_bnd2 pk C hC (fun s κ => by have := hp s κ; omega)

end PM
