/-! the shift/reduce loop of `_parse_compute_expression` (`parser.py:822-848`) over an abstract operand type, and its
    complete characterisation: it returns THE well-nested tree over the operand/operator sequence -/
namespace SR

structure Op where
  name : String
  level : Nat
  deriving DecidableEq, Repr

inductive T (α : Type) where
  | leaf : α → T α
  | node : T α → Op → T α → T α
  deriving Repr

namespace T
variable {α : Type}

def flat : T α → α × List (Op × α)
  | leaf a => (a, [])
  | node l o r =>
    let (a, xs) := l.flat
    let (b, ys) := r.flat
    (a, xs ++ (o, b) :: ys)

def rootLevel : T α → Option Nat
  | leaf _ => none
  | node _ o _ => some o.level

/-- left child may have level ≤, right child must have level < (left associativity; smaller number binds tighter) -/
def WN : T α → Prop
  | leaf _ => True
  | node l o r => l.WN ∧ r.WN ∧ (∀ k, l.rootLevel = some k → k ≤ o.level) ∧ (∀ k, r.rootLevel = some k → k < o.level)

end T

variable {α : Type}

/-- stack top-first: (l, o) means `l o <top>` pending -/
def reduceWhile (lvl : Nat) : List (T α × Op) → T α → List (T α × Op) × T α
  | (l, o) :: st, top => if lvl ≥ o.level then reduceWhile lvl st (.node l o top) else ((l, o) :: st, top)
  | [], top => ([], top)

def collapse : List (T α × Op) → T α → T α
  | (l, o) :: st, top => collapse st (.node l o top)
  | [], top => top

def go : List (T α × Op) → T α → List (Op × α) → T α
  | st, top, [] => collapse st top
  | st, top, (o, e) :: rest =>
    let r := reduceWhile o.level st top
    go ((r.2, o) :: r.1) (.leaf e) rest

def shiftReduce (e0 : α) (rest : List (Op × α)) : T α := go [] (.leaf e0) rest

namespace T
/-- sequence represented by a pending stack plus top -/
def flatSt : List (T α × Op) → (α × List (Op × α)) → α × List (Op × α)
  | [], acc => acc
  | (l, o) :: st, acc => flatSt st (l.flat.1, l.flat.2 ++ (o, acc.1) :: acc.2)
end T

open T

theorem flat_node (l r : T α) (o : Op) :
    (T.node l o r).flat = (l.flat.1, l.flat.2 ++ (o, r.flat.1) :: r.flat.2) := by
  simp [T.flat]

theorem flat_collapse (st : List (T α × Op)) (top : T α) :
    (collapse st top).flat = flatSt st top.flat := by
  induction st generalizing top with
  | nil => simp [collapse, flatSt]
  | cons e st ih =>
    obtain ⟨l, o⟩ := e
    simp [collapse, flatSt, ih, flat_node]

theorem flatSt_reduceWhile (lvl : Nat) (st : List (T α × Op)) (top : T α) :
    flatSt (reduceWhile lvl st top).1 (reduceWhile lvl st top).2.flat = flatSt st top.flat := by
  induction st generalizing top with
  | nil => simp [reduceWhile]
  | cons e st ih =>
    obtain ⟨l, o⟩ := e
    simp only [reduceWhile]
    split
    · rw [ih]; simp [flatSt, flat_node]
    · rfl

theorem flatSt_append (st : List (T α × Op)) (a : α) (xs ys : List (Op × α)) :
    flatSt st (a, xs ++ ys) = ((flatSt st (a, xs)).1, (flatSt st (a, xs)).2 ++ ys) := by
  induction st generalizing a xs with
  | nil => simp [flatSt]
  | cons e st ih =>
    obtain ⟨l, o⟩ := e
    simp only [flatSt]
    have := ih l.flat.1 (l.flat.2 ++ (o, a) :: xs)
    simpa [List.append_assoc] using this

theorem flat_go (st : List (T α × Op)) (top : T α) (rest : List (Op × α)) :
    (go st top rest).flat = ((flatSt st top.flat).1, (flatSt st top.flat).2 ++ rest) := by
  induction rest generalizing st top with
  | nil => simp [go, flat_collapse]
  | cons p rest ih =>
    obtain ⟨o, e⟩ := p
    simp only [go]
    rw [ih]
    simp only [flatSt, T.flat]
    have h := flatSt_reduceWhile o.level st top
    have h2 := flatSt_append (reduceWhile o.level st top).1 (reduceWhile o.level st top).2.flat.1
      (reduceWhile o.level st top).2.flat.2 [(o, e)]
    rw [h2, h]
    simp

theorem flat_shiftReduce (e0 : α) (rest : List (Op × α)) :
    (shiftReduce e0 rest).flat = (e0, rest) := by
  simp [shiftReduce, flat_go, flatSt, T.flat]

/-- the root's level, if the tree has an operator at its root, is below `n` -/
def T.rlLt (t : T α) (n : Nat) : Prop := ∀ k, t.rootLevel = some k → k < n
/-- … is at most `n` -/
def T.rlLe (t : T α) (n : Nat) : Prop := ∀ k, t.rootLevel = some k → k ≤ n

/-- stack invariant: entries well nested, left-child condition, strictly increasing levels downward (what may sit on top is `TopOK`) -/
def StInv : List (T α × Op) → Prop
  | [] => True
  | (l, o) :: st => l.WN ∧ l.rlLe o.level ∧ StInv st ∧ (∀ e ∈ st.head?, o.level < e.2.level)

def TopOK (st : List (T α × Op)) (top : T α) : Prop :=
  top.WN ∧ ∀ e ∈ st.head?, top.rlLt e.2.level

theorem collapse_WN (st : List (T α × Op)) (top : T α) (h : StInv st) (ht : TopOK st top) :
    (collapse st top).WN := by
  induction st generalizing top with
  | nil => simpa [collapse] using ht.1
  | cons e st ih =>
    obtain ⟨l, o⟩ := e
    simp only [collapse]
    obtain ⟨hl, hle, hst, hsorted⟩ := h
    apply ih _ hst
    refine ⟨⟨hl, ht.1, hle, ?_⟩, ?_⟩
    · exact ht.2 (l, o) (by simp)
    · intro e he k hk
      simp [T.rootLevel] at hk
      subst hk
      exact hsorted e he

theorem reduceWhile_inv (lvl : Nat) (st : List (T α × Op)) (top : T α) (h : StInv st) (ht : TopOK st top) :
    StInv (reduceWhile lvl st top).1 ∧ TopOK (reduceWhile lvl st top).1 (reduceWhile lvl st top).2 ∧
    (reduceWhile lvl st top).2.WN ∧
    ((reduceWhile lvl st top).2.rlLe lvl ∨ (reduceWhile lvl st top).2 = top) ∧
    (∀ e ∈ (reduceWhile lvl st top).1.head?, lvl < e.2.level) := by
  induction st generalizing top with
  | nil => simp [reduceWhile, StInv, TopOK, ht.1]
  | cons e st ih =>
    obtain ⟨l, o⟩ := e
    obtain ⟨hl, hle, hst, hsorted⟩ := h
    simp only [reduceWhile]
    split
    · rename_i hge
      have hnew : TopOK st (T.node l o top) := by
        refine ⟨⟨hl, ht.1, hle, ht.2 (l, o) (by simp)⟩, ?_⟩
        intro e he k hk
        simp [T.rootLevel] at hk
        subst hk
        exact hsorted e he
      obtain ⟨a, b, c, d, e'⟩ := ih (T.node l o top) hst hnew
      refine ⟨a, b, c, ?_, e'⟩
      rcases d with d | d
      · exact Or.inl d
      · left
        rw [d]
        intro k hk
        simp [T.rootLevel] at hk
        omega
    · rename_i hlt
      refine ⟨⟨hl, hle, hst, hsorted⟩, ht, ht.1, Or.inr rfl, ?_⟩
      intro e he
      simp at he
      subst he
      simp
      omega

theorem go_WN (st : List (T α × Op)) (top : T α) (rest : List (Op × α))
    (h : StInv st) (ht : TopOK st top) (hleaf : top.rootLevel = none) : (go st top rest).WN := by
  induction rest generalizing st top with
  | nil => exact collapse_WN st top h ht
  | cons p rest ih =>
    obtain ⟨o, e⟩ := p
    simp only [go]
    obtain ⟨a, b, c, d, e'⟩ := reduceWhile_inv o.level st top h ht
    apply ih
    · refine ⟨c, ?_, a, e'⟩
      rcases d with d | d
      · exact d
      · rw [d]; intro k hk; rw [hleaf] at hk; cases hk
    · refine ⟨trivial, ?_⟩
      intro e he k hk
      simp [T.rootLevel] at hk
    · rfl

theorem shiftReduce_WN (e0 : α) (rest : List (Op × α)) : (shiftReduce e0 rest).WN :=
  go_WN [] (.leaf e0) rest trivial ⟨trivial, by simp⟩ rfl

/-! uniqueness of the well-nested tree for a given flat sequence -/
namespace T
def ops : T α → List Op
  | leaf _ => []
  | node l o r => l.ops ++ o :: r.ops

theorem ops_eq_flat (t : T α) : t.ops = t.flat.2.map (·.1) := by
  induction t with
  | leaf a => simp [ops, flat]
  | node l o r ihl ihr => simp [ops, flat, ihl, ihr]

theorem WN_ops_le (t : T α) (h : t.WN) : ∀ o ∈ t.ops, ∀ k, t.rootLevel = some k → o.level ≤ k := by
  induction t with
  | leaf a => simp [ops]
  | node l o r ihl ihr =>
    obtain ⟨hl, hr, hll, hrl⟩ := h
    intro o' ho' k hk
    simp [rootLevel] at hk; subst hk
    simp [ops] at ho'
    rcases ho' with ho' | ho' | ho'
    · cases hlr : l.rootLevel with
      | none => cases l <;> simp_all [ops, rootLevel]
      | some kl => exact Nat.le_trans (ihl hl o' ho' kl hlr) (hll kl hlr)
    · subst ho'; exact Nat.le_refl _
    · cases hrr : r.rootLevel with
      | none => cases r <;> simp_all [ops, rootLevel]
      | some kr => exact Nat.le_of_lt (Nat.lt_of_le_of_lt (ihr hr o' ho' kr hrr) (hrl kr hrr))

theorem flat_ops_le (t : T α) (h : t.WN) (n : Nat) (hb : t.rlLe n) :
    ∀ p ∈ t.flat.2, p.1.level ≤ n := by
  intro p hp
  have hmem : p.1 ∈ t.ops := by rw [ops_eq_flat]; exact List.mem_map_of_mem hp
  cases hr : t.rootLevel with
  | none => cases t <;> simp_all [rootLevel, flat]
  | some k => exact Nat.le_trans (WN_ops_le t h p.1 hmem k hr) (hb k hr)

theorem flat_ops_lt (t : T α) (h : t.WN) (n : Nat) (hb : t.rlLt n) :
    ∀ p ∈ t.flat.2, p.1.level < n := by
  intro p hp
  have hmem : p.1 ∈ t.ops := by rw [ops_eq_flat]; exact List.mem_map_of_mem hp
  cases hr : t.rootLevel with
  | none => cases t <;> simp_all [rootLevel, flat]
  | some k => exact Nat.lt_of_le_of_lt (WN_ops_le t h p.1 hmem k hr) (hb k hr)

/-- the root operator position is determined by the sequence: last operator of maximal level -/
theorem split_unique {β : Type} (lv : β → Nat) (xs ys xs' ys' : List β) (m m' : β)
    (h : xs ++ m :: ys = xs' ++ m' :: ys')
    (h1 : ∀ p ∈ xs, lv p ≤ lv m) (h2 : ∀ p ∈ ys, lv p < lv m)
    (h1' : ∀ p ∈ xs', lv p ≤ lv m') (h2' : ∀ p ∈ ys', lv p < lv m') :
    xs = xs' ∧ m = m' ∧ ys = ys' := by
  induction xs generalizing xs' with
  | nil =>
    cases xs' with
    | nil => simp at h; exact ⟨rfl, h.1, h.2⟩
    | cons c zs =>
      simp at h
      obtain ⟨rfl, hys⟩ := h
      -- m = c ∈ xs', m' ∈ ys
      have a := h1' m (by simp)
      have b := h2 m' (by rw [hys]; simp)
      omega
  | cons x xs ih =>
    cases xs' with
    | nil =>
      simp at h
      obtain ⟨rfl, hys⟩ := h
      have a := h1 x (by simp)
      have b := h2' m (by rw [← hys]; simp)
      omega
    | cons c zs =>
      simp at h
      obtain ⟨rfl, hrest⟩ := h
      obtain ⟨e1, e2, e3⟩ := ih zs hrest (fun p hp => h1 p (by simp [hp])) (fun p hp => h1' p (by simp [hp]))
      exact ⟨by rw [e1], e2, e3⟩

theorem WN_unique (t1 t2 : T α) (h1 : t1.WN) (h2 : t2.WN) (hf : t1.flat = t2.flat) : t1 = t2 := by
  induction t1 generalizing t2 with
  | leaf a =>
    cases t2 with
    | leaf b => simp [flat] at hf; rw [hf]
    | node l o r => simp [flat] at hf
  | node l o r ihl ihr =>
    cases t2 with
    | leaf b => simp [flat] at hf
    | node l' o' r' =>
      obtain ⟨hl, hr, hll, hrl⟩ := h1
      obtain ⟨hl', hr', hll', hrl'⟩ := h2
      simp only [flat, Prod.mk.injEq] at hf
      obtain ⟨ha, hxs⟩ := hf
      have := split_unique (fun p : Op × α => p.1.level) l.flat.2 r.flat.2 l'.flat.2 r'.flat.2 (o, r.flat.1) (o', r'.flat.1) hxs
        (flat_ops_le l hl o.level hll) (flat_ops_lt r hr o.level hrl)
        (flat_ops_le l' hl' o'.level hll') (flat_ops_lt r' hr' o'.level hrl')
      obtain ⟨e1, e2, e3⟩ := this
      simp only [Prod.mk.injEq] at e2
      have el : l = l' := ihl l' hl hl' (Prod.ext ha e1)
      have er : r = r' := ihr r' hr hr' (Prod.ext e2.2 e3)
      rw [el, er, e2.1]
end T

/-- C02 (compute level, abstract form): the loop's result is THE well-nested tree over the sequence -/
theorem shiftReduce_spec (e0 : α) (rest : List (Op × α)) (t : T α) :
    (t.flat = (e0, rest) ∧ t.WN) ↔ t = shiftReduce e0 rest := by
  constructor
  · intro ⟨hf, hw⟩
    exact T.WN_unique t _ hw (shiftReduce_WN e0 rest) (by rw [hf, flat_shiftReduce])
  · intro h; subst h; exact ⟨flat_shiftReduce e0 rest, shiftReduce_WN e0 rest⟩
end SR
