import MsqProofs.Lemmas.ParseRelDefs
/-!
# Relational reading of the parser model: the facts the generated fuel steps of a few block functions need in addition
(a related PAIR has related components; `pSingleParen`: `close()` on the stack of opened cursors)
-/
open Lex Ast PMQ
namespace PM.Rel
variable [T : Theory]

omit T in
theorem geq_prod_mk {α β γ δ : Type} (f : α → γ) (g : β → δ) (a c : α) (b e : β) (h : geq (Prod.map f g) (a, b) (c, e)) :
    f a = f c ∧ g b = g e := by
  simpa [geq, Prod.map] using h
grind_pattern geq_prod_mk => geq (Prod.map f g) (a, b) (c, e)

theorem gell_drop {a b : List (List Tok)} (h : GELL T.E a b) (n : Nat) : GELL T.E (a.drop n) (b.drop n) := by
  induction n generalizing a b with
  | zero => simpa using h
  | succ n ih => cases a <;> cases b <;> simp_all
theorem gell_anyNonEmpty {a b : List (List Tok)} (h : GELL T.E a b) : (a.any fun c => !c.isEmpty) = (b.any fun c => !c.isEmpty) := by
  induction a generalizing b with
  | nil => cases b <;> simp_all
  | cons x a ih =>
    cases b with
    | nil => simp at h
    | cons y b => simp at h; simp only [List.any_cons, gel_isEmpty h.1, ih h.2]
/-- `close()` on the cursors opened by `_parse_single_select_statement`: the same answer -/
theorem gell_drop_any {a b : List (List Tok)} (h : GELL T.E a b) (n : Nat) :
    ((a.drop n).any fun c => !c.isEmpty) = ((b.drop n).any fun c => !c.isEmpty) := gell_anyNonEmpty (gell_drop h n)
grind_pattern gell_drop_any => GELL T.E a b, (a.drop n).any fun c => !c.isEmpty

omit T in
/-- `ord.getD []` under the tree map (`pWindowBody`) -/
@[grind =] theorem map_getD_nil {α β : Type} (f : α → β) (o : Option (List α)) : List.map f (o.getD []) = (Option.map (List.map f) o).getD [] := by
  cases o <;> simp

end PM.Rel
