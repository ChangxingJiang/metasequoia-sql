import MsqProofs.Lemmas.LexLinkPc
import MsqProofs.Lemmas.TDml0
/-!
# The lexer link for data-change statements: the `List Char` mirror of `PR.prStmt` on `TDM.FragStmt`

Built on the link for nested queries (`LexLinkQuery*.lean`: records `GE` / `GQ` for fragment expressions / queries).

* `stmtL d s` — what `PR.prStmt d s` writes for DELETE / UPDATE / INSERT … VALUES / INSERT … query / a query, each with its optional
  `WITH name AS (q), …` prefix, as a character list assembled from PIECES (`LexLinkPc.lean`): `ps us` (every piece followed by one blank:
  the INSERT head, whose optional parts `TABLE `, `PARTITION (…) `, `(c, …) ` each carry their own trailing blank), `pc us` (every piece
  preceded by one blank: the tail ` WHERE …`, ` ORDER BY …`, ` LIMIT …`);
* `leavesStmt s` — the payloads of a statement as `LexLink.LeafItem`s (besides those of its expressions and queries: the target table
  as `.tbl`, the columns of the column list as `.col`, WITH names and SET columns as `.wild` — a name that must be free of back-quotes and
  pre-pass characters, `nameLex`).
-/
namespace LLD
open Lex Spec C05 C06 C09 Ast TP TS TQ LexLink

def dmlWords : List String := ["WITH", "UPDATE", "SET", "DELETE", "VALUES", "PARTITION", "TABLE", "="]
theorem dml_words_lex : dmlWords.all (fun k => lxIs k.toList (ctok k.toList)) = true := by decide +kernel
theorem insert_words_lex : Gen.insertTypes.all (fun e => e.2.all fun w => lxIs w.toList (ctok w.toList)) = true := by decide +kernel
theorem insert_words_plainL : Gen.insertTypes.all (fun e => e.2.all fun w => plainL w.toList) = true := by decide +kernel
theorem lx_dw (k : String) (hk : k ∈ dmlWords) : Lx k.toList [opTok k] := by
  rw [opTok_eq]; exact lx_of_is ((List.all_eq_true.mp dml_words_lex) k hk)

structure DW (K : QKit) : Prop where
  dws : ∀ k ∈ dmlWords, K.Q k.toList
  iws : ∀ e ∈ Gen.insertTypes, ∀ w ∈ e.2, K.Q w.toList

def withItemL (d : Gen.D) : WithTable → List Char
  | .mk n q => qnameL n ++ ' ' :: ("AS".toList ++ ' ' :: '(' :: (prQL d q ++ [')']))
/-- `PR.prWithPrefix d sep` -/
def withPrefixL (d : Gen.D) (sep : List Char) : Option (List WithTable) → List Char
  | some (w :: r) => "WITH".toList ++ ' ' :: (joinLL [',', ' ', '\n'] ((w :: r).map (withItemL d)) ++ sep)
  | _ => []
def setL (d : Gen.D) (p : String × Expr) : List Char := '`' :: (p.1.toList ++ '`' :: ' ' :: '=' :: ' ' :: prE3L d p.2)
/-- the pieces of `PR.prTail` (each is printed behind one blank) -/
def tailPieces (d : Gen.D) (wh : Option Expr) (ob : Option (List OrderItem)) (lm : Option (Int × Option Int)) : List (List Char) :=
  optLL d "WHERE" wh ++ (orderLL d ob ++ (limitC lm).map (·.1))
def insertWordsL (ty : String) : List Char :=
  match Gen.insertTypes.find? (·.1 == ty) with | some e => joinLL [' '] (e.2.map String.toList) | none => []
def colNameL (d : Gen.D) (c : Option String × String) : List Char := prE3L d (.column c.1 c.2)
def partPieces (d : Gen.D) : Option (List Expr) → List (List Char)
  | none => []
  | some es => ["PARTITION".toList ++ ' ' :: '(' :: (joinLL [',', ' '] (es.map (prE3L d)) ++ [')'])]
def colPieces (d : Gen.D) : Option (List (Option String × String)) → List (List Char)
  | none => []
  | some cs => ['(' :: (joinLL [',', ' '] (cs.map (colNameL d)) ++ [')'])]
/-- the pieces of `PR.prInsertHead` after the WITH prefix (each is printed with one blank behind it) -/
def headPieces (d : Gen.D) (h : InsertHead) : List (List Char) :=
  insertWordsL h.type :: ((if d == .HIVE then ["TABLE".toList] else []) ++
    (tblL h.table.schema h.table.name :: (partPieces d h.partition ++ colPieces d h.columns)))
def rowL (d : Gen.D) (r : List Expr) : List Char := prE3L d (.subValue r)

def stmtL (d : Gen.D) : Stmt → List Char
  | .select q => withPrefixL d ['\n'] (TDM.withsOf q) ++ prQL d q
  | .insertValues h vs =>
      withPrefixL d ['\n'] h.withs ++ (ps (headPieces d h) ++ ("VALUES".toList ++ ' ' :: joinLL [',', ' '] (vs.map (rowL d))))
  | .insertSelect h q => withPrefixL d ['\n'] h.withs ++ (ps (headPieces d h) ++ ' ' :: prQL d q)
  | .update ws t sets wh ob lm =>
      withPrefixL d ['\n', '\n'] ws ++ ("UPDATE".toList ++ ' ' :: (tblL t.schema t.name ++ ' ' :: ("SET".toList ++ ' ' ::
        (joinLL [',', ' '] (sets.map (setL d)) ++ pc (tailPieces d wh ob lm)))))
  | .delete t wh ob lm =>
      "DELETE".toList ++ ' ' :: ("FROM".toList ++ ' ' :: (tblL t.schema t.name ++ ' ' :: pc (tailPieces d wh ob lm)))
  | _ => []

def leavesWL : List WithTable → List LeafItem
  | [] => []
  | .mk n q :: r => .wild n :: (leavesQ q ++ leavesWL r)
def leavesWiths : Option (List WithTable) → List LeafItem
  | none => []
  | some ws => leavesWL ws
def leavesSets : List (String × Expr) → List LeafItem
  | [] => []
  | (c, e) :: r => .wild c :: (leavesE e ++ leavesSets r)
def leavesRows : List (List Expr) → List LeafItem
  | [] => []
  | r :: rs => leavesL r ++ leavesRows rs
def leavesPart : Option (List Expr) → List LeafItem
  | none => []
  | some es => leavesL es
def leavesColNames : Option (List (Option String × String)) → List LeafItem
  | none => []
  | some cs => cs.map fun p => .col p.1 p.2
def leavesHead (h : InsertHead) : List LeafItem :=
  leavesWiths h.withs ++ (.tbl h.table.schema h.table.name :: (leavesPart h.partition ++ leavesColNames h.columns))
def leavesStmt : Stmt → List LeafItem
  | .select q => leavesWiths (TDM.withsOf q) ++ leavesQ q
  | .insertValues h vs => leavesHead h ++ leavesRows vs
  | .insertSelect h q => leavesHead h ++ leavesQ q
  | .update ws t sets wh ob _ => leavesWiths ws ++ (.tbl t.schema t.name :: (leavesSets sets ++ (leavesO wh ++ leavesOrder ob)))
  | .delete t wh ob _ => .tbl t.schema t.name :: (leavesO wh ++ leavesOrder ob)
  | _ => []

/-- what the PRINTER needs beyond the token-level fragment: `INSERT OVERWRITE` is printed for HIVE and DEFAULT only
(`ASTInsertStatement._insert_str` raises for the other dialects) -/
def insertPrintable (d : Gen.D) (h : InsertHead) : Bool := !(h.type == "INSERT_OVERWRITE" && !(d == .HIVE || d == .DEFAULT))
def printableStmt (d : Gen.D) : Stmt → Bool
  | .insertValues h _ => insertPrintable d h
  | .insertSelect h _ => insertPrintable d h
  | _ => true

end LLD
