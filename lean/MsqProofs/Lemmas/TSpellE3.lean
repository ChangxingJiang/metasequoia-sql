import MsqProofs.Lemmas.TSpellE2
/-! Spelling-generalised T-parse, expression layer: calls, aggregates and both CASE forms, as the instances of Lemmas/TCoreCall.lean at the
spelled renderings. -/
open Lex PM Ast SR TP TP2 TQ
namespace TSP
variable {d : Gen.D} {sp : Sp}

theorem RT3.hdW {e : Expr} (h : RT3 d sp e) (L : Nat) : TC.Hd (W3 d sp e L) :=
  let ⟨t, ts', h1, h2, _⟩ := h.headW L; ⟨t, ts', h1, h2⟩
theorem RT3.arg {e : Expr} (h : RT3 d sp e) : TC.Arg d (W3 d sp e 14) e := ⟨TC.fullO_true.2 (h.at 14 (by omega)).s14, h.hdW 14⟩
theorem toksArgsTail3_eq (k : Nat) (es : List Expr) : toksArgsTail3 d sp k es = TC.commaTail (W3 d sp · k) es := by
  induction es with
  | nil => simp only [toksArgsTail3, TC.commaTail]
  | cons e es ih => simp only [toksArgsTail3, TC.commaTail, ih, W3]; rfl
theorem toksArgs3_eq (k : Nat) (es : List Expr) : toksArgs3 d sp k es = TC.commaList (W3 d sp · k) es := by
  cases es <;> simp only [toksArgs3, TC.commaList, toksArgsTail3_eq, W3]
theorem args_rel (ps : List Expr) (h : ∀ a ∈ ps, RT3 d sp a) : TC.CommaSep (TC.Arg d) (toksArgs3 d sp 14 ps) ps :=
  ⟨_, toksArgs3_eq 14 ps, fun a ha => (h a ha).arg⟩

theorem full2_func (n : String) (ps : List Expr) (hn : fnOK d none n = true) (hps : ∀ a ∈ ps, RT3 d sp a) :
    Full2 d (P2 d) 2 0 [qTok n, grp (toksArgs3 d sp 14 ps)] (.func none n ps) := TC.fullO_true.1 (TC.full2_func n ps hn (args_rel ps hps))
theorem full2_qfunc (s n : String) (ps : List Expr) (hn : fnOK d (some s) n = true) (hps : ∀ a ∈ ps, RT3 d sp a) :
    Full2 d (P2 d) 2 0 [nameTok s, dotTok, qTok n, grp (toksArgs3 d sp 14 ps)] (.func (some s) n ps) :=
  TC.fullO_true.1 (TC.full2_qfunc s n ps hn (args_rel ps hps)).ofFalse
theorem full2_agg (n : String) (ps : List Expr) (dist : Bool) (hn : aggOK d n = true) (hps : ∀ a ∈ ps, RT3 d sp a) :
    Full2 d (P2 d) 2 0 [opTok n, grp ((if dist then [opTok "DISTINCT"] else []) ++ toksArgs3 d sp 14 ps)] (.agg n ps dist) :=
  TC.fullO_true.1 (TC.full2_agg n ps dist hn (args_rel ps hps))

theorem arms_rel (cs : List (Expr × Expr)) (h : ∀ p ∈ cs, RT3 d sp p.1 ∧ RT3 d sp p.2) : TC.Arms d (toksArms3 d sp cs) cs := by
  induction cs with
  | nil => simp only [toksArms3]; exact .nil
  | cons p r ih =>
    obtain ⟨w, t⟩ := p
    simp only [toksArms3]
    exact .cons (h (w, t) (by simp)).1.arg.full (h (w, t) (by simp)).2.arg.full (ih fun p' hp' => h p' (by simp [hp']))
theorem else_rel (els : Option Expr) (h : ∀ y, els = some y → RT3 d sp y) : TC.Else d (toksElse3 d sp els) els := by
  cases els with
  | none => simp only [toksElse3]; exact .none
  | some y => simp only [toksElse3]; exact .some (h y rfl).arg.full
theorem full2_caseCond (cs : List (Expr × Expr)) (els : Option Expr) (hne : cs ≠ []) (hcs : ∀ p ∈ cs, RT3 d sp p.1 ∧ RT3 d sp p.2)
    (hels : ∀ y, els = some y → RT3 d sp y) :
    Full2 d (P2 d) 2 0 (opTok "CASE" :: (toksArms3 d sp cs ++ (toksElse3 d sp els ++ [opTok "END"]))) (.caseCond cs els) :=
  TC.fullO_true.1 (TC.full2_caseCond hne (arms_rel cs hcs) (else_rel els hels)).ofFalse
theorem full2_caseVal (v : Expr) (cs : List (Expr × Expr)) (els : Option Expr) (hv : RT3 d sp v)
    (hcs : ∀ p ∈ cs, RT3 d sp p.1 ∧ RT3 d sp p.2) (hels : ∀ y, els = some y → RT3 d sp y) :
    Full2 d (P2 d) 2 0 (opTok "CASE" :: (W3 d sp v 14 ++ (toksArms3 d sp cs ++ (toksElse3 d sp els ++ [opTok "END"])))) (.caseVal v cs els) :=
  TC.fullO_true.1 (TC.full2_caseVal hv.arg (arms_rel cs hcs) (else_rel els hels)).ofFalse

end TSP
