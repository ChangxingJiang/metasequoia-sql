import MsqProofs.Lemmas.TSpellS
/-! Spelling-generalised T-parse: the single SELECT, the set-operator loop, the query.  The clause lemmas of TSpellS.lean go into
`TC.single` (`SRec.selOK`, both LIMIT forms), the branches with record `UnRec` into `TC.Branches`; `stmt_core`: `pSelectStmt` with the
WITH slot not yet looked for or already found absent; `qt_single` / `qt_union`: the query-level record `QT` from it. -/
open Lex PM Ast TP TS TQ
namespace TSP
variable {d : Gen.D} {sp : Sp}
local notation "commaTok" => TS.commaTok

/-! ### `Bd3` from the end of the statement to the front -/
theorem bd3_limit (lm : Option (Int × Option Int)) (rest : List Tok) (h : Bd3 d 7 rest = true) : Bd3 d 6 (toksLimitS sp lm ++ rest) = true :=
  TC.before_kw (B := Bd3 d) TQ.bd3_mono (by omega) h (bd3_kw TS.bd_keywords.2.2.2.2.2) (limitS_head sp lm)
theorem bd3_order (ob : Option (List OrderItem)) (x : List Tok) (h : Bd3 d 6 x = true) : Bd3 d 5 (toksOrder3 d sp ob ++ x) = true :=
  TC.before_kw (B := Bd3 d) TQ.bd3_mono (by omega) h (bd3_kw TS.bd_keywords.2.2.2.2.1) (by rcases ob with _ | _ | ⟨o, os⟩ <;> simp [toksOrder3])
theorem bd3_having (hv : Option Expr) (x : List Tok) (h : Bd3 d 5 x = true) : Bd3 d 4 (toksOptE3 d sp "HAVING" hv ++ x) = true :=
  TC.before_kw (B := Bd3 d) TQ.bd3_mono (by omega) h (bd3_kw TS.bd_keywords.2.2.2.1) (by cases hv <;> simp [toksOptE3])
theorem bd3_group (gb : Option GroupBy) (x : List Tok) (h : Bd3 d 4 x = true) : Bd3 d 3 (toksGroup3 d sp gb ++ x) = true :=
  TC.before_kw (B := Bd3 d) TQ.bd3_mono (by omega) h (bd3_kw TS.bd_keywords.2.2.1)
    (by rcases gb with _ | ⟨_ | ⟨e, es⟩, s, c, r⟩ <;> simp [toksGroup3])
theorem bd3_where (wh : Option Expr) (x : List Tok) (h : Bd3 d 3 x = true) : Bd3 d 2 (toksOptE3 d sp "WHERE" wh ++ x) = true :=
  TC.before_kw (B := Bd3 d) TQ.bd3_mono (by omega) h (bd3_kw TS.bd_keywords.2.1) (by cases wh <;> simp [toksOptE3])
theorem bd3_from (fr : Option (List FromTable)) (x : List Tok) (h : Bd3 d 1 x = true) : Bd3 d 0 (toksFrom3 d sp fr ++ x) = true :=
  TC.before_kw (B := Bd3 d) TQ.bd3_mono (by omega) h (bd3_kw TS.bd_keywords.1) (by rcases fr with _ | _ | ⟨t, ts⟩ <;> simp [toksFrom3])

def SRec (d : Gen.D) (sp : Sp) (s : Select) : Prop :=
  ∃ dist c cs fr js wh gb hv ob lm, s = .mk (some []) dist (c :: cs) fr [] js wh gb hv ob none none none lm ∧
    ColRec d sp c ∧ (∀ c' ∈ cs, ColRec d sp c') ∧ (dist = true ∨ searchStrUp (toksCols3 d sp (c :: cs)) "DISTINCT" = false) ∧
    FromRec d sp fr ∧ (∀ j ∈ js, JoinRec d sp j) ∧ OptRec d sp wh ∧ GroupRec d sp gb ∧ OptRec d sp hv ∧ OrderRec d sp ob ∧ limitOK lm = true
theorem SRec.selOK {s : Select} (h : SRec d sp s) : TC.SelOK d (Bd3 d 7 · = true) [] s (toksS3 d sp s) := by
  obtain ⟨dist, c, cs, fr, js, wh, gb, hv, ob, lm, rfl, hc, hcs, hdist, hfr, hjs, hwh, hgb, hhv, hob, hlm⟩ := h
  obtain ⟨t, ts', hh, _⟩ := hc.1.head
  have hd : dist = true ∨ t.srcEqUp "DISTINCT" = false := hdist.imp_right fun h => by
    rw [toksCols3_cons] at h
    simp only [toksCol3, hh, List.cons_append] at h
    simpa [searchStrUp] using h
  have := TC.single [] dist (C := toksCol3 d sp c) (by simp only [toksCol3, hh, List.cons_append]; rfl) hd (selectCol c hc)
    ⟨fun fol hb => selectCols fol (.ofBd hb) (TS.bd_comma (TQ.b3 hb)) cs hcs [c],
      fun fol (hb : Bd3 d 0 fol = true) => TQ.Fol.tail (colsTail_shape cs) (.ofBd hb)⟩
    ⟨fromOpt fr hfr, bd3_from fr⟩
    (.absent 6 fun fol (hb : Bd3 d 1 fol = true) => (TS.noLaterals fol (TQ.b3 hb)).mono (by omega))
    ⟨fun fol hb => joins fol hb js hjs [], fun fol hb => (joins_bd js hjs fol hb).1⟩
    ⟨optOr "WHERE" (by decide) 3 (by decide) wh hwh, bd3_where wh⟩ ⟨groupBy gb hgb, bd3_group gb⟩
    ⟨optOr "HAVING" (by decide) 5 (by decide) hv hhv, bd3_having hv⟩ ⟨orderBy ob hob, bd3_order ob⟩
    (.absent 8 fun fol (hb : Bd3 d 6 fol = true) => (TS.hiveClauses fol (TQ.b3 hb)).mono (by omega))
    fun fol hb => ⟨limitS sp lm hlm fol (TQ.b3 hb), bd3_limit lm fol hb⟩
  simpa [toksS3, toksCols3_cons] using this
theorem SRec.parse {s : Select} (h : SRec d sp s) (rest : List Tok) (hr : Bd3 d 7 rest = true) :
    OkAt (fun f => pSingle d f [] (toksS3 d sp s ++ rest)) (20 * sizeL (toksS3 d sp s) + 6) (s, rest) := h.selOK.parse rest hr
theorem SRec.head {s : Select} (h : SRec d sp s) : ∃ x, toksS3 d sp s = opTok "SELECT" :: x := h.selOK.head
theorem SRec.setWiths {s : Select} (h : SRec d sp s) : setWiths s = s := by
  obtain ⟨dist, c, cs, fr, js, wh, gb, hv, ob, lm, rfl, _⟩ := h
  rfl

def UnRec (d : Gen.D) (sp : Sp) : List (String × Select) → Prop
  | [] => True
  | (t, s) :: r => unionTyOK d t = true ∧ SRec d sp s ∧ UnRec d sp r
theorem UnRec.branches : ∀ {us : List (String × Select)}, UnRec d sp us → TC.Branches d (Bd3 d 7 · = true) [] us (toksUn d sp us)
  | [], _ => .nil
  | (_, _) :: _, h => .cons (setOp h.1) h.2.1.selOK (UnRec.branches h.2.2)
theorem UnRec.setWiths : ∀ {us : List (String × Select)}, UnRec d sp us → us.map (fun p => (p.1, PM.setWiths p.2)) = us
  | [], _ => rfl
  | (t, s) :: r, h => by
    simp only [List.map_cons, h.2.1.setWiths, UnRec.setWiths h.2.2]

/-- `_parse_select_statement` on the rendering of a query (`WITH` slot: not yet looked for, or already found absent) -/
theorem stmt_core (w : Option (List WithTable)) (hw : w = none ∨ w = some []) (s : Select) (us : List (String × Select))
    (hs : SRec d sp s) (hus : UnRec d sp us) (rest : List Tok) (hr : stopsQ d rest = true) :
    OkAt (fun f => pSelectStmt d f w (toksS3 d sp s ++ (toksUn d sp us ++ rest))) (20 * sizeL (toksS3 d sp s ++ toksUn d sp us) + 9)
      (if us.isEmpty then .single s else .union (some []) s us, rest) := by
  simp only [stopsQ, Bool.and_eq_true, Bool.not_eq_true'] at hr
  simpa [hs.setWiths, hus.setWiths] using TC.stmt_core w (by rcases hw with rfl | rfl <;> rfl) hs.selOK hus.branches hr.1 hr.2

theorem qt_single (s : Select) (hs : SRec d sp s) : QT d sp (.single s) := by
  refine ⟨fun rest hr => ?_, by simpa [toksQ] using hs.head⟩
  have := stmt_core none (Or.inl rfl) s [] hs trivial rest hr
  simpa [toksQ, toksUn] using this
theorem qt_union (s : Select) (us : List (String × Select)) (hs : SRec d sp s) (hus : UnRec d sp us) (hne : us.isEmpty = false) :
    QT d sp (.union (some []) s us) := by
  refine ⟨fun rest hr => ?_, ?_⟩
  · have := stmt_core none (Or.inl rfl) s us hs hus rest hr
    simpa [toksQ, hne] using this
  · obtain ⟨x, hx⟩ := hs.head
    exact ⟨x ++ toksUn d sp us, by simp [toksQ, hx]⟩

end TSP
