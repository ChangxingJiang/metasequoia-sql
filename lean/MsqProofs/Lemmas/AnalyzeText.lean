import MsqProofs.Lemmas.TQueryE3
import MsqProofs.Lemmas.LexLinkSelect
import MsqModel.Analyze.TablesSpec
/-!
# Token-level characterisation of table usage (C14 on texts)

`AT.tableToks ts` reads a token list (what the lexer makes of a text) and returns the table tokens in textual order.  It looks only
at the words `FROM`, `JOIN`, `AS`, the comma, and bracket nesting:

* outside a FROM / JOIN position (`idle`) it walks over every token, descending into every bracket group;
* the token after `FROM` or `JOIN` is a table reference: a plain token is a table token, a bracket group is a derived table whose
  children are scanned from the start;
* after a table reference an optional `AS alias` is skipped; after a reference of a FROM list a comma announces the next reference.

`AT.tableToks_toksQ`, `AT.tableNames_toksQ` (AnalyzeText2): for every query of the nested fragment `TQ.FragQ`, whatever redundant brackets the rendering carries (`ch`), the
table tokens of the rendering are the printed names of `Spec.tablesOf q`, in order, and each reads back (`PM.splitName`) as its
(schema, name) pair — so `Spec.tablesOf q = AT.tableNames (toksQ d ch q)`.

The block `namespace CT` in the middle (`noneOf`, `dull`, `quietW` and the facts `noneOf_*`) says which words a rendered token is NOT; it is shared
by the table scanner here and by the clause cut and the column scanner of `AnalyzeText3*`.
-/
open Lex PM Ast TP TP2 TS TQ Spec
namespace AT

inductive Mode where
  | idle
  | expect (fromList : Bool)
  | after (fromList : Bool)
  | alias (fromList : Bool)

mutual
/-- the table tokens inside one token met outside a FROM / JOIN position: none for a plain token, the scan of the children for a group -/
def tabT : Tok → List Tok
  | .single _ _ => []
  | .group _ cs _ => tabL .idle cs
/-- the token at a table position: a plain token is the table, a group is a derived table -/
def refT : Tok → List Tok
  | .single s m => [.single s m]
  | .group _ cs _ => tabL .idle cs
def tabL : Mode → List Tok → List Tok
  | _, [] => []
  | .idle, t :: r =>
    if t.equalsStr "FROM" then tabL (.expect true) r
    else if t.equalsStr "JOIN" then tabL (.expect false) r
    else tabT t ++ tabL .idle r
  | .expect fl, t :: r => refT t ++ tabL (.after fl) r
  | .after fl, t :: r =>
    if t.equalsStr "AS" then tabL (.alias fl) r
    else if fl && t.equalsStr "," then tabL (.expect true) r
    else if t.equalsStr "FROM" then tabL (.expect true) r
    else if t.equalsStr "JOIN" then tabL (.expect false) r
    else tabT t ++ tabL .idle r
  | .alias fl, _ :: r => tabL (.after fl) r
end

/-- **the table tokens of a token list**, in textual order -/
def tableToks (ts : List Tok) : List Tok := tabL .idle ts

/-- the (schema, name) pair a table token stands for, as the parser reads it (`_parse_table_name_expression`) -/
def tokTbl (t : Tok) : Option Tbl := match splitName t.src with | .ok (s, n) => some ⟨s, n⟩ | .error _ => none
/-- **the tables named in a token list**, in textual order -/
def tableNames (ts : List Tok) : List Tbl := (tableToks ts).filterMap tokTbl

/-- a plain token that is neither `FROM` nor `JOIN` -/
structure Skip (t : Tok) : Prop where
  nf : t.equalsStr "FROM" = false
  nj : t.equalsStr "JOIN" = false
  leaf : tabT t = []

theorem idle_skip {t : Tok} (h : Skip t) (r : List Tok) : tabL .idle (t :: r) = tabL .idle r := by
  simp [tabL, h.nf, h.nj, h.leaf]
theorem idle_grp (cs r : List Tok) : tabL .idle (grp cs :: r) = tabL .idle cs ++ tabL .idle r := by
  simp [tabL, grp, Tok.equalsStr, tabT]

/-- the next token is neither `AS` nor a comma -/
def hdOK : List Tok → Bool
  | [] => true
  | t :: _ => !t.equalsStr "AS" && !t.equalsStr ","
theorem after_idle (fl : Bool) {rest : List Tok} (h : hdOK rest = true) : tabL (.after fl) rest = tabL .idle rest := by
  cases rest with
  | nil => simp [tabL]
  | cons t r =>
    simp only [hdOK, Bool.and_eq_true, Bool.not_eq_true'] at h
    simp [tabL, h.1, h.2]

theorem named_ne (a w : String) (h : (opTok a).has NAME = true) (hw : Gen.wordMarks.find? (·.1 == w) = some (w, 0)) : up a ≠ w := by
  intro he
  simp only [opTok, Tok.has, Tok.marks, wordMark, he, hw] at h
  exact absurd h (by decide)

theorem up_head_digit {v : String} {c : Char} {r : List Char} (hc : v.toList = c :: r) (hd : c.isDigit = true) :
    (up v).toList.head? = some c := by
  obtain ⟨a1, a2, _⟩ := TP2.digit_ascii c hd
  rw [TP2.up_head v c r hc a1, a2]
theorem lit_head_char {d : Gen.D} (v : String) (hv : litOK d v = true) :
    (up v).toList.head?.any (fun c => c.isDigit || c == '\'' || c == '"') = true ∨ (opTok v).has LITERAL = true := by
  simp only [litOK, Bool.and_eq_true] at hv
  have hl := hv.1
  simp only [litTok, Tok.has, Tok.marks, litMark] at hl
  by_cases hd : isDigits v = true
  · simp only [isDigits, Bool.and_eq_true, Bool.not_eq_true', List.all_eq_true] at hd
    cases hc : v.toList with
    | nil => rw [hc] at hd; simp at hd
    | cons c r =>
      rw [hc] at hd
      have hcd := hd.2 c (by simp)
      rw [up_head_digit hc hcd]
      simp [hcd]
  · simp only [hd, Bool.false_eq_true, if_false] at hl
    by_cases hq : (v.toList.head? == some '\'' || v.toList.head? == some '"') = true
    · cases hc : v.toList with
      | nil => rw [hc] at hq; simp at hq
      | cons c r =>
        rw [hc] at hq
        simp only [List.head?_cons, Bool.or_eq_true, beq_iff_eq, Option.some.injEq] at hq
        left
        rcases hq with rfl | rfl
        · rw [TP2.up_head v '\'' r hc (by decide)]; decide
        · rw [TP2.up_head v '"' r hc (by decide)]; decide
    · simp only [hq, Bool.false_eq_true, if_false] at hl
      right
      exact hl
theorem lit_up_ne {d : Gen.D} (v w : String) (hv : litOK d v = true)
    (hw1 : (Gen.wordMarks.find? (·.1 == w)).all (· == (w, 0)) = true)
    (hw2 : w.toList.head?.all (fun c => !c.isDigit && c != '\'' && c != '"') = true) : up v ≠ w := by
  intro he
  rcases lit_head_char v hv with h | h
  · rw [he] at h
    cases hh : w.toList.head? <;> simp_all
  · cases hf : Gen.wordMarks.find? (·.1 == w) with
    | none =>
      simp only [opTok, Tok.has, Tok.marks, wordMark, he, hf] at h
      split at h <;> exact absurd h (by decide)
    | some p =>
      rw [hf] at hw1
      have : p = (w, 0) := by simpa using hw1
      subst this
      simp only [opTok, Tok.has, Tok.marks, wordMark, he, hf] at h
      exact absurd h (by decide)

end AT

namespace CT

def noneOf (ws : List String) (t : Tok) : Bool := ws.all fun k => !t.equalsStr k
/-- the clause words the lexer gives no NAME mark -/
def cwords : List String := ["FROM", "JOIN", "INNER", "LEFT", "RIGHT", "FULL", "WHERE", "GROUP", "HAVING", "ORDER", "LIMIT", "ON"]
/-- `t` is none of the unambiguous clause words (it may be `AS` or `CROSS`) -/
def quietW (t : Tok) : Bool := noneOf cwords t
def dwords : List String := "AS" :: "CROSS" :: cwords
/-- `t` is no clause word, not `AS`, not `CROSS` -/
def dull (t : Tok) : Bool := noneOf dwords t

theorem noneOf_mem {ws : List String} {t : Tok} (h : noneOf ws t = true) {k : String} (hk : k ∈ ws) : t.equalsStr k = false := by
  have := List.all_eq_true.1 h k hk
  simpa using this
theorem noneOf_sub {ws ws' : List String} {t : Tok} (h : noneOf ws t = true) (hs : ∀ k ∈ ws', k ∈ ws) : noneOf ws' t = true :=
  List.all_eq_true.2 fun k hk => List.all_eq_true.1 h k (hs k hk)
theorem dull_quiet {t : Tok} (h : dull t = true) : quietW t = true :=
  noneOf_sub h fun _ hk => List.mem_cons_of_mem _ (List.mem_cons_of_mem _ hk)
theorem noneOf_grp (ws : List String) (cs : List Tok) : noneOf ws (grp cs) = true := by
  simp [noneOf, grp, Tok.equalsStr]

def upId (ws : List String) : Bool := ws.all fun k => up k == k
theorem noneOf_of {t : Tok} {u : String} (ht : ∀ k, t.equalsStr k = (u == up k)) {ws : List String} (h1 : upId ws = true)
    (h : ∀ k ∈ ws, u ≠ k) : noneOf ws t = true := by
  refine List.all_eq_true.2 fun k hk => ?_
  have e1 : up k = k := by simpa using List.all_eq_true.1 h1 k hk
  rw [ht, e1, Bool.not_eq_true', beq_eq_false_iff_ne]
  exact h k hk
theorem noneOf_op {w : String} {ws : List String} (h1 : upId ws = true) (h : ws.contains (up w) = false) : noneOf ws (opTok w) = true :=
  noneOf_of (TP2.opTok_equals w) h1 fun k hk he => by
    rw [he] at h
    exact absurd h (by simp [hk])

def noBq (ws : List String) : Bool := ws.all fun k => k.toList.head? != some '`'
theorem noneOf_bq {t : Tok} (h : (up t.src).toList.head? = some '`') {ws : List String} (h1 : upId ws = true) (hw : noBq ws = true)
    (ht : ∀ k, t.equalsStr k = (up t.src == up k)) : noneOf ws t = true :=
  noneOf_of ht h1 fun k hk => ne_of_head h (List.all_eq_true.1 hw k hk)
theorem noneOf_name (n : String) {ws : List String} (h1 : upId ws = true) (hw : noBq ws = true) : noneOf ws (nameTok n) = true :=
  noneOf_bq (TP.up_nameTok_head n) h1 hw (fun _ => rfl)
theorem up_tblTok_head (s : Option String) (n : String) : (up (tblTok s n).src).toList.head? = some '`' := by
  cases s with
  | none => exact TP.up_nameTok_head n
  | some s =>
    have : ('`'.toNat < 128) := by decide
    simp [tblTok, Tok.src, Tok.source, up, Gen.pyUpperS, String.toList_ofList, TP2.pyUpper_ascii _ _ this]
    decide
theorem noneOf_tbl (s : Option String) (n : String) {ws : List String} (h1 : upId ws = true) (hw : noBq ws = true) :
    noneOf ws (tblTok s n) = true :=
  noneOf_bq (up_tblTok_head s n) h1 hw (fun k => by cases s <;> rfl)

def zeroWords (ws : List String) : Bool := ws.all fun w => (Gen.wordMarks.find? (·.1 == w)) == some (w, 0)
theorem noneOf_named (a : String) (h : (opTok a).has NAME = true) {ws : List String} (h1 : upId ws = true) (h2 : zeroWords ws = true) :
    noneOf ws (opTok a) = true :=
  noneOf_of (TP2.opTok_equals a) h1 fun k hk => AT.named_ne a k h (by simpa using List.all_eq_true.1 h2 k hk)

/-- words a literal token cannot be: first character no digit and no quote, and either without an entry in the word table or with an
empty mark set -/
def litWords (ws : List String) : Bool := ws.all fun w =>
  w.toList.head?.all (fun c => !c.isDigit && c != '\'' && c != '"') && (Gen.wordMarks.find? (·.1 == w)).all (· == (w, 0))
theorem noneOf_lit {d : Gen.D} (v : String) (hv : litOK d v = true) {ws : List String} (h1 : upId ws = true) (hw : litWords ws = true) :
    noneOf ws (litTok v) = true :=
  noneOf_of (TQ.litTok_equals v) h1 fun k hk => by
    have := List.all_eq_true.1 hw k hk
    rw [Bool.and_eq_true] at this
    exact AT.lit_up_ne v k hv this.2 this.1
theorem noneOf_int (n : Int) (h : 0 ≤ n) {ws : List String} (h1 : upId ws = true) (hw : litWords ws = true) :
    noneOf ws (intTok n) = true := by
  obtain ⟨hne, hd⟩ := LexLink.toString_nonneg n h
  refine noneOf_of (TQ.litTok_equals _) h1 fun k hk he => ?_
  have hk' := List.all_eq_true.1 hw k hk
  rw [Bool.and_eq_true] at hk'
  cases hc : (toString n).toList with
  | nil => exact absurd hc hne
  | cons c r =>
    have hcd : c.isDigit = true := by rw [LexLink.charIsDigit]; exact hd c (by rw [hc]; simp)
    have hh := AT.up_head_digit hc hcd
    rw [he] at hh
    rw [hh] at hk'
    simp [hcd] at hk'
theorem noneOf_agg (n : String) (h : Gen.aggNames.contains (up n) = true) {ws : List String} (h1 : upId ws = true)
    (hw : ws.all (fun k => !Gen.aggNames.contains k) = true) : noneOf ws (opTok n) = true :=
  noneOf_of (TP2.opTok_equals n) h1 fun k hk he => by
    have hk' := List.all_eq_true.1 hw k hk
    rw [← he, h] at hk'
    exact absurd hk' (by decide)

theorem upId_dwords : upId dwords = true := by decide
theorem upId_cwords : upId cwords = true := by
  have := upId_dwords
  simp only [upId, dwords, List.all_cons, Bool.and_eq_true] at this
  exact this.2.2
theorem noBq_dwords : noBq dwords = true := by decide
theorem litWords_dwords : litWords dwords = true := by decide
theorem dull_name (n : String) : dull (nameTok n) = true := noneOf_name n upId_dwords noBq_dwords
theorem dull_tbl (s : Option String) (n : String) : dull (tblTok s n) = true := noneOf_tbl s n upId_dwords noBq_dwords
theorem dull_lit {d : Gen.D} (v : String) (hv : litOK d v = true) : dull (litTok v) = true := noneOf_lit v hv upId_dwords litWords_dwords
theorem dull_int (n : Int) (h : 0 ≤ n) : dull (intTok n) = true := noneOf_int n h upId_dwords litWords_dwords
theorem dull_agg (n : String) (h : Gen.aggNames.contains (up n) = true) : dull (opTok n) = true :=
  noneOf_agg n h upId_dwords (by decide)
theorem dull_grp (cs : List Tok) : dull (grp cs) = true := noneOf_grp _ cs
theorem quiet_named (a : String) (h : (opTok a).has NAME = true) : quietW (opTok a) = true := noneOf_named a h upId_cwords (by decide)
theorem quiet_q (n : String) (h : (qTok n).has NAME = true) : quietW (qTok n) = true := by
  by_cases hq : (PR.quoteName n == n) = true
  · simp only [qTok, hq, if_true] at h ⊢; exact quiet_named n h
  · simp only [qTok, hq]; exact dull_quiet (dull_name n)

theorem cval_all (P : String → Bool) (hall : Gen.computeEnum.all (fun e => P e.2.1) = true) (h0 : P "" = true) (o : String) :
    P (cval o) = true := by
  unfold cval
  cases hf : Gen.computeEnum.find? (·.1 == o) with
  | none => exact h0
  | some e => exact List.all_eq_true.1 hall e (List.mem_of_find?_eq_some hf)
theorem cmpVal_all (P : String → Bool) (hall : Gen.compareEnum.all (fun e => P (PR.joinS " " e.2)) = true) (h0 : P "" = true) (o : String) :
    P (cmpVal o) = true := by
  unfold cmpVal
  cases hf : Gen.compareEnum.find? (·.1 == o) with
  | none => exact h0
  | some e => exact List.all_eq_true.1 hall e (List.mem_of_find?_eq_some hf)
def dullS (w : String) : Bool := !dwords.contains (up w)
theorem dull_S {w : String} (h : dullS w = true) : dull (opTok w) = true := noneOf_op upId_dwords (by simpa [dullS] using h)
theorem dull_cval (o : String) : dull (opTok (cval o)) = true := dull_S (cval_all dullS (by decide) (by decide) o)
theorem dull_cmpVal (o : String) : dull (opTok (cmpVal o)) = true := dull_S (cmpVal_all dullS (by decide) (by decide) o)

def kwList : List String := ["SELECT", "DISTINCT", "CASE", "WHEN", "THEN", "ELSE", "END", "EXISTS", "NOT", "AND", "OR", "XOR", "BETWEEN", "BY", "DESC", "IS", "IN", "LIKE", "RLIKE", "REGEXP", ".", "*", ",", "OUTER", "SEMI"]
theorem dull_kwList : kwList.all dullS = true := by decide
theorem dull_kw (w : String) (h : w ∈ kwList) : dull (opTok w) = true := dull_S (List.all_eq_true.1 dull_kwList w h)
theorem dk {w : String} (h : w ∈ kwList := by decide) : dull (opTok w) = true := dull_kw w h

def predWords : List String := ["IS", "NOT", "IN", "LIKE", "RLIKE", "REGEXP"]
theorem predWords_kw : ∀ w ∈ predWords, w ∈ kwList := by decide
theorem kwToks_words (k : KwKind) (n : Bool) :
    ∃ w ∈ predWords, kwToks k n = [opTok w] ∨ ∃ w' ∈ predWords, kwToks k n = [opTok w, opTok w'] := by
  cases k <;> cases n <;> first | exact ⟨_, by decide, .inl rfl⟩ | exact ⟨_, by decide, .inr ⟨_, by decide, rfl⟩⟩

end CT

namespace AT
variable {d : Gen.D}

/-! ### the tokens of the rendering that are walked over -/
theorem Skip.of_quiet {t : Tok} (h : CT.quietW t = true) (hl : tabT t = [] := by rfl) : Skip t :=
  ⟨CT.noneOf_mem h (by decide), CT.noneOf_mem h (by decide), hl⟩
theorem Skip.of_dull {t : Tok} (h : CT.dull t = true) (hl : tabT t = [] := by rfl) : Skip t := .of_quiet (CT.dull_quiet h) hl

theorem skip_name (n : String) : Skip (nameTok n) := .of_dull (CT.dull_name n)
theorem skip_named (a : String) (h : (opTok a).has NAME = true) : Skip (opTok a) := .of_quiet (CT.quiet_named a h)
theorem skip_q (n : String) (h : (qTok n).has NAME = true) : Skip (qTok n) :=
  .of_quiet (CT.quiet_q n h) (by unfold qTok; split <;> rfl)
theorem skip_lit (v : String) (hv : litOK d v = true) : Skip (litTok v) := .of_dull (CT.dull_lit v hv)
theorem skip_agg (n : String) (h : Gen.aggNames.contains (up n) = true) : Skip (opTok n) := .of_dull (CT.dull_agg n h)
theorem skip_cval (o : String) : Skip (opTok (cval o)) := .of_dull (CT.dull_cval o)
theorem skip_cmpVal (o : String) : Skip (opTok (cmpVal o)) := .of_dull (CT.dull_cmpVal o)
theorem skip_int (n : Int) (h : 0 ≤ n) : Skip (intTok n) := .of_dull (CT.dull_int n h)

def skipS (w : String) : Bool := !(opTok w).equalsStr "FROM" && !(opTok w).equalsStr "JOIN"
theorem skip_of_S (w : String) (h : skipS w = true) : Skip (opTok w) := by
  simp only [skipS, Bool.and_eq_true, Bool.not_eq_true'] at h
  exact ⟨h.1, h.2, rfl⟩

/-- a JOIN keyword sequence: words that are walked over, then `JOIN` -/
def joinSeqOK : List String → Bool
  | [] => false
  | [w] => (opTok w).equalsStr "JOIN" && !(opTok w).equalsStr "FROM"
  | w :: ws => skipS w && joinSeqOK ws
def hdW : List String → Bool
  | [] => false
  | w :: _ => !(opTok w).equalsStr "AS" && !(opTok w).equalsStr ","
theorem joinTypes_ok : Gen.joinTypes.all (fun e => joinSeqOK e.2 && hdW e.2) = true := by decide
theorem unionTypes_ok : Gen.unionTypes.all (fun e => e.2.all skipS && hdW e.2) = true := by decide

theorem joinSeq_scan (ws : List String) : joinSeqOK ws = true → ∀ rest, tabL .idle (ws.map opTok ++ rest) = tabL (.expect false) rest := by
  induction ws with
  | nil => intro h; exact absurd h (by decide)
  | cons w ws ih =>
    intro h rest
    cases ws with
    | nil =>
      have h' : ((opTok w).equalsStr "JOIN" && !(opTok w).equalsStr "FROM") = true := h
      simp only [Bool.and_eq_true, Bool.not_eq_true'] at h'
      simp only [List.map_cons, List.map_nil, List.cons_append, List.nil_append, tabL, h'.1, h'.2, if_true, Bool.false_eq_true, if_false]
    | cons w2 ws =>
      have h' : (skipS w && joinSeqOK (w2 :: ws)) = true := h
      simp only [Bool.and_eq_true] at h'
      have := ih h'.2 rest
      simp only [List.map_cons, List.cons_append] at this ⊢
      rw [idle_skip (skip_of_S w h'.1), this]
theorem hdW_hd (ws : List String) (h : hdW ws = true) (rest : List Tok) : hdOK (ws.map opTok ++ rest) = true := by
  cases ws with
  | nil => exact absurd h (by decide)
  | cons w ws => exact h

theorem joinWords_facts {ty : String} (h : joinTyOK d ty = true) :
    (∀ rest, tabL .idle (joinWords ty ++ rest) = tabL (.expect false) rest) ∧ (∀ rest, hdOK (joinWords ty ++ rest) = true) := by
  unfold joinWords
  cases hf : Gen.joinTypes.find? (·.1 == ty) with
  | none => simp [joinTyOK, joinWords, hf] at h
  | some e =>
    have := List.all_eq_true.1 joinTypes_ok e (List.mem_of_find?_eq_some hf)
    simp only [Bool.and_eq_true] at this
    exact ⟨joinSeq_scan e.2 this.1, hdW_hd e.2 this.2⟩

theorem skips_scan (ws : List String) : ws.all skipS = true → ∀ rest, tabL .idle (ws.map opTok ++ rest) = tabL .idle rest := by
  induction ws with
  | nil => intro _ _; rfl
  | cons w ws ih =>
    intro h rest
    rw [List.all_cons, Bool.and_eq_true] at h
    rw [List.map_cons, List.cons_append, idle_skip (skip_of_S w h.1), ih h.2 rest]

theorem unionWords_facts {ty : String} (h : unionTyOK d ty = true) :
    (∀ rest, tabL .idle (unionWords ty ++ rest) = tabL .idle rest) ∧ (∀ rest, hdOK (unionWords ty ++ rest) = true) := by
  unfold unionWords
  cases hf : Gen.unionTypes.find? (·.1 == ty) with
  | none => simp [unionTyOK, unionWords, hf] at h
  | some e =>
    have := List.all_eq_true.1 unionTypes_ok e (List.mem_of_find?_eq_some hf)
    simp only [Bool.and_eq_true] at this
    exact ⟨skips_scan e.2 this.1, hdW_hd e.2 this.2⟩

def tk (t : Tbl) : Tok := tblTok t.schema t.name
def AllOK (l : List Tbl) : Prop := ∀ t ∈ l, tblOK t.schema t.name = true
theorem allOK_nil : AllOK [] := fun _ h => by cases h
theorem allOK_app {a b : List Tbl} (ha : AllOK a) (hb : AllOK b) : AllOK (a ++ b) := by
  intro t ht
  rcases List.mem_append.1 ht with h | h
  · exact ha t h
  · exact hb t h

/-- a piece that is walked over outside FROM / JOIN positions whatever follows: its table tokens are the printed names of `l` -/
structure TabOK (ts : List Tok) (l : List Tbl) : Prop where
  scan : ∀ rest, tabL .idle (ts ++ rest) = l.map tk ++ tabL .idle rest
  ok : AllOK l
/-- the same for a piece that may end in a table position: what follows must not start with `AS` or a comma -/
structure TabOKH (ts : List Tok) (l : List Tbl) : Prop where
  scan : ∀ rest, hdOK rest = true → tabL .idle (ts ++ rest) = l.map tk ++ tabL .idle rest
  ok : AllOK l
/-- a piece that is empty or starts with a token that is neither `AS` nor a comma -/
def HdP (ts : List Tok) : Prop := ∀ rest, hdOK rest = true → hdOK (ts ++ rest) = true

theorem TabOK.nil : TabOK [] [] := ⟨fun _ => rfl, allOK_nil⟩
theorem TabOK.cast {ts ts' : List Tok} {l l' : List Tbl} (h : TabOK ts l) (e1 : ts = ts') (e2 : l = l') : TabOK ts' l' := by
  subst e1; subst e2; exact h
theorem TabOKH.cast {ts ts' : List Tok} {l l' : List Tbl} (h : TabOKH ts l) (e1 : ts = ts') (e2 : l = l') : TabOKH ts' l' := by
  subst e1; subst e2; exact h
theorem TabOK.app {a b : List Tok} {x y : List Tbl} (ha : TabOK a x) (hb : TabOK b y) : TabOK (a ++ b) (x ++ y) :=
  ⟨fun rest => by rw [List.append_assoc, ha.scan, hb.scan, List.map_append, List.append_assoc], allOK_app ha.ok hb.ok⟩
theorem TabOK.cons {t : Tok} {b : List Tok} {y : List Tbl} (ht : Skip t) (hb : TabOK b y) : TabOK (t :: b) y :=
  ⟨fun rest => by rw [List.cons_append, idle_skip ht, hb.scan], hb.ok⟩
theorem TabOK.one {t : Tok} (ht : Skip t) : TabOK [t] [] := TabOK.cons ht TabOK.nil
theorem TabOK.toH {a : List Tok} {x : List Tbl} (ha : TabOK a x) : TabOKH a x := ⟨fun rest _ => ha.scan rest, ha.ok⟩
theorem TabOK.appH {a b : List Tok} {x y : List Tbl} (ha : TabOK a x) (hb : TabOKH b y) : TabOKH (a ++ b) (x ++ y) :=
  ⟨fun rest hr => by rw [List.append_assoc, ha.scan, hb.scan rest hr, List.map_append, List.append_assoc], allOK_app ha.ok hb.ok⟩
theorem TabOK.consH {t : Tok} {b : List Tok} {y : List Tbl} (ht : Skip t) (hb : TabOKH b y) : TabOKH (t :: b) y :=
  ⟨fun rest hr => by rw [List.cons_append, idle_skip ht, hb.scan rest hr], hb.ok⟩
theorem TabOKH.app {a b : List Tok} {x y : List Tbl} (ha : TabOKH a x) (hb : TabOKH b y) (hp : HdP b) : TabOKH (a ++ b) (x ++ y) :=
  ⟨fun rest hr => by rw [List.append_assoc, ha.scan _ (hp rest hr), hb.scan rest hr, List.map_append, List.append_assoc],
   allOK_app ha.ok hb.ok⟩
theorem TabOKH.grp {ts : List Tok} {l : List Tbl} (h : TabOKH ts l) : TabOK [grp ts] l :=
  ⟨fun rest => by
    have := h.scan [] rfl
    simp only [List.append_nil, tabL] at this
    simp only [List.singleton_append, idle_grp, this], h.ok⟩
theorem TabOK.grp {ts : List Tok} {l : List Tbl} (h : TabOK ts l) : TabOK [grp ts] l := h.toH.grp
theorem TabOK.wrap {ts : List Tok} {l : List Tbl} (h : TabOK ts l) (b : Bool) (e : Expr) (k : Nat) : TabOK (wrapT b e k ts) l := by
  unfold wrapT
  split
  · exact h.grp
  · exact h
theorem TabOK.ite {ts : List Tok} (c : Bool) (h : TabOK ts []) : TabOK (if c then ts else []) [] := by
  cases c
  · exact TabOK.nil
  · exact h

theorem HdP.nil : HdP [] := fun _ h => h
theorem HdP.cons {t : Tok} (h1 : t.equalsStr "AS" = false) (h2 : t.equalsStr "," = false) (ts : List Tok) : HdP (t :: ts) :=
  fun rest _ => by simp [hdOK, h1, h2]
theorem HdP.app {a b : List Tok} (ha : HdP a) (hb : HdP b) : HdP (a ++ b) :=
  fun rest hr => by rw [List.append_assoc]; exact ha _ (hb rest hr)

def skWords : List String := ["ON", "AS", "GROUP", "ORDER", "LIMIT", "WHERE", "HAVING"]
theorem skWords_ok : skWords.all skipS = true := by decide
theorem sk {w : String} (h : w ∈ CT.kwList ∨ w ∈ skWords := by decide) : Skip (opTok w) :=
  h.elim (fun h => .of_dull (CT.dull_kw w h)) fun h => skip_of_S w (List.all_eq_true.1 skWords_ok w h)
theorem tab_kwToks (k : KwKind) (n : Bool) : TabOK (kwToks k n) [] := by
  obtain ⟨w, hw, e | ⟨w', hw', e⟩⟩ := CT.kwToks_words k n <;> rw [e]
  · exact TabOK.one (sk (.inl (CT.predWords_kw w hw)))
  · exact TabOK.cons (sk (.inl (CT.predWords_kw w hw))) (TabOK.one (sk (.inl (CT.predWords_kw w' hw'))))

theorem tab_alias (a : Option String) (h : optAliasOK a = true) : TabOK (aliasToks a) [] := by
  cases a with
  | none => exact TabOK.nil
  | some a =>
    simp only [optAliasOK, aliasOK, Bool.and_eq_true] at h
    exact TabOK.cons sk (TabOK.one (skip_named a h.1.1))
theorem after_alias (fl : Bool) (a : Option String) (rest : List Tok) : tabL (.after fl) (aliasToks a ++ rest) = tabL (.after fl) rest := by
  cases a with
  | none => rfl
  | some a =>
    have : (opTok "AS").equalsStr "AS" = true := by decide
    simp [aliasToks, tabL, this]

theorem tab_limit (lm : Option (Int × Option Int)) (h : limitOK lm = true) : TabOK (toksLimit lm) [] := by
  rcases lm with _ | ⟨n, _ | m⟩
  · exact TabOK.nil
  · simp only [limitOK, limOK, Bool.and_eq_true, decide_eq_true_eq] at h
    exact TabOK.cons sk (TabOK.one (skip_int n h.1))
  · simp only [limitOK, limOK, Bool.and_eq_true, decide_eq_true_eq] at h
    exact TabOK.cons sk (TabOK.cons (skip_int m h.2.1) (TabOK.cons sk (TabOK.one (skip_int n h.1.1))))
theorem hdp_limit (lm : Option (Int × Option Int)) : HdP (toksLimit lm) := by
  rcases lm with _ | ⟨n, _ | m⟩
  · exact HdP.nil
  · exact HdP.cons (by decide) (by decide) _
  · exact HdP.cons (by decide) (by decide) _

theorem nm_has {t : Tok} {n : String} (h : nmOK d t n = true) : t.has NAME = true := by
  simp only [nmOK, Bool.and_eq_true] at h
  exact h.1.1.1.1.1.1.1.2
theorem nm2_has {t : Tok} {n : String} (h : nm2OK t n = true) : t.has NAME = true := by
  simp only [nm2OK, Bool.and_eq_true] at h
  exact h.1.1

end AT
