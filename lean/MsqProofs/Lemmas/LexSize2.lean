import MsqProofs.Lemmas.LexSize
import MsqProofs.Oblig.LexCfg7
/-!
# C19, text level: at most ONE node of the token tree per `handle` call on the shipped table

`Lemmas/LexSize.lean` allows a leaf and a group per `handle` call (any table).  The decidable obligation `OneNode` — no operation of the
table both emits a leaf and closes a group — is checked on the shipped table by the kernel; under it a `handle` call adds at most one node,
hence `sizeL (lex text) ≤ 2·|text| + 1`.
-/
namespace Lex
variable {Cls : Type}

def oneNodeOp (cfg : Cfg Cls) (o : Option (OpRef Cls)) : Bool :=
  match o with
  | none => true
  | some o => match summarize (cfg.code o.cls) with
    | some sm => !(sm.body.isEmit && sm.grp.isPop)
    | none => true
/-- no operation of the table both emits a leaf token and closes a bracket group -/
def OneNode (cfg : Cfg Cls) : Bool :=
  allS.all fun s => ((cfg.rows s).all fun e => oneNodeOp cfg (some e.2)) && oneNodeOp cfg (cfg.dflt s) && oneNodeOp cfg (cfg.atEnd s)

theorem OneNode.lookup {cfg : Cfg Cls} (h : OneNode cfg = true) (s : S) (sym : Sym) : oneNodeOp cfg (cfg.lookup s sym) = true := by
  simp only [OneNode, List.all_eq_true, Bool.and_eq_true] at h
  have hs := h s (mem_allS s)
  cases sym with
  | eof => exact hs.2
  | ch c =>
    rcases cfg.lookup_ch_cases s c with ⟨e, hm, _, hl⟩ | hl <;> rw [hl]
    · exact hs.1.1 e hm
    · exact hs.1.2

/-- **the token tree has at most `2·|text| + 1` nodes** under `TableOK` and `OneNode` -/
theorem lex_size1 (cfg : Cfg Cls) (advSt : List S) (wk : S → WK) (hT : TableOK cfg advSt wk = true) (h1 : OneNode cfg = true)
    (raw : List Char) (toks : List Tok) (h : lex cfg raw = .ok toks) : sizeL toks ≤ 2 * (cfg.pre raw).length + 1 := by
  refine lex_size_of_step cfg 1 (fun text m sym m' b h => ?_) raw toks h
  obtain ⟨o, sm, ho, hs, _, hc⟩ := handle_ok_core cfg advSt wk text hT m m' sym b h
  have hone := OneNode.lookup h1 m.status sym
  simp only [ho, oneNodeOp, hs] at hone
  have := execCore_size _ _ _ _ _ _ _ _ _ _ _ hc
  cases hb : sm.body.isEmit <;> cases hg : sm.grp.isPop <;> simp_all

theorem oneNode_cfg7 : OneNode Gen.Cfg7.cfg = true := by decide +kernel

end Lex
