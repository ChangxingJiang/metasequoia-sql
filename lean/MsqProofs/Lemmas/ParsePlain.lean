import MsqModel.Parse.Entry
/-!
# Plain constants of the parser model

Every comparison the parser model makes with a token source is a comparison with a PLAIN constant (`plainB k`: `k` is empty or begins
with an ASCII character that is no quote character and not `(`); `ParseSubstKw.lean` holds one ground fact `plainB "WHEN" = true` per
string constant of the model.
-/
open Lex PM Ast
namespace PMQ

def opqCh (c : Char) : Bool := c == '\'' || c == '"' || c == '`' || c == '('
/-- a constant the parser compares token sources with: empty, or its first character is ASCII, no quote character, not `(` -/
def plainB (k : String) : Bool := match k.toList with | c :: _ => decide (c.toNat < 128) && !opqCh c | [] => true
/-- all String comparisons of the model are folded into this function before the runs are split (`grind` turns `a == b` into `a = b`,
which cannot be a pattern) -/
def strEq (a b : String) : Bool := a == b
theorem strEq_fold (a b : String) : (a == b) = strEq a b := rfl

end PMQ
