import MsqProofs.Lemmas.LexLinkDdl1
/-!
# The CREATE TABLE printers print `createL`

`prCreateMysql_eq` / `prCreateHive_eq`: on tables of the fragment with lexable leaves the printer succeeds with exactly the text
`createL d c` (`String` operations do not reduce in the kernel: the link is stated on the `List Char` mirror and tied to the printer
here).  The optional parts of the printers are first NAMED (`optStr`, `flagStr`, `prGen` …: definitionally the inline `match`es and
`if`s of `Print.lean`, `prDefCol_unf` … by `rfl`), so that the per-part lemmas rewrite them.
-/
namespace LD
open Lex Spec C05 C06 C09 Ast TP TS TD LexLink

def prGen (d : Gen.D) (my : Bool) : Option GenCol → PR.P
  | some g => if my then (do
      let e ← PR.prE d g.e
      match g.mode with
      | some m => pure s!" GENERATED ALWAYS AS ({PR.wrap g.e 8 e}) {m}"
      | none => .error (.py .AttributeError))
    else pure ""
  | none => pure ""
def prDflt (d : Gen.D) (my : Bool) : Option Expr → PR.P
  | some e => if my then (PR.prE d e).map fun x => s!" DEFAULT {PR.wrap e 8 x}" else pure ""
  | none => pure ""
def prOnUp (d : Gen.D) (my : Bool) : Option Expr → PR.P
  | some e => if my then (PR.prE d e).map fun x => s!" ON UPDATE {PR.wrap e 8 x}" else pure ""
  | none => pure ""
def optStr (my : Bool) (pre : String) : Option String → String
  | some s => if my then pre ++ s else ""
  | none => ""
def optIntStr (pre : String) : Option Int → String
  | some n => pre ++ toString n
  | none => ""
def flagStr (b my : Bool) (s : String) : String := if b && my then s else ""
def colStr (c : DefCol) (my : Bool) (ty gen dflt onu : String) : String :=
  s!"`{c.name}` {ty}" ++ flagStr c.unsigned my " UNSIGNED" ++ flagStr c.zerofill my " ZEROFILL" ++ optStr my " CHARACTER SET " c.charset
    ++ optStr my " COLLATE " c.collate ++ gen ++ flagStr c.allowNull my " NULL" ++ flagStr c.notNull my " NOT NULL"
    ++ flagStr c.autoInc my " AUTO_INCREMENT" ++ dflt ++ onu ++ optStr true " COMMENT " c.comment
theorem prDefCol_unf (d : Gen.D) (c : DefCol) : PR.prDefCol d c = (do
    let ty ← PR.prColType d c.type
    let gen ← prGen d (d == .MYSQL) c.generated
    let dflt ← prDflt d (d == .MYSQL) c.default
    let onu ← prOnUp d (d == .MYSQL) c.onUpdate
    pure (colStr c (d == .MYSQL) ty gen dflt onu)) := rfl

def idxStr (i : Index) : String :=
  i.kind.word ++ optStr true " " i.name ++ " (" ++ PR.joinS "," (i.cols.map PR.prIndexCol) ++ ")" ++ optStr true " USING " i.usingMethod
    ++ optStr true " COMMENT " i.comment ++ optIntStr " KEY_BLOCK_SIZE=" i.keyBlockSize
theorem prIndex_unf (i : Index) : PR.prIndex i = idxStr i := rfl
def fkStr (f : ForeignKey) : String :=
  s!"CONSTRAINT {f.constraint} FOREIGN KEY ({PR.joinS ", " f.slave}) REFERENCES {f.master} ({PR.joinS ", " f.masterCols})"
    ++ optStr true " ON DELETE " f.onDelete ++ optStr true " ON UPDATE " f.onUpdate
theorem prForeignKey_unf (f : ForeignKey) : PR.prForeignKey f = fkStr f := rfl

def optIdxStrs : Option Index → List String
  | some i => [PR.prIndex i]
  | none => []
def createMyStr (c : CreateTable) (cols : List String) : String :=
  PR.titleStr c ++ " (\n" ++ PR.joinS ",\n" ((cols ++ optIdxStrs c.primaryKey ++ c.uniqueKey.map PR.prIndex ++ c.key.map PR.prIndex
      ++ c.fulltextKey.map PR.prIndex ++ c.foreignKey.map PR.prForeignKey).map ("  " ++ ·)) ++ "\n)"
    ++ optStr true " ENGINE=" c.engine ++ optIntStr " AUTO_INCREMENT=" c.autoIncrement ++ optStr true " DEFAULT CHARSET=" c.defaultCharset
    ++ optStr true " COLLATE=" c.collate ++ optStr true " ROW_FORMAT=" c.rowFormat ++ optStr true " STATS_PERSISTENT=" c.statesPersistent
    ++ optStr true " COMMENT=" c.comment
theorem prCreateMysql_unf (c : CreateTable) :
    PR.prCreateMysql c = (PR.mapM' (PR.prDefCol .MYSQL) c.columns >>= fun cols => pure (createMyStr c cols)) := rfl
def partStr (ps : List DefCol) (parts : List String) : String :=
  if ps.isEmpty then "" else s!" PARTITIONED BY ({PR.joinS ", " parts})"
def propsStr (ps : List ConfigStr) : String :=
  if ps.isEmpty then "" else " TBLPROPERTIES (" ++ PR.joinS ", " (ps.map fun p => s!"{p.name}={p.value}") ++ ")"
def createHiveStr (c : CreateTable) (cols parts : List String) : String :=
  " " ++ PR.titleStr c ++ "(\n" ++ PR.joinS ",\n" (cols.map ("  " ++ ·)) ++ "\n)"
    ++ optStr true " COMMENT " c.comment ++ partStr c.partitionedBy parts ++ optStr true " ROW FORMAT SERDE " c.rowFormatSerde
    ++ optStr true " ROW FORMAT DELIMITED FIELDS TERMINATED BY " c.rowFormatDelimited
    ++ optStr true " STORED AS INPUTFORMAT " c.storedAsInputformat ++ (if c.storedAsTextfile then " STORED AS TEXTFILE" else "")
    ++ optStr true " OUTPUTFORMAT " c.outputformat ++ optStr true " LOCATION " c.location ++ propsStr c.tblproperties
theorem prCreateHive_unf (c : CreateTable) :
    PR.prCreateHive c = (PR.mapM' (PR.prDefCol .HIVE) c.columns >>= fun cols =>
      PR.mapM' (PR.prDefCol .HIVE) c.partitionedBy >>= fun parts => pure (createHiveStr c cols parts)) := rfl

theorem flagStr_toList (b : Bool) (s : String) (w : List String) (h : s.toList = tailL (wordsP w)) :
    (flagStr b true s).toList = tailL (flagP b w) := by
  cases b
  · rfl
  · simpa [flagStr, flagP] using h
theorem ite_toList (b : Bool) (s : String) (w : List String) (h : s.toList = tailL (wordsP w)) :
    (if b = true then s else "").toList = tailL (flagP b w) := by
  cases b
  · rfl
  · simpa [flagP] using h
theorem flagStr_false (b : Bool) (s : String) : flagStr b false s = "" := by cases b <;> rfl
theorem optStr_false (pre : String) (o : Option String) : optStr false pre o = "" := by cases o <;> rfl

theorem optStr_src (pre : String) (kws : List String) (h : pre.toList = tailL (wordsP kws) ++ [' ']) (o : Option String) :
    (optStr true pre o).toList = tailL (srcP kws o) := by
  cases o with
  | none => rfl
  | some s => simp [optStr, String.toList_append, h, srcP]
theorem optStr_eq (pre : String) (ws : List String) (kw : String) (h : pre.toList = tailL (wordsP ws) ++ ' ' :: (kw.toList ++ ['='])) (o : Option String) :
    (optStr true pre o).toList = tailL (optEqP ws kw o) := by
  cases o with
  | none => rfl
  | some s => simp [optStr, String.toList_append, h, optEqP]
theorem optIntStr_eq (pre : String) (kw : String) (h : pre.toList = ' ' :: (kw.toList ++ ['='])) (o : Option Int) :
    (optIntStr pre o).toList = tailL (optIntP kw o) := by
  cases o with
  | none => rfl
  | some n => simp [optIntStr, String.toList_append, h, optIntP]

theorem prColType_eq (d : Gen.D) (t : ColType) (hf : typeOK d t = true) (hl : LeafType d t) :
    PR.prColType d t = .ok (String.ofList (typeL d t)) := by
  obtain ⟨tn, ps⟩ := t
  cases ps with
  | none => simp [PR.prColType, typeL, String.ofList_toList]
  | some ps =>
    simp only [typeOK, Bool.and_eq_true, Bool.not_eq_eq_eq_not, Bool.not_true, List.all_eq_true] at hf
    have hd : (d == Gen.D.HIVE && !(["DECIMAL", "VARCHAR", "CHAR"].contains (Gen.pyUpperS tn))) = false := hf.1.1
    have h8 := prList8_eq d ps fun e he => ⟨hf.1.2 e he, hl.2 ps rfl e he⟩
    simp only [PR.prColType, hd, Bool.false_eq_true, if_false, h8, Except.map, typeL, hiveDrops]
    refine congrArg Except.ok (ofList_eq ?_)
    have e1 : (",": String).toList = [','] := rfl
    simp [toString, String.toList_append, toList_joinS, e1, parenL, comp_toList_ofList]

theorem prGen_my (d : Gen.D) (g : Option GenCol) (hf : genOK d g = true) (hl : genLeaf d g) :
    prGen d true g = .ok (String.ofList (tailL (genP d g))) := by
  cases g with
  | none => rfl
  | some g =>
    obtain ⟨e, m⟩ := g
    cases m with
    | none => simp [genOK] at hf
    | some m =>
      simp only [genOK, Bool.and_eq_true] at hf
      have h1 := prE_eq d e hf.1 hl
      simp only [prGen, if_true, h1, bind, Except.bind, pure, Except.pure, wrap_ofList]
      refine congrArg Except.ok (ofList_eq ?_)
      have e1 : (" GENERATED ALWAYS AS (" : String).toList =
          ' ' :: ("GENERATED".toList ++ ' ' :: ("ALWAYS".toList ++ ' ' :: ("AS".toList ++ [' ', '(']))) := by decide +kernel
      have e2 : (") " : String).toList = [')', ' '] := rfl
      simp [toString, String.toList_append, String.toList_ofList, e1, e2, genP, wordsP, parenL, keyL]

theorem prDflt_my (d : Gen.D) (o : Option Expr) (hf : optFragE d o = true) (hl : optLeaf d o) :
    prDflt d true o = .ok (String.ofList (tailL (dfltP d o))) := by
  cases o with
  | none => rfl
  | some e =>
    have h1 := prE_eq d e hf hl
    simp only [prDflt, if_true, h1, Except.map, wrap_ofList]
    refine congrArg Except.ok (ofList_eq ?_)
    have e1 : (" DEFAULT " : String).toList = ' ' :: ("DEFAULT".toList ++ [' ']) := by decide +kernel
    simp [toString, String.toList_append, String.toList_ofList, e1, dfltP, keyL]

theorem prOnUp_my (d : Gen.D) (o : Option Expr) (hf : optFragE d o = true) (hl : optLeaf d o) :
    prOnUp d true o = .ok (String.ofList (tailL (onUpP d o))) := by
  cases o with
  | none => rfl
  | some e =>
    have h1 := prE_eq d e hf hl
    simp only [prOnUp, if_true, h1, Except.map, wrap_ofList]
    refine congrArg Except.ok (ofList_eq ?_)
    have e1 : (" ON UPDATE " : String).toList = ' ' :: ("ON".toList ++ ' ' :: ("UPDATE".toList ++ [' '])) := by decide +kernel
    simp [toString, String.toList_append, String.toList_ofList, e1, onUpP, keyL]

theorem prGen_false (d : Gen.D) (g : Option GenCol) : prGen d false g = .ok "" := by cases g <;> rfl
theorem prDflt_false (d : Gen.D) (o : Option Expr) : prDflt d false o = .ok "" := by cases o <;> rfl
theorem prOnUp_false (d : Gen.D) (o : Option Expr) : prOnUp d false o = .ok "" := by cases o <;> rfl

theorem comment_toList (o : Option String) : (optStr true " COMMENT " o).toList = tailL (srcP ["COMMENT"] o) :=
  optStr_src " COMMENT " ["COMMENT"] (by decide +kernel) o

theorem head_toList (n : String) (ty : List Char) : (s!"`{n}` {String.ofList ty}").toList = bqL n ++ ' ' :: ty := by
  have e1 : ("`" : String).toList = ['`'] := rfl
  have e2 : ("` " : String).toList = ['`', ' '] := rfl
  simp [toString, String.toList_append, String.toList_ofList, e1, e2, bqL]

theorem prDefCol_my (c : DefCol) (hf : TD.colOK .MYSQL c = true) (hl : LeafCol .MYSQL c) :
    PR.prDefCol .MYSQL c = .ok (String.ofList (defColL .MYSQL c)) := by
  have hm : (Gen.D.MYSQL == Gen.D.MYSQL) = true := rfl
  simp only [TD.colOK, hm, if_true, Bool.and_eq_true] at hf
  rw [prDefCol_unf]
  simp only [hm, prColType_eq .MYSQL c.type hf.1.2 hl.type, prGen_my .MYSQL c.generated hf.2.2 hl.gen,
    prDflt_my .MYSQL c.default hf.2.1.1 hl.dflt, prOnUp_my .MYSQL c.onUpdate hf.2.1.2 hl.onUp, bind, Except.bind, pure, Except.pure]
  refine congrArg Except.ok (ofList_eq ?_)
  unfold colStr
  have e1 : ("`" : String).toList = ['`'] := rfl
  have e2 : ("` " : String).toList = ['`', ' '] := rfl
  simp only [String.toList_append, String.toList_ofList,
    flagStr_toList c.unsigned " UNSIGNED" ["UNSIGNED"] (by decide +kernel),
    flagStr_toList c.zerofill " ZEROFILL" ["ZEROFILL"] (by decide +kernel),
    flagStr_toList c.allowNull " NULL" ["NULL"] (by decide +kernel),
    flagStr_toList c.notNull " NOT NULL" ["NOT", "NULL"] (by decide +kernel),
    flagStr_toList c.autoInc " AUTO_INCREMENT" ["AUTO_INCREMENT"] (by decide +kernel),
    optStr_src " CHARACTER SET " ["CHARACTER", "SET"] (by decide +kernel) c.charset,
    optStr_src " COLLATE " ["COLLATE"] (by decide +kernel) c.collate, comment_toList]
  simp only [toString, e1, e2, String.toList_ofList, defColL, attrsP, hm, if_true, myAttrsP, tailL_cons, tailL_append, bqL, List.append_assoc,
    List.cons_append, List.nil_append]

/-- the Hive rendering of a column definition: name, type, comment (whatever else the column has) -/
theorem prDefCol_hive (c : DefCol) (hf : typeOK .HIVE c.type = true) (hl : LeafType .HIVE c.type) :
    PR.prDefCol .HIVE c = .ok (String.ofList (defColL .HIVE c)) := by
  have hm : (Gen.D.HIVE == Gen.D.MYSQL) = false := rfl
  rw [prDefCol_unf]
  simp only [hm, prColType_eq .HIVE c.type hf hl, prGen_false, prDflt_false, prOnUp_false, bind, Except.bind, pure, Except.pure]
  refine congrArg Except.ok (ofList_eq ?_)
  unfold colStr
  have e0 : ("" : String).toList = [] := rfl
  have e1 : ("`" : String).toList = ['`'] := rfl
  have e2 : ("` " : String).toList = ['`', ' '] := rfl
  simp only [String.toList_append, flagStr_false, optStr_false, e0, List.append_nil, comment_toList]
  simp only [toString, e1, e2, String.toList_ofList, defColL, attrsP, hm, Bool.false_eq_true, if_false, tailL_cons, bqL, List.append_assoc,
    List.cons_append, List.nil_append]

theorem mapM_eq {α : Type} (f : α → PR.P) (g : α → List Char) : ∀ (l : List α), (∀ x ∈ l, f x = .ok (String.ofList (g x))) →
    PR.mapM' f l = .ok (l.map fun x => String.ofList (g x))
  | [], _ => rfl
  | a :: r, h => by
    simp only [PR.mapM', h a (by simp), mapM_eq f g r fun x hx => h x (by simp [hx]), bind, Except.bind, pure, Except.pure, List.map_cons]

theorem prIndexCol_toList (c : IndexCol) : (PR.prIndexCol c).toList = idxColL c := by
  obtain ⟨n, ml⟩ := c
  have e1 : ("`" : String).toList = ['`'] := rfl
  have e2 : ("`(" : String).toList = ['`', '('] := rfl
  have e3 : (")" : String).toList = [')'] := rfl
  cases ml <;> simp [PR.prIndexCol, idxColL, toString, String.toList_append, e1, e2, e3, bqL, parenL]

theorem kind_toList (k : IndexKind) : k.word.toList = kindL k := by cases k <;> rfl

theorem idxName_toList (o : Option String) : (optStr true " " o).toList = tailL (idxNameP o) := by
  have e : (" " : String).toList = [' '] := rfl
  cases o <;> simp [optStr, idxNameP, String.toList_append, e]

theorem prIndex_toList (i : Index) : (PR.prIndex i).toList = indexL i := by
  have e1 : (" (" : String).toList = [' ', '('] := rfl
  have e2 : (")" : String).toList = [')'] := rfl
  have e3 : ("," : String).toList = [','] := rfl
  have hc : (i.cols.map PR.prIndexCol).map String.toList = i.cols.map idxColL := by
    rw [List.map_map]; exact List.map_congr_left fun c _ => prIndexCol_toList c
  rw [prIndex_unf]
  unfold idxStr
  simp only [String.toList_append, kind_toList, idxName_toList, toList_joinS, hc, e1, e2, e3,
    optStr_src " USING " ["USING"] (by decide +kernel) i.usingMethod, comment_toList,
    optIntStr_eq " KEY_BLOCK_SIZE=" "KEY_BLOCK_SIZE" (by decide +kernel) i.keyBlockSize]
  simp only [indexL, tailL_cons, tailL_append, parenL, List.append_assoc, List.cons_append, List.nil_append]

theorem act_toList (pre : String) (b : String) (h : pre.toList = ' ' :: ("ON".toList ++ ' ' :: (b.toList ++ [' ']))) (o : Option String) :
    (optStr true pre o).toList = tailL (actP b o) := by
  cases o with
  | none => rfl
  | some s => simp [optStr, String.toList_append, h, actP]

theorem prForeignKey_toList (k : ForeignKey) : (PR.prForeignKey k).toList = fkL k := by
  have e1 : ("CONSTRAINT " : String).toList = "CONSTRAINT".toList ++ [' '] := by decide +kernel
  have e2 : (" FOREIGN KEY (" : String).toList = ' ' :: ("FOREIGN".toList ++ ' ' :: ("KEY".toList ++ [' ', '('])) := by decide +kernel
  have e3 : (") REFERENCES " : String).toList = ')' :: ' ' :: ("REFERENCES".toList ++ [' ']) := by decide +kernel
  have e4 : (" (" : String).toList = [' ', '('] := rfl
  have e5 : (")" : String).toList = [')'] := rfl
  have e6 : (", " : String).toList = [',', ' '] := rfl
  rw [prForeignKey_unf]
  unfold fkStr
  simp only [String.toList_append]
  simp only [toString]
  simp only [toList_joinS]
  simp only [e6]
  simp only [e4, e5]
  simp only [e1]
  simp only [e2]
  simp only [e3]
  simp only [act_toList " ON DELETE " "DELETE" (by decide +kernel) k.onDelete, act_toList " ON UPDATE " "UPDATE" (by decide +kernel) k.onUpdate]
  unfold fkL namesL parenL
  generalize "CONSTRAINT".toList = w1
  generalize "FOREIGN".toList = w2
  generalize "KEY".toList = w3
  generalize "REFERENCES".toList = w4
  simp only [tailL_cons, tailL_append, List.append_assoc, List.cons_append, List.nil_append]

theorem tableNameSrc_toList (t : TableName) : (PR.tableNameSrc t.schema t.name).toList = tblL t := by
  obtain ⟨s, n⟩ := t
  have e1 : ("`" : String).toList = ['`'] := rfl
  have e2 : ("." : String).toList = ['.'] := rfl
  cases s <;> simp [PR.tableNameSrc, tblL, bqL, tblStr, toString, String.toList_append, e1, e2]

theorem titleS_toList (c : CreateTable) :
    (PR.titleStr c).toList = "CREATE".toList ++ tailL ("TABLE".toList :: (flagP c.ifNotExists ["IF", "NOT", "EXISTS"] ++ [tblL c.table])) := by
  have e1 : ("CREATE TABLE" : String).toList = "CREATE".toList ++ ' ' :: "TABLE".toList := by decide +kernel
  have e2 : (" " : String).toList = [' '] := rfl
  have e3 : (" IF NOT EXISTS" : String).toList = tailL (wordsP ["IF", "NOT", "EXISTS"]) := by decide +kernel
  have e4 : ("" : String).toList = [] := rfl
  unfold PR.titleStr
  cases c.ifNotExists
  · simp only [toString, String.toList_append, e1, e2, e4, tableNameSrc_toList, Bool.false_eq_true, if_false, flagP]
    simp only [tailL_cons, tailL_nil, List.append_assoc, List.cons_append, List.nil_append, List.append_nil]
  · simp only [toString, String.toList_append, e1, e2, e3, tableNameSrc_toList, if_true, flagP]
    simp only [tailL_cons, tailL_append, tailL_nil, List.append_assoc, List.cons_append, List.nil_append, List.append_nil]

theorem indent_map (l : List String) : (l.map ("  " ++ ·)).map String.toList = (l.map String.toList).map fun x => ' ' :: ' ' :: x := by
  have e : ("  " : String).toList = [' ', ' '] := rfl
  simp [List.map_map, Function.comp_def, String.toList_append, e]

theorem optIdx_toList (o : Option Index) : (optIdxStrs o).map String.toList = (optList o).map indexL := by
  cases o <;> simp [optIdxStrs, optList, prIndex_toList]

theorem prCreateMysql_eq (c : CreateTable) (hf : FragCreate .MYSQL c = true) (hl : LeafC .MYSQL c) :
    PR.prCreateMysql c = .ok (String.ofList (createL .MYSQL c)) := by
  have hm : (Gen.D.MYSQL == Gen.D.MYSQL) = true := rfl
  have hcols : ∀ x ∈ c.columns, TD.colOK .MYSQL x = true := by
    simp only [FragCreate, Bool.and_eq_true, List.all_eq_true] at hf
    exact hf.1.1.2
  have h1 := mapM_eq (PR.prDefCol .MYSQL) (defColL .MYSQL) c.columns fun x hx => prDefCol_my x (hcols x hx) (hl.cols x hx)
  rw [prCreateMysql_unf, h1, PR.ok_bind]
  refine congrArg Except.ok (ofList_eq ?_)
  have e1 : (" (\n" : String).toList = [' ', '(', '\n'] := rfl
  have e2 : ("\n)" : String).toList = ['\n', ')'] := rfl
  have e3 : (",\n" : String).toList = [',', '\n'] := rfl
  have hi : ∀ l : List Index, (l.map PR.prIndex).map String.toList = l.map indexL := by
    intro l; rw [List.map_map]; exact List.map_congr_left fun i _ => prIndex_toList i
  have hk : (c.foreignKey.map PR.prForeignKey).map String.toList = c.foreignKey.map fkL := by
    rw [List.map_map]; exact List.map_congr_left fun i _ => prForeignKey_toList i
  unfold createMyStr
  simp only [String.toList_append, titleS_toList, toList_joinS, indent_map, List.map_append, hi, hk, optIdx_toList, map_toList_ofList, e1, e2, e3,
    optStr_eq " ENGINE=" [] "ENGINE" (by decide +kernel) c.engine,
    optIntStr_eq " AUTO_INCREMENT=" "AUTO_INCREMENT" (by decide +kernel) c.autoIncrement,
    optStr_eq " DEFAULT CHARSET=" ["DEFAULT"] "CHARSET" (by decide +kernel) c.defaultCharset,
    optStr_eq " COLLATE=" [] "COLLATE" (by decide +kernel) c.collate,
    optStr_eq " ROW_FORMAT=" [] "ROW_FORMAT" (by decide +kernel) c.rowFormat,
    optStr_eq " STATS_PERSISTENT=" [] "STATS_PERSISTENT" (by decide +kernel) c.statesPersistent,
    optStr_eq " COMMENT=" [] "COMMENT" (by decide +kernel) c.comment]
  simp only [createL, hm, if_true, myOptsP, linesL, groupL, parenL, tailL_cons, tailL_append, tailL_nil, List.append_assoc, List.cons_append,
    List.nil_append, List.append_nil, List.map_append]

theorem part_toList (d : Gen.D) (ps : List DefCol) : (partStr ps (ps.map fun x => String.ofList (defColL d x))).toList = tailL (partP d ps) := by
  have e1 : (" PARTITIONED BY (" : String).toList = ' ' :: ("PARTITIONED".toList ++ ' ' :: ("BY".toList ++ [' ', '('])) := by decide +kernel
  have e2 : (")" : String).toList = [')'] := rfl
  have e3 : (", " : String).toList = [',', ' '] := rfl
  cases he : ps.isEmpty with
  | true => simp only [partStr, partP, he, if_true]; rfl
  | false =>
    simp only [partStr, partP, he, Bool.false_eq_true, if_false, toString, String.toList_append, toList_joinS, map_toList_ofList, e1, e2, e3]
    simp only [parenL, tailL_cons, tailL_nil, List.append_assoc, List.cons_append, List.nil_append, List.append_nil]

theorem props_toList (ps : List ConfigStr) : (propsStr ps).toList = tailL (propsP ps) := by
  have e1 : (" TBLPROPERTIES (" : String).toList = ' ' :: ("TBLPROPERTIES".toList ++ [' ', '(']) := by decide +kernel
  have e2 : (")" : String).toList = [')'] := rfl
  have e3 : (", " : String).toList = [',', ' '] := rfl
  have e4 : ("=" : String).toList = ['='] := rfl
  have hp : (ps.map fun p => s!"{p.name}={p.value}").map String.toList = ps.map propL := by
    rw [List.map_map]
    exact List.map_congr_left fun p _ => by simp [toString, String.toList_append, e4, propL]
  cases he : ps.isEmpty with
  | true => simp only [propsStr, propsP, he, if_true]; rfl
  | false =>
    simp only [propsStr, propsP, he, Bool.false_eq_true, if_false, String.toList_append, toList_joinS, hp, e1, e2, e3]
    simp only [parenL, tailL_cons, tailL_nil, List.append_assoc, List.cons_append, List.nil_append, List.append_nil]

/-- the text of the Hive printer, as a function of the column and partition-column texts -/
theorem createHiveStr_toList (c : CreateTable) :
    (createHiveStr c (c.columns.map fun x => String.ofList (defColL .HIVE x))
      (c.partitionedBy.map fun x => String.ofList (defColL .HIVE x))).toList = createL .HIVE c := by
  have hm : (Gen.D.HIVE == Gen.D.MYSQL) = false := rfl
  have e0 : (" " : String).toList = [' '] := rfl
  have e1 : ("(\n" : String).toList = ['(', '\n'] := rfl
  have e2 : ("\n)" : String).toList = ['\n', ')'] := rfl
  have e3 : (",\n" : String).toList = [',', '\n'] := rfl
  unfold createHiveStr
  simp only [String.toList_append, titleS_toList, toList_joinS, indent_map, map_toList_ofList, e0, e1, e2, e3, comment_toList, part_toList, props_toList,
    optStr_src " ROW FORMAT SERDE " ["ROW", "FORMAT", "SERDE"] (by decide +kernel) c.rowFormatSerde,
    optStr_src " ROW FORMAT DELIMITED FIELDS TERMINATED BY " ["ROW", "FORMAT", "DELIMITED", "FIELDS", "TERMINATED", "BY"] (by decide +kernel)
      c.rowFormatDelimited,
    optStr_src " STORED AS INPUTFORMAT " ["STORED", "AS", "INPUTFORMAT"] (by decide +kernel) c.storedAsInputformat,
    ite_toList c.storedAsTextfile " STORED AS TEXTFILE" ["STORED", "AS", "TEXTFILE"] (by decide +kernel),
    optStr_src " OUTPUTFORMAT " ["OUTPUTFORMAT"] (by decide +kernel) c.outputformat,
    optStr_src " LOCATION " ["LOCATION"] (by decide +kernel) c.location]
  simp only [createL, hm, Bool.false_eq_true, if_false, hiveOptsP, linesL, groupL, parenL, tailL_cons, tailL_append, tailL_nil, List.append_assoc,
    List.cons_append, List.nil_append, List.append_nil]

theorem prCreateHive_eq (c : CreateTable) (hf : FragCreate .HIVE c = true) (hl : LeafC .HIVE c) :
    PR.prCreateHive c = .ok (String.ofList (createL .HIVE c)) := by
  have hm : (Gen.D.HIVE == Gen.D.MYSQL) = false := rfl
  simp only [FragCreate, hm, Bool.false_eq_true, if_false, Bool.and_eq_true, List.all_eq_true] at hf
  have hcols := hf.1.1.2
  have hparts := hf.2.1.1.1.1.1.1.1.1.2   -- the conjunct on `partitionedBy` of `FragCreate`
  have ty : ∀ x : DefCol, TD.colOK .HIVE x = true → typeOK .HIVE x.type = true := by
    intro x hx; simp only [TD.colOK, Bool.and_eq_true] at hx; exact hx.1.2
  have h1 := mapM_eq (PR.prDefCol .HIVE) (defColL .HIVE) c.columns fun x hx => prDefCol_hive x (ty x (hcols x hx)) (hl.cols x hx).type
  have h2 := mapM_eq (PR.prDefCol .HIVE) (defColL .HIVE) c.partitionedBy fun x hx => prDefCol_hive x (ty x (hparts x hx)) (hl.parts x hx).type
  rw [prCreateHive_unf, h1, PR.ok_bind, h2, PR.ok_bind]
  exact congrArg Except.ok (ofList_eq (createHiveStr_toList c))

end LD
