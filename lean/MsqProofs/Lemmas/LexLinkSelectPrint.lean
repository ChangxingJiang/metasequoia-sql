import MsqProofs.Lemmas.LexLinkSelect
/-!
# The lexer link for the single SELECT, printer side

`clauses d s` lists the lines the SELECT printer writes for a fragment SELECT — as character lists — each paired with
the tokens `TS.toksS` renders it to; `prSL d s` joins the lines with line breaks (that each line lexes to its tokens is
`lx_prS`, `LexLinkSelectLink.lean`).  `LeafS d s` collects the leaf hypotheses: `LexLink.Leaf` on every expression, plain
non-keyword aliases, back-quote-free table names.  Lexer-side lemmas on lists, aliases, numerals; `allP`: no pre-pass character.
-/
namespace LexLink
open Lex Spec C05 C06 C09 Ast TP TS

/-- an alias the printer prints bare: a plain name that is no word of the keyword table (exactly the hypothesis of
`TS.aliasOK_of_plain`) -/
def aliasLex (a : String) : Prop := PR.isPlainName a = true ∧ Gen.wordMarks.any (·.1 == Gen.pyUpperS a) = false
def optAliasLex : Option String → Prop
  | none => True
  | some a => aliasLex a
/-- a table name without back-quote and without a character the lexer's pre-pass rewrites (true of every plain name) -/
def nameLex (n : String) : Prop := ∀ x ∈ n.toList, x ≠ '`' ∧ plain x = true
def tableLex : FromTable → Prop
  | .mk t a => nameLex (tblName t) ∧ optAliasLex a
def ruleLeaf (d : Gen.D) : Option JoinRule → Prop
  | some (.on e) => Leaf d e
  | _ => True
def joinLex (d : Gen.D) : Join → Prop
  | .mk _ t rule => tableLex t ∧ ruleLeaf d rule
def optLeaf (d : Gen.D) : Option Expr → Prop
  | some e => Leaf d e
  | none => True
def groupLeaf (d : Gen.D) : Option GroupBy → Prop
  | some (.mk cols _ _ _) => ∀ e ∈ cols, Leaf d e
  | none => True
def ordLeaf (d : Gen.D) : OrderItem → Prop
  | .mk e _ _ _ => Leaf d e
def orderLeaf (d : Gen.D) : Option (List OrderItem) → Prop
  | some l => ∀ o ∈ l, ordLeaf d o
  | none => True
def LeafS (d : Gen.D) : Select → Prop
  | .mk _ _ cols fr _ js wh gb hv ob _ _ _ _ =>
    (∀ c ∈ cols, Leaf d c.1 ∧ optAliasLex c.2) ∧ (∀ l, fr = some l → ∀ t ∈ l, tableLex t) ∧ (∀ j ∈ js, joinLex d j) ∧
      optLeaf d wh ∧ groupLeaf d gb ∧ optLeaf d hv ∧ orderLeaf d ob

/-- `sep.join(parts)` on character lists -/
def joinLL (sep : List Char) : List (List Char) → List Char
  | [] => []
  | [a] => a
  | a :: b :: r => a ++ sep ++ joinLL sep (b :: r)

def aliasL : Option String → List Char
  | none => []
  | some a => " AS ".toList ++ a.toList
def colL (d : Gen.D) (c : Expr × Option String) : List Char := prEL d c.1 ++ aliasL c.2
def tableL : FromTable → List Char
  | .mk t a => '`' :: ((tblName t).toList ++ ['`']) ++ aliasL a
def ruleL (d : Gen.D) : Option JoinRule → List Char
  | some (.on e) => " ON ".toList ++ prEL d e
  | _ => []
def joinWordsL (ty : String) : List Char :=
  match Gen.joinTypes.find? (·.1 == ty) with | some e => joinLL [' '] (e.2.map String.toList) | none => []
def keyL (d : Gen.D) (e : Expr) : List Char := wrapL e 8 (prEL d e)
def ordItemL (d : Gen.D) : OrderItem → List Char
  | .mk e desc _ _ => keyL d e ++ (if desc then " DESC".toList else [])

abbrev Clause := List Char × List Tok

def selC (d : Gen.D) (dist : Bool) (c : Expr × Option String) (cs : List (Expr × Option String)) : Clause :=
  ("SELECT".toList ++ ' ' :: ((if dist then "DISTINCT ".toList else []) ++ joinLL [',', ' '] ((c :: cs).map (colL d))),
   opTok "SELECT" :: ((if dist then [opTok "DISTINCT"] else []) ++ (toksCol d c ++ toksColsTail d cs)))
def fromC : Option (List FromTable) → List Clause
  | some (t :: ts) => [("FROM".toList ++ ' ' :: joinLL [',', ' '] ((t :: ts).map tableL), opTok "FROM" :: (toksTable t ++ toksTablesTail ts))]
  | _ => []
def joinC (d : Gen.D) : Join → Clause
  | .mk ty t rule => (joinWordsL ty ++ ' ' :: (tableL t ++ ruleL d rule), joinWords ty ++ (toksTable t ++ toksRule d rule))
def optC (d : Gen.D) (kw : String) : Option Expr → List Clause
  | some e => [(kw.toList ++ ' ' :: prEL d e, opTok kw :: toksE d noX e)]
  | none => []
def groupC (d : Gen.D) : Option GroupBy → List Clause
  | some (.mk (e :: es) _ _ _) =>
    [("GROUP BY".toList ++ ' ' :: joinLL [',', ' '] ((e :: es).map (keyL d)), opTok "GROUP" :: opTok "BY" :: (W d noX e 8 ++ toksKeysTail d es))]
  | _ => []
def orderC (d : Gen.D) : Option (List OrderItem) → List Clause
  | some (o :: os) =>
    [("ORDER BY".toList ++ ' ' :: joinLL [',', ' '] ((o :: os).map (ordItemL d)), opTok "ORDER" :: opTok "BY" :: (toksOrdItem d o ++ toksOrdTail d os))]
  | _ => []
def limitC : Option (Int × Option Int) → List Clause
  | some (n, none) => [("LIMIT".toList ++ ' ' :: (toString n).toList, [opTok "LIMIT", intTok n])]
  | some (n, some m) =>
    [("LIMIT".toList ++ ' ' :: ((toString m).toList ++ ',' :: ' ' :: (toString n).toList), [opTok "LIMIT", intTok m, commaTok, intTok n])]
  | none => []

def clauses (d : Gen.D) : Select → List Clause
  | .mk _ dist (c :: cs) fr _ js wh gb hv ob _ _ _ lm =>
    selC d dist c cs :: (fromC fr ++ (js.map (joinC d) ++ (optC d "WHERE" wh ++ (groupC d gb ++ (optC d "HAVING" hv ++ (orderC d ob ++ limitC lm))))))
  | _ => []

def prSL (d : Gen.D) (s : Select) : List Char := joinLL ['\n'] ((clauses d s).map (·.1))

/-- a non-empty list joined by `,` and a gap that a text may be preceded by (a blank; a blank and a line break) -/
theorem lx_commaGap (g : List Char) (hg : ∀ {b : List Char} {tb : List Tok}, Lx b tb → Lx (g ++ b) tb) {α : Type} (txt : α → List Char)
    (tk : α → List Tok) (tail : List α → List Tok) (h0 : tail [] = []) (h1 : ∀ x xs, tail (x :: xs) = commaTok :: (tk x ++ tail xs)) :
    ∀ (xs : List α) (x : α), Lx (txt x) (tk x) → (∀ y ∈ xs, Lx (txt y) (tk y)) →
      Lx (joinLL (',' :: g) ((x :: xs).map txt)) (tk x ++ tail xs) := by
  intro xs
  induction xs with
  | nil => intro x hx _; simpa [joinLL, h0] using hx
  | cons y ys ih =>
    intro x hx hall
    have := Lx.comma0 hx (hg (ih y (hall y (by simp)) fun z hz => hall z (by simp [hz])))
    exact Lx.congr this (by simp [joinLL]) (by rw [h1])

theorem lx_commaList {α : Type} (txt : α → List Char) (tk : α → List Tok) (tail : List α → List Tok)
    (h0 : tail [] = []) (h1 : ∀ x xs, tail (x :: xs) = commaTok :: (tk x ++ tail xs)) :
    ∀ (xs : List α) (x : α), Lx (txt x) (tk x) → (∀ y ∈ xs, Lx (txt y) (tk y)) →
      Lx (joinLL [',', ' '] ((x :: xs).map txt)) (tk x ++ tail xs) := lx_commaGap [' '] Lx.blank txt tk tail h0 h1

theorem lx_wordList : ∀ (ws : List String) (w : String), (∀ v ∈ w :: ws, Lx v.toList [opTok v]) →
    Lx (joinLL [' '] ((w :: ws).map String.toList)) ((w :: ws).map opTok) := by
  intro ws
  induction ws with
  | nil => intro w h; simpa [joinLL] using h w (by simp)
  | cons y ys ih =>
    intro w h
    have := Lx.sep (h w (by simp)) (ih y fun v hv => h v (by simp [hv]))
    exact Lx.congr this (by simp [joinLL]) (by simp)

theorem lx_phrase {tbl : List (String × List String)} (hp : tbl.all (fun e => e.2.all fun w => plainL w.toList) = true)
    {p : String × List String → Bool} {e : String × List String} (hf : tbl.find? p = some e) (hne : e.2 ≠ []) :
    Lx (joinLL [' '] (e.2.map String.toList)) (e.2.map opTok) := by
  have hw := List.all_eq_true.mp ((List.all_eq_true.mp hp) e (List.mem_of_find?_eq_some hf))
  cases he : e.2 with
  | nil => exact absurd he hne
  | cons w ws => exact lx_wordList ws w fun v hv => lx_kwd (hw v (he ▸ hv))

theorem isPlainName_plainL (a : String) : PR.isPlainName a = plainL a.toList := by
  unfold PR.isPlainName plainL
  cases a.toList <;> rfl

theorem lx_alias (a : String) (h : aliasLex a) : Lx a.toList [opTok a] := by
  rw [opTok_eq]; exact lx_plain a.toList (by rw [← isPlainName_plainL]; exact h.1)

theorem lx_withAlias {x : List Char} {tx : List Tok} (hx : Lx x tx) (a : Option String) (ha : optAliasLex a) :
    Lx (x ++ aliasL a) (tx ++ aliasToks a) := by
  cases a with
  | none => simpa [aliasL, aliasToks] using hx
  | some a =>
    have := Lx.sep hx (Lx.sep (lx_cw "AS" (by simp [clauseWords])) (lx_alias a ha))
    have e : (" AS " : String).toList = ' ' :: ("AS".toList ++ [' ']) := rfl
    exact Lx.congr this (by simp [aliasL, e]) (by simp [aliasToks])

theorem lx_kwThen (k : String) (hk : k ∈ clauseWords) {x : List Char} {tx : List Tok} (hx : Lx x tx) :
    Lx (k.toList ++ ' ' :: x) (opTok k :: tx) :=
  Lx.congr (Lx.sep (lx_cw k hk) hx) rfl (by simp)

abbrev allP (l : List Char) : Bool := l.all plain

theorem allP_joinLL (sep : List Char) (hs : allP sep = true) : ∀ (l : List (List Char)), (∀ x ∈ l, allP x = true) →
    allP (joinLL sep l) = true
  | [], _ => rfl
  | [a], h => h a (by simp)
  | a :: b :: r, h => by
    have := allP_joinLL sep hs (b :: r) fun x hx => h x (by simp [hx])
    simp only [joinLL, allP, List.all_append, Bool.and_eq_true] at this ⊢
    exact ⟨⟨h a (by simp), hs⟩, this⟩

theorem alnum_plain (c : Char) (h : alnumU c = true) : plain c = true := by
  have hc := alnumU_code c h
  have hne : ∀ k : Char, 127 < k.toNat ∨ k.toNat < 32 → k ≠ c := by
    intro k hk e; subst e
    have := hc.1
    simp only [alnumN, Bool.or_eq_true, Bool.and_eq_true, Nat.ble_eq, Nat.beq_eq] at this
    omega
  simp only [plain, Plain, Gen.preChain, List.all_cons, List.all_nil, Bool.and_true, Bool.and_eq_true, bne_iff_ne, ne_eq]
  exact ⟨hne _ (by decide), hne _ (by decide), hne _ (by decide)⟩

theorem plainL_allP (a : List Char) (h : plainL a = true) : allP a = true := by
  cases a with
  | nil => rfl
  | cons c r =>
    simp only [plainL, Bool.and_eq_true, List.all_eq_true] at h
    simp only [allP, List.all_cons, Bool.and_eq_true, List.all_eq_true]
    exact ⟨alnum_plain c (plainL_head c h.1), fun x hx => alnum_plain x (h.2 x hx)⟩

theorem allP_numeral (n : Int) (h : 0 ≤ n) : allP (toString n).toList = true :=
  List.all_eq_true.mpr fun x hx => digit_plain x ((toString_nonneg n h).2 x hx)

end LexLink
