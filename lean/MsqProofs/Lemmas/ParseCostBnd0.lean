import MsqProofs.Lemmas.ParseCostProjStmt
import MsqProofs.Lemmas.ParseAdqStmt
/-!
# C19, parser half: the linear bound on cursor operations — the base of the family `tools/gen_cost.py` prints

Potential of a cursor: `70 * adqWL ts` (`adqWL` = the potential of the fuel-adequacy proof, `ParseAdq0.lean`: a word weighs 19, a bracket
group 19 + number of children + weight of the children).  For every counted function

    (pX_k … κ).1 + rem (pX_k … κ).2 ≤ κ + 70 * adqWL (cursor) + c_X

(`rem` = potential of the rest the run returns; 0 for a failed run): the operations of a run are paid by the tokens it consumes, plus a
constant `c_X` for the calls that do not consume (rank of the non-consuming call graph, constants computed by `tools/gen_cost.py`).
A consumed token pays `19 * CM`, more than any `c_X`; the walk of a comma split over the children of a group is paid by the unit per
child in the weight of the group.

Every lemma of the family carries a `grind_pattern` on the counted call it speaks of, and so do the fields of the induction hypotheses
`BndF` and `ProjF` of the block: a proof unfolds its function, takes the run apart (`split_run`) and `grind` finds the bound and the
result of each callee from the call itself; no proof names the lemmas of its callees.
-/
open Lex
namespace PM

/-- potential left in the result of a counted run -/
def rem {α : Type} (res : R α) : Nat := match res with | .ok (_, r) => 70 * adqWL r | .error _ => 0
@[grind =] theorem rem_ok {α : Type} (v : α) (r : List Tok) : rem (.ok (v, r) : R α) = 70 * adqWL r := rfl
@[grind =] theorem rem_error {α : Type} (e : Err) : rem (.error e : R α) = 0 := rfl
/-- for the two loop bodies that consume only inside (`pJoin`, `pLateral`: the look-ahead of their loops may be on another cursor): a successful
run leaves the potential of the rest AND `s` units that pay the next look-ahead of the loop -/
def remS {α : Type} (s : Nat) (res : R α) : Nat := match res with | .ok (_, r) => 70 * adqWL r + s | .error _ => 0
@[grind =] theorem remS_ok {α : Type} (s : Nat) (v : α) (r : List Tok) : remS s (.ok (v, r) : R α) = 70 * adqWL r + s := rfl
@[grind =] theorem remS_error {α : Type} (s : Nat) (e : Err) : remS s (.error e : R α) = 0 := rfl
theorem remS_le {α : Type} (s : Nat) (res : R α) : remS s res ≤ rem res + s := by
  unfold remS rem; split <;> omega
grind_pattern remS_le => remS s res
/-- the same for the functions that return `Option (value × cursor)`: `none` = nothing consumed, the potential `m` of the cursor is left -/
def remO {α : Type} (m : Nat) (res : Except Err (Option (α × List Tok))) : Nat :=
  match res with | .ok (some (_, r)) => 70 * adqWL r | .ok none => m | .error _ => 0
@[grind =] theorem remO_some {α : Type} (m : Nat) (v : α) (r : List Tok) : remO m (.ok (some (v, r)) : Except Err (Option (α × List Tok))) = 70 * adqWL r := rfl
@[grind =] theorem remO_none {α : Type} (m : Nat) : remO m (.ok none : Except Err (Option (α × List Tok))) = m := rfl
@[grind =] theorem remO_error {α : Type} (m : Nat) (e : Err) : remO m (.error e : Except Err (Option (α × List Tok))) = 0 := rfl

theorem cMove_le (b : Bool) : cMove b ≤ 3 := by cases b <;> simp [cMove]
grind_pattern cMove_le => cMove b
theorem cAlias_le (ts : List Tok) : cAlias ts ≤ 3 := by unfold cAlias; split <;> (try split) <;> omega
grind_pattern cAlias_le => cAlias ts
theorem cFuncName_le (ts : List Tok) : cFuncName ts ≤ 6 := by unfold cFuncName; split <;> (repeat' split) <;> omega
grind_pattern cFuncName_le => cFuncName ts
theorem cPops_le (ts : List Tok) (ks : List String) : cPops ts ks ≤ ks.length := by
  induction ks generalizing ts with
  | nil => simp [cPops]
  | cons k ks ih => cases ts with
    | nil => simp [cPops]
    | cons t ts => simp only [cPops]; split <;> simp <;> have := ih ts <;> omega
theorem cMatchSeq_le (ts : List Tok) (ks : List String) : cMatchSeq ts ks ≤ 1 + ks.length := by
  have := cPops_le ts ks; unfold cMatchSeq; omega
grind_pattern cMatchSeq_le => cMatchSeq ts ks
theorem cFirstEnum_le (tbl : List (String × List String)) (ts : List Tok) : cFirstEnum tbl ts ≤ 2 * tbl.length + 1 := by
  induction tbl with
  | nil => simp [cFirstEnum]
  | cons e tbl ih => obtain ⟨n, ks⟩ := e; simp only [cFirstEnum]; split <;> simp <;> omega
theorem cFirstEnum_join_le (ts : List Tok) : cFirstEnum Gen.joinTypes ts ≤ 23 := cFirstEnum_le _ ts
grind_pattern cFirstEnum_join_le => cFirstEnum Gen.joinTypes ts
theorem cFirstEnum_union_le (ts : List Tok) : cFirstEnum Gen.unionTypes ts ≤ 11 := cFirstEnum_le _ ts
grind_pattern cFirstEnum_union_le => cFirstEnum Gen.unionTypes ts
theorem cFind_le (t : Tok) (l : List (String × String)) : cFind t l ≤ 2 * l.length + 1 := by
  induction l with
  | nil => simp [cFind]
  | cons e l ih => simp only [cFind]; split <;> simp <;> omega
theorem cCastType_le (ts : List Tok) : cCastType ts ≤ 63 := by
  unfold cCastType; split
  · decide
  · exact cFind_le _ _
grind_pattern cCastType_le => cCastType ts
theorem cClosed_le {α : Type} (res : R α) : cClosed res ≤ 1 := by unfold cClosed; split <;> omega
grind_pattern cClosed_le => cClosed res
theorem cCloseRest_le (cs : List (List Tok)) : cCloseRest cs ≤ cs.length := by
  induction cs with
  | nil => simp [cCloseRest]
  | cons c cs ih => simp only [cCloseRest]; split <;> simp <;> omega
theorem cCloseStack_le (rest : List Tok) (stack : List (List Tok)) : cCloseStack rest stack ≤ 1 + stack.length := by
  have := cCloseRest_le (stack.drop 1); unfold cCloseStack; split <;> simp at * <;> omega
grind_pattern cCloseStack_le => cCloseStack rest stack

theorem closed_k_le {α : Type} (x : Nat × R α) : (closed_k x).1 ≤ x.1 + 1 ∧ x.1 ≤ (closed_k x).1 := by
  have := cClosed_le x.2; simp only [closed_k_fst]; omega
grind_pattern closed_k_le => closed_k x
theorem closed_k_snd_g {α : Type} (x : Nat × R α) : (closed_k x).2 = closed x.2 := rfl
grind_pattern closed_k_snd_g => closed_k x

theorem headChildren_lost2 (ts cs : List Tok) (h : headChildren ts = .ok cs) : adqWL cs + cs.length + 19 + adqWL (ts.drop 1) ≤ adqWL ts := by
  cases ts with
  | nil => simp [headChildren] at h
  | cons t ts =>
    simp [headChildren] at h; subst h
    have := adqW_children t; simp; omega
grind_pattern headChildren_lost2 => headChildren ts, Except.ok cs

/-! ### comma splits: the walk over the children is paid by the unit per child in the weight of the group -/
theorem splitBy_half (sep : String) : ∀ ts cur acc,
    2 * adqWLL (splitBy sep ts cur acc) ≤ 2 * adqWLL acc + 2 * adqWL cur + 2 * adqWL ts + ts.length + (if cur.isEmpty then 1 else 2) := by
  intro ts
  induction ts with
  | nil => intro cur acc; unfold splitBy; split <;> simp_all [adqWLL_append] <;> omega
  | cons t r ih =>
    intro cur acc
    have ht := adqW_ge t
    unfold splitBy
    split
    · split
      · have := ih [] acc; simp_all; omega
      · have := ih [] (acc ++ [cur]); simp_all [adqWLL_append]; omega
    · have := ih (cur ++ [t]) acc; simp [adqWL_append] at this ⊢; split <;> omega
theorem splitBy_children2 (sep : String) (t : Tok) : 2 * adqWLL (splitBy sep t.children [] []) + t.children.length + 37 ≤ 2 * adqW t := by
  have := splitBy_half sep t.children [] []; have := adqW_children t; simp at *; omega
grind_pattern splitBy_children2 => splitBy sep (Tok.children t) [] []
theorem popSplit_cost (ts : List Tok) (segs : List (List Tok)) (r : List Tok) (h : popSplit ts = .ok (segs, r)) :
    2 * adqWLL segs + cSplit ts + 2 * adqWL r + 35 ≤ 2 * adqWL ts := by
  cases ts with
  | nil => simp [popSplit] at h
  | cons g ts =>
    simp [popSplit] at h; obtain ⟨rfl, rfl⟩ := h
    have := splitBy_children2 "," g
    simp [cSplit]; omega
grind_pattern popSplit_cost => popSplit ts, Except.ok (segs, r)
theorem popSplit_cost_err (ts : List Tok) (e : Err) (h : popSplit ts = .error e) : cSplit ts = 2 := by
  cases ts with
  | nil => rfl
  | cons g ts => simp [popSplit] at h
grind_pattern popSplit_cost_err => popSplit ts, Except.error e

/-- a counted segment parser that costs at most `70 * weight of the segment + C`: the segment loop costs at most `70 * weight of the
segment list` (which holds `70 ≥ C + 1` per segment) -/
theorem eachClosed_k_bnd {α : Type} (pk : List Tok → Nat → Nat × R α) (C : Nat) (hC : C + 1 ≤ 70)
    (hp : ∀ s κ, (pk s κ).1 ≤ κ + 70 * adqWL s + C) : ∀ segs κ, (eachClosed_k pk segs κ).1 ≤ κ + 70 * adqWLL segs := by
  intro segs
  induction segs with
  | nil => intro κ; simp [eachClosed_k]
  | cons sg rest ih =>
    intro κ
    have h1 := hp sg κ
    have h2 := cClosed_le (pk sg κ).2
    have h3 := ih ((closed_k (pk sg κ)).1)
    unfold eachClosed_k
    simp only [closed_k_fst, adqWLL_cons] at *
    split
    · simp only []; rw [Nat.mul_add, Nat.mul_add]; omega
    · split <;> (simp only []; rw [Nat.mul_add, Nat.mul_add]; omega)

end PM
