import MsqProofs.Lemmas.AnalyzeText2
/-!
# Cutting the token rendering of a SELECT branch into its clauses (C14 / C15 on texts)

`CT.cut p ts` reads the TOP-LEVEL tokens of a token list (bracket groups are single tokens: what is inside is at depth > 0 and is never
looked at) and returns the tokens of the clauses whose number satisfies `p`:

| 0 | `SELECT [DISTINCT] list` | 1 | `FROM …` | 3 | `WHERE …` | 4 | `GROUP BY …` | 5 | `HAVING …` | 6 | `ORDER BY …` | 7 | `LIMIT …` |
| 2 | `… JOIN table [AS alias]` | 8 | `ON condition` (inside the JOIN segment) |

A token starts clause `k` iff it is a clause word (`clauseRank`): `FROM` (1); `JOIN`, `INNER`, `LEFT`, `RIGHT`, `FULL` (2); `CROSS`
directly followed by `JOIN` (2: the lexer gives `CROSS` the NAME mark, it may be a function name or an alias elsewhere); `WHERE` (3);
`GROUP` (4); `HAVING` (5); `ORDER` (6); `LIMIT` (7); `ON` (8).  The token directly after `AS` is an alias and never a clause word.  Every token
belongs to the clause of the last clause word before it (the tokens before the first clause word: clause 0).

Here: the tokens of a fragment rendering that are no clause words, and `CT.iE`: the rendering of an expression of the fragment `TQ.FragE3`
is walked over without leaving the clause (a sub-query is one bracket group).  The cut of a whole SELECT is in `AnalyzeText3b`.
-/
open Lex PM Ast TP TP2 TS TQ Spec
namespace CT

def nextIs (w : String) : List Tok → Bool
  | u :: _ => u.equalsStr w
  | [] => false

/-- the clause a top-level token starts (`next`: the tokens after it) -/
def clauseRank (t : Tok) (next : List Tok) : Option Nat :=
  if t.equalsStr "FROM" then some 1
  else if t.equalsStr "JOIN" || t.equalsStr "INNER" || t.equalsStr "LEFT" || t.equalsStr "RIGHT" || t.equalsStr "FULL" then some 2
  else if t.equalsStr "CROSS" && nextIs "JOIN" next then some 2
  else if t.equalsStr "WHERE" then some 3
  else if t.equalsStr "GROUP" then some 4
  else if t.equalsStr "HAVING" then some 5
  else if t.equalsStr "ORDER" then some 6
  else if t.equalsStr "LIMIT" then some 7
  else if t.equalsStr "ON" then some 8
  else none

/-- **the tokens of the clauses selected by `p`**: `cur` = the clause we are in, `as_` = the previous token was `AS` -/
def cut (p : Nat → Bool) : Nat → Bool → List Tok → List Tok
  | _, _, [] => []
  | cur, as_, t :: r =>
    (if p (if as_ then cur else (clauseRank t r).getD cur) then [t] else []) ++
      cut p (if as_ then cur else (clauseRank t r).getD cur) (!as_ && t.equalsStr "AS") r

/-- the clause `c` of a branch's token list -/
def clauseToks (c : Nat) (ts : List Tok) : List Tok := cut (· == c) 0 false ts
/-- C14: the FROM segment / the JOIN segment (join heads, joined tables and ON conditions) of a branch's token list -/
def cutFrom (ts : List Tok) : List Tok := clauseToks 1 ts
def cutJoins (ts : List Tok) : List Tok := cut (fun k => k == 2 || k == 8) 0 false ts
/-- the ON conditions of a token list, each with its `ON` word -/
def cutOns (ts : List Tok) : List Tok := clauseToks 8 ts

theorem rank_quiet {t : Tok} (h : quietW t = true) (next : List Tok) (hc : (t.equalsStr "CROSS" && nextIs "JOIN" next) = false) :
    clauseRank t next = none := by
  have e := fun k (hk : k ∈ cwords) => noneOf_mem h hk
  simp only [clauseRank, e "FROM" (by decide), e "JOIN" (by decide), e "INNER" (by decide), e "LEFT" (by decide), e "RIGHT" (by decide),
    e "FULL" (by decide), e "WHERE" (by decide), e "GROUP" (by decide), e "HAVING" (by decide), e "ORDER" (by decide), e "LIMIT" (by decide),
    e "ON" (by decide), hc, Bool.or_self, Bool.false_eq_true, if_false]
theorem rank_dull {t : Tok} (h : dull t = true) (next : List Tok) : clauseRank t next = none :=
  rank_quiet (dull_quiet h) next (by rw [noneOf_mem h (k := "CROSS") (by decide)]; rfl)

theorem cut_step (p : Nat → Bool) (cur : Nat) (b : Bool) (t : Tok) (r : List Tok) :
    cut p cur b (t :: r) = (if p (if b then cur else (clauseRank t r).getD cur) then [t] else []) ++
      cut p (if b then cur else (clauseRank t r).getD cur) (!b && t.equalsStr "AS") r := rfl
theorem cut_dull {t : Tok} (h : dull t = true) (p : Nat → Bool) (cur : Nat) (b : Bool) (r : List Tok) :
    cut p cur b (t :: r) = (if p cur then [t] else []) ++ cut p cur false r := by
  have ha : t.equalsStr "AS" = false := noneOf_mem h (by decide)
  cases b <;> simp [cut_step, rank_dull h, ha]
theorem cut_pair {t u : Tok} (ht : quietW t = true) (hu : dull u = true) (p : Nat → Bool) (cur : Nat) (b : Bool) (r : List Tok) :
    cut p cur b (t :: u :: r) = (if p cur then [t, u] else []) ++ cut p cur false r := by
  have hj : u.equalsStr "JOIN" = false := noneOf_mem hu (by decide)
  have h1 : clauseRank t (u :: r) = none := rank_quiet ht _ (by simp [nextIs, hj])
  have hr : ∀ b', cut p cur b' (u :: r) = (if p cur then [u] else []) ++ cut p cur false r := fun b' => cut_dull hu p cur b' r
  rw [cut_step]
  cases b
  · simp only [h1, Option.getD_none, Bool.false_eq_true, if_false, hr]
    by_cases hcc : p cur = true <;> simp [hcc]
  · simp only [if_true, hr]
    by_cases hcc : p cur = true <;> simp [hcc]

/-- a piece that the cut walks over without leaving the clause it is in -/
def Inert (ts : List Tok) : Prop :=
  ∀ p cur rest, cut p cur false (ts ++ rest) = (if p cur then ts else []) ++ cut p cur false rest

theorem ite_app {α : Type} (p : Bool) (a b : List α) : (if p then a else []) ++ (if p then b else []) = if p then a ++ b else [] := by
  cases p <;> simp

theorem Inert.nil : Inert [] := fun p cur rest => by simp
theorem Inert.app {a b : List Tok} (ha : Inert a) (hb : Inert b) : Inert (a ++ b) := fun p cur rest => by
  rw [List.append_assoc, ha, hb, ← List.append_assoc, ite_app]
theorem Inert.cons {t : Tok} {b : List Tok} (ht : dull t = true) (hb : Inert b) : Inert (t :: b) := fun p cur rest => by
  rw [List.cons_append, cut_dull ht, hb, ← List.append_assoc, ite_app]; rfl
theorem Inert.one {t : Tok} (ht : dull t = true) : Inert [t] := Inert.cons ht Inert.nil
/-- a word that may be `AS` or `CROSS` (a function name, a wildcard qualifier) in front of a token that is neither -/
theorem Inert.pair {t u : Tok} {b : List Tok} (ht : quietW t = true) (hu : dull u = true) (hb : Inert b) : Inert (t :: u :: b) :=
  fun p cur rest => by
    rw [List.cons_append, List.cons_append, cut_pair ht hu, hb, ← List.append_assoc, ite_app]; rfl
theorem Inert.cast {a b : List Tok} (h : Inert a) (e : a = b) : Inert b := e ▸ h
theorem Inert.ite {ts : List Tok} (c : Bool) (h : Inert ts) : Inert (if c then ts else []) := by
  cases c
  · exact Inert.nil
  · exact h

theorem Inert.grp (cs : List Tok) : Inert [grp cs] := Inert.one (dull_grp cs)
theorem Inert.wrap {ts : List Tok} (h : Inert ts) (b : Bool) (e : Expr) (k : Nat) : Inert (wrapT b e k ts) := by
  unfold wrapT
  split
  · exact Inert.grp _
  · exact h

theorem inert_kwToks (k : KwKind) (n : Bool) : Inert (kwToks k n) := by
  obtain ⟨w, hw, e | ⟨w', hw', e⟩⟩ := kwToks_words k n <;> rw [e]
  · exact Inert.one (dull_kw w (predWords_kw w hw))
  · exact Inert.cons (dull_kw w (predWords_kw w hw)) (Inert.one (dull_kw w' (predWords_kw w' hw')))

theorem inert_alias (a : Option String) : Inert (aliasToks a) := by
  cases a with
  | none => exact Inert.nil
  | some a =>
    intro p cur rest
    have h1 : clauseRank (opTok "AS") (opTok a :: rest) = none := rank_quiet (by decide) _ (by
      have : (opTok "AS").equalsStr "CROSS" = false := by decide
      rw [this]; rfl)
    have h2 : (opTok "AS").equalsStr "AS" = true := by decide
    simp only [aliasToks, List.cons_append, List.nil_append, cut, h1, h2, Option.getD_none, Bool.false_eq_true, if_false, if_true,
      Bool.not_false, Bool.true_and, Bool.not_true, Bool.false_and]
    by_cases hcc : p cur = true <;> simp [hcc]

variable {d : Gen.D} (ch : Expr → Bool)

mutual
theorem iE : ∀ (e : Expr), FragE3 d e = true → Inert (toksE3 d ch e)
  | e, h => by
    cases e <;> try simp only [FragE3, Bool.and_eq_true, Bool.false_eq_true] at h
    all_goals try simp only [toksE3]
    case column t c =>
      cases t with
      | none => simp only [toksE3]; exact Inert.one (dull_name c)
      | some t => simp only [toksE3]; exact Inert.cons (dull_name t) (Inert.cons dk (Inert.one (dull_name c)))
    case literal v => exact Inert.one (dull_lit v h)
    case wildcard t =>
      cases t with
      | none => simp only [toksE3]; exact Inert.one dk
      | some t =>
        simp only [FragE3, wildOK] at h
        exact Inert.pair (quiet_q t (AT.nm_has h)) dk (Inert.one dk)
    case func s n ps =>
      have h1 := h.1
      cases s with
      | none =>
        simp only [fnOK, Bool.and_eq_true] at h1
        exact (Inert.pair (quiet_q n (AT.nm_has h1.2.1)) (dull_grp (toksArgs3 d ch 14 ps)) Inert.nil).cast rfl
      | some s =>
        simp only [fnOK, Bool.and_eq_true] at h1
        exact (Inert.cons (dull_name s) (Inert.cons (dk (w := ".")) (Inert.pair (quiet_q n (AT.nm2_has h1.2.2))
          (dull_grp (toksArgs3 d ch 14 ps)) Inert.nil))).cast rfl
    case agg n ps dist =>
      simp only [aggOK, Bool.and_eq_true] at h
      exact Inert.cons (dull_agg n h.1.1.1) (Inert.grp _)
    case caseCond cs els => exact Inert.cons dk ((iArms cs h.1.1).app ((iElse els h.1.2).app (Inert.one dk)))
    case caseVal v cs els =>
      exact Inert.cons dk (((iE v h.1.1.1).wrap _ _ _).app ((iArms cs h.1.1.2).app ((iElse els h.1.2).app (Inert.one dk))))
    case subQuery q => exact Inert.grp _
    case exists_ v =>
      cases v with
      | subQuery q => simp only [toksE3]; exact Inert.cons dk (Inert.grp _)
      | _ => simp [isSubQ] at h
    case unary o e => exact Inert.cons (dull_cval o) ((iE e h.2).wrap _ _ _)
    case compute l o r => exact ((iE l h.1.2).wrap _ _ _).app (Inert.cons (dull_cval o) ((iE r h.2).wrap _ _ _))
    case kw k n l r =>
      have hr : Inert (toksE3 d ch r) := by
        have h2 := h.1.2
        by_cases hk : (k == KwKind.in_) = true
        · simp only [hk, if_true] at h2
          cases r with
          | subQuery q => simp only [toksE3]; exact Inert.grp _
          | subValue vs => simp only [toksE3]; exact Inert.grp _
          | _ => simp [inRhs3] at h2
        · simp only [hk] at h2; exact iE r h2
      exact ((iE l h.1.1).wrap _ _ _).app ((inert_kwToks k n).app (hr.wrap _ _ _))
    case between n b f t =>
      exact ((iE b h.1.1.1).wrap _ _ _).app ((Inert.ite n (Inert.one dk)).app (Inert.cons dk
        (((iE f h.1.1.2).wrap _ _ _).app (Inert.cons dk ((iE t h.1.2).wrap _ _ _)))))
    case compare o l r => exact ((iE l h.1.1.2).wrap _ _ _).app (Inert.cons (dull_cmpVal o) ((iE r h.1.2).wrap _ _ _))
    case not_ e => exact Inert.cons dk ((iE e h).wrap _ _ _)
    case and_ l r | xor l r | or_ l r => exact ((iE l h.1).wrap _ _ _).app (Inert.cons dk ((iE r h.2).wrap _ _ _))
theorem iArms : ∀ (cs : List (Expr × Expr)), FragA3 d cs = true → Inert (toksArms3 d ch cs)
  | [], _ => by simp only [toksArms3]; exact Inert.nil
  | (w, t) :: r, h => by
    simp only [FragA3, Bool.and_eq_true] at h
    exact Inert.cons dk (((iE w h.1.1).wrap _ _ _).app (Inert.cons dk (((iE t h.1.2).wrap _ _ _).app (iArms r h.2))))
theorem iElse : ∀ (y : Option Expr), FragO3 d y = true → Inert (toksElse3 d ch y)
  | none, _ => by simp only [toksElse3]; exact Inert.nil
  | some y, h => by
    simp only [FragO3] at h
    exact Inert.cons dk ((iE y h).wrap _ _ _)
end

theorem iArgsTail (k : Nat) : ∀ (ps : List Expr), FragL3 d ps = true → Inert (toksArgsTail3 d ch k ps)
  | [], _ => by simp only [toksArgsTail3]; exact Inert.nil
  | a :: as, h => by
    simp only [FragL3, Bool.and_eq_true] at h
    exact Inert.cons dk (((iE ch a h.1).wrap _ _ _).app (iArgsTail k as h.2))

end CT
