import MsqProofs.Lemmas.TQuery3M
import MsqModel.Driver.ShowVal
import MsqProofs.Lemmas.StmtDispatch
/-!
# T-parse over the third nested fragment: main theorems
-/
set_option linter.unusedVariables false
open Lex PM Ast TP TS TQ3

namespace TQ3
/-- every member of the regenerated tables satisfies the side conditions of the fragment, in every dialect -/
theorem all_union_types_ok4 : Gen.allD.all (fun d => Gen.unionTypes.all (fun e => unionTyOK4 d e.1)) = true := by decide
theorem all_join_types_ok4 : Gen.allD.all (fun d => Gen.joinTypes.all (fun e => joinTyOK4 d e.1)) = true := by decide
theorem all_cast_types_ok : Gen.castTypes.all (fun e => castTyOK e.1) = true := by decide

/-! ### the continuation condition of `TQ` implies that of the larger fragment -/
theorem rank_lt (u : String) (h : 7 < TS.rank u) : 11 < rank4 u := by
  unfold TS.rank at h
  unfold rank4
  repeat' split at h
  all_goals first | omega | skip
  all_goals simp_all
theorem bd4_of_bd {d : Gen.D} {rest : List Tok} (h : TQ.Bd3 d 7 rest = true) : Bd4 d 11 rest = true := by
  cases rest with
  | nil => rfl
  | cons t r =>
    simp only [TQ.Bd3, Bool.and_eq_true, Bool.not_eq_true', headIsOver] at h
    obtain ⟨hb, ho⟩ := h
    obtain ⟨h1, h2, h3, h4⟩ := TS.bd_parts hb
    have h5 := rank_lt _ h4
    simp only [Bd4, bdTok4, Bool.and_eq_true, Bool.or_eq_true, Bool.not_eq_true', decide_eq_true_eq]
    refine ⟨⟨⟨⟨h1, ?_⟩, h3⟩, h5⟩, ho⟩
    rcases h2 with h | h
    · left; exact h
    · right; simp [h]
theorem stopsQ3_of_stopsQ {d : Gen.D} {rest : List Tok} (h : TQ.stopsQ d rest = true) : stopsQ3 d rest = true := by
  simp only [TQ.stopsQ, Bool.and_eq_true] at h
  simp only [stopsQ3, Bool.and_eq_true]
  exact ⟨bd4_of_bd h.1, h.2⟩

/-- `_parse_select_statement` with the WITH slot already consumed (as `pStatement` calls it) -/
theorem stmt_some {d : Gen.D} {ch : Expr → Bool} (q : Query) (hq : FragQ3 d q = true) (rest : List Tok) (hr : stopsQ3 d rest = true) :
    OkAt (fun f => pSelectStmt d f (some []) (toksQ3 d ch q ++ rest)) (20 * sizeL (toksQ3 d ch q) + 9) (q, rest) := by
  cases q with
  | single s =>
    simp only [FragQ3] at hq
    have := stmt_core (some []) (Or.inr rfl) s [] (srec_of (ch := ch) s hq) trivial rest hr
    simpa [toksQ3, toksUn2] using this
  | union ws s us =>
    cases ws with
    | none => simp [FragQ3] at hq
    | some l =>
      cases l with
      | cons _ _ => simp [FragQ3] at hq
      | nil =>
        simp only [FragQ3, Bool.and_eq_true, Bool.not_eq_true', Bool.true_and] at hq
        have := stmt_core (some []) (Or.inr rfl) s us (srec_of (ch := ch) s hq.1.1) (unrec_of us hq.1.2) rest hr
        simpa [toksQ3, hq.2] using this
theorem toksQ3_head {d : Gen.D} {ch : Expr → Bool} (q : Query) (hq : FragQ3 d q = true) : ∃ x, toksQ3 d ch q = opTok "SELECT" :: x :=
  (qt q hq).head

/-- the slots the corollaries speak about (`TS.groupOf`, `TS.joinsOf`, `TS.orderOf` are those of Props/C03T.lean) -/
def firstSelect : Query → Select
  | .single s => s
  | .union _ s _ => s
def lateralsOf : Select → List Lateral | .mk _ _ _ _ lats _ _ _ _ _ _ _ _ _ => lats
def hiveOf : Select → Option (List OrderItem) × Option (List Expr) × Option (List Expr) | .mk _ _ _ _ _ _ _ _ _ _ sb db cb _ => (sb, db, cb)
end TQ3

namespace C03
/-- **T-parse, queries of the larger fragment.**  Parsing the token rendering of a fragment query returns exactly that tree, in front
of every continuation that continues neither a SELECT nor a set operation, at every fuel above an explicit linear bound -/
theorem tquery3 (d : Gen.D) (q : Query) (hq : FragQ3 d q = true) (rest : List Tok) (hr : stopsQ3 d rest = true)
    (fuel : Nat) (hfuel : 20 * sizeL (toksQ3 d noX q) + 9 ≤ fuel) : pSelectStmt d fuel none (toksQ3 d noX q ++ rest) = .ok (q, rest) :=
  (qt q hq).parse rest hr fuel hfuel
/-- the same for any choice of redundant brackets around sub-expressions that keeps the two first-word side conditions (every choice
does, `TQ3.chOK`: the hypothesis is not used) -/
theorem tquery3_ch (d : Gen.D) (ch : Expr → Bool) (hch : ChOK d ch) (q : Query) (hq : FragQ3 d q = true) (rest : List Tok) (hr : stopsQ3 d rest = true)
    (fuel : Nat) (hfuel : 20 * sizeL (toksQ3 d ch q) + 9 ≤ fuel) : pSelectStmt d fuel none (toksQ3 d ch q ++ rest) = .ok (q, rest) :=
  (qt q hq).parse rest hr fuel hfuel
/-- the fuel the public entry points compute from the token list dominates the bound -/
theorem tquery3_entry_fuel (d : Gen.D) (q : Query) (hq : FragQ3 d q = true) (rest : List Tok) (hr : stopsQ3 d rest = true) :
    pSelectStmt d (fuelFor (toksQ3 d noX q ++ rest)) none (toksQ3 d noX q ++ rest) = .ok (q, rest) :=
  tquery3 d q hq rest hr _ (by simp only [fuelFor, sizeL_append]; omega)
/-- in front of the continuations of `TQ` (`TQ.stopsQ`) -/
theorem tquery3_stopsQ (d : Gen.D) (q : Query) (hq : FragQ3 d q = true) (rest : List Tok) (hr : TQ.stopsQ d rest = true)
    (fuel : Nat) (hfuel : 20 * sizeL (toksQ3 d noX q) + 9 ≤ fuel) : pSelectStmt d fuel none (toksQ3 d noX q ++ rest) = .ok (q, rest) :=
  tquery3 d q hq rest (stopsQ3_of_stopsQ hr) fuel hfuel

/-- **the same through the statement level**: one iteration of the loop of `parse_statements` (before the optional `;`) -/
theorem tquery3_statement (d : Gen.D) (q : Query) (hq : FragQ3 d q = true) (rest : List Tok) (hr : stopsQ3 d rest = true)
    (fuel : Nat) (hfuel : 20 * sizeL (toksQ3 d noX q) + 9 ≤ fuel) :
    pStatement d fuel (toksQ3 d noX q ++ rest) = .ok (.select q, rest) :=
  pStatement_of_select d (toksQ3_head q hq) (by omega) (stmt_some q hq rest hr fuel (by omega))

/-- equal renderings, equal trees -/
theorem rendering_determines_query3 (d : Gen.D) (q q' : Query) (hq : FragQ3 d q = true) (hq' : FragQ3 d q' = true)
    (h : toksQ3 d noX q = toksQ3 d noX q') : q = q' :=
  C01.eq_of_read_back (tquery3 d q hq [] rfl) (tquery3 d q' hq' [] rfl) (by rw [h])

end C03

namespace C02
/-- **T-parse, expressions of the larger fragment** (the expression half of the mutual induction) -/
theorem tparse5 (d : Gen.D) (e : Expr) (hf : FragE5 d e = true) (rest : List Tok) (hr : TP2.stops2 d rest = true)
    (fuel : Nat) (hfuel : 20 * sizeL (toksE5 d noX e) + 15 ≤ fuel) : pOr d fuel (toksE5 d noX e ++ rest) = .ok (e, rest) :=
  (rt4 e hf).own.s14 rest hr fuel hfuel
end C02

namespace C01
/-- **print / parse round trip of a query of the larger fragment, token level** -/
theorem query_round_trip_tokens3 (d : Gen.D) (q : Query) (hq : FragQ3 d q = true) (fuel : Nat) (hfuel : 20 * sizeL (toksQ3 d noX q) + 9 ≤ fuel) :
    pSelectStmt d fuel none (toksQ3 d noX q) = .ok (q, []) := by
  have := C03.tquery3 d q hq [] rfl fuel hfuel
  simpa using this
end C01
