import MsqProofs.Lemmas.ParseOutHelpers
/-! GENERATED by tools/gen_out.py — what a run answers: the induction hypothesis for the mutual block of MsqModel/Parse/Expr.lean -/
set_option linter.unusedVariables false
open Lex Ast
namespace PM

/-! Every function of the mutual block, with fuel `n`: what a run answers (`Out`, ParseOut0.lean), and that `rank + weight of the cursor ≤ n`
is fuel enough (ranks: tools/gen_out.py --ranks); for five of them, needed by the loops that call them, that a successful run loses a token.
One record `OutF`, in three parts along the grammar so that the fuel step is three declarations of moderate size.
`pNamed n0 r0 ts` / `pQualified n0 r1 ts` get the cursor twice — `ts` and a rest of it, which the caller has already looked at —, hence the
hypothesis `Sfx x1 x2` in their fields (the error kind needs none).  Six functions run on the children of a bracket group and return no cursor:
their fields have `Kind` only.  `pSplit` makes one call per token of its cursor before it parses a segment: `+ x2.length` in its budget. -/

/-- the expression grammar -/
structure OutFE (d : Gen.D) (n : Nat) : Prop where
  pElement : ∀ x0, Out x0 (PM.pElement d n x0) ∧ (5 + (adqWL x0) ≤ n → PM.pElement d n x0 ≠ .error .fuel)
  pParen : ∀ x0 x1, Out (x0 :: x1) (PM.pParen d n x0 x1) ∧ (2 + (adqW x0 + adqWL x1) ≤ n → PM.pParen d n x0 x1 ≠ .error .fuel)
  pNamed : ∀ x0 x1 x2, Kind (PM.pNamed d n x0 x1 x2) ∧ (Sfx x1 x2 → Out x2 (PM.pNamed d n x0 x1 x2) ∧ (4 + (adqWL x2) ≤ n → PM.pNamed d n x0 x1 x2 ≠ .error .fuel))
  pQualified : ∀ x0 x1 x2, Kind (PM.pQualified d n x0 x1 x2) ∧ (Sfx x1 x2 → Out x2 (PM.pQualified d n x0 x1 x2) ∧ (3 + (adqWL x2) ≤ n → PM.pQualified d n x0 x1 x2 ≠ .error .fuel))
  pIndex : ∀ x0 x1, Out x1 (PM.pIndex d n x0 x1) ∧ (1 + (adqWL x1) ≤ n → PM.pIndex d n x0 x1 ≠ .error .fuel)
  pFuncIdx : ∀ x0, Out x0 (PM.pFuncIdx d n x0) ∧ (2 + (adqWL x0) ≤ n → PM.pFuncIdx d n x0 ≠ .error .fuel)
  pFunc : ∀ x0, Out x0 (PM.pFunc d n x0) ∧ (1 + (adqWL x0) ≤ n → PM.pFunc d n x0 ≠ .error .fuel)
  pIfCall : ∀ x0, Out x0 (PM.pIfCall d n x0) ∧ (1 + (adqWL x0) ≤ n → PM.pIfCall d n x0 ≠ .error .fuel)
  pFirstDiscard : ∀ x0, OutD x0 (PM.pFirstDiscard d n x0) ∧ (15 + (adqWL x0) ≤ n → PM.pFirstDiscard d n x0 ≠ .error .fuel)
  pFirstArg : ∀ x0, Out x0 (PM.pFirstArg d n x0) ∧ (15 + (adqWL x0) ≤ n → PM.pFirstArg d n x0 ≠ .error .fuel)
  pCall : ∀ x0 x1 x2, Out x2 (PM.pCall d n x0 x1 x2) ∧ (1 + (adqWL x2) ≤ n → PM.pCall d n x0 x1 x2 ≠ .error .fuel)
  pArgs : ∀ x0 x1, Out x1 (PM.pArgs d n x0 x1) ∧ (1 + (adqWL x1) ≤ n → PM.pArgs d n x0 x1 ≠ .error .fuel)
  pCase : ∀ x0, Out x0 (PM.pCase d n x0) ∧ (1 + (adqWL x0) ≤ n → PM.pCase d n x0 ≠ .error .fuel)
  pElseEnd : ∀ x0, Out x0 (PM.pElseEnd d n x0) ∧ (1 + (adqWL x0) ≤ n → PM.pElseEnd d n x0 ≠ .error .fuel)
  pWhens : ∀ x0 x1, Out x1 (PM.pWhens d n x0 x1) ∧ (1 + (adqWL x1) ≤ n → PM.pWhens d n x0 x1 ≠ .error .fuel)
  pUnary : ∀ x0, Out x0 (PM.pUnary d n x0) ∧ (6 + (adqWL x0) ≤ n → PM.pUnary d n x0 ≠ .error .fuel)
  pCompute : ∀ x0, Out x0 (PM.pCompute d n x0) ∧ (7 + (adqWL x0) ≤ n → PM.pCompute d n x0 ≠ .error .fuel)
  pComputeLoop : ∀ x0 x1 x2, Out x2 (PM.pComputeLoop d n x0 x1 x2) ∧ (1 + (adqWL x2) ≤ n → PM.pComputeLoop d n x0 x1 x2 ≠ .error .fuel)
  pKeyword : ∀ x0 x1, Out x1 (PM.pKeyword d n x0 x1) ∧ (9 + (adqWL x1) ≤ n → PM.pKeyword d n x0 x1 ≠ .error .fuel)
  pKwFirst : ∀ x0 x1, Out x1 (PM.pKwFirst d n x0 x1) ∧ (8 + (adqWL x1) ≤ n → PM.pKwFirst d n x0 x1 ≠ .error .fuel)
  pKwRest : ∀ x0 x1 x2, Out x2 (PM.pKwRest d n x0 x1 x2) ∧ (1 + (adqWL x2) ≤ n → PM.pKwRest d n x0 x1 x2 ≠ .error .fuel)
  pKwBody : ∀ x0 x1 x2 x3, OutO x3 (PM.pKwBody d n x0 x1 x2 x3) ∧ (9 + (adqWL x3) ≤ n → PM.pKwBody d n x0 x1 x2 x3 ≠ .error .fuel)
  pBetween : ∀ x0 x1 x2, OutO x2 (PM.pBetween d n x0 x1 x2) ∧ (8 + (adqWL x2) ≤ n → PM.pBetween d n x0 x1 x2 ≠ .error .fuel)
  pInBody : ∀ x0 x1 x2, OutO x2 (PM.pInBody d n x0 x1 x2) ∧ (2 + (adqWL x2) ≤ n → PM.pInBody d n x0 x1 x2 ≠ .error .fuel)
  pSplit : ∀ x0 x1 x2, Kind (PM.pSplit d n x0 x1 x2) ∧ (8 + (adqWL x1 + adqWL x2 + x2.length) ≤ n → PM.pSplit d n x0 x1 x2 ≠ .error .fuel)
  pCompare : ∀ x0, Out x0 (PM.pCompare d n x0) ∧ (10 + (adqWL x0) ≤ n → PM.pCompare d n x0 ≠ .error .fuel)
  pCompareLoop : ∀ x0 x1, Out x1 (PM.pCompareLoop d n x0 x1) ∧ (1 + (adqWL x1) ≤ n → PM.pCompareLoop d n x0 x1 ≠ .error .fuel)
  pNot : ∀ x0, Out x0 (PM.pNot d n x0) ∧ (11 + (adqWL x0) ≤ n → PM.pNot d n x0 ≠ .error .fuel)
  pAnd : ∀ x0, Out x0 (PM.pAnd d n x0) ∧ (12 + (adqWL x0) ≤ n → PM.pAnd d n x0 ≠ .error .fuel)
  pAndLoop : ∀ x0 x1, Out x1 (PM.pAndLoop d n x0 x1) ∧ (1 + (adqWL x1) ≤ n → PM.pAndLoop d n x0 x1 ≠ .error .fuel)
  pXor : ∀ x0, Out x0 (PM.pXor d n x0) ∧ (13 + (adqWL x0) ≤ n → PM.pXor d n x0 ≠ .error .fuel)
  pXorLoop : ∀ x0 x1, Out x1 (PM.pXorLoop d n x0 x1) ∧ (1 + (adqWL x1) ≤ n → PM.pXorLoop d n x0 x1 ≠ .error .fuel)
  pOr : ∀ x0, Out x0 (PM.pOr d n x0) ∧ (14 + (adqWL x0) ≤ n → PM.pOr d n x0 ≠ .error .fuel)
  pOrLoop : ∀ x0 x1, Out x1 (PM.pOrLoop d n x0 x1) ∧ (1 + (adqWL x1) ≤ n → PM.pOrLoop d n x0 x1 ≠ .error .fuel)

/-- what the expression grammar calls of the SELECT grammar, and the clauses -/
structure OutFC (d : Gen.D) (n : Nat) : Prop where
  pSubQuery : ∀ x0, Out x0 (PM.pSubQuery d n x0) ∧ (1 + (adqWL x0) ≤ n → PM.pSubQuery d n x0 ≠ .error .fuel)
  pCast : ∀ x0, Out x0 (PM.pCast d n x0) ∧ (1 + (adqWL x0) ≤ n → PM.pCast d n x0 ≠ .error .fuel)
  pExtract : ∀ x0, Out x0 (PM.pExtract d n x0) ∧ (1 + (adqWL x0) ≤ n → PM.pExtract d n x0 ≠ .error .fuel)
  pExtractTail : ∀ x0 x1, Kind (PM.pExtractTail d n x0 x1) ∧ (1 + (adqWL x1) ≤ n → PM.pExtractTail d n x0 x1 ≠ .error .fuel)
  pWindow : ∀ x0, Out x0 (PM.pWindow d n x0) ∧ (3 + (adqWL x0) ≤ n → PM.pWindow d n x0 ≠ .error .fuel)
  pWindowBody : ∀ x0 x1, Kind (PM.pWindowBody d n x0 x1) ∧ (2 + (adqWL x1) ≤ n → PM.pWindowBody d n x0 x1 ≠ .error .fuel)
  pPartitionBy : ∀ x0, Out x0 (PM.pPartitionBy d n x0) ∧ (1 + (adqWL x0) ≤ n → PM.pPartitionBy d n x0 ≠ .error .fuel)
  pComputeList : ∀ x0 x1, Out x1 (PM.pComputeList d n x0 x1) ∧ (1 + (adqWL x1) ≤ n → PM.pComputeList d n x0 x1 ≠ .error .fuel)
  pOrderItem : ∀ x0, Out x0 (PM.pOrderItem d n x0) ∧ (8 + (adqWL x0) ≤ n → PM.pOrderItem d n x0 ≠ .error .fuel)
  pOrderList : ∀ x0 x1, Out x1 (PM.pOrderList d n x0 x1) ∧ (1 + (adqWL x1) ≤ n → PM.pOrderList d n x0 x1 ≠ .error .fuel)
  pOrderByOpt : ∀ x0, Out x0 (PM.pOrderByOpt d n x0) ∧ (1 + (adqWL x0) ≤ n → PM.pOrderByOpt d n x0 ≠ .error .fuel)
  pSelectCol : ∀ x0, Out x0 (PM.pSelectCol d n x0) ∧ (15 + (adqWL x0) ≤ n → PM.pSelectCol d n x0 ≠ .error .fuel)
  pSelectCols : ∀ x0 x1, Out x1 (PM.pSelectCols d n x0 x1) ∧ (1 + (adqWL x1) ≤ n → PM.pSelectCols d n x0 x1 ≠ .error .fuel)
  pTableExpr : ∀ x0, Out x0 (PM.pTableExpr d n x0) ∧ (2 + (adqWL x0) ≤ n → PM.pTableExpr d n x0 ≠ .error .fuel)
  pFromTable : ∀ x0, Out x0 (PM.pFromTable d n x0) ∧ (3 + (adqWL x0) ≤ n → PM.pFromTable d n x0 ≠ .error .fuel)
  pFromTables : ∀ x0 x1, Out x1 (PM.pFromTables d n x0 x1) ∧ (1 + (adqWL x1) ≤ n → PM.pFromTables d n x0 x1 ≠ .error .fuel)
  pJoin : ∀ x0, Out x0 (PM.pJoin d n x0) ∧ (1 + (adqWL x0) ≤ n → PM.pJoin d n x0 ≠ .error .fuel)
  pJoinRule : ∀ x0 x1 x2, Out x2 (PM.pJoinRule d n x0 x1 x2) ∧ (2 + (adqWL x2) ≤ n → PM.pJoinRule d n x0 x1 x2 ≠ .error .fuel)
  pJoins : ∀ x0 x1 x2 x3, Out x3 (PM.pJoins d n x0 x1 x2 x3) ∧ (2 + (adqWL x3) ≤ n → PM.pJoins d n x0 x1 x2 x3 ≠ .error .fuel)
  pOptOr : ∀ x0 x1, Out x1 (PM.pOptOr d n x0 x1) ∧ (1 + (adqWL x1) ≤ n → PM.pOptOr d n x0 x1 ≠ .error .fuel)
  pGroupingElem : ∀ x0, Kind (PM.pGroupingElem d n x0) ∧ (8 + (adqWL x0) ≤ n → PM.pGroupingElem d n x0 ≠ .error .fuel)
  pClosedEach : ∀ x0 x1, Kind (PM.pClosedEach d n x0 x1) ∧ (8 + (adqWLL x1) ≤ n → PM.pClosedEach d n x0 x1 ≠ .error .fuel)
  pGroupingElems : ∀ x0 x1, Kind (PM.pGroupingElems d n x0 x1) ∧ (9 + (adqWLL x1) ≤ n → PM.pGroupingElems d n x0 x1 ≠ .error .fuel)
  pGroupingSets : ∀ x0, Out x0 (PM.pGroupingSets d n x0) ∧ (1 + (adqWL x0) ≤ n → PM.pGroupingSets d n x0 ≠ .error .fuel)
  pGroupBy : ∀ x0, Out x0 (PM.pGroupBy d n x0) ∧ (1 + (adqWL x0) ≤ n → PM.pGroupBy d n x0 ≠ .error .fuel)
  pGroupCols : ∀ x0, Out x0 (PM.pGroupCols d n x0) ∧ (8 + (adqWL x0) ≤ n → PM.pGroupCols d n x0 ≠ .error .fuel)
  pGroupSetsOpt : ∀ x0, Out x0 (PM.pGroupSetsOpt d n x0) ∧ (2 + (adqWL x0) ≤ n → PM.pGroupSetsOpt d n x0 ≠ .error .fuel)

/-- the SELECT statement -/
structure OutFS (d : Gen.D) (n : Nat) : Prop where
  pWithTable : ∀ x0, Out x0 (PM.pWithTable d n x0) ∧ (1 + (adqWL x0) ≤ n → PM.pWithTable d n x0 ≠ .error .fuel)
  pWithBody : ∀ x0 x1, Out x1 (PM.pWithBody d n x0 x1) ∧ (1 + (adqWL x1) ≤ n → PM.pWithBody d n x0 x1 ≠ .error .fuel)
  pWithTables : ∀ x0 x1, Out x1 (PM.pWithTables d n x0 x1) ∧ (1 + (adqWL x1) ≤ n → PM.pWithTables d n x0 x1 ≠ .error .fuel)
  pWith : ∀ x0, Out x0 (PM.pWith d n x0) ∧ (1 + (adqWL x0) ≤ n → PM.pWith d n x0 ≠ .error .fuel)
  pSelectBody : ∀ x0 x1 x2 x3, Out x3 (PM.pSelectBody d n x0 x1 x2 x3) ∧ (1 + (adqWL x3) ≤ n → PM.pSelectBody d n x0 x1 x2 x3 ≠ .error .fuel)
  pFromOpt : ∀ x0, Out x0 (PM.pFromOpt d n x0) ∧ (1 + (adqWL x0) ≤ n → PM.pFromOpt d n x0 ≠ .error .fuel)
  pSelectRest : ∀ x0 x1 x2 x3 x4 x5, Out x5 (PM.pSelectRest d n x0 x1 x2 x3 x4 x5) ∧ (4 + (adqWL x5) ≤ n → PM.pSelectRest d n x0 x1 x2 x3 x4 x5 ≠ .error .fuel)
  pSelectTail : ∀ x0 x1 x2 x3 x4 x5 x6, Out x6 (PM.pSelectTail d n x0 x1 x2 x3 x4 x5 x6) ∧ (3 + (adqWL x6) ≤ n → PM.pSelectTail d n x0 x1 x2 x3 x4 x5 x6 ≠ .error .fuel)
  pWhereGroup : ∀ x0, Out x0 (PM.pWhereGroup d n x0) ∧ (2 + (adqWL x0) ≤ n → PM.pWhereGroup d n x0 ≠ .error .fuel)
  pHavingOrder : ∀ x0, Out x0 (PM.pHavingOrder d n x0) ∧ (2 + (adqWL x0) ≤ n → PM.pHavingOrder d n x0 ≠ .error .fuel)
  pHiveClauses : ∀ x0, Out x0 (PM.pHiveClauses d n x0) ∧ (2 + (adqWL x0) ≤ n → PM.pHiveClauses d n x0 ≠ .error .fuel)
  pSortBy : ∀ x0, Out x0 (PM.pSortBy d n x0) ∧ (1 + (adqWL x0) ≤ n → PM.pSortBy d n x0 ≠ .error .fuel)
  pByList : ∀ x0 x1, Out x1 (PM.pByList d n x0 x1) ∧ (1 + (adqWL x1) ≤ n → PM.pByList d n x0 x1 ≠ .error .fuel)
  pLateral : ∀ x0, Out x0 (PM.pLateral d n x0) ∧ (1 + (adqWL x0) ≤ n → PM.pLateral d n x0 ≠ .error .fuel)
  pLaterals : ∀ x0 x1 x2 x3, Out x3 (PM.pLaterals d n x0 x1 x2 x3) ∧ (2 + (adqWL x3) ≤ n → PM.pLaterals d n x0 x1 x2 x3 ≠ .error .fuel)
  pSingle : ∀ x0 x1, Out x1 (PM.pSingle d n x0 x1) ∧ (2 + (adqWL x1) ≤ n → PM.pSingle d n x0 x1 ≠ .error .fuel)
  pSingleParen : ∀ x0 x1 x2 x3, Out x1 (PM.pSingleParen d n x0 x1 x2 x3) ∧ (2 + (adqWL x1 + adqWL x3) ≤ n → PM.pSingleParen d n x0 x1 x2 x3 ≠ .error .fuel)
  pSelectStmt : ∀ x0 x1, Out x1 (PM.pSelectStmt d n x0 x1) ∧ (3 + (adqWL x1) ≤ n → PM.pSelectStmt d n x0 x1 ≠ .error .fuel)
  pUnions : ∀ x0 x1 x2, Out x2 (PM.pUnions d n x0 x1 x2) ∧ (1 + (adqWL x2) ≤ n → PM.pUnions d n x0 x1 x2 ≠ .error .fuel)
  pJoin_s : ∀ x0, StrictRel x0 (PM.pJoin d n x0)
  pLateral_s : ∀ x0, StrictRel x0 (PM.pLateral d n x0)
  pSelectBody_s : ∀ x0 x1 x2 x3, StrictRel x3 (PM.pSelectBody d n x0 x1 x2 x3)
  pSingle_s : ∀ x0 x1, StrictRel x1 (PM.pSingle d n x0 x1)
  pSelectStmt_s : ∀ x0 x1, StrictRel x1 (PM.pSelectStmt d n x0 x1)

structure OutF (d : Gen.D) (n : Nat) : Prop extends OutFE d n, OutFC d n, OutFS d n

grind_pattern OutFE.pElement => OutFE d n, PM.pElement d n x0
grind_pattern OutFE.pParen => OutFE d n, PM.pParen d n x0 x1
grind_pattern OutFE.pNamed => OutFE d n, PM.pNamed d n x0 x1 x2
grind_pattern OutFE.pQualified => OutFE d n, PM.pQualified d n x0 x1 x2
grind_pattern OutFE.pIndex => OutFE d n, PM.pIndex d n x0 x1
grind_pattern OutFE.pFuncIdx => OutFE d n, PM.pFuncIdx d n x0
grind_pattern OutFE.pFunc => OutFE d n, PM.pFunc d n x0
grind_pattern OutFE.pIfCall => OutFE d n, PM.pIfCall d n x0
grind_pattern OutFE.pFirstDiscard => OutFE d n, PM.pFirstDiscard d n x0
grind_pattern OutFE.pFirstArg => OutFE d n, PM.pFirstArg d n x0
grind_pattern OutFE.pCall => OutFE d n, PM.pCall d n x0 x1 x2
grind_pattern OutFE.pArgs => OutFE d n, PM.pArgs d n x0 x1
grind_pattern OutFE.pCase => OutFE d n, PM.pCase d n x0
grind_pattern OutFE.pElseEnd => OutFE d n, PM.pElseEnd d n x0
grind_pattern OutFE.pWhens => OutFE d n, PM.pWhens d n x0 x1
grind_pattern OutFE.pUnary => OutFE d n, PM.pUnary d n x0
grind_pattern OutFE.pCompute => OutFE d n, PM.pCompute d n x0
grind_pattern OutFE.pComputeLoop => OutFE d n, PM.pComputeLoop d n x0 x1 x2
grind_pattern OutFE.pKeyword => OutFE d n, PM.pKeyword d n x0 x1
grind_pattern OutFE.pKwFirst => OutFE d n, PM.pKwFirst d n x0 x1
grind_pattern OutFE.pKwRest => OutFE d n, PM.pKwRest d n x0 x1 x2
grind_pattern OutFE.pKwBody => OutFE d n, PM.pKwBody d n x0 x1 x2 x3
grind_pattern OutFE.pBetween => OutFE d n, PM.pBetween d n x0 x1 x2
grind_pattern OutFE.pInBody => OutFE d n, PM.pInBody d n x0 x1 x2
grind_pattern OutFE.pSplit => OutFE d n, PM.pSplit d n x0 x1 x2
grind_pattern OutFE.pCompare => OutFE d n, PM.pCompare d n x0
grind_pattern OutFE.pCompareLoop => OutFE d n, PM.pCompareLoop d n x0 x1
grind_pattern OutFE.pNot => OutFE d n, PM.pNot d n x0
grind_pattern OutFE.pAnd => OutFE d n, PM.pAnd d n x0
grind_pattern OutFE.pAndLoop => OutFE d n, PM.pAndLoop d n x0 x1
grind_pattern OutFE.pXor => OutFE d n, PM.pXor d n x0
grind_pattern OutFE.pXorLoop => OutFE d n, PM.pXorLoop d n x0 x1
grind_pattern OutFE.pOr => OutFE d n, PM.pOr d n x0
grind_pattern OutFE.pOrLoop => OutFE d n, PM.pOrLoop d n x0 x1
grind_pattern OutFC.pSubQuery => OutFC d n, PM.pSubQuery d n x0
grind_pattern OutFC.pCast => OutFC d n, PM.pCast d n x0
grind_pattern OutFC.pExtract => OutFC d n, PM.pExtract d n x0
grind_pattern OutFC.pExtractTail => OutFC d n, PM.pExtractTail d n x0 x1
grind_pattern OutFC.pWindow => OutFC d n, PM.pWindow d n x0
grind_pattern OutFC.pWindowBody => OutFC d n, PM.pWindowBody d n x0 x1
grind_pattern OutFC.pPartitionBy => OutFC d n, PM.pPartitionBy d n x0
grind_pattern OutFC.pComputeList => OutFC d n, PM.pComputeList d n x0 x1
grind_pattern OutFC.pOrderItem => OutFC d n, PM.pOrderItem d n x0
grind_pattern OutFC.pOrderList => OutFC d n, PM.pOrderList d n x0 x1
grind_pattern OutFC.pOrderByOpt => OutFC d n, PM.pOrderByOpt d n x0
grind_pattern OutFC.pSelectCol => OutFC d n, PM.pSelectCol d n x0
grind_pattern OutFC.pSelectCols => OutFC d n, PM.pSelectCols d n x0 x1
grind_pattern OutFC.pTableExpr => OutFC d n, PM.pTableExpr d n x0
grind_pattern OutFC.pFromTable => OutFC d n, PM.pFromTable d n x0
grind_pattern OutFC.pFromTables => OutFC d n, PM.pFromTables d n x0 x1
grind_pattern OutFC.pJoin => OutFC d n, PM.pJoin d n x0
grind_pattern OutFC.pJoinRule => OutFC d n, PM.pJoinRule d n x0 x1 x2
grind_pattern OutFC.pJoins => OutFC d n, PM.pJoins d n x0 x1 x2 x3
grind_pattern OutFC.pOptOr => OutFC d n, PM.pOptOr d n x0 x1
grind_pattern OutFC.pGroupingElem => OutFC d n, PM.pGroupingElem d n x0
grind_pattern OutFC.pClosedEach => OutFC d n, PM.pClosedEach d n x0 x1
grind_pattern OutFC.pGroupingElems => OutFC d n, PM.pGroupingElems d n x0 x1
grind_pattern OutFC.pGroupingSets => OutFC d n, PM.pGroupingSets d n x0
grind_pattern OutFC.pGroupBy => OutFC d n, PM.pGroupBy d n x0
grind_pattern OutFC.pGroupCols => OutFC d n, PM.pGroupCols d n x0
grind_pattern OutFC.pGroupSetsOpt => OutFC d n, PM.pGroupSetsOpt d n x0
grind_pattern OutFS.pWithTable => OutFS d n, PM.pWithTable d n x0
grind_pattern OutFS.pWithBody => OutFS d n, PM.pWithBody d n x0 x1
grind_pattern OutFS.pWithTables => OutFS d n, PM.pWithTables d n x0 x1
grind_pattern OutFS.pWith => OutFS d n, PM.pWith d n x0
grind_pattern OutFS.pSelectBody => OutFS d n, PM.pSelectBody d n x0 x1 x2 x3
grind_pattern OutFS.pFromOpt => OutFS d n, PM.pFromOpt d n x0
grind_pattern OutFS.pSelectRest => OutFS d n, PM.pSelectRest d n x0 x1 x2 x3 x4 x5
grind_pattern OutFS.pSelectTail => OutFS d n, PM.pSelectTail d n x0 x1 x2 x3 x4 x5 x6
grind_pattern OutFS.pWhereGroup => OutFS d n, PM.pWhereGroup d n x0
grind_pattern OutFS.pHavingOrder => OutFS d n, PM.pHavingOrder d n x0
grind_pattern OutFS.pHiveClauses => OutFS d n, PM.pHiveClauses d n x0
grind_pattern OutFS.pSortBy => OutFS d n, PM.pSortBy d n x0
grind_pattern OutFS.pByList => OutFS d n, PM.pByList d n x0 x1
grind_pattern OutFS.pLateral => OutFS d n, PM.pLateral d n x0
grind_pattern OutFS.pLaterals => OutFS d n, PM.pLaterals d n x0 x1 x2 x3
grind_pattern OutFS.pSingle => OutFS d n, PM.pSingle d n x0 x1
grind_pattern OutFS.pSingleParen => OutFS d n, PM.pSingleParen d n x0 x1 x2 x3
grind_pattern OutFS.pSelectStmt => OutFS d n, PM.pSelectStmt d n x0 x1
grind_pattern OutFS.pUnions => OutFS d n, PM.pUnions d n x0 x1 x2
grind_pattern OutFS.pJoin_s => OutFS d n, PM.pJoin d n x0
grind_pattern OutFS.pLateral_s => OutFS d n, PM.pLateral d n x0
grind_pattern OutFS.pSelectBody_s => OutFS d n, PM.pSelectBody d n x0 x1 x2 x3
grind_pattern OutFS.pSingle_s => OutFS d n, PM.pSingle d n x0 x1
grind_pattern OutFS.pSelectStmt_s => OutFS d n, PM.pSelectStmt d n x0 x1

end PM
