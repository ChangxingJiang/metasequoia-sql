import MsqProofs.Lemmas.ParseWNCovDefs
/-!
# C02 at the clause level, fuel step, part 1: sub-queries, window specifications, lists of items, tables, joins, GROUP BY
-/
open Lex
namespace WNG
open PM Ast
variable {d : Gen.D} {n : Nat}

theorem ret2 {α : Type} {a v : α} {ts r : List Tok} (h : (Except.ok (a, ts) : R α) = .ok (v, r)) : a = v ∧ ts = r := by
  simpa using h

theorem orderTail_spec {e : Expr} {ts r : List Tok} {v : OrderItem} (h : orderTail e ts = .ok (v, r)) : oiE v = e ∧ ∃ u, ts = u ++ r := by
  unfold orderTail at h
  dsimp only at h
  generalize hd : (if searchStrUp ts "DESC" = true then ((true, List.drop 1 ts) : Bool × List Tok) else if searchStrUp ts "ASC" = true then (false, List.drop 1 ts) else (false, ts)) = dd at h
  have c : Sfx dd.2 ts := by
    rw [← hd]
    split
    · exact sfx_drop _ _
    · split
      · exact sfx_drop _ _
      · exact Sfx.refl _
  split at h
  · cases h
  · simp only [Except.ok.injEq, Prod.mk.injEq] at h
    refine ⟨by rw [← h.1]; rfl, ?_⟩
    rw [← h.2]
    exact ((moveTwoUp_sfx _ _ _).trans (moveTwoUp_sfx _ _ _)).trans c
theorem orderTail_e {e : Expr} {ts r : List Tok} {v : OrderItem} (h : orderTail e ts = .ok (v, r)) : oiE v = e := (orderTail_spec h).1

theorem pTableName_exprs {ts r : List Tok} {v : TableRef} (h : pTableName ts = .ok (v, r)) : exprsT v = [] := by
  unfold pTableName at h
  repeat' split at h
  all_goals (cases h <;> simp [exprsT])

theorem headChildren_sub {T ts cs : List Tok} (hs : Sub T ts) (h : headChildren ts = .ok cs) : Sub T cs := by
  cases ts with
  | nil => simp [headChildren] at h
  | cons t r =>
    simp only [headChildren, Except.ok.injEq] at h
    exact h ▸ hs.head_child

theorem cv_pSubQuery (ih : CV d n) : ∀ T ts v r, Sub T ts → pSubQuery d (n+1) ts = .ok (v, r) → ∃ q, v = .subQuery q ∧ CovL d T (exprsQ q) := by
  intro T ts v r hs h
  unfold pSubQuery at h
  split at h
  · cases h
  · rename_i g r0
    split at h
    · rename_i q hq
      simp only [Except.ok.injEq, Prod.mk.injEq] at h
      rw [closed_ok] at hq
      exact ⟨q, h.1.symm, ih.pSelectStmt T none g.children q [] hs.head_child (by simpa [exprsOW] using CovL.nil) hq⟩
    · cases h

theorem cv_pComputeList (ih : CV d n) : ∀ T acc ts v r, Sub T ts → CovL d T acc → pComputeList d (n+1) acc ts = .ok (v, r) → CovL d T v := by
  intro T acc ts v r hs ha h
  unfold pComputeList at h
  split at h
  · split at h
    · rename_i e r1 h1
      obtain ⟨hc, hs1⟩ := cov_run (hs.drop 1) ((wf_all d n).pCompute _ e r1 h1)
      exact ih.pComputeList T _ r1 v r hs1 (ha.snoc hc) h
    · cases h
  · obtain ⟨rfl, rfl⟩ := ret2 h; exact ha

theorem cv_pPartitionBy (ih : CV d n) : ∀ T ts v r, Sub T ts → pPartitionBy d (n+1) ts = .ok (v, r) → CovL d T v := by
  intro T ts v r hs h
  unfold pPartitionBy at h
  split at h
  · split at h
    · cases h
    · rename_i e r1 h1
      obtain ⟨hc, hs1⟩ := cov_run (hs.drop 2) ((wf_all d n).pCompute _ e r1 h1)
      exact ih.pComputeList T _ r1 v r hs1 (.single hc) h
  · obtain ⟨rfl, rfl⟩ := ret2 h; exact .nil

theorem cv_pOrderItem (_ : CV d n) : ∀ T ts v r, Sub T ts → pOrderItem d (n+1) ts = .ok (v, r) → Cov d T (oiE v) := by
  intro T ts v r hs h
  unfold pOrderItem at h
  split at h
  · cases h
  · rename_i e r1 h1
    obtain ⟨hc, hs1⟩ := cov_run hs ((wf_all d n).pCompute _ e r1 h1)
    rw [orderTail_e h]; exact hc

theorem pOrderItem_sub {T ts r : List Tok} {v : OrderItem} (hs : Sub T ts) (h : pOrderItem d n ts = .ok (v, r)) : Sub T r :=
  hs.of_cons (PM.pOrderItem_consumes d n ts v r h)

theorem cv_pOrderList (ih : CV d n) : ∀ T acc ts v r, Sub T ts → CovL d T (acc.map oiE) → pOrderList d (n+1) acc ts = .ok (v, r) →
    CovL d T (v.map oiE) := by
  intro T acc ts v r hs ha h
  unfold pOrderList at h
  split at h
  · split at h
    · rename_i o r1 h1
      have hc := ih.pOrderItem T _ o r1 (hs.drop 1) h1
      exact ih.pOrderList T _ r1 v r (pOrderItem_sub (hs.drop 1) h1) (by simpa using ha.snoc hc) h
    · cases h
  · obtain ⟨rfl, rfl⟩ := ret2 h; exact ha

theorem cv_pOrderByOpt (ih : CV d n) : ∀ T ts v r, Sub T ts → pOrderByOpt d (n+1) ts = .ok (v, r) → CovL d T (oiEs v) := by
  intro T ts v r hs h
  unfold pOrderByOpt at h
  split at h
  · split at h
    · cases h
    · rename_i o r1 h1
      have hc := ih.pOrderItem T _ o r1 (hs.drop 2) h1
      split at h
      · rename_i os r2 h2
        obtain ⟨rfl, rfl⟩ := ret2 h
        exact ih.pOrderList T [o] r1 os r2 (pOrderItem_sub (hs.drop 2) h1) (by simpa using CovL.single hc) h2
      · cases h
  · obtain ⟨rfl, rfl⟩ := ret2 h; exact .nil

theorem cv_pWindowBody (ih : CV d n) : ∀ T fn cs w, Sub T cs → pWindowBody d (n+1) fn cs = .ok w →
    ∃ part ord rows, w = .window fn part ord rows ∧ CovL d T (part ++ ord.map oiE) := by
  intro T fn cs w hs h
  unfold pWindowBody at h
  split at h
  · cases h
  · rename_i part r1 h1
    have hp := ih.pPartitionBy T cs part r1 hs h1
    have hs1 : Sub T r1 := hs.of_cons (PM.pPartitionBy_consumes d n cs part r1 h1)
    split at h
    · cases h
    · rename_i ord r2 h2
      have ho := ih.pOrderByOpt T r1 ord r2 hs1 h2
      split at h
      · split at h
        · simp only [Except.ok.injEq] at h; exact ⟨part, ord.getD [], _, h.symm, hp.append ho⟩
        · cases h
      · split at h
        · simp only [Except.ok.injEq] at h; exact ⟨part, ord.getD [], _, h.symm, hp.append ho⟩
        · cases h

theorem cv_pSelectCol (_ : CV d n) : ∀ T ts v r, Sub T ts → pSelectCol d (n+1) ts = .ok (v, r) → Cov d T v.1 := by
  intro T ts v r hs h
  unfold pSelectCol at h
  split at h
  · cases h
  · rename_i e r1 h1
    obtain ⟨hc, hs1⟩ := cov_run hs ((wf_all d n).pOr _ e r1 h1)
    split at h
    · obtain ⟨rfl, rfl⟩ := ret2 h; exact hc
    · cases h

theorem cv_pSelectCols (ih : CV d n) : ∀ T acc ts v r, Sub T ts → CovL d T (acc.map (·.1)) → pSelectCols d (n+1) acc ts = .ok (v, r) →
    CovL d T (v.map (·.1)) := by
  intro T acc ts v r hs ha h
  unfold pSelectCols at h
  split at h
  · split at h
    · rename_i c r1 h1
      have hc := ih.pSelectCol T _ c r1 (hs.drop 1) h1
      have hs1 : Sub T r1 := (hs.drop 1).of_cons (PM.pSelectCol_consumes d n _ c r1 h1)
      exact ih.pSelectCols T _ r1 v r hs1 (by simpa using ha.snoc hc) h
    · cases h
  · obtain ⟨rfl, rfl⟩ := ret2 h; exact ha

theorem cv_pTableExpr (ih : CV d n) : ∀ T ts v r, Sub T ts → pTableExpr d (n+1) ts = .ok (v, r) → CovL d T (exprsT v) := by
  intro T ts v r hs h
  unfold pTableExpr at h
  split at h
  · cases h
  · rename_i cs hcs
    split at h
    · split at h
      · rename_i q r1 h1
        obtain ⟨rfl, rfl⟩ := ret2 h
        obtain ⟨q', hq, hc⟩ := ih.pSubQuery T ts _ r1 hs h1
        cases hq
        simpa [exprsT] using hc
      · cases h
      · cases h
    · split at h
      · split at h
        · rename_i t ht
          obtain ⟨rfl, rfl⟩ := ret2 h
          rw [closed_ok] at ht
          exact ih.pTableExpr T cs t [] (headChildren_sub hs hcs) ht
        · cases h
      · rw [pTableName_exprs h]; exact .nil

theorem cv_pFromTable (ih : CV d n) : ∀ T ts v r, Sub T ts → pFromTable d (n+1) ts = .ok (v, r) → CovL d T (exprsF v) := by
  intro T ts v r hs h
  unfold pFromTable at h
  split at h
  · cases h
  · rename_i t r1 h1
    split at h
    · obtain ⟨rfl, rfl⟩ := ret2 h
      simpa [exprsF] using ih.pTableExpr T ts t r1 hs h1
    · cases h

theorem cv_pFromTables (ih : CV d n) : ∀ T acc ts v r, Sub T ts → CovL d T (exprsFs acc) → pFromTables d (n+1) acc ts = .ok (v, r) →
    CovL d T (exprsFs v) := by
  intro T acc ts v r hs ha h
  unfold pFromTables at h
  split at h
  · split at h
    · rename_i t r1 h1
      have hc := ih.pFromTable T _ t r1 (hs.drop 1) h1
      have hs1 : Sub T r1 := (hs.drop 1).of_cons (PM.pFromTable_consumes d n _ t r1 h1)
      refine ih.pFromTables T _ r1 v r hs1 ?_ h
      rw [exprsFs_append]
      exact ha.append (by simpa [exprsFs] using hc)
    · cases h
  · obtain ⟨rfl, rfl⟩ := ret2 h; exact ha

theorem cv_pJoinRule (_ : CV d n) : ∀ T jt t r1 v r, Sub T r1 → CovL d T (exprsF t) → pJoinRule d (n+1) jt t r1 = .ok (v, r) →
    CovL d T (exprsJ v) := by
  intro T jt t r1 v r hs ht h
  unfold pJoinRule at h
  split at h
  · obtain ⟨rfl, rfl⟩ := ret2 h
    simpa [exprsJ, ojrE] using ht
  · split at h
    · split at h
      · rename_i c r2 h1
        obtain ⟨rfl, rfl⟩ := ret2 h
        obtain ⟨hc, _⟩ := cov_run (hs.drop 1) ((wf_all d n).pOr _ c r2 h1)
        simpa [exprsJ, ojrE, jrE] using ht.snoc hc
      · cases h
    · split at h
      · rename_i u r2 h1
        obtain ⟨rfl, rfl⟩ := ret2 h
        obtain ⟨hc, _⟩ := cov_run hs ((wf_all d n).pFunc _ u r2 h1)
        simpa [exprsJ, ojrE, jrE] using ht.snoc hc
      · cases h

theorem cv_pJoin (ih : CV d n) : ∀ T ts v r, Sub T ts → pJoin d (n+1) ts = .ok (v, r) → CovL d T (exprsJ v) := by
  intro T ts v r hs h
  unfold pJoin at h
  split at h
  · cases h
  · rename_i jt r0 hf
    have hs0 : Sub T r0 := hs.of_cons (firstEnum_sfx _ _ _ _ hf)
    split at h
    · cases h
    · rename_i t r1 h1
      have ht := ih.pFromTable T r0 t r1 hs0 h1
      have hs1 : Sub T r1 := hs0.of_cons (PM.pFromTable_consumes d n _ t r1 h1)
      exact ih.pJoinRule T jt t r1 v r hs1 ht h

theorem cv_pJoins (ih : CV d n) : ∀ T same outer acc inner v r, Sub T inner → CovL d T (exprsJs acc) →
    pJoins d (n+1) same outer acc inner = .ok (v, r) → CovL d T (exprsJs v) := by
  intro T same outer acc inner v r hs ha h
  unfold pJoins at h
  generalize joinHead (if same = true then inner else outer) = c at h
  cases c with
  | true =>
    simp only [↓reduceIte] at h
    split at h
    · rename_i j r1 h1
      have hc := ih.pJoin T inner j r1 hs h1
      have hs1 : Sub T r1 := hs.of_cons (PM.pJoin_consumes d n _ j r1 h1)
      refine ih.pJoins T same outer _ r1 v r hs1 ?_ h
      rw [exprsJs_append]
      exact ha.append (by simpa [exprsJs] using hc)
    · cases h
  | false =>
    simp only [Bool.false_eq_true, ↓reduceIte] at h
    obtain ⟨rfl, rfl⟩ := ret2 h; exact ha

theorem cv_pOptOr (_ : CV d n) : ∀ T kwd ts v r, Sub T ts → pOptOr d (n+1) kwd ts = .ok (v, r) → CovL d T v.toList := by
  intro T kwd ts v r hs h
  unfold pOptOr at h
  split at h
  · split at h
    · rename_i c r1 h1
      obtain ⟨rfl, rfl⟩ := ret2 h
      obtain ⟨hc, _⟩ := cov_run (hs.drop 1) ((wf_all d n).pOr _ c r1 h1)
      exact .opt hc
    · cases h
  · obtain ⟨rfl, rfl⟩ := ret2 h; exact .nil

theorem cov_closed_compute {T sg : List Tok} {e : Expr} (hs : Sub T sg) (h : closed (pCompute d n sg) = .ok e) : Cov d T e := by
  rw [closed_ok] at h
  exact (cov_run hs ((wf_all d n).pCompute _ e [] h)).1

theorem cv_pClosedEach (ih : CV d n) : ∀ T acc segs v, (∀ sg ∈ segs, Sub T sg) → CovL d T acc → pClosedEach d (n+1) acc segs = .ok v →
    CovL d T v := by
  intro T acc segs v hss ha h
  unfold pClosedEach at h
  split at h
  · simp only [Except.ok.injEq] at h; exact h ▸ ha
  · rename_i sg rest
    split at h
    · rename_i e he
      exact ih.pClosedEach T _ rest v (fun s hm => hss s (by simp [hm])) (ha.snoc (cov_closed_compute (hss sg (by simp)) he)) h
    · cases h

theorem cv_pGroupingElem (ih : CV d n) : ∀ T seg v, Sub T seg → pGroupingElem d (n+1) seg = .ok v → CovL d T v := by
  intro T seg v hs h
  unfold pGroupingElem at h
  split at h
  · rename_i g r
    split at h
    · split at h
      · rename_i es hes
        split at h
        · simp only [Except.ok.injEq] at h
          exact h ▸ ih.pClosedEach T [] _ es (splitBy_sub hs.head_child) .nil hes
        · cases h
      · cases h
    · split at h
      · rename_i e he
        simp only [Except.ok.injEq] at h
        exact h ▸ CovL.single (cov_closed_compute hs he)
      · cases h
  · split at h
    · rename_i e he
      simp only [Except.ok.injEq] at h
      exact h ▸ CovL.single (cov_closed_compute hs he)
    · cases h

theorem cv_pGroupingElems (ih : CV d n) : ∀ T acc segs v, (∀ sg ∈ segs, Sub T sg) → CovL d T acc.flatten →
    pGroupingElems d (n+1) acc segs = .ok v → CovL d T v.flatten := by
  intro T acc segs v hss ha h
  unfold pGroupingElems at h
  split at h
  · simp only [Except.ok.injEq] at h; exact h ▸ ha
  · rename_i sg rest
    split at h
    · rename_i es hes
      have hc := ih.pGroupingElem T sg es (hss sg (by simp)) hes
      exact ih.pGroupingElems T _ rest v (fun s hm => hss s (by simp [hm])) (by simpa using ha.append hc) h
    · cases h

theorem cv_pGroupingSets (ih : CV d n) : ∀ T ts v r, Sub T ts → pGroupingSets d (n+1) ts = .ok (v, r) → CovL d T v.flatten := by
  intro T ts v r hs h
  unfold pGroupingSets at h
  split at h
  · cases h
  · rename_i r0 hm
    have hs0 : Sub T r0 := hs.of_cons (matchSeq_cons ts _ _ r0 hm)
    split at h
    · cases h
    · rename_i g r1
      split at h
      · rename_i gs hgs
        obtain ⟨rfl, rfl⟩ := ret2 h
        exact ih.pGroupingElems T [] _ gs (splitBy_sub hs0.head_child) (by simpa using CovL.nil) hgs
      · cases h

theorem cv_pGroupCols (ih : CV d n) : ∀ T ts v r, Sub T ts → pGroupCols d (n+1) ts = .ok (v, r) → CovL d T v := by
  intro T ts v r hs h
  unfold pGroupCols at h
  split at h
  · obtain ⟨rfl, rfl⟩ := ret2 h; exact .nil
  · split at h
    · cases h
    · rename_i e r1 h1
      obtain ⟨hc, hs1⟩ := cov_run hs ((wf_all d n).pCompute _ e r1 h1)
      exact ih.pComputeList T _ r1 v r hs1 (.single hc) h

theorem cv_pGroupSetsOpt (ih : CV d n) : ∀ T ts v r, Sub T ts → pGroupSetsOpt d (n+1) ts = .ok (v, r) → CovL d T (v.getD []).flatten := by
  intro T ts v r hs h
  unfold pGroupSetsOpt at h
  split at h
  · split at h
    · rename_i g r1 h1
      obtain ⟨rfl, rfl⟩ := ret2 h
      simpa using ih.pGroupingSets T ts g r1 hs h1
    · cases h
  · obtain ⟨rfl, rfl⟩ := ret2 h; simpa using CovL.nil

theorem cv_pGroupBy (ih : CV d n) : ∀ T ts v r, Sub T ts → pGroupBy d (n+1) ts = .ok (v, r) → CovL d T (ogbE v) := by
  intro T ts v r hs h
  unfold pGroupBy at h
  split at h
  · obtain ⟨rfl, rfl⟩ := ret2 h; exact .nil
  · split at h
    · cases h
    · rename_i cols r1 h1
      have hc := ih.pGroupCols T _ cols r1 (hs.drop 2) h1
      have hs1 : Sub T r1 := (hs.drop 2).of_cons (PM.pGroupCols_consumes d n _ cols r1 h1)
      split at h
      · cases h
      · rename_i sets r2 h2
        have hg := ih.pGroupSetsOpt T r1 sets r2 hs1 h2
        simp only at h
        obtain ⟨rfl, rfl⟩ := ret2 h
        simpa [ogbE, gbE] using hc.append hg

end WNG
