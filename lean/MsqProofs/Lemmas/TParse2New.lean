import MsqProofs.Lemmas.TParse2
/-!
# T-parse, larger fragment: token facts (C02 / C01)

What the upper-cased source of a literal / a back-quoted name starts with, hence which words such a token is not; what the conditions
of the fragment (`nmOK`, `fnNameOK`, `unOK`, `cmpOK` …) say about a token; the fixed tokens of the printers (`.`, `*`, `,`, the keywords
of `CASE`, `IN`, `EXISTS`).  Shared by every T-parse development above the operator fragment.
-/
open Lex PM Ast TP
namespace TP2
variable {d : Gen.D} {ch : Expr → Bool}

theorem pyUpper_ascii (c : Char) (r : List Char) (h : c.toNat < 128) : Gen.pyUpper (c :: r) = Py.upperAsciiChar c :: Gen.pyUpper r := by
  simp only [Gen.pyUpper, Py.upperWith, List.flatMap_cons, h, if_true, List.singleton_append]
theorem up_head (v : String) (c : Char) (r : List Char) (hv : v.toList = c :: r) (h : c.toNat < 128) :
    (up v).toList.head? = some (Py.upperAsciiChar c) := by
  simp [up, Gen.pyUpperS, String.toList_ofList, hv, pyUpper_ascii c r h]
theorem digit_ascii (c : Char) (h : c.isDigit = true) : c.toNat < 128 ∧ Py.upperAsciiChar c = c ∧ c.isDigit = true := by
  have h' := h
  simp only [Char.isDigit, Bool.and_eq_true, decide_eq_true_eq] at h
  have h1 : c.val.toNat ≤ 57 := UInt32.le_iff_toNat_le.1 h.2
  refine ⟨by simp only [Char.toNat]; omega, ?_, h'⟩
  unfold Py.upperAsciiChar
  have : ¬('a' ≤ c ∧ c ≤ 'z') := by
    rintro ⟨ha, _⟩
    have h2 : (97 : UInt32) ≤ c.val := ha
    have h3 := UInt32.le_iff_toNat_le.1 h2
    have h4 : (97 : UInt32).toNat = 97 := by decide
    omega
  simp [this]
theorem lit_up_ne (v w : String) (hv : litOK d v = true) (hw1 : Gen.wordMarks.find? (·.1 == w) = none)
    (hw2 : w.toList.head?.all (fun c => !c.isDigit && c != '\'' && c != '"') = true) : up v ≠ w := by
  intro he
  simp only [litOK, Bool.and_eq_true] at hv
  have hl := hv.1
  simp only [litTok, Tok.has, Tok.marks, litMark] at hl
  by_cases hd : isDigits v = true
  · simp only [isDigits, Bool.and_eq_true, Bool.not_eq_true', List.all_eq_true] at hd
    cases hc : v.toList with
    | nil => rw [hc] at hd; simp at hd
    | cons c r =>
      rw [hc] at hd
      obtain ⟨a1, a2, a3⟩ := digit_ascii c (hd.2 c (by simp))
      have := up_head v c r hc a1
      rw [he, a2] at this
      rw [this] at hw2
      simp [a3] at hw2
  · simp only [hd, Bool.false_eq_true, if_false] at hl
    by_cases hq : (v.toList.head? == some '\'' || v.toList.head? == some '"') = true
    · cases hc : v.toList with
      | nil => rw [hc] at hq; simp at hq
      | cons c r =>
        rw [hc] at hq
        simp only [List.head?_cons, Bool.or_eq_true, beq_iff_eq, Option.some.injEq] at hq
        rcases hq with rfl | rfl
        · have := up_head v '\'' r hc (by decide)
          rw [he, show Py.upperAsciiChar '\'' = '\'' by decide] at this
          rw [this] at hw2; simp at hw2
        · have := up_head v '"' r hc (by decide)
          rw [he, show Py.upperAsciiChar '"' = '"' by decide] at this
          rw [this] at hw2; simp at hw2
    · simp only [hq, Bool.false_eq_true, if_false, wordMark, he, hw1] at hl
      split at hl <;> exact absurd hl (by decide)
theorem nameTok_equals (n k : String) : (nameTok n).equalsStr k = (up (nameTok n).src == up k) := rfl
theorem name_facts (n : String) : hdTok (nameTok n) = true ∧ (nameTok n).equalsStr "," = false ∧ (nameTok n).equalsStr "." = false := by
  have h2 := up_nameTok_head n
  have a : ["SELECT", "WITH"].contains (up (nameTok n).src) = false := not_contains_of_head h2 (by decide)
  have b : ["WHEN", "DISTINCT"].contains (up (nameTok n).src) = false := not_contains_of_head h2 (by decide)
  refine ⟨by simp only [hdTok, startTok, a, b]; rfl, ?_, ?_⟩
  · rw [nameTok_equals, beq_eq_false_iff_ne]; exact ne_of_head h2 (by decide)
  · rw [nameTok_equals, beq_eq_false_iff_ne]; exact ne_of_head h2 (by decide)

theorem opTok_equals (s k : String) : (opTok s).equalsStr k = (up s == up k) := by
  simp [opTok, Tok.equalsStr, String.ofList_toList]
theorem unary_facts (o : String) (ho : unOK d o = true) :
    hdTok (opTok (cval o)) = true ∧ (opTok (cval o)).equalsStr "," = false := by
  simp only [unOK, Bool.and_eq_true] at ho
  have hu := ho.1.1.1
  have hall : (Gen.unarySet d).all (fun k => hdTok (opTok k) && !(opTok k).equalsStr ",") = true := by cases d <;> decide
  have hm : cval o ∈ Gen.unarySet d := by simpa using hu
  have := List.all_eq_true.1 hall _ hm
  simpa using this
theorem cmp_nocomma (o : String) (ho : cmpOK d o = true) : (opTok (cmpVal o)).equalsStr "," = false := by
  simp only [cmpOK, Bool.and_eq_true, beq_iff_eq] at ho
  have h := ho.1.1
  have hall : Gen.compareHash.all (fun e => up e.1 != ",") = true := by decide
  unfold compareOp? at h
  simp only [Option.map_eq_some_iff] at h
  obtain ⟨p, hf, _⟩ := h
  have hm := List.mem_of_find?_eq_some hf
  have hk : p.1 = (opTok (cmpVal o)).src := by simpa using List.find?_some hf
  have := List.all_eq_true.1 hall p hm
  rw [opTok_equals, beq_eq_false_iff_ne]
  have hc : up "," = "," := by decide
  simp only [src_opTok] at hk
  rw [hc, ← hk]
  simpa using this
theorem kw_nocomma : (opTok "NOT").equalsStr "," = false ∧ (opTok "AND").equalsStr "," = false ∧ (opTok "OR").equalsStr "," = false ∧
    (opTok "XOR").equalsStr "," = false ∧ (opTok "BETWEEN").equalsStr "," = false ∧ (opTok "IS").equalsStr "," = false ∧
    (opTok "IN").equalsStr "," = false ∧ (opTok "LIKE").equalsStr "," = false ∧ (opTok "RLIKE").equalsStr "," = false ∧
    (opTok "REGEXP").equalsStr "," = false ∧ (opTok "CASE").equalsStr "," = false ∧ (opTok "WHEN").equalsStr "," = false ∧
    (opTok "THEN").equalsStr "," = false ∧ (opTok "ELSE").equalsStr "," = false ∧ (opTok "END").equalsStr "," = false ∧
    dotTok.equalsStr "," = false ∧ starTok.equalsStr "," = false := by decide
theorem kwToks_len (k : KwKind) (n : Bool) : (kwToks k n).length ≤ 2 := by cases k <;> cases n <;> simp [kwToks]

/-! ### names -/
theorem nmOK_parts {t : Tok} {n : String} (h : nmOK d t n = true) :
    (Gen.unarySet d).contains t.src = false ∧ operandTok d t = true ∧ hdTok t = true ∧ t.has NAME = true ∧ t.has LITERAL = false ∧
      t.has PAREN = false ∧ t.srcEqUp "CASE" = false ∧ t.srcEq "*" = false ∧ unifyName t.src = n ∧ t.equalsStr "," = false ∧
      t.equalsStr "." = false := by
  simp only [nmOK, elemTok, Bool.and_eq_true, Bool.not_eq_true', beq_iff_eq] at h
  obtain ⟨⟨⟨⟨⟨⟨⟨⟨⟨⟨a0, a1⟩, a2⟩, a3⟩, a4⟩, a5⟩, a6⟩, a7⟩, a8⟩, a9⟩, a10⟩ := h
  exact ⟨a1, a0, a2, a3, a4, a5, a6, a7, a8, a9, a10⟩
theorem qTok_size (n : String) : (qTok n).size = 1 := by unfold qTok; split <;> simp [opTok, nameTok, Tok.size]
theorem isOkNoneS_eq {r : Except Err (Option String × String)} {n : String} (h : isOkNoneS r n = true) : r = .ok (none, n) := by
  unfold isOkNoneS at h
  split at h
  · simp only [beq_iff_eq] at h; subst h; rfl
  · cases h
theorem fnName_parts {n : String} (h : fnNameOK n = true) :
    (up n == "CAST") = false ∧ (up n == "EXTRACT") = false ∧ (up n == "IF") = false ∧ (up n == "SUBSTRING") = false ∧
      Gen.aggNames.contains (up n) = false := by
  simp only [fnNameOK, Bool.and_eq_true, Bool.not_eq_true', List.contains_cons, List.contains_nil, Bool.or_false, Bool.or_eq_false_iff,
    bne_iff_ne, ne_eq] at h
  obtain ⟨⟨⟨a, b, c⟩, e⟩, f⟩ := h
  exact ⟨a, b, c, by simpa using e, f⟩
theorem agg_parts {n : String} (h : Gen.aggNames.contains (up n) = true) :
    (up n == "CAST") = false ∧ (up n == "EXTRACT") = false ∧ (up n == "IF") = false ∧ (up n == "SUBSTRING") = false := by
  have hall : Gen.aggNames.all (fun k => !(k == "CAST") && !(k == "EXTRACT") && !(k == "IF") && !(k == "SUBSTRING")) = true := by decide
  have hm : up n ∈ Gen.aggNames := by simpa using h
  have := List.all_eq_true.1 hall _ hm
  simp only [Bool.and_eq_true, Bool.not_eq_true'] at this
  exact ⟨this.1.1.1, this.1.1.2, this.1.2, this.2⟩

/-! ### the fixed tokens -/
theorem dot_facts : dotTok.has PAREN = false ∧ dotTok.srcEq "." = true ∧ dotTok.equalsStr "." = true ∧ dotTok.size = 1 ∧
    starTok.has NAME = false ∧ starTok.srcEq "*" = true ∧ starTok.has LITERAL = false ∧ starTok.has PAREN = false ∧
    starTok.srcEqUp "CASE" = false ∧ starTok.size = 1 ∧ commaTok.size = 1 := by decide
theorem star_unary : (Gen.unarySet d).contains starTok.src = false := by cases d <;> decide
theorem star_head : hdTok starTok = true ∧ operandTok d starTok = true ∧ hdTok (opTok "CASE") = true ∧ operandTok d (opTok "CASE") = true ∧
    hdTok (opTok "NOT") = true := by cases d <;> decide
theorem headOK_tok (t : Tok) (ts : List Tok) (h2 : operandTok d t = true) : HeadOK d (t :: ts) := ⟨t, ts, rfl, h2⟩
theorem comma_stop2 (x : List Tok) : stopLE2 d 14 (commaTok :: x) = true := TC.stopO_true.1 (TC.comma_stopO true (Nat.le_refl _) x)
theorem comma_equals : commaTok.equalsStr "," = true := by decide
theorem in_words : up (opTok "IN").src = "IN" ∧ (opTok "IN").size = 1 ∧ (opTok "NOT").size = 1 := by decide
theorem notSet_IN : (Gen.notSet d).contains (up (opTok "IN").src) = false := by cases d <;> decide
theorem exists_words : (opTok "EXISTS").srcEqUp "EXISTS" = true ∧ (opTok "EXISTS").size = 1 ∧ hdTok (opTok "EXISTS") = true ∧
    (opTok "EXISTS").equalsStr "," = false := by decide
theorem exists_notSet : (Gen.notSet d).contains (up (opTok "EXISTS").src) = false := by cases d <;> decide
theorem select_starts (x : List Tok) : startsSelect (opTok "SELECT" :: x) = true := by
  have : ["SELECT", "WITH"].contains (up (opTok "SELECT").src) = true := by decide
  simpa [startsSelect, searchSetUp] using this

end TP2
