import MsqProofs.Lemmas.ParseAccountAllDefs
/-!
# C08, general accounting: the two step lemmas of the mutual block that are written by hand

* `pWindowBody`: through the inversion lemma `closed_pWindowBody` (the `ord.getD []` in the result makes `grind`'s normaliser loop).
* `pSingleParen`: the bracket loop of `_parse_single_select_statement` never succeeds once entered (`closed_pSingleParen`).
-/
open Lex PM Ast
namespace PA
variable (d : Gen.D)

theorem accA_pWindowBody (T : List String) (n : Nat) (ih : AccA d T n) :
    ∀ fn cs, ARV T tE FullE cs (tE fn) (FullE fn) (PM.pWindowBody d (n+1) fn cs) := by
  intro fn cs v h hpl
  have hA : Anchor T := trivial
  obtain ⟨part, r1, ord, r2, h1, h2, h3⟩ := closed_pWindowBody h
  cases ord with
  | none =>
    rcases h3 with ⟨rfl, rfl⟩ | ⟨⟨a, b⟩, h3, rfl⟩
    · simp only [Option.getD_none] at *; agrind
    · simp only [Option.getD_none] at *; agrind
  | some os =>
    rcases h3 with ⟨rfl, rfl⟩ | ⟨⟨a, b⟩, h3, rfl⟩
    · simp only [Option.getD_some] at *; agrind
    · simp only [Option.getD_some] at *; agrind

theorem accA_pSingleParen (T : List String) (n : Nat) (ih : AccA d T n) :
    ∀ w outer st inner, st.head? = some inner → ARP T inner outer (tWTs w) (FullWTs w) (PM.pSingleParen d (n+1) w outer st inner) := by
  intro w outer st inner hst v r h hpl
  have hA : Anchor T := trivial
  obtain ⟨hm, rfl, _, _⟩ := closed_pSingleParen (n+1) w outer st inner v r hst h
  unfold pSingleParen at h
  simp only [hm, Bool.false_eq_true, if_false] at h
  split_run <;> agrind

end PA
