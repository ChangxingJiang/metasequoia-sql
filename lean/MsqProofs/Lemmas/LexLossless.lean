import MsqProofs.Lemmas.LexInv
import MsqProofs.Lemmas.LexWK
/-! generic losslessness of `lex` for any table satisfying `TableOK` -/
namespace Lex
variable {Cls : Type}

section proj
variable {cfg : Cfg Cls} {advSt : List S} {wk : S → WK}

theorem TableOK.wait (h : TableOK cfg advSt wk = true) : wk .WAIT = .exact [] := by
  simp only [TableOK, Bool.and_eq_true, beq_iff_eq] at h
  exact h.1.1

theorem TableOK.char (h : TableOK cfg advSt wk = true) (s : S) (c : Char) :
    ∃ co, (co = some c ∨ co = none) ∧ charOK cfg advSt wk s co (cfg.lookup s (.ch c)) = true := by
  simp only [TableOK, Bool.and_eq_true, List.all_eq_true] at h
  have hs := h.2 s (mem_allS s)
  rcases cfg.lookup_ch_cases s c with ⟨e, hm, he, hl⟩ | hl <;> rw [hl]
  · exact ⟨some c, .inl rfl, by simpa [he] using hs.1.1 e hm⟩
  · exact ⟨none, .inr rfl, hs.1.2⟩

theorem TableOK.adv (h : TableOK cfg advSt wk = true) (q : S) (hq : advSt.contains q = true) :
    allAdvance cfg wk q = true := by
  simp only [TableOK, Bool.and_eq_true, List.all_eq_true] at h
  exact h.1.2 q (by simpa using hq)

theorem TableOK.eof (h : TableOK cfg advSt wk = true) (s : S) :
    eofOK cfg wk s (cfg.lookup s .eof) = true := by
  simp only [TableOK, Bool.and_eq_true, List.all_eq_true] at h
  exact (h.2 s (mem_allS s)).2

theorem allAdvance.char {q : S} (h : allAdvance cfg wk q = true) (c : Char) :
    ∃ co, (co = some c ∨ co = none) ∧ advOrRaise cfg wk q co (cfg.lookup q (.ch c)) = true := by
  simp only [allAdvance, Bool.and_eq_true, List.all_eq_true] at h
  rcases cfg.lookup_ch_cases q c with ⟨e, hm, he, hl⟩ | hl <;> rw [hl]
  · exact ⟨some c, .inl rfl, by simpa [he] using h.1 e hm⟩
  · exact ⟨none, .inr rfl, h.2⟩
end proj

variable (cfg : Cfg Cls) (advSt : List S) (wk : S → WK) (text : List Char)

/-- the current window `text[start:now]` -/
def curWin (m : Mem) : List Char := (text.drop m.start).take (m.now - m.start)

/-- invariant between operations -/
structure Inv2 (m : Mem) (segs : List Seg) : Prop extends Inv text m segs where
  emptyWin : isEmptySt cfg m.status = true → m.start = m.now
  kind : (wk m.status).claims (curWin text m) = true
  gaps : ∀ g ∈ gapTexts segs, gapOKb g = true

theorem curWin_empty (m : Mem) (h : m.start = m.now) : curWin text m = [] := by
  unfold curWin; rw [h]; simp

theorem Inv2.init (hw : wk .WAIT = .exact []) : Inv2 cfg wk text {} [] :=
  ⟨⟨by simp, by simp [tokTexts, allLeaves, leavesL], Nat.le_refl _⟩, fun _ => rfl,
    by simp [hw, curWin, WK.claims], by simp [gapTexts]⟩

theorem window_snoc (m : Mem) (c : Char) (rest : List Char) (hle : m.start ≤ m.now)
    (hc : text.drop m.now = c :: rest) :
    (text.drop m.start).take (m.now + 1 - m.start) = curWin text m ++ [c] := by
  unfold curWin
  have h1 : m.now + 1 - m.start = (m.now - m.start) + 1 := by omega
  rw [h1, List.take_add]
  congr 1
  rw [List.drop_drop]
  have : m.start + (m.now - m.start) = m.now := by omega
  rw [this, hc]
  simp

theorem TableOK.summ (hT : TableOK cfg advSt wk = true) (s : S) (sym : Sym) (o : OpRef Cls) (ho : cfg.lookup s sym = some o) :
    ∃ sm, summarize (cfg.code o.cls) = some sm := by
  cases hs : summarize (cfg.code o.cls) with
  | some sm => exact ⟨sm, rfl⟩
  | none =>
    cases sym with
    | eof => have := TableOK.eof hT s; simp [ho, eofOK, hs] at this
    | ch c => obtain ⟨co, _, hc⟩ := TableOK.char hT s c; simp [ho, charOK, hs] at hc

theorem handle_ok_core (hT : TableOK cfg advSt wk = true) (m m' : Mem) (sym : Sym) (b : Bool)
    (h : handle cfg text m sym = .ok (m', b)) :
    ∃ o sm, cfg.lookup m.status sym = some o ∧ summarize (cfg.code o.cls) = some sm ∧ sm.raises = false ∧
      execCore (cfg.env text) o.status o.marks sm.adv sm.body sm.grp sm.st sm.ret m = .ok (m', b) := by
  exact handle_ok_of (fun o ho => TableOK.summ cfg advSt wk hT _ _ o ho) h

/-- the core step: a cell that passed `windowOK` and `kindOK` preserves `Inv2` -/
theorem step_inv (m m' : Mem) (b : Bool) (segs : List Seg) (o : OpRef Cls) (sm : Summary) (co : Option Char)
    (hinv : Inv2 cfg wk text m segs)
    (hcur : sm.adv = true → ∃ c rest, text.drop m.now = c :: rest ∧ (co = some c ∨ co = none))
    (hw : windowOK cfg m.status o sm = true) (hk : kindOK wk m.status co o sm = true)
    (h : execCore (cfg.env text) o.status o.marks sm.adv sm.body sm.grp sm.st sm.ret m = .ok (m', b)) :
    ∃ segs', Inv2 cfg wk text m' segs' ∧ m'.now = (if sm.adv then m.now + 1 else m.now) ∧ b = sm.ret
      ∧ m'.status = nextSt m.status o sm := by
  obtain ⟨segs', hi, hnow, hb, hst, hk1, hk2, hseg⟩ :=
    execCore_inv (cfg.env text) o.status o.marks sm.adv sm.body sm.grp sm.st sm.ret m m' b segs hinv.toInv h
  have hst' : m'.status = nextSt m.status o sm := hst
  -- the window the operation saw (after a possible advance)
  have hwin : ((if sm.adv then (wk m.status).snoc co else wk m.status)).claims (window text m sm.adv) = true := by
    unfold window
    cases hadv : sm.adv with
    | false => simpa [curWin] using hinv.kind
    | true =>
      obtain ⟨c, rest, hc, hco⟩ := hcur hadv
      simp only [if_true]
      rw [window_snoc text m c rest hinv.le hc]
      exact WK.snoc_sound _ _ c co hco hinv.kind
  simp only [kindOK, Bool.and_eq_true, Bool.or_eq_true, bne_iff_ne, ne_eq] at hk
  obtain ⟨hgap, hnext⟩ := hk
  refine ⟨segs', ⟨hi, ?_, ?_, ?_⟩, hnow, hb, hst'⟩
  · intro he
    rw [hst'] at he
    by_cases hkeep : sm.body = .keep
    · have := hk2 hkeep
      simp only [windowOK, he, hkeep, Bool.not_true, Bool.false_or, bne_self_eq_false, Bool.and_eq_true,
        Bool.not_eq_eq_eq_not, Bool.not_true] at hw
      rw [this, hnow, hw.2]
      simpa using hinv.emptyWin hw.1
    · exact hk1 hkeep
  · rw [hst']
    by_cases hkeep : sm.body = .keep
    · simp only [hkeep, beq_self_eq_true, if_true] at hnext
      have hs := hk2 hkeep
      have : curWin text m' = window (cfg.env text).text m sm.adv := by
        unfold curWin window; rw [hs, hnow]; rfl
      rw [this]
      exact WK.le_sound _ _ _ hnext hwin
    · have hs := hk1 hkeep
      have hne : (sm.body == .keep) = false := by simpa using hkeep
      simp only [hne] at hnext
      have : curWin text m' = [] := curWin_empty text m' hs
      rw [this]
      exact WK.le_sound _ _ _ hnext (by simp [WK.claims])
  · rcases hseg with rfl | ⟨_, hg⟩
    · exact hinv.gaps
    · intro g hgm
      rw [hg] at hgm
      rcases List.mem_append.mp hgm with hgm | hgm
      · exact hinv.gaps g hgm
      · by_cases hd : sm.body = .drop
        · simp only [hd, if_true, List.mem_singleton] at hgm
          subst hgm
          rcases hgap with hgap | hgap
          · exact absurd hd hgap
          · exact WK.allGap_sound _ _ hgap hwin
        · simp [hd] at hgm

/-- one `handle` call on the character at `now`, under the table obligation for that cell -/
theorem handle_char_inv (hT : TableOK cfg advSt wk = true) (m m' : Mem) (c : Char) (rest : List Char) (b : Bool)
    (segs : List Seg) (hinv : Inv2 cfg wk text m segs) (hc : text.drop m.now = c :: rest)
    (h : handle cfg text m (.ch c) = .ok (m', b)) :
    ∃ segs', Inv2 cfg wk text m' segs' ∧ m'.now = (if b then m.now + 1 else m.now)
      ∧ (b = false → advSt.contains m'.status = true) := by
  obtain ⟨o, sm, ho, hs, hr, h⟩ := handle_ok_core cfg advSt wk text hT m m' (.ch c) b h
  obtain ⟨co, hco, hcell⟩ := TableOK.char hT m.status c
  simp only [ho, charOK, hs, hr, Bool.false_or, Bool.and_eq_true, beq_iff_eq, Bool.or_eq_true] at hcell
  obtain ⟨⟨⟨hret, hw⟩, hk⟩, hadv⟩ := hcell
  obtain ⟨segs', hi, hnow, hb, hst⟩ :=
    step_inv cfg wk text m m' b segs o sm co hinv (fun _ => ⟨c, rest, hc, hco⟩) hw hk h
  refine ⟨segs', hi, ?_, ?_⟩
  · rw [hnow, hb, hret]
  · intro hbf
    rw [hb, hret] at hbf
    rcases hadv with hadv | hadv
    · simp [hbf] at hadv
    · rw [hst]; exact hadv

theorem feed_inv (hT : TableOK cfg advSt wk = true) (m m' : Mem) (c : Char) (rest : List Char) (segs : List Seg)
    (hinv : Inv2 cfg wk text m segs) (hc : text.drop m.now = c :: rest) (h : feed cfg text m c = .ok m') :
    ∃ segs', Inv2 cfg wk text m' segs' ∧ m'.now = m.now + 1 := by
  rcases feedWith_ok h with h1 | ⟨m1, b2, h1, h2⟩
  · obtain ⟨segs1, hi1, hn1, _⟩ := handle_char_inv cfg advSt wk text hT m m' c rest true segs hinv hc h1
    exact ⟨segs1, hi1, by simpa using hn1⟩
  · obtain ⟨segs1, hi1, hn1, ha1⟩ := handle_char_inv cfg advSt wk text hT m m1 c rest false segs hinv hc h1
    have hadv := TableOK.adv hT m1.status (ha1 rfl)
    have hn1' : m1.now = m.now := by simpa using hn1
    obtain ⟨segs2, hi2, hn2, _⟩ :=
      handle_char_inv cfg advSt wk text hT m1 m' c rest b2 segs1 hi1 (by rw [hn1']; exact hc) h2
    refine ⟨segs2, hi2, ?_⟩
    -- the second call must have advanced
    obtain ⟨co, _, hq⟩ := allAdvance.char hadv c
    obtain ⟨o, sm, ho, hs, hr, h2⟩ := handle_ok_core cfg advSt wk text hT m1 m' (.ch c) b2 h2
    simp only [ho, advOrRaise, hs, hr, Bool.false_or, Bool.and_eq_true] at hq
    obtain ⟨_, _, _, hb, _⟩ :=
      execCore_inv (cfg.env text) o.status o.marks sm.adv sm.body sm.grp sm.st sm.ret m1 m' b2 segs1 hi1.toInv h2
    have : b2 = true := by rw [hb]; exact hq.1.1.2
    simp [this] at hn2
    omega

theorem feedAll_inv (hT : TableOK cfg advSt wk = true) (cs : List Char) (m m' : Mem) (segs : List Seg)
    (hinv : Inv2 cfg wk text m segs) (hcs : text.drop m.now = cs) (h : feedAll cfg text cs m = .ok m') :
    ∃ segs', Inv2 cfg wk text m' segs' ∧ m'.now = m.now + cs.length := by
  induction cs generalizing m segs with
  | nil => cases h; exact ⟨segs, hinv, by simp⟩
  | cons c cs ih =>
    obtain ⟨m1, h1, h⟩ := feedAllWith_cons_ok h
    obtain ⟨segs1, hi1, hn1⟩ := feed_inv cfg advSt wk text hT m m1 c cs segs hinv hcs h1
    have hcs1 : text.drop m1.now = cs := by
      rw [hn1, ← List.drop_drop, hcs]; simp
    obtain ⟨segs2, hi2, hn2⟩ := ih m1 segs1 hi1 hcs1 h
    exact ⟨segs2, hi2, by simp [hn2, hn1]; omega⟩

theorem handle_eof_inv (hT : TableOK cfg advSt wk = true) (m m' : Mem) (b : Bool) (segs : List Seg)
    (hinv : Inv2 cfg wk text m segs) (h : handle cfg text m .eof = .ok (m', b)) :
    ∃ segs', Inv2 cfg wk text m' segs' ∧ m'.now = m.now := by
  obtain ⟨o, sm, ho, hs, hr, h⟩ := handle_ok_core cfg advSt wk text hT m m' .eof b h
  have hc := TableOK.eof hT m.status
  simp only [ho, eofOK, hs, hr, Bool.false_or, Bool.and_eq_true, Bool.not_eq_eq_eq_not, Bool.not_true] at hc
  obtain ⟨⟨hadv, hw⟩, hk⟩ := hc
  obtain ⟨segs', hi, hnow, _, _⟩ :=
    step_inv cfg wk text m m' b segs o sm none hinv (fun ha => by simp [hadv] at ha) hw hk h
  exact ⟨segs', hi, by simp [hnow, hadv]⟩

/-- C04(a), generic in the table: every accepted input is exactly covered by the leaf tokens, in
order, and gaps; every gap is empty, one blank, one bracket character, or begins with a comment opener -/
theorem lex_lossless (hT : TableOK cfg advSt wk = true) (hd : cfg.depthLimit ≤ 1) (raw : List Char) (toks : List Tok)
    (h : lex cfg raw = .ok toks) :
    ∃ segs : List Seg, (segs.map Seg.text).flatten = cfg.pre raw ∧ tokTexts segs = leavesL toks
      ∧ ∀ g ∈ gapTexts segs, gapOKb g = true := by
  obtain ⟨m, m', b, hm, hm', hf⟩ := lexWith_ok h
  obtain ⟨hEnd, hst⟩ := finish_ok_inv hd hf
  obtain ⟨segs1, hi1, hn1⟩ :=
    feedAll_inv cfg advSt wk (cfg.pre raw) hT (cfg.pre raw) {} m [] (Inv2.init cfg wk _ (TableOK.wait hT)) (by simp) hm
  obtain ⟨segs2, hi2, hn2⟩ := handle_eof_inv cfg advSt wk (cfg.pre raw) hT m m' b segs1 hi1 hm'
  refine ⟨segs2, ?_, ?_, hi2.gaps⟩
  · have hs : m'.start = m'.now := hi2.emptyWin (by simp [isEmptySt, hEnd])
    have := hi2.cover
    rw [hs, hn2, hn1] at this
    simpa using this
  · rw [hi2.toks, hst]; simp [allLeaves]

end Lex
