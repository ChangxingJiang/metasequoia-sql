import MsqProofs.Lemmas.LexLinkDml0
/-!
# The lexer link for data-change statements: what does not depend on the query fragment

The printer's INSERT head (`PR.prInsertHead`) over its named parts (the tail `PR.prTail` has them in `PR.prTail_eq`, Lemmas/PrintLemmas.lean),
the INSERT words, brackets by level.  Used by the link over `TDM2.FragStmt` (`LexLinkAnyD*.lean`) and by the other statement classes
(`LexLinkAnyR*.lean`).
-/
namespace LLD
open Lex Spec C05 C06 C09 Ast TP TS TQ LexLink

section
variable {d : Gen.D} {K : QKit}

theorem eqTok_lx : Lx ['='] [opTok "="] := lx_dw "=" (by simp [dmlWords])

theorem insertWordsL_eq : insertWordsL "INSERT_INTO" = "INSERT".toList ++ ' ' :: "INTO".toList ∧
    insertWordsL "INSERT_IGNORE_INTO" = "INSERT".toList ++ ' ' :: ("IGNORE".toList ++ ' ' :: "INTO".toList) ∧
    insertWordsL "INSERT_OVERWRITE" = "INSERT".toList ++ ' ' :: "OVERWRITE".toList := by
  refine ⟨?_, ?_, ?_⟩ <;> simp [insertWordsL, Gen.insertTypes, joinLL]

theorem lx_iw (w : String) (hw : w ∈ ["INSERT", "INTO", "IGNORE", "OVERWRITE"]) : Lx w.toList [opTok w] :=
  lx_kwd ((List.all_eq_true.mp (by decide : ["INSERT", "INTO", "IGNORE", "OVERWRITE"].all (fun k => plainL k.toList) = true)) w hw)

theorem q_iw (hK : DW K) (w : String) (hw : w ∈ ["INSERT", "INTO", "IGNORE", "OVERWRITE"]) : K.Q w.toList := by
  simp only [List.mem_cons, List.mem_nil_iff, or_false] at hw
  rcases hw with rfl | rfl | rfl | rfl
  · exact hK.iws ("INSERT_INTO", ["INSERT", "INTO"]) (by simp [Gen.insertTypes]) "INSERT" (by simp)
  · exact hK.iws ("INSERT_INTO", ["INSERT", "INTO"]) (by simp [Gen.insertTypes]) "INTO" (by simp)
  · exact hK.iws ("INSERT_IGNORE_INTO", ["INSERT", "IGNORE", "INTO"]) (by simp [Gen.insertTypes]) "IGNORE" (by simp)
  · exact hK.iws ("INSERT_OVERWRITE", ["INSERT", "OVERWRITE"]) (by simp [Gen.insertTypes]) "OVERWRITE" (by simp)

theorem wrapL_le (e : Expr) (k : Nat) (s : List Char) (h : PR.lvl e ≤ k) : wrapL e k s = s := by
  unfold wrapL; split <;> first | omega | rfl

theorem wrapL_gt (e : Expr) (k : Nat) (s : List Char) (h : PR.lvl e > k) : wrapL e k s = '(' :: (s ++ [')']) := by
  unfold wrapL; split <;> first | omega | rfl

/-- the column list of `PR.prInsertHead` (its PARTITION part is `PR.prOptPartition`) -/
def colsStr (d : Gen.D) : Option (List (Option String × String)) → String
  | some cs => "(" ++ PR.joinS ", " (cs.map fun (t, c) => PR.columnSrc d t c) ++ ") "
  | none => ""

theorem prInsertHead_eq (d : Gen.D) (h : InsertHead) : PR.prInsertHead d h = (do
    if h.type == "INSERT_OVERWRITE" && !(d == .HIVE || d == .DEFAULT) then throw .notSupported
    let ty ← PR.wordsSrc Gen.insertTypes h.type
    let part ← PR.prOptPartition d h.partition
    let w ← PR.prWithPrefix d "\n" h.withs
    pure s!"{w}{ty} {if d == .HIVE then "TABLE " else ""}{PR.tn h.table} {part}{colsStr d h.columns}") := by
  obtain ⟨w, ty, t, p, c⟩ := h
  cases p <;> cases c <;> rfl

theorem prSRest_w (w : String) (dist : Bool) (cols : List (Expr × Option String))
    (fr : Option (List FromTable)) (lats : List Lateral) (js : List Join) (wh : Option Expr) (gb : Option GroupBy)
    (hv : Option Expr) (ob sb : Option (List OrderItem)) (db cb : Option (List Expr)) (lm : Option (Int × Option Int)) :
    PR.prSRest d w dist cols fr lats js wh gb hv ob sb db cb lm =
      (PR.prSRest d "" dist cols fr lats js wh gb hv ob sb db cb lm).map (w ++ ·) := by
  unfold PR.prSRest
  cases PR.prCols d cols with
  | error e => rfl
  | ok a1 =>
  cases PR.prOptFrom d fr with
  | error e => rfl
  | ok a2 =>
  cases PR.prLateralList d lats with
  | error e => rfl
  | ok a3 =>
  cases PR.prJoinList d js with
  | error e => rfl
  | ok a4 =>
  cases PR.prOptWhere d wh with
  | error e => rfl
  | ok a5 =>
  cases PR.prOptGroup d gb with
  | error e => rfl
  | ok a6 =>
  cases PR.prOptHaving d hv with
  | error e => rfl
  | ok a7 =>
  cases PR.prOptOrder d ob with
  | error e => rfl
  | ok a8 =>
  cases PR.prHive d sb db cb with
  | error e => rfl
  | ok a9 =>
    simp [bind, Except.bind, pure, Except.pure, Except.map]

theorem toksSets_joinC : ∀ (sets : List (String × Expr)), TDM.toksSets d noX sets = TDM.joinC (sets.map (TDM.toksSet d noX))
  | [] => rfl
  | [p] => by simp [TDM.toksSets, TDM.toksSetsTail, TDM.joinC]
  | p :: q :: r => by
    have := toksSets_joinC (q :: r)
    simp only [TDM.toksSets, TDM.toksSetsTail, List.map_cons, TDM.joinC] at this ⊢
    rw [← this]
theorem toksArgs_joinC (k : Nat) : ∀ (vs : List Expr), toksArgs3 d noX k vs = TDM.joinC (vs.map (fun e => W3 d noX e k))
  | [] => rfl
  | [a] => by simp [toksArgs3, toksArgsTail3, TDM.joinC, W3]
  | a :: b :: r => by
    have := toksArgs_joinC k (b :: r)
    simp only [toksArgs3, toksArgsTail3, List.map_cons, TDM.joinC, W3] at this ⊢
    rw [← this]
    rfl
theorem row_tok (r : List Expr) : toksE3 d noX (.subValue r) = [TDM.toksRow d noX r] := by
  simp only [toksE3, TDM.toksRow, toksArgs_joinC]
theorem toksRows_joinC : ∀ (vs : List (List Expr)), TDM.toksRows d noX vs = TDM.joinC (vs.map (fun r => [TDM.toksRow d noX r]))
  | [] => rfl
  | [p] => by simp [TDM.toksRows, TDM.toksRowsTail, TDM.joinC]
  | p :: q :: r => by
    have := toksRows_joinC (q :: r)
    simp only [TDM.toksRows, TDM.toksRowsTail, List.map_cons, TDM.joinC] at this ⊢
    rw [← this]
    rfl

end
end LLD
