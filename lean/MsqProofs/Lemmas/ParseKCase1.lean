import MsqProofs.Lemmas.ParseKCase0
import MsqProofs.Lemmas.ParseCase3
/-!
# C09, parser half, SHARP form: token lists that differ only in the letter case of RESERVED WORDS

* `KE t t'` — the two tokens are the same, or both are single tokens WITHOUT the NAME and the LITERAL mark (what the lexer gives the
  entries of its keyword table, `C09.keyword_case`), with the same marks, both plain words with the same `str.upper()`, and that
  upper-case form is one of the reserved words (`reservedL`: the 24 unmarked entries of the keyword table).  Bracket groups: same kind,
  same marks, children related pointwise; a group that carries the NAME or LITERAL mark (the lexer never emits one) must be the same.
* `KEL` on token lists, `KELL` on segment lists.  `KE ⊆ CE`, `KEL ⊆ CEL` (`ke_ce`, `kel_cel`): everything the case family (`CE`, Lemmas/ParseCase1.lean, ParseCase2.lean) knows about
  the parser's TESTS applies.
* `KER rv a b` / `KEX` / `keOpt` — the result relations, as `CER` / `CEX` / `ceOpt` with `KEL` on the remaining cursors.
* what is new for a token: with the NAME or the LITERAL mark the two tokens are EQUAL (`ke_eq_of_name`, `ke_eq_of_lit`), and the
  source a parser site stores WITHOUT such a check is the same up to `km` (`ke_km_src`, `ke_unifyName`).
-/
open Lex Ast
namespace PM

mutual
/-- the two tokens differ at most in the letter case of reserved words -/
def KE : Tok → Tok → Prop
  | .single s m, .single s' m' => m = m' ∧ (s = s' ∨ (Tok.has (.single s m) NAME = false ∧ Tok.has (.single s m) LITERAL = false ∧
      caseWord s = true ∧ caseWord s' = true ∧ Gen.pyUpper s = Gen.pyUpper s' ∧ reservedL.contains (Gen.pyUpper s) = true))
  | .group k cs m, .group k' cs' m' => k = k' ∧ m = m' ∧ KEL cs cs' ∧ ((m &&& NAME = 0 ∧ m &&& LITERAL = 0) ∨ cs = cs')
  | .single _ _, .group _ _ _ => False
  | .group _ _ _, .single _ _ => False
def KEL : List Tok → List Tok → Prop
  | [], [] => True
  | t :: ts, t' :: ts' => KE t t' ∧ KEL ts ts'
  | [], _ :: _ => False
  | _ :: _, [] => False
end
def KELL : List (List Tok) → List (List Tok) → Prop
  | [], [] => True
  | a :: as, b :: bs => KEL a b ∧ KELL as bs
  | [], _ :: _ => False
  | _ :: _, [] => False

@[simp, grind =] theorem kel_nil_nil : KEL [] [] = True := by simp [KEL]
@[simp, grind =] theorem kel_cons_cons (t t' : Tok) (ts ts' : List Tok) : KEL (t :: ts) (t' :: ts') = (KE t t' ∧ KEL ts ts') := by simp [KEL]
@[simp, grind =] theorem kel_nil_cons (t : Tok) (ts : List Tok) : KEL [] (t :: ts) = False := by simp [KEL]
@[simp, grind =] theorem kel_cons_nil (t : Tok) (ts : List Tok) : KEL (t :: ts) [] = False := by simp [KEL]
@[simp, grind =] theorem kell_nil_nil : KELL [] [] = True := by simp [KELL]
@[simp, grind =] theorem kell_cons_cons (a b : List Tok) (as bs : List (List Tok)) : KELL (a :: as) (b :: bs) = (KEL a b ∧ KELL as bs) := by simp [KELL]
@[simp, grind =] theorem kell_nil_cons (a : List Tok) (as : List (List Tok)) : KELL [] (a :: as) = False := by simp [KELL]
@[simp, grind =] theorem kell_cons_nil (a : List Tok) (as : List (List Tok)) : KELL (a :: as) [] = False := by simp [KELL]

mutual
theorem KE.refl : ∀ t : Tok, KE t t
  | .single s m => by simp [KE]
  | .group k cs m => by simp [KE]; exact KEL.refl cs
theorem KEL.refl : ∀ ts : List Tok, KEL ts ts
  | [] => by simp
  | t :: ts => by simp; exact ⟨KE.refl t, KEL.refl ts⟩
end
mutual
theorem ke_ce : ∀ t t' : Tok, KE t t' → CE t t'
  | .single s m, .single s' m', h => by
    simp only [KE] at h; simp only [CE]
    refine ⟨h.1, ?_⟩
    rcases h.2 with e | ⟨_, _, h1, h2, h3, _⟩
    · exact .inl e
    · exact .inr ⟨h1, h2, h3⟩
  | .group k cs m, .group k' cs' m', h => by
    simp only [KE] at h; simp only [CE]
    refine ⟨h.1, h.2.1, kel_cel cs cs' h.2.2.1, ?_⟩
    rcases h.2.2.2 with e | e
    · exact .inl e.1
    · exact .inr e
  | .single _ _, .group _ _ _, h => by simp [KE] at h
  | .group _ _ _, .single _ _, h => by simp [KE] at h
theorem kel_cel : ∀ ts ts' : List Tok, KEL ts ts' → CEL ts ts'
  | [], [], _ => by simp
  | t :: ts, t' :: ts', h => by simp only [kel_cons_cons] at h; simp only [cel_cons_cons]; exact ⟨ke_ce t t' h.1, kel_cel ts ts' h.2⟩
  | [], _ :: _, h => by simp at h
  | _ :: _, [], h => by simp at h
end
theorem kell_cell : ∀ a b : List (List Tok), KELL a b → CELL a b
  | [], [], _ => by simp
  | x :: a, y :: b, h => by simp only [kell_cons_cons] at h; simp only [cell_cons_cons]; exact ⟨kel_cel x y h.1, kell_cell a b h.2⟩
  | [], _ :: _, h => by simp at h
  | _ :: _, [], h => by simp at h
theorem ke_ce' {t t' : Tok} (h : KE t t') : CE t t' := ke_ce t t' h

/-- both runs fail with the same error, or both succeed with related values and related remaining cursors -/
def KER {α : Type} (rv : α → α → Prop) (a b : R α) : Prop :=
  match a, b with
  | .ok (v, r), .ok (v', r') => rv v v' ∧ KEL r r'
  | .error e, .error e' => e = e'
  | _, _ => False
@[simp, grind =] theorem ker_ok_ok {α : Type} (rv : α → α → Prop) (v v' : α) (r r' : List Tok) :
    KER rv (.ok (v, r)) (.ok (v', r')) = (rv v v' ∧ KEL r r') := by simp [KER]
@[simp, grind =] theorem ker_err_err {α : Type} (rv : α → α → Prop) (e e' : Err) : KER rv (.error e) (.error e') = (e = e') := by simp [KER]
@[simp, grind =] theorem ker_ok_err {α : Type} (rv : α → α → Prop) (p : α × List Tok) (e : Err) : KER rv (.ok p) (.error e) = False := by
  obtain ⟨v, r⟩ := p; simp [KER]
@[simp, grind =] theorem ker_err_ok {α : Type} (rv : α → α → Prop) (p : α × List Tok) (e : Err) : KER rv (.error e) (.ok p) = False := by
  obtain ⟨v, r⟩ := p; simp [KER]
def KEX {α : Type} (rv : α → α → Prop) (a b : Except Err α) : Prop :=
  match a, b with
  | .ok v, .ok v' => rv v v'
  | .error e, .error e' => e = e'
  | _, _ => False
@[simp, grind =] theorem kex_ok_ok {α : Type} (rv : α → α → Prop) (v v' : α) : KEX rv (.ok v) (.ok v') = rv v v' := by simp [KEX]
@[simp, grind =] theorem kex_err_err {α : Type} (rv : α → α → Prop) (e e' : Err) : KEX rv (.error e) (.error e') = (e = e') := by simp [KEX]
@[simp, grind =] theorem kex_ok_err {α : Type} (rv : α → α → Prop) (v : α) (e : Err) : KEX rv (.ok v) (.error e) = False := by simp [KEX]
@[simp, grind =] theorem kex_err_ok {α : Type} (rv : α → α → Prop) (v : α) (e : Err) : KEX rv (.error e) (.ok v) = False := by simp [KEX]
/-- related optional (value, cursor) pairs: `pKwBody`, `pBetween`, `pInBody` -/
def keOpt {α : Type} (rv : α → α → Prop) (a b : Option (α × List Tok)) : Prop :=
  match a, b with
  | some (v, r), some (v', r') => rv v v' ∧ KEL r r'
  | none, none => True
  | _, _ => False
@[simp, grind =] theorem keOpt_some_some {α : Type} (rv : α → α → Prop) (v v' : α) (r r' : List Tok) :
    keOpt rv (some (v, r)) (some (v', r')) = (rv v v' ∧ KEL r r') := by simp [keOpt]
@[simp, grind =] theorem keOpt_none_none {α : Type} (rv : α → α → Prop) : keOpt rv none none = True := by simp [keOpt]
@[simp, grind =] theorem keOpt_some_none {α : Type} (rv : α → α → Prop) (p : α × List Tok) : keOpt rv (some p) none = False := by
  obtain ⟨v, r⟩ := p; simp [keOpt]
@[simp, grind =] theorem keOpt_none_some {α : Type} (rv : α → α → Prop) (p : α × List Tok) : keOpt rv none (some p) = False := by
  obtain ⟨v, r⟩ := p; simp [keOpt]

theorem kel_eq : KEL = Rel.GEL KE := by
  funext ts ts'
  induction ts generalizing ts' with
  | nil => cases ts' <;> simp
  | cons t ts ih => cases ts' <;> simp [ih]
theorem kell_eq : KELL = Rel.GELL KE := by
  funext a b
  induction a generalizing b with
  | nil => cases b <;> simp
  | cons x a ih => cases b <;> simp [ih, kel_eq]
theorem kel_nil_left {ts : List Tok} (h : KEL [] ts) : ts = [] := Rel.gel_nil_left (kel_eq ▸ h)
theorem kel_nil_right {ts : List Tok} (h : KEL ts []) : ts = [] := Rel.gel_nil_right (kel_eq ▸ h)
theorem kel_cons_left {t : Tok} {ts r : List Tok} (h : KEL (t :: ts) r) : ∃ t' ts', r = t' :: ts' ∧ KE t t' ∧ KEL ts ts' := by
  rw [kel_eq] at h ⊢; exact Rel.gel_cons_left h
theorem kel_cons_right {t : Tok} {ts r : List Tok} (h : KEL r (t :: ts)) : ∃ t' ts', r = t' :: ts' ∧ KE t' t ∧ KEL ts' ts := by
  rw [kel_eq] at h ⊢; exact Rel.gel_cons_right h
theorem kel_length {ts ts' : List Tok} (h : KEL ts ts') : ts.length = ts'.length := Rel.gel_length (kel_eq ▸ h)
theorem kel_isEmpty {ts ts' : List Tok} (h : KEL ts ts') : ts.isEmpty = ts'.isEmpty := Rel.gel_isEmpty (kel_eq ▸ h)
theorem kel_drop {ts ts' : List Tok} (h : KEL ts ts') (n : Nat) : KEL (ts.drop n) (ts'.drop n) := by
  rw [kel_eq] at h ⊢; exact Rel.gel_drop h n
theorem kel_append {a a' b b' : List Tok} (h1 : KEL a a') (h2 : KEL b b') : KEL (a ++ b) (a' ++ b') := by
  rw [kel_eq] at h1 h2 ⊢; exact Rel.gel_append h1 h2
theorem kell_append {a a' b b' : List (List Tok)} (h1 : KELL a a') (h2 : KELL b b') : KELL (a ++ b) (a' ++ b') := by
  rw [kell_eq] at h1 h2 ⊢; exact Rel.gell_append h1 h2
theorem ker_eq : @KER = @Rel.GER KE := by
  funext α rv a b
  rcases a with e | ⟨v, r⟩ <;> rcases b with e' | ⟨v', r'⟩ <;> simp [kel_eq]
theorem kex_eq : @KEX = @Rel.GEX := by
  funext α rv a b
  rcases a with e | v <;> rcases b with e' | v' <;> simp
theorem keOpt_eq : @keOpt = @Rel.gOpt KE := by
  funext α rv a b
  rcases a with _ | ⟨v, r⟩ <;> rcases b with _ | ⟨v', r'⟩ <;> simp [kel_eq]


section tok
variable {t t' : Tok} (h : KE t t')
include h
theorem ke_marks : t.marks = t'.marks := ce_marks (ke_ce' h)
theorem ke_has (m : Nat) : t.has m = t'.has m := ce_has (ke_ce' h) m
theorem ke_up_src : up t.src = up t'.src := ce_up_src (ke_ce' h)
theorem ke_hasNonAscii : hasNonAscii t.src = hasNonAscii t'.src := ce_hasNonAscii (ke_ce' h)
theorem ke_srcEqUp (k : String) : t.srcEqUp k = t'.srcEqUp k := ce_srcEqUp (ke_ce' h) k
theorem ke_equalsStr (k : String) : t.equalsStr k = t'.equalsStr k := ce_equalsStr (ke_ce' h) k
theorem ke_children : KEL t.children t'.children := by
  cases t <;> cases t' <;> simp_all [KE, Tok.children]
theorem ke_notOp (k : String) (hk : isOpLit k = true) : (t.src == k) = (t'.src == k) := ce_notOp (ke_ce' h) k hk
theorem ke_srcEq (k : String) (hk : isOpLit k = true) : t.srcEq k = t'.srcEq k := ce_srcEq (ke_ce' h) k hk
theorem ke_contains (ks : List String) (hks : ks.all isOpLit = true) : ks.contains t.src = ks.contains t'.src := ce_contains (ke_ce' h) ks hks
theorem ke_unarySet (d : Gen.D) : (Gen.unarySet d).contains t.src = (Gen.unarySet d).contains t'.src := ce_unarySet (ke_ce' h) d
theorem ke_compareOp : compareOp? t.src = compareOp? t'.src := ce_compareOp (ke_ce' h)
theorem ke_pyInt : pyInt t.src = pyInt t'.src := ce_pyInt (ke_ce' h)
theorem ke_asInt : asInt t.src = asInt t'.src := ce_asInt (ke_ce' h)

theorem ke_eq_of_name (hn : t.has NAME = true) : t = t' := by
  cases t with
  | single s m => cases t' with
    | single s' m' =>
      simp only [KE] at h
      rcases h.2 with e | ⟨h1, _⟩
      · rw [e, h.1]
      · rw [h1] at hn; cases hn
    | group _ _ _ => simp [KE] at h
  | group k cs m => cases t' with
    | single _ _ => simp [KE] at h
    | group k' cs' m' =>
      simp only [KE] at h
      rcases h.2.2.2 with e | e
      · simp [Tok.has, Tok.marks, e.1] at hn
      · rw [h.1, h.2.1, e]
theorem ke_eq_of_lit (hn : t.has LITERAL = true) : t = t' := by
  cases t with
  | single s m => cases t' with
    | single s' m' =>
      simp only [KE] at h
      rcases h.2 with e | ⟨_, h1, _⟩
      · rw [e, h.1]
      · rw [h1] at hn; cases hn
    | group _ _ _ => simp [KE] at h
  | group k cs m => cases t' with
    | single _ _ => simp [KE] at h
    | group k' cs' m' =>
      simp only [KE] at h
      rcases h.2.2.2 with e | e
      · simp [Tok.has, Tok.marks, e.2] at hn
      · rw [h.1, h.2.1, e]
/-- the sources are the same, or both are reserved words (leaves), or both are bracket groups -/
theorem ke_src_cases : t.src = t'.src ∨
    (∃ s s', t.src = String.ofList s ∧ t'.src = String.ofList s' ∧ caseWord s = true ∧ caseWord s' = true ∧
      reservedL.contains (Gen.pyUpper s) = true ∧ reservedL.contains (Gen.pyUpper s') = true)
    ∨ (∃ l l', t.src = String.ofList ('(' :: (l ++ [')'])) ∧ t'.src = String.ofList ('(' :: (l' ++ [')']))) := by
  cases t with
  | single s m => cases t' with
    | single s' m' =>
      simp only [KE] at h
      rcases h.2 with rfl | ⟨_, _, h1, h2, h3, h4⟩
      · exact .inl rfl
      · exact .inr (.inl ⟨s, s', rfl, rfl, h1, h2, h4, h3 ▸ h4⟩)
    | group _ _ _ => simp [KE] at h
  | group k cs m => cases t' with
    | single _ _ => simp [KE] at h
    | group k' cs' m' => exact .inr (.inr ⟨_, _, rfl, rfl⟩)
theorem ke_km_src : km t.src = km t'.src := by
  have hu := ke_up_src h
  rcases ke_src_cases h with e | ⟨s, s', e1, e2, _, _, h1, h2⟩ | ⟨l, l', e1, e2⟩
  · rw [e]
  · rw [e1, e2, km_word h1, km_word h2, ← e1, ← e2, hu]
  · rw [e1, e2, km_paren, km_paren, ← e1, ← e2, hu]
theorem ke_unifyName : km (unifyName t.src) = km (unifyName t'.src) := by
  have hu := ke_up_src h
  rcases ke_src_cases h with e | ⟨s, s', e1, e2, c1, c2, h1, h2⟩ | ⟨l, l', e1, e2⟩
  · rw [e]
  · rw [e1, e2, caseWord_unifyName c1, caseWord_unifyName c2, km_word h1, km_word h2, ← e1, ← e2, hu]
  · rw [e1, e2, unifyName_paren, unifyName_paren, km_paren, km_paren, ← e1, ← e2, hu]
theorem ke_up_unifyName : up (unifyName t.src) = up (unifyName t'.src) := ce_unifyName (ke_ce' h)
end tok

end PM
