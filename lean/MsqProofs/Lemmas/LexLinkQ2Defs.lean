import MsqProofs.Lemmas.LexLinkQuerySelect
import MsqProofs.Lemmas.TQuery2_0
/-!
# The lexer link for the LARGER nested fragment `TQ2.FragQ2`: the `List Char` mirror of the printer, the payloads

Built on the shared part of `LexLinkQuery*.lean` (namespace `LexLink`: lexer side, kit, payload items); the link of the smaller fragment
`TQ.FragQ` is a consequence of this one (`LexLinkQueryMain.lean`).

* `prE4L d e` / `prS4L d s` / `prQ2L d q` — what `PR.prE` / `PR.prS` / `PR.prQ` write on `TQ2.FragE4` / `FragS4` / `FragQ2`, as character
  lists, ONE mutually recursive block shaped like the token-level printer `TQ2.toksE4` …;
* `leavesE4` / `leavesS4` / `leavesQ2` — the payloads as a list of `Leaf2` items: `.old x` a payload of the kinds of the nested fragment (`LexLink.LeafItem`),
  `.guard p` a condition on the DIALECT or on the shape of a member that the link needs and the token-level fragment does not have:
  the printer prints `a[i]`, `SORT BY` / `DISTRIBUTE BY` / `CLUSTER BY` for HIVE only and `LATERAL VIEW` for HIVE and DEFAULT only
  (`C13.printable_iff`); an index expression must be followed by `]` directly (`idxInnerOK`); a grouping set with ONE element is printed
  bare or bracketed according to the first CHARACTER of its text (`setElemOK`).
-/
namespace LL2
open Lex Spec C05 C06 C09 Ast TP TS LexLink TQ2

/-- a keyword as characters; not reducible, so that `simp` does not evaluate the literal when it matches list lemmas -/
def kwL (s : String) : List Char := s.toList
@[simp] theorem kwL_eq (s : String) : kwL s = s.toList := rfl

def castParamPieces : Option (List Int) → List (List Char)
  | some l => ['(' :: (joinLL [',', ' '] (l.map fun n => (toString n).toList) ++ [')'])]
  | none => []
def castPartsL (sg : Bool) (ty : String) (ps : Option (List Int)) : List (List Char) :=
  (if sg then [kwL "SIGNED"] else []) ++ ((castVal ty).toList :: castParamPieces ps)
def rowL : RowItem → List Char
  | .current => kwL "CURRENT" ++ ' ' :: kwL "ROW"
  | .unbounded true => kwL "UNBOUNDED" ++ ' ' :: kwL "PRECEDING"
  | .unbounded false => kwL "UNBOUNDED" ++ ' ' :: kwL "FOLLOWING"
  | .num n true => (toString n).toList ++ ' ' :: kwL "PRECEDING"
  | .num n false => (toString n).toList ++ ' ' :: kwL "FOLLOWING"
def rowsPieces : Option (RowItem × RowItem) → List (List Char)
  | none => []
  | some (a, b) => [kwL "ROWS" ++ ' ' :: (kwL "BETWEEN" ++ ' ' :: (rowL a ++ ' ' :: (kwL "AND" ++ ' ' :: rowL b)))]
def ordSufL (desc nf nl : Bool) : List Char :=
  (if desc then ' ' :: kwL "DESC" else []) ++ ((if nf then ' ' :: (kwL "NULLS" ++ ' ' :: kwL "FIRST") else []) ++ (if nl then ' ' :: (kwL "NULLS" ++ ' ' :: kwL "LAST") else []))
def setOfL (p : List (List Char)) : List Char :=
  match p with
  | [s] => if s.head? = some '(' then '(' :: (s ++ [')']) else s
  | _ => '(' :: (joinLL [',', ' '] p ++ [')'])

def castL (x : List Char) (sg : Bool) (ty : String) (ps : Option (List Int)) : List Char :=
  kwL "CAST" ++ '(' :: (x ++ ' ' :: (kwL "AS" ++ ' ' :: (joinLL [' '] (castPartsL sg ty ps) ++ [')'])))
def extractL (a b : List Char) : List Char := kwL "EXTRACT" ++ '(' :: (a ++ ' ' :: (kwL "FROM" ++ ' ' :: (b ++ [')'])))
def winPieces (pe : Bool) (ps : List (List Char)) (oe : Bool) (os : List (List Char)) (rows : Option (RowItem × RowItem)) : List (List Char) :=
  (if pe then [] else [kwL "PARTITION" ++ ' ' :: (kwL "BY" ++ ' ' :: joinLL [',', ' '] ps)]) ++
    ((if oe then [] else [kwL "ORDER" ++ ' ' :: (kwL "BY" ++ ' ' :: joinLL [',', ' '] os)]) ++ rowsPieces rows)
def windowL (f : List Char) (pieces : List (List Char)) : List Char :=
  f ++ ' ' :: (kwL "OVER" ++ ' ' :: '(' :: (joinLL [' '] pieces ++ [')']))
def indexL (a i : List Char) : List Char := a ++ '[' :: (i ++ [']'])
def latL (o : Bool) (f v : List Char) (as : List (List Char)) : List Char :=
  kwL "LATERAL" ++ ' ' :: (kwL "VIEW" ++ ' ' :: ((if o then kwL "OUTER" ++ [' '] else []) ++ (f ++ ' ' :: (v ++ ' ' ::
    (kwL "AS" ++ ' ' :: joinLL [',', ' '] as)))))
def setsOptL (l : List (List Char)) : List Char :=
  ' ' :: (kwL "GROUPING" ++ ' ' :: (kwL "SETS" ++ ' ' :: '(' :: (joinLL [',', ' '] l ++ [')'])))
def groupL (keys : List (List Char)) (sets : List Char) (cube rollup : Bool) : List Char :=
  kwL "GROUP" ++ ' ' :: (kwL "BY" ++ ' ' :: (joinLL [',', ' '] keys ++ (sets ++
    ((if cube then ' ' :: (kwL "WITH" ++ ' ' :: kwL "CUBE") else []) ++ (if rollup then ' ' :: (kwL "WITH" ++ ' ' :: kwL "ROLLUP") else [])))))
def byL (kw : String) (items : List (List Char)) : List Char := kwL kw ++ ' ' :: (kwL "BY" ++ ' ' :: joinLL [',', ' '] items)

mutual
def prE4L (d : Gen.D) : Expr → List Char
  | .column none c => '`' :: (c.toList ++ ['`'])
  | .column (some t) c => '`' :: (t.toList ++ '`' :: '.' :: '`' :: (c.toList ++ ['`']))
  | .literal v => v.toList
  | .wildcard none => ['*']
  | .wildcard (some t) => qnameL t ++ ['.', '*']
  | .func s n ps => fnameL s n ++ '(' :: (joinLL [',', ' '] (prList4LL d ps) ++ [')'])
  | .agg n ps dist => n.toList ++ '(' :: ((if dist then "DISTINCT ".toList else []) ++ (joinLL [',', ' '] (prList4LL d ps) ++ [')']))
  | .cast e sg ty ps => castL (wrapL e 8 (prE4L d e)) sg ty ps
  | .extract n e => extractL (wrapL n 8 (prE4L d n)) (wrapL e 8 (prE4L d e))
  | .window fn part ord rows => windowL (prE4L d fn) (winPieces part.isEmpty (prList84LL d part) ord.isEmpty (ord4LL d ord) rows)
  | .caseCond cs els => joinLL [' '] ("CASE".toList :: (prArms4LL d cs ++ (prElse4LL d els ++ ["END".toList])))
  | .caseVal v cs els =>
      joinLL ['\n'] ("CASE".toList :: prE4L d v :: ((prArms4LL d cs).map ind4 ++ ((prElse4LL d els).map ind4 ++ ["END".toList])))
  | .subValue vs => '(' :: (joinLL [',', ' '] (prList84LL d vs) ++ [')'])
  | .subQuery q => '(' :: (prQ2L d q ++ [')'])
  | .exists_ v => "EXISTS".toList ++ ' ' :: prE4L d v
  | .index a i => indexL (prE4L d a) (wrapL i 8 (prE4L d i))
  | .unary o e =>
      if (cval o).toList = ['-'] ∧ (wrapL e 2 (prE4L d e)).head? = some '-' then (cval o).toList ++ ' ' :: wrapL e 2 (prE4L d e)
      else (cval o).toList ++ wrapL e 2 (prE4L d e)
  | .compute l o r =>
      wrapL l (PR.lvl (.compute l o r)) (prE4L d l) ++ ' ' :: ((cval o).toList ++ ' ' :: wrapL r (PR.lvl (.compute l o r) - 1) (prE4L d r))
  | .kw k n l r => wrapL l 9 (prE4L d l) ++ ' ' :: ((PR.kwSrc k n).toList ++ ' ' :: wrapL r 8 (prE4L d r))
  | .between n b f t =>
      wrapL b 9 (prE4L d b) ++ ' ' :: ((if n then "NOT ".toList else []) ++ ("BETWEEN".toList ++ ' ' ::
        (wrapL f 8 (prE4L d f) ++ ' ' :: ("AND".toList ++ ' ' :: wrapL t 8 (prE4L d t)))))
  | .compare o l r => wrapL l 10 (prE4L d l) ++ ' ' :: ((cmpVal o).toList ++ ' ' :: wrapL r 9 (prE4L d r))
  | .not_ e => "NOT".toList ++ ' ' :: wrapL e 11 (prE4L d e)
  | .and_ l r => wrapL l 12 (prE4L d l) ++ ' ' :: ("AND".toList ++ ' ' :: wrapL r 11 (prE4L d r))
  | .xor l r => wrapL l 13 (prE4L d l) ++ ' ' :: ("XOR".toList ++ ' ' :: wrapL r 12 (prE4L d r))
  | .or_ l r => wrapL l 14 (prE4L d l) ++ ' ' :: ("OR".toList ++ ' ' :: wrapL r 13 (prE4L d r))
  | _ => []
def prList4LL (d : Gen.D) : List Expr → List (List Char)
  | [] => []
  | a :: as => prE4L d a :: prList4LL d as
def prList84LL (d : Gen.D) : List Expr → List (List Char)
  | [] => []
  | a :: as => wrapL a 8 (prE4L d a) :: prList84LL d as
def prArms4LL (d : Gen.D) : List (Expr × Expr) → List (List Char)
  | [] => []
  | (w, t) :: r => ("WHEN".toList ++ ' ' :: (prE4L d w ++ ' ' :: ("THEN".toList ++ ' ' :: prE4L d t))) :: prArms4LL d r
def prElse4LL (d : Gen.D) : Option Expr → List (List Char)
  | none => []
  | some y => ["ELSE".toList ++ ' ' :: prE4L d y]
def prQ2L (d : Gen.D) : Query → List Char
  | .single s => prS4L d s
  | .union _ s us => joinLL ['\n'] (prS4L d s :: prUn2LL d us)
def prUn2LL (d : Gen.D) : List (String × Select) → List (List Char)
  | [] => []
  | (t, s) :: r => unionWordsL t :: prS4L d s :: prUn2LL d r
def prS4L (d : Gen.D) : Select → List Char
  | .mk _ dist cols fr lats js wh gb hv ob sb db cb lm =>
      joinLL ['\n'] (("SELECT".toList ++ ' ' :: ((if dist then "DISTINCT ".toList else []) ++ joinLL [',', ' '] (prCols4LL d cols))) ::
        (from4LL d fr ++ (lats4LL d lats ++ (joins4LL d js ++ (opt4LL d "WHERE" wh ++ (group4LL d gb ++ (opt4LL d "HAVING" hv ++
          (order4LL d "ORDER" ob ++ (order4LL d "SORT" sb ++ (by4LL d "DISTRIBUTE" db ++ (by4LL d "CLUSTER" cb ++
            (limitC lm).map (·.1))))))))))))
def prCols4LL (d : Gen.D) : List (Expr × Option String) → List (List Char)
  | [] => []
  | (e, a) :: cs => (prE4L d e ++ aliasL a) :: prCols4LL d cs
def ref4L (d : Gen.D) : TableRef → List Char
  | .table s n => tblL s n
  | .sub q => '(' :: (prQ2L d q ++ [')'])
def table4L (d : Gen.D) : FromTable → List Char
  | .mk t a => ref4L d t ++ aliasL a
def tables4LL (d : Gen.D) : List FromTable → List (List Char)
  | [] => []
  | t :: ts => table4L d t :: tables4LL d ts
def from4LL (d : Gen.D) : Option (List FromTable) → List (List Char)
  | some (t :: ts) => ["FROM".toList ++ ' ' :: joinLL [',', ' '] (table4L d t :: tables4LL d ts)]
  | _ => []
def lat4L (d : Gen.D) : Lateral → List Char
  | .mk o fn v as => latL o (prE4L d fn) v.toList (as.map qnameL)
def lats4LL (d : Gen.D) : List Lateral → List (List Char)
  | [] => []
  | l :: ls => lat4L d l :: lats4LL d ls
def rule4L (d : Gen.D) : Option JoinRule → List Char
  | some (.on e) => ' ' :: ("ON".toList ++ ' ' :: prE4L d e)
  | some (.using u) => ' ' :: prE4L d u
  | none => []
def join4L (d : Gen.D) : Join → List Char
  | .mk ty t rule => joinWordsL ty ++ ' ' :: (table4L d t ++ rule4L d rule)
def joins4LL (d : Gen.D) : List Join → List (List Char)
  | [] => []
  | j :: js => join4L d j :: joins4LL d js
def opt4LL (d : Gen.D) (kw : String) : Option Expr → List (List Char)
  | some e => [kw.toList ++ ' ' :: prE4L d e]
  | none => []
def sets4LL (d : Gen.D) : List (List Expr) → List (List Char)
  | [] => []
  | g :: gs => setOfL (prList84LL d g) :: sets4LL d gs
def setsOpt4L (d : Gen.D) : Option (List (List Expr)) → List Char
  | none => []
  | some l => setsOptL (sets4LL d l)
def group4LL (d : Gen.D) : Option GroupBy → List (List Char)
  | some (.mk cols sets cube rollup) => [groupL (prList84LL d cols) (setsOpt4L d sets) cube rollup]
  | none => []
def ordItem4L (d : Gen.D) : OrderItem → List Char
  | .mk e desc nf nl => wrapL e 8 (prE4L d e) ++ ordSufL desc nf nl
def ord4LL (d : Gen.D) : List OrderItem → List (List Char)
  | [] => []
  | o :: os => ordItem4L d o :: ord4LL d os
def order4LL (d : Gen.D) (kw : String) : Option (List OrderItem) → List (List Char)
  | some (o :: os) => [byL kw (ordItem4L d o :: ord4LL d os)]
  | _ => []
def by4LL (d : Gen.D) (kw : String) : Option (List Expr) → List (List Char)
  | some (e :: es) => [byL kw (wrapL e 8 (prE4L d e) :: prList84LL d es)]
  | _ => []
end

inductive Leaf2
  | old (x : LeafItem)
  | guard (p : Gen.D → Bool)

def hiveG : Leaf2 := .guard fun d => d == .HIVE
def hiveDefG : Leaf2 := .guard fun d => d == .HIVE || d == .DEFAULT
def numeralB (v : String) : Bool := !v.toList.isEmpty && v.toList.all fun c => isDigit c.toNat
/-- a literal that begins with a quote -/
def quotedB (v : String) : Bool := v.toList.head? == some '\'' || v.toList.head? == some '"'
/-- an index expression whose text is complete in front of `]`: a column, a numeral, a quoted string, or anything printed in brackets -/
def idxInnerOK (i : Expr) : Bool :=
  decide (PR.lvl i > 8) || (match i with | .column _ _ => true | .literal v => numeralB v || quotedB v | _ => false)
/-- the single element of a grouping set: a column, a bracketed list / sub-query, or anything printed in brackets (the printer decides by the
first CHARACTER of the element's text whether it adds brackets, the token-level printer by the first TOKEN) -/
def setElemOK (e : Expr) : Bool :=
  decide (PR.lvl e > 8) || (match e with | .column _ _ => true | .subValue _ => true | .subQuery _ => true | _ => false)
def setG (g : List Expr) : List Leaf2 :=
  match g with
  | [e] => [.guard fun _ => setElemOK e]
  | _ => []
def leavesAlias2 (a : Option String) : List Leaf2 := (leavesAlias a).map .old

mutual
def leavesE4 : Expr → List Leaf2
  | .column t c => [.old (.col t c)]
  | .literal v => [.old (.lit v)]
  | .wildcard none => []
  | .wildcard (some t) => [.old (.wild t)]
  | .func s n ps => .old (.fn s n) :: leavesL4 ps
  | .agg n ps _ => .old (.agg n) :: leavesL4 ps
  | .cast e _ _ _ => leavesE4 e
  | .extract n e => leavesE4 n ++ leavesE4 e
  | .window fn part ord _ => leavesE4 fn ++ (leavesL4 part ++ leavesOrdL4 ord)
  | .caseCond cs els => leavesA4 cs ++ leavesO4 els
  | .caseVal v cs els => leavesE4 v ++ (leavesA4 cs ++ leavesO4 els)
  | .subValue vs => leavesL4 vs
  | .subQuery q => leavesQ2 q
  | .exists_ v => leavesE4 v
  | .index a i => hiveG :: .guard (fun _ => idxInnerOK i) :: (leavesE4 a ++ leavesE4 i)
  | .unary _ e => leavesE4 e
  | .compute l _ r => leavesE4 l ++ leavesE4 r
  | .kw _ _ l r => leavesE4 l ++ leavesE4 r
  | .between _ b f t => leavesE4 b ++ (leavesE4 f ++ leavesE4 t)
  | .compare _ l r => leavesE4 l ++ leavesE4 r
  | .not_ e => leavesE4 e
  | .and_ l r => leavesE4 l ++ leavesE4 r
  | .xor l r => leavesE4 l ++ leavesE4 r
  | .or_ l r => leavesE4 l ++ leavesE4 r
  | _ => []
def leavesL4 : List Expr → List Leaf2
  | [] => []
  | a :: as => leavesE4 a ++ leavesL4 as
def leavesA4 : List (Expr × Expr) → List Leaf2
  | [] => []
  | (w, t) :: r => leavesE4 w ++ (leavesE4 t ++ leavesA4 r)
def leavesO4 : Option Expr → List Leaf2
  | none => []
  | some y => leavesE4 y
def leavesQ2 : Query → List Leaf2
  | .single s => leavesS4 s
  | .union _ s us => leavesS4 s ++ leavesUn2 us
def leavesUn2 : List (String × Select) → List Leaf2
  | [] => []
  | (_, s) :: r => leavesS4 s ++ leavesUn2 r
def leavesS4 : Select → List Leaf2
  | .mk _ _ cols fr lats js wh gb hv ob sb db cb _ =>
      leavesCols4 cols ++ (leavesFrom4 fr ++ (leavesLats4 lats ++ (leavesJoins4 js ++ (leavesO4 wh ++ (leavesGroup4 gb ++ (leavesO4 hv ++
        (leavesOrder4 ob ++ ((if sb.isSome || db.isSome || cb.isSome then [hiveG] else []) ++
          (leavesOrder4 sb ++ (leavesBy4 db ++ leavesBy4 cb))))))))))
def leavesCols4 : List (Expr × Option String) → List Leaf2
  | [] => []
  | (e, a) :: cs => leavesE4 e ++ (leavesAlias2 a ++ leavesCols4 cs)
def leavesRef4 : TableRef → List Leaf2
  | .table s n => [.old (.tbl s n)]
  | .sub q => leavesQ2 q
def leavesTable4 : FromTable → List Leaf2
  | .mk t a => leavesRef4 t ++ leavesAlias2 a
def leavesTables4 : List FromTable → List Leaf2
  | [] => []
  | t :: ts => leavesTable4 t ++ leavesTables4 ts
def leavesFrom4 : Option (List FromTable) → List Leaf2
  | none => []
  | some ts => leavesTables4 ts
def leavesLat4 : Lateral → List Leaf2
  | .mk _ fn v as => hiveDefG :: (leavesE4 fn ++ (.old (.agg v) :: as.map fun a => .old (.wild a)))
def leavesLats4 : List Lateral → List Leaf2
  | [] => []
  | l :: ls => leavesLat4 l ++ leavesLats4 ls
def leavesRule4 : Option JoinRule → List Leaf2
  | some (.on e) => leavesE4 e
  | some (.using u) => leavesE4 u
  | none => []
def leavesJoin4 : Join → List Leaf2
  | .mk _ t rule => leavesTable4 t ++ leavesRule4 rule
def leavesJoins4 : List Join → List Leaf2
  | [] => []
  | j :: js => leavesJoin4 j ++ leavesJoins4 js
def leavesSets4 : List (List Expr) → List Leaf2
  | [] => []
  | g :: gs => setG g ++ (leavesL4 g ++ leavesSets4 gs)
def leavesSetsOpt4 : Option (List (List Expr)) → List Leaf2
  | none => []
  | some l => leavesSets4 l
def leavesGroup4 : Option GroupBy → List Leaf2
  | some (.mk es sets _ _) => leavesL4 es ++ leavesSetsOpt4 sets
  | none => []
def leavesOrdItem4 : OrderItem → List Leaf2
  | .mk e _ _ _ => leavesE4 e
def leavesOrdL4 : List OrderItem → List Leaf2
  | [] => []
  | o :: os => leavesOrdItem4 o ++ leavesOrdL4 os
def leavesOrder4 : Option (List OrderItem) → List Leaf2
  | none => []
  | some os => leavesOrdL4 os
def leavesBy4 : Option (List Expr) → List Leaf2
  | none => []
  | some es => leavesL4 es
end

def On2 (P : Leaf2 → Prop) (l : List Leaf2) : Prop := ∀ x ∈ l, P x
@[simp] theorem on2_nil (P : Leaf2 → Prop) : On2 P [] ↔ True := by simp [On2]
@[simp] theorem on2_cons (P : Leaf2 → Prop) (a : Leaf2) (l : List Leaf2) : On2 P (a :: l) ↔ P a ∧ On2 P l := by simp [On2]
@[simp] theorem on2_append (P : Leaf2 → Prop) (l1 l2 : List Leaf2) : On2 P (l1 ++ l2) ↔ On2 P l1 ∧ On2 P l2 := by
  simp only [On2, List.mem_append]
  exact ⟨fun h => ⟨fun x hx => h x (Or.inl hx), fun x hx => h x (Or.inr hx)⟩, fun h x hx => hx.elim (h.1 x) (h.2 x)⟩

def leafOK2 (d : Gen.D) : Leaf2 → Prop
  | .old x => leafOK d x
  | .guard p => p d = true
def item2 (K : QKit) : Leaf2 → Prop
  | .old x => K.item x
  | .guard _ => True
def Lv2 (d : Gen.D) (K : QKit) (l : List Leaf2) : Prop := On2 (fun x => leafOK2 d x ∧ item2 K x) l

@[simp] theorem lv2_nil (d : Gen.D) (K : QKit) : Lv2 d K [] ↔ True := by simp [Lv2]
@[simp] theorem lv2_cons (d : Gen.D) (K : QKit) (a : Leaf2) (l : List Leaf2) :
    Lv2 d K (a :: l) ↔ (leafOK2 d a ∧ item2 K a) ∧ Lv2 d K l := by simp [Lv2]
@[simp] theorem lv2_append (d : Gen.D) (K : QKit) (l1 l2 : List Leaf2) : Lv2 d K (l1 ++ l2) ↔ Lv2 d K l1 ∧ Lv2 d K l2 := by simp [Lv2]
@[simp] theorem lv2_cons_old (d : Gen.D) (K : QKit) (x : LeafItem) (l : List Leaf2) :
    Lv2 d K (.old x :: l) ↔ (leafOK d x ∧ K.item x) ∧ Lv2 d K l := by simp [Lv2, leafOK2, item2]
theorem lv2_old (d : Gen.D) (K : QKit) (x : LeafItem) : (leafOK2 d (.old x) ∧ item2 K (.old x)) ↔ (leafOK d x ∧ K.item x) := Iff.rfl

def q2Words : List String :=
  ["CAST", "SIGNED", "EXTRACT", "OVER", "PARTITION", "ROWS", "CURRENT", "ROW", "UNBOUNDED", "PRECEDING", "FOLLOWING", "NULLS", "FIRST", "LAST",
   "LATERAL", "VIEW", "OUTER", "GROUPING", "SETS", "WITH", "CUBE", "ROLLUP", "SORT", "DISTRIBUTE", "CLUSTER"]
theorem q2_words_plainL : q2Words.all (fun k => plainL k.toList) = true := by decide +kernel
theorem cast_words_lex : Gen.castTypes.all (fun e => lxIs e.2.toList (ctok e.2.toList)) = true := by decide +kernel
theorem cast_words_plainL : Gen.castTypes.all (fun e => plainL e.2.toList) = true := by decide +kernel
theorem lx_w2 (k : String) (hk : k ∈ q2Words) : Lx k.toList [opTok k] := lx_kwd ((List.all_eq_true.mp q2_words_plainL) k hk)

structure QW2 (K : QKit) : Prop where
  ws : ∀ k ∈ q2Words, K.Q k.toList
  cts : ∀ e ∈ Gen.castTypes, K.Q e.2.toList
  s_lb : K.safe '['
  s_rb : K.safe ']'

end LL2
