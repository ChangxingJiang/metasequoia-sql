import MsqProofs.Lemmas.ParseCostProj0
/-! GENERATED by tools/gen_cost.py — C19: the cost companions compute the results of the functions they count (helpers of Parse/Expr.lean, induction hypothesis of the block) -/
set_option linter.unusedSimpArgs false
open Lex PM Ast
namespace PM

theorem multiAliasLoop_proj  : ∀ x0 x1 x2 κ, (multiAliasLoop_k  x0 x1 x2 κ).2 = multiAliasLoop  x0 x1 x2 := by
  intro x0
  induction x0 with
  | zero => intros; rfl
  | succ n ih =>
    intro x1 x2 κ
    unfold multiAliasLoop_k multiAliasLoop
    proj_run
grind_pattern multiAliasLoop_proj => multiAliasLoop_k x0 x1 x2 κ

theorem pMultiAlias_proj (ts : List Tok) (κ : Nat) : (pMultiAlias_k ts κ).2 = pMultiAlias ts := by
  have h_multiAliasLoop := multiAliasLoop_proj
  unfold pMultiAlias_k pMultiAlias
  proj_run
grind_pattern pMultiAlias_proj => pMultiAlias_k ts κ

theorem pAlias_proj (ts : List Tok) (κ : Nat) : (pAlias_k ts κ).2 = pAlias ts := by
  unfold pAlias_k pAlias
  proj_run
grind_pattern pAlias_proj => pAlias_k ts κ

theorem pTableName_proj (ts : List Tok) (κ : Nat) : (pTableName_k ts κ).2 = pTableName ts := by
  unfold pTableName_k pTableName
  proj_run
grind_pattern pTableName_proj => pTableName_k ts κ

theorem pRowItem_proj (ts : List Tok) (κ : Nat) : (pRowItem_k ts κ).2 = pRowItem ts := by
  unfold pRowItem_k pRowItem
  proj_run
grind_pattern pRowItem_proj => pRowItem_k ts κ

theorem pWindowRow_proj (ts : List Tok) (κ : Nat) : (pWindowRow_k ts κ).2 = pWindowRow ts := by
  have h_pRowItem := pRowItem_proj
  unfold pWindowRow_k pWindowRow
  proj_run
grind_pattern pWindowRow_proj => pWindowRow_k ts κ

theorem orderTail_proj (e : Expr) (ts : List Tok) (κ : Nat) : (orderTail_k e ts κ).2 = orderTail e ts := by
  unfold orderTail_k orderTail
  proj_run
grind_pattern orderTail_proj => orderTail_k e ts κ

theorem castParamsLoop_proj  : ∀ x0 x1 x2 κ, (castParamsLoop_k  x0 x1 x2 κ).2 = castParamsLoop  x0 x1 x2 := by
  intro x0
  induction x0 with
  | zero => intros; rfl
  | succ n ih =>
    intro x1 x2 κ
    unfold castParamsLoop_k castParamsLoop
    proj_run
grind_pattern castParamsLoop_proj => castParamsLoop_k x0 x1 x2 κ

theorem castParams_proj (g : Tok) (κ : Nat) : (castParams_k g κ).2 = castParams g := by
  have h_castParamsLoop := castParamsLoop_proj
  unfold castParams_k castParams
  proj_run
grind_pattern castParams_proj => castParams_k g κ

theorem castTail_proj (e : Expr) (ts : List Tok) (κ : Nat) : (castTail_k e ts κ).2 = castTail e ts := by
  have h_castParams := castParams_proj
  unfold castTail_k castTail
  proj_run
grind_pattern castTail_proj => castTail_k e ts κ

theorem pLimit_proj (ts : List Tok) (κ : Nat) : (pLimit_k ts κ).2 = pLimit ts := by
  unfold pLimit_k pLimit
  proj_run
grind_pattern pLimit_proj => pLimit_k ts κ

structure ProjF (d : Gen.D) (n : Nat) : Prop where
  pElement : ∀ x0 κ, (pElement_k d n x0 κ).2 = pElement d n x0
  pParen : ∀ x0 x1 κ, (pParen_k d n x0 x1 κ).2 = pParen d n x0 x1
  pNamed : ∀ x0 x1 x2 κ, (pNamed_k d n x0 x1 x2 κ).2 = pNamed d n x0 x1 x2
  pQualified : ∀ x0 x1 x2 κ, (pQualified_k d n x0 x1 x2 κ).2 = pQualified d n x0 x1 x2
  pIndex : ∀ x0 x1 κ, (pIndex_k d n x0 x1 κ).2 = pIndex d n x0 x1
  pFuncIdx : ∀ x0 κ, (pFuncIdx_k d n x0 κ).2 = pFuncIdx d n x0
  pFunc : ∀ x0 κ, (pFunc_k d n x0 κ).2 = pFunc d n x0
  pIfCall : ∀ x0 κ, (pIfCall_k d n x0 κ).2 = pIfCall d n x0
  pFirstDiscard : ∀ x0 κ, (pFirstDiscard_k d n x0 κ).2 = pFirstDiscard d n x0
  pFirstArg : ∀ x0 κ, (pFirstArg_k d n x0 κ).2 = pFirstArg d n x0
  pCall : ∀ x0 x1 x2 κ, (pCall_k d n x0 x1 x2 κ).2 = pCall d n x0 x1 x2
  pArgs : ∀ x0 x1 κ, (pArgs_k d n x0 x1 κ).2 = pArgs d n x0 x1
  pCase : ∀ x0 κ, (pCase_k d n x0 κ).2 = pCase d n x0
  pElseEnd : ∀ x0 κ, (pElseEnd_k d n x0 κ).2 = pElseEnd d n x0
  pWhens : ∀ x0 x1 κ, (pWhens_k d n x0 x1 κ).2 = pWhens d n x0 x1
  pUnary : ∀ x0 κ, (pUnary_k d n x0 κ).2 = pUnary d n x0
  pCompute : ∀ x0 κ, (pCompute_k d n x0 κ).2 = pCompute d n x0
  pComputeLoop : ∀ x0 x1 x2 κ, (pComputeLoop_k d n x0 x1 x2 κ).2 = pComputeLoop d n x0 x1 x2
  pKeyword : ∀ x0 x1 κ, (pKeyword_k d n x0 x1 κ).2 = pKeyword d n x0 x1
  pKwFirst : ∀ x0 x1 κ, (pKwFirst_k d n x0 x1 κ).2 = pKwFirst d n x0 x1
  pKwRest : ∀ x0 x1 x2 κ, (pKwRest_k d n x0 x1 x2 κ).2 = pKwRest d n x0 x1 x2
  pKwBody : ∀ x0 x1 x2 x3 κ, (pKwBody_k d n x0 x1 x2 x3 κ).2 = pKwBody d n x0 x1 x2 x3
  pBetween : ∀ x0 x1 x2 κ, (pBetween_k d n x0 x1 x2 κ).2 = pBetween d n x0 x1 x2
  pInBody : ∀ x0 x1 x2 κ, (pInBody_k d n x0 x1 x2 κ).2 = pInBody d n x0 x1 x2
  pSplit : ∀ x0 x1 x2 κ, (pSplit_k d n x0 x1 x2 κ).2 = pSplit d n x0 x1 x2
  pCompare : ∀ x0 κ, (pCompare_k d n x0 κ).2 = pCompare d n x0
  pCompareLoop : ∀ x0 x1 κ, (pCompareLoop_k d n x0 x1 κ).2 = pCompareLoop d n x0 x1
  pNot : ∀ x0 κ, (pNot_k d n x0 κ).2 = pNot d n x0
  pAnd : ∀ x0 κ, (pAnd_k d n x0 κ).2 = pAnd d n x0
  pAndLoop : ∀ x0 x1 κ, (pAndLoop_k d n x0 x1 κ).2 = pAndLoop d n x0 x1
  pXor : ∀ x0 κ, (pXor_k d n x0 κ).2 = pXor d n x0
  pXorLoop : ∀ x0 x1 κ, (pXorLoop_k d n x0 x1 κ).2 = pXorLoop d n x0 x1
  pOr : ∀ x0 κ, (pOr_k d n x0 κ).2 = pOr d n x0
  pOrLoop : ∀ x0 x1 κ, (pOrLoop_k d n x0 x1 κ).2 = pOrLoop d n x0 x1
  pSubQuery : ∀ x0 κ, (pSubQuery_k d n x0 κ).2 = pSubQuery d n x0
  pCast : ∀ x0 κ, (pCast_k d n x0 κ).2 = pCast d n x0
  pExtract : ∀ x0 κ, (pExtract_k d n x0 κ).2 = pExtract d n x0
  pExtractTail : ∀ x0 x1 κ, (pExtractTail_k d n x0 x1 κ).2 = pExtractTail d n x0 x1
  pWindow : ∀ x0 κ, (pWindow_k d n x0 κ).2 = pWindow d n x0
  pWindowBody : ∀ x0 x1 κ, (pWindowBody_k d n x0 x1 κ).2 = pWindowBody d n x0 x1
  pPartitionBy : ∀ x0 κ, (pPartitionBy_k d n x0 κ).2 = pPartitionBy d n x0
  pComputeList : ∀ x0 x1 κ, (pComputeList_k d n x0 x1 κ).2 = pComputeList d n x0 x1
  pOrderItem : ∀ x0 κ, (pOrderItem_k d n x0 κ).2 = pOrderItem d n x0
  pOrderList : ∀ x0 x1 κ, (pOrderList_k d n x0 x1 κ).2 = pOrderList d n x0 x1
  pOrderByOpt : ∀ x0 κ, (pOrderByOpt_k d n x0 κ).2 = pOrderByOpt d n x0
  pSelectCol : ∀ x0 κ, (pSelectCol_k d n x0 κ).2 = pSelectCol d n x0
  pSelectCols : ∀ x0 x1 κ, (pSelectCols_k d n x0 x1 κ).2 = pSelectCols d n x0 x1
  pTableExpr : ∀ x0 κ, (pTableExpr_k d n x0 κ).2 = pTableExpr d n x0
  pFromTable : ∀ x0 κ, (pFromTable_k d n x0 κ).2 = pFromTable d n x0
  pFromTables : ∀ x0 x1 κ, (pFromTables_k d n x0 x1 κ).2 = pFromTables d n x0 x1
  pJoin : ∀ x0 κ, (pJoin_k d n x0 κ).2 = pJoin d n x0
  pJoinRule : ∀ x0 x1 x2 κ, (pJoinRule_k d n x0 x1 x2 κ).2 = pJoinRule d n x0 x1 x2
  pJoins : ∀ x0 x1 x2 x3 κ, (pJoins_k d n x0 x1 x2 x3 κ).2 = pJoins d n x0 x1 x2 x3
  pOptOr : ∀ x0 x1 κ, (pOptOr_k d n x0 x1 κ).2 = pOptOr d n x0 x1
  pGroupingElem : ∀ x0 κ, (pGroupingElem_k d n x0 κ).2 = pGroupingElem d n x0
  pClosedEach : ∀ x0 x1 κ, (pClosedEach_k d n x0 x1 κ).2 = pClosedEach d n x0 x1
  pGroupingElems : ∀ x0 x1 κ, (pGroupingElems_k d n x0 x1 κ).2 = pGroupingElems d n x0 x1
  pGroupingSets : ∀ x0 κ, (pGroupingSets_k d n x0 κ).2 = pGroupingSets d n x0
  pGroupBy : ∀ x0 κ, (pGroupBy_k d n x0 κ).2 = pGroupBy d n x0
  pGroupCols : ∀ x0 κ, (pGroupCols_k d n x0 κ).2 = pGroupCols d n x0
  pGroupSetsOpt : ∀ x0 κ, (pGroupSetsOpt_k d n x0 κ).2 = pGroupSetsOpt d n x0
  pWithTable : ∀ x0 κ, (pWithTable_k d n x0 κ).2 = pWithTable d n x0
  pWithBody : ∀ x0 x1 κ, (pWithBody_k d n x0 x1 κ).2 = pWithBody d n x0 x1
  pWithTables : ∀ x0 x1 κ, (pWithTables_k d n x0 x1 κ).2 = pWithTables d n x0 x1
  pWith : ∀ x0 κ, (pWith_k d n x0 κ).2 = pWith d n x0
  pSelectBody : ∀ x0 x1 x2 x3 κ, (pSelectBody_k d n x0 x1 x2 x3 κ).2 = pSelectBody d n x0 x1 x2 x3
  pFromOpt : ∀ x0 κ, (pFromOpt_k d n x0 κ).2 = pFromOpt d n x0
  pSelectRest : ∀ x0 x1 x2 x3 x4 x5 κ, (pSelectRest_k d n x0 x1 x2 x3 x4 x5 κ).2 = pSelectRest d n x0 x1 x2 x3 x4 x5
  pSelectTail : ∀ x0 x1 x2 x3 x4 x5 x6 κ, (pSelectTail_k d n x0 x1 x2 x3 x4 x5 x6 κ).2 = pSelectTail d n x0 x1 x2 x3 x4 x5 x6
  pWhereGroup : ∀ x0 κ, (pWhereGroup_k d n x0 κ).2 = pWhereGroup d n x0
  pHavingOrder : ∀ x0 κ, (pHavingOrder_k d n x0 κ).2 = pHavingOrder d n x0
  pHiveClauses : ∀ x0 κ, (pHiveClauses_k d n x0 κ).2 = pHiveClauses d n x0
  pSortBy : ∀ x0 κ, (pSortBy_k d n x0 κ).2 = pSortBy d n x0
  pByList : ∀ x0 x1 κ, (pByList_k d n x0 x1 κ).2 = pByList d n x0 x1
  pLateral : ∀ x0 κ, (pLateral_k d n x0 κ).2 = pLateral d n x0
  pLaterals : ∀ x0 x1 x2 x3 κ, (pLaterals_k d n x0 x1 x2 x3 κ).2 = pLaterals d n x0 x1 x2 x3
  pSingle : ∀ x0 x1 κ, (pSingle_k d n x0 x1 κ).2 = pSingle d n x0 x1
  pSingleParen : ∀ x0 x1 x2 x3 κ, (pSingleParen_k d n x0 x1 x2 x3 κ).2 = pSingleParen d n x0 x1 x2 x3
  pSelectStmt : ∀ x0 x1 κ, (pSelectStmt_k d n x0 x1 κ).2 = pSelectStmt d n x0 x1
  pUnions : ∀ x0 x1 x2 κ, (pUnions_k d n x0 x1 x2 κ).2 = pUnions d n x0 x1 x2

grind_pattern ProjF.pElement => ProjF d n, pElement_k d n x0 κ
grind_pattern ProjF.pParen => ProjF d n, pParen_k d n x0 x1 κ
grind_pattern ProjF.pNamed => ProjF d n, pNamed_k d n x0 x1 x2 κ
grind_pattern ProjF.pQualified => ProjF d n, pQualified_k d n x0 x1 x2 κ
grind_pattern ProjF.pIndex => ProjF d n, pIndex_k d n x0 x1 κ
grind_pattern ProjF.pFuncIdx => ProjF d n, pFuncIdx_k d n x0 κ
grind_pattern ProjF.pFunc => ProjF d n, pFunc_k d n x0 κ
grind_pattern ProjF.pIfCall => ProjF d n, pIfCall_k d n x0 κ
grind_pattern ProjF.pFirstDiscard => ProjF d n, pFirstDiscard_k d n x0 κ
grind_pattern ProjF.pFirstArg => ProjF d n, pFirstArg_k d n x0 κ
grind_pattern ProjF.pCall => ProjF d n, pCall_k d n x0 x1 x2 κ
grind_pattern ProjF.pArgs => ProjF d n, pArgs_k d n x0 x1 κ
grind_pattern ProjF.pCase => ProjF d n, pCase_k d n x0 κ
grind_pattern ProjF.pElseEnd => ProjF d n, pElseEnd_k d n x0 κ
grind_pattern ProjF.pWhens => ProjF d n, pWhens_k d n x0 x1 κ
grind_pattern ProjF.pUnary => ProjF d n, pUnary_k d n x0 κ
grind_pattern ProjF.pCompute => ProjF d n, pCompute_k d n x0 κ
grind_pattern ProjF.pComputeLoop => ProjF d n, pComputeLoop_k d n x0 x1 x2 κ
grind_pattern ProjF.pKeyword => ProjF d n, pKeyword_k d n x0 x1 κ
grind_pattern ProjF.pKwFirst => ProjF d n, pKwFirst_k d n x0 x1 κ
grind_pattern ProjF.pKwRest => ProjF d n, pKwRest_k d n x0 x1 x2 κ
grind_pattern ProjF.pKwBody => ProjF d n, pKwBody_k d n x0 x1 x2 x3 κ
grind_pattern ProjF.pBetween => ProjF d n, pBetween_k d n x0 x1 x2 κ
grind_pattern ProjF.pInBody => ProjF d n, pInBody_k d n x0 x1 x2 κ
grind_pattern ProjF.pSplit => ProjF d n, pSplit_k d n x0 x1 x2 κ
grind_pattern ProjF.pCompare => ProjF d n, pCompare_k d n x0 κ
grind_pattern ProjF.pCompareLoop => ProjF d n, pCompareLoop_k d n x0 x1 κ
grind_pattern ProjF.pNot => ProjF d n, pNot_k d n x0 κ
grind_pattern ProjF.pAnd => ProjF d n, pAnd_k d n x0 κ
grind_pattern ProjF.pAndLoop => ProjF d n, pAndLoop_k d n x0 x1 κ
grind_pattern ProjF.pXor => ProjF d n, pXor_k d n x0 κ
grind_pattern ProjF.pXorLoop => ProjF d n, pXorLoop_k d n x0 x1 κ
grind_pattern ProjF.pOr => ProjF d n, pOr_k d n x0 κ
grind_pattern ProjF.pOrLoop => ProjF d n, pOrLoop_k d n x0 x1 κ
grind_pattern ProjF.pSubQuery => ProjF d n, pSubQuery_k d n x0 κ
grind_pattern ProjF.pCast => ProjF d n, pCast_k d n x0 κ
grind_pattern ProjF.pExtract => ProjF d n, pExtract_k d n x0 κ
grind_pattern ProjF.pExtractTail => ProjF d n, pExtractTail_k d n x0 x1 κ
grind_pattern ProjF.pWindow => ProjF d n, pWindow_k d n x0 κ
grind_pattern ProjF.pWindowBody => ProjF d n, pWindowBody_k d n x0 x1 κ
grind_pattern ProjF.pPartitionBy => ProjF d n, pPartitionBy_k d n x0 κ
grind_pattern ProjF.pComputeList => ProjF d n, pComputeList_k d n x0 x1 κ
grind_pattern ProjF.pOrderItem => ProjF d n, pOrderItem_k d n x0 κ
grind_pattern ProjF.pOrderList => ProjF d n, pOrderList_k d n x0 x1 κ
grind_pattern ProjF.pOrderByOpt => ProjF d n, pOrderByOpt_k d n x0 κ
grind_pattern ProjF.pSelectCol => ProjF d n, pSelectCol_k d n x0 κ
grind_pattern ProjF.pSelectCols => ProjF d n, pSelectCols_k d n x0 x1 κ
grind_pattern ProjF.pTableExpr => ProjF d n, pTableExpr_k d n x0 κ
grind_pattern ProjF.pFromTable => ProjF d n, pFromTable_k d n x0 κ
grind_pattern ProjF.pFromTables => ProjF d n, pFromTables_k d n x0 x1 κ
grind_pattern ProjF.pJoin => ProjF d n, pJoin_k d n x0 κ
grind_pattern ProjF.pJoinRule => ProjF d n, pJoinRule_k d n x0 x1 x2 κ
grind_pattern ProjF.pJoins => ProjF d n, pJoins_k d n x0 x1 x2 x3 κ
grind_pattern ProjF.pOptOr => ProjF d n, pOptOr_k d n x0 x1 κ
grind_pattern ProjF.pGroupingElem => ProjF d n, pGroupingElem_k d n x0 κ
grind_pattern ProjF.pClosedEach => ProjF d n, pClosedEach_k d n x0 x1 κ
grind_pattern ProjF.pGroupingElems => ProjF d n, pGroupingElems_k d n x0 x1 κ
grind_pattern ProjF.pGroupingSets => ProjF d n, pGroupingSets_k d n x0 κ
grind_pattern ProjF.pGroupBy => ProjF d n, pGroupBy_k d n x0 κ
grind_pattern ProjF.pGroupCols => ProjF d n, pGroupCols_k d n x0 κ
grind_pattern ProjF.pGroupSetsOpt => ProjF d n, pGroupSetsOpt_k d n x0 κ
grind_pattern ProjF.pWithTable => ProjF d n, pWithTable_k d n x0 κ
grind_pattern ProjF.pWithBody => ProjF d n, pWithBody_k d n x0 x1 κ
grind_pattern ProjF.pWithTables => ProjF d n, pWithTables_k d n x0 x1 κ
grind_pattern ProjF.pWith => ProjF d n, pWith_k d n x0 κ
grind_pattern ProjF.pSelectBody => ProjF d n, pSelectBody_k d n x0 x1 x2 x3 κ
grind_pattern ProjF.pFromOpt => ProjF d n, pFromOpt_k d n x0 κ
grind_pattern ProjF.pSelectRest => ProjF d n, pSelectRest_k d n x0 x1 x2 x3 x4 x5 κ
grind_pattern ProjF.pSelectTail => ProjF d n, pSelectTail_k d n x0 x1 x2 x3 x4 x5 x6 κ
grind_pattern ProjF.pWhereGroup => ProjF d n, pWhereGroup_k d n x0 κ
grind_pattern ProjF.pHavingOrder => ProjF d n, pHavingOrder_k d n x0 κ
grind_pattern ProjF.pHiveClauses => ProjF d n, pHiveClauses_k d n x0 κ
grind_pattern ProjF.pSortBy => ProjF d n, pSortBy_k d n x0 κ
grind_pattern ProjF.pByList => ProjF d n, pByList_k d n x0 x1 κ
grind_pattern ProjF.pLateral => ProjF d n, pLateral_k d n x0 κ
grind_pattern ProjF.pLaterals => ProjF d n, pLaterals_k d n x0 x1 x2 x3 κ
grind_pattern ProjF.pSingle => ProjF d n, pSingle_k d n x0 x1 κ
grind_pattern ProjF.pSingleParen => ProjF d n, pSingleParen_k d n x0 x1 x2 x3 κ
grind_pattern ProjF.pSelectStmt => ProjF d n, pSelectStmt_k d n x0 x1 κ
grind_pattern ProjF.pUnions => ProjF d n, pUnions_k d n x0 x1 x2 κ

end PM
