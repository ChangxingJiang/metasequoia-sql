import MsqProofs.Lemmas.LexLinkQueryDefs
/-!
# The lexer link for nested queries: the record of an expression, the kit on the printer's separators, names and keyword operators

`GE d K e` — everything the link proves of ONE expression text: it lexes to the token rendering (`lx`, in context), the printer
prints exactly it (`pr`), the kit's property holds of it (`q`), and its first character is not `=` (`fc`: a prefix operator may be
written directly before it).  The records of the fragment's expressions come from the larger fragment (`LexLinkQueryMain.lean`).
-/
namespace LexLink
open Lex Spec C05 C06 C09 Ast TP TS TQ

structure GE (d : Gen.D) (K : QKit) (e : Expr) : Prop where
  lx : Lx (prE3L d e) (toksE3 d noX e)
  pr : PR.prE d e = .ok (String.ofList (prE3L d e))
  q : K.Q (prE3L d e)
  fc : ∃ c b', prE3L d e = c :: b' ∧ c ≠ '='

section
variable {d : Gen.D} {K : QKit}

theorem QKit.sp (K : QKit) {a b : List Char} (ha : K.Q a) (hb : K.Q b) : K.Q (a ++ ' ' :: b) := K.sep _ _ _ K.s_sp ha hb
theorem QKit.paren (K : QKit) {a : List Char} (ha : K.Q a) : K.Q ('(' :: (a ++ [')'])) := by
  have := K.sep [] (a ++ ')' :: []) '(' K.s_lp K.nil (K.sep a [] ')' K.s_rp ha K.nil)
  simpa using this
theorem QKit.bq (K : QKit) {a : List Char} (ha : K.Q a) : K.Q ('`' :: (a ++ ['`'])) := by
  have := K.sep [] (a ++ '`' :: []) '`' K.s_bq K.nil (K.sep a [] '`' K.s_bq ha K.nil)
  simpa using this
theorem QKit.pre (K : QKit) {c : Char} (hc : K.safe c) {a : List Char} (ha : K.Q a) : K.Q (c :: a) := by
  have := K.sep [] a c hc K.nil ha
  simpa using this
theorem QKit.post (K : QKit) {c : Char} (hc : K.safe c) {a : List Char} (ha : K.Q a) : K.Q (a ++ [c]) :=
  K.sep a [] c hc ha K.nil
theorem QKit.word (K : QKit) (k : String) (hk : k ∈ allWords) : K.Q k.toList := K.words k hk
theorem QKit.wrap (K : QKit) (e : Expr) (k : Nat) {s : List Char} (hs : K.Q s) : K.Q (wrapL e k s) := by
  unfold wrapL
  split
  · exact K.paren hs
  · exact hs
theorem QKit.joinLL1 (K : QKit) (c : Char) (hc : K.safe c) : ∀ (l : List (List Char)), (∀ x ∈ l, K.Q x) → K.Q (joinLL [c] l)
  | [], _ => K.nil
  | [a], h => h a (by simp)
  | a :: b :: r, h => by
    have := QKit.joinLL1 K c hc (b :: r) fun x hx => h x (by simp [hx])
    have e : joinLL [c] (a :: b :: r) = a ++ c :: joinLL [c] (b :: r) := by simp [joinLL]
    rw [e]; exact K.sep _ _ _ hc (h a (by simp)) this
theorem QKit.joinLL2 (K : QKit) : ∀ (l : List (List Char)), (∀ x ∈ l, K.Q x) → K.Q (joinLL [',', ' '] l)
  | [], _ => K.nil
  | [a], h => h a (by simp)
  | a :: b :: r, h => by
    have := QKit.joinLL2 K (b :: r) fun x hx => h x (by simp [hx])
    have e : joinLL [',', ' '] (a :: b :: r) = a ++ ',' :: ([] ++ ' ' :: joinLL [',', ' '] (b :: r)) := by simp [joinLL]
    rw [e]; exact K.sep _ _ _ K.s_cm (h a (by simp)) (K.sep _ _ _ K.s_sp K.nil this)
theorem QKit.cv (K : QKit) (o : String) (h : PR.computeOpSrc d o = .ok (cval o)) : K.Q (cval o).toList := by
  obtain ⟨e, he, hc⟩ := cval_mem d o h
  rw [hc]; exact K.cops e he
theorem QKit.cmp (K : QKit) (o : String) (h : PR.compareOpSrc o = .ok (cmpVal o)) : K.Q (cmpVal o).toList := by
  obtain ⟨e, he, hc⟩ := cmpVal_mem o h
  have := (List.all_eq_true.mp compare_ops_lex) e he
  rw [hc]
  cases hl : e.2 with
  | nil => rw [hl] at this; cases this
  | cons x r =>
    cases r with
    | nil =>
      have hj : PR.joinS " " [x] = x := rfl
      rw [hj]; exact K.cmps e he x hl
    | cons y r' => rw [hl] at this; cases this
theorem mem_kw {k : String} (h : k ∈ keywords) : k ∈ allWords := by simp [allWords, h]
theorem mem_cw {k : String} (h : k ∈ clauseWords) : k ∈ allWords := by simp [allWords, h]
theorem mem_qw {k : String} (h : k ∈ queryWords) : k ∈ allWords := by simp [allWords, h]

/-! ## levels: nothing is wrapped at bound 14 -/

theorem compute_levels : Gen.computeEnum.all (fun e => decide (e.2.2 ≤ 14)) = true := by decide
theorem lvl_le (e : Expr) : PR.lvl e ≤ 14 := by
  cases e <;> simp only [PR.lvl] <;> try omega
  case compute l o r =>
    cases hf : Gen.computeEnum.find? (·.1 == o) with
    | none => simp
    | some x =>
      have := (List.all_eq_true.mp compute_levels) x (List.mem_of_find?_eq_some hf)
      simpa using this
theorem wrapL14 (e : Expr) (s : List Char) : wrapL e 14 s = s := by
  unfold wrapL; have := lvl_le e; split <;> first | omega | rfl
theorem wrapT14 (e : Expr) (ts : List Tok) : wrapT (noX e) e 14 ts = ts := by
  unfold wrapT; have := lvl_le e
  simp only [noX, Bool.false_eq_true, or_false]
  split <;> first | omega | rfl

theorem GE.prw {e : Expr} (h : GE d K e) (k : Nat) :
    (PR.prE d e).map (PR.wrap e k) = .ok (String.ofList (wrapL e k (prE3L d e))) := by
  rw [h.pr]; simp only [Except.map, wrap_ofList]

/-- the closing step of every `pr` proof: two strings with the same characters -/
theorem ok_ofList {s : String} {l : List Char} (h : s.toList = l) : (Except.ok s : PR.P) = .ok (String.ofList l) :=
  congrArg Except.ok (ofList_eq h)

theorem dotTok_eq : TP2.dotTok = ctok ['.'] := by
  simp only [TP2.dotTok, opTok_eq, ctok]; rfl
theorem nameTok_eq (c : String) : nameTok c = .single ('`' :: (c.toList ++ ['`'])) Gen.mark_NAME := rfl

theorem lit_fc (v : String) (hl : litLex v) : ∃ c b', v.toList = c :: b' ∧ c ≠ '=' := by
  rcases hl with ⟨hne, hd⟩ | ⟨k, body, hk, hv, _, _⟩ | ⟨hw, _⟩
  · cases hv : v.toList with
    | nil => exact absurd hv hne
    | cons c cs =>
      refine ⟨c, cs, rfl, ?_⟩
      intro e; subst e
      have := hd '=' (by rw [hv]; simp)
      revert this; decide
  · refine ⟨k.ch, body ++ [k.ch], by simp [hv, QK.wrap], ?_⟩
    cases k <;> decide
  · cases hv : v.toList with
    | nil => rw [hv] at hw; cases hw
    | cons c cs =>
      refine ⟨c, cs, rfl, ?_⟩
      rw [hv] at hw
      simp only [isWord, Bool.and_eq_true, startsWord] at hw
      exact isWordChar_ne_eq c hw.1.1.1.1

theorem starTok_eq : TP2.starTok = opTok "*" := rfl

theorem alphaU_ne_eq (c : Char) (h : (c.isAlpha || c == '_') = true) : c ≠ '=' := by
  intro e; subst e; revert h; decide

theorem qnameL_fc (n : String) : ∃ c r, qnameL n = c :: r ∧ c ≠ '=' := by
  unfold qnameL
  split
  · rename_i hb
    simp only [bareB, Bool.and_eq_true] at hb
    have := hb.1
    unfold PR.isPlainName at this
    cases hc : n.toList with
    | nil => rw [hc] at this; cases this
    | cons c r =>
      rw [hc] at this
      simp only [Bool.and_eq_true] at this
      exact ⟨c, r, rfl, alphaU_ne_eq c this.1⟩
  · exact ⟨_, _, rfl, by decide⟩

theorem q_qname (n : String) (hq : K.Q n.toList) : K.Q (qnameL n) := by
  unfold qnameL
  split
  · exact hq
  · exact K.bq hq

theorem kwToks_in (n : Bool) : Lx (PR.kwSrc .in_ n).toList (kwToks .in_ n) := by
  cases n
  · exact lx_qw "IN" (by simp [queryWords])
  · have := Lx.trail (Lx.sep (lx_qw "NOT" (by simp [queryWords])) (lx_qw "IN" (by simp [queryWords])))
    exact Lx.congr this (by simp [PR.kwSrc]) rfl

theorem lx_kwSrc3 (k : KwKind) (n : Bool) : Lx (PR.kwSrc k n).toList (kwToks k n) := by
  by_cases hk : k = .in_
  · subst hk; exact kwToks_in n
  · exact lx_kwSrc k n (by simpa using hk)

theorem q_kwSrc (K : QKit) (k : KwKind) (n : Bool) : K.Q (PR.kwSrc k n).toList := by
  have one : ∀ a : String, a ∈ allWords → K.Q a.toList := K.words
  have two : ∀ a b : String, a ∈ allWords → b ∈ allWords → K.Q (a.toList ++ ' ' :: b.toList) :=
    fun a b ha hb => K.sp (K.words a ha) (K.words b hb)
  cases k <;> cases n
  case in_.false => exact one "IN" (by simp [allWords, queryWords])
  case in_.true =>
    have := K.post K.s_sp (two "NOT" "IN" (by simp [allWords, keywords]) (by simp [allWords, queryWords]))
    exact this
  case is.false => exact one "IS" (by simp [allWords, keywords])
  case is.true => exact two "IS" "NOT" (by simp [allWords, keywords]) (by simp [allWords, keywords])
  case like.false => exact one "LIKE" (by simp [allWords, keywords])
  case like.true => exact two "NOT" "LIKE" (by simp [allWords, keywords]) (by simp [allWords, keywords])
  case rlike.false => exact one "RLIKE" (by simp [allWords, keywords])
  case rlike.true => exact two "NOT" "RLIKE" (by simp [allWords, keywords]) (by simp [allWords, keywords])
  case regexp.false => exact one "REGEXP" (by simp [allWords, keywords])
  case regexp.true => exact two "NOT" "REGEXP" (by simp [allWords, keywords]) (by simp [allWords, keywords])

theorem q3 (K : QKit) {a m b : List Char} (ha : K.Q a) (hm : K.Q m) (hb : K.Q b) : K.Q (a ++ ' ' :: (m ++ ' ' :: b)) :=
  K.sp ha (K.sp hm hb)

end
end LexLink
