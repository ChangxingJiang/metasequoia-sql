import MsqProofs.Lemmas.LexLinkAnyR0
/-!
# The lexer link for the remaining statement classes: PARTITION lists, ANALYZE TABLE, SHOW COLUMNS, CREATE TABLE … AS

The members come from the Q2 link (`LL2.good_expr` / `good_query`, instantiated at the kit `plainKit`: no pre-pass character) and from the
link for statements over `FragQ2` (`LL2.Any.good_stmt`).
-/
namespace LL2.Any
open Lex Spec C05 C06 C09 Ast TP TS LexLink TQ2
open LLD (ps pc lx_ps lx_pc seg_sp sp q_ps q_pc dw_plain)
open LD (tailL wordsP flagP)

variable {d : Gen.D}

def partTxt (d : Gen.D) (es : List Expr) : List Char := "PARTITION".toList ++ ' ' :: '(' :: (joinLL [',', ' '] (es.map (prE4L d)) ++ [')'])

theorem partPieces_some (es : List Expr) : partPieces d (some es) = [partTxt d es] := rfl

theorem partition_good (es : List Expr) (hf : TDM2.partOK d (some es) = true) (hl : On2 (leafOK2 d) (leavesL4 es)) :
    Pc (partTxt d es) [opTok "PARTITION", TR.partGrp d es] ∧ PR.prPartition d es = .ok (String.ofList (partTxt d es)) := by
  obtain ⟨h1, h2, h3⟩ := part_good (K := plainKit) dw_plain (some es) hf (lv2_plain (by simpa [leavesPart] using hl))
  rw [partPieces_some] at h1 h2 h3
  refine ⟨⟨?_, h2 _ (by simp)⟩, ?_⟩
  · have := h1.lx (by simp)
    exact Lx.congr this (by simp [joinLL]) (by simp [TDM2.toksPart, TR.partGrp])
  · simp only [PR.prOptPartition] at h3
    cases hp : PR.prPartition d es with
    | error e => rw [hp] at h3; cases h3
    | ok x =>
      rw [hp] at h3
      simp only [Except.map, Except.ok.injEq] at h3
      refine congrArg Except.ok (ofList_eq ?_)
      have := congrArg String.toList h3
      have e1 : (" " : String).toList = [' '] := rfl
      simp only [String.toList_append, String.toList_ofList, e1, ps, List.map_cons, List.map_nil, List.flatten_cons, List.flatten_nil,
        List.append_nil] at this
      exact List.append_cancel_right this

def analyzeTailP (fc cm ns : Bool) : List (List Char) :=
  "STATISTICS".toList :: (flagP fc ["FOR", "COLUMNS"] ++ (flagP cm ["CACHE", "METADATA"] ++ flagP ns ["NOSCAN"]))
/-- the Hive rendering (two blanks in front of `COMPUTE`: the partition text carries its own trailing blank), the bare MySQL rendering -/
def analyzeL (d : Gen.D) (t : TableName) (p : Option (List Expr)) (fc cm ns : Bool) : List Char :=
  if d == .HIVE then
    "ANALYZE".toList ++ ' ' :: ("TABLE".toList ++ ' ' :: (tnL t ++ ' ' :: (ps (partPieces d p) ++ ' ' :: ("COMPUTE".toList ++ tailL (analyzeTailP fc cm ns)))))
  else "ANALYZE".toList ++ tailL ["TABLE".toList, tnL t]

theorem pc_computeTail (fc cm ns : Bool) : Pc ("COMPUTE".toList ++ tailL (analyzeTailP fc cm ns))
    (opTok "COMPUTE" :: opTok "STATISTICS" :: (TD.flag fc [opTok "FOR", opTok "COLUMNS"] ++
      (TD.flag cm [opTok "CACHE", opTok "METADATA"] ++ TD.flag ns [opTok "NOSCAN"]))) := by
  have := Pc.tail (pc_w "COMPUTE" (by simp [restWords])) (SegP.cons (pc_w "STATISTICS" (by simp [restWords]))
    (SegP.append (segp_flag fc ["FOR", "COLUMNS"] (by simp [restWords])) (SegP.append (segp_flag cm ["CACHE", "METADATA"] (by simp [restWords]))
      (segp_flag ns ["NOSCAN"] (by simp [restWords])))))
  exact this.congr rfl (by simp)

theorem pc_analyze (t : TableName) (p : Option (List Expr)) (fc cm ns : Bool) (ht : tblLeaf t)
    (hf : if d == .HIVE then TDM2.partOK d p = true else True) (hl : On2 (leafOK2 d) (leavesPart p)) :
    Pc (analyzeL d t p fc cm ns) (TR.toksAnalyze d t p fc cm ns) := by
  delta analyzeL TR.toksAnalyze
  cases hd : (d == Gen.D.HIVE)
  · simp only [Bool.false_eq_true, ↓reduceIte]
    have := Pc.tail (pc_w "ANALYZE" (by simp [restWords])) (SegP.cons (pc_w "TABLE" (by simp [restWords])) (SegP.one (pc_tn t ht).1))
    exact this.congr rfl (by simp)
  · simp only [hd, ↓reduceIte] at hf ⊢
    obtain ⟨h1, h2, _⟩ := part_good (K := plainKit) dw_plain p hf (lv2_plain hl)
    have hc := pc_computeTail fc cm ns
    refine ⟨?_, ?_⟩
    · have := Lx.sep (pc_w "ANALYZE" (by simp [restWords])).lx (Lx.sep (pc_w "TABLE" (by simp [restWords])).lx
        (Lx.sep (pc_tn t ht).1.lx (lx_ps h1 (Lx.blank hc.lx))))
      exact Lx.congr this (by simp) (by simp)
    · have h3 : allP (ps (partPieces d p) ++ ' ' :: ("COMPUTE".toList ++ tailL (analyzeTailP fc cm ns))) = true :=
        q_ps plainKit _ h2 _ (plainKit.pre plainKit.s_sp hc.q)
      exact plainKit.sp (pc_w "ANALYZE" (by simp [restWords])).q (plainKit.sp (pc_w "TABLE" (by simp [restWords])).q
        (plainKit.sp (pc_tn t ht).1.q h3))

theorem pr_analyze (t : TableName) (p : Option (List Expr)) (fc cm ns : Bool) (ht : tblLeaf t) (hd : (d == .HIVE || d == .MYSQL) = true)
    (hf : if d == .HIVE then TDM2.partOK d p = true else True) (hl : On2 (leafOK2 d) (leavesPart p)) :
    PR.prStmt d (.analyze t p fc cm ns) = .ok (String.ofList (analyzeL d t p fc cm ns)) := by
  delta analyzeL
  cases hh : (d == Gen.D.HIVE)
  · have hm : (d == Gen.D.MYSQL) = true := by simpa [hh] using hd
    simp only [PR.prStmt, hh, hm, Bool.false_eq_true, ↓reduceIte, (pc_tn t ht).2]
    refine congrArg Except.ok (ofList_eq ?_)
    have e1 : ("ANALYZE TABLE " : String).toList = "ANALYZE".toList ++ ' ' :: ("TABLE".toList ++ [' ']) := by simp
    simp only [toString, String.toList_append, String.toList_ofList, e1]
    simp
  · simp only [hh, ↓reduceIte] at hf ⊢
    obtain ⟨_, _, h3⟩ := part_good (K := plainKit) dw_plain p hf (lv2_plain hl)
    have fin : ∀ v : String, (s!"ANALYZE TABLE {PR.tn t} {v} COMPUTE STATISTICS{if fc then " FOR COLUMNS" else ""}{if cm then " CACHE METADATA" else ""}{if ns then " NOSCAN" else ""}").toList =
        "ANALYZE".toList ++ ' ' :: ("TABLE".toList ++ ' ' :: (tnL t ++ ' ' :: (v.toList ++ ' ' :: ("COMPUTE".toList ++ tailL (analyzeTailP fc cm ns))))) := by
      intro v
      have e1 : ("ANALYZE TABLE " : String).toList = "ANALYZE".toList ++ ' ' :: ("TABLE".toList ++ [' ']) := by simp
      have e2 : (" COMPUTE STATISTICS" : String).toList = ' ' :: ("COMPUTE".toList ++ ' ' :: "STATISTICS".toList) := by simp
      have e3 : (" " : String).toList = [' '] := rfl
      simp only [toString, String.toList_append, String.toList_ofList, e1, e2, e3, (pc_tn t ht).2,
        LD.ite_toList fc " FOR COLUMNS" ["FOR", "COLUMNS"] (by simp [wordsP]),
        LD.ite_toList cm " CACHE METADATA" ["CACHE", "METADATA"] (by simp [wordsP]),
        LD.ite_toList ns " NOSCAN" ["NOSCAN"] (by simp [wordsP])]
      delta analyzeTailP
      simp only [LD.tailL_cons, LD.tailL_append, List.append_assoc, List.cons_append, List.nil_append]
    cases p with
    | none =>
      simp only [PR.prStmt, hh, ↓reduceIte, bind, Except.bind, pure, Except.pure]
      refine congrArg Except.ok (ofList_eq ?_)
      rw [fin]
      simp [partPieces]
    | some es =>
      have h3' : Except.map (fun x => x ++ " ") (PR.prPartition d es) = .ok (String.ofList (ps (partPieces d (some es)))) := h3
      simp only [PR.prStmt, hh, ↓reduceIte, h3', bind, Except.bind, pure, Except.pure]
      refine congrArg Except.ok (ofList_eq ?_)
      rw [fin]
      simp

def showColsL (d : Gen.D) (fr : List FromTable) (wh : Option Expr) : List Char :=
  "SHOW".toList ++ ' ' :: ("COLUMNS".toList ++ ' ' :: (("FROM".toList ++ ' ' :: joinLL [',', ' '] (fr.map (table4L d))) ++ pc (opt4LL d "WHERE" wh)))

theorem tables_good (ts : List FromTable) (hf : tablesOK4 d ts = true) (hl : On2 (leafOK2 d) (leavesTables4 ts)) : ∀ t ∈ ts, GT4 d plainKit t :=
  tables_rec (n := szTables ts) QWc.out (fun e _ => good_expr d plainKit QWc.out e) (fun q _ => good_query d plainKit QWc.out q) ts
    (Nat.le_refl _) hf (lv2_plain hl)

theorem show_good (fr : List FromTable) (wh : Option Expr) (hf : TQ2.fromOK4 d (some fr) = true) (hw : TQ2.FragO4 d wh = true)
    (hl : On2 (leafOK2 d) (leavesTables4 fr ++ leavesO4 wh)) :
    Pc (showColsL d fr wh) (TR.toksShowColumns d fr wh) ∧ PR.prStmt d (.showColumns fr wh) = .ok (String.ofList (showColsL d fr wh)) := by
  rw [on2_append] at hl
  cases fr with
  | nil => simp [TQ2.fromOK4] at hf
  | cons t ts =>
    have hall := tables_good (t :: ts) (by simpa [TQ2.fromOK4, TQ2.tablesOK4] using hf) hl.1
    have hwg : ∀ e, wh = some e → GE4 d plainKit e := opt_good wh hw (lv2_plain hl.2)
    have cf := cl_from (K := plainKit) (some (t :: ts)) (by simp) (fun l hl' => by cases hl'; exact hall)
    have cw := cl_where (K := plainKit) wh hwg
    have l1 : (opt4LL d "WHERE" wh).length ≤ 1 := by cases wh <;> simp [opt4LL]
    have hfl : Lx ("FROM".toList ++ ' ' :: joinLL [',', ' '] ((t :: ts).map (table4L d))) (toksFrom4 d noX (some (t :: ts))) := by
      have := cf.seg.lx (by simp [from4LL])
      exact Lx.congr this (by simp [from4LL, joinLL, tablesLL_eq]) rfl
    have hfq : allP ("FROM".toList ++ ' ' :: joinLL [',', ' '] ((t :: ts).map (table4L d))) = true := by
      have := cf.q ("FROM".toList ++ ' ' :: joinLL [',', ' '] (table4L d t :: tables4LL d ts)) (by simp [from4LL])
      rw [tablesLL_eq] at this
      exact this
    refine ⟨⟨?_, ?_⟩, ?_⟩
    · have := Lx.sep (pc_w "SHOW" (by simp [restWords])).lx (Lx.sep (pc_w "COLUMNS" (by simp [restWords])).lx (lx_pc hfl (seg_sp cw.seg l1)))
      delta showColsL TR.toksShowColumns
      exact Lx.congr this (by simp) (by simp)
    · delta showColsL
      exact plainKit.sp (pc_w "SHOW" (by simp [restWords])).q (plainKit.sp (pc_w "COLUMNS" (by simp [restWords])).q
        (q_pc plainKit _ cw.q _ hfq))
    · have fin : ∀ v : String, (s!"SHOW COLUMNS FROM {PR.joinS ", " (((t :: ts).map (table4L d)).map String.ofList)}{v}").toList =
          "SHOW".toList ++ ' ' :: ("COLUMNS".toList ++ ' ' :: (("FROM".toList ++ ' ' :: joinLL [',', ' '] ((t :: ts).map (table4L d))) ++ v.toList)) := by
        intro v
        have e1 : ("SHOW COLUMNS FROM " : String).toList = "SHOW".toList ++ ' ' :: ("COLUMNS".toList ++ ' ' :: ("FROM".toList ++ [' '])) := by simp
        have e3 : (", " : String).toList = [',', ' '] := rfl
        simp only [toString, String.toList_append, toList_joinS, e1, e3, map_map_ofList]
        simp only [List.append_assoc, List.cons_append, List.nil_append]
      delta showColsL
      cases wh with
      | none =>
        simp only [PR.prStmt, pr_fromList (t :: ts) hall, bind, Except.bind, pure, Except.pure]
        refine congrArg Except.ok (ofList_eq ?_)
        rw [fin]
        simp [opt4LL]
      | some e =>
        simp only [PR.prStmt, (hwg e rfl).pr, Except.map, pr_fromList (t :: ts) hall, bind, Except.bind, pure, Except.pure]
        refine congrArg Except.ok (ofList_eq ?_)
        rw [fin]
        simp [toString, String.toList_append, String.toList_ofList, opt4LL, pc]

theorem select_good (q : Query) (h : TR.selOK d q = true) (hl : On2 (leafOK2 d) (leavesStmt (.select q))) :
    Pc (stmtL d (.select q)) (TR.toksSel d q) ∧ PR.prQ d q = .ok (String.ofList (stmtL d (.select q))) := by
  by_cases h1 : TDM2.FragStmt d (.select q) = true
  · have g := good_stmt (K := plainKit) dw_plain (.select q) h1 rfl (lv2_plain hl)
    refine ⟨⟨?_, g.q⟩, g.pr⟩
    have := g.lx
    simp only [TR.toksSel, h1, if_true]
    exact this
  · have h2 : TQ2.FragQ2 d q = true := by simpa [TR.selOK, h1] using h
    have hw := TR.withsOf_fragQ2 q h2
    have e1 : stmtL d (.select q) = prQ2L d q := by simp only [stmtL, hw, withPrefixL, List.nil_append]
    have hl2 : On2 (leafOK2 d) (leavesQ2 q) := by
      have := hl
      simp only [leavesStmt, hw, leavesWiths, leavesWL, List.nil_append] at this
      exact this
    have g := good_query d plainKit QWc.out q h2 (lv2_plain hl2)
    rw [e1]
    refine ⟨⟨?_, g.q⟩, g.pr⟩
    simp only [TR.toksSel, h1, Bool.false_eq_true, if_false]
    exact g.lx

def ctasL (d : Gen.D) (t : TableName) (ine : Bool) (q : Query) : List Char :=
  "CREATE".toList ++ tailL ("TABLE".toList :: (flagP ine ["IF", "NOT", "EXISTS"] ++ [tnL t, "AS".toList, stmtL d (.select q)]))

theorem ctas_good (t : TableName) (ine : Bool) (q : Query) (ht : tblLeaf t) (h : TR.selOK d q = true)
    (hl : On2 (leafOK2 d) (leavesStmt (.select q))) :
    Pc (ctasL d t ine q) (TR.toksCreateAs d t ine q) ∧ PR.prStmt d (.createTableAs t ine q) = .ok (String.ofList (ctasL d t ine q)) := by
  obtain ⟨hq, hp⟩ := select_good q h hl
  refine ⟨?_, ?_⟩
  · have := Pc.tail (pc_w "CREATE" (by simp [restWords])) (SegP.cons (pc_w "TABLE" (by simp [restWords]))
      (SegP.append (segp_flag ine ["IF", "NOT", "EXISTS"] (by simp [restWords])) (SegP.cons (pc_tn t ht).1
        (SegP.cons (pc_w "AS" (by simp [restWords])) (SegP.one hq)))))
    delta ctasL TR.toksCreateAs
    refine this.congr rfl ?_
    cases ine <;> simp [TD.flag]
  · simp only [PR.prStmt, hp, Except.map, (pc_tn t ht).2]
    refine congrArg Except.ok (ofList_eq ?_)
    have e1 : ("CREATE TABLE " : String).toList = "CREATE".toList ++ ' ' :: ("TABLE".toList ++ [' ']) := by simp
    have e2 : ("IF NOT EXISTS " : String).toList = "IF".toList ++ ' ' :: ("NOT".toList ++ ' ' :: ("EXISTS".toList ++ [' '])) := by simp
    have e3 : (" AS " : String).toList = ' ' :: ("AS".toList ++ [' ']) := by simp
    delta ctasL
    cases ine
    · simp only [Bool.false_eq_true, ↓reduceIte, toString, String.toList_append, String.toList_ofList, e1, e3, flagP]
      simp
    · simp only [↓reduceIte, toString, String.toList_append, String.toList_ofList, e1, e2, e3, flagP, wordsP]
      simp

end LL2.Any
