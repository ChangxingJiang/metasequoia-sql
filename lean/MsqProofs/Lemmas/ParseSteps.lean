import MsqModel.Parse.Stmt
/-!
# What one unfolding of the long statement-level functions does

`pStatement` is a chain of twelve keyword tests and a `match`; `defColLoop` and `createOpts` are loops whose body is a stop test and
then a chain of eleven / fifteen keyword tests with a structure update and the recursive call in every branch.  Taking such a chain apart costs time
quadratic in its length, so it is done here once per function, as a case principle over an arbitrary predicate on the run, and
every family of per-function lemmas (consumption, adequacy, accounting, …) applies the principle and names the callee's lemma in
each branch.

The two loops share one shape: a stop test, else ONE attribute parser that answers how the record changes and where the cursor
stands, then the loop again (`attrLoop`).  What a family needs of a loop is then a fact about `attrLoop` (proved once, by induction
on the counter) and a fact about the attribute parser (no recursion, no record).
-/
open Lex
namespace PM
open Ast

theorem ite_split {α : Type} {c : Prop} [Decidable c] {a b x : α} (h : (if c then a else b) = x) : (c ∧ a = x) ∨ (¬ c ∧ b = x) := by
  by_cases hc : c <;> simp_all
/-- take the leading `if` of the hypothesis `h` apart; `hc` names its condition.  The `change` in front tests the head symbol: it
unifies under the reducible transparency and fails at once on a `match` or a pair.  The term `ite_split h` alone is not given up so
soon where it does not fit: the elaborator postpones the search for a coercion and at every retry unifies the two types with all
definitions unfolded, which on a hypothesis that holds a look-up in a keyword list evaluates the look-up. -/
macro "peel_if " h:ident " with " hc:ident : tactic =>
  `(tactic| ((with_reducible change ite _ _ _ = _ at $h:ident); (with_reducible have h' := ite_split $h:ident); clear $h:ident;
             rcases h' with ⟨$hc:ident, $h:ident⟩ | ⟨$hc:ident, $h:ident⟩))

set_option hygiene false in
/-- split the hypothesis `h` about a run completely (every `if`, every `match`).  A leading `if` is taken apart by `ite_split`
before `split at h` is tried: `split` simplifies the whole hypothesis at every step, which on the `if` chains of the statement
level is most of the work of a proof (and exceeds the step limit where the branches hold structure updates). -/
macro "split_run" : tactic => `(tactic| repeat' (first | peel_if h with hc | split at h))

theorem ite_cases {α : Type} {P : α → Prop} {c : Prop} [Decidable c] {a b : α} (ha : c → P a) (hb : ¬ c → P b) :
    P (if c then a else b) := by
  by_cases hc : c
  · rw [if_pos hc]; exact ha hc
  · rw [if_neg hc]; exact hb hc

theorem pStatement_body_cases {P : R Stmt → Prop} (d : Gen.D) (f : Nat) (withs : List WithTable) (r : List Tok)
    (selectErr : ∀ e, pSelectStmt d f (some withs) r = .error e → P (.error e))
    (select : ∀ q r1, pSelectStmt d f (some withs) r = .ok (q, r1) → P (.ok (.select q, r1)))
    (insert : searchStrUp r "INSERT" = true → P (pInsert d f (some withs) r))
    (update : searchStrUp r "UPDATE" = true → P (pUpdate d f (some withs) r))
    (other : P (.error .parse)) :
    P (if searchStrUp r "SELECT" then (match pSelectStmt d f (some withs) r with | .ok (q, r1) => .ok (.select q, r1) | .error e => .error e)
       else if searchStrUp r "INSERT" then pInsert d f (some withs) r
       else if searchStrUp r "UPDATE" then pUpdate d f (some withs) r
       else .error .parse) := by
  refine ite_cases (fun _ => ?_) fun _ => ite_cases insert fun _ => ite_cases update fun _ => other
  cases h : pSelectStmt d f (some withs) r with
  | error e => exact selectErr e h
  | ok v => exact select v.1 v.2 h

/-- `pStatement` runs the parser of the statement class its first words select; a statement without such words is a WITH clause
followed by SELECT, INSERT or UPDATE.  A premise keeps only the test that selects its branch: that the earlier tests failed is dropped,
and so is `searchStrUp r "SELECT" = true` in `selectErr` / `select` (no family needs either). -/
theorem pStatement_cases {P : R Stmt → Prop} (d : Gen.D) (f : Nat) (ts : List Tok)
    (set : searchStrUp ts "SET" = true → P (pSet ts))
    (delete : searchTwoUp ts "DELETE" "FROM" = true → P (pDelete d f ts))
    (dropTable : searchTwoUp ts "DROP" "TABLE" = true → P (pDropTable ts))
    (createTable : searchTwoUp ts "CREATE" "TABLE" = true → P (pCreateTable d f ts))
    (analyze : searchTwoUp ts "ANALYZE" "TABLE" = true → P (pAnalyze d f ts))
    (alter : searchTwoUp ts "ALTER" "TABLE" = true → P (pAlter d f ts))
    (msck : searchThreeUp ts "MSCK" "REPAIR" "TABLE" = true → P (pMsck ts))
    (use : searchStrUp ts "USE" = true → P (pUse ts))
    (truncate : searchTwoUp ts "TRUNCATE" "TABLE" = true → P (pTruncate ts))
    (showDatabases : searchTwoUp ts "SHOW" "DATABASES" = true → P (.ok (.showDatabases, ts.drop 2)))
    (showTables : searchTwoUp ts "SHOW" "TABLES" = true → P (.ok (.showTables, ts.drop 2)))
    (showColumns : searchTwoUp ts "SHOW" "COLUMNS" = true → P (pShowColumns d f ts))
    (withErr : ∀ e, pWith d f ts = .error e → P (.error e))
    (selectErr : ∀ withs r e, pWith d f ts = .ok (withs, r) → pSelectStmt d f (some withs) r = .error e → P (.error e))
    (select : ∀ withs r q r1, pWith d f ts = .ok (withs, r) → pSelectStmt d f (some withs) r = .ok (q, r1) → P (.ok (.select q, r1)))
    (insert : ∀ withs r, pWith d f ts = .ok (withs, r) → searchStrUp r "INSERT" = true → P (pInsert d f (some withs) r))
    (update : ∀ withs r, pWith d f ts = .ok (withs, r) → searchStrUp r "UPDATE" = true → P (pUpdate d f (some withs) r))
    (other : P (.error .parse)) :
    P (pStatement d f ts) := by
  unfold pStatement
  refine ite_cases set fun _ => ite_cases delete fun _ => ite_cases dropTable fun _ => ite_cases createTable fun _ =>
    ite_cases analyze fun _ => ite_cases alter fun _ => ite_cases msck fun _ => ite_cases use fun _ => ite_cases truncate fun _ =>
    ite_cases showDatabases fun _ => ite_cases showTables fun _ => ite_cases showColumns fun _ => ?_
  cases h : pWith d f ts with
  | error e => exact withErr e h
  | ok v =>
    exact pStatement_body_cases d f v.1 v.2 (selectErr v.1 v.2 · h) (select v.1 v.2 · · h) (insert v.1 v.2 h) (update v.1 v.2 h) other

/-! ### the attribute loops `defColLoop` and `createOpts` -/

def andThen {α β : Type} (x : R α) (k : α → List Tok → R β) : R β :=
  match x with | .ok (a, r) => k a r | .error e => .error e

theorem ite_andThen {α β : Type} {c : Prop} [Decidable c] {a b : R β} {x y : R α} (k : α → List Tok → R β)
    (ha : c → a = andThen x k) (hb : ¬ c → b = andThen y k) : (if c then a else b) = andThen (if c then x else y) k := by
  by_cases hc : c
  · rw [if_pos hc, if_pos hc]; exact ha hc
  · rw [if_neg hc, if_neg hc]; exact hb hc

def attrLoop {σ : Type} (stop : List Tok → Bool) (attr : List Tok → R (σ → σ)) : Nat → σ → List Tok → R σ
  | 0, _, _ => .error .fuel
  | g+1, c, ts => if stop ts then .ok (c, ts) else andThen (attr ts) fun u r => attrLoop stop attr g (u c) r

theorem attrLoop_cases {σ : Type} {P : R σ → Prop} (stop : List Tok → Bool) (attr : List Tok → R (σ → σ)) (g : Nat) (c : σ) (ts : List Tok)
    (stopped : stop ts = true → P (.ok (c, ts)))
    (attrErr : ∀ e, stop ts = false → attr ts = .error e → P (.error e))
    (next : ∀ u r, stop ts = false → attr ts = .ok (u, r) → P (attrLoop stop attr g (u c) r)) :
    P (attrLoop stop attr (g+1) c ts) := by
  rw [attrLoop]
  refine ite_cases stopped fun hs => ?_
  rcases h : attr ts with e | ⟨u, r⟩
  · exact attrErr e (by simpa using hs) h
  · exact next u r (by simpa using hs) h

def defColStop (ts : List Tok) : Bool := ts.isEmpty || searchStr ts ";" || searchStr ts ","

def defColAttr (d : Gen.D) (f : Nat) (ts : List Tok) : R (DefCol → DefCol) :=
  if searchTwoUp ts "NOT" "NULL" then .ok (fun c => { c with notNull := true }, ts.drop 2)
  else if searchStrUp ts "NULL" then .ok (fun c => { c with allowNull := true }, ts.drop 1)
  else if searchTwoUp ts "CHARACTER" "SET" then
    (match popSrc (ts.drop 2) with | .ok (s, r) => .ok (fun c => { c with charset := some s }, r) | .error e => .error e)
  else if searchStrUp ts "COLLATE" then
    (match popSrc (ts.drop 1) with | .ok (s, r) => .ok (fun c => { c with collate := some s }, r) | .error e => .error e)
  else if searchStrUp ts "DEFAULT" then
    (match pCompute d f (ts.drop 1) with | .ok (e, r) => .ok (fun c => { c with default := some e }, r) | .error e => .error e)
  else if searchStrUp ts "COMMENT" then
    (match popSrc (ts.drop 1) with | .ok (s, r) => .ok (fun c => { c with comment := some s }, r) | .error e => .error e)
  else if searchTwoUp ts "ON" "UPDATE" then
    (match pCompute d f (ts.drop 2) with | .ok (e, r) => .ok (fun c => { c with onUpdate := some e }, r) | .error e => .error e)
  else if searchStrUp ts "AUTO_INCREMENT" then .ok (fun c => { c with autoInc := true }, ts.drop 1)
  else if searchStrUp ts "UNSIGNED" then .ok (fun c => { c with unsigned := true }, ts.drop 1)
  else if searchStrUp ts "ZEROFILL" then .ok (fun c => { c with zerofill := true }, ts.drop 1)
  else if searchStrUp ts "GENERATED" then
    (match pGenerated d f ts with
     | .ok (some gc, r) => .ok (fun c => { c with generated := some gc }, r)
     | .ok (none, _) => .error .parse
     | .error e => .error e)
  else .error .parse

theorem defColLoop_succ (d : Gen.D) (f g : Nat) (c : DefCol) (ts : List Tok) :
    defColLoop d f (g+1) c ts =
      if defColStop ts then .ok (c, ts) else andThen (defColAttr d f ts) fun u r => defColLoop d f g (u c) r := by
  rw [defColLoop]; unfold defColAttr
  refine ite_congr rfl (fun _ => rfl) fun _ => ?_
  refine ite_andThen _ (fun _ => by rfl) fun _ => ite_andThen _ (fun _ => by rfl) fun _ => ?_
  refine ite_andThen _ (fun _ => by rcases popSrc (ts.drop 2) with _ | ⟨s, r⟩ <;> rfl) fun _ => ?_
  refine ite_andThen _ (fun _ => by rcases popSrc (ts.drop 1) with _ | ⟨s, r⟩ <;> rfl) fun _ => ?_
  refine ite_andThen _ (fun _ => by rcases pCompute d f (ts.drop 1) with _ | ⟨s, r⟩ <;> rfl) fun _ => ?_
  refine ite_andThen _ (fun _ => by rcases popSrc (ts.drop 1) with _ | ⟨s, r⟩ <;> rfl) fun _ => ?_
  refine ite_andThen _ (fun _ => by rcases pCompute d f (ts.drop 2) with _ | ⟨s, r⟩ <;> rfl) fun _ => ?_
  refine ite_andThen _ (fun _ => by rfl) fun _ => ite_andThen _ (fun _ => by rfl) fun _ => ite_andThen _ (fun _ => by rfl) fun _ => ?_
  refine ite_andThen _ (fun _ => by rcases pGenerated d f ts with _ | ⟨_ | gc, r⟩ <;> rfl) fun _ => by rfl

theorem defColLoop_eq (d : Gen.D) (f : Nat) : ∀ g c ts, defColLoop d f g c ts = attrLoop defColStop (defColAttr d f) g c ts := by
  intro g
  induction g with
  | zero => intro c ts; rfl
  | succ g ih => intro c ts; rw [defColLoop_succ, attrLoop]; simp only [ih]

def createStop (ts : List Tok) : Bool := ts.isEmpty || searchStr ts ";"

def createOpt (d : Gen.D) (f : Nat) (ts : List Tok) : R (CreateTable → CreateTable) :=
  if searchStrUp ts "ENGINE" then
    (match optEqSrc (ts.drop 1) with | .ok (s, r) => .ok (fun c => { c with engine := some s }, r) | .error e => .error e)
  else if searchStrUp ts "AUTO_INCREMENT" then
    (match popInt (moveStr (ts.drop 1) "=").2 with | .ok (n, r) => .ok (fun c => { c with autoIncrement := some n }, r) | .error e => .error e)
  else if searchTwoUp ts "DEFAULT" "CHARSET" then
    (match optEqSrc (ts.drop 2) with | .ok (s, r) => .ok (fun c => { c with defaultCharset := some s }, r) | .error e => .error e)
  else if searchStrUp ts "ROW_FORMAT" then
    (match optEqSrc (ts.drop 1) with | .ok (s, r) => .ok (fun c => { c with rowFormat := some s }, r) | .error e => .error e)
  else if searchStrUp ts "COLLATE" then
    (match optEqSrc (ts.drop 1) with | .ok (s, r) => .ok (fun c => { c with collate := some s }, r) | .error e => .error e)
  else if searchStrUp ts "COMMENT" then
    (match optEqSrc (ts.drop 1) with | .ok (s, r) => .ok (fun c => { c with comment := some s }, r) | .error e => .error e)
  else if searchStrUp ts "STATS_PERSISTENT" then
    (match optEqSrc (ts.drop 1) with | .ok (s, r) => .ok (fun c => { c with statesPersistent := some s }, r) | .error e => .error e)
  else if searchTwoUp ts "PARTITIONED" "BY" then
    (match popSplit (ts.drop 2) with
     | .error e => .error e
     | .ok (segs, r) => match eachClosed (pDefCol d f) segs with
       | .ok cs => .ok (fun c => { c with partitionedBy := c.partitionedBy ++ cs }, r) | .error e => .error e)
  else if searchThreeUp ts "ROW" "FORMAT" "SERDE" then
    (match optEqSrc (ts.drop 3) with | .ok (s, r) => .ok (fun c => { c with rowFormatSerde := some s }, r) | .error e => .error e)
  else if searchSeq ts ["ROW", "FORMAT", "DELIMITED", "FIELDS", "TERMINATED", "BY"] then
    (match optEqSrc (ts.drop 6) with | .ok (s, r) => .ok (fun c => { c with rowFormatDelimited := some s }, r) | .error e => .error e)
  else if searchThreeUp ts "STORED" "AS" "INPUTFORMAT" then
    (match optEqSrc (ts.drop 3) with | .ok (s, r) => .ok (fun c => { c with storedAsInputformat := some s }, r) | .error e => .error e)
  else if searchThreeUp ts "STORED" "AS" "TEXTFILE" then .ok (fun c => { c with storedAsTextfile := true }, ts.drop 3)
  else if searchStrUp ts "OUTPUTFORMAT" then
    (match optEqSrc (ts.drop 1) with | .ok (s, r) => .ok (fun c => { c with outputformat := some s }, r) | .error e => .error e)
  else if searchStrUp ts "LOCATION" then
    (match optEqSrc (ts.drop 1) with | .ok (s, r) => .ok (fun c => { c with location := some s }, r) | .error e => .error e)
  else if searchStrUp ts "TBLPROPERTIES" then
    (match popSplit (ts.drop 1) with
     | .error e => .error e
     | .ok (segs, r) => match eachClosed pConfigStrExpr segs with
       | .ok ps => .ok (fun c => { c with tblproperties := c.tblproperties ++ ps }, r) | .error e => .error e)
  else .error .parse

theorem createOpts_succ (d : Gen.D) (f g : Nat) (c : CreateTable) (ts : List Tok) :
    createOpts d f (g+1) c ts =
      if createStop ts then .ok (c, ts) else andThen (createOpt d f ts) fun u r => createOpts d f g (u c) r := by
  rw [createOpts]; unfold createOpt
  refine ite_congr rfl (fun _ => rfl) fun _ => ?_
  refine ite_andThen _ (fun _ => by rcases optEqSrc (ts.drop 1) with _ | ⟨s, r⟩ <;> rfl) fun _ => ?_
  refine ite_andThen _ (fun _ => by rcases popInt (moveStr (ts.drop 1) "=").2 with _ | ⟨s, r⟩ <;> rfl) fun _ => ?_
  refine ite_andThen _ (fun _ => by rcases optEqSrc (ts.drop 2) with _ | ⟨s, r⟩ <;> rfl) fun _ => ?_
  refine ite_andThen _ (fun _ => by rcases optEqSrc (ts.drop 1) with _ | ⟨s, r⟩ <;> rfl) fun _ => ?_
  refine ite_andThen _ (fun _ => by rcases optEqSrc (ts.drop 1) with _ | ⟨s, r⟩ <;> rfl) fun _ => ?_
  refine ite_andThen _ (fun _ => by rcases optEqSrc (ts.drop 1) with _ | ⟨s, r⟩ <;> rfl) fun _ => ?_
  refine ite_andThen _ (fun _ => by rcases optEqSrc (ts.drop 1) with _ | ⟨s, r⟩ <;> rfl) fun _ => ?_
  refine ite_andThen _ (fun _ => by
    rcases popSplit (ts.drop 2) with _ | ⟨segs, r⟩; · rfl
    dsimp only; rcases eachClosed (pDefCol d f) segs with _ | cs <;> rfl) fun _ => ?_
  refine ite_andThen _ (fun _ => by rcases optEqSrc (ts.drop 3) with _ | ⟨s, r⟩ <;> rfl) fun _ => ?_
  refine ite_andThen _ (fun _ => by rcases optEqSrc (ts.drop 6) with _ | ⟨s, r⟩ <;> rfl) fun _ => ?_
  refine ite_andThen _ (fun _ => by rcases optEqSrc (ts.drop 3) with _ | ⟨s, r⟩ <;> rfl) fun _ => ?_
  refine ite_andThen _ (fun _ => by rfl) fun _ => ?_
  refine ite_andThen _ (fun _ => by rcases optEqSrc (ts.drop 1) with _ | ⟨s, r⟩ <;> rfl) fun _ => ?_
  refine ite_andThen _ (fun _ => by rcases optEqSrc (ts.drop 1) with _ | ⟨s, r⟩ <;> rfl) fun _ => ?_
  refine ite_andThen _ (fun _ => by
    rcases popSplit (ts.drop 1) with _ | ⟨segs, r⟩; · rfl
    dsimp only; rcases eachClosed pConfigStrExpr segs with _ | cs <;> rfl) fun _ => by rfl

theorem createOpts_eq (d : Gen.D) (f : Nat) : ∀ g c ts, createOpts d f g c ts = attrLoop createStop (createOpt d f) g c ts := by
  intro g
  induction g with
  | zero => intro c ts; rfl
  | succ g ih => intro c ts; rw [createOpts_succ, attrLoop]; simp only [ih]

end PM
