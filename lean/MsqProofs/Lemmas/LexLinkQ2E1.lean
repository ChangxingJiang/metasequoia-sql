import MsqProofs.Lemmas.LexLinkQ2Defs
import MsqProofs.Lemmas.LexLinkPc
/-!
# The lexer link for the larger fragment: expression nodes (operators, atoms)

What does not mention the mirror, the rendering or the records is reused from `LexLink` (`LexLinkQuery*.lean`).
-/
namespace LL2
open Lex Spec C05 C06 C09 Ast TP TS LexLink TQ2

section
variable {d : Gen.D} {K : QKit}

/-- `fc`: the text is not empty and does not begin with `=` — what a prefix `!` glued to its operand needs of it (`ge_unary`, `tk_bang`) -/
structure GE4 (d : Gen.D) (K : QKit) (e : Expr) : Prop where
  lx : Lx (prE4L d e) (toksE4 d noX e)
  pr : PR.prE d e = .ok (String.ofList (prE4L d e))
  q : K.Q (prE4L d e)
  fc : ∃ c b', prE4L d e = c :: b' ∧ c ≠ '='

theorem GE4.w {e : Expr} (h : GE4 d K e) (k : Nat) : Lx (wrapL e k (prE4L d e)) (wrapT (noX e) e k (toksE4 d noX e)) := lx_wrap h.lx

theorem GE4.qw {e : Expr} (h : GE4 d K e) (k : Nat) : K.Q (wrapL e k (prE4L d e)) := K.wrap e k h.q

theorem GE4.pc {e : Expr} (h : GE4 d K e) : Pc K (prE4L d e) (toksE4 d noX e) := ⟨h.lx, h.q⟩
theorem GE4.pcw {e : Expr} (h : GE4 d K e) (k : Nat) : Pc K (wrapL e k (prE4L d e)) (wrapT (noX e) e k (toksE4 d noX e)) := h.pc.wrap e k
theorem GE4.of {e : Expr} (h : Pc K (prE4L d e) (toksE4 d noX e)) (pr : PR.prE d e = .ok (String.ofList (prE4L d e)))
    (fc : ∃ c b', prE4L d e = c :: b' ∧ c ≠ '=') : GE4 d K e := ⟨h.lx, pr, h.q, fc⟩

theorem GE4.fcw {e : Expr} (h : GE4 d K e) (k : Nat) (rest : List Char) : ∃ c b', wrapL e k (prE4L d e) ++ rest = c :: b' ∧ c ≠ '=' := by
  unfold wrapL
  split
  · exact ⟨'(', _, rfl, by decide⟩
  · obtain ⟨c, b', hc, hne⟩ := h.fc
    exact ⟨c, b' ++ rest, by rw [hc]; rfl, hne⟩

theorem GE4.prw {e : Expr} (h : GE4 d K e) (k : Nat) :
    (PR.prE d e).map (PR.wrap e k) = .ok (String.ofList (wrapL e k (prE4L d e))) := by
  rw [h.pr]; simp only [Except.map, wrap_ofList]

/-- a column is complete with its closing back-quote, whatever follows -/
theorem any_col (t : Option String) (c : String) (hl : leafOK d (.col t c)) :
    LxAny (prE4L d (.column t c)) (toksE4 d noX (.column t c)) := by
  cases t with
  | none =>
    have h : colLex d c := hl
    exact (lxany_name c.toList fun x hx => (h.2 x hx).1).congr (by simp [prE4L]) (by simp [toksE4, nameTok_eq])
  | some t =>
    have h : qcolLex d t c := hl
    exact (LxD.prefix (LxD.prefix (lxany_name c.toList fun x hx => (h.2.2 x hx).1) rfl (tk_dot '`')) rfl
      (tk_bq t.toList (fun x hx => (h.2.1 x hx).1) '.')).congr (by simp [prE4L]) (by simp [toksE4, dotTok_eq, nameTok_eq])

theorem ge_col (c : String) (hl : colLex d c) (hq : K.Q c.toList) : GE4 d K (.column none c) where
  lx := (any_col none c hl).lx
  pr := by
    simp only [PR.prE, prE4L]
    exact ok_ofList hl.1
  q := K.bq hq
  fc := ⟨'`', _, rfl, by decide⟩

theorem ge_qcol (t c : String) (hl : qcolLex d t c) (hqt : K.Q t.toList) (hqc : K.Q c.toList) : GE4 d K (.column (some t) c) where
  lx := (any_col (some t) c hl).lx
  pr := by
    simp only [PR.prE, prE4L]
    exact ok_ofList hl.1
  q := by
    have := K.sep _ _ '.' K.s_dot (K.bq hqt) (K.bq hqc)
    simpa [prE4L] using this
  fc := ⟨'`', _, rfl, by decide⟩

theorem ge_lit (v : String) (hf : litOK d v = true) (hl : litLex v) (hq : K.Q v.toList) : GE4 d K (.literal v) where
  lx := lx_lit d v hf hl
  pr := by simp [PR.prE, prE4L, String.ofList_toList]
  q := hq
  fc := lit_fc v hl

theorem ge_star : GE4 d K (.wildcard none) where
  lx := lx_qw "*" (by simp [queryWords])
  pr := by simp only [PR.prE, prE4L]
  q := K.word "*" (mem_qw (by simp [queryWords]))
  fc := ⟨'*', _, rfl, by decide⟩

theorem ge_wild (t : String) (hl : nameLex t) (hq : K.Q t.toList) : GE4 d K (.wildcard (some t)) where
  lx := by
    have h1 := lx_qw "*" (by simp [queryWords])
    have h2 := Lx.prefix h1 (c := '*') (b' := []) rfl (tk_dot '*')
    have h3 := Lx.prefix h2 (c := '.') rfl (tk_qname t (fun x hx => (hl x hx).1) '.' (Or.inr rfl))
    exact Lx.congr h3 (by simp [prE4L]) (by simp [toksE4, dotTok_eq, starTok_eq])
  pr := by
    simp only [PR.prE, prE4L]
    refine ok_ofList ?_
    simp [toString, String.toList_append, quoteName_toList]
  q := by
    have := K.sep _ _ '.' K.s_dot (q_qname t hq) (K.word "*" (mem_qw (by simp [queryWords])))
    simpa [prE4L] using this
  fc := by
    obtain ⟨c, r, hc, hne⟩ := qnameL_fc t
    exact ⟨c, r ++ ['.', '*'], by simp [prE4L, hc], hne⟩

theorem ge_unary (o : String) (y : Expr) (ho : unOK d o = true) (hy : GE4 d K y) : GE4 d K (.unary o y) := by
  have hb := hy.pcw 2
  have hop : Pc K _ _ := pc_cval o (unOK_prints ho)
  have hsp := unary_spelling d o (by simp only [unOK, Bool.and_eq_true] at ho; exact ho.1.1.1)
  have hfc : ∃ c b', (cval o).toList = c :: b' ∧ c ≠ '=' := by
    rcases hsp with e | e | e | e <;> rw [e] <;> exact ⟨_, _, rfl, by decide⟩
  refine GE4.of ?_ ?_ ?_
  · simp only [prE4L, toksE4]
    split
    · exact (hop.sep hb).congr rfl (by simp)
    · rename_i hcond
      obtain ⟨c, b', hc, hne⟩ := hy.fcw 2 []
      simp only [List.append_nil] at hc
      have h2 : (cval o).toList = ['-'] → c ≠ '-' := fun ha hcc => hcond ⟨ha, by rw [hc, hcc]; rfl⟩
      refine ⟨Lx.congr (Lx.prefix hb.lx hc (tk_unary (cval o).toList hsp c hne h2)) rfl (by simp [ctok, opTok_eq]), ?_⟩
      rcases hsp with e | e | e | e <;> rw [e]
      · exact K.pre K.s_un.1 hb.q
      · exact K.pre K.s_un.2.1 hb.q
      · exact K.pre K.s_un.2.2.1 hb.q
      · exact K.pre K.s_un.2.2.2 hb.q
  · simp only [PR.prE, hy.pr, unOK_prints ho, Except.map, bind, Except.bind, pure, Except.pure, wrap_ofList, minus_cond, prE4L]
    refine congrArg Except.ok ?_
    apply String.toList_inj.mp
    split <;> simp_all [toString, String.toList_append, String.toList_ofList]
  · obtain ⟨c, b', hc, hne⟩ := hfc
    simp only [prE4L]
    split <;> exact ⟨c, _, by rw [hc]; rfl, hne⟩

theorem pc_bin {w : List Char} {tw : List Tok} (hw : Pc K w tw) (a b : Nat) (l r : Expr) (hl : GE4 d K l) (hr : GE4 d K r) :
    Pc K (wrapL l a (prE4L d l) ++ ' ' :: (w ++ ' ' :: wrapL r b (prE4L d r)))
      (wrapT (noX l) l a (toksE4 d noX l) ++ (tw ++ wrapT (noX r) r b (toksE4 d noX r))) := (hl.pcw a).sep (hw.sep (hr.pcw b))

theorem ge_compute (l r : Expr) (o : String) (ho : binOK d o = true) (hl : GE4 d K l) (hr : GE4 d K r) : GE4 d K (.compute l o r) :=
  GE4.of ((pc_bin (pc_cval o (binOK_prints ho)) (PR.lvl (.compute l o r)) (PR.lvl (.compute l o r) - 1) l r hl hr).congr (by simp [prE4L]) (by simp [toksE4]))
    (by
      simp only [PR.prE, hl.pr, hr.pr, binOK_prints ho, Except.map, bind, Except.bind, pure, Except.pure, wrap_ofList, prE4L]
      refine congrArg Except.ok ?_
      apply String.toList_inj.mp
      simp [toString, String.toList_append, String.toList_ofList])
    (by simp only [prE4L]; exact hl.fcw _ _)

theorem ge_kw (k : KwKind) (n0 : Bool) (l r : Expr) (hl : GE4 d K l) (hr : GE4 d K r) : GE4 d K (.kw k n0 l r) :=
  GE4.of ((pc_bin ⟨lx_kwSrc3 k n0, q_kwSrc K k n0⟩ 9 8 l r hl hr).congr (by simp [prE4L]) (by simp [toksE4, noX]))
    (by
      simp only [PR.prE, hl.pr, hr.pr, Except.map, bind, Except.bind, pure, Except.pure, wrap_ofList, prE4L]
      refine congrArg Except.ok ?_
      apply String.toList_inj.mp
      simp [toString, String.toList_append, String.toList_ofList])
    (by simp only [prE4L]; exact hl.fcw _ _)

theorem ge_between (n0 : Bool) (b f t : Expr) (hb : GE4 d K b) (hf : GE4 d K f) (ht : GE4 d K t) : GE4 d K (.between n0 b f t) :=
  GE4.of
    (by
      have hBT : Pc K _ _ := (pc_kw "BETWEEN" (by simp [keywords])).sep (pc_bin (pc_kw "AND" (by simp [keywords])) 8 8 f t hf ht)
      cases n0 with
      | false => exact ((hb.pcw 9).sep hBT).congr (by simp [prE4L]) (by simp [toksE4])
      | true =>
        have hN : "NOT ".toList = "NOT".toList ++ [' '] := rfl
        exact ((hb.pcw 9).sep ((pc_kw "NOT" (by simp [keywords])).sep hBT)).congr (by simp [prE4L, hN]) (by simp [toksE4]))
    (by
      simp only [PR.prE, hb.pr, hf.pr, ht.pr, Except.map, bind, Except.bind, pure, Except.pure, wrap_ofList, prE4L]
      refine congrArg Except.ok ?_
      apply String.toList_inj.mp
      have hA : (" AND " : String).toList = ' ' :: ("AND".toList ++ [' ']) := rfl
      have hB : (" BETWEEN " : String).toList = ' ' :: ("BETWEEN".toList ++ [' ']) := rfl
      cases n0 <;> simp [toString, String.toList_append, String.toList_ofList])
    (by simp only [prE4L]; exact hb.fcw _ _)

theorem ge_compare (o : String) (l r : Expr) (ho : cmpOK d o = true) (hl : GE4 d K l) (hr : GE4 d K r) : GE4 d K (.compare o l r) :=
  GE4.of ((pc_bin (pc_cmpVal o (cmpOK_prints ho)) 10 9 l r hl hr).congr (by simp [prE4L]) (by simp [toksE4]))
    (by
      simp only [PR.prE, hl.pr, hr.pr, cmpOK_prints ho, Except.map, bind, Except.bind, pure, Except.pure, wrap_ofList, prE4L]
      refine congrArg Except.ok ?_
      apply String.toList_inj.mp
      simp [toString, String.toList_append, String.toList_ofList])
    (by simp only [prE4L]; exact hl.fcw _ _)

theorem ge_not (y : Expr) (hy : GE4 d K y) : GE4 d K (.not_ y) :=
  GE4.of (((pc_kw "NOT" (by simp [keywords])).sep (hy.pcw 11)).congr (by simp [prE4L]) (by simp [toksE4]))
    (by
      simp only [PR.prE, hy.pr, Except.map, wrap_ofList, prE4L]
      refine congrArg Except.ok ?_
      apply String.toList_inj.mp
      simp [toString, String.toList_append, String.toList_ofList])
    ⟨'N', _, rfl, by decide⟩

/-- `l AND r`, `l XOR r`, `l OR r`: the printer equation is that of the constructor -/
theorem ge_logic (w : String) (hw : w ∈ keywords) (a b : Nat) (l r : Expr) (hl : GE4 d K l) (hr : GE4 d K r) {e : Expr}
    (e1 : prE4L d e = wrapL l a (prE4L d l) ++ ' ' :: (w.toList ++ ' ' :: wrapL r b (prE4L d r)))
    (e2 : toksE4 d noX e = wrapT (noX l) l a (toksE4 d noX l) ++ opTok w :: wrapT (noX r) r b (toksE4 d noX r))
    (pr : PR.prE d e = .ok (String.ofList (prE4L d e))) : GE4 d K e :=
  GE4.of ((pc_bin (pc_kw w hw) a b l r hl hr).congr e1.symm (by rw [e2]; rfl)) pr (by rw [e1]; exact hl.fcw _ _)

theorem ge_and (l r : Expr) (hl : GE4 d K l) (hr : GE4 d K r) : GE4 d K (.and_ l r) :=
  ge_logic "AND" (by simp [keywords]) 12 11 l r hl hr (by simp only [prE4L]) (by simp only [toksE4]) (by
    simp only [PR.prE, hl.pr, hr.pr, Except.map, bind, Except.bind, pure, Except.pure, wrap_ofList, prE4L]
    refine congrArg Except.ok ?_
    apply String.toList_inj.mp
    simp [toString, String.toList_append, String.toList_ofList])

theorem ge_xor (l r : Expr) (hl : GE4 d K l) (hr : GE4 d K r) : GE4 d K (.xor l r) :=
  ge_logic "XOR" (by simp [keywords]) 13 12 l r hl hr (by simp only [prE4L]) (by simp only [toksE4]) (by
    simp only [PR.prE, hl.pr, hr.pr, Except.map, bind, Except.bind, pure, Except.pure, wrap_ofList, prE4L]
    refine congrArg Except.ok ?_
    apply String.toList_inj.mp
    simp [toString, String.toList_append, String.toList_ofList])

theorem ge_or (l r : Expr) (hl : GE4 d K l) (hr : GE4 d K r) : GE4 d K (.or_ l r) :=
  ge_logic "OR" (by simp [keywords]) 14 13 l r hl hr (by simp only [prE4L]) (by simp only [toksE4]) (by
    simp only [PR.prE, hl.pr, hr.pr, Except.map, bind, Except.bind, pure, Except.pure, wrap_ofList, prE4L]
    refine congrArg Except.ok ?_
    apply String.toList_inj.mp
    simp [toString, String.toList_append, String.toList_ofList])

theorem ge_exists (v : Expr) (hv : GE4 d K v) : GE4 d K (.exists_ v) :=
  GE4.of (((pc_qw "EXISTS" (by simp [queryWords])).sep hv.pc).congr (by simp [prE4L]) (by simp [toksE4]))
    (by
      simp only [PR.prE, hv.pr, Except.map, prE4L]
      refine congrArg Except.ok ?_
      apply String.toList_inj.mp
      simp [toString, String.toList_append, String.toList_ofList])
    ⟨'E', _, rfl, by decide⟩

end
end LL2
