import MsqProofs.Lemmas.ParseCaseDefs
import MsqProofs.Lemmas.ParseCase4
import MsqProofs.Lemmas.ParseRelEntries
/-!
# C09, parser half: the relational family of `ParseRel*.lean` read at the case theory `caseT`
-/
open Lex Ast
namespace PM

variable (d : Gen.D)

/-- **Case invariance of the expression / SELECT parser** -/
theorem caseF_all : ∀ n, CaseF d n := by
  intro n
  have G := Rel.genF_all (T := caseT) d n
  have G' := G
  cases G'
  constructor <;> simp only [cel_eq, cell_eq, cer_eq, cex_eq, ceOpt_eq, ceq_eq, up_maps.E, up_maps.O, up_maps.TR, up_maps.FT, up_maps.J, up_maps.G, up_maps.Lat, up_maps.W, up_maps.S, up_maps.Q, upSt_map] <;> first
    | assumption
    | exact fun x0 x1 y0 y1 h0 h1 => Rel.GenF.pOptOr (T := caseT) G x0 x1 y0 y1 h0 rfl h1
    | exact fun x0 x1 y0 y1 h0 h1 => Rel.GenF.pByList (T := caseT) G x0 x1 y0 y1 h0 rfl h1
    | exact fun x0 x1 x2 y0 y1 y2 h0 h1 h2 => Rel.GenF.pCall (T := caseT) G x0 x1 x2 y0 y1 y2 (Prod.ext h0 h1) h2

theorem pElement_ce (d : Gen.D) (f : Nat) : ∀ x0 y0, CEL x0 y0 → CER (ceq upE) (pElement d f x0) (pElement d f y0) := (caseF_all d f).pElement
theorem pParen_ce (d : Gen.D) (f : Nat) : ∀ x0 x1 y0 y1, CE x0 y0 → CEL x1 y1 → CER (ceq upE) (pParen d f x0 x1) (pParen d f y0 y1) := (caseF_all d f).pParen
theorem pNamed_ce (d : Gen.D) (f : Nat) : ∀ x0 x1 x2 y0 y1 y2, CE x0 y0 → CEL x1 y1 → CEL x2 y2 → CER (ceq upE) (pNamed d f x0 x1 x2) (pNamed d f y0 y1 y2) := (caseF_all d f).pNamed
theorem pQualified_ce (d : Gen.D) (f : Nat) : ∀ x0 x1 x2 y0 y1 y2, CE x0 y0 → CEL x1 y1 → CEL x2 y2 → CER (ceq upE) (pQualified d f x0 x1 x2) (pQualified d f y0 y1 y2) := (caseF_all d f).pQualified
theorem pIndex_ce (d : Gen.D) (f : Nat) : ∀ x0 x1 y0 y1, ceq upE x0 y0 → CEL x1 y1 → CER (ceq upE) (pIndex d f x0 x1) (pIndex d f y0 y1) := (caseF_all d f).pIndex
theorem pFuncIdx_ce (d : Gen.D) (f : Nat) : ∀ x0 y0, CEL x0 y0 → CER (ceq upE) (pFuncIdx d f x0) (pFuncIdx d f y0) := (caseF_all d f).pFuncIdx
theorem pFunc_ce (d : Gen.D) (f : Nat) : ∀ x0 y0, CEL x0 y0 → CER (ceq upE) (pFunc d f x0) (pFunc d f y0) := (caseF_all d f).pFunc
theorem pIfCall_ce (d : Gen.D) (f : Nat) : ∀ x0 y0, CEL x0 y0 → CER (ceq upE) (pIfCall d f x0) (pIfCall d f y0) := (caseF_all d f).pIfCall
theorem pFirstDiscard_ce (d : Gen.D) (f : Nat) : ∀ x0 y0, CEL x0 y0 → CEX CEL (pFirstDiscard d f x0) (pFirstDiscard d f y0) := (caseF_all d f).pFirstDiscard
theorem pFirstArg_ce (d : Gen.D) (f : Nat) : ∀ x0 y0, CEL x0 y0 → CER (ceq (List.map upE)) (pFirstArg d f x0) (pFirstArg d f y0) := (caseF_all d f).pFirstArg
theorem pCall_ce (d : Gen.D) (f : Nat) : ∀ x0 x1 x2 y0 y1 y2, ceq (Option.map up) x0 y0 → ceq up x1 y1 → CEL x2 y2 → CER (ceq upE) (pCall d f x0 x1 x2) (pCall d f y0 y1 y2) := (caseF_all d f).pCall
theorem pArgs_ce (d : Gen.D) (f : Nat) : ∀ x0 x1 y0 y1, ceq (List.map upE) x0 y0 → CEL x1 y1 → CER (ceq (List.map upE)) (pArgs d f x0 x1) (pArgs d f y0 y1) := (caseF_all d f).pArgs
theorem pCase_ce (d : Gen.D) (f : Nat) : ∀ x0 y0, CEL x0 y0 → CER (ceq upE) (pCase d f x0) (pCase d f y0) := (caseF_all d f).pCase
theorem pElseEnd_ce (d : Gen.D) (f : Nat) : ∀ x0 y0, CEL x0 y0 → CER (ceq (Option.map upE)) (pElseEnd d f x0) (pElseEnd d f y0) := (caseF_all d f).pElseEnd
theorem pWhens_ce (d : Gen.D) (f : Nat) : ∀ x0 x1 y0 y1, ceq (List.map (Prod.map upE upE)) x0 y0 → CEL x1 y1 → CER (ceq (List.map (Prod.map upE upE))) (pWhens d f x0 x1) (pWhens d f y0 y1) := (caseF_all d f).pWhens
theorem pUnary_ce (d : Gen.D) (f : Nat) : ∀ x0 y0, CEL x0 y0 → CER (ceq upE) (pUnary d f x0) (pUnary d f y0) := (caseF_all d f).pUnary
theorem pCompute_ce (d : Gen.D) (f : Nat) : ∀ x0 y0, CEL x0 y0 → CER (ceq upE) (pCompute d f x0) (pCompute d f y0) := (caseF_all d f).pCompute
theorem pComputeLoop_ce (d : Gen.D) (f : Nat) : ∀ x0 x1 x2 y0 y1 y2, ceq upSt x0 y0 → ceq upE x1 y1 → CEL x2 y2 → CER (ceq upE) (pComputeLoop d f x0 x1 x2) (pComputeLoop d f y0 y1 y2) := (caseF_all d f).pComputeLoop
theorem pKeyword_ce (d : Gen.D) (f : Nat) : ∀ x0 x1 y0 y1, ceq (Option.map upE) x0 y0 → CEL x1 y1 → CER (ceq upE) (pKeyword d f x0 x1) (pKeyword d f y0 y1) := (caseF_all d f).pKeyword
theorem pKwFirst_ce (d : Gen.D) (f : Nat) : ∀ x0 x1 y0 y1, ceq (Option.map upE) x0 y0 → CEL x1 y1 → CER (ceq upE) (pKwFirst d f x0 x1) (pKwFirst d f y0 y1) := (caseF_all d f).pKwFirst
theorem pKwRest_ce (d : Gen.D) (f : Nat) : ∀ x0 x1 x2 y0 y1 y2, ceq upE x0 y0 → x1 = y1 → CEL x2 y2 → CER (ceq upE) (pKwRest d f x0 x1 x2) (pKwRest d f y0 y1 y2) := (caseF_all d f).pKwRest
theorem pKwBody_ce (d : Gen.D) (f : Nat) : ∀ x0 x1 x2 x3 y0 y1 y2 y3, x0 = y0 → x1 = y1 → ceq upE x2 y2 → CEL x3 y3 → CEX (ceOpt (ceq upE)) (pKwBody d f x0 x1 x2 x3) (pKwBody d f y0 y1 y2 y3) := (caseF_all d f).pKwBody
theorem pBetween_ce (d : Gen.D) (f : Nat) : ∀ x0 x1 x2 y0 y1 y2, x0 = y0 → ceq upE x1 y1 → CEL x2 y2 → CEX (ceOpt (ceq upE)) (pBetween d f x0 x1 x2) (pBetween d f y0 y1 y2) := (caseF_all d f).pBetween
theorem pInBody_ce (d : Gen.D) (f : Nat) : ∀ x0 x1 x2 y0 y1 y2, x0 = y0 → ceq upE x1 y1 → CEL x2 y2 → CEX (ceOpt (ceq upE)) (pInBody d f x0 x1 x2) (pInBody d f y0 y1 y2) := (caseF_all d f).pInBody
theorem pSplit_ce (d : Gen.D) (f : Nat) : ∀ x0 x1 x2 y0 y1 y2, ceq (List.map upE) x0 y0 → CEL x1 y1 → CEL x2 y2 → CEX (ceq (List.map upE)) (pSplit d f x0 x1 x2) (pSplit d f y0 y1 y2) := (caseF_all d f).pSplit
theorem pCompare_ce (d : Gen.D) (f : Nat) : ∀ x0 y0, CEL x0 y0 → CER (ceq upE) (pCompare d f x0) (pCompare d f y0) := (caseF_all d f).pCompare
theorem pCompareLoop_ce (d : Gen.D) (f : Nat) : ∀ x0 x1 y0 y1, ceq upE x0 y0 → CEL x1 y1 → CER (ceq upE) (pCompareLoop d f x0 x1) (pCompareLoop d f y0 y1) := (caseF_all d f).pCompareLoop
theorem pNot_ce (d : Gen.D) (f : Nat) : ∀ x0 y0, CEL x0 y0 → CER (ceq upE) (pNot d f x0) (pNot d f y0) := (caseF_all d f).pNot
theorem pAnd_ce (d : Gen.D) (f : Nat) : ∀ x0 y0, CEL x0 y0 → CER (ceq upE) (pAnd d f x0) (pAnd d f y0) := (caseF_all d f).pAnd
theorem pAndLoop_ce (d : Gen.D) (f : Nat) : ∀ x0 x1 y0 y1, ceq upE x0 y0 → CEL x1 y1 → CER (ceq upE) (pAndLoop d f x0 x1) (pAndLoop d f y0 y1) := (caseF_all d f).pAndLoop
theorem pXor_ce (d : Gen.D) (f : Nat) : ∀ x0 y0, CEL x0 y0 → CER (ceq upE) (pXor d f x0) (pXor d f y0) := (caseF_all d f).pXor
theorem pXorLoop_ce (d : Gen.D) (f : Nat) : ∀ x0 x1 y0 y1, ceq upE x0 y0 → CEL x1 y1 → CER (ceq upE) (pXorLoop d f x0 x1) (pXorLoop d f y0 y1) := (caseF_all d f).pXorLoop
theorem pOr_ce (d : Gen.D) (f : Nat) : ∀ x0 y0, CEL x0 y0 → CER (ceq upE) (pOr d f x0) (pOr d f y0) := (caseF_all d f).pOr
theorem pOrLoop_ce (d : Gen.D) (f : Nat) : ∀ x0 x1 y0 y1, ceq upE x0 y0 → CEL x1 y1 → CER (ceq upE) (pOrLoop d f x0 x1) (pOrLoop d f y0 y1) := (caseF_all d f).pOrLoop
theorem pSubQuery_ce (d : Gen.D) (f : Nat) : ∀ x0 y0, CEL x0 y0 → CER (ceq upE) (pSubQuery d f x0) (pSubQuery d f y0) := (caseF_all d f).pSubQuery
theorem pCast_ce (d : Gen.D) (f : Nat) : ∀ x0 y0, CEL x0 y0 → CER (ceq upE) (pCast d f x0) (pCast d f y0) := (caseF_all d f).pCast
theorem pExtract_ce (d : Gen.D) (f : Nat) : ∀ x0 y0, CEL x0 y0 → CER (ceq upE) (pExtract d f x0) (pExtract d f y0) := (caseF_all d f).pExtract
theorem pExtractTail_ce (d : Gen.D) (f : Nat) : ∀ x0 x1 y0 y1, ceq upE x0 y0 → CEL x1 y1 → CEX (ceq upE) (pExtractTail d f x0 x1) (pExtractTail d f y0 y1) := (caseF_all d f).pExtractTail
theorem pWindow_ce (d : Gen.D) (f : Nat) : ∀ x0 y0, CEL x0 y0 → CER (ceq upE) (pWindow d f x0) (pWindow d f y0) := (caseF_all d f).pWindow
theorem pWindowBody_ce (d : Gen.D) (f : Nat) : ∀ x0 x1 y0 y1, ceq upE x0 y0 → CEL x1 y1 → CEX (ceq upE) (pWindowBody d f x0 x1) (pWindowBody d f y0 y1) := (caseF_all d f).pWindowBody
theorem pPartitionBy_ce (d : Gen.D) (f : Nat) : ∀ x0 y0, CEL x0 y0 → CER (ceq (List.map upE)) (pPartitionBy d f x0) (pPartitionBy d f y0) := (caseF_all d f).pPartitionBy
theorem pComputeList_ce (d : Gen.D) (f : Nat) : ∀ x0 x1 y0 y1, ceq (List.map upE) x0 y0 → CEL x1 y1 → CER (ceq (List.map upE)) (pComputeList d f x0 x1) (pComputeList d f y0 y1) := (caseF_all d f).pComputeList
theorem pOrderItem_ce (d : Gen.D) (f : Nat) : ∀ x0 y0, CEL x0 y0 → CER (ceq upO) (pOrderItem d f x0) (pOrderItem d f y0) := (caseF_all d f).pOrderItem
theorem pOrderList_ce (d : Gen.D) (f : Nat) : ∀ x0 x1 y0 y1, ceq (List.map upO) x0 y0 → CEL x1 y1 → CER (ceq (List.map upO)) (pOrderList d f x0 x1) (pOrderList d f y0 y1) := (caseF_all d f).pOrderList
theorem pOrderByOpt_ce (d : Gen.D) (f : Nat) : ∀ x0 y0, CEL x0 y0 → CER (ceq (Option.map (List.map upO))) (pOrderByOpt d f x0) (pOrderByOpt d f y0) := (caseF_all d f).pOrderByOpt
theorem pSelectCol_ce (d : Gen.D) (f : Nat) : ∀ x0 y0, CEL x0 y0 → CER (ceq (Prod.map upE (Option.map up))) (pSelectCol d f x0) (pSelectCol d f y0) := (caseF_all d f).pSelectCol
theorem pSelectCols_ce (d : Gen.D) (f : Nat) : ∀ x0 x1 y0 y1, ceq (List.map (Prod.map upE (Option.map up))) x0 y0 → CEL x1 y1 → CER (ceq (List.map (Prod.map upE (Option.map up)))) (pSelectCols d f x0 x1) (pSelectCols d f y0 y1) := (caseF_all d f).pSelectCols
theorem pTableExpr_ce (d : Gen.D) (f : Nat) : ∀ x0 y0, CEL x0 y0 → CER (ceq upTR) (pTableExpr d f x0) (pTableExpr d f y0) := (caseF_all d f).pTableExpr
theorem pFromTable_ce (d : Gen.D) (f : Nat) : ∀ x0 y0, CEL x0 y0 → CER (ceq upFT) (pFromTable d f x0) (pFromTable d f y0) := (caseF_all d f).pFromTable
theorem pFromTables_ce (d : Gen.D) (f : Nat) : ∀ x0 x1 y0 y1, ceq (List.map upFT) x0 y0 → CEL x1 y1 → CER (ceq (List.map upFT)) (pFromTables d f x0 x1) (pFromTables d f y0 y1) := (caseF_all d f).pFromTables
theorem pJoin_ce (d : Gen.D) (f : Nat) : ∀ x0 y0, CEL x0 y0 → CER (ceq upJ) (pJoin d f x0) (pJoin d f y0) := (caseF_all d f).pJoin
theorem pJoinRule_ce (d : Gen.D) (f : Nat) : ∀ x0 x1 x2 y0 y1 y2, ceq up x0 y0 → ceq upFT x1 y1 → CEL x2 y2 → CER (ceq upJ) (pJoinRule d f x0 x1 x2) (pJoinRule d f y0 y1 y2) := (caseF_all d f).pJoinRule
theorem pJoins_ce (d : Gen.D) (f : Nat) : ∀ x0 x1 x2 x3 y0 y1 y2 y3, x0 = y0 → CEL x1 y1 → ceq (List.map upJ) x2 y2 → CEL x3 y3 → CER (ceq (List.map upJ)) (pJoins d f x0 x1 x2 x3) (pJoins d f y0 y1 y2 y3) := (caseF_all d f).pJoins
theorem pOptOr_ce (d : Gen.D) (f : Nat) : ∀ x0 x1 y0 y1, x0 = y0 → CEL x1 y1 → CER (ceq (Option.map upE)) (pOptOr d f x0 x1) (pOptOr d f y0 y1) := (caseF_all d f).pOptOr
theorem pGroupingElem_ce (d : Gen.D) (f : Nat) : ∀ x0 y0, CEL x0 y0 → CEX (ceq (List.map upE)) (pGroupingElem d f x0) (pGroupingElem d f y0) := (caseF_all d f).pGroupingElem
theorem pClosedEach_ce (d : Gen.D) (f : Nat) : ∀ x0 x1 y0 y1, ceq (List.map upE) x0 y0 → CELL x1 y1 → CEX (ceq (List.map upE)) (pClosedEach d f x0 x1) (pClosedEach d f y0 y1) := (caseF_all d f).pClosedEach
theorem pGroupingElems_ce (d : Gen.D) (f : Nat) : ∀ x0 x1 y0 y1, ceq (List.map (List.map upE)) x0 y0 → CELL x1 y1 → CEX (ceq (List.map (List.map upE))) (pGroupingElems d f x0 x1) (pGroupingElems d f y0 y1) := (caseF_all d f).pGroupingElems
theorem pGroupingSets_ce (d : Gen.D) (f : Nat) : ∀ x0 y0, CEL x0 y0 → CER (ceq (List.map (List.map upE))) (pGroupingSets d f x0) (pGroupingSets d f y0) := (caseF_all d f).pGroupingSets
theorem pGroupBy_ce (d : Gen.D) (f : Nat) : ∀ x0 y0, CEL x0 y0 → CER (ceq (Option.map upG)) (pGroupBy d f x0) (pGroupBy d f y0) := (caseF_all d f).pGroupBy
theorem pGroupCols_ce (d : Gen.D) (f : Nat) : ∀ x0 y0, CEL x0 y0 → CER (ceq (List.map upE)) (pGroupCols d f x0) (pGroupCols d f y0) := (caseF_all d f).pGroupCols
theorem pGroupSetsOpt_ce (d : Gen.D) (f : Nat) : ∀ x0 y0, CEL x0 y0 → CER (ceq (Option.map (List.map (List.map upE)))) (pGroupSetsOpt d f x0) (pGroupSetsOpt d f y0) := (caseF_all d f).pGroupSetsOpt
theorem pWithTable_ce (d : Gen.D) (f : Nat) : ∀ x0 y0, CEL x0 y0 → CER (ceq upW) (pWithTable d f x0) (pWithTable d f y0) := (caseF_all d f).pWithTable
theorem pWithBody_ce (d : Gen.D) (f : Nat) : ∀ x0 x1 y0 y1, ceq up x0 y0 → CEL x1 y1 → CER (ceq upW) (pWithBody d f x0 x1) (pWithBody d f y0 y1) := (caseF_all d f).pWithBody
theorem pWithTables_ce (d : Gen.D) (f : Nat) : ∀ x0 x1 y0 y1, ceq (List.map upW) x0 y0 → CEL x1 y1 → CER (ceq (List.map upW)) (pWithTables d f x0 x1) (pWithTables d f y0 y1) := (caseF_all d f).pWithTables
theorem pWith_ce (d : Gen.D) (f : Nat) : ∀ x0 y0, CEL x0 y0 → CER (ceq (List.map upW)) (pWith d f x0) (pWith d f y0) := (caseF_all d f).pWith
theorem pSelectBody_ce (d : Gen.D) (f : Nat) : ∀ x0 x1 x2 x3 y0 y1 y2 y3, ceq (List.map upW) x0 y0 → x1 = y1 → CEL x2 y2 → CEL x3 y3 → CER (ceq upS) (pSelectBody d f x0 x1 x2 x3) (pSelectBody d f y0 y1 y2 y3) := (caseF_all d f).pSelectBody
theorem pFromOpt_ce (d : Gen.D) (f : Nat) : ∀ x0 y0, CEL x0 y0 → CER (ceq (Option.map (List.map upFT))) (pFromOpt d f x0) (pFromOpt d f y0) := (caseF_all d f).pFromOpt
theorem pSelectRest_ce (d : Gen.D) (f : Nat) : ∀ x0 x1 x2 x3 x4 x5 y0 y1 y2 y3 y4 y5, ceq (List.map upW) x0 y0 → x1 = y1 → ceq (List.map (Prod.map upE (Option.map up))) x2 y2 → x3 = y3 → CEL x4 y4 → CEL x5 y5 → CER (ceq upS) (pSelectRest d f x0 x1 x2 x3 x4 x5) (pSelectRest d f y0 y1 y2 y3 y4 y5) := (caseF_all d f).pSelectRest
theorem pSelectTail_ce (d : Gen.D) (f : Nat) : ∀ x0 x1 x2 x3 x4 x5 x6 y0 y1 y2 y3 y4 y5 y6, ceq (List.map upW) x0 y0 → x1 = y1 → ceq (List.map (Prod.map upE (Option.map up))) x2 y2 → ceq (Option.map (List.map upFT)) x3 y3 → ceq (List.map upLat) x4 y4 → ceq (List.map upJ) x5 y5 → CEL x6 y6 → CER (ceq upS) (pSelectTail d f x0 x1 x2 x3 x4 x5 x6) (pSelectTail d f y0 y1 y2 y3 y4 y5 y6) := (caseF_all d f).pSelectTail
theorem pWhereGroup_ce (d : Gen.D) (f : Nat) : ∀ x0 y0, CEL x0 y0 → CER (ceq (Prod.map (Option.map upE) (Option.map upG))) (pWhereGroup d f x0) (pWhereGroup d f y0) := (caseF_all d f).pWhereGroup
theorem pHavingOrder_ce (d : Gen.D) (f : Nat) : ∀ x0 y0, CEL x0 y0 → CER (ceq (Prod.map (Option.map upE) (Option.map (List.map upO)))) (pHavingOrder d f x0) (pHavingOrder d f y0) := (caseF_all d f).pHavingOrder
theorem pHiveClauses_ce (d : Gen.D) (f : Nat) : ∀ x0 y0, CEL x0 y0 → CER (ceq (Prod.map (Option.map (List.map upO)) (Prod.map (Option.map (List.map upE)) (Option.map (List.map upE))))) (pHiveClauses d f x0) (pHiveClauses d f y0) := (caseF_all d f).pHiveClauses
theorem pSortBy_ce (d : Gen.D) (f : Nat) : ∀ x0 y0, CEL x0 y0 → CER (ceq (Option.map (List.map upO))) (pSortBy d f x0) (pSortBy d f y0) := (caseF_all d f).pSortBy
theorem pByList_ce (d : Gen.D) (f : Nat) : ∀ x0 x1 y0 y1, x0 = y0 → CEL x1 y1 → CER (ceq (Option.map (List.map upE))) (pByList d f x0 x1) (pByList d f y0 y1) := (caseF_all d f).pByList
theorem pLateral_ce (d : Gen.D) (f : Nat) : ∀ x0 y0, CEL x0 y0 → CER (ceq upLat) (pLateral d f x0) (pLateral d f y0) := (caseF_all d f).pLateral
theorem pLaterals_ce (d : Gen.D) (f : Nat) : ∀ x0 x1 x2 x3 y0 y1 y2 y3, x0 = y0 → CEL x1 y1 → ceq (List.map upLat) x2 y2 → CEL x3 y3 → CER (ceq (List.map upLat)) (pLaterals d f x0 x1 x2 x3) (pLaterals d f y0 y1 y2 y3) := (caseF_all d f).pLaterals
theorem pSingle_ce (d : Gen.D) (f : Nat) : ∀ x0 x1 y0 y1, ceq (List.map upW) x0 y0 → CEL x1 y1 → CER (ceq upS) (pSingle d f x0 x1) (pSingle d f y0 y1) := (caseF_all d f).pSingle
theorem pSingleParen_ce (d : Gen.D) (f : Nat) : ∀ x0 x1 x2 x3 y0 y1 y2 y3, ceq (List.map upW) x0 y0 → CEL x1 y1 → CELL x2 y2 → CEL x3 y3 → CER (ceq upS) (pSingleParen d f x0 x1 x2 x3) (pSingleParen d f y0 y1 y2 y3) := (caseF_all d f).pSingleParen
theorem pSelectStmt_ce (d : Gen.D) (f : Nat) : ∀ x0 x1 y0 y1, ceq (Option.map (List.map upW)) x0 y0 → CEL x1 y1 → CER (ceq upQ) (pSelectStmt d f x0 x1) (pSelectStmt d f y0 y1) := (caseF_all d f).pSelectStmt
theorem pUnions_ce (d : Gen.D) (f : Nat) : ∀ x0 x1 x2 y0 y1 y2, ceq (List.map upW) x0 y0 → ceq (List.map (Prod.map up upS)) x1 y1 → CEL x2 y2 → CER (ceq (List.map (Prod.map up upS))) (pUnions d f x0 x1 x2) (pUnions d f y0 y1 y2) := (caseF_all d f).pUnions

theorem pop_ce : ∀ x0 y0, CEL x0 y0 → CER CE (pop x0) (pop y0) := by
  simp only [cel_eq, cer_eq]; exact Rel.pop_rel (T := caseT)

/-! ### the cursor primitives, the helpers outside the block and the DDL / DML parsers -/
theorem upJR_map : upJR = Rel.mapJR up := funext up_map.2.2.2.2.2.2.2.2.2.2.2.2.2.2.2.1
theorem closed_ce {α : Type} {rv : α → α → Prop} {a b : R α} (h : CER rv a b) : CEX rv (closed a) (closed b) := by
  rw [cer_eq] at h; rw [cex_eq]; exact Rel.closed_rel h
theorem eachClosed_ce {α β : Type} (f : α → β) (p p' : List Tok → R α) (hp : ∀ sg sg', CEL sg sg' → CER (ceq f) (p sg) (p' sg')) :
    ∀ segs segs', CELL segs segs' → CEX (ceq (List.map f)) (eachClosed p segs) (eachClosed p' segs') := by
  simp only [cel_eq, cell_eq, cer_eq, cex_eq, ceq_eq] at hp ⊢; exact Rel.eachClosed_rel (T := caseT) f p p' hp
theorem matchSeq_ce' {ts ts' : List Tok} (h : CEL ts ts') (ks : List String) : CER Eq (matchSeq ts ks) (matchSeq ts' ks) := by
  rw [cel_eq] at h; rw [cer_eq]; exact Rel.matchSeq_rel (T := caseT) h ks (all_plain_caseT ks)
theorem callNode_ce {schema schema' : Option String} {name name' : String} {a d : Bool} {ps ps' : List Expr}
    (hs : schema.map up = schema'.map up) (hn : up name = up name') (hp : ps.map upE = ps'.map upE) :
    upE (callNode schema name a d ps) = upE (callNode schema' name' a d ps') := by
  rw [up_maps.E] at hp ⊢; exact Rel.callNode_map hs hn hp
theorem reduceWhile_ce (lvl : Nat) : ∀ (st st' : List (Expr × String × Nat)) (top top' : Expr), upSt st = upSt st' → upE top = upE top' →
    upSt (reduceWhile lvl st top).1 = upSt (reduceWhile lvl st' top').1 ∧ upE (reduceWhile lvl st top).2 = upE (reduceWhile lvl st' top').2 := by
  rw [upSt_map, up_maps.E]; exact Rel.reduceWhile_rel (T := caseT) lvl
theorem collapse_ce : ∀ (st st' : List (Expr × String × Nat)) (top top' : Expr), upSt st = upSt st' → upE top = upE top' →
    upE (collapse st top) = upE (collapse st' top') := by
  rw [upSt_map, up_maps.E]; exact Rel.collapse_rel (T := caseT)
theorem setWiths_ce {s s' : Select} (h : upS s = upS s') : upS (setWiths s) = upS (setWiths s') := by
  rw [up_maps.S] at h ⊢; exact Rel.setWiths_rel (T := caseT) h
theorem emptyCreate_ce (t t' : TableName) (b : Bool) (h : upTN t = upTN t') : upCR (emptyCreate t b) = upCR (emptyCreate t' b) := by
  rw [upTN_map] at h; rw [upCR_map]; exact Rel.emptyCreate_rel (T := caseT) t t' b h
theorem castTail_ce : ∀ x0 x1 y0 y1, ceq upE x0 y0 → CEL x1 y1 → CEX (ceq upE) (castTail x0 x1) (castTail y0 y1) := by
  simp only [cel_eq, cex_eq, ceq_eq, up_maps.E]; exact Rel.castTail_rel (T := caseT)
theorem headChildren_ce : ∀ x0 y0, CEL x0 y0 → CEX CEL (headChildren x0) (headChildren y0) := by
  simp only [cel_eq, cex_eq]; exact Rel.headChildren_rel (T := caseT)
theorem matchKw_ce : ∀ x0 x1 y0 y1, CEL x0 y0 → x1 = y1 → CER Eq (matchKw x0 x1) (matchKw y0 y1) := by
  simp only [cel_eq, cer_eq]; exact fun x0 x1 y0 y1 h e => e ▸ Rel.matchKw_rel (T := caseT) h x1 rfl
theorem optEqSrc_ce : ∀ x0 y0, CEL x0 y0 → CER (ceq up) (optEqSrc x0) (optEqSrc y0) := by
  simp only [cel_eq, cer_eq, ceq_eq]; exact Rel.optEqSrc_rel (T := caseT)
theorem orderTail_ce : ∀ x0 x1 y0 y1, ceq upE x0 y0 → CEL x1 y1 → CER (ceq upO) (orderTail x0 x1) (orderTail y0 y1) := by
  simp only [cel_eq, cer_eq, ceq_eq, up_maps.E, up_maps.O]; exact Rel.orderTail_rel (T := caseT)
theorem pAlias_ce : ∀ x0 y0, CEL x0 y0 → CER (ceq (Option.map up)) (pAlias x0) (pAlias y0) := by
  simp only [cel_eq, cer_eq, ceq_eq]; exact Rel.pAlias_rel (T := caseT)
theorem pAlterExpr_ce (d : Gen.D) (f : Nat) : ∀ x0 y0, CEL x0 y0 → CER (ceq upAO) (pAlterExpr d f x0) (pAlterExpr d f y0) := by
  simp only [cel_eq, cer_eq, ceq_eq, upAO_map]; exact Rel.pAlterExpr_rel (T := caseT) d f
theorem pAlter_ce (d : Gen.D) (f : Nat) : ∀ x0 y0, CEL x0 y0 → CER (ceq upSt0) (pAlter d f x0) (pAlter d f y0) := by
  simp only [cel_eq, cer_eq, ceq_eq, upSt0_map]; exact Rel.pAlter_rel (T := caseT) d f
theorem pAnalyze_ce (d : Gen.D) (f : Nat) : ∀ x0 y0, CEL x0 y0 → CER (ceq upSt0) (pAnalyze d f x0) (pAnalyze d f y0) := by
  simp only [cel_eq, cer_eq, ceq_eq, upSt0_map]; exact Rel.pAnalyze_rel (T := caseT) d f
theorem pCastDataType_ce : ∀ x0 y0, CEL x0 y0 → CER Eq (pCastDataType x0) (pCastDataType y0) := by
  simp only [cel_eq, cer_eq]; exact Rel.pCastDataType_rel (T := caseT)
theorem pColOrIdx_ce (d : Gen.D) (f : Nat) : ∀ x0 y0, CEL x0 y0 → CER (ceq upCI) (pColOrIdx d f x0) (pColOrIdx d f y0) := by
  simp only [cel_eq, cer_eq, ceq_eq, upCI_map]; exact Rel.pColOrIdx_rel (T := caseT) d f
theorem pColType_ce (d : Gen.D) (f : Nat) : ∀ x0 y0, CEL x0 y0 → CER (ceq upCT) (pColType d f x0) (pColType d f y0) := by
  simp only [cel_eq, cer_eq, ceq_eq, upCT_map]; exact Rel.pColType_rel (T := caseT) d f
theorem pColumnName_ce : ∀ x0 y0, CEL x0 y0 → CER (ceq (Prod.map (Option.map up) up)) (pColumnName x0) (pColumnName y0) := by
  simp only [cel_eq, cer_eq, ceq_eq]; exact Rel.pColumnName_rel (T := caseT)
theorem pCompareOp_ce : ∀ x0 y0, CEL x0 y0 → CER Eq (pCompareOp x0) (pCompareOp y0) := by
  simp only [cel_eq, cer_eq]; exact Rel.pCompareOp_rel (T := caseT)
theorem pComputeOp_ce : ∀ x0 y0, CEL x0 y0 → CER Eq (pComputeOp x0) (pComputeOp y0) := by
  simp only [cel_eq, cer_eq]; exact Rel.pComputeOp_rel (T := caseT)
theorem pConfigStrExpr_ce : ∀ x0 y0, CEL x0 y0 → CER (ceq upCS) (pConfigStrExpr x0) (pConfigStrExpr y0) := by
  simp only [cel_eq, cer_eq, ceq_eq, upCS_map]; exact Rel.pConfigStrExpr_rel (T := caseT)
theorem pCreateTable_ce (d : Gen.D) (f : Nat) : ∀ x0 y0, CEL x0 y0 → CER (ceq upSt0) (pCreateTable d f x0) (pCreateTable d f y0) := by
  simp only [cel_eq, cer_eq, ceq_eq, upSt0_map]; exact Rel.pCreateTable_rel (T := caseT) d f
theorem pDefCol_ce (d : Gen.D) (f : Nat) : ∀ x0 y0, CEL x0 y0 → CER (ceq upDC) (pDefCol d f x0) (pDefCol d f y0) := by
  simp only [cel_eq, cer_eq, ceq_eq, upDC_map]; exact Rel.pDefCol_rel (T := caseT) d f
theorem pDelete_ce (d : Gen.D) (f : Nat) : ∀ x0 y0, CEL x0 y0 → CER (ceq upSt0) (pDelete d f x0) (pDelete d f y0) := by
  simp only [cel_eq, cer_eq, ceq_eq, upSt0_map]; exact Rel.pDelete_rel (T := caseT) d f
theorem pDropTable_ce : ∀ x0 y0, CEL x0 y0 → CER (ceq upSt0) (pDropTable x0) (pDropTable y0) := by
  simp only [cel_eq, cer_eq, ceq_eq, upSt0_map]; exact Rel.pDropTable_rel (T := caseT)
theorem pForeignKey_ce : ∀ x0 y0, CEL x0 y0 → CER (ceq upFK) (pForeignKey x0) (pForeignKey y0) := by
  simp only [cel_eq, cer_eq, ceq_eq, upFK_map]; exact Rel.pForeignKey_rel (T := caseT)
theorem pFromClause_ce (d : Gen.D) (f : Nat) : ∀ x0 y0, CEL x0 y0 → CER (ceq (List.map upFT)) (pFromClause d f x0) (pFromClause d f y0) := by
  simp only [cel_eq, cer_eq, ceq_eq, up_maps.FT]; exact Rel.pFromClause_rel (T := caseT) d f
theorem pFulltextIndex_ce : ∀ x0 y0, CEL x0 y0 → CER (ceq upIx) (pFulltextIndex x0) (pFulltextIndex y0) := by
  simp only [cel_eq, cer_eq, ceq_eq, upIx_map]; exact Rel.pFulltextIndex_rel (T := caseT)
theorem pFuncName_ce : ∀ x0 y0, CEL x0 y0 → CER (ceq (Prod.map (Option.map up) up)) (pFuncName x0) (pFuncName y0) := by
  simp only [cel_eq, cer_eq, ceq_eq]; exact Rel.pFuncName_rel (T := caseT)
theorem pIndexCol_ce : ∀ x0 y0, CEL x0 y0 → CER (ceq upIC) (pIndexCol x0) (pIndexCol y0) := by
  simp only [cel_eq, cer_eq, ceq_eq, upIC_map]; exact Rel.pIndexCol_rel (T := caseT)
theorem pInsertType_ce : ∀ x0 y0, CEL x0 y0 → CER (ceq up) (pInsertType x0) (pInsertType y0) := by
  simp only [cel_eq, cer_eq, ceq_eq]; exact Rel.pInsertType_rel (T := caseT)
theorem pInsert_ce (d : Gen.D) (f : Nat) : ∀ x0 x1 y0 y1, ceq (Option.map (List.map upW)) x0 y0 → CEL x1 y1 → CER (ceq upSt0) (pInsert d f x0 x1) (pInsert d f y0 y1) := by
  simp only [cel_eq, cer_eq, ceq_eq, up_maps.W, upSt0_map]; exact Rel.pInsert_rel (T := caseT) d f
theorem pJoinExpr_ce (d : Gen.D) (f : Nat) : ∀ x0 y0, CEL x0 y0 → CER (ceq upJR) (pJoinExpr d f x0) (pJoinExpr d f y0) := by
  simp only [cel_eq, cer_eq, ceq_eq, upJR_map]; exact Rel.pJoinExpr_rel (T := caseT) d f
theorem pJoinOn_ce (d : Gen.D) (f : Nat) : ∀ x0 y0, CEL x0 y0 → CER (ceq upJR) (pJoinOn d f x0) (pJoinOn d f y0) := by
  simp only [cel_eq, cer_eq, ceq_eq, upJR_map]; exact Rel.pJoinOn_rel (T := caseT) d f
theorem pJoinType_ce : ∀ x0 y0, CEL x0 y0 → CER Eq (pJoinType x0) (pJoinType y0) := by
  simp only [cel_eq, cer_eq]; exact Rel.pJoinType_rel (T := caseT)
theorem pJoinUsing_ce (d : Gen.D) (f : Nat) : ∀ x0 y0, CEL x0 y0 → CER (ceq upJR) (pJoinUsing d f x0) (pJoinUsing d f y0) := by
  simp only [cel_eq, cer_eq, ceq_eq, upJR_map]; exact Rel.pJoinUsing_rel (T := caseT) d f
theorem pLimit_ce : ∀ x0 y0, CEL x0 y0 → CER Eq (pLimit x0) (pLimit y0) := by
  simp only [cel_eq, cer_eq]; exact Rel.pLimit_rel (T := caseT)
theorem pMsck_ce : ∀ x0 y0, CEL x0 y0 → CER (ceq upSt0) (pMsck x0) (pMsck y0) := by
  simp only [cel_eq, cer_eq, ceq_eq, upSt0_map]; exact Rel.pMsck_rel (T := caseT)
theorem pMultiAlias_ce : ∀ x0 y0, CEL x0 y0 → CER (ceq (List.map up)) (pMultiAlias x0) (pMultiAlias y0) := by
  simp only [cel_eq, cer_eq, ceq_eq]; exact Rel.pMultiAlias_rel (T := caseT)
theorem pNormalIndex_ce : ∀ x0 y0, CEL x0 y0 → CER (ceq upIx) (pNormalIndex x0) (pNormalIndex y0) := by
  simp only [cel_eq, cer_eq, ceq_eq, upIx_map]; exact Rel.pNormalIndex_rel (T := caseT)
theorem pOptPartition_ce (d : Gen.D) (f : Nat) : ∀ x0 y0, CEL x0 y0 → CER (ceq (Option.map (List.map upE))) (pOptPartition d f x0) (pOptPartition d f y0) := by
  simp only [cel_eq, cer_eq, ceq_eq, up_maps.E]; exact Rel.pOptPartition_rel (T := caseT) d f
theorem pOrderType_ce : ∀ x0 y0, CEL x0 y0 → CER Eq (pOrderType x0) (pOrderType y0) := by
  simp only [cel_eq, cer_eq]; exact Rel.pOrderType_rel (T := caseT)
theorem pPartition_ce (d : Gen.D) (f : Nat) : ∀ x0 x1 y0 y1, x0 = y0 → CEL x1 y1 → CER (ceq (List.map upE)) (pPartition d f x0 x1) (pPartition d f y0 y1) := by
  simp only [cel_eq, cer_eq, ceq_eq, up_maps.E]; exact Rel.pPartition_rel (T := caseT) d f
theorem pPrimaryIndex_ce : ∀ x0 y0, CEL x0 y0 → CER (ceq upIx) (pPrimaryIndex x0) (pPrimaryIndex y0) := by
  simp only [cel_eq, cer_eq, ceq_eq, upIx_map]; exact Rel.pPrimaryIndex_rel (T := caseT)
theorem pRowItem_ce : ∀ x0 y0, CEL x0 y0 → CER Eq (pRowItem x0) (pRowItem y0) := by
  simp only [cel_eq, cer_eq]; exact Rel.pRowItem_rel (T := caseT)
theorem pSelectClause_ce (d : Gen.D) (f : Nat) : ∀ x0 y0, CEL x0 y0 →
    CER (ceq (Prod.map id (List.map (Prod.map upE (Option.map up))))) (pSelectClause d f x0) (pSelectClause d f y0) := by
  simp only [cel_eq, cer_eq, ceq_eq, up_maps.E]; exact Rel.pSelectClause_rel (T := caseT) d f
theorem pSet_ce : ∀ x0 y0, CEL x0 y0 → CER (ceq upSt0) (pSet x0) (pSet y0) := by
  simp only [cel_eq, cer_eq, ceq_eq, upSt0_map]; exact Rel.pSet_rel (T := caseT)
theorem pShowColumns_ce (d : Gen.D) (f : Nat) : ∀ x0 y0, CEL x0 y0 → CER (ceq upSt0) (pShowColumns d f x0) (pShowColumns d f y0) := by
  simp only [cel_eq, cer_eq, ceq_eq, upSt0_map]; exact Rel.pShowColumns_rel (T := caseT) d f
theorem pSubValue_ce (d : Gen.D) (f : Nat) : ∀ x0 y0, CEL x0 y0 → CER (ceq upE) (pSubValue d f x0) (pSubValue d f y0) := by
  simp only [cel_eq, cer_eq, ceq_eq, up_maps.E]; exact Rel.pSubValue_rel (T := caseT) d f
theorem pTableName_ce : ∀ x0 y0, CEL x0 y0 → CER (ceq upTR) (pTableName x0) (pTableName y0) := by
  simp only [cel_eq, cer_eq, ceq_eq, up_maps.TR]; exact Rel.pTableName_rel (T := caseT)
theorem pTblName_ce : ∀ x0 y0, CEL x0 y0 → CER (ceq upTN) (pTblName x0) (pTblName y0) := by
  simp only [cel_eq, cer_eq, ceq_eq, upTN_map]; exact Rel.pTblName_rel (T := caseT)
theorem pTruncate_ce : ∀ x0 y0, CEL x0 y0 → CER (ceq upSt0) (pTruncate x0) (pTruncate y0) := by
  simp only [cel_eq, cer_eq, ceq_eq, upSt0_map]; exact Rel.pTruncate_rel (T := caseT)
theorem pUnionType_ce : ∀ x0 y0, CEL x0 y0 → CER Eq (pUnionType x0) (pUnionType y0) := by
  simp only [cel_eq, cer_eq]; exact Rel.pUnionType_rel (T := caseT)
theorem pUniqueIndex_ce : ∀ x0 y0, CEL x0 y0 → CER (ceq upIx) (pUniqueIndex x0) (pUniqueIndex y0) := by
  simp only [cel_eq, cer_eq, ceq_eq, upIx_map]; exact Rel.pUniqueIndex_rel (T := caseT)
theorem pUpdateSetCol_ce (d : Gen.D) (f : Nat) : ∀ x0 y0, CEL x0 y0 → CER (ceq (Prod.map up upE)) (pUpdateSetCol d f x0) (pUpdateSetCol d f y0) := by
  simp only [cel_eq, cer_eq, ceq_eq, up_maps.E]; exact Rel.pUpdateSetCol_rel (T := caseT) d f
theorem pUpdateSet_ce (d : Gen.D) (f : Nat) : ∀ x0 y0, CEL x0 y0 → CER (ceq (List.map (Prod.map up upE))) (pUpdateSet d f x0) (pUpdateSet d f y0) := by
  simp only [cel_eq, cer_eq, ceq_eq, up_maps.E]; exact Rel.pUpdateSet_rel (T := caseT) d f
theorem pUpdate_ce (d : Gen.D) (f : Nat) : ∀ x0 x1 y0 y1, ceq (Option.map (List.map upW)) x0 y0 → CEL x1 y1 → CER (ceq upSt0) (pUpdate d f x0 x1) (pUpdate d f y0 y1) := by
  simp only [cel_eq, cer_eq, ceq_eq, up_maps.W, upSt0_map]; exact Rel.pUpdate_rel (T := caseT) d f
theorem pUse_ce : ∀ x0 y0, CEL x0 y0 → CER (ceq upSt0) (pUse x0) (pUse y0) := by
  simp only [cel_eq, cer_eq, ceq_eq, upSt0_map]; exact Rel.pUse_rel (T := caseT)
theorem pWhereOrderLimit_ce (d : Gen.D) (f : Nat) : ∀ x0 y0, CEL x0 y0 → CER (ceq (Prod.map (Option.map upE) (Prod.map (Option.map (List.map upO)) id))) (pWhereOrderLimit d f x0) (pWhereOrderLimit d f y0) := by
  simp only [cel_eq, cer_eq, ceq_eq, up_maps.E, up_maps.O]; exact Rel.pWhereOrderLimit_rel (T := caseT) d f
theorem pWildcard_ce : ∀ x0 y0, CEL x0 y0 → CER (ceq (Option.map up)) (pWildcard x0) (pWildcard y0) := by
  simp only [cel_eq, cer_eq, ceq_eq]; exact Rel.pWildcard_rel (T := caseT)
theorem pWindowRow_ce : ∀ x0 y0, CEL x0 y0 → CER Eq (pWindowRow x0) (pWindowRow y0) := by
  simp only [cel_eq, cer_eq]; exact Rel.pWindowRow_rel (T := caseT)
theorem popInt_ce : ∀ x0 y0, CEL x0 y0 → CER Eq (popInt x0) (popInt y0) := by
  simp only [cel_eq, cer_eq]; exact Rel.popInt_rel (T := caseT)
theorem popSplit_ce : ∀ x0 y0, CEL x0 y0 → CER CELL (popSplit x0) (popSplit y0) := by
  simp only [cel_eq, cell_eq, cer_eq]; exact Rel.popSplit_rel (T := caseT)
theorem popSrc_ce : ∀ x0 y0, CEL x0 y0 → CER (ceq up) (popSrc x0) (popSrc y0) := by
  simp only [cel_eq, cer_eq, ceq_eq]; exact Rel.popSrc_rel (T := caseT)

/-! ### the statement level -/
theorem pStatement_ce (d : Gen.D) (f : Nat) : ∀ x0 y0, CEL x0 y0 → CER (ceq upSt0) (pStatement d f x0) (pStatement d f y0) := by
  simp only [cel_eq, cer_eq, ceq_eq, upSt0_map]; exact Rel.pStatement_rel (T := caseT) d f
theorem statementsLoop_ce (d : Gen.D) (f : Nat) : ∀ x0 x1 x2 y0 y1 y2, x0 = y0 → ceq (List.map upSt0) x1 y1 → CEL x2 y2 → CEX (ceq (List.map upSt0)) (statementsLoop d f x0 x1 x2) (statementsLoop d f y0 y1 y2) := by
  simp only [cel_eq, cex_eq, ceq_eq, upSt0_map]; exact Rel.statementsLoop_rel (T := caseT) d f
theorem pStatements_ce (d : Gen.D) (f : Nat) : ∀ x0 y0, CEL x0 y0 → CEX (ceq (List.map upSt0)) (pStatements d f x0) (pStatements d f y0) := by
  simp only [cel_eq, cex_eq, ceq_eq, upSt0_map]; exact Rel.pStatements_rel (T := caseT) d f

end PM
