import MsqProofs.Lemmas.ParseSteps
/-!
# C08: the cursor primitives consume a prefix of their cursor (below the family `tools/gen_out.py` prints)

`Sfx r ts` — "`r` is what is left of the cursor `ts`": `∃ used, ts = used ++ r`.  A parser function that returns `(v, r)` on the
cursor `ts` with `Sfx r ts` has neither skipped, reordered, duplicated nor invented a token: the tokens it has looked at
are exactly the prefix `used`, and what it hands to its caller is the untouched rest.

`ConsRel ts a` — the run `a` (on the cursor `ts`), if it succeeds with `(v, r)`, has `Sfx r ts`.  Stated as a relation on the
run so that `grind` instantiates it once per call that occurs in the unfolded hypothesis (`grind_pattern … => f … ts`).

That every function of the parser returns a rest of its cursor is the first of the three answers of `ParseOut0.lean`.

The files `ParseAccount0 / ParseAccountDefs / ParseAccount / ParseAccountStmt` hold this CONSUMPTION family (`Sfx`, `ConsRel`, `ConsF`, `cons_f`, `f_consumes`);
the ACCOUNTING relation of C08 (which consumed token is stored where) is in `ParseAccountTexts*`, `ParseAccountAll*`, `ParseAccountDdl*`.
-/
open Lex
namespace PM

def Sfx (r ts : List Tok) : Prop := ∃ used, ts = used ++ r

theorem Sfx.refl (ts : List Tok) : Sfx ts ts := ⟨[], rfl⟩
@[grind =] theorem sfx_self (ts : List Tok) : Sfx ts ts = True := by simp [Sfx.refl]
theorem Sfx.trans {a b c : List Tok} (h1 : Sfx a b) (h2 : Sfx b c) : Sfx a c := by
  obtain ⟨u, rfl⟩ := h1; obtain ⟨w, rfl⟩ := h2; exact ⟨w ++ u, by simp⟩
grind_pattern Sfx.trans => Sfx a b, Sfx b c
theorem sfx_cons (t : Tok) (r : List Tok) : Sfx r (t :: r) := ⟨[t], rfl⟩
grind_pattern sfx_cons => t :: r
theorem sfx_drop (n : Nat) (ts : List Tok) : Sfx (ts.drop n) ts := ⟨ts.take n, (List.take_append_drop n ts).symm⟩
grind_pattern sfx_drop => List.drop n ts
theorem Sfx.length_le {r ts : List Tok} (h : Sfx r ts) : r.length ≤ ts.length := by
  obtain ⟨u, rfl⟩ := h; simp
theorem sfx_nil (ts : List Tok) : Sfx [] ts := ⟨ts, by simp⟩
grind_pattern sfx_nil => Sfx [] ts
def usedOf (ts r : List Tok) : List Tok := ts.take (ts.length - r.length)
theorem Sfx.eq_used {r ts : List Tok} (h : Sfx r ts) : ts = usedOf ts r ++ r := by
  obtain ⟨u, rfl⟩ := h; simp [usedOf]

def ConsRel {α : Type} (ts : List Tok) (a : R α) : Prop := ∀ v r, a = .ok (v, r) → Sfx r ts
@[grind =] theorem consRel_ok {α : Type} (ts : List Tok) (v : α) (r : List Tok) : ConsRel ts (.ok (v, r) : R α) = Sfx r ts := by
  simp [ConsRel]
@[grind =] theorem consRel_error {α : Type} (ts : List Tok) (e : Err) : ConsRel ts (.error e : R α) = True := by simp [ConsRel]
theorem ConsRel.ok {α : Type} {ts r : List Tok} (v : α) (h : Sfx r ts) : ConsRel ts (.ok (v, r) : R α) := by
  intro v' r' e; cases e; exact h
theorem ConsRel.error {α : Type} (ts : List Tok) (e : Err) : ConsRel ts (.error e : R α) := nofun
theorem ConsRel.of_sfx {α : Type} {ts r : List Tok} {a : R α} (hr : Sfx r ts) (h : ConsRel r a) : ConsRel ts a :=
  fun v r' e => (h v r' e).trans hr
def ConsRelO {α : Type} (ts : List Tok) (a : Except Err (Option (α × List Tok))) : Prop := ∀ v r, a = .ok (some (v, r)) → Sfx r ts
@[grind =] theorem consRelO_some {α : Type} (ts : List Tok) (v : α) (r : List Tok) :
    ConsRelO ts (.ok (some (v, r)) : Except Err (Option (α × List Tok))) = Sfx r ts := by simp [ConsRelO]
@[grind =] theorem consRelO_none {α : Type} (ts : List Tok) : ConsRelO ts (.ok none : Except Err (Option (α × List Tok))) = True := by
  simp [ConsRelO]
@[grind =] theorem consRelO_error {α : Type} (ts : List Tok) (e : Err) : ConsRelO ts (.error e : Except Err (Option (α × List Tok))) = True := by
  simp [ConsRelO]

def ConsRelD (ts : List Tok) (a : Except Err (List Tok)) : Prop := ∀ r, a = .ok r → Sfx r ts
@[grind =] theorem consRelD_ok (ts r : List Tok) : ConsRelD ts (.ok r) = Sfx r ts := by simp [ConsRelD]
@[grind =] theorem consRelD_error (ts : List Tok) (e : Err) : ConsRelD ts (.error e) = True := by simp [ConsRelD]

theorem moveStrUp_sfx (ts : List Tok) (k : String) : Sfx (moveStrUp ts k).2 ts := by
  unfold moveStrUp; split <;> first | exact sfx_drop _ _ | exact Sfx.refl _
grind_pattern moveStrUp_sfx => moveStrUp ts k
theorem moveStr_sfx (ts : List Tok) (k : String) : Sfx (moveStr ts k).2 ts := by
  unfold moveStr; split <;> first | exact sfx_drop _ _ | exact Sfx.refl _
grind_pattern moveStr_sfx => moveStr ts k
theorem moveSetUp_sfx (ts : List Tok) (ks : List String) : Sfx (moveSetUp ts ks).2 ts := by
  unfold moveSetUp; split <;> first | exact sfx_drop _ _ | exact Sfx.refl _
grind_pattern moveSetUp_sfx => moveSetUp ts ks
theorem moveSeq_sfx (ts : List Tok) (ks : List String) : Sfx (moveSeq ts ks).2 ts := by
  unfold moveSeq; split <;> first | exact sfx_drop _ _ | exact Sfx.refl _
grind_pattern moveSeq_sfx => moveSeq ts ks
theorem moveTwoUp_sfx (ts : List Tok) (a b : String) : Sfx (moveTwoUp ts a b).2 ts := by
  unfold moveTwoUp; split <;> first | exact sfx_drop _ _ | exact Sfx.refl _
grind_pattern moveTwoUp_sfx => moveTwoUp ts a b
theorem moveThreeUp_sfx (ts : List Tok) (a b c : String) : Sfx (moveThreeUp ts a b c).2 ts := by
  unfold moveThreeUp; split <;> first | exact sfx_drop _ _ | exact Sfx.refl _
grind_pattern moveThreeUp_sfx => moveThreeUp ts a b c
theorem skipNot_sfx (d : Gen.D) (ts : List Tok) : Sfx (skipNot d ts).2 ts := by
  unfold skipNot; split
  · split <;> simp [sfx_cons, Sfx.refl]
  · simp [Sfx.refl]
grind_pattern skipNot_sfx => skipNot d ts
theorem firstEnum_sfx (tbl : List (String × List String)) (ts : List Tok) (n : String) (r : List Tok)
    (h : firstEnum tbl ts = some (n, r)) : Sfx r ts := by
  induction tbl with
  | nil => simp [firstEnum] at h
  | cons e tbl ih =>
    obtain ⟨m, ks⟩ := e
    simp only [firstEnum] at h
    split at h
    · simp only [Option.some.injEq, Prod.mk.injEq] at h; rw [← h.2]; exact sfx_drop _ _
    · exact ih h
grind_pattern firstEnum_sfx => firstEnum tbl ts, some (n, r)

theorem pop_cons (ts : List Tok) : ConsRel ts (pop ts) := by
  intro v r h; cases ts <;> simp [pop] at h; obtain ⟨rfl, rfl⟩ := h; exact sfx_cons _ _
grind_pattern pop_cons => pop ts
theorem popSrc_cons (ts : List Tok) : ConsRel ts (popSrc ts) := by
  intro v r h; cases ts <;> simp [popSrc] at h; obtain ⟨rfl, rfl⟩ := h; exact sfx_cons _ _
grind_pattern popSrc_cons => popSrc ts
theorem popInt_cons (ts : List Tok) : ConsRel ts (popInt ts) := by
  intro v r h
  cases ts with
  | nil => simp [popInt] at h
  | cons t ts =>
    simp only [popInt] at h
    split at h <;> simp at h
    obtain ⟨rfl, rfl⟩ := h; exact sfx_cons _ _
grind_pattern popInt_cons => popInt ts
theorem popAsInt_cons (ts : List Tok) : ConsRel ts (popAsInt ts) := by
  intro v r h
  cases ts with
  | nil => simp [popAsInt] at h
  | cons t ts =>
    simp only [popAsInt] at h
    split at h <;> simp at h
    obtain ⟨rfl, rfl⟩ := h; exact sfx_cons _ _
grind_pattern popAsInt_cons => popAsInt ts
theorem matchKw_cons (ts : List Tok) (k : String) : ConsRel ts (matchKw ts k) := by
  intro v r h
  cases ts with
  | nil => simp [matchKw] at h
  | cons t ts =>
    simp only [matchKw] at h
    split at h <;> simp at h
    subst h; exact sfx_cons _ _
grind_pattern matchKw_cons => matchKw ts k
theorem matchSeq_cons (ts : List Tok) (ks : List String) : ConsRel ts (matchSeq ts ks) := by
  intro v r h
  induction ks generalizing ts with
  | nil => simp [matchSeq] at h; subst h; exact Sfx.refl _
  | cons k ks ih => cases ts with
    | nil => simp [matchSeq] at h
    | cons t ts =>
      simp only [matchSeq] at h
      split at h
      · exact (ih ts h).trans (sfx_cons _ _)
      · simp at h
grind_pattern matchSeq_cons => matchSeq ts ks
theorem popSplit_cons (ts : List Tok) : ConsRel ts (popSplit ts) := by
  intro v r h; cases ts <;> simp [popSplit] at h; obtain ⟨_, rfl⟩ := h; exact sfx_cons _ _
grind_pattern popSplit_cons => popSplit ts

end PM
