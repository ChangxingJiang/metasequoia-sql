import MsqProofs.Lemmas.TQuery3P
import MsqProofs.Lemmas.TQuery2_0
/-!
# `TQ2.FragQ2 ⊆ TQ3.FragQ3` with equal renderings (C03 / C02 / C01)

The two fragments are built by the same clauses over different leaves: `TQ3` also admits decimal / hexadecimal / bit literals and
back-quoted aliases.  On a literal of `TP.litOK` the two literal tokens coincide (`litTok_eq`), on an alias of `TS.optAliasOK` the two
alias renderings coincide (`optAlias_inc`); everything above the leaves is carried through by induction along the definition of the
smaller fragment (`inc`).  Every statement about `TQ2` trees (Props/C03Q2.lean) is then the `TQ3` statement at the same tree.
-/
open Lex PM Ast TP TP2 TS
namespace TQ3
variable {d : Gen.D}

/-! ### the leaves -/
/-- no key of the word table starts with a digit or holds a quote, so a word that `numMark` marks is not looked up there -/
theorem numMark_none (v : String) (h : (Tok.single v.toList (wordMark v)).has LITERAL = true) : numMark v.toList = none := by
  cases hn : numMark v.toList with
  | none => rfl
  | some m =>
    have key : Gen.wordMarks.all (fun p => !p.1.toList.head?.any Char.isDigit && !p.1.toList.contains '\'') = true := by decide
    simp only [Tok.has, Tok.marks, wordMark] at h
    cases hf : Gen.wordMarks.find? (·.1 == up v) with
    | none => simp only [hf] at h; split at h <;> exact absurd h (by decide)
    | some p =>
      have hp := List.all_eq_true.1 key p (List.mem_of_find?_eq_some hf)
      have hu : p.1 = up v := by simpa using List.find?_some hf
      simp only [hu, Bool.and_eq_true, Bool.not_eq_true', List.contains_eq_mem, decide_eq_false_iff_not] at hp
      rcases numMark_shape _ _ hn with hdg | hq
      · cases hc : v.toList with
        | nil => simp [hc] at hdg
        | cons c r =>
          obtain ⟨a1, a2, a3⟩ := digit_ascii c (by simpa [hc] using hdg)
          simp [up_head v c r hc a1, a2, a3] at hp
      · refine absurd (up_quote v ?_) hp.2
        rcases hc : v.toList with _ | ⟨c, _ | ⟨c2, r⟩⟩ <;> simp_all
theorem litTok_eq (v : String) (h : TP.litOK d v = true) : litTok v = TP.litTok v := by
  simp only [TP.litOK, Bool.and_eq_true] at h
  have hl := h.1
  simp only [litTok, TP.litTok, litMark, TP.litMark] at hl ⊢
  split
  · rfl
  · split
    · rfl
    · rename_i h1 h2
      simp only [h1, h2, Bool.false_eq_true, if_false] at hl
      rw [numMark_none v hl]
theorem litOK_of (v : String) (h : TP.litOK d v = true) : litOK d v = true := by
  have := litTok_eq v h
  simp only [TP.litOK, litOK] at h ⊢
  rwa [this]
theorem optAlias_inc (a : Option String) (h : TS.optAliasOK a = true) : optAliasOK a = true ∧ aliasToks a = TS.aliasToks a := by
  cases a with
  | none => exact ⟨rfl, rfl⟩
  | some a =>
    simp only [TS.optAliasOK, TS.aliasOK, Bool.and_eq_true, beq_iff_eq] at h
    have hq : qTok a = opTok a := by simp [qTok, h.2]
    exact ⟨by simp [optAliasOK, aliasOK, hq, h.1.1, h.1.2], by simp [aliasToks, TS.aliasToks, hq]⟩

/-! ### the parts of the two developments that do not depend on the leaves are equal -/
theorem intsTail_eq (l : List Int) : intsTail l = TQ2.intsTail l := by
  induction l with
  | nil => rfl
  | cons n r ih => simp only [intsTail, TQ2.intsTail, ih]
theorem castParamToks_eq (ps : Option (List Int)) : castParamToks ps = TQ2.castParamToks ps := by
  rcases ps with _ | _ | ⟨n, r⟩ <;> simp [castParamToks, TQ2.castParamToks, intsToks, TQ2.intsToks, intsTail_eq]
theorem aliasTail_eq (l : List String) : aliasTail l = TQ2.aliasTail l := by
  induction l with
  | nil => rfl
  | cons n r ih => simp only [aliasTail, TQ2.aliasTail, ih]
theorem aliasList_eq (l : List String) : aliasList l = TQ2.aliasList l := by
  cases l <;> simp [aliasList, TQ2.aliasList, aliasTail_eq]
theorem tl4_eq (e : Expr) : tl4 e = TQ2.tl4 e := by
  induction e using TQ2.tl4.induct (motive_2 := fun o => tlO4 o = TQ2.tlO4 o) (motive_3 := fun cs => tlA4 cs = TQ2.tlA4 cs) <;>
    simp_all [tl4, TQ2.tl4, tlO4, TQ2.tlO4, tlA4, TQ2.tlA4]
theorem shortL4_eq (vs : List Expr) : shortL4 vs = TQ2.shortL4 vs := by
  simp only [shortL4, TQ2.shortL4, tl4_eq]
theorem joinTyOK4_eq (ty : String) : joinTyOK4 d ty = TQ2.joinTyOK4 d ty := by
  unfold joinTyOK4 TQ2.joinTyOK4
  cases firstEnumA Gen.joinTypes (joinWords ty) <;> cases joinWords ty <;> rfl
theorem unionTyOK4_eq (ty : String) : unionTyOK4 d ty = TQ2.unionTyOK4 d ty := by
  unfold unionTyOK4 TQ2.unionTyOK4
  cases firstEnumA Gen.unionTypes (TQ.unionWords ty) <;> cases TQ.unionWords ty <;> rfl
theorem castVal_eq (ty : String) : castVal ty = TQ2.castVal ty := by
  unfold castVal TQ2.castVal; cases Gen.castTypes.find? (·.1 == ty) <;> rfl
theorem castTyOK_eq (ty : String) : castTyOK ty = TQ2.castTyOK ty := by
  unfold castTyOK TQ2.castTyOK; rw [castVal_eq]
  cases Gen.castTypes.find? (fun k => (opTok (TQ2.castVal ty)).equalsStr k.2) <;> rfl
theorem castParamsOK_eq (ps : Option (List Int)) : castParamsOK ps = TQ2.castParamsOK ps := rfl
theorem rowsOK_eq (r : Option (RowItem × RowItem)) : rowsOK r = TQ2.rowsOK r := rfl
theorem toksRows_eq (r : Option (RowItem × RowItem)) : toksRows r = TQ2.toksRows r := rfl
theorem aliasesOK_eq (l : List String) : aliasesOK l = TQ2.aliasesOK l := rfl
theorem ifOK_eq (s : Option String) (n : String) : ifOK d s n = TQ2.ifOK d s n := rfl
theorem arr_eq (cs : List Tok) : arr cs = TQ2.arr cs := rfl
theorem headIsGrp_eq (ts : List Tok) : headIsGrp ts = TQ2.headIsGrp ts := rfl

/-! ### the inclusion -/
theorem toksSet4_eq {ch : Expr → Bool} {g : List Expr} (h : toksArgs4 d ch 8 g = TQ2.toksArgs4 d ch 8 g) : toksSet4 d ch g = TQ2.toksSet4 d ch g := by
  rcases g with _ | ⟨e, _ | ⟨e2, es⟩⟩ <;>
    simp_all [toksSet4, TQ2.toksSet4, toksArgs4, TQ2.toksArgs4, toksArgsTail4, TQ2.toksArgsTail4, headIsGrp_eq]
attribute [local simp] TQ2.FragE4 FragE5 TQ2.inRhs4 inRhs4 TQ2.FragQ2 FragQ3 TQ2.FragUn2 FragUn2 TQ2.FragS4 FragS5 TQ2.byOK4 byOK4 TQ2.FragL4 FragL4
  TQ2.orderOK4 orderOK4 TQ2.ordTailOK4 ordTailOK4 TQ2.ordItemOK4 ordItemOK4 TQ2.groupOK4 groupOK4 TQ2.setsOK4 setsOK4 TQ2.FragO4 FragO4 TQ2.joinsOK4
  joinsOK4 TQ2.joinOK4 joinOK4 TQ2.ruleOK4 ruleOK4 TQ2.usingOK4 usingOK4 TQ2.tableOK4 tableOK4 TQ2.refOK4 refOK4 TQ2.latsOK4 latsOK4 TQ2.latOK4 latOK4
  TQ2.latFnOK4 latFnOK4 TQ2.fromOK4 fromOK4 TQ2.tablesOK4 tablesOK4 TQ2.colsOK4 colsOK4 TQ2.isSubQ4 isSubQ4 TQ2.FragA4 FragA4 TQ2.idxBaseOK4
  idxBaseOK4 TQ2.winFnOK4 winFnOK4 TQ2.toksE4 toksE5 TQ2.toksArgs4 toksArgs4 TQ2.toksArgsTail4 toksArgsTail4 TQ2.toksArms4 toksArms4 TQ2.toksElse4
  toksElse4 TQ2.toksQ2 toksQ3 TQ2.toksUn2 toksUn2 TQ2.toksS4 toksS5 TQ2.toksCols4 toksCols4 TQ2.toksColsTail4 toksColsTail4 TQ2.toksRef4 toksRef4
  TQ2.toksTable4 toksTable4 TQ2.toksTablesTail4 toksTablesTail4 TQ2.toksFrom4 toksFrom4 TQ2.toksLat4 toksLat4 TQ2.toksLats4 toksLats4 TQ2.toksRule4
  toksRule4 TQ2.toksJoin4 toksJoin4 TQ2.toksJoins4 toksJoins4 TQ2.toksOptE4 toksOptE4 toksSet4_eq TQ2.toksSetsTail4 toksSetsTail4
  TQ2.toksSets4 toksSets4 TQ2.toksSetsOpt4 toksSetsOpt4 TQ2.toksGroup4 toksGroup4 TQ2.toksOrdItem4 toksOrdItem4 TQ2.toksOrdTail4 toksOrdTail4
  TQ2.toksOrdList4 toksOrdList4 TQ2.toksOrder4 toksOrder4 TQ2.toksSort4 toksSort4 TQ2.toksBy4 toksBy4 optAlias_inc castParamToks_eq aliasList_eq
  shortL4_eq joinTyOK4_eq unionTyOK4_eq castVal_eq castTyOK_eq castParamsOK_eq rowsOK_eq toksRows_eq aliasesOK_eq ifOK_eq arr_eq headIsGrp_eq
/-- **every clause of `TQ2`'s fragment is a clause of `TQ3`'s, with the same rendering for every choice of redundant brackets**: by
induction along `TQ2.FragE4` and its companions (one motive for each of them, in the order of `TQ2.FragE4.mutual_induct`: `FragE4`, `inRhs4`,
`FragQ2`, `FragUn2`, `FragS4`, `byOK4`, `FragL4`, `orderOK4`, `ordTailOK4`, `ordItemOK4`, `groupOK4`, `setsOK4`, `FragO4`, `joinsOK4`,
`joinOK4`, `ruleOK4`, `usingOK4`, `tableOK4`, `refOK4`, `latsOK4`, `latOK4`, `latFnOK4`, `fromOK4`, `tablesOK4`, `colsOK4`, `isSubQ4`,
`FragA4`, `idxBaseOK4`, `winFnOK4`) -/
theorem inc (d : Gen.D) :
    (∀ e, TQ2.FragE4 d e = true → FragE5 d e = true ∧ ∀ ch, toksE5 d ch e = TQ2.toksE4 d ch e) ∧
    (∀ e, TQ2.inRhs4 d e = true → inRhs4 d e = true ∧ ∀ ch, toksE5 d ch e = TQ2.toksE4 d ch e) ∧
    (∀ q, TQ2.FragQ2 d q = true → FragQ3 d q = true ∧ ∀ ch, toksQ3 d ch q = TQ2.toksQ2 d ch q) ∧
    (∀ us, TQ2.FragUn2 d us = true → FragUn2 d us = true ∧ ∀ ch, toksUn2 d ch us = TQ2.toksUn2 d ch us) ∧
    (∀ s, TQ2.FragS4 d s = true → FragS5 d s = true ∧ ∀ ch, toksS5 d ch s = TQ2.toksS4 d ch s) ∧
    (∀ o, TQ2.byOK4 d o = true → byOK4 d o = true ∧ ∀ ch kw, toksBy4 d ch kw o = TQ2.toksBy4 d ch kw o) ∧
    (∀ ps, TQ2.FragL4 d ps = true → FragL4 d ps = true ∧ ∀ ch k, toksArgs4 d ch k ps = TQ2.toksArgs4 d ch k ps ∧
      toksArgsTail4 d ch k ps = TQ2.toksArgsTail4 d ch k ps) ∧
    (∀ o, TQ2.orderOK4 d o = true → orderOK4 d o = true ∧ ∀ ch, toksOrder4 d ch o = TQ2.toksOrder4 d ch o ∧ toksSort4 d ch o = TQ2.toksSort4 d ch o) ∧
    (∀ os, TQ2.ordTailOK4 d os = true → ordTailOK4 d os = true ∧ ∀ ch, toksOrdTail4 d ch os = TQ2.toksOrdTail4 d ch os ∧
      toksOrdList4 d ch os = TQ2.toksOrdList4 d ch os) ∧
    (∀ o, TQ2.ordItemOK4 d o = true → ordItemOK4 d o = true ∧ ∀ ch, toksOrdItem4 d ch o = TQ2.toksOrdItem4 d ch o) ∧
    (∀ g, TQ2.groupOK4 d g = true → groupOK4 d g = true ∧ ∀ ch, toksGroup4 d ch g = TQ2.toksGroup4 d ch g) ∧
    (∀ l, TQ2.setsOK4 d l = true → setsOK4 d l = true ∧ ∀ ch, toksSets4 d ch l = TQ2.toksSets4 d ch l ∧ toksSetsTail4 d ch l = TQ2.toksSetsTail4 d ch l) ∧
    (∀ o, TQ2.FragO4 d o = true → FragO4 d o = true ∧ ∀ ch, toksElse4 d ch o = TQ2.toksElse4 d ch o ∧ ∀ kw, toksOptE4 d ch kw o = TQ2.toksOptE4 d ch kw o) ∧
    (∀ js, TQ2.joinsOK4 d js = true → joinsOK4 d js = true ∧ ∀ ch, toksJoins4 d ch js = TQ2.toksJoins4 d ch js) ∧
    (∀ j, TQ2.joinOK4 d j = true → joinOK4 d j = true ∧ ∀ ch, toksJoin4 d ch j = TQ2.toksJoin4 d ch j) ∧
    (∀ r, TQ2.ruleOK4 d r = true → ruleOK4 d r = true ∧ ∀ ch, toksRule4 d ch r = TQ2.toksRule4 d ch r) ∧
    (∀ e, TQ2.usingOK4 d e = true → usingOK4 d e = true ∧ ∀ ch, toksE5 d ch e = TQ2.toksE4 d ch e) ∧
    (∀ t, TQ2.tableOK4 d t = true → tableOK4 d t = true ∧ ∀ ch, toksTable4 d ch t = TQ2.toksTable4 d ch t) ∧
    (∀ r, TQ2.refOK4 d r = true → refOK4 d r = true ∧ ∀ ch, toksRef4 d ch r = TQ2.toksRef4 d ch r) ∧
    (∀ ls, TQ2.latsOK4 d ls = true → latsOK4 d ls = true ∧ ∀ ch, toksLats4 d ch ls = TQ2.toksLats4 d ch ls) ∧
    (∀ l, TQ2.latOK4 d l = true → latOK4 d l = true ∧ ∀ ch, toksLat4 d ch l = TQ2.toksLat4 d ch l) ∧
    (∀ e, TQ2.latFnOK4 d e = true → latFnOK4 d e = true ∧ ∀ ch, toksE5 d ch e = TQ2.toksE4 d ch e) ∧
    (∀ f, TQ2.fromOK4 d f = true → fromOK4 d f = true ∧ ∀ ch, toksFrom4 d ch f = TQ2.toksFrom4 d ch f) ∧
    (∀ ts, TQ2.tablesOK4 d ts = true → tablesOK4 d ts = true ∧ ∀ ch, toksTablesTail4 d ch ts = TQ2.toksTablesTail4 d ch ts) ∧
    (∀ cs, TQ2.colsOK4 d cs = true → colsOK4 d cs = true ∧ ∀ ch, toksCols4 d ch cs = TQ2.toksCols4 d ch cs ∧ toksColsTail4 d ch cs = TQ2.toksColsTail4 d ch cs) ∧
    (∀ e, TQ2.isSubQ4 d e = true → isSubQ4 d e = true ∧ ∀ ch, toksE5 d ch e = TQ2.toksE4 d ch e) ∧
    (∀ cs, TQ2.FragA4 d cs = true → FragA4 d cs = true ∧ ∀ ch, toksArms4 d ch cs = TQ2.toksArms4 d ch cs) ∧
    (∀ e, TQ2.idxBaseOK4 d e = true → idxBaseOK4 d e = true ∧ ∀ ch, toksE5 d ch e = TQ2.toksE4 d ch e) ∧
    (∀ e, TQ2.winFnOK4 d e = true → winFnOK4 d e = true ∧ ∀ ch, toksE5 d ch e = TQ2.toksE4 d ch e) := by
  apply TQ2.FragE4.mutual_induct
  case case3 =>
    intro v h
    simp only [TQ2.FragE4] at h
    exact ⟨litOK_of v h, fun ch => by simp only [toksE5, TQ2.toksE4, litTok_eq v h]⟩
  case case6 => intro s n ps ih h; cases s <;> simp_all
  case case18 => intro k n l r ihl ihin ihr h; by_cases hk : k = .in_ <;> simp_all
  case case51 => intro ws s us ihs ihu h; rcases ws with _ | _ | _ <;> simp_all
  case case74 => intro e es sets cube rollup ihe ihes ihsets h; cases sets <;> simp_all
  all_goals intros; simp_all

variable {e : Expr} {q : Query}
theorem incE (h : TQ2.FragE4 d e = true) : FragE5 d e = true ∧ ∀ ch, toksE5 d ch e = TQ2.toksE4 d ch e := (inc d).1 e h
theorem incQ (h : TQ2.FragQ2 d q = true) : FragQ3 d q = true ∧ ∀ ch, toksQ3 d ch q = TQ2.toksQ2 d ch q := (inc d).2.2.1 q h
theorem incL {ps : List Expr} (h : TQ2.FragL4 d ps = true) : FragL4 d ps = true ∧ ∀ ch k, toksArgs4 d ch k ps = TQ2.toksArgs4 d ch k ps ∧
    toksArgsTail4 d ch k ps = TQ2.toksArgsTail4 d ch k ps := (inc d).2.2.2.2.2.2.1 ps h
theorem incOrder {o : Option (List OrderItem)} (h : TQ2.orderOK4 d o = true) : orderOK4 d o = true ∧
    ∀ ch, toksOrder4 d ch o = TQ2.toksOrder4 d ch o ∧ toksSort4 d ch o = TQ2.toksSort4 d ch o := (inc d).2.2.2.2.2.2.2.1 o h
theorem incO {o : Option Expr} (h : TQ2.FragO4 d o = true) : FragO4 d o = true ∧
    ∀ ch, toksElse4 d ch o = TQ2.toksElse4 d ch o ∧ ∀ kw, toksOptE4 d ch kw o = TQ2.toksOptE4 d ch kw o :=
  (inc d).2.2.2.2.2.2.2.2.2.2.2.2.1 o h
theorem incFrom {f : Option (List FromTable)} (h : TQ2.fromOK4 d f = true) : fromOK4 d f = true ∧ ∀ ch, toksFrom4 d ch f = TQ2.toksFrom4 d ch f :=
  (inc d).2.2.2.2.2.2.2.2.2.2.2.2.2.2.2.2.2.2.2.2.2.2.1 f h
end TQ3
