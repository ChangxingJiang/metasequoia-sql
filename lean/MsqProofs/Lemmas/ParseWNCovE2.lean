import MsqProofs.Lemmas.ParseWNCovE1
/-!
# C02 at the clause level, fuel step, part 2: WITH, the clauses of a single SELECT, bracketed SELECTs, set operations
-/
open Lex
namespace WNG
open PM Ast
variable {d : Gen.D} {n : Nat}

theorem cv_pWithBody (ih : CV d n) : ∀ T name r1 v r, Sub T r1 → pWithBody d (n+1) name r1 = .ok (v, r) → CovL d T (exprsW v) := by
  intro T name r1 v r hs h
  unfold pWithBody at h
  split at h
  · cases h
  · rename_i g r2
    split at h
    · rename_i q hq
      obtain ⟨rfl, rfl⟩ := ret2 h
      rw [closed_ok] at hq
      simpa [exprsW] using ih.pSelectStmt T (some []) g.children q [] hs.head_child (by simpa [exprsOW, exprsWs] using CovL.nil) hq
    · cases h

theorem cv_pWithTable (ih : CV d n) : ∀ T ts v r, Sub T ts → pWithTable d (n+1) ts = .ok (v, r) → CovL d T (exprsW v) := by
  intro T ts v r hs h
  unfold pWithTable at h
  split at h
  · cases h
  · rename_i t r0
    split at h
    · cases h
    · rename_i r1 hm
      exact ih.pWithBody T _ r1 v r (hs.tail.of_cons (matchSeq_cons r0 _ _ r1 hm)) h

theorem cv_pWithTables (ih : CV d n) : ∀ T acc ts v r, Sub T ts → CovL d T (exprsWs acc) → pWithTables d (n+1) acc ts = .ok (v, r) →
    CovL d T (exprsWs v) := by
  intro T acc ts v r hs ha h
  unfold pWithTables at h
  split at h
  · split at h
    · rename_i w r1 h1
      have hc := ih.pWithTable T _ w r1 (hs.drop 1) h1
      have hs1 : Sub T r1 := (hs.drop 1).of_cons (PM.pWithTable_consumes d n _ w r1 h1)
      refine ih.pWithTables T _ r1 v r hs1 ?_ h
      rw [exprsWs_append]
      exact ha.append (by simpa [exprsWs] using hc)
    · cases h
  · obtain ⟨rfl, rfl⟩ := ret2 h; exact ha

theorem cv_pWith (ih : CV d n) : ∀ T ts v r, Sub T ts → pWith d (n+1) ts = .ok (v, r) → CovL d T (exprsWs v) := by
  intro T ts v r hs h
  unfold pWith at h
  split at h
  · split at h
    · cases h
    · rename_i w r1 h1
      have hc := ih.pWithTable T _ w r1 (hs.drop 1) h1
      have hs1 : Sub T r1 := (hs.drop 1).of_cons (PM.pWithTable_consumes d n _ w r1 h1)
      exact ih.pWithTables T [w] r1 v r hs1 (by simpa [exprsWs] using hc) h
  · obtain ⟨rfl, rfl⟩ := ret2 h; simpa [exprsWs] using CovL.nil

theorem cv_pByList (ih : CV d n) : ∀ T kwd ts v r, Sub T ts → pByList d (n+1) kwd ts = .ok (v, r) → CovL d T (v.getD []) := by
  intro T kwd ts v r hs h
  unfold pByList at h
  split at h
  · split at h
    · cases h
    · rename_i e r1 h1
      obtain ⟨hc, hs1⟩ := cov_run (hs.drop 2) ((wf_all d n).pCompute _ e r1 h1)
      split at h
      · rename_i es r2 h2
        obtain ⟨rfl, rfl⟩ := ret2 h
        simpa using ih.pComputeList T [e] r1 es r2 hs1 (.single hc) h2
      · cases h
  · obtain ⟨rfl, rfl⟩ := ret2 h; simpa using CovL.nil

theorem cv_pSortBy (ih : CV d n) : ∀ T ts v r, Sub T ts → pSortBy d (n+1) ts = .ok (v, r) → CovL d T (oiEs v) := by
  intro T ts v r hs h
  unfold pSortBy at h
  split at h
  · split at h
    · cases h
    · rename_i o r1 h1
      have hc := ih.pOrderItem T _ o r1 (hs.drop 2) h1
      split at h
      · rename_i os r2 h2
        obtain ⟨rfl, rfl⟩ := ret2 h
        exact ih.pOrderList T [o] r1 os r2 (pOrderItem_sub (hs.drop 2) h1) (by simpa using CovL.single hc) h2
      · cases h
  · obtain ⟨rfl, rfl⟩ := ret2 h; exact .nil

theorem cv_pHiveClauses (ih : CV d n) : ∀ T ts v r, Sub T ts → pHiveClauses d (n+1) ts = .ok (v, r) →
    CovL d T (oiEs v.1 ++ (v.2.1.getD [] ++ v.2.2.getD [])) := by
  intro T ts v r hs h
  unfold pHiveClauses at h
  split at h
  · cases h
  · rename_i sb r1 h1
    have c1 := ih.pSortBy T ts sb r1 hs h1
    have hs1 : Sub T r1 := hs.of_cons (PM.pSortBy_consumes d n _ sb r1 h1)
    split at h
    · cases h
    · rename_i db r2 h2
      have c2 := ih.pByList T _ r1 db r2 hs1 h2
      have hs2 : Sub T r2 := hs1.of_cons (PM.pByList_consumes d n _ _ db r2 h2)
      split at h
      · cases h
      · rename_i cb r3 h3
        have c3 := ih.pByList T _ r2 cb r3 hs2 h3
        obtain ⟨rfl, rfl⟩ := ret2 h
        exact c1.append (c2.append c3)

theorem cv_pHavingOrder (ih : CV d n) : ∀ T ts v r, Sub T ts → pHavingOrder d (n+1) ts = .ok (v, r) → CovL d T (v.1.toList ++ oiEs v.2) := by
  intro T ts v r hs h
  unfold pHavingOrder at h
  split at h
  · cases h
  · rename_i hv r3 h1
    have c1 := ih.pOptOr T _ ts hv r3 hs h1
    have hs1 : Sub T r3 := hs.of_cons (PM.pOptOr_consumes d n _ _ hv r3 h1)
    split at h
    · cases h
    · rename_i ob r4 h2
      have c2 := ih.pOrderByOpt T r3 ob r4 hs1 h2
      obtain ⟨rfl, rfl⟩ := ret2 h
      exact c1.append c2

theorem cv_pWhereGroup (ih : CV d n) : ∀ T ts v r, Sub T ts → pWhereGroup d (n+1) ts = .ok (v, r) → CovL d T (v.1.toList ++ ogbE v.2) := by
  intro T ts v r hs h
  unfold pWhereGroup at h
  split at h
  · cases h
  · rename_i wh r1 h1
    have c1 := ih.pOptOr T _ ts wh r1 hs h1
    have hs1 : Sub T r1 := hs.of_cons (PM.pOptOr_consumes d n _ _ wh r1 h1)
    split at h
    · cases h
    · rename_i gb r2 h2
      have c2 := ih.pGroupBy T r1 gb r2 hs1 h2
      obtain ⟨rfl, rfl⟩ := ret2 h
      exact c1.append c2

theorem cv_pSelectTail (ih : CV d n) : ∀ T withs dist cols fr lats js ts v r, Sub T ts → CovL d T (exprsWs withs) →
    CovL d T (cols.map (·.1)) → CovL d T (exprsOF fr) → CovL d T (lats.map latE) → CovL d T (exprsJs js) →
    pSelectTail d (n+1) withs dist cols fr lats js ts = .ok (v, r) → CovL d T (exprsS v) := by
  intro T withs dist cols fr lats js ts v r hs hw hc hf hl hj h
  unfold pSelectTail at h
  split at h
  · cases h
  · rename_i wh gb r2 h1
    have c1 := ih.pWhereGroup T ts (wh, gb) r2 hs h1
    have hs1 : Sub T r2 := hs.of_cons (PM.pWhereGroup_consumes d n _ _ r2 h1)
    split at h
    · cases h
    · rename_i hv ob r4 h2
      have c2 := ih.pHavingOrder T r2 (hv, ob) r4 hs1 h2
      have hs2 : Sub T r4 := hs1.of_cons (PM.pHavingOrder_consumes d n _ _ r4 h2)
      split at h
      · cases h
      · rename_i sb db cb r4' h3
        have c3 := ih.pHiveClauses T r4 (sb, db, cb) r4' hs2 h3
        split at h
        · cases h
        · rename_i lm r5 h4
          obtain ⟨rfl, rfl⟩ := ret2 h
          simp only [exprsS, exprsOW]
          exact hw.append (hc.append (hf.append (hl.append (hj.append (c1.left.append (c1.right.append (c2.left.append (c2.right.append
            (c3.left.append c3.right)))))))))

theorem cv_pFromOpt (ih : CV d n) : ∀ T ts v r, Sub T ts → pFromOpt d (n+1) ts = .ok (v, r) → CovL d T (exprsOF v) := by
  intro T ts v r hs h
  unfold pFromOpt at h
  split at h
  · split at h
    · cases h
    · rename_i t r1 h1
      have hc := ih.pFromTable T _ t r1 (hs.drop 1) h1
      have hs1 : Sub T r1 := (hs.drop 1).of_cons (PM.pFromTable_consumes d n _ t r1 h1)
      split at h
      · rename_i tsl r2 h2
        obtain ⟨rfl, rfl⟩ := ret2 h
        simpa [exprsOF] using ih.pFromTables T [t] r1 tsl r2 hs1 (by simpa [exprsFs] using hc) h2
      · cases h
  · obtain ⟨rfl, rfl⟩ := ret2 h; simpa [exprsOF] using CovL.nil

theorem cv_pLateral (_ : CV d n) : ∀ T ts v r, Sub T ts → pLateral d (n+1) ts = .ok (v, r) → Cov d T (latE v) := by
  intro T ts v r hs h
  unfold pLateral at h
  split at h
  · cases h
  · rename_i r0 hm
    have hs0 : Sub T r0 := hs.of_cons (matchSeq_cons ts _ _ r0 hm)
    split at h
    · cases h
    · rename_i fn r1 h1
      obtain ⟨hc, _⟩ := cov_run (hs0.of_cons (moveStrUp_sfx r0 "OUTER")) ((wf_all d n).pFunc _ fn r1 h1)
      split at h
      · cases h
      · split at h
        · cases h
        · obtain ⟨rfl, rfl⟩ := ret2 h; exact hc

theorem cv_pLaterals (ih : CV d n) : ∀ T same outer acc inner v r, Sub T inner → CovL d T (acc.map latE) →
    pLaterals d (n+1) same outer acc inner = .ok (v, r) → CovL d T (v.map latE) := by
  intro T same outer acc inner v r hs ha h
  unfold pLaterals at h
  generalize searchTwoUp (if same = true then inner else outer) "LATERAL" "VIEW" = c at h
  cases c with
  | true =>
    simp only [↓reduceIte] at h
    split at h
    · rename_i l r1 h1
      have hc := ih.pLateral T inner l r1 hs h1
      have hs1 : Sub T r1 := hs.of_cons (PM.pLateral_consumes d n _ l r1 h1)
      exact ih.pLaterals T same outer _ r1 v r hs1 (by simpa using ha.snoc hc) h
    · cases h
  | false =>
    simp only [Bool.false_eq_true, ↓reduceIte] at h
    obtain ⟨rfl, rfl⟩ := ret2 h; exact ha

theorem cv_pSelectRest (ih : CV d n) : ∀ T withs dist cols same outer inner v r, Sub T inner → CovL d T (exprsWs withs) →
    CovL d T (cols.map (·.1)) → pSelectRest d (n+1) withs dist cols same outer inner = .ok (v, r) → CovL d T (exprsS v) := by
  intro T withs dist cols same outer inner v r hs hw hc h
  unfold pSelectRest at h
  split at h
  · cases h
  · rename_i fr r1 h1
    have c1 := ih.pFromOpt T inner fr r1 hs h1
    have hs1 : Sub T r1 := hs.of_cons (PM.pFromOpt_consumes d n _ fr r1 h1)
    split at h
    · cases h
    · rename_i lats r1' h2
      have c2 := ih.pLaterals T same outer [] r1 lats r1' hs1 (by simpa using CovL.nil) h2
      have hs2 : Sub T r1' := hs1.of_cons (PM.pLaterals_consumes d n _ _ _ _ lats r1' h2)
      split at h
      · cases h
      · rename_i js r2 h3
        have c3 := ih.pJoins T same outer [] r1' js r2 hs2 (by simpa [exprsJs] using CovL.nil) h3
        have hs3 : Sub T r2 := hs2.of_cons (PM.pJoins_consumes d n _ _ _ _ js r2 h3)
        exact ih.pSelectTail T withs dist cols fr lats js r2 v r hs3 hw hc c1 c2 c3 h

theorem cv_pSelectBody (ih : CV d n) : ∀ T withs same outer inner v r, Sub T inner → CovL d T (exprsWs withs) →
    pSelectBody d (n+1) withs same outer inner = .ok (v, r) → CovL d T (exprsS v) := by
  intro T withs same outer inner v r hs hw h
  unfold pSelectBody at h
  split at h
  · cases h
  · rename_i r0 hm
    have hs0 : Sub T r0 := hs.of_cons (matchSeq_cons inner _ _ r0 hm)
    have hs0' : Sub T (moveStrUp r0 "DISTINCT").2 := hs0.of_cons (moveStrUp_sfx r0 "DISTINCT")
    split at h
    · cases h
    · rename_i c r1 h1
      have c1 := ih.pSelectCol T _ c r1 hs0' h1
      have hs1 : Sub T r1 := hs0'.of_cons (PM.pSelectCol_consumes d n _ c r1 h1)
      split at h
      · cases h
      · rename_i cols r2 h2
        have c2 := ih.pSelectCols T [c] r1 cols r2 hs1 (by simpa using CovL.single c1) h2
        have hs2 : Sub T r2 := hs1.of_cons (PM.pSelectCols_consumes d n _ _ cols r2 h2)
        exact ih.pSelectRest T withs _ cols same outer r2 v r hs2 hw c2 h

theorem cv_pSingleParen (ih : CV d n) : ∀ T withs outer stack inner v r, Sub T outer → Sub T inner → CovL d T (exprsWs withs) →
    pSingleParen d (n+1) withs outer stack inner = .ok (v, r) → CovL d T (exprsS v) := by
  intro T withs outer stack inner v r hso hsi hw h
  unfold pSingleParen at h
  split at h
  · split at h
    · cases h
    · rename_i g outer'
      exact ih.pSingleParen T withs outer' _ g.children v r hso.tail hso.head_child hw h
  · split at h
    · cases h
    · rename_i s rest h1
      have c := ih.pSelectBody T withs false outer inner s rest hsi hw h1
      split at h
      · cases h
      · split at h
        · cases h
        · obtain ⟨rfl, rfl⟩ := ret2 h; exact c

theorem cv_pSingle (ih : CV d n) : ∀ T withs ts v r, Sub T ts → CovL d T (exprsWs withs) → pSingle d (n+1) withs ts = .ok (v, r) →
    CovL d T (exprsS v) := by
  intro T withs ts v r hs hw h
  unfold pSingle at h
  split at h
  · exact ih.pSelectBody T withs true [] ts v r hs hw h
  · split at h
    · cases h
    · rename_i g outer hc
      exact ih.pSingleParen T withs outer _ g.children v r hs.tail hs.head_child hw h

theorem exprsS_setWiths {T : List Tok} {s : Select} (h : CovL d T (exprsS s)) : CovL d T (exprsS (setWiths s)) := by
  cases s with
  | mk w dist cols fr lats js wh gb hv ob sb db cb lm =>
    simp only [setWiths, exprsS, exprsOW, exprsWs, List.nil_append] at h ⊢
    exact h.right

theorem exprsUs_setWiths {T : List Tok} : ∀ {us : List (String × Select)}, CovL d T (exprsUs us) →
    CovL d T (exprsUs (us.map fun p => (p.1, setWiths p.2))) := by
  intro us
  induction us with
  | nil => intro h; simpa [exprsUs] using h
  | cons p us ih =>
    obtain ⟨x, s⟩ := p
    intro h
    simp only [exprsUs, List.map_cons] at h ⊢
    exact (exprsS_setWiths h.left).append (ih h.right)

theorem cv_pUnions (ih : CV d n) : ∀ T withs acc ts v r, Sub T ts → CovL d T (exprsWs withs) → CovL d T (exprsUs acc) →
    pUnions d (n+1) withs acc ts = .ok (v, r) → CovL d T (exprsUs v) := by
  intro T withs acc ts v r hs hw ha h
  unfold pUnions at h
  split at h
  · obtain ⟨rfl, rfl⟩ := ret2 h; exact ha
  · split at h
    · cases h
    · rename_i ut r0 hf
      have hs0 : Sub T r0 := hs.of_cons (firstEnum_sfx _ _ _ _ hf)
      split at h
      · cases h
      · rename_i s r1 h1
        have c := ih.pSingle T withs r0 s r1 hs0 hw h1
        have hs1 : Sub T r1 := hs0.of_cons (PM.pSingle_consumes d n _ _ s r1 h1)
        refine ih.pUnions T withs _ r1 v r hs1 hw ?_ h
        rw [exprsUs_append]
        exact ha.append (by simpa [exprsUs] using c)

theorem cv_pSelectStmt (ih : CV d n) : ∀ T withs ts v r, Sub T ts → CovL d T (exprsOW withs) → pSelectStmt d (n+1) withs ts = .ok (v, r) →
    CovL d T (exprsQ v) := by
  intro T withs ts v r hs hw h
  have main : ∀ (ws : List WithTable) (r0 : List Tok), Sub T r0 → CovL d T (exprsWs ws) →
      (match pSingle d n ws r0 with
        | .error e => .error e
        | .ok (s, r1) => match pUnions d n ws [] r1 with
          | .error e => .error e
          | .ok (us, r2) =>
            if us.isEmpty then .ok (.single s, r2) else .ok (.union (some ws) (setWiths s) (us.map fun p => (p.1, setWiths p.2)), r2)) = (.ok (v, r) : R Query) →
      CovL d T (exprsQ v) := by
    intro ws r0 hs0 hws h
    split at h
    · cases h
    · rename_i s r1 h1
      have c1 := ih.pSingle T ws r0 s r1 hs0 hws h1
      have hs1 : Sub T r1 := hs0.of_cons (PM.pSingle_consumes d n _ _ s r1 h1)
      split at h
      · cases h
      · rename_i us r2 h2
        have c2 := ih.pUnions T ws [] r1 us r2 hs1 hws (by simpa [exprsUs] using CovL.nil) h2
        split at h
        · obtain ⟨rfl, rfl⟩ := ret2 h
          simpa [exprsQ] using c1
        · obtain ⟨rfl, rfl⟩ := ret2 h
          simp only [exprsQ, exprsOW]
          exact hws.append ((exprsS_setWiths c1).append (exprsUs_setWiths c2))
  cases withs with
  | some w =>
    unfold pSelectStmt at h
    simp only at h
    exact main w ts hs (by simpa [exprsOW] using hw) h
  | none =>
    unfold pSelectStmt at h
    simp only at h
    cases hwith : pWith d n ts with
    | error e => rw [hwith] at h; cases h
    | ok p =>
      obtain ⟨ws, r0⟩ := p
      rw [hwith] at h
      simp only at h
      exact main ws r0 (hs.of_cons (PM.pWith_consumes d n _ ws r0 hwith)) (ih.pWith T ts ws r0 hs hwith) h

end WNG
