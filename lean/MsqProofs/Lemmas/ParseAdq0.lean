import MsqProofs.Lemmas.ParseAccount0
import MsqModel.Parse.Entry
/-!
# Fuel adequacy, below the family `tools/gen_out.py` prints: the potential of a cursor and what the primitives do to it

The parser model is fuel-indexed: every call inside the 80-function mutual block of `Parse/Expr.lean` — a call of another
function AND every iteration of a loop, which is a recursive call — costs one unit.  The fuel a run needs is therefore the
DEPTH of its call chain.  `adqWL ts` is a potential that bounds it:

* a word weighs `19`;
* a bracket group weighs `19 + (number of its children) + (weight of its children)`.

`19` is the shipped budget of `20` units per token (`fuelFor`) less the one unit that pays for the token's place in the list (`adqW_le`: weight `+ 1 ≤ 20 ·` size);
it has to pay for the longest chain of calls that do not consume a token, which is shorter (15 functions: `pSelectCol → pOr → … → pElement → pNamed →
pWindow → pFuncIdx → pFunc`; every function has a rank `≥ 1` in that order, `ParseAdqDefs.lean`), the extra unit per child
pays for the one place where the same tokens are walked twice (`pSplit`, the list of `IN (…)`, first collects the tokens of a
segment one per call and then parses the segment; likewise the segment loops of `GROUPING SETS`).
`adqWL ts + ts.length ≤ 20 * sizeL ts` (`adqWL_le`), which is how the shipped budget `fuelFor ts = 20 * sizeL ts + 40` comes in.

Here: what the cursor primitives do to the potential — a rest of a cursor weighs no more, a successful consuming primitive loses a token
(`Lost`, `StrictRel`: weight `≥ 19`, length `≥ 1`).  That no function answers `.fuel` within its budget is the third of the three answers of `ParseOut0.lean`.
-/
open Lex
namespace PM

mutual
def adqW : Tok → Nat
  | .single _ _ => 19
  | .group _ cs _ => 19 + (cs.length + adqWL cs)
def adqWL : List Tok → Nat
  | [] => 0
  | t :: ts => adqW t + adqWL ts
end

@[simp, grind =] theorem adqWL_nil : adqWL [] = 0 := by simp [adqWL]
@[simp, grind =] theorem adqWL_cons (t : Tok) (ts : List Tok) : adqWL (t :: ts) = adqW t + adqWL ts := by simp [adqWL]
theorem adqWL_append (a b : List Tok) : adqWL (a ++ b) = adqWL a + adqWL b := by
  induction a with
  | nil => simp
  | cons t a ih => simp [ih]; omega
theorem adqW_ge (t : Tok) : 19 ≤ adqW t := by cases t <;> simp [adqW]
grind_pattern adqW_ge => adqW t
/-- descending into a bracket group: the group pays `19` and one unit per child -/
theorem adqW_children (t : Tok) : adqWL t.children + t.children.length + 19 ≤ adqW t := by
  cases t <;> simp [adqW, Tok.children]; omega
grind_pattern adqW_children => Tok.children t

-- the shipped budget is stated in `sizeL`: `fuelFor ts = 20 * sizeL ts + 40`
mutual
theorem adqW_le : ∀ t : Tok, adqW t + 1 ≤ 20 * t.size
  | .single _ _ => by simp [adqW, Tok.size]
  | .group _ cs _ => by have := adqWL_le cs; simp [adqW, Tok.size]; omega
theorem adqWL_le : ∀ ts : List Tok, adqWL ts + ts.length ≤ 20 * sizeL ts
  | [] => by simp [sizeL]
  | t :: ts => by have := adqW_le t; have := adqWL_le ts; simp [sizeL]; omega
end
theorem adqWL_fuelFor (ts : List Tok) : adqWL ts + 40 ≤ fuelFor ts := by
  have := adqWL_le ts; unfold fuelFor; omega

theorem sfx_adqWL {r ts : List Tok} (h : Sfx r ts) : adqWL r ≤ adqWL ts ∧ r.length ≤ ts.length := by
  obtain ⟨u, rfl⟩ := h; simp [adqWL_append]
grind_pattern sfx_adqWL => Sfx r ts

/-- weight of a list of segments: one unit per segment (the loop over the segments) plus their weights -/
def adqWLL : List (List Tok) → Nat
  | [] => 0
  | sg :: rest => adqWL sg + 1 + adqWLL rest
@[simp, grind =] theorem adqWLL_nil : adqWLL [] = 0 := rfl
@[simp, grind =] theorem adqWLL_cons (sg : List Tok) (rest : List (List Tok)) : adqWLL (sg :: rest) = adqWL sg + 1 + adqWLL rest := rfl
theorem adqWLL_append (a b : List (List Tok)) : adqWLL (a ++ b) = adqWLL a + adqWLL b := by
  induction a with
  | nil => simp
  | cons t a ih => simp [ih]; omega
theorem adqWLL_mem {sg : List Tok} {segs : List (List Tok)} (h : sg ∈ segs) : adqWL sg + 1 ≤ adqWLL segs := by
  induction segs with
  | nil => cases h
  | cons s segs ih =>
    rcases List.mem_cons.mp h with rfl | h
    · simp
    · have := ih h; simp; omega
grind_pattern adqWLL_mem => sg ∈ segs, adqWLL segs

theorem splitBy_adqWLL (sep : String) : ∀ ts cur acc,
    adqWLL (splitBy sep ts cur acc) ≤ adqWLL acc + adqWL cur + adqWL ts + ts.length + 1 := by
  intro ts
  induction ts with
  | nil => intro cur acc; unfold splitBy; split <;> simp [adqWLL_append] <;> (try omega)
  | cons t r ih =>
    intro cur acc
    have ht := adqW_ge t
    unfold splitBy
    split
    · split
      · have := ih [] acc; simp at this ⊢; omega
      · have := ih [] (acc ++ [cur]); simp [adqWLL_append] at this ⊢; omega
    · have := ih (cur ++ [t]) acc; simp [adqWL_append] at this ⊢; omega
theorem splitBy_children (sep : String) (t : Tok) : adqWLL (splitBy sep t.children [] []) + 18 ≤ adqW t := by
  have := splitBy_adqWLL sep t.children [] []; have := adqW_children t; simp at *; omega
grind_pattern splitBy_children => splitBy sep (Tok.children t) [] []

/-- `SUBSTRING(x FROM a FOR b)`: replacing words by commas does not add weight -/
theorem substringRewrite_adqWL (u : String) (cs : List Tok) : adqWL (substringRewrite u cs) ≤ adqWL cs := by
  unfold substringRewrite
  split
  · induction cs with
    | nil => simp
    | cons t cs ih =>
      have := adqW_ge t
      simp only [List.map_cons, adqWL_cons]
      split <;> simp [adqW] at * <;> omega
  · exact Nat.le_refl _
theorem callPrep_adqWL (name : String) (g : Tok) : adqWL (callPrep name g).2.2 + 19 ≤ adqW g := by
  have h1 := substringRewrite_adqWL (up name) g.children
  have h2 := adqW_children g
  have h3 := sfx_adqWL (moveStrUp_sfx (substringRewrite (up name) g.children) "DISTINCT")
  unfold callPrep
  dsimp only
  split <;> (try dsimp only) <;> omega
grind_pattern callPrep_adqWL => callPrep name g

def Lost (r ts : List Tok) : Prop := adqWL r + 19 ≤ adqWL ts ∧ r.length + 1 ≤ ts.length
theorem Lost.le {r ts : List Tok} (h : Lost r ts) : adqWL r + 19 ≤ adqWL ts ∧ r.length + 1 ≤ ts.length := h
grind_pattern Lost.le => Lost r ts
theorem lost_cons (t : Tok) (r : List Tok) : Lost r (t :: r) := by
  have := adqW_ge t; constructor <;> simp <;> omega
theorem Lost.sfx {a b c : List Tok} (h1 : Sfx a b) (h2 : Lost b c) : Lost a c := by
  have := sfx_adqWL h1; obtain ⟨h3, h4⟩ := h2; constructor <;> omega
theorem lost_drop (ts : List Tok) (n : Nat) (hn : 1 ≤ n) (hts : ts ≠ []) : Lost (ts.drop n) ts := by
  cases ts with
  | nil => exact absurd rfl hts
  | cons t r =>
    obtain ⟨m, rfl⟩ : ∃ m, n = m + 1 := ⟨n - 1, by omega⟩
    simp only [List.drop_succ_cons]
    exact Lost.sfx (sfx_drop m r) (lost_cons t r)

def StrictRel {α : Type} (ts : List Tok) (a : R α) : Prop := ∀ v r, a = .ok (v, r) → Lost r ts
@[grind =] theorem strictRel_ok {α : Type} (ts : List Tok) (v : α) (r : List Tok) : StrictRel ts (.ok (v, r) : R α) = Lost r ts := by
  simp [StrictRel]
@[grind =] theorem strictRel_error {α : Type} (ts : List Tok) (e : Err) : StrictRel ts (.error e : R α) = True := by simp [StrictRel]

theorem Lost.of_sfx {a b c : List Tok} (h1 : Lost a b) (h2 : Sfx b c) : Lost a c := by
  have := sfx_adqWL h2; obtain ⟨h3, h4⟩ := h1; constructor <;> omega
theorem StrictRel.ok {α : Type} {ts r : List Tok} (v : α) (h : Lost r ts) : StrictRel ts (.ok (v, r) : R α) := by
  intro v' r' e; cases e; exact h
theorem StrictRel.error {α : Type} (ts : List Tok) (e : Err) : StrictRel ts (.error e : R α) := nofun
theorem StrictRel.of_sfx {α : Type} {ts r : List Tok} {a : R α} (hr : Sfx r ts) (h : StrictRel r a) : StrictRel ts a :=
  fun v r' e => (h v r' e).of_sfx hr

/-! look-aheads: a successful look-ahead means the cursor is not empty, so the `drop` that follows it is strict -/
theorem searchStr_lost (ts : List Tok) (k : String) (n : Nat) (h : searchStr ts k = true) : Lost (ts.drop (n+1)) ts :=
  lost_drop ts _ (by omega) (by rintro rfl; simp [searchStr] at h)
grind_pattern searchStr_lost => searchStr ts k, List.drop (n+1) ts
theorem searchStrUp_lost (ts : List Tok) (k : String) (n : Nat) (h : searchStrUp ts k = true) : Lost (ts.drop (n+1)) ts :=
  lost_drop ts _ (by omega) (by rintro rfl; simp [searchStrUp] at h)
grind_pattern searchStrUp_lost => searchStrUp ts k, List.drop (n+1) ts
theorem searchMark_lost (ts : List Tok) (m : Nat) (n : Nat) (h : searchMark ts m = true) : Lost (ts.drop (n+1)) ts :=
  lost_drop ts _ (by omega) (by rintro rfl; simp [searchMark] at h)
grind_pattern searchMark_lost => searchMark ts m, List.drop (n+1) ts
theorem searchTwoUp_lost (ts : List Tok) (a b : String) (n : Nat) (h : searchTwoUp ts a b = true) : Lost (ts.drop (n+1)) ts :=
  lost_drop ts _ (by omega) (by rintro rfl; simp [searchTwoUp] at h)
grind_pattern searchTwoUp_lost => searchTwoUp ts a b, List.drop (n+1) ts
theorem searchThreeUp_lost (ts : List Tok) (a b c : String) (n : Nat) (h : searchThreeUp ts a b c = true) : Lost (ts.drop (n+1)) ts :=
  lost_drop ts _ (by omega) (by rintro rfl; simp [searchThreeUp] at h)
grind_pattern searchThreeUp_lost => searchThreeUp ts a b c, List.drop (n+1) ts
theorem searchSeq_lost (ts : List Tok) (k : String) (ks : List String) (n : Nat) (h : searchSeq ts (k :: ks) = true) : Lost (ts.drop (n+1)) ts :=
  lost_drop ts _ (by omega) (by rintro rfl; simp [searchSeq] at h)
grind_pattern searchSeq_lost => searchSeq ts (k :: ks), List.drop (n+1) ts

theorem moveStr_lost (ts : List Tok) (k : String) (h : (moveStr ts k).1 = true) : Lost (moveStr ts k).2 ts := by
  unfold moveStr at h ⊢
  by_cases hs : searchStr ts k = true
  · simp only [hs, if_true]; exact searchStr_lost ts k 0 hs
  · simp [hs] at h
grind_pattern moveStr_lost => moveStr ts k
theorem moveStrUp_lost (ts : List Tok) (k : String) (h : (moveStrUp ts k).1 = true) : Lost (moveStrUp ts k).2 ts := by
  unfold moveStrUp at h ⊢
  by_cases hs : searchStrUp ts k = true
  · simp only [hs, if_true]; exact searchStrUp_lost ts k 0 hs
  · simp [hs] at h
grind_pattern moveStrUp_lost => moveStrUp ts k

theorem pop_strict (ts : List Tok) : StrictRel ts (pop ts) := by
  intro v r h; cases ts <;> simp [pop] at h; obtain ⟨rfl, rfl⟩ := h; exact lost_cons _ _
grind_pattern pop_strict => pop ts
theorem popSrc_strict (ts : List Tok) : StrictRel ts (popSrc ts) := by
  intro v r h; cases ts <;> simp [popSrc] at h; obtain ⟨rfl, rfl⟩ := h; exact lost_cons _ _
grind_pattern popSrc_strict => popSrc ts
theorem popInt_strict (ts : List Tok) : StrictRel ts (popInt ts) := by
  intro v r h
  cases ts with
  | nil => simp [popInt] at h
  | cons t ts =>
    simp only [popInt] at h
    split at h <;> simp at h
    obtain ⟨rfl, rfl⟩ := h; exact lost_cons _ _
grind_pattern popInt_strict => popInt ts
theorem popAsInt_strict (ts : List Tok) : StrictRel ts (popAsInt ts) := by
  intro v r h
  cases ts with
  | nil => simp [popAsInt] at h
  | cons t ts =>
    simp only [popAsInt] at h
    split at h <;> simp at h
    obtain ⟨rfl, rfl⟩ := h; exact lost_cons _ _
grind_pattern popAsInt_strict => popAsInt ts
theorem matchKw_strict (ts : List Tok) (k : String) : StrictRel ts (matchKw ts k) := by
  intro v r h
  cases ts with
  | nil => simp [matchKw] at h
  | cons t ts =>
    simp only [matchKw] at h
    split at h <;> simp at h
    subst h; exact lost_cons _ _
grind_pattern matchKw_strict => matchKw ts k
theorem matchSeq_strict (ts : List Tok) (k : String) (ks : List String) : StrictRel ts (matchSeq ts (k :: ks)) := by
  intro v r h
  cases ts with
  | nil => simp [matchSeq] at h
  | cons t ts =>
    simp only [matchSeq] at h
    split at h
    · exact Lost.sfx (matchSeq_cons ts ks v r h) (lost_cons _ _)
    · simp at h
grind_pattern matchSeq_strict => matchSeq ts (k :: ks)
theorem getAliasName_strict (ts : List Tok) : StrictRel ts (getAliasName ts) := by
  intro v r h
  cases ts with
  | nil => simp [getAliasName] at h
  | cons t ts =>
    simp only [getAliasName] at h
    split at h <;> simp at h
    obtain ⟨_, rfl⟩ := h; exact lost_cons _ _
grind_pattern getAliasName_strict => getAliasName ts
theorem popSplit_strict (ts : List Tok) (segs : List (List Tok)) (r : List Tok) (h : popSplit ts = .ok (segs, r)) :
    Lost r ts ∧ adqWLL segs + adqWL r + 18 ≤ adqWL ts := by
  cases ts with
  | nil => simp [popSplit] at h
  | cons g ts =>
    simp [popSplit] at h; obtain ⟨rfl, rfl⟩ := h
    have := splitBy_children "," g
    exact ⟨lost_cons _ _, by simp; omega⟩
grind_pattern popSplit_strict => popSplit ts, Except.ok (segs, r)
theorem headChildren_lost (ts cs : List Tok) (h : headChildren ts = .ok cs) : adqWL cs + cs.length + 19 ≤ adqWL ts := by
  cases ts with
  | nil => simp [headChildren] at h
  | cons t ts =>
    simp [headChildren] at h; subst h
    have := adqW_children t; simp; omega
grind_pattern headChildren_lost => headChildren ts, Except.ok cs
theorem pFuncName_strict (ts : List Tok) : StrictRel ts (pFuncName ts) := by
  intro v r h
  unfold pFuncName at h
  split_run <;> first
    | (cases h; done)
    | (cases h; exact Lost.sfx (sfx_cons _ _) (Lost.sfx (sfx_cons _ _) (lost_cons _ _)))
    | (cases h; exact lost_cons _ _)
grind_pattern pFuncName_strict => pFuncName ts

/-- `for m in Enum: if search_and_move(*m.value)`: strict when no member has an empty word list -/
theorem firstEnum_lost (tbl : List (String × List String)) (hne : tbl.all (fun e => !e.2.isEmpty) = true) (ts : List Tok) (n : String)
    (r : List Tok) (h : firstEnum tbl ts = some (n, r)) : Lost r ts := by
  induction tbl with
  | nil => simp [firstEnum] at h
  | cons e tbl ih =>
    obtain ⟨m, ks⟩ := e
    simp only [List.all_cons, Bool.and_eq_true] at hne
    simp only [firstEnum] at h
    split at h
    · rename_i hs
      simp only [Option.some.injEq, Prod.mk.injEq] at h; rw [← h.2]
      cases ks with
      | nil => simp at hne
      | cons k ks => exact searchSeq_lost ts k ks ks.length hs
    · exact ih hne.2 h
theorem firstEnum_join_lost (ts : List Tok) (n : String) (r : List Tok) (h : firstEnum Gen.joinTypes ts = some (n, r)) : Lost r ts :=
  firstEnum_lost _ (by decide) ts n r h
grind_pattern firstEnum_join_lost => firstEnum Gen.joinTypes ts, some (n, r)
theorem firstEnum_union_lost (ts : List Tok) (n : String) (r : List Tok) (h : firstEnum Gen.unionTypes ts = some (n, r)) : Lost r ts :=
  firstEnum_lost _ (by decide) ts n r h
grind_pattern firstEnum_union_lost => firstEnum Gen.unionTypes ts, some (n, r)

end PM
