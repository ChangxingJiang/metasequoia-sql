import MsqProofs.Lemmas.TRestG2
/-!
# T-parse for SHOW COLUMNS, CREATE TABLE … AS, the remaining classes together, and the union of all fragments (C03 / C01)

`SHOW COLUMNS FROM t, … [WHERE e]` (tables and filter of the query fragment `TQ3`) and `CREATE TABLE t AS [WITH …] <query of FragQ3>` (where
`_parse_select_statement` itself looks for the WITH clause); then every statement of `FragRest` and of the union `FragAny` (queries `FragQ3` ∪
data-change statements `TDM3.FragStmt` ∪ CREATE TABLE `TD.FragCreate` ∪ `FragRest`) through `pStatement`, at the common fuel bound
`20 * size + 16`.
-/
open Lex PM Ast TP TS
namespace TR3
variable {d : Gen.D}

theorem showColumns_ok (fr : List FromTable) (wh : Option Expr) (hfr : TQ3.fromOK4 d (some fr) = true) (hwh : TQ3.FragO4 d wh = true)
    (rest : List Tok) (hr : stopsAny d rest = true) (f : Nat) (hf : 20 * sizeL (toksShowColumns d fr wh) + 16 ≤ f) :
    pStatement d f (toksShowColumns d fr wh ++ rest) = .ok (.showColumns fr wh, rest) := by
  have hF := TQ3.from_rec (ch := noX) (TQ3.szFrom (some fr)) (fun q _ h => TQ3.qt q h) (some fr) (Nat.le_refl _) hfr
  have hO := TQ3.opt_rec (ch := noX) (TQ3.szO4 wh) (fun e _ h => TQ3.rt4 e h) wh (Nat.le_refl _) hwh
  have hq := sa_q2 hr
  simp only [TQ3.stopsQ3, Bool.and_eq_true] at hq
  have hb4 : TQ3.Bd4 d 4 rest = true := TQ3.bd3_mono hq.1 (by omega)
  have hb3 : TQ3.Bd4 d 3 (TQ3.toksOptE4 d noX "WHERE" wh ++ rest) = true := TQ3.bd3_where wh rest hb4
  have hfol := TQ3.Fol.ofBd hb3
  cases fr with
  | nil => simp [TQ3.fromOK4] at hfr
  | cons t ts =>
    simp only [TQ3.FromRec] at hF
    simp only [toksShowColumns, TQ3.toksFrom4, sizeL_cons, sizeL_append, size_opTok] at hf
    have h1 : pFromTable d f (TQ3.toksTable4 d noX t ++ (TQ3.toksTablesTail4 d noX ts ++ (TQ3.toksOptE4 d noX "WHERE" wh ++ rest))) =
        .ok (t, TQ3.toksTablesTail4 d noX ts ++ (TQ3.toksOptE4 d noX "WHERE" wh ++ rest)) :=
      TQ3.fromTable t hF.1 _ (TQ3.Fol.tail (TQ3.tablesTail_shape ts) hfol) f (by omega)
    have h2 := TQ3.fromTables _ hfol (TQ3.bd_comma hb3) ts hF.2 [t] f (by omega)
    have h3 := TQ3.optOr "WHERE" (by decide) 4 (by decide) wh hO rest hb4 f (by omega)
    simp only at h2 h3
    unfold pStatement toksShowColumns
    kw_simp
    unfold pShowColumns
    kw_simp
    unfold pFromClause
    simp only [TQ3.toksFrom4, List.cons_append, List.append_assoc]
    kw_simp
    simp only [h1, h2, List.singleton_append, h3]

/-! ### CREATE TABLE … AS -/
/-- `_parse_select_statement` itself finds the WITH clause (what CREATE TABLE … AS calls): the analogue of `C03.twith_query_select` over `FragQ3` -/
theorem with_query_select2 (q : Query) (hs : TDM3.FragStmt d (.select q) = true) (rest : List Tok) (hr : TDM3.stopsStmt d rest = true)
    (fuel : Nat) (hfuel : 20 * sizeL (TDM3.toksStmt d (.select q)) + 16 ≤ fuel) :
    pSelectStmt d fuel none (TDM3.toksStmt d (.select q) ++ rest) = .ok (q, rest) := by
  simp only [TDM3.FragStmt, Bool.and_eq_true] at hs
  obtain ⟨h0, hq⟩ := hs
  cases hw : TDM3.withsOf q with
  | none => rw [hw] at h0; simp [TDM3.withsOK] at h0
  | some ws =>
    rw [hw] at h0
    obtain ⟨x, hx⟩ := TQ3.toksQ3_head (ch := noX) (TDM3.stripW q) hq
    rw [TDM3.toksQ_stripW] at hx
    simp only [TDM3.toksStmt, TDM3.toksStmtG, hw, sizeL_append] at hfuel ⊢
    obtain ⟨g, rfl⟩ : ∃ g, fuel = g + 1 := ⟨fuel - 1, by omega⟩
    have k := TDM3.kw_body "SELECT" (by simp)
    have hp := TDM3.with_ok (ch := noX) ws h0 (TQ3.toksQ3 d noX q ++ rest) (by simpa [hx, searchStr] using k.2.1)
      (by simpa [hx, searchStrUp] using k.2.2.1) g (by omega)
    simp only at hp
    have hb := TDM3.query_ws (ch := noX) ws (TDM3.stripW q) hq rest hr (g + 1) (by rw [TDM3.toksQ_stripW]; omega)
    simp only [TDM3.toksQ_stripW, TDM3.setQW_stripW q ws hw] at hb
    unfold pSelectStmt at hb ⊢
    simp only [List.append_assoc, hp]
    simpa using hb
theorem sel_ok (q : Query) (hq : selOK d q = true) (rest : List Tok) (hr : stopsAny d rest = true) (f : Nat)
    (hf : 20 * sizeL (toksSel d q) + 16 ≤ f) : pSelectStmt d f none (toksSel d q ++ rest) = .ok (q, rest) := by
  by_cases h1 : TDM3.FragStmt d (.select q) = true
  · simp only [toksSel, h1, if_true] at hf ⊢
    exact with_query_select2 q h1 rest (sa_q2 hr) f hf
  · have h2 : TQ3.FragQ3 d q = true := by simpa [selOK, h1] using hq
    simp only [toksSel, h1, Bool.false_eq_true, if_false] at hf ⊢
    exact C03.tquery3 d q h2 rest (sa_q2 hr) f (by omega)

theorem createAs_ok (t : TableName) (ine : Bool) (q : Query) (ht : TDM3.tblOKD t = true) (hq : selOK d q = true)
    (rest : List Tok) (hr : stopsAny d rest = true) (f : Nat) (hf : 20 * sizeL (toksCreateAs d t ine q) + 16 ≤ f) :
    pStatement d f (toksCreateAs d t ine q ++ rest) = .ok (.createTableAs t ine q, rest) := by
  have h1 : pTblName (tbl t :: opTok "AS" :: (toksSel d q ++ rest)) = .ok (t, _) := TDM3.tblName_ok t ht _ (by kw_simp)
  have h2 := sel_ok q hq rest hr f (by
    cases ine <;> simp only [toksCreateAs, Bool.false_eq_true, if_false, if_true, List.cons_append, List.nil_append, sizeL_cons, size_opTok] at hf <;>
      omega)
  cases ine <;>
    (unfold pStatement toksCreateAs
     kw_simp
     unfold pCreateTable
     simp only [tbl_eq] at h1 ⊢
     kw_simp
     simp only [h1]
     kw_simp
     simp only [h2])

/-! ### the remaining classes together (DROP, TRUNCATE, MSCK, USE, SET, ANALYZE, ALTER, SHOW …, CREATE TABLE … AS) -/
theorem rest_ok (s : Stmt) (hs : FragRest d s = true) (rest : List Tok) (hr : stopsAny d rest = true) (f : Nat)
    (hf : 20 * sizeL (toksRest d s) + 16 ≤ f) : pStatement d f (toksRest d s ++ rest) = .ok (s, rest) := by
  cases s with
  | dropTable b t => exact drop_ok b t hs rest hr f
  | truncate t => exact truncate_ok t hs rest hr f
  | msck t => exact msck_ok t hs rest hr f
  | use s => exact use_ok s rest f
  | set c =>
    simp only [FragRest, Bool.and_eq_true] at hs
    exact set_ok c hs.1 hs.2 rest hr f
  | analyze t p fc cm ns =>
    simp only [FragRest, Bool.and_eq_true] at hs
    refine analyze_ok t p fc cm ns hs.1 ?_ rest hr f (by simp only [toksRest] at hf; omega)
    by_cases hd : (d == Gen.D.HIVE) = true
    · have h2 := hs.2
      simp only [hd, if_true] at h2 ⊢
      exact TDM3.partRec p h2
    · have h2 := hs.2
      simp only [hd, Bool.false_eq_true, if_false, Bool.and_eq_true, Bool.not_eq_true', Option.isNone_iff_eq_none] at h2 ⊢
      exact ⟨h2.1.1.1, h2.1.1.2, h2.1.2, h2.2⟩
  | alter t ops =>
    simp only [FragRest, Bool.and_eq_true, Bool.not_eq_true', List.all_eq_true] at hs
    cases ops with
    | nil => simp at hs
    | cons o ops =>
      exact alter_ok t o ops hs.1.1 (hs.2 o (by simp)) (fun q hq => hs.2 q (by simp [hq])) rest hr f (by simp only [toksRest] at hf; omega)
  | showDatabases => exact showDatabases_ok rest f
  | showTables => exact showTables_ok rest f
  | showColumns fr wh =>
    simp only [FragRest, Bool.and_eq_true] at hs
    exact showColumns_ok fr wh hs.1 hs.2 rest hr f hf
  | createTableAs t ine q =>
    simp only [FragRest, Bool.and_eq_true] at hs
    exact createAs_ok t ine q hs.1 hs.2 rest hr f hf
  | _ => simp [FragRest] at hs

/-! ### the union -/
theorem any_ok (s : Stmt) (hs : FragAny d s = true) (rest : List Tok) (hr : stopsAny d rest = true) (f : Nat)
    (hf : 20 * sizeL (toksAny d s) + 16 ≤ f) : pStatement d f (toksAny d s ++ rest) = .ok (s, restAfter s rest) := by
  have hD : ∀ s', TDM3.FragStmt d s' = true → 20 * sizeL (TDM3.toksStmt d s') + 16 ≤ f →
      pStatement d f (TDM3.toksStmt d s' ++ rest) = .ok (s', rest) :=
    fun s' h1 h2 => TDM3.stmt_ok (ch := noX) (d == .HIVE) s' h1 rest (sa_q2 hr) f h2
  have hR : ∀ s', FragRest d s' = true → 20 * sizeL (toksRest d s') + 16 ≤ f → pStatement d f (toksRest d s' ++ rest) = .ok (s', rest) :=
    fun s' h1 h2 => rest_ok s' h1 rest hr f h2
  cases s with
  | select q =>
    simp only [toksAny] at hf ⊢
    by_cases h1 : TDM3.FragStmt d (.select q) = true
    · simp only [toksSel, h1, if_true] at hf ⊢
      exact hD _ h1 hf
    · have h2 : TQ3.FragQ3 d q = true := by simpa [FragAny, FragRest, h1] using hs
      simp only [toksSel, h1, Bool.false_eq_true, if_false] at hf ⊢
      exact C03.tquery3_statement d q h2 rest (sa_q2 hr) f (by omega)
  | createTable c =>
    have hc : TD.FragCreate d c = true := by simpa [FragAny, TDM3.FragStmt, FragRest] using hs
    exact C03.tcreate d c hc rest (sa_ends hr) f (by simp only [toksAny] at hf; omega)
  | insertValues h vs => exact hD _ (by simpa [FragAny, FragRest] using hs) hf
  | insertSelect h q => exact hD _ (by simpa [FragAny, FragRest] using hs) hf
  | update ws t sets wh ob lm => exact hD _ (by simpa [FragAny, FragRest] using hs) hf
  | delete t wh ob lm => exact hD _ (by simpa [FragAny, FragRest] using hs) hf
  | dropTable b t => exact hR (.dropTable b t) (by simpa [FragAny, TDM3.FragStmt] using hs) hf
  | truncate t => exact hR (.truncate t) (by simpa [FragAny, TDM3.FragStmt] using hs) hf
  | msck t => exact hR (.msck t) (by simpa [FragAny, TDM3.FragStmt] using hs) hf
  | use s => exact hR (.use s) (by simpa [FragAny, TDM3.FragStmt] using hs) hf
  | set c => exact hR (.set c) (by simpa [FragAny, TDM3.FragStmt] using hs) hf
  | analyze t p fc cm ns => exact hR (.analyze t p fc cm ns) (by simpa [FragAny, TDM3.FragStmt] using hs) hf
  | alter t ops => exact hR (.alter t ops) (by simpa [FragAny, TDM3.FragStmt] using hs) hf
  | showDatabases => exact hR (.showDatabases) (by simpa [FragAny, TDM3.FragStmt] using hs) hf
  | showTables => exact hR (.showTables) (by simpa [FragAny, TDM3.FragStmt] using hs) hf
  | showColumns fr wh => exact hR (.showColumns fr wh) (by simpa [FragAny, TDM3.FragStmt] using hs) hf
  | createTableAs t ine q => exact hR (.createTableAs t ine q) (by simpa [FragAny, TDM3.FragStmt] using hs) hf

theorem withsOf_fragQ2 (q : Query) (hq : TQ3.FragQ3 d q = true) : TDM3.withsOf q = some [] := by
  cases q with
  | single s =>
    simp only [TQ3.FragQ3] at hq
    obtain ⟨dist, c, cs, fr, lats, js, wh, gb, hv, ob, sb, db, cb, lm, rfl, _⟩ := TQ3.srec_of (ch := noX) s hq
    rfl
  | union ws s us =>
    cases ws with
    | none => simp [TQ3.FragQ3] at hq
    | some l =>
      cases l with
      | cons _ _ => simp [TQ3.FragQ3] at hq
      | nil => rfl
/-- the queries of `FragQ3` are in the union, with their own rendering -/
theorem any_of_fragQ2 (q : Query) (hq : TQ3.FragQ3 d q = true) : FragAny d (.select q) = true ∧ toksAny d (.select q) = TQ3.toksQ3 d noX q := by
  refine ⟨by simp only [FragAny, hq, Bool.true_or], ?_⟩
  simp only [toksAny, toksSel]
  split
  · simp only [TDM3.toksStmt, TDM3.toksStmtG, withsOf_fragQ2 q hq, TDM3.toksWiths, List.nil_append]
  · rfl

end TR3
