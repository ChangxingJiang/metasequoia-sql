import MsqProofs.Lemmas.TQueryQ
/-!
# Spelling-generalised T-parse, base definitions (C09 / C13)

The fragment is that of the nested T-parse (`TQ.FragE3` / `TQ.FragS3` / `TQ.FragQ`, Lemmas/TQuery0.lean); what is generalised is the
token-level PRINTER.  The development in namespace `TSP` (Lemmas/TSpell*.lean) is the proof; the theorems about the printer's own spelling
(namespace `TQ`, Lemmas/TQueryM.lean, Props/C03Q.lean) are its instance `sp := plainCh ch`.

* `Sp` — a record of choice functions, one per production of the grammar in which the PARSER accepts more than one spelling.
  Every choice is keyed by the node it belongs to (the expression node, the select item, the FROM item, the ORDER BY item, the two LIMIT
  numbers); the compute-operator choice `word` is keyed by the OPERAND THAT FOLLOWS the operator in the flat rendering
  `operand₀ op₁ operand₁ …` of a compute tree (`opdAfter`), because that is the view (`TP.tview`) the shift/reduce argument works on.
* `toksE3 d sp e` / `toksS3 d sp s` / `toksQ d sp q` — the spelled printers: `TQ.toksE3 …` clause for clause with the chosen spellings.
  `plain` is the record of the printer's own spellings.
-/
open Lex PM Ast SR TP TP2 TS TQ
namespace TSP

structure Sp where
  /-- a redundant bracket around this sub-term -/
  ch : Expr → Bool
  /-- `<>` instead of `!=` at this comparison node -/
  ne : Expr → Bool
  /-- `&&` instead of `AND` at this node -/
  amp : Expr → Bool
  /-- `||` instead of `OR` at this node -/
  bar : Expr → Bool
  /-- `!` instead of the prefix `NOT` at this node (Hive) -/
  bang : Expr → Bool
  /-- `DIV` instead of `/`, `MOD` instead of `%`, for the operator in front of this operand of a flat compute sequence -/
  word : Expr → Bool
  /-- no `AS` before the alias of this select item -/
  bareC : Expr × Option String → Bool
  /-- no `AS` before the alias of this FROM / JOIN item -/
  bareT : FromTable → Bool
  /-- an explicit `ASC` after this (ascending) ORDER BY item -/
  asc : OrderItem → Bool
  /-- `LIMIT n OFFSET m` instead of `LIMIT m, n` -/
  offs : Int → Int → Bool

/-- the printer's own spellings, redundant brackets by `ch` -/
def plainCh (ch : Expr → Bool) : Sp :=
  ⟨ch, fun _ => false, fun _ => false, fun _ => false, fun _ => false, fun _ => false, fun _ => false, fun _ => false, fun _ => false,
   fun _ _ => false⟩
def plain : Sp := plainCh noX
section plainCh
variable (ch : Expr → Bool)
@[simp] theorem plainCh_ch (x : Expr) : (plainCh ch).ch x = ch x := rfl
@[simp] theorem plainCh_ne (x : Expr) : (plainCh ch).ne x = false := rfl
@[simp] theorem plainCh_amp (x : Expr) : (plainCh ch).amp x = false := rfl
@[simp] theorem plainCh_bar (x : Expr) : (plainCh ch).bar x = false := rfl
@[simp] theorem plainCh_bang (x : Expr) : (plainCh ch).bang x = false := rfl
@[simp] theorem plainCh_word (x : Expr) : (plainCh ch).word x = false := rfl
@[simp] theorem plainCh_bareC (x : Expr × Option String) : (plainCh ch).bareC x = false := rfl
@[simp] theorem plainCh_bareT (x : FromTable) : (plainCh ch).bareT x = false := rfl
@[simp] theorem plainCh_asc (x : OrderItem) : (plainCh ch).asc x = false := rfl
@[simp] theorem plainCh_offs (n m : Int) : (plainCh ch).offs n m = false := rfl
end plainCh

/-! ### the spelled tokens -/
def cmpTok (b : Bool) (o : String) : Tok := if b && o == "NEQ" then opTok "<>" else opTok (cmpVal o)
def cvalSp (b : Bool) (o : String) : String := if b && o == "DIVIDE" then "DIV" else if b && o == "MOD" then "MOD" else cval o
def andTok (b : Bool) : Tok := if b then opTok "&&" else opTok "AND"
def orTok (b : Bool) : Tok := if b then opTok "||" else opTok "OR"
def notTok (b : Bool) : Tok := if b then opTok "!" else opTok "NOT"
def aliasToksB (b : Bool) : Option String → List Tok
  | none => []
  | some a => if b then [opTok a] else [opTok "AS", opTok a]
def ascToks (b desc : Bool) : List Tok := if desc then [opTok "DESC"] else if b then [opTok "ASC"] else []
def toksLimitS (sp : Sp) : Option (Int × Option Int) → List Tok
  | some (n, none) => [opTok "LIMIT", intTok n]
  | some (n, some m) => if sp.offs n m then [opTok "LIMIT", intTok n, opTok "OFFSET", intTok m] else [opTok "LIMIT", intTok m, TS.commaTok, intTok n]
  | none => []
/-- the operand that follows the operator of a compute node in the flat rendering: the first operand of the right child's part -/
def opdAfter (ch : Expr → Bool) (r : Expr) (b : Nat) : Expr := ((if inTree ch r b then tview ch r else .leaf r).flat).1

mutual
def toksE3 (d : Gen.D) (sp : Sp) : Expr → List Tok
  | .column none c => [nameTok c]
  | .column (some t) c => [nameTok t, dotTok, nameTok c]
  | .literal v => [litTok v]
  | .wildcard none => [starTok]
  | .wildcard (some t) => [qTok t, dotTok, starTok]
  | .func s n ps => (match s with | some s => [nameTok s, dotTok] | none => []) ++ [qTok n, grp (toksArgs3 d sp 14 ps)]
  | .agg n ps dist => [opTok n, grp ((if dist then [opTok "DISTINCT"] else []) ++ toksArgs3 d sp 14 ps)]
  | .caseCond cs els => opTok "CASE" :: (toksArms3 d sp cs ++ (toksElse3 d sp els ++ [opTok "END"]))
  | .caseVal v cs els =>
      opTok "CASE" :: (wrapT (sp.ch v) v 14 (toksE3 d sp v) ++ (toksArms3 d sp cs ++ (toksElse3 d sp els ++ [opTok "END"])))
  | .subValue vs => [grp (toksArgs3 d sp 8 vs)]
  | .subQuery q => [grp (toksQ d sp q)]
  | .exists_ v => opTok "EXISTS" :: toksE3 d sp v
  | .unary o e => opTok (cval o) :: wrapT (sp.ch e) e 2 (toksE3 d sp e)
  | .compute l o r =>
      wrapT (sp.ch l) l (PR.lvl (.compute l o r)) (toksE3 d sp l) ++
        opTok (cvalSp (sp.word (opdAfter sp.ch r (PR.lvl (.compute l o r) - 1))) o) :: wrapT (sp.ch r) r (PR.lvl (.compute l o r) - 1) (toksE3 d sp r)
  | .kw k n l r => wrapT (sp.ch l) l 9 (toksE3 d sp l) ++ (kwToks k n ++ wrapT (sp.ch r && k != .in_) r 8 (toksE3 d sp r))
  | .between n b f t =>
      wrapT (sp.ch b) b 9 (toksE3 d sp b) ++ ((if n then [opTok "NOT"] else []) ++ opTok "BETWEEN" :: (wrapT (sp.ch f) f 8 (toksE3 d sp f) ++ opTok "AND" :: wrapT (sp.ch t) t 8 (toksE3 d sp t)))
  | .compare o l r => wrapT (sp.ch l) l 10 (toksE3 d sp l) ++ cmpTok (sp.ne (.compare o l r)) o :: wrapT (sp.ch r) r 9 (toksE3 d sp r)
  | .not_ e => notTok (sp.bang (.not_ e)) :: wrapT (sp.ch e) e 11 (toksE3 d sp e)
  | .and_ l r => wrapT (sp.ch l) l 12 (toksE3 d sp l) ++ andTok (sp.amp (.and_ l r)) :: wrapT (sp.ch r) r 11 (toksE3 d sp r)
  | .xor l r => wrapT (sp.ch l) l 13 (toksE3 d sp l) ++ opTok "XOR" :: wrapT (sp.ch r) r 12 (toksE3 d sp r)
  | .or_ l r => wrapT (sp.ch l) l 14 (toksE3 d sp l) ++ orTok (sp.bar (.or_ l r)) :: wrapT (sp.ch r) r 13 (toksE3 d sp r)
  | _ => []
def toksArgs3 (d : Gen.D) (sp : Sp) (k : Nat) : List Expr → List Tok
  | [] => []
  | a :: as => wrapT (sp.ch a) a k (toksE3 d sp a) ++ toksArgsTail3 d sp k as
def toksArgsTail3 (d : Gen.D) (sp : Sp) (k : Nat) : List Expr → List Tok
  | [] => []
  | a :: as => TP2.commaTok :: (wrapT (sp.ch a) a k (toksE3 d sp a) ++ toksArgsTail3 d sp k as)
def toksArms3 (d : Gen.D) (sp : Sp) : List (Expr × Expr) → List Tok
  | [] => []
  | (w, t) :: r =>
      opTok "WHEN" :: (wrapT (sp.ch w) w 14 (toksE3 d sp w) ++ opTok "THEN" :: (wrapT (sp.ch t) t 14 (toksE3 d sp t) ++ toksArms3 d sp r))
def toksElse3 (d : Gen.D) (sp : Sp) : Option Expr → List Tok
  | none => []
  | some y => opTok "ELSE" :: wrapT (sp.ch y) y 14 (toksE3 d sp y)
def toksQ (d : Gen.D) (sp : Sp) : Query → List Tok
  | .single s => toksS3 d sp s
  | .union _ s us => toksS3 d sp s ++ toksUn d sp us
def toksUn (d : Gen.D) (sp : Sp) : List (String × Select) → List Tok
  | [] => []
  | (t, s) :: r => unionWords t ++ (toksS3 d sp s ++ toksUn d sp r)
def toksS3 (d : Gen.D) (sp : Sp) : Select → List Tok
  | .mk _ dist cols fr _ js wh gb hv ob _ _ _ lm =>
      opTok "SELECT" :: ((if dist then [opTok "DISTINCT"] else []) ++ (toksCols3 d sp cols ++ (toksFrom3 d sp fr ++ (toksJoins3 d sp js ++
        (toksOptE3 d sp "WHERE" wh ++ (toksGroup3 d sp gb ++ (toksOptE3 d sp "HAVING" hv ++ (toksOrder3 d sp ob ++ toksLimitS sp lm))))))))
def toksCols3 (d : Gen.D) (sp : Sp) : List (Expr × Option String) → List Tok
  | [] => []
  | (e, a) :: cs => toksE3 d sp e ++ aliasToksB (sp.bareC (e, a)) a ++ toksColsTail3 d sp cs
def toksColsTail3 (d : Gen.D) (sp : Sp) : List (Expr × Option String) → List Tok
  | [] => []
  | (e, a) :: cs => TS.commaTok :: (toksE3 d sp e ++ aliasToksB (sp.bareC (e, a)) a ++ toksColsTail3 d sp cs)
def toksRef3 (d : Gen.D) (sp : Sp) : TableRef → List Tok
  | .table s n => [tblTok s n]
  | .sub q => [grp (toksQ d sp q)]
def toksTable3 (d : Gen.D) (sp : Sp) : FromTable → List Tok
  | .mk t a => toksRef3 d sp t ++ aliasToksB (sp.bareT (.mk t a)) a
def toksTablesTail3 (d : Gen.D) (sp : Sp) : List FromTable → List Tok
  | [] => []
  | t :: ts => TS.commaTok :: (toksTable3 d sp t ++ toksTablesTail3 d sp ts)
def toksFrom3 (d : Gen.D) (sp : Sp) : Option (List FromTable) → List Tok
  | some (t :: ts) => opTok "FROM" :: (toksTable3 d sp t ++ toksTablesTail3 d sp ts)
  | _ => []
def toksRule3 (d : Gen.D) (sp : Sp) : Option JoinRule → List Tok
  | some (.on e) => opTok "ON" :: toksE3 d sp e
  | _ => []
def toksJoin3 (d : Gen.D) (sp : Sp) : Join → List Tok
  | .mk ty t rule => joinWords ty ++ (toksTable3 d sp t ++ toksRule3 d sp rule)
def toksJoins3 (d : Gen.D) (sp : Sp) : List Join → List Tok
  | [] => []
  | j :: js => toksJoin3 d sp j ++ toksJoins3 d sp js
def toksOptE3 (d : Gen.D) (sp : Sp) (kw : String) : Option Expr → List Tok
  | some e => opTok kw :: toksE3 d sp e
  | none => []
def toksGroup3 (d : Gen.D) (sp : Sp) : Option GroupBy → List Tok
  | some (.mk (e :: es) _ _ _) => opTok "GROUP" :: opTok "BY" :: (wrapT (sp.ch e) e 8 (toksE3 d sp e) ++ toksArgsTail3 d sp 8 es)
  | _ => []
def toksOrdItem3 (d : Gen.D) (sp : Sp) : OrderItem → List Tok
  | .mk e desc nf nl => wrapT (sp.ch e) e 8 (toksE3 d sp e) ++ ascToks (sp.asc (.mk e desc nf nl)) desc
def toksOrdTail3 (d : Gen.D) (sp : Sp) : List OrderItem → List Tok
  | [] => []
  | o :: os => TS.commaTok :: (toksOrdItem3 d sp o ++ toksOrdTail3 d sp os)
def toksOrder3 (d : Gen.D) (sp : Sp) : Option (List OrderItem) → List Tok
  | some (o :: os) => opTok "ORDER" :: opTok "BY" :: (toksOrdItem3 d sp o ++ toksOrdTail3 d sp os)
  | _ => []
end
def W3 (d : Gen.D) (sp : Sp) (e : Expr) (k : Nat) : List Tok := wrapT (sp.ch e) e k (toksE3 d sp e)

/-! ### comparison operators: `!=` / `<>` -/
structure CmpTokOK (d : Gen.D) (o : String) (t : Tok) : Prop where
  found : compareOp? t.src = some o
  stop : stopTok d 9 t = true
  notOver : t.srcEqUp "OVER" = false
  size : t.size = 1
  nocomma : t.equalsStr "," = false
theorem ne_tok_ok (d : Gen.D) : CmpTokOK d "NEQ" (opTok "<>") :=
  ⟨by decide, by cases d <;> decide, by decide, by decide, by decide⟩
theorem cmpTok_ok {d : Gen.D} {o : String} (h : cmpOK d o = true) (b : Bool) : CmpTokOK d o (cmpTok b o) := by
  unfold cmpTok
  split
  · rename_i hb
    simp only [Bool.and_eq_true, beq_iff_eq] at hb
    rw [hb.2]; exact ne_tok_ok d
  · have hc := h
    simp only [cmpOK, Bool.and_eq_true, beq_iff_eq] at hc
    exact ⟨hc.1.1, hc.1.2, TC.cmp_notOver hc.1.1, size_opTok _, TP2.cmp_nocomma o h⟩

/-! ### compute operators: `/` / `DIV`, `%` / `MOD` -/
def OpOKs (b : Bool) (o : Op) : Prop :=
  computeOp? (up (opTok (cvalSp b o.name)).src) = some (o.name, o.level) ∧ stopsE (opTok (cvalSp b o.name)) = true
theorem opOKs_of {o : Op} (h : OpOK o) (b : Bool) : OpOKs b o := by
  obtain ⟨nm, lv⟩ := o
  unfold OpOKs cvalSp
  split
  · rename_i hb
    simp only [Bool.and_eq_true, beq_iff_eq] at hb
    obtain ⟨_, rfl⟩ := hb
    have h1 := h.1
    have e1 : computeOp? (up (opTok (cval "DIVIDE")).src) = some ("DIVIDE", 4) := by decide
    simp only [e1, Option.some.injEq, Prod.mk.injEq, true_and] at h1
    subst h1
    exact ⟨by decide, by decide⟩
  · split
    · rename_i hb
      simp only [Bool.and_eq_true, beq_iff_eq] at hb
      obtain ⟨_, rfl⟩ := hb
      have h1 := h.1
      have e1 : computeOp? (up (opTok (cval "MOD")).src) = some ("MOD", 4) := by decide
      simp only [e1, Option.some.injEq, Prod.mk.injEq, true_and] at h1
      subst h1
      exact ⟨by decide, by decide⟩
    · exact h
theorem binSp_nocomma {d : Gen.D} (o : String) (ho : binOK d o = true) (b : Bool) : (opTok (cvalSp b o)).equalsStr "," = false := by
  obtain ⟨_, _, hop⟩ := binOK_parts d ho
  have h1 := (opOKs_of hop b).1
  rw [TP2.opTok_equals, beq_eq_false_iff_ne]
  intro he
  have hc : up "," = "," := by decide
  simp only [src_opTok] at h1
  rw [he, hc] at h1
  have hn : computeOp? "," = none := by decide
  rw [hn] at h1; cases h1

/-! ### `AND` / `&&`, `OR` / `||`, `NOT` / `!` -/
theorem and_loop (b : Bool) : (up (andTok b).src == "AND" || up (andTok b).src == "&&") = true := by cases b <;> decide
theorem or_loop (b : Bool) : (up (orTok b).src == "OR" || up (orTok b).src == "||") = true := by cases b <;> decide
theorem andTok_facts (d : Gen.D) (b : Bool) : stopTok d 11 (andTok b) = true ∧ (andTok b).srcEqUp "OVER" = false ∧ (andTok b).size = 1 ∧
    (andTok b).equalsStr "," = false := by cases b <;> cases d <;> decide
theorem orTok_facts (d : Gen.D) (b : Bool) : stopTok d 13 (orTok b) = true ∧ (orTok b).srcEqUp "OVER" = false ∧ (orTok b).size = 1 ∧
    (orTok b).equalsStr "," = false := by cases b <;> cases d <;> decide
theorem notTok_in {d : Gen.D} (b : Bool) (h : b = true → d = .HIVE) : (Gen.notSet d).contains (up (notTok b).src) = true := by
  cases b with
  | false => exact notSet_NOT
  | true => rw [h rfl]; decide
theorem notTok_facts (b : Bool) : (notTok b).size = 1 ∧ hdTok (notTok b) = true ∧ (notTok b).equalsStr "," = false := by cases b <;> decide

/-! ### aliases with and without `AS` -/
/-- an alias that may be written without `AS`: it does not continue the expression before it and is none of the words the alias parser refuses -/
def bareOK (d : Gen.D) (a : String) : Bool :=
  stopLE2 d 14 [opTok a] && !(opTok a).srcEqUp "AS" && !(["CROSS", "USING", "SORT", "DISTRIBUTE", "CLUSTER"].contains (up (opTok a).src))
def optBareOK (d : Gen.D) (b : Bool) : Option String → Bool
  | some a => !b || bareOK d a
  | none => true
theorem bare_alias {d : Gen.D} (a : String) (h : aliasOK a = true) (hb : bareOK d a = true) (fol : List Tok) :
    pAlias (opTok a :: fol) = .ok (some a, fol) ∧ TP2.stops2 d (opTok a :: fol) = true := by
  simp only [aliasOK, Bool.and_eq_true, beq_iff_eq] at h
  simp only [bareOK, Bool.and_eq_true, Bool.not_eq_true'] at hb
  obtain ⟨⟨h1, h2⟩, h3⟩ := hb
  refine ⟨?_, ?_⟩
  · have hs : searchStrUp (opTok a :: fol) "AS" = false := by simpa [searchStrUp] using h2
    unfold pAlias
    simp only [hs, Bool.false_eq_true, if_false, h.1.1, h3, Bool.not_false, Bool.and_self, if_true, h.1.2]
  · simp only [TP2.stops2, TP2.stopLE2, TP.stopLE, headIsOver, Bool.and_eq_true, Bool.not_eq_true'] at h1 ⊢
    exact h1
theorem alias_anyB {d : Gen.D} (b : Bool) (a : Option String) (h : optAliasOK a = true) (hb : optBareOK d b a = true) (fol : List Tok)
    (hf : TQ.Fol d fol) :
    pAlias (aliasToksB b a ++ fol) = .ok (a, fol) ∧ TP2.stops2 d (aliasToksB b a ++ fol) = true ∧ searchStr (aliasToksB b a ++ fol) "." = false := by
  cases a with
  | none => exact ⟨hf.alias, hf.stops, TS.stops_notDot (TQ.stops2_stops hf.stops)⟩
  | some a =>
    cases b with
    | false => exact ⟨TS.alias_some a h fol, TQ.as_stops2 (d := d) _, TS.stops_notDot (TQ.stops2_stops (TQ.as_stops2 (d := d) _))⟩
    | true =>
      simp only [optBareOK, Bool.not_true, Bool.false_or] at hb
      obtain ⟨p1, p2⟩ := bare_alias a h hb fol
      exact ⟨p1, p2, TS.stops_notDot (TQ.stops2_stops p2)⟩

/-! ### `ASC` -/
theorem asc_stop8 {d : Gen.D} (x : List Tok) : TP2.stopLE2 d 8 (opTok "ASC" :: x) = true := by
  have h : stopTok d 8 (opTok "ASC") = true := by cases d <;> decide
  exact TP2.stop2_of x h (by decide)
theorem ascToks_stop8 {d : Gen.D} (b desc : Bool) (fol : List Tok) (hf : TQ.OFol d fol) : TP2.stopLE2 d 8 (ascToks b desc ++ fol) = true := by
  cases desc with
  | true => exact TQ.desc_stop8 _
  | false => cases b with
    | true => exact asc_stop8 _
    | false => exact hf.stop8
theorem orderTail_asc {d : Gen.D} (e : Expr) (b desc : Bool) (fol : List Tok) (hf : TS.OFol d fol) :
    orderTail e (ascToks b desc ++ fol) = .ok (.mk e desc false false, fol) := by
  cases desc with
  | true => exact TS.orderTail_ok e true fol hf
  | false =>
    cases b with
    | false => exact TS.orderTail_ok e false fol hf
    | true =>
      have h1 : searchStrUp (opTok "ASC" :: fol) "DESC" = false := by
        have : (opTok "ASC").srcEqUp "DESC" = false := by decide
        simpa [searchStrUp] using this
      have h2 : searchStrUp (opTok "ASC" :: fol) "ASC" = true := by
        have : (opTok "ASC").srcEqUp "ASC" = true := by decide
        simpa [searchStrUp] using this
      unfold orderTail
      simp [ascToks, h1, h2, moveTwoUp, hf.nf, hf.nl]

/-! ### `LIMIT m, n` / `LIMIT n OFFSET m` -/
theorem limitS {d : Gen.D} (sp : Sp) (lm : Option (Int × Option Int)) (hl : limitOK lm = true) (fol : List Tok) (hb : Bd d 7 fol = true) :
    pLimit (toksLimitS sp lm ++ fol) = .ok (lm, fol) := by
  cases lm with
  | none => exact TS.limit none hl fol hb
  | some p =>
    obtain ⟨n, o⟩ := p
    cases o with
    | none => exact TS.limit (some (n, none)) hl fol hb
    | some m =>
      cases ho : sp.offs n m with
      | false => simpa [toksLimitS, ho, toksLimit] using TS.limit (some (n, some m)) hl fol hb
      | true =>
        simp only [limitOK, limOK, Bool.and_eq_true] at hl
        have hk : (opTok "LIMIT").srcEqUp "LIMIT" = true := by decide
        have h1 : (opTok "OFFSET").srcEq "," = false := by decide
        have h2 : (opTok "OFFSET").srcEqUp "OFFSET" = true := by decide
        simpa [toksLimitS, ho] using C03.limit_offset _ _ _ _ fol m n hk (TS.isOkInt_eq hl.1.2) h1 h2 (TS.isOkInt_eq hl.2.2)
theorem limitS_head (sp : Sp) (lm : Option (Int × Option Int)) : toksLimitS sp lm = [] ∨ ∃ x, toksLimitS sp lm = opTok "LIMIT" :: x := by
  cases lm with
  | none => exact Or.inl rfl
  | some p =>
    obtain ⟨n, o⟩ := p
    cases o with
    | none => exact Or.inr ⟨_, rfl⟩
    | some m => right; simp only [toksLimitS]; split <;> exact ⟨_, rfl⟩

end TSP
