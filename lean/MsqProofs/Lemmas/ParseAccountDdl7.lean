import MsqProofs.Lemmas.ParseAccountDdl6
/-!
# C08, general accounting for the DDL classes — part 7: one statement of ANY class, the statement loop

`runsOK d f g ts` (Bool): the statement loop is followed only to DELIMIT the statements (`run ts r` = the tokens `pStatement`
consumed); for every statement whose result is a CREATE TABLE ( … ) its token run satisfies `ddlRunOK`, for an ALTER TABLE the runs of
its operations satisfy `NoRep` (`alterOK`) — conditions on tokens.  Nothing is required of the other classes.
-/
open Lex PM Ast

namespace PA
namespace Ddl

set_option hygiene false in
macro "notnew" : tactic =>
  `(tactic| (split_run <;> first | (simp at h; done) | (simp at h; obtain ⟨rfl, _⟩ := h; rfl)))
theorem inFullStmt_pDelete {d f ts s r} (h : pDelete d f ts = .ok (s, r)) : outsideFullStmt s = false := by unfold pDelete at h; notnew
theorem inFullStmt_pDropTable {ts s r} (h : pDropTable ts = .ok (s, r)) : outsideFullStmt s = false := by unfold pDropTable at h; notnew
theorem inFullStmt_pAnalyze {d f ts s r} (h : pAnalyze d f ts = .ok (s, r)) : outsideFullStmt s = false := by unfold pAnalyze at h; notnew
theorem inFullStmt_pMsck {ts s r} (h : pMsck ts = .ok (s, r)) : outsideFullStmt s = false := by unfold pMsck pKwTable at h; notnew
theorem inFullStmt_pTruncate {ts s r} (h : pTruncate ts = .ok (s, r)) : outsideFullStmt s = false := by unfold pTruncate pKwTable at h; notnew
theorem inFullStmt_pUse {ts s r} (h : pUse ts = .ok (s, r)) : outsideFullStmt s = false := by unfold pUse at h; notnew
theorem inFullStmt_pShowColumns {d f ts s r} (h : pShowColumns d f ts = .ok (s, r)) : outsideFullStmt s = false := by unfold pShowColumns at h; notnew
theorem inFullStmt_pInsert {d f w ts s r} (h : pInsert d f w ts = .ok (s, r)) : outsideFullStmt s = false := by unfold pInsert at h; notnew
theorem inFullStmt_pUpdate {d f w ts s r} (h : pUpdate d f w ts = .ok (s, r)) : outsideFullStmt s = false := by unfold pUpdate at h; notnew

theorem pStatement_acc (T : List String) (d : Gen.D) (f : Nat) (ts : List Tok) (s : Stmt) (r : List Tok) (h : pStatement d f ts = .ok (s, r)) :
    ∃ used, ts = used ++ r ∧ (stmtOK d f ts s used = true → FullDStmt s = true → Sub (tStmt s) T → AccAllD T used) := by
  have h0 := h
  have inside : outsideFullStmt s = false →
      ∃ used, ts = used ++ r ∧ (stmtOK d f ts s used = true → FullDStmt s = true → Sub (tStmt s) T → AccAllD T used) := fun hn => by
    obtain ⟨u1, e, ha⟩ := ar_used (accS_pStatement T d f ts) h0 (pStatement_consumes d f _ _ _ h0)
    exact ⟨u1, e, fun _ hf hs => accAllD_of_acc (ha (by rw [← fullD_eq_full s hn]; exact hf) hs)⟩
  unfold pStatement at h
  peel_if h with hcnd
  · obtain ⟨u, e, k⟩ := pSet_acc T ts s r h; exact ⟨u, e, fun _ _ hs => k hs⟩
  peel_if h with hcnd
  · exact inside (inFullStmt_pDelete h)
  peel_if h with hcnd
  · exact inside (inFullStmt_pDropTable h)
  peel_if h with hcnd
  · exact pCreateTable_acc T d f ts s r h
  peel_if h with hcnd
  · exact inside (inFullStmt_pAnalyze h)
  peel_if h with hcnd
  · exact pAlter_acc T d f ts s r h
  peel_if h with hcnd
  · exact inside (inFullStmt_pMsck h)
  peel_if h with hcnd
  · exact inside (inFullStmt_pUse h)
  peel_if h with hcnd
  · exact inside (inFullStmt_pTruncate h)
  peel_if h with hcnd
  · simp at h; obtain ⟨rfl, _⟩ := h; exact inside rfl
  peel_if h with hcnd
  · simp at h; obtain ⟨rfl, _⟩ := h; exact inside rfl
  peel_if h with hcnd
  · exact inside (inFullStmt_pShowColumns h)
  · split at h
    · simp at h
    · rename_i withs r1 hw
      peel_if h with hcnd
      · split at h
        · simp at h; obtain ⟨rfl, _⟩ := h; exact inside rfl
        · simp at h
      peel_if h with hcnd
      · exact inside (inFullStmt_pInsert h)
      peel_if h with hcnd
      · exact inside (inFullStmt_pUpdate h)
      · simp at h

/-- every CREATE TABLE ( … ) / ALTER TABLE statement of the token list, as the parser delimits the statements, satisfies `stmtOK` -/
def runsOK (d : Gen.D) (f : Nat) : Nat → List Tok → Bool
  | 0, _ => true
  | g+1, ts =>
    if ts.isEmpty then true else
    match pStatement d f ts with
    | .error _ => true
    | .ok (s, r) => stmtOK d f ts s (run ts r) && runsOK d f g (moveStr r ";").2

theorem statementsLoop_acc (T : List String) (d : Gen.D) (f : Nat) : ∀ g acc ts v, statementsLoop d f g acc ts = .ok v →
    runsOK d f g ts = true → FullDStmts v = true → FullDStmts acc = true ∧ (Sub (tStmts v) T → AccAllD T ts ∧ Sub (tStmts acc) T) := by
  have kSEMI := kwOk_semi
  intro g
  induction g with
  | zero => intro acc ts v h; simp [statementsLoop] at h
  | succ g ih =>
    intro acc ts v h hr hf
    unfold statementsLoop at h
    peel_if h with hcnd
    · simp at h; subst h
      have : ts = [] := by simpa using hcnd
      subst this
      exact ⟨hf, fun hs => ⟨accAllD_nil T, hs⟩⟩
    · split at h
      · simp at h
      · rename_i s r1 hp
        unfold runsOK at hr
        rw [if_neg hcnd] at hr
        simp only [hp, Bool.and_eq_true] at hr
        obtain ⟨u1, e1, k1⟩ := pStatement_acc T d f ts s r1 hp
        obtain ⟨uS, eS, kS⟩ := moveStr_kw r1 ";" kSEMI
        obtain ⟨f1, k2⟩ := ih _ _ _ h hr.2 hf
        rw [FullDStmts_append] at f1
        simp only [FullDStmts, Bool.and_true, Bool.and_eq_true] at f1
        refine ⟨f1.1, fun hs => ?_⟩
        obtain ⟨a2, s2⟩ := k2 hs
        rw [tStmts_append, tStmts_one, sub_append] at s2
        refine ⟨?_, s2.1⟩
        have hrun : run ts r1 = u1 := by rw [e1]; exact run_append u1 r1
        have a1 := k1 (by rw [← hrun]; exact hr.1) f1.2 s2.2
        have E : ts = u1 ++ (uS ++ (moveStr r1 ";").2) := e1.trans (congrArg (u1 ++ ·) eS)
        rw [E]
        exact accAllD_append a1 (accAllD_append (accAllD_of_acc (accAll_kws kS)) a2)

end Ddl
end PA
