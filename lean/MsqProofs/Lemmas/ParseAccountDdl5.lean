import MsqProofs.Lemmas.ParseAccountDdl4
/-!
# C08, general accounting for the DDL classes — part 5: column-or-index, the element list of CREATE TABLE

`createElems` OVERWRITES the primary key when a second `PRIMARY KEY ( … )` element follows (the same defect as F-C08-4 at another
site: `CREATE TABLE t (a int, b int, PRIMARY KEY (a), PRIMARY KEY (b))` keeps only `(b)`): hypothesis `pkCnt segs ≤ 1`.
-/
open Lex PM Ast

namespace PA
namespace Ddl

theorem ar_all {T : List String} {α : Type} {tx : α → List String} {pl : α → Bool} {sg : List Tok} {a : R α} {v : α}
    (hAR : AR T tx pl sg [] true a) (h : a = .ok (v, [])) (hp : pl v = true) (hs : Sub (tx v) T) : AccAll T sg := by
  have := ((hAR v [] h hp).2 hs).1; rwa [acc3_nil] at this

/-! ### `_parse_column_or_index` (ALTER … ADD / MODIFY / CHANGE) -/
theorem pColOrIdx_acc (T : List String) (d : Gen.D) (f : Nat) (ts : List Tok) (x : ColOrIdx) (r : List Tok) (h : pColOrIdx d f ts = .ok (x, r)) :
    ∃ used, ts = used ++ r ∧ (NoRep used = true → FullCOI x = true → Sub (tCOI x) T → AccAll T used) := by
  have kU : allKw ["UNIQUE", "KEY"] = true := by simp [allKw, kwOk_UNIQUE, kwOk_KEY]
  have kN : allKw ["KEY"] = true := by simp [allKw, kwOk_KEY]
  have kF : allKw ["FULLTEXT", "KEY"] = true := by simp [allKw, kwOk_FULLTEXT, kwOk_KEY]
  unfold pColOrIdx at h
  peel_if h with hcnd
  · split at h
    · rename_i i r1 hp; simp at h; obtain ⟨rfl, rfl⟩ := h
      obtain ⟨u, e, ha⟩ := ar_used (accD_pPrimaryIndex T _) hp (pPrimaryIndex_consumes _ _ _ hp)
      exact ⟨u, e, fun _ hf hs => ha hf hs⟩
    · simp at h
  peel_if h with hcnd
  · split at h
    · rename_i i r1 hp; simp at h; obtain ⟨rfl, rfl⟩ := h
      obtain ⟨u, e, ha⟩ := ar_used (accD_pNamedIndex T .unique _ _ kU) hp (pUniqueIndex_consumes _ _ _ hp)
      exact ⟨u, e, fun _ hf hs => ha hf hs⟩
    · simp at h
  peel_if h with hcnd
  · split at h
    · rename_i i r1 hp; simp at h; obtain ⟨rfl, rfl⟩ := h
      obtain ⟨u, e, ha⟩ := ar_used (accD_pNamedIndex T .normal _ _ kN) hp (pNormalIndex_consumes _ _ _ hp)
      exact ⟨u, e, fun _ hf hs => ha hf hs⟩
    · simp at h
  peel_if h with hcnd
  · split at h
    · rename_i i r1 hp; simp at h; obtain ⟨rfl, rfl⟩ := h
      obtain ⟨u, e, ha⟩ := ar_used (accD_pNamedIndex T .fulltext _ _ kF) hp (pFulltextIndex_consumes _ _ _ hp)
      exact ⟨u, e, fun _ hf hs => ha hf hs⟩
    · simp at h
  peel_if h with hcnd
  · split at h
    · rename_i i r1 hp; simp at h; obtain ⟨rfl, rfl⟩ := h
      obtain ⟨u, e, ha⟩ := ar_used (accD_pForeignKey T _) hp (pForeignKey_consumes _ _ _ hp)
      exact ⟨u, e, fun _ hf hs => ha hf hs⟩
    · simp at h
  · split at h
    · rename_i c r1 hp; simp at h; obtain ⟨rfl, rfl⟩ := h
      exact pDefCol_acc T d f ts c r1 hp
    · simp at h

def FullCTe (c : CreateTable) : Bool :=
  FullDCs c.columns && (FullOIdx c.primaryKey && (FullIdxs c.uniqueKey && (FullIdxs c.key && (FullIdxs c.fulltextKey && (FullFKs c.foreignKey &&
    FullDCs c.partitionedBy)))))
theorem FullCT_eq (c : CreateTable) : FullCT c = (FullCTe c && HasElem c) := by simp [FullCT, FullCTe, Bool.and_assoc]
def pkCnt (segs : List (List Tok)) : Nat := segs.countP (fun sg => searchTwoUp sg "PRIMARY" "KEY")

macro "txe" : tactic =>
  `(tactic| (simp only [tDCs_append, tDCs_one, tIdxs_append, tIdxs_one, tFKs_append, tFKs_one, tOIdx_none, tOIdx_some, sub_append, sub_cons, sub_nil] at *;
             grind))
theorem txe_cols {T : List String} {c : CreateTable} (v : DefCol) (hs : Sub (tCTb { c with columns := c.columns ++ [v] }) T) :
    Sub (tDC v) T ∧ Sub (tCTb c) T := by rw [tCTb_eq] at hs; rw [tCTb_eq c]; txe
theorem txe_pk {T : List String} {c : CreateTable} (v : Index) (hn : c.primaryKey = none) (hs : Sub (tCTb { c with primaryKey := some v }) T) :
    Sub (tIdx v) T ∧ Sub (tCTb c) T := by rw [tCTb_eq] at hs; rw [tCTb_eq c]; simp only [hn] at hs ⊢; txe
theorem txe_uk {T : List String} {c : CreateTable} (v : Index) (hs : Sub (tCTb { c with uniqueKey := c.uniqueKey ++ [v] }) T) :
    Sub (tIdx v) T ∧ Sub (tCTb c) T := by rw [tCTb_eq] at hs; rw [tCTb_eq c]; txe
theorem txe_key {T : List String} {c : CreateTable} (v : Index) (hs : Sub (tCTb { c with key := c.key ++ [v] }) T) :
    Sub (tIdx v) T ∧ Sub (tCTb c) T := by rw [tCTb_eq] at hs; rw [tCTb_eq c]; txe
theorem txe_ft {T : List String} {c : CreateTable} (v : Index) (hs : Sub (tCTb { c with fulltextKey := c.fulltextKey ++ [v] }) T) :
    Sub (tIdx v) T ∧ Sub (tCTb c) T := by rw [tCTb_eq] at hs; rw [tCTb_eq c]; txe
theorem txe_fk {T : List String} {c : CreateTable} (v : ForeignKey) (hs : Sub (tCTb { c with foreignKey := c.foreignKey ++ [v] }) T) :
    Sub (tFK v) T ∧ Sub (tCTb c) T := by rw [tCTb_eq] at hs; rw [tCTb_eq c]; txe
macro "fle" : tactic =>
  `(tactic| (simp only [FullCTe, FullDCs_append, FullIdxs_append, FullFKs_append, FullDCs, FullIdxs, FullFKs, FullOIdx, Bool.and_eq_true, Bool.and_true] at *;
             grind))
theorem fle_cols {c : CreateTable} (v : DefCol) (hf : FullCTe { c with columns := c.columns ++ [v] } = true) : FullDC v = true ∧ FullCTe c = true := by fle
theorem fle_pk {c : CreateTable} (v : Index) (hn : c.primaryKey = none) (hf : FullCTe { c with primaryKey := some v } = true) :
    FullIdx v = true ∧ FullCTe c = true := by simp only [FullCTe, hn] at hf ⊢; fle
theorem fle_uk {c : CreateTable} (v : Index) (hf : FullCTe { c with uniqueKey := c.uniqueKey ++ [v] } = true) : FullIdx v = true ∧ FullCTe c = true := by fle
theorem fle_key {c : CreateTable} (v : Index) (hf : FullCTe { c with key := c.key ++ [v] } = true) : FullIdx v = true ∧ FullCTe c = true := by fle
theorem fle_ft {c : CreateTable} (v : Index) (hf : FullCTe { c with fulltextKey := c.fulltextKey ++ [v] } = true) : FullIdx v = true ∧ FullCTe c = true := by fle
theorem fle_fk {c : CreateTable} (v : ForeignKey) (hf : FullCTe { c with foreignKey := c.foreignKey ++ [v] } = true) : FullFK v = true ∧ FullCTe c = true := by fle

/-- the option fields (what `createElems` does not touch) -/
def optsOf (c : CreateTable) :=
  (c.engine, c.autoIncrement, c.defaultCharset, c.rowFormat, c.collate, c.comment, c.statesPersistent, c.rowFormatSerde, c.rowFormatDelimited,
    c.storedAsInputformat, c.outputformat, c.location)
theorem cntO_of_opts {c c0 : CreateTable} {us : List Tok} (h : optsOf c = optsOf c0) (h0 : CntO c0 us) : CntO c us := by
  simp only [optsOf, Prod.mk.injEq] at h
  obtain ⟨h1, h2, h3, h4, h5, h6, h7, h8, h9, h10, h11, h12⟩ := h
  simp only [CntO, h1, h2, h3, h4, h5, h6, h7, h8, h9, h10, h11, h12] at h0 ⊢; exact h0

def QE (T : List String) (segs : List (List Tok)) (c c' : CreateTable) : Prop :=
  optsOf c' = optsOf c ∧ (segs = [] → c' = c) ∧
    ((∀ sg ∈ segs, NoRep sg = true) → pkCnt segs + b2n c.primaryKey.isSome ≤ 1 → FullCTe c' = true →
      FullCTe c = true ∧ (Sub (tCTb c') T → AccAll T segs.flatten ∧ Sub (tCTb c) T))
theorem elem_step {T : List String} {c c2 c' : CreateTable} {sg : List Tok} {rest : List (List Tok)} {x : List String} {Fx : Bool}
    (ih : QE T rest c2 c') (ho : optsOf c2 = optsOf c)
    (hpk : pkCnt (sg :: rest) + b2n c.primaryKey.isSome ≤ 1 → pkCnt rest + b2n c2.primaryKey.isSome ≤ 1)
    (hsg : NoRep sg = true → Fx = true → Sub x T → AccAll T sg)
    (hfl : pkCnt (sg :: rest) + b2n c.primaryKey.isSome ≤ 1 → FullCTe c2 = true → Fx = true ∧ FullCTe c = true)
    (htx : pkCnt (sg :: rest) + b2n c.primaryKey.isSome ≤ 1 → Sub (tCTb c2) T → Sub x T ∧ Sub (tCTb c) T) : QE T (sg :: rest) c c' := by
  obtain ⟨o1, _, k⟩ := ih
  refine ⟨o1.trans ho, fun h0 => by simp at h0, fun hr hp hf => ?_⟩
  obtain ⟨f1, k1⟩ := k (fun s hs => hr s (by simp [hs])) (hpk hp) hf
  obtain ⟨f2, f3⟩ := hfl hp f1
  refine ⟨f3, fun hs => ?_⟩
  obtain ⟨a1, s1⟩ := k1 hs
  obtain ⟨s2, s3⟩ := htx hp s1
  rw [List.flatten_cons, accAll_append]
  exact ⟨⟨hsg (hr _ (by simp)) f2 s2, a1⟩, s3⟩

theorem createElems_acc (T : List String) (d : Gen.D) (f : Nat) : ∀ segs c c', createElems d f segs c = .ok c' → QE T segs c c' := by
  have kU : allKw ["UNIQUE", "KEY"] = true := by simp [allKw, kwOk_UNIQUE, kwOk_KEY]
  have kN : allKw ["KEY"] = true := by simp [allKw, kwOk_KEY]
  have kF : allKw ["FULLTEXT", "KEY"] = true := by simp [allKw, kwOk_FULLTEXT, kwOk_KEY]
  intro segs
  induction segs with
  | nil =>
    intro c c' h
    simp [createElems] at h; subst h
    exact ⟨rfl, fun _ => rfl, fun _ _ hf => ⟨hf, fun hs => ⟨by simp [AccAll], hs⟩⟩⟩
  | cons sg rest ih =>
    intro c c' h
    unfold createElems at h
    have hpk0 : ∀ n, pkCnt (sg :: rest) + n ≤ 1 → pkCnt rest + n ≤ 1 := by
      intro n hn; simp only [pkCnt, List.countP_cons] at hn ⊢; omega
    peel_if h with hcnd
    · split at h
      · rename_i v hp
        -- a second PRIMARY KEY element would overwrite the first
        have hn : pkCnt (sg :: rest) + b2n c.primaryKey.isSome ≤ 1 → c.primaryKey = none ∧ pkCnt rest ≤ 0 := fun hpk => by
          have hpk1 : pkCnt rest + 1 + b2n c.primaryKey.isSome ≤ 1 := by simpa [pkCnt, List.countP_cons, hcnd] using hpk
          cases hx : c.primaryKey with
          | none => exact ⟨rfl, by simp [hx, b2n] at hpk1; omega⟩
          | some y => simp [hx, b2n] at hpk1
        exact elem_step (ih _ _ h) rfl (fun hp => by have := (hn hp).2; simp [b2n]; omega)
          (fun _ => ar_all (accD_pPrimaryIndex T sg) ((closed_ok _ _).1 hp)) (fun hp => fle_pk v (hn hp).1) (fun hp => txe_pk v (hn hp).1)
      · simp at h
    peel_if h with hcnd
    · split at h
      · rename_i v hp
        exact elem_step (ih _ _ h) rfl (hpk0 _) (fun _ => ar_all (accD_pNamedIndex T .unique _ sg kU) ((closed_ok _ _).1 hp))
          (fun _ => fle_uk v) (fun _ => txe_uk v)
      · simp at h
    peel_if h with hcnd
    · split at h
      · rename_i v hp
        exact elem_step (ih _ _ h) rfl (hpk0 _) (fun _ => ar_all (accD_pNamedIndex T .normal _ sg kN) ((closed_ok _ _).1 hp))
          (fun _ => fle_key v) (fun _ => txe_key v)
      · simp at h
    peel_if h with hcnd
    · split at h
      · rename_i v hp
        exact elem_step (ih _ _ h) rfl (hpk0 _) (fun _ => ar_all (accD_pNamedIndex T .fulltext _ sg kF) ((closed_ok _ _).1 hp))
          (fun _ => fle_ft v) (fun _ => txe_ft v)
      · simp at h
    peel_if h with hcnd
    · split at h
      · rename_i v hp
        exact elem_step (ih _ _ h) rfl (hpk0 _) (fun _ => ar_all (accD_pForeignKey T sg) ((closed_ok _ _).1 hp)) (fun _ => fle_fk v) (fun _ => txe_fk v)
      · simp at h
    · split at h
      · rename_i v hp
        obtain ⟨used, e, k2⟩ := pDefCol_acc T d f sg v [] ((closed_ok _ _).1 hp)
        simp only [List.append_nil] at e; subst e
        exact elem_step (ih _ _ h) rfl (hpk0 _) k2 (fun _ => fle_cols v) (fun _ => txe_cols v)
      · simp at h

end Ddl
end PA
