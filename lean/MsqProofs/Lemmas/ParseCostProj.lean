import MsqProofs.Lemmas.ParseCostProjDefs
/-! GENERATED by tools/gen_cost.py — C19 projection: the mutual block (fuel step, induction on the fuel) -/
set_option linter.unusedSimpArgs false
open Lex PM Ast
namespace PM

variable (d : Gen.D)

theorem projF_succ (n : Nat) (ih : ProjF d n) : ProjF d (n+1) where
  pElement := by
    intro x0 κ
    have h_pParen := ih.pParen
    have h_pNamed := ih.pNamed
    have h_pCase := ih.pCase
    clear ih
    unfold pElement_k pElement
    proj_run
  pParen := by
    intro x0 x1 κ
    have h_pOr := ih.pOr
    have h_pSubQuery := ih.pSubQuery
    clear ih
    unfold pParen_k pParen
    proj_run
  pNamed := by
    intro x0 x1 x2 κ
    have h_pQualified := ih.pQualified
    have h_pIndex := ih.pIndex
    have h_pFuncIdx := ih.pFuncIdx
    have h_pWindow := ih.pWindow
    clear ih
    unfold pNamed_k pNamed
    proj_run
  pQualified := by
    intro x0 x1 x2 κ
    have h_pIndex := ih.pIndex
    have h_pFuncIdx := ih.pFuncIdx
    clear ih
    unfold pQualified_k pQualified
    proj_run
  pIndex := by
    intro x0 x1 κ
    have h_pCompute := ih.pCompute
    clear ih
    unfold pIndex_k pIndex
    proj_run
  pFuncIdx := by
    intro x0 κ
    have h_pIndex := ih.pIndex
    have h_pFunc := ih.pFunc
    clear ih
    unfold pFuncIdx_k pFuncIdx
    proj_run
  pFunc := by
    intro x0 κ
    have h_pIfCall := ih.pIfCall
    have h_pCall := ih.pCall
    have h_pCast := ih.pCast
    have h_pExtract := ih.pExtract
    clear ih
    unfold pFunc_k pFunc
    proj_run
  pIfCall := by
    intro x0 κ
    have h_pFirstArg := ih.pFirstArg
    have h_pArgs := ih.pArgs
    clear ih
    unfold pIfCall_k pIfCall
    proj_run
  pFirstDiscard := by
    intro x0 κ
    have h_pOr := ih.pOr
    clear ih
    unfold pFirstDiscard_k pFirstDiscard
    proj_run
  pFirstArg := by
    intro x0 κ
    have h_pOr := ih.pOr
    clear ih
    unfold pFirstArg_k pFirstArg
    proj_run
  pCall := by
    intro x0 x1 x2 κ
    have h_pFirstArg := ih.pFirstArg
    have h_pArgs := ih.pArgs
    clear ih
    unfold pCall_k pCall
    proj_run
  pArgs := by
    intro x0 x1 κ
    have h_pArgs := ih.pArgs
    have h_pOr := ih.pOr
    clear ih
    unfold pArgs_k pArgs
    proj_run
  pCase := by
    intro x0 κ
    have h_pElseEnd := ih.pElseEnd
    have h_pWhens := ih.pWhens
    have h_pOr := ih.pOr
    clear ih
    unfold pCase_k pCase
    proj_run
  pElseEnd := by
    intro x0 κ
    have h_pOr := ih.pOr
    clear ih
    unfold pElseEnd_k pElseEnd
    proj_run
  pWhens := by
    intro x0 x1 κ
    have h_pWhens := ih.pWhens
    have h_pOr := ih.pOr
    clear ih
    unfold pWhens_k pWhens
    proj_run
  pUnary := by
    intro x0 κ
    have h_pElement := ih.pElement
    have h_pUnary := ih.pUnary
    clear ih
    unfold pUnary_k pUnary
    proj_run
  pCompute := by
    intro x0 κ
    have h_pUnary := ih.pUnary
    have h_pComputeLoop := ih.pComputeLoop
    clear ih
    unfold pCompute_k pCompute
    proj_run
  pComputeLoop := by
    intro x0 x1 x2 κ
    have h_pUnary := ih.pUnary
    have h_pComputeLoop := ih.pComputeLoop
    clear ih
    unfold pComputeLoop_k pComputeLoop
    proj_run
  pKeyword := by
    intro x0 x1 κ
    have h_pKeyword := ih.pKeyword
    have h_pKwFirst := ih.pKwFirst
    have h_pKwRest := ih.pKwRest
    have h_pSubQuery := ih.pSubQuery
    clear ih
    unfold pKeyword_k pKeyword
    proj_run
  pKwFirst := by
    intro x0 x1 κ
    have h_pCompute := ih.pCompute
    clear ih
    unfold pKwFirst_k pKwFirst
    proj_run
  pKwRest := by
    intro x0 x1 x2 κ
    have h_pKeyword := ih.pKeyword
    have h_pKwBody := ih.pKwBody
    clear ih
    unfold pKwRest_k pKwRest
    proj_run
  pKwBody := by
    intro x0 x1 x2 x3 κ
    have h_pCompute := ih.pCompute
    have h_pBetween := ih.pBetween
    have h_pInBody := ih.pInBody
    clear ih
    unfold pKwBody_k pKwBody
    proj_run
  pBetween := by
    intro x0 x1 x2 κ
    have h_pCompute := ih.pCompute
    clear ih
    unfold pBetween_k pBetween
    proj_run
  pInBody := by
    intro x0 x1 x2 κ
    have h_pSplit := ih.pSplit
    have h_pSubQuery := ih.pSubQuery
    clear ih
    unfold pInBody_k pInBody
    proj_run
  pSplit := by
    intro x0 x1 x2 κ
    have h_pCompute := ih.pCompute
    have h_pSplit := ih.pSplit
    clear ih
    unfold pSplit_k pSplit
    by_cases hcur : x1.isEmpty = true
    · simp only [hcur, if_true]; proj_run
    · simp only [hcur, if_false, h_pCompute, h_pSplit, Bool.false_eq_true]
      rcases hp : pCompute d n x1 with e | ⟨v, _ | ⟨t, r⟩⟩ <;> simp only [hp] <;> proj_run
  pCompare := by
    intro x0 κ
    have h_pKeyword := ih.pKeyword
    have h_pCompareLoop := ih.pCompareLoop
    clear ih
    unfold pCompare_k pCompare
    proj_run
  pCompareLoop := by
    intro x0 x1 κ
    have h_pKeyword := ih.pKeyword
    have h_pCompareLoop := ih.pCompareLoop
    clear ih
    unfold pCompareLoop_k pCompareLoop
    proj_run
  pNot := by
    intro x0 κ
    have h_pCompare := ih.pCompare
    have h_pNot := ih.pNot
    clear ih
    unfold pNot_k pNot
    proj_run
  pAnd := by
    intro x0 κ
    have h_pNot := ih.pNot
    have h_pAndLoop := ih.pAndLoop
    clear ih
    unfold pAnd_k pAnd
    proj_run
  pAndLoop := by
    intro x0 x1 κ
    have h_pNot := ih.pNot
    have h_pAndLoop := ih.pAndLoop
    clear ih
    unfold pAndLoop_k pAndLoop
    proj_run
  pXor := by
    intro x0 κ
    have h_pAnd := ih.pAnd
    have h_pXorLoop := ih.pXorLoop
    clear ih
    unfold pXor_k pXor
    proj_run
  pXorLoop := by
    intro x0 x1 κ
    have h_pAnd := ih.pAnd
    have h_pXorLoop := ih.pXorLoop
    clear ih
    unfold pXorLoop_k pXorLoop
    proj_run
  pOr := by
    intro x0 κ
    have h_pXor := ih.pXor
    have h_pOrLoop := ih.pOrLoop
    clear ih
    unfold pOr_k pOr
    proj_run
  pOrLoop := by
    intro x0 x1 κ
    have h_pXor := ih.pXor
    have h_pOrLoop := ih.pOrLoop
    clear ih
    unfold pOrLoop_k pOrLoop
    proj_run
  pSubQuery := by
    intro x0 κ
    have h_pSelectStmt := ih.pSelectStmt
    clear ih
    unfold pSubQuery_k pSubQuery
    proj_run
  pCast := by
    intro x0 κ
    have h_castTail := castTail_proj
    have h_pCompute := ih.pCompute
    clear ih
    unfold pCast_k pCast
    proj_run
  pExtract := by
    intro x0 κ
    have h_pCompute := ih.pCompute
    have h_pExtractTail := ih.pExtractTail
    clear ih
    unfold pExtract_k pExtract
    proj_run
  pExtractTail := by
    intro x0 x1 κ
    have h_pCompute := ih.pCompute
    clear ih
    unfold pExtractTail_k pExtractTail
    proj_run
  pWindow := by
    intro x0 κ
    have h_pFuncIdx := ih.pFuncIdx
    have h_pWindowBody := ih.pWindowBody
    clear ih
    unfold pWindow_k pWindow
    proj_run
  pWindowBody := by
    intro x0 x1 κ
    have h_pWindowRow := pWindowRow_proj
    have h_pPartitionBy := ih.pPartitionBy
    have h_pOrderByOpt := ih.pOrderByOpt
    clear ih
    unfold pWindowBody_k pWindowBody
    proj_run
  pPartitionBy := by
    intro x0 κ
    have h_pCompute := ih.pCompute
    have h_pComputeList := ih.pComputeList
    clear ih
    unfold pPartitionBy_k pPartitionBy
    proj_run
  pComputeList := by
    intro x0 x1 κ
    have h_pCompute := ih.pCompute
    have h_pComputeList := ih.pComputeList
    clear ih
    unfold pComputeList_k pComputeList
    proj_run
  pOrderItem := by
    intro x0 κ
    have h_orderTail := orderTail_proj
    have h_pCompute := ih.pCompute
    clear ih
    unfold pOrderItem_k pOrderItem
    proj_run
  pOrderList := by
    intro x0 x1 κ
    have h_pOrderItem := ih.pOrderItem
    have h_pOrderList := ih.pOrderList
    clear ih
    unfold pOrderList_k pOrderList
    proj_run
  pOrderByOpt := by
    intro x0 κ
    have h_pOrderItem := ih.pOrderItem
    have h_pOrderList := ih.pOrderList
    clear ih
    unfold pOrderByOpt_k pOrderByOpt
    proj_run
  pSelectCol := by
    intro x0 κ
    have h_pAlias := pAlias_proj
    have h_pOr := ih.pOr
    clear ih
    unfold pSelectCol_k pSelectCol
    proj_run
  pSelectCols := by
    intro x0 x1 κ
    have h_pSelectCol := ih.pSelectCol
    have h_pSelectCols := ih.pSelectCols
    clear ih
    unfold pSelectCols_k pSelectCols
    proj_run
  pTableExpr := by
    intro x0 κ
    have h_pTableName := pTableName_proj
    have h_pSubQuery := ih.pSubQuery
    have h_pTableExpr := ih.pTableExpr
    clear ih
    unfold pTableExpr_k pTableExpr
    proj_run
  pFromTable := by
    intro x0 κ
    have h_pAlias := pAlias_proj
    have h_pTableExpr := ih.pTableExpr
    clear ih
    unfold pFromTable_k pFromTable
    proj_run
  pFromTables := by
    intro x0 x1 κ
    have h_pFromTable := ih.pFromTable
    have h_pFromTables := ih.pFromTables
    clear ih
    unfold pFromTables_k pFromTables
    proj_run
  pJoin := by
    intro x0 κ
    have h_pFromTable := ih.pFromTable
    have h_pJoinRule := ih.pJoinRule
    clear ih
    unfold pJoin_k pJoin
    proj_run
  pJoinRule := by
    intro x0 x1 x2 κ
    have h_pFunc := ih.pFunc
    have h_pOr := ih.pOr
    clear ih
    unfold pJoinRule_k pJoinRule
    proj_run
  pJoins := by
    intro x0 x1 x2 x3 κ
    have h_pJoin := ih.pJoin
    have h_pJoins := ih.pJoins
    clear ih
    unfold pJoins_k pJoins
    proj_run
  pOptOr := by
    intro x0 x1 κ
    have h_pOr := ih.pOr
    clear ih
    unfold pOptOr_k pOptOr
    proj_run
  pGroupingElem := by
    intro x0 κ
    have h_pCompute := ih.pCompute
    have h_pClosedEach := ih.pClosedEach
    clear ih
    unfold pGroupingElem_k pGroupingElem
    proj_run
  pClosedEach := by
    intro x0 x1 κ
    have h_pCompute := ih.pCompute
    have h_pClosedEach := ih.pClosedEach
    clear ih
    unfold pClosedEach_k pClosedEach
    proj_run
  pGroupingElems := by
    intro x0 x1 κ
    have h_pGroupingElem := ih.pGroupingElem
    have h_pGroupingElems := ih.pGroupingElems
    clear ih
    unfold pGroupingElems_k pGroupingElems
    proj_run
  pGroupingSets := by
    intro x0 κ
    have h_pGroupingElems := ih.pGroupingElems
    clear ih
    unfold pGroupingSets_k pGroupingSets
    proj_run
  pGroupBy := by
    intro x0 κ
    have h_pGroupCols := ih.pGroupCols
    have h_pGroupSetsOpt := ih.pGroupSetsOpt
    clear ih
    unfold pGroupBy_k pGroupBy
    proj_run
  pGroupCols := by
    intro x0 κ
    have h_pCompute := ih.pCompute
    have h_pComputeList := ih.pComputeList
    clear ih
    unfold pGroupCols_k pGroupCols
    proj_run
  pGroupSetsOpt := by
    intro x0 κ
    have h_pGroupingSets := ih.pGroupingSets
    clear ih
    unfold pGroupSetsOpt_k pGroupSetsOpt
    proj_run
  pWithTable := by
    intro x0 κ
    have h_pWithBody := ih.pWithBody
    clear ih
    unfold pWithTable_k pWithTable
    proj_run
  pWithBody := by
    intro x0 x1 κ
    have h_pSelectStmt := ih.pSelectStmt
    clear ih
    unfold pWithBody_k pWithBody
    proj_run
  pWithTables := by
    intro x0 x1 κ
    have h_pWithTable := ih.pWithTable
    have h_pWithTables := ih.pWithTables
    clear ih
    unfold pWithTables_k pWithTables
    proj_run
  pWith := by
    intro x0 κ
    have h_pWithTable := ih.pWithTable
    have h_pWithTables := ih.pWithTables
    clear ih
    unfold pWith_k pWith
    proj_run
  pSelectBody := by
    intro x0 x1 x2 x3 κ
    have h_pSelectCol := ih.pSelectCol
    have h_pSelectCols := ih.pSelectCols
    have h_pSelectRest := ih.pSelectRest
    clear ih
    unfold pSelectBody_k pSelectBody
    proj_run
  pFromOpt := by
    intro x0 κ
    have h_pFromTable := ih.pFromTable
    have h_pFromTables := ih.pFromTables
    clear ih
    unfold pFromOpt_k pFromOpt
    proj_run
  pSelectRest := by
    intro x0 x1 x2 x3 x4 x5 κ
    have h_pJoins := ih.pJoins
    have h_pFromOpt := ih.pFromOpt
    have h_pSelectTail := ih.pSelectTail
    have h_pLaterals := ih.pLaterals
    clear ih
    unfold pSelectRest_k pSelectRest
    proj_run
  pSelectTail := by
    intro x0 x1 x2 x3 x4 x5 x6 κ
    have h_pLimit := pLimit_proj
    have h_pWhereGroup := ih.pWhereGroup
    have h_pHavingOrder := ih.pHavingOrder
    have h_pHiveClauses := ih.pHiveClauses
    clear ih
    unfold pSelectTail_k pSelectTail
    proj_run
  pWhereGroup := by
    intro x0 κ
    have h_pOptOr := ih.pOptOr
    have h_pGroupBy := ih.pGroupBy
    clear ih
    unfold pWhereGroup_k pWhereGroup
    proj_run
  pHavingOrder := by
    intro x0 κ
    have h_pOrderByOpt := ih.pOrderByOpt
    have h_pOptOr := ih.pOptOr
    clear ih
    unfold pHavingOrder_k pHavingOrder
    proj_run
  pHiveClauses := by
    intro x0 κ
    have h_pSortBy := ih.pSortBy
    have h_pByList := ih.pByList
    clear ih
    unfold pHiveClauses_k pHiveClauses
    proj_run
  pSortBy := by
    intro x0 κ
    have h_pOrderItem := ih.pOrderItem
    have h_pOrderList := ih.pOrderList
    clear ih
    unfold pSortBy_k pSortBy
    proj_run
  pByList := by
    intro x0 x1 κ
    have h_pCompute := ih.pCompute
    have h_pComputeList := ih.pComputeList
    clear ih
    unfold pByList_k pByList
    proj_run
  pLateral := by
    intro x0 κ
    have h_pMultiAlias := pMultiAlias_proj
    have h_pFunc := ih.pFunc
    clear ih
    unfold pLateral_k pLateral
    proj_run
  pLaterals := by
    intro x0 x1 x2 x3 κ
    have h_pLateral := ih.pLateral
    have h_pLaterals := ih.pLaterals
    clear ih
    unfold pLaterals_k pLaterals
    proj_run
  pSingle := by
    intro x0 x1 κ
    have h_pSelectBody := ih.pSelectBody
    have h_pSingleParen := ih.pSingleParen
    clear ih
    unfold pSingle_k pSingle
    proj_run
  pSingleParen := by
    intro x0 x1 x2 x3 κ
    have h_pSelectBody := ih.pSelectBody
    have h_pSingleParen := ih.pSingleParen
    clear ih
    unfold pSingleParen_k pSingleParen
    proj_run
  pSelectStmt := by
    intro x0 x1 κ
    have h_pWith := ih.pWith
    have h_pSingle := ih.pSingle
    have h_pUnions := ih.pUnions
    clear ih
    cases x0 <;> unfold pSelectStmt_k pSelectStmt <;> proj_run
  pUnions := by
    intro x0 x1 x2 κ
    have h_pSingle := ih.pSingle
    have h_pUnions := ih.pUnions
    clear ih
    unfold pUnions_k pUnions
    proj_run

theorem projF_all : ∀ n, ProjF d n := by
  intro n
  induction n with
  | zero => constructor <;> (intros; rfl)
  | succ n ih => exact projF_succ d n ih

theorem pElement_proj (f : Nat) : ∀ x0 κ, (pElement_k d f x0 κ).2 = pElement d f x0 := (projF_all d f).pElement
theorem pParen_proj (f : Nat) : ∀ x0 x1 κ, (pParen_k d f x0 x1 κ).2 = pParen d f x0 x1 := (projF_all d f).pParen
theorem pNamed_proj (f : Nat) : ∀ x0 x1 x2 κ, (pNamed_k d f x0 x1 x2 κ).2 = pNamed d f x0 x1 x2 := (projF_all d f).pNamed
theorem pQualified_proj (f : Nat) : ∀ x0 x1 x2 κ, (pQualified_k d f x0 x1 x2 κ).2 = pQualified d f x0 x1 x2 := (projF_all d f).pQualified
theorem pIndex_proj (f : Nat) : ∀ x0 x1 κ, (pIndex_k d f x0 x1 κ).2 = pIndex d f x0 x1 := (projF_all d f).pIndex
theorem pFuncIdx_proj (f : Nat) : ∀ x0 κ, (pFuncIdx_k d f x0 κ).2 = pFuncIdx d f x0 := (projF_all d f).pFuncIdx
theorem pFunc_proj (f : Nat) : ∀ x0 κ, (pFunc_k d f x0 κ).2 = pFunc d f x0 := (projF_all d f).pFunc
theorem pIfCall_proj (f : Nat) : ∀ x0 κ, (pIfCall_k d f x0 κ).2 = pIfCall d f x0 := (projF_all d f).pIfCall
theorem pFirstDiscard_proj (f : Nat) : ∀ x0 κ, (pFirstDiscard_k d f x0 κ).2 = pFirstDiscard d f x0 := (projF_all d f).pFirstDiscard
theorem pFirstArg_proj (f : Nat) : ∀ x0 κ, (pFirstArg_k d f x0 κ).2 = pFirstArg d f x0 := (projF_all d f).pFirstArg
theorem pCall_proj (f : Nat) : ∀ x0 x1 x2 κ, (pCall_k d f x0 x1 x2 κ).2 = pCall d f x0 x1 x2 := (projF_all d f).pCall
theorem pArgs_proj (f : Nat) : ∀ x0 x1 κ, (pArgs_k d f x0 x1 κ).2 = pArgs d f x0 x1 := (projF_all d f).pArgs
theorem pCase_proj (f : Nat) : ∀ x0 κ, (pCase_k d f x0 κ).2 = pCase d f x0 := (projF_all d f).pCase
theorem pElseEnd_proj (f : Nat) : ∀ x0 κ, (pElseEnd_k d f x0 κ).2 = pElseEnd d f x0 := (projF_all d f).pElseEnd
theorem pWhens_proj (f : Nat) : ∀ x0 x1 κ, (pWhens_k d f x0 x1 κ).2 = pWhens d f x0 x1 := (projF_all d f).pWhens
theorem pUnary_proj (f : Nat) : ∀ x0 κ, (pUnary_k d f x0 κ).2 = pUnary d f x0 := (projF_all d f).pUnary
theorem pCompute_proj (f : Nat) : ∀ x0 κ, (pCompute_k d f x0 κ).2 = pCompute d f x0 := (projF_all d f).pCompute
theorem pComputeLoop_proj (f : Nat) : ∀ x0 x1 x2 κ, (pComputeLoop_k d f x0 x1 x2 κ).2 = pComputeLoop d f x0 x1 x2 := (projF_all d f).pComputeLoop
theorem pKeyword_proj (f : Nat) : ∀ x0 x1 κ, (pKeyword_k d f x0 x1 κ).2 = pKeyword d f x0 x1 := (projF_all d f).pKeyword
theorem pKwFirst_proj (f : Nat) : ∀ x0 x1 κ, (pKwFirst_k d f x0 x1 κ).2 = pKwFirst d f x0 x1 := (projF_all d f).pKwFirst
theorem pKwRest_proj (f : Nat) : ∀ x0 x1 x2 κ, (pKwRest_k d f x0 x1 x2 κ).2 = pKwRest d f x0 x1 x2 := (projF_all d f).pKwRest
theorem pKwBody_proj (f : Nat) : ∀ x0 x1 x2 x3 κ, (pKwBody_k d f x0 x1 x2 x3 κ).2 = pKwBody d f x0 x1 x2 x3 := (projF_all d f).pKwBody
theorem pBetween_proj (f : Nat) : ∀ x0 x1 x2 κ, (pBetween_k d f x0 x1 x2 κ).2 = pBetween d f x0 x1 x2 := (projF_all d f).pBetween
theorem pInBody_proj (f : Nat) : ∀ x0 x1 x2 κ, (pInBody_k d f x0 x1 x2 κ).2 = pInBody d f x0 x1 x2 := (projF_all d f).pInBody
theorem pSplit_proj (f : Nat) : ∀ x0 x1 x2 κ, (pSplit_k d f x0 x1 x2 κ).2 = pSplit d f x0 x1 x2 := (projF_all d f).pSplit
theorem pCompare_proj (f : Nat) : ∀ x0 κ, (pCompare_k d f x0 κ).2 = pCompare d f x0 := (projF_all d f).pCompare
theorem pCompareLoop_proj (f : Nat) : ∀ x0 x1 κ, (pCompareLoop_k d f x0 x1 κ).2 = pCompareLoop d f x0 x1 := (projF_all d f).pCompareLoop
theorem pNot_proj (f : Nat) : ∀ x0 κ, (pNot_k d f x0 κ).2 = pNot d f x0 := (projF_all d f).pNot
theorem pAnd_proj (f : Nat) : ∀ x0 κ, (pAnd_k d f x0 κ).2 = pAnd d f x0 := (projF_all d f).pAnd
theorem pAndLoop_proj (f : Nat) : ∀ x0 x1 κ, (pAndLoop_k d f x0 x1 κ).2 = pAndLoop d f x0 x1 := (projF_all d f).pAndLoop
theorem pXor_proj (f : Nat) : ∀ x0 κ, (pXor_k d f x0 κ).2 = pXor d f x0 := (projF_all d f).pXor
theorem pXorLoop_proj (f : Nat) : ∀ x0 x1 κ, (pXorLoop_k d f x0 x1 κ).2 = pXorLoop d f x0 x1 := (projF_all d f).pXorLoop
theorem pOr_proj (f : Nat) : ∀ x0 κ, (pOr_k d f x0 κ).2 = pOr d f x0 := (projF_all d f).pOr
theorem pOrLoop_proj (f : Nat) : ∀ x0 x1 κ, (pOrLoop_k d f x0 x1 κ).2 = pOrLoop d f x0 x1 := (projF_all d f).pOrLoop
theorem pSubQuery_proj (f : Nat) : ∀ x0 κ, (pSubQuery_k d f x0 κ).2 = pSubQuery d f x0 := (projF_all d f).pSubQuery
theorem pCast_proj (f : Nat) : ∀ x0 κ, (pCast_k d f x0 κ).2 = pCast d f x0 := (projF_all d f).pCast
theorem pExtract_proj (f : Nat) : ∀ x0 κ, (pExtract_k d f x0 κ).2 = pExtract d f x0 := (projF_all d f).pExtract
theorem pExtractTail_proj (f : Nat) : ∀ x0 x1 κ, (pExtractTail_k d f x0 x1 κ).2 = pExtractTail d f x0 x1 := (projF_all d f).pExtractTail
theorem pWindow_proj (f : Nat) : ∀ x0 κ, (pWindow_k d f x0 κ).2 = pWindow d f x0 := (projF_all d f).pWindow
theorem pWindowBody_proj (f : Nat) : ∀ x0 x1 κ, (pWindowBody_k d f x0 x1 κ).2 = pWindowBody d f x0 x1 := (projF_all d f).pWindowBody
theorem pPartitionBy_proj (f : Nat) : ∀ x0 κ, (pPartitionBy_k d f x0 κ).2 = pPartitionBy d f x0 := (projF_all d f).pPartitionBy
theorem pComputeList_proj (f : Nat) : ∀ x0 x1 κ, (pComputeList_k d f x0 x1 κ).2 = pComputeList d f x0 x1 := (projF_all d f).pComputeList
theorem pOrderItem_proj (f : Nat) : ∀ x0 κ, (pOrderItem_k d f x0 κ).2 = pOrderItem d f x0 := (projF_all d f).pOrderItem
theorem pOrderList_proj (f : Nat) : ∀ x0 x1 κ, (pOrderList_k d f x0 x1 κ).2 = pOrderList d f x0 x1 := (projF_all d f).pOrderList
theorem pOrderByOpt_proj (f : Nat) : ∀ x0 κ, (pOrderByOpt_k d f x0 κ).2 = pOrderByOpt d f x0 := (projF_all d f).pOrderByOpt
theorem pSelectCol_proj (f : Nat) : ∀ x0 κ, (pSelectCol_k d f x0 κ).2 = pSelectCol d f x0 := (projF_all d f).pSelectCol
theorem pSelectCols_proj (f : Nat) : ∀ x0 x1 κ, (pSelectCols_k d f x0 x1 κ).2 = pSelectCols d f x0 x1 := (projF_all d f).pSelectCols
theorem pTableExpr_proj (f : Nat) : ∀ x0 κ, (pTableExpr_k d f x0 κ).2 = pTableExpr d f x0 := (projF_all d f).pTableExpr
theorem pFromTable_proj (f : Nat) : ∀ x0 κ, (pFromTable_k d f x0 κ).2 = pFromTable d f x0 := (projF_all d f).pFromTable
theorem pFromTables_proj (f : Nat) : ∀ x0 x1 κ, (pFromTables_k d f x0 x1 κ).2 = pFromTables d f x0 x1 := (projF_all d f).pFromTables
theorem pJoin_proj (f : Nat) : ∀ x0 κ, (pJoin_k d f x0 κ).2 = pJoin d f x0 := (projF_all d f).pJoin
theorem pJoinRule_proj (f : Nat) : ∀ x0 x1 x2 κ, (pJoinRule_k d f x0 x1 x2 κ).2 = pJoinRule d f x0 x1 x2 := (projF_all d f).pJoinRule
theorem pJoins_proj (f : Nat) : ∀ x0 x1 x2 x3 κ, (pJoins_k d f x0 x1 x2 x3 κ).2 = pJoins d f x0 x1 x2 x3 := (projF_all d f).pJoins
theorem pOptOr_proj (f : Nat) : ∀ x0 x1 κ, (pOptOr_k d f x0 x1 κ).2 = pOptOr d f x0 x1 := (projF_all d f).pOptOr
theorem pGroupingElem_proj (f : Nat) : ∀ x0 κ, (pGroupingElem_k d f x0 κ).2 = pGroupingElem d f x0 := (projF_all d f).pGroupingElem
theorem pClosedEach_proj (f : Nat) : ∀ x0 x1 κ, (pClosedEach_k d f x0 x1 κ).2 = pClosedEach d f x0 x1 := (projF_all d f).pClosedEach
theorem pGroupingElems_proj (f : Nat) : ∀ x0 x1 κ, (pGroupingElems_k d f x0 x1 κ).2 = pGroupingElems d f x0 x1 := (projF_all d f).pGroupingElems
theorem pGroupingSets_proj (f : Nat) : ∀ x0 κ, (pGroupingSets_k d f x0 κ).2 = pGroupingSets d f x0 := (projF_all d f).pGroupingSets
theorem pGroupBy_proj (f : Nat) : ∀ x0 κ, (pGroupBy_k d f x0 κ).2 = pGroupBy d f x0 := (projF_all d f).pGroupBy
theorem pGroupCols_proj (f : Nat) : ∀ x0 κ, (pGroupCols_k d f x0 κ).2 = pGroupCols d f x0 := (projF_all d f).pGroupCols
theorem pGroupSetsOpt_proj (f : Nat) : ∀ x0 κ, (pGroupSetsOpt_k d f x0 κ).2 = pGroupSetsOpt d f x0 := (projF_all d f).pGroupSetsOpt
theorem pWithTable_proj (f : Nat) : ∀ x0 κ, (pWithTable_k d f x0 κ).2 = pWithTable d f x0 := (projF_all d f).pWithTable
theorem pWithBody_proj (f : Nat) : ∀ x0 x1 κ, (pWithBody_k d f x0 x1 κ).2 = pWithBody d f x0 x1 := (projF_all d f).pWithBody
theorem pWithTables_proj (f : Nat) : ∀ x0 x1 κ, (pWithTables_k d f x0 x1 κ).2 = pWithTables d f x0 x1 := (projF_all d f).pWithTables
theorem pWith_proj (f : Nat) : ∀ x0 κ, (pWith_k d f x0 κ).2 = pWith d f x0 := (projF_all d f).pWith
theorem pSelectBody_proj (f : Nat) : ∀ x0 x1 x2 x3 κ, (pSelectBody_k d f x0 x1 x2 x3 κ).2 = pSelectBody d f x0 x1 x2 x3 := (projF_all d f).pSelectBody
theorem pFromOpt_proj (f : Nat) : ∀ x0 κ, (pFromOpt_k d f x0 κ).2 = pFromOpt d f x0 := (projF_all d f).pFromOpt
theorem pSelectRest_proj (f : Nat) : ∀ x0 x1 x2 x3 x4 x5 κ, (pSelectRest_k d f x0 x1 x2 x3 x4 x5 κ).2 = pSelectRest d f x0 x1 x2 x3 x4 x5 := (projF_all d f).pSelectRest
theorem pSelectTail_proj (f : Nat) : ∀ x0 x1 x2 x3 x4 x5 x6 κ, (pSelectTail_k d f x0 x1 x2 x3 x4 x5 x6 κ).2 = pSelectTail d f x0 x1 x2 x3 x4 x5 x6 := (projF_all d f).pSelectTail
theorem pWhereGroup_proj (f : Nat) : ∀ x0 κ, (pWhereGroup_k d f x0 κ).2 = pWhereGroup d f x0 := (projF_all d f).pWhereGroup
theorem pHavingOrder_proj (f : Nat) : ∀ x0 κ, (pHavingOrder_k d f x0 κ).2 = pHavingOrder d f x0 := (projF_all d f).pHavingOrder
theorem pHiveClauses_proj (f : Nat) : ∀ x0 κ, (pHiveClauses_k d f x0 κ).2 = pHiveClauses d f x0 := (projF_all d f).pHiveClauses
theorem pSortBy_proj (f : Nat) : ∀ x0 κ, (pSortBy_k d f x0 κ).2 = pSortBy d f x0 := (projF_all d f).pSortBy
theorem pByList_proj (f : Nat) : ∀ x0 x1 κ, (pByList_k d f x0 x1 κ).2 = pByList d f x0 x1 := (projF_all d f).pByList
theorem pLateral_proj (f : Nat) : ∀ x0 κ, (pLateral_k d f x0 κ).2 = pLateral d f x0 := (projF_all d f).pLateral
theorem pLaterals_proj (f : Nat) : ∀ x0 x1 x2 x3 κ, (pLaterals_k d f x0 x1 x2 x3 κ).2 = pLaterals d f x0 x1 x2 x3 := (projF_all d f).pLaterals
theorem pSingle_proj (f : Nat) : ∀ x0 x1 κ, (pSingle_k d f x0 x1 κ).2 = pSingle d f x0 x1 := (projF_all d f).pSingle
theorem pSingleParen_proj (f : Nat) : ∀ x0 x1 x2 x3 κ, (pSingleParen_k d f x0 x1 x2 x3 κ).2 = pSingleParen d f x0 x1 x2 x3 := (projF_all d f).pSingleParen
theorem pSelectStmt_proj (f : Nat) : ∀ x0 x1 κ, (pSelectStmt_k d f x0 x1 κ).2 = pSelectStmt d f x0 x1 := (projF_all d f).pSelectStmt
theorem pUnions_proj (f : Nat) : ∀ x0 x1 x2 κ, (pUnions_k d f x0 x1 x2 κ).2 = pUnions d f x0 x1 x2 := (projF_all d f).pUnions

end PM
