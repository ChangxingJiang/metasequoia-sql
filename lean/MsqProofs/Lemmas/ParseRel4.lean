import MsqProofs.Lemmas.ParseRel3b
/-!
# Relational reading of the parser model: the tree maps for the DDL / DML structures and statements
Every string of the structure is mapped through `m` (config strings through `m2`); flags and numbers are kept.
-/
set_option linter.unusedVariables false
open Lex Ast PMQ
namespace PM.Rel

def mapTN (m : String → String) : TableName → TableName | ⟨s, n⟩ => ⟨s.map m, m n⟩
def mapCT (m : String → String) : ColType → ColType | ⟨n, ps⟩ => ⟨m n, ps.map (List.map (mapE m))⟩
def mapGC (m : String → String) : GenCol → GenCol | ⟨e, sm⟩ => ⟨mapE m e, sm.map m⟩
def mapDC (m : String → String) : DefCol → DefCol
  | ⟨n, ty, un, zf, cs, co, g, an, nn, ai, df, ou, cm⟩ => ⟨m n, mapCT m ty, un, zf, cs.map m, co.map m, g.map (mapGC m), an, nn, ai, df.map (mapE m), ou.map (mapE m), cm.map m⟩
def mapIC (m : String → String) : IndexCol → IndexCol | ⟨n, l⟩ => ⟨m n, l⟩
def mapIx (m : String → String) : Index → Index | ⟨k, n, cs, um, cm, kb⟩ => ⟨k, n.map m, cs.map (mapIC m), um.map m, cm.map m, kb⟩
def mapFK (m : String → String) : ForeignKey → ForeignKey | ⟨c, s, mt, mc, od, ou⟩ => ⟨m c, s.map m, m mt, mc.map m, od.map m, ou.map m⟩
def mapCI (m : String → String) : ColOrIdx → ColOrIdx
  | .col c => .col (mapDC m c) | .idx i => .idx (mapIx m i) | .fk f => .fk (mapFK m f)
def mapAO (m : String → String) : AlterOp → AlterOp
  | .addPartition b p => .addPartition b (p.map (mapE m))
  | .add x => .add (mapCI m x)
  | .modify x => .modify (mapCI m x)
  | .change f t => .change (m f) (mapCI m t)
  | .renameColumn f t => .renameColumn (m f) (m t)
  | .dropColumn c => .dropColumn (m c)
  | .dropPartition b p => .dropPartition b (p.map (mapE m))
/-- config strings are CONCATENATIONS of popped sources: their own text map -/
def mapCS (m2 : String → String) : ConfigStr → ConfigStr | ⟨n, v⟩ => ⟨m2 n, m2 v⟩
def mapCR (m m2 : String → String) : CreateTable → CreateTable
  | ⟨t, ine, cols, pk, uk, k, fk, fo, pb, cm, en, ai, dc, co, rf, sp, rs, rd, si, st, of, lo, tp⟩ =>
    ⟨mapTN m t, ine, cols.map (mapDC m), pk.map (mapIx m), uk.map (mapIx m), k.map (mapIx m), fk.map (mapIx m), fo.map (mapFK m), pb.map (mapDC m), cm.map m, en.map m, ai, dc.map m, co.map m,
     rf.map m, sp.map m, rs.map m, rd.map m, si.map m, st, of.map m, lo.map m, tp.map (mapCS m2)⟩
def mapIH (m : String → String) : InsertHead → InsertHead
  | ⟨w, ty, t, p, c⟩ => ⟨w.map (List.map (mapW m)), m ty, mapTN m t, p.map (List.map (mapE m)), c.map (List.map (Prod.map (Option.map m) m))⟩
def mapLim (m : String → String) : Option (Int × Option Int) → Option (Int × Option Int) := id
/-- `(mapAll m)` of a statement (`mapSt`, Lemmas/ParseRel0.lean, is the map on the operator STACK of the compute loop) -/
def mapSt0 (m m2 : String → String) : Stmt → Stmt
  | .select q => .select (mapQ m q)
  | .insertValues h vs => .insertValues (mapIH m h) (vs.map (List.map (mapE m)))
  | .insertSelect h q => .insertSelect (mapIH m h) (mapQ m q)
  | .update w t sets wh ob lm => .update (w.map (List.map (mapW m))) (mapTN m t) (sets.map (Prod.map m (mapE m))) (wh.map (mapE m)) (ob.map (List.map (mapO m))) lm
  | .delete t wh ob lm => .delete (mapTN m t) (wh.map (mapE m)) (ob.map (List.map (mapO m))) lm
  | .createTable c => .createTable (mapCR m m2 c)
  | .createTableAs t ine q => .createTableAs (mapTN m t) ine (mapQ m q)
  | .dropTable b t => .dropTable b (mapTN m t)
  | .set c => .set (mapCS m2 c)
  | .analyze t p a b c => .analyze (mapTN m t) (p.map (List.map (mapE m))) a b c
  | .alter t ops => .alter (mapTN m t) (ops.map (mapAO m))
  | .msck t => .msck (mapTN m t)
  | .use s => .use (m s)
  | .truncate t => .truncate (mapTN m t)
  | .showDatabases => .showDatabases
  | .showTables => .showTables
  | .showColumns fr wh => .showColumns (fr.map (mapFT m)) (wh.map (mapE m))

variable [T : Theory]

theorem eachClosed_rel {α β : Type} (f : α → β) (p p' : List Tok → R α) (hp : ∀ sg sg', GEL T.E sg sg' → GER T.E (geq f) (p sg) (p' sg')) :
    ∀ segs segs', GELL T.E segs segs' → GEX (geq (List.map f)) (eachClosed p segs) (eachClosed p' segs') := by
  intro segs
  induction segs with
  | nil => intro segs' h; cases segs' <;> simp_all [eachClosed]
  | cons sg rest ih =>
    intro segs' h
    cases segs' with
    | nil => simp at h
    | cons sg' rest' =>
      simp at h
      have h1 := closed_rel (hp sg sg' h.1)
      have h2 := ih rest' h.2
      clear ih
      simp only [eachClosed]
      cases hc : closed (p sg) <;> cases hc' : closed (p' sg') <;> rw [hc, hc'] at h1 <;> simp at h1 ⊢
      · exact h1
      · cases hr : eachClosed p rest <;> cases hr' : eachClosed p' rest' <;> rw [hr, hr'] at h2 <;> simp at h2 ⊢ <;> simp_all
theorem eachClosed_rel_eq {α : Type} (p p' : List Tok → R α) (hp : ∀ sg sg', GEL T.E sg sg' → GER T.E Eq (p sg) (p' sg')) :
    ∀ segs segs', GELL T.E segs segs' → GEX Eq (eachClosed p segs) (eachClosed p' segs') := by
  have e : geq (List.map (id : α → α)) = Eq := by funext a b; simp
  exact e ▸ eachClosed_rel id p p' hp

end PM.Rel
