import MsqModel.Print
import MsqProofs.Lemmas.ExceptLemmas
/-!
# The printer model `PR.prE / prS / prQ / prStmt`: sequential forms, and four liftings over a location predicate

`Loc` flags nodes of a query tree; `anyE … anyQ`, `anyStmt` walk every child the printer visits.  Four liftings from the flagged nodes to the
whole print, each one structural induction over all tree types: `none_*` (nothing flagged), `bad_*` (a flagged node whose own call fails makes the
print fail), `eq_*` (two dialects print alike off the flagged nodes; statement level in `Props/C13.lean`, beside the tests it speaks of), `res_*`
(errors stay inside a set `E`: `OkOr`).  `prS_unfold` states the body of `prS` as an equation: Lean cannot generate the equation lemma of `prS`
(its inline `match`es over optional clauses carry recursive calls), hence 2⁸ `rfl`s; `prS_eq`, `prInsertHead_eq`, `prTail_eq` name the parts, also
for the lexer link.
-/
namespace PR
open Ast

/-- `prS` on a constructor application, verbatim from `MsqModel/Print.lean` -/
def prSBody (d : Gen.D) (ws : Option (List WithTable)) (dist : Bool) (cols : List (Expr × Option String))
    (fr : Option (List FromTable)) (lats : List Lateral) (js : List Join) (wh : Option Expr) (gb : Option GroupBy)
    (hv : Option Expr) (ob sb : Option (List OrderItem)) (db cb : Option (List Expr)) (lm : Option (Int × Option Int)) : P := do
  let w ← prWithPrefix d "\n" ws
  if d != .HIVE && (sb.isSome || db.isSome || cb.isSome) then throw .notSupported
  if !(d == .HIVE || d == .DEFAULT) && !lats.isEmpty then throw .notSupported
  let cs ← prCols d cols
  let sel := joinS " " (["SELECT"] ++ (if dist then ["DISTINCT"] else []) ++ [joinS ", " cs])
  let frs ← (match fr with | some l => (prFromList d l).map fun x => ["FROM " ++ joinS ", " x] | none => pure [])
  let lts ← prLateralList d lats
  let jss ← prJoinList d js
  let whs ← (match wh with | some e => (prE d e).map fun x => [s!"WHERE {x}"] | none => pure [])
  let gbs ← (match gb with | some g => (prGroupBy d g).map fun x => [x] | none => pure [])
  let hvs ← (match hv with | some e => (prE d e).map fun x => [s!"HAVING {x}"] | none => pure [])
  let obs ← (match ob with | some l => (prOrdList d l).map fun x => ["ORDER BY " ++ joinS ", " x] | none => pure [])
  let hive ← (if d == .HIVE then do
      let a ← (match sb with | some l => (prOrdList d l).map fun x => ["SORT BY " ++ joinS ", " x] | none => pure [])
      let b ← (match db with | some l => (prList8 d l).map fun x => ["DISTRIBUTE BY " ++ joinS ", " x] | none => pure [])
      let c ← (match cb with | some l => (prList8 d l).map fun x => ["CLUSTER BY " ++ joinS ", " x] | none => pure [])
      pure (a ++ b ++ c)
    else pure [])
  let lms := match lm with | some l => [limitSrc l] | none => []
  pure (w ++ joinS "\n" ([sel] ++ frs ++ lts ++ jss ++ whs ++ gbs ++ hvs ++ obs ++ hive ++ lms))

theorem prS_unfold (d : Gen.D) (ws : Option (List WithTable)) (dist : Bool) (cols : List (Expr × Option String))
    (fr : Option (List FromTable)) (lats : List Lateral) (js : List Join) (wh : Option Expr) (gb : Option GroupBy)
    (hv : Option Expr) (ob sb : Option (List OrderItem)) (db cb : Option (List Expr)) (lm : Option (Int × Option Int)) :
    prS d (.mk ws dist cols fr lats js wh gb hv ob sb db cb lm) = prSBody d ws dist cols fr lats js wh gb hv ob sb db cb lm := by
  cases fr <;> cases wh <;> cases gb <;> cases hv <;> cases ob <;> cases sb <;> cases db <;> cases cb <;> rfl

/-- the two dialect guards of `prS` (`node.py:1224-1230` after the repairs): Hive-only clauses, LATERAL VIEW -/
def prSGuard (d : Gen.D) (lats : List Lateral) (sb : Option (List OrderItem)) (db cb : Option (List Expr)) : Except Err Unit :=
  if d != .HIVE && (sb.isSome || db.isSome || cb.isSome) then .error .notSupported
  else if !(d == .HIVE || d == .DEFAULT) && !lats.isEmpty then .error .notSupported
  else .ok ()

/-! the optional clauses of `prS`, named (definitionally the inline `match`es of `Print.lean`) -/
def prOptFrom (d : Gen.D) : Option (List FromTable) → Except Err (List String)
  | some l => (prFromList d l).map fun x => ["FROM " ++ joinS ", " x] | none => pure []
def prOptWhere (d : Gen.D) : Option Expr → Except Err (List String)
  | some e => (prE d e).map fun x => [s!"WHERE {x}"] | none => pure []
def prOptGroup (d : Gen.D) : Option GroupBy → Except Err (List String)
  | some g => (prGroupBy d g).map fun x => [x] | none => pure []
def prOptHaving (d : Gen.D) : Option Expr → Except Err (List String)
  | some e => (prE d e).map fun x => [s!"HAVING {x}"] | none => pure []
def prOptOrder (d : Gen.D) : Option (List OrderItem) → Except Err (List String)
  | some l => (prOrdList d l).map fun x => ["ORDER BY " ++ joinS ", " x] | none => pure []
def prOptSort (d : Gen.D) : Option (List OrderItem) → Except Err (List String)
  | some l => (prOrdList d l).map fun x => ["SORT BY " ++ joinS ", " x] | none => pure []
def prOptDistribute (d : Gen.D) : Option (List Expr) → Except Err (List String)
  | some l => (prList8 d l).map fun x => ["DISTRIBUTE BY " ++ joinS ", " x] | none => pure []
def prOptCluster (d : Gen.D) : Option (List Expr) → Except Err (List String)
  | some l => (prList8 d l).map fun x => ["CLUSTER BY " ++ joinS ", " x] | none => pure []
def prHive (d : Gen.D) (sb : Option (List OrderItem)) (db cb : Option (List Expr)) : Except Err (List String) :=
  if d == .HIVE then do
    let a ← prOptSort d sb
    let b ← prOptDistribute d db
    let c ← prOptCluster d cb
    pure (a ++ b ++ c)
  else pure []

def prSRest (d : Gen.D) (w : String) (dist : Bool) (cols : List (Expr × Option String))
    (fr : Option (List FromTable)) (lats : List Lateral) (js : List Join) (wh : Option Expr) (gb : Option GroupBy)
    (hv : Option Expr) (ob sb : Option (List OrderItem)) (db cb : Option (List Expr)) (lm : Option (Int × Option Int)) : P := do
  let cs ← prCols d cols
  let sel := joinS " " (["SELECT"] ++ (if dist then ["DISTINCT"] else []) ++ [joinS ", " cs])
  let frs ← prOptFrom d fr
  let lts ← prLateralList d lats
  let jss ← prJoinList d js
  let whs ← prOptWhere d wh
  let gbs ← prOptGroup d gb
  let hvs ← prOptHaving d hv
  let obs ← prOptOrder d ob
  let hive ← prHive d sb db cb
  let lms := match lm with | some l => [limitSrc l] | none => []
  pure (w ++ joinS "\n" ([sel] ++ frs ++ lts ++ jss ++ whs ++ gbs ++ hvs ++ obs ++ hive ++ lms))

theorem prS_eq (d : Gen.D) (ws : Option (List WithTable)) (dist : Bool) (cols : List (Expr × Option String))
    (fr : Option (List FromTable)) (lats : List Lateral) (js : List Join) (wh : Option Expr) (gb : Option GroupBy)
    (hv : Option Expr) (ob sb : Option (List OrderItem)) (db cb : Option (List Expr)) (lm : Option (Int × Option Int)) :
    prS d (.mk ws dist cols fr lats js wh gb hv ob sb db cb lm) =
      (prWithPrefix d "\n" ws >>= fun w => prSGuard d lats sb db cb >>= fun _ => prSRest d w dist cols fr lats js wh gb hv ob sb db cb lm) := by
  rw [prS_unfold]
  unfold prSBody prSGuard
  cases prWithPrefix d "\n" ws with
  | error e => rfl
  | ok w =>
    simp only [ok_bind]
    by_cases h1 : (d != .HIVE && (sb.isSome || db.isSome || cb.isSome)) = true
    · simp only [h1, if_true]; rfl
    · by_cases h2 : (!(d == .HIVE || d == .DEFAULT) && !lats.isEmpty) = true
      · simp only [h1, h2, if_true]; rfl
      · simp only [h1, h2]; rfl

/-- local predicates on node classes (the printer can fail without looking at a child at an expression, SELECT, JOIN or
query node; a GROUP BY node has had no local failure since an empty grouping set prints `()`) -/
structure Loc where
  e : Expr → Bool := fun _ => false
  s : Select → Bool := fun _ => false
  j : Join → Bool := fun _ => false
  g : GroupBy → Bool := fun _ => false
  q : Query → Bool := fun _ => false

mutual
def anyE (L : Loc) : Expr → Bool
  | .column t c => L.e (.column t c)
  | .literal v => L.e (.literal v)
  | .wildcard t => L.e (.wildcard t)
  | .func s n ps => L.e (.func s n ps) || anyEs L ps
  | .agg n ps dist => L.e (.agg n ps dist) || anyEs L ps
  | .cast e sg ty ps => L.e (.cast e sg ty ps) || anyE L e
  | .extract n e => L.e (.extract n e) || anyE L n || anyE L e
  | .window fn part ord rows => L.e (.window fn part ord rows) || anyE L fn || anyEs L part || anyOs L ord
  | .caseCond cs els => L.e (.caseCond cs els) || anyArms L cs || anyOE L els
  | .caseVal v cs els => L.e (.caseVal v cs els) || anyE L v || anyArms L cs || anyOE L els
  | .subValue vs => L.e (.subValue vs) || anyEs L vs
  | .subQuery q => L.e (.subQuery q) || anyQ L q
  | .exists_ v => L.e (.exists_ v) || anyE L v
  | .index a i => L.e (.index a i) || anyE L a || anyE L i
  | .unary o e => L.e (.unary o e) || anyE L e
  | .compute l o r => L.e (.compute l o r) || anyE L l || anyE L r
  | .kw k n l r => L.e (.kw k n l r) || anyE L l || anyE L r
  | .between n b f t => L.e (.between n b f t) || anyE L b || anyE L f || anyE L t
  | .compare o l r => L.e (.compare o l r) || anyE L l || anyE L r
  | .not_ e => L.e (.not_ e) || anyE L e
  | .and_ l r => L.e (.and_ l r) || anyE L l || anyE L r
  | .xor l r => L.e (.xor l r) || anyE L l || anyE L r
  | .or_ l r => L.e (.or_ l r) || anyE L l || anyE L r
  | .mybatis s => L.e (.mybatis s)
def anyEs (L : Loc) : List Expr → Bool
  | [] => false
  | e :: r => anyE L e || anyEs L r
def anyOE (L : Loc) : Option Expr → Bool
  | none => false
  | some e => anyE L e
def anyArms (L : Loc) : List (Expr × Expr) → Bool
  | [] => false
  | (w, t) :: r => anyE L w || anyE L t || anyArms L r
def anyO (L : Loc) : OrderItem → Bool
  | .mk e _ _ _ => anyE L e
def anyOs (L : Loc) : List OrderItem → Bool
  | [] => false
  | o :: r => anyO L o || anyOs L r
def anyOOs (L : Loc) : Option (List OrderItem) → Bool
  | none => false
  | some l => anyOs L l
def anyOEs (L : Loc) : Option (List Expr) → Bool
  | none => false
  | some l => anyEs L l
def anyTR (L : Loc) : TableRef → Bool
  | .table _ _ => false
  | .sub q => anyQ L q
def anyF (L : Loc) : FromTable → Bool
  | .mk t _ => anyTR L t
def anyFs (L : Loc) : List FromTable → Bool
  | [] => false
  | t :: r => anyF L t || anyFs L r
def anyOFs (L : Loc) : Option (List FromTable) → Bool
  | none => false
  | some l => anyFs L l
def anyRule (L : Loc) : Option JoinRule → Bool
  | none => false
  | some (.on c) => anyE L c
  | some (.using u) => anyE L u
def anyJ (L : Loc) : Join → Bool
  | .mk ty t rule => L.j (.mk ty t rule) || anyF L t || anyRule L rule
def anyJs (L : Loc) : List Join → Bool
  | [] => false
  | j :: r => anyJ L j || anyJs L r
def anySets (L : Loc) : List (List Expr) → Bool
  | [] => false
  | g :: r => anyEs L g || anySets L r
def anyOSets (L : Loc) : Option (List (List Expr)) → Bool
  | none => false
  | some l => anySets L l
def anyG (L : Loc) : GroupBy → Bool
  | .mk gc sets cube rollup => L.g (.mk gc sets cube rollup) || anyEs L gc || anyOSets L sets
def anyOG (L : Loc) : Option GroupBy → Bool
  | none => false
  | some g => anyG L g
def anyLat (L : Loc) : Lateral → Bool
  | .mk _ fn _ _ => anyE L fn
def anyLats (L : Loc) : List Lateral → Bool
  | [] => false
  | l :: r => anyLat L l || anyLats L r
def anyWTs (L : Loc) : List WithTable → Bool
  | [] => false
  | .mk _ q :: r => anyQ L q || anyWTs L r
def anyW (L : Loc) : Option (List WithTable) → Bool
  | none => false
  | some ws => anyWTs L ws
def anyCols (L : Loc) : List (Expr × Option String) → Bool
  | [] => false
  | (e, _) :: r => anyE L e || anyCols L r
def anyS (L : Loc) : Select → Bool
  | .mk ws dist cols fr lats js wh gb hv ob sb db cb lm =>
    L.s (.mk ws dist cols fr lats js wh gb hv ob sb db cb lm) || anyW L ws || anyCols L cols || anyOFs L fr || anyLats L lats
      || anyJs L js || anyOE L wh || anyOG L gb || anyOE L hv || anyOOs L ob || anyOOs L sb || anyOEs L db || anyOEs L cb
def anyUs (L : Loc) : List (String × Select) → Bool
  | [] => false
  | (_, s) :: r => anyS L s || anyUs L r
def anyQ (L : Loc) : Query → Bool
  | .single s => L.q (.single s) || anyS L s
  | .union ws s us => L.q (.union ws s us) || anyW L ws || anyS L s || anyUs L us
end

structure Loc.Empty (L : Loc) : Prop where
  e : ∀ x, L.e x = false
  s : ∀ x, L.s x = false
  j : ∀ x, L.j x = false
  g : ∀ x, L.g x = false
  q : ∀ x, L.q x = false

mutual
theorem none_E {L : Loc} (hL : L.Empty) : ∀ e, anyE L e = false
  | .column _ _ | .literal _ | .wildcard _ | .mybatis _ => by simp [anyE, hL.e]
  | .func _ _ ps | .agg _ ps _ | .subValue ps => by simp [anyE, hL.e, none_Es hL ps]
  | .cast e _ _ _ | .exists_ e | .unary _ e | .not_ e => by simp [anyE, hL.e, none_E hL e]
  | .extract l r | .index l r | .compute l _ r | .kw _ _ l r | .compare _ l r | .and_ l r | .xor l r | .or_ l r => by
    simp [anyE, hL.e, none_E hL l, none_E hL r]
  | .between _ b f t => by simp [anyE, hL.e, none_E hL b, none_E hL f, none_E hL t]
  | .window fn part ord _ => by simp [anyE, hL.e, none_E hL fn, none_Es hL part, none_Os hL ord]
  | .caseCond cs els => by simp [anyE, hL.e, none_Arms hL cs, none_OE hL els]
  | .caseVal v cs els => by simp [anyE, hL.e, none_E hL v, none_Arms hL cs, none_OE hL els]
  | .subQuery q => by simp [anyE, hL.e, none_Q hL q]
theorem none_Es {L : Loc} (hL : L.Empty) : ∀ es, anyEs L es = false
  | [] => rfl
  | e :: r => by simp [anyEs, none_E hL e, none_Es hL r]
theorem none_OE {L : Loc} (hL : L.Empty) : ∀ e, anyOE L e = false
  | none => rfl
  | some e => by simp [anyOE, none_E hL e]
theorem none_Arms {L : Loc} (hL : L.Empty) : ∀ cs, anyArms L cs = false
  | [] => rfl
  | (w, t) :: r => by simp [anyArms, none_E hL w, none_E hL t, none_Arms hL r]
theorem none_O {L : Loc} (hL : L.Empty) : ∀ o, anyO L o = false
  | .mk e _ _ _ => by simp [anyO, none_E hL e]
theorem none_Os {L : Loc} (hL : L.Empty) : ∀ os, anyOs L os = false
  | [] => rfl
  | o :: r => by simp [anyOs, none_O hL o, none_Os hL r]
theorem none_OOs {L : Loc} (hL : L.Empty) : ∀ os, anyOOs L os = false
  | none => rfl
  | some l => by simp [anyOOs, none_Os hL l]
theorem none_OEs {L : Loc} (hL : L.Empty) : ∀ es, anyOEs L es = false
  | none => rfl
  | some l => by simp [anyOEs, none_Es hL l]
theorem none_TR {L : Loc} (hL : L.Empty) : ∀ t, anyTR L t = false
  | .table _ _ => rfl
  | .sub q => by simp [anyTR, none_Q hL q]
theorem none_F {L : Loc} (hL : L.Empty) : ∀ t, anyF L t = false
  | .mk t _ => by simp [anyF, none_TR hL t]
theorem none_Fs {L : Loc} (hL : L.Empty) : ∀ ts, anyFs L ts = false
  | [] => rfl
  | t :: r => by simp [anyFs, none_F hL t, none_Fs hL r]
theorem none_OFs {L : Loc} (hL : L.Empty) : ∀ ts, anyOFs L ts = false
  | none => rfl
  | some l => by simp [anyOFs, none_Fs hL l]
theorem none_Rule {L : Loc} (hL : L.Empty) : ∀ r, anyRule L r = false
  | none => rfl
  | some (.on c) => by simp [anyRule, none_E hL c]
  | some (.using u) => by simp [anyRule, none_E hL u]
theorem none_J {L : Loc} (hL : L.Empty) : ∀ j, anyJ L j = false
  | .mk _ t rule => by simp [anyJ, hL.j, none_F hL t, none_Rule hL rule]
theorem none_Js {L : Loc} (hL : L.Empty) : ∀ js, anyJs L js = false
  | [] => rfl
  | j :: r => by simp [anyJs, none_J hL j, none_Js hL r]
theorem none_Sets {L : Loc} (hL : L.Empty) : ∀ gs, anySets L gs = false
  | [] => rfl
  | g :: r => by simp [anySets, none_Es hL g, none_Sets hL r]
theorem none_OSets {L : Loc} (hL : L.Empty) : ∀ gs, anyOSets L gs = false
  | none => rfl
  | some l => by simp [anyOSets, none_Sets hL l]
theorem none_G {L : Loc} (hL : L.Empty) : ∀ g, anyG L g = false
  | .mk gc sets _ _ => by simp [anyG, hL.g, none_Es hL gc, none_OSets hL sets]
theorem none_OG {L : Loc} (hL : L.Empty) : ∀ g, anyOG L g = false
  | none => rfl
  | some g => by simp [anyOG, none_G hL g]
theorem none_Lat {L : Loc} (hL : L.Empty) : ∀ l, anyLat L l = false
  | .mk _ fn _ _ => by simp [anyLat, none_E hL fn]
theorem none_Lats {L : Loc} (hL : L.Empty) : ∀ ls, anyLats L ls = false
  | [] => rfl
  | l :: r => by simp [anyLats, none_Lat hL l, none_Lats hL r]
theorem none_WTs {L : Loc} (hL : L.Empty) : ∀ ws, anyWTs L ws = false
  | [] => rfl
  | .mk _ q :: r => by simp [anyWTs, none_Q hL q, none_WTs hL r]
theorem none_W {L : Loc} (hL : L.Empty) : ∀ ws, anyW L ws = false
  | none => rfl
  | some ws => by simp [anyW, none_WTs hL ws]
theorem none_Cols {L : Loc} (hL : L.Empty) : ∀ cs, anyCols L cs = false
  | [] => rfl
  | (e, _) :: r => by simp [anyCols, none_E hL e, none_Cols hL r]
theorem none_S {L : Loc} (hL : L.Empty) : ∀ x, anyS L x = false
  | .mk ws _ cols fr lats js wh gb hv ob sb db cb _ => by
    simp [anyS, hL.s, none_W hL ws, none_Cols hL cols, none_OFs hL fr, none_Lats hL lats, none_Js hL js, none_OE hL wh, none_OG hL gb,
      none_OE hL hv, none_OOs hL ob, none_OOs hL sb, none_OEs hL db, none_OEs hL cb]
theorem none_Us {L : Loc} (hL : L.Empty) : ∀ us, anyUs L us = false
  | [] => rfl
  | (_, x) :: r => by simp [anyUs, none_S hL x, none_Us hL r]
theorem none_Q {L : Loc} (hL : L.Empty) : ∀ q, anyQ L q = false
  | .single x => by simp [anyQ, hL.q, none_S hL x]
  | .union ws x us => by simp [anyQ, hL.q, none_W hL ws, none_S hL x, none_Us hL us]
end

/-! ## propagation: a locally refused node anywhere makes the whole print fail -/

structure Loc.Refused (d : Gen.D) (L : Loc) : Prop where
  e : ∀ x, L.e x = true → ∀ s, prE d x ≠ .ok s
  s : ∀ x, L.s x = true → ∀ r, prS d x ≠ .ok r
  j : ∀ x, L.j x = true → ∀ r, prJoin d x ≠ .ok r
  g : ∀ x, L.g x = true → ∀ r, prGroupBy d x ≠ .ok r
  q : ∀ x, L.q x = true → ∀ r, prQ d x ≠ .ok r

theorem prHive_ok {d : Gen.D} {lats : List Lateral} {sb : Option (List OrderItem)} {db cb : Option (List Expr)} {r : List String}
    (hg : prSGuard d lats sb db cb = .ok ()) (h : prHive d sb db cb = .ok r) :
    ∃ a b c, prOptSort d sb = .ok a ∧ prOptDistribute d db = .ok b ∧ prOptCluster d cb = .ok c := by
  by_cases hd : d = .HIVE
  · subst hd
    simp only [prHive, beq_self_eq_true, if_true, bind_eq_ok] at h
    obtain ⟨a, ha, b, hb, c, hc, -⟩ := h
    exact ⟨a, b, c, ha, hb, hc⟩
  · have hn : (sb.isSome || db.isSome || cb.isSome) = false := by
      cases hx : (sb.isSome || db.isSome || cb.isSome) with
      | false => rfl
      | true => simp [prSGuard, hd, hx] at hg
    simp only [Bool.or_eq_false_iff, Option.isSome_eq_false_iff, Option.isNone_iff_eq_none] at hn
    obtain ⟨⟨rfl, rfl⟩, rfl⟩ := hn
    exact ⟨[], [], [], rfl, rfl, rfl⟩

theorem prHive_none (d : Gen.D) : prHive d none none none = .ok [] := by
  unfold prHive; split <;> rfl

mutual
theorem bad_E {d : Gen.D} {L : Loc} (hL : L.Refused d) : ∀ e, anyE L e = true → ∀ s, prE d e ≠ .ok s
  | .column _ _ | .literal _ | .wildcard _ | .mybatis _ => fun hb => hL.e _ (by simpa only [anyE] using hb)
  | .func _ _ ps | .agg _ ps _ => by
    intro hb; simp only [anyE, Bool.or_eq_true] at hb
    rcases hb with hb | hb
    · exact hL.e _ hb
    · exact not_ok_map (bad_Es hL ps hb)
  | .subValue vs => by
    intro hb; simp only [anyE, Bool.or_eq_true] at hb
    rcases hb with hb | hb
    · exact hL.e _ hb
    · exact not_ok_map (bad_Es8 hL vs hb)
  | .subQuery q => by
    intro hb; simp only [anyE, Bool.or_eq_true] at hb
    rcases hb with hb | hb
    · exact hL.e _ hb
    · exact not_ok_map (bad_Q hL q hb)
  | .exists_ e | .not_ e => by
    intro hb; simp only [anyE, Bool.or_eq_true] at hb
    rcases hb with hb | hb
    · exact hL.e _ hb
    · exact not_ok_map (bad_E hL e hb)
  | .cast e _ _ _ => by
    intro hb; simp only [anyE, Bool.or_eq_true] at hb
    rcases hb with hb | hb
    · exact hL.e _ hb
    · exact not_ok_bind (not_ok_map (bad_E hL e hb))
  | .unary _ e => by
    intro hb; simp only [anyE, Bool.or_eq_true] at hb
    rcases hb with hb | hb
    · exact hL.e _ hb
    · exact not_ok_then fun _ => not_ok_bind (not_ok_map (bad_E hL e hb))
  | .extract l r | .kw _ _ l r | .and_ l r | .xor l r | .or_ l r => by
    intro hb; simp only [anyE, Bool.or_eq_true, or_assoc] at hb
    rcases hb with hb | hb | hb
    · exact hL.e _ hb
    · exact not_ok_bind (not_ok_map (bad_E hL l hb))
    · exact not_ok_then fun _ => not_ok_bind (not_ok_map (bad_E hL r hb))
  | .compute l _ r | .compare _ l r => by
    intro hb; simp only [anyE, Bool.or_eq_true, or_assoc] at hb
    rcases hb with hb | hb | hb
    · exact hL.e _ hb
    · exact not_ok_bind (not_ok_map (bad_E hL l hb))
    · exact not_ok_then fun _ => not_ok_then fun _ => not_ok_bind (not_ok_map (bad_E hL r hb))
  | .between _ b f t => by
    intro hb; simp only [anyE, Bool.or_eq_true, or_assoc] at hb
    rcases hb with hb | hb | hb | hb
    · exact hL.e _ hb
    · exact not_ok_bind (not_ok_map (bad_E hL b hb))
    · exact not_ok_then fun _ => not_ok_bind (not_ok_map (bad_E hL f hb))
    · exact not_ok_then fun _ => not_ok_then fun _ => not_ok_bind (not_ok_map (bad_E hL t hb))
  | .index a i => by
    intro hb s; simp only [anyE, Bool.or_eq_true, or_assoc] at hb
    rcases hb with hb | hb | hb
    · exact hL.e _ hb s
    all_goals simp only [prE]; split
    · nofun
    · exact not_ok_bind (bad_E hL a hb) s
    · nofun
    · exact not_ok_then (fun _ => not_ok_bind (not_ok_map (bad_E hL i hb))) s
  | .window fn part ord _ => by
    intro hb; simp only [anyE, Bool.or_eq_true, or_assoc] at hb
    rcases hb with hb | hb | hb | hb
    · exact hL.e _ hb
    · exact not_ok_bind (bad_E hL fn hb)
    · exact not_ok_then fun _ => not_ok_bind (bad_Es8 hL part hb)
    · exact not_ok_then fun _ => not_ok_then fun _ => not_ok_bind (bad_Os hL ord hb)
  | .caseCond cs els => by
    intro hb; simp only [anyE, Bool.or_eq_true, or_assoc] at hb
    rcases hb with hb | hb | hb
    · exact hL.e _ hb
    · exact not_ok_bind (bad_Arms hL cs hb)
    · exact not_ok_then fun _ => not_ok_bind (bad_OE hL els hb)
  | .caseVal v cs els => by
    intro hb; simp only [anyE, Bool.or_eq_true, or_assoc] at hb
    rcases hb with hb | hb | hb | hb
    · exact hL.e _ hb
    · exact not_ok_bind (bad_E hL v hb)
    · exact not_ok_then fun _ => not_ok_bind (bad_Arms hL cs hb)
    · exact not_ok_then fun _ => not_ok_then fun _ => not_ok_bind (bad_OE hL els hb)
theorem bad_Es {d : Gen.D} {L : Loc} (hL : L.Refused d) : ∀ es, anyEs L es = true → ∀ l, prList d es ≠ .ok l
  | [] => by simp [anyEs]
  | e :: r => by
    intro hb; simp only [anyEs, Bool.or_eq_true] at hb
    rcases hb with hb | hb
    · exact not_ok_bind (bad_E hL e hb)
    · exact not_ok_then fun _ => not_ok_bind (bad_Es hL r hb)
theorem bad_Es8 {d : Gen.D} {L : Loc} (hL : L.Refused d) : ∀ es, anyEs L es = true → ∀ l, prList8 d es ≠ .ok l
  | [] => by simp [anyEs]
  | e :: r => by
    intro hb; simp only [anyEs, Bool.or_eq_true] at hb
    rcases hb with hb | hb
    · exact not_ok_bind (bad_E hL e hb)
    · exact not_ok_then fun _ => not_ok_bind (bad_Es8 hL r hb)
theorem bad_OE {d : Gen.D} {L : Loc} (hL : L.Refused d) : ∀ e, anyOE L e = true → ∀ l, prOptE d e ≠ .ok l
  | none => by simp [anyOE]
  | some e => by
    intro hb; simp only [anyOE] at hb
    exact not_ok_map (bad_E hL e hb)
theorem bad_Arms {d : Gen.D} {L : Loc} (hL : L.Refused d) : ∀ cs, anyArms L cs = true → ∀ l, prArms d cs ≠ .ok l
  | [] => by simp [anyArms]
  | (w, t) :: r => by
    intro hb; simp only [anyArms, Bool.or_eq_true, or_assoc] at hb
    rcases hb with hb | hb | hb
    · exact not_ok_bind (bad_E hL w hb)
    · exact not_ok_then fun _ => not_ok_bind (bad_E hL t hb)
    · exact not_ok_then fun _ => not_ok_then fun _ => not_ok_bind (bad_Arms hL r hb)
theorem bad_O {d : Gen.D} {L : Loc} (hL : L.Refused d) : ∀ o, anyO L o = true → ∀ s, prOrd d o ≠ .ok s
  | .mk e _ _ _ => by
    intro hb; simp only [anyO] at hb
    exact not_ok_map (bad_E hL e hb)
theorem bad_Os {d : Gen.D} {L : Loc} (hL : L.Refused d) : ∀ os, anyOs L os = true → ∀ l, prOrdList d os ≠ .ok l
  | [] => by simp [anyOs]
  | o :: r => by
    intro hb; simp only [anyOs, Bool.or_eq_true] at hb
    rcases hb with hb | hb
    · exact not_ok_bind (bad_O hL o hb)
    · exact not_ok_then fun _ => not_ok_bind (bad_Os hL r hb)
theorem bad_TR {d : Gen.D} {L : Loc} (hL : L.Refused d) : ∀ t, anyTR L t = true → ∀ s, prTableRef d t ≠ .ok s
  | .table _ _ => by simp [anyTR]
  | .sub q => by
    intro hb; simp only [anyTR] at hb
    exact not_ok_map (bad_Q hL q hb)
theorem bad_F {d : Gen.D} {L : Loc} (hL : L.Refused d) : ∀ t, anyF L t = true → ∀ s, prFrom d t ≠ .ok s
  | .mk t a => by
    intro hb; simp only [anyF] at hb
    exact not_ok_bind (bad_TR hL t hb)
theorem bad_Fs {d : Gen.D} {L : Loc} (hL : L.Refused d) : ∀ ts, anyFs L ts = true → ∀ l, prFromList d ts ≠ .ok l
  | [] => by simp [anyFs]
  | t :: r => by
    intro hb; simp only [anyFs, Bool.or_eq_true] at hb
    rcases hb with hb | hb
    · exact not_ok_bind (bad_F hL t hb)
    · exact not_ok_then fun _ => not_ok_bind (bad_Fs hL r hb)
theorem bad_J {d : Gen.D} {L : Loc} (hL : L.Refused d) : ∀ j, anyJ L j = true → ∀ s, prJoin d j ≠ .ok s
  | .mk ty t none => by
    intro hb; simp only [anyJ, anyRule, Bool.or_eq_true, Bool.false_eq_true, or_false] at hb
    rcases hb with hb | hb
    · exact hL.j _ hb
    · exact not_ok_then fun _ => not_ok_bind (bad_F hL t hb)
  | .mk ty t (some (.on c)) | .mk ty t (some (.using c)) => by
    intro hb; simp only [anyJ, anyRule, Bool.or_eq_true, or_assoc] at hb
    rcases hb with hb | hb | hb
    · exact hL.j _ hb
    · exact not_ok_then fun _ => not_ok_bind (bad_F hL t hb)
    · exact not_ok_then fun _ => not_ok_then fun _ => not_ok_bind (bad_E hL c hb)
theorem bad_Js {d : Gen.D} {L : Loc} (hL : L.Refused d) : ∀ js, anyJs L js = true → ∀ l, prJoinList d js ≠ .ok l
  | [] => by simp [anyJs]
  | j :: r => by
    intro hb; simp only [anyJs, Bool.or_eq_true] at hb
    rcases hb with hb | hb
    · exact not_ok_bind (bad_J hL j hb)
    · exact not_ok_then fun _ => not_ok_bind (bad_Js hL r hb)
theorem bad_Sets {d : Gen.D} {L : Loc} (hL : L.Refused d) : ∀ gs, anySets L gs = true → ∀ l, prSets d gs ≠ .ok l
  | [] => by simp [anySets]
  | g :: r => by
    intro hb; simp only [anySets, Bool.or_eq_true] at hb
    rcases hb with hb | hb
    · exact not_ok_bind (not_ok_map (bad_Es8 hL g hb))
    · exact not_ok_then fun _ => not_ok_bind (bad_Sets hL r hb)
theorem bad_G {d : Gen.D} {L : Loc} (hL : L.Refused d) : ∀ g, anyG L g = true → ∀ s, prGroupBy d g ≠ .ok s
  | .mk gc none cube rollup => by
    intro hb; simp only [anyG, anyOSets, Bool.or_eq_true, Bool.false_eq_true, or_false] at hb
    rcases hb with hb | hb
    · exact hL.g _ hb
    · exact not_ok_bind (bad_Es8 hL gc hb)
  | .mk gc (some l) cube rollup => by
    intro hb; simp only [anyG, anyOSets, Bool.or_eq_true, or_assoc] at hb
    rcases hb with hb | hb | hb
    · exact hL.g _ hb
    · exact not_ok_bind (bad_Es8 hL gc hb)
    · exact not_ok_then fun _ => not_ok_bind (not_ok_map (bad_Sets hL l hb))
theorem bad_Lat {d : Gen.D} {L : Loc} (hL : L.Refused d) : ∀ l, anyLat L l = true → ∀ s, prLateral d l ≠ .ok s
  | .mk _ fn _ _ => by
    intro hb; simp only [anyLat] at hb
    exact not_ok_map (bad_E hL fn hb)
theorem bad_Lats {d : Gen.D} {L : Loc} (hL : L.Refused d) : ∀ ls, anyLats L ls = true → ∀ l, prLateralList d ls ≠ .ok l
  | [] => by simp [anyLats]
  | x :: r => by
    intro hb; simp only [anyLats, Bool.or_eq_true] at hb
    rcases hb with hb | hb
    · exact not_ok_bind (bad_Lat hL x hb)
    · exact not_ok_then fun _ => not_ok_bind (bad_Lats hL r hb)
theorem bad_WTs {d : Gen.D} {L : Loc} (hL : L.Refused d) : ∀ ws, anyWTs L ws = true → ∀ l, prWithTables d ws ≠ .ok l
  | [] => by simp [anyWTs]
  | .mk _ q :: r => by
    intro hb; simp only [anyWTs, Bool.or_eq_true] at hb
    rcases hb with hb | hb
    · exact not_ok_bind (bad_Q hL q hb)
    · exact not_ok_then fun _ => not_ok_bind (bad_WTs hL r hb)
theorem bad_W {d : Gen.D} {L : Loc} (hL : L.Refused d) (sep : String) : ∀ ws, anyW L ws = true → ∀ s, prWithPrefix d sep ws ≠ .ok s
  | none => by simp [anyW]
  | some [] => by simp [anyW, anyWTs]
  | some (w :: r) => by
    intro hb; simp only [anyW] at hb
    simp only [prWithPrefix, List.isEmpty_cons, Bool.false_eq_true, if_false]
    exact not_ok_map (bad_WTs hL (w :: r) hb)
theorem bad_Cols {d : Gen.D} {L : Loc} (hL : L.Refused d) : ∀ cs, anyCols L cs = true → ∀ l, prCols d cs ≠ .ok l
  | [] => by simp [anyCols]
  | (e, _) :: r => by
    intro hb; simp only [anyCols, Bool.or_eq_true] at hb
    rcases hb with hb | hb
    · exact not_ok_bind (bad_E hL e hb)
    · exact not_ok_then fun _ => not_ok_bind (bad_Cols hL r hb)
theorem bad_S {d : Gen.D} {L : Loc} (hL : L.Refused d) : ∀ x, anyS L x = true → ∀ s, prS d x ≠ .ok s
  | .mk ws dist cols fr lats js wh gb hv ob sb db cb lm => by
    intro hb s h
    simp only [anyS, Bool.or_eq_true, or_assoc] at hb
    rcases hb with hb | hb
    · exact hL.s _ hb s h
    rw [prS_eq] at h
    obtain ⟨w, hw, h⟩ := (bind_eq_ok _ _ _).1 h
    obtain ⟨_, hg, h⟩ := (bind_eq_ok _ _ _).1 h
    simp only [prSRest, bind_eq_ok] at h
    obtain ⟨cs, hcs, frs, hfrs, lts, hlts, jss, hjss, whs, hwhs, gbs, hgbs, hvs, hhvs, obs, hobs, hive, hhive, -⟩ := h
    obtain ⟨_, _, _, hsbs, hdbs, hcbs⟩ := prHive_ok hg hhive
    rcases hb with hb | hb | hb | hb | hb | hb | hb | hb | hb | hb | hb | hb
    · exact bad_W hL "\n" ws hb _ hw
    · exact bad_Cols hL cols hb _ hcs
    · cases fr with
      | none => simp [anyOFs] at hb
      | some l => exact not_ok_map (bad_Fs hL l (by simpa only [anyOFs] using hb)) _ hfrs
    · exact bad_Lats hL lats hb _ hlts
    · exact bad_Js hL js hb _ hjss
    · cases wh with
      | none => simp [anyOE] at hb
      | some e => exact not_ok_map (bad_E hL e (by simpa only [anyOE] using hb)) _ hwhs
    · cases gb with
      | none => simp [anyOG] at hb
      | some g => exact not_ok_map (bad_G hL g (by simpa only [anyOG] using hb)) _ hgbs
    · cases hv with
      | none => simp [anyOE] at hb
      | some e => exact not_ok_map (bad_E hL e (by simpa only [anyOE] using hb)) _ hhvs
    · cases ob with
      | none => simp [anyOOs] at hb
      | some l => exact not_ok_map (bad_Os hL l (by simpa only [anyOOs] using hb)) _ hobs
    · cases sb with
      | none => simp [anyOOs] at hb
      | some l => exact not_ok_map (bad_Os hL l (by simpa only [anyOOs] using hb)) _ hsbs
    · cases db with
      | none => simp [anyOEs] at hb
      | some l => exact not_ok_map (bad_Es8 hL l (by simpa only [anyOEs] using hb)) _ hdbs
    · cases cb with
      | none => simp [anyOEs] at hb
      | some l => exact not_ok_map (bad_Es8 hL l (by simpa only [anyOEs] using hb)) _ hcbs
theorem bad_Us {d : Gen.D} {L : Loc} (hL : L.Refused d) : ∀ us, anyUs L us = true → ∀ l, prUnions d us ≠ .ok l
  | [] => by simp [anyUs]
  | (_, x) :: r => by
    intro hb; simp only [anyUs, Bool.or_eq_true] at hb
    rcases hb with hb | hb
    · exact not_ok_then fun _ => not_ok_bind (bad_S hL x hb)
    · exact not_ok_then fun _ => not_ok_then fun _ => not_ok_bind (bad_Us hL r hb)
theorem bad_Q {d : Gen.D} {L : Loc} (hL : L.Refused d) : ∀ q, anyQ L q = true → ∀ s, prQ d q ≠ .ok s
  | .single x => by
    intro hb; simp only [anyQ, Bool.or_eq_true] at hb
    rcases hb with hb | hb
    · exact hL.q _ hb
    · exact bad_S hL x hb
  | .union ws x us => by
    intro hb; simp only [anyQ, Bool.or_eq_true, or_assoc] at hb
    rcases hb with hb | hb | hb | hb
    · exact hL.q _ hb
    · exact not_ok_bind (bad_W hL "\n" ws hb)
    · exact not_ok_then fun _ => not_ok_bind (bad_S hL x hb)
    · exact not_ok_then fun _ => not_ok_then fun _ => not_ok_bind (bad_Us hL us hb)
end

/-! ## irrelevance: two dialects print alike wherever they answer the printer's dialect tests alike -/

/-- `L` flags every node at which the printers for `d` and `d'` could take different branches -/
structure Loc.Covers (d d' : Gen.D) (L : Loc) : Prop where
  col : ∀ t c, L.e (.column t c) = false → columnSrc d t c = columnSrc d' t c
  un : ∀ o e, L.e (.unary o e) = false → computeOpSrc d o = computeOpSrc d' o
  bin : ∀ l o r, L.e (.compute l o r) = false → computeOpSrc d o = computeOpSrc d' o
  idx : ∀ a i, L.e (.index a i) = false → (d != .HIVE) = (d' != .HIVE)
  hive : ∀ ws dist cols fr lats js wh gb hv ob sb db cb lm, L.s (.mk ws dist cols fr lats js wh gb hv ob sb db cb lm) = false →
    (d == .HIVE) = (d' == .HIVE) ∨ (sb = none ∧ db = none ∧ cb = none)
  lat : ∀ ws dist cols fr lats js wh gb hv ob sb db cb lm, L.s (.mk ws dist cols fr lats js wh gb hv ob sb db cb lm) = false →
    (d == .HIVE || d == .DEFAULT) = (d' == .HIVE || d' == .DEFAULT) ∨ lats = []

theorem Loc.Covers.mono {d d' : Gen.D} {L L' : Loc} (he : ∀ x, L'.e x = false → L.e x = false)
    (hs : ∀ x, L'.s x = false → L.s x = false) (h : L.Covers d d') : L'.Covers d d' where
  col := fun t c hb => h.col t c (he _ hb)
  un := fun o e hb => h.un o e (he _ hb)
  bin := fun l o r hb => h.bin l o r (he _ hb)
  idx := fun a i hb => h.idx a i (he _ hb)
  hive := fun ws dist cols fr lats js wh gb hv ob sb db cb lm hb => h.hive ws dist cols fr lats js wh gb hv ob sb db cb lm (hs _ hb)
  lat := fun ws dist cols fr lats js wh gb hv ob sb db cb lm hb => h.lat ws dist cols fr lats js wh gb hv ob sb db cb lm (hs _ hb)

theorem prSGuard_congr {d d' : Gen.D} {lats : List Lateral} {sb : Option (List OrderItem)} {db cb : Option (List Expr)}
    (h1 : (d == .HIVE) = (d' == .HIVE) ∨ (sb = none ∧ db = none ∧ cb = none))
    (h2 : (d == .HIVE || d == .DEFAULT) = (d' == .HIVE || d' == .DEFAULT) ∨ lats = []) :
    prSGuard d lats sb db cb = prSGuard d' lats sb db cb := by
  unfold prSGuard
  rcases h1 with h1 | ⟨rfl, rfl, rfl⟩ <;> rcases h2 with h2 | rfl
  · simp only [bne, h2]; simp only [h1]
  · simp only [bne, h1, List.isEmpty_nil, Bool.not_true, Bool.and_false, Bool.false_eq_true, if_false]
  · simp only [bne, h2, Option.isSome_none, Bool.or_false, Bool.and_false, Bool.false_eq_true, if_false]
  · simp only [Option.isSome_none, Bool.or_false, Bool.and_false, Bool.false_eq_true, if_false, List.isEmpty_nil, Bool.not_true]

mutual
theorem eq_E {d d' : Gen.D} {L : Loc} (hC : L.Covers d d') : ∀ e, anyE L e = false → prE d e = prE d' e
  | .column t c => fun hb => by simp only [prE, hC.col t c (by simpa only [anyE] using hb)]
  | .literal _ | .wildcard _ | .mybatis _ => fun _ => rfl
  | .func _ _ ps | .agg _ ps _ => fun hb => by
    simp only [anyE, Bool.or_eq_false_iff] at hb
    simp only [prE, eq_Es hC ps hb.2]
  | .subValue vs => fun hb => by
    simp only [anyE, Bool.or_eq_false_iff] at hb
    simp only [prE, eq_Es8 hC vs hb.2]
  | .subQuery q => fun hb => by
    simp only [anyE, Bool.or_eq_false_iff] at hb
    simp only [prE, eq_Q hC q hb.2]
  | .cast e _ _ _ | .exists_ e | .not_ e => fun hb => by
    simp only [anyE, Bool.or_eq_false_iff] at hb
    simp only [prE, eq_E hC e hb.2]
  | .extract l r | .kw _ _ l r | .compare _ l r | .and_ l r | .xor l r | .or_ l r => fun hb => by
    simp only [anyE, Bool.or_eq_false_iff] at hb
    simp only [prE, eq_E hC l hb.1.2, eq_E hC r hb.2]
  | .between _ b f t => fun hb => by
    simp only [anyE, Bool.or_eq_false_iff] at hb
    simp only [prE, eq_E hC b hb.1.1.2, eq_E hC f hb.1.2, eq_E hC t hb.2]
  | .window fn part ord _ => fun hb => by
    simp only [anyE, Bool.or_eq_false_iff] at hb
    simp only [prE, eq_E hC fn hb.1.1.2, eq_Es8 hC part hb.1.2, eq_Os hC ord hb.2]
  | .caseCond cs els => fun hb => by
    simp only [anyE, Bool.or_eq_false_iff] at hb
    simp only [prE, eq_Arms hC cs hb.1.2, eq_OE hC els hb.2]
  | .caseVal v cs els => fun hb => by
    simp only [anyE, Bool.or_eq_false_iff] at hb
    simp only [prE, eq_E hC v hb.1.1.2, eq_Arms hC cs hb.1.2, eq_OE hC els hb.2]
  | .index a i => fun hb => by
    simp only [anyE, Bool.or_eq_false_iff] at hb
    simp only [prE, eq_E hC a hb.1.2, eq_E hC i hb.2, hC.idx a i hb.1.1]
  | .unary o e => fun hb => by
    simp only [anyE, Bool.or_eq_false_iff] at hb
    simp only [prE, eq_E hC e hb.2, hC.un o e hb.1]
  | .compute l o r => fun hb => by
    simp only [anyE, Bool.or_eq_false_iff] at hb
    simp only [prE, eq_E hC l hb.1.2, eq_E hC r hb.2, hC.bin l o r hb.1.1]
theorem eq_Es {d d' : Gen.D} {L : Loc} (hC : L.Covers d d') : ∀ es, anyEs L es = false → prList d es = prList d' es
  | [] => fun _ => rfl
  | e :: r => fun hb => by
    simp only [anyEs, Bool.or_eq_false_iff] at hb
    simp only [prList, eq_E hC e hb.1, eq_Es hC r hb.2]
theorem eq_Es8 {d d' : Gen.D} {L : Loc} (hC : L.Covers d d') : ∀ es, anyEs L es = false → prList8 d es = prList8 d' es
  | [] => fun _ => rfl
  | e :: r => fun hb => by
    simp only [anyEs, Bool.or_eq_false_iff] at hb
    simp only [prList8, eq_E hC e hb.1, eq_Es8 hC r hb.2]
theorem eq_OE {d d' : Gen.D} {L : Loc} (hC : L.Covers d d') : ∀ e, anyOE L e = false → prOptE d e = prOptE d' e
  | none => fun _ => rfl
  | some e => fun hb => by simp only [prOptE, eq_E hC e (by simpa only [anyOE] using hb)]
theorem eq_Arms {d d' : Gen.D} {L : Loc} (hC : L.Covers d d') : ∀ cs, anyArms L cs = false → prArms d cs = prArms d' cs
  | [] => fun _ => rfl
  | (w, t) :: r => fun hb => by
    simp only [anyArms, Bool.or_eq_false_iff] at hb
    simp only [prArms, eq_E hC w hb.1.1, eq_E hC t hb.1.2, eq_Arms hC r hb.2]
theorem eq_O {d d' : Gen.D} {L : Loc} (hC : L.Covers d d') : ∀ o, anyO L o = false → prOrd d o = prOrd d' o
  | .mk e _ _ _ => fun hb => by simp only [prOrd, eq_E hC e (by simpa only [anyO] using hb)]
theorem eq_Os {d d' : Gen.D} {L : Loc} (hC : L.Covers d d') : ∀ os, anyOs L os = false → prOrdList d os = prOrdList d' os
  | [] => fun _ => rfl
  | o :: r => fun hb => by
    simp only [anyOs, Bool.or_eq_false_iff] at hb
    simp only [prOrdList, eq_O hC o hb.1, eq_Os hC r hb.2]
theorem eq_TR {d d' : Gen.D} {L : Loc} (hC : L.Covers d d') : ∀ t, anyTR L t = false → prTableRef d t = prTableRef d' t
  | .table _ _ => fun _ => rfl
  | .sub q => fun hb => by simp only [prTableRef, eq_Q hC q (by simpa only [anyTR] using hb)]
theorem eq_F {d d' : Gen.D} {L : Loc} (hC : L.Covers d d') : ∀ t, anyF L t = false → prFrom d t = prFrom d' t
  | .mk t a => fun hb => by simp only [prFrom, eq_TR hC t (by simpa only [anyF] using hb)]
theorem eq_Fs {d d' : Gen.D} {L : Loc} (hC : L.Covers d d') : ∀ ts, anyFs L ts = false → prFromList d ts = prFromList d' ts
  | [] => fun _ => rfl
  | t :: r => fun hb => by
    simp only [anyFs, Bool.or_eq_false_iff] at hb
    simp only [prFromList, eq_F hC t hb.1, eq_Fs hC r hb.2]
theorem eq_J {d d' : Gen.D} {L : Loc} (hC : L.Covers d d') : ∀ j, anyJ L j = false → prJoin d j = prJoin d' j
  | .mk ty t none => fun hb => by
    simp only [anyJ, anyRule, Bool.or_eq_false_iff] at hb
    simp only [prJoin, eq_F hC t hb.1.2]
  | .mk ty t (some (.on c)) | .mk ty t (some (.using c)) => fun hb => by
    simp only [anyJ, anyRule, Bool.or_eq_false_iff] at hb
    simp only [prJoin, eq_F hC t hb.1.2, eq_E hC c hb.2]
theorem eq_Js {d d' : Gen.D} {L : Loc} (hC : L.Covers d d') : ∀ js, anyJs L js = false → prJoinList d js = prJoinList d' js
  | [] => fun _ => rfl
  | j :: r => fun hb => by
    simp only [anyJs, Bool.or_eq_false_iff] at hb
    simp only [prJoinList, eq_J hC j hb.1, eq_Js hC r hb.2]
theorem eq_Sets {d d' : Gen.D} {L : Loc} (hC : L.Covers d d') : ∀ gs, anySets L gs = false → prSets d gs = prSets d' gs
  | [] => fun _ => rfl
  | g :: r => fun hb => by
    simp only [anySets, Bool.or_eq_false_iff] at hb
    simp only [prSets, eq_Es8 hC g hb.1, eq_Sets hC r hb.2]
theorem eq_G {d d' : Gen.D} {L : Loc} (hC : L.Covers d d') : ∀ g, anyG L g = false → prGroupBy d g = prGroupBy d' g
  | .mk gc none cube rollup => fun hb => by
    simp only [anyG, anyOSets, Bool.or_eq_false_iff] at hb
    simp only [prGroupBy, eq_Es8 hC gc hb.1.2]
  | .mk gc (some l) cube rollup => fun hb => by
    simp only [anyG, anyOSets, Bool.or_eq_false_iff] at hb
    simp only [prGroupBy, eq_Es8 hC gc hb.1.2, eq_Sets hC l hb.2]
theorem eq_Lat {d d' : Gen.D} {L : Loc} (hC : L.Covers d d') : ∀ l, anyLat L l = false → prLateral d l = prLateral d' l
  | .mk _ fn _ _ => fun hb => by simp only [prLateral, eq_E hC fn (by simpa only [anyLat] using hb)]
theorem eq_Lats {d d' : Gen.D} {L : Loc} (hC : L.Covers d d') : ∀ ls, anyLats L ls = false → prLateralList d ls = prLateralList d' ls
  | [] => fun _ => rfl
  | x :: r => fun hb => by
    simp only [anyLats, Bool.or_eq_false_iff] at hb
    simp only [prLateralList, eq_Lat hC x hb.1, eq_Lats hC r hb.2]
theorem eq_WTs {d d' : Gen.D} {L : Loc} (hC : L.Covers d d') : ∀ ws, anyWTs L ws = false → prWithTables d ws = prWithTables d' ws
  | [] => fun _ => rfl
  | .mk _ q :: r => fun hb => by
    simp only [anyWTs, Bool.or_eq_false_iff] at hb
    simp only [prWithTables, eq_Q hC q hb.1, eq_WTs hC r hb.2]
theorem eq_W {d d' : Gen.D} {L : Loc} (hC : L.Covers d d') (sep : String) : ∀ ws, anyW L ws = false → prWithPrefix d sep ws = prWithPrefix d' sep ws
  | none => fun _ => rfl
  | some ws => fun hb => by simp only [prWithPrefix, eq_WTs hC ws (by simpa only [anyW] using hb)]
theorem eq_Cols {d d' : Gen.D} {L : Loc} (hC : L.Covers d d') : ∀ cs, anyCols L cs = false → prCols d cs = prCols d' cs
  | [] => fun _ => rfl
  | (e, _) :: r => fun hb => by
    simp only [anyCols, Bool.or_eq_false_iff] at hb
    simp only [prCols, eq_E hC e hb.1, eq_Cols hC r hb.2]
theorem eq_S {d d' : Gen.D} {L : Loc} (hC : L.Covers d d') : ∀ x, anyS L x = false → prS d x = prS d' x
  | .mk ws dist cols fr lats js wh gb hv ob sb db cb lm => fun hb => by
    simp only [anyS, Bool.or_eq_false_iff, and_assoc] at hb
    obtain ⟨hs, hws, hcols, hfr, hlats, hjs, hwh, hgb, hhv, hob, hsb, hdb, hcb⟩ := hb
    have e3 : prOptFrom d fr = prOptFrom d' fr := match fr, hfr with
      | none, _ => rfl
      | some l, h => by simp only [prOptFrom, eq_Fs hC l h]
    have e6 : prOptWhere d wh = prOptWhere d' wh := match wh, hwh with
      | none, _ => rfl
      | some e, h => by simp only [prOptWhere, eq_E hC e h]
    have e7 : prOptGroup d gb = prOptGroup d' gb := match gb, hgb with
      | none, _ => rfl
      | some g, h => by simp only [prOptGroup, eq_G hC g h]
    have e8 : prOptHaving d hv = prOptHaving d' hv := match hv, hhv with
      | none, _ => rfl
      | some e, h => by simp only [prOptHaving, eq_E hC e h]
    have e9 : prOptOrder d ob = prOptOrder d' ob := match ob, hob with
      | none, _ => rfl
      | some l, h => by simp only [prOptOrder, eq_Os hC l h]
    have hh := hC.hive _ _ _ _ _ _ _ _ _ _ _ _ _ _ hs
    have eh : prHive d sb db cb = prHive d' sb db cb := by
      rcases hh with hh | ⟨rfl, rfl, rfl⟩
      · have e10 : prOptSort d sb = prOptSort d' sb := match sb, hsb with
          | none, _ => rfl
          | some l, h => by simp only [prOptSort, eq_Os hC l h]
        have e11 : prOptDistribute d db = prOptDistribute d' db := match db, hdb with
          | none, _ => rfl
          | some l, h => by simp only [prOptDistribute, eq_Es8 hC l h]
        have e12 : prOptCluster d cb = prOptCluster d' cb := match cb, hcb with
          | none, _ => rfl
          | some l, h => by simp only [prOptCluster, eq_Es8 hC l h]
        unfold prHive; rw [e10, e11, e12, hh]
      · rw [prHive_none, prHive_none]
    rw [prS_eq, prS_eq, eq_W hC "\n" ws hws, prSGuard_congr hh (hC.lat _ _ _ _ _ _ _ _ _ _ _ _ _ _ hs)]
    simp only [prSRest, eq_Cols hC cols hcols, e3, eq_Lats hC lats hlats, eq_Js hC js hjs, e6, e7, e8, e9, eh]
theorem eq_Us {d d' : Gen.D} {L : Loc} (hC : L.Covers d d') : ∀ us, anyUs L us = false → prUnions d us = prUnions d' us
  | [] => fun _ => rfl
  | (_, x) :: r => fun hb => by
    simp only [anyUs, Bool.or_eq_false_iff] at hb
    simp only [prUnions, eq_S hC x hb.1, eq_Us hC r hb.2]
theorem eq_Q {d d' : Gen.D} {L : Loc} (hC : L.Covers d d') : ∀ q, anyQ L q = false → prQ d q = prQ d' q
  | .single x => fun hb => by
    simp only [anyQ, Bool.or_eq_false_iff] at hb
    simp only [prQ, eq_S hC x hb.2]
  | .union ws x us => fun hb => by
    simp only [anyQ, Bool.or_eq_false_iff] at hb
    simp only [prQ, eq_W hC "\n" ws hb.1.1.2, eq_S hC x hb.1.2, eq_Us hC us hb.2]
end

/-! ## statements -/

theorem mapM'_ok {α : Type} (f : α → P) : ∀ (l : List α) (r : List String), mapM' f l = .ok r → ∀ a ∈ l, ∃ s, f a = .ok s
  | [], _, _ => by simp
  | a :: l, r, h => by
    simp only [mapM', bind_eq_ok] at h
    obtain ⟨x, hx, y, hy, -⟩ := h
    intro b hb
    rcases List.mem_cons.1 hb with rfl | hb
    · exact ⟨x, hx⟩
    · exact mapM'_ok f l y hy b hb

theorem mapM'_congr {α : Type} (f g : α → P) : ∀ (l : List α), (∀ a ∈ l, f a = g a) → mapM' f l = mapM' g l
  | [], _ => rfl
  | a :: l, h => by
    simp only [mapM', h a (List.mem_cons_self ..), mapM'_congr f g l (fun b hb => h b (List.mem_cons_of_mem _ hb))]

def headGuard (d : Gen.D) (ty : String) : Except Err Unit :=
  if ty == "INSERT_OVERWRITE" && !(d == .HIVE || d == .DEFAULT) then .error .notSupported else .ok ()

def prOptPartition (d : Gen.D) : Option (List Expr) → P
  | some p => (prPartition d p).map fun x => x ++ " " | none => pure ""

def prHeadRest (d : Gen.D) (h : InsertHead) : P := do
  let ty ← wordsSrc Gen.insertTypes h.type
  let part ← prOptPartition d h.partition
  let cols := match h.columns with
    | some cs => "(" ++ joinS ", " (cs.map fun (t, c) => columnSrc d t c) ++ ") "
    | none => ""
  let w ← prWithPrefix d "\n" h.withs
  pure s!"{w}{ty} {if d == .HIVE then "TABLE " else ""}{tn h.table} {part}{cols}"

theorem prInsertHead_eq (d : Gen.D) (h : InsertHead) : prInsertHead d h = (headGuard d h.type >>= fun _ => prHeadRest d h) := by
  unfold prInsertHead headGuard
  by_cases h1 : (h.type == "INSERT_OVERWRITE" && !(d == .HIVE || d == .DEFAULT)) = true
  · simp only [h1, if_true]; rfl
  · simp only [h1]; rfl

def prOptWhereS (d : Gen.D) : Option Expr → P
  | some e => (prE d e).map fun x => s!" WHERE {x}" | none => pure ""
def prOptOrderS (d : Gen.D) : Option (List OrderItem) → P
  | some l => (prOrdList d l).map fun x => " ORDER BY " ++ joinS ", " x | none => pure ""

theorem prTail_eq (d : Gen.D) (wh : Option Expr) (ob : Option (List OrderItem)) (lm : Option (Int × Option Int)) :
    prTail d wh ob lm = (do
      let a ← prOptWhereS d wh
      let b ← prOptOrderS d ob
      pure (a ++ b ++ (match lm with | some l => " " ++ limitSrc l | none => "")) : P) := rfl

/-- the query-tree children of a statement that EVERY dialect's printer visits.  Not traversed (and why): the
expressions inside column definitions of CREATE / ALTER TABLE (`DEFAULT`, `ON UPDATE`, generated columns are printed
for MySQL only; type parameters are dropped by Hive except for DECIMAL/VARCHAR/CHAR), and the PARTITION of ANALYZE TABLE
(MySQL prints the statement without it). -/
def anyAlterOp (L : Loc) : AlterOp → Bool
  | .addPartition _ p => anyEs L p
  | .dropPartition _ p => anyEs L p
  | _ => false

def anyHead (L : Loc) (h : InsertHead) : Bool := anyOEs L h.partition || anyW L h.withs

def anyStmt (L : Loc) : Stmt → Bool
  | .select q => anyQ L q
  | .insertValues h vs => vs.any (anyEs L) || anyHead L h
  | .insertSelect h q => anyHead L h || anyQ L q
  | .update ws _ sets wh ob _ => anyW L ws || sets.any (fun cv => anyE L cv.2) || anyOE L wh || anyOOs L ob
  | .delete _ wh ob _ => anyOE L wh || anyOOs L ob
  | .createTableAs _ _ q => anyQ L q
  | .alter _ ops => ops.any (anyAlterOp L)
  | .showColumns fr wh => anyOE L wh || anyFs L fr
  | _ => false

/-- the partition item printer succeeds / fails exactly like the expression printer on the item (same components, same order) -/
theorem prPartItem_shape (d : Gen.D) : ∀ e, (∃ a b, prPartItem d e = .ok a ∧ prE d e = .ok b) ∨ (∃ x, prPartItem d e = .error x ∧ prE d e = .error x) := by
  intro e
  have gen : ∀ e, (∃ a b, (prE d e).map (wrap e 8) = .ok a ∧ prE d e = .ok b) ∨ (∃ x, (prE d e).map (wrap e 8) = .error x ∧ prE d e = .error x) := by
    intro e; cases h : prE d e with
    | ok b => exact .inl ⟨_, b, rfl, rfl⟩
    | error x => exact .inr ⟨x, rfl, rfl⟩
  cases e with
  | compare o l r =>
    simp only [prPartItem, prE, bind, Except.bind, pure, Except.pure]
    cases prE d l with
    | error x => exact .inr ⟨x, rfl, rfl⟩
    | ok a =>
      simp only [Except.map]
      cases compareOpSrc o with
      | error x => exact .inr ⟨x, rfl, rfl⟩
      | ok b =>
        cases prE d r with
        | error x => exact .inr ⟨x, rfl, rfl⟩
        | ok c => exact .inl ⟨_, _, rfl, rfl⟩
  | _ => simpa only [prPartItem] using gen _

theorem bad_Ps {d : Gen.D} {L : Loc} (hL : L.Refused d) : ∀ es, anyEs L es = true → ∀ l, prPartList d es ≠ .ok l
  | [] => by simp [anyEs]
  | e :: r => by
    intro hb l h
    simp only [prPartList, bind_eq_ok] at h
    obtain ⟨a, ha, b, hb', -⟩ := h
    simp only [anyEs, Bool.or_eq_true] at hb
    rcases hb with hb | hb
    · rcases prPartItem_shape d e with ⟨_, b', -, hb2⟩ | ⟨x, hx, -⟩
      · exact bad_E hL e hb b' hb2
      · rw [hx] at ha; cases ha
    · exact bad_Ps hL r hb b hb'

theorem bad_OptPartition {d : Gen.D} {L : Loc} (hL : L.Refused d) : ∀ p, anyOEs L p = true → ∀ s, prOptPartition d p ≠ .ok s
  | none => by simp [anyOEs]
  | some p => by
    intro hb s h
    simp only [prOptPartition, prPartition, map_eq_ok] at h
    obtain ⟨_, ⟨x, hx, -⟩, -⟩ := h
    exact bad_Ps hL p (by simpa only [anyOEs] using hb) x hx

theorem bad_Head {d : Gen.D} {L : Loc} (hL : L.Refused d) (h : InsertHead) (hb : anyHead L h = true) : ∀ s, prInsertHead d h ≠ .ok s := by
  intro s hs
  rw [prInsertHead_eq] at hs
  obtain ⟨_, -, hs⟩ := (bind_eq_ok _ _ _).1 hs
  simp only [prHeadRest, bind_eq_ok] at hs
  obtain ⟨ty, -, part, hpart, w, hw, -⟩ := hs
  simp only [anyHead, Bool.or_eq_true] at hb
  rcases hb with hb | hb
  · exact bad_OptPartition hL _ hb _ hpart
  · exact bad_W hL _ _ hb _ hw

theorem bad_Tail {d : Gen.D} {L : Loc} (hL : L.Refused d) (wh : Option Expr) (ob : Option (List OrderItem)) (lm : Option (Int × Option Int))
    (hb : (anyOE L wh || anyOOs L ob) = true) : ∀ s, prTail d wh ob lm ≠ .ok s := by
  rw [prTail_eq]
  simp only [Bool.or_eq_true] at hb
  rcases hb with hb | hb
  · cases wh with
    | none => simp [anyOE] at hb
    | some e => exact not_ok_bind (not_ok_map (bad_E hL e (by simpa only [anyOE] using hb)))
  · cases ob with
    | none => simp [anyOOs] at hb
    | some l => exact not_ok_then fun _ => not_ok_bind (not_ok_map (bad_Os hL l (by simpa only [anyOOs] using hb)))

theorem bad_AlterOp {d : Gen.D} {L : Loc} (hL : L.Refused d) : ∀ o, anyAlterOp L o = true → ∀ s, prAlterOp d o ≠ .ok s
  | .addPartition _ p => by
    intro hb s h
    simp only [prAlterOp, prPartition, map_eq_ok] at h
    obtain ⟨_, ⟨x, hx, -⟩, -⟩ := h
    exact bad_Ps hL p hb x hx
  | .dropPartition _ p => by
    intro hb s h
    simp only [prAlterOp, prPartition, map_eq_ok] at h
    obtain ⟨_, ⟨x, hx, -⟩, -⟩ := h
    exact bad_Ps hL p hb x hx
  | .add _ | .modify _ | .change _ _ | .renameColumn _ _ | .dropColumn _ => by simp [anyAlterOp]

theorem bad_Stmt {d : Gen.D} {L : Loc} (hL : L.Refused d) : ∀ st, anyStmt L st = true → ∀ s, prStmt d st ≠ .ok s
  | .select q => by intro hb s h; exact bad_Q hL q hb s h
  | .insertValues hd vs => by
    intro hb s h
    simp only [prStmt, bind_eq_ok] at h
    obtain ⟨rows, hrows, x, hx, -⟩ := h
    simp only [anyStmt, Bool.or_eq_true, List.any_eq_true] at hb
    rcases hb with ⟨r, hr, hb⟩ | hb
    · obtain ⟨y, hy⟩ := mapM'_ok _ _ _ hrows r hr
      simp only [map_eq_ok] at hy
      obtain ⟨z, hz, -⟩ := hy
      exact bad_Es8 hL r hb z hz
    · exact bad_Head hL hd hb x hx
  | .insertSelect hd q => by
    intro hb s h
    simp only [prStmt, bind_eq_ok] at h
    obtain ⟨x, hx, y, hy, -⟩ := h
    simp only [anyStmt, Bool.or_eq_true] at hb
    rcases hb with hb | hb
    · exact bad_Head hL hd hb x hx
    · exact bad_Q hL q hb y hy
  | .update ws t sets wh ob lm => by
    intro hb s h
    simp only [prStmt, bind_eq_ok] at h
    obtain ⟨w, hw, ss, hss, tl, htl, -⟩ := h
    simp only [anyStmt, Bool.or_eq_true, List.any_eq_true, or_assoc] at hb
    rcases hb with hb | ⟨cv, hcv, hb⟩ | hb
    · exact bad_W hL _ ws hb w hw
    · obtain ⟨y, hy⟩ := mapM'_ok _ _ _ hss cv hcv
      simp only [map_eq_ok] at hy
      obtain ⟨z, hz, -⟩ := hy
      exact bad_E hL cv.2 hb z hz
    · exact bad_Tail hL wh ob lm (by simpa only [Bool.or_eq_true] using hb) tl htl
  | .delete t wh ob lm => by
    intro hb s h
    simp only [prStmt, bind_eq_ok] at h
    obtain ⟨tl, htl, -⟩ := h
    exact bad_Tail hL wh ob lm hb tl htl
  | .createTableAs t ine q => by
    intro hb s h
    simp only [prStmt, map_eq_ok] at h
    obtain ⟨x, hx, -⟩ := h
    exact bad_Q hL q hb x hx
  | .alter t ops => by
    intro hb s h
    simp only [prStmt, map_eq_ok] at h
    obtain ⟨l, hl, -⟩ := h
    simp only [anyStmt, List.any_eq_true] at hb
    obtain ⟨o, ho, hb⟩ := hb
    obtain ⟨y, hy⟩ := mapM'_ok _ _ _ hl o ho
    exact bad_AlterOp hL o hb y hy
  | .showColumns fr wh => by
    intro hb s h
    simp only [prStmt, bind_eq_ok] at h
    obtain ⟨w, hw, f, hf, -⟩ := h
    simp only [anyStmt, Bool.or_eq_true] at hb
    rcases hb with hb | hb
    · cases wh with
      | none => simp [anyOE] at hb
      | some e => exact not_ok_map (bad_E hL e (by simpa only [anyOE] using hb)) _ hw
    · exact bad_Fs hL fr hb f hf
  | .createTable _ | .dropTable _ _ | .set _ | .analyze _ _ _ _ _ | .msck _ | .use _ | .truncate _ | .showDatabases | .showTables => by
    simp [anyStmt]

/-! ## which errors can come out: `OkOr E x` — `x` succeeds, or fails with an error in `E` -/

def OkOr (E : Err → Prop) {α : Type} (x : Except Err α) : Prop := ∀ err, x = .error err → E err

theorem OkOr.ok {E : Err → Prop} {α : Type} (a : α) : OkOr E (Except.ok a) := by intro e h; cases h
theorem OkOr.pure {E : Err → Prop} {α : Type} (a : α) : OkOr E (Pure.pure a : Except Err α) := by intro e h; cases h
theorem OkOr.error {E : Err → Prop} {α : Type} {e : Err} (h : E e) : OkOr E (Except.error e : Except Err α) := by
  intro e' h'; cases h'; exact h
theorem OkOr.bind {E : Err → Prop} {α β : Type} {x : Except Err α} {f : α → Except Err β}
    (hx : OkOr E x) (hf : ∀ a, OkOr E (f a)) : OkOr E (x >>= f) := by
  intro e h
  cases x with
  | error e' => cases h; exact hx _ rfl
  | ok a => exact hf a e h
theorem OkOr.map {E : Err → Prop} {α β : Type} {x : Except Err α} {f : α → β} (hx : OkOr E x) : OkOr E (Except.map f x) := by
  intro e h
  cases x with
  | error e' => cases h; exact hx _ rfl
  | ok a => cases h
theorem OkOr.mono {E E' : Err → Prop} {α : Type} {x : Except Err α} (h : ∀ e, E e → E' e) (hx : OkOr E x) : OkOr E' x :=
  fun e he => h e (hx e he)
theorem OkOr.total {α : Type} {x : Except Err α} (h : OkOr (fun _ => False) x) : ∃ a, x = .ok a := by
  cases x with
  | error e => exact (h e rfl).elim
  | ok a => exact ⟨a, rfl⟩

/-- at every node NOT flagged by `L`, the printer's own (non-recursive) steps succeed or fail within `E` -/
structure Loc.Clean (d : Gen.D) (E : Err → Prop) (L : Loc) : Prop where
  un : ∀ o e, L.e (.unary o e) = false → OkOr E (computeOpSrc d o)
  bin : ∀ l o r, L.e (.compute l o r) = false → OkOr E (computeOpSrc d o)
  cmp : ∀ o l r, L.e (.compare o l r) = false → OkOr E (compareOpSrc o)
  cast : ∀ e sg ty ps, L.e (.cast e sg ty ps) = false → OkOr E (valueSrc Gen.castTypes ty)
  idx : ∀ a i, L.e (.index a i) = false → d = .HIVE ∨ E .notSupported
  sel : ∀ ws dist cols fr lats js wh gb hv ob sb db cb lm, L.s (.mk ws dist cols fr lats js wh gb hv ob sb db cb lm) = false →
    ws ≠ none ∧ OkOr E (prSGuard d lats sb db cb)
  join : ∀ ty t rule, L.j (.mk ty t rule) = false → OkOr E (wordsSrc Gen.joinTypes ty)
  qry : ∀ ws x us, L.q (.union ws x us) = false → ws ≠ none ∧ ∀ p ∈ us, OkOr E (wordsSrc Gen.unionTypes p.1)

mutual
theorem res_E {d : Gen.D} {E : Err → Prop} {L : Loc} (hT : L.Clean d E) : ∀ e, anyE L e = false → OkOr E (prE d e)
  | .column _ _ | .literal _ | .wildcard _ | .mybatis _ => fun _ => .ok _
  | .func _ _ ps | .agg _ ps _ => fun hb => by
    simp only [anyE, Bool.or_eq_false_iff] at hb
    exact .map (res_Es hT ps hb.2)
  | .subValue vs => fun hb => by
    simp only [anyE, Bool.or_eq_false_iff] at hb
    exact .map (res_Es8 hT vs hb.2)
  | .subQuery q => fun hb => by
    simp only [anyE, Bool.or_eq_false_iff] at hb
    exact .map (res_Q hT q hb.2)
  | .exists_ e | .not_ e => fun hb => by
    simp only [anyE, Bool.or_eq_false_iff] at hb
    exact .map (res_E hT e hb.2)
  | .cast e _ _ _ => fun hb => by
    simp only [anyE, Bool.or_eq_false_iff] at hb
    exact .bind (.map (res_E hT e hb.2)) fun _ => .bind (hT.cast _ _ _ _ hb.1) fun _ => .pure _
  | .unary _ e => fun hb => by
    simp only [anyE, Bool.or_eq_false_iff] at hb
    exact .bind (hT.un _ _ hb.1) fun _ => .bind (.map (res_E hT e hb.2)) fun _ => .pure _
  | .extract l r | .kw _ _ l r | .and_ l r | .xor l r | .or_ l r => fun hb => by
    simp only [anyE, Bool.or_eq_false_iff] at hb
    exact .bind (.map (res_E hT l hb.1.2)) fun _ => .bind (.map (res_E hT r hb.2)) fun _ => .pure _
  | .compute l _ r => fun hb => by
    simp only [anyE, Bool.or_eq_false_iff] at hb
    exact .bind (.map (res_E hT l hb.1.2)) fun _ => .bind (hT.bin _ _ _ hb.1.1) fun _ => .bind (.map (res_E hT r hb.2)) fun _ => .pure _
  | .compare _ l r => fun hb => by
    simp only [anyE, Bool.or_eq_false_iff] at hb
    exact .bind (.map (res_E hT l hb.1.2)) fun _ => .bind (hT.cmp _ _ _ hb.1.1) fun _ => .bind (.map (res_E hT r hb.2)) fun _ => .pure _
  | .between _ b f t => fun hb => by
    simp only [anyE, Bool.or_eq_false_iff] at hb
    exact .bind (.map (res_E hT b hb.1.1.2)) fun _ => .bind (.map (res_E hT f hb.1.2)) fun _ => .bind (.map (res_E hT t hb.2)) fun _ => .pure _
  | .index a i => fun hb => by
    simp only [anyE, Bool.or_eq_false_iff] at hb; simp only [prE]
    have h : OkOr E (do let x ← prE d a; let y ← (prE d i).map (wrap i 8); pure s!"{x}[{y}]") :=
      .bind (res_E hT a hb.1.2) fun _ => .bind (.map (res_E hT i hb.2)) fun _ => .pure _
    rcases hT.idx _ _ hb.1.1 with rfl | hE
    · exact h
    · split
      · exact .error hE
      · exact h
  | .window fn part ord _ => fun hb => by
    simp only [anyE, Bool.or_eq_false_iff] at hb
    exact .bind (res_E hT fn hb.1.1.2) fun _ => .bind (res_Es8 hT part hb.1.2) fun _ => .bind (res_Os hT ord hb.2) fun _ => .pure _
  | .caseCond cs els => fun hb => by
    simp only [anyE, Bool.or_eq_false_iff] at hb
    exact .bind (res_Arms hT cs hb.1.2) fun _ => .bind (res_OE hT els hb.2) fun _ => .pure _
  | .caseVal v cs els => fun hb => by
    simp only [anyE, Bool.or_eq_false_iff] at hb
    exact .bind (res_E hT v hb.1.1.2) fun _ => .bind (res_Arms hT cs hb.1.2) fun _ => .bind (res_OE hT els hb.2) fun _ => .pure _
theorem res_Es {d : Gen.D} {E : Err → Prop} {L : Loc} (hT : L.Clean d E) : ∀ es, anyEs L es = false → OkOr E (prList d es)
  | [] => fun _ => .ok _
  | e :: r => fun hb => by
    simp only [anyEs, Bool.or_eq_false_iff] at hb
    exact .bind (res_E hT e hb.1) fun _ => .bind (res_Es hT r hb.2) fun _ => .pure _
theorem res_Es8 {d : Gen.D} {E : Err → Prop} {L : Loc} (hT : L.Clean d E) : ∀ es, anyEs L es = false → OkOr E (prList8 d es)
  | [] => fun _ => .ok _
  | e :: r => fun hb => by
    simp only [anyEs, Bool.or_eq_false_iff] at hb
    exact .bind (res_E hT e hb.1) fun _ => .bind (res_Es8 hT r hb.2) fun _ => .pure _
theorem res_OE {d : Gen.D} {E : Err → Prop} {L : Loc} (hT : L.Clean d E) : ∀ e, anyOE L e = false → OkOr E (prOptE d e)
  | none => fun _ => .ok _
  | some e => fun hb => by
    simp only [anyOE] at hb
    exact .map (res_E hT e hb)
theorem res_Arms {d : Gen.D} {E : Err → Prop} {L : Loc} (hT : L.Clean d E) : ∀ cs, anyArms L cs = false → OkOr E (prArms d cs)
  | [] => fun _ => .ok _
  | (w, t) :: r => fun hb => by
    simp only [anyArms, Bool.or_eq_false_iff] at hb
    exact .bind (res_E hT w hb.1.1) fun _ => .bind (res_E hT t hb.1.2) fun _ => .bind (res_Arms hT r hb.2) fun _ => .pure _
theorem res_O {d : Gen.D} {E : Err → Prop} {L : Loc} (hT : L.Clean d E) : ∀ o, anyO L o = false → OkOr E (prOrd d o)
  | .mk e _ _ _ => fun hb => by
    simp only [anyO] at hb
    exact .map (res_E hT e hb)
theorem res_Os {d : Gen.D} {E : Err → Prop} {L : Loc} (hT : L.Clean d E) : ∀ os, anyOs L os = false → OkOr E (prOrdList d os)
  | [] => fun _ => .ok _
  | o :: r => fun hb => by
    simp only [anyOs, Bool.or_eq_false_iff] at hb
    exact .bind (res_O hT o hb.1) fun _ => .bind (res_Os hT r hb.2) fun _ => .pure _
theorem res_TR {d : Gen.D} {E : Err → Prop} {L : Loc} (hT : L.Clean d E) : ∀ t, anyTR L t = false → OkOr E (prTableRef d t)
  | .table _ _ => fun _ => .ok _
  | .sub q => fun hb => by
    simp only [anyTR] at hb
    exact .map (res_Q hT q hb)
theorem res_F {d : Gen.D} {E : Err → Prop} {L : Loc} (hT : L.Clean d E) : ∀ t, anyF L t = false → OkOr E (prFrom d t)
  | .mk t a => fun hb => by
    simp only [anyF] at hb
    exact .bind (res_TR hT t hb) fun _ => .pure _
theorem res_Fs {d : Gen.D} {E : Err → Prop} {L : Loc} (hT : L.Clean d E) : ∀ ts, anyFs L ts = false → OkOr E (prFromList d ts)
  | [] => fun _ => .ok _
  | t :: r => fun hb => by
    simp only [anyFs, Bool.or_eq_false_iff] at hb
    exact .bind (res_F hT t hb.1) fun _ => .bind (res_Fs hT r hb.2) fun _ => .pure _
theorem res_J {d : Gen.D} {E : Err → Prop} {L : Loc} (hT : L.Clean d E) : ∀ j, anyJ L j = false → OkOr E (prJoin d j)
  | .mk ty t none => fun hb => by
    simp only [anyJ, anyRule, Bool.or_eq_false_iff] at hb
    exact .bind (hT.join _ _ _ hb.1.1) fun _ => .bind (res_F hT t hb.1.2) fun _ => .pure _
  | .mk ty t (some (.on c)) | .mk ty t (some (.using c)) => fun hb => by
    simp only [anyJ, anyRule, Bool.or_eq_false_iff] at hb
    exact .bind (hT.join _ _ _ hb.1.1) fun _ => .bind (res_F hT t hb.1.2) fun _ => .bind (res_E hT c hb.2) fun _ => .pure _
theorem res_Js {d : Gen.D} {E : Err → Prop} {L : Loc} (hT : L.Clean d E) : ∀ js, anyJs L js = false → OkOr E (prJoinList d js)
  | [] => fun _ => .ok _
  | j :: r => fun hb => by
    simp only [anyJs, Bool.or_eq_false_iff] at hb
    exact .bind (res_J hT j hb.1) fun _ => .bind (res_Js hT r hb.2) fun _ => .pure _
theorem res_Sets {d : Gen.D} {E : Err → Prop} {L : Loc} (hT : L.Clean d E) : ∀ gs, anySets L gs = false → OkOr E (prSets d gs)
  | [] => fun _ => .ok _
  | g :: r => fun hb => by
    simp only [anySets, Bool.or_eq_false_iff] at hb
    exact .bind (.map (res_Es8 hT g hb.1)) fun _ => .bind (res_Sets hT r hb.2) fun _ => .pure _
theorem res_G {d : Gen.D} {E : Err → Prop} {L : Loc} (hT : L.Clean d E) : ∀ g, anyG L g = false → OkOr E (prGroupBy d g)
  | .mk gc none cube rollup => fun hb => by
    simp only [anyG, anyOSets, Bool.or_eq_false_iff] at hb
    exact .bind (res_Es8 hT gc hb.1.2) fun _ => .bind (.pure _) fun _ => .pure _
  | .mk gc (some l) cube rollup => fun hb => by
    simp only [anyG, anyOSets, Bool.or_eq_false_iff] at hb
    exact .bind (res_Es8 hT gc hb.1.2) fun _ => .bind (.map (res_Sets hT l hb.2)) fun _ => .pure _
theorem res_Lat {d : Gen.D} {E : Err → Prop} {L : Loc} (hT : L.Clean d E) : ∀ l, anyLat L l = false → OkOr E (prLateral d l)
  | .mk _ fn _ _ => fun hb => by
    simp only [anyLat] at hb
    exact .map (res_E hT fn hb)
theorem res_Lats {d : Gen.D} {E : Err → Prop} {L : Loc} (hT : L.Clean d E) : ∀ ls, anyLats L ls = false → OkOr E (prLateralList d ls)
  | [] => fun _ => .ok _
  | x :: r => fun hb => by
    simp only [anyLats, Bool.or_eq_false_iff] at hb
    exact .bind (res_Lat hT x hb.1) fun _ => .bind (res_Lats hT r hb.2) fun _ => .pure _
theorem res_WTs {d : Gen.D} {E : Err → Prop} {L : Loc} (hT : L.Clean d E) : ∀ ws, anyWTs L ws = false → OkOr E (prWithTables d ws)
  | [] => fun _ => .ok _
  | .mk _ q :: r => fun hb => by
    simp only [anyWTs, Bool.or_eq_false_iff] at hb
    exact .bind (res_Q hT q hb.1) fun _ => .bind (res_WTs hT r hb.2) fun _ => .pure _
theorem res_W {d : Gen.D} {E : Err → Prop} {L : Loc} (hT : L.Clean d E) (sep : String) : ∀ ws, ws ≠ none → anyW L ws = false → OkOr E (prWithPrefix d sep ws)
  | none, hne => (hne rfl).elim
  | some ws, _ => fun hb => by
    simp only [anyW] at hb; simp only [prWithPrefix]
    split
    · exact .ok _
    · exact .map (res_WTs hT ws hb)
theorem res_Cols {d : Gen.D} {E : Err → Prop} {L : Loc} (hT : L.Clean d E) : ∀ cs, anyCols L cs = false → OkOr E (prCols d cs)
  | [] => fun _ => .ok _
  | (e, _) :: r => fun hb => by
    simp only [anyCols, Bool.or_eq_false_iff] at hb
    exact .bind (res_E hT e hb.1) fun _ => .bind (res_Cols hT r hb.2) fun _ => .pure _
theorem res_S {d : Gen.D} {E : Err → Prop} {L : Loc} (hT : L.Clean d E) : ∀ x, anyS L x = false → OkOr E (prS d x)
  | .mk ws dist cols fr lats js wh gb hv ob sb db cb lm => fun hb => by
    simp only [anyS, Bool.or_eq_false_iff, and_assoc] at hb
    obtain ⟨hs, hws, hcols, hfr, hlats, hjs, hwh, hgb, hhv, hob, hsb, hdb, hcb⟩ := hb
    obtain ⟨hne, hg⟩ := hT.sel _ _ _ _ _ _ _ _ _ _ _ _ _ _ hs
    have e3 : OkOr E (prOptFrom d fr) := match fr, hfr with
      | none, _ => .pure _
      | some l, h => .map (res_Fs hT l h)
    have e6 : OkOr E (prOptWhere d wh) := match wh, hwh with
      | none, _ => .pure _
      | some e, h => .map (res_E hT e h)
    have e7 : OkOr E (prOptGroup d gb) := match gb, hgb with
      | none, _ => .pure _
      | some g, h => .map (res_G hT g h)
    have e8 : OkOr E (prOptHaving d hv) := match hv, hhv with
      | none, _ => .pure _
      | some e, h => .map (res_E hT e h)
    have e9 : OkOr E (prOptOrder d ob) := match ob, hob with
      | none, _ => .pure _
      | some l, h => .map (res_Os hT l h)
    have e10 : OkOr E (prOptSort d sb) := match sb, hsb with
      | none, _ => .pure _
      | some l, h => .map (res_Os hT l h)
    have e11 : OkOr E (prOptDistribute d db) := match db, hdb with
      | none, _ => .pure _
      | some l, h => .map (res_Es8 hT l h)
    have e12 : OkOr E (prOptCluster d cb) := match cb, hcb with
      | none, _ => .pure _
      | some l, h => .map (res_Es8 hT l h)
    have eh : OkOr E (prHive d sb db cb) := by
      unfold prHive
      split
      · exact .bind e10 fun _ => .bind e11 fun _ => .bind e12 fun _ => .pure _
      · exact .pure _
    rw [prS_eq]
    refine .bind (res_W hT "\n" ws hne hws) fun w => .bind hg fun _ => ?_
    simp only [prSRest]
    exact .bind (res_Cols hT cols hcols) fun _ => .bind e3 fun _ => .bind (res_Lats hT lats hlats) fun _ => .bind (res_Js hT js hjs) fun _ =>
      .bind e6 fun _ => .bind e7 fun _ => .bind e8 fun _ => .bind e9 fun _ => .bind eh fun _ => .pure _
theorem res_Us {d : Gen.D} {E : Err → Prop} {L : Loc} (hT : L.Clean d E) : ∀ us, (∀ p ∈ us, OkOr E (wordsSrc Gen.unionTypes p.1)) →
    anyUs L us = false → OkOr E (prUnions d us)
  | [], _ => fun _ => .ok _
  | (t, x) :: r, hu => fun hb => by
    simp only [anyUs, Bool.or_eq_false_iff] at hb
    exact .bind (hu (t, x) (List.mem_cons_self ..)) fun _ => .bind (res_S hT x hb.1) fun _ =>
      .bind (res_Us hT r (fun p hp => hu p (List.mem_cons_of_mem _ hp)) hb.2) fun _ => .pure _
theorem res_Q {d : Gen.D} {E : Err → Prop} {L : Loc} (hT : L.Clean d E) : ∀ q, anyQ L q = false → OkOr E (prQ d q)
  | .single x => fun hb => by
    simp only [anyQ, Bool.or_eq_false_iff] at hb
    exact res_S hT x hb.2
  | .union ws x us => fun hb => by
    simp only [anyQ, Bool.or_eq_false_iff, and_assoc] at hb
    obtain ⟨hq, hws, hx, hus⟩ := hb
    obtain ⟨hne, hu⟩ := hT.qry _ _ _ hq
    exact .bind (res_W hT "\n" ws hne hws) fun _ => .bind (res_S hT x hx) fun _ => .bind (res_Us hT us hu hus) fun _ => .pure _
end

theorem Loc.Clean.mono {d : Gen.D} {E E' : Err → Prop} {L : Loc} (h : ∀ e, E e → E' e) (hT : L.Clean d E) : L.Clean d E' where
  un := fun o e hb => (hT.un o e hb).mono h
  bin := fun l o r hb => (hT.bin l o r hb).mono h
  cmp := fun o l r hb => (hT.cmp o l r hb).mono h
  cast := fun e sg ty ps hb => (hT.cast e sg ty ps hb).mono h
  idx := fun a i hb => (hT.idx a i hb).imp id (h _)
  sel := fun ws dist cols fr lats js wh gb hv ob sb db cb lm hb =>
    ⟨(hT.sel ws dist cols fr lats js wh gb hv ob sb db cb lm hb).1, (hT.sel ws dist cols fr lats js wh gb hv ob sb db cb lm hb).2.mono h⟩
  join := fun ty t rule hb => (hT.join ty t rule hb).mono h
  qry := fun ws x us hb => ⟨(hT.qry ws x us hb).1, fun p hp => ((hT.qry ws x us hb).2 p hp).mono h⟩

theorem mapM'_res {E : Err → Prop} {α : Type} (f : α → P) : ∀ (l : List α), (∀ a ∈ l, OkOr E (f a)) → OkOr E (mapM' f l)
  | [], _ => OkOr.ok _
  | a :: l, h => by
    have h1 := h a (List.mem_cons_self ..)
    have h2 := mapM'_res f l (fun b hb => h b (List.mem_cons_of_mem _ hb))
    simp only [mapM']
    exact OkOr.bind h1 (fun _ => OkOr.bind h2 (fun _ => OkOr.pure _))

/-- the statement's own (non-recursive) steps succeed or fail within `E`.  CREATE TABLE and ANALYZE TABLE are taken as a
whole (their column definitions / partition are outside `anyStmt`); an ALTER TABLE must not carry a column definition. -/
def StmtClean (d : Gen.D) (E : Err → Prop) : Stmt → Prop
  | .insertValues h _ => h.withs ≠ none ∧ OkOr E (headGuard d h.type) ∧ OkOr E (wordsSrc Gen.insertTypes h.type)
  | .insertSelect h _ => h.withs ≠ none ∧ OkOr E (headGuard d h.type) ∧ OkOr E (wordsSrc Gen.insertTypes h.type)
  | .update ws _ _ _ _ _ => ws ≠ none
  | .createTable c => OkOr E (prStmt d (.createTable c))
  | .analyze t p fc cm ns => OkOr E (prStmt d (.analyze t p fc cm ns))
  | .alter _ ops => ∀ o ∈ ops, ∀ c, o ≠ .add (.col c) ∧ o ≠ .modify (.col c) ∧ ∀ f, o ≠ .change f (.col c)
  | _ => True

theorem res_Ps {d : Gen.D} {E : Err → Prop} {L : Loc} (hT : L.Clean d E) : ∀ es, anyEs L es = false → OkOr E (prPartList d es)
  | [] => fun _ => OkOr.pure _
  | e :: r => fun hb => by
    simp only [anyEs, Bool.or_eq_false_iff] at hb
    have i1 : OkOr E (prPartItem d e) := by
      intro x hx
      rcases prPartItem_shape d e with ⟨_, _, ha, -⟩ | ⟨y, hy, hy2⟩
      · rw [ha] at hx; cases hx
      · rw [hy] at hx; cases hx; exact res_E hT e hb.1 _ hy2
    have i2 := res_Ps hT r hb.2
    simp only [prPartList]
    exact OkOr.bind i1 (fun _ => OkOr.bind i2 (fun _ => OkOr.pure _))

theorem res_OptPartition {d : Gen.D} {E : Err → Prop} {L : Loc} (hT : L.Clean d E) : ∀ p, anyOEs L p = false → OkOr E (prOptPartition d p)
  | none => fun _ => OkOr.pure _
  | some p => fun hb => by
    simp only [prOptPartition, prPartition]
    exact OkOr.map (OkOr.map (res_Ps hT p (by simpa only [anyOEs] using hb)))

theorem res_Head {d : Gen.D} {E : Err → Prop} {L : Loc} (hT : L.Clean d E) (h : InsertHead)
    (hc : h.withs ≠ none ∧ OkOr E (headGuard d h.type) ∧ OkOr E (wordsSrc Gen.insertTypes h.type)) (hb : anyHead L h = false) :
    OkOr E (prInsertHead d h) := by
  simp only [anyHead, Bool.or_eq_false_iff] at hb
  have e1 := res_OptPartition hT _ hb.1
  have e2 := res_W hT "\n" _ hc.1 hb.2
  rw [prInsertHead_eq]
  refine OkOr.bind hc.2.1 (fun _ => ?_)
  simp only [prHeadRest]
  exact OkOr.bind hc.2.2 (fun _ => OkOr.bind e1 (fun _ => OkOr.bind e2 (fun _ => OkOr.pure _)))

theorem res_Tail {d : Gen.D} {E : Err → Prop} {L : Loc} (hT : L.Clean d E) (wh : Option Expr) (ob : Option (List OrderItem))
    (lm : Option (Int × Option Int)) (hb : (anyOE L wh || anyOOs L ob) = false) : OkOr E (prTail d wh ob lm) := by
  simp only [Bool.or_eq_false_iff] at hb
  have e1 : OkOr E (prOptWhereS d wh) := by
    cases wh with
    | none => exact OkOr.pure _
    | some e => exact OkOr.map (res_E hT e (by simpa only [anyOE] using hb.1))
  have e2 : OkOr E (prOptOrderS d ob) := by
    cases ob with
    | none => exact OkOr.pure _
    | some l => exact OkOr.map (res_Os hT l (by simpa only [anyOOs] using hb.2))
  rw [prTail_eq]
  exact OkOr.bind e1 (fun _ => OkOr.bind e2 (fun _ => OkOr.pure _))

theorem res_AlterOp {d : Gen.D} {E : Err → Prop} {L : Loc} (hT : L.Clean d E) : ∀ o,
    (∀ c, o ≠ .add (.col c) ∧ o ≠ .modify (.col c) ∧ ∀ f, o ≠ .change f (.col c)) → anyAlterOp L o = false → OkOr E (prAlterOp d o)
  | .addPartition _ p, _, hb => by simp only [prAlterOp, prPartition]; exact OkOr.map (OkOr.map (res_Ps hT p hb))
  | .dropPartition _ p, _, hb => by simp only [prAlterOp, prPartition]; exact OkOr.map (OkOr.map (res_Ps hT p hb))
  | .renameColumn _ _, _, _ => OkOr.ok _
  | .dropColumn _, _, _ => OkOr.ok _
  | .add (.col c), hc, _ => ((hc c).1 rfl).elim
  | .add (.idx _), _, _ => OkOr.ok _
  | .add (.fk _), _, _ => OkOr.ok _
  | .modify (.col c), hc, _ => ((hc c).2.1 rfl).elim
  | .modify (.idx _), _, _ => OkOr.ok _
  | .modify (.fk _), _, _ => OkOr.ok _
  | .change f (.col c), hc, _ => ((hc c).2.2 f rfl).elim
  | .change _ (.idx _), _, _ => OkOr.ok _
  | .change _ (.fk _), _, _ => OkOr.ok _

theorem res_Stmt {d : Gen.D} {E : Err → Prop} {L : Loc} (hT : L.Clean d E) : ∀ st, StmtClean d E st → anyStmt L st = false →
    OkOr E (prStmt d st)
  | .select q, _, hb => res_Q hT q hb
  | .insertValues h vs, hc, hb => by
    simp only [anyStmt, Bool.or_eq_false_iff, List.any_eq_false, Bool.not_eq_true] at hb
    have e1 : OkOr E (mapM' (fun r => (prList8 d r).map fun p => s!"({joinS ", " p})") vs) :=
      mapM'_res _ vs (fun r hr => OkOr.map (res_Es8 hT r (hb.1 r hr)))
    have e2 := res_Head hT h hc hb.2
    simp only [prStmt]
    exact OkOr.bind e1 (fun _ => OkOr.bind e2 (fun _ => OkOr.pure _))
  | .insertSelect h q, hc, hb => by
    simp only [anyStmt, Bool.or_eq_false_iff] at hb
    have e1 := res_Head hT h hc hb.1
    have e2 := res_Q hT q hb.2
    simp only [prStmt]
    exact OkOr.bind e1 (fun _ => OkOr.bind e2 (fun _ => OkOr.pure _))
  | .update ws t sets wh ob lm, hc, hb => by
    simp only [anyStmt, Bool.or_eq_false_iff, List.any_eq_false, Bool.not_eq_true, and_assoc] at hb
    obtain ⟨h1, h2, h3, h4⟩ := hb
    have e0 := res_W hT "\n\n" ws hc h1
    have e1 : OkOr E (mapM' (fun (cv : String × Expr) => (prE d cv.2).map fun x => s!"`{cv.1}` = {x}") sets) :=
      mapM'_res _ sets (fun cv hcv => OkOr.map (res_E hT cv.2 (h2 cv hcv)))
    have e2 := res_Tail hT wh ob lm (by simp only [h3, h4, Bool.or_false])
    simp only [prStmt]
    exact OkOr.bind e0 (fun _ => OkOr.bind e1 (fun _ => OkOr.bind e2 (fun _ => OkOr.pure _)))
  | .delete t wh ob lm, _, hb => by
    have e2 := res_Tail hT wh ob lm hb
    simp only [prStmt]
    exact OkOr.bind e2 (fun _ => OkOr.pure _)
  | .createTable c, hc, _ => hc
  | .createTableAs t ine q, _, hb => by simp only [prStmt]; exact OkOr.map (res_Q hT q hb)
  | .dropTable _ _, _, _ => OkOr.ok _
  | .set _, _, _ => OkOr.ok _
  | .analyze t p fc cm ns, hc, _ => hc
  | .alter t ops, hc, hb => by
    simp only [anyStmt, List.any_eq_false, Bool.not_eq_true] at hb
    simp only [prStmt]
    exact OkOr.map (mapM'_res _ ops (fun o ho => res_AlterOp hT o (hc o ho) (hb o ho)))
  | .msck _, _, _ => OkOr.ok _
  | .use _, _, _ => OkOr.ok _
  | .truncate _, _, _ => OkOr.ok _
  | .showDatabases, _, _ => OkOr.ok _
  | .showTables, _, _ => OkOr.ok _
  | .showColumns fr none, _, hb => by
    simp only [anyStmt, Bool.or_eq_false_iff] at hb
    simp only [prStmt]
    exact OkOr.bind (OkOr.pure _) (fun _ => OkOr.bind (res_Fs hT fr hb.2) (fun _ => OkOr.pure _))
  | .showColumns fr (some e), _, hb => by
    simp only [anyStmt, Bool.or_eq_false_iff, anyOE] at hb
    simp only [prStmt]
    exact OkOr.bind (OkOr.map (res_E hT e hb.1)) (fun _ => OkOr.bind (res_Fs hT fr hb.2) (fun _ => OkOr.pure _))

end PR
