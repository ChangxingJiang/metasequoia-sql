import MsqProofs.Lemmas.ParseSteps
/-!
# Frame lemmas for the cursor primitives (C10; the base of the family `tools/gen_frame.py` prints)

`IsSemi t` — "`t` is a separator token": a leaf whose source is `;` and which carries none of the four marks the
parser ever tests (`NAME`, `PARENTHESIS`, `LITERAL`, `ARRAY_INDEX`).  The lexer emits `;` as `Tok.single [';'] 0`
(`isSemi_lexed`; `#guard` on a lexed text at the end of `MsqProofs/Props/C10.lean`).

For a cursor `ts` and a continuation `X = semi :: Y` with `IsSemi semi` (`Y` arbitrary) every primitive of
`MsqModel/Parse/Prim.lean` answers on `ts ++ X` what it answers on `ts`, with `++ X` on the remaining tokens:

* look-aheads (`search*`, `move*`, `firstEnum`, `startsSelect`, `headIsOver`, `setOpHead`, `joinHead`, `onUsingHead`,
  `chainsOn`, `skipNot`): `p (ts ++ X) = p ts` — when the look-ahead stays inside `ts` because the tokens are the same,
  when it reads past the end of `ts` because it meets `;` where it met the end of the list, PROVIDED the keyword(s) it
  compares with are not `;` (hypotheses `k ≠ ";"` for raw / upper-cased source comparison, `up k ≠ ";"` for `equals`);
* consuming primitives (`pop`, `popSrc`, `popInt`, `popAsInt`, `matchKw`, `matchSeq`, `headChildren`, `popSplit`, …) fail at the
  end of the list, so only successful runs are framed: `p ts = ok (v, r) → p (ts ++ X) = ok (v, r ++ X)`, unconditionally;
* table look-ups on the source of the head (`computeOp?`, `compareOp?`, the NOT / unary sets): `;` is in none of the generated
  tables (`decide` on the tables, re-checked whenever the translator regenerates them).

The three tests of the model that compare with `;` itself — `defColLoop`, `createOpts` (stop at the end of the cursor OR at
`;`) and the optional skip after a statement (`moveStr r ";"` in `statementsLoop` and at the end of `pCreateTable`) — are
treated where they occur (`MsqProofs/Lemmas/ParseFrameStmt.lean`, `MsqProofs/Props/C10.lean`).
-/
set_option linter.unusedSimpArgs false
set_option linter.unusedSectionVars false
open Lex
namespace PM

structure IsSemi (t : Tok) : Prop where
  shape : ∃ m, t = Tok.single [';'] m
  name : t.has NAME = false
  paren : t.has PAREN = false
  literal : t.has LITERAL = false
  array : t.has ARRAY = false

/-- what the shipped lexer emits for `;` -/
theorem isSemi_lexed : IsSemi (Tok.single [';'] 0) := ⟨⟨0, rfl⟩, by decide, by decide, by decide, by decide⟩

grind_pattern IsSemi.name => IsSemi t, t.has NAME
grind_pattern IsSemi.paren => IsSemi t, t.has PAREN
grind_pattern IsSemi.literal => IsSemi t, t.has LITERAL
grind_pattern IsSemi.array => IsSemi t, t.has ARRAY

theorem up_semi : up ";" = ";" := by decide

section
variable {semi : Tok} (hs : IsSemi semi)
include hs

theorem IsSemi.src : semi.src = ";" := by
  obtain ⟨m, rfl⟩ := hs.shape; rfl
theorem IsSemi.upSrc : up semi.src = ";" := by rw [hs.src]; exact up_semi
theorem IsSemi.children : semi.children = [] := by
  obtain ⟨m, rfl⟩ := hs.shape; rfl
theorem IsSemi.srcEq (k : String) (hk : k ≠ ";") : semi.srcEq k = false := by
  simp [Tok.srcEq, hs.src, Ne.symm hk]
theorem IsSemi.srcEq_semi : semi.srcEq ";" = true := by
  simp [Tok.srcEq, hs.src]
theorem IsSemi.srcEqUp (k : String) (hk : k ≠ ";") : semi.srcEqUp k = false := by
  simp [Tok.srcEqUp, hs.upSrc, Ne.symm hk]
grind_pattern IsSemi.src => IsSemi semi, semi.src
grind_pattern IsSemi.children => IsSemi semi, semi.children
grind_pattern IsSemi.srcEq => IsSemi semi, semi.srcEq k
grind_pattern IsSemi.srcEqUp => IsSemi semi, semi.srcEqUp k
theorem IsSemi.equalsStr (k : String) (hk : up k ≠ ";") : semi.equalsStr k = false := by
  obtain ⟨m, rfl⟩ := hs.shape
  have : up (String.ofList [';']) = ";" := up_semi
  simp [Tok.equalsStr, this, Ne.symm hk]

end

/-! ### `;` is in none of the generated look-up tables -/
theorem computeOp_semi : computeOp? ";" = none := by decide
theorem compareOp_semi : compareOp? ";" = none := by decide
theorem notSet_semi (d : Gen.D) : (Gen.notSet d).contains ";" = false := by cases d <;> decide
theorem unarySet_semi (d : Gen.D) : (Gen.unarySet d).contains ";" = false := by cases d <;> decide
theorem compareSet_semi : Gen.compareSet.contains ";" = false := by decide

/-- no keyword of the sequence upper-cases to `;` (`equals` compares upper-cased sources) -/
def kwsNoSemi (ks : List String) : Bool := ks.all fun k => up k != ";"
def tableNoSemi (tbl : List (String × List String)) : Bool := tbl.all fun e => kwsNoSemi e.2
theorem joinTypes_noSemi : tableNoSemi Gen.joinTypes = true := by decide
theorem unionTypes_noSemi : tableNoSemi Gen.unionTypes = true := by decide

section
variable {semi : Tok} (hs : IsSemi semi) (Y : List Tok)
include hs

theorem searchStrUp_frame (ts : List Tok) (k : String) (hk : k ≠ ";") : searchStrUp (ts ++ semi :: Y) k = searchStrUp ts k := by
  cases ts <;> simp [searchStrUp, hs.srcEqUp k hk]
grind_pattern searchStrUp_frame => searchStrUp (ts ++ semi :: Y) k
theorem searchStr_frame (ts : List Tok) (k : String) (hk : k ≠ ";") : searchStr (ts ++ semi :: Y) k = searchStr ts k := by
  cases ts <;> simp [searchStr, hs.srcEq k hk]
grind_pattern searchStr_frame => searchStr (ts ++ semi :: Y) k
/-- the look-ahead for the separator itself: at the end of `ts` it now answers `true` -/
theorem searchStr_semi (ts : List Tok) : searchStr (ts ++ semi :: Y) ";" = (ts.isEmpty || searchStr ts ";") := by
  cases ts <;> simp [searchStr, hs.srcEq_semi]
grind_pattern searchStr_semi => searchStr (ts ++ semi :: Y) ";"
theorem searchMark_frame (ts : List Tok) (m : Nat) (hm : semi.has m = false) : searchMark (ts ++ semi :: Y) m = searchMark ts m := by
  cases ts <;> simp [searchMark, hm]
grind_pattern searchMark_frame => searchMark (ts ++ semi :: Y) m
theorem searchMark_paren (ts : List Tok) : searchMark (ts ++ semi :: Y) PAREN = searchMark ts PAREN := searchMark_frame hs Y ts _ hs.paren
theorem searchSet_frame (ts : List Tok) (ks : List String) (hk : ks.contains ";" = false) : searchSet (ts ++ semi :: Y) ks = searchSet ts ks := by
  cases ts <;> simp [searchSet, hs.src] <;> simpa using hk
grind_pattern searchSet_frame => searchSet (ts ++ semi :: Y) ks
theorem searchSetUp_frame (ts : List Tok) (ks : List String) (hk : ks.contains ";" = false) : searchSetUp (ts ++ semi :: Y) ks = searchSetUp ts ks := by
  cases ts <;> simp [searchSetUp, hs.upSrc] <;> simpa using hk
grind_pattern searchSetUp_frame => searchSetUp (ts ++ semi :: Y) ks
theorem searchTwoUp_frame (ts : List Tok) (a b : String) (ha : a ≠ ";") (hb : b ≠ ";") :
    searchTwoUp (ts ++ semi :: Y) a b = searchTwoUp ts a b := by
  rcases ts with _ | ⟨x, _ | ⟨y, r⟩⟩ <;> simp [searchTwoUp, hs.srcEqUp a ha, hs.srcEqUp b hb]
  cases Y <;> simp [searchTwoUp, hs.srcEqUp a ha]
grind_pattern searchTwoUp_frame => searchTwoUp (ts ++ semi :: Y) a b
theorem searchThreeUp_frame (ts : List Tok) (a b c : String) (ha : a ≠ ";") (hb : b ≠ ";") (hc : c ≠ ";") :
    searchThreeUp (ts ++ semi :: Y) a b c = searchThreeUp ts a b c := by
  rcases ts with _ | ⟨x, _ | ⟨y, _ | ⟨z, r⟩⟩⟩ <;> simp [searchThreeUp, hs.srcEqUp a ha, hs.srcEqUp b hb, hs.srcEqUp c hc]
  · rcases Y with _ | ⟨y1, _ | ⟨y2, Y⟩⟩ <;> simp [searchThreeUp, hs.srcEqUp a ha]
  · cases Y <;> simp [searchThreeUp, hs.srcEqUp b hb]
grind_pattern searchThreeUp_frame => searchThreeUp (ts ++ semi :: Y) a b c
theorem searchSeq_frame (ts : List Tok) (ks : List String) (hk : kwsNoSemi ks = true) :
    searchSeq (ts ++ semi :: Y) ks = searchSeq ts ks := by
  induction ks generalizing ts with
  | nil => simp [searchSeq]
  | cons k ks ih =>
    simp only [kwsNoSemi, List.all_cons, Bool.and_eq_true, bne_iff_ne, ne_eq] at hk
    cases ts with
    | nil => simp [searchSeq, hs.equalsStr k hk.1]
    | cons t ts => simp [searchSeq, ih ts hk.2]
grind_pattern searchSeq_frame => searchSeq (ts ++ semi :: Y) ks
theorem firstEnum_frame (tbl : List (String × List String)) (ht : tableNoSemi tbl = true) (ts : List Tok) :
    firstEnum tbl (ts ++ semi :: Y) = (firstEnum tbl ts).map fun p => (p.1, p.2 ++ semi :: Y) := by
  induction tbl with
  | nil => simp [firstEnum]
  | cons e tbl ih =>
    obtain ⟨n, ks⟩ := e
    simp only [tableNoSemi, List.all_cons, Bool.and_eq_true] at ht
    have ih' := ih (by simpa [tableNoSemi] using ht.2)
    simp only [firstEnum, searchSeq_frame hs Y ts ks ht.1, ih']
    split
    · rename_i h
      have hl : ks.length ≤ ts.length := by
        clear ih ih' ht
        induction ks generalizing ts with
        | nil => simp
        | cons k ks ih2 => cases ts with
          | nil => simp [searchSeq] at h
          | cons t ts => simp only [searchSeq, Bool.and_eq_true] at h; simpa using ih2 ts h.2
      simp [List.drop_append_of_le_length hl]
    · rfl
grind_pattern firstEnum_frame => firstEnum tbl (ts ++ semi :: Y)
theorem startsSelect_frame (ts : List Tok) : startsSelect (ts ++ semi :: Y) = startsSelect ts :=
  searchSetUp_frame hs Y ts _ (by decide)
grind_pattern startsSelect_frame => startsSelect (ts ++ semi :: Y)
theorem headIsOver_frame (ts : List Tok) : headIsOver (ts ++ semi :: Y) = headIsOver ts := by
  cases ts <;> simp [headIsOver, hs.srcEqUp "OVER" (by decide)]
grind_pattern headIsOver_frame => headIsOver (ts ++ semi :: Y)
theorem setOpHead_frame (ts : List Tok) : setOpHead (ts ++ semi :: Y) = setOpHead ts := by
  cases ts <;> simp [setOpHead, hs.upSrc]
grind_pattern setOpHead_frame => setOpHead (ts ++ semi :: Y)
theorem joinHead_frame (ts : List Tok) : joinHead (ts ++ semi :: Y) = joinHead ts := by
  cases ts <;> simp [joinHead, hs.upSrc]
grind_pattern joinHead_frame => joinHead (ts ++ semi :: Y)
theorem onUsingHead_frame (ts : List Tok) : onUsingHead (ts ++ semi :: Y) = onUsingHead ts := by
  cases ts <;> simp [onUsingHead, hs.upSrc]
grind_pattern onUsingHead_frame => onUsingHead (ts ++ semi :: Y)
theorem chainsOn_frame (ts : List Tok) : chainsOn (ts ++ semi :: Y) = chainsOn ts := by
  cases ts <;> simp [chainsOn, hs.upSrc]
grind_pattern chainsOn_frame => chainsOn (ts ++ semi :: Y)
theorem skipNot_frame (d : Gen.D) (ts : List Tok) : skipNot d (ts ++ semi :: Y) = ((skipNot d ts).1, (skipNot d ts).2 ++ semi :: Y) := by
  cases ts with
  | nil => have := notSet_semi d; simp only [List.contains_eq_mem, decide_eq_false_iff_not] at this; simp [skipNot, hs.upSrc, this]
  | cons t r => simp only [skipNot, List.cons_append]; split <;> rfl

grind_pattern skipNot_frame => skipNot d (ts ++ semi :: Y)
/-! ### what a successful look-ahead says about the length of the cursor (for `drop`) -/
omit hs in
theorem drop_frame (ts X : List Tok) (n : Nat) (h : n ≤ ts.length) : (ts ++ X).drop n = ts.drop n ++ X :=
  List.drop_append_of_le_length h
grind_pattern drop_frame => List.drop n (ts ++ X)
omit hs in
theorem searchStrUp_len {ts : List Tok} {k : String} (h : searchStrUp ts k = true) : 1 ≤ ts.length := by
  cases ts <;> simp [searchStrUp] at h ⊢
grind_pattern searchStrUp_len => searchStrUp ts k
omit hs in
theorem searchStr_len {ts : List Tok} {k : String} (h : searchStr ts k = true) : 1 ≤ ts.length := by
  cases ts <;> simp [searchStr] at h ⊢
grind_pattern searchStr_len => searchStr ts k
omit hs in
theorem searchMark_len {ts : List Tok} {m : Nat} (h : searchMark ts m = true) : 1 ≤ ts.length := by
  cases ts <;> simp [searchMark] at h ⊢
grind_pattern searchMark_len => searchMark ts m
omit hs in
theorem searchSet_len {ts : List Tok} {ks : List String} (h : searchSet ts ks = true) : 1 ≤ ts.length := by
  cases ts <;> simp [searchSet] at h ⊢
grind_pattern searchSet_len => searchSet ts ks
omit hs in
theorem searchSetUp_len {ts : List Tok} {ks : List String} (h : searchSetUp ts ks = true) : 1 ≤ ts.length := by
  cases ts <;> simp [searchSetUp] at h ⊢
grind_pattern searchSetUp_len => searchSetUp ts ks
omit hs in
theorem searchTwoUp_len {ts : List Tok} {a b : String} (h : searchTwoUp ts a b = true) : 2 ≤ ts.length := by
  rcases ts with _ | ⟨x, _ | ⟨y, r⟩⟩ <;> simp [searchTwoUp] at h ⊢
grind_pattern searchTwoUp_len => searchTwoUp ts a b
omit hs in
theorem searchThreeUp_len {ts : List Tok} {a b c : String} (h : searchThreeUp ts a b c = true) : 3 ≤ ts.length := by
  rcases ts with _ | ⟨x, _ | ⟨y, _ | ⟨z, r⟩⟩⟩ <;> simp [searchThreeUp] at h ⊢
grind_pattern searchThreeUp_len => searchThreeUp ts a b c
omit hs in
theorem searchSeq_len {ts : List Tok} {ks : List String} (h : searchSeq ts ks = true) : ks.length ≤ ts.length := by
  induction ks generalizing ts with
  | nil => simp
  | cons k ks ih => cases ts with
    | nil => simp [searchSeq] at h
    | cons t ts => simp only [searchSeq, Bool.and_eq_true] at h; simpa using ih h.2

grind_pattern searchSeq_len => searchSeq ts ks
theorem moveStrUp_frame (ts : List Tok) (k : String) (hk : k ≠ ";") :
    moveStrUp (ts ++ semi :: Y) k = ((moveStrUp ts k).1, (moveStrUp ts k).2 ++ semi :: Y) := by
  simp only [moveStrUp, searchStrUp_frame hs Y ts k hk]
  split
  · rename_i h; simp [drop_frame _ _ _ (searchStrUp_len h)]
  · rfl
grind_pattern moveStrUp_frame => moveStrUp (ts ++ semi :: Y) k
theorem moveStr_frame (ts : List Tok) (k : String) (hk : k ≠ ";") :
    moveStr (ts ++ semi :: Y) k = ((moveStr ts k).1, (moveStr ts k).2 ++ semi :: Y) := by
  simp only [moveStr, searchStr_frame hs Y ts k hk]
  split
  · rename_i h; simp [drop_frame _ _ _ (searchStr_len h)]
  · rfl
grind_pattern moveStr_frame => moveStr (ts ++ semi :: Y) k
theorem moveSetUp_frame (ts : List Tok) (ks : List String) (hk : ks.contains ";" = false) :
    moveSetUp (ts ++ semi :: Y) ks = ((moveSetUp ts ks).1, (moveSetUp ts ks).2 ++ semi :: Y) := by
  simp only [moveSetUp, searchSetUp_frame hs Y ts ks hk]
  split
  · rename_i h; simp [drop_frame _ _ _ (searchSetUp_len h)]
  · rfl
grind_pattern moveSetUp_frame => moveSetUp (ts ++ semi :: Y) ks
theorem moveSeq_frame (ts : List Tok) (ks : List String) (hk : kwsNoSemi ks = true) :
    moveSeq (ts ++ semi :: Y) ks = ((moveSeq ts ks).1, (moveSeq ts ks).2 ++ semi :: Y) := by
  simp only [moveSeq, searchSeq_frame hs Y ts ks hk]
  split
  · rename_i h; simp [drop_frame _ _ _ (searchSeq_len h)]
  · rfl
grind_pattern moveSeq_frame => moveSeq (ts ++ semi :: Y) ks
theorem moveTwoUp_frame (ts : List Tok) (a b : String) (ha : a ≠ ";") (hb : b ≠ ";") :
    moveTwoUp (ts ++ semi :: Y) a b = ((moveTwoUp ts a b).1, (moveTwoUp ts a b).2 ++ semi :: Y) := by
  simp only [moveTwoUp, searchTwoUp_frame hs Y ts a b ha hb]
  split
  · rename_i h; simp [drop_frame _ _ _ (searchTwoUp_len h)]
  · rfl
grind_pattern moveTwoUp_frame => moveTwoUp (ts ++ semi :: Y) a b
theorem moveThreeUp_frame (ts : List Tok) (a b c : String) (ha : a ≠ ";") (hb : b ≠ ";") (hc : c ≠ ";") :
    moveThreeUp (ts ++ semi :: Y) a b c = ((moveThreeUp ts a b c).1, (moveThreeUp ts a b c).2 ++ semi :: Y) := by
  simp only [moveThreeUp, searchThreeUp_frame hs Y ts a b c ha hb hc]
  split
  · rename_i h; simp [drop_frame _ _ _ (searchThreeUp_len h)]
  · rfl
grind_pattern moveThreeUp_frame => moveThreeUp (ts ++ semi :: Y) a b c
/-- the optional skip of the separator itself: at the end of `ts` it now consumes the appended `;` -/
theorem moveStr_semi (ts : List Tok) :
    moveStr (ts ++ semi :: Y) ";" = if ts = [] then (true, Y) else ((moveStr ts ";").1, (moveStr ts ";").2 ++ semi :: Y) := by
  cases ts with
  | nil => simp [moveStr, searchStr, hs.srcEq_semi]
  | cons t r => simp only [moveStr, searchStr, List.cons_append]; by_cases hq : t.srcEq ";" = true <;> simp [hq]
grind_pattern moveStr_semi => moveStr (ts ++ semi :: Y) ";"
omit hs in
theorem moveStr_nil (k : String) : moveStr [] k = (false, []) := rfl
grind_pattern moveStr_nil => moveStr [] k
omit hs in
theorem isEmpty_frame (ts : List Tok) : (ts ++ semi :: Y).isEmpty = false := by cases ts <;> rfl
grind_pattern isEmpty_frame => (ts ++ semi :: Y).isEmpty

end

/-! ### the relations the frame lemmas are stated with

`FrameRel X a b`: if the run `a` (on `ts`) succeeds with `(v, r)` then the run `b` (on `ts ++ X`) succeeds with `(v, r ++ X)`.
`MonoRel a b`: if `a` succeeds then `b` succeeds with the same result (more fuel; a cursor that is not the framed one).
Stated as relations between the two runs so that `grind` instantiates an induction hypothesis exactly once per call
of the ORIGINAL run (`grind_pattern … => …, f d n ts`) and never on terms it creates itself. -/
def FrameRel {α : Type} (X : List Tok) (a b : R α) : Prop := ∀ v r, a = .ok (v, r) → b = .ok (v, r ++ X)
@[grind =] theorem frameRel_ok {α : Type} (X : List Tok) (v : α) (r : List Tok) (b : R α) :
    FrameRel X (.ok (v, r)) b = (b = .ok (v, r ++ X)) := by simp [FrameRel]
@[grind =] theorem frameRel_error {α : Type} (X : List Tok) (e : Err) (b : R α) : FrameRel X (.error e) b = True := by simp [FrameRel]
/-- the same for the three functions that return `Option (value × cursor)` -/
def FrameRelO {α : Type} (X : List Tok) (a b : Except Err (Option (α × List Tok))) : Prop :=
  (∀ v r, a = .ok (some (v, r)) → b = .ok (some (v, r ++ X))) ∧ (a = .ok none → b = .ok none)
@[grind =] theorem frameRelO_some {α : Type} (X : List Tok) (v : α) (r : List Tok) (b) :
    FrameRelO X (.ok (some (v, r))) b = (b = .ok (some (v, r ++ X))) := by simp [FrameRelO]
@[grind =] theorem frameRelO_none {α : Type} (X : List Tok) (b : Except Err (Option (α × List Tok))) :
    FrameRelO X (.ok none) b = (b = .ok none) := by simp [FrameRelO]
@[grind =] theorem frameRelO_error {α : Type} (X : List Tok) (e : Err) (b : Except Err (Option (α × List Tok))) :
    FrameRelO X (.error e) b = True := by simp [FrameRelO]
def MonoRel {α : Type} (a b : Except Err α) : Prop := ∀ r, a = .ok r → b = .ok r
@[grind =] theorem monoRel_ok {α : Type} (r : α) (b : Except Err α) : MonoRel (.ok r) b = (b = .ok r) := by simp [MonoRel]
@[grind =] theorem monoRel_error {α : Type} (e : Err) (b : Except Err α) : MonoRel (.error e) b = True := by simp [MonoRel]
theorem MonoRel.rfl {α : Type} (a : Except Err α) : MonoRel a a := fun _ h => h

def SemiHead (X : List Tok) : Prop := ∃ semi Y, X = semi :: Y ∧ IsSemi semi
theorem SemiHead.mk' {semi : Tok} (hs : IsSemi semi) (Y : List Tok) : SemiHead (semi :: Y) := ⟨semi, Y, rfl, hs⟩

/-! ### consuming primitives: successful runs only, no side condition (`SemiHead X` only selects the `X` for `grind`) -/
section
variable {X : List Tok} (hX : SemiHead X)
include hX

theorem pop_frame (ts : List Tok) : FrameRel X (pop ts) (pop (ts ++ X)) := by
  intro v r h; cases ts <;> simp_all [pop]
grind_pattern pop_frame => SemiHead X, pop ts, pop (ts ++ X)
theorem popSrc_frame (ts : List Tok) : FrameRel X (popSrc ts) (popSrc (ts ++ X)) := by
  intro v r h; cases ts <;> simp_all [popSrc]
grind_pattern popSrc_frame => SemiHead X, popSrc ts, popSrc (ts ++ X)
theorem popInt_frame (ts : List Tok) : FrameRel X (popInt ts) (popInt (ts ++ X)) := by
  intro v r h
  cases ts with
  | nil => simp [popInt] at h
  | cons t ts => simp only [popInt, List.cons_append] at h ⊢; split at h <;> simp_all
grind_pattern popInt_frame => SemiHead X, popInt ts, popInt (ts ++ X)
theorem popAsInt_frame (ts : List Tok) : FrameRel X (popAsInt ts) (popAsInt (ts ++ X)) := by
  intro v r h
  cases ts with
  | nil => simp [popAsInt] at h
  | cons t ts => simp only [popAsInt, List.cons_append] at h ⊢; split at h <;> simp_all
grind_pattern popAsInt_frame => SemiHead X, popAsInt ts, popAsInt (ts ++ X)
theorem matchKw_frame (ts : List Tok) (k : String) : FrameRel X (matchKw ts k) (matchKw (ts ++ X) k) := by
  intro v r h
  cases ts with
  | nil => simp [matchKw] at h
  | cons t ts => simp only [matchKw, List.cons_append] at h ⊢; split at h <;> simp_all
grind_pattern matchKw_frame => SemiHead X, matchKw ts k, matchKw (ts ++ X) k
theorem matchSeq_frame (ts : List Tok) (ks : List String) : FrameRel X (matchSeq ts ks) (matchSeq (ts ++ X) ks) := by
  clear hX
  intro v r h
  induction ks generalizing ts with
  | nil => simp_all [matchSeq]
  | cons k ks ih => cases ts with
    | nil => simp [matchSeq] at h
    | cons t ts =>
      simp only [matchSeq, List.cons_append] at h ⊢
      split at h
      · rename_i hk; simp [hk, ih ts h]
      · simp at h
grind_pattern matchSeq_frame => SemiHead X, matchSeq ts ks, matchSeq (ts ++ X) ks
theorem headChildren_frame (ts : List Tok) : MonoRel (headChildren ts) (headChildren (ts ++ X)) := by
  intro v h; cases ts <;> simp_all [headChildren]
grind_pattern headChildren_frame => SemiHead X, headChildren ts, headChildren (ts ++ X)
theorem popSplit_frame (ts : List Tok) : FrameRel X (popSplit ts) (popSplit (ts ++ X)) := by
  intro v r h; cases ts <;> simp_all [popSplit]
grind_pattern popSplit_frame => SemiHead X, popSplit ts, popSplit (ts ++ X)
theorem getAliasName_frame (ts : List Tok) : FrameRel X (getAliasName ts) (getAliasName (ts ++ X)) := by
  intro v r h
  cases ts with
  | nil => simp [getAliasName] at h
  | cons t ts => simp only [getAliasName, List.cons_append] at h ⊢; split at h <;> simp_all
grind_pattern getAliasName_frame => SemiHead X, getAliasName ts, getAliasName (ts ++ X)

theorem pFuncName_frame (ts : List Tok) : FrameRel X (pFuncName ts) (pFuncName (ts ++ X)) := by
  obtain ⟨semi, Y, rfl, hs⟩ := hX
  intro v r h
  have hN := hs.name
  have hE := hs.equalsStr "." (by decide)
  rcases ts with _ | ⟨a, _ | ⟨b, _ | ⟨c, r'⟩⟩⟩
  · simp [pFuncName] at h
  · rcases Y with _ | ⟨y1, Y⟩ <;> simp only [pFuncName, List.nil_append, List.cons_append] at h ⊢ <;> grind -funext
  · simp only [pFuncName, List.nil_append, List.cons_append] at h ⊢; grind -funext
  · simp only [pFuncName, List.cons_append] at h ⊢; grind -funext
grind_pattern pFuncName_frame => SemiHead X, pFuncName ts, pFuncName (ts ++ X)

theorem pAlias_frame (ts : List Tok) : FrameRel X (pAlias ts) (pAlias (ts ++ X)) := by
  have hX' := hX
  obtain ⟨semi, Y, rfl, hs⟩ := hX
  intro v r h
  have hN := hs.name
  unfold pAlias at h ⊢
  grind -funext
grind_pattern pAlias_frame => SemiHead X, pAlias ts, pAlias (ts ++ X)

theorem pTableName_frame (ts : List Tok) : FrameRel X (pTableName ts) (pTableName (ts ++ X)) := by
  have hX' := hX
  obtain ⟨semi, Y, rfl, hs⟩ := hX
  intro v r h
  have hN := hs.name
  unfold pTableName at h ⊢
  grind -funext
grind_pattern pTableName_frame => SemiHead X, pTableName ts, pTableName (ts ++ X)

theorem orderTail_frame (e : Ast.Expr) (ts : List Tok) : FrameRel X (orderTail e ts) (orderTail e (ts ++ X)) := by
  have hX' := hX
  obtain ⟨semi, Y, rfl, hs⟩ := hX
  intro v r h
  unfold orderTail at h ⊢
  grind -funext
grind_pattern orderTail_frame => SemiHead X, orderTail e ts, orderTail e (ts ++ X)

theorem pLimit_frame (ts : List Tok) : FrameRel X (pLimit ts) (pLimit (ts ++ X)) := by
  have hX' := hX
  obtain ⟨semi, Y, rfl, hs⟩ := hX
  intro v r h
  unfold pLimit at h ⊢
  grind -funext
grind_pattern pLimit_frame => SemiHead X, pLimit ts, pLimit (ts ++ X)

/-- a loop with its own counter: the counter of the framed run is computed from a longer cursor, hence `g ≤ g'` -/
theorem multiAliasLoop_frame : ∀ g acc ts g', g ≤ g' → FrameRel X (multiAliasLoop g acc ts) (multiAliasLoop g' acc (ts ++ X)) := by
  have hX' := hX
  obtain ⟨semi, Y, rfl, hs⟩ := hX
  intro g
  induction g with
  | zero => intro acc ts g' _ v r h; simp [multiAliasLoop] at h
  | succ g ih =>
    intro acc ts g' hg v r h
    obtain ⟨k, rfl⟩ : ∃ k, g' = k + 1 := ⟨g' - 1, by omega⟩
    have ih' := fun acc ts => ih acc ts k (by omega)
    unfold multiAliasLoop at h ⊢
    grind -funext

grind_pattern multiAliasLoop_frame => SemiHead X, multiAliasLoop g acc ts, multiAliasLoop g' acc (ts ++ X)

theorem pMultiAlias_frame (ts : List Tok) : FrameRel X (pMultiAlias ts) (pMultiAlias (ts ++ X)) := by
  intro v r h
  unfold pMultiAlias at h ⊢
  grind -funext
grind_pattern pMultiAlias_frame => SemiHead X, pMultiAlias ts, pMultiAlias (ts ++ X)

end
end PM
