import MsqProofs.Lemmas.TQuery2E3
/-! Larger nested fragment (TQ2), expression layer: IN lists -/
open Lex PM Ast SR TP TP2
open TQ (tblTok unionWords lvlH isExists lvlH_eq lvlH_ge lvlH_of_le8 isOkPair tblOK)
namespace TQ2
variable {d : Gen.D} {ch : Expr → Bool}

theorem RT4.ncW {e : Expr} (h : RT4 d ch e) (L : Nat) : NoComma (W4 d ch e L) := by
  unfold W4 wrapT; split
  · exact grp_nocomma _
  · exact h.nocomma
theorem RT4.lenW {e : Expr} (h : RT4 d ch e) (L : Nat) : (W4 d ch e L).length ≤ tl4 e := by
  unfold W4 wrapT; split
  · simpa using tl4_pos e
  · exact h.len
theorem RT4.neW {e : Expr} (h : RT4 d ch e) (L : Nat) : W4 d ch e L ≠ [] := by
  obtain ⟨t, ts', hw, _⟩ := h.headW L
  rw [hw]; simp

theorem RT4.val {e : Expr} (h : RT4 d ch e) (hl : tl4 e ≤ 20) : TC.Val d (W4 d ch e 8) e :=
  ⟨TC.fullO_true.2 ((h.at 8 (by omega)).s8 (by omega)), h.hdW 8, h.ncW 8, Nat.le_trans (h.lenW 8) hl⟩

theorem comma_equals : commaTok.equalsStr "," = true := TP2.comma_equals
theorem cont9_in (n0 : Bool) (l v : Expr) (as : List Expr) (hv : RT4 d ch v ∧ tl4 v ≤ 20) (has : ∀ a ∈ as, RT4 d ch a ∧ tl4 a ≤ 20)
    (hl : Cont2 d (P9 d) (kwLoop d) 8 4 (W4 d ch l 9) l) :
    Cont2 d (P9 d) (kwLoop d) 8 4 (W4 d ch l 9 ++ (kwToks .in_ n0 ++ [grp (toksArgs4 d ch 8 (v :: as))])) (.kw .in_ n0 l (.subValue (v :: as))) :=
  TC.contO_true.1 (TC.cont9_in n0 l (TC.contO_true.2 hl)
    ⟨_, toksArgs4_eq 8 (v :: as), List.forall_mem_cons.2 ⟨hv.1.val hv.2, fun a ha => (has a ha).1.val (has a ha).2⟩⟩).ofFalse

end TQ2
