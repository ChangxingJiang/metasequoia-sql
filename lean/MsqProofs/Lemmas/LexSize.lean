import MsqProofs.Lemmas.LexLossless
/-!
# C19, text level: the token tree is no larger than (a constant times) the text

`sizeL` counts every node of the token tree: leaf tokens and bracket groups.  One `handle` call runs one summarised operation
(`execCore`), which adds at most one leaf (its `emit`) and at most one group (its `pop`); the lexer makes at most two `handle` calls per
character and one for END.  Hence `sizeL (lex text) ≤ 4·|text| + 2` for EVERY table that satisfies the table obligation `TableOK` (which
says, among other things, that every reachable operation has a summary) — the eight generated tables do.

Also: the pre-passes (`preproc_sql`'s replacement chain, the dialect rewrites of `parse_statements`) never lengthen the text.
-/
namespace Lex
variable {Cls : Type}

/-- nodes in all open frames -/
def sizeSt : List (List Tok) → Nat
  | [] => 0
  | f :: fs => sizeL f + sizeSt fs

theorem sizeL_append (a b : List Tok) : sizeL (a ++ b) = sizeL a + sizeL b := by
  induction a with
  | nil => simp [sizeL]
  | cons t ts ih => simp [sizeL, ih]; omega

theorem sizeSt_appendTop (t : Tok) (st st' : List (List Tok)) (h : appendTop t st = some st') :
    sizeSt st' = sizeSt st + t.size := by
  cases st with
  | nil => simp [appendTop] at h
  | cons f fs =>
    simp [appendTop] at h; subst h
    simp [sizeSt, sizeL_append, sizeL]; omega

theorem sizeL_le_sizeSt_getLast (st : List (List Tok)) (f : List Tok) (h : st.getLast? = some f) : sizeL f ≤ sizeSt st := by
  induction st with
  | nil => simp at h
  | cons g gs ih =>
    cases gs with
    | nil => simp at h; subst h; simp [sizeSt]
    | cons g2 gs2 =>
      have : (g2 :: gs2).getLast? = some f := by simpa [List.getLast?_cons_cons] using h
      have := ih this
      simp only [sizeSt] at *; omega

def Body.isEmit : Body → Bool | .emit _ => true | _ => false
def Grp.isPop : Grp → Bool | .pop _ _ => true | _ => false

theorem sizeSt_bodyStk {env : Env} {sm : Nat} {m : Mem} {now : Nat} {body : Body} {stk : List (List Tok)}
    (h : bodyStk env sm m now body = some stk) : sizeSt stk = sizeSt m.stack + body.isEmit.toNat := by
  cases body with
  | emit mk => simp [sizeSt_appendTop _ _ _ h, Tok.size, Body.isEmit]
  | keep | drop => cases h; rfl

theorem sizeSt_grpStk {env : Env} {sm : Nat} {grp : Grp} {stk stk' : List (List Tok)}
    (h : grpStk env sm grp stk = some stk') : sizeSt stk' = sizeSt stk + grp.isPop.toNat := by
  cases grp with
  | none => cases h; rfl
  | push => cases h; simp [sizeSt, sizeL, Grp.isPop]
  | pop k mk =>
    cases stk with
    | nil => cases h
    | cons f fs => simp only [sizeSt_appendTop _ _ _ h, Tok.size, sizeSt, Grp.isPop, Bool.toNat_true]; omega

theorem execCore_size (env : Env) (ss : S) (sm : Nat) (adv : Bool) (body : Body) (grp : Grp) (st : St) (ret : Bool) (m m' : Mem) (b : Bool)
    (h : execCore env ss sm adv body grp st ret m = .ok (m', b)) :
    sizeSt m'.stack = sizeSt m.stack + body.isEmit.toNat + grp.isPop.toNat := by
  obtain ⟨_, _, _, _, stk, h1, h2⟩ := execCore_ok env ss sm h
  rw [sizeSt_grpStk h2, sizeSt_bodyStk h1]

section table
variable (cfg : Cfg Cls) (advSt : List S) (wk : S → WK) (k : Nat)
  (hstep : ∀ text m sym m' b, handle cfg text m sym = .ok (m', b) → sizeSt m'.stack ≤ sizeSt m.stack + k)
include hstep

theorem feedAll_size (text cs : List Char) (m m' : Mem) (h : feedAll cfg text cs m = .ok m') :
    sizeSt m'.stack ≤ sizeSt m.stack + 2 * k * cs.length := by
  induction cs generalizing m with
  | nil => cases h; simp
  | cons c cs ih =>
    obtain ⟨m1, h1, h2⟩ := feedAllWith_cons_ok h
    have := ih m1 h2
    have : sizeSt m1.stack ≤ sizeSt m.stack + 2 * k := by
      rcases feedWith_ok h1 with h1 | ⟨m0, b, h0, h1⟩
      · have := hstep _ _ _ _ _ h1; omega
      · have := hstep _ _ _ _ _ h0; have := hstep _ _ _ _ _ h1; omega
    simp only [List.length_cons, Nat.mul_add]; omega

/-- if a `handle` call adds at most `k` nodes, the token tree has at most `2·k·|text| + k`: two calls per character, one for END -/
theorem lex_size_of_step (raw : List Char) (toks : List Tok) (h : lex cfg raw = .ok toks) :
    sizeL toks ≤ 2 * k * (cfg.pre raw).length + k := by
  obtain ⟨m, m', b, hm, hm', hf⟩ := lexWith_ok h
  have h1 := feedAll_size cfg k hstep _ _ {} m hm
  have h2 := hstep _ _ _ _ _ hm'
  have h3 := sizeL_le_sizeSt_getLast _ _ (finish_eq_ok hf).2.2
  have h0 : sizeSt ({} : Mem).stack = 0 := by simp [sizeSt, sizeL]
  omega
end table

section table
variable (cfg : Cfg Cls) (advSt : List S) (wk : S → WK)

/-- **the token tree has at most `4·|text| + 2` nodes** (leaf tokens and bracket groups), for every table under the table obligation -/
theorem lex_size (hT : TableOK cfg advSt wk = true) (raw : List Char) (toks : List Tok) (h : lex cfg raw = .ok toks) :
    sizeL toks ≤ 4 * (cfg.pre raw).length + 2 := by
  refine lex_size_of_step cfg 2 (fun text m sym m' b h => ?_) raw toks h
  obtain ⟨o, sm, _, _, _, hc⟩ := handle_ok_core cfg advSt wk text hT m m' sym b h
  have := execCore_size _ _ _ _ _ _ _ _ _ _ _ hc
  have := Bool.toNat_le sm.body.isEmit; have := Bool.toNat_le sm.grp.isPop
  omega
end table

/-! ### the pre-passes never lengthen the text -/
theorem replaceGo_length_le (pat rep : List Char) (hl : rep.length ≤ pat.length) : ∀ f t, (Py.replaceGo pat rep f t).length ≤ t.length := by
  intro f
  induction f with
  | zero => intro t; simp [Py.replaceGo]
  | succ f ih =>
    intro t
    cases t with
    | nil => simp [Py.replaceGo]
    | cons c r =>
      simp only [Py.replaceGo]
      split
      · rename_i hp
        have hle : pat.length ≤ (c :: r).length := (List.isPrefixOf_iff_prefix.mp hp).length_le
        have := ih ((c :: r).drop pat.length)
        simp only [List.length_append, List.length_drop] at *; omega
      · have := ih r; simp only [List.length_cons]; omega

theorem replace_length_le (pat rep t : List Char) (hl : rep.length ≤ pat.length) : (Py.replace pat rep t).length ≤ t.length := by
  unfold Py.replace; split
  · exact Nat.le_refl _
  · exact replaceGo_length_le pat rep hl _ t

theorem preWith_length_le (chain : List (List Char × List Char)) (hc : ∀ pr ∈ chain, pr.2.length ≤ pr.1.length) (t : List Char) :
    (preWith chain t).length ≤ t.length := by
  unfold preWith
  induction chain generalizing t with
  | nil => simp
  | cons pr rest ih =>
    simp only [List.foldl_cons]
    have h1 := replace_length_le pr.1 pr.2 t (hc pr (by simp))
    have h2 := ih (fun p hp => hc p (by simp [hp])) (Py.replace pr.1 pr.2 t)
    omega

end Lex
