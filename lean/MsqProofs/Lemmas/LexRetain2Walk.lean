import MsqProofs.Lemmas.LexScanWalk
/-!
# The retention obligation, arranged for the kernel

`retCheckW` checks that the keys of every row ascend and runs the pass `walk` of `LexWalk.lean` over it;
`retCheckW_sound`: it implies `retCheck`.
-/
namespace Lex
open Scan Spec

/-- `cellOKF` with the operation of the first lookup passed in, the second lookup by `lookupRetry` -/
noncomputable def cellOKop (ig : Ign) (cfg : Cfg Gen.Cls) (s : S) (μ : Mode) (o : Option Op) (n : Nat) : Bool :=
  match hInfoOp cfg s o with
  | none => true
  | some (s1, ret1, adv1, a1) =>
    match step μ n with
    | (μ', evs) =>
      let d := pd ig μ (some n)
      if ret1 then
        adv1 && lookaheads.all fun nx =>
          stepOK (isEmptySt cfg s) a1 d (pd ig μ' nx) (outK ig (classOfR (μ', evs) μ n nx))
      else
        !adv1 &&
        match firstOK (isEmptySt cfg s) a1 d with
        | none => false
        | some e1 =>
          match hInfoOp cfg s1 (lookupRetry cfg s1 n) with
          | none => true
          | some (_, _, adv2, a2) =>
            adv2 && lookaheads.all fun nx =>
              stepOK (e1 || isEmptySt cfg s1) a2 d (pd ig μ' nx) (outK ig (classOfR (μ', evs) μ n nx))

theorem cellOKop_eq (ig : Ign) (cfg : Cfg Gen.Cls) (s : S) (μ : Mode) (n : Nat) :
    cellOKop ig cfg s μ (lk (cfg.dflt s) (cfg.rows s) n) n = cellOK ig cfg s μ n := by
  have : lk (cfg.dflt s) (cfg.rows s) n = lookupF cfg s n := by rw [lookupF_eq]; rfl
  have hAt : ∀ s1, lookupRetry cfg s1 n = lookupF cfg s1 n := fun s1 => by rw [lookupRetry_eq, lookupF_eq]
  simp only [cellOKop, this, hAt, ← cellOKF_eq]
  rfl

noncomputable def retCheckW (ig : Ign) (cfg : Cfg Gen.Cls) : Bool :=
  allS.all fun s => ascending ((cfg.rows s).map (·.1)) && (rho s).all fun μ =>
    walk (cellOKop ig cfg s μ) (cfg.dflt s) codesAsc (cfg.rows s) && eofOK2 ig cfg s μ

theorem retCheckW_sound (ig : Ign) (cfg : Cfg Gen.Cls) (h : retCheckW ig cfg = true) : retCheck ig cfg = true := by
  simp only [retCheck, List.all_eq_true, Bool.and_eq_true]
  intro s hs μ hμ
  have h1 := (List.all_eq_true.mp h) s hs
  simp only [Bool.and_eq_true, List.all_eq_true] at h1
  obtain ⟨hasc, hall⟩ := h1
  obtain ⟨hw, he⟩ := hall μ hμ
  refine ⟨fun n hn => ?_, he⟩
  rw [← cellOKop_eq]
  exact walk_sound _ _ codesAsc (cfg.rows s) codesAsc_asc hasc hw n (mem_codesAsc hn)

end Lex
