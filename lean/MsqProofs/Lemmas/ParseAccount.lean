import MsqProofs.Lemmas.ParseAccountDefs
import MsqProofs.Lemmas.ParseOut
/-! GENERATED by tools/gen_out.py — C08: every function of the mutual block of MsqModel/Parse/Expr.lean returns a rest of its cursor (the first answer of `outF_all`), function by function -/
set_option linter.unusedVariables false
open Lex PM
namespace PM
variable (d : Gen.D)

theorem consF_all (n : Nat) : ConsF d n :=
  have h := outF_all d n
  { pElement := fun x0 => (h.pElement x0).1.1,
    pParen := fun x0 x1 => (h.pParen x0 x1).1.1,
    pNamed := fun x0 x1 x2 hp => ((h.pNamed x0 x1 x2).2 hp).1.1,
    pQualified := fun x0 x1 x2 hp => ((h.pQualified x0 x1 x2).2 hp).1.1,
    pIndex := fun x0 x1 => (h.pIndex x0 x1).1.1,
    pFuncIdx := fun x0 => (h.pFuncIdx x0).1.1,
    pFunc := fun x0 => (h.pFunc x0).1.1,
    pIfCall := fun x0 => (h.pIfCall x0).1.1,
    pFirstDiscard := fun x0 => (h.pFirstDiscard x0).1.1,
    pFirstArg := fun x0 => (h.pFirstArg x0).1.1,
    pCall := fun x0 x1 x2 => (h.pCall x0 x1 x2).1.1,
    pArgs := fun x0 x1 => (h.pArgs x0 x1).1.1,
    pCase := fun x0 => (h.pCase x0).1.1,
    pElseEnd := fun x0 => (h.pElseEnd x0).1.1,
    pWhens := fun x0 x1 => (h.pWhens x0 x1).1.1,
    pUnary := fun x0 => (h.pUnary x0).1.1,
    pCompute := fun x0 => (h.pCompute x0).1.1,
    pComputeLoop := fun x0 x1 x2 => (h.pComputeLoop x0 x1 x2).1.1,
    pKeyword := fun x0 x1 => (h.pKeyword x0 x1).1.1,
    pKwFirst := fun x0 x1 => (h.pKwFirst x0 x1).1.1,
    pKwRest := fun x0 x1 x2 => (h.pKwRest x0 x1 x2).1.1,
    pKwBody := fun x0 x1 x2 x3 => (h.pKwBody x0 x1 x2 x3).1.1,
    pBetween := fun x0 x1 x2 => (h.pBetween x0 x1 x2).1.1,
    pInBody := fun x0 x1 x2 => (h.pInBody x0 x1 x2).1.1,
    pCompare := fun x0 => (h.pCompare x0).1.1,
    pCompareLoop := fun x0 x1 => (h.pCompareLoop x0 x1).1.1,
    pNot := fun x0 => (h.pNot x0).1.1,
    pAnd := fun x0 => (h.pAnd x0).1.1,
    pAndLoop := fun x0 x1 => (h.pAndLoop x0 x1).1.1,
    pXor := fun x0 => (h.pXor x0).1.1,
    pXorLoop := fun x0 x1 => (h.pXorLoop x0 x1).1.1,
    pOr := fun x0 => (h.pOr x0).1.1,
    pOrLoop := fun x0 x1 => (h.pOrLoop x0 x1).1.1,
    pSubQuery := fun x0 => (h.pSubQuery x0).1.1,
    pCast := fun x0 => (h.pCast x0).1.1,
    pExtract := fun x0 => (h.pExtract x0).1.1,
    pWindow := fun x0 => (h.pWindow x0).1.1,
    pPartitionBy := fun x0 => (h.pPartitionBy x0).1.1,
    pComputeList := fun x0 x1 => (h.pComputeList x0 x1).1.1,
    pOrderItem := fun x0 => (h.pOrderItem x0).1.1,
    pOrderList := fun x0 x1 => (h.pOrderList x0 x1).1.1,
    pOrderByOpt := fun x0 => (h.pOrderByOpt x0).1.1,
    pSelectCol := fun x0 => (h.pSelectCol x0).1.1,
    pSelectCols := fun x0 x1 => (h.pSelectCols x0 x1).1.1,
    pTableExpr := fun x0 => (h.pTableExpr x0).1.1,
    pFromTable := fun x0 => (h.pFromTable x0).1.1,
    pFromTables := fun x0 x1 => (h.pFromTables x0 x1).1.1,
    pJoin := fun x0 => (h.pJoin x0).1.1,
    pJoinRule := fun x0 x1 x2 => (h.pJoinRule x0 x1 x2).1.1,
    pJoins := fun x0 x1 x2 x3 => (h.pJoins x0 x1 x2 x3).1.1,
    pOptOr := fun x0 x1 => (h.pOptOr x0 x1).1.1,
    pGroupingSets := fun x0 => (h.pGroupingSets x0).1.1,
    pGroupBy := fun x0 => (h.pGroupBy x0).1.1,
    pGroupCols := fun x0 => (h.pGroupCols x0).1.1,
    pGroupSetsOpt := fun x0 => (h.pGroupSetsOpt x0).1.1,
    pWithTable := fun x0 => (h.pWithTable x0).1.1,
    pWithBody := fun x0 x1 => (h.pWithBody x0 x1).1.1,
    pWithTables := fun x0 x1 => (h.pWithTables x0 x1).1.1,
    pWith := fun x0 => (h.pWith x0).1.1,
    pSelectBody := fun x0 x1 x2 x3 => (h.pSelectBody x0 x1 x2 x3).1.1,
    pFromOpt := fun x0 => (h.pFromOpt x0).1.1,
    pSelectRest := fun x0 x1 x2 x3 x4 x5 => (h.pSelectRest x0 x1 x2 x3 x4 x5).1.1,
    pSelectTail := fun x0 x1 x2 x3 x4 x5 x6 => (h.pSelectTail x0 x1 x2 x3 x4 x5 x6).1.1,
    pWhereGroup := fun x0 => (h.pWhereGroup x0).1.1,
    pHavingOrder := fun x0 => (h.pHavingOrder x0).1.1,
    pHiveClauses := fun x0 => (h.pHiveClauses x0).1.1,
    pSortBy := fun x0 => (h.pSortBy x0).1.1,
    pByList := fun x0 x1 => (h.pByList x0 x1).1.1,
    pLateral := fun x0 => (h.pLateral x0).1.1,
    pLaterals := fun x0 x1 x2 x3 => (h.pLaterals x0 x1 x2 x3).1.1,
    pSingle := fun x0 x1 => (h.pSingle x0 x1).1.1,
    pSingleParen := fun x0 x1 x2 x3 => (h.pSingleParen x0 x1 x2 x3).1.1,
    pSelectStmt := fun x0 x1 => (h.pSelectStmt x0 x1).1.1,
    pUnions := fun x0 x1 x2 => (h.pUnions x0 x1 x2).1.1 }

theorem pElement_consumes (n : Nat) : ∀ ts v r, (PM.pElement d n ts) = .ok (v, r) → ∃ used, ts = used ++ r :=
  fun ts v r h => (consF_all d n).pElement ts v r h
theorem pParen_consumes (n : Nat) : ∀ n0 r0 v r, (PM.pParen d n n0 r0) = .ok (v, r) → ∃ used, (n0 :: r0) = used ++ r :=
  fun n0 r0 v r h => (consF_all d n).pParen n0 r0 v r h
theorem pNamed_consumes (n : Nat) : ∀ n0 r0 ts v r, Sfx r0 ts → (PM.pNamed d n n0 r0 ts) = .ok (v, r) → ∃ used, ts = used ++ r :=
  fun n0 r0 ts v r hp h => (consF_all d n).pNamed n0 r0 ts hp v r h
theorem pQualified_consumes (n : Nat) : ∀ n0 r1 ts v r, Sfx r1 ts → (PM.pQualified d n n0 r1 ts) = .ok (v, r) → ∃ used, ts = used ++ r :=
  fun n0 r1 ts v r hp h => (consF_all d n).pQualified n0 r1 ts hp v r h
theorem pIndex_consumes (n : Nat) : ∀ x0 ts v r, (PM.pIndex d n x0 ts) = .ok (v, r) → ∃ used, ts = used ++ r :=
  fun x0 ts v r h => (consF_all d n).pIndex x0 ts v r h
theorem pFuncIdx_consumes (n : Nat) : ∀ ts v r, (PM.pFuncIdx d n ts) = .ok (v, r) → ∃ used, ts = used ++ r :=
  fun ts v r h => (consF_all d n).pFuncIdx ts v r h
theorem pFunc_consumes (n : Nat) : ∀ ts v r, (PM.pFunc d n ts) = .ok (v, r) → ∃ used, ts = used ++ r :=
  fun ts v r h => (consF_all d n).pFunc ts v r h
theorem pIfCall_consumes (n : Nat) : ∀ ts v r, (PM.pIfCall d n ts) = .ok (v, r) → ∃ used, ts = used ++ r :=
  fun ts v r h => (consF_all d n).pIfCall ts v r h
theorem pFirstDiscard_consumes (n : Nat) : ∀ ts r, (PM.pFirstDiscard d n ts) = .ok r → ∃ used, ts = used ++ r :=
  fun ts r h => (consF_all d n).pFirstDiscard ts r h
theorem pFirstArg_consumes (n : Nat) : ∀ ts v r, (PM.pFirstArg d n ts) = .ok (v, r) → ∃ used, ts = used ++ r :=
  fun ts v r h => (consF_all d n).pFirstArg ts v r h
theorem pCall_consumes (n : Nat) : ∀ x0 x1 ts v r, (PM.pCall d n x0 x1 ts) = .ok (v, r) → ∃ used, ts = used ++ r :=
  fun x0 x1 ts v r h => (consF_all d n).pCall x0 x1 ts v r h
theorem pArgs_consumes (n : Nat) : ∀ x0 ts v r, (PM.pArgs d n x0 ts) = .ok (v, r) → ∃ used, ts = used ++ r :=
  fun x0 ts v r h => (consF_all d n).pArgs x0 ts v r h
theorem pCase_consumes (n : Nat) : ∀ ts v r, (PM.pCase d n ts) = .ok (v, r) → ∃ used, ts = used ++ r :=
  fun ts v r h => (consF_all d n).pCase ts v r h
theorem pElseEnd_consumes (n : Nat) : ∀ ts v r, (PM.pElseEnd d n ts) = .ok (v, r) → ∃ used, ts = used ++ r :=
  fun ts v r h => (consF_all d n).pElseEnd ts v r h
theorem pWhens_consumes (n : Nat) : ∀ x0 ts v r, (PM.pWhens d n x0 ts) = .ok (v, r) → ∃ used, ts = used ++ r :=
  fun x0 ts v r h => (consF_all d n).pWhens x0 ts v r h
theorem pUnary_consumes (n : Nat) : ∀ ts v r, (PM.pUnary d n ts) = .ok (v, r) → ∃ used, ts = used ++ r :=
  fun ts v r h => (consF_all d n).pUnary ts v r h
theorem pCompute_consumes (n : Nat) : ∀ ts v r, (PM.pCompute d n ts) = .ok (v, r) → ∃ used, ts = used ++ r :=
  fun ts v r h => (consF_all d n).pCompute ts v r h
theorem pComputeLoop_consumes (n : Nat) : ∀ x0 x1 ts v r, (PM.pComputeLoop d n x0 x1 ts) = .ok (v, r) → ∃ used, ts = used ++ r :=
  fun x0 x1 ts v r h => (consF_all d n).pComputeLoop x0 x1 ts v r h
theorem pKeyword_consumes (n : Nat) : ∀ x0 ts v r, (PM.pKeyword d n x0 ts) = .ok (v, r) → ∃ used, ts = used ++ r :=
  fun x0 ts v r h => (consF_all d n).pKeyword x0 ts v r h
theorem pKwFirst_consumes (n : Nat) : ∀ x0 ts v r, (PM.pKwFirst d n x0 ts) = .ok (v, r) → ∃ used, ts = used ++ r :=
  fun x0 ts v r h => (consF_all d n).pKwFirst x0 ts v r h
theorem pKwRest_consumes (n : Nat) : ∀ x0 x1 ts v r, (PM.pKwRest d n x0 x1 ts) = .ok (v, r) → ∃ used, ts = used ++ r :=
  fun x0 x1 ts v r h => (consF_all d n).pKwRest x0 x1 ts v r h
theorem pKwBody_consumes (n : Nat) : ∀ x0 x1 x2 ts v r, (PM.pKwBody d n x0 x1 x2 ts) = .ok (some (v, r)) → ∃ used, ts = used ++ r :=
  fun x0 x1 x2 ts v r h => (consF_all d n).pKwBody x0 x1 x2 ts v r h
theorem pBetween_consumes (n : Nat) : ∀ x0 x1 ts v r, (PM.pBetween d n x0 x1 ts) = .ok (some (v, r)) → ∃ used, ts = used ++ r :=
  fun x0 x1 ts v r h => (consF_all d n).pBetween x0 x1 ts v r h
theorem pInBody_consumes (n : Nat) : ∀ x0 x1 ts v r, (PM.pInBody d n x0 x1 ts) = .ok (some (v, r)) → ∃ used, ts = used ++ r :=
  fun x0 x1 ts v r h => (consF_all d n).pInBody x0 x1 ts v r h
theorem pCompare_consumes (n : Nat) : ∀ ts v r, (PM.pCompare d n ts) = .ok (v, r) → ∃ used, ts = used ++ r :=
  fun ts v r h => (consF_all d n).pCompare ts v r h
theorem pCompareLoop_consumes (n : Nat) : ∀ x0 ts v r, (PM.pCompareLoop d n x0 ts) = .ok (v, r) → ∃ used, ts = used ++ r :=
  fun x0 ts v r h => (consF_all d n).pCompareLoop x0 ts v r h
theorem pNot_consumes (n : Nat) : ∀ ts v r, (PM.pNot d n ts) = .ok (v, r) → ∃ used, ts = used ++ r :=
  fun ts v r h => (consF_all d n).pNot ts v r h
theorem pAnd_consumes (n : Nat) : ∀ ts v r, (PM.pAnd d n ts) = .ok (v, r) → ∃ used, ts = used ++ r :=
  fun ts v r h => (consF_all d n).pAnd ts v r h
theorem pAndLoop_consumes (n : Nat) : ∀ x0 ts v r, (PM.pAndLoop d n x0 ts) = .ok (v, r) → ∃ used, ts = used ++ r :=
  fun x0 ts v r h => (consF_all d n).pAndLoop x0 ts v r h
theorem pXor_consumes (n : Nat) : ∀ ts v r, (PM.pXor d n ts) = .ok (v, r) → ∃ used, ts = used ++ r :=
  fun ts v r h => (consF_all d n).pXor ts v r h
theorem pXorLoop_consumes (n : Nat) : ∀ x0 ts v r, (PM.pXorLoop d n x0 ts) = .ok (v, r) → ∃ used, ts = used ++ r :=
  fun x0 ts v r h => (consF_all d n).pXorLoop x0 ts v r h
theorem pOr_consumes (n : Nat) : ∀ ts v r, (PM.pOr d n ts) = .ok (v, r) → ∃ used, ts = used ++ r :=
  fun ts v r h => (consF_all d n).pOr ts v r h
theorem pOrLoop_consumes (n : Nat) : ∀ x0 ts v r, (PM.pOrLoop d n x0 ts) = .ok (v, r) → ∃ used, ts = used ++ r :=
  fun x0 ts v r h => (consF_all d n).pOrLoop x0 ts v r h
theorem pSubQuery_consumes (n : Nat) : ∀ ts v r, (PM.pSubQuery d n ts) = .ok (v, r) → ∃ used, ts = used ++ r :=
  fun ts v r h => (consF_all d n).pSubQuery ts v r h
theorem pCast_consumes (n : Nat) : ∀ ts v r, (PM.pCast d n ts) = .ok (v, r) → ∃ used, ts = used ++ r :=
  fun ts v r h => (consF_all d n).pCast ts v r h
theorem pExtract_consumes (n : Nat) : ∀ ts v r, (PM.pExtract d n ts) = .ok (v, r) → ∃ used, ts = used ++ r :=
  fun ts v r h => (consF_all d n).pExtract ts v r h
theorem pWindow_consumes (n : Nat) : ∀ ts v r, (PM.pWindow d n ts) = .ok (v, r) → ∃ used, ts = used ++ r :=
  fun ts v r h => (consF_all d n).pWindow ts v r h
theorem pPartitionBy_consumes (n : Nat) : ∀ ts v r, (PM.pPartitionBy d n ts) = .ok (v, r) → ∃ used, ts = used ++ r :=
  fun ts v r h => (consF_all d n).pPartitionBy ts v r h
theorem pComputeList_consumes (n : Nat) : ∀ x0 ts v r, (PM.pComputeList d n x0 ts) = .ok (v, r) → ∃ used, ts = used ++ r :=
  fun x0 ts v r h => (consF_all d n).pComputeList x0 ts v r h
theorem pOrderItem_consumes (n : Nat) : ∀ ts v r, (PM.pOrderItem d n ts) = .ok (v, r) → ∃ used, ts = used ++ r :=
  fun ts v r h => (consF_all d n).pOrderItem ts v r h
theorem pOrderList_consumes (n : Nat) : ∀ x0 ts v r, (PM.pOrderList d n x0 ts) = .ok (v, r) → ∃ used, ts = used ++ r :=
  fun x0 ts v r h => (consF_all d n).pOrderList x0 ts v r h
theorem pOrderByOpt_consumes (n : Nat) : ∀ ts v r, (PM.pOrderByOpt d n ts) = .ok (v, r) → ∃ used, ts = used ++ r :=
  fun ts v r h => (consF_all d n).pOrderByOpt ts v r h
theorem pSelectCol_consumes (n : Nat) : ∀ ts v r, (PM.pSelectCol d n ts) = .ok (v, r) → ∃ used, ts = used ++ r :=
  fun ts v r h => (consF_all d n).pSelectCol ts v r h
theorem pSelectCols_consumes (n : Nat) : ∀ x0 ts v r, (PM.pSelectCols d n x0 ts) = .ok (v, r) → ∃ used, ts = used ++ r :=
  fun x0 ts v r h => (consF_all d n).pSelectCols x0 ts v r h
theorem pTableExpr_consumes (n : Nat) : ∀ ts v r, (PM.pTableExpr d n ts) = .ok (v, r) → ∃ used, ts = used ++ r :=
  fun ts v r h => (consF_all d n).pTableExpr ts v r h
theorem pFromTable_consumes (n : Nat) : ∀ ts v r, (PM.pFromTable d n ts) = .ok (v, r) → ∃ used, ts = used ++ r :=
  fun ts v r h => (consF_all d n).pFromTable ts v r h
theorem pFromTables_consumes (n : Nat) : ∀ x0 ts v r, (PM.pFromTables d n x0 ts) = .ok (v, r) → ∃ used, ts = used ++ r :=
  fun x0 ts v r h => (consF_all d n).pFromTables x0 ts v r h
theorem pJoin_consumes (n : Nat) : ∀ ts v r, (PM.pJoin d n ts) = .ok (v, r) → ∃ used, ts = used ++ r :=
  fun ts v r h => (consF_all d n).pJoin ts v r h
theorem pJoinRule_consumes (n : Nat) : ∀ x0 x1 ts v r, (PM.pJoinRule d n x0 x1 ts) = .ok (v, r) → ∃ used, ts = used ++ r :=
  fun x0 x1 ts v r h => (consF_all d n).pJoinRule x0 x1 ts v r h
theorem pJoins_consumes (n : Nat) : ∀ same outer acc inner v r, (PM.pJoins d n same outer acc inner) = .ok (v, r) → ∃ used, inner = used ++ r :=
  fun same outer acc inner v r h => (consF_all d n).pJoins same outer acc inner v r h
theorem pOptOr_consumes (n : Nat) : ∀ x0 ts v r, (PM.pOptOr d n x0 ts) = .ok (v, r) → ∃ used, ts = used ++ r :=
  fun x0 ts v r h => (consF_all d n).pOptOr x0 ts v r h
theorem pGroupingSets_consumes (n : Nat) : ∀ ts v r, (PM.pGroupingSets d n ts) = .ok (v, r) → ∃ used, ts = used ++ r :=
  fun ts v r h => (consF_all d n).pGroupingSets ts v r h
theorem pGroupBy_consumes (n : Nat) : ∀ ts v r, (PM.pGroupBy d n ts) = .ok (v, r) → ∃ used, ts = used ++ r :=
  fun ts v r h => (consF_all d n).pGroupBy ts v r h
theorem pGroupCols_consumes (n : Nat) : ∀ ts v r, (PM.pGroupCols d n ts) = .ok (v, r) → ∃ used, ts = used ++ r :=
  fun ts v r h => (consF_all d n).pGroupCols ts v r h
theorem pGroupSetsOpt_consumes (n : Nat) : ∀ ts v r, (PM.pGroupSetsOpt d n ts) = .ok (v, r) → ∃ used, ts = used ++ r :=
  fun ts v r h => (consF_all d n).pGroupSetsOpt ts v r h
theorem pWithTable_consumes (n : Nat) : ∀ ts v r, (PM.pWithTable d n ts) = .ok (v, r) → ∃ used, ts = used ++ r :=
  fun ts v r h => (consF_all d n).pWithTable ts v r h
theorem pWithBody_consumes (n : Nat) : ∀ x0 ts v r, (PM.pWithBody d n x0 ts) = .ok (v, r) → ∃ used, ts = used ++ r :=
  fun x0 ts v r h => (consF_all d n).pWithBody x0 ts v r h
theorem pWithTables_consumes (n : Nat) : ∀ x0 ts v r, (PM.pWithTables d n x0 ts) = .ok (v, r) → ∃ used, ts = used ++ r :=
  fun x0 ts v r h => (consF_all d n).pWithTables x0 ts v r h
theorem pWith_consumes (n : Nat) : ∀ ts v r, (PM.pWith d n ts) = .ok (v, r) → ∃ used, ts = used ++ r :=
  fun ts v r h => (consF_all d n).pWith ts v r h
theorem pSelectBody_consumes (n : Nat) : ∀ w same outer inner v r, (PM.pSelectBody d n w same outer inner) = .ok (v, r) → ∃ used, inner = used ++ r :=
  fun w same outer inner v r h => (consF_all d n).pSelectBody w same outer inner v r h
theorem pFromOpt_consumes (n : Nat) : ∀ ts v r, (PM.pFromOpt d n ts) = .ok (v, r) → ∃ used, ts = used ++ r :=
  fun ts v r h => (consF_all d n).pFromOpt ts v r h
theorem pSelectRest_consumes (n : Nat) : ∀ w di co same outer inner v r, (PM.pSelectRest d n w di co same outer inner) = .ok (v, r) → ∃ used, inner = used ++ r :=
  fun w di co same outer inner v r h => (consF_all d n).pSelectRest w di co same outer inner v r h
theorem pSelectTail_consumes (n : Nat) : ∀ x0 x1 x2 x3 x4 x5 ts v r, (PM.pSelectTail d n x0 x1 x2 x3 x4 x5 ts) = .ok (v, r) → ∃ used, ts = used ++ r :=
  fun x0 x1 x2 x3 x4 x5 ts v r h => (consF_all d n).pSelectTail x0 x1 x2 x3 x4 x5 ts v r h
theorem pWhereGroup_consumes (n : Nat) : ∀ ts v r, (PM.pWhereGroup d n ts) = .ok (v, r) → ∃ used, ts = used ++ r :=
  fun ts v r h => (consF_all d n).pWhereGroup ts v r h
theorem pHavingOrder_consumes (n : Nat) : ∀ ts v r, (PM.pHavingOrder d n ts) = .ok (v, r) → ∃ used, ts = used ++ r :=
  fun ts v r h => (consF_all d n).pHavingOrder ts v r h
theorem pHiveClauses_consumes (n : Nat) : ∀ ts v r, (PM.pHiveClauses d n ts) = .ok (v, r) → ∃ used, ts = used ++ r :=
  fun ts v r h => (consF_all d n).pHiveClauses ts v r h
theorem pSortBy_consumes (n : Nat) : ∀ ts v r, (PM.pSortBy d n ts) = .ok (v, r) → ∃ used, ts = used ++ r :=
  fun ts v r h => (consF_all d n).pSortBy ts v r h
theorem pByList_consumes (n : Nat) : ∀ x0 ts v r, (PM.pByList d n x0 ts) = .ok (v, r) → ∃ used, ts = used ++ r :=
  fun x0 ts v r h => (consF_all d n).pByList x0 ts v r h
theorem pLateral_consumes (n : Nat) : ∀ ts v r, (PM.pLateral d n ts) = .ok (v, r) → ∃ used, ts = used ++ r :=
  fun ts v r h => (consF_all d n).pLateral ts v r h
theorem pLaterals_consumes (n : Nat) : ∀ same outer acc inner v r, (PM.pLaterals d n same outer acc inner) = .ok (v, r) → ∃ used, inner = used ++ r :=
  fun same outer acc inner v r h => (consF_all d n).pLaterals same outer acc inner v r h
theorem pSingle_consumes (n : Nat) : ∀ x0 ts v r, (PM.pSingle d n x0 ts) = .ok (v, r) → ∃ used, ts = used ++ r :=
  fun x0 ts v r h => (consF_all d n).pSingle x0 ts v r h
theorem pSingleParen_consumes (n : Nat) : ∀ w outer st inner v r, (PM.pSingleParen d n w outer st inner) = .ok (v, r) → ∃ used, outer = used ++ r :=
  fun w outer st inner v r h => (consF_all d n).pSingleParen w outer st inner v r h
theorem pSelectStmt_consumes (n : Nat) : ∀ x0 ts v r, (PM.pSelectStmt d n x0 ts) = .ok (v, r) → ∃ used, ts = used ++ r :=
  fun x0 ts v r h => (consF_all d n).pSelectStmt x0 ts v r h
theorem pUnions_consumes (n : Nat) : ∀ x0 x1 ts v r, (PM.pUnions d n x0 x1 ts) = .ok (v, r) → ∃ used, ts = used ++ r :=
  fun x0 x1 ts v r h => (consF_all d n).pUnions x0 x1 ts v r h

end PM
