import MsqProofs.Lemmas.ParseAccountTexts0
import MsqProofs.Lemmas.ParseAccountAttr
/-!
# C08, accounting for EVERY function of the parser model — hand-written base, part 1: texts and the `Full` fragment of results

* `tX v` — every string stored in the typed value `v` (`Val.texts (toVal v)`), for every type of the abstract syntax: expressions
  (`PM.tE`, reused), order items, table references, joins, GROUP BY, lateral views, WITH tables, SELECT statements, unions.
  One equation per constructor (`[grind =]`), list forms with `nil` / `cons` / `append`.
* `FullE e` … — the RESULT is not degenerate at a position where the parser takes the children of the next token WITHOUT testing
  that it is a bracket group (class F-C08-6: a word standing there is consumed as an empty group and dropped): a function call has
  at least one argument, `IN (…)` at least one value, a window at least one of PARTITION BY / ORDER BY / ROWS, `GROUPING SETS` at
  least one set.  Stated on the result, so no hypothesis on the token list is needed: where the result is not degenerate the
  token WAS a group (it had children).  What this excludes besides the defect: `f()`, `x IN ()`, `OVER ()`, `GROUPING SETS ()`.
-/
open Lex PM Ast

namespace PA

/-! ### texts -/
def tOS (s : Option String) : List String := (Val.optStr s).texts
def tStrs (l : List String) : List String := Val.textsL (l.map .str)
def tInts (l : List Int) : List String := Val.textsL (l.map .int)
def tOI (l : Option Int) : List String := (Val.optInt l).texts
def tRow (r : RowItem) : List String := r.toVal.texts
def tOrd (o : OrderItem) : List String := o.toVal.texts
def tOrds (l : List OrderItem) : List String := Val.textsL (orders l)
def tOOrds : Option (List OrderItem) → List String | none => [] | some l => tOrds l
def tOL : Option (List Expr) → List String | none => [] | some l => tEs l
def tTR (t : TableRef) : List String := t.toVal.texts
def tFT (t : FromTable) : List String := t.toVal.texts
def tFTs (l : List FromTable) : List String := Val.textsL (fromTables l)
def tOFTs : Option (List FromTable) → List String | none => [] | some l => tFTs l
def tJ (j : Join) : List String := j.toVal.texts
def tJs (l : List Join) : List String := Val.textsL (joins l)
def tELs (l : List (List Expr)) : List String := Val.textsL (exprLists l)
def tOLL : Option (List (List Expr)) → List String | none => [] | some l => tELs l
def tGB (g : GroupBy) : List String := g.toVal.texts
def tOGB : Option GroupBy → List String | none => [] | some g => tGB g
def tLat (l : Lateral) : List String := l.toVal.texts
def tLats (l : List Lateral) : List String := Val.textsL (laterals l)
def tWT (w : WithTable) : List String := w.toVal.texts
def tWTs (l : List WithTable) : List String := Val.textsL (withTables l)
def tOWTs : Option (List WithTable) → List String | none => [] | some l => tWTs l
def tCol (c : Expr × Option String) : List String := tE c.1 ++ tOS c.2
def tCols (l : List (Expr × Option String)) : List String := Val.textsL (selectCols l)
def tLim (l : Option (Int × Option Int)) : List String := (limitVal l).texts
def tSel (s : Select) : List String := s.toVal.texts
def tUn (l : List (String × Select)) : List String := Val.textsL (unionElems l)
def tQ (q : Query) : List String := q.toVal.texts
def withsOf : Select → Option (List WithTable) | .mk ws .. => ws

attribute [tx] tOS tStrs tInts tOI tRow tOrd tOrds tOOrds tOL tTR tFT tFTs tOFTs tJ tJs tELs tOLL tGB tOGB tLat tLats tWT tWTs tOWTs tCol tCols tLim tSel tUn tQ tE tEs tOpt tArms Expr.toVal OrderItem.toVal TableRef.toVal FromTable.toVal JoinRule.toVal Join.toVal GroupBy.toVal Lateral.toVal WithTable.toVal Select.toVal Query.toVal RowItem.toVal exprs optExpr arms orders fromTables joins exprLists laterals withTables withsVal selectCols fromClauseVal whereClauseVal groupByClauseVal havingClauseVal orderByClauseVal sortByClauseVal distributeByClauseVal clusterByClauseVal unionElems fnName Ast.alias limitVal tableNameVal Val.texts Val.textsL Val.textsF Val.optStr Val.optInt Val.ofOpt Val.strs textsL_arms
/-- unfold the texts of a typed value down to the strings stored in it.  The definitions are collected under the attribute `tx` so that
their equations are set up once, not in every proof. -/
macro "tx_simp" : tactic => `(tactic| simp [tx])

@[grind =] theorem tOS_none : tOS none = [] := by tx_simp
@[grind =] theorem tOS_some (a : String) : tOS (some a) = [a] := by tx_simp
@[grind =] theorem tStrs_eq (l : List String) : tStrs l = l := by
  induction l with
  | nil => tx_simp
  | cons a l ih => simp_all [tStrs, Val.textsL, Val.texts]
theorem textsL_append (a b : List Val) : Val.textsL (a ++ b) = Val.textsL a ++ Val.textsL b := by
  induction a with
  | nil => simp [Val.textsL]
  | cons x a ih => simp [Val.textsL, ih]

@[grind =] theorem tOOrds_none : tOOrds none = [] := rfl
@[grind =] theorem tOOrds_some (l) : tOOrds (some l) = tOrds l := rfl
@[grind =] theorem tOL_none : tOL none = [] := rfl
@[grind =] theorem tOL_some (l) : tOL (some l) = tEs l := rfl
@[grind =] theorem tOFTs_none : tOFTs none = [] := rfl
@[grind =] theorem tOFTs_some (l) : tOFTs (some l) = tFTs l := rfl
@[grind =] theorem tOLL_none : tOLL none = [] := rfl
@[grind =] theorem tOLL_some (l) : tOLL (some l) = tELs l := rfl
@[grind =] theorem tOGB_none : tOGB none = [] := rfl
@[grind =] theorem tOGB_some (g) : tOGB (some g) = tGB g := rfl
@[grind =] theorem tOWTs_none : tOWTs none = [] := rfl
@[grind =] theorem tOWTs_some (l) : tOWTs (some l) = tWTs l := rfl

/-! the expression constructors that `ParseAccountTexts0` leaves out -/
@[grind =] theorem tE_func (s : Option String) (n : String) (ps : List Expr) : tE (.func s n ps) = tOS s ++ n :: tEs ps := by
  cases s <;> tx_simp
@[grind =] theorem tE_agg (n : String) (ps : List Expr) (dd : Bool) : tE (.agg n ps dd) = n :: tEs ps := by tx_simp
@[grind =] theorem tE_cast (e : Expr) (sg : Bool) (ty : String) (ps : Option (List Int)) :
    tE (.cast e sg ty ps) = "CAST" :: (tE e ++ ty :: (match ps with | none => [] | some l => tInts l)) := by
  cases ps <;> tx_simp
@[grind =] theorem tE_extract (n e : Expr) : tE (.extract n e) = "EXTRACT" :: (tE n ++ tE e) := by tx_simp
@[grind =] theorem tE_window (fn : Expr) (part : List Expr) (ord : List OrderItem) (rows : Option (RowItem × RowItem)) :
    tE (.window fn part ord rows) = tE fn ++ (tEs part ++ (tOrds ord ++ (match rows with | none => [] | some (a, b) => tRow a ++ tRow b))) := by
  cases rows with
  | none => tx_simp
  | some p => obtain ⟨a, b⟩ := p; tx_simp
@[grind =] theorem tE_subValue (vs : List Expr) : tE (.subValue vs) = tEs vs := by tx_simp
@[grind =] theorem tE_subQuery (q : Query) : tE (.subQuery q) = tQ q := by tx_simp
@[grind =] theorem tE_exists (v : Expr) : tE (.exists_ v) = tE v := by tx_simp

@[grind =] theorem tOrd_mk (e : Expr) (dd nf nl : Bool) : tOrd (.mk e dd nf nl) = tE e ++ [if dd then "DESC" else "ASC"] := by tx_simp
@[grind =] theorem tOrds_nil : tOrds [] = [] := by tx_simp
@[grind =] theorem tOrds_cons (o : OrderItem) (l : List OrderItem) : tOrds (o :: l) = tOrd o ++ tOrds l := by tx_simp
@[grind =] theorem tOrds_append (a b : List OrderItem) : tOrds (a ++ b) = tOrds a ++ tOrds b := by
  induction a with
  | nil => simp [tOrds_nil]
  | cons x a ih => simp [tOrds_cons, ih]
@[grind =] theorem tTR_table (s : Option String) (n : String) : tTR (.table s n) = tOS s ++ [n] := by cases s <;> tx_simp
@[grind =] theorem tTR_sub (q : Query) : tTR (.sub q) = tQ q := by tx_simp
@[grind =] theorem tFT_mk (t : TableRef) (a : Option String) : tFT (.mk t a) = tTR t ++ tOS a := by cases a <;> tx_simp
@[grind =] theorem tFTs_nil : tFTs [] = [] := by tx_simp
@[grind =] theorem tFTs_cons (o : FromTable) (l : List FromTable) : tFTs (o :: l) = tFT o ++ tFTs l := by tx_simp
@[grind =] theorem tFTs_append (a b : List FromTable) : tFTs (a ++ b) = tFTs a ++ tFTs b := by
  induction a with
  | nil => simp [tFTs_nil]
  | cons x a ih => simp [tFTs_cons, ih]
@[grind =] theorem tJ_mk (ty : String) (t : FromTable) (rule : Option JoinRule) :
    tJ (.mk ty t rule) = ty :: (tFT t ++ (match rule with | none => [] | some (.on e) => tE e | some (.using f) => tE f)) := by
  cases rule with
  | none => tx_simp
  | some r => cases r <;> tx_simp
@[grind =] theorem tJs_nil : tJs [] = [] := by tx_simp
@[grind =] theorem tJs_cons (o : Join) (l : List Join) : tJs (o :: l) = tJ o ++ tJs l := by tx_simp
@[grind =] theorem tJs_append (a b : List Join) : tJs (a ++ b) = tJs a ++ tJs b := by
  induction a with
  | nil => simp [tJs_nil]
  | cons x a ih => simp [tJs_cons, ih]
@[grind =] theorem tELs_nil : tELs [] = [] := by tx_simp
@[grind =] theorem tELs_cons (o : List Expr) (l : List (List Expr)) : tELs (o :: l) = tEs o ++ tELs l := by tx_simp
@[grind =] theorem tELs_append (a b : List (List Expr)) : tELs (a ++ b) = tELs a ++ tELs b := by
  induction a with
  | nil => simp [tELs_nil]
  | cons x a ih => simp [tELs_cons, ih]
@[grind =] theorem tGB_mk (cols : List Expr) (sets : Option (List (List Expr))) (c r : Bool) : tGB (.mk cols sets c r) = tEs cols ++ tOLL sets := by
  cases sets <;> tx_simp
@[grind =] theorem tLat_mk (o : Bool) (fn : Expr) (v : String) (as : List String) : tLat (.mk o fn v as) = tE fn ++ v :: as := by
  have := tStrs_eq as
  simp only [tStrs] at this
  tx_simp; exact this
@[grind =] theorem tLats_nil : tLats [] = [] := by tx_simp
@[grind =] theorem tLats_cons (o : Lateral) (l : List Lateral) : tLats (o :: l) = tLat o ++ tLats l := by tx_simp
@[grind =] theorem tLats_append (a b : List Lateral) : tLats (a ++ b) = tLats a ++ tLats b := by
  induction a with
  | nil => simp [tLats_nil]
  | cons x a ih => simp [tLats_cons, ih]
@[grind =] theorem tWT_mk (n : String) (q : Query) : tWT (.mk n q) = n :: tQ q := by tx_simp
@[grind =] theorem tWTs_nil : tWTs [] = [] := by tx_simp
@[grind =] theorem tWTs_cons (o : WithTable) (l : List WithTable) : tWTs (o :: l) = tWT o ++ tWTs l := by tx_simp
@[grind =] theorem tWTs_append (a b : List WithTable) : tWTs (a ++ b) = tWTs a ++ tWTs b := by
  induction a with
  | nil => simp [tWTs_nil]
  | cons x a ih => simp [tWTs_cons, ih]
@[grind =] theorem tCol_mk (e : Expr) (a : Option String) : tCol (e, a) = tE e ++ tOS a := rfl
@[grind =] theorem tCols_nil : tCols [] = [] := by tx_simp
@[grind =] theorem tCols_cons (o : Expr × Option String) (l : List (Expr × Option String)) : tCols (o :: l) = tCol o ++ tCols l := by
  obtain ⟨e, a⟩ := o; cases a <;> tx_simp
@[grind =] theorem tCols_append (a b : List (Expr × Option String)) : tCols (a ++ b) = tCols a ++ tCols b := by
  induction a with
  | nil => simp [tCols_nil]
  | cons x a ih => simp [tCols_cons, ih]
@[grind =] theorem tLim_none : tLim none = [] := by tx_simp
@[grind =] theorem tLim_some (a : Int) (b : Option Int) : tLim (some (a, b)) = toString a :: tOI b := by cases b <;> tx_simp
@[grind =] theorem tOI_none : tOI none = [] := by tx_simp
@[grind =] theorem tOI_some (a : Int) : tOI (some a) = [toString a] := by tx_simp
@[grind =] theorem tInts_nil : tInts [] = [] := by tx_simp
@[grind =] theorem tInts_append (a b : List Int) : tInts (a ++ b) = tInts a ++ tInts b := by simp [tInts, textsL_append]
@[grind =] theorem tInts_one (a : Int) : tInts [a] = [toString a] := by tx_simp
@[grind =] theorem tRow_current : tRow .current = ["CURRENT_ROW"] := by tx_simp
@[grind =] theorem tRow_unbounded (p : Bool) : tRow (.unbounded p) = [if p then "PRECEDING" else "FOLLOWING"] := by tx_simp
@[grind =] theorem tRow_num (n : Int) (p : Bool) : tRow (.num n p) = [if p then "PRECEDING" else "FOLLOWING", toString n] := by tx_simp

/-! the optional clauses of a SELECT, one at a time (a case split over all nine at once is 512 cases) -/
theorem texts_withsVal (ws) : (withsVal ws).texts = tOWTs ws := by cases ws <;> tx_simp
theorem texts_fromClauseVal (fr) : (fromClauseVal fr).texts = tOFTs fr := by cases fr <;> tx_simp
theorem texts_whereClauseVal (e) : (whereClauseVal e).texts = tOpt e := by cases e <;> tx_simp
theorem texts_groupByClauseVal (g) : (groupByClauseVal g).texts = tOGB g := by cases g <;> tx_simp
theorem texts_havingClauseVal (e) : (havingClauseVal e).texts = tOpt e := by cases e <;> tx_simp
theorem texts_orderByClauseVal (l) : (orderByClauseVal l).texts = tOOrds l := by cases l <;> tx_simp
theorem texts_sortByClauseVal (l) : (sortByClauseVal l).texts = tOOrds l := by cases l <;> tx_simp
theorem texts_distributeByClauseVal (l) : (distributeByClauseVal l).texts = tOL l := by cases l <;> tx_simp
theorem texts_clusterByClauseVal (l) : (clusterByClauseVal l).texts = tOL l := by cases l <;> tx_simp
@[grind =] theorem tSel_mk (ws dist cols fr lats js wh gb hv ob sb db cb lm) :
    tSel (.mk ws dist cols fr lats js wh gb hv ob sb db cb lm) =
      tOWTs ws ++ (tCols cols ++ (tOFTs fr ++ (tLats lats ++ (tJs js ++ (tOpt wh ++ (tOGB gb ++ (tOpt hv ++ (tOOrds ob ++ (tOOrds sb ++
        (tOL db ++ (tOL cb ++ tLim lm))))))))))) := by
  simp only [tSel, Select.toVal, Val.texts, Val.textsF, texts_withsVal, texts_fromClauseVal, texts_whereClauseVal, texts_groupByClauseVal,
    texts_havingClauseVal, texts_orderByClauseVal, texts_sortByClauseVal, texts_distributeByClauseVal, texts_clusterByClauseVal,
    tCols, tLats, tJs, tLim, List.append_nil, List.nil_append]
@[grind =] theorem withsOf_mk (ws dist cols fr lats js wh gb hv ob sb db cb lm) :
    withsOf (.mk ws dist cols fr lats js wh gb hv ob sb db cb lm) = ws := rfl
/-- a branch of a union: the WITH clause is recorded once on the union, the branch gets the empty one -/
theorem tSel_split (s : Select) : tSel s = tOWTs (withsOf s) ++ tSel (setWiths s) := by
  cases s; simp [tSel_mk, setWiths, withsOf, tOWTs, tWTs_nil]
@[grind =] theorem tUn_nil : tUn [] = [] := by tx_simp
@[grind =] theorem tUn_cons (t : String) (s : Select) (l : List (String × Select)) : tUn ((t, s) :: l) = t :: (tSel s ++ tUn l) := by tx_simp
@[grind =] theorem tQ_single (s : Select) : tQ (.single s) = tSel s := by tx_simp
@[grind =] theorem tQ_union (ws : Option (List WithTable)) (s : Select) (us : List (String × Select)) :
    tQ (.union ws s us) = tOWTs ws ++ (tSel s ++ tUn us) := by cases ws <;> tx_simp

/-- the branches of a union as the parser collects them (before `setWiths`) -/
def tUnS (l : List (String × Select)) : List String := tUn (l.map fun p => (p.1, setWiths p.2))
@[grind =] theorem tUnS_nil : tUnS [] = [] := by simp [tUnS, tUn_nil]
@[grind =] theorem tUnS_cons (t : String) (s : Select) (l : List (String × Select)) : tUnS ((t, s) :: l) = t :: (tSel (setWiths s) ++ tUnS l) := by
  simp [tUnS, tUn_cons]
@[grind =] theorem tUnS_append (a b : List (String × Select)) : tUnS (a ++ b) = tUnS a ++ tUnS b := by
  induction a with
  | nil => simp [tUnS_nil]
  | cons x a ih => obtain ⟨t, s⟩ := x; simp [tUnS_cons, ih]

/-! ### the `Full` fragment of results -/
mutual
def FullE : Expr → Bool
  | .column _ _ => true | .literal _ => true | .wildcard _ => true | .mybatis _ => true
  | .func _ _ ps => FullNE ps
  | .agg _ ps _ => FullNE ps
  | .cast e _ _ _ => FullE e
  | .extract n e => FullE n && FullE e
  | .window fn part ord rows => FullE fn && (FullL part && (FullOrds ord && (!part.isEmpty || !ord.isEmpty || rows.isSome)))
  | .caseCond cs e => FullA cs && FullO e
  | .caseVal v cs e => FullE v && (FullA cs && FullO e)
  | .subValue vs => FullNE vs
  | .subQuery q => FullQ q
  | .exists_ v => FullE v
  | .index a i => FullE a && FullE i
  | .unary _ e => FullE e
  | .compute l _ r => FullE l && FullE r
  | .kw _ _ l r => FullE l && FullE r
  | .between _ b f t => FullE b && (FullE f && FullE t)
  | .compare _ l r => FullE l && FullE r
  | .not_ e => FullE e
  | .and_ l r => FullE l && FullE r
  | .xor l r => FullE l && FullE r
  | .or_ l r => FullE l && FullE r
def FullNE : List Expr → Bool
  | [] => false | e :: r => FullE e && FullL r
def FullL : List Expr → Bool
  | [] => true | e :: r => FullE e && FullL r
def FullA : List (Expr × Expr) → Bool
  | [] => true | (w, t) :: r => FullE w && (FullE t && FullA r)
def FullO : Option Expr → Bool
  | none => true | some e => FullE e
def FullOrd : OrderItem → Bool
  | .mk e _ _ _ => FullE e
def FullOrds : List OrderItem → Bool
  | [] => true | o :: r => FullOrd o && FullOrds r
def FullOOrds : Option (List OrderItem) → Bool
  | none => true | some l => FullOrds l
def FullOL : Option (List Expr) → Bool
  | none => true | some l => FullL l
def FullTR : TableRef → Bool
  | .table _ _ => true | .sub q => FullQ q
def FullFT : FromTable → Bool
  | .mk t _ => FullTR t
def FullFTs : List FromTable → Bool
  | [] => true | t :: r => FullFT t && FullFTs r
def FullOFTs : Option (List FromTable) → Bool
  | none => true | some l => FullFTs l
def FullJR : JoinRule → Bool
  | .on e => FullE e | .using f => FullE f
def FullOJR : Option JoinRule → Bool
  | none => true | some r => FullJR r
def FullJ : Join → Bool
  | .mk _ t rule => FullFT t && FullOJR rule
def FullJs : List Join → Bool
  | [] => true | j :: r => FullJ j && FullJs r
def FullLL : List (List Expr) → Bool
  | [] => true | l :: r => FullL l && FullLL r
/-- `GROUPING SETS`: at least one set -/
def FullOLL : Option (List (List Expr)) → Bool
  | none => true | some l => !l.isEmpty && FullLL l
def FullGB : GroupBy → Bool
  | .mk cols sets _ _ => FullL cols && FullOLL sets
def FullOGB : Option GroupBy → Bool
  | none => true | some g => FullGB g
def FullLat : Lateral → Bool
  | .mk _ fn _ _ => FullE fn
def FullLats : List Lateral → Bool
  | [] => true | l :: r => FullLat l && FullLats r
def FullWT : WithTable → Bool
  | .mk _ q => FullQ q
def FullWTs : List WithTable → Bool
  | [] => true | w :: r => FullWT w && FullWTs r
def FullOWTs : Option (List WithTable) → Bool
  | none => true | some l => FullWTs l
def FullCols : List (Expr × Option String) → Bool
  | [] => true | (e, _) :: r => FullE e && FullCols r
def FullSel : Select → Bool
  | .mk ws _ cols fr lats js wh gb hv ob sb db cb _ =>
    FullOWTs ws && (FullCols cols && (FullOFTs fr && (FullLats lats && (FullJs js && (FullO wh && (FullOGB gb && (FullO hv && (FullOOrds ob &&
      (FullOOrds sb && (FullOL db && FullOL cb))))))))))
def FullUn : List (String × Select) → Bool
  | [] => true | (_, s) :: r => FullSel s && FullUn r
def FullQ : Query → Bool
  | .single s => FullSel s
  | .union ws s us => FullOWTs ws && (FullSel s && FullUn us)
end
def FullSt : List (Expr × String × Nat) → Bool
  | [] => true | (l, _, _) :: st => FullE l && FullSt st
def FullCol (c : Expr × Option String) : Bool := FullE c.1
def FullUnS (l : List (String × Select)) : Bool := FullUn (l.map fun p => (p.1, setWiths p.2))

attribute [grind =] FullE FullNE FullL FullA FullO FullOrd FullOrds FullOOrds FullOL FullTR FullFT FullFTs FullOFTs FullJR FullOJR FullJ FullJs FullLL
  FullOLL FullGB FullOGB FullLat FullLats FullWT FullWTs FullOWTs FullCols FullSel FullUn FullQ FullSt FullCol

theorem FullNE_iff (l : List Expr) : FullNE l = (!l.isEmpty && FullL l) := by cases l <;> simp [FullNE, FullL]
@[grind =] theorem FullL_append (as bs : List Expr) : FullL (as ++ bs) = (FullL as && FullL bs) := by
  induction as with
  | nil => simp [FullL]
  | cons a as ih => simp [FullL, ih, Bool.and_assoc]
@[grind =] theorem FullA_append (as bs : List (Expr × Expr)) : FullA (as ++ bs) = (FullA as && FullA bs) := by
  induction as with
  | nil => simp [FullA]
  | cons a as ih => obtain ⟨w, t⟩ := a; simp [FullA, ih, Bool.and_assoc]
@[grind =] theorem FullOrds_append (as bs : List OrderItem) : FullOrds (as ++ bs) = (FullOrds as && FullOrds bs) := by
  induction as with
  | nil => simp [FullOrds]
  | cons a as ih => simp [FullOrds, ih, Bool.and_assoc]
@[grind =] theorem FullFTs_append (as bs : List FromTable) : FullFTs (as ++ bs) = (FullFTs as && FullFTs bs) := by
  induction as with
  | nil => simp [FullFTs]
  | cons a as ih => simp [FullFTs, ih, Bool.and_assoc]
@[grind =] theorem FullJs_append (as bs : List Join) : FullJs (as ++ bs) = (FullJs as && FullJs bs) := by
  induction as with
  | nil => simp [FullJs]
  | cons a as ih => simp [FullJs, ih, Bool.and_assoc]
@[grind =] theorem FullLL_append (as bs : List (List Expr)) : FullLL (as ++ bs) = (FullLL as && FullLL bs) := by
  induction as with
  | nil => simp [FullLL]
  | cons a as ih => simp [FullLL, ih, Bool.and_assoc]
@[grind =] theorem FullLats_append (as bs : List Lateral) : FullLats (as ++ bs) = (FullLats as && FullLats bs) := by
  induction as with
  | nil => simp [FullLats]
  | cons a as ih => simp [FullLats, ih, Bool.and_assoc]
@[grind =] theorem FullWTs_append (as bs : List WithTable) : FullWTs (as ++ bs) = (FullWTs as && FullWTs bs) := by
  induction as with
  | nil => simp [FullWTs]
  | cons a as ih => simp [FullWTs, ih, Bool.and_assoc]
@[grind =] theorem FullCols_append (as bs : List (Expr × Option String)) : FullCols (as ++ bs) = (FullCols as && FullCols bs) := by
  induction as with
  | nil => simp [FullCols]
  | cons a as ih => obtain ⟨e, x⟩ := a; simp [FullCols, ih, Bool.and_assoc]
@[grind =] theorem FullCols_cons (c : Expr × Option String) (l) : FullCols (c :: l) = (FullCol c && FullCols l) := by
  obtain ⟨e, x⟩ := c; simp [FullCols, FullCol]
@[grind =] theorem FullUnS_nil : FullUnS [] = true := by simp [FullUnS, FullUn]
@[grind =] theorem FullUnS_append_one (as : List (String × Select)) (t : String) (s : Select) :
    FullUnS (as ++ [(t, s)]) = (FullUnS as && FullSel (setWiths s)) := by
  induction as with
  | nil => simp [FullUnS, FullUn]
  | cons a as ih => obtain ⟨u, x⟩ := a; simp_all [FullUnS, FullUn, Bool.and_assoc]
@[grind =] theorem FullE_callNode (s : Option String) (n : String) (a dd : Bool) (ps : List Expr) : FullE (callNode s n a dd ps) = FullNE ps := by
  unfold callNode; split <;> simp [FullE]
@[grind =] theorem tE_callNode (s : Option String) (n : String) (a dd : Bool) (ps : List Expr) (T : List String) :
    Sub (tE (callNode s n a dd ps)) T = (Sub (tOS s) T ∧ n ∈ T ∧ Sub (tEs ps) T) := by
  unfold callNode
  split
  · rename_i h; cases s <;> simp_all [tE_agg, tOS_none, sub_cons, sub_nil]
  · simp [tE_func, sub_append, sub_cons]
theorem FullSel_split (s : Select) : FullSel s = (FullOWTs (withsOf s) && FullSel (setWiths s)) := by
  cases s; simp [FullSel, setWiths, withsOf, FullOWTs, FullWTs]

end PA
