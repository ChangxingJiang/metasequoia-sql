import MsqProofs.Lemmas.TRestG1
/-!
# T-parse for ALTER TABLE (C03 / C01)

* `After d r` — what follows a clause of ALTER TABLE: the `,` of the next clause, or the continuation of the statement (`stopsAny`);
* `After.segEnd`: such a continuation is one the DDL pieces of `Lemmas/TDdl*.lean` are read back in front of (`TD.defCol_seg`,
  `TD.index_seg`, `TD.fk_seg`); the clause loop is `TC.commaLoop_ok` with an item parser that ignores the loop counter.
-/
open Lex PM Ast TP TS
namespace TR3
variable {d : Gen.D}

/-! ### what follows a clause -/
def After (d : Gen.D) (r : List Tok) : Prop := (∃ x, r = commaTok :: x) ∨ stopsAny d r = true
theorem After.comma (x : List Tok) : After d (commaTok :: x) := Or.inl ⟨x, rfl⟩
theorem After.stops {r : List Tok} (h : stopsAny d r = true) : After d r := Or.inr h
theorem up_comma : up "," = "," := by decide
theorem After.up {r : List Tok} (h : After d r) (k : String) (h1 : k ≠ ";") (h2 : k ≠ ",") : searchStrUp r k = false := by
  rcases h with ⟨x, rfl⟩ | h
  · simp only [searchStrUp, commaTok, TD.srcEqUp_opTok, up_comma, beq_eq_false_iff_ne, ne_eq]; exact fun e => h2 e.symm
  · exact sa_up h k h1
theorem After.str {r : List Tok} (h : After d r) (k : String) (h1 : k ≠ ";") (h2 : k ≠ ",") : searchStr r k = false := by
  rcases h with ⟨x, rfl⟩ | h
  · simp only [searchStr, commaTok, TD.srcEq_opTok, beq_eq_false_iff_ne, ne_eq]; exact fun e => h2 e.symm
  · exact sa_str h k h1
theorem After.two {r : List Tok} (h : After d r) (a b : String) (h1 : a ≠ ";") (h2 : a ≠ ",") : searchTwoUp r a b = false := by
  rcases h with ⟨x, rfl⟩ | h
  · have : commaTok.srcEqUp a = false := by
      simp only [commaTok, TD.srcEqUp_opTok, up_comma, beq_eq_false_iff_ne, ne_eq]; exact fun e => h2 e.symm
    cases x <;> simp [searchTwoUp, this]
  · exact sa_two h a b h1
theorem After.paren {r : List Tok} (h : After d r) : searchMark r PAREN = false := by
  rcases h with ⟨x, rfl⟩ | h
  · have : commaTok.has PAREN = false := by decide
    simpa [searchMark] using this
  · exact sa_paren h
theorem After.stop8 {r : List Tok} (h : After d r) : stopLE d 8 r = true := by
  rcases h with ⟨x, rfl⟩ | h
  · exact TS.comma_stop8 x
  · exact stopLE_mono (TP2.sl (sa_stops2 h)) (by omega)
theorem After.ends {r : List Tok} (h : After d r) : (r.isEmpty || searchStr r ";" || searchStr r ",") = true := by
  rcases h with ⟨x, rfl⟩ | h
  · have : commaTok.srcEq "," = true := by decide
    simp [searchStr, this]
  · exact sa_end h

/-- what the DDL pieces of `Lemmas/TDdl*.lean` ask of their continuation -/
theorem After.segEnd {r : List Tok} (h : After d r) : TD.SegEnd r := ⟨h.up, h.str, h.two, h.paren, h.ends⟩

theorem sizeL_colOrIdx_col (c : DefCol) : sizeL (toksColOrIdx d (.col c)) = sizeL (TD.toksDefCol d c) := rfl
theorem colOrIdx_ok (x : ColOrIdx) (hx : colOrIdxOK d x = true) (r : List Tok) (hr : After d r) (f : Nat)
    (hf : 20 * sizeL (toksColOrIdx d x) + 2 ≤ f) : pColOrIdx d f (toksColOrIdx d x ++ r) = .ok (x, r) := by
  cases x with
  | col c =>
    simp only [colOrIdxOK] at hx
    have h1 := TD.defCol_seg c hx r hr.segEnd hr.stop8 f hf
    simp only [toksColOrIdx] at h1 ⊢
    unfold pColOrIdx
    simp only [TD.toksDefCol, List.cons_append, List.append_assoc] at h1 ⊢
    kw_simp
    simp only [h1]
  | idx i =>
    simp only [colOrIdxOK] at hx
    have h1 := TD.index_seg i hx r hr.segEnd
    obtain ⟨k0, n0, cols, um, cm, kbs⟩ := i
    simp only [toksColOrIdx]
    unfold pColOrIdx
    cases k0 <;> simp only [TD.toksIndex, TD.kindToks, List.cons_append, List.nil_append, List.append_assoc] at h1 ⊢ <;> kw_simp <;> simp only [h1]
  | fk k =>
    simp only [colOrIdxOK] at hx
    have h1 := TD.fk_seg k hx r hr.segEnd
    simp only [toksColOrIdx]
    unfold pColOrIdx
    simp only [TD.toksFk, List.cons_append, List.append_assoc] at h1 ⊢
    kw_simp
    simp only [h1]

theorem partition_ok (p : List Expr) (hp : TDM3.PartRec d noX (some p)) (x : List Tok) (f : Nat)
    (hf : 20 * sizeL (TDM3.joinC (p.map (TQ3.toksE5 d noX))) + 2 ≤ f) : pPartition d f true (partGrp d p :: x) = .ok (p, x) := by
  have h1 : pPartition d f false (opTok "PARTITION" :: partGrp d p :: x) = .ok (p, x) := by
    rcases hp with hp | hp
    · exact TDM3.items_ok p true (fun e he => TDM3.static_item e (hp e he)) x f hf
    · exact TDM3.items_ok p false (fun e he => TDM3.dyn_item e (hp e he)) x f hf
  have e : pPartition d f false (opTok "PARTITION" :: partGrp d p :: x) = pPartition d f true (partGrp d p :: x) := by
    unfold pPartition
    kw_simp
  rw [← e]; exact h1

/-! ### one clause of ALTER TABLE -/
theorem colOrIdx_head (x : ColOrIdx) (r : List Tok) :
    ∃ t y, toksColOrIdx d x ++ r = t :: y ∧ t.srcEqUp "PARTITION" = false ∧ t.equalsStr "IF" = false := by
  cases x with
  | col c => exact ⟨nameTok c.name, _, rfl, by kw_simp, by kw_simp⟩
  | idx i =>
    obtain ⟨k0, n0, cols, um, cm, kbs⟩ := i
    cases k0
    · exact ⟨opTok "PRIMARY", _, rfl, by decide, by decide⟩
    · exact ⟨opTok "UNIQUE", _, rfl, by decide, by decide⟩
    · exact ⟨opTok "KEY", _, rfl, by decide, by decide⟩
    · exact ⟨opTok "FULLTEXT", _, rfl, by decide, by decide⟩
  | fk k => exact ⟨opTok "CONSTRAINT", _, rfl, by decide, by decide⟩

theorem sizeL_flag (b : Bool) (ts : List Tok) : sizeL (TD.flag b ts) = if b then sizeL ts else 0 := by cases b <;> simp [TD.flag, sizeL]

theorem alterOp_ok (o : AlterOp) (ho : alterOpOK d o = true) (r : List Tok) (hr : After d r) (f : Nat)
    (hf : 20 * sizeL (toksAlterOp d o) + 2 ≤ f) : pAlterExpr d f (toksAlterOp d o ++ r) = .ok (o, r) := by
  cases o with
  | addPartition b p =>
    simp only [alterOpOK] at ho
    have hp := TDM3.partRec (ch := noX) (some p) ho
    simp only [toksAlterOp, sizeL_cons, sizeL_append, size_opTok, partGrp, size_grp, sizeL] at hf
    have h1 := partition_ok p hp r f (by omega)
    unfold pAlterExpr
    cases b
    · simp only [toksAlterOp, TD.flag, Bool.false_eq_true, if_false]
      kw_simp
      simp only [h1]
    · simp only [toksAlterOp, TD.flag, if_true]
      kw_simp
      simp only [h1]
  | add x =>
    simp only [alterOpOK] at ho
    simp only [toksAlterOp, sizeL_cons, size_opTok] at hf
    have h1 := colOrIdx_ok x ho r hr f (by omega)
    obtain ⟨t0, y0, e0, c1, c2⟩ := colOrIdx_head (d := d) x r
    show pAlterExpr d f (opTok "ADD" :: (toksColOrIdx d x ++ r)) = _
    rw [e0] at h1 ⊢
    unfold pAlterExpr
    kw_simp
    simp only [c1, c2, Bool.false_eq_true, if_false, false_and, h1]
  | modify x =>
    simp only [alterOpOK] at ho
    simp only [toksAlterOp, sizeL_cons, size_opTok] at hf
    have h1 := colOrIdx_ok x ho r hr f (by omega)
    unfold pAlterExpr
    simp only [toksAlterOp, List.cons_append]
    kw_simp
    simp only [h1]
  | change a t =>
    simp only [alterOpOK, Bool.and_eq_true, TD.nameOK, beq_iff_eq] at ho
    simp only [toksAlterOp, sizeL_cons, size_opTok] at hf
    have h1 := colOrIdx_ok t ho.2 r hr f (by omega)
    unfold pAlterExpr
    simp only [toksAlterOp, List.cons_append]
    kw_simp
    simp only [ho.1, h1]
  | renameColumn a b =>
    simp only [alterOpOK, Bool.and_eq_true, TD.nameOK, beq_iff_eq] at ho
    unfold pAlterExpr
    simp only [toksAlterOp, List.cons_append]
    kw_simp
    simp only [ho.1, ho.2]
  | dropColumn c =>
    simp only [alterOpOK, TD.nameOK, beq_iff_eq] at ho
    unfold pAlterExpr
    simp only [toksAlterOp, List.cons_append]
    kw_simp
    simp only [ho]
  | dropPartition b p =>
    simp only [alterOpOK] at ho
    have hp := TDM3.partRec (ch := noX) (some p) ho
    simp only [toksAlterOp, sizeL_cons, sizeL_append, size_opTok, partGrp, size_grp, sizeL] at hf
    have h1 := partition_ok p hp r f (by omega)
    unfold pAlterExpr
    cases b
    · simp only [toksAlterOp, TD.flag, Bool.false_eq_true, if_false]
      kw_simp
      simp only [h1]
    · simp only [toksAlterOp, TD.flag, if_true]
      kw_simp
      simp only [h1]

/-! ### the clause loop, the statement -/
theorem toksAlterTail_eq (ops : List AlterOp) : toksAlterTail d ops = TC.commaTail (toksAlterOp d) ops := by
  induction ops with
  | nil => rfl
  | cons o r ih => simp only [toksAlterTail, TC.commaTail, ih]
theorem alterTail_after (ops : List AlterOp) (rest : List Tok) (hr : stopsAny d rest = true) : After d (toksAlterTail d ops ++ rest) := by
  rw [toksAlterTail_eq]; exact TC.tail_of After.comma (TC.commaTail_shape _ ops) (After.stops hr)
theorem alterLoop_ok (rest : List Tok) (hr : stopsAny d rest = true) :
    ∀ (ops : List AlterOp), (∀ o ∈ ops, alterOpOK d o = true) → ∀ acc f g, 20 * sizeL (toksAlterTail d ops) + 2 ≤ f → ops.length + 1 ≤ g →
    alterLoop d f g acc (toksAlterTail d ops ++ rest) = .ok (acc ++ ops, rest) := by
  intro ops hops acc f g hf
  rw [toksAlterTail_eq] at hf ⊢
  exact TC.commaLoop_ok (item := fun _ ts => pAlterExpr d f ts) (fun _ _ _ h => by simp [alterLoop, h])
    (fun _ _ _ _ _ h h' => by rw [alterLoop, if_pos h, h']) (toksAlterOp d) (fun _ => 0) (fun ops => ops.length + 1) (by omega)
    (fun _ _ => by simp only [List.length_cons]; omega) rest (sa_str hr "," (by decide)) ops
    (fun o ho xs' _ _ => alterOp_ok o (hops o ho) _ (TC.tail_of After.comma (TC.commaTail_shape _ xs') (After.stops hr)) f
      (by have := TC.sizeL_commaTail_mem (toksAlterOp d) ops o ho; omega)) acc g

theorem alterOp_notDot (o : AlterOp) (x : List Tok) : searchStr (toksAlterOp d o ++ x) "." = false := by
  cases o <;> simp only [toksAlterOp, List.cons_append] <;> kw_simp

theorem alter_ok (t : TableName) (o : AlterOp) (ops : List AlterOp) (ht : TDM3.tblOKD t = true) (ho : alterOpOK d o = true)
    (hops : ∀ q ∈ ops, alterOpOK d q = true) (rest : List Tok) (hr : stopsAny d rest = true) (f : Nat)
    (hf : 20 * sizeL (toksAlter d t (o :: ops)) + 2 ≤ f) :
    pStatement d f (toksAlter d t (o :: ops) ++ rest) = .ok (.alter t (o :: ops), rest) := by
  simp only [toksAlter, toksAlterOps, sizeL_cons, sizeL_append, size_opTok] at hf
  have h1 : pTblName (tbl t :: (toksAlterOp d o ++ (toksAlterTail d ops ++ rest))) = .ok (t, _) :=
    TDM3.tblName_ok t ht _ (alterOp_notDot o _)
  have h2 := alterOp_ok o ho (toksAlterTail d ops ++ rest) (alterTail_after ops rest hr) f (by omega)
  have h3 := alterLoop_ok rest hr ops hops [o] f ((toksAlterTail d ops ++ rest).length + 1) (by omega) (by
    rw [toksAlterTail_eq]; have := TC.length_le_commaTail (toksAlterOp d) ops
    simp only [List.length_append]; omega)
  unfold pStatement toksAlter
  kw_simp
  unfold pAlter
  kw_simp
  simp only [toksAlterOps, List.append_assoc, h1, h2, h3]
  rfl

end TR3
