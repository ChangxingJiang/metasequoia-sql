import MsqProofs.Lemmas.TParseLift
/-!
# T-parse: good renderings, for every continuation class (C02 / C03 / C09)

The lemmas of the T-parse developments speak about a PAIR — a tree `x` and a token list `ts` that the parser reads back as `x` — and never
look inside the token lists of the sub-trees.  So they are stated here over arbitrary token lists; each token printer (`TP.toksE`,
`TQ3.toksE5`, `TSP.toksE3` …) then supplies its own renderings.

One condition on the continuation differs between the fragments: behind `name ( … )` the parser looks for `OVER` (a window call), so a
rendering that ENDS in a call is read back only in front of a continuation that does not start with `OVER`; the operator fragment has no
calls and needs no such condition.  The flag `o` says whether the condition is imposed (`StopO`); `FullO` / `ContO` /
`TowerO` are `TP.Full` / `Cont` / `Tower` (MsqProofs/Lemmas/TParseLift.lean: the two forms, the offsets, the factor 20) over `StopO`, and
`sN` / `cN` stand for the `FullO` / `ContO` form at level `N`.  A node has the flag of its LAST child (what
follows the node follows that child); the call forms have `true`; a bracket group has `false`, and `false` serves every class.

In the lemma names a number is the LEVEL of the grammar (2 unary, 8 compute, 9 keyword predicates, 10 comparison, 11 `NOT`, 12 `AND`,
13 `XOR`, 14 `OR`); the `2` of `TP2.Full2` / `Cont2` / `Tower2` / `stopLE2` is not a level: it marks the continuation class with the `OVER`
condition.
-/
open Lex PM Ast

-- `lvlH`, `isExists` are in the namespace of the nested fragment, whose statements name them; `Head` below needs them here
namespace TQ
/-- the level that decides whether the FIRST token of the unwrapped rendering is an operand token: the printer's level, except that
`EXISTS (q)` starts with a word that is none (like `NOT …`) -/
def lvlH : Expr → Nat
  | .exists_ _ => 11
  | e => PR.lvl e
def isExists : Expr → Bool
  | .exists_ _ => true
  | _ => false
theorem lvlH_eq {e : Expr} (h : isExists e = false) : lvlH e = PR.lvl e := by cases e <;> simp_all [lvlH, isExists]
theorem lvlH_ge (e : Expr) : PR.lvl e ≤ lvlH e := by cases e <;> simp [lvlH, PR.lvl]
theorem lvlH_of_le8 {e : Expr} (h : PR.lvl e ≤ 8) : lvlH e = PR.lvl e := by cases e <;> simp_all [lvlH, PR.lvl]
end TQ

namespace TC
open TP
variable (d : Gen.D)

def StopO (o : Bool) (L : Nat) (rest : List Tok) : Prop := stopLE d L rest = true ∧ (o = true → headIsOver rest = false)
def FullO (o : Bool) (p : Nat → List Tok → R Expr) (L off : Nat) (ts : List Tok) (x : Expr) : Prop :=
  ∀ rest, StopO d o L rest → OkAt (fun f => p f (ts ++ rest)) (20 * sizeL ts + off) (x, rest)
def ContO (o : Bool) (p : Nat → List Tok → R Expr) (loop : Nat → Expr → List Tok → R Expr) (L off : Nat) (ts : List Tok) (x : Expr) : Prop :=
  ∀ rest, StopO d o L rest → ∀ n res, OkAt (fun f => loop f x rest) n res → OkAt (fun f => p f (ts ++ rest)) (n + 20 * sizeL ts + off) res
variable {d} {o : Bool}

theorem StopO.mono {L L' : Nat} {rest : List Tok} (h : StopO d o L rest) (hl : L' ≤ L) : StopO d o L' rest := ⟨stopLE_mono h.1 hl, h.2⟩
theorem stopO_nil (o : Bool) (L : Nat) : StopO d o L [] := ⟨rfl, fun _ => rfl⟩
theorem stopO_of {L : Nat} {t : Tok} (o : Bool) (x : List Tok) (h : stopTok d L t = true) (ho : t.srcEqUp "OVER" = false) : StopO d o L (t :: x) :=
  ⟨h, fun _ => ho⟩
theorem stopO_false {L : Nat} {rest : List Tok} : StopO d false L rest ↔ stopLE d L rest = true := ⟨fun h => h.1, fun h => ⟨h, fun h => nomatch h⟩⟩

/-! ### one level up -/
theorem s8_of_s2 {ts x} (h : FullO d o (P2 d) 2 0 ts x) : FullO d o (P8 d) 8 2 ts x := by
  intro rest hr f hf
  obtain ⟨g, rfl⟩ : ∃ g, f = g + 1 := ⟨f - 1, by omega⟩
  show pCompute d (g + 1) (ts ++ rest) = _
  unfold pCompute
  have : pUnary d g (ts ++ rest) = .ok (x, rest) := h rest (hr.mono (by omega)) g (by omega)
  rw [this]
  simpa [PM.collapse] using computeLoop_stop d [] x rest hr.1 g (by omega)

theorem c9_of_s8 {ts x} (h : FullO d o (P8 d) 8 2 ts x) (hd : HeadOK d ts) : ContO d o (P9 d) (kwLoop d) 8 4 ts x := by
  intro rest hr n res hl f hf
  obtain ⟨g, rfl⟩ : ∃ g, f = g + 2 := ⟨f - 2, by omega⟩
  obtain ⟨t, ts', rfl, ht⟩ := hd
  show pKeyword d (g + 2) none (t :: ts' ++ rest) = _
  have he : searchStrUp (t :: ts' ++ rest) "EXISTS" = false := by
    simp only [operandTok, Bool.and_eq_true, Bool.not_eq_true'] at ht
    simpa [searchStrUp] using ht.2
  have h1 : pCompute d g (t :: ts' ++ rest) = .ok (x, rest) := h rest hr g (by omega)
  unfold pKeyword
  simp only [he, Bool.and_false, Bool.false_eq_true, if_false]
  unfold pKwFirst
  simp only [h1]
  exact hl (g + 1) (by omega)
theorem s9_of_c9 {ts x} (h : ContO d o (P9 d) (kwLoop d) 8 4 ts x) : FullO d o (P9 d) 9 6 ts x := by
  intro rest hr
  exact (h rest (hr.mono (by omega)) 2 _ (kwLoop_stop d x rest hr.1)).mono (by omega)
theorem c10_of_s9 {ts x} (h : FullO d o (P9 d) 9 6 ts x) : ContO d o (P10 d) (fun f => pCompareLoop d f) 9 7 ts x := by
  intro rest hr n res hl f hf
  obtain ⟨g, rfl⟩ : ∃ g, f = g + 1 := ⟨f - 1, by omega⟩
  show pCompare d (g + 1) (ts ++ rest) = _
  unfold pCompare
  have h1 : pKeyword d g none (ts ++ rest) = .ok (x, rest) := h rest hr g (by omega)
  rw [h1]
  exact hl g (by omega)
theorem s10_of_c10 {ts x} (h : ContO d o (P10 d) (fun f => pCompareLoop d f) 9 7 ts x) : FullO d o (P10 d) 10 8 ts x := by
  intro rest hr
  exact (h rest (hr.mono (by omega)) 1 _ (compareLoop_stop d x rest hr.1)).mono (by omega)
-- what `pNot` asks of the first token, less than `HeadOK`: `EXISTS (q)` has it although `EXISTS` is no operand token — `of9w` / `of10w`
def NoNot (d : Gen.D) (ts : List Tok) : Prop := ∃ t ts', ts = t :: ts' ∧ (Gen.notSet d).contains (up t.src) = false
theorem _root_.TP.HeadOK.noNot {ts : List Tok} (h : HeadOK d ts) : NoNot d ts := by
  obtain ⟨t, ts', rfl, ht⟩ := h
  simp only [operandTok, Bool.and_eq_true, Bool.not_eq_true'] at ht
  exact ⟨t, ts', rfl, ht.1.2⟩
theorem s11_of_s10 {ts x} (h : FullO d o (P10 d) 10 8 ts x) (hd : NoNot d ts) : FullO d o (P11 d) 11 9 ts x := by
  intro rest hr f hf
  obtain ⟨g, rfl⟩ : ∃ g, f = g + 1 := ⟨f - 1, by omega⟩
  obtain ⟨t, ts', rfl, hn⟩ := hd
  show pNot d (g + 1) (t :: ts' ++ rest) = _
  unfold pNot
  simp only [List.cons_append, hn, Bool.false_eq_true, if_false]
  exact h rest (hr.mono (by omega)) g (by omega)
theorem c12_of_s11 {ts x} (h : FullO d o (P11 d) 11 9 ts x) : ContO d o (P12 d) (fun f => pAndLoop d f) 11 10 ts x := by
  intro rest hr n res hl f hf
  obtain ⟨g, rfl⟩ : ∃ g, f = g + 1 := ⟨f - 1, by omega⟩
  show pAnd d (g + 1) (ts ++ rest) = _
  unfold pAnd
  have h1 : pNot d g (ts ++ rest) = .ok (x, rest) := h rest hr g (by omega)
  rw [h1]
  exact hl g (by omega)
theorem s12_of_c12 {ts x} (h : ContO d o (P12 d) (fun f => pAndLoop d f) 11 10 ts x) : FullO d o (P12 d) 12 11 ts x := by
  intro rest hr
  exact (h rest (hr.mono (by omega)) 1 _ (andLoop_stop d x rest hr.1)).mono (by omega)
theorem c13_of_s12 {ts x} (h : FullO d o (P12 d) 12 11 ts x) : ContO d o (P13 d) (fun f => pXorLoop d f) 12 12 ts x := by
  intro rest hr n res hl f hf
  obtain ⟨g, rfl⟩ : ∃ g, f = g + 1 := ⟨f - 1, by omega⟩
  show pXor d (g + 1) (ts ++ rest) = _
  unfold pXor
  have h1 : pAnd d g (ts ++ rest) = .ok (x, rest) := h rest hr g (by omega)
  rw [h1]
  exact hl g (by omega)
theorem s13_of_c13 {ts x} (h : ContO d o (P13 d) (fun f => pXorLoop d f) 12 12 ts x) : FullO d o (P13 d) 13 13 ts x := by
  intro rest hr
  exact (h rest (hr.mono (by omega)) 1 _ (xorLoop_stop d x rest hr.1)).mono (by omega)
theorem c14_of_s13 {ts x} (h : FullO d o (P13 d) 13 13 ts x) : ContO d o (P14 d) (fun f => pOrLoop d f) 13 14 ts x := by
  intro rest hr n res hl f hf
  obtain ⟨g, rfl⟩ : ∃ g, f = g + 1 := ⟨f - 1, by omega⟩
  show pOr d (g + 1) (ts ++ rest) = _
  unfold pOr
  have h1 : pXor d g (ts ++ rest) = .ok (x, rest) := h rest hr g (by omega)
  rw [h1]
  exact hl g (by omega)
theorem s14_of_c14 {ts x} (h : ContO d o (P14 d) (fun f => pOrLoop d f) 13 14 ts x) : FullO d o (P14 d) 14 15 ts x := by
  intro rest hr
  exact (h rest (hr.mono (by omega)) 1 _ (orLoop_stop d x rest hr.1)).mono (by omega)

/-! ### every level from `L0` upwards -/
structure TowerO (d : Gen.D) (o : Bool) (L0 : Nat) (ts : List Tok) (x : Expr) : Prop where
  s2 : L0 ≤ 2 → FullO d o (P2 d) 2 0 ts x
  s8 : L0 ≤ 8 → FullO d o (P8 d) 8 2 ts x
  c9 : L0 ≤ 9 → ContO d o (P9 d) (kwLoop d) 8 4 ts x
  s9 : L0 ≤ 9 → FullO d o (P9 d) 9 6 ts x
  c10 : L0 ≤ 10 → ContO d o (P10 d) (fun f => pCompareLoop d f) 9 7 ts x
  s10 : L0 ≤ 10 → FullO d o (P10 d) 10 8 ts x
  s11 : L0 ≤ 11 → FullO d o (P11 d) 11 9 ts x
  c12 : L0 ≤ 12 → ContO d o (P12 d) (fun f => pAndLoop d f) 11 10 ts x
  s12 : L0 ≤ 12 → FullO d o (P12 d) 12 11 ts x
  c13 : L0 ≤ 13 → ContO d o (P13 d) (fun f => pXorLoop d f) 12 12 ts x
  s13 : L0 ≤ 13 → FullO d o (P13 d) 13 13 ts x
  c14 : ContO d o (P14 d) (fun f => pOrLoop d f) 13 14 ts x
  s14 : FullO d o (P14 d) 14 15 ts x

theorem TowerO.of14 {ts x} (h : ContO d o (P14 d) (fun f => pOrLoop d f) 13 14 ts x) : TowerO d o 14 ts x :=
  ⟨fun h => absurd h (by omega), fun h => absurd h (by omega), fun h => absurd h (by omega), fun h => absurd h (by omega),
   fun h => absurd h (by omega), fun h => absurd h (by omega), fun h => absurd h (by omega), fun h => absurd h (by omega),
   fun h => absurd h (by omega), fun h => absurd h (by omega), fun h => absurd h (by omega), h, s14_of_c14 h⟩
theorem TowerO.of_s13 {ts x} (L0 : Nat) (hL : 13 ≤ L0) (h13 : FullO d o (P13 d) 13 13 ts x)
    (c13 : ContO d o (P13 d) (fun f => pXorLoop d f) 12 12 ts x) : TowerO d o L0 ts x :=
  ⟨fun h => absurd h (by omega), fun h => absurd h (by omega), fun h => absurd h (by omega), fun h => absurd h (by omega),
   fun h => absurd h (by omega), fun h => absurd h (by omega), fun h => absurd h (by omega), fun h => absurd h (by omega),
   fun h => absurd h (by omega), fun _ => c13, fun _ => h13, c14_of_s13 h13, s14_of_c14 (c14_of_s13 h13)⟩
theorem TowerO.of13 {ts x} (h : ContO d o (P13 d) (fun f => pXorLoop d f) 12 12 ts x) : TowerO d o 13 ts x :=
  TowerO.of_s13 13 (by omega) (s13_of_c13 h) h
theorem TowerO.of_s12 {ts x} (L0 : Nat) (hL : 12 ≤ L0) (h12 : FullO d o (P12 d) 12 11 ts x)
    (c12 : ContO d o (P12 d) (fun f => pAndLoop d f) 11 10 ts x) : TowerO d o L0 ts x :=
  let T := TowerO.of13 (c13_of_s12 h12)
  ⟨fun h => absurd h (by omega), fun h => absurd h (by omega), fun h => absurd h (by omega), fun h => absurd h (by omega),
   fun h => absurd h (by omega), fun h => absurd h (by omega), fun h => absurd h (by omega), fun _ => c12, fun _ => h12,
   fun _ => T.c13 (by omega), fun _ => T.s13 (by omega), T.c14, T.s14⟩
theorem TowerO.of12 {ts x} (h : ContO d o (P12 d) (fun f => pAndLoop d f) 11 10 ts x) : TowerO d o 12 ts x :=
  TowerO.of_s12 12 (by omega) (s12_of_c12 h) h
theorem TowerO.of11 {ts x} (h : FullO d o (P11 d) 11 9 ts x) : TowerO d o 11 ts x :=
  let T := TowerO.of12 (c12_of_s11 h)
  ⟨fun h => absurd h (by omega), fun h => absurd h (by omega), fun h => absurd h (by omega), fun h => absurd h (by omega),
   fun h => absurd h (by omega), fun h => absurd h (by omega), fun _ => h, fun _ => T.c12 (by omega), fun _ => T.s12 (by omega),
   fun _ => T.c13 (by omega), fun _ => T.s13 (by omega), T.c14, T.s14⟩
theorem TowerO.of10w {ts x} (h : ContO d o (P10 d) (fun f => pCompareLoop d f) 9 7 ts x) (hd : NoNot d ts) : TowerO d o 10 ts x :=
  let T := TowerO.of11 (s11_of_s10 (s10_of_c10 h) hd)
  ⟨fun h => absurd h (by omega), fun h => absurd h (by omega), fun h => absurd h (by omega), fun h => absurd h (by omega),
   fun _ => h, fun _ => s10_of_c10 h, fun _ => T.s11 (by omega), fun _ => T.c12 (by omega), fun _ => T.s12 (by omega),
   fun _ => T.c13 (by omega), fun _ => T.s13 (by omega), T.c14, T.s14⟩
theorem TowerO.of10 {ts x} (h : ContO d o (P10 d) (fun f => pCompareLoop d f) 9 7 ts x) (hd : HeadOK d ts) : TowerO d o 10 ts x :=
  .of10w h hd.noNot
theorem TowerO.of9w {ts x} (h : ContO d o (P9 d) (kwLoop d) 8 4 ts x) (hd : NoNot d ts) : TowerO d o 9 ts x :=
  let T := TowerO.of10w (c10_of_s9 (s9_of_c9 h)) hd
  ⟨fun h => absurd h (by omega), fun h => absurd h (by omega), fun _ => h, fun _ => s9_of_c9 h,
   fun _ => T.c10 (by omega), fun _ => T.s10 (by omega), fun _ => T.s11 (by omega), fun _ => T.c12 (by omega), fun _ => T.s12 (by omega),
   fun _ => T.c13 (by omega), fun _ => T.s13 (by omega), T.c14, T.s14⟩
theorem TowerO.of9 {ts x} (h : ContO d o (P9 d) (kwLoop d) 8 4 ts x) (hd : HeadOK d ts) : TowerO d o 9 ts x := .of9w h hd.noNot
theorem TowerO.of8 {ts x} (h : FullO d o (P8 d) 8 2 ts x) (hd : HeadOK d ts) : TowerO d o 8 ts x :=
  let T := TowerO.of9 (c9_of_s8 h hd) hd
  ⟨fun h => absurd h (by omega), fun _ => h, fun _ => T.c9 (by omega), fun _ => T.s9 (by omega),
   fun _ => T.c10 (by omega), fun _ => T.s10 (by omega), fun _ => T.s11 (by omega), fun _ => T.c12 (by omega), fun _ => T.s12 (by omega),
   fun _ => T.c13 (by omega), fun _ => T.s13 (by omega), T.c14, T.s14⟩
theorem TowerO.of2 {ts x} (h : FullO d o (P2 d) 2 0 ts x) (hd : HeadOK d ts) : TowerO d o 2 ts x :=
  let T := TowerO.of8 (s8_of_s2 h) hd
  ⟨fun _ => h, fun _ => T.s8 (by omega), fun _ => T.c9 (by omega), fun _ => T.s9 (by omega),
   fun _ => T.c10 (by omega), fun _ => T.s10 (by omega), fun _ => T.s11 (by omega), fun _ => T.c12 (by omega), fun _ => T.s12 (by omega),
   fun _ => T.c13 (by omega), fun _ => T.s13 (by omega), T.c14, T.s14⟩
theorem TowerO.weaken {ts x} {L0 L1 : Nat} (T : TowerO d o L0 ts x) (h : L0 ≤ L1) : TowerO d o L1 ts x :=
  ⟨fun g => T.s2 (by omega), fun g => T.s8 (by omega), fun g => T.c9 (by omega), fun g => T.s9 (by omega),
   fun g => T.c10 (by omega), fun g => T.s10 (by omega), fun g => T.s11 (by omega), fun g => T.c12 (by omega), fun g => T.s12 (by omega),
   fun g => T.c13 (by omega), fun g => T.s13 (by omega), T.c14, T.s14⟩

-- only the side of the thresholds 2, 8 … 13 counts: the tower from 2 of an atom is the tower from its `PR.lvl` 0, the tower from 8 of a
-- compute node the one from its level 3 … 8 (`weaken` only goes up)
theorem TowerO.relevel {ts x} {L0 : Nat} (T : TowerO d o L0 ts x) (L1 : Nat)
    (h : (L1 ≤ 2 → L0 ≤ 2) ∧ (L1 ≤ 8 → L0 ≤ 8) ∧ (L1 ≤ 9 → L0 ≤ 9) ∧ (L1 ≤ 10 → L0 ≤ 10) ∧ (L1 ≤ 11 → L0 ≤ 11) ∧ (L1 ≤ 12 → L0 ≤ 12) ∧
      (L1 ≤ 13 → L0 ≤ 13)) : TowerO d o L1 ts x :=
  ⟨fun g => T.s2 (h.1 g), fun g => T.s8 (h.2.1 g), fun g => T.c9 (h.2.2.1 g), fun g => T.s9 (h.2.2.1 g),
   fun g => T.c10 (h.2.2.2.1 g), fun g => T.s10 (h.2.2.2.1 g), fun g => T.s11 (h.2.2.2.2.1 g), fun g => T.c12 (h.2.2.2.2.2.1 g),
   fun g => T.s12 (h.2.2.2.2.2.1 g), fun g => T.c13 (h.2.2.2.2.2.2 g), fun g => T.s13 (h.2.2.2.2.2.2 g), T.c14, T.s14⟩

theorem TowerO.map {o' : Bool} {L0 ts x} (T : TowerO d o L0 ts x) (hs : ∀ {L rest}, StopO d o' L rest → StopO d o L rest) : TowerO d o' L0 ts x :=
  have F : ∀ {p L off}, FullO d o p L off ts x → FullO d o' p L off ts x := fun h rest hr => h rest (hs hr)
  have C : ∀ {p loop L off}, ContO d o p loop L off ts x → ContO d o' p loop L off ts x := fun h rest hr => h rest (hs hr)
  ⟨fun g => F (T.s2 g), fun g => F (T.s8 g), fun g => C (T.c9 g), fun g => F (T.s9 g), fun g => C (T.c10 g), fun g => F (T.s10 g),
   fun g => F (T.s11 g), fun g => C (T.c12 g), fun g => F (T.s12 g), fun g => C (T.c13 g), fun g => F (T.s13 g), C T.c14, F T.s14⟩
theorem FullO.ofFalse {p L off ts x} (h : FullO d false p L off ts x) : FullO d o p L off ts x := fun rest hr => h rest (stopO_false.2 hr.1)
theorem ContO.ofFalse {p loop L off ts x} (h : ContO d false p loop L off ts x) : ContO d o p loop L off ts x :=
  fun rest hr => h rest (stopO_false.2 hr.1)
theorem TowerO.ofFalse {L0 ts x} (T : TowerO d false L0 ts x) : TowerO d o L0 ts x := T.map fun hr => stopO_false.2 hr.1

/-! ### the forms at the flag `false` (those at `true`, `fullO_true` …, stand with `TP2.stopLE2` in MsqProofs/Lemmas/TParse2Lift.lean:
its definition comes after the operator fragment's theorems) -/
theorem fullO_false {p L off ts x} : FullO d false p L off ts x ↔ Full d p L off ts x :=
  ⟨fun h rest hr => h rest (stopO_false.2 hr), fun h rest hr => h rest hr.1⟩
theorem contO_false {p loop L off ts x} : ContO d false p loop L off ts x ↔ Cont d p loop L off ts x :=
  ⟨fun h rest hr => h rest (stopO_false.2 hr), fun h rest hr => h rest hr.1⟩
theorem towerO_false {L0 ts x} : TowerO d false L0 ts x ↔ Tower d L0 ts x :=
  ⟨fun T => ⟨fun g => fullO_false.1 (T.s2 g), fun g => fullO_false.1 (T.s8 g), fun g => contO_false.1 (T.c9 g), fun g => fullO_false.1 (T.s9 g),
     fun g => contO_false.1 (T.c10 g), fun g => fullO_false.1 (T.s10 g), fun g => fullO_false.1 (T.s11 g), fun g => contO_false.1 (T.c12 g),
     fun g => fullO_false.1 (T.s12 g), fun g => contO_false.1 (T.c13 g), fun g => fullO_false.1 (T.s13 g), contO_false.1 T.c14, fullO_false.1 T.s14⟩,
   fun T => ⟨fun g => fullO_false.2 (T.s2 g), fun g => fullO_false.2 (T.s8 g), fun g => contO_false.2 (T.c9 g), fun g => fullO_false.2 (T.s9 g),
     fun g => contO_false.2 (T.c10 g), fun g => fullO_false.2 (T.s10 g), fun g => fullO_false.2 (T.s11 g), fun g => contO_false.2 (T.c12 g),
     fun g => fullO_false.2 (T.s12 g), fun g => contO_false.2 (T.c13 g), fun g => fullO_false.2 (T.s13 g), contO_false.2 T.c14, fullO_false.2 T.s14⟩⟩

/-! ### a tree with a rendering -/
def Head (d : Gen.D) (e : Expr) (ts : List Tok) : Prop :=
  ∃ t ts', ts = t :: ts' ∧ startTok t = true ∧ (TQ.lvlH e ≤ 10 → operandTok d t = true)

/-- a bracket group: `pElement` runs `pOr` on the children and wants them consumed; nothing is looked for behind it -/
theorem full2_group {ts : List Tok} (e : Expr) (h14 : FullO d o (P14 d) 14 15 ts e) (hd : ∃ t ts', ts = t :: ts' ∧ startTok t = true) :
    FullO d false (P2 d) 2 0 [grp ts] e := by
  intro rest hr f hf
  simp only [sizeL, size_grp] at hf
  obtain ⟨g, rfl⟩ : ∃ g, f = g + 3 := ⟨f - 3, by omega⟩
  have he := grp_elemTok d ts
  simp only [elemTok, Bool.and_eq_true, Bool.not_eq_true'] at he
  have hor : pOr d g ts = .ok (e, []) := by
    have := h14 [] (stopO_nil o 14) g (by omega)
    simpa using this
  have hss : startsSelect ts = false := by
    obtain ⟨t, ts', h1, h2⟩ := hd
    rw [h1]
    simp only [startTok, Bool.not_eq_true'] at h2
    simpa [startsSelect, searchSetUp] using h2
  show pUnary d (g + 3) (grp ts :: rest) = _
  unfold pUnary
  simp only [he.2, Bool.false_eq_true, if_false]
  unfold pElement
  simp only [grp_literal, grp_paren, Bool.false_eq_true, if_false, if_true]
  unfold pParen
  simp [children_grp, hss, hor]

structure Good (d : Gen.D) (o : Bool) (e : Expr) (ts : List Tok) : Prop where
  own : TowerO d o (PR.lvl e) ts e
  wrapped : TowerO d false 2 [grp ts] e
  head : Head d e ts

theorem Good.mk' {e ts} (own : TowerO d o (PR.lvl e) ts e) (head : Head d e ts) : Good d o e ts :=
  ⟨own, .of2 (full2_group e own.s14 (by obtain ⟨t, ts', h1, h2, _⟩ := head; exact ⟨t, ts', h1, h2⟩)) (grp_headOK _), head⟩
theorem Good.at {e ts} (h : Good d o e ts) (x : Bool) (L : Nat) (hL : 2 ≤ L) : TowerO d o L (wrapT x e L ts) e := by
  unfold wrapT
  split
  · exact (h.wrapped.weaken hL).ofFalse
  · rename_i hle
    have : ¬ PR.lvl e > L := fun h => hle (Or.inl h)
    exact h.own.weaken (by omega)
theorem Good.headW {e ts} (h : Good d o e ts) (x : Bool) (L : Nat) :
    ∃ t ts', wrapT x e L ts = t :: ts' ∧ startTok t = true ∧ ((TQ.lvlH e ≤ 10 ∨ L < PR.lvl e) → operandTok d t = true) := by
  unfold wrapT
  split
  · refine ⟨grp _, [], rfl, grp_startTok _, fun _ => ?_⟩
    obtain ⟨t, ts', h1, h2⟩ := grp_headOK (d := d) ts
    simp only [List.cons.injEq] at h1
    rw [h1.1]; exact h2
  · rename_i hle
    have : ¬ PR.lvl e > L := fun h => hle (Or.inl h)
    obtain ⟨t, ts', h1, h2, h3⟩ := h.head
    exact ⟨t, ts', h1, h2, fun hh => h3 (by rcases hh with hh | hh; exact hh; omega)⟩
theorem Good.headOKW {e ts} (h : Good d o e ts) (x : Bool) (L : Nat) (hl : TQ.lvlH e ≤ 10 ∨ L < PR.lvl e) : HeadOK d (wrapT x e L ts) := by
  obtain ⟨t, ts', h1, _, h3⟩ := h.headW x L
  exact ⟨t, ts', h1, h3 hl⟩
theorem hOK8 (l : Expr) (L : Nat) (hL : L ≤ 8) : TQ.lvlH l ≤ 10 ∨ L < PR.lvl l := by
  by_cases h : PR.lvl l ≤ 8
  · left; rw [TQ.lvlH_of_le8 h]; omega
  · right; omega
theorem hOKne (l : Expr) (L : Nat) (hL : L ≤ 10) (hne : TQ.isExists l = false) : TQ.lvlH l ≤ 10 ∨ L < PR.lvl l := by
  rw [TQ.lvlH_eq hne]; omega
theorem head_left {e l tl} (hl : Good d o l tl) (x : Bool) (L : Nat) (ys : List Tok) (hL : TQ.lvlH e ≤ 10 → TQ.lvlH l ≤ 10 ∨ L < PR.lvl l) :
    Head d e (wrapT x l L tl ++ ys) := by
  obtain ⟨t, ts', h1, h2, h3⟩ := hl.headW x L
  exact ⟨t, ts' ++ ys, by rw [h1]; rfl, h2, fun he => h3 (hL he)⟩

end TC
