import MsqProofs.Lemmas.TQueryS
/-!
# T-parse closed under nesting: the records of a single SELECT and of the branches of a set operation (C03 / C01)

`SRec d ch s` — the record of a single SELECT: its shape and the records of its parts.  `UnRec` — the record of the branches of a set
operation: every operator phrase is found again as its name (`unionTyOK`), every branch is a single SELECT.
-/
open Lex PM Ast TP TS
namespace TQ
variable {d : Gen.D} {ch : Expr → Bool}
local notation "commaTok" => TS.commaTok

theorem bd3_kw {k : Nat} {w : String} (h : TS.bdTok d k (opTok w) = true) (ho : (opTok w).srcEqUp "OVER" = false := by decide) (r : List Tok) :
    Bd3 d k (opTok w :: r) = true := bd3_of r h ho
def SRec (d : Gen.D) (ch : Expr → Bool) (s : Select) : Prop :=
  ∃ dist c cs fr js wh gb hv ob lm, s = .mk (some []) dist (c :: cs) fr [] js wh gb hv ob none none none lm ∧
    ColRec d ch c ∧ (∀ c' ∈ cs, ColRec d ch c') ∧ (dist = true ∨ searchStrUp (toksCols3 d ch (c :: cs)) "DISTINCT" = false) ∧
    FromRec d ch fr ∧ (∀ j ∈ js, JoinRec d ch j) ∧ OptRec d ch wh ∧ GroupRec d ch gb ∧ OptRec d ch hv ∧ OrderRec d ch ob ∧ limitOK lm = true
def UnRec (d : Gen.D) (ch : Expr → Bool) : List (String × Select) → Prop
  | [] => True
  | (t, s) :: r => unionTyOK d t = true ∧ SRec d ch s ∧ UnRec d ch r
theorem setOp {ty : String} (h : unionTyOK d ty = true) : TC.SetOp (Bd3 d 7 · = true) ty (unionWords ty) := by
  simp only [unionTyOK, Bool.and_eq_true] at h
  obtain ⟨h1, h2⟩ := h
  refine ⟨?_, ?_⟩
  · split at h1
    · rename_i n k heq
      simp only [Bool.and_eq_true, beq_iff_eq] at h1
      rw [heq, h1.1, h1.2]
    · cases h1
  · split at h2
    · rename_i t ws heq
      simp only [Bool.and_eq_true, Bool.not_eq_true'] at h2
      exact ⟨t, ws, heq, h2.1.2, fun x => bd3_of x h2.1.1 h2.2⟩
    · cases h2
end TQ
