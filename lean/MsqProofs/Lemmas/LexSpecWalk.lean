import MsqProofs.Lemmas.LexWalk
/-!
# The specification obligation, arranged for the kernel

`agreeFinW` compares the ASCII cells of every row with the specification in one pass (`walk` of `LexWalk.lean`) instead
of one `lookupN` per code; `agreeFinW_sound`: it implies `agreeFin`.
-/
namespace Spec
open Lex

def agreeFinW (cfg : Cfg Gen.Cls) (bits : Nat) : Bool :=
  allS.all fun s =>
    ascending ((cfg.rows s).map (·.1)) &&
    walk (fun o c => o == cellD bits s c) (cfg.dflt s) ascii (cfg.rows s) &&
    ((((cfg.rows s).map (·.1)).filter (fun k => !isAscii k)).all fun c => lookupN cfg s c == cellD bits s c) &&
    cfg.dflt s == cellD bits s other && cfg.atEnd s == atEndD bits s

theorem agreeFinW_sound (cfg : Cfg Gen.Cls) (bits : Nat) (h : agreeFinW cfg bits = true) : agreeFin cfg bits = true := by
  simp only [agreeFin, List.all_eq_true, Bool.and_eq_true]
  intro s hs
  have h1 := List.all_eq_true.mp h s hs
  simp only [Bool.and_eq_true] at h1
  obtain ⟨⟨⟨⟨hasc, hw⟩, hrest⟩, hd⟩, he⟩ := h1
  refine ⟨⟨fun c hc => ?_, hd⟩, he⟩
  rcases List.mem_append.mp hc with hc | hc
  · exact walk_sound _ _ ascii (cfg.rows s) ascii_asc hasc hw c hc
  · exact List.all_eq_true.mp hrest c hc

end Spec
