import MsqProofs.Lemmas.LexLinkQ2E1
/-!
# The lexer link for the larger fragment: calls, aggregates, CASE, value lists, sub-queries

What does not mention the mirror, the rendering or the records is reused from `LexLink` (`LexLinkQuery*.lean`).
-/
namespace LL2
open Lex Spec C05 C06 C09 Ast TP TS LexLink TQ2

section
variable {d : Gen.D} {K : QKit}

structure GQ4 (d : Gen.D) (K : QKit) (q : Query) : Prop where
  lx : Lx (prQ2L d q) (toksQ2 d noX q)
  pr : PR.prQ d q = .ok (String.ofList (prQ2L d q))
  q : K.Q (prQ2L d q)

theorem GQ4.pc {q : Query} (h : GQ4 d K q) : Pc K (prQ2L d q) (toksQ2 d noX q) := ⟨h.lx, h.q⟩

theorem prList4LL_eq (ps : List Expr) : prList4LL d ps = ps.map (prE4L d) := by
  induction ps with
  | nil => simp [prList4LL]
  | cons a as ih => simp [prList4LL, ih]

theorem prList84LL_eq (ps : List Expr) : prList84LL d ps = ps.map (fun a => wrapL a 8 (prE4L d a)) := by
  induction ps with
  | nil => simp [prList84LL]
  | cons a as ih => simp [prList84LL, ih]

def armL (d : Gen.D) (p : Expr × Expr) : List Char :=
  "WHEN".toList ++ ' ' :: (prE4L d p.1 ++ ' ' :: ("THEN".toList ++ ' ' :: prE4L d p.2))

def armT (d : Gen.D) (p : Expr × Expr) : List Tok :=
  opTok "WHEN" :: (wrapT (noX p.1) p.1 14 (toksE4 d noX p.1) ++ opTok "THEN" :: wrapT (noX p.2) p.2 14 (toksE4 d noX p.2))

theorem prArms4LL_eq (cs : List (Expr × Expr)) : prArms4LL d cs = cs.map (armL d) := by
  induction cs with
  | nil => simp [prArms4LL]
  | cons p r ih => obtain ⟨w, t⟩ := p; simp [prArms4LL, ih, armL]

theorem toksArms4_eq (cs : List (Expr × Expr)) : toksArms4 d noX cs = (cs.map (armT d)).flatten := by
  induction cs with
  | nil => simp [toksArms4]
  | cons p r ih => obtain ⟨w, t⟩ := p; simp [toksArms4, ih, armT]

theorem pc_args (k : Nat) (ps : List Expr) (h : ∀ a ∈ ps, GE4 d K a) :
    Pc K (joinLL [',', ' '] (ps.map fun a => wrapL a k (prE4L d a))) (toksArgs4 d noX k ps) := by
  cases ps with
  | nil => simpa [joinLL, toksArgs4] using (Pc.nil (K := K))
  | cons a as =>
    exact (Pc.commaList (fun a => wrapL a k (prE4L d a)) (fun a => wrapT (noX a) a k (toksE4 d noX a)) (toksArgsTail4 d noX k)
      (by simp [toksArgsTail4]) (by intro x xs; simp [toksArgsTail4, TS.commaTok, TP2.commaTok]) as a
      fun y hy => (h y hy).pcw k).congr rfl (by simp [toksArgs4])

theorem pc_args14 (ps : List Expr) (h : ∀ a ∈ ps, GE4 d K a) : Pc K (joinLL [',', ' '] (prList4LL d ps)) (toksArgs4 d noX 14 ps) := by
  simpa [prList4LL_eq, wrapL14] using pc_args (d := d) (K := K) 14 ps h

theorem pc_args8 (ps : List Expr) (h : ∀ a ∈ ps, GE4 d K a) : Pc K (joinLL [',', ' '] (prList84LL d ps)) (toksArgs4 d noX 8 ps) := by
  simpa [prList84LL_eq] using pc_args (d := d) (K := K) 8 ps h

theorem lx_args14 (ps : List Expr) (h : ∀ a ∈ ps, GE4 d K a) : Lx (joinLL [',', ' '] (prList4LL d ps)) (toksArgs4 d noX 14 ps) :=
  (pc_args14 ps h).lx
theorem lx_args8 (ps : List Expr) (h : ∀ a ∈ ps, GE4 d K a) : Lx (joinLL [',', ' '] (prList84LL d ps)) (toksArgs4 d noX 8 ps) :=
  (pc_args8 ps h).lx
theorem q_list8 (ps : List Expr) (h : ∀ a ∈ ps, GE4 d K a) : K.Q (joinLL [',', ' '] (prList84LL d ps)) := (pc_args8 ps h).q

theorem pr_list : ∀ (ps : List Expr), (∀ a ∈ ps, GE4 d K a) → PR.prList d ps = .ok ((prList4LL d ps).map String.ofList)
  | [], _ => rfl
  | a :: as, h => by
    have h1 := (h a (by simp)).pr
    have h2 := pr_list as fun y hy => h y (by simp [hy])
    simp only [PR.prList, h1, h2, bind, Except.bind, pure, Except.pure, prList4LL, List.map_cons]

theorem pr_list8 : ∀ (ps : List Expr), (∀ a ∈ ps, GE4 d K a) → PR.prList8 d ps = .ok ((prList84LL d ps).map String.ofList)
  | [], _ => rfl
  | a :: as, h => by
    have h1 := (h a (by simp)).pr
    have h2 := pr_list8 as fun y hy => h y (by simp [hy])
    simp only [PR.prList8, h1, h2, bind, Except.bind, pure, Except.pure, prList84LL, List.map_cons, wrap_ofList]

/-- a call of an unqualified function is complete with its closing bracket, whatever follows -/
theorem any_call (n : String) (ps : List Expr) (hn : nameLex n) (hps : ∀ a ∈ ps, GE4 d K a) :
    LxAny (qnameL n ++ '(' :: (joinLL [',', ' '] (prList4LL d ps) ++ [')']))
      [TP2.qTok n, .group .paren (toksArgs4 d noX 14 ps) Gen.mark_PARENTHESIS] :=
  LxD.prefix (LxAny.paren (lx_args14 ps hps)) rfl (tk_qname n (fun x hx => (hn x hx).1) '(' (Or.inl rfl))

theorem ge_func (s : Option String) (n : String) (ps : List Expr) (hl : optNameLex s ∧ nameLex n) (hq : K.item (.fn s n))
    (hps : ∀ a ∈ ps, GE4 d K a) : GE4 d K (.func s n ps) where
  lx := by
    have h2 := (any_call n ps hl.2 hps).lx
    cases s with
    | none => exact Lx.congr h2 (by simp [prE4L, fnameL]) (by simp [toksE4, grp_eq])
    | some s =>
      obtain ⟨c, r, hc, _⟩ := qnameL_fc n
      have h3 := Lx.prefix h2 (c := c) (by rw [hc]; rfl) (tk_dot c)
      have h4 := Lx.prefix h3 rfl (tk_bq s.toList (fun x hx => (hl.1 x hx).1) '.')
      exact Lx.congr h4 (by simp [prE4L, fnameL]) (by simp [toksE4, grp_eq, dotTok_eq, nameTok_eq])
  pr := by
    simp only [PR.prE, pr_list ps hps, Except.map, prE4L]
    refine ok_ofList ?_
    simp [toString, String.toList_append, fnameSrc_toList, toList_joinS]
  q := by
    have hn : K.Q (fnameL s n) := by
      cases s with
      | none => exact q_qname n (hq n (by simp [strs]))
      | some s =>
        have := K.sep _ _ '.' K.s_dot (K.bq (hq s (by simp [strs]))) (q_qname n (hq n (by simp [strs])))
        simpa [fnameL] using this
    exact K.sep _ _ '(' K.s_lp hn (K.post K.s_rp (pc_args14 ps hps).q)
  fc := by
    cases s with
    | none =>
      obtain ⟨c, r, hc, hne⟩ := qnameL_fc n
      exact ⟨c, _, by simp only [prE4L, fnameL, hc]; rfl, hne⟩
    | some s => exact ⟨'`', _, rfl, by decide⟩

theorem ge_agg (n : String) (ps : List Expr) (dist : Bool) (hl : PR.isPlainName n = true) (hq : K.Q n.toList)
    (hps : ∀ a ∈ ps, GE4 d K a) : GE4 d K (.agg n ps dist) :=
  GE4.of
    (by
      have hin : Pc K ((if dist then "DISTINCT ".toList else []) ++ joinLL [',', ' '] (prList4LL d ps))
          ((if dist then [opTok "DISTINCT"] else []) ++ toksArgs4 d noX 14 ps) := by
        cases dist with
        | false => simpa using pc_args14 ps hps
        | true =>
          have e1 : "DISTINCT ".toList = "DISTINCT".toList ++ [' '] := rfl
          simp only [↓reduceIte]
          rw [e1]
          exact ((pc_qw "DISTINCT" (by simp [queryWords])).sep (pc_args14 ps hps)).congr (by simp only [List.append_assoc, List.singleton_append]) rfl
      exact (Pc.call (tk_plain n.toList (by rw [← isPlainName_plainL]; exact hl) '(' (Or.inl rfl)) hq hin).congr
        (by simp only [prE4L, List.append_assoc]) (by simp [toksE4, grp_eq, opTok_eq]))
    (by
      simp only [PR.prE, pr_list ps hps, Except.map, prE4L]
      refine ok_ofList ?_
      cases dist <;> simp [toString, String.toList_append, toList_joinS])
    (by
      obtain ⟨c, r, hc, hne⟩ := plain_fc n hl
      exact ⟨c, _, by simp only [prE4L, hc]; rfl, hne⟩)

theorem ge_subValue (vs : List Expr) (hvs : ∀ a ∈ vs, GE4 d K a) : GE4 d K (.subValue vs) :=
  GE4.of ((pc_args8 vs hvs).paren.congr (by simp [prE4L]) (by simp [toksE4, grp_eq]))
    (by
      simp only [PR.prE, pr_list8 vs hvs, Except.map, prE4L]
      refine ok_ofList ?_
      simp [toString, String.toList_append, toList_joinS])
    ⟨'(', _, rfl, by decide⟩

theorem ge_subQuery (q : Query) (hq : GQ4 d K q) : GE4 d K (.subQuery q) :=
  GE4.of (hq.pc.paren.congr (by simp [prE4L]) (by simp [toksE4, grp_eq]))
    (by
      simp only [PR.prE, hq.pr, Except.map, prE4L]
      refine ok_ofList ?_
      simp [toString, String.toList_append, String.toList_ofList])
    ⟨'(', _, rfl, by decide⟩

theorem pc_arm (p : Expr × Expr) (h1 : GE4 d K p.1) (h2 : GE4 d K p.2) : Pc K (armL d p) (armT d p) :=
  ((pc_qw "WHEN" (by simp [queryWords])).sep ((h1.pcw 14).sep ((pc_qw "THEN" (by simp [queryWords])).sep (h2.pcw 14)))).congr
    (by simp [armL, wrapL14]) (by simp [armT])

def elseT (d : Gen.D) : Option Expr → List Tok
  | none => []
  | some y => opTok "ELSE" :: wrapT (noX y) y 14 (toksE4 d noX y)

theorem toksElse4_eq (els : Option Expr) : toksElse4 d noX els = elseT d els := by cases els <;> simp [toksElse4, elseT]

/-- the ELSE piece, as the pieces `w` makes of it (itself, or indented) -/
theorem segp_else (c : Char) (w : List Char → List Char) (hw : ∀ {x : List Char} {tx : List Tok}, Pc K x tx → Pc K (w x) tx)
    (els : Option Expr) (h : ∀ y, els = some y → GE4 d K y) : SegP K c ((prElse4LL d els).map w) (elseT d els) := by
  cases els with
  | none => exact SegP.nil c
  | some y =>
    have := SegP.one c (hw ((pc_qw "ELSE" (by simp [queryWords])).sep ((h y rfl).pcw 14)))
    simpa [prElse4LL, elseT, wrapL14] using this

theorem pr_arms : ∀ (cs : List (Expr × Expr)), (∀ p ∈ cs, GE4 d K p.1 ∧ GE4 d K p.2) →
    PR.prArms d cs = .ok ((prArms4LL d cs).map String.ofList)
  | [], _ => rfl
  | (w, t) :: r, h => by
    have h1 := (h (w, t) (by simp)).1.pr
    have h2 := (h (w, t) (by simp)).2.pr
    have h3 := pr_arms r fun y hy => h y (by simp [hy])
    simp only at h1 h2
    simp only [PR.prArms, h1, h2, h3, bind, Except.bind, pure, Except.pure, prArms4LL, List.map_cons]
    refine congrArg Except.ok ?_
    congr 1
    apply ofList_eq
    simp [toString, String.toList_append, String.toList_ofList]

theorem pr_optE (els : Option Expr) (h : ∀ y, els = some y → GE4 d K y) :
    PR.prOptE d els = .ok (els.map fun y => String.ofList (prE4L d y)) := by
  cases els with
  | none => rfl
  | some y => simp [PR.prOptE, (h y rfl).pr, Except.map]

theorem ge_caseCond (cs : List (Expr × Expr)) (els : Option Expr) (hcs : ∀ p ∈ cs, GE4 d K p.1 ∧ GE4 d K p.2)
    (hels : ∀ y, els = some y → GE4 d K y) : GE4 d K (.caseCond cs els) :=
  GE4.of
    (by
      have s := SegP.cons LLD.sp (pc_qw "CASE" (by simp [queryWords])) (SegP.append LLD.sp
        (SegP.map LLD.sp (armL d) (armT d) cs fun p hp => pc_arm p (hcs p hp).1 (hcs p hp).2)
        (SegP.append LLD.sp (segp_else ' ' id (fun h => h) els hels) (SegP.one ' ' (pc_qw (K := K) "END" (by simp [queryWords])))))
      exact (s.pc LLD.sp).congr (by simp [prE4L, prArms4LL_eq]) (by simp [toksE4, toksArms4_eq, toksElse4_eq]))
    (by
      simp only [PR.prE, pr_arms cs hcs, pr_optE els hels, bind, Except.bind, pure, Except.pure, prE4L]
      refine ok_ofList ?_
      rw [toList_joinS]
      congr 1
      cases els <;> simp [prElse4LL, toString, String.toList_append, String.toList_ofList])
    (by
      refine ⟨'C', ?_⟩
      simp only [prE4L]
      rw [joinLL_cons_ne _ _ _ (by simp)]
      exact ⟨_, rfl, by decide⟩)

theorem ge_caseVal (v : Expr) (cs : List (Expr × Expr)) (els : Option Expr) (hv : GE4 d K v) (hcs : ∀ p ∈ cs, GE4 d K p.1 ∧ GE4 d K p.2)
    (hels : ∀ y, els = some y → GE4 d K y) : GE4 d K (.caseVal v cs els) :=
  GE4.of
    (by
      have s := SegP.cons nl (pc_qw "CASE" (by simp [queryWords])) (SegP.cons nl (hv.pcw 14) (SegP.append nl
        (SegP.map nl (fun p => ind4 (armL d p)) (armT d) cs fun p hp => (pc_arm p (hcs p hp).1 (hcs p hp).2).ind4)
        (SegP.append nl (segp_else '\n' ind4 Pc.ind4 els hels) (SegP.one '\n' (pc_qw (K := K) "END" (by simp [queryWords]))))))
      exact (s.pc nl).congr (by simp [prE4L, prArms4LL_eq, wrapL14, Function.comp_def])
        (by simp [toksE4, toksArms4_eq, toksElse4_eq]))
    (by
      simp only [PR.prE, hv.pr, pr_arms cs hcs, pr_optE els hels, bind, Except.bind, pure, Except.pure, prE4L]
      refine ok_ofList ?_
      rw [toList_joinS]
      congr 1
      cases els <;> simp [prElse4LL, toString, String.toList_append, String.toList_ofList, ind4, Function.comp_def])
    (by
      refine ⟨'C', ?_⟩
      simp only [prE4L]
      rw [joinLL_cons_ne _ _ _ (by simp)]
      exact ⟨_, rfl, by decide⟩)

end
end LL2
