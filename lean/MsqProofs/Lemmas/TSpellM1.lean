import MsqProofs.Lemmas.TSpellX
/-! Spelling-generalised T-parse: the expression half of the mutual induction step (`expr_step`): the record of a fragment expression from
the records of its smaller sub-expressions and sub-queries. -/
open Lex PM Ast SR TP TP2 TQ
namespace TSP
variable {d : Gen.D} {sp : Sp}
theorem expr_step (hbang : ∀ e, sp.bang e = true → d = .HIVE) (n : Nat) (ih : ∀ e, szE3 e ≤ n → FragE3 d e = true → RT3 d sp e)
    (ihq : ∀ q, szQ q ≤ n → FragQ d q = true → QT d sp q) : ∀ e, szE3 e ≤ n + 1 → FragE3 d e = true → RT3 d sp e := by
  intro e he hf
  have k := @TP2.kw_nocomma
  cases e with
  | column t c =>
    cases t with
    | none =>
      simp only [FragE3] at hf
      have hh : operandTok d (nameTok c) = true := by simp only [colOK, elemTok, Bool.and_eq_true] at hf; exact hf.1.1.1.1
      obtain ⟨n1, n2, _⟩ := TP2.name_facts c
      exact RT3.mk2 [nameTok c] (by simp only [toksE3])
        ((Tower2.of2 (Full2.of (TP.full2_column c hf)) (TP2.headOK_tok _ _ hh)).relevel _ (by simp [PR.lvl])) (TQ.head_tok _ _ n1 hh) (TQ.nc_single n2)
        (by simp [tl3])
    | some t =>
      simp only [FragE3] at hf
      have hq := hf
      simp only [qcolOK, nm2OK, Bool.and_eq_true, Bool.not_eq_true'] at hq
      obtain ⟨_, ho, hd1, _, _, _, _, _, _, c1, _⟩ := TP2.nmOK_parts hq.1
      exact RT3.mk2 [nameTok t, dotTok, nameTok c] (by simp only [toksE3])
        ((Tower2.of2 (TQ.full2_qcol t c hf) (TP2.headOK_tok _ _ ho)).relevel _ (by simp [PR.lvl])) (TQ.head_tok _ _ hd1 ho)
        (TQ.NoComma.cons c1 (TQ.NoComma.cons k.2.2.2.2.2.2.2.2.2.2.2.2.2.2.2.1 (TQ.nc_single hq.2.2))) (by simp [tl3])
  | literal v =>
    simp only [FragE3] at hf
    have hh : operandTok d (litTok v) = true := by simp only [litOK, elemTok, Bool.and_eq_true] at hf; exact hf.2.1
    obtain ⟨l1, l2⟩ := TQ.lit_facts v hf
    exact RT3.mk2 [litTok v] (by simp only [toksE3])
      ((Tower2.of2 (Full2.of (TP.full2_literal v hf)) (TP2.headOK_tok _ _ hh)).relevel _ (by simp [PR.lvl])) (TQ.head_tok _ _ l1 hh) (TQ.nc_single l2)
      (by simp [tl3])
  | wildcard t =>
    obtain ⟨s1, s2, _⟩ := @TP2.star_head d
    cases t with
    | none =>
      exact RT3.mk2 [starTok] (by simp only [toksE3])
        ((Tower2.of2 TQ.full2_star (TP2.headOK_tok _ _ s2)).relevel _ (by simp [PR.lvl])) (TQ.head_tok _ _ s1 s2)
        (TQ.nc_single k.2.2.2.2.2.2.2.2.2.2.2.2.2.2.2.2) (by simp [tl3])
    | some t =>
      simp only [FragE3] at hf
      obtain ⟨_, ho, hd1, _, _, _, _, _, _, c1, _⟩ := TP2.nmOK_parts hf
      exact RT3.mk2 [qTok t, dotTok, starTok] (by simp only [toksE3])
        ((Tower2.of2 (TQ.full2_qstar t hf) (TP2.headOK_tok _ _ ho)).relevel _ (by simp [PR.lvl])) (TQ.head_tok _ _ hd1 ho)
        (TQ.NoComma.cons c1 (TQ.NoComma.cons k.2.2.2.2.2.2.2.2.2.2.2.2.2.2.2.1 (TQ.nc_single k.2.2.2.2.2.2.2.2.2.2.2.2.2.2.2.2))) (by simp [tl3])
  | func s nm ps =>
    simp only [FragE3, Bool.and_eq_true] at hf
    simp only [szE3] at he
    have hps : ∀ a ∈ ps, RT3 d sp a := fun a ha => by
      obtain ⟨x, y⟩ := TQ.frag2L_mem ps hf.2 a ha
      exact ih a (by omega) x
    cases s with
    | none =>
      have hq := hf.1
      simp only [fnOK, Bool.and_eq_true] at hq
      obtain ⟨_, ho, hd1, _, _, _, _, _, _, c1, _⟩ := TP2.nmOK_parts hq.2.1
      exact RT3.mk2 [qTok nm, grp (toksArgs3 d sp 14 ps)] (by simp only [toksE3, List.nil_append])
        ((Tower2.of2 (full2_func nm ps hf.1 hps) (TP2.headOK_tok _ _ ho)).relevel _ (by simp [PR.lvl])) (TQ.head_tok _ _ hd1 ho)
        (TQ.NoComma.cons c1 (TQ.grp_nocomma _)) (by simp [tl3])
    | some s =>
      have hq := hf.1
      simp only [fnOK, nm2OK, Bool.and_eq_true, Bool.not_eq_true'] at hq
      obtain ⟨_, ho, hd1, _, _, _, _, _, _, c1, _⟩ := TP2.nmOK_parts hq.2.1
      exact RT3.mk2 [nameTok s, dotTok, qTok nm, grp (toksArgs3 d sp 14 ps)] (by simp only [toksE3, List.cons_append, List.nil_append])
        ((Tower2.of2 (full2_qfunc s nm ps hf.1 hps) (TP2.headOK_tok _ _ ho)).relevel _ (by simp [PR.lvl])) (TQ.head_tok _ _ hd1 ho)
        (TQ.NoComma.cons c1 (TQ.NoComma.cons k.2.2.2.2.2.2.2.2.2.2.2.2.2.2.2.1 (TQ.NoComma.cons hq.2.2.2 (TQ.grp_nocomma _)))) (by simp [tl3])
  | agg nm ps dist =>
    simp only [FragE3, Bool.and_eq_true] at hf
    simp only [szE3] at he
    have hps : ∀ a ∈ ps, RT3 d sp a := fun a ha => by
      obtain ⟨x, y⟩ := TQ.frag2L_mem ps hf.2 a ha
      exact ih a (by omega) x
    have hq := hf.1
    simp only [aggOK, Bool.and_eq_true] at hq
    obtain ⟨_, ho, hd1, _, _, _, _, _, _, c1, _⟩ := TP2.nmOK_parts hq.1.2
    exact RT3.mk2 _ (by simp only [toksE3])
      ((Tower2.of2 (full2_agg nm ps dist hf.1 hps) (TP2.headOK_tok _ _ ho)).relevel _ (by simp [PR.lvl])) (TQ.head_tok _ _ hd1 ho)
      (TQ.NoComma.cons c1 (TQ.grp_nocomma _)) (by simp [tl3])
  | caseCond cs els =>
    simp only [FragE3, Bool.and_eq_true, Bool.not_eq_true', List.isEmpty_eq_false_iff] at hf
    simp only [szE3] at he
    obtain ⟨_, _, s3, s4, _⟩ := @TP2.star_head d
    have hcs : ∀ p ∈ cs, RT3 d sp p.1 ∧ RT3 d sp p.2 := fun p hp => by
      obtain ⟨⟨x1, x2⟩, ⟨y1, y2⟩⟩ := TQ.frag2A_mem cs hf.1.1 p hp
      exact ⟨ih _ (by omega) x1, ih _ (by omega) y1⟩
    have hels : ∀ y, els = some y → RT3 d sp y := fun y hy => by
      subst hy; simp only [FragO3] at hf; simp only [szO3] at he; exact ih y (by omega) hf.1.2
    obtain ⟨a1, a2⟩ := arms_nc cs hcs
    obtain ⟨e1, e2⟩ := else_nc els hels
    exact RT3.mk2 _ (by simp only [toksE3])
      ((Tower2.of2 (full2_caseCond cs els hf.2 hcs hels) (TP2.headOK_tok _ _ s4)).relevel _ (by simp [PR.lvl])) (TQ.head_tok _ _ s3 s4)
      (TQ.NoComma.cons k.2.2.2.2.2.2.2.2.2.2.1 (a1.append (e1.append (TQ.nc_single k.2.2.2.2.2.2.2.2.2.2.2.2.2.2.1))))
      (by simp only [tl3, List.length_cons, List.length_append, List.length_nil]; omega)
  | caseVal v cs els =>
    simp only [FragE3, Bool.and_eq_true, Bool.not_eq_true', List.isEmpty_eq_false_iff] at hf
    simp only [szE3] at he
    obtain ⟨_, _, s3, s4, _⟩ := @TP2.star_head d
    have hv := ih v (by omega) hf.1.1.1
    have hcs : ∀ p ∈ cs, RT3 d sp p.1 ∧ RT3 d sp p.2 := fun p hp => by
      obtain ⟨⟨x1, x2⟩, ⟨y1, y2⟩⟩ := TQ.frag2A_mem cs hf.1.1.2 p hp
      exact ⟨ih _ (by omega) x1, ih _ (by omega) y1⟩
    have hels : ∀ y, els = some y → RT3 d sp y := fun y hy => by
      subst hy; simp only [FragO3] at hf; simp only [szO3] at he; exact ih y (by omega) hf.1.2
    obtain ⟨a1, a2⟩ := arms_nc cs hcs
    obtain ⟨e1, e2⟩ := else_nc els hels
    have lv := hv.lenW 14
    exact RT3.mk2 (opTok "CASE" :: (W3 d sp v 14 ++ (toksArms3 d sp cs ++ (toksElse3 d sp els ++ [opTok "END"])))) (by simp only [toksE3, W3])
      ((Tower2.of2 (full2_caseVal v cs els hv hcs hels) (TP2.headOK_tok _ _ s4)).relevel _ (by simp [PR.lvl])) (TQ.head_tok _ _ s3 s4)
      (TQ.NoComma.cons k.2.2.2.2.2.2.2.2.2.2.1 ((hv.ncW 14).append (a1.append (e1.append (TQ.nc_single k.2.2.2.2.2.2.2.2.2.2.2.2.2.2.1)))))
      (by simp only [tl3, List.length_cons, List.length_append, List.length_nil]; omega)
  | unary o x =>
    simp only [FragE3, Bool.and_eq_true] at hf
    simp only [szE3] at he
    have hx := ih x (by omega) hf.2
    have hh : operandTok d (opTok (cval o)) = true := by
      have := hf.1; simp only [unOK, Bool.and_eq_true] at this; exact this.1.2
    obtain ⟨u1, u2⟩ := TP2.unary_facts o hf.1
    have lx := hx.lenW 2
    exact RT3.mk2 (opTok (cval o) :: W3 d sp x 2) (by simp only [toksE3, W3])
      ((Tower2.of2 (full2_unary o x hf.1 ((hx.at 2 (by omega)).s2 (by omega))) (TP2.headOK_tok _ _ hh)).relevel _ (by simp [PR.lvl]))
      (TQ.head_tok _ _ u1 hh) (TQ.NoComma.cons u2 (hx.ncW 2)) (by simp only [tl3, List.length_cons]; omega)
  | compute l o r =>
    obtain ⟨hb, fl, fr⟩ := frag_compute d hf
    obtain ⟨h3, h8, _⟩ := binOK_parts d hb
    simp only [szE3] at he
    have hl := ih l (by omega) fl
    have hr := ih r (by omega) fr
    have f8 := compute_node d sp (.compute l o r) rfl hf
      (fun u fu su => ((ih u (by simp only [szE3] at su; omega) fu).at 2 (by omega)).s2 (by omega))
    have e1 : toksE3 d sp (.compute l o r) = W3 d sp l (binLevel o) ++ opTok (cvalSp (sp.word (opdAfter sp.ch r (binLevel o - 1))) o) :: W3 d sp r (binLevel o - 1) := by
      simp only [toksE3, W3, lvl_compute]
    rw [e1] at f8
    have ll := hl.lenW (binLevel o); have lr := hr.lenW (binLevel o - 1)
    exact RT3.mk2 _ e1
      ((Tower2.of8 f8 ((hl.headOKW (binLevel o) (TC.hOK8 l _ (by omega))).append _)).relevel _ (by rw [lvl_compute]; omega))
      (head_left hl (binLevel o) _ (fun _ => TC.hOK8 l _ (by omega)))
      ((hl.ncW _).append (TQ.NoComma.cons (binSp_nocomma o hb _) (hr.ncW _))) (by simp only [tl3, List.length_cons, List.length_append]; omega)
  | kw kk n0 l r =>
    simp only [FragE3, Bool.and_eq_true] at hf
    obtain ⟨hf, hne⟩ := hf
    simp only [Bool.not_eq_true'] at hne
    simp only [szE3] at he
    have hl := ih l (by omega) hf.1
    have ll := hl.lenW 9
    have kl := TP2.kwToks_len kk n0
    by_cases hk : kk = .in_
    · subst hk
      simp only [beq_self_eq_true, if_true] at hf
      cases r with
      | subValue vs =>
        cases vs with
        | nil => simp [inRhs3] at hf
        | cons v as =>
          simp only [inRhs3, Bool.and_eq_true, shortL3, List.all_cons, decide_eq_true_eq, List.all_eq_true] at hf
          obtain ⟨_, ⟨⟨hfl, _⟩, hv20, has20⟩⟩ := hf
          simp only [szE3, szL3] at he
          have hmem := TQ.frag2L_mem (v :: as) hfl
          have hv : RT3 d sp v ∧ tl3 v ≤ 20 := ⟨ih v (by have := (hmem v (by simp)).2; simp only [szL3] at this; omega) (hmem v (by simp)).1, hv20⟩
          have has : ∀ a ∈ as, RT3 d sp a ∧ tl3 a ≤ 20 := fun a ha =>
            ⟨ih a (by have := (hmem a (by simp [ha])).2; simp only [szL3] at this; omega) (hmem a (by simp [ha])).1, has20 a ha⟩
          have c9 := cont9_in n0 l v as hv has ((hl.at 9 (by omega)).c9 (by omega))
          have e1 : toksE3 d sp (.kw .in_ n0 l (.subValue (v :: as))) =
              W3 d sp l 9 ++ (kwToks .in_ n0 ++ [grp (toksArgs3 d sp 8 (v :: as))]) := by
            simp [toksE3, W3, wrapT, PR.lvl]
          exact RT3.mk2 _ e1
            ((Tower2.of9 c9 ((hl.headOKW 9 (TC.hOKne l 9 (by omega) hne)).append _)).relevel _ (by simp [PR.lvl])) (head_left hl 9 _ (fun _ => TC.hOKne l 9 (by omega) hne))
            ((hl.ncW 9).append ((TQ.kwToks_nocomma _ _).append (TQ.grp_nocomma _)))
            (by simp only [tl3, List.length_cons, List.length_append, List.length_nil]; omega)
      | subQuery q =>
        simp only [inRhs3] at hf
        simp only [szE3] at he
        have hq := ihq q (by omega) hf.2
        have c9 := cont9_inq n0 l q hq ((hl.at 9 (by omega)).c9 (by omega))
        have e1 : toksE3 d sp (.kw .in_ n0 l (.subQuery q)) = W3 d sp l 9 ++ (kwToks .in_ n0 ++ [grp (toksQ d sp q)]) := by
          simp [toksE3, W3, wrapT, PR.lvl]
        exact RT3.mk2 _ e1
          ((Tower2.of9 c9 ((hl.headOKW 9 (TC.hOKne l 9 (by omega) hne)).append _)).relevel _ (by simp [PR.lvl]))
          (head_left hl 9 _ (fun _ => TC.hOKne l 9 (by omega) hne))
          ((hl.ncW 9).append ((TQ.kwToks_nocomma _ _).append (TQ.grp_nocomma _)))
          (by simp only [tl3, List.length_cons, List.length_append, List.length_nil]; omega)
      | _ => simp [inRhs3] at hf
    · have hk' : (kk == KwKind.in_) = false := by simpa using hk
      simp only [hk', Bool.false_eq_true, if_false] at hf
      have hr := ih r (by omega) hf.2
      have lr := hr.lenW 8
      have c9 := cont9_kw kk n0 l r hk ((hl.at 9 (by omega)).c9 (by omega)) ((hr.at 8 (by omega)).s8 (by omega)) (hr.headOKW 8 (TC.hOK8 r 8 (by omega)))
      have e1 : toksE3 d sp (.kw kk n0 l r) = W3 d sp l 9 ++ (kwToks kk n0 ++ W3 d sp r 8) := by
        have : (kk != KwKind.in_) = true := by simpa using hk
        simp only [toksE3, W3, this, Bool.and_true]
      exact RT3.mk2 _ e1
        ((Tower2.of9 c9 ((hl.headOKW 9 (TC.hOKne l 9 (by omega) hne)).append _)).relevel _ (by simp [PR.lvl])) (head_left hl 9 _ (fun _ => TC.hOKne l 9 (by omega) hne))
        ((hl.ncW 9).append ((TQ.kwToks_nocomma _ _).append (hr.ncW 8))) (by simp only [tl3, List.length_append]; omega)
  | between n0 b fr to =>
    simp only [FragE3, Bool.and_eq_true] at hf
    obtain ⟨hf, hne⟩ := hf
    simp only [Bool.not_eq_true'] at hne
    simp only [szE3] at he
    have hb := ih b (by omega) hf.1.1
    have hfr := ih fr (by omega) hf.1.2
    have hto := ih to (by omega) hf.2
    have c9 := cont9_between n0 b fr to ((hb.at 9 (by omega)).c9 (by omega)) ((hfr.at 8 (by omega)).s8 (by omega))
      ((hto.at 8 (by omega)).s8 (by omega))
    have l1 := hb.lenW 9; have l2 := hfr.lenW 8; have l3 := hto.lenW 8
    have hnc : TQ.NoComma (if n0 = true then [opTok "NOT"] else []) := by cases n0 <;> simp [TQ.NoComma.nil, TQ.nc_single k.1]
    exact RT3.mk2 (W3 d sp b 9 ++ ((if n0 then [opTok "NOT"] else []) ++ opTok "BETWEEN" :: (W3 d sp fr 8 ++ opTok "AND" :: W3 d sp to 8)))
      (by simp only [toksE3, W3])
      ((Tower2.of9 c9 ((hb.headOKW 9 (TC.hOKne b 9 (by omega) hne)).append _)).relevel _ (by simp [PR.lvl])) (head_left hb 9 _ (fun _ => TC.hOKne b 9 (by omega) hne))
      ((hb.ncW 9).append (hnc.append (TQ.NoComma.cons k.2.2.2.2.1 ((hfr.ncW 8).append (TQ.NoComma.cons k.2.1 (hto.ncW 8))))))
      (by cases n0 <;> simp only [tl3, List.length_cons, List.length_append, List.length_nil, if_true, if_false, Bool.false_eq_true] <;> omega)
  | compare o l r =>
    simp only [FragE3, Bool.and_eq_true] at hf
    obtain ⟨hf, hne⟩ := hf
    simp only [Bool.not_eq_true'] at hne
    simp only [szE3] at he
    have hl := ih l (by omega) hf.1.2
    have hr := ih r (by omega) hf.2
    have c10 := cont10_compare o l r _ (cmpTok_ok hf.1.1 (sp.ne (.compare o l r))) ((hl.at 10 (by omega)).c10 (by omega)) ((hr.at 9 (by omega)).s9 (by omega))
    have ll := hl.lenW 10; have lr := hr.lenW 9
    exact RT3.mk2 (W3 d sp l 10 ++ cmpTok (sp.ne (.compare o l r)) o :: W3 d sp r 9) (by simp only [toksE3, W3])
      ((Tower2.of10 c10 ((hl.headOKW 10 (TC.hOKne l 10 (by omega) hne)).append _)).relevel _ (by simp [PR.lvl])) (head_left hl 10 _ (fun _ => TC.hOKne l 10 (by omega) hne))
      ((hl.ncW _).append (TQ.NoComma.cons (cmpTok_ok hf.1.1 _).nocomma (hr.ncW _))) (by simp only [tl3, List.length_cons, List.length_append]; omega)
  | not_ x =>
    simp only [FragE3] at hf
    simp only [szE3] at he
    have hx := ih x (by omega) hf
    have f11 := full11_not x (sp.bang (.not_ x)) (hbang _) ((hx.at 11 (by omega)).s11 (by omega))
    have lx := hx.lenW 11
    exact RT3.mk2 (notTok (sp.bang (.not_ x)) :: W3 d sp x 11) (by simp only [toksE3, W3])
      ((Tower2.of11 f11).relevel _ (by simp [PR.lvl])) ⟨_, _, rfl, (notTok_facts _).2.1, fun h => by simp [lvlH, PR.lvl] at h⟩
      (TQ.NoComma.cons (notTok_facts _).2.2 (hx.ncW _)) (by simp only [tl3, List.length_cons]; omega)
  | and_ l r =>
    simp only [FragE3, Bool.and_eq_true] at hf
    simp only [szE3] at he
    have hl := ih l (by omega) hf.1
    have hr := ih r (by omega) hf.2
    have c12 := cont12_and l r (sp.amp (.and_ l r)) ((hl.at 12 (by omega)).c12 (by omega)) ((hr.at 11 (by omega)).s11 (by omega))
    have ll := hl.lenW 12; have lr := hr.lenW 11
    exact RT3.mk2 (W3 d sp l 12 ++ andTok (sp.amp (.and_ l r)) :: W3 d sp r 11) (by simp only [toksE3, W3])
      ((Tower2.of12 c12).relevel _ (by simp [PR.lvl])) (head_left hl 12 _ (fun h => by simp [lvlH, PR.lvl] at h))
      ((hl.ncW _).append (TQ.NoComma.cons (andTok_facts d _).2.2.2 (hr.ncW _))) (by simp only [tl3, List.length_cons, List.length_append]; omega)
  | xor l r =>
    simp only [FragE3, Bool.and_eq_true] at hf
    simp only [szE3] at he
    have hl := ih l (by omega) hf.1
    have hr := ih r (by omega) hf.2
    have c13 := cont13_xor l r ((hl.at 13 (by omega)).c13 (by omega)) ((hr.at 12 (by omega)).s12 (by omega))
    have ll := hl.lenW 13; have lr := hr.lenW 12
    exact RT3.mk2 (W3 d sp l 13 ++ opTok "XOR" :: W3 d sp r 12) (by simp only [toksE3, W3])
      ((Tower2.of13 c13).relevel _ (by simp [PR.lvl])) (head_left hl 13 _ (fun h => by simp [lvlH, PR.lvl] at h))
      ((hl.ncW _).append (TQ.NoComma.cons k.2.2.2.1 (hr.ncW _))) (by simp only [tl3, List.length_cons, List.length_append]; omega)
  | or_ l r =>
    simp only [FragE3, Bool.and_eq_true] at hf
    simp only [szE3] at he
    have hl := ih l (by omega) hf.1
    have hr := ih r (by omega) hf.2
    have c14 := cont14_or l r (sp.bar (.or_ l r)) (hl.at 14 (by omega)).c14 ((hr.at 13 (by omega)).s13 (by omega))
    have ll := hl.lenW 14; have lr := hr.lenW 13
    exact RT3.mk2 (W3 d sp l 14 ++ orTok (sp.bar (.or_ l r)) :: W3 d sp r 13) (by simp only [toksE3, W3])
      ((Tower2.of14 c14).relevel _ (by simp [PR.lvl])) (head_left hl 14 _ (fun h => by simp [lvlH, PR.lvl] at h))
      ((hl.ncW _).append (TQ.NoComma.cons (orTok_facts d _).2.2.2 (hr.ncW _))) (by simp only [tl3, List.length_cons, List.length_append]; omega)
  | subQuery q =>
    simp only [FragE3] at hf
    simp only [szE3] at he
    have hq := ihq q (by omega) hf
    have ho : operandTok d (grp (toksQ d sp q)) = true := by
      obtain ⟨t, ts', h1, h2⟩ := grp_headOK (d := d) (toksQ d sp q)
      simp only [List.cons.injEq] at h1
      rw [h1.1]; exact h2
    exact RT3.mk2 [grp (toksQ d sp q)] (by simp only [toksE3])
      ((Tower2.of2 (full2_subq q hq) (TP2.headOK_tok _ _ ho)).relevel _ (by simp [PR.lvl])) (TQ.head_tok _ _ (TQ.grp_hdTok _) ho) (TQ.grp_nocomma _)
      (by simp [tl3])
  | exists_ v =>
    cases v with
    | subQuery q =>
      simp only [FragE3, isSubQ] at hf
      simp only [szE3] at he
      have hq := ihq q (by omega) hf
      obtain ⟨_, _, x3, x4⟩ := TP2.exists_words
      exact RT3.mk2 (opTok "EXISTS" :: [grp (toksQ d sp q)]) (by simp only [toksE3])
        ((TQ.tower_of9w (cont9_exists q hq) ⟨_, _, rfl, TP2.exists_notSet⟩).relevel _ (by simp [PR.lvl]))
        ⟨_, _, rfl, x3, fun h => by simp [lvlH] at h⟩ (TQ.NoComma.cons x4 (TQ.grp_nocomma _)) (by simp [tl3])
    | _ => simp [FragE3, isSubQ] at hf
  | _ => simp [FragE3] at hf


end TSP
