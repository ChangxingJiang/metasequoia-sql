import MsqProofs.Lemmas.ParseWNCov
import MsqProofs.Lemmas.ParseAccountStmt
/-!
# C02 at the statement level: every expression contained in a parsed statement is derived by the documented grammar

Partition specifications (`PARTITION (a = 1, b)`: the comparison node is built by `_parse_partition_expression` itself, from two
compute-level operands), column types' parameters, DEFAULT / ON UPDATE / GENERATED ALWAYS AS expressions of column definitions,
UPDATE … SET values, VALUES rows, the WHERE / ORDER BY of UPDATE and DELETE, SHOW COLUMNS … WHERE, and the queries inside INSERT …
SELECT / CREATE TABLE … AS / plain SELECT statements: `exprsStmt`.
-/
open Lex
namespace WNG
open PM Ast
variable {d : Gen.D} {f : Nat}

def exprsCT (t : ColType) : List Expr := t.params.getD []
def exprsDC (c : DefCol) : List Expr :=
  exprsCT c.type ++ ((c.generated.map (·.e)).toList ++ (c.default.toList ++ c.onUpdate.toList))
def exprsCOI : ColOrIdx → List Expr | .col c => exprsDC c | _ => []
def exprsAO : AlterOp → List Expr
  | .addPartition _ p => p | .dropPartition _ p => p | .add x => exprsCOI x | .modify x => exprsCOI x | .change _ x => exprsCOI x | _ => []
def exprsCreate (c : CreateTable) : List Expr := c.columns.flatMap exprsDC ++ c.partitionedBy.flatMap exprsDC
def exprsIH (h : InsertHead) : List Expr := exprsOW h.withs ++ h.partition.getD []
def exprsStmt : Stmt → List Expr
  | .select q => exprsQ q
  | .insertValues h vs => exprsIH h ++ vs.flatten
  | .insertSelect h q => exprsIH h ++ exprsQ q
  | .update w _ sets wh ob _ => exprsOW w ++ (sets.map (·.2) ++ (wh.toList ++ oiEs ob))
  | .delete _ wh ob _ => wh.toList ++ oiEs ob
  | .createTable c => exprsCreate c
  | .createTableAs _ _ q => exprsQ q
  | .analyze _ p _ _ _ => p.getD []
  | .alter _ ops => ops.flatMap exprsAO
  | .showColumns fr wh => exprsFs fr ++ wh.toList
  | _ => []

/-- coverage of a column definition, field by field (stable under the structure updates of the attribute loop) -/
structure CovDC (d : Gen.D) (T : List Tok) (c : DefCol) : Prop where
  ty : CovL d T (exprsCT c.type)
  gen : ∀ g, c.generated = some g → Cov d T g.e
  dflt : ∀ e, c.default = some e → Cov d T e
  upd : ∀ e, c.onUpdate = some e → Cov d T e

theorem CovDC.covL {T : List Tok} {c : DefCol} (h : CovDC d T c) : CovL d T (exprsDC c) := by
  refine h.ty.append (CovL.append ?_ (CovL.append ?_ ?_))
  · intro e he
    cases hg : c.generated with
    | none => simp [hg] at he
    | some g => simp [hg] at he; subst he; exact h.gen g hg
  · intro e he
    cases hg : c.default with
    | none => simp [hg] at he
    | some g => simp [hg] at he; rw [he]; exact h.dflt g hg
  · intro e he
    cases hg : c.onUpdate with
    | none => simp [hg] at he
    | some g => simp [hg] at he; rw [he]; exact h.upd g hg

theorem CovL.flatMap {α : Type} {T : List Tok} {l : List α} {g : α → List Expr} (h : ∀ a ∈ l, CovL d T (g a)) : CovL d T (l.flatMap g) := by
  intro e he
  obtain ⟨a, ha, hea⟩ := List.mem_flatMap.mp he
  exact h a ha e hea
theorem CovL.flatten {T : List Tok} {l : List (List Expr)} (h : ∀ a ∈ l, CovL d T a) : CovL d T l.flatten := by
  intro e he
  obtain ⟨a, ha, hea⟩ := List.mem_flatten.mp he
  exact h a ha e hea

theorem popSplit_sub {T ts r : List Tok} {segs : List (List Tok)} (hs : Sub T ts) (h : popSplit ts = .ok (segs, r)) :
    (∀ sg ∈ segs, Sub T sg) ∧ Sub T r := by
  obtain ⟨g, rfl, rfl⟩ := popSplit_ok _ _ _ h
  exact ⟨splitBy_sub hs.head_child, hs.tail⟩

theorem eachClosed_all {α : Type} {T : List Tok} {p : List Tok → R α} {P : α → Prop}
    (hp : ∀ sg a, Sub T sg → closed (p sg) = .ok a → P a) :
    ∀ (segs : List (List Tok)) (as : List α), (∀ sg ∈ segs, Sub T sg) → eachClosed p segs = .ok as → ∀ a ∈ as, P a := by
  intro segs as hss h
  have hE := closed_eachClosed p segs as h
  clear h
  induction hE with
  | nil => intro a ha; cases ha
  | cons hab _ ih =>
    intro a ha
    rcases List.mem_cons.1 ha with rfl | ha
    · exact hp _ _ (hss _ List.mem_cons_self) ((closed_ok _ _).2 hab)
    · exact ih (fun s hm => hss s (List.mem_cons_of_mem _ hm)) a ha

theorem eachClosed_compute {T : List Tok} {segs : List (List Tok)} {es : List Expr} (hss : ∀ sg ∈ segs, Sub T sg)
    (h : eachClosed (pCompute d f) segs = .ok es) : CovL d T es :=
  eachClosed_all (P := fun e => Cov d T e) (fun _ _ hs ha => cov_closed_compute hs ha) segs es hss h

/-! ### column types, partition specifications -/
theorem cv_pColType {T ts r : List Tok} {v : ColType} (hs : Sub T ts) (h : pColType d f ts = .ok (v, r)) : CovL d T (exprsCT v) := by
  unfold pColType at h
  split at h
  · cases h
  · rename_i name r0 hp
    have hs0 : Sub T r0 := hs.of_cons (popSrc_cons _ _ _ hp)
    split at h
    · split at h
      · cases h
      · rename_i segs r1 hsp
        split at h
        · rename_i ps hps
          obtain ⟨rfl, rfl⟩ := ret2 h
          simpa [exprsCT] using eachClosed_compute (popSplit_sub hs0 hsp).1 hps
        · cases h
    · obtain ⟨rfl, rfl⟩ := ret2 h; simpa [exprsCT] using CovL.nil

theorem cv_pPartitionItem {T ts r : List Tok} {v : Expr × Bool} (hs : Sub T ts) (h : pPartitionItem d f ts = .ok (v, r)) : Cov d T v.1 := by
  unfold pPartitionItem at h
  split at h
  · cases h
  · rename_i bv r0 h1
    obtain ⟨u1, rfl, hd1⟩ := (wf_all d f).pCompute _ bv r0 h1
    split at h
    · split at h
      · cases h
      · rename_i o r1 hp
        cases r0 with
        | nil => simp [popSrc] at hp
        | cons t r0' =>
          simp only [popSrc, Except.ok.injEq, Prod.mk.injEq] at hp
          obtain ⟨rfl, rfl⟩ := hp
          split at h
          · cases h
          · rename_i op hop
            split at h
            · cases h
            · rename_i av r2 h2
              obtain ⟨u2, rfl, hd2⟩ := (wf_all d f).pCompute _ av r2 h2
              obtain ⟨rfl, rfl⟩ := ret2 h
              refine ⟨10, u1 ++ t :: u2, Sub.pfx (u := u1 ++ t :: u2) (r := r2) (by simpa using hs), ?_⟩
              exact Derives.compare ((by simpa using hd1 : Derives d 8 u1 bv).up (by omega)) hop
                ((by simpa using hd2 : Derives d 8 u2 av).up (by omega))
    · obtain ⟨rfl, rfl⟩ := ret2 h
      exact ⟨8, u1, hs.pfx, by simpa using hd1⟩

theorem cv_pPartition {T ts r : List Tok} {already : Bool} {v : List Expr} (hs : Sub T ts) (h : pPartition d f already ts = .ok (v, r)) :
    CovL d T v := by
  have main : ∀ r0, Sub T r0 →
      (match popSplit r0 with
        | .error e => .error e
        | .ok (segs, r1) => match eachClosed (pPartitionItem d f) segs with
          | .error e => .error e
          | .ok items => if items.any (·.2) && items.any (fun i => !i.2) then .error .parse else .ok (items.map (·.1), r1)) = (.ok (v, r) : R (List Expr)) →
      CovL d T v := by
    intro r0 hs0 h
    split at h
    · cases h
    · rename_i segs r1 hsp
      split at h
      · cases h
      · rename_i items hit
        split at h
        · cases h
        · obtain ⟨rfl, rfl⟩ := ret2 h
          have := eachClosed_all (P := fun (a : Expr × Bool) => Cov d T a.1) (fun sg a hsg ha => by
            rw [closed_ok] at ha; exact cv_pPartitionItem hsg ha) segs items (popSplit_sub hs0 hsp).1 hit
          intro e he
          obtain ⟨a, ha, rfl⟩ := List.mem_map.mp he
          exact this a ha
  unfold pPartition at h
  cases already with
  | true => simp only [↓reduceIte] at h; exact main ts hs h
  | false =>
    simp only [Bool.false_eq_true, ↓reduceIte] at h
    cases hm : matchKw ts "PARTITION" with
    | error e => rw [hm] at h; cases h
    | ok p =>
      obtain ⟨u, r0⟩ := p
      rw [hm] at h
      exact main r0 (hs.of_cons (matchKw_cons _ _ _ _ hm)) h

theorem cv_pOptPartition {T ts r : List Tok} {v : Option (List Expr)} (hs : Sub T ts) (h : pOptPartition d f ts = .ok (v, r)) :
    CovL d T (v.getD []) := by
  unfold pOptPartition at h
  split at h
  · split at h
    · rename_i p r1 h1
      obtain ⟨rfl, rfl⟩ := ret2 h
      simpa using cv_pPartition hs h1
    · cases h
  · obtain ⟨rfl, rfl⟩ := ret2 h; simpa using CovL.nil

/-! ### column definitions -/
theorem cv_pGenerated {T ts r : List Tok} {gc : GenCol} (hs : Sub T ts) (h : pGenerated d f ts = .ok (some gc, r)) : Cov d T gc.e := by
  unfold pGenerated at h
  split at h
  · split at h
    · cases h
    · rename_i g r0 hdrop
      have hs0 : Sub T (g :: r0) := hdrop ▸ hs.drop 3
      split at h
      · cases h
      · rename_i e he
        split at h
        · cases h
        · split at h
          · simp only [Except.ok.injEq, Prod.mk.injEq, Option.some.injEq] at h
            rw [← h.1]
            exact cov_closed_compute hs0.head_child he
          · cases h
  · cases h

theorem cv_defColLoop {T : List Tok} : ∀ (g : Nat) (c : DefCol) (ts : List Tok) (v : DefCol) (r : List Tok), Sub T ts → CovDC d T c →
    defColLoop d f g c ts = .ok (v, r) → CovDC d T v := by
  intro g
  induction g with
  | zero => intro c ts v r _ _ h; simp [defColLoop] at h
  | succ g ih =>
    intro c ts v r hs hc h
    have keep : ∀ {c' : DefCol}, c'.type = c.type → c'.generated = c.generated → c'.default = c.default → c'.onUpdate = c.onUpdate →
        CovDC d T c' := fun h1 h2 h3 h4 => ⟨h1 ▸ hc.ty, h2 ▸ hc.gen, h3 ▸ hc.dflt, h4 ▸ hc.upd⟩
    have srcStep : ∀ {k : Nat} {s : String} {r0 : List Tok}, popSrc (ts.drop k) = .ok (s, r0) → Sub T r0 :=
      fun hp => (hs.drop _).of_cons (popSrc_cons _ _ _ hp)
    unfold defColLoop at h
    peel_if h with hcnd
    · obtain ⟨rfl, rfl⟩ := ret2 h; exact hc
    peel_if h with hcnd
    · (refine ih _ _ v r ?_ ?_ h; exact hs.drop 2; exact keep rfl rfl rfl rfl)
    peel_if h with hcnd
    · (refine ih _ _ v r ?_ ?_ h; exact hs.drop 1; exact keep rfl rfl rfl rfl)
    peel_if h with hcnd
    · split at h
      · rename_i s r0 hp; refine ih _ _ v r ?_ ?_ h; exact srcStep hp; exact keep rfl rfl rfl rfl
      · cases h
    peel_if h with hcnd
    · split at h
      · rename_i s r0 hp; refine ih _ _ v r ?_ ?_ h; exact srcStep hp; exact keep rfl rfl rfl rfl
      · cases h
    peel_if h with hcnd
    · split at h
      · rename_i e r0 hp
        obtain ⟨hcv, hs1⟩ := cov_run (hs.drop 1) ((wf_all d f).pCompute _ e r0 hp)
        refine ih _ _ v r hs1 ?_ h
        exact ⟨hc.ty, hc.gen, fun e' he => by cases he; exact hcv, hc.upd⟩
      · cases h
    peel_if h with hcnd
    · split at h
      · rename_i s r0 hp; refine ih _ _ v r ?_ ?_ h; exact srcStep hp; exact keep rfl rfl rfl rfl
      · cases h
    peel_if h with hcnd
    · split at h
      · rename_i e r0 hp
        obtain ⟨hcv, hs1⟩ := cov_run (hs.drop 2) ((wf_all d f).pCompute _ e r0 hp)
        refine ih _ _ v r hs1 ?_ h
        exact ⟨hc.ty, hc.gen, hc.dflt, fun e' he => by cases he; exact hcv⟩
      · cases h
    peel_if h with hcnd
    · (refine ih _ _ v r ?_ ?_ h; exact hs.drop 1; exact keep rfl rfl rfl rfl)
    peel_if h with hcnd
    · (refine ih _ _ v r ?_ ?_ h; exact hs.drop 1; exact keep rfl rfl rfl rfl)
    peel_if h with hcnd
    · (refine ih _ _ v r ?_ ?_ h; exact hs.drop 1; exact keep rfl rfl rfl rfl)
    peel_if h with hcnd
    · split at h
      · rename_i gc r0 hp
        have hcv := cv_pGenerated hs hp
        have hs1 : Sub T r0 := hs.of_cons (cons_pGenerated d f _ _ _ hp)
        refine ih _ _ v r hs1 ?_ h
        exact ⟨hc.ty, fun g' hg => by cases hg; exact hcv, hc.dflt, hc.upd⟩
      · cases h
      · cases h
    · cases h

theorem cv_pDefCol {T ts r : List Tok} {v : DefCol} (hs : Sub T ts) (h : pDefCol d f ts = .ok (v, r)) : CovDC d T v := by
  unfold pDefCol at h
  split at h
  · cases h
  · rename_i nm r0 hp
    have hs0 : Sub T r0 := hs.of_cons (popSrc_cons _ _ _ hp)
    split at h
    · cases h
    · rename_i ty r1 hty
      have hs1 : Sub T r1 := hs0.of_cons (cons_pColType d f _ _ _ hty)
      refine cv_defColLoop _ _ r1 v r hs1 ⟨cv_pColType hs0 hty, ?_, ?_, ?_⟩ h <;> (intro x hx; cases hx)

theorem cv_pColOrIdx {T ts r : List Tok} {v : ColOrIdx} (hs : Sub T ts) (h : pColOrIdx d f ts = .ok (v, r)) : CovL d T (exprsCOI v) := by
  unfold pColOrIdx at h
  repeat' split at h
  all_goals first
    | (obtain ⟨rfl, rfl⟩ := ret2 h; exact (cv_pDefCol hs (by assumption)).covL)
    | (obtain ⟨rfl, rfl⟩ := ret2 h; exact CovL.nil)
    | cases h

/-! ### UPDATE / DELETE / INSERT -/
theorem cv_pWhereOrderLimit {T ts r : List Tok} {v : Option Expr × Option (List OrderItem) × Option (Int × Option Int)} (hs : Sub T ts)
    (h : pWhereOrderLimit d f ts = .ok (v, r)) : CovL d T (v.1.toList ++ oiEs v.2.1) := by
  unfold pWhereOrderLimit at h
  split at h
  · cases h
  · rename_i wh r1 h1
    have c1 := (cv_all d f).pOptOr T _ ts wh r1 hs h1
    have hs1 : Sub T r1 := hs.of_cons (PM.pOptOr_consumes d f _ _ wh r1 h1)
    split at h
    · cases h
    · rename_i ob r2 h2
      have c2 := (cv_all d f).pOrderByOpt T r1 ob r2 hs1 h2
      split at h
      · cases h
      · obtain ⟨rfl, rfl⟩ := ret2 h; exact c1.append c2

theorem cv_pUpdateSetCol {T ts r : List Tok} {v : String × Expr} (hs : Sub T ts) (h : pUpdateSetCol d f ts = .ok (v, r)) : Cov d T v.2 := by
  unfold pUpdateSetCol at h
  split at h
  · cases h
  · rename_i c r0 hp
    have hs0 : Sub T r0 := hs.of_cons (popSrc_cons _ _ _ hp)
    split at h
    · cases h
    · rename_i r1 hm
      have hs1 : Sub T r1 := hs0.of_cons (matchKw_cons _ _ _ _ hm)
      split at h
      · rename_i e r2 h1
        obtain ⟨rfl, rfl⟩ := ret2 h
        exact (cov_run hs1 ((wf_all d f).pOr _ e r2 h1)).1
      · cases h

theorem cv_updateSetLoop {T : List Tok} : ∀ (g : Nat) (acc : List (String × Expr)) (ts : List Tok) (v : List (String × Expr)) (r : List Tok),
    Sub T ts → CovL d T (acc.map (·.2)) → updateSetLoop d f g acc ts = .ok (v, r) → CovL d T (v.map (·.2)) := by
  intro g
  induction g with
  | zero => intro acc ts v r _ _ h; simp [updateSetLoop] at h
  | succ g ih =>
    intro acc ts v r hs ha h
    unfold updateSetLoop at h
    split at h
    · split at h
      · rename_i x r1 h1
        have hc := cv_pUpdateSetCol (hs.drop 1) h1
        exact ih _ r1 v r ((hs.drop 1).of_cons (cons_pUpdateSetCol d f _ _ _ h1)) (by simpa using ha.snoc hc) h
      · cases h
    · obtain ⟨rfl, rfl⟩ := ret2 h; exact ha

theorem cv_pUpdateSet {T ts r : List Tok} {v : List (String × Expr)} (hs : Sub T ts) (h : pUpdateSet d f ts = .ok (v, r)) :
    CovL d T (v.map (·.2)) := by
  unfold pUpdateSet at h
  split at h
  · cases h
  · rename_i r0 hm
    have hs0 : Sub T r0 := hs.of_cons (matchKw_cons _ _ _ _ hm)
    split at h
    · cases h
    · rename_i x r1 h1
      have hc := cv_pUpdateSetCol hs0 h1
      exact cv_updateSetLoop _ [x] r1 v r (hs0.of_cons (cons_pUpdateSetCol d f _ _ _ h1)) (by simpa using CovL.single hc) h

theorem cv_pUpdate {T ts r : List Tok} {w : Option (List WithTable)} {v : Stmt} (hs : Sub T ts) (hw : CovL d T (exprsOW w))
    (h : pUpdate d f w ts = .ok (v, r)) : CovL d T (exprsStmt v) := by
  unfold pUpdate at h
  split at h
  · cases h
  · rename_i r0 hm
    have hs0 : Sub T r0 := hs.of_cons (matchKw_cons _ _ _ _ hm)
    split at h
    · cases h
    · rename_i t r1 ht
      have hs1 : Sub T r1 := hs0.of_cons (cons_pTblName _ _ _ ht)
      split at h
      · cases h
      · rename_i sets r2 h2
        have c2 := cv_pUpdateSet hs1 h2
        have hs2 : Sub T r2 := hs1.of_cons (cons_pUpdateSet d f _ _ _ h2)
        split at h
        · cases h
        · rename_i wh ob lm r3 h3
          have c3 := cv_pWhereOrderLimit hs2 h3
          obtain ⟨rfl, rfl⟩ := ret2 h
          simp only [exprsStmt]
          exact hw.append (c2.append c3)

theorem cv_pDelete {T ts r : List Tok} {v : Stmt} (hs : Sub T ts) (h : pDelete d f ts = .ok (v, r)) : CovL d T (exprsStmt v) := by
  unfold pDelete at h
  split at h
  · cases h
  · rename_i r0 hm
    have hs0 : Sub T r0 := hs.of_cons (matchSeq_cons _ _ _ _ hm)
    split at h
    · cases h
    · rename_i t r1 ht
      have hs1 : Sub T r1 := hs0.of_cons (cons_pTblName _ _ _ ht)
      split at h
      · cases h
      · rename_i wh ob lm r2 h3
        have c3 := cv_pWhereOrderLimit hs1 h3
        obtain ⟨rfl, rfl⟩ := ret2 h
        simpa [exprsStmt] using c3

theorem cv_valuesLoop {T : List Tok} : ∀ (g : Nat) (acc : List (List Expr)) (ts : List Tok) (v : List (List Expr)) (r : List Tok),
    Sub T ts → CovL d T acc.flatten → valuesLoop d f g acc ts = .ok (v, r) → CovL d T v.flatten := by
  intro g
  induction g with
  | zero => intro acc ts v r _ _ h; simp [valuesLoop] at h
  | succ g ih =>
    intro acc ts v r hs ha h
    unfold valuesLoop at h
    split at h
    · rename_i t r0
      split at h
      · split at h
        · cases h
        · rename_i row hrow
          have hc := eachClosed_compute (splitBy_sub hs.head_child) hrow
          exact ih _ _ v r (hs.tail.of_cons (moveStr_sfx _ _)) (by simpa using ha.append hc) h
      · obtain ⟨rfl, rfl⟩ := ret2 h; exact ha
    · obtain ⟨rfl, rfl⟩ := ret2 h; exact ha

theorem cv_pInsert {T ts r : List Tok} {w : Option (List WithTable)} {v : Stmt} (hs : Sub T ts) (hw : CovL d T (exprsOW w))
    (h : pInsert d f w ts = .ok (v, r)) : CovL d T (exprsStmt v) := by
  unfold pInsert at h
  split at h
  · cases h
  · rename_i withs r0 hwo
    have hs0 : Sub T r0 := hs.of_cons (cons_pWithOpt d f _ _ _ _ hwo)
    have hws : CovL d T (exprsWs withs) := by
      unfold pWithOpt at hwo
      cases w with
      | some w0 => simp only [Except.ok.injEq, Prod.mk.injEq] at hwo; rw [← hwo.1]; simpa [exprsOW] using hw
      | none => exact (cv_all d f).pWith T ts withs r0 hs hwo
    split at h
    · cases h
    · rename_i ty r1 hty
      have hs1 : Sub T r1 := hs0.of_cons (cons_pInsertType _ _ _ hty)
      split at h
      · cases h
      · rename_i tbl r2 htb
        have hs2 : Sub T r2 := (hs1.of_cons (moveStrUp_sfx r1 "TABLE")).of_cons (cons_pTblName _ _ _ htb)
        split at h
        · cases h
        · rename_i part r3 hpt
          have cp := cv_pOptPartition hs2 hpt
          have hs3 : Sub T r3 := hs2.of_cons (cons_pOptPartition d f _ _ _ hpt)
          split at h
          · cases h
          · rename_i cols r4 hcl
            have hs4 : Sub T r4 := hs3.of_cons (cons_pOptColumns _ _ _ hcl)
            simp only at h
            split at h
            · split at h
              · rename_i vs r5 hv
                obtain ⟨rfl, rfl⟩ := ret2 h
                have cv := cv_valuesLoop _ [] _ vs r5 (hs4.drop 1) (by simpa using CovL.nil) hv
                simp only [exprsStmt, exprsIH, exprsOW]
                exact (hws.append cp).append cv
              · cases h
            · split at h
              · split at h
                · rename_i q r5 hq
                  obtain ⟨rfl, rfl⟩ := ret2 h
                  have cq := (cv_all d f).pSelectStmt T (some []) r4 q r5 hs4 (by simpa [exprsOW, exprsWs] using CovL.nil) hq
                  simp only [exprsStmt, exprsIH, exprsOW]
                  exact (hws.append cp).append cq
                · cases h
              · cases h

end WNG
