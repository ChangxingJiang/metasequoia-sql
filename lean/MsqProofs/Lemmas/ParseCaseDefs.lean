import MsqProofs.Lemmas.ParseCase3
/-! C09, parser half: the statement about the mutual block of MsqModel/Parse/Expr.lean at one fuel, as a record -/
set_option linter.unusedVariables false
set_option linter.unusedSectionVars false
set_option linter.unusedSimpArgs false
open Lex PM Ast
namespace PM

/-- every function of the mutual block, with fuel `n`, on case-equivalent arguments: the same outcome, trees equal up to the case of stored texts -/
structure CaseF (d : Gen.D) (n : Nat) : Prop where
  pElement : ∀ x0 y0, CEL x0 y0 → CER (ceq upE) (pElement d n x0) (pElement d n y0)
  pParen : ∀ x0 x1 y0 y1, CE x0 y0 → CEL x1 y1 → CER (ceq upE) (pParen d n x0 x1) (pParen d n y0 y1)
  pNamed : ∀ x0 x1 x2 y0 y1 y2, CE x0 y0 → CEL x1 y1 → CEL x2 y2 → CER (ceq upE) (pNamed d n x0 x1 x2) (pNamed d n y0 y1 y2)
  pQualified : ∀ x0 x1 x2 y0 y1 y2, CE x0 y0 → CEL x1 y1 → CEL x2 y2 → CER (ceq upE) (pQualified d n x0 x1 x2) (pQualified d n y0 y1 y2)
  pIndex : ∀ x0 x1 y0 y1, ceq upE x0 y0 → CEL x1 y1 → CER (ceq upE) (pIndex d n x0 x1) (pIndex d n y0 y1)
  pFuncIdx : ∀ x0 y0, CEL x0 y0 → CER (ceq upE) (pFuncIdx d n x0) (pFuncIdx d n y0)
  pFunc : ∀ x0 y0, CEL x0 y0 → CER (ceq upE) (pFunc d n x0) (pFunc d n y0)
  pIfCall : ∀ x0 y0, CEL x0 y0 → CER (ceq upE) (pIfCall d n x0) (pIfCall d n y0)
  pFirstDiscard : ∀ x0 y0, CEL x0 y0 → CEX CEL (pFirstDiscard d n x0) (pFirstDiscard d n y0)
  pFirstArg : ∀ x0 y0, CEL x0 y0 → CER (ceq (List.map upE)) (pFirstArg d n x0) (pFirstArg d n y0)
  pCall : ∀ x0 x1 x2 y0 y1 y2, ceq (Option.map up) x0 y0 → ceq up x1 y1 → CEL x2 y2 → CER (ceq upE) (pCall d n x0 x1 x2) (pCall d n y0 y1 y2)
  pArgs : ∀ x0 x1 y0 y1, ceq (List.map upE) x0 y0 → CEL x1 y1 → CER (ceq (List.map upE)) (pArgs d n x0 x1) (pArgs d n y0 y1)
  pCase : ∀ x0 y0, CEL x0 y0 → CER (ceq upE) (pCase d n x0) (pCase d n y0)
  pElseEnd : ∀ x0 y0, CEL x0 y0 → CER (ceq (Option.map upE)) (pElseEnd d n x0) (pElseEnd d n y0)
  pWhens : ∀ x0 x1 y0 y1, ceq (List.map (Prod.map upE upE)) x0 y0 → CEL x1 y1 → CER (ceq (List.map (Prod.map upE upE))) (pWhens d n x0 x1) (pWhens d n y0 y1)
  pUnary : ∀ x0 y0, CEL x0 y0 → CER (ceq upE) (pUnary d n x0) (pUnary d n y0)
  pCompute : ∀ x0 y0, CEL x0 y0 → CER (ceq upE) (pCompute d n x0) (pCompute d n y0)
  pComputeLoop : ∀ x0 x1 x2 y0 y1 y2, ceq upSt x0 y0 → ceq upE x1 y1 → CEL x2 y2 → CER (ceq upE) (pComputeLoop d n x0 x1 x2) (pComputeLoop d n y0 y1 y2)
  pKeyword : ∀ x0 x1 y0 y1, ceq (Option.map upE) x0 y0 → CEL x1 y1 → CER (ceq upE) (pKeyword d n x0 x1) (pKeyword d n y0 y1)
  pKwFirst : ∀ x0 x1 y0 y1, ceq (Option.map upE) x0 y0 → CEL x1 y1 → CER (ceq upE) (pKwFirst d n x0 x1) (pKwFirst d n y0 y1)
  pKwRest : ∀ x0 x1 x2 y0 y1 y2, ceq upE x0 y0 → x1 = y1 → CEL x2 y2 → CER (ceq upE) (pKwRest d n x0 x1 x2) (pKwRest d n y0 y1 y2)
  pKwBody : ∀ x0 x1 x2 x3 y0 y1 y2 y3, x0 = y0 → x1 = y1 → ceq upE x2 y2 → CEL x3 y3 → CEX (ceOpt (ceq upE)) (pKwBody d n x0 x1 x2 x3) (pKwBody d n y0 y1 y2 y3)
  pBetween : ∀ x0 x1 x2 y0 y1 y2, x0 = y0 → ceq upE x1 y1 → CEL x2 y2 → CEX (ceOpt (ceq upE)) (pBetween d n x0 x1 x2) (pBetween d n y0 y1 y2)
  pInBody : ∀ x0 x1 x2 y0 y1 y2, x0 = y0 → ceq upE x1 y1 → CEL x2 y2 → CEX (ceOpt (ceq upE)) (pInBody d n x0 x1 x2) (pInBody d n y0 y1 y2)
  pSplit : ∀ x0 x1 x2 y0 y1 y2, ceq (List.map upE) x0 y0 → CEL x1 y1 → CEL x2 y2 → CEX (ceq (List.map upE)) (pSplit d n x0 x1 x2) (pSplit d n y0 y1 y2)
  pCompare : ∀ x0 y0, CEL x0 y0 → CER (ceq upE) (pCompare d n x0) (pCompare d n y0)
  pCompareLoop : ∀ x0 x1 y0 y1, ceq upE x0 y0 → CEL x1 y1 → CER (ceq upE) (pCompareLoop d n x0 x1) (pCompareLoop d n y0 y1)
  pNot : ∀ x0 y0, CEL x0 y0 → CER (ceq upE) (pNot d n x0) (pNot d n y0)
  pAnd : ∀ x0 y0, CEL x0 y0 → CER (ceq upE) (pAnd d n x0) (pAnd d n y0)
  pAndLoop : ∀ x0 x1 y0 y1, ceq upE x0 y0 → CEL x1 y1 → CER (ceq upE) (pAndLoop d n x0 x1) (pAndLoop d n y0 y1)
  pXor : ∀ x0 y0, CEL x0 y0 → CER (ceq upE) (pXor d n x0) (pXor d n y0)
  pXorLoop : ∀ x0 x1 y0 y1, ceq upE x0 y0 → CEL x1 y1 → CER (ceq upE) (pXorLoop d n x0 x1) (pXorLoop d n y0 y1)
  pOr : ∀ x0 y0, CEL x0 y0 → CER (ceq upE) (pOr d n x0) (pOr d n y0)
  pOrLoop : ∀ x0 x1 y0 y1, ceq upE x0 y0 → CEL x1 y1 → CER (ceq upE) (pOrLoop d n x0 x1) (pOrLoop d n y0 y1)
  pSubQuery : ∀ x0 y0, CEL x0 y0 → CER (ceq upE) (pSubQuery d n x0) (pSubQuery d n y0)
  pCast : ∀ x0 y0, CEL x0 y0 → CER (ceq upE) (pCast d n x0) (pCast d n y0)
  pExtract : ∀ x0 y0, CEL x0 y0 → CER (ceq upE) (pExtract d n x0) (pExtract d n y0)
  pExtractTail : ∀ x0 x1 y0 y1, ceq upE x0 y0 → CEL x1 y1 → CEX (ceq upE) (pExtractTail d n x0 x1) (pExtractTail d n y0 y1)
  pWindow : ∀ x0 y0, CEL x0 y0 → CER (ceq upE) (pWindow d n x0) (pWindow d n y0)
  pWindowBody : ∀ x0 x1 y0 y1, ceq upE x0 y0 → CEL x1 y1 → CEX (ceq upE) (pWindowBody d n x0 x1) (pWindowBody d n y0 y1)
  pPartitionBy : ∀ x0 y0, CEL x0 y0 → CER (ceq (List.map upE)) (pPartitionBy d n x0) (pPartitionBy d n y0)
  pComputeList : ∀ x0 x1 y0 y1, ceq (List.map upE) x0 y0 → CEL x1 y1 → CER (ceq (List.map upE)) (pComputeList d n x0 x1) (pComputeList d n y0 y1)
  pOrderItem : ∀ x0 y0, CEL x0 y0 → CER (ceq upO) (pOrderItem d n x0) (pOrderItem d n y0)
  pOrderList : ∀ x0 x1 y0 y1, ceq (List.map upO) x0 y0 → CEL x1 y1 → CER (ceq (List.map upO)) (pOrderList d n x0 x1) (pOrderList d n y0 y1)
  pOrderByOpt : ∀ x0 y0, CEL x0 y0 → CER (ceq (Option.map (List.map upO))) (pOrderByOpt d n x0) (pOrderByOpt d n y0)
  pSelectCol : ∀ x0 y0, CEL x0 y0 → CER (ceq (Prod.map upE (Option.map up))) (pSelectCol d n x0) (pSelectCol d n y0)
  pSelectCols : ∀ x0 x1 y0 y1, ceq (List.map (Prod.map upE (Option.map up))) x0 y0 → CEL x1 y1 → CER (ceq (List.map (Prod.map upE (Option.map up)))) (pSelectCols d n x0 x1) (pSelectCols d n y0 y1)
  pTableExpr : ∀ x0 y0, CEL x0 y0 → CER (ceq upTR) (pTableExpr d n x0) (pTableExpr d n y0)
  pFromTable : ∀ x0 y0, CEL x0 y0 → CER (ceq upFT) (pFromTable d n x0) (pFromTable d n y0)
  pFromTables : ∀ x0 x1 y0 y1, ceq (List.map upFT) x0 y0 → CEL x1 y1 → CER (ceq (List.map upFT)) (pFromTables d n x0 x1) (pFromTables d n y0 y1)
  pJoin : ∀ x0 y0, CEL x0 y0 → CER (ceq upJ) (pJoin d n x0) (pJoin d n y0)
  pJoinRule : ∀ x0 x1 x2 y0 y1 y2, ceq up x0 y0 → ceq upFT x1 y1 → CEL x2 y2 → CER (ceq upJ) (pJoinRule d n x0 x1 x2) (pJoinRule d n y0 y1 y2)
  pJoins : ∀ x0 x1 x2 x3 y0 y1 y2 y3, x0 = y0 → CEL x1 y1 → ceq (List.map upJ) x2 y2 → CEL x3 y3 → CER (ceq (List.map upJ)) (pJoins d n x0 x1 x2 x3) (pJoins d n y0 y1 y2 y3)
  pOptOr : ∀ x0 x1 y0 y1, x0 = y0 → CEL x1 y1 → CER (ceq (Option.map upE)) (pOptOr d n x0 x1) (pOptOr d n y0 y1)
  pGroupingElem : ∀ x0 y0, CEL x0 y0 → CEX (ceq (List.map upE)) (pGroupingElem d n x0) (pGroupingElem d n y0)
  pClosedEach : ∀ x0 x1 y0 y1, ceq (List.map upE) x0 y0 → CELL x1 y1 → CEX (ceq (List.map upE)) (pClosedEach d n x0 x1) (pClosedEach d n y0 y1)
  pGroupingElems : ∀ x0 x1 y0 y1, ceq (List.map (List.map upE)) x0 y0 → CELL x1 y1 → CEX (ceq (List.map (List.map upE))) (pGroupingElems d n x0 x1) (pGroupingElems d n y0 y1)
  pGroupingSets : ∀ x0 y0, CEL x0 y0 → CER (ceq (List.map (List.map upE))) (pGroupingSets d n x0) (pGroupingSets d n y0)
  pGroupBy : ∀ x0 y0, CEL x0 y0 → CER (ceq (Option.map upG)) (pGroupBy d n x0) (pGroupBy d n y0)
  pGroupCols : ∀ x0 y0, CEL x0 y0 → CER (ceq (List.map upE)) (pGroupCols d n x0) (pGroupCols d n y0)
  pGroupSetsOpt : ∀ x0 y0, CEL x0 y0 → CER (ceq (Option.map (List.map (List.map upE)))) (pGroupSetsOpt d n x0) (pGroupSetsOpt d n y0)
  pWithTable : ∀ x0 y0, CEL x0 y0 → CER (ceq upW) (pWithTable d n x0) (pWithTable d n y0)
  pWithBody : ∀ x0 x1 y0 y1, ceq up x0 y0 → CEL x1 y1 → CER (ceq upW) (pWithBody d n x0 x1) (pWithBody d n y0 y1)
  pWithTables : ∀ x0 x1 y0 y1, ceq (List.map upW) x0 y0 → CEL x1 y1 → CER (ceq (List.map upW)) (pWithTables d n x0 x1) (pWithTables d n y0 y1)
  pWith : ∀ x0 y0, CEL x0 y0 → CER (ceq (List.map upW)) (pWith d n x0) (pWith d n y0)
  pSelectBody : ∀ x0 x1 x2 x3 y0 y1 y2 y3, ceq (List.map upW) x0 y0 → x1 = y1 → CEL x2 y2 → CEL x3 y3 → CER (ceq upS) (pSelectBody d n x0 x1 x2 x3) (pSelectBody d n y0 y1 y2 y3)
  pFromOpt : ∀ x0 y0, CEL x0 y0 → CER (ceq (Option.map (List.map upFT))) (pFromOpt d n x0) (pFromOpt d n y0)
  pSelectRest : ∀ x0 x1 x2 x3 x4 x5 y0 y1 y2 y3 y4 y5, ceq (List.map upW) x0 y0 → x1 = y1 → ceq (List.map (Prod.map upE (Option.map up))) x2 y2 → x3 = y3 → CEL x4 y4 → CEL x5 y5 → CER (ceq upS) (pSelectRest d n x0 x1 x2 x3 x4 x5) (pSelectRest d n y0 y1 y2 y3 y4 y5)
  pSelectTail : ∀ x0 x1 x2 x3 x4 x5 x6 y0 y1 y2 y3 y4 y5 y6, ceq (List.map upW) x0 y0 → x1 = y1 → ceq (List.map (Prod.map upE (Option.map up))) x2 y2 → ceq (Option.map (List.map upFT)) x3 y3 → ceq (List.map upLat) x4 y4 → ceq (List.map upJ) x5 y5 → CEL x6 y6 → CER (ceq upS) (pSelectTail d n x0 x1 x2 x3 x4 x5 x6) (pSelectTail d n y0 y1 y2 y3 y4 y5 y6)
  pWhereGroup : ∀ x0 y0, CEL x0 y0 → CER (ceq (Prod.map (Option.map upE) (Option.map upG))) (pWhereGroup d n x0) (pWhereGroup d n y0)
  pHavingOrder : ∀ x0 y0, CEL x0 y0 → CER (ceq (Prod.map (Option.map upE) (Option.map (List.map upO)))) (pHavingOrder d n x0) (pHavingOrder d n y0)
  pHiveClauses : ∀ x0 y0, CEL x0 y0 → CER (ceq (Prod.map (Option.map (List.map upO)) (Prod.map (Option.map (List.map upE)) (Option.map (List.map upE))))) (pHiveClauses d n x0) (pHiveClauses d n y0)
  pSortBy : ∀ x0 y0, CEL x0 y0 → CER (ceq (Option.map (List.map upO))) (pSortBy d n x0) (pSortBy d n y0)
  pByList : ∀ x0 x1 y0 y1, x0 = y0 → CEL x1 y1 → CER (ceq (Option.map (List.map upE))) (pByList d n x0 x1) (pByList d n y0 y1)
  pLateral : ∀ x0 y0, CEL x0 y0 → CER (ceq upLat) (pLateral d n x0) (pLateral d n y0)
  pLaterals : ∀ x0 x1 x2 x3 y0 y1 y2 y3, x0 = y0 → CEL x1 y1 → ceq (List.map upLat) x2 y2 → CEL x3 y3 → CER (ceq (List.map upLat)) (pLaterals d n x0 x1 x2 x3) (pLaterals d n y0 y1 y2 y3)
  pSingle : ∀ x0 x1 y0 y1, ceq (List.map upW) x0 y0 → CEL x1 y1 → CER (ceq upS) (pSingle d n x0 x1) (pSingle d n y0 y1)
  pSingleParen : ∀ x0 x1 x2 x3 y0 y1 y2 y3, ceq (List.map upW) x0 y0 → CEL x1 y1 → CELL x2 y2 → CEL x3 y3 → CER (ceq upS) (pSingleParen d n x0 x1 x2 x3) (pSingleParen d n y0 y1 y2 y3)
  pSelectStmt : ∀ x0 x1 y0 y1, ceq (Option.map (List.map upW)) x0 y0 → CEL x1 y1 → CER (ceq upQ) (pSelectStmt d n x0 x1) (pSelectStmt d n y0 y1)
  pUnions : ∀ x0 x1 x2 y0 y1 y2, ceq (List.map upW) x0 y0 → ceq (List.map (Prod.map up upS)) x1 y1 → CEL x2 y2 → CER (ceq (List.map (Prod.map up upS))) (pUnions d n x0 x1 x2) (pUnions d n y0 y1 y2)

grind_pattern CaseF.pElement => CaseF d n, pElement d n x0, pElement d n y0
grind_pattern CaseF.pParen => CaseF d n, pParen d n x0 x1, pParen d n y0 y1
grind_pattern CaseF.pNamed => CaseF d n, pNamed d n x0 x1 x2, pNamed d n y0 y1 y2
grind_pattern CaseF.pQualified => CaseF d n, pQualified d n x0 x1 x2, pQualified d n y0 y1 y2
grind_pattern CaseF.pIndex => CaseF d n, pIndex d n x0 x1, pIndex d n y0 y1
grind_pattern CaseF.pFuncIdx => CaseF d n, pFuncIdx d n x0, pFuncIdx d n y0
grind_pattern CaseF.pFunc => CaseF d n, pFunc d n x0, pFunc d n y0
grind_pattern CaseF.pIfCall => CaseF d n, pIfCall d n x0, pIfCall d n y0
grind_pattern CaseF.pFirstDiscard => CaseF d n, pFirstDiscard d n x0, pFirstDiscard d n y0
grind_pattern CaseF.pFirstArg => CaseF d n, pFirstArg d n x0, pFirstArg d n y0
grind_pattern CaseF.pCall => CaseF d n, pCall d n x0 x1 x2, pCall d n y0 y1 y2
grind_pattern CaseF.pArgs => CaseF d n, pArgs d n x0 x1, pArgs d n y0 y1
grind_pattern CaseF.pCase => CaseF d n, pCase d n x0, pCase d n y0
grind_pattern CaseF.pElseEnd => CaseF d n, pElseEnd d n x0, pElseEnd d n y0
grind_pattern CaseF.pWhens => CaseF d n, pWhens d n x0 x1, pWhens d n y0 y1
grind_pattern CaseF.pUnary => CaseF d n, pUnary d n x0, pUnary d n y0
grind_pattern CaseF.pCompute => CaseF d n, pCompute d n x0, pCompute d n y0
grind_pattern CaseF.pComputeLoop => CaseF d n, pComputeLoop d n x0 x1 x2, pComputeLoop d n y0 y1 y2
grind_pattern CaseF.pKeyword => CaseF d n, pKeyword d n x0 x1, pKeyword d n y0 y1
grind_pattern CaseF.pKwFirst => CaseF d n, pKwFirst d n x0 x1, pKwFirst d n y0 y1
grind_pattern CaseF.pKwRest => CaseF d n, pKwRest d n x0 x1 x2, pKwRest d n y0 y1 y2
grind_pattern CaseF.pKwBody => CaseF d n, pKwBody d n x0 x1 x2 x3, pKwBody d n y0 y1 y2 y3
grind_pattern CaseF.pBetween => CaseF d n, pBetween d n x0 x1 x2, pBetween d n y0 y1 y2
grind_pattern CaseF.pInBody => CaseF d n, pInBody d n x0 x1 x2, pInBody d n y0 y1 y2
grind_pattern CaseF.pSplit => CaseF d n, pSplit d n x0 x1 x2, pSplit d n y0 y1 y2
grind_pattern CaseF.pCompare => CaseF d n, pCompare d n x0, pCompare d n y0
grind_pattern CaseF.pCompareLoop => CaseF d n, pCompareLoop d n x0 x1, pCompareLoop d n y0 y1
grind_pattern CaseF.pNot => CaseF d n, pNot d n x0, pNot d n y0
grind_pattern CaseF.pAnd => CaseF d n, pAnd d n x0, pAnd d n y0
grind_pattern CaseF.pAndLoop => CaseF d n, pAndLoop d n x0 x1, pAndLoop d n y0 y1
grind_pattern CaseF.pXor => CaseF d n, pXor d n x0, pXor d n y0
grind_pattern CaseF.pXorLoop => CaseF d n, pXorLoop d n x0 x1, pXorLoop d n y0 y1
grind_pattern CaseF.pOr => CaseF d n, pOr d n x0, pOr d n y0
grind_pattern CaseF.pOrLoop => CaseF d n, pOrLoop d n x0 x1, pOrLoop d n y0 y1
grind_pattern CaseF.pSubQuery => CaseF d n, pSubQuery d n x0, pSubQuery d n y0
grind_pattern CaseF.pCast => CaseF d n, pCast d n x0, pCast d n y0
grind_pattern CaseF.pExtract => CaseF d n, pExtract d n x0, pExtract d n y0
grind_pattern CaseF.pExtractTail => CaseF d n, pExtractTail d n x0 x1, pExtractTail d n y0 y1
grind_pattern CaseF.pWindow => CaseF d n, pWindow d n x0, pWindow d n y0
grind_pattern CaseF.pWindowBody => CaseF d n, pWindowBody d n x0 x1, pWindowBody d n y0 y1
grind_pattern CaseF.pPartitionBy => CaseF d n, pPartitionBy d n x0, pPartitionBy d n y0
grind_pattern CaseF.pComputeList => CaseF d n, pComputeList d n x0 x1, pComputeList d n y0 y1
grind_pattern CaseF.pOrderItem => CaseF d n, pOrderItem d n x0, pOrderItem d n y0
grind_pattern CaseF.pOrderList => CaseF d n, pOrderList d n x0 x1, pOrderList d n y0 y1
grind_pattern CaseF.pOrderByOpt => CaseF d n, pOrderByOpt d n x0, pOrderByOpt d n y0
grind_pattern CaseF.pSelectCol => CaseF d n, pSelectCol d n x0, pSelectCol d n y0
grind_pattern CaseF.pSelectCols => CaseF d n, pSelectCols d n x0 x1, pSelectCols d n y0 y1
grind_pattern CaseF.pTableExpr => CaseF d n, pTableExpr d n x0, pTableExpr d n y0
grind_pattern CaseF.pFromTable => CaseF d n, pFromTable d n x0, pFromTable d n y0
grind_pattern CaseF.pFromTables => CaseF d n, pFromTables d n x0 x1, pFromTables d n y0 y1
grind_pattern CaseF.pJoin => CaseF d n, pJoin d n x0, pJoin d n y0
grind_pattern CaseF.pJoinRule => CaseF d n, pJoinRule d n x0 x1 x2, pJoinRule d n y0 y1 y2
grind_pattern CaseF.pJoins => CaseF d n, pJoins d n x0 x1 x2 x3, pJoins d n y0 y1 y2 y3
grind_pattern CaseF.pOptOr => CaseF d n, pOptOr d n x0 x1, pOptOr d n y0 y1
grind_pattern CaseF.pGroupingElem => CaseF d n, pGroupingElem d n x0, pGroupingElem d n y0
grind_pattern CaseF.pClosedEach => CaseF d n, pClosedEach d n x0 x1, pClosedEach d n y0 y1
grind_pattern CaseF.pGroupingElems => CaseF d n, pGroupingElems d n x0 x1, pGroupingElems d n y0 y1
grind_pattern CaseF.pGroupingSets => CaseF d n, pGroupingSets d n x0, pGroupingSets d n y0
grind_pattern CaseF.pGroupBy => CaseF d n, pGroupBy d n x0, pGroupBy d n y0
grind_pattern CaseF.pGroupCols => CaseF d n, pGroupCols d n x0, pGroupCols d n y0
grind_pattern CaseF.pGroupSetsOpt => CaseF d n, pGroupSetsOpt d n x0, pGroupSetsOpt d n y0
grind_pattern CaseF.pWithTable => CaseF d n, pWithTable d n x0, pWithTable d n y0
grind_pattern CaseF.pWithBody => CaseF d n, pWithBody d n x0 x1, pWithBody d n y0 y1
grind_pattern CaseF.pWithTables => CaseF d n, pWithTables d n x0 x1, pWithTables d n y0 y1
grind_pattern CaseF.pWith => CaseF d n, pWith d n x0, pWith d n y0
grind_pattern CaseF.pSelectBody => CaseF d n, pSelectBody d n x0 x1 x2 x3, pSelectBody d n y0 y1 y2 y3
grind_pattern CaseF.pFromOpt => CaseF d n, pFromOpt d n x0, pFromOpt d n y0
grind_pattern CaseF.pSelectRest => CaseF d n, pSelectRest d n x0 x1 x2 x3 x4 x5, pSelectRest d n y0 y1 y2 y3 y4 y5
grind_pattern CaseF.pSelectTail => CaseF d n, pSelectTail d n x0 x1 x2 x3 x4 x5 x6, pSelectTail d n y0 y1 y2 y3 y4 y5 y6
grind_pattern CaseF.pWhereGroup => CaseF d n, pWhereGroup d n x0, pWhereGroup d n y0
grind_pattern CaseF.pHavingOrder => CaseF d n, pHavingOrder d n x0, pHavingOrder d n y0
grind_pattern CaseF.pHiveClauses => CaseF d n, pHiveClauses d n x0, pHiveClauses d n y0
grind_pattern CaseF.pSortBy => CaseF d n, pSortBy d n x0, pSortBy d n y0
grind_pattern CaseF.pByList => CaseF d n, pByList d n x0 x1, pByList d n y0 y1
grind_pattern CaseF.pLateral => CaseF d n, pLateral d n x0, pLateral d n y0
grind_pattern CaseF.pLaterals => CaseF d n, pLaterals d n x0 x1 x2 x3, pLaterals d n y0 y1 y2 y3
grind_pattern CaseF.pSingle => CaseF d n, pSingle d n x0 x1, pSingle d n y0 y1
grind_pattern CaseF.pSingleParen => CaseF d n, pSingleParen d n x0 x1 x2 x3, pSingleParen d n y0 y1 y2 y3
grind_pattern CaseF.pSelectStmt => CaseF d n, pSelectStmt d n x0 x1, pSelectStmt d n y0 y1
grind_pattern CaseF.pUnions => CaseF d n, pUnions d n x0 x1 x2, pUnions d n y0 y1 y2

end PM
