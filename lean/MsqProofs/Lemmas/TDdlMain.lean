import MsqProofs.Lemmas.TDdlOpts
/-!
# T-parse for CREATE TABLE: the element list, the statement (C18 / C03 / C01)

`createElems` (the loop over the comma-separated lines of the bracket) is read in continuation form on the lines of one kind
(`elems_list`), with an instance for each kind of line; `pCreateTable_ok`: `_parse_create_table_statement` on `toksCreate d c ++ rest`
returns `c` and swallows one `;`.
-/
open Lex PM Ast TP TS
namespace TD
variable {d : Gen.D}

/-! ### the lines of the bracket -/
theorem col_heads (c : DefCol) :
    searchTwoUp (toksDefCol d c) "PRIMARY" "KEY" = false ∧ searchTwoUp (toksDefCol d c) "UNIQUE" "KEY" = false ∧
    searchStrUp (toksDefCol d c) "KEY" = false ∧ searchTwoUp (toksDefCol d c) "FULLTEXT" "KEY" = false ∧
    searchStrUp (toksDefCol d c) "CONSTRAINT" = false := by
  simp only [toksDefCol]
  kw_simp

/-- lines of one kind: each is read by one round of `createElems`, which appends it to the field that `add` extends -/
theorem elems_list {α : Type} (f : Nat) (tk : α → List Tok) (add : CreateTable → List α → CreateTable) (xs : List α)
    (hnil : ∀ c, add c [] = c) (hcons : ∀ c x ys, add (add c [x]) ys = add c (x :: ys))
    (step : ∀ x ∈ xs, ∀ rest c, createElems d f (tk x :: rest) c = createElems d f rest (add c [x]))
    (rest : List (List Tok)) (c0 : CreateTable) (res : Except Err CreateTable) :
    createElems d f rest (add c0 xs) = res → createElems d f (xs.map tk ++ rest) c0 = res := by
  induction xs generalizing c0 with
  | nil => rw [hnil]; exact id
  | cons x xs ih =>
    intro h
    rw [List.map_cons, List.cons_append, step x (by simp)]
    exact ih (fun y hy => step y (by simp [hy])) _ (by rw [hcons]; exact h)

theorem elems_cols (f : Nat) (cols : List DefCol) (hc : cols.all (colOK d) = true)
    (hf : ∀ c ∈ cols, 20 * sizeL (toksDefCol d c) + 2 ≤ f) (rest : List (List Tok)) (c0 : CreateTable) (res : Except Err CreateTable) :
    createElems d f rest { c0 with columns := c0.columns ++ cols } = res →
    createElems d f (cols.map (toksDefCol d) ++ rest) c0 = res :=
  elems_list f (toksDefCol d) (fun c xs => { c with columns := c.columns ++ xs }) cols (fun c => by simp) (fun c x ys => by simp)
    (fun col hm rest c => by
      obtain ⟨h1, h2, h3, h4, h5⟩ := col_heads (d := d) col
      rw [createElems]
      simp only [h1, h2, h3, h4, h5, Bool.false_eq_true, if_false, pDefCol_ok col (List.all_eq_true.1 hc col hm) f (hf col hm), closed])
    rest c0 res

theorem toksIndex_of_kind (k : IndexKind) (i : Index) (h : idxOK k i = true) : toksIndex i = kindToks k ++ (toksIdxName i.name ++ toksIdxTail i) := by
  simp only [idxOK, Bool.and_eq_true] at h
  have := kind_beq h.1.1.1
  simp [toksIndex, this]

/-- which of the tests of `createElems` a key line passes -/
theorem idx_heads (k : IndexKind) (i : Index) (h : idxOK k i = true) :
    searchTwoUp (toksIndex i) "PRIMARY" "KEY" = (k == .primary) ∧ searchTwoUp (toksIndex i) "UNIQUE" "KEY" = (k == .unique) ∧
    searchStrUp (toksIndex i) "KEY" = (k == .normal) ∧ searchTwoUp (toksIndex i) "FULLTEXT" "KEY" = (k == .fulltext) := by
  rw [toksIndex_of_kind k i h]
  cases k <;> simp only [kindToks, List.cons_append, List.nil_append, searchTwoUp_cons] <;> exact ⟨rfl, rfl, rfl, rfl⟩

theorem elems_pk (f : Nat) (pk : Option Index) (hp : optIdxOK pk = true) (rest : List (List Tok)) (c0 : CreateTable)
    (res : Except Err CreateTable) (h0 : c0.primaryKey = none) :
    createElems d f rest { c0 with primaryKey := pk } = res →
    createElems d f ((optList pk).map toksIndex ++ rest) c0 = res := by
  intro h
  cases pk with
  | none =>
    have : { c0 with primaryKey := none } = c0 := by cases c0; simp at h0; subst h0; rfl
    rw [this] at h
    simpa [optList] using h
  | some i =>
    simp only [optList, List.map_cons, List.map_nil, List.cons_append, List.nil_append]
    rw [createElems]
    simp only [(idx_heads .primary i hp).1, beq_self_eq_true, if_true, primary_line i hp]
    exact h

theorem elems_uks (f : Nat) (is : List Index) (hp : is.all (idxOK .unique) = true) (rest : List (List Tok)) (c0 : CreateTable)
    (res : Except Err CreateTable) :
    createElems d f rest { c0 with uniqueKey := c0.uniqueKey ++ is } = res →
    createElems d f (is.map toksIndex ++ rest) c0 = res :=
  elems_list f toksIndex (fun c xs => { c with uniqueKey := c.uniqueKey ++ xs }) is (fun c => by simp) (fun c x ys => by simp)
    (fun i hm rest c => by
      have hi := List.all_eq_true.1 hp i hm
      obtain ⟨h1, h2, -, -⟩ := idx_heads .unique i hi
      rw [createElems]
      simp (config := { decide := true }) only [h1, h2, if_false, if_true, unique_line i hi]) rest c0 res

theorem elems_keys (f : Nat) (is : List Index) (hp : is.all (idxOK .normal) = true) (rest : List (List Tok)) (c0 : CreateTable)
    (res : Except Err CreateTable) :
    createElems d f rest { c0 with key := c0.key ++ is } = res →
    createElems d f (is.map toksIndex ++ rest) c0 = res :=
  elems_list f toksIndex (fun c xs => { c with key := c.key ++ xs }) is (fun c => by simp) (fun c x ys => by simp)
    (fun i hm rest c => by
      have hi := List.all_eq_true.1 hp i hm
      obtain ⟨h1, h2, h3, -⟩ := idx_heads .normal i hi
      rw [createElems]
      simp (config := { decide := true }) only [h1, h2, h3, if_false, if_true, normal_line i hi]) rest c0 res

theorem elems_fts (f : Nat) (is : List Index) (hp : is.all (idxOK .fulltext) = true) (rest : List (List Tok)) (c0 : CreateTable)
    (res : Except Err CreateTable) :
    createElems d f rest { c0 with fulltextKey := c0.fulltextKey ++ is } = res →
    createElems d f (is.map toksIndex ++ rest) c0 = res :=
  elems_list f toksIndex (fun c xs => { c with fulltextKey := c.fulltextKey ++ xs }) is (fun c => by simp) (fun c x ys => by simp)
    (fun i hm rest c => by
      have hi := List.all_eq_true.1 hp i hm
      obtain ⟨h1, h2, h3, h4⟩ := idx_heads .fulltext i hi
      rw [createElems]
      simp (config := { decide := true }) only [h1, h2, h3, h4, if_false, if_true, fulltext_line i hi]) rest c0 res

theorem fk_heads (k : ForeignKey) :
    searchTwoUp (toksFk k) "PRIMARY" "KEY" = false ∧ searchTwoUp (toksFk k) "UNIQUE" "KEY" = false ∧
    searchStrUp (toksFk k) "KEY" = false ∧ searchTwoUp (toksFk k) "FULLTEXT" "KEY" = false ∧
    searchStrUp (toksFk k) "CONSTRAINT" = true := by
  simp only [toksFk, Bool.eq_false_iff, ne_eq]
  kw_simp

theorem elems_fks (f : Nat) (ks : List ForeignKey) (hp : ks.all fkOK = true) (rest : List (List Tok)) (c0 : CreateTable)
    (res : Except Err CreateTable) :
    createElems d f rest { c0 with foreignKey := c0.foreignKey ++ ks } = res →
    createElems d f (ks.map toksFk ++ rest) c0 = res :=
  elems_list f toksFk (fun c xs => { c with foreignKey := c.foreignKey ++ xs }) ks (fun c => by simp) (fun c x ys => by simp)
    (fun k hm rest c => by
      obtain ⟨h1, h2, h3, h4, h5⟩ := fk_heads k
      rw [createElems]
      simp only [h1, h2, h3, h4, h5, Bool.false_eq_true, if_false, if_true, fk_line k (List.all_eq_true.1 hp k hm)]) rest c0 res

theorem sizeL_flag_le (b : Bool) (ts : List Tok) : sizeL (flag b ts) ≤ sizeL ts := by cases b <;> simp [flag, sizeL]
theorem sizeL_lines_le (c : CreateTable) : sizeL (sepAll (toksLines d c)) ≤ sizeL (toksCreate d c) := by
  simp only [toksCreate, sizeL_cons, sizeL_append, size_grp, size_opTok, tblTok, nameTok, size_single]
  omega
theorem sizeL_col_le (c : CreateTable) (col : DefCol) (h : col ∈ c.columns) : sizeL (toksDefCol d col) ≤ sizeL (toksCreate d c) := by
  have h1 : toksDefCol d col ∈ toksLines d c := by
    simp only [toksLines, List.mem_append, List.mem_map]
    exact Or.inl ⟨col, h, rfl⟩
  have := sizeL_sepAll_le _ _ h1
  have := sizeL_lines_le (d := d) c
  omega
theorem sizeL_part_le (c : CreateTable) (hd : (d == Gen.D.MYSQL) = false) (col : DefCol) (h : col ∈ c.partitionedBy) :
    sizeL (toksDefCol d col) ≤ sizeL (toksCreate d c) := by
  have h1 := sizeL_sepAll_le ((c.partitionedBy.map (toksDefCol d))) (toksDefCol d col) (List.mem_map.2 ⟨col, h, rfl⟩)
  have he : c.partitionedBy.isEmpty = false := by cases hp : c.partitionedBy with | nil => rw [hp] at h; simp at h | cons a b => rfl
  simp only [toksCreate, toksOpts, hd, Bool.false_eq_true, if_false, toksHiveOpts, toksPartitioned, he, sizeL_cons, sizeL_append, size_grp,
    size_opTok, tblTok, nameTok, size_single, sizeL]
  omega

/-! ### the statement -/
theorem move_ine (ine : Bool) (t : TableName) (x : List Tok) :
    moveThreeUp (flag ine [opTok "IF", opTok "NOT", opTok "EXISTS"] ++ tblTok t :: x) "IF" "NOT" "EXISTS" = (ine, tblTok t :: x) := by
  cases ine
  · simp only [flag, tblTok]; kw_simp
  · simp only [flag]; kw_simp

/-- the table token is read back (`TD.tblTok t` is `TQ.tblTok t.schema t.name`, `TR3.tbl_eq`; the statements of the two developments name
one each) -/
theorem pTblName_ok (t : TableName) (ht : tblOK t = true) (r : List Tok) (hr : searchStr r "." = false) :
    pTblName (tblTok t :: r) = .ok (t, r) := by
  simp only [tblOK, isOkName] at ht
  unfold pTblName pTableName
  simp only [tblTok] at ht ⊢
  kw_simp
  cases hs : splitName (nameTok (tblStr t)).src with
  | error e => rw [hs] at ht; simp at ht
  | ok p =>
    obtain ⟨s, n⟩ := p
    rw [hs] at ht
    simp only [Bool.and_eq_true, beq_iff_eq] at ht
    obtain ⟨sch, nm⟩ := t
    simp only at ht
    simp [hr, ht.1, ht.2]

/-- **`_parse_create_table_statement` inverts the token-level printer** and swallows one `;` -/
theorem pCreateTable_ok (c : CreateTable) (hc : FragCreate d c = true) (rest : List Tok) (hr : endsC rest = true) (f : Nat)
    (hf : 20 * sizeL (toksCreate d c) + 2 ≤ f) :
    pCreateTable d f (toksCreate d c ++ rest) = .ok (.createTable c, (moveStr rest ";").2) := by
  have hcolf : ∀ col ∈ c.columns, 20 * sizeL (toksDefCol d col) + 2 ≤ f := fun col h => by
    have := sizeL_col_le (d := d) c col h; omega
  have hpartf : (d == Gen.D.MYSQL) = false → ∀ col ∈ c.partitionedBy, 20 * sizeL (toksDefCol d col) + 2 ≤ f := fun hd col h => by
    have := sizeL_part_le (d := d) c hd col h; omega
  obtain ⟨tb, ine, cols, pk, uk, ky, ft, fk, pb, cm, en, ai, dc, co, rf, sp, rfs, rfd, sai, sat, ofm, lo, tp⟩ := c
  simp only [FragCreate, Bool.and_eq_true] at hc
  obtain ⟨⟨⟨htb, hcols⟩, hsegs⟩, hrest⟩ := hc
  try simp only at hcolf hpartf
  unfold pCreateTable
  simp only [toksCreate]
  simp (config := { decide := true }) only [List.cons_append, List.append_assoc, matchSeq_cons, matchSeq_nil, if_true]
  simp only [move_ine, pTblName_ok tb htb _ (show searchStr (grp _ :: _) "." = false from srcEq_grp _ "." (by decide))]
  kw_simp
  rw [splitBy_sepAll _ hsegs]
  by_cases hd : d = .MYSQL
  · subst hd
    simp only [beq_self_eq_true, if_true, Bool.and_eq_true, List.isEmpty_iff, Option.isNone_iff_eq_none, Bool.not_eq_true'] at hrest
    obtain ⟨⟨⟨⟨⟨⟨⟨⟨⟨⟨⟨⟨⟨hfk, hpk⟩, huk⟩, hky⟩, hft⟩, hai⟩, h1⟩, h2⟩, h3⟩, h4⟩, h5⟩, h6⟩, h7⟩, h8⟩ := hrest
    subst h1 h2 h3 h4 h5 h6 h7 h8
    have hE : createElems .MYSQL f (toksLines .MYSQL ⟨tb, ine, cols, pk, uk, ky, ft, fk, [], cm, en, ai, dc, co, rf, sp, none, none, none, false, none, none, []⟩)
        (emptyCreate tb ine) =
        .ok ⟨tb, ine, cols, pk, uk, ky, ft, fk, [], none, none, none, none, none, none, none, none, none, none, false, none, none, []⟩ := by
      simp only [toksLines, beq_self_eq_true, if_true]
      rw [← List.append_nil (List.map toksFk fk)]
      apply elems_cols f cols hcols hcolf
      apply elems_pk f pk hpk _ _ _ rfl
      apply elems_uks f uk huk
      apply elems_keys f ky hky
      apply elems_fts f ft hft
      apply elems_fks f fk hfk
      rfl
    rw [hE]
    simp only [toksOpts, beq_self_eq_true, if_true, toksMyOpts, List.append_assoc]
    have k := co_engine (co_autoInc (co_charset (co_collate (co_rowFormat (co_stats (co_commentMy (co_end (d := .MYSQL) f
      ⟨tb, ine, cols, pk, uk, ky, ft, fk, [], cm, en, ai, dc, co, rf, sp, none, none, none, false, none, none, []⟩ rest hr)))))) hai)
    have hO : ∀ g, _ ≤ g → createOpts _ f g _ _ = _ := k
    rw [hO]
    simp only [List.length_append]; omega
  · have hb : (d == Gen.D.MYSQL) = false := by simpa using hd
    simp only [hb, Bool.false_eq_true, if_false, Bool.and_eq_true, List.isEmpty_iff, Option.isNone_iff_eq_none] at hrest
    obtain ⟨⟨⟨⟨⟨⟨⟨⟨⟨⟨⟨⟨⟨⟨⟨⟨⟨⟨⟨h0, h1⟩, h2⟩, h3⟩, h4⟩, h5⟩, h6⟩, h7⟩, h8⟩, h9⟩, h10⟩, hpb⟩, hpbs⟩, htps⟩, hv1⟩, hv2⟩, hv3⟩, hv4⟩, hv5⟩, hv6⟩ := hrest
    subst h0 h1 h2 h3 h4 h5 h6 h7 h8 h9 h10
    have hE : createElems d f (toksLines d ⟨tb, ine, cols, none, [], [], [], [], pb, cm, none, none, none, none, none, none, rfs, rfd, sai, sat, ofm, lo, tp⟩)
        (emptyCreate tb ine) =
        .ok ⟨tb, ine, cols, none, [], [], [], [], [], none, none, none, none, none, none, none, none, none, none, false, none, none, []⟩ := by
      simp only [toksLines, hb, Bool.false_eq_true, if_false]
      apply elems_cols f cols hcols hcolf
      rfl
    rw [hE]
    simp only [toksOpts, hb, Bool.false_eq_true, if_false, toksHiveOpts, List.append_assoc]
    have k := co_commentHive (co_partitioned (co_serde (co_delimited (co_inputformat (co_textfile (co_outputformat (co_location (co_props
      (co_end (d := d) f ⟨tb, ine, cols, none, [], [], [], [], pb, cm, none, none, none, none, none, none, rfs, rfd, sai, sat, ofm, lo, tp⟩
        rest hr) htps) hv6) hv5)) hv4) hv3) hv2) hpb hpbs (hpartf hb)) hv1
    have hO : ∀ g, _ ≤ g → createOpts _ f g _ _ = _ := k
    rw [hO]
    simp only [List.length_append]; omega

theorem pStatement_create (c : CreateTable) (hc : FragCreate d c = true) (rest : List Tok) (hr : endsC rest = true) (f : Nat)
    (hf : 20 * sizeL (toksCreate d c) + 2 ≤ f) :
    pStatement d f (toksCreate d c ++ rest) = .ok (.createTable c, (moveStr rest ";").2) := by
  have := pCreateTable_ok c hc rest hr f hf
  unfold pStatement
  have h1 : searchStrUp (toksCreate d c ++ rest) "SET" = false := by simp only [toksCreate]; kw_simp
  have h2 : searchTwoUp (toksCreate d c ++ rest) "DELETE" "FROM" = false := by simp only [toksCreate]; kw_simp
  have h3 : searchTwoUp (toksCreate d c ++ rest) "DROP" "TABLE" = false := by simp only [toksCreate]; kw_simp
  have h4 : searchTwoUp (toksCreate d c ++ rest) "CREATE" "TABLE" = true := by simp only [toksCreate]; kw_simp
  simp only [h1, h2, h3, h4, Bool.false_eq_true, if_false, if_true, this]

end TD
