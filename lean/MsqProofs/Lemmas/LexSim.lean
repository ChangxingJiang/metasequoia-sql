import MsqProofs.Lemmas.LexSem
import MsqProofs.Lemmas.LexSpec
/-!
# Two facts about the lexer's use of the text (for C06 / C09)

The lexer reads the text in two ways only: the characters it is fed, and the window `text[start:now]` it slices when it
emits a token.  Hence, for any table whose operations have a normal form (`GoodCode`; the closed form `execCore_eq` of an
operation, or its definition `execCore` itself in `handle_prefix`, is all the proofs look at):

1. **simulation** (`runTail_ctx` is the form the users call): two runs that are fed the same characters from memories
   whose positions differ by constant offsets into texts with a common suffix (so that all windows agree), and whose
   frame stacks are related token by token by a relation `R` that contains the equal leaves and is a congruence for
   groups, stay related — both fail with the same error, or both succeed with related memories / token lists.
2. **prefix independence** (`feedAllWith_prefix`): feeding the first `L` characters of a text does not depend on what
   follows them: no operation looks further ahead than the character it is handling (`GoodCode`: an operation advances by
   at most one character, and not at all when it asks for a retry).
-/
namespace Lex

/-! ## relations -/

inductive All₂ {α β : Type} (R : α → β → Prop) : List α → List β → Prop
  | nil : All₂ R [] []
  | cons {a b as bs} : R a b → All₂ R as bs → All₂ R (a :: as) (b :: bs)

theorem All₂.length_eq {α β : Type} {R : α → β → Prop} {l1 : List α} {l2 : List β} (h : All₂ R l1 l2) :
    l1.length = l2.length := by
  induction h with
  | nil => rfl
  | cons _ _ ih => simp [ih]

theorem All₂.append {α β : Type} {R : α → β → Prop} {a c : List α} {b d : List β} (h1 : All₂ R a b) (h2 : All₂ R c d) :
    All₂ R (a ++ c) (b ++ d) := by
  induction h1 with
  | nil => exact h2
  | cons h _ ih => exact .cons h ih

theorem All₂.refl {α : Type} {R : α → α → Prop} (h : ∀ a, R a a) (l : List α) : All₂ R l l := by
  induction l with
  | nil => exact .nil
  | cons a as ih => exact .cons (h a) ih

theorem All₂.eq {α : Type} {l1 l2 : List α} (h : All₂ Eq l1 l2) : l1 = l2 := by
  induction h with
  | nil => rfl
  | cons h _ ih => rw [h, ih]

def OptRel {α β : Type} (R : α → β → Prop) : Option α → Option β → Prop
  | none, none => True
  | some a, some b => R a b
  | _, _ => False

theorem OptRel.cases {α β : Type} {R : α → β → Prop} {x : Option α} {y : Option β} (h : OptRel R x y) :
    (x = none ∧ y = none) ∨ ∃ a b, x = some a ∧ y = some b ∧ R a b := by
  match x, y, h with
  | none, none, _ => exact .inl ⟨rfl, rfl⟩
  | some a, some b, h => exact .inr ⟨a, b, rfl, rfl, h⟩

theorem All₂.getLast? {α β : Type} {R : α → β → Prop} {l1 : List α} {l2 : List β} (h : All₂ R l1 l2) :
    OptRel R l1.getLast? l2.getLast? := by
  induction h with
  | nil => trivial
  | @cons a b as bs hab hrest ih =>
    cases hrest with
    | nil => simpa [OptRel] using hab
    | cons h1 h2 => simpa [List.getLast?_cons_cons] using ih

/-- `R` relates equal leaves and is a congruence for groups -/
structure TokRel (R : Tok → Tok → Prop) : Prop where
  single : ∀ s k, R (.single s k) (.single s k)
  group : ∀ g k cs ds, All₂ R cs ds → R (.group g cs k) (.group g ds k)

theorem TokRel.eq : TokRel Eq := ⟨fun _ _ => rfl, fun _ _ _ _ h => by rw [h.eq]⟩

mutual
theorem TokRel.refl {R : Tok → Tok → Prop} (hR : TokRel R) : ∀ t, R t t
  | .single s k => hR.single s k
  | .group g cs k => hR.group g k cs cs (TokRel.reflL hR cs)
theorem TokRel.reflL {R : Tok → Tok → Prop} (hR : TokRel R) : ∀ l, All₂ R l l
  | [] => .nil
  | t :: ts => .cons (TokRel.refl hR t) (TokRel.reflL hR ts)
end

theorem TokRel.reflS {R : Tok → Tok → Prop} (hR : TokRel R) (stk : List (List Tok)) : All₂ (All₂ R) stk stk :=
  All₂.refl (TokRel.reflL hR) stk

/-- memories that agree up to constant position offsets `A1`, `A2` and `R` on the frame stacks -/
structure MemRel (R : Tok → Tok → Prop) (A1 A2 : Nat) (m1 m2 : Mem) : Prop where
  status : m1.status = m2.status
  stack : All₂ (All₂ R) m1.stack m2.stack
  pos : ∃ i j, m1.start = A1 + i ∧ m2.start = A2 + i ∧ m1.now = A1 + j ∧ m2.now = A2 + j

theorem MemRel.at_ends {R : Tok → Tok → Prop} {P1 P2 : List Char} {n1 n2 : Nat} {q : S} {s1 s2 : List (List Tok)}
    (h1 : n1 = P1.length) (h2 : n2 = P2.length) (hs : All₂ (All₂ R) s1 s2) :
    MemRel R P1.length P2.length ⟨n1, n1, q, s1⟩ ⟨n2, n2, q, s2⟩ :=
  ⟨rfl, hs, 0, 0, by simp [h1], by simp [h2], by simp [h1], by simp [h2]⟩

structure RegRel (R : Tok → Tok → Prop) (r1 r2 : Regs) : Prop where
  source : r1.source = r2.source
  tokens : OptRel (All₂ R) r1.tokens r2.tokens

theorem appendTop_rel {R : Tok → Tok → Prop} {t1 t2 : Tok} {s1 s2 : List (List Tok)} (ht : R t1 t2)
    (hs : All₂ (All₂ R) s1 s2) : OptRel (All₂ (All₂ R)) (appendTop t1 s1) (appendTop t2 s2) := by
  cases hs with
  | nil => trivial
  | cons hf hfs => exact .cons (hf.append (.cons ht .nil)) hfs

theorem slice_suffix (P B : List Char) (i j : Nat) :
    ((P ++ B).drop (P.length + i)).take ((P.length + j) - (P.length + i)) = (B.drop i).take (j - i) := by
  have h1 : (P ++ B).drop (P.length + i) = B.drop i := by
    rw [← List.drop_drop]; simp
  rw [h1]; congr 1; omega

/-- every operation has a normal form, and one that asks for a retry has not advanced -/
def GoodCode {Cls : Type} (cfg : Cfg Cls) : Prop :=
  ∀ c, (match summarize (cfg.code c) with | some sm => sm.ret || !sm.adv | none => false) = true

theorem GoodCode.summ {Cls : Type} {cfg : Cfg Cls} (hg : GoodCode cfg) (c : Cls) :
    ∃ sm, summarize (cfg.code c) = some sm ∧ (sm.ret = false → sm.adv = false) := by
  have := hg c
  cases h : summarize (cfg.code c) with
  | none => simp [h] at this
  | some sm => exact ⟨sm, rfl, fun hr => by simpa [h, hr] using this⟩

theorem OptRel.bind {α β γ δ : Type} {R : α → β → Prop} {Q : γ → δ → Prop} {x : Option α} {y : Option β}
    {f : α → Option γ} {g : β → Option δ} (h : OptRel R x y) (hf : ∀ a b, R a b → OptRel Q (f a) (g b)) :
    OptRel Q (x.bind f) (y.bind g) := by
  rcases h.cases with ⟨rfl, rfl⟩ | ⟨a, b, rfl, rfl, hab⟩
  · trivial
  · exact hf a b hab

/-! ## 1. simulation -/

section sim
variable {R : Tok → Tok → Prop} (hR : TokRel R) (env1 env2 : Env) (P1 P2 B : List Char)
  (hup : env1.upper = env2.upper) (hwm : env1.wordMarks = env2.wordMarks)
  (ht1 : env1.text = P1 ++ B) (ht2 : env2.text = P2 ++ B) (ss : S) (sm : Nat)
include hR hup hwm ht1 ht2

abbrev StepRel (R : Tok → Tok → Prop) (A1 A2 : Nat) (x y : Mem × Bool) : Prop := MemRel R A1 A2 x.1 y.1 ∧ x.2 = y.2

theorem execCore_sim (adv : Bool) (body : Body) (grp : Grp) (st : St) (ret : Bool) (m1 m2 : Mem)
    (hm : MemRel R P1.length P2.length m1 m2) :
    ERel (StepRel R P1.length P2.length) (execCore env1 ss sm adv body grp st ret m1)
      (execCore env2 ss sm adv body grp st ret m2) := by
  obtain ⟨i, j, hs1, hs2, hn1, hn2⟩ := hm.pos
  -- the position after the operation, as an offset
  obtain ⟨j', hj1, hj2⟩ : ∃ j', (if adv then m1.now + 1 else m1.now) = P1.length + j' ∧
      (if adv then m2.now + 1 else m2.now) = P2.length + j' := by
    cases adv
    · exact ⟨j, hn1, hn2⟩
    · exact ⟨j + 1, by simp [hn1]; omega, by simp [hn2]; omega⟩
  have hbody : OptRel (All₂ (All₂ R)) (bodyStk env1 sm m1 (if adv then m1.now + 1 else m1.now) body)
      (bodyStk env2 sm m2 (if adv then m2.now + 1 else m2.now) body) := by
    cases body with
    | emit mk =>
      -- the two windows are the same piece of the common suffix
      simp only [bodyStk, ht1, ht2, hs1, hs2, hj1, hj2, slice_suffix, hup, hwm]
      exact appendTop_rel (hR.single _ _) hm.stack
    | keep | drop => exact hm.stack
  have hgrp : ∀ s1 s2, All₂ (All₂ R) s1 s2 → OptRel (All₂ (All₂ R)) (grpStk env1 sm grp s1) (grpStk env2 sm grp s2) := by
    intro s1 s2 hs
    cases grp with
    | none => exact hs
    | push => exact .cons .nil hs
    | pop k mk =>
      cases hs with
      | nil => trivial
      | cons hf hfs => simp only [grpStk, hup, hwm]; exact appendTop_rel (hR.group _ _ _ _ hf) hfs
  rw [execCore_eq, execCore_eq]
  rcases (hbody.bind hgrp).cases with ⟨e1, e2⟩ | ⟨s1, s2, e1, e2, hs⟩
  · rw [e1, e2]; exact rfl
  · rw [e1, e2]
    refine ⟨⟨by simp only [hm.status], hs, ?_⟩, rfl⟩
    cases body with
    | keep => exact ⟨i, j', hs1, hs2, hj1, hj2⟩
    | drop | emit => exact ⟨j', j', hj1, hj2, hj1, hj2⟩

end sim

section simdrv
variable {Cls : Type} {R : Tok → Tok → Prop} (hR : TokRel R) (cfg : Cfg Cls) (hg : GoodCode cfg) (P1 P2 B : List Char)
include hR hg

theorem handle_sim (m1 m2 : Mem) (sym : Sym) (hm : MemRel R P1.length P2.length m1 m2) :
    ERel (StepRel R P1.length P2.length) (handle cfg (P1 ++ B) m1 sym) (handle cfg (P2 ++ B) m2 sym) := by
  cases ho : cfg.lookup m2.status sym with
  | none => simp [handle, hm.status, ho, ERel]
  | some o =>
    obtain ⟨sm, hs, _⟩ := hg.summ o.cls
    rw [handle_eq cfg _ m1 sym o sm (hm.status ▸ ho) hs, handle_eq cfg _ m2 sym o sm ho hs]
    have hb : sm.blocked m1 = sm.blocked m2 := by simp only [Summary.blocked, hm.stack.length_eq]
    unfold execS
    rw [hb]
    by_cases h1 : sm.blocked m2 = true
    · rw [if_pos h1, if_pos h1]; exact rfl
    · rw [if_neg h1, if_neg h1]
      by_cases h2 : sm.raises = true
      · rw [if_pos h2, if_pos h2]; exact rfl
      · rw [if_neg h2, if_neg h2]
        exact execCore_sim hR (cfg.env (P1 ++ B)) (cfg.env (P2 ++ B)) P1 P2 B rfl rfl rfl rfl _ _ _ _ _ _ _ m1 m2 hm

theorem feedAllWith_sim (cs : List Char) (m1 m2 : Mem) (hm : MemRel R P1.length P2.length m1 m2) :
    ERel (MemRel R P1.length P2.length) (feedAllWith (handle cfg (P1 ++ B)) cs m1) (feedAllWith (handle cfg (P2 ++ B)) cs m2) :=
  feedAllWith_rel (fun a b sym h => handle_sim hR cfg hg P1 P2 B a b sym h) cs m1 m2 hm

omit hR hg in
theorem finish_sim (m1 m2 : Mem) (hm : MemRel R P1.length P2.length m1 m2) :
    ERel (All₂ R) (finish cfg m1) (finish cfg m2) := by
  simp only [finish, hm.status, hm.stack.length_eq]
  split
  · simp [ERel]
  · split
    · simp [ERel]
    · rcases hm.stack.getLast?.cases with ⟨e1, e2⟩ | ⟨f1, f2, e1, e2, hf⟩
      · rw [e1, e2]; exact rfl
      · rw [e1, e2]; exact hf

end simdrv

/-- the rest of a lexer run from memory `m`: feed `cs`, handle the end of the text, finish -/
def runTail {Cls : Type} (cfg : Cfg Cls) (text cs : List Char) (m : Mem) : Except Err (List Tok) :=
  match feedAllWith (handle cfg text) cs m with
  | .error e => .error e
  | .ok m =>
    match handle cfg text m .eof with
    | .error e => .error e
    | .ok (m', _) => finish cfg m'

theorem lexText_eq_runTail (cfg : Cfg Gen.Cls) (text : List Char) : lexText cfg text = runTail cfg text text {} := rfl

theorem runTail_append {Cls : Type} (cfg : Cfg Cls) (text a b : List Char) (m : Mem) :
    runTail cfg text (a ++ b) m =
      (match feedAllWith (handle cfg text) a m with | .error e => .error e | .ok m' => runTail cfg text b m') := by
  simp only [runTail, feedAllWith_append]
  cases feedAllWith (handle cfg text) a m <;> rfl

theorem runTail_append_ok {Cls : Type} {cfg : Cfg Cls} {text a : List Char} {m m' : Mem}
    (h : feedAllWith (handle cfg text) a m = .ok m') (b : List Char) :
    runTail cfg text (a ++ b) m = runTail cfg text b m' := by
  rw [runTail_append, h]

theorem runTail_sim {Cls : Type} {R : Tok → Tok → Prop} (hR : TokRel R) (cfg : Cfg Cls) (hg : GoodCode cfg)
    (P1 P2 B cs : List Char)
    (m1 m2 : Mem) (hm : MemRel R P1.length P2.length m1 m2) :
    ERel (All₂ R) (runTail cfg (P1 ++ B) cs m1) (runTail cfg (P2 ++ B) cs m2) := by
  simp only [runTail]
  rcases (feedAllWith_sim hR cfg hg P1 P2 B cs m1 m2 hm).cases with ⟨e, e1, e2⟩ | ⟨x, y, e1, e2, hxy⟩
  · rw [e1, e2]; exact rfl
  · rw [e1, e2]
    rcases (handle_sim hR cfg hg P1 P2 B x y .eof hxy).cases with ⟨e, f1, f2⟩ | ⟨u, v, f1, f2, huv, _⟩
    · simp only [f1, f2]; exact rfl
    · simp only [f1, f2]; exact finish_sim cfg P1 P2 u.1 v.1 huv

/-- the **context lemma**: if two middle parts `u1`, `u2`, fed from `m1`, `m2`, lead to related memories (or the same
error), then so do the complete runs, whatever follows -/
theorem runTail_ctx {Cls : Type} {R : Tok → Tok → Prop} (hR : TokRel R) (cfg : Cfg Cls) (hg : GoodCode cfg)
    (P1 P2 B u1 u2 cs : List Char)
    (m1 m2 : Mem)
    (h : ERel (MemRel R P1.length P2.length) (feedAllWith (handle cfg (P1 ++ B)) u1 m1) (feedAllWith (handle cfg (P2 ++ B)) u2 m2)) :
    ERel (All₂ R) (runTail cfg (P1 ++ B) (u1 ++ cs) m1) (runTail cfg (P2 ++ B) (u2 ++ cs) m2) := by
  rw [runTail_append, runTail_append]
  rcases h.cases with ⟨e, e1, e2⟩ | ⟨x, y, e1, e2, hxy⟩
  · rw [e1, e2]; exact rfl
  · rw [e1, e2]; exact runTail_sim hR cfg hg P1 P2 B cs x y hxy

theorem dropFlag_sim {R : Tok → Tok → Prop} {A1 A2 : Nat} {x y : Except Err (Mem × Bool)}
    (h : ERel (StepRel R A1 A2) x y) : ERel (MemRel R A1 A2) (dropFlag x) (dropFlag y) := by
  rcases h.cases with ⟨e, rfl, rfl⟩ | ⟨a, b, rfl, rfl, hab⟩
  · exact rfl
  · exact hab.1

theorem ERel.eq_of_all₂ {x y : Except Err (List Tok)} (h : ERel (All₂ Eq) x y) : x = y :=
  (h.mono fun _ _ => All₂.eq).eq

mutual
theorem Tok.eqb_sound : ∀ a b : Tok, Tok.eqb a b = true → a = b
  | .single a m, .single b n, h => by
    simp only [Tok.eqb, Bool.and_eq_true, beq_iff_eq] at h
    rw [h.1, h.2]
  | .group k cs m, .group l ds n, h => by
    simp only [Tok.eqb, Bool.and_eq_true, beq_iff_eq] at h
    rw [h.1.1, h.1.2, eqbL_sound cs ds h.2]
  | .single _ _, .group _ _ _, h => by simp [Tok.eqb] at h
  | .group _ _ _, .single _ _, h => by simp [Tok.eqb] at h
theorem eqbL_sound : ∀ as bs : List Tok, eqbL as bs = true → as = bs
  | [], [], _ => rfl
  | a :: as, b :: bs, h => by
    simp only [eqbL, Bool.and_eq_true] at h
    rw [Tok.eqb_sound a b h.1, eqbL_sound as bs h.2]
  | [], _ :: _, h => by simp [eqbL] at h
  | _ :: _, [], h => by simp [eqbL] at h
end

def stackEqb : List (List Tok) → List (List Tok) → Bool
  | [], [] => true
  | f :: fs, g :: gs => eqbL f g && stackEqb fs gs
  | _, _ => false

theorem stackEqb_sound : ∀ a b, stackEqb a b = true → a = b
  | [], [], _ => rfl
  | f :: fs, g :: gs, h => by
    simp only [stackEqb, Bool.and_eq_true] at h
    rw [eqbL_sound f g h.1, stackEqb_sound fs gs h.2]
  | [], _ :: _, h => by simp [stackEqb] at h
  | _ :: _, [], h => by simp [stackEqb] at h

/-- "after the text `a` the lexer is between tokens, with frame stack `stk`" -/
def WaitAfter {Cls : Type} (cfg : Cfg Cls) (a : List Char) (stk : List (List Tok)) : Prop :=
  feedAllWith (handle cfg a) a {} = .ok ⟨a.length, a.length, .WAIT, stk⟩

/-- … as a computation, so that instances can be decided by the kernel -/
def waitAfterB {Cls : Type} (cfg : Cfg Cls) (a : List Char) (stk : List (List Tok)) : Bool :=
  match feedAllWith (handle cfg a) a {} with
  | .ok m => m.start == a.length && m.now == a.length && m.status == .WAIT && stackEqb m.stack stk
  | .error _ => false

theorem waitAfterB_sound {Cls : Type} (cfg : Cfg Cls) (a : List Char) (stk : List (List Tok))
    (h : waitAfterB cfg a stk = true) : WaitAfter cfg a stk := by
  unfold waitAfterB at h
  unfold WaitAfter
  cases e : feedAllWith (handle cfg a) a {} with
  | error x => rw [e] at h; cases h
  | ok m =>
    rw [e] at h
    simp only [Bool.and_eq_true, beq_iff_eq] at h
    obtain ⟨⟨⟨h1, h2⟩, h3⟩, h4⟩ := h
    cases m with
    | mk st nw q sk =>
      simp only at h1 h2 h3 h4
      rw [h1, h2, h3, stackEqb_sound _ _ h4]

/-! ## 2. prefix independence -/

theorem slice_prefix (T1 T2 : List Char) (L s n : Nat) (h : T1.take L = T2.take L) (hn : n ≤ L) :
    (T1.drop s).take (n - s) = (T2.drop s).take (n - s) := by
  by_cases hs : s ≤ n
  · have h' : T1.take n = T2.take n := by
      have := congrArg (List.take n) h
      simpa [List.take_take, Nat.min_eq_left hn] using this
    rw [List.take_drop, List.take_drop]
    have : s + (n - s) = n := by omega
    rw [this, h']
  · have : n - s = 0 := by omega
    simp [this]

section pfx
variable {Cls : Type} (cfg : Cfg Cls) (hg : GoodCode cfg) (T1 T2 : List Char) (L : Nat) (ht : T1.take L = T2.take L)
include hg ht

theorem handle_prefix (m : Mem) (sym : Sym) (hL : m.now + 1 ≤ L) : handle cfg T1 m sym = handle cfg T2 m sym := by
  cases ho : cfg.lookup m.status sym with
  | none => simp [handle, ho]
  | some o =>
    obtain ⟨sm, hs, _⟩ := hg.summ o.cls
    rw [handle_eq cfg T1 m sym o sm ho hs, handle_eq cfg T2 m sym o sm ho hs]
    -- the two texts enter through the window only, and it ends at or before `L`
    have hw := slice_prefix T1 T2 L m.start (if sm.adv then m.now + 1 else m.now) ht (by split <;> omega)
    simp only [execS, execCore, Cfg.env, hw]

omit ht in
theorem handle_now (T : List Char) (m m' : Mem) (sym : Sym) (b : Bool) (h : handle cfg T m sym = .ok (m', b)) :
    m'.now ≤ m.now + 1 ∧ (b = false → m'.now = m.now) := by
  obtain ⟨o, sm, _, hs, _, hc⟩ := handle_ok_of (fun o _ => let ⟨sm, h, _⟩ := hg.summ o.cls; ⟨sm, h⟩) h
  obtain ⟨hb, hn, _⟩ := execCore_ok _ _ _ hc
  obtain ⟨sm', hs', hr⟩ := hg.summ o.cls
  rw [hs] at hs'; cases hs'
  rw [hn, hb]
  exact ⟨by split <;> omega, fun h => by rw [hr h]; rfl⟩

theorem feedWith_prefix (m : Mem) (c : Char) (hL : m.now + 1 ≤ L) :
    feedWith (handle cfg T1) m c = feedWith (handle cfg T2) m c ∧
    ∀ m', feedWith (handle cfg T2) m c = .ok m' → m'.now ≤ m.now + 1 := by
  have h1 := handle_prefix cfg hg T1 T2 L ht m (.ch c) hL
  simp only [feedWith, h1]
  cases e : handle cfg T2 m (.ch c) with
  | error x => simp
  | ok x =>
    obtain ⟨m1, b⟩ := x
    obtain ⟨hle, hb⟩ := handle_now cfg hg T2 m m1 (.ch c) b e
    cases b with
    | true => simp only [true_and]; intro m' hm'; cases hm'; exact hle
    | false =>
      have hm1 : m1.now = m.now := hb rfl
      have h2 := handle_prefix cfg hg T1 T2 L ht m1 (.ch c) (by omega)
      simp only [h2, true_and]
      cases e2 : handle cfg T2 m1 (.ch c) with
      | error y => simp
      | ok y =>
        intro m' hm'
        simp only [Except.ok.injEq] at hm'
        subst hm'
        have := (handle_now cfg hg T2 m1 y.1 (.ch c) y.2 e2).1
        omega

theorem feedAllWith_prefix (cs : List Char) : ∀ m : Mem, m.now + cs.length ≤ L →
    feedAllWith (handle cfg T1) cs m = feedAllWith (handle cfg T2) cs m := by
  induction cs with
  | nil => intro m _; rfl
  | cons c cs ih =>
    intro m hL
    simp only [List.length_cons] at hL
    obtain ⟨h1, h2⟩ := feedWith_prefix cfg hg T1 T2 L ht m c (by omega)
    simp only [feedAllWith, h1]
    cases e : feedWith (handle cfg T2) m c with
    | error x => rfl
    | ok m' =>
      have := h2 m' e
      exact ih m' (by omega)

end pfx

theorem feedAllWith_context {Cls : Type} (cfg : Cfg Cls) (hg : GoodCode cfg) (a x : List Char) :
    feedAllWith (handle cfg (a ++ x)) a {} = feedAllWith (handle cfg a) a {} :=
  feedAllWith_prefix cfg hg (a ++ x) a a.length (by simp) a {} (by simp)

end Lex
