import MsqProofs.Lemmas.TDmlR4
import MsqProofs.Lemmas.TDmlQ1
/-!
# The data-change fragment over `FragQ2` is contained in the one over `FragQ3`, with equal renderings (C03 / C01)

`TDM2.FragStmt d s → TDM3.FragStmt d s ∧ TDM3.toksStmtG d ch tb s = TDM2.toksStmtG d ch tb s` (any choice of redundant brackets, `TABLE`
written or not) — from `TQ3.inc` (Lemmas/TQuery3I.lean), part by part.  Hence every statement about `TDM2.FragStmt` is the `TDM3` statement
at the same tree (`TDM2.stmt_ok`, Lemmas/TDmlQ4.lean).
-/
open Lex PM Ast TP TS
namespace TDM3
variable {d : Gen.D} {ch : Expr → Bool}

/-! ### the helpers of the two namespaces are the same functions -/
theorem joinC_eq : ∀ (l : List (List Tok)), joinC l = TDM2.joinC l
  | [] => rfl
  | [s] => rfl
  | s :: t :: r => by simp only [joinC, TDM2.joinC, joinC_eq (t :: r)]
theorem toksColNames_eq (cs : Option (List (Option String × String))) : toksColNames cs = TDM2.toksColNames cs := by
  cases cs with
  | none => rfl
  | some l =>
    have : l.map toksColName = l.map TDM2.toksColName := List.map_congr_left fun c _ => rfl
    simp only [toksColNames, TDM2.toksColNames, joinC_eq, this]
theorem colNamesOK_eq (cs : Option (List (Option String × String))) : colNamesOK cs = TDM2.colNamesOK cs := by cases cs <;> rfl
theorem withsOf_eq (q : Query) : withsOf q = TDM2.withsOf q := by
  cases q with | single s => cases s; rfl | union _ _ _ => rfl
theorem stripW_eq (q : Query) : stripW q = TDM2.stripW q := by
  cases q with | single s => cases s; rfl | union _ _ _ => rfl

theorem incTail (wh : Option Expr) (ob : Option (List OrderItem)) (lm : Option (Int × Option Int)) (h1 : TQ2.FragO4 d wh = true)
    (h2 : TQ2.orderOK4 d ob = true) : toksTail d ch wh ob lm = TDM2.toksTail d ch wh ob lm := by
  simp only [toksTail, TDM2.toksTail, ((TQ3.incO h1).2 ch).2, ((TQ3.incOrder h2).2 ch).1]
theorem incWith (w : WithTable) (h : TDM2.withOK d w = true) : withOK d w = true ∧ toksWith d ch w = TDM2.toksWith d ch w := by
  obtain ⟨n, q⟩ := w
  simp only [TDM2.withOK, Bool.and_eq_true] at h
  obtain ⟨q1, q2⟩ := TQ3.incQ h.2
  exact ⟨by simp only [withOK, h.1, q1, Bool.and_self], by simp only [toksWith, TDM2.toksWith, q2]⟩
theorem incWithsTail : ∀ (ws : List WithTable), ws.all (TDM2.withOK d) = true →
    ws.all (withOK d) = true ∧ toksWithsTail d ch ws = TDM2.toksWithsTail d ch ws := by
  intro ws
  induction ws with
  | nil => intro _; exact ⟨rfl, rfl⟩
  | cons w r ih =>
    intro h
    simp only [List.all_cons, Bool.and_eq_true] at h
    obtain ⟨a1, a2⟩ := incWith (ch := ch) w h.1
    obtain ⟨b1, b2⟩ := ih h.2
    exact ⟨by simp only [List.all_cons, a1, b1, Bool.and_self], by simp only [toksWithsTail, TDM2.toksWithsTail, a2, b2]⟩
theorem incWiths (ws : Option (List WithTable)) (h : TDM2.withsOK d ws = true) :
    withsOK d ws = true ∧ toksWiths d ch ws = TDM2.toksWiths d ch ws := by
  cases ws with
  | none => simp [TDM2.withsOK] at h
  | some l =>
    simp only [TDM2.withsOK] at h
    obtain ⟨a1, a2⟩ := incWithsTail (ch := ch) l h
    refine ⟨by simpa only [withsOK] using a1, ?_⟩
    cases l with
    | nil => rfl
    | cons w r =>
      simp only [List.all_cons, Bool.and_eq_true] at h
      simp only [toksWiths, TDM2.toksWiths, (incWith (ch := ch) w h.1).2, (incWithsTail (ch := ch) r h.2).2]
theorem incSets : ∀ (ss : List (String × Expr)), ss.all (TDM2.setOK d) = true →
    ss.all (setOK d) = true ∧ toksSetsTail d ch ss = TDM2.toksSetsTail d ch ss ∧ toksSets d ch ss = TDM2.toksSets d ch ss := by
  intro ss
  induction ss with
  | nil => intro _; exact ⟨rfl, rfl, rfl⟩
  | cons p r ih =>
    intro h
    simp only [List.all_cons, Bool.and_eq_true] at h
    obtain ⟨b1, b2, _⟩ := ih h.2
    have hp := h.1
    simp only [TDM2.setOK, Bool.and_eq_true] at hp
    obtain ⟨e1, e2⟩ := TQ3.incE hp.2
    have a1 : setOK d p = true := by simp only [setOK, hp.1, e1, Bool.and_self]
    have a2 : toksSet d ch p = TDM2.toksSet d ch p := by simp only [toksSet, TDM2.toksSet, e2]
    exact ⟨by simp only [List.all_cons, a1, b1, Bool.and_self], by simp only [toksSetsTail, TDM2.toksSetsTail, a2, b2],
      by simp only [toksSets, TDM2.toksSets, a2, b2]⟩
theorem fragL_mem : ∀ (vs : List Expr), TQ2.FragL4 d vs = true → ∀ a ∈ vs, TQ2.FragE4 d a = true := by
  intro vs
  induction vs with
  | nil => intro _ a ha; simp at ha
  | cons v vs ih =>
    intro h a ha
    simp only [TQ2.FragL4, Bool.and_eq_true] at h
    rcases List.mem_cons.1 ha with rfl | ha
    · exact h.1
    · exact ih h.2 a ha
theorem incRow (vs : List Expr) (h : TQ2.FragL4 d vs = true) : TQ3.FragL4 d vs = true ∧ toksRow d ch vs = TDM2.toksRow d ch vs := by
  refine ⟨(TQ3.incL h).1, ?_⟩
  have : vs.map (fun e => TQ3.W4 d ch e 8) = vs.map (fun e => TQ2.W4 d ch e 8) :=
    List.map_congr_left fun a ha => by simp only [TQ3.W4, TQ2.W4, (TQ3.incE (fragL_mem vs h a ha)).2]
  simp only [toksRow, TDM2.toksRow, this, joinC_eq]
theorem incRows : ∀ (rs : List (List Expr)), rs.all (TQ2.FragL4 d) = true →
    rs.all (TQ3.FragL4 d) = true ∧ toksRowsTail d ch rs = TDM2.toksRowsTail d ch rs ∧ toksRows d ch rs = TDM2.toksRows d ch rs := by
  intro rs
  induction rs with
  | nil => intro _; exact ⟨rfl, rfl, rfl⟩
  | cons r rs ih =>
    intro h
    simp only [List.all_cons, Bool.and_eq_true] at h
    obtain ⟨a1, a2⟩ := incRow (ch := ch) r h.1
    obtain ⟨b1, b2, _⟩ := ih h.2
    exact ⟨by simp only [List.all_cons, a1, b1, Bool.and_self], by simp only [toksRowsTail, TDM2.toksRowsTail, a2, b2],
      by simp only [toksRows, TDM2.toksRows, a2, b2]⟩
theorem incItem (e : Expr) (h : TDM2.staticOK d e = true ∨ TDM2.dynOK d e = true) :
    (TDM2.staticOK d e = true → staticOK d e = true) ∧ (TDM2.dynOK d e = true → dynOK d e = true) ∧ TQ3.toksE5 d ch e = TQ2.toksE4 d ch e := by
  have hd : TDM2.dynOK d e = true → dynOK d e = true ∧ TQ3.toksE5 d ch e = TQ2.toksE4 d ch e := fun h => by
    simp only [TDM2.dynOK, Bool.and_eq_true] at h
    exact ⟨by simp only [dynOK, (TQ3.incE h.1).1, h.2, Bool.and_self], (TQ3.incE h.1).2 ch⟩
  have hs : TDM2.staticOK d e = true → staticOK d e = true ∧ TQ3.toksE5 d ch e = TQ2.toksE4 d ch e := fun h => by
    cases e with
    | compare o l r =>
      simp only [TDM2.staticOK, Bool.and_eq_true] at h
      obtain ⟨⟨⟨⟨⟨h1, h2⟩, h3⟩, h4⟩, h5⟩, h6⟩ := h
      exact ⟨by simp only [staticOK, h1, (TQ3.incE h2).1, (TQ3.incE h3).1, h4, h5, h6, Bool.and_self],
        by simp only [TQ3.toksE5, TQ2.toksE4, (TQ3.incE h2).2, (TQ3.incE h3).2]⟩
    | _ => simp [TDM2.staticOK] at h
  exact ⟨fun h => (hs h).1, fun h => (hd h).1, h.elim (fun h => (hs h).2) (fun h => (hd h).2)⟩
theorem incPartMap (es : List Expr) (h : TDM2.partOK d (some es) = true) : es.map (TQ3.toksE5 d ch) = es.map (TQ2.toksE4 d ch) := by
  simp only [TDM2.partOK, Bool.or_eq_true, List.all_eq_true] at h
  exact List.map_congr_left fun e he => (incItem e (h.imp (· e he) (· e he))).2.2
theorem incPart (p : Option (List Expr)) (h : TDM2.partOK d p = true) : partOK d p = true ∧ toksPart d ch p = TDM2.toksPart d ch p := by
  cases p with
  | none => exact ⟨rfl, rfl⟩
  | some es =>
    refine ⟨?_, by simp only [toksPart, TDM2.toksPart, incPartMap es h, joinC_eq]⟩
    simp only [TDM2.partOK, Bool.or_eq_true, List.all_eq_true] at h
    simp only [partOK, Bool.or_eq_true, List.all_eq_true]
    exact h.imp (fun h e he => (incItem (ch := ch) e (Or.inl (h e he))).1 (h e he)) (fun h e he => (incItem (ch := ch) e (Or.inr (h e he))).2.1 (h e he))
theorem incHead (tb : Bool) (h : InsertHead) (hh : TDM2.headOK d h = true) :
    headOK d h = true ∧ toksWiths d ch h.withs = TDM2.toksWiths d ch h.withs ∧ toksTarget d ch tb h = TDM2.toksTarget d ch tb h := by
  simp only [TDM2.headOK, Bool.and_eq_true] at hh
  obtain ⟨⟨⟨⟨h1, h2⟩, h3⟩, h4⟩, h5⟩ := hh
  obtain ⟨w1, w2⟩ := incWiths (ch := ch) h.withs h1
  obtain ⟨p1, p2⟩ := incPart (ch := ch) h.partition h4
  refine ⟨?_, w2, ?_⟩
  · have c2 : insertTyOK h.type = true := h2
    have c3 : tblOKD h.table = true := h3
    simp only [headOK, w1, p1, c2, c3, colNamesOK_eq, h5, Bool.and_self]
  · have : insertWords h.type = TDM2.insertWords h.type := rfl
    simp only [toksTarget, TDM2.toksTarget, p2, toksColNames_eq, this]

/-- **`TDM2.FragStmt ⊆ TDM3.FragStmt` with equal renderings** -/
theorem fragStmt2_sub (d : Gen.D) (ch : Expr → Bool) (tb : Bool) (s : Stmt) (hs : TDM2.FragStmt d s = true) :
    FragStmt d s = true ∧ toksStmtG d ch tb s = TDM2.toksStmtG d ch tb s := by
  cases s with
  | select q =>
    simp only [TDM2.FragStmt, Bool.and_eq_true] at hs
    obtain ⟨w1, w2⟩ := incWiths (ch := ch) _ hs.1
    obtain ⟨q1, q2⟩ := TQ3.incQ hs.2
    refine ⟨by simp only [FragStmt, withsOf_eq, stripW_eq, w1, q1, Bool.and_self], ?_⟩
    have t1 := toksQ_stripW (d := d) (ch := ch) q
    have t2 := TDM2.toksQ_stripW (d := d) (ch := ch) q
    rw [stripW_eq, q2 ch, t2] at t1
    simp only [toksStmtG, TDM2.toksStmtG, withsOf_eq, w2, t1]
  | insertValues h vs =>
    simp only [TDM2.FragStmt, Bool.and_eq_true] at hs
    obtain ⟨a1, a2, a3⟩ := incHead (ch := ch) tb h hs.1
    obtain ⟨b1, _, b3⟩ := incRows (ch := ch) vs hs.2
    exact ⟨by simp only [FragStmt, a1, b1, Bool.and_self], by simp only [toksStmtG, TDM2.toksStmtG, a2, a3, b3]⟩
  | insertSelect h q =>
    simp only [TDM2.FragStmt, Bool.and_eq_true] at hs
    obtain ⟨a1, a2, a3⟩ := incHead (ch := ch) tb h hs.1
    obtain ⟨q1, q2⟩ := TQ3.incQ hs.2
    exact ⟨by simp only [FragStmt, a1, q1, Bool.and_self], by simp only [toksStmtG, TDM2.toksStmtG, a2, a3, q2]⟩
  | update ws t sets wh ob lm =>
    simp only [TDM2.FragStmt, Bool.and_eq_true] at hs
    obtain ⟨⟨⟨⟨⟨⟨h0, h1⟩, hne⟩, hsets⟩, h2⟩, h3⟩, h4⟩ := hs
    obtain ⟨w1, w2⟩ := incWiths (ch := ch) ws h0
    obtain ⟨s1, _, s3⟩ := incSets (ch := ch) sets hsets
    have ht := incTail (ch := ch) wh ob lm h2 h3
    refine ⟨?_, by simp only [toksStmtG, TDM2.toksStmtG, w2, s3, ht]⟩
    simp only [FragStmt, w1, s1, hne, (TQ3.incO h2).1, (TQ3.incOrder h3).1, h4, Bool.and_true, Bool.true_and]
    exact h1
  | delete t wh ob lm =>
    simp only [TDM2.FragStmt, Bool.and_eq_true] at hs
    obtain ⟨⟨⟨h1, h2⟩, h3⟩, h4⟩ := hs
    have ht := incTail (ch := ch) wh ob lm h2 h3
    refine ⟨?_, by simp only [toksStmtG, TDM2.toksStmtG, ht]⟩
    simp only [FragStmt, (TQ3.incO h2).1, (TQ3.incOrder h3).1, h4, Bool.and_true]
    exact h1
  | _ => simp [TDM2.FragStmt] at hs

end TDM3
