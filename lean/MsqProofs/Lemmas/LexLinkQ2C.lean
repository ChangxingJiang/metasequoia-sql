import MsqProofs.Lemmas.LexLinkQ2S
/-!
# The lexer link for the larger fragment: the clauses of a SELECT beyond `FragQ`

JOIN … USING (the rule is a call), LATERAL VIEW, GROUP BY with GROUPING SETS / WITH CUBE / WITH ROLLUP, ORDER BY / SORT BY with all item
suffixes, DISTRIBUTE BY / CLUSTER BY; `gs_select` assembles the thirteen clauses.
-/
namespace LL2
open Lex Spec C05 C06 C09 Ast TP TS LexLink TQ2
open LLD (pc lx_qname)

section
variable {d : Gen.D} {K : QKit}

structure GJ4 (d : Gen.D) (K : QKit) (j : Join) : Prop where
  lx : Lx (join4L d j) (toksJoin4 d noX j)
  pr : PR.prJoin d j = .ok (String.ofList (join4L d j))
  q : K.Q (join4L d j)

theorem joins4LL_eq (js : List Join) : joins4LL d js = js.map (join4L d) := by
  induction js with
  | nil => simp [joins4LL]
  | cons j r ih => simp [joins4LL, ih]
theorem toksJoins4_eq (js : List Join) : toksJoins4 d noX js = (js.map (toksJoin4 d noX)).flatten := by
  induction js with
  | nil => simp [toksJoins4]
  | cons j r ih => simp [toksJoins4, ih]

theorem joinWords_good (ty : String) (h : joinTyOK4 d ty = true) :
    Pc K (joinWordsL ty) (joinWords ty) ∧ ∃ s, PR.wordsSrc Gen.joinTypes ty = .ok s ∧ s.toList = joinWordsL ty := by
  cases hf : Gen.joinTypes.find? (·.1 == ty) with
  | none =>
    simp only [joinTyOK4, joinWords, hf, Bool.and_eq_true] at h
    exact absurd h.2 (by simp)
  | some e =>
    simp only [joinWordsL, joinWords, hf]
    refine phrase_good join_words_plainL K.jws hf fun he => ?_
    simp only [joinTyOK4, joinWords, hf, he, List.map_nil, Bool.and_eq_true] at h
    exact absurd h.2 (by simp)

theorem gj_join (ty : String) (t : FromTable) (rule : Option JoinRule) (hty : joinTyOK4 d ty = true) (ht : GT4 d K t)
    (hr : rule = none ∨ (∃ e, rule = some (.on e) ∧ GE4 d K e) ∨ (∃ u, rule = some (.using u) ∧ GE4 d K u)) : GJ4 d K (.mk ty t rule) := by
  obtain ⟨hw, tys, h1, h1l⟩ := joinWords_good (d := d) (K := K) ty hty
  have ht' : Pc K (table4L d t) (toksTable4 d noX t) := ⟨ht.lx, ht.q⟩
  have htr : Pc K (table4L d t ++ rule4L d rule) (toksTable4 d noX t ++ toksRule4 d noX rule) := by
    rcases hr with rfl | ⟨e, rfl, he⟩ | ⟨u, rfl, hu⟩
    · simpa [rule4L, toksRule4] using ht'
    · exact (ht'.sep ((pc_cw "ON" (by simp [clauseWords])).sep he.pc)).congr (by simp [rule4L]) (by simp [toksRule4])
    · exact (ht'.sep hu.pc).congr (by simp [rule4L]) (by simp [toksRule4])
  have hp := (hw.sep htr).congr (u' := join4L d (.mk ty t rule)) (ts' := toksJoin4 d noX (.mk ty t rule)) (by simp [join4L]) (by simp [toksJoin4])
  refine ⟨hp.lx, ?_, hp.q⟩
  rcases hr with rfl | ⟨e, rfl, he⟩ | ⟨u, rfl, hu⟩
  · simp only [PR.prJoin, h1, ht.pr, bind, Except.bind, pure, Except.pure]
    refine ok_ofList ?_
    simp [toString, String.toList_append, String.toList_ofList, h1l, join4L, rule4L]
  · simp only [PR.prJoin, h1, ht.pr, he.pr, bind, Except.bind, pure, Except.pure]
    refine ok_ofList ?_
    simp [toString, String.toList_append, String.toList_ofList, h1l, join4L, rule4L]
  · simp only [PR.prJoin, h1, ht.pr, hu.pr, bind, Except.bind, pure, Except.pure]
    refine ok_ofList ?_
    simp [toString, String.toList_append, String.toList_ofList, h1l, join4L, rule4L]

theorem pr_joinList (js : List Join) : (∀ j ∈ js, GJ4 d K j) → PR.prJoinList d js = .ok ((js.map (join4L d)).map String.ofList) := by
  induction js with
  | nil => intro _; rfl
  | cons j r ih =>
    intro h
    have h1 := (h j (by simp)).pr
    have h2 := ih fun y hy => h y (by simp [hy])
    simp only [PR.prJoinList, h1, h2, bind, Except.bind, pure, Except.pure, List.map_cons]

theorem cl_joins (js : List Join) (h : ∀ j ∈ js, GJ4 d K j) : CL K (PR.prJoinList d js) (joins4LL d js) (toksJoins4 d noX js) := by
  rw [joins4LL_eq, toksJoins4_eq]
  exact CL.of (SegP.map nl _ _ js fun j hj => ⟨(h j hj).lx, (h j hj).q⟩) (pr_joinList js h)

structure GL4 (d : Gen.D) (K : QKit) (l : Lateral) : Prop where
  lx : Lx (lat4L d l) (toksLat4 d noX l)
  pr : PR.prLateral d l = .ok (String.ofList (lat4L d l))
  q : K.Q (lat4L d l)

theorem aliasTail_eq : ∀ (x : String) (xs : List String), aliasTail (x :: xs) = TS.commaTok :: ([TP2.qTok x] ++ aliasTail xs) := by
  intro x xs; simp [aliasTail, TS.commaTok, TP2.commaTok]

theorem gl_lat (hK : QW2 K) (o : Bool) (fn : Expr) (v : String) (as : List String) (hfn : GE4 d K fn) (hv : PR.isPlainName v = true)
    (hqv : K.Q v.toList) (has : ∀ a ∈ as, nameLex a ∧ K.Q a.toList) (hne : as ≠ []) : GL4 d K (.mk o fn v as) := by
  have hAs : Pc K (joinLL [',', ' '] (as.map qnameL)) (aliasList as) := by
    cases as with
    | nil => exact absurd rfl hne
    | cons a r =>
      exact (Pc.commaList qnameL (fun a => [TP2.qTok a]) aliasTail (by simp [aliasTail]) aliasTail_eq r a
        fun y hy => ⟨lx_qname y (has y hy).1, q_qname y (has y hy).2⟩).congr rfl (by simp [aliasList])
  have hV : Pc K v.toList [opTok v] := ⟨lx_kwd (by rw [← isPlainName_plainL]; exact hv), hqv⟩
  have hrest : Pc K (prE4L d fn ++ ' ' :: (v.toList ++ ' ' :: ("AS".toList ++ ' ' :: joinLL [',', ' '] (as.map qnameL))))
      (toksE4 d noX fn ++ opTok v :: opTok "AS" :: aliasList as) :=
    (hfn.pc.sep (hV.sep ((pc_cw "AS" (by simp [clauseWords])).sep hAs))).congr rfl (by simp)
  have hL := pc_w2 hK "LATERAL" (by simp [q2Words])
  have hVw := pc_w2 hK "VIEW" (by simp [q2Words])
  have hp : Pc K (lat4L d (.mk o fn v as)) (toksLat4 d noX (.mk o fn v as)) := by
    cases o with
    | false => exact (hL.sep (hVw.sep hrest)).congr (by simp [lat4L, latL]) (by simp [toksLat4])
    | true =>
      exact (hL.sep (hVw.sep ((pc_w2 hK "OUTER" (by simp [q2Words])).sep hrest))).congr (by simp [lat4L, latL]) (by simp [toksLat4])
  refine ⟨hp.lx, ?_, hp.q⟩
  simp only [PR.prLateral, hfn.pr, Except.map]
  refine ok_ofList ?_
  have e3 : (", " : String).toList = [',', ' '] := rfl
  have hq : (as.map PR.quoteName).map String.toList = as.map qnameL := by
    rw [List.map_map]; exact List.map_congr_left fun a _ => quoteName_toList a
  cases o <;> simp [toString, String.toList_append, String.toList_ofList, toList_joinS, hq, e3, lat4L, latL]

theorem lats4LL_eq (ls : List Lateral) : lats4LL d ls = ls.map (lat4L d) := by
  induction ls with
  | nil => simp [lats4LL]
  | cons l r ih => simp [lats4LL, ih]
theorem toksLats4_eq (ls : List Lateral) : toksLats4 d noX ls = (ls.map (toksLat4 d noX)).flatten := by
  induction ls with
  | nil => simp [toksLats4]
  | cons l r ih => simp [toksLats4, ih]
theorem pr_latList (ls : List Lateral) : (∀ l ∈ ls, GL4 d K l) → PR.prLateralList d ls = .ok ((ls.map (lat4L d)).map String.ofList) := by
  induction ls with
  | nil => intro _; rfl
  | cons l r ih =>
    intro h
    have h1 := (h l (by simp)).pr
    have h2 := ih fun y hy => h y (by simp [hy])
    simp only [PR.prLateralList, h1, h2, bind, Except.bind, pure, Except.pure, List.map_cons]
theorem cl_lats (ls : List Lateral) (h : ∀ l ∈ ls, GL4 d K l) : CL K (PR.prLateralList d ls) (lats4LL d ls) (toksLats4 d noX ls) := by
  rw [lats4LL_eq, toksLats4_eq]
  exact CL.of (SegP.map nl _ _ ls fun l hl => ⟨(h l hl).lx, (h l hl).q⟩) (pr_latList ls h)

theorem cl_orderK (kw : String) (hkw : Pc K kw.toList [opTok kw]) (ob : Option (List OrderItem)) (hne : ob ≠ some [])
    (h : ∀ l, ob = some l → ∀ o ∈ l, GO4 d K o) (p : Option (List OrderItem) → Except Err (List String)) (hnone : p none = pure [])
    (hsome : ∀ l, p (some l) = (PR.prOrdList d l).map fun x => [kw ++ " BY " ++ PR.joinS ", " x])
    (tk : Option (List OrderItem) → List Tok) (htn : tk none = [])
    (hts : ∀ o os, tk (some (o :: os)) = opTok kw :: opTok "BY" :: (toksOrdItem4 d noX o ++ toksOrdTail4 d noX os)) :
    CL K (p ob) (order4LL d kw ob) (tk ob) := by
  cases ob with
  | none => exact CL.of (by rw [htn]; exact SegP.nil _) (by rw [hnone]; rfl)
  | some l =>
    cases l with
    | nil => exact absurd rfl hne
    | cons o os =>
      have hall := h _ rfl
      refine CL.of (by
        rw [hts]
        exact SegP.one _ ((hkw.sep ((pc_cw "BY" (by simp [clauseWords])).sep (pc_ordList o os hall))).congr (by simp [byL, ord4LL_eq]) (by simp))) ?_
      rw [hsome, pr_ordList (o :: os) hall]
      simp only [Except.map, order4LL, List.map_cons, List.map_nil]
      refine congrArg Except.ok ?_
      congr 1
      apply ofList_eq
      have e1 : (" BY " : String).toList = ' ' :: ("BY".toList ++ [' ']) := rfl
      have e3 : (", " : String).toList = [',', ' '] := rfl
      rw [String.toList_append, String.toList_append, toList_joinS, e1, e3, ← List.map_cons, ← List.map_cons, map_map_ofList]
      simp [byL, ord4LL_eq]

theorem cl_order (ob : Option (List OrderItem)) (hne : ob ≠ some []) (h : ∀ l, ob = some l → ∀ o ∈ l, GO4 d K o) :
    CL K (PR.prOptOrder d ob) (order4LL d "ORDER" ob) (toksOrder4 d noX ob) :=
  cl_orderK "ORDER" (pc_cw "ORDER" (by simp [clauseWords])) ob hne h (PR.prOptOrder d) rfl
    (fun l => by
      simp only [PR.prOptOrder]
      have : ∀ x : List String, "ORDER BY " ++ PR.joinS ", " x = "ORDER" ++ " BY " ++ PR.joinS ", " x := by
        intro x; apply String.toList_inj.mp; simp [String.toList_append]
      simp only [this])
    (toksOrder4 d noX) (by simp [toksOrder4]) (fun o os => by simp [toksOrder4])
theorem cl_sort (hK : QW2 K) (ob : Option (List OrderItem)) (hne : ob ≠ some []) (h : ∀ l, ob = some l → ∀ o ∈ l, GO4 d K o) :
    CL K (PR.prOptSort d ob) (order4LL d "SORT" ob) (toksSort4 d noX ob) :=
  cl_orderK "SORT" (pc_w2 hK "SORT" (by simp [q2Words])) ob hne h (PR.prOptSort d) rfl
    (fun l => by
      simp only [PR.prOptSort]
      have : ∀ x : List String, "SORT BY " ++ PR.joinS ", " x = "SORT" ++ " BY " ++ PR.joinS ", " x := by
        intro x; apply String.toList_inj.mp; simp [String.toList_append]
      simp only [this])
    (toksSort4 d noX) (by simp [toksSort4]) (fun o os => by simp [toksSort4])

theorem cl_byK (kw : String) (hkw : Pc K kw.toList [opTok kw]) (ob : Option (List Expr)) (hne : ob ≠ some [])
    (h : ∀ l, ob = some l → ∀ e ∈ l, GE4 d K e) (p : Option (List Expr) → Except Err (List String)) (hnone : p none = pure [])
    (hsome : ∀ l, p (some l) = (PR.prList8 d l).map fun x => [kw ++ " BY " ++ PR.joinS ", " x]) :
    CL K (p ob) (by4LL d kw ob) (toksBy4 d noX kw ob) := by
  cases ob with
  | none => exact CL.of (by simpa [toksBy4, by4LL] using SegP.nil (K := K) '\n') (by rw [hnone]; rfl)
  | some l =>
    cases l with
    | nil => exact absurd rfl hne
    | cons e es =>
      have hall := h _ rfl
      refine CL.of (SegP.one _ ((hkw.sep ((pc_cw "BY" (by simp [clauseWords])).sep (pc_args8 (e :: es) hall))).congr
        (by simp [byL, prList84LL]) (by simp [toksBy4, toksArgs4]))) ?_
      rw [hsome, pr_list8 (e :: es) hall]
      simp only [Except.map, by4LL, List.map_cons, List.map_nil]
      refine congrArg Except.ok ?_
      congr 1
      apply ofList_eq
      have e1 : (" BY " : String).toList = ' ' :: ("BY".toList ++ [' ']) := rfl
      have e3 : (", " : String).toList = [',', ' '] := rfl
      rw [String.toList_append, String.toList_append, toList_joinS, e1, e3, map_map_ofList]
      simp [byL, prList84LL]

theorem cl_distribute (hK : QW2 K) (ob : Option (List Expr)) (hne : ob ≠ some []) (h : ∀ l, ob = some l → ∀ e ∈ l, GE4 d K e) :
    CL K (PR.prOptDistribute d ob) (by4LL d "DISTRIBUTE" ob) (toksBy4 d noX "DISTRIBUTE" ob) :=
  cl_byK "DISTRIBUTE" (pc_w2 hK "DISTRIBUTE" (by simp [q2Words])) ob hne h (PR.prOptDistribute d) rfl
    (fun l => by
      simp only [PR.prOptDistribute]
      have : ∀ x : List String, "DISTRIBUTE BY " ++ PR.joinS ", " x = "DISTRIBUTE" ++ " BY " ++ PR.joinS ", " x := by
        intro x; apply String.toList_inj.mp; simp [String.toList_append]
      simp only [this])
theorem cl_cluster (hK : QW2 K) (ob : Option (List Expr)) (hne : ob ≠ some []) (h : ∀ l, ob = some l → ∀ e ∈ l, GE4 d K e) :
    CL K (PR.prOptCluster d ob) (by4LL d "CLUSTER" ob) (toksBy4 d noX "CLUSTER" ob) :=
  cl_byK "CLUSTER" (pc_w2 hK "CLUSTER" (by simp [q2Words])) ob hne h (PR.prOptCluster d) rfl
    (fun l => by
      simp only [PR.prOptCluster]
      have : ∀ x : List String, "CLUSTER BY " ++ PR.joinS ", " x = "CLUSTER" ++ " BY " ++ PR.joinS ", " x := by
        intro x; apply String.toList_inj.mp; simp [String.toList_append]
      simp only [this])

end
end LL2
