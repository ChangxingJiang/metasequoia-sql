import MsqProofs.Lemmas.ParseAccountStmt
/-!
# C08: every bracket group whose children the parser parses is parsed COMPLETELY

One inversion lemma per function of the parser model that opens a child cursor (`t.children`, `headChildren`, `popSplit`,
`splitBy`): if the function succeeds, then every sub-call it made on a child cursor returned `(_, [])` — the rest of the child
cursor is empty (`closed`, `close()` in the code), or every comma-separated segment of it was parsed to its end
(`Each2 (fun sg e => p sg = ok (e, [])) segments results`).  Proofs: `unfold f at h; split_run <;> grind`.

What the lemmas make visible (nothing here is a new kind of defect; the classes are F-C08-5 / F-C08-6 of known_findings.json):

* NO function of the model leaves a child cursor unchecked.  The two repaired sites (`FROM (t junk)`, `CAST(a AS DECIMAL(10 20))`)
  are closed in the model (`closed_pTableExpr`, `closed_castTail`, `closed_castParamsLoop`).
* `splitBy` (`pop_as_children_scanner_list_split_by`) drops EMPTY segments: `splitBy_flatten` — the segments, concatenated, are
  exactly the children without the separator tokens, so no token other than a separator is lost — and `splitBy_nonempty`: no segment
  is empty.  `IN (1,,2)`, `VALUES (1,,2)`, `GROUPING SETS ((a,,b))`, `PARTITION (a=1,,b=2)` are accepted as if the empty segment were
  not there (`f(a,,b)` is not: `pArgs` wants an expression after each comma).  The code does the same (`scanner.py:223-236`).
* Where the model takes `g.children` of the next token WITHOUT testing that `g` is a bracket group (a word has no children, so
  the group is "empty" and the word is dropped, class F-C08-6) the lemma shows it: the token `g` is existentially bound with no
  `g.has PAREN` conjunct — `closed_pInBody` (`a IN b`), `closed_pWindow` (`f(x) OVER w`), `closed_pGroupingSets`
  (`GROUPING SETS x`), `closed_pIfCall` / `closed_pCall` / `closed_pCast` / `closed_pExtract` (reached without a bracket only from
  `USING x` and `LATERAL VIEW f x`), `popSplit` in `pPartition`, `pNameList`, `pIndexCols`, `createOpts`, `pCreateTable`.
  Where the test is made the conjunct is there (`closed_pIndex`, `closed_pTableExpr`, `closed_castTail`, `closed_pGroupingElem`,
  `closed_pColType`, `closed_pIndexCol`, `closed_valuesLoop`, `closed_pOptColumns`, `closed_pSingle`).
-/
open Lex PM Ast
namespace PM

inductive Each2 {α β : Type} (R : α → β → Prop) : List α → List β → Prop
  | nil : Each2 R [] []
  | cons {a b as bs} : R a b → Each2 R as bs → Each2 R (a :: as) (b :: bs)

theorem Each2.length_eq {α β : Type} {R : α → β → Prop} {as : List α} {bs : List β} (h : Each2 R as bs) : as.length = bs.length := by
  induction h <;> simp_all
theorem Each2.append {α β : Type} {R : α → β → Prop} {as as' : List α} {bs bs' : List β} (h : Each2 R as bs) (h' : Each2 R as' bs') :
    Each2 R (as ++ as') (bs ++ bs') := by
  induction h with
  | nil => simpa using h'
  | cons hab _ ih => exact .cons hab ih

@[grind =] theorem searchMark_cons (t : Tok) (r : List Tok) (m : Nat) : searchMark (t :: r) m = t.has m := rfl
@[grind =] theorem searchMark_nil (m : Nat) : searchMark [] m = false := rfl

/-! ### splitting at separators loses separators only -/
theorem splitBy_acc (sep : String) (ts cur : List Tok) (acc : List (List Tok)) :
    splitBy sep ts cur acc = acc ++ splitBy sep ts cur [] := by
  induction ts generalizing cur acc with
  | nil => simp only [splitBy]; split <;> simp
  | cons t r ih =>
    simp only [splitBy]
    split
    · split
      · exact ih [] acc
      · rw [ih [] (acc ++ [cur]), ih [] ([] ++ [cur])]; simp
    · exact ih _ acc
/-- the segments, concatenated, are the tokens of the group without the separators: nothing else is dropped -/
theorem splitBy_flatten (sep : String) (ts cur : List Tok) (acc : List (List Tok)) :
    (splitBy sep ts cur acc).flatten = acc.flatten ++ cur ++ ts.filter (fun t => !t.equalsStr sep) := by
  induction ts generalizing cur acc with
  | nil => simp only [splitBy]; split <;> simp_all
  | cons t r ih =>
    simp only [splitBy]
    split
    · rename_i hsep
      split
      · rename_i hc; rw [ih]; simp_all
      · rw [ih]; simp_all
    · rename_i hsep; rw [ih]; simp_all
/-- no segment is empty: an empty segment (`1,,2`, a leading or trailing separator) is dropped silently -/
theorem splitBy_nonempty (sep : String) (ts cur : List Tok) (acc : List (List Tok)) (hacc : ∀ sg ∈ acc, sg ≠ []) :
    ∀ sg ∈ splitBy sep ts cur acc, sg ≠ [] := by
  have hext : ∀ cur : List Tok, cur.isEmpty = false → ∀ sg ∈ acc ++ [cur], sg ≠ [] := by
    intro cur hc sg hsg
    simp only [List.mem_append, List.mem_singleton] at hsg
    rcases hsg with h | h
    · exact hacc sg h
    · subst h; intro h0; subst h0; simp at hc
  induction ts generalizing cur acc with
  | nil =>
    simp only [splitBy]; split
    · exact hacc
    · rename_i hc; exact hext cur (by simpa using hc)
  | cons t r ih =>
    simp only [splitBy]
    split
    · split
      · exact ih _ _ hacc (fun cur hc => hext cur hc)
      · rename_i hc
        have hacc' := hext cur (by simpa using hc)
        apply ih _ _ hacc'
        intro cur' hc' sg hsg
        simp only [List.mem_append, List.mem_singleton] at hsg
        rcases hsg with h | h
        · exact hacc' sg (by simpa using h)
        · subst h; intro h0; subst h0; simp at hc'
    · exact ih _ _ hacc (fun cur hc => hext cur hc)

/-! ### what a successful cursor primitive says about its cursor -/
theorem popSplit_ok (ts : List Tok) (segs : List (List Tok)) (r : List Tok) (h : popSplit ts = .ok (segs, r)) :
    ∃ g, ts = g :: r ∧ segs = splitBy "," g.children [] [] := by
  cases ts with
  | nil => simp [popSplit] at h
  | cons g r' => simp [popSplit] at h; exact ⟨g, by rw [h.2], h.1.symm⟩

theorem matchKw_ok {ts r : List Tok} {k : String} (h : matchKw ts k = .ok ((), r)) : ∃ t, ts = t :: r ∧ t.equalsStr k = true := by
  unfold matchKw at h
  split at h
  · cases h
  · rename_i t r0
    split at h
    · rename_i hc
      simp only [Except.ok.injEq, Prod.mk.injEq, true_and] at h
      exact ⟨t, by rw [h], hc⟩
    · cases h

/-! ### running a parser on every segment -/
theorem closed_eachClosed {α : Type} (p : List Tok → R α) : ∀ segs as, eachClosed p segs = .ok as →
    Each2 (fun sg a => p sg = .ok (a, [])) segs as := by
  intro segs
  induction segs with
  | nil => intro as h; simp [eachClosed] at h; subst h; exact .nil
  | cons sg rest ih =>
    intro as h
    unfold eachClosed at h
    split at h
    · simp at h
    · rename_i a ha
      split at h
      · rename_i as' has
        simp at h; subst h
        exact .cons ((closed_ok _ _).1 ha) (ih _ has)
      · simp at h

theorem eachClosed_mem {α : Type} {p : List Tok → R α} {segs : List (List Tok)} {vs : List α} (h : eachClosed p segs = .ok vs) :
    ∀ sg ∈ segs, ∃ v ∈ vs, p sg = .ok (v, []) := by
  have hE := closed_eachClosed p segs vs h
  clear h
  induction hE with
  | nil => intro sg hsg; cases hsg
  | cons hab _ ih =>
    intro sg hsg
    rcases List.mem_cons.1 hsg with rfl | hsg
    · exact ⟨_, List.mem_cons_self, hab⟩
    · obtain ⟨v, hv, hp⟩ := ih sg hsg; exact ⟨v, List.mem_cons_of_mem _ hv, hp⟩

variable {d : Gen.D} {n : Nat}

/-! ### the mutual block of `MsqModel/Parse/Expr.lean` -/
theorem closed_pParen {n0 r0 v r} (h : pParen d (n+1) n0 r0 = .ok (v, r)) :
    (startsSelect n0.children = true ∧ pSubQuery d n (n0 :: r0) = .ok (v, r)) ∨
    (startsSelect n0.children = false ∧ r = r0 ∧ pOr d n n0.children = .ok (v, [])) := by
  unfold pParen at h
  split_run <;> grind
theorem closed_pIndex {before ts v r} (h : pIndex d (n+1) before ts = .ok (v, r)) :
    (searchMark ts ARRAY = false ∧ v = before ∧ r = ts) ∨
    (∃ t i, ts = t :: r ∧ t.has ARRAY = true ∧ pCompute d n t.children = .ok (i, []) ∧ v = .index before i) := by
  unfold pIndex at h
  split_run <;> grind
theorem closed_pIfCall {ts v r} (h : pIfCall d (n+1) ts = .ok (v, r)) :
    ∃ g acc r2 ps, ts = g :: r ∧ pFirstArg d n g.children = .ok (acc, r2) ∧ pArgs d n acc r2 = .ok (ps, []) ∧ v = .func none "IF" ps := by
  unfold pIfCall at h
  split_run <;> grind [closed_ok]
/-- the argument tokens of a call: the children of the group, `FROM` / `FOR` of `SUBSTRING` turned into commas (same length, same
tokens elsewhere), minus a leading `DISTINCT` of an aggregate (recorded in the flag) -/
theorem callPrep_args (name : String) (g : Tok) :
    ((callPrep name g).2.1 = false ∧ (callPrep name g).2.2 = substringRewrite (up name) g.children) ∨
    ((callPrep name g).2.1 = true ∧ searchStrUp (substringRewrite (up name) g.children) "DISTINCT" = true ∧
      (callPrep name g).2.2 = (substringRewrite (up name) g.children).drop 1) := by
  unfold callPrep moveStrUp
  by_cases h1 : Gen.aggNames.contains (up name) = true <;> by_cases h2 : searchStrUp (substringRewrite (up name) g.children) "DISTINCT" = true <;>
    simp only [h1, h2, if_true, if_false, Bool.false_eq_true] <;> simp
theorem substringRewrite_length (u : String) (cs : List Tok) : (substringRewrite u cs).length = cs.length := by
  unfold substringRewrite; split <;> simp
theorem closed_pCall {schema name ts v r} (h : pCall d (n+1) schema name ts = .ok (v, r)) :
    ∃ g acc r2 ps, ts = g :: r ∧ pFirstArg d n (callPrep name g).2.2 = .ok (acc, r2) ∧ pArgs d n acc r2 = .ok (ps, []) ∧
      v = callNode schema name (callPrep name g).1 (callPrep name g).2.1 ps := by
  unfold pCall at h
  split_run <;> grind [closed_ok]
/-- the comma-separated parser behind `IN (…)` and `_parse_sub_value_expression`: one compute expression per non-empty segment,
each parsed to the end of its segment -/
theorem closed_pSplit : ∀ n acc cur ts vs, pSplit d n acc cur ts = .ok vs →
    ∃ es, vs = acc ++ es ∧ Each2 (fun sg e => ∃ m, pCompute d m sg = .ok (e, [])) (splitBy "," ts cur []) es := by
  intro n
  induction n with
  | zero => intro acc cur ts vs h; simp [pSplit] at h
  | succ n ih =>
    intro acc cur ts vs h
    unfold pSplit at h
    simp only at h
    cases ts with
    | nil =>
      simp only at h
      split at h
      · rename_i hc; simp at h; subst h; exact ⟨[], by simp, by simp [splitBy, hc]; exact .nil⟩
      · rename_i hc
        split at h <;> simp at h
        rename_i e he; subst h
        exact ⟨[e], rfl, by simp [splitBy, hc]; exact .cons ⟨n, he⟩ .nil⟩
    | cons t r =>
      simp only at h
      split at h
      · rename_i hsep
        split at h
        · rename_i acc' hfl
          obtain ⟨es, rfl, hes⟩ := ih _ _ _ _ h
          split at hfl
          · rename_i hc; simp at hfl; subst hfl
            exact ⟨es, rfl, by simpa [splitBy, hsep, hc] using hes⟩
          · rename_i hc
            split at hfl <;> simp at hfl
            rename_i e he; subst hfl
            refine ⟨e :: es, by simp, ?_⟩
            have hc' : cur.isEmpty = false := by simpa using hc
            simp only [splitBy, hsep, if_true, hc', Bool.false_eq_true, if_false]
            rw [splitBy_acc]
            exact Each2.append (.cons ⟨n, he⟩ .nil) hes
        · simp at h
      · rename_i hsep
        obtain ⟨es, rfl, hes⟩ := ih _ _ _ _ h
        exact ⟨es, rfl, by simpa [splitBy, hsep] using hes⟩
theorem closed_pInBody {isNot bv ts v r} (h : pInBody d (n+1) isNot bv ts = .ok (some (v, r))) :
    ∃ g r3, ts = g :: r3 ∧
      ((startsSelect g.children = true ∧ ∃ q, pSubQuery d n ts = .ok (q, r) ∧ v = .kw .in_ isNot bv q) ∨
       (startsSelect g.children = false ∧ r = r3 ∧ ∃ vs, pSplit d n [] [] g.children = .ok vs ∧ v = .kw .in_ isNot bv (.subValue vs))) := by
  unfold pInBody at h
  split_run <;> grind
theorem closed_pSubQuery {ts v r} (h : pSubQuery d (n+1) ts = .ok (v, r)) :
    ∃ g q, ts = g :: r ∧ pSelectStmt d n none g.children = .ok (q, []) ∧ v = .subQuery q := by
  unfold pSubQuery at h
  split_run <;> grind [closed_ok]
/-- the CAST type parameters: every token of the group is a number or the comma between two numbers -/
theorem closed_castParamsLoop : ∀ f acc ts ps, castParamsLoop f acc ts = .ok ps → ts.length + 2 * acc.length = 2 * ps.length := by
  intro f
  induction f with
  | zero => intro acc ts ps h; simp [castParamsLoop] at h
  | succ f ih =>
    intro acc ts ps h
    unfold castParamsLoop at h
    split at h
    · rename_i hs
      split at h
      · rename_i n r hp
        have h1 := ih _ _ _ h
        have h2 := (popInt_cons _ _ _ hp).length_le
        have h3 : 1 ≤ ts.length := by cases ts <;> simp [searchStr] at hs ⊢
        have h4 : r.length + 2 = ts.length := by
          cases ts with
          | nil => simp at h3
          | cons t ts' => cases ts' with
            | nil => simp [popInt] at hp
            | cons t2 ts2 => simp only [List.drop_succ_cons, List.drop_zero, popInt] at hp; split at hp <;> simp at hp <;> simp [← hp.2]
        simp at h1; omega
      · simp at h
    · split at h
      · rename_i he; simp at h he; subst h; subst he; simp
      · simp at h
theorem closed_castParams {g ps} (h : castParams g = .ok ps) : (g.children = [] ∧ ps = []) ∨ g.children.length + 1 = 2 * ps.length := by
  unfold castParams at h
  split at h
  · simp at h; left; simp_all
  · rename_i cs hne
    split at h
    · simp at h
    · rename_i n r hp
      right
      have h1 := closed_castParamsLoop _ _ _ _ h
      have : g.children.length = r.length + 1 := by
        cases hc : g.children with
        | nil => simp [hc, popInt] at hp
        | cons t ts' => rw [hc] at hp; simp only [popInt] at hp; split at hp <;> simp at hp <;> simp [← hp.2]
      simp at h1; omega
/-- after `AS`: `[SIGNED] type` and nothing else, or `[SIGNED] type ( numbers )` and nothing else -/
theorem closed_castTail {e ts v} (h : castTail e ts = .ok v) :
    ∃ t rest, (moveStrUp ts "SIGNED").2 = t :: rest ∧
      (rest = [] ∨ ∃ g ps, rest = [g] ∧ g.has PAREN = true ∧ castParams g = .ok ps) := by
  unfold castTail at h
  simp only at h
  split_run <;> grind
theorem closed_pCast {ts v r} (h : pCast d (n+1) ts = .ok (v, r)) :
    ∃ g e r1 r2 u, ts = g :: r ∧ pCompute d n g.children = .ok (e, r1) ∧ matchSeq r1 ["AS"] = .ok (u, r2) ∧ castTail e r2 = .ok v := by
  unfold pCast at h
  split_run <;> grind
theorem closed_pExtractTail {nm r1 v} (h : pExtractTail d (n+1) nm r1 = .ok v) :
    ∃ u r2 c, matchSeq r1 ["FROM"] = .ok (u, r2) ∧ pCompute d n r2 = .ok (c, []) ∧ v = .extract nm c := by
  unfold pExtractTail at h
  split_run <;> grind [closed_ok]
theorem closed_pExtract {ts v r} (h : pExtract d (n+1) ts = .ok (v, r)) :
    ∃ g nm r1, ts = g :: r ∧ pCompute d n g.children = .ok (nm, r1) ∧ pExtractTail d n nm r1 = .ok v := by
  unfold pExtract at h
  split_run <;> grind
theorem closed_pWindowBody {fn cs v} (h : pWindowBody d (n+1) fn cs = .ok v) :
    ∃ part r1 ord r2, pPartitionBy d n cs = .ok (part, r1) ∧ pOrderByOpt d n r1 = .ok (ord, r2) ∧
      ((r2 = [] ∧ v = .window fn part (ord.getD []) none) ∨ (∃ rw, pWindowRow r2 = .ok (rw, []) ∧ v = .window fn part (ord.getD []) (some rw))) := by
  unfold pWindowBody at h
  split_run <;> grind [closed_ok, List.isEmpty_iff]
theorem closed_pWindow {ts v r} (h : pWindow d (n+1) ts = .ok (v, r)) :
    ∃ fn r0 u g, pFuncIdx d n ts = .ok (fn, r0) ∧ matchSeq r0 ["OVER"] = .ok (u, g :: r) ∧ pWindowBody d n fn g.children = .ok v := by
  unfold pWindow at h
  split_run <;> grind
theorem closed_pTableExpr {ts v r} (h : pTableExpr d (n+1) ts = .ok (v, r)) :
    ∃ cs, headChildren ts = .ok cs ∧
      ((startsSelect cs = true ∧ ∃ q, pSubQuery d n ts = .ok (.subQuery q, r) ∧ v = .sub q) ∨
       (startsSelect cs = false ∧ searchMark ts PAREN = true ∧ r = ts.drop 1 ∧ pTableExpr d n cs = .ok (v, [])) ∨
       (startsSelect cs = false ∧ searchMark ts PAREN = false ∧ pTableName ts = .ok (v, r))) := by
  unfold pTableExpr at h
  split_run <;> grind [closed_ok]
theorem closed_pClosedEach : ∀ n acc segs es, pClosedEach d n acc segs = .ok es →
    ∃ es', es = acc ++ es' ∧ Each2 (fun sg e => ∃ m, pCompute d m sg = .ok (e, [])) segs es' := by
  intro n
  induction n with
  | zero => intro acc segs es h; simp [pClosedEach] at h
  | succ n ih =>
    intro acc segs es h
    unfold pClosedEach at h
    split at h
    · simp at h; subst h; exact ⟨[], by simp, .nil⟩
    · split at h
      · rename_i e he
        obtain ⟨es', rfl, h'⟩ := ih _ _ _ h
        exact ⟨e :: es', by simp, .cons ⟨n, (closed_ok _ _).1 he⟩ h'⟩
      · simp at h
theorem closed_pGroupingElem {seg es} (h : pGroupingElem d (n+1) seg = .ok es) :
    (∃ g, seg = [g] ∧ g.has PAREN = true ∧ pClosedEach d n [] (splitBy "," g.children [] []) = .ok es) ∨
    (∃ e, pCompute d n seg = .ok (e, []) ∧ es = [e]) := by
  unfold pGroupingElem at h
  split_run <;> grind [closed_ok, List.isEmpty_iff]
theorem closed_pGroupingElems : ∀ n acc segs gs, pGroupingElems d n acc segs = .ok gs →
    ∃ gs', gs = acc ++ gs' ∧ Each2 (fun sg es => ∃ m, pGroupingElem d m sg = .ok es) segs gs' := by
  intro n
  induction n with
  | zero => intro acc segs es h; simp [pGroupingElems] at h
  | succ n ih =>
    intro acc segs es h
    unfold pGroupingElems at h
    split at h
    · simp at h; subst h; exact ⟨[], by simp, .nil⟩
    · split at h
      · rename_i e he
        obtain ⟨es', rfl, h'⟩ := ih _ _ _ h
        exact ⟨e :: es', by simp, .cons ⟨n, he⟩ h'⟩
      · simp at h
theorem closed_pGroupingSets {ts v r} (h : pGroupingSets d (n+1) ts = .ok (v, r)) :
    ∃ u g, matchSeq ts ["GROUPING", "SETS"] = .ok (u, g :: r) ∧ pGroupingElems d n [] (splitBy "," g.children [] []) = .ok v := by
  unfold pGroupingSets at h
  split_run <;> grind
theorem closed_pWithBody {name ts v r} (h : pWithBody d (n+1) name ts = .ok (v, r)) :
    ∃ g q, ts = g :: r ∧ pSelectStmt d n (some []) g.children = .ok (q, []) ∧ v = .mk name q := by
  unfold pWithBody at h
  split_run <;> grind [closed_ok]
/-- the bracket loop of `_parse_single_select_statement` pops the NEXT token of the outer cursor instead of descending
(`parser.py`: `inner = scanner.pop_as_children_scanner()`), and `close()` is called on every cursor it opened: a run that entered
the loop never succeeds, a run that did not has parsed the whole group -/
theorem closed_pSingleParen : ∀ n w outer stack inner s r, stack.head? = some inner →
    pSingleParen d n w outer stack inner = .ok (s, r) →
    searchMark inner PAREN = false ∧ r = outer ∧ (stack.drop 1).all (·.isEmpty) = true ∧
      ∃ m, pSelectBody d m w false outer inner = .ok (s, []) := by
  intro n
  induction n with
  | zero => intro w outer stack inner s r _ h; simp [pSingleParen] at h
  | succ n ih =>
    intro w outer stack inner s r hst h
    unfold pSingleParen at h
    split at h
    · rename_i hp
      split at h
      · simp at h
      · rename_i g outer'
        obtain ⟨_, _, hall, _⟩ := ih _ _ (g.children :: stack) _ _ _ rfl h
        cases stack with
        | nil => simp at hst
        | cons c st =>
          simp at hst; subst hst
          simp at hall
          have : c = [] := by simpa using hall.1
          subst this; exact absurd hp (by simp [searchMark])
    · rename_i hp
      split at h
      · simp at h
      · rename_i s' rest hb
        split at h
        · simp at h
        · rename_i hr
          split at h
          · simp at h
          · rename_i hs
            simp at h
            obtain ⟨rfl, rfl⟩ := h
            have : rest = [] := by simpa using hr
            subst this
            refine ⟨by simpa using hp, rfl, ?_, n, hb⟩
            simpa using hs
theorem closed_pSingle {w ts s r} (h : pSingle d (n+1) w ts = .ok (s, r)) :
    (searchMark ts PAREN = false ∧ pSelectBody d n w true [] ts = .ok (s, r)) ∨
    (∃ g, ts = g :: r ∧ g.has PAREN = true ∧ searchMark g.children PAREN = false ∧ ∃ m, pSelectBody d m w false r g.children = .ok (s, [])) := by
  unfold pSingle at h
  split at h
  · left; simp_all
  · rename_i hp
    split at h
    · simp at h
    · rename_i g outer
      obtain ⟨h1, rfl, _, m, h2⟩ := closed_pSingleParen _ _ _ _ _ _ _ rfl h
      right
      exact ⟨g, rfl, by simpa [searchMark] using hp, h1, m, h2⟩

/-! ### `MsqModel/Parse/Stmt.lean` -/
variable {f : Nat}
theorem closed_pColType {ts v r} (h : pColType d f ts = .ok (v, r)) :
    ∃ name r0, popSrc ts = .ok (name, r0) ∧
      ((searchMark r0 PAREN = false ∧ r = r0 ∧ v = ⟨name, none⟩) ∨
       (searchMark r0 PAREN = true ∧ ∃ segs ps, popSplit r0 = .ok (segs, r) ∧ eachClosed (pCompute d f) segs = .ok ps ∧ v = ⟨name, some ps⟩)) := by
  unfold pColType at h
  split_run <;> grind
theorem closed_pPartition {already ts v r} (h : pPartition d f already ts = .ok (v, r)) :
    ∃ r0 segs items, Sfx r0 ts ∧ popSplit r0 = .ok (segs, r) ∧ eachClosed (pPartitionItem d f) segs = .ok items ∧ v = items.map (·.1) := by
  unfold pPartition at h
  split_run <;> grind
theorem closed_pNameList {ts v r} (h : pNameList ts = .ok (v, r)) :
    ∃ segs, popSplit ts = .ok (segs, r) ∧ eachClosed popSrc segs = .ok v := by
  unfold pNameList at h
  split_run <;> grind
theorem closed_pIndexCol {ts v r} (h : pIndexCol ts = .ok (v, r)) :
    ∃ nm r0, popSrc ts = .ok (nm, r0) ∧
      ((searchMark r0 PAREN = false ∧ r = r0 ∧ v = ⟨unifyName nm, none⟩) ∨
       (∃ g k, r0 = g :: r ∧ g.has PAREN = true ∧ popInt g.children = .ok (k, []) ∧ v = ⟨unifyName nm, some k⟩)) := by
  unfold pIndexCol at h
  split_run <;> grind [closed_ok]
theorem closed_pIndexCols {ts v r} (h : pIndexCols ts = .ok (v, r)) :
    ∃ segs, popSplit ts = .ok (segs, r) ∧ eachClosed pIndexCol segs = .ok v := by
  unfold pIndexCols at h
  split_run <;> grind
theorem closed_pGenerated {ts gc r} (h : pGenerated d f ts = .ok (some gc, r)) :
    ∃ g r0 e m, ts.drop 3 = g :: r0 ∧ pCompute d f g.children = .ok (e, []) ∧ popSrc r0 = .ok (m, r) ∧ gc.e = e := by
  unfold pGenerated at h
  split_run <;> grind [closed_ok]
theorem closed_valuesLoop {g acc ts v r} (h : valuesLoop d f (g+1) acc ts = .ok (v, r)) :
    (searchMark ts PAREN = false ∧ v = acc ∧ r = ts) ∨
    (∃ t r0 row, ts = t :: r0 ∧ t.has PAREN = true ∧ eachClosed (pCompute d f) (splitBy "," t.children [] []) = .ok row ∧
      valuesLoop d f g (acc ++ [row]) (moveStr r0 ",").2 = .ok (v, r)) := by
  unfold valuesLoop at h
  split_run <;> grind
theorem closed_pOptColumns {ts v r} (h : pOptColumns ts = .ok (v, r)) :
    (searchMark ts PAREN = false ∧ v = none ∧ r = ts) ∨
    (searchMark ts PAREN = true ∧ ∃ segs cs, popSplit ts = .ok (segs, r) ∧ eachClosed pColumnName segs = .ok cs ∧ v = some cs) := by
  unfold pOptColumns at h
  split_run <;> grind
/-- every element of the bracket group of CREATE TABLE is parsed to the end of its segment by one of the six element parsers -/
theorem closed_createElems : ∀ segs c c', createElems d f segs c = .ok c' →
    ∀ sg ∈ segs, (∃ i, pPrimaryIndex sg = .ok (i, [])) ∨ (∃ i, pUniqueIndex sg = .ok (i, [])) ∨ (∃ i, pNormalIndex sg = .ok (i, [])) ∨
      (∃ i, pFulltextIndex sg = .ok (i, [])) ∨ (∃ k, pForeignKey sg = .ok (k, [])) ∨ (∃ col, pDefCol d f sg = .ok (col, [])) := by
  intro segs
  induction segs with
  | nil => intro c c' _ sg hsg; simp at hsg
  | cons s rest ih =>
    intro c c' h sg hsg
    unfold createElems at h
    simp only [List.mem_cons] at hsg
    split_run <;> grind [closed_ok]
theorem closed_createOpts_partitioned {g c ts v r} (h : createOpts d f (g+1) c ts = .ok (v, r))
    (h0 : (ts.isEmpty || searchStr ts ";") = false) (hk : searchTwoUp ts "PARTITIONED" "BY" = true)
    (hn : searchStrUp ts "ENGINE" = false ∧ searchStrUp ts "AUTO_INCREMENT" = false ∧ searchTwoUp ts "DEFAULT" "CHARSET" = false ∧
      searchStrUp ts "ROW_FORMAT" = false ∧ searchStrUp ts "COLLATE" = false ∧ searchStrUp ts "COMMENT" = false ∧
      searchStrUp ts "STATS_PERSISTENT" = false) :
    ∃ segs r0 cs, popSplit (ts.drop 2) = .ok (segs, r0) ∧ eachClosed (pDefCol d f) segs = .ok cs ∧
      createOpts d f g { c with partitionedBy := c.partitionedBy ++ cs } r0 = .ok (v, r) := by
  unfold createOpts at h
  split_run <;> grind
theorem closed_pCreateTable {ts v r} (h : pCreateTable d f ts = .ok (v, r)) :
    (∃ tbl ine q, v = .createTableAs tbl ine q) ∨
    (∃ r1 segs r2 c0 c c' r3, Sfx r1 ts ∧ popSplit r1 = .ok (segs, r2) ∧ createElems d f segs c0 = .ok c ∧
      createOpts d f (r2.length + 1) c r2 = .ok (c', r3) ∧ v = .createTable c' ∧ r = (moveStr r3 ";").2) := by
  unfold pCreateTable at h
  split_run <;> grind
/-- the loop of `parse_statements` returns only at the end of the token list: the whole text has been consumed -/
theorem closed_statementsLoop : ∀ g acc ts ss, statementsLoop d f g acc ts = .ok ss →
    ts = [] ∧ ss = acc ∨ ∃ s r, pStatement d f ts = .ok (s, r) ∧ statementsLoop d f (g-1) (acc ++ [s]) (moveStr r ";").2 = .ok ss := by
  intro g
  cases g with
  | zero => intro acc ts ss h; simp [statementsLoop] at h
  | succ g =>
    intro acc ts ss h
    unfold statementsLoop at h
    split_run <;> grind [List.isEmpty_iff]

end PM
