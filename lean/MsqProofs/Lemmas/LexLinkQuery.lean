import MsqProofs.Lemmas.LexLinkSelectMirror
import MsqProofs.Lemmas.TQuery0
/-!
# The lexer link for nested queries, lexer side

What the printer writes on the nested fragment `TQ.FragQ` beyond the single SELECT over operators: a name written DIRECTLY
before `(` (calls) or `.` (qualified columns, `t.*`, `` `s`.f(…) ``), the dot itself, doubled blanks (`NOT IN  (…)`), the
indentation of the `CASE x` form, the words of CASE / EXISTS / IN and of every set operator of `Gen.unionTypes`.

* `tk_plain`, `tk_bq`, `tk_dot` : the three tokens that are followed by no delimiter;
* `Seg c us ts` : the pieces `us`, joined by the separator `c` (a blank or a line break), lex to `ts` — closed under `++`, so a
  printed line list `[a] ++ optional ++ list ++ …` is handled piece by piece.
-/
namespace LexLink
open Lex Spec C05 C06 C09 Ast TP TS

theorem Lx.sepc {c : Char} (hc : c = ' ' ∨ c = '\n') {a b : List Char} {ta tb : List Tok} (ha : Lx a ta) (hb : Lx b tb) :
    Lx (a ++ c :: b) (ta ++ tb) := by
  rcases hc with rfl | rfl
  · exact Lx.sep ha hb
  · exact Lx.line ha hb

theorem tk_bq (c : List Char) (hc : ∀ x ∈ c, x ≠ '`') (d : Char) :
    Tk ('`' :: (c ++ ['`'])) (.single ('`' :: (c ++ ['`'])) Gen.mark_NAME) d := (lxany_name c hc).tk d

theorem wmL_dot : wmL ['.'] = 0 := by decide +kernel

theorem tk_dot (c : Char) : Tk ['.'] (ctok ['.']) c := by
  simp only [ctok, wmL_dot]
  exact tk_of_feed (feed_of_complete (ur := []) rfl (Or.inr ⟨look (by decide +kernel), rfl⟩)) c

theorem tk_of_inword (w : List Char) (hp : addPath Gen.cfgS .WAIT w = some .IN_WORD) (d : Char) (hdd : endsWord d = true) :
    Tk w (.single w (C05.wordMark w)) d :=
  tk_of_pending hp (word_stop d hdd) rfl rfl

/-- the one-letter names `b B x X` directly before `(` or `.` -/
theorem tk_bx (c : Char) (hc : c = 'b' ∨ c = 'B' ∨ c = 'x' ∨ c = 'X') (d : Char) (hd : d = '(' ∨ d = '.') :
    Tk [c] (.single [c] Gen.mark_NAME) d := by
  obtain ⟨p, hpp, hap⟩ := bx_path c hc
  have hm : C05.wordMark [c] = Gen.mark_NAME := by
    rcases hc with rfl | rfl | rfl | rfl <;> decide +kernel
  rcases hd with rfl | rfl
  · have hl : Gen.cfgS.lookup p (.ch '(') = some (emitBefore mName) := by
      rcases hpp with rfl | rfl <;> exact look (by decide +kernel)
    exact tk_of_pending hap hl rfl rfl
  · have hl : Gen.cfgS.lookup p (.ch '.') = some emitWordBefore := by
      rcases hpp with rfl | rfl <;> exact look (by decide +kernel)
    have := tk_of_pending (tk := .single [c] (C05.wordMark [c])) hap hl rfl rfl
    rw [hm] at this
    exact this

theorem tk_plain (a : List Char) (h : plainL a = true) (d : Char) (hd : d = '(' ∨ d = '.') : Tk a (.single a (wmL a)) d := by
  rcases plain_path a h with hp | ⟨c, rfl, hbx⟩
  · rw [← wordMark_plain a h]
    exact tk_of_inword a hp d (by rcases hd with rfl | rfl <;> decide +kernel)
  · rw [wmL_of_bx hbx]; exact tk_bx c hbx d hd

/-- the printer prints the name bare -/
def bareB (n : String) : Bool := PR.isPlainName n && !(Gen.wordMarks.any (·.1 == Gen.pyUpperS n))
/-- `PR.quoteName n` on character lists -/
def qnameL (n : String) : List Char := if bareB n then n.toList else '`' :: (n.toList ++ ['`'])

theorem quoteName_toList (n : String) : (PR.quoteName n).toList = qnameL n := by
  unfold PR.quoteName qnameL bareB
  split
  · rfl
  · simp [toString, String.toList_append]

theorem quoteName_beq (n : String) : (PR.quoteName n == n) = bareB n := by
  have hq := quoteName_toList n
  cases hb : bareB n with
  | true =>
    simp only [qnameL, hb, if_true] at hq
    have : PR.quoteName n = n := String.toList_inj.mp hq
    simp [this]
  | false =>
    simp only [qnameL, hb, Bool.false_eq_true, if_false] at hq
    have : PR.quoteName n ≠ n := by
      intro e
      rw [e] at hq
      have := congrArg List.length hq
      simp at this
      omega
    simpa using this

theorem qTok_eq (n : String) : TP2.qTok n = if bareB n then opTok n else nameTok n := by
  simp only [TP2.qTok, quoteName_beq]

set_option linter.unusedVariables false in
theorem qnameL_ne_nil (n : String) (h : bareB n = true ∨ True) : ∃ c r, qnameL n = c :: r := by
  unfold qnameL
  split
  · rename_i hb
    simp only [bareB, Bool.and_eq_true] at hb
    have := hb.1
    unfold PR.isPlainName at this
    cases hc : n.toList with
    | nil => rw [hc] at this; cases this
    | cons c r => exact ⟨c, r, rfl⟩
  · exact ⟨_, _, rfl⟩

theorem tk_qname (n : String) (hn : ∀ x ∈ n.toList, x ≠ '`') (d : Char) (hd : d = '(' ∨ d = '.') :
    Tk (qnameL n) (TP2.qTok n) d := by
  rw [qTok_eq]
  unfold qnameL
  cases hb : bareB n with
  | true =>
    simp only [if_true]
    rw [opTok_eq]
    simp only [bareB, Bool.and_eq_true] at hb
    exact tk_plain n.toList (by rw [← isPlainName_plainL]; exact hb.1) d hd
  | false =>
    simp only [Bool.false_eq_true, if_false]
    have := tk_bq n.toList hn d
    simpa [nameTok, Lex.NAME] using this

def queryWords : List String := ["CASE", "WHEN", "THEN", "ELSE", "END", "EXISTS", "IN", "NOT", "DISTINCT", "*"]
theorem query_words_lex : queryWords.all (fun k => lxIs k.toList (ctok k.toList)) = true := by decide +kernel
theorem union_words_plainL : Gen.unionTypes.all (fun e => e.2.all fun w => plainL w.toList) = true := by decide +kernel

theorem lx_qw (k : String) (hk : k ∈ queryWords) : Lx k.toList [opTok k] := by
  rw [opTok_eq]; exact lx_of_is ((List.all_eq_true.mp query_words_lex) k hk)

theorem joinLL_cons_ne (sep a : List Char) : ∀ (l : List (List Char)), l ≠ [] → joinLL sep (a :: l) = a ++ sep ++ joinLL sep l
  | [], h => absurd rfl h
  | _ :: _, _ => rfl

theorem joinLL_append (sep : List Char) : ∀ (us vs : List (List Char)), us ≠ [] → vs ≠ [] →
    joinLL sep (us ++ vs) = joinLL sep us ++ sep ++ joinLL sep vs
  | [], _, h, _ => absurd rfl h
  | [a], vs, _, hv => by simp [joinLL_cons_ne sep a vs hv, joinLL]
  | a :: b :: r, vs, _, hv => by
    have := joinLL_append sep (b :: r) vs (by simp) hv
    simp only [List.cons_append] at this ⊢
    rw [joinLL_cons_ne sep a (b :: (r ++ vs)) (by simp), this, joinLL_cons_ne sep a (b :: r) (by simp)]
    simp

def Seg (c : Char) (us : List (List Char)) (ts : List Tok) : Prop :=
  (us = [] ∧ ts = []) ∨ (us ≠ [] ∧ Lx (joinLL [c] us) ts)

theorem Seg.nil (c : Char) : Seg c [] [] := Or.inl ⟨rfl, rfl⟩
theorem Seg.one (c : Char) {u : List Char} {ts : List Tok} (h : Lx u ts) : Seg c [u] ts := Or.inr ⟨by simp, by simpa [joinLL] using h⟩
theorem Seg.lx {c : Char} {us : List (List Char)} {ts : List Tok} (h : Seg c us ts) (hne : us ≠ []) : Lx (joinLL [c] us) ts := by
  rcases h with ⟨h, _⟩ | ⟨_, h⟩
  · exact absurd h hne
  · exact h
theorem Seg.append {c : Char} (hc : c = ' ' ∨ c = '\n') {us vs : List (List Char)} {ts tv : List Tok} (h1 : Seg c us ts)
    (h2 : Seg c vs tv) : Seg c (us ++ vs) (ts ++ tv) := by
  rcases h1 with ⟨rfl, rfl⟩ | ⟨hu, h1⟩
  · simpa using h2
  · rcases h2 with ⟨rfl, rfl⟩ | ⟨hv, h2⟩
    · simp only [List.append_nil]; exact Or.inr ⟨hu, h1⟩
    · refine Or.inr ⟨by simp [hu], ?_⟩
      rw [joinLL_append [c] us vs hu hv]
      exact Lx.congr (Lx.sepc hc h1 h2) (by simp) rfl
theorem Seg.cons {c : Char} (hc : c = ' ' ∨ c = '\n') {u : List Char} {us : List (List Char)} {t ts : List Tok} (h1 : Lx u t)
    (h2 : Seg c us ts) : Seg c (u :: us) (t ++ ts) :=
  Seg.append hc (Seg.one c h1) h2
theorem Seg.map {α : Type} {c : Char} (hc : c = ' ' ∨ c = '\n') (txt : α → List Char) (tk : α → List Tok) :
    ∀ (xs : List α), (∀ x ∈ xs, Lx (txt x) (tk x)) → Seg c (xs.map txt) ((xs.map tk).flatten)
  | [], _ => Seg.nil c
  | x :: xs, h => by
    have := Seg.cons hc (h x (by simp)) (Seg.map hc txt tk xs fun y hy => h y (by simp [hy]))
    simpa using this

end LexLink
