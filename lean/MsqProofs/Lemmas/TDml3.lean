import MsqProofs.Lemmas.TDml0
import MsqProofs.Lemmas.TDmlR2
/-!
# Data-change statements over `FragQ`: sizes and words of the renderings (C03 / C01)

The statement level itself (`C03.tstatement`, `C03.twith_query_select`, Props/C03D.lean) is that of the development over `FragQ3`
(`TDM.stmt_ok`, Lemmas/TDmlQI.lean; `TR3.with_query_select2`, Lemmas/TRestG3.lean).
-/
open Lex PM Ast TP TP2 TS TQ
namespace TDM
variable {d : Gen.D} {ch : Expr → Bool}

theorem sizeL_toksSet_pos (p : String × Expr) : 2 ≤ sizeL (toksSet d ch p) := by
  simp only [toksSet, sizeL_cons, size_opTok]
  have := tok_size_pos (nameTok p.1); omega
theorem grp_notComma (cs : List Tok) : (grp cs).srcEq "," = false := TDM3.grp_notComma cs
theorem kw_noParen : (opTok "VALUES").has PAREN = false ∧ (opTok "SELECT").has PAREN = false := TDM3.kw_noParen
theorem sizeL_insertWords (ty : String) (hty : insertTyOK ty = true) : 2 ≤ sizeL (insertWords ty) := TDM3.sizeL_insertWords ty hty

theorem toksQ_stripW (q : Query) : toksQ d ch (stripW q) = toksQ d ch q := by
  cases q with
  | single s => obtain ⟨w, dist, cols, fr, lats, js, wh, gb, hv, ob, sb, db, cb, lm⟩ := s; simp only [stripW, setQW, setW, toksQ, toksS3]
  | union w s us => simp only [stripW, setQW, toksQ]
theorem stops_bd {rest : List Tok} (h : stopsStmt d rest = true) : Bd3 d 7 rest = true := by
  simp only [stopsStmt, stopsQ, Bool.and_eq_true] at h; exact h.1

end TDM
