import MsqProofs.Lemmas.TRest0
import MsqProofs.Lemmas.TRestG3
import MsqProofs.Lemmas.TDmlRI
/-!
# T-parse for the remaining statement classes and the union of all fragments over `FragQ2` (C03 / C01)

The definitions of Lemmas/TRest0.lean are those of Lemmas/TRestG0.lean over the smaller query / data-change fragments: `FragRest ⊆
TR3.FragRest` and `FragAny ⊆ TR3.FragAny` with equal renderings (`incRest`, `incAny`; from `TQ3.inc` and `TDM3.fragStmt2_sub`), so the clause
and statement lemmas are those of Lemmas/TRestG1–3.lean at the same tree (`rest_ok`, `any_ok`: every statement of `FragRest` / `FragAny`
through `pStatement`, at the common fuel bound `20 * size + 16`).
-/
open Lex PM Ast TP TS
namespace TR
variable {d : Gen.D}

/-- the same body as `TR3.After` (`TR3.stopsAny` unfolds to `stopsAny`): below, `TR.After d r` is passed where `TR3.After d r` is asked -/
def After (d : Gen.D) (r : List Tok) : Prop := (∃ x, r = commaTok :: x) ∨ stopsAny d r = true

/-! ### the parts that do not mention a query are the same functions -/
theorem cfgPieces_eq : ∀ (l cur : List Char), TR3.cfgPieces l cur = cfgPieces l cur := by
  intro l
  induction l with
  | nil => intro cur; rfl
  | cons c r ih =>
    intro cur; simp only [TR3.cfgPieces, cfgPieces, ih]
    split
    · cases cfgPieces r [] <;> rfl
    · rfl
theorem cfgSplit_eq (s : String) : TR3.cfgSplit s = cfgSplit s := by
  unfold TR3.cfgSplit cfgSplit; rw [cfgPieces_eq]; cases cfgPieces s.toList [] <;> rfl
theorem cfgTail_eq (l : List (Bool × String)) : TR3.cfgTail l = cfgTail l := by
  induction l with
  | nil => rfl
  | cons p r ih => obtain ⟨b, s⟩ := p; simp only [TR3.cfgTail, cfgTail, ih]; rfl
theorem cfgJoin_eq : ∀ (l : List (Bool × String)) (w : String), TR3.cfgJoin w l = cfgJoin w l := by
  intro l
  induction l with
  | nil => intro w; rfl
  | cons p r ih => intro w; obtain ⟨b, s⟩ := p; simp only [TR3.cfgJoin, cfgJoin, ih]
theorem toksCfg_eq (s : String) : TR3.toksCfg s = toksCfg s := by
  simp only [TR3.toksCfg, toksCfg, cfgSplit_eq, cfgTail_eq]; rfl
theorem cfgOK_eq (s : String) : TR3.cfgOK s = cfgOK s := by simp only [TR3.cfgOK, cfgOK, cfgSplit_eq, cfgJoin_eq]
theorem toksSet_eq (c : ConfigStr) : TR3.toksSet c = toksSet c := by simp only [TR3.toksSet, toksSet, toksCfg_eq]
theorem toksColOrIdx_eq (x : ColOrIdx) : TR3.toksColOrIdx d x = toksColOrIdx d x := by cases x <;> rfl
theorem colOrIdxOK_eq (x : ColOrIdx) : TR3.colOrIdxOK d x = colOrIdxOK d x := by cases x <;> rfl

/-! ### the inclusion -/
theorem partGrp_eq (p : List Expr) (h : TDM2.partOK d (some p) = true) : TR3.partGrp d p = partGrp d p := by
  simp only [TR3.partGrp, partGrp, TDM3.incPartMap p h, TDM3.joinC_eq]
theorem incAlterOp (o : AlterOp) (h : alterOpOK d o = true) : TR3.alterOpOK d o = true ∧ TR3.toksAlterOp d o = toksAlterOp d o := by
  cases o <;> simp only [alterOpOK] at h <;>
    simp only [TR3.alterOpOK, TR3.toksAlterOp, toksAlterOp, colOrIdxOK_eq, toksColOrIdx_eq, h, and_self]
  · exact ⟨(TDM3.incPart (ch := noX) _ h).1, by rw [partGrp_eq _ h]⟩
  · exact ⟨(TDM3.incPart (ch := noX) _ h).1, by rw [partGrp_eq _ h]⟩
theorem incAlterOps : ∀ (ops : List AlterOp), ops.all (alterOpOK d) = true →
    ops.all (TR3.alterOpOK d) = true ∧ TR3.toksAlterTail d ops = toksAlterTail d ops ∧ TR3.toksAlterOps d ops = toksAlterOps d ops := by
  intro ops
  induction ops with
  | nil => intro _; exact ⟨rfl, rfl, rfl⟩
  | cons o r ih =>
    intro h
    simp only [List.all_cons, Bool.and_eq_true] at h
    obtain ⟨a1, a2⟩ := incAlterOp o h.1
    obtain ⟨b1, b2, _⟩ := ih h.2
    exact ⟨by simp only [List.all_cons, a1, b1, Bool.and_self], by simp only [TR3.toksAlterTail, toksAlterTail, a2, b2],
      by simp only [TR3.toksAlterOps, toksAlterOps, a2, b2]⟩
theorem withs_fragQ2 (q : Query) (hq : TQ2.FragQ2 d q = true) : TDM2.withsOf q = some [] ∧ TDM2.stripW q = q := by
  cases q with
  | single s =>
    obtain ⟨ws, dist, cols, fr, lats, js, wh, gb, hv, ob, sb, db, cb, lm⟩ := s
    rcases ws with _ | _ | _ <;> first | exact ⟨rfl, rfl⟩ | simp [TQ2.FragQ2, TQ2.FragS4] at hq
  | union ws s us => rcases ws with _ | _ | _ <;> first | exact ⟨rfl, rfl⟩ | simp [TQ2.FragQ2] at hq
theorem withsOf_fragQ2 (q : Query) (hq : TQ2.FragQ2 d q = true) : TDM2.withsOf q = some [] := (withs_fragQ2 q hq).1
theorem incSel (q : Query) (h : selOK d q = true) : TR3.selOK d q = true ∧ TR3.toksSel d q = toksSel d q := by
  have hs : TDM2.FragStmt d (.select q) = true := by
    simp only [selOK, Bool.or_eq_true] at h
    refine h.elim id fun hq => ?_
    obtain ⟨hw, hst⟩ := withs_fragQ2 q hq
    simp only [TDM2.FragStmt, hw, TDM2.withsOK, List.all_nil, hst, hq, Bool.and_self]
  obtain ⟨a1, a2⟩ := TDM3.fragStmt2_sub d noX (d == .HIVE) _ hs
  exact ⟨by simp only [TR3.selOK, a1, Bool.true_or], by simp only [TR3.toksSel, toksSel, a1, hs, if_true]; exact a2⟩
theorem incRest (s : Stmt) (h : FragRest d s = true) : TR3.FragRest d s = true ∧ TR3.toksRest d s = toksRest d s := by
  cases s <;> simp only [FragRest, Bool.and_eq_true, Bool.false_eq_true] at h
  case set c => exact ⟨by simp only [TR3.FragRest, cfgOK_eq, h.1, h.2, Bool.and_self], by simp only [TR3.toksRest, toksRest, toksSet_eq]⟩
  case analyze t p fc cm ns =>
    refine ⟨?_, ?_⟩
    · simp only [TR3.FragRest, Bool.and_eq_true]; refine ⟨h.1, ?_⟩
      split <;> rename_i hd <;> simp only [hd, if_true] at h
      · exact (TDM3.incPart (ch := noX) p h.2).1
      · exact h.2
    · simp only [TR3.toksRest, toksRest, TR3.toksAnalyze, toksAnalyze]
      split <;> rename_i hd <;> simp only [hd, if_true] at h
      · rw [(TDM3.incPart (ch := noX) p h.2).2]; rfl
      · rfl
  case alter t ops =>
    obtain ⟨a1, _, a3⟩ := incAlterOps ops h.2
    exact ⟨by simp only [TR3.FragRest, a1, h.1.2, Bool.and_true]; exact h.1.1, by simp only [TR3.toksRest, toksRest, TR3.toksAlter, toksAlter, a3]; rfl⟩
  case showColumns fr wh =>
    exact ⟨by simp only [TR3.FragRest, (TQ3.incFrom h.1).1, (TQ3.incO h.2).1, Bool.and_self],
      by simp only [TR3.toksRest, toksRest, TR3.toksShowColumns, toksShowColumns, (TQ3.incFrom h.1).2, ((TQ3.incO h.2).2 noX).2]⟩
  case createTableAs t ine q =>
    obtain ⟨a1, a2⟩ := incSel q h.2
    exact ⟨by simp only [TR3.FragRest, a1, Bool.and_true]; exact h.1, by simp only [TR3.toksRest, toksRest, TR3.toksCreateAs, toksCreateAs, a2]; rfl⟩
  -- left: DROP / TRUNCATE / MSCK (the table condition `h`), USE / SHOW DATABASES / SHOW TABLES (nothing to show)
  all_goals first | exact ⟨h, rfl⟩ | exact ⟨rfl, rfl⟩
/-- **`FragAny ⊆ TR3.FragAny` with equal renderings** -/
theorem incAny (s : Stmt) (h : FragAny d s = true) : TR3.FragAny d s = true ∧ TR3.toksAny d s = toksAny d s := by
  simp only [FragAny, Bool.or_eq_true] at h
  rcases h with (h | h) | h
  · cases s <;> simp only [Bool.false_eq_true] at h
    case select q =>
      have hs : selOK d q = true := by simp only [selOK, h, Bool.or_true]
      obtain ⟨a1, a2⟩ := incSel q hs
      exact ⟨by simp only [TR3.FragAny, (TQ3.incQ h).1, Bool.true_or], a2⟩
    case createTable c => exact ⟨by simp only [TR3.FragAny, h, Bool.true_or], rfl⟩
  · obtain ⟨a1, a2⟩ := TDM3.fragStmt2_sub d noX (d == .HIVE) s h
    refine ⟨by simp only [TR3.FragAny, a1, Bool.or_true, Bool.true_or], ?_⟩
    cases s with
    | select q =>
      have hs : selOK d q = true := by simp only [selOK, h, Bool.true_or]
      exact (incSel q hs).2
    | _ => first | exact a2 | simp [TDM2.FragStmt] at h
  · obtain ⟨a1, a2⟩ := incRest s h
    refine ⟨by simp only [TR3.FragAny, a1, Bool.or_true], ?_⟩
    cases s <;> first | exact a2 | simp [FragRest] at h

/-! ### the lemmas of the `TR3` development at the same tree -/
theorem After.str {r : List Tok} (h : After d r) (k : String) (h1 : k ≠ ";") (h2 : k ≠ ",") : searchStr r k = false := TR3.After.str h k h1 h2
theorem equalsStr_src {t : Tok} {k : String} (h : t.equalsStr k = true) : up t.src = up k := TR3.equalsStr_src h
theorem sa_nil : stopsAny d [] = true := rfl
theorem sa_semi (x : List Tok) : stopsAny d (TDM.semiTok :: x) = true := TR3.sa_semi x
theorem sizeL_colOrIdx_col (c : DefCol) : sizeL (toksColOrIdx d (.col c)) = sizeL (TD.toksDefCol d c) := rfl
theorem sizeL_flag (b : Bool) (ts : List Tok) : sizeL (TD.flag b ts) = if b then sizeL ts else 0 := TR3.sizeL_flag b ts
theorem drop_ok (b : Bool) (t : TableName) (ht : TDM2.tblOKD t = true) (rest : List Tok) (hr : stopsAny d rest = true) (f : Nat) :
    pStatement d f (toksDrop b t ++ rest) = .ok (.dropTable b t, rest) := TR3.drop_ok b t ht rest hr f
theorem truncate_ok (t : TableName) (ht : TDM2.tblOKD t = true) (rest : List Tok) (hr : stopsAny d rest = true) (f : Nat) :
    pStatement d f (toksTruncate t ++ rest) = .ok (.truncate t, rest) := TR3.truncate_ok t ht rest hr f
theorem msck_ok (t : TableName) (ht : TDM2.tblOKD t = true) (rest : List Tok) (hr : stopsAny d rest = true) (f : Nat) :
    pStatement d f (toksMsck t ++ rest) = .ok (.msck t, rest) := TR3.msck_ok t ht rest hr f
theorem use_ok (s : String) (rest : List Tok) (f : Nat) : pStatement d f (toksUse s ++ rest) = .ok (.use s, rest) := TR3.use_ok s rest f
theorem set_ok (c : ConfigStr) (hn : cfgOK c.name = true) (hv : cfgOK c.value = true) (rest : List Tok) (hr : stopsAny d rest = true) (f : Nat) :
    pStatement d f (toksSet c ++ rest) = .ok (.set c, rest) := by
  rw [← toksSet_eq]; exact TR3.set_ok c (cfgOK_eq _ ▸ hn) (cfgOK_eq _ ▸ hv) rest hr f
theorem colOrIdx_ok (x : ColOrIdx) (hx : colOrIdxOK d x = true) (r : List Tok) (hr : After d r) (f : Nat)
    (hf : 20 * sizeL (toksColOrIdx d x) + 2 ≤ f) : pColOrIdx d f (toksColOrIdx d x ++ r) = .ok (x, r) := by
  rw [← toksColOrIdx_eq] at hf ⊢; exact TR3.colOrIdx_ok x (colOrIdxOK_eq x ▸ hx) r hr f hf
theorem alterOp_ok (o : AlterOp) (ho : alterOpOK d o = true) (r : List Tok) (hr : After d r) (f : Nat)
    (hf : 20 * sizeL (toksAlterOp d o) + 2 ≤ f) : pAlterExpr d f (toksAlterOp d o ++ r) = .ok (o, r) := by
  obtain ⟨a1, a2⟩ := incAlterOp o ho
  rw [← a2] at hf ⊢; exact TR3.alterOp_ok o a1 r hr f hf
theorem rest_ok (s : Stmt) (hs : FragRest d s = true) (rest : List Tok) (hr : stopsAny d rest = true) (f : Nat)
    (hf : 20 * sizeL (toksRest d s) + 16 ≤ f) : pStatement d f (toksRest d s ++ rest) = .ok (s, rest) := by
  obtain ⟨a1, a2⟩ := incRest s hs
  rw [← a2] at hf ⊢; exact TR3.rest_ok s a1 rest hr f hf
theorem any_ok (s : Stmt) (hs : FragAny d s = true) (rest : List Tok) (hr : stopsAny d rest = true) (f : Nat)
    (hf : 20 * sizeL (toksAny d s) + 16 ≤ f) : pStatement d f (toksAny d s ++ rest) = .ok (s, restAfter s rest) := by
  obtain ⟨a1, a2⟩ := incAny s hs
  rw [← a2] at hf ⊢; exact TR3.any_ok s a1 rest hr f hf
/-- **the union contains the data-change fragment over `FragQ`** (Props/C03D.lean), with the same rendering -/
theorem any_of_fragStmt (s : Stmt) (hs : TDM.FragStmt d s = true) : FragAny d s = true ∧ toksAny d s = TDM.toksStmt d s := by
  obtain ⟨h1, h2⟩ := TDM2.fragStmt_sub d noX (d == .HIVE) s hs
  refine ⟨by simp only [FragAny, h1, Bool.or_true, Bool.true_or], ?_⟩
  have h2 : TDM2.toksStmt d s = TDM.toksStmt d s := h2
  cases s <;> first | exact h2 | (simp only [toksAny, toksSel, h1, if_true]; exact h2) | simp [TDM.FragStmt] at hs
/-- the queries of `FragQ2` are in the union, with their own rendering -/
theorem any_of_fragQ2 (q : Query) (hq : TQ2.FragQ2 d q = true) : FragAny d (.select q) = true ∧ toksAny d (.select q) = TQ2.toksQ2 d noX q := by
  refine ⟨by simp only [FragAny, hq, Bool.true_or], ?_⟩
  simp only [toksAny, toksSel]
  split
  · simp only [TDM2.toksStmt, TDM2.toksStmtG, withsOf_fragQ2 q hq, TDM2.toksWiths, List.nil_append]
  · rfl

end TR
