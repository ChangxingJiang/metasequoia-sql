import MsqProofs.Lemmas.TQuery2S
import MsqProofs.Lemmas.TQuery3I
/-!
# T-parse on the larger nested fragment: the side condition on redundant brackets (C03 / C02 / C01)

`ChOK d ch`: the choice `ch` of redundant brackets keeps the two first-word conditions of the fragment (`DISTINCT` in front of the select
list, `GROUPING` in front of the first key).  The theorems over `FragQ2` (`rt4`, `qt` here; Props/C03Q2.lean) are those of the `TQ3`
development (Lemmas/TQuery3M.lean, Lemmas/TQuery3P.lean) at the same tree, through the inclusion of Lemmas/TQuery3I.lean.
-/
open Lex PM Ast TP TS
namespace TQ2
variable {d : Gen.D} {ch : Expr → Bool}

structure ChOK (d : Gen.D) (ch : Expr → Bool) : Prop where
  dist : ∀ cols, searchStrUp (toksCols4 d noX cols) "DISTINCT" = false → searchStrUp (toksCols4 d ch cols) "DISTINCT" = false
  grouping : ∀ e, searchStrUp (W4 d noX e 8) "GROUPING" = false → searchStrUp (W4 d ch e 8) "GROUPING" = false
theorem chOK_noX : ChOK d noX := ⟨fun _ h => h, fun _ h => h⟩

/-- **every expression of the fragment round-trips**: the record of the `TQ3` development at the same tree -/
theorem rt4 (e : Expr) (hf : FragE4 d e = true) : RT4 d ch e := by
  obtain ⟨h1, h2⟩ := TQ3.incE hf
  obtain ⟨a, b, c, f, g⟩ := TQ3.rt4 e h1
  rw [h2 ch] at a b c f g
  exact ⟨a, b, c, f, TQ3.tl4_eq e ▸ g⟩
/-- **every query of the fragment parses back** -/
theorem qt (q : Query) (hf : FragQ2 d q = true) : QT d ch q := by
  obtain ⟨h1, h2⟩ := TQ3.incQ hf
  obtain ⟨a, b⟩ := TQ3.qt q h1
  rw [h2 ch] at a b
  exact ⟨a, b⟩
end TQ2
