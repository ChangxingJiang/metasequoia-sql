import MsqModel.Analyze.Columns
/-!
# The association-list dictionary (`AN.dictSet`, `AN.dictGet?`): what a lookup answers, assignment, insertion of fresh keys
-/
namespace AN

theorem dictGet?_cons {κ ν : Type} [BEq κ] (p : κ × ν) (d : List (κ × ν)) (k : κ) :
    dictGet? (p :: d) k = if p.1 == k then some p.2 else dictGet? d k := by
  unfold dictGet?
  rw [List.find?_cons]
  cases p.1 == k <;> rfl

theorem dictGet?_isSome {κ ν : Type} [BEq κ] (d : List (κ × ν)) (k : κ) : (dictGet? d k).isSome = d.any (·.1 == k) := by
  simp only [dictGet?, Option.isSome_map, List.isSome_find?]

theorem dictGet?_of_mem {κ ν : Type} [BEq κ] [LawfulBEq κ] :
    ∀ {d : List (κ × ν)}, (d.map (·.1)).Nodup → ∀ {p}, p ∈ d → dictGet? d p.1 = some p.2
  | a :: r, hn, p, h => by
    obtain ⟨ha, hr⟩ := List.nodup_cons.mp hn
    rw [dictGet?_cons]
    rcases List.mem_cons.mp h with rfl | h
    · simp
    · rw [if_neg (by simpa using fun e : a.1 = p.1 => ha (show a.1 ∈ _ from e ▸ List.mem_map_of_mem h)), dictGet?_of_mem hr h]

theorem dictGet_mem {κ ν : Type} [BEq κ] [LawfulBEq κ] (d : List (κ × ν)) (k : κ) (v : ν) (h : dictGet? d k = some v) : (k, v) ∈ d := by
  obtain ⟨p, hp, rfl⟩ := Option.map_eq_some_iff.1 h
  have hk : p.1 = k := by simpa using List.find?_some hp
  exact hk ▸ List.mem_of_find?_eq_some hp

theorem dictGet?_dictSet {κ ν : Type} [BEq κ] [LawfulBEq κ] (d : List (κ × ν)) (k k' : κ) (v : ν) :
    dictGet? (dictSet d k v) k' = if k == k' then some v else dictGet? d k' := by
  induction d with
  | nil => simp [dictSet, dictGet?, List.find?]
  | cons p r ih =>
    obtain ⟨k0, v0⟩ := p
    unfold dictSet
    by_cases h0 : k0 == k
    · have : k0 = k := by simpa using h0
      subst this
      simp [dictGet?, List.find?]
      by_cases h1 : k0 == k' <;> simp [h1]
    · simp only [h0]
      by_cases h1 : k0 == k'
      · have e1 : k0 = k' := by simpa using h1
        have : (k == k') = false := by
          subst e1
          cases hk : k == k0 with
          | false => rfl
          | true => exact absurd (by simpa using hk : k = k0).symm (by simpa using h0)
        simp [dictGet?, List.find?, h1, this]
      · have ih' := ih
        simp only [dictGet?] at ih' ⊢
        simp [List.find?, h1, ih']

/-- `d[k] = v` for a key that `d` does not have: the pair is appended -/
theorem dictSet_fresh {κ ν : Type} [BEq κ] [LawfulBEq κ] {k : κ} (v : ν) :
    ∀ {d : List (κ × ν)}, (∀ q ∈ d, q.1 ≠ k) → dictSet d k v = d ++ [(k, v)]
  | [], _ => rfl
  | q :: t, h => by
    have hq : (q.1 == k) = false := by simpa using h q List.mem_cons_self
    simp only [dictSet, hq, Bool.false_eq_true, if_false, List.cons_append, dictSet_fresh v fun x hx => h x (List.mem_cons_of_mem _ hx)]

/-- `d[k] = v` for successive pairs with pairwise distinct keys, none of them in `d`: the pairs are appended -/
theorem foldl_dictSet_fresh {κ ν : Type} [BEq κ] [LawfulBEq κ] :
    ∀ (ps : List (κ × ν)) (d : List (κ × ν)), (ps.map (·.1)).Nodup → (∀ p ∈ ps, ∀ q ∈ d, q.1 ≠ p.1) →
      ps.foldl (fun m p => dictSet m p.1 p.2) d = d ++ ps
  | [], d, _, _ => by simp
  | p :: r, d, hn, hd => by
    obtain ⟨hp, hn'⟩ := List.nodup_cons.mp (List.map_cons ▸ hn)
    rw [List.foldl_cons, dictSet_fresh p.2 (hd p List.mem_cons_self), foldl_dictSet_fresh r (d ++ [p]) hn']
    · simp
    · intro x hx q hq
      rcases List.mem_append.mp hq with h | h
      · exact hd x (List.mem_cons_of_mem _ hx) q h
      · cases List.mem_singleton.1 h
        exact fun e => hp (e ▸ List.mem_map_of_mem hx)

theorem dictGet_foldl_const {κ ν : Type} [DecidableEq κ] (g : κ → ν) :
    ∀ (keys : List κ) (d : List (κ × ν)) (n : κ),
      dictGet? (keys.foldl (fun m k => dictSet m k (g k)) d) n = if n ∈ keys then some (g n) else dictGet? d n
  | [], d, n => by simp
  | k :: r, d, n => by
    rw [List.foldl_cons, dictGet_foldl_const g r, dictGet?_dictSet]
    by_cases h1 : n ∈ r
    · simp [h1]
    · by_cases h2 : k = n
      · subst h2; simp [h1]
      · have h3 : ¬ n = k := fun h => h2 h.symm
        simp [h1, h2, h3]

theorem dictGet_map_const {κ ν : Type} [DecidableEq κ] (g : κ → ν) :
    ∀ (keys : List κ) (n : κ), dictGet? (keys.map fun k => (k, g k)) n = if n ∈ keys then some (g n) else none
  | [], n => by simp [dictGet?]
  | k :: r, n => by
    have ih := dictGet_map_const g r n
    unfold dictGet? at ih ⊢
    rw [List.map_cons, List.find?_cons]
    by_cases h2 : k = n
    · subst h2; simp
    · have h3 : ¬ n = k := fun h => h2 h.symm
      have h4 : (k == n) = false := by simpa using h2
      simp only [h4, List.mem_cons, h3, false_or]
      exact ih

end AN
