import MsqProofs.Lemmas.TDdl0
/-!
# T-parse for CREATE TABLE: splitting a bracket group, column types, column definitions (C18 / C03)

`defColLoop`: one equation per attribute for the round of the loop that reads it, and one continuation-style lemma per attribute
(`DL` = the attribute loop succeeds with this result at every fuel from a bound on):
`H : DL … ⟨…, x, …⟩ r N res → DL … ⟨…, default, …⟩ (tokens of x ++ r) (N + number of tokens) res`, chained from the end of the
segment to the front in MsqProofs/Lemmas/TDdlDef.lean.
-/
open Lex PM Ast TP TS
namespace TD

theorem searchTwoUp_cons (x : Tok) (r : List Tok) (a b : String) : searchTwoUp (x :: r) a b = (x.srcEqUp a && searchStrUp r b) := by
  cases r <;> simp [searchTwoUp, searchStrUp]
theorem searchThreeUp_cons (x : Tok) (r : List Tok) (a b c : String) :
    searchThreeUp (x :: r) a b c = (x.srcEqUp a && searchTwoUp r b c) := by
  rcases r with _ | ⟨y, _ | ⟨z, r⟩⟩ <;> simp [searchThreeUp, searchTwoUp, Bool.and_assoc]
theorem searchStrUp_cons (x : Tok) (r : List Tok) (a : String) : searchStrUp (x :: r) a = x.srcEqUp a := rfl
theorem searchStr_cons (x : Tok) (r : List Tok) (a : String) : searchStr (x :: r) a = x.srcEq a := rfl
theorem searchMark_cons (x : Tok) (r : List Tok) (m : Nat) : searchMark (x :: r) m = x.has m := rfl
theorem searchSeq_cons (x : Tok) (r : List Tok) (k : String) (ks : List String) :
    searchSeq (x :: r) (k :: ks) = (x.equalsStr k && searchSeq r ks) := rfl
theorem searchSeq_nil (r : List Tok) : searchSeq r [] = true := by cases r <;> rfl
theorem matchSeq_cons (x : Tok) (r : List Tok) (k : String) (ks : List String) :
    matchSeq (x :: r) (k :: ks) = if x.equalsStr k then matchSeq r ks else .error .parse := rfl
theorem matchSeq_nil (r : List Tok) : matchSeq r [] = .ok ((), r) := by cases r <;> rfl
theorem srcEqUp_opTok (a b : String) : (opTok a).srcEqUp b = (up a == b) := by simp [Tok.srcEqUp, src_opTok]
theorem srcEq_opTok (a b : String) : (opTok a).srcEq b = (a == b) := by simp [Tok.srcEq, src_opTok]
theorem equalsStr_opTok (a b : String) : (opTok a).equalsStr b = (up a == up b) := by
  simp [Tok.equalsStr, opTok, String.ofList_toList]
theorem equalsStr_grp (cs : List Tok) (b : String) : (grp cs).equalsStr b = false := rfl
theorem src_srcTok (s : String) : (srcTok s).src = s := src_single s _

theorem nameTok_head (n : String) : (nameTok n).src.toList.head? = some '`' := by simp [toList_src_nameTok]
theorem srcEqUp_nameTok (n k : String) (hk : (k.toList.head? != some '`') = true) : (nameTok n).srcEqUp k = false := by
  simp only [Tok.srcEqUp, beq_eq_false_iff_ne, ne_eq]; exact ne_of_head (up_nameTok_head n) hk
theorem srcEq_nameTok (n k : String) (hk : (k.toList.head? != some '`') = true) : (nameTok n).srcEq k = false := by
  simp only [Tok.srcEq, beq_eq_false_iff_ne, ne_eq]; exact ne_of_head (nameTok_head n) hk
theorem equalsStr_nameTok (n k : String) (hk : ((up k).toList.head? != some '`') = true) : (nameTok n).equalsStr k = false := by
  have : up (String.ofList ('`' :: n.toList ++ ['`'])) = up (nameTok n).src := by simp [nameTok, Tok.src, Tok.source]
  simp only [Tok.equalsStr, nameTok, beq_eq_false_iff_ne, ne_eq]
  rw [this]; exact ne_of_head (up_nameTok_head n) hk
theorem srcEqUp_grp (cs : List Tok) (k : String) (hk : (k.toList.head? != some '(') = true) : (grp cs).srcEqUp k = false :=
  TP.srcEqUp_grp cs k hk
theorem srcEq_grp (cs : List Tok) (k : String) (hk : (k.toList.head? != some '(') = true) : (grp cs).srcEq k = false := TP.srcEq_grp cs k hk
theorem nameTok_has_name (n : String) : (nameTok n).has NAME = true := nameTok_name n
theorem nameTok_has_paren (n : String) : (nameTok n).has PAREN = false := nameTok_paren n

/-- evaluate the keyword tests of a parser on a rendering whose head tokens are known -/
macro "kw_simp" : tactic =>
  `(tactic| simp (config := { decide := true }) only [searchTwoUp_cons, searchThreeUp_cons, searchStrUp_cons, searchStr_cons,
      searchMark_cons, searchSeq_cons, searchSeq_nil, matchSeq_cons, matchSeq_nil,
      srcEqUp_opTok, srcEq_opTok, equalsStr_opTok, equalsStr_grp, srcEqUp_nameTok, srcEq_nameTok, equalsStr_nameTok, srcEqUp_grp, srcEq_grp,
      nameTok_has_name, nameTok_has_paren, grp_paren,
      List.isEmpty_cons, List.isEmpty_nil, Bool.and_eq_true, Bool.or_eq_true, false_and, true_and, and_true, and_false, or_false, false_or,
      or_true, true_or, not_false_eq_true, not_true_eq_false, Bool.false_eq_true, Bool.true_and, Bool.false_and, Bool.and_true, Bool.and_false, Bool.not_true, Bool.not_false,
      if_false, if_true, List.drop_succ_cons, List.drop_zero, List.cons_append, List.nil_append, List.append_assoc, List.length_cons,
      moveStr, moveStrUp, moveThreeUp, moveTwoUp, matchKw, popSrc, src_opTok, src_srcTok, src_litTok, children_grp, popSplit])
macro "kw_simp" "at" h:ident : tactic =>
  `(tactic| simp (config := { decide := true }) only [searchTwoUp_cons, searchThreeUp_cons, searchStrUp_cons, searchStr_cons,
      searchMark_cons, searchSeq_cons, searchSeq_nil, matchSeq_cons, matchSeq_nil,
      srcEqUp_opTok, srcEq_opTok, equalsStr_opTok, equalsStr_grp, srcEqUp_nameTok, srcEq_nameTok, equalsStr_nameTok, srcEqUp_grp, srcEq_grp,
      nameTok_has_name, nameTok_has_paren, grp_paren,
      List.isEmpty_cons, List.isEmpty_nil, Bool.and_eq_true, Bool.or_eq_true, false_and, true_and, and_true, and_false, or_false, false_or,
      or_true, true_or, not_false_eq_true, not_true_eq_false, Bool.false_eq_true, Bool.true_and, Bool.false_and, Bool.and_true, Bool.and_false, Bool.not_true, Bool.not_false,
      if_false, if_true, List.drop_succ_cons, List.drop_zero, List.cons_append, List.nil_append, List.append_assoc, List.length_cons,
      moveStr, moveStrUp, moveThreeUp, moveTwoUp, matchKw, popSrc, src_opTok, src_srcTok, src_litTok, children_grp, popSplit] at $h:ident)

/-! ### renderings that start with one of a set of key words -/
def HeadIn (ks : List String) (ts : List Tok) : Prop := ts = [] ∨ ∃ k r, k ∈ ks ∧ ts = opTok k :: r
theorem HeadIn.nil (ks : List String) : HeadIn ks [] := Or.inl rfl
theorem HeadIn.cons {ks : List String} (k : String) (r : List Tok) (hk : k ∈ ks) : HeadIn ks (opTok k :: r) := Or.inr ⟨k, r, hk, rfl⟩
theorem HeadIn.piece {ks : List String} {ts tail : List Tok} (k : String) (hk : k ∈ ks) (hts : ts = [] ∨ ∃ r, ts = opTok k :: r)
    (h : HeadIn ks tail) : HeadIn ks (ts ++ tail) := by
  rcases hts with rfl | ⟨r, rfl⟩
  · exact h
  · exact HeadIn.cons k _ hk
theorem HeadIn.flag {ks : List String} {tail : List Tok} (b : Bool) (k : String) (more : List Tok) (hk : k ∈ ks) (h : HeadIn ks tail) :
    HeadIn ks (flag b (opTok k :: more) ++ tail) := by
  cases b
  · exact h
  · exact HeadIn.cons k _ hk
theorem HeadIn.prop {ks : List String} {ts : List Tok} (h : HeadIn ks ts) (P : Tok → Bool) (hP : ks.all (fun k => P (opTok k)) = true) :
    ts = [] ∨ ∃ t r, ts = t :: r ∧ P t = true := by
  rcases h with h | ⟨k, r, hk, rfl⟩
  · exact Or.inl h
  · exact Or.inr ⟨_, _, rfl, List.all_eq_true.1 hP k hk⟩
/-- at level 8 only the dialect-free tests of `stopTok` are asked -/
theorem stopTok_8 (d : Gen.D) (t : Tok) : stopTok d 8 t = (stopsE t && stopsC t) := by simp [stopTok]
theorem HeadIn.stop8_app {ks : List String} {ts : List Tok} (d : Gen.D) (h : HeadIn ks ts)
    (hP : ks.all (fun k => stopsE (opTok k) && stopsC (opTok k)) = true) (r : List Tok) (hr : stopLE d 8 r = true) :
    stopLE d 8 (ts ++ r) = true := by
  rcases h.prop (fun t => stopsE t && stopsC t) hP with h | ⟨t, x, rfl, ht⟩
  · subst h; exact hr
  · exact (stopTok_8 d t).trans ht
theorem HeadIn.stop8 {ks : List String} {ts : List Tok} (d : Gen.D) (h : HeadIn ks ts)
    (hP : ks.all (fun k => stopsE (opTok k) && stopsC (opTok k)) = true) : stopLE d 8 ts = true := by
  simpa using h.stop8_app d hP [] rfl
theorem HeadIn.noParen_app {ks : List String} {ts : List Tok} (h : HeadIn ks ts) (hP : ks.all (fun k => !(opTok k).has PAREN) = true)
    (r : List Tok) (hr : searchMark r PAREN = false) : searchMark (ts ++ r) PAREN = false := by
  rcases h.prop (fun t => !t.has PAREN) hP with h | ⟨t, x, rfl, ht⟩
  · subst h; exact hr
  · simpa [searchMark] using ht
theorem HeadIn.noParen {ks : List String} {ts : List Tok} (h : HeadIn ks ts) (hP : ks.all (fun k => !(opTok k).has PAREN) = true) :
    searchMark ts PAREN = false := by
  simpa using h.noParen_app hP [] rfl

/-- the continuation `r` of a clause of a definition list: nothing, or a token whose text is `,` or `;` — stated by what the parsers ask
of it; in a bracket segment of CREATE TABLE it is `[]` (`SegEnd.nil`), in ALTER TABLE the `,` of the next clause or the end of the
statement -/
structure SegEnd (r : List Tok) : Prop where
  up : ∀ k, k ≠ ";" → k ≠ "," → searchStrUp r k = false
  str : ∀ k, k ≠ ";" → k ≠ "," → searchStr r k = false
  two : ∀ a b, a ≠ ";" → a ≠ "," → searchTwoUp r a b = false
  paren : searchMark r PAREN = false
  ends : (r.isEmpty || searchStr r ";" || searchStr r ",") = true
theorem SegEnd.nil : SegEnd [] := ⟨fun _ _ _ => rfl, fun _ _ _ => rfl, fun _ _ _ _ => rfl, rfl, rfl⟩

/-! ### splitting a bracket group at its commas: `TC.splitBy_commaList` at the segments themselves -/
theorem sepTail_eq (segs : List (List Tok)) : sepTail segs = TC.commaTail id segs := by
  induction segs with
  | nil => rfl
  | cons s r ih => simp only [sepTail, TC.commaTail, ih, id]
theorem sepAll_eq (segs : List (List Tok)) : sepAll segs = TC.commaList id segs := by
  cases segs with
  | nil => rfl
  | cons s r => simp only [sepAll, TC.commaList, sepTail_eq, id]
theorem segsOK_seg {segs : List (List Tok)} (hs : segsOK segs = true) : ∀ s ∈ segs, TC.Seg (id s) := by
  intro s hm
  have := List.all_eq_true.1 hs s hm
  simp only [Bool.and_eq_true, Bool.not_eq_true', List.isEmpty_eq_false_iff, noComma, List.all_eq_true] at this
  exact ⟨this.1, this.2⟩
theorem splitBy_sepAll (segs : List (List Tok)) (hs : segsOK segs = true) : splitBy "," (sepAll segs) [] [] = segs := by
  have := TC.splitBy_commaList id segs (segsOK_seg hs) []
  simpa [sepAll_eq] using this
theorem eachClosed_id {α : Type} (p : List Tok → R α) (tk : α → List Tok) (xs : List α)
    (h : ∀ x ∈ xs, p (tk x) = .ok (x, [])) : eachClosed p (xs.map tk) = .ok xs := by
  have := TC.eachClosed_map p tk id xs h
  simpa using this

theorem sizeL_sepAll_le (segs : List (List Tok)) (s : List Tok) (h : s ∈ segs) : sizeL s ≤ sizeL (sepAll segs) := by
  rw [sepAll_eq]; exact TC.sizeL_commaList_mem id segs s h

variable {d : Gen.D}

/-! ### column types -/
theorem pColType_ok (t : ColType) (ht : typeOK d t = true) (r : List Tok) (hr : searchMark r PAREN = false) (f : Nat)
    (hf : 20 * sizeL (toksType d t) + 2 ≤ f) : pColType d f (toksType d t ++ r) = .ok (t, r) := by
  obtain ⟨name, params⟩ := t
  cases params with
  | none =>
    simp only [toksType, toksParams, pColType]
    kw_simp
    simp [hr]
  | some ps =>
    simp only [typeOK, Bool.and_eq_true, Bool.not_eq_true'] at ht
    obtain ⟨⟨hd, hp⟩, hsg⟩ := ht
    simp only [toksType, toksParams, hd, Bool.false_eq_true, if_false, pColType]
    kw_simp
    rw [splitBy_sepAll _ hsg]
    have hall : ∀ e ∈ ps, pCompute d f ((fun e => W d noX e 8) e) = .ok (e, []) := by
      intro e he
      have hpe := List.all_eq_true.1 hp e he
      simp only [paramOK] at hpe
      have hsz : sizeL (W d noX e 8) ≤ sizeL (toksType d ⟨name, some ps⟩) := by
        simp only [toksType, toksParams, hd, Bool.false_eq_true, if_false, sizeL_cons, size_grp, sizeL]
        have := sizeL_sepAll_le (ps.map fun e => W d noX e 8) (W d noX e 8) (List.mem_map.2 ⟨e, he, rfl⟩)
        omega
      have := key8 e hpe [] rfl f (by omega)
      simpa using this
    rw [eachClosed_id (pCompute d f) (fun e => W d noX e 8) ps hall]

/-! ### loops with fuel, read one round at a time -/

section loop
variable {C : Type} {L : Nat → C → List Tok → R C} {r : List Tok} {N : Nat} {res : C × List Tok}

/-- the tokens `ts` in front of `r`, read by one round of the loop `L` -/
theorem _root_.TP.OkAt.piece {c c' : C} {ts : List Tok} (H : OkAt (fun g => L g c' r) N res) (hne : ts ≠ [])
    (step : ∀ g, L (g + 1) c (ts ++ r) = L g c' r) : OkAt (fun g => L g c (ts ++ r)) (N + ts.length) res :=
  (H.step step).mono (Nat.add_le_add_left (List.length_pos_iff.2 hne) N)

/-- an optional value, printed as `toks v` (nothing when unset) and stored by `set` -/
theorem _root_.TP.OkAt.opt {α : Type} (set : Option α → C) (toks : Option α → List Tok) (v : Option α)
    (step : ∀ a, v = some a → ∀ g, L (g + 1) (set none) (toks (some a) ++ r) = L g (set (some a)) r)
    (H : OkAt (fun g => L g (set v) r) N res) (hn : toks none = [] := by rfl)
    (hne : ∀ a, toks (some a) ≠ [] := by exact fun _ => List.cons_ne_nil _ _) :
    OkAt (fun g => L g (set none) (toks v ++ r)) (N + (toks v).length) res := by
  cases v with
  | none => simpa [hn] using H
  | some a => exact H.piece (hne a) (step a rfl)

/-- a flag, printed as `kws` when set -/
theorem _root_.TP.OkAt.flag (set : Bool → C) (kws : List Tok) (b : Bool) (step : ∀ g, L (g + 1) (set false) (kws ++ r) = L g (set true) r)
    (H : OkAt (fun g => L g (set b) r) N res) (hne : kws ≠ [] := by exact List.cons_ne_nil _ _) :
    OkAt (fun g => L g (set false) (flag b kws ++ r)) (N + (flag b kws).length) res := by
  cases b with
  | false => simpa [TD.flag] using H
  | true => exact H.piece hne step
end loop

/-! ### the attribute loop -/
abbrev DL (d : Gen.D) (f : Nat) (c : DefCol) (ts : List Tok) (N : Nat) (res : DefCol × List Tok) : Prop :=
  OkAt (fun g => defColLoop d f g c ts) N res

theorem dl_end_seg (f : Nat) (c : DefCol) (r : List Tok) (he : (r.isEmpty || searchStr r ";" || searchStr r ",") = true) :
    DL d f c r 1 (c, r) := by
  intro g hg
  obtain ⟨g, rfl⟩ : ∃ k, g = k + 1 := ⟨g - 1, by omega⟩
  simp [defColLoop, he]
theorem dl_end (f : Nat) (c : DefCol) : DL d f c [] 1 (c, []) := dl_end_seg f c [] rfl

/-! one round of the loop at each attribute -/
section rounds
variable (f : Nat) (c : DefCol) (r : List Tok) (g : Nat)

theorem defColLoop_notNull :
    defColLoop d f (g + 1) c ([opTok "NOT", opTok "NULL"] ++ r) = defColLoop d f g { c with notNull := true } r := by
  rw [defColLoop]; kw_simp
theorem defColLoop_null : defColLoop d f (g + 1) c ([opTok "NULL"] ++ r) = defColLoop d f g { c with allowNull := true } r := by
  rw [defColLoop]; kw_simp
theorem defColLoop_charset (s : String) :
    defColLoop d f (g + 1) c (toksCharset (some s) ++ r) = defColLoop d f g { c with charset := some s } r := by
  rw [defColLoop, toksCharset]; kw_simp
theorem defColLoop_collate (s : String) :
    defColLoop d f (g + 1) c (toksCollate (some s) ++ r) = defColLoop d f g { c with collate := some s } r := by
  rw [defColLoop, toksCollate]; kw_simp
theorem defColLoop_default (e : Expr) (h : pCompute d f (W d noX e 8 ++ r) = .ok (e, r)) :
    defColLoop d f (g + 1) c (toksDefault d (some e) ++ r) = defColLoop d f g { c with default := some e } r := by
  rw [defColLoop, toksDefault]; kw_simp; rw [h]
theorem defColLoop_comment (s : String) :
    defColLoop d f (g + 1) c (toksComment (some s) ++ r) = defColLoop d f g { c with comment := some s } r := by
  rw [defColLoop, toksComment]; kw_simp
theorem defColLoop_onUpdate (e : Expr) (h : pCompute d f (W d noX e 8 ++ r) = .ok (e, r)) :
    defColLoop d f (g + 1) c (toksOnUpdate d (some e) ++ r) = defColLoop d f g { c with onUpdate := some e } r := by
  rw [defColLoop, toksOnUpdate]; kw_simp; rw [h]
theorem defColLoop_autoInc : defColLoop d f (g + 1) c ([opTok "AUTO_INCREMENT"] ++ r) = defColLoop d f g { c with autoInc := true } r := by
  rw [defColLoop]; kw_simp
theorem defColLoop_unsigned : defColLoop d f (g + 1) c ([opTok "UNSIGNED"] ++ r) = defColLoop d f g { c with unsigned := true } r := by
  rw [defColLoop]; kw_simp
theorem defColLoop_zerofill : defColLoop d f (g + 1) c ([opTok "ZEROFILL"] ++ r) = defColLoop d f g { c with zerofill := true } r := by
  rw [defColLoop]; kw_simp
theorem defColLoop_generated (e : Expr) (m : String) (h : pCompute d f (W d noX e 8) = .ok (e, [])) (hm : modeOK m = true) :
    defColLoop d f (g + 1) c (toksGenerated d (some ⟨e, some m⟩) ++ r) = defColLoop d f g { c with generated := some ⟨e, some m⟩ } r := by
  rw [defColLoop, toksGenerated]
  kw_simp
  simp only [pGenerated]
  kw_simp
  simp only [h, closed]
  cases hfind : Gen.genColSaveModes.find? (·.1 == up m) with
  | none => simp [modeOK, hfind] at hm
  | some sm =>
    have : sm.2 = m := by simpa [modeOK, hfind] using hm
    simp only [this]
end rounds

section steps
variable (f : Nat) (n : String) (ty : ColType) (us zf : Bool) (cs co : Option String) (gen : Option GenCol) (an nn ai : Bool)
  (df ou : Option Expr) (cm : Option String) (r : List Tok) (N : Nat) (res : DefCol × List Tok)

theorem dl_comment (H : DL d f ⟨n, ty, us, zf, cs, co, gen, an, nn, ai, df, ou, cm⟩ r N res) :
    DL d f ⟨n, ty, us, zf, cs, co, gen, an, nn, ai, df, ou, none⟩ (toksComment cm ++ r) (N + (toksComment cm).length) res :=
  OkAt.opt (L := defColLoop d f) (fun v => ⟨n, ty, us, zf, cs, co, gen, an, nn, ai, df, ou, v⟩) toksComment cm
    (fun s _ g => defColLoop_comment f _ r g s) H

theorem dl_onUpdate (hs : stopLE d 8 r = true) (he : optFragE d ou = true)
    (hf : ∀ e, ou = some e → 20 * sizeL (W d noX e 8) + 2 ≤ f)
    (H : DL d f ⟨n, ty, us, zf, cs, co, gen, an, nn, ai, df, ou, cm⟩ r N res) :
    DL d f ⟨n, ty, us, zf, cs, co, gen, an, nn, ai, df, none, cm⟩ (toksOnUpdate d ou ++ r) (N + (toksOnUpdate d ou).length) res :=
  OkAt.opt (L := defColLoop d f) (fun v => ⟨n, ty, us, zf, cs, co, gen, an, nn, ai, df, v, cm⟩) (toksOnUpdate d) ou
    (fun e h g => defColLoop_onUpdate f _ r g e (key8 e (by subst h; exact he) r hs f (hf e h))) H

theorem dl_default (hs : stopLE d 8 r = true) (he : optFragE d df = true)
    (hf : ∀ e, df = some e → 20 * sizeL (W d noX e 8) + 2 ≤ f)
    (H : DL d f ⟨n, ty, us, zf, cs, co, gen, an, nn, ai, df, ou, cm⟩ r N res) :
    DL d f ⟨n, ty, us, zf, cs, co, gen, an, nn, ai, none, ou, cm⟩ (toksDefault d df ++ r) (N + (toksDefault d df).length) res :=
  OkAt.opt (L := defColLoop d f) (fun v => ⟨n, ty, us, zf, cs, co, gen, an, nn, ai, v, ou, cm⟩) (toksDefault d) df
    (fun e h g => defColLoop_default f _ r g e (key8 e (by subst h; exact he) r hs f (hf e h))) H

theorem dl_autoInc (H : DL d f ⟨n, ty, us, zf, cs, co, gen, an, nn, ai, df, ou, cm⟩ r N res) :
    DL d f ⟨n, ty, us, zf, cs, co, gen, an, nn, false, df, ou, cm⟩ (flag ai [opTok "AUTO_INCREMENT"] ++ r)
      (N + (flag ai [opTok "AUTO_INCREMENT"]).length) res :=
  OkAt.flag (L := defColLoop d f) (fun b => ⟨n, ty, us, zf, cs, co, gen, an, nn, b, df, ou, cm⟩) _ ai (defColLoop_autoInc f _ r) H

theorem dl_notNull (H : DL d f ⟨n, ty, us, zf, cs, co, gen, an, nn, ai, df, ou, cm⟩ r N res) :
    DL d f ⟨n, ty, us, zf, cs, co, gen, an, false, ai, df, ou, cm⟩ (flag nn [opTok "NOT", opTok "NULL"] ++ r)
      (N + (flag nn [opTok "NOT", opTok "NULL"]).length) res :=
  OkAt.flag (L := defColLoop d f) (fun b => ⟨n, ty, us, zf, cs, co, gen, an, b, ai, df, ou, cm⟩) _ nn (defColLoop_notNull f _ r) H

theorem dl_allowNull (H : DL d f ⟨n, ty, us, zf, cs, co, gen, an, nn, ai, df, ou, cm⟩ r N res) :
    DL d f ⟨n, ty, us, zf, cs, co, gen, false, nn, ai, df, ou, cm⟩ (flag an [opTok "NULL"] ++ r)
      (N + (flag an [opTok "NULL"]).length) res :=
  OkAt.flag (L := defColLoop d f) (fun b => ⟨n, ty, us, zf, cs, co, gen, b, nn, ai, df, ou, cm⟩) _ an (defColLoop_null f _ r) H

theorem dl_generated (hg : genOK d gen = true) (hf : ∀ e m, gen = some ⟨e, some m⟩ → 20 * sizeL (W d noX e 8) + 2 ≤ f)
    (H : DL d f ⟨n, ty, us, zf, cs, co, gen, an, nn, ai, df, ou, cm⟩ r N res) :
    DL d f ⟨n, ty, us, zf, cs, co, none, an, nn, ai, df, ou, cm⟩ (toksGenerated d gen ++ r) (N + (toksGenerated d gen).length) res := by
  rcases gen with _ | ⟨e, _ | m⟩
  · simpa [toksGenerated] using H
  · simp [genOK] at hg
  · simp only [genOK, Bool.and_eq_true] at hg
    have h1 : pCompute d f (W d noX e 8) = .ok (e, []) := by simpa using key8 e hg.1 [] rfl f (hf e m rfl)
    exact H.piece (List.cons_ne_nil _ _) (fun g => defColLoop_generated f _ r g e m h1 hg.2)

theorem dl_collate (H : DL d f ⟨n, ty, us, zf, cs, co, gen, an, nn, ai, df, ou, cm⟩ r N res) :
    DL d f ⟨n, ty, us, zf, cs, none, gen, an, nn, ai, df, ou, cm⟩ (toksCollate co ++ r) (N + (toksCollate co).length) res :=
  OkAt.opt (L := defColLoop d f) (fun v => ⟨n, ty, us, zf, cs, v, gen, an, nn, ai, df, ou, cm⟩) toksCollate co
    (fun s _ g => defColLoop_collate f _ r g s) H

theorem dl_charset (H : DL d f ⟨n, ty, us, zf, cs, co, gen, an, nn, ai, df, ou, cm⟩ r N res) :
    DL d f ⟨n, ty, us, zf, none, co, gen, an, nn, ai, df, ou, cm⟩ (toksCharset cs ++ r) (N + (toksCharset cs).length) res :=
  OkAt.opt (L := defColLoop d f) (fun v => ⟨n, ty, us, zf, v, co, gen, an, nn, ai, df, ou, cm⟩) toksCharset cs
    (fun s _ g => defColLoop_charset f _ r g s) H

theorem dl_zerofill (H : DL d f ⟨n, ty, us, zf, cs, co, gen, an, nn, ai, df, ou, cm⟩ r N res) :
    DL d f ⟨n, ty, us, false, cs, co, gen, an, nn, ai, df, ou, cm⟩ (flag zf [opTok "ZEROFILL"] ++ r)
      (N + (flag zf [opTok "ZEROFILL"]).length) res :=
  OkAt.flag (L := defColLoop d f) (fun b => ⟨n, ty, us, b, cs, co, gen, an, nn, ai, df, ou, cm⟩) _ zf (defColLoop_zerofill f _ r) H

theorem dl_unsigned (H : DL d f ⟨n, ty, us, zf, cs, co, gen, an, nn, ai, df, ou, cm⟩ r N res) :
    DL d f ⟨n, ty, false, zf, cs, co, gen, an, nn, ai, df, ou, cm⟩ (flag us [opTok "UNSIGNED"] ++ r)
      (N + (flag us [opTok "UNSIGNED"]).length) res :=
  OkAt.flag (L := defColLoop d f) (fun b => ⟨n, ty, b, zf, cs, co, gen, an, nn, ai, df, ou, cm⟩) _ us (defColLoop_unsigned f _ r) H
end steps

end TD
