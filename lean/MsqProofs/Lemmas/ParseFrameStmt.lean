import MsqProofs.Lemmas.ParseFrame
/-! GENERATED by tools/gen_frame.py — C10: frame lemmas and fuel monotonicity for every function of MsqModel/Parse/Stmt.lean.  Written by hand: `mono_defColLoop`, `mono_createOpts` (tools/hand/ParseFrameStmt.lean.in, put in by tools/hand_blocks.py) -/
set_option linter.unusedVariables false
open Lex PM
namespace PM

/-! ### running a parser on every segment of a bracket group: only the fuel changes -/
theorem eachClosed_mono {α : Type} (p q : List Tok → R α) (hpq : ∀ sg, MonoRel (p sg) (q sg)) :
    ∀ segs, MonoRel (eachClosed p segs) (eachClosed q segs) := by
  intro segs
  induction segs with
  | nil => intro r h; simpa [eachClosed] using h
  | cons sg rest ih =>
    intro r h
    have h1 := hpq sg
    unfold eachClosed at h ⊢
    split_run <;> grind -funext (splits := 60) (gen := 40) (instances := 20000) [closed_ok]
theorem mono_each_pCompute {X : List Tok} {d : Gen.D} {f f' : Nat} (hF : FrameF X d f f') (segs : List (List Tok)) : MonoRel (eachClosed (PM.pCompute d f) segs) (eachClosed (PM.pCompute d f') segs) :=
  eachClosed_mono _ _ (fun sg => hF.m_pCompute sg) segs
grind_pattern mono_each_pCompute => FrameF X d f f', eachClosed (PM.pCompute d f) segs

/-- `FrameRel`, except that a CREATE TABLE statement that is not followed by anything consumes the separator itself
(`parser.py:2017`): the framed run then returns the tokens AFTER the separator -/
def SwallowRel (X : List Tok) (a b : R Ast.Stmt) : Prop :=
  ∀ v r, a = .ok (v, r) → b = .ok (v, r ++ X) ∨ (r = [] ∧ (∃ c, v = .createTable c) ∧ b = .ok (v, X.drop 1))
@[grind =] theorem swallowRel_ok (X : List Tok) (v : Ast.Stmt) (r : List Tok) (b : R Ast.Stmt) :
    SwallowRel X (.ok (v, r)) b = (b = .ok (v, r ++ X) ∨ (r = [] ∧ (∃ c, v = .createTable c) ∧ b = .ok (v, X.drop 1))) := by
  simp [SwallowRel]
@[grind =] theorem swallowRel_error (X : List Tok) (e : Err) (b : R Ast.Stmt) : SwallowRel X (.error e) b = True := by simp [SwallowRel]

theorem frame_pTblName {X : List Tok} (hX : SemiHead X) : ∀ ts, FrameRel X (PM.pTblName ts) (PM.pTblName (ts ++ X)) := by
  have hX' := hX
  obtain ⟨semi, Y, rfl, hs⟩ := hX
  intro ts v r h
  unfold pTblName at h ⊢
  split_run <;> grind -funext (splits := 60) (gen := 40) (instances := 20000) [closed_ok]
grind_pattern frame_pTblName => SemiHead X, (PM.pTblName ts), (PM.pTblName (ts ++ X))

theorem frame_pInsertType {X : List Tok} (hX : SemiHead X) : ∀ ts, FrameRel X (PM.pInsertType ts) (PM.pInsertType (ts ++ X)) := by
  have hX' := hX
  obtain ⟨semi, Y, rfl, hs⟩ := hX
  intro ts v r h
  unfold pInsertType at h ⊢
  split_run <;> grind -funext (splits := 60) (gen := 40) (instances := 20000) [closed_ok]
grind_pattern frame_pInsertType => SemiHead X, (PM.pInsertType ts), (PM.pInsertType (ts ++ X))

theorem frame_configStringLoop {X : List Tok} (hX : SemiHead X) : ∀ g acc ts g', g ≤ g' → FrameRel X (PM.configStringLoop g acc ts) (PM.configStringLoop g' acc (ts ++ X)) := by
  have hX' := hX
  obtain ⟨semi, Y, rfl, hs⟩ := hX
  intro g
  induction g with
  | zero => intro acc ts g' _ v r h; simp [configStringLoop] at h
  | succ g ih =>
    intro acc ts g' hg v r h
    obtain ⟨k, rfl⟩ : ∃ k, g' = k + 1 := ⟨g' - 1, by omega⟩
    have ih' := fun acc ts => ih acc ts k (by omega)
    clear ih
    unfold configStringLoop at h ⊢
    split_run <;> grind -funext (splits := 60) (gen := 40) (instances := 20000) [closed_ok]
grind_pattern frame_configStringLoop => SemiHead X, (PM.configStringLoop g acc ts), (PM.configStringLoop g' acc (ts ++ X))

theorem frame_pConfigString {X : List Tok} (hX : SemiHead X) : ∀ ts, FrameRel X (PM.pConfigString ts) (PM.pConfigString (ts ++ X)) := by
  have hX' := hX
  obtain ⟨semi, Y, rfl, hs⟩ := hX
  intro ts v r h
  unfold pConfigString at h ⊢
  split_run <;> grind -funext (splits := 60) (gen := 40) (instances := 20000) [closed_ok]
grind_pattern frame_pConfigString => SemiHead X, (PM.pConfigString ts), (PM.pConfigString (ts ++ X))

theorem frame_pConfigStrExpr {X : List Tok} (hX : SemiHead X) : ∀ ts, FrameRel X (PM.pConfigStrExpr ts) (PM.pConfigStrExpr (ts ++ X)) := by
  have hX' := hX
  obtain ⟨semi, Y, rfl, hs⟩ := hX
  intro ts v r h
  unfold pConfigStrExpr at h ⊢
  split_run <;> grind -funext (splits := 60) (gen := 40) (instances := 20000) [closed_ok]
grind_pattern frame_pConfigStrExpr => SemiHead X, (PM.pConfigStrExpr ts), (PM.pConfigStrExpr (ts ++ X))

theorem mono_pColType {X : List Tok} {d : Gen.D} {f f' : Nat} (hF : FrameF X d f f') : ∀ ts, MonoRel (PM.pColType d f ts) (PM.pColType d f' ts) := by
  intro ts r h
  have m_pCompute := fun y0 r hh => hF.m_pCompute y0 r hh
  have me_pCompute := fun segs r hh => mono_each_pCompute hF segs r hh
  clear hF
  unfold pColType at h ⊢
  split_run <;> grind -funext (splits := 60) [closed_ok]
grind_pattern mono_pColType => FrameF X d f f', PM.pColType d f ts

theorem frame_pColType {X : List Tok} (hX : SemiHead X) {d : Gen.D} {f f' : Nat} (hF : FrameF X d f f') : ∀ ts, FrameRel X (PM.pColType d f ts) (PM.pColType d f' (ts ++ X)) := by
  have hX' := hX
  obtain ⟨semi, Y, rfl, hs⟩ := hX
  intro ts v r h
  unfold pColType at h ⊢
  split_run <;> grind -funext (splits := 60) (gen := 40) (instances := 20000) [closed_ok]
grind_pattern frame_pColType => FrameF X d f f', (PM.pColType d f ts)

theorem mono_pPartitionItem {X : List Tok} {d : Gen.D} {f f' : Nat} (hF : FrameF X d f f') : ∀ ts, MonoRel (PM.pPartitionItem d f ts) (PM.pPartitionItem d f' ts) := by
  intro ts r h
  have m_pCompute := fun y0 r hh => hF.m_pCompute y0 r hh
  clear hF
  unfold pPartitionItem at h ⊢
  split_run <;> grind -funext (splits := 60) [closed_ok]
grind_pattern mono_pPartitionItem => FrameF X d f f', PM.pPartitionItem d f ts

theorem mono_each_pPartitionItem {X : List Tok} {d : Gen.D} {f f' : Nat} (hF : FrameF X d f f') (segs : List (List Tok)) : MonoRel (eachClosed (PM.pPartitionItem d f) segs) (eachClosed (PM.pPartitionItem d f') segs) :=
  eachClosed_mono _ _ (mono_pPartitionItem hF) segs
grind_pattern mono_each_pPartitionItem => FrameF X d f f', eachClosed (PM.pPartitionItem d f) segs

theorem mono_pPartition {X : List Tok} {d : Gen.D} {f f' : Nat} (hF : FrameF X d f f') : ∀ already ts, MonoRel (PM.pPartition d f already ts) (PM.pPartition d f' already ts) := by
  intro already ts r h
  have m_pPartitionItem := fun y0 r hh => mono_pPartitionItem hF y0 r hh
  have me_pPartitionItem := fun segs r hh => mono_each_pPartitionItem hF segs r hh
  clear hF
  unfold pPartition at h ⊢
  split_run <;> grind -funext (splits := 60) [closed_ok]
grind_pattern mono_pPartition => FrameF X d f f', PM.pPartition d f already ts

theorem frame_pPartition {X : List Tok} (hX : SemiHead X) {d : Gen.D} {f f' : Nat} (hF : FrameF X d f f') : ∀ already ts, FrameRel X (PM.pPartition d f already ts) (PM.pPartition d f' already (ts ++ X)) := by
  have hX' := hX
  obtain ⟨semi, Y, rfl, hs⟩ := hX
  intro already ts v r h
  unfold pPartition at h ⊢
  split_run <;> grind -funext (splits := 60) (gen := 40) (instances := 20000) [closed_ok]
grind_pattern frame_pPartition => FrameF X d f f', (PM.pPartition d f already ts)

theorem frame_pFkAction {X : List Tok} (hX : SemiHead X) : ∀ ts, FrameRel X (PM.pFkAction ts) (PM.pFkAction (ts ++ X)) := by
  have hX' := hX
  obtain ⟨semi, Y, rfl, hs⟩ := hX
  intro ts v r h
  unfold pFkAction at h ⊢
  split_run <;> grind -funext (splits := 60) (gen := 40) (instances := 20000) [closed_ok]
grind_pattern frame_pFkAction => SemiHead X, (PM.pFkAction ts), (PM.pFkAction (ts ++ X))

theorem frame_pOptFkAction {X : List Tok} (hX : SemiHead X) : ∀ ts a b, a ≠ ";" → b ≠ ";" → FrameRel X (PM.pOptFkAction ts a b) (PM.pOptFkAction (ts ++ X) a b) := by
  have hX' := hX
  obtain ⟨semi, Y, rfl, hs⟩ := hX
  intro ts a b ha hb v r h
  unfold pOptFkAction at h ⊢
  split_run <;> grind -funext (splits := 60) (gen := 40) (instances := 20000) [closed_ok]
grind_pattern frame_pOptFkAction => SemiHead X, (PM.pOptFkAction ts a b), (PM.pOptFkAction (ts ++ X) a b)

theorem frame_pNameList {X : List Tok} (hX : SemiHead X) : ∀ ts, FrameRel X (PM.pNameList ts) (PM.pNameList (ts ++ X)) := by
  have hX' := hX
  obtain ⟨semi, Y, rfl, hs⟩ := hX
  intro ts v r h
  unfold pNameList at h ⊢
  split_run <;> grind -funext (splits := 60) (gen := 40) (instances := 20000) [closed_ok]
grind_pattern frame_pNameList => SemiHead X, (PM.pNameList ts), (PM.pNameList (ts ++ X))

theorem frame_pForeignKey {X : List Tok} (hX : SemiHead X) : ∀ ts, FrameRel X (PM.pForeignKey ts) (PM.pForeignKey (ts ++ X)) := by
  have hX' := hX
  obtain ⟨semi, Y, rfl, hs⟩ := hX
  intro ts v r h
  unfold pForeignKey at h ⊢
  split_run <;> grind -funext (splits := 60) (gen := 40) (instances := 20000) [closed_ok]
grind_pattern frame_pForeignKey => SemiHead X, (PM.pForeignKey ts), (PM.pForeignKey (ts ++ X))

theorem frame_pIndexCols {X : List Tok} (hX : SemiHead X) : ∀ ts, FrameRel X (PM.pIndexCols ts) (PM.pIndexCols (ts ++ X)) := by
  have hX' := hX
  obtain ⟨semi, Y, rfl, hs⟩ := hX
  intro ts v r h
  unfold pIndexCols at h ⊢
  split_run <;> grind -funext (splits := 60) (gen := 40) (instances := 20000) [closed_ok]
grind_pattern frame_pIndexCols => SemiHead X, (PM.pIndexCols ts), (PM.pIndexCols (ts ++ X))

theorem frame_pOptSrc {X : List Tok} (hX : SemiHead X) : ∀ ts k, k ≠ ";" → FrameRel X (PM.pOptSrc ts k) (PM.pOptSrc (ts ++ X) k) := by
  have hX' := hX
  obtain ⟨semi, Y, rfl, hs⟩ := hX
  intro ts k hk v r h
  unfold pOptSrc at h ⊢
  split_run <;> grind -funext (splits := 60) (gen := 40) (instances := 20000) [closed_ok]
grind_pattern frame_pOptSrc => SemiHead X, (PM.pOptSrc ts k), (PM.pOptSrc (ts ++ X) k)

theorem frame_pIndexTail {X : List Tok} (hX : SemiHead X) : ∀ kind name ts, FrameRel X (PM.pIndexTail kind name ts) (PM.pIndexTail kind name (ts ++ X)) := by
  have hX' := hX
  obtain ⟨semi, Y, rfl, hs⟩ := hX
  intro kind name ts v r h
  unfold pIndexTail at h ⊢
  split_run <;> grind -funext (splits := 60) (gen := 40) (instances := 20000) [closed_ok]
grind_pattern frame_pIndexTail => SemiHead X, (PM.pIndexTail kind name ts), (PM.pIndexTail kind name (ts ++ X))

theorem frame_pPrimaryIndex {X : List Tok} (hX : SemiHead X) : ∀ ts, FrameRel X (PM.pPrimaryIndex ts) (PM.pPrimaryIndex (ts ++ X)) := by
  have hX' := hX
  obtain ⟨semi, Y, rfl, hs⟩ := hX
  intro ts v r h
  unfold pPrimaryIndex at h ⊢
  split_run <;> grind -funext (splits := 60) (gen := 40) (instances := 20000) [closed_ok]
grind_pattern frame_pPrimaryIndex => SemiHead X, (PM.pPrimaryIndex ts), (PM.pPrimaryIndex (ts ++ X))

theorem frame_pNamedIndex {X : List Tok} (hX : SemiHead X) : ∀ kind kws ts, FrameRel X (PM.pNamedIndex kind kws ts) (PM.pNamedIndex kind kws (ts ++ X)) := by
  have hX' := hX
  obtain ⟨semi, Y, rfl, hs⟩ := hX
  intro kind kws ts v r h
  unfold pNamedIndex at h ⊢
  split_run <;> grind -funext (splits := 60) (gen := 40) (instances := 20000) [closed_ok]
grind_pattern frame_pNamedIndex => SemiHead X, (PM.pNamedIndex kind kws ts), (PM.pNamedIndex kind kws (ts ++ X))

theorem frame_pUniqueIndex {X : List Tok} (hX : SemiHead X) : ∀ ts, FrameRel X (PM.pUniqueIndex ts) (PM.pUniqueIndex (ts ++ X)) := by
  intro ts; unfold pUniqueIndex; exact frame_pNamedIndex hX _ _ ts
grind_pattern frame_pUniqueIndex => SemiHead X, PM.pUniqueIndex ts, PM.pUniqueIndex (ts ++ X)

theorem frame_pNormalIndex {X : List Tok} (hX : SemiHead X) : ∀ ts, FrameRel X (PM.pNormalIndex ts) (PM.pNormalIndex (ts ++ X)) := by
  intro ts; unfold pNormalIndex; exact frame_pNamedIndex hX _ _ ts
grind_pattern frame_pNormalIndex => SemiHead X, PM.pNormalIndex ts, PM.pNormalIndex (ts ++ X)

theorem frame_pFulltextIndex {X : List Tok} (hX : SemiHead X) : ∀ ts, FrameRel X (PM.pFulltextIndex ts) (PM.pFulltextIndex (ts ++ X)) := by
  intro ts; unfold pFulltextIndex; exact frame_pNamedIndex hX _ _ ts
grind_pattern frame_pFulltextIndex => SemiHead X, PM.pFulltextIndex ts, PM.pFulltextIndex (ts ++ X)

theorem mono_pGenerated {X : List Tok} {d : Gen.D} {f f' : Nat} (hF : FrameF X d f f') : ∀ ts, MonoRel (PM.pGenerated d f ts) (PM.pGenerated d f' ts) := by
  intro ts r h
  have m_pCompute := fun y0 r hh => hF.m_pCompute y0 r hh
  clear hF
  unfold pGenerated at h ⊢
  split_run <;> grind -funext (splits := 60) [closed_ok]
grind_pattern mono_pGenerated => FrameF X d f f', PM.pGenerated d f ts

theorem frame_pGenerated {X : List Tok} (hX : SemiHead X) {d : Gen.D} {f f' : Nat} (hF : FrameF X d f f') : ∀ ts, FrameRel X (PM.pGenerated d f ts) (PM.pGenerated d f' (ts ++ X)) := by
  have hX' := hX
  obtain ⟨semi, Y, rfl, hs⟩ := hX
  intro ts v r h
  unfold pGenerated at h ⊢
  split_run <;> grind -funext (splits := 60) (gen := 40) (instances := 20000) [closed_ok]
grind_pattern frame_pGenerated => FrameF X d f f', (PM.pGenerated d f ts)

theorem mono_attrLoop {σ : Type} (stop : List Tok → Bool) (attr attr' : List Tok → R (σ → σ)) (h : ∀ ts, MonoRel (attr ts) (attr' ts)) :
    ∀ g c ts, MonoRel (attrLoop stop attr g c ts) (attrLoop stop attr' g c ts) := by
  intro g
  induction g with
  | zero => intro c ts r hh; cases hh
  | succ g ih =>
    intro c ts
    refine attrLoop_cases (P := fun run => MonoRel run (attrLoop stop attr' (g+1) c ts)) stop attr g c ts ?_ ?_ ?_
    · intro hs r hh; cases hh; rw [attrLoop, if_pos hs]
    · intro e _ _ r hh; cases hh
    · intro u r hs hu r' hh; rw [attrLoop, if_neg (by simp [hs]), h ts _ hu]; exact ih (u c) r r' hh

theorem mono_defColAttr {X : List Tok} {d : Gen.D} {f f' : Nat} (hF : FrameF X d f f') : ∀ ts, MonoRel (defColAttr d f ts) (defColAttr d f' ts) := by
  intro ts r h
  have m_pCompute := fun y0 r hh => hF.m_pCompute y0 r hh
  have m_pGenerated := fun y0 r hh => mono_pGenerated hF y0 r hh
  clear hF
  unfold defColAttr at h ⊢
  split_run <;> grind -funext (splits := 60) [closed_ok]

theorem mono_defColLoop {X : List Tok} {d : Gen.D} {f f' : Nat} (hF : FrameF X d f f') : ∀ g c ts, MonoRel (PM.defColLoop d f g c ts) (PM.defColLoop d f' g c ts) := by
  intro g c ts
  rw [defColLoop_eq, defColLoop_eq]
  exact mono_attrLoop _ _ _ (mono_defColAttr hF) g c ts
grind_pattern mono_defColLoop => FrameF X d f f', PM.defColLoop d f g c ts

theorem frame_defColLoop {X : List Tok} (hX : SemiHead X) {d : Gen.D} {f f' : Nat} (hF : FrameF X d f f') : ∀ g c ts g', g ≤ g' → FrameRel X (PM.defColLoop d f g c ts) (PM.defColLoop d f' g' c (ts ++ X)) := by
  have hX' := hX
  obtain ⟨semi, Y, rfl, hs⟩ := hX
  intro g
  induction g with
  | zero => intro c ts g' _ v r h; simp [defColLoop] at h
  | succ g ih =>
    intro c ts g' hg v r h
    obtain ⟨k, rfl⟩ : ∃ k, g' = k + 1 := ⟨g' - 1, by omega⟩
    have ih' := fun c ts => ih c ts k (by omega)
    clear ih
    unfold defColLoop at h ⊢
    split_run <;> grind -funext (splits := 60) (gen := 40) (instances := 20000) [closed_ok]
grind_pattern frame_defColLoop => FrameF X d f f', (PM.defColLoop d f g c ts), (PM.defColLoop d f' g' c (ts ++ X))

theorem mono_pDefCol {X : List Tok} {d : Gen.D} {f f' : Nat} (hF : FrameF X d f f') : ∀ ts, MonoRel (PM.pDefCol d f ts) (PM.pDefCol d f' ts) := by
  intro ts r h
  have m_pColType := fun y0 r hh => mono_pColType hF y0 r hh
  have m_defColLoop := fun y0 y1 y2 r hh => mono_defColLoop hF y0 y1 y2 r hh
  clear hF
  unfold pDefCol at h ⊢
  split_run <;> grind -funext (splits := 60) [closed_ok]
grind_pattern mono_pDefCol => FrameF X d f f', PM.pDefCol d f ts

theorem mono_each_pDefCol {X : List Tok} {d : Gen.D} {f f' : Nat} (hF : FrameF X d f f') (segs : List (List Tok)) : MonoRel (eachClosed (PM.pDefCol d f) segs) (eachClosed (PM.pDefCol d f') segs) :=
  eachClosed_mono _ _ (mono_pDefCol hF) segs
grind_pattern mono_each_pDefCol => FrameF X d f f', eachClosed (PM.pDefCol d f) segs

theorem frame_pDefCol {X : List Tok} (hX : SemiHead X) {d : Gen.D} {f f' : Nat} (hF : FrameF X d f f') : ∀ ts, FrameRel X (PM.pDefCol d f ts) (PM.pDefCol d f' (ts ++ X)) := by
  have hX' := hX
  obtain ⟨semi, Y, rfl, hs⟩ := hX
  intro ts v r h
  unfold pDefCol at h ⊢
  split_run <;> grind -funext (splits := 60) (gen := 40) (instances := 20000) [closed_ok]
grind_pattern frame_pDefCol => FrameF X d f f', (PM.pDefCol d f ts)

theorem mono_pColOrIdx {X : List Tok} {d : Gen.D} {f f' : Nat} (hF : FrameF X d f f') : ∀ ts, MonoRel (PM.pColOrIdx d f ts) (PM.pColOrIdx d f' ts) := by
  intro ts r h
  have m_pDefCol := fun y0 r hh => mono_pDefCol hF y0 r hh
  clear hF
  unfold pColOrIdx at h ⊢
  split_run <;> grind -funext (splits := 60) [closed_ok]
grind_pattern mono_pColOrIdx => FrameF X d f f', PM.pColOrIdx d f ts

theorem frame_pColOrIdx {X : List Tok} (hX : SemiHead X) {d : Gen.D} {f f' : Nat} (hF : FrameF X d f f') : ∀ ts, FrameRel X (PM.pColOrIdx d f ts) (PM.pColOrIdx d f' (ts ++ X)) := by
  have hX' := hX
  obtain ⟨semi, Y, rfl, hs⟩ := hX
  intro ts v r h
  unfold pColOrIdx at h ⊢
  split_run <;> grind -funext (splits := 60) (gen := 40) (instances := 20000) [closed_ok]
grind_pattern frame_pColOrIdx => FrameF X d f f', (PM.pColOrIdx d f ts)

theorem mono_pWhereOrderLimit {X : List Tok} {d : Gen.D} {f f' : Nat} (hF : FrameF X d f f') : ∀ ts, MonoRel (PM.pWhereOrderLimit d f ts) (PM.pWhereOrderLimit d f' ts) := by
  intro ts r h
  have m_pOrderByOpt := fun y0 r hh => hF.m_pOrderByOpt y0 r hh
  have m_pOptOr := fun y0 y1 r hh => hF.m_pOptOr y0 y1 r hh
  clear hF
  unfold pWhereOrderLimit at h ⊢
  split_run <;> grind -funext (splits := 60) [closed_ok]
grind_pattern mono_pWhereOrderLimit => FrameF X d f f', PM.pWhereOrderLimit d f ts

theorem frame_pWhereOrderLimit {X : List Tok} (hX : SemiHead X) {d : Gen.D} {f f' : Nat} (hF : FrameF X d f f') : ∀ ts, FrameRel X (PM.pWhereOrderLimit d f ts) (PM.pWhereOrderLimit d f' (ts ++ X)) := by
  have hX' := hX
  obtain ⟨semi, Y, rfl, hs⟩ := hX
  intro ts v r h
  unfold pWhereOrderLimit at h ⊢
  split_run <;> grind -funext (splits := 60) (gen := 40) (instances := 20000) [closed_ok]
grind_pattern frame_pWhereOrderLimit => FrameF X d f f', (PM.pWhereOrderLimit d f ts)

theorem mono_valuesLoop {X : List Tok} {d : Gen.D} {f f' : Nat} (hF : FrameF X d f f') : ∀ g acc ts, MonoRel (PM.valuesLoop d f g acc ts) (PM.valuesLoop d f' g acc ts) := by
  intro g
  induction g with
  | zero => intro acc ts r h; simp [valuesLoop] at h
  | succ g ih =>
    intro acc ts r h
    have m_pCompute := fun y0 r hh => hF.m_pCompute y0 r hh
    have me_pCompute := fun segs r hh => mono_each_pCompute hF segs r hh
    clear hF
    unfold valuesLoop at h ⊢
    split_run <;> grind -funext (splits := 60) [closed_ok]
grind_pattern mono_valuesLoop => FrameF X d f f', PM.valuesLoop d f g acc ts

theorem frame_valuesLoop {X : List Tok} (hX : SemiHead X) {d : Gen.D} {f f' : Nat} (hF : FrameF X d f f') : ∀ g acc ts g', g ≤ g' → FrameRel X (PM.valuesLoop d f g acc ts) (PM.valuesLoop d f' g' acc (ts ++ X)) := by
  have hX' := hX
  obtain ⟨semi, Y, rfl, hs⟩ := hX
  intro g
  induction g with
  | zero => intro acc ts g' _ v r h; simp [valuesLoop] at h
  | succ g ih =>
    intro acc ts g' hg v r h
    obtain ⟨k, rfl⟩ : ∃ k, g' = k + 1 := ⟨g' - 1, by omega⟩
    have ih' := fun acc ts => ih acc ts k (by omega)
    clear ih
    unfold valuesLoop at h ⊢
    split_run <;> grind -funext (splits := 60) (gen := 40) (instances := 20000) [closed_ok]
grind_pattern frame_valuesLoop => FrameF X d f f', (PM.valuesLoop d f g acc ts), (PM.valuesLoop d f' g' acc (ts ++ X))

theorem mono_pOptPartition {X : List Tok} {d : Gen.D} {f f' : Nat} (hF : FrameF X d f f') : ∀ ts, MonoRel (PM.pOptPartition d f ts) (PM.pOptPartition d f' ts) := by
  intro ts r h
  have m_pPartition := fun y0 y1 r hh => mono_pPartition hF y0 y1 r hh
  clear hF
  unfold pOptPartition at h ⊢
  split_run <;> grind -funext (splits := 60) [closed_ok]
grind_pattern mono_pOptPartition => FrameF X d f f', PM.pOptPartition d f ts

theorem frame_pOptPartition {X : List Tok} (hX : SemiHead X) {d : Gen.D} {f f' : Nat} (hF : FrameF X d f f') : ∀ ts, FrameRel X (PM.pOptPartition d f ts) (PM.pOptPartition d f' (ts ++ X)) := by
  have hX' := hX
  obtain ⟨semi, Y, rfl, hs⟩ := hX
  intro ts v r h
  unfold pOptPartition at h ⊢
  split_run <;> grind -funext (splits := 60) (gen := 40) (instances := 20000) [closed_ok]
grind_pattern frame_pOptPartition => FrameF X d f f', (PM.pOptPartition d f ts)

theorem frame_pOptColumns {X : List Tok} (hX : SemiHead X) : ∀ ts, FrameRel X (PM.pOptColumns ts) (PM.pOptColumns (ts ++ X)) := by
  have hX' := hX
  obtain ⟨semi, Y, rfl, hs⟩ := hX
  intro ts v r h
  unfold pOptColumns at h ⊢
  split_run <;> grind -funext (splits := 60) (gen := 40) (instances := 20000) [closed_ok]
grind_pattern frame_pOptColumns => SemiHead X, (PM.pOptColumns ts), (PM.pOptColumns (ts ++ X))

theorem mono_pWithOpt {X : List Tok} {d : Gen.D} {f f' : Nat} (hF : FrameF X d f f') : ∀ w ts, MonoRel (PM.pWithOpt d f w ts) (PM.pWithOpt d f' w ts) := by
  intro w ts r h
  have m_pWith := fun y0 r hh => hF.m_pWith y0 r hh
  clear hF
  unfold pWithOpt at h ⊢
  split_run <;> grind -funext (splits := 60) [closed_ok]
grind_pattern mono_pWithOpt => FrameF X d f f', PM.pWithOpt d f w ts

theorem frame_pWithOpt {X : List Tok} (hX : SemiHead X) {d : Gen.D} {f f' : Nat} (hF : FrameF X d f f') : ∀ w ts, FrameRel X (PM.pWithOpt d f w ts) (PM.pWithOpt d f' w (ts ++ X)) := by
  have hX' := hX
  obtain ⟨semi, Y, rfl, hs⟩ := hX
  intro w ts v r h
  unfold pWithOpt at h ⊢
  split_run <;> grind -funext (splits := 60) (gen := 40) (instances := 20000) [closed_ok]
grind_pattern frame_pWithOpt => FrameF X d f f', (PM.pWithOpt d f w ts)

theorem mono_pInsert {X : List Tok} {d : Gen.D} {f f' : Nat} (hF : FrameF X d f f') : ∀ w ts, MonoRel (PM.pInsert d f w ts) (PM.pInsert d f' w ts) := by
  intro w ts r h
  have m_pSelectStmt := fun y0 y1 r hh => hF.m_pSelectStmt y0 y1 r hh
  have m_valuesLoop := fun y0 y1 y2 r hh => mono_valuesLoop hF y0 y1 y2 r hh
  have m_pOptPartition := fun y0 r hh => mono_pOptPartition hF y0 r hh
  have m_pWithOpt := fun y0 y1 r hh => mono_pWithOpt hF y0 y1 r hh
  clear hF
  unfold pInsert at h ⊢
  split_run <;> grind -funext (splits := 60) [closed_ok]
grind_pattern mono_pInsert => FrameF X d f f', PM.pInsert d f w ts

theorem frame_pInsert {X : List Tok} (hX : SemiHead X) {d : Gen.D} {f f' : Nat} (hF : FrameF X d f f') : ∀ w ts, FrameRel X (PM.pInsert d f w ts) (PM.pInsert d f' w (ts ++ X)) := by
  have hX' := hX
  obtain ⟨semi, Y, rfl, hs⟩ := hX
  intro w ts v r h
  unfold pInsert at h ⊢
  split_run <;> grind -funext (splits := 60) (gen := 40) (instances := 20000) [closed_ok]
grind_pattern frame_pInsert => FrameF X d f f', (PM.pInsert d f w ts)

theorem frame_pSet {X : List Tok} (hX : SemiHead X) : ∀ ts, FrameRel X (PM.pSet ts) (PM.pSet (ts ++ X)) := by
  have hX' := hX
  obtain ⟨semi, Y, rfl, hs⟩ := hX
  intro ts v r h
  unfold pSet at h ⊢
  split_run <;> grind -funext (splits := 60) (gen := 40) (instances := 20000) [closed_ok]
grind_pattern frame_pSet => SemiHead X, (PM.pSet ts), (PM.pSet (ts ++ X))

theorem frame_optEqSrc {X : List Tok} (hX : SemiHead X) : ∀ ts, FrameRel X (PM.optEqSrc ts) (PM.optEqSrc (ts ++ X)) := by
  have hX' := hX
  obtain ⟨semi, Y, rfl, hs⟩ := hX
  intro ts v r h
  unfold optEqSrc at h ⊢
  split_run <;> grind -funext (splits := 60) (gen := 40) (instances := 20000) [closed_ok]
grind_pattern frame_optEqSrc => SemiHead X, (PM.optEqSrc ts), (PM.optEqSrc (ts ++ X))

theorem mono_createElems {X : List Tok} {d : Gen.D} {f f' : Nat} (hF : FrameF X d f f') : ∀ segs c, MonoRel (PM.createElems d f segs c) (PM.createElems d f' segs c) := by
  intro segs
  induction segs with
  | nil => intro c r h; simpa [createElems] using h
  | cons sg rest ih =>
    intro c r h
    have m_pDefCol := fun y0 r hh => mono_pDefCol hF y0 r hh
    clear hF
    unfold createElems at h ⊢
    split_run <;> grind -funext (splits := 60) [closed_ok]
grind_pattern mono_createElems => FrameF X d f f', PM.createElems d f segs c

theorem mono_createOpt {X : List Tok} {d : Gen.D} {f f' : Nat} (hF : FrameF X d f f') : ∀ ts, MonoRel (createOpt d f ts) (createOpt d f' ts) := by
  intro ts r h
  have m_pDefCol := fun y0 r hh => mono_pDefCol hF y0 r hh
  have me_pDefCol := fun segs r hh => mono_each_pDefCol hF segs r hh
  clear hF
  unfold createOpt at h ⊢
  split_run <;> grind -funext (splits := 60) [closed_ok]

theorem mono_createOpts {X : List Tok} {d : Gen.D} {f f' : Nat} (hF : FrameF X d f f') : ∀ g c ts, MonoRel (PM.createOpts d f g c ts) (PM.createOpts d f' g c ts) := by
  intro g c ts
  rw [createOpts_eq, createOpts_eq]
  exact mono_attrLoop _ _ _ (mono_createOpt hF) g c ts
grind_pattern mono_createOpts => FrameF X d f f', PM.createOpts d f g c ts

theorem frame_createOpts {X : List Tok} (hX : SemiHead X) {d : Gen.D} {f f' : Nat} (hF : FrameF X d f f') : ∀ g c ts g', g ≤ g' → FrameRel X (PM.createOpts d f g c ts) (PM.createOpts d f' g' c (ts ++ X)) := by
  have hX' := hX
  obtain ⟨semi, Y, rfl, hs⟩ := hX
  intro g
  induction g with
  | zero => intro c ts g' _ v r h; simp [createOpts] at h
  | succ g ih =>
    intro c ts g' hg v r h
    obtain ⟨k, rfl⟩ : ∃ k, g' = k + 1 := ⟨g' - 1, by omega⟩
    have ih' := fun c ts => ih c ts k (by omega)
    clear ih
    have hK0 : kwsNoSemi ["ROW", "FORMAT", "DELIMITED", "FIELDS", "TERMINATED", "BY"] = true := by decide
    unfold createOpts at h ⊢
    split_run <;> grind -funext (splits := 60) (gen := 40) (instances := 20000) [closed_ok]
grind_pattern frame_createOpts => FrameF X d f f', (PM.createOpts d f g c ts), (PM.createOpts d f' g' c (ts ++ X))

theorem mono_pCreateTable {X : List Tok} {d : Gen.D} {f f' : Nat} (hF : FrameF X d f f') : ∀ ts, MonoRel (PM.pCreateTable d f ts) (PM.pCreateTable d f' ts) := by
  intro ts r h
  have m_pSelectStmt := fun y0 y1 r hh => hF.m_pSelectStmt y0 y1 r hh
  have m_createElems := fun y0 y1 r hh => mono_createElems hF y0 y1 r hh
  have m_createOpts := fun y0 y1 y2 r hh => mono_createOpts hF y0 y1 y2 r hh
  clear hF
  unfold pCreateTable at h ⊢
  split_run <;> grind -funext (splits := 60) [closed_ok]
grind_pattern mono_pCreateTable => FrameF X d f f', PM.pCreateTable d f ts

theorem frame_pCreateTable {X : List Tok} (hX : SemiHead X) {d : Gen.D} {f f' : Nat} (hF : FrameF X d f f') : ∀ ts, SwallowRel X (PM.pCreateTable d f ts) (PM.pCreateTable d f' (ts ++ X)) := by
  have hX' := hX
  obtain ⟨semi, Y, rfl, hs⟩ := hX
  intro ts v r h
  unfold pCreateTable at h ⊢
  split_run <;> grind -funext (splits := 80) (gen := 40) (instances := 20000) [closed_ok]
grind_pattern frame_pCreateTable => FrameF X d f f', (PM.pCreateTable d f ts)

theorem frame_pDropTable {X : List Tok} (hX : SemiHead X) : ∀ ts, FrameRel X (PM.pDropTable ts) (PM.pDropTable (ts ++ X)) := by
  have hX' := hX
  obtain ⟨semi, Y, rfl, hs⟩ := hX
  intro ts v r h
  unfold pDropTable at h ⊢
  split_run <;> grind -funext (splits := 60) (gen := 40) (instances := 20000) [closed_ok]
grind_pattern frame_pDropTable => SemiHead X, (PM.pDropTable ts), (PM.pDropTable (ts ++ X))

theorem mono_pAnalyze {X : List Tok} {d : Gen.D} {f f' : Nat} (hF : FrameF X d f f') : ∀ ts, MonoRel (PM.pAnalyze d f ts) (PM.pAnalyze d f' ts) := by
  intro ts r h
  have m_pOptPartition := fun y0 r hh => mono_pOptPartition hF y0 r hh
  clear hF
  unfold pAnalyze at h ⊢
  split_run <;> grind -funext (splits := 60) [closed_ok]
grind_pattern mono_pAnalyze => FrameF X d f f', PM.pAnalyze d f ts

theorem frame_pAnalyze {X : List Tok} (hX : SemiHead X) {d : Gen.D} {f f' : Nat} (hF : FrameF X d f f') : ∀ ts, FrameRel X (PM.pAnalyze d f ts) (PM.pAnalyze d f' (ts ++ X)) := by
  have hX' := hX
  obtain ⟨semi, Y, rfl, hs⟩ := hX
  intro ts v r h
  unfold pAnalyze at h ⊢
  split_run <;> grind -funext (splits := 60) (gen := 40) (instances := 20000) [closed_ok]
grind_pattern frame_pAnalyze => FrameF X d f f', (PM.pAnalyze d f ts)

theorem mono_pAlterExpr {X : List Tok} {d : Gen.D} {f f' : Nat} (hF : FrameF X d f f') : ∀ ts, MonoRel (PM.pAlterExpr d f ts) (PM.pAlterExpr d f' ts) := by
  intro ts r h
  have m_pPartition := fun y0 y1 r hh => mono_pPartition hF y0 y1 r hh
  have m_pColOrIdx := fun y0 r hh => mono_pColOrIdx hF y0 r hh
  clear hF
  unfold pAlterExpr at h ⊢
  split_run <;> grind -funext (splits := 60) [closed_ok]
grind_pattern mono_pAlterExpr => FrameF X d f f', PM.pAlterExpr d f ts

theorem frame_pAlterExpr {X : List Tok} (hX : SemiHead X) {d : Gen.D} {f f' : Nat} (hF : FrameF X d f f') : ∀ ts, FrameRel X (PM.pAlterExpr d f ts) (PM.pAlterExpr d f' (ts ++ X)) := by
  have hX' := hX
  obtain ⟨semi, Y, rfl, hs⟩ := hX
  intro ts v r h
  have hK0 : kwsNoSemi ["ADD", "IF", "NOT", "EXISTS", "PARTITION"] = true := by decide
  have hK1 : kwsNoSemi ["DROP", "IF", "EXISTS", "PARTITION"] = true := by decide
  unfold pAlterExpr at h ⊢
  split_run <;> grind -funext (splits := 60) (gen := 40) (instances := 20000) [closed_ok]
grind_pattern frame_pAlterExpr => FrameF X d f f', (PM.pAlterExpr d f ts)

theorem mono_alterLoop {X : List Tok} {d : Gen.D} {f f' : Nat} (hF : FrameF X d f f') : ∀ g acc ts, MonoRel (PM.alterLoop d f g acc ts) (PM.alterLoop d f' g acc ts) := by
  intro g
  induction g with
  | zero => intro acc ts r h; simp [alterLoop] at h
  | succ g ih =>
    intro acc ts r h
    have m_pAlterExpr := fun y0 r hh => mono_pAlterExpr hF y0 r hh
    clear hF
    unfold alterLoop at h ⊢
    split_run <;> grind -funext (splits := 60) [closed_ok]
grind_pattern mono_alterLoop => FrameF X d f f', PM.alterLoop d f g acc ts

theorem frame_alterLoop {X : List Tok} (hX : SemiHead X) {d : Gen.D} {f f' : Nat} (hF : FrameF X d f f') : ∀ g acc ts g', g ≤ g' → FrameRel X (PM.alterLoop d f g acc ts) (PM.alterLoop d f' g' acc (ts ++ X)) := by
  have hX' := hX
  obtain ⟨semi, Y, rfl, hs⟩ := hX
  intro g
  induction g with
  | zero => intro acc ts g' _ v r h; simp [alterLoop] at h
  | succ g ih =>
    intro acc ts g' hg v r h
    obtain ⟨k, rfl⟩ : ∃ k, g' = k + 1 := ⟨g' - 1, by omega⟩
    have ih' := fun acc ts => ih acc ts k (by omega)
    clear ih
    unfold alterLoop at h ⊢
    split_run <;> grind -funext (splits := 60) (gen := 40) (instances := 20000) [closed_ok]
grind_pattern frame_alterLoop => FrameF X d f f', (PM.alterLoop d f g acc ts), (PM.alterLoop d f' g' acc (ts ++ X))

theorem mono_pAlter {X : List Tok} {d : Gen.D} {f f' : Nat} (hF : FrameF X d f f') : ∀ ts, MonoRel (PM.pAlter d f ts) (PM.pAlter d f' ts) := by
  intro ts r h
  have m_pAlterExpr := fun y0 r hh => mono_pAlterExpr hF y0 r hh
  have m_alterLoop := fun y0 y1 y2 r hh => mono_alterLoop hF y0 y1 y2 r hh
  clear hF
  unfold pAlter at h ⊢
  split_run <;> grind -funext (splits := 60) [closed_ok]
grind_pattern mono_pAlter => FrameF X d f f', PM.pAlter d f ts

theorem frame_pAlter {X : List Tok} (hX : SemiHead X) {d : Gen.D} {f f' : Nat} (hF : FrameF X d f f') : ∀ ts, FrameRel X (PM.pAlter d f ts) (PM.pAlter d f' (ts ++ X)) := by
  have hX' := hX
  obtain ⟨semi, Y, rfl, hs⟩ := hX
  intro ts v r h
  unfold pAlter at h ⊢
  split_run <;> grind -funext (splits := 60) (gen := 40) (instances := 20000) [closed_ok]
grind_pattern frame_pAlter => FrameF X d f f', (PM.pAlter d f ts)

theorem frame_pKwTable {X : List Tok} (hX : SemiHead X) : ∀ kws mk ts, FrameRel X (PM.pKwTable kws mk ts) (PM.pKwTable kws mk (ts ++ X)) := by
  have hX' := hX
  obtain ⟨semi, Y, rfl, hs⟩ := hX
  intro kws mk ts v r h
  unfold pKwTable at h ⊢
  split_run <;> grind -funext (splits := 60) (gen := 40) (instances := 20000) [closed_ok]
grind_pattern frame_pKwTable => SemiHead X, (PM.pKwTable kws mk ts), (PM.pKwTable kws mk (ts ++ X))

theorem frame_pMsck {X : List Tok} (hX : SemiHead X) : ∀ ts, FrameRel X (PM.pMsck ts) (PM.pMsck (ts ++ X)) := by
  intro ts; unfold pMsck; exact frame_pKwTable hX _ _ ts
grind_pattern frame_pMsck => SemiHead X, PM.pMsck ts, PM.pMsck (ts ++ X)

theorem frame_pTruncate {X : List Tok} (hX : SemiHead X) : ∀ ts, FrameRel X (PM.pTruncate ts) (PM.pTruncate (ts ++ X)) := by
  intro ts; unfold pTruncate; exact frame_pKwTable hX _ _ ts
grind_pattern frame_pTruncate => SemiHead X, PM.pTruncate ts, PM.pTruncate (ts ++ X)

theorem frame_pUse {X : List Tok} (hX : SemiHead X) : ∀ ts, FrameRel X (PM.pUse ts) (PM.pUse (ts ++ X)) := by
  have hX' := hX
  obtain ⟨semi, Y, rfl, hs⟩ := hX
  intro ts v r h
  unfold pUse at h ⊢
  split_run <;> grind -funext (splits := 60) (gen := 40) (instances := 20000) [closed_ok]
grind_pattern frame_pUse => SemiHead X, (PM.pUse ts), (PM.pUse (ts ++ X))

theorem mono_pUpdateSetCol {X : List Tok} {d : Gen.D} {f f' : Nat} (hF : FrameF X d f f') : ∀ ts, MonoRel (PM.pUpdateSetCol d f ts) (PM.pUpdateSetCol d f' ts) := by
  intro ts r h
  have m_pOr := fun y0 r hh => hF.m_pOr y0 r hh
  clear hF
  unfold pUpdateSetCol at h ⊢
  split_run <;> grind -funext (splits := 60) [closed_ok]
grind_pattern mono_pUpdateSetCol => FrameF X d f f', PM.pUpdateSetCol d f ts

theorem frame_pUpdateSetCol {X : List Tok} (hX : SemiHead X) {d : Gen.D} {f f' : Nat} (hF : FrameF X d f f') : ∀ ts, FrameRel X (PM.pUpdateSetCol d f ts) (PM.pUpdateSetCol d f' (ts ++ X)) := by
  have hX' := hX
  obtain ⟨semi, Y, rfl, hs⟩ := hX
  intro ts v r h
  unfold pUpdateSetCol at h ⊢
  split_run <;> grind -funext (splits := 60) (gen := 40) (instances := 20000) [closed_ok]
grind_pattern frame_pUpdateSetCol => FrameF X d f f', (PM.pUpdateSetCol d f ts)

theorem mono_updateSetLoop {X : List Tok} {d : Gen.D} {f f' : Nat} (hF : FrameF X d f f') : ∀ g acc ts, MonoRel (PM.updateSetLoop d f g acc ts) (PM.updateSetLoop d f' g acc ts) := by
  intro g
  induction g with
  | zero => intro acc ts r h; simp [updateSetLoop] at h
  | succ g ih =>
    intro acc ts r h
    have m_pUpdateSetCol := fun y0 r hh => mono_pUpdateSetCol hF y0 r hh
    clear hF
    unfold updateSetLoop at h ⊢
    split_run <;> grind -funext (splits := 60) [closed_ok]
grind_pattern mono_updateSetLoop => FrameF X d f f', PM.updateSetLoop d f g acc ts

theorem frame_updateSetLoop {X : List Tok} (hX : SemiHead X) {d : Gen.D} {f f' : Nat} (hF : FrameF X d f f') : ∀ g acc ts g', g ≤ g' → FrameRel X (PM.updateSetLoop d f g acc ts) (PM.updateSetLoop d f' g' acc (ts ++ X)) := by
  have hX' := hX
  obtain ⟨semi, Y, rfl, hs⟩ := hX
  intro g
  induction g with
  | zero => intro acc ts g' _ v r h; simp [updateSetLoop] at h
  | succ g ih =>
    intro acc ts g' hg v r h
    obtain ⟨k, rfl⟩ : ∃ k, g' = k + 1 := ⟨g' - 1, by omega⟩
    have ih' := fun acc ts => ih acc ts k (by omega)
    clear ih
    unfold updateSetLoop at h ⊢
    split_run <;> grind -funext (splits := 60) (gen := 40) (instances := 20000) [closed_ok]
grind_pattern frame_updateSetLoop => FrameF X d f f', (PM.updateSetLoop d f g acc ts), (PM.updateSetLoop d f' g' acc (ts ++ X))

theorem mono_pUpdateSet {X : List Tok} {d : Gen.D} {f f' : Nat} (hF : FrameF X d f f') : ∀ ts, MonoRel (PM.pUpdateSet d f ts) (PM.pUpdateSet d f' ts) := by
  intro ts r h
  have m_pUpdateSetCol := fun y0 r hh => mono_pUpdateSetCol hF y0 r hh
  have m_updateSetLoop := fun y0 y1 y2 r hh => mono_updateSetLoop hF y0 y1 y2 r hh
  clear hF
  unfold pUpdateSet at h ⊢
  split_run <;> grind -funext (splits := 60) [closed_ok]
grind_pattern mono_pUpdateSet => FrameF X d f f', PM.pUpdateSet d f ts

theorem frame_pUpdateSet {X : List Tok} (hX : SemiHead X) {d : Gen.D} {f f' : Nat} (hF : FrameF X d f f') : ∀ ts, FrameRel X (PM.pUpdateSet d f ts) (PM.pUpdateSet d f' (ts ++ X)) := by
  have hX' := hX
  obtain ⟨semi, Y, rfl, hs⟩ := hX
  intro ts v r h
  unfold pUpdateSet at h ⊢
  split_run <;> grind -funext (splits := 60) (gen := 40) (instances := 20000) [closed_ok]
grind_pattern frame_pUpdateSet => FrameF X d f f', (PM.pUpdateSet d f ts)

theorem mono_pUpdate {X : List Tok} {d : Gen.D} {f f' : Nat} (hF : FrameF X d f f') : ∀ w ts, MonoRel (PM.pUpdate d f w ts) (PM.pUpdate d f' w ts) := by
  intro w ts r h
  have m_pWhereOrderLimit := fun y0 r hh => mono_pWhereOrderLimit hF y0 r hh
  have m_pUpdateSet := fun y0 r hh => mono_pUpdateSet hF y0 r hh
  clear hF
  unfold pUpdate at h ⊢
  split_run <;> grind -funext (splits := 60) [closed_ok]
grind_pattern mono_pUpdate => FrameF X d f f', PM.pUpdate d f w ts

theorem frame_pUpdate {X : List Tok} (hX : SemiHead X) {d : Gen.D} {f f' : Nat} (hF : FrameF X d f f') : ∀ w ts, FrameRel X (PM.pUpdate d f w ts) (PM.pUpdate d f' w (ts ++ X)) := by
  have hX' := hX
  obtain ⟨semi, Y, rfl, hs⟩ := hX
  intro w ts v r h
  unfold pUpdate at h ⊢
  split_run <;> grind -funext (splits := 60) (gen := 40) (instances := 20000) [closed_ok]
grind_pattern frame_pUpdate => FrameF X d f f', (PM.pUpdate d f w ts)

theorem mono_pDelete {X : List Tok} {d : Gen.D} {f f' : Nat} (hF : FrameF X d f f') : ∀ ts, MonoRel (PM.pDelete d f ts) (PM.pDelete d f' ts) := by
  intro ts r h
  have m_pWhereOrderLimit := fun y0 r hh => mono_pWhereOrderLimit hF y0 r hh
  clear hF
  unfold pDelete at h ⊢
  split_run <;> grind -funext (splits := 60) [closed_ok]
grind_pattern mono_pDelete => FrameF X d f f', PM.pDelete d f ts

theorem frame_pDelete {X : List Tok} (hX : SemiHead X) {d : Gen.D} {f f' : Nat} (hF : FrameF X d f f') : ∀ ts, FrameRel X (PM.pDelete d f ts) (PM.pDelete d f' (ts ++ X)) := by
  have hX' := hX
  obtain ⟨semi, Y, rfl, hs⟩ := hX
  intro ts v r h
  unfold pDelete at h ⊢
  split_run <;> grind -funext (splits := 60) (gen := 40) (instances := 20000) [closed_ok]
grind_pattern frame_pDelete => FrameF X d f f', (PM.pDelete d f ts)

theorem mono_pFromClause {X : List Tok} {d : Gen.D} {f f' : Nat} (hF : FrameF X d f f') : ∀ ts, MonoRel (PM.pFromClause d f ts) (PM.pFromClause d f' ts) := by
  intro ts r h
  have m_pFromTable := fun y0 r hh => hF.m_pFromTable y0 r hh
  have m_pFromTables := fun y0 y1 r hh => hF.m_pFromTables y0 y1 r hh
  clear hF
  unfold pFromClause at h ⊢
  split_run <;> grind -funext (splits := 60) [closed_ok]
grind_pattern mono_pFromClause => FrameF X d f f', PM.pFromClause d f ts

theorem frame_pFromClause {X : List Tok} (hX : SemiHead X) {d : Gen.D} {f f' : Nat} (hF : FrameF X d f f') : ∀ ts, FrameRel X (PM.pFromClause d f ts) (PM.pFromClause d f' (ts ++ X)) := by
  have hX' := hX
  obtain ⟨semi, Y, rfl, hs⟩ := hX
  intro ts v r h
  unfold pFromClause at h ⊢
  split_run <;> grind -funext (splits := 60) (gen := 40) (instances := 20000) [closed_ok]
grind_pattern frame_pFromClause => FrameF X d f f', (PM.pFromClause d f ts)

theorem mono_pShowColumns {X : List Tok} {d : Gen.D} {f f' : Nat} (hF : FrameF X d f f') : ∀ ts, MonoRel (PM.pShowColumns d f ts) (PM.pShowColumns d f' ts) := by
  intro ts r h
  have m_pOptOr := fun y0 y1 r hh => hF.m_pOptOr y0 y1 r hh
  have m_pFromClause := fun y0 r hh => mono_pFromClause hF y0 r hh
  clear hF
  unfold pShowColumns at h ⊢
  split_run <;> grind -funext (splits := 60) [closed_ok]
grind_pattern mono_pShowColumns => FrameF X d f f', PM.pShowColumns d f ts

theorem frame_pShowColumns {X : List Tok} (hX : SemiHead X) {d : Gen.D} {f f' : Nat} (hF : FrameF X d f f') : ∀ ts, FrameRel X (PM.pShowColumns d f ts) (PM.pShowColumns d f' (ts ++ X)) := by
  have hX' := hX
  obtain ⟨semi, Y, rfl, hs⟩ := hX
  intro ts v r h
  unfold pShowColumns at h ⊢
  split_run <;> grind -funext (splits := 60) (gen := 40) (instances := 20000) [closed_ok]
grind_pattern frame_pShowColumns => FrameF X d f f', (PM.pShowColumns d f ts)

theorem mono_pStatement {X : List Tok} {d : Gen.D} {f f' : Nat} (hF : FrameF X d f f') : ∀ ts, MonoRel (PM.pStatement d f ts) (PM.pStatement d f' ts) := by
  intro ts r h
  have m_pWith := fun y0 r hh => hF.m_pWith y0 r hh
  have m_pSelectStmt := fun y0 y1 r hh => hF.m_pSelectStmt y0 y1 r hh
  have m_pInsert := fun y0 y1 r hh => mono_pInsert hF y0 y1 r hh
  have m_pCreateTable := fun y0 r hh => mono_pCreateTable hF y0 r hh
  have m_pAnalyze := fun y0 r hh => mono_pAnalyze hF y0 r hh
  have m_pAlter := fun y0 r hh => mono_pAlter hF y0 r hh
  have m_pUpdate := fun y0 y1 r hh => mono_pUpdate hF y0 y1 r hh
  have m_pDelete := fun y0 r hh => mono_pDelete hF y0 r hh
  have m_pShowColumns := fun y0 r hh => mono_pShowColumns hF y0 r hh
  clear hF
  unfold pStatement at h ⊢
  split_run <;> grind -funext (splits := 60) [closed_ok]
grind_pattern mono_pStatement => FrameF X d f f', PM.pStatement d f ts

theorem frame_pStatement {X : List Tok} (hX : SemiHead X) {d : Gen.D} {f f' : Nat} (hF : FrameF X d f f') : ∀ ts, SwallowRel X (PM.pStatement d f ts) (PM.pStatement d f' (ts ++ X)) := by
  have hX' := hX
  obtain ⟨semi, Y, rfl, hs⟩ := hX
  intro ts v r h
  unfold pStatement at h ⊢
  split_run <;> grind -funext (splits := 80) (gen := 40) (instances := 20000) [closed_ok]
grind_pattern frame_pStatement => FrameF X d f f', (PM.pStatement d f ts)

/-! ### the same in plain form (X = semi :: Y, f < f') -/
section
variable {semi : Tok} (hs : IsSemi semi) (Y : List Tok) (d : Gen.D) {f f' : Nat} (hlt : f < f')
include hs

theorem pTblName_framed : ∀ ts, ∀ v r, (PM.pTblName ts) = .ok (v, r) → (PM.pTblName (ts ++ (semi :: Y))) = .ok (v, r ++ semi :: Y) :=
  fun ts v r h => frame_pTblName (SemiHead.mk' hs Y) ts v r h
theorem pInsertType_framed : ∀ ts, ∀ v r, (PM.pInsertType ts) = .ok (v, r) → (PM.pInsertType (ts ++ (semi :: Y))) = .ok (v, r ++ semi :: Y) :=
  fun ts v r h => frame_pInsertType (SemiHead.mk' hs Y) ts v r h
theorem configStringLoop_framed : ∀ g acc ts g' v r, g ≤ g' → (PM.configStringLoop g acc ts) = .ok (v, r) → (PM.configStringLoop g' acc (ts ++ (semi :: Y))) = .ok (v, r ++ semi :: Y) :=
  fun g acc ts g' v r hg h => frame_configStringLoop (SemiHead.mk' hs Y) g acc ts g' hg v r h
theorem pConfigString_framed : ∀ ts, ∀ v r, (PM.pConfigString ts) = .ok (v, r) → (PM.pConfigString (ts ++ (semi :: Y))) = .ok (v, r ++ semi :: Y) :=
  fun ts v r h => frame_pConfigString (SemiHead.mk' hs Y) ts v r h
theorem pConfigStrExpr_framed : ∀ ts, ∀ v r, (PM.pConfigStrExpr ts) = .ok (v, r) → (PM.pConfigStrExpr (ts ++ (semi :: Y))) = .ok (v, r ++ semi :: Y) :=
  fun ts v r h => frame_pConfigStrExpr (SemiHead.mk' hs Y) ts v r h
include hlt in
theorem pColType_framed : ∀ ts, ∀ v r, (PM.pColType d f ts) = .ok (v, r) → (PM.pColType d f' (ts ++ (semi :: Y))) = .ok (v, r ++ semi :: Y) :=
  fun ts v r h => frame_pColType (SemiHead.mk' hs Y) (frameF_all hs Y d f f' hlt) ts v r h
include hlt in
theorem pPartition_framed : ∀ already ts, ∀ v r, (PM.pPartition d f already ts) = .ok (v, r) → (PM.pPartition d f' already (ts ++ (semi :: Y))) = .ok (v, r ++ semi :: Y) :=
  fun already ts v r h => frame_pPartition (SemiHead.mk' hs Y) (frameF_all hs Y d f f' hlt) already ts v r h
theorem pFkAction_framed : ∀ ts, ∀ v r, (PM.pFkAction ts) = .ok (v, r) → (PM.pFkAction (ts ++ (semi :: Y))) = .ok (v, r ++ semi :: Y) :=
  fun ts v r h => frame_pFkAction (SemiHead.mk' hs Y) ts v r h
theorem pOptFkAction_framed : ∀ ts a b, a ≠ ";" → b ≠ ";" → ∀ v r, (PM.pOptFkAction ts a b) = .ok (v, r) → (PM.pOptFkAction (ts ++ (semi :: Y)) a b) = .ok (v, r ++ semi :: Y) :=
  fun ts a b ha hb v r h => frame_pOptFkAction (SemiHead.mk' hs Y) ts a b ha hb v r h
theorem pNameList_framed : ∀ ts, ∀ v r, (PM.pNameList ts) = .ok (v, r) → (PM.pNameList (ts ++ (semi :: Y))) = .ok (v, r ++ semi :: Y) :=
  fun ts v r h => frame_pNameList (SemiHead.mk' hs Y) ts v r h
theorem pForeignKey_framed : ∀ ts, ∀ v r, (PM.pForeignKey ts) = .ok (v, r) → (PM.pForeignKey (ts ++ (semi :: Y))) = .ok (v, r ++ semi :: Y) :=
  fun ts v r h => frame_pForeignKey (SemiHead.mk' hs Y) ts v r h
theorem pIndexCols_framed : ∀ ts, ∀ v r, (PM.pIndexCols ts) = .ok (v, r) → (PM.pIndexCols (ts ++ (semi :: Y))) = .ok (v, r ++ semi :: Y) :=
  fun ts v r h => frame_pIndexCols (SemiHead.mk' hs Y) ts v r h
theorem pOptSrc_framed : ∀ ts k, k ≠ ";" → ∀ v r, (PM.pOptSrc ts k) = .ok (v, r) → (PM.pOptSrc (ts ++ (semi :: Y)) k) = .ok (v, r ++ semi :: Y) :=
  fun ts k hk v r h => frame_pOptSrc (SemiHead.mk' hs Y) ts k hk v r h
theorem pIndexTail_framed : ∀ kind name ts, ∀ v r, (PM.pIndexTail kind name ts) = .ok (v, r) → (PM.pIndexTail kind name (ts ++ (semi :: Y))) = .ok (v, r ++ semi :: Y) :=
  fun kind name ts v r h => frame_pIndexTail (SemiHead.mk' hs Y) kind name ts v r h
theorem pPrimaryIndex_framed : ∀ ts, ∀ v r, (PM.pPrimaryIndex ts) = .ok (v, r) → (PM.pPrimaryIndex (ts ++ (semi :: Y))) = .ok (v, r ++ semi :: Y) :=
  fun ts v r h => frame_pPrimaryIndex (SemiHead.mk' hs Y) ts v r h
theorem pNamedIndex_framed : ∀ kind kws ts, ∀ v r, (PM.pNamedIndex kind kws ts) = .ok (v, r) → (PM.pNamedIndex kind kws (ts ++ (semi :: Y))) = .ok (v, r ++ semi :: Y) :=
  fun kind kws ts v r h => frame_pNamedIndex (SemiHead.mk' hs Y) kind kws ts v r h
theorem pUniqueIndex_framed : ∀ ts, ∀ v r, (PM.pUniqueIndex ts) = .ok (v, r) → (PM.pUniqueIndex (ts ++ (semi :: Y))) = .ok (v, r ++ semi :: Y) :=
  fun ts v r h => frame_pUniqueIndex (SemiHead.mk' hs Y) ts v r h
theorem pNormalIndex_framed : ∀ ts, ∀ v r, (PM.pNormalIndex ts) = .ok (v, r) → (PM.pNormalIndex (ts ++ (semi :: Y))) = .ok (v, r ++ semi :: Y) :=
  fun ts v r h => frame_pNormalIndex (SemiHead.mk' hs Y) ts v r h
theorem pFulltextIndex_framed : ∀ ts, ∀ v r, (PM.pFulltextIndex ts) = .ok (v, r) → (PM.pFulltextIndex (ts ++ (semi :: Y))) = .ok (v, r ++ semi :: Y) :=
  fun ts v r h => frame_pFulltextIndex (SemiHead.mk' hs Y) ts v r h
include hlt in
theorem pGenerated_framed : ∀ ts, ∀ v r, (PM.pGenerated d f ts) = .ok (v, r) → (PM.pGenerated d f' (ts ++ (semi :: Y))) = .ok (v, r ++ semi :: Y) :=
  fun ts v r h => frame_pGenerated (SemiHead.mk' hs Y) (frameF_all hs Y d f f' hlt) ts v r h
include hlt in
theorem defColLoop_framed : ∀ g c ts g' v r, g ≤ g' → (PM.defColLoop d f g c ts) = .ok (v, r) → (PM.defColLoop d f' g' c (ts ++ (semi :: Y))) = .ok (v, r ++ semi :: Y) :=
  fun g c ts g' v r hg h => frame_defColLoop (SemiHead.mk' hs Y) (frameF_all hs Y d f f' hlt) g c ts g' hg v r h
include hlt in
theorem pDefCol_framed : ∀ ts, ∀ v r, (PM.pDefCol d f ts) = .ok (v, r) → (PM.pDefCol d f' (ts ++ (semi :: Y))) = .ok (v, r ++ semi :: Y) :=
  fun ts v r h => frame_pDefCol (SemiHead.mk' hs Y) (frameF_all hs Y d f f' hlt) ts v r h
include hlt in
theorem pColOrIdx_framed : ∀ ts, ∀ v r, (PM.pColOrIdx d f ts) = .ok (v, r) → (PM.pColOrIdx d f' (ts ++ (semi :: Y))) = .ok (v, r ++ semi :: Y) :=
  fun ts v r h => frame_pColOrIdx (SemiHead.mk' hs Y) (frameF_all hs Y d f f' hlt) ts v r h
include hlt in
theorem pWhereOrderLimit_framed : ∀ ts, ∀ v r, (PM.pWhereOrderLimit d f ts) = .ok (v, r) → (PM.pWhereOrderLimit d f' (ts ++ (semi :: Y))) = .ok (v, r ++ semi :: Y) :=
  fun ts v r h => frame_pWhereOrderLimit (SemiHead.mk' hs Y) (frameF_all hs Y d f f' hlt) ts v r h
include hlt in
theorem valuesLoop_framed : ∀ g acc ts g' v r, g ≤ g' → (PM.valuesLoop d f g acc ts) = .ok (v, r) → (PM.valuesLoop d f' g' acc (ts ++ (semi :: Y))) = .ok (v, r ++ semi :: Y) :=
  fun g acc ts g' v r hg h => frame_valuesLoop (SemiHead.mk' hs Y) (frameF_all hs Y d f f' hlt) g acc ts g' hg v r h
include hlt in
theorem pOptPartition_framed : ∀ ts, ∀ v r, (PM.pOptPartition d f ts) = .ok (v, r) → (PM.pOptPartition d f' (ts ++ (semi :: Y))) = .ok (v, r ++ semi :: Y) :=
  fun ts v r h => frame_pOptPartition (SemiHead.mk' hs Y) (frameF_all hs Y d f f' hlt) ts v r h
theorem pOptColumns_framed : ∀ ts, ∀ v r, (PM.pOptColumns ts) = .ok (v, r) → (PM.pOptColumns (ts ++ (semi :: Y))) = .ok (v, r ++ semi :: Y) :=
  fun ts v r h => frame_pOptColumns (SemiHead.mk' hs Y) ts v r h
include hlt in
theorem pWithOpt_framed : ∀ w ts, ∀ v r, (PM.pWithOpt d f w ts) = .ok (v, r) → (PM.pWithOpt d f' w (ts ++ (semi :: Y))) = .ok (v, r ++ semi :: Y) :=
  fun w ts v r h => frame_pWithOpt (SemiHead.mk' hs Y) (frameF_all hs Y d f f' hlt) w ts v r h
include hlt in
theorem pInsert_framed : ∀ w ts, ∀ v r, (PM.pInsert d f w ts) = .ok (v, r) → (PM.pInsert d f' w (ts ++ (semi :: Y))) = .ok (v, r ++ semi :: Y) :=
  fun w ts v r h => frame_pInsert (SemiHead.mk' hs Y) (frameF_all hs Y d f f' hlt) w ts v r h
theorem pSet_framed : ∀ ts, ∀ v r, (PM.pSet ts) = .ok (v, r) → (PM.pSet (ts ++ (semi :: Y))) = .ok (v, r ++ semi :: Y) :=
  fun ts v r h => frame_pSet (SemiHead.mk' hs Y) ts v r h
theorem optEqSrc_framed : ∀ ts, ∀ v r, (PM.optEqSrc ts) = .ok (v, r) → (PM.optEqSrc (ts ++ (semi :: Y))) = .ok (v, r ++ semi :: Y) :=
  fun ts v r h => frame_optEqSrc (SemiHead.mk' hs Y) ts v r h
include hlt in
theorem createOpts_framed : ∀ g c ts g' v r, g ≤ g' → (PM.createOpts d f g c ts) = .ok (v, r) → (PM.createOpts d f' g' c (ts ++ (semi :: Y))) = .ok (v, r ++ semi :: Y) :=
  fun g c ts g' v r hg h => frame_createOpts (SemiHead.mk' hs Y) (frameF_all hs Y d f f' hlt) g c ts g' hg v r h
include hlt in
theorem pCreateTable_framed : ∀ ts v r, (PM.pCreateTable d f ts) = .ok (v, r) →
    (PM.pCreateTable d f' (ts ++ (semi :: Y))) = .ok (v, r ++ semi :: Y) ∨ (r = [] ∧ (∃ c, v = .createTable c) ∧ (PM.pCreateTable d f' (ts ++ (semi :: Y))) = .ok (v, Y)) :=
  fun ts v r h => by simpa using frame_pCreateTable (SemiHead.mk' hs Y) (frameF_all hs Y d f f' hlt) ts v r h
theorem pDropTable_framed : ∀ ts, ∀ v r, (PM.pDropTable ts) = .ok (v, r) → (PM.pDropTable (ts ++ (semi :: Y))) = .ok (v, r ++ semi :: Y) :=
  fun ts v r h => frame_pDropTable (SemiHead.mk' hs Y) ts v r h
include hlt in
theorem pAnalyze_framed : ∀ ts, ∀ v r, (PM.pAnalyze d f ts) = .ok (v, r) → (PM.pAnalyze d f' (ts ++ (semi :: Y))) = .ok (v, r ++ semi :: Y) :=
  fun ts v r h => frame_pAnalyze (SemiHead.mk' hs Y) (frameF_all hs Y d f f' hlt) ts v r h
include hlt in
theorem pAlterExpr_framed : ∀ ts, ∀ v r, (PM.pAlterExpr d f ts) = .ok (v, r) → (PM.pAlterExpr d f' (ts ++ (semi :: Y))) = .ok (v, r ++ semi :: Y) :=
  fun ts v r h => frame_pAlterExpr (SemiHead.mk' hs Y) (frameF_all hs Y d f f' hlt) ts v r h
include hlt in
theorem alterLoop_framed : ∀ g acc ts g' v r, g ≤ g' → (PM.alterLoop d f g acc ts) = .ok (v, r) → (PM.alterLoop d f' g' acc (ts ++ (semi :: Y))) = .ok (v, r ++ semi :: Y) :=
  fun g acc ts g' v r hg h => frame_alterLoop (SemiHead.mk' hs Y) (frameF_all hs Y d f f' hlt) g acc ts g' hg v r h
include hlt in
theorem pAlter_framed : ∀ ts, ∀ v r, (PM.pAlter d f ts) = .ok (v, r) → (PM.pAlter d f' (ts ++ (semi :: Y))) = .ok (v, r ++ semi :: Y) :=
  fun ts v r h => frame_pAlter (SemiHead.mk' hs Y) (frameF_all hs Y d f f' hlt) ts v r h
theorem pKwTable_framed : ∀ kws mk ts, ∀ v r, (PM.pKwTable kws mk ts) = .ok (v, r) → (PM.pKwTable kws mk (ts ++ (semi :: Y))) = .ok (v, r ++ semi :: Y) :=
  fun kws mk ts v r h => frame_pKwTable (SemiHead.mk' hs Y) kws mk ts v r h
theorem pMsck_framed : ∀ ts, ∀ v r, (PM.pMsck ts) = .ok (v, r) → (PM.pMsck (ts ++ (semi :: Y))) = .ok (v, r ++ semi :: Y) :=
  fun ts v r h => frame_pMsck (SemiHead.mk' hs Y) ts v r h
theorem pTruncate_framed : ∀ ts, ∀ v r, (PM.pTruncate ts) = .ok (v, r) → (PM.pTruncate (ts ++ (semi :: Y))) = .ok (v, r ++ semi :: Y) :=
  fun ts v r h => frame_pTruncate (SemiHead.mk' hs Y) ts v r h
theorem pUse_framed : ∀ ts, ∀ v r, (PM.pUse ts) = .ok (v, r) → (PM.pUse (ts ++ (semi :: Y))) = .ok (v, r ++ semi :: Y) :=
  fun ts v r h => frame_pUse (SemiHead.mk' hs Y) ts v r h
include hlt in
theorem pUpdateSetCol_framed : ∀ ts, ∀ v r, (PM.pUpdateSetCol d f ts) = .ok (v, r) → (PM.pUpdateSetCol d f' (ts ++ (semi :: Y))) = .ok (v, r ++ semi :: Y) :=
  fun ts v r h => frame_pUpdateSetCol (SemiHead.mk' hs Y) (frameF_all hs Y d f f' hlt) ts v r h
include hlt in
theorem updateSetLoop_framed : ∀ g acc ts g' v r, g ≤ g' → (PM.updateSetLoop d f g acc ts) = .ok (v, r) → (PM.updateSetLoop d f' g' acc (ts ++ (semi :: Y))) = .ok (v, r ++ semi :: Y) :=
  fun g acc ts g' v r hg h => frame_updateSetLoop (SemiHead.mk' hs Y) (frameF_all hs Y d f f' hlt) g acc ts g' hg v r h
include hlt in
theorem pUpdateSet_framed : ∀ ts, ∀ v r, (PM.pUpdateSet d f ts) = .ok (v, r) → (PM.pUpdateSet d f' (ts ++ (semi :: Y))) = .ok (v, r ++ semi :: Y) :=
  fun ts v r h => frame_pUpdateSet (SemiHead.mk' hs Y) (frameF_all hs Y d f f' hlt) ts v r h
include hlt in
theorem pUpdate_framed : ∀ w ts, ∀ v r, (PM.pUpdate d f w ts) = .ok (v, r) → (PM.pUpdate d f' w (ts ++ (semi :: Y))) = .ok (v, r ++ semi :: Y) :=
  fun w ts v r h => frame_pUpdate (SemiHead.mk' hs Y) (frameF_all hs Y d f f' hlt) w ts v r h
include hlt in
theorem pDelete_framed : ∀ ts, ∀ v r, (PM.pDelete d f ts) = .ok (v, r) → (PM.pDelete d f' (ts ++ (semi :: Y))) = .ok (v, r ++ semi :: Y) :=
  fun ts v r h => frame_pDelete (SemiHead.mk' hs Y) (frameF_all hs Y d f f' hlt) ts v r h
include hlt in
theorem pFromClause_framed : ∀ ts, ∀ v r, (PM.pFromClause d f ts) = .ok (v, r) → (PM.pFromClause d f' (ts ++ (semi :: Y))) = .ok (v, r ++ semi :: Y) :=
  fun ts v r h => frame_pFromClause (SemiHead.mk' hs Y) (frameF_all hs Y d f f' hlt) ts v r h
include hlt in
theorem pShowColumns_framed : ∀ ts, ∀ v r, (PM.pShowColumns d f ts) = .ok (v, r) → (PM.pShowColumns d f' (ts ++ (semi :: Y))) = .ok (v, r ++ semi :: Y) :=
  fun ts v r h => frame_pShowColumns (SemiHead.mk' hs Y) (frameF_all hs Y d f f' hlt) ts v r h
include hlt in
theorem pStatement_framed : ∀ ts v r, (PM.pStatement d f ts) = .ok (v, r) →
    (PM.pStatement d f' (ts ++ (semi :: Y))) = .ok (v, r ++ semi :: Y) ∨ (r = [] ∧ (∃ c, v = .createTable c) ∧ (PM.pStatement d f' (ts ++ (semi :: Y))) = .ok (v, Y)) :=
  fun ts v r h => by simpa using frame_pStatement (SemiHead.mk' hs Y) (frameF_all hs Y d f f' hlt) ts v r h

end
end PM
