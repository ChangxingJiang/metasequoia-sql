import MsqProofs.Lemmas.TQuery3E3
/-! Larger nested fragment (TQ3), expression layer: IN lists, lists of children -/
open Lex PM Ast SR TP TP2
open TQ (tblTok unionWords lvlH isExists lvlH_eq lvlH_ge lvlH_of_le8 isOkPair tblOK)
namespace TQ3
variable {d : Gen.D} {ch : Expr → Bool}

theorem RT4.ncW {e : Expr} (h : RT4 d ch e) (L : Nat) : NoComma (W4 d ch e L) := by
  unfold W4 wrapT; split
  · exact grp_nocomma _
  · exact h.nocomma
theorem RT4.lenW {e : Expr} (h : RT4 d ch e) (L : Nat) : (W4 d ch e L).length ≤ tl4 e := by
  unfold W4 wrapT; split
  · simpa using tl4_pos e
  · exact h.len
theorem RT4.neW {e : Expr} (h : RT4 d ch e) (L : Nat) : W4 d ch e L ≠ [] := by
  obtain ⟨t, ts', hw, _⟩ := h.headW L
  rw [hw]; simp

theorem RT4.val {e : Expr} (h : RT4 d ch e) (hl : tl4 e ≤ 20) : TC.Val d (W4 d ch e 8) e :=
  ⟨TC.fullO_true.2 ((h.at 8 (by omega)).s8 (by omega)), h.hdW 8, h.ncW 8, Nat.le_trans (h.lenW 8) hl⟩

theorem comma_equals : commaTok.equalsStr "," = true := TP2.comma_equals
theorem in_words : up (opTok "IN").src = "IN" ∧ (opTok "IN").size = 1 ∧ (opTok "NOT").size = 1 := TP2.in_words
theorem notSet_IN : (Gen.notSet d).contains (up (opTok "IN").src) = false := TP2.notSet_IN
theorem cont9_in (n0 : Bool) (l v : Expr) (as : List Expr) (hv : RT4 d ch v ∧ tl4 v ≤ 20) (has : ∀ a ∈ as, RT4 d ch a ∧ tl4 a ≤ 20)
    (hl : Cont2 d (P9 d) (kwLoop d) 8 4 (W4 d ch l 9) l) :
    Cont2 d (P9 d) (kwLoop d) 8 4 (W4 d ch l 9 ++ (kwToks .in_ n0 ++ [grp (toksArgs4 d ch 8 (v :: as))])) (.kw .in_ n0 l (.subValue (v :: as))) :=
  TC.contO_true.1 (TC.cont9_in n0 l (TC.contO_true.2 hl)
    ⟨_, toksArgs4_eq 8 (v :: as), List.forall_mem_cons.2 ⟨hv.1.val hv.2, fun a ha => (has a ha).1.val (has a ha).2⟩⟩).ofFalse

theorem frag2L_mem : ∀ (ps : List Expr), FragL4 d ps = true → ∀ a ∈ ps, FragE5 d a = true ∧ szE4 a ≤ szL4 ps := by
  intro ps
  induction ps with
  | nil => intro _ a ha; simp at ha
  | cons p ps ih =>
    intro h a ha
    simp only [FragL4, Bool.and_eq_true] at h
    simp only [List.mem_cons] at ha
    rcases ha with rfl | ha
    · exact ⟨h.1, by simp only [szL4]; omega⟩
    · obtain ⟨x, y⟩ := ih h.2 a ha; exact ⟨x, by simp only [szL4]; omega⟩
theorem frag2A_mem : ∀ (cs : List (Expr × Expr)), FragA4 d cs = true → ∀ p ∈ cs, (FragE5 d p.1 = true ∧ szE4 p.1 ≤ szA4 cs) ∧ (FragE5 d p.2 = true ∧ szE4 p.2 ≤ szA4 cs) := by
  intro cs
  induction cs with
  | nil => intro _ a ha; simp at ha
  | cons q cs ih =>
    obtain ⟨w, t⟩ := q
    intro h p hp
    simp only [FragA4, Bool.and_eq_true] at h
    simp only [List.mem_cons] at hp
    rcases hp with rfl | hp
    · exact ⟨⟨h.1.1, by simp only [szA4]; omega⟩, ⟨h.1.2, by simp only [szA4]; omega⟩⟩
    · obtain ⟨⟨x1, x2⟩, ⟨y1, y2⟩⟩ := ih h.2 p hp
      exact ⟨⟨x1, by simp only [szA4]; omega⟩, ⟨y1, by simp only [szA4]; omega⟩⟩
theorem arms_nc : ∀ (cs : List (Expr × Expr)), (∀ p ∈ cs, RT4 d ch p.1 ∧ RT4 d ch p.2) →
    NoComma (toksArms4 d ch cs) ∧ (toksArms4 d ch cs).length ≤ tlA4 cs := by
  intro cs
  induction cs with
  | nil => intro _; exact ⟨by simp only [toksArms4]; exact NoComma.nil, by simp [toksArms4, tlA4]⟩
  | cons q cs ih =>
    obtain ⟨w, t⟩ := q
    intro h
    obtain ⟨hw, ht⟩ := h (w, t) (by simp)
    obtain ⟨i1, i2⟩ := ih (fun p hp => h p (by simp [hp]))
    have k := @kw_nocomma
    refine ⟨?_, ?_⟩
    · simp only [toksArms4]
      exact NoComma.cons k.2.2.2.2.2.2.2.2.2.2.2.1 ((hw.ncW 14).append (NoComma.cons k.2.2.2.2.2.2.2.2.2.2.2.2.1 ((ht.ncW 14).append i1)))
    · have a := hw.lenW 14; have b := ht.lenW 14
      simp only [toksArms4, tlA4, List.length_cons, List.length_append]
      simp only [W4] at a b
      omega
theorem else_nc (els : Option Expr) (h : ∀ y, els = some y → RT4 d ch y) :
    NoComma (toksElse4 d ch els) ∧ (toksElse4 d ch els).length ≤ tlO4 els := by
  cases els with
  | none => exact ⟨by simp only [toksElse4]; exact NoComma.nil, by simp [toksElse4, tlO4]⟩
  | some y =>
    have hy := h y rfl
    have k := @kw_nocomma
    refine ⟨by simp only [toksElse4]; exact NoComma.cons k.2.2.2.2.2.2.2.2.2.2.2.2.2.1 (hy.ncW 14), ?_⟩
    have a := hy.lenW 14
    simp only [toksElse4, tlO4, List.length_cons]
    simp only [W4] at a
    omega
theorem kwToks_len (k : KwKind) (n : Bool) : (kwToks k n).length ≤ 2 := TP2.kwToks_len k n
theorem nc_single {t : Tok} (h : t.equalsStr "," = false) : NoComma [t] := NoComma.cons h NoComma.nil

theorem RT4.mk2 {e : Expr} (ts : List Tok) (he : toksE5 d ch e = ts) (own : Tower2 d (PR.lvl e) ts e) (head : Head2 d e ts)
    (nc : NoComma ts) (hl : ts.length ≤ tl4 e) : RT4 d ch e := by
  subst he; exact RT4.mk' own head nc hl
theorem head_tok {e : Expr} (t : Tok) (ts : List Tok) (h1 : hdTok t = true) (h2 : operandTok d t = true) : Head2 d e (t :: ts) :=
  ⟨t, ts, rfl, h1, fun _ => h2⟩
theorem headOK_tok (t : Tok) (ts : List Tok) (h2 : operandTok d t = true) : HeadOK d (t :: ts) := TP2.headOK_tok t ts h2
theorem star_head : hdTok starTok = true ∧ operandTok d starTok = true ∧ hdTok (opTok "CASE") = true ∧ operandTok d (opTok "CASE") = true ∧
    hdTok (opTok "NOT") = true := TP2.star_head

end TQ3
