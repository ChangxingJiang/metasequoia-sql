import MsqProofs.Lemmas.ParseCostBndS2
/-! GENERATED by tools/gen_cost.py — C19 linear bound, statement level (Parse/Stmt.lean, `pStatements`), part 4 of 5: potential 250 * adqWL -/
set_option linter.unusedSimpArgs false
open Lex PM Ast
namespace PM

theorem pAlterExpr_bnd2 (d : Gen.D) (f : Nat) (ts : List Tok) (κ : Nat) : (pAlterExpr_k d f ts κ).1 + rem2 (pAlterExpr_k d f ts κ).2 ≤ κ + 250 * adqWL ts + 131 := by
  generalize h : pAlterExpr_k d f ts κ = out
  unfold pAlterExpr_k at h
  split_run2 <;> grind -funext (gen := 40) (instances := 20000) [adqWL_append, Lost]
grind_pattern pAlterExpr_bnd2 => pAlterExpr_k d f ts κ

theorem alterLoop_bnd2 (d : Gen.D) (f : Nat) : ∀ x0 x1 x2 κ, (alterLoop_k d f x0 x1 x2 κ).1 + rem2 (alterLoop_k d f x0 x1 x2 κ).2 ≤ κ + 250 * adqWL x2 + 134 := by
  intro x0
  induction x0 with
  | zero => intro x1 x2 κ; simp only [alterLoop_k, rem2_error]; omega
  | succ n ih =>
    intro x1 x2 κ
    generalize h : alterLoop_k d f (n+1) x1 x2 κ = out
    unfold alterLoop_k at h
    split_run2 <;> grind -funext (gen := 40) (instances := 20000) [adqWL_append, Lost]
grind_pattern alterLoop_bnd2 => alterLoop_k d f x0 x1 x2 κ

theorem pAlter_bnd2 (d : Gen.D) (f : Nat) (ts : List Tok) (κ : Nat) : (pAlter_k d f ts κ).1 + remS2 600 (pAlter_k d f ts κ).2 ≤ κ + 250 * adqWL ts + 273 := by
  generalize h : pAlter_k d f ts κ = out
  unfold pAlter_k at h
  split_run2 <;> grind -funext (gen := 40) (instances := 20000) [adqWL_append, Lost]
grind_pattern pAlter_bnd2 => pAlter_k d f ts κ

end PM
