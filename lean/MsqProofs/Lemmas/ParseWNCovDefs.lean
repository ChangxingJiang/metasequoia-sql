import MsqProofs.Lemmas.ParseWNCov0
/-!
# C02 at the clause level: the induction hypothesis (one field per function of the SELECT part of the mutual block)
-/
open Lex
namespace WNG
open PM Ast

theorem cov_run {d : Gen.D} {L : Nat} {T ts r : List Tok} {e : Expr} (hs : Sub T ts)
    (h : ∃ u, ts = u ++ r ∧ Derives d L ([] ++ u) e) : Cov d T e ∧ Sub T r := by
  refine ⟨cov_of_run hs h, ?_⟩
  obtain ⟨u, rfl, _⟩ := h
  exact hs.sfx

/-- the segments between the commas of a bracket group are contiguous runs of its content -/
theorem splitBy_mid (sep : String) : ∀ (ts cur : List Tok) (acc : List (List Tok)) (pre : List Tok),
    ∀ sg ∈ splitBy sep ts cur acc, sg ∈ acc ∨ ∃ a b, pre ++ cur ++ ts = a ++ sg ++ b := by
  intro ts
  induction ts with
  | nil =>
    intro cur acc pre sg hm
    simp only [splitBy] at hm
    split at hm
    · exact .inl hm
    · simp only [List.mem_append, List.mem_cons, List.not_mem_nil, or_false] at hm
      rcases hm with hm | rfl
      · exact .inl hm
      · exact .inr ⟨pre, [], by simp⟩
  | cons t r ih =>
    intro cur acc pre sg hm
    simp only [splitBy] at hm
    split at hm
    · split at hm
      · rcases ih [] acc (pre ++ cur ++ [t]) sg hm with h | ⟨a, b, h⟩
        · exact .inl h
        · exact .inr ⟨a, b, by simpa using h⟩
      · rcases ih [] (acc ++ [cur]) (pre ++ cur ++ [t]) sg hm with h | ⟨a, b, h⟩
        · simp only [List.mem_append, List.mem_cons, List.not_mem_nil, or_false] at h
          rcases h with h | rfl
          · exact .inl h
          · exact .inr ⟨pre, t :: r, by simp⟩
        · exact .inr ⟨a, b, by simpa using h⟩
    · rcases ih (cur ++ [t]) acc pre sg hm with h | ⟨a, b, h⟩
      · exact .inl h
      · exact .inr ⟨a, b, by simpa using h⟩

theorem splitBy_sub {T cs : List Tok} (h : Sub T cs) : ∀ sg ∈ splitBy "," cs [] [], Sub T sg := by
  intro sg hm
  rcases splitBy_mid "," cs [] [] [] sg hm with h' | ⟨a, b, h'⟩
  · cases h'
  · simp only [List.nil_append] at h'
    exact Sub.mid (a := a) (b := b) (h' ▸ h)

structure CV (d : Gen.D) (n : Nat) : Prop where
  pSubQuery : ∀ T ts v r, Sub T ts → pSubQuery d n ts = .ok (v, r) → ∃ q, v = .subQuery q ∧ CovL d T (exprsQ q)
  pWindowBody : ∀ T fn cs w, Sub T cs → pWindowBody d n fn cs = .ok w →
      ∃ part ord rows, w = .window fn part ord rows ∧ CovL d T (part ++ ord.map oiE)
  pPartitionBy : ∀ T ts v r, Sub T ts → pPartitionBy d n ts = .ok (v, r) → CovL d T v
  pComputeList : ∀ T acc ts v r, Sub T ts → CovL d T acc → pComputeList d n acc ts = .ok (v, r) → CovL d T v
  pOrderItem : ∀ T ts v r, Sub T ts → pOrderItem d n ts = .ok (v, r) → Cov d T (oiE v)
  pOrderList : ∀ T acc ts v r, Sub T ts → CovL d T (acc.map oiE) → pOrderList d n acc ts = .ok (v, r) → CovL d T (v.map oiE)
  pOrderByOpt : ∀ T ts v r, Sub T ts → pOrderByOpt d n ts = .ok (v, r) → CovL d T (oiEs v)
  pSelectCol : ∀ T ts v r, Sub T ts → pSelectCol d n ts = .ok (v, r) → Cov d T v.1
  pSelectCols : ∀ T acc ts v r, Sub T ts → CovL d T (acc.map (·.1)) → pSelectCols d n acc ts = .ok (v, r) → CovL d T (v.map (·.1))
  pTableExpr : ∀ T ts v r, Sub T ts → pTableExpr d n ts = .ok (v, r) → CovL d T (exprsT v)
  pFromTable : ∀ T ts v r, Sub T ts → pFromTable d n ts = .ok (v, r) → CovL d T (exprsF v)
  pFromTables : ∀ T acc ts v r, Sub T ts → CovL d T (exprsFs acc) → pFromTables d n acc ts = .ok (v, r) → CovL d T (exprsFs v)
  pJoin : ∀ T ts v r, Sub T ts → pJoin d n ts = .ok (v, r) → CovL d T (exprsJ v)
  pJoinRule : ∀ T jt t r1 v r, Sub T r1 → CovL d T (exprsF t) → pJoinRule d n jt t r1 = .ok (v, r) → CovL d T (exprsJ v)
  pJoins : ∀ T same outer acc inner v r, Sub T inner → CovL d T (exprsJs acc) → pJoins d n same outer acc inner = .ok (v, r) →
      CovL d T (exprsJs v)
  pOptOr : ∀ T kwd ts v r, Sub T ts → pOptOr d n kwd ts = .ok (v, r) → CovL d T v.toList
  pGroupingElem : ∀ T seg v, Sub T seg → pGroupingElem d n seg = .ok v → CovL d T v
  pClosedEach : ∀ T acc segs v, (∀ sg ∈ segs, Sub T sg) → CovL d T acc → pClosedEach d n acc segs = .ok v → CovL d T v
  pGroupingElems : ∀ T acc segs v, (∀ sg ∈ segs, Sub T sg) → CovL d T acc.flatten → pGroupingElems d n acc segs = .ok v →
      CovL d T v.flatten
  pGroupingSets : ∀ T ts v r, Sub T ts → pGroupingSets d n ts = .ok (v, r) → CovL d T v.flatten
  pGroupBy : ∀ T ts v r, Sub T ts → pGroupBy d n ts = .ok (v, r) → CovL d T (ogbE v)
  pGroupCols : ∀ T ts v r, Sub T ts → pGroupCols d n ts = .ok (v, r) → CovL d T v
  pGroupSetsOpt : ∀ T ts v r, Sub T ts → pGroupSetsOpt d n ts = .ok (v, r) → CovL d T (v.getD []).flatten
  pWithTable : ∀ T ts v r, Sub T ts → pWithTable d n ts = .ok (v, r) → CovL d T (exprsW v)
  pWithBody : ∀ T name r1 v r, Sub T r1 → pWithBody d n name r1 = .ok (v, r) → CovL d T (exprsW v)
  pWithTables : ∀ T acc ts v r, Sub T ts → CovL d T (exprsWs acc) → pWithTables d n acc ts = .ok (v, r) → CovL d T (exprsWs v)
  pWith : ∀ T ts v r, Sub T ts → pWith d n ts = .ok (v, r) → CovL d T (exprsWs v)
  pSelectBody : ∀ T withs same outer inner v r, Sub T inner → CovL d T (exprsWs withs) →
      pSelectBody d n withs same outer inner = .ok (v, r) → CovL d T (exprsS v)
  pFromOpt : ∀ T ts v r, Sub T ts → pFromOpt d n ts = .ok (v, r) → CovL d T (exprsOF v)
  pSelectRest : ∀ T withs dist cols same outer inner v r, Sub T inner → CovL d T (exprsWs withs) → CovL d T (cols.map (·.1)) →
      pSelectRest d n withs dist cols same outer inner = .ok (v, r) → CovL d T (exprsS v)
  pSelectTail : ∀ T withs dist cols fr lats js ts v r, Sub T ts → CovL d T (exprsWs withs) → CovL d T (cols.map (·.1)) →
      CovL d T (exprsOF fr) → CovL d T (lats.map latE) → CovL d T (exprsJs js) →
      pSelectTail d n withs dist cols fr lats js ts = .ok (v, r) → CovL d T (exprsS v)
  pWhereGroup : ∀ T ts v r, Sub T ts → pWhereGroup d n ts = .ok (v, r) → CovL d T (v.1.toList ++ ogbE v.2)
  pHavingOrder : ∀ T ts v r, Sub T ts → pHavingOrder d n ts = .ok (v, r) → CovL d T (v.1.toList ++ oiEs v.2)
  pHiveClauses : ∀ T ts v r, Sub T ts → pHiveClauses d n ts = .ok (v, r) → CovL d T (oiEs v.1 ++ (v.2.1.getD [] ++ v.2.2.getD []))
  pSortBy : ∀ T ts v r, Sub T ts → pSortBy d n ts = .ok (v, r) → CovL d T (oiEs v)
  pByList : ∀ T kwd ts v r, Sub T ts → pByList d n kwd ts = .ok (v, r) → CovL d T (v.getD [])
  pLateral : ∀ T ts v r, Sub T ts → pLateral d n ts = .ok (v, r) → Cov d T (latE v)
  pLaterals : ∀ T same outer acc inner v r, Sub T inner → CovL d T (acc.map latE) → pLaterals d n same outer acc inner = .ok (v, r) →
      CovL d T (v.map latE)
  pSingle : ∀ T withs ts v r, Sub T ts → CovL d T (exprsWs withs) → pSingle d n withs ts = .ok (v, r) → CovL d T (exprsS v)
  pSingleParen : ∀ T withs outer stack inner v r, Sub T outer → Sub T inner → CovL d T (exprsWs withs) →
      pSingleParen d n withs outer stack inner = .ok (v, r) → CovL d T (exprsS v)
  pSelectStmt : ∀ T withs ts v r, Sub T ts → CovL d T (exprsOW withs) → pSelectStmt d n withs ts = .ok (v, r) → CovL d T (exprsQ v)
  pUnions : ∀ T withs acc ts v r, Sub T ts → CovL d T (exprsWs withs) → CovL d T (exprsUs acc) →
      pUnions d n withs acc ts = .ok (v, r) → CovL d T (exprsUs v)

end WNG
