import MsqProofs.Lemmas.LexSem
/-! the losslessness invariant and its preservation by one summarised operation -/
namespace Lex

inductive Seg | tok (s : List Char) | gap (s : List Char) deriving Repr

def Seg.text : Seg → List Char | .tok s => s | .gap s => s
def tokTexts (segs : List Seg) : List (List Char) := segs.filterMap fun | .tok s => some s | .gap _ => none
def gapTexts (segs : List Seg) : List (List Char) := segs.filterMap fun | .gap s => some s | .tok _ => none

mutual
def leaves : Tok → List (List Char)
  | .single s _ => [s]
  | .group _ cs _ => leavesL cs
def leavesL : List Tok → List (List Char)
  | [] => []
  | t :: ts => leaves t ++ leavesL ts
end

theorem leavesL_append (a b : List Tok) : leavesL (a ++ b) = leavesL a ++ leavesL b := by
  induction a with
  | nil => simp [leavesL]
  | cons t ts ih => simp [leavesL, ih]

/-- leaves of all open frames, outermost first (text order) -/
def allLeaves (stack : List (List Tok)) : List (List Char) := (stack.reverse.map leavesL).flatten

theorem allLeaves_cons (f : List Tok) (fs : List (List Tok)) : allLeaves (f :: fs) = allLeaves fs ++ leavesL f := by
  simp [allLeaves]

theorem allLeaves_appendTop (t : Tok) (st st' : List (List Tok)) (h : appendTop t st = some st') :
    allLeaves st' = allLeaves st ++ leaves t := by
  cases st with
  | nil => simp [appendTop] at h
  | cons f fs =>
    simp [appendTop] at h; subst h
    simp [allLeaves_cons, leavesL_append, leavesL]

theorem take_window (text : List Char) (a b : Nat) (h : a ≤ b) :
    text.take a ++ (text.drop a).take (b - a) = text.take b := by
  have : b = a + (b - a) := by omega
  rw [this, List.take_add]
  simp

def GapsOK (G : List Char → Prop) (segs : List Seg) : Prop := ∀ g ∈ gapTexts segs, G g

structure Inv (text : List Char) (m : Mem) (segs : List Seg) : Prop where
  cover : (segs.map Seg.text).flatten = text.take m.start
  toks : tokTexts segs = allLeaves m.stack
  le : m.start ≤ m.now

variable (env : Env) (ss : S) (sm : Nat)

/-- the window `text[start:now']` an operation slices or drops -/
def window (text : List Char) (m : Mem) (adv : Bool) : List Char :=
  (text.drop m.start).take ((if adv then m.now + 1 else m.now) - m.start)

theorem allLeaves_bodyStk {m : Mem} {now : Nat} {body : Body} {stk : List (List Tok)}
    (h : bodyStk env sm m now body = some stk) :
    allLeaves stk = allLeaves m.stack ++ (match (generalizing := false) body with | .emit _ => [(env.text.drop m.start).take (now - m.start)] | _ => []) := by
  cases body with
  | emit mk => simp [allLeaves_appendTop _ _ _ h, leaves]
  | keep | drop => cases h; simp

theorem allLeaves_grpStk {grp : Grp} {stk stk' : List (List Tok)} (h : grpStk env sm grp stk = some stk') :
    allLeaves stk' = allLeaves stk := by
  cases grp with
  | none => cases h; rfl
  | push => cases h; simp [allLeaves_cons, leavesL]
  | pop k mk =>
    cases stk with
    | nil => cases h
    | cons f fs => simp [allLeaves_appendTop _ _ _ h, leaves, allLeaves_cons]

/-- one summarised operation preserves the invariant, extending the segment list by at most one segment,
which is the current window (a token if the body emits, a gap if it drops) -/
theorem execCore_inv (adv : Bool) (body : Body) (grp : Grp) (st : St) (ret : Bool) (m m' : Mem) (b : Bool)
    (segs : List Seg) (hinv : Inv env.text m segs)
    (h : execCore env ss sm adv body grp st ret m = .ok (m', b)) :
    ∃ segs', Inv env.text m' segs' ∧ m'.now = (if adv then m.now + 1 else m.now) ∧ b = ret
      ∧ m'.status = st.resolve ss m.status
      ∧ (body ≠ .keep → m'.start = m'.now) ∧ (body = .keep → m'.start = m.start)
      ∧ (segs' = segs ∨ (body ≠ .keep ∧ gapTexts segs' = gapTexts segs ++ (if body = .drop then [window env.text m adv] else []))) := by
  obtain ⟨hb, hnow, hst, hstart, stk, h1, h2⟩ := execCore_ok env ss sm h
  have hl := (allLeaves_grpStk env sm h2).trans (allLeaves_bodyStk env sm h1)
  have hle : m.start ≤ m'.now := by rw [hnow]; have := hinv.le; split <;> omega
  have hw : window env.text m adv = (env.text.drop m.start).take (m'.now - m.start) := by rw [hnow]; rfl
  have hcov : ∀ s, Seg.text s = window env.text m adv → ((segs ++ [s]).map Seg.text).flatten = env.text.take m'.now := by
    intro s hs; simp [hinv.cover, hs, hw, take_window env.text _ _ hle]
  cases body with
  | keep =>
    exact ⟨segs, ⟨by rw [hstart]; exact hinv.cover, by rw [hl, hinv.toks]; simp, by rw [hstart]; exact hle⟩, hnow, hb, hst,
      by simp, fun _ => hstart, .inl rfl⟩
  | drop =>
    exact ⟨segs ++ [.gap (window env.text m adv)], ⟨by rw [hstart]; exact hcov _ rfl, by rw [hl]; simpa [tokTexts] using hinv.toks,
      by rw [hstart]; exact Nat.le_refl _⟩, hnow, hb, hst, fun _ => hstart, by simp, .inr ⟨by simp, by simp [gapTexts]⟩⟩
  | emit mk =>
    exact ⟨segs ++ [.tok (window env.text m adv)], ⟨by rw [hstart]; exact hcov _ rfl,
      by rw [hl, ← hinv.toks, hw]; simp [tokTexts], by rw [hstart]; exact Nat.le_refl _⟩, hnow, hb, hst, fun _ => hstart, by simp,
      .inr ⟨by simp, by simp [gapTexts]⟩⟩
end Lex
