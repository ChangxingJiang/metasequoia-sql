import MsqProofs.Lemmas.ParseRelHelpers
/-! GENERATED by tools/gen_rel.py — relational reading of the parser model: the induction hypothesis for the mutual block of MsqModel/Parse/Expr.lean -/
set_option linter.unusedVariables false
set_option linter.unusedSectionVars false
set_option linter.unusedSimpArgs false
open Lex Ast
namespace PM.Rel
variable [T : Theory]

/-- every function of the mutual block, with fuel `n`, on related arguments: the same outcome, trees equal after the text map of the theory -/
structure GenF (d : Gen.D) (n : Nat) : Prop where
  pElement : ∀ x0 y0, GEL T.E x0 y0 → GER T.E (geq (mapE T.m)) (pElement d n x0) (pElement d n y0)
  pParen : ∀ x0 x1 y0 y1, T.E x0 y0 → GEL T.E x1 y1 → GER T.E (geq (mapE T.m)) (pParen d n x0 x1) (pParen d n y0 y1)
  pNamed : ∀ x0 x1 x2 y0 y1 y2, T.E x0 y0 → GEL T.E x1 y1 → GEL T.E x2 y2 → GER T.E (geq (mapE T.m)) (pNamed d n x0 x1 x2) (pNamed d n y0 y1 y2)
  pQualified : ∀ x0 x1 x2 y0 y1 y2, T.E x0 y0 → GEL T.E x1 y1 → GEL T.E x2 y2 → GER T.E (geq (mapE T.m)) (pQualified d n x0 x1 x2) (pQualified d n y0 y1 y2)
  pIndex : ∀ x0 x1 y0 y1, geq (mapE T.m) x0 y0 → GEL T.E x1 y1 → GER T.E (geq (mapE T.m)) (pIndex d n x0 x1) (pIndex d n y0 y1)
  pFuncIdx : ∀ x0 y0, GEL T.E x0 y0 → GER T.E (geq (mapE T.m)) (pFuncIdx d n x0) (pFuncIdx d n y0)
  pFunc : ∀ x0 y0, GEL T.E x0 y0 → GER T.E (geq (mapE T.m)) (pFunc d n x0) (pFunc d n y0)
  pIfCall : ∀ x0 y0, GEL T.E x0 y0 → GER T.E (geq (mapE T.m)) (pIfCall d n x0) (pIfCall d n y0)
  pFirstDiscard : ∀ x0 y0, GEL T.E x0 y0 → GEX (GEL T.E) (pFirstDiscard d n x0) (pFirstDiscard d n y0)
  pFirstArg : ∀ x0 y0, GEL T.E x0 y0 → GER T.E (geq (List.map (mapE T.m))) (pFirstArg d n x0) (pFirstArg d n y0)
  pCall : ∀ x0 x1 x2 y0 y1 y2, T.fnRel (x0, x1) (y0, y1) → GEL T.E x2 y2 → GER T.E (geq (mapE T.m)) (pCall d n x0 x1 x2) (pCall d n y0 y1 y2)
  pArgs : ∀ x0 x1 y0 y1, geq (List.map (mapE T.m)) x0 y0 → GEL T.E x1 y1 → GER T.E (geq (List.map (mapE T.m))) (pArgs d n x0 x1) (pArgs d n y0 y1)
  pCase : ∀ x0 y0, GEL T.E x0 y0 → GER T.E (geq (mapE T.m)) (pCase d n x0) (pCase d n y0)
  pElseEnd : ∀ x0 y0, GEL T.E x0 y0 → GER T.E (geq (Option.map (mapE T.m))) (pElseEnd d n x0) (pElseEnd d n y0)
  pWhens : ∀ x0 x1 y0 y1, geq (List.map (Prod.map (mapE T.m) (mapE T.m))) x0 y0 → GEL T.E x1 y1 → GER T.E (geq (List.map (Prod.map (mapE T.m) (mapE T.m)))) (pWhens d n x0 x1) (pWhens d n y0 y1)
  pUnary : ∀ x0 y0, GEL T.E x0 y0 → GER T.E (geq (mapE T.m)) (pUnary d n x0) (pUnary d n y0)
  pCompute : ∀ x0 y0, GEL T.E x0 y0 → GER T.E (geq (mapE T.m)) (pCompute d n x0) (pCompute d n y0)
  pComputeLoop : ∀ x0 x1 x2 y0 y1 y2, geq (mapSt T.m) x0 y0 → geq (mapE T.m) x1 y1 → GEL T.E x2 y2 → GER T.E (geq (mapE T.m)) (pComputeLoop d n x0 x1 x2) (pComputeLoop d n y0 y1 y2)
  pKeyword : ∀ x0 x1 y0 y1, geq (Option.map (mapE T.m)) x0 y0 → GEL T.E x1 y1 → GER T.E (geq (mapE T.m)) (pKeyword d n x0 x1) (pKeyword d n y0 y1)
  pKwFirst : ∀ x0 x1 y0 y1, geq (Option.map (mapE T.m)) x0 y0 → GEL T.E x1 y1 → GER T.E (geq (mapE T.m)) (pKwFirst d n x0 x1) (pKwFirst d n y0 y1)
  pKwRest : ∀ x0 x1 x2 y0 y1 y2, geq (mapE T.m) x0 y0 → x1 = y1 → GEL T.E x2 y2 → GER T.E (geq (mapE T.m)) (pKwRest d n x0 x1 x2) (pKwRest d n y0 y1 y2)
  pKwBody : ∀ x0 x1 x2 x3 y0 y1 y2 y3, T.kwRel x0 y0 → x1 = y1 → geq (mapE T.m) x2 y2 → GEL T.E x3 y3 → GEX (gOpt T.E (geq (mapE T.m))) (pKwBody d n x0 x1 x2 x3) (pKwBody d n y0 y1 y2 y3)
  pBetween : ∀ x0 x1 x2 y0 y1 y2, x0 = y0 → geq (mapE T.m) x1 y1 → GEL T.E x2 y2 → GEX (gOpt T.E (geq (mapE T.m))) (pBetween d n x0 x1 x2) (pBetween d n y0 y1 y2)
  pInBody : ∀ x0 x1 x2 y0 y1 y2, x0 = y0 → geq (mapE T.m) x1 y1 → GEL T.E x2 y2 → GEX (gOpt T.E (geq (mapE T.m))) (pInBody d n x0 x1 x2) (pInBody d n y0 y1 y2)
  pSplit : ∀ x0 x1 x2 y0 y1 y2, geq (List.map (mapE T.m)) x0 y0 → GEL T.E x1 y1 → GEL T.E x2 y2 → GEX (geq (List.map (mapE T.m))) (pSplit d n x0 x1 x2) (pSplit d n y0 y1 y2)
  pCompare : ∀ x0 y0, GEL T.E x0 y0 → GER T.E (geq (mapE T.m)) (pCompare d n x0) (pCompare d n y0)
  pCompareLoop : ∀ x0 x1 y0 y1, geq (mapE T.m) x0 y0 → GEL T.E x1 y1 → GER T.E (geq (mapE T.m)) (pCompareLoop d n x0 x1) (pCompareLoop d n y0 y1)
  pNot : ∀ x0 y0, GEL T.E x0 y0 → GER T.E (geq (mapE T.m)) (pNot d n x0) (pNot d n y0)
  pAnd : ∀ x0 y0, GEL T.E x0 y0 → GER T.E (geq (mapE T.m)) (pAnd d n x0) (pAnd d n y0)
  pAndLoop : ∀ x0 x1 y0 y1, geq (mapE T.m) x0 y0 → GEL T.E x1 y1 → GER T.E (geq (mapE T.m)) (pAndLoop d n x0 x1) (pAndLoop d n y0 y1)
  pXor : ∀ x0 y0, GEL T.E x0 y0 → GER T.E (geq (mapE T.m)) (pXor d n x0) (pXor d n y0)
  pXorLoop : ∀ x0 x1 y0 y1, geq (mapE T.m) x0 y0 → GEL T.E x1 y1 → GER T.E (geq (mapE T.m)) (pXorLoop d n x0 x1) (pXorLoop d n y0 y1)
  pOr : ∀ x0 y0, GEL T.E x0 y0 → GER T.E (geq (mapE T.m)) (pOr d n x0) (pOr d n y0)
  pOrLoop : ∀ x0 x1 y0 y1, geq (mapE T.m) x0 y0 → GEL T.E x1 y1 → GER T.E (geq (mapE T.m)) (pOrLoop d n x0 x1) (pOrLoop d n y0 y1)
  pSubQuery : ∀ x0 y0, GEL T.E x0 y0 → GER T.E (geq (mapE T.m)) (pSubQuery d n x0) (pSubQuery d n y0)
  pCast : ∀ x0 y0, GEL T.E x0 y0 → GER T.E (geq (mapE T.m)) (pCast d n x0) (pCast d n y0)
  pExtract : ∀ x0 y0, GEL T.E x0 y0 → GER T.E (geq (mapE T.m)) (pExtract d n x0) (pExtract d n y0)
  pExtractTail : ∀ x0 x1 y0 y1, geq (mapE T.m) x0 y0 → GEL T.E x1 y1 → GEX (geq (mapE T.m)) (pExtractTail d n x0 x1) (pExtractTail d n y0 y1)
  pWindow : ∀ x0 y0, GEL T.E x0 y0 → GER T.E (geq (mapE T.m)) (pWindow d n x0) (pWindow d n y0)
  pWindowBody : ∀ x0 x1 y0 y1, geq (mapE T.m) x0 y0 → GEL T.E x1 y1 → GEX (geq (mapE T.m)) (pWindowBody d n x0 x1) (pWindowBody d n y0 y1)
  pPartitionBy : ∀ x0 y0, GEL T.E x0 y0 → GER T.E (geq (List.map (mapE T.m))) (pPartitionBy d n x0) (pPartitionBy d n y0)
  pComputeList : ∀ x0 x1 y0 y1, geq (List.map (mapE T.m)) x0 y0 → GEL T.E x1 y1 → GER T.E (geq (List.map (mapE T.m))) (pComputeList d n x0 x1) (pComputeList d n y0 y1)
  pOrderItem : ∀ x0 y0, GEL T.E x0 y0 → GER T.E (geq (mapO T.m)) (pOrderItem d n x0) (pOrderItem d n y0)
  pOrderList : ∀ x0 x1 y0 y1, geq (List.map (mapO T.m)) x0 y0 → GEL T.E x1 y1 → GER T.E (geq (List.map (mapO T.m))) (pOrderList d n x0 x1) (pOrderList d n y0 y1)
  pOrderByOpt : ∀ x0 y0, GEL T.E x0 y0 → GER T.E (geq (Option.map (List.map (mapO T.m)))) (pOrderByOpt d n x0) (pOrderByOpt d n y0)
  pSelectCol : ∀ x0 y0, GEL T.E x0 y0 → GER T.E (geq (Prod.map (mapE T.m) (Option.map T.m))) (pSelectCol d n x0) (pSelectCol d n y0)
  pSelectCols : ∀ x0 x1 y0 y1, geq (List.map (Prod.map (mapE T.m) (Option.map T.m))) x0 y0 → GEL T.E x1 y1 → GER T.E (geq (List.map (Prod.map (mapE T.m) (Option.map T.m)))) (pSelectCols d n x0 x1) (pSelectCols d n y0 y1)
  pTableExpr : ∀ x0 y0, GEL T.E x0 y0 → GER T.E (geq (mapTR T.m)) (pTableExpr d n x0) (pTableExpr d n y0)
  pFromTable : ∀ x0 y0, GEL T.E x0 y0 → GER T.E (geq (mapFT T.m)) (pFromTable d n x0) (pFromTable d n y0)
  pFromTables : ∀ x0 x1 y0 y1, geq (List.map (mapFT T.m)) x0 y0 → GEL T.E x1 y1 → GER T.E (geq (List.map (mapFT T.m))) (pFromTables d n x0 x1) (pFromTables d n y0 y1)
  pJoin : ∀ x0 y0, GEL T.E x0 y0 → GER T.E (geq (mapJ T.m)) (pJoin d n x0) (pJoin d n y0)
  pJoinRule : ∀ x0 x1 x2 y0 y1 y2, geq T.m x0 y0 → geq (mapFT T.m) x1 y1 → GEL T.E x2 y2 → GER T.E (geq (mapJ T.m)) (pJoinRule d n x0 x1 x2) (pJoinRule d n y0 y1 y2)
  pJoins : ∀ x0 x1 x2 x3 y0 y1 y2 y3, x0 = y0 → GEL T.E x1 y1 → geq (List.map (mapJ T.m)) x2 y2 → GEL T.E x3 y3 → GER T.E (geq (List.map (mapJ T.m))) (pJoins d n x0 x1 x2 x3) (pJoins d n y0 y1 y2 y3)
  pOptOr : ∀ x0 x1 y0 y1, x0 = y0 → T.plain x0 = true → GEL T.E x1 y1 → GER T.E (geq (Option.map (mapE T.m))) (pOptOr d n x0 x1) (pOptOr d n y0 y1)
  pGroupingElem : ∀ x0 y0, GEL T.E x0 y0 → GEX (geq (List.map (mapE T.m))) (pGroupingElem d n x0) (pGroupingElem d n y0)
  pClosedEach : ∀ x0 x1 y0 y1, geq (List.map (mapE T.m)) x0 y0 → GELL T.E x1 y1 → GEX (geq (List.map (mapE T.m))) (pClosedEach d n x0 x1) (pClosedEach d n y0 y1)
  pGroupingElems : ∀ x0 x1 y0 y1, geq (List.map (List.map (mapE T.m))) x0 y0 → GELL T.E x1 y1 → GEX (geq (List.map (List.map (mapE T.m)))) (pGroupingElems d n x0 x1) (pGroupingElems d n y0 y1)
  pGroupingSets : ∀ x0 y0, GEL T.E x0 y0 → GER T.E (geq (List.map (List.map (mapE T.m)))) (pGroupingSets d n x0) (pGroupingSets d n y0)
  pGroupBy : ∀ x0 y0, GEL T.E x0 y0 → GER T.E (geq (Option.map (mapG T.m))) (pGroupBy d n x0) (pGroupBy d n y0)
  pGroupCols : ∀ x0 y0, GEL T.E x0 y0 → GER T.E (geq (List.map (mapE T.m))) (pGroupCols d n x0) (pGroupCols d n y0)
  pGroupSetsOpt : ∀ x0 y0, GEL T.E x0 y0 → GER T.E (geq (Option.map (List.map (List.map (mapE T.m))))) (pGroupSetsOpt d n x0) (pGroupSetsOpt d n y0)
  pWithTable : ∀ x0 y0, GEL T.E x0 y0 → GER T.E (geq (mapW T.m)) (pWithTable d n x0) (pWithTable d n y0)
  pWithBody : ∀ x0 x1 y0 y1, geq T.m x0 y0 → GEL T.E x1 y1 → GER T.E (geq (mapW T.m)) (pWithBody d n x0 x1) (pWithBody d n y0 y1)
  pWithTables : ∀ x0 x1 y0 y1, geq (List.map (mapW T.m)) x0 y0 → GEL T.E x1 y1 → GER T.E (geq (List.map (mapW T.m))) (pWithTables d n x0 x1) (pWithTables d n y0 y1)
  pWith : ∀ x0 y0, GEL T.E x0 y0 → GER T.E (geq (List.map (mapW T.m))) (pWith d n x0) (pWith d n y0)
  pSelectBody : ∀ x0 x1 x2 x3 y0 y1 y2 y3, geq (List.map (mapW T.m)) x0 y0 → x1 = y1 → GEL T.E x2 y2 → GEL T.E x3 y3 → GER T.E (geq (mapS T.m)) (pSelectBody d n x0 x1 x2 x3) (pSelectBody d n y0 y1 y2 y3)
  pFromOpt : ∀ x0 y0, GEL T.E x0 y0 → GER T.E (geq (Option.map (List.map (mapFT T.m)))) (pFromOpt d n x0) (pFromOpt d n y0)
  pSelectRest : ∀ x0 x1 x2 x3 x4 x5 y0 y1 y2 y3 y4 y5, geq (List.map (mapW T.m)) x0 y0 → x1 = y1 → geq (List.map (Prod.map (mapE T.m) (Option.map T.m))) x2 y2 → x3 = y3 → GEL T.E x4 y4 → GEL T.E x5 y5 → GER T.E (geq (mapS T.m)) (pSelectRest d n x0 x1 x2 x3 x4 x5) (pSelectRest d n y0 y1 y2 y3 y4 y5)
  pSelectTail : ∀ x0 x1 x2 x3 x4 x5 x6 y0 y1 y2 y3 y4 y5 y6, geq (List.map (mapW T.m)) x0 y0 → x1 = y1 → geq (List.map (Prod.map (mapE T.m) (Option.map T.m))) x2 y2 → geq (Option.map (List.map (mapFT T.m))) x3 y3 → geq (List.map (mapLat T.m)) x4 y4 → geq (List.map (mapJ T.m)) x5 y5 → GEL T.E x6 y6 → GER T.E (geq (mapS T.m)) (pSelectTail d n x0 x1 x2 x3 x4 x5 x6) (pSelectTail d n y0 y1 y2 y3 y4 y5 y6)
  pWhereGroup : ∀ x0 y0, GEL T.E x0 y0 → GER T.E (geq (Prod.map (Option.map (mapE T.m)) (Option.map (mapG T.m)))) (pWhereGroup d n x0) (pWhereGroup d n y0)
  pHavingOrder : ∀ x0 y0, GEL T.E x0 y0 → GER T.E (geq (Prod.map (Option.map (mapE T.m)) (Option.map (List.map (mapO T.m))))) (pHavingOrder d n x0) (pHavingOrder d n y0)
  pHiveClauses : ∀ x0 y0, GEL T.E x0 y0 → GER T.E (geq (Prod.map (Option.map (List.map (mapO T.m))) (Prod.map (Option.map (List.map (mapE T.m))) (Option.map (List.map (mapE T.m)))))) (pHiveClauses d n x0) (pHiveClauses d n y0)
  pSortBy : ∀ x0 y0, GEL T.E x0 y0 → GER T.E (geq (Option.map (List.map (mapO T.m)))) (pSortBy d n x0) (pSortBy d n y0)
  pByList : ∀ x0 x1 y0 y1, x0 = y0 → T.plain x0 = true → GEL T.E x1 y1 → GER T.E (geq (Option.map (List.map (mapE T.m)))) (pByList d n x0 x1) (pByList d n y0 y1)
  pLateral : ∀ x0 y0, GEL T.E x0 y0 → GER T.E (geq (mapLat T.m)) (pLateral d n x0) (pLateral d n y0)
  pLaterals : ∀ x0 x1 x2 x3 y0 y1 y2 y3, x0 = y0 → GEL T.E x1 y1 → geq (List.map (mapLat T.m)) x2 y2 → GEL T.E x3 y3 → GER T.E (geq (List.map (mapLat T.m))) (pLaterals d n x0 x1 x2 x3) (pLaterals d n y0 y1 y2 y3)
  pSingle : ∀ x0 x1 y0 y1, geq (List.map (mapW T.m)) x0 y0 → GEL T.E x1 y1 → GER T.E (geq (mapS T.m)) (pSingle d n x0 x1) (pSingle d n y0 y1)
  pSingleParen : ∀ x0 x1 x2 x3 y0 y1 y2 y3, geq (List.map (mapW T.m)) x0 y0 → GEL T.E x1 y1 → GELL T.E x2 y2 → GEL T.E x3 y3 → GER T.E (geq (mapS T.m)) (pSingleParen d n x0 x1 x2 x3) (pSingleParen d n y0 y1 y2 y3)
  pSelectStmt : ∀ x0 x1 y0 y1, geq (Option.map (List.map (mapW T.m))) x0 y0 → GEL T.E x1 y1 → GER T.E (geq (mapQ T.m)) (pSelectStmt d n x0 x1) (pSelectStmt d n y0 y1)
  pUnions : ∀ x0 x1 x2 y0 y1 y2, geq (List.map (mapW T.m)) x0 y0 → geq (List.map (Prod.map T.m (mapS T.m))) x1 y1 → GEL T.E x2 y2 → GER T.E (geq (List.map (Prod.map T.m (mapS T.m)))) (pUnions d n x0 x1 x2) (pUnions d n y0 y1 y2)

end PM.Rel
