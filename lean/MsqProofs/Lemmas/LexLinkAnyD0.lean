import MsqProofs.Lemmas.LexLinkQ2M
import MsqProofs.Lemmas.TDmlQ0
import MsqProofs.Lemmas.LexLinkDml1
/-!
# The lexer link for data-change statements over `FragQ2`: the mirror of `PR.prStmt` on `TDM2.FragStmt`, the payloads

What does not mention the fragment comes from `LLD` (`LexLinkPc.lean`, `LexLinkDml0–1.lean`).
-/
namespace LL2.Any
open Lex Spec C05 C06 C09 Ast TP TS LexLink TQ2
open LLD (ps pc insertWordsL)

theorem lx_joinC {α : Type} (txt : α → List Char) (tk : α → List Tok) :
    ∀ (xs : List α), (∀ x ∈ xs, Lx (txt x) (tk x)) → Lx (joinLL [',', ' '] (xs.map txt)) (TDM2.joinC (xs.map tk))
  | [], _ => lx_nil
  | [x], h => by simpa [joinLL, TDM2.joinC] using h x (by simp)
  | x :: y :: r, h => by
    have := Lx.comma (h x (by simp)) (lx_joinC txt tk (y :: r) fun z hz => h z (by simp [hz]))
    exact Lx.congr this (by simp [joinLL]) (by simp [TDM2.joinC])

theorem pc_joinC {K : QKit} {α : Type} (txt : α → List Char) (tk : α → List Tok) (xs : List α) (h : ∀ x ∈ xs, LexLink.Pc K (txt x) (tk x)) :
    LexLink.Pc K (joinLL [',', ' '] (xs.map txt)) (TDM2.joinC (xs.map tk)) :=
  ⟨lx_joinC txt tk xs fun x hx => (h x hx).lx, K.joinLL2 _ fun y hy => by obtain ⟨x, hx, rfl⟩ := List.mem_map.mp hy; exact (h x hx).q⟩

def withItemL (d : Gen.D) : WithTable → List Char
  | .mk n q => qnameL n ++ ' ' :: ("AS".toList ++ ' ' :: '(' :: (prQ2L d q ++ [')']))

/-- `PR.prWithPrefix d sep` -/
def withPrefixL (d : Gen.D) (sep : List Char) : Option (List WithTable) → List Char
  | some (w :: r) => "WITH".toList ++ ' ' :: (joinLL [',', ' ', '\n'] ((w :: r).map (withItemL d)) ++ sep)
  | _ => []

def setL (d : Gen.D) (p : String × Expr) : List Char := '`' :: (p.1.toList ++ '`' :: ' ' :: '=' :: ' ' :: prE4L d p.2)

/-- the pieces of `PR.prTail` (each is printed behind one blank) -/
def tailPieces (d : Gen.D) (wh : Option Expr) (ob : Option (List OrderItem)) (lm : Option (Int × Option Int)) : List (List Char) :=
  opt4LL d "WHERE" wh ++ (order4LL d "ORDER" ob ++ (limitC lm).map (·.1))

def colNameL (d : Gen.D) (c : Option String × String) : List Char := prE4L d (.column c.1 c.2)

def partPieces (d : Gen.D) : Option (List Expr) → List (List Char)
  | none => []
  | some es => ["PARTITION".toList ++ ' ' :: '(' :: (joinLL [',', ' '] (es.map (prE4L d)) ++ [')'])]

def colPieces (d : Gen.D) : Option (List (Option String × String)) → List (List Char)
  | none => []
  | some cs => ['(' :: (joinLL [',', ' '] (cs.map (colNameL d)) ++ [')'])]

/-- the pieces of `PR.prInsertHead` after the WITH prefix (each is printed with one blank behind it) -/
def headPieces (d : Gen.D) (h : InsertHead) : List (List Char) :=
  insertWordsL h.type :: ((if d == .HIVE then ["TABLE".toList] else []) ++
    (tblL h.table.schema h.table.name :: (partPieces d h.partition ++ colPieces d h.columns)))

def vrowL (d : Gen.D) (r : List Expr) : List Char := prE4L d (.subValue r)

def stmtL (d : Gen.D) : Stmt → List Char
  | .select q => withPrefixL d ['\n'] (TDM2.withsOf q) ++ prQ2L d q
  | .insertValues h vs =>
      withPrefixL d ['\n'] h.withs ++ (ps (headPieces d h) ++ ("VALUES".toList ++ ' ' :: joinLL [',', ' '] (vs.map (vrowL d))))
  | .insertSelect h q => withPrefixL d ['\n'] h.withs ++ (ps (headPieces d h) ++ ' ' :: prQ2L d q)
  | .update ws t sets wh ob lm =>
      withPrefixL d ['\n', '\n'] ws ++ ("UPDATE".toList ++ ' ' :: (tblL t.schema t.name ++ ' ' :: ("SET".toList ++ ' ' ::
        (joinLL [',', ' '] (sets.map (setL d)) ++ pc (tailPieces d wh ob lm)))))
  | .delete t wh ob lm =>
      "DELETE".toList ++ ' ' :: ("FROM".toList ++ ' ' :: (tblL t.schema t.name ++ ' ' :: pc (tailPieces d wh ob lm)))
  | _ => []

def leavesWL : List WithTable → List Leaf2
  | [] => []
  | .mk n q :: r => .old (.wild n) :: (leavesQ2 q ++ leavesWL r)

def leavesWiths : Option (List WithTable) → List Leaf2
  | none => []
  | some ws => leavesWL ws

def leavesSets : List (String × Expr) → List Leaf2
  | [] => []
  | (c, e) :: r => .old (.wild c) :: (leavesE4 e ++ leavesSets r)

def leavesRows : List (List Expr) → List Leaf2
  | [] => []
  | r :: rs => leavesL4 r ++ leavesRows rs

def leavesPart : Option (List Expr) → List Leaf2
  | none => []
  | some es => leavesL4 es

def leavesColNames : Option (List (Option String × String)) → List Leaf2
  | none => []
  | some cs => cs.map fun p => .old (.col p.1 p.2)

def leavesHead (h : InsertHead) : List Leaf2 :=
  leavesWiths h.withs ++ (.old (.tbl h.table.schema h.table.name) :: (leavesPart h.partition ++ leavesColNames h.columns))

def leavesStmt : Stmt → List Leaf2
  | .select q => leavesWiths (TDM2.withsOf q) ++ leavesQ2 q
  | .insertValues h vs => leavesHead h ++ leavesRows vs
  | .insertSelect h q => leavesHead h ++ leavesQ2 q
  | .update ws t sets wh ob _ => leavesWiths ws ++ (.old (.tbl t.schema t.name) :: (leavesSets sets ++ (leavesO4 wh ++ leavesOrder4 ob)))
  | .delete t wh ob _ => .old (.tbl t.schema t.name) :: (leavesO4 wh ++ leavesOrder4 ob)
  | _ => []

end LL2.Any
