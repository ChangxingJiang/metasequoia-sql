import MsqProofs.Lemmas.TSpellP
/-! Spelling-generalised T-parse, expression layer: the compute level — the layer of MsqProofs/Lemmas/TCoreCompute.lean at the spelled
printer (each operator spelled by `sp.word` of the operand after it), in front of `stopLE2`. -/
open Lex PM Ast SR TP TP2 TQ
namespace TSP
variable (d : Gen.D) (sp : Sp)

theorem opOK_notOver_unused {o : Op} (h : OpOK o) (x : List Tok) : headIsOver (opTok (cval o.name) :: x) = false := by
  have h1 := h.1
  simp only [headIsOver, Tok.srcEqUp, beq_eq_false_iff_ne, ne_eq]
  intro he
  rw [he] at h1
  have : computeOp? "OVER" = none := by decide
  rw [this] at h1; cases h1

def Opd (u : Expr) : Prop := Full2 d (P2 d) 2 0 (W3 d sp u 2) u

theorem frag_compute {l r : Expr} {o : String} (h : FragE3 d (.compute l o r) = true) :
    binOK d o = true ∧ FragE3 d l = true ∧ FragE3 d r = true := by
  simp only [FragE3, Bool.and_eq_true] at h; exact ⟨h.1.1, h.1.2, h.2⟩
theorem computeFrag : TC.ComputeFrag d sp.ch (toksE3 d sp) (fun o u => opTok (cvalSp (sp.word u) o.name)) (FragE3 d · = true) szE3 where
  sub := frag_compute d
  size _ _ _ := by simp only [szE3]
  tok u h := ⟨(opOKs_of h (sp.word u)).1, (opOKs_of h (sp.word u)).2, rfl⟩
  node l o r := by simp only [toksE3, lvl_compute, opdAfter]

theorem compute_node (e : Expr) (hc : isCompute e = true) (hf : FragE3 d e = true)
    (ih : ∀ u, FragE3 d u = true → szE3 u < szE3 e → Opd d sp u) : Full2 d (P8 d) 8 2 (toksE3 d sp e) e :=
  TC.fullO_true.1 (TC.compute_node (computeFrag d sp) true e hc hf fun u fu su => TC.fullO_true.2 (ih u fu su))

end TSP
