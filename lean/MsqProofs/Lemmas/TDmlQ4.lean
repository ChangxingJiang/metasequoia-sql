import MsqProofs.Lemmas.TDmlRI
/-!
# T-parse for data-change statements over `FragQ2`: the statement level (C03 / C01)

`stmt_ok`: one iteration of the loop of `parse_statements` (`pStatement`) on the rendering of a fragment statement returns that statement,
in front of every continuation with `stopsStmt`, at every fuel above `20 * tokens + 16` — `TDM3.stmt_ok` (Lemmas/TDmlR4.lean) at the same
tree: `TDM2.FragStmt ⊆ TDM3.FragStmt` with equal renderings (Lemmas/TDmlRI.lean).
-/
open Lex PM Ast TP TS
open TQ2
namespace TDM2
variable {d : Gen.D} {ch : Expr → Bool}

theorem grp_notComma (cs : List Tok) : (grp cs).srcEq "," = false := TDM3.grp_notComma cs
theorem kw_noParen : (opTok "VALUES").has PAREN = false ∧ (opTok "SELECT").has PAREN = false := TDM3.kw_noParen
theorem sizeL_insertWords (ty : String) (hty : insertTyOK ty = true) : 2 ≤ sizeL (insertWords ty) := TDM3.sizeL_insertWords ty hty

theorem stmt_ok (tb : Bool) (s : Stmt) (hs : FragStmt d s = true) (rest : List Tok) (hr : stopsStmt d rest = true) :
    OkAt (fun f => pStatement d f (toksStmtG d ch tb s ++ rest)) (20 * sizeL (toksStmtG d ch tb s) + 16) (s, rest) := by
  obtain ⟨h1, h2⟩ := TDM3.fragStmt2_sub d ch tb s hs
  rw [← h2]
  exact TDM3.stmt_ok tb s h1 rest hr  -- `TDM2.stopsStmt` = `TQ2.stopsQ2` and `TDM3.stopsStmt` = `TQ3.stopsQ3` unfold to the same term

end TDM2
