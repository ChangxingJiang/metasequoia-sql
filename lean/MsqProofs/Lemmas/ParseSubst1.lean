import MsqProofs.Lemmas.ParseSubst0
import MsqProofs.Lemmas.ParseRel0
/-!
# C06, parser half: "the same quoted regions, other payloads" on tokens, and the relations on runs

* `SrcQ s s'` — two (different) source texts of which the parser SEES nothing and STORES only payload texts: both begin with a quote
  character `'` `"` `` ` `` (or with `(`: the rendering of a bracket group that contains a replaced token), both or neither contain a
  non-ASCII character (the model answers `UNMODELLED` for `int()` of non-ASCII text), and the source and the source without back-quotes
  of both are in the payload set `P`.
* `QE t t'` — equal, or both leaves with the same marks and `SrcQ` sources — and, if they carry the NAME mark, neither source contains
  exactly one dot (`_parse_function_name_expression` / `_parse_table_name_expression` split the text of ONE name token at a dot: F-C06-5) —,
  or both bracket groups of the same kind and marks with pointwise related children (and, if the children differ, no NAME mark — the lexer
  never emits one on a group — and `SrcQ` renderings: the parser stores the rendering of a whole group in a few degenerate positions).
* `QER`, `QEX`, `qeOpt` — as `CER`, `CEX`, `ceOpt` of C09.
-/
open Lex PM Ast
namespace PMQ
def QEX {α : Type} (rv : α → α → Prop) (a b : Except Err α) : Prop :=
  match a, b with
  | .ok v, .ok v' => rv v v'
  | .error e, .error e' => e = e'
  | _, _ => False
@[simp, grind =] theorem qex_ok_ok {α : Type} (rv : α → α → Prop) (v v' : α) : QEX rv (.ok v) (.ok v') = rv v v' := by simp [QEX]
@[simp, grind =] theorem qex_err_err {α : Type} (rv : α → α → Prop) (e e' : Err) : QEX rv (.error e) (.error e') = (e = e') := by simp [QEX]
@[simp, grind =] theorem qex_ok_err {α : Type} (rv : α → α → Prop) (v : α) (e : Err) : QEX rv (.ok v) (.error e) = False := by simp [QEX]
@[simp, grind =] theorem qex_err_ok {α : Type} (rv : α → α → Prop) (v : α) (e : Err) : QEX rv (.error e) (.ok v) = False := by simp [QEX]

variable [S : PaySet]

abbrev p128 : Char → Bool := fun c => decide (c.toNat ≥ 128)
/-- the first character is a quote character or `(` -/
def opaqueHead : List Char → Bool
  | c :: _ => c == '\'' || c == '"' || c == '`' || c == '('
  | [] => false
def dotOK (s : List Char) : Bool := (s.filter (· == '.')).length != 1

/-- two source texts the parser sees nothing of and stores only as payload texts -/
def SrcQ (s s' : List Char) : Prop :=
  opaqueHead s = true ∧ opaqueHead s' = true ∧ s.any p128 = s'.any p128 ∧
  PaySet.P (String.ofList s) = true ∧ PaySet.P (String.ofList s') = true ∧
  PaySet.P (unifyName (String.ofList s)) = true ∧ PaySet.P (unifyName (String.ofList s')) = true

mutual
/-- the two tokens differ at most inside quoted regions (payloads from the payload set) -/
def QE : Tok → Tok → Prop
  | .single s m, .single s' m' => m = m' ∧ (s = s' ∨ (SrcQ s s' ∧ (m &&& NAME = 0 ∨ (dotOK s = true ∧ dotOK s' = true))))
  | .group k cs m, .group k' cs' m' => k = k' ∧ m = m' ∧ QEL cs cs' ∧
      (cs = cs' ∨ (m &&& NAME = 0 ∧ SrcQ ('(' :: (sourceL cs ++ [')'])) ('(' :: (sourceL cs' ++ [')']))))
  | .single _ _, .group _ _ _ => False
  | .group _ _ _, .single _ _ => False
def QEL : List Tok → List Tok → Prop
  | [], [] => True
  | t :: ts, t' :: ts' => QE t t' ∧ QEL ts ts'
  | [], _ :: _ => False
  | _ :: _, [] => False
end
def QELL : List (List Tok) → List (List Tok) → Prop
  | [], [] => True
  | a :: as, b :: bs => QEL a b ∧ QELL as bs
  | [], _ :: _ => False
  | _ :: _, [] => False

@[simp, grind =] theorem qel_nil_nil : QEL [] [] = True := by simp [QEL]
@[simp, grind =] theorem qel_cons_cons (t t' : Tok) (ts ts' : List Tok) : QEL (t :: ts) (t' :: ts') = (QE t t' ∧ QEL ts ts') := by simp [QEL]
@[simp, grind =] theorem qel_nil_cons (t : Tok) (ts : List Tok) : QEL [] (t :: ts) = False := by simp [QEL]
@[simp, grind =] theorem qel_cons_nil (t : Tok) (ts : List Tok) : QEL (t :: ts) [] = False := by simp [QEL]
@[simp, grind =] theorem qell_nil_nil : QELL [] [] = True := by simp [QELL]
@[simp, grind =] theorem qell_cons_cons (a b : List Tok) (as bs : List (List Tok)) : QELL (a :: as) (b :: bs) = (QEL a b ∧ QELL as bs) := by simp [QELL]
@[simp, grind =] theorem qell_nil_cons (a : List Tok) (as : List (List Tok)) : QELL [] (a :: as) = False := by simp [QELL]
@[simp, grind =] theorem qell_cons_nil (a : List Tok) (as : List (List Tok)) : QELL (a :: as) [] = False := by simp [QELL]

mutual
theorem QE.refl : ∀ t : Tok, QE t t
  | .single s m => by simp [QE]
  | .group k cs m => by simp [QE]; exact QEL.refl cs
theorem QEL.refl : ∀ ts : List Tok, QEL ts ts
  | [] => by simp
  | t :: ts => by simp; exact ⟨QE.refl t, QEL.refl ts⟩
end
/-- both runs fail with the same error, or both succeed with related values and related remaining cursors -/
def QER {α : Type} (rv : α → α → Prop) (a b : R α) : Prop :=
  match a, b with
  | .ok (v, r), .ok (v', r') => rv v v' ∧ QEL r r'
  | .error e, .error e' => e = e'
  | _, _ => False
@[simp, grind =] theorem qer_ok_ok {α : Type} (rv : α → α → Prop) (v v' : α) (r r' : List Tok) :
    QER rv (.ok (v, r)) (.ok (v', r')) = (rv v v' ∧ QEL r r') := by simp [QER]
@[simp, grind =] theorem qer_err_err {α : Type} (rv : α → α → Prop) (e e' : Err) : QER rv (.error e) (.error e') = (e = e') := by simp [QER]
@[simp, grind =] theorem qer_ok_err {α : Type} (rv : α → α → Prop) (p : α × List Tok) (e : Err) : QER rv (.ok p) (.error e) = False := by
  obtain ⟨v, r⟩ := p; simp [QER]
@[simp, grind =] theorem qer_err_ok {α : Type} (rv : α → α → Prop) (p : α × List Tok) (e : Err) : QER rv (.error e) (.ok p) = False := by
  obtain ⟨v, r⟩ := p; simp [QER]
/-- related optional (value, cursor) pairs: `pKwBody`, `pBetween`, `pInBody` -/
def qeOpt {α : Type} (rv : α → α → Prop) (a b : Option (α × List Tok)) : Prop :=
  match a, b with
  | some (v, r), some (v', r') => rv v v' ∧ QEL r r'
  | none, none => True
  | _, _ => False
@[simp, grind =] theorem qeOpt_some_some {α : Type} (rv : α → α → Prop) (v v' : α) (r r' : List Tok) :
    qeOpt rv (some (v, r)) (some (v', r')) = (rv v v' ∧ QEL r r') := by simp [qeOpt]
@[simp, grind =] theorem qeOpt_none_none {α : Type} (rv : α → α → Prop) : qeOpt rv none none = True := by simp [qeOpt]
@[simp, grind =] theorem qeOpt_some_none {α : Type} (rv : α → α → Prop) (p : α × List Tok) : qeOpt rv (some p) none = False := by
  obtain ⟨v, r⟩ := p; simp [qeOpt]
@[simp, grind =] theorem qeOpt_none_some {α : Type} (rv : α → α → Prop) (p : α × List Tok) : qeOpt rv none (some p) = False := by
  obtain ⟨v, r⟩ := p; simp [qeOpt]

theorem qel_eq : QEL = Rel.GEL QE := by
  funext ts ts'
  induction ts generalizing ts' with
  | nil => cases ts' <;> simp
  | cons t ts ih => cases ts' <;> simp [ih]
theorem qell_eq : QELL = Rel.GELL QE := by
  funext a b
  induction a generalizing b with
  | nil => cases b <;> simp
  | cons x a ih => cases b <;> simp [ih, qel_eq]
theorem qer_eq : @QER S = @Rel.GER QE := by
  funext α rv a b
  rcases a with e | ⟨v, r⟩ <;> rcases b with e' | ⟨v', r'⟩ <;> simp [qel_eq]
omit S in
theorem qex_eq : @QEX = @Rel.GEX := by
  funext α rv a b
  rcases a with e | v <;> rcases b with e' | v' <;> simp
theorem qeOpt_eq : @qeOpt S = @Rel.gOpt QE := by
  funext α rv a b
  rcases a with _ | ⟨v, r⟩ <;> rcases b with _ | ⟨v', r'⟩ <;> simp [qel_eq]


end PMQ
