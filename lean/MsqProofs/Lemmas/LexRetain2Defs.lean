import MsqProofs.Lemmas.LexRetain
/-!
# Retention under every option setting (C04 d) — definitions

## Scanner side (independent of the lexer)

`Scan.classOf μ c nxt` — the CLASS of one character occurrence, from the structural scanner of `LexScan.lean` (modes:
quotes with their escapes, the three comment forms, bare tokens) and ONE character of look-ahead (a `-` directly
followed by `-`, a `/` directly followed by `*` open a comment):

* `bracket e` — a bracket character read as a bracket (event `e`: `opn` for `(` and `[`, `cls paren` for `)`,
  `cls slice` for `]`);
* `comment` — a character of a `# …`, `-- …` or `/* … */` comment (the line break that ends a line comment is NOT part
  of it);
* `blank`, `lbreak` — a blank / a line break between tokens (outside quotes and comments);
* `tok` — everything else.

`Scan.eraseM ig text` — the text with the characters of the classes ignored by `ig` REMOVED, every other character kept
in order, as a list of *marked* characters: `ch c` for a character kept as written, `ev e` for a bracket read as a
bracket.  `Scan.erase ig text` is its rendering with round brackets (`MC.round`: F-C04-2).

## Lexer side

`Lex.msrcL` — the rendering of a token list in the same marked alphabet (`AMTBase.source` with the brackets of a group
as events: `opn … cls k`).  `Lex.retCheck` — the finite table obligation of the simulation (see `LexRetain2.lean`).
-/
namespace Scan
open Lex Spec

/-- which classes of characters an option setting ignores -/
structure Ign where
  sp : Bool
  lb : Bool
  cm : Bool
  deriving DecidableEq, Repr

/-- `i = 4·IGNORE_SPACE + 2·IGNORE_LINEBREAK + IGNORE_COMMENT` -/
def Ign.ofBits (i : Nat) : Ign := ⟨ignoreSpace i, ignoreLinebreak i, ignoreComment i⟩

/-- the class of a character occurrence -/
inductive CC | blank | lbreak | comment | bracket (e : Ev) | tok
  deriving DecidableEq, Repr

/-- the scanner is inside a comment -/
def inCm : Mode → Bool
  | .LC | .BC | .BCS => true
  | _ => false

/-- the scanner has just read a lone `-` (`/`) and the next character is `-` (`*`): a comment opens -/
def opensCm (μ : Mode) (nxt : Option Nat) : Bool :=
  (μ == .D && nxt == some '-'.toNat) || (μ == .SL && nxt == some '*'.toNat)

/-- class of the character with (normalised) code `c` read in mode `μ`, the next character being `nxt` -/
def classOf (μ : Mode) (c : Nat) (nxt : Option Nat) : CC :=
  let r := step μ c
  match r.2 with
  | e :: _ => .bracket e
  | [] =>
    if inCm r.1 || (μ == .BCS && c =ᶜ '/') || opensCm r.1 nxt then .comment
    else if c =ᶜ ' ' && r.1 == .N then .blank
    else if c =ᶜ '\n' && r.1 == .N then .lbreak
    else .tok

/-- a marked character: kept as written, or a bracket that was read as a bracket -/
inductive MC | ch (c : Char) | ev (e : Ev)
  deriving DecidableEq, Repr

/-- rendering of a marked character: brackets in ROUND form whatever their kind (F-C04-2) -/
def MC.round : MC → Char
  | .ch c => c
  | .ev .opn => '('
  | .ev (.cls _) => ')'

def MC.ev? : MC → Option Ev
  | .ev e => some e
  | .ch _ => none

def MC.ch? : MC → Option Char
  | .ch c => some c
  | .ev _ => none

/-- the setting ignores the class -/
def Ign.drops (ig : Ign) : CC → Bool
  | .blank => ig.sp
  | .lbreak => ig.lb
  | .comment => ig.cm
  | _ => false

/-- what becomes of a character of a class: removed, kept as written, or kept as a bracket event -/
inductive OutK | none | keep | ev (e : Ev)
  deriving DecidableEq, Repr

def outK (ig : Ign) : CC → OutK
  | .bracket e => .ev e
  | k => if ig.drops k then .none else .keep

def OutK.out (c : Char) : OutK → List MC
  | .none => []
  | .keep => [.ch c]
  | .ev e => [.ev e]

/-- the (normalised) code of the character that follows: the head of `cs`, or `fin` at its end -/
def nxtOf (cs : List Char) (fin : Option Nat) : Option Nat :=
  match cs with
  | [] => fin
  | d :: _ => some (norm d.toNat)

/-- classes of the characters of a text read from mode `μ` (`fin`: what follows the text) -/
def classesA : Mode → List Char → Option Nat → List CC
  | _, [], _ => []
  | μ, c :: cs, fin => classOf μ (norm c.toNat) (nxtOf cs fin) :: classesA (step μ (norm c.toNat)).1 cs fin

/-- **the classes of the characters of a text** -/
def classes (text : List Char) : List CC := classesA .N text none

/-- erasure from mode `μ` (`fin`: what follows the text) -/
def eraseA (ig : Ign) : Mode → List Char → Option Nat → List MC
  | _, [], _ => []
  | μ, c :: cs, fin =>
    (outK ig (classOf μ (norm c.toNat) (nxtOf cs fin))).out c ++ eraseA ig (step μ (norm c.toNat)).1 cs fin

/-- **the text with the ignored classes removed**, marked -/
def eraseM (ig : Ign) (text : List Char) : List MC := eraseA ig .N text none

/-- … rendered: brackets that were read as brackets in round form -/
def erase (ig : Ign) (text : List Char) : List Char := (eraseM ig text).map MC.round

/-- `eraseM` is a filter on the classified text: a character is removed iff its class is ignored -/
theorem eraseA_eq_classes (ig : Ign) (μ : Mode) (t : List Char) (fin : Option Nat) :
    eraseA ig μ t fin = ((t.zip (classesA μ t fin)).map fun p => (outK ig p.2).out p.1).flatten := by
  induction t generalizing μ with
  | nil => rfl
  | cons c cs ih => simp [eraseA, classesA, ih]

theorem classesA_length (μ : Mode) (t : List Char) (fin : Option Nat) : (classesA μ t fin).length = t.length := by
  induction t generalizing μ with
  | nil => rfl
  | cons c cs ih => simp [classesA, ih]

/-- the look-ahead only matters through "is `-`" / "is `*`" -/
def canonNx : Option Nat → Option Nat
  | some n => if n = 45 then some 45 else if n = 42 then some 42 else some 97
  | none => some 97

def lookaheads : List (Option Nat) := [some 45, some 42, some 97]

theorem canonNx_mem (nx : Option Nat) : canonNx nx ∈ lookaheads := by
  cases nx with
  | none => simp [canonNx, lookaheads]
  | some n =>
    simp only [canonNx, lookaheads]
    by_cases h1 : n = 45
    · simp [h1]
    · by_cases h2 : n = 42
      · simp [h2]
      · simp [h1, h2]

theorem opensCm_canon (μ : Mode) (nx : Option Nat) : opensCm μ nx = opensCm μ (canonNx nx) := by
  have e45 : '-'.toNat = 45 := rfl
  have e42 : '*'.toNat = 42 := rfl
  cases nx with
  | none => simp [opensCm, canonNx]
  | some n =>
    simp only [opensCm, canonNx, e45, e42]
    by_cases h1 : n = 45
    · simp [h1]
    · by_cases h2 : n = 42
      · simp [h2]
      · simp [h1, h2]

theorem classOf_canon (μ : Mode) (c : Nat) (nx : Option Nat) : classOf μ c nx = classOf μ c (canonNx nx) := by
  simp only [classOf, ← opensCm_canon]

/-- `classOf` with the scanner's step passed in (the table obligation evaluates the step once per cell) -/
def classOfR (r : Mode × List Ev) (μ : Mode) (c : Nat) (nxt : Option Nat) : CC :=
  match r.2 with
  | e :: _ => .bracket e
  | [] =>
    if inCm r.1 || (μ == .BCS && c =ᶜ '/') || opensCm r.1 nxt then .comment
    else if c =ᶜ ' ' && r.1 == .N then .blank
    else if c =ᶜ '\n' && r.1 == .N then .lbreak
    else .tok

theorem classOf_eq (μ : Mode) (c : Nat) (nxt : Option Nat) : classOf μ c nxt = classOfR (step μ c) μ c nxt := rfl

/-- the pending window is (going to be) erased: comments are ignored, and the scanner is inside a comment or has just
read its first character -/
def pd (ig : Ign) (μ : Mode) (nxt : Option Nat) : Bool := ig.cm && (inCm μ || opensCm μ nxt)

theorem pd_canon (ig : Ign) (μ : Mode) (nx : Option Nat) : pd ig μ nx = pd ig μ (canonNx nx) := by
  simp only [pd, ← opensCm_canon]

end Scan

namespace Lex
open Scan Spec

mutual
/-- `AMTBase.source` in the marked alphabet: the brackets of a group are the events `opn … cls k` -/
def Tok.msrc : Tok → List MC
  | .single s _ => s.map .ch
  | .group k cs _ => .ev .opn :: (msrcL cs ++ [.ev (.cls k)])
def msrcL : List Tok → List MC
  | [] => []
  | t :: ts => Tok.msrc t ++ msrcL ts
end

/-- marked rendering of a frame stack (innermost frame first): one `opn` per open frame -/
def mrendS : List (List Tok) → List MC
  | [] => []
  | [f] => msrcL f
  | f :: g :: rest => mrendS (g :: rest) ++ .ev .opn :: msrcL f

/-- what an operation does to window and rendering -/
inductive Act | keep | emit | drop | br (e : Ev) | bad
  deriving DecidableEq, Repr

def actOf (sm : Summary) : Act :=
  match sm.body, sm.grp with
  | .keep, .none => .keep
  | .emit _, .none => .emit
  | .drop, .none => .drop
  | .drop, .push => .br .opn
  | .drop, .pop k _ => .br (.cls k)
  | _, _ => .bad

/-- next status, retry flag, advance flag and action of an operation (`none`: no cell, or the cell raises) -/
def hInfoOp (cfg : Cfg Gen.Cls) (s : S) : Option (OpRef Gen.Cls) → Option (S × Bool × Bool × Act)
  | none => none
  | some o =>
    match summarize (cfg.code o.cls) with
    | none => none
    | some sm => if sm.raises then none else some (sm.st.resolve o.status s, sm.ret, sm.adv, actOf sm)

/-- `lookupN`, written with the recursor of lists: the kernel evaluates it several times faster than the compiled
structural recursion of `List.find?`.  The table obligations look the cell of a retry up with it; the first lookup of
every cell comes from the single pass over the row (`walk`, `LexRetain2Walk.lean`). -/
noncomputable def lookupF (cfg : Cfg Gen.Cls) (s : S) (c : Nat) : Option Op :=
  @List.rec (Nat × Op) (fun _ => Option Op) (cfg.dflt s) (fun e _ ih => cond (Nat.beq e.1 c) (some e.2) ih) (cfg.rows s)

theorem lookupF_eq (cfg : Cfg Gen.Cls) (s : S) (c : Nat) : lookupF cfg s c = lookupN cfg s c := by
  unfold lookupF lookupN
  induction cfg.rows s with
  | nil => rfl
  | cons e es ih =>
    simp only [List.find?_cons]
    cases h : Nat.beq e.1 c with
    | true => simp
    | false => simpa using ih

noncomputable def hInfo (cfg : Cfg Gen.Cls) (s : S) (n : Nat) : Option (S × Bool × Bool × Act) :=
  hInfoOp cfg s (lookupF cfg s n)

/-- an advancing operation on a character whose fate is `o`; `d` / `d'`: the pending window is erased before / after;
`empty`: the window is known to be empty -/
def stepOK (empty : Bool) (a : Act) (d d' : Bool) (o : OutK) : Bool :=
  match a with
  | .keep => (d == d' || empty) && o == (if d' then .none else .keep)
  | .emit => (!d || empty) && o == .keep
  | .drop => (d || empty) && o == .none
  | .br e => empty && o == .ev e
  | .bad => false

/-- a first, non-advancing operation; the result says whether the window is known to be empty afterwards -/
def firstOK (empty : Bool) (a : Act) (d : Bool) : Option Bool :=
  match a with
  | .keep => some empty
  | .emit => if !d || empty then some true else none
  | .drop => if d || empty then some true else none
  | _ => none

/-- one character (code `n`) in state `s`, scanner mode `μ`, with the driver's retry, for every look-ahead -/
noncomputable def cellOK (ig : Ign) (cfg : Cfg Gen.Cls) (s : S) (μ : Mode) (n : Nat) : Bool :=
  match hInfo cfg s n with
  | none => true
  | some (s1, ret1, adv1, a1) =>
    let d := pd ig μ (some n)
    let μ' := (step μ n).1
    if ret1 then
      adv1 && lookaheads.all fun nx => stepOK (isEmptySt cfg s) a1 d (pd ig μ' nx) (outK ig (classOf μ n nx))
    else
      !adv1 &&
      match firstOK (isEmptySt cfg s) a1 d with
      | none => false
      | some e1 =>
        match hInfo cfg s1 n with
        | none => true
        | some (_, _, adv2, a2) =>
          adv2 && lookaheads.all fun nx =>
            stepOK (e1 || isEmptySt cfg s1) a2 d (pd ig μ' nx) (outK ig (classOf μ n nx))

/-- the end of the text in state `s`, scanner mode `μ` -/
def eofOK2 (ig : Ign) (cfg : Cfg Gen.Cls) (s : S) (μ : Mode) : Bool :=
  match hInfoOp cfg s (cfg.atEnd s) with
  | none => true
  | some (_, _, adv, a) =>
    !adv &&
    match a with
    | .keep | .emit => !pd ig μ none || isEmptySt cfg s
    | .drop => pd ig μ none || isEmptySt cfg s
    | _ => false

/-- **the finite table obligation**: on every cell that does not raise, what the operation(s) do to the window —
extend it, emit it as a token, drop it, open / close a group — is what the classification of the structural scanner
prescribes for setting `ig`: characters of ignored classes are dropped, every other character ends up in a token (or
is a bracket that opens / closes a group), in order. -/
noncomputable def retCheck (ig : Ign) (cfg : Cfg Gen.Cls) : Bool :=
  allS.all fun s => (rho s).all fun μ =>
    ((other :: ascii).all fun n => cellOK ig cfg s μ n) && eofOK2 ig cfg s μ

/-! ## the same obligation with the scanner's step evaluated once per cell (the tables are checked with `retCheckW`, `LexRetain2Walk.lean`) -/

noncomputable def cellOKF (ig : Ign) (cfg : Cfg Gen.Cls) (s : S) (μ : Mode) (n : Nat) : Bool :=
  match hInfo cfg s n with
  | none => true
  | some (s1, ret1, adv1, a1) =>
    match step μ n with
    | (μ', evs) =>
      let d := pd ig μ (some n)
      if ret1 then
        adv1 && lookaheads.all fun nx =>
          stepOK (isEmptySt cfg s) a1 d (pd ig μ' nx) (outK ig (classOfR (μ', evs) μ n nx))
      else
        !adv1 &&
        match firstOK (isEmptySt cfg s) a1 d with
        | none => false
        | some e1 =>
          match hInfo cfg s1 n with
          | none => true
          | some (_, _, adv2, a2) =>
            adv2 && lookaheads.all fun nx =>
              stepOK (e1 || isEmptySt cfg s1) a2 d (pd ig μ' nx) (outK ig (classOfR (μ', evs) μ n nx))

theorem cellOKF_eq (ig : Ign) (cfg : Cfg Gen.Cls) (s : S) (μ : Mode) (n : Nat) :
    cellOKF ig cfg s μ n = cellOK ig cfg s μ n := by
  unfold cellOKF cellOK
  cases hInfo cfg s n with
  | none => rfl
  | some x => rfl

noncomputable def retCheckF (ig : Ign) (cfg : Cfg Gen.Cls) : Bool :=
  allS.all fun s => (rho s).all fun μ =>
    ((other :: ascii).all fun n => cellOKF ig cfg s μ n) && eofOK2 ig cfg s μ

theorem retCheckF_eq (ig : Ign) (cfg : Cfg Gen.Cls) : retCheckF ig cfg = retCheck ig cfg := by
  simp only [retCheckF, retCheck, cellOKF_eq]

end Lex
