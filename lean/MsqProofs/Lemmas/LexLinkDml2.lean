import MsqProofs.Lemmas.LexLinkAnyD2
import MsqProofs.Lemmas.TDmlQI
import MsqProofs.Lemmas.LexLinkQueryMain
/-!
# The lexer link for data-change statements over `TQ.FragQ`: `TDM.FragStmt` as a part of `TDM2.FragStmt`

On `TDM.FragStmt` the mirror `LLD.stmtL` is the mirror `LL2.Any.stmtL` of the statements over the larger query fragment and the payloads
agree (`stmt_sub`, part by part from the facts `subE … subQ` of `LexLinkQueryMain.lean`); with `TDM.FragStmt ⊆ TDM2.FragStmt` and the equal
renderings of `Lemmas/TDmlQI.lean` the record `GSt` of a statement is the record `LL2.Any.GSt` — but for the kit's property: the larger
development has it for kits with `QW2 K` only, this fragment needs none of those words, so the same recursion proves it for every kit
(`Sub.q`) and the other two fields are taken at `topKit` (as in `LexLinkQueryMain.lean`).
-/
namespace LLD
open Lex Spec C05 C06 C09 Ast TP TS TQ LexLink LL2

structure GSt (d : Gen.D) (K : QKit) (s : Stmt) : Prop where
  lx : Lx (stmtL d s) (TDM.toksStmt d s)
  pr : PR.prStmt d s = .ok (String.ofList (stmtL d s))
  q : K.Q (stmtL d s)

section
variable {d : Gen.D} {K : QKit}

theorem prQL_stripW (q : Query) : prQL d (TDM.stripW q) = prQL d q := by
  cases q with
  | single s => obtain ⟨w, dist, cols, fr, lats, js, wh, gb, hv, ob, sb, db, cb, lm⟩ := s; simp only [TDM.stripW, TDM.setQW, TDM.setW, prQL, prS3L]
  | union w s us => simp only [TDM.stripW, TDM.setQW, prQL]
theorem leavesQ_stripW (q : Query) : leavesQ (TDM.stripW q) = leavesQ q := by
  cases q with
  | single s => obtain ⟨w, dist, cols, fr, lats, js, wh, gb, hv, ob, sb, db, cb, lm⟩ := s; simp only [TDM.stripW, TDM.setQW, TDM.setW, leavesQ, leavesS]
  | union w s us => simp only [TDM.stripW, TDM.setQW, leavesQ]

/-! ## the parts

Each part of the mirror as a record `LexLink.Sub` / `SubL`: it is the part of the larger mirror, with the same payloads, and the kit's
property holds of it for EVERY kit (the larger development proves that only for kits with `QW2 K`). -/

theorem sub_withs (ws : List WithTable) (h : ws.all (TDM.withOK d) = true) :
    SubL d K (ws.map (withItemL d)) (ws.map (Any.withItemL d)) (leavesWL ws) (Any.leavesWL ws) := by
  induction ws with
  | nil => exact SubL.nil
  | cons w r ih =>
    obtain ⟨n, q⟩ := w
    simp only [List.all_cons, TDM.withOK, Bool.and_eq_true] at h
    have a := subQ (K := K) q h.1.2
    have b := ih h.2
    refine ⟨by simp only [List.map_cons, Any.withItemL, withItemL, a.mir, b.mir], by simp [Any.leavesWL, leavesWL, a.lv, b.lv], fun hl x hx => ?_⟩
    simp only [leavesWL, lv_cons, lv_append] at hl
    rcases List.mem_cons.mp hx with rfl | hx
    · exact K.sp (q_qname n (hl.1.2 n (by simp [strs]))) (K.sp (K.word "AS" (mem_cw (by simp [clauseWords]))) (K.paren (a.q hl.2.1)))
    · exact b.q hl.2.2 x hx

/-- the WITH prefix; `sep` is one line break (queries, INSERT) or two (UPDATE) -/
theorem sub_withPrefix (hK : DW K) (sep : List Char) (hsep : sep = ['\n'] ∨ sep = ['\n', '\n']) (ws : Option (List WithTable))
    (h : TDM.withsOK d ws = true) : Any.withPrefixL d sep ws = withPrefixL d sep ws ∧ Any.leavesWiths ws = (leavesWiths ws).map .old ∧
      (Lv d K (leavesWiths ws) → ∀ b, K.Q b → K.Q (withPrefixL d sep ws ++ b)) := by
  cases ws with
  | none => simp [TDM.withsOK] at h
  | some ws =>
    have a := sub_withs (K := K) ws (by simpa [TDM.withsOK] using h)
    cases ws with
    | nil => exact ⟨rfl, rfl, fun _ _ hb => hb⟩
    | cons w r =>
      refine ⟨by simp only [Any.withPrefixL, withPrefixL, a.mir], by simpa only [Any.leavesWiths, leavesWiths] using a.lv, fun hl b hb => ?_⟩
      have hW := hK.dws "WITH" (by simp [dmlWords])
      have hJ := q_cnl K _ (a.q hl)
      rcases hsep with rfl | rfl
      · simpa [withPrefixL] using K.sp hW (K.sep _ _ '\n' K.s_nl hJ hb)
      · simpa [withPrefixL] using K.sp hW (K.sep _ _ '\n' K.s_nl hJ (K.pre K.s_nl hb))

theorem sub_rows : ∀ (vs : List (List Expr)), vs.all (FragL3 d) = true →
    SubL d K (vs.map (rowL d)) (vs.map (Any.vrowL d)) (leavesRows vs) (Any.leavesRows vs)
  | [], _ => SubL.nil
  | r :: rs, h => by
    simp only [List.all_cons, Bool.and_eq_true] at h
    have a := subL8 (K := K) r h.1
    have b := sub_rows rs h.2
    refine ⟨by simp only [List.map_cons, Any.vrowL, rowL, prE4L, prE3L, a.mir, b.mir], by simp [Any.leavesRows, leavesRows, a.lv, b.lv], fun hl x hx => ?_⟩
    simp only [leavesRows, lv_append] at hl
    rcases List.mem_cons.mp hx with rfl | hx
    · exact K.paren (K.joinLL2 _ (a.q hl.1))
    · exact b.q hl.2 x hx

theorem sub_sets (hK : DW K) (ss : List (String × Expr)) (h : ss.all (TDM.setOK d) = true) :
    SubL d K (ss.map (setL d)) (ss.map (Any.setL d)) (leavesSets ss) (Any.leavesSets ss) := by
  induction ss with
  | nil => exact SubL.nil
  | cons p r ih =>
    obtain ⟨c, e⟩ := p
    simp only [List.all_cons, TDM.setOK, Bool.and_eq_true] at h
    have a := subE (K := K) e h.1.2
    have b := ih h.2
    refine ⟨by simp only [List.map_cons, Any.setL, setL, a.mir, b.mir], by simp [Any.leavesSets, leavesSets, a.lv, b.lv], fun hl x hx => ?_⟩
    simp only [leavesSets, lv_cons, lv_append] at hl
    rcases List.mem_cons.mp hx with rfl | hx
    · simpa [setL] using K.sp (K.bq (hl.1.2 c (by simp [strs]))) (K.sp (hK.dws "=" (by simp [dmlWords])) (a.q hl.2.1))
    · exact b.q hl.2.2 x hx

/-- a partition item: a static item `k = v` need not be a fragment expression as a whole (`k` may be anything of the fragment), its two
sides are -/
theorem sub_item (e : Expr) (h : TDM.staticOK d e = true ∨ TDM.dynOK d e = true) : Sub d K (prE3L d e) (prE4L d e) (leavesE e) (leavesE4 e) := by
  rcases h with h | h
  · cases e <;> try (simp [TDM.staticOK] at h; done)
    case compare o l r =>
      simp only [TDM.staticOK, Bool.and_eq_true] at h
      simpa only [prE3L, prE4L, leavesE, leavesE4] using
        (subE l h.1.1.1.1.2).bin (subE r h.1.1.1.2) l r 10 9 (K.cmp o (cmpOK_prints h.1.1.1.1.1))
  · simp only [TDM.dynOK, Bool.and_eq_true] at h
    exact subE e h.1

theorem sub_items : ∀ (es : List Expr), (∀ e ∈ es, TDM.staticOK d e = true ∨ TDM.dynOK d e = true) →
    SubL d K (es.map (prE3L d)) (es.map (prE4L d)) (leavesL es) (leavesL4 es)
  | [], _ => SubL.nil
  | e :: es, h => by
    have a := sub_item (K := K) e (h e (by simp))
    have b := sub_items es fun x hx => h x (by simp [hx])
    refine ⟨by simp only [List.map_cons, a.mir, b.mir], by simp [leavesL4, leavesL, a.lv, b.lv], fun hl x hx => ?_⟩
    simp only [leavesL, lv_append] at hl
    rcases List.mem_cons.mp hx with rfl | hx
    · exact a.q hl.1
    · exact b.q hl.2 x hx

theorem sub_head (hK : DW K) (h : InsertHead) (hh : TDM.headOK d h = true) :
    SubL d K (headPieces d h) (Any.headPieces d h) (.tbl h.table.schema h.table.name :: (leavesPart h.partition ++ leavesColNames h.columns))
      (.old (.tbl h.table.schema h.table.name) :: (Any.leavesPart h.partition ++ Any.leavesColNames h.columns)) := by
  simp only [TDM.headOK, Bool.and_eq_true] at hh
  have p : SubL d K (partPieces d h.partition) (Any.partPieces d h.partition) (leavesPart h.partition) (Any.leavesPart h.partition) := by
    cases hp : h.partition with
    | none => exact SubL.nil
    | some es =>
      have hpo := hh.1.2
      simp only [hp, TDM.partOK, Bool.or_eq_true, List.all_eq_true] at hpo
      have a := sub_items (K := K) es fun e he => hpo.elim (fun g => Or.inl (g e he)) (fun g => Or.inr (g e he))
      refine ⟨by simp only [Any.partPieces, partPieces, a.mir], a.lv, fun hl x hx => ?_⟩
      simp only [partPieces, List.mem_singleton] at hx
      subst hx
      exact K.sp (hK.dws "PARTITION" (by simp [dmlWords])) (K.paren (K.joinLL2 _ (a.q hl)))
  have c : SubL d K (colPieces d h.columns) (Any.colPieces d h.columns) (leavesColNames h.columns) (Any.leavesColNames h.columns) := by
    have e : Any.colNameL d = colNameL d := funext fun c => by cases c with | mk t n => cases t <;> rfl
    cases h.columns with
    | none => exact SubL.nil
    | some cs =>
      refine ⟨by simp only [Any.colPieces, colPieces, e], by simp [Any.leavesColNames, leavesColNames], fun hl x hx => ?_⟩
      simp only [colPieces, List.mem_singleton] at hx
      subst hx
      refine K.paren (K.joinLL2 _ fun y hy => ?_)
      obtain ⟨⟨t, n⟩, hc, rfl⟩ := List.mem_map.mp hy
      have hq := (hl (.col t n) (List.mem_map.mpr ⟨(t, n), hc, rfl⟩)).2
      cases t with
      | none => exact K.bq (hq n (by simp [strs]))
      | some t => simpa [colNameL, prE3L] using K.sep _ _ '.' K.s_dot (K.bq (hq t (by simp [strs]))) (K.bq (hq n (by simp [strs])))
  refine ⟨by simp only [Any.headPieces, headPieces, p.mir, c.mir], by simp [p.lv, c.lv], fun hl x hx => ?_⟩
  simp only [lv_cons, lv_append] at hl
  simp only [headPieces, List.mem_cons, List.mem_append] at hx
  rcases hx with rfl | hx | rfl | hx | hx
  · unfold insertWordsL
    cases hf : Gen.insertTypes.find? (·.1 == h.type) with
    | none => exact K.nil
    | some e =>
      refine K.joinLL1 ' ' K.s_sp _ fun x hx => ?_
      obtain ⟨y, hy, rfl⟩ := List.mem_map.mp hx
      exact hK.iws e (List.mem_of_find?_eq_some hf) y hy
  · cases hd : (d == Gen.D.HIVE) <;> simp only [hd, Bool.false_eq_true, if_false, if_true, List.mem_singleton, List.not_mem_nil] at hx
    subst hx
    exact hK.dws "TABLE" (by simp [dmlWords])
  · exact (tbl_good _ _ hl.1.1 hl.1.2).2.1
  · exact p.q hl.2.1 x hx
  · exact c.q hl.2.2 x hx

theorem sub_tail (wh : Option Expr) (ob : Option (List OrderItem)) (lm : Option (Int × Option Int)) (h1 : FragO3 d wh = true)
    (h2 : orderOK3 d ob = true) (h3 : limitOK lm = true) :
    SubL d K (tailPieces d wh ob lm) (Any.tailPieces d wh ob lm) (leavesO wh ++ leavesOrder ob) (leavesO4 wh ++ leavesOrder4 ob) := by
  have a := subOpt (K := K) "WHERE" (by simp [clauseWords]) wh h1
  have b := subOrder (K := K) ob h2
  refine ⟨by simp only [Any.tailPieces, tailPieces, a.mir, b.mir], by simp [a.lv, b.lv], fun hl x hx => ?_⟩
  simp only [lv_append] at hl
  simp only [tailPieces, List.mem_append] at hx
  rcases hx with hx | hx | hx
  · exact a.q hl.1 x hx
  · exact b.q hl.2 x hx
  · exact (cl_limit (K := K) lm h3).q x hx

theorem withsOf_eq (q : Query) : TDM2.withsOf q = TDM.withsOf q := by
  cases q with
  | single s => cases s; rfl
  | union _ _ _ => rfl
theorem stripW_eq (q : Query) : TDM2.stripW q = TDM.stripW q := by
  cases q with
  | single s => cases s; rfl
  | union _ _ _ => rfl

theorem stmt_sub (hK : DW K) (s : Stmt) (hs : TDM.FragStmt d s = true) : Sub d K (stmtL d s) (Any.stmtL d s) (leavesStmt s) (Any.leavesStmt s) := by
  cases s <;> try (simp [TDM.FragStmt] at hs; done)
  case select q =>
    simp only [TDM.FragStmt, Bool.and_eq_true] at hs
    have w := sub_withPrefix hK ['\n'] (Or.inl rfl) _ hs.1
    have a := subQ (K := K) _ hs.2
    rw [prQL_stripW, leavesQ_stripW, ← stripW_eq, Any.prQL_stripW, Any.leavesQ_stripW] at a
    refine ⟨by simp only [Any.stmtL, stmtL, withsOf_eq, w.1, a.mir], by simp [Any.leavesStmt, leavesStmt, withsOf_eq, w.2.1, a.lv], fun hl => ?_⟩
    simp only [leavesStmt, lv_append] at hl
    exact w.2.2 hl.1 _ (a.q hl.2)
  case insertValues h vs =>
    simp only [TDM.FragStmt, Bool.and_eq_true] at hs
    have a := sub_head hK h hs.1
    have b := sub_rows (K := K) vs hs.2
    simp only [TDM.headOK, Bool.and_eq_true] at hs
    have w := sub_withPrefix hK ['\n'] (Or.inl rfl) h.withs hs.1.1.1.1.1
    refine ⟨by simp only [Any.stmtL, stmtL, w.1, a.mir, b.mir], by simp [Any.leavesStmt, leavesStmt, Any.leavesHead, leavesHead, w.2.1, a.lv, b.lv], fun hl => ?_⟩
    simp only [leavesStmt, leavesHead, lv_append] at hl
    exact w.2.2 hl.1.1 _ (q_ps K _ (a.q hl.1.2) _ (K.sp (hK.dws "VALUES" (by simp [dmlWords])) (K.joinLL2 _ (b.q hl.2))))
  case insertSelect h q =>
    simp only [TDM.FragStmt, Bool.and_eq_true] at hs
    have a := sub_head hK h hs.1
    have b := subQ (K := K) q hs.2
    simp only [TDM.headOK, Bool.and_eq_true] at hs
    have w := sub_withPrefix hK ['\n'] (Or.inl rfl) h.withs hs.1.1.1.1.1
    refine ⟨by simp only [Any.stmtL, stmtL, w.1, a.mir, b.mir], by simp [Any.leavesStmt, leavesStmt, Any.leavesHead, leavesHead, w.2.1, a.lv, b.lv], fun hl => ?_⟩
    simp only [leavesStmt, leavesHead, lv_append] at hl
    exact w.2.2 hl.1.1 _ (q_ps K _ (a.q hl.1.2) _ (K.pre K.s_sp (b.q hl.2)))
  case update ws t sets wh ob lm =>
    simp only [TDM.FragStmt, Bool.and_eq_true] at hs
    obtain ⟨⟨⟨⟨⟨⟨h0, _⟩, _⟩, hsets⟩, h2⟩, h3⟩, h4⟩ := hs
    have w := sub_withPrefix hK ['\n', '\n'] (Or.inr rfl) ws h0
    have a := sub_sets hK sets hsets
    have b := sub_tail (K := K) wh ob lm h2 h3 h4
    refine ⟨by simp only [Any.stmtL, stmtL, w.1, a.mir, b.mir], by simp [Any.leavesStmt, leavesStmt, w.2.1, a.lv, b.lv], fun hl => ?_⟩
    simp only [leavesStmt, lv_cons, lv_append] at hl
    exact w.2.2 hl.1 _ (K.sp (hK.dws "UPDATE" (by simp [dmlWords])) (K.sp (tbl_good _ _ hl.2.1.1 hl.2.1.2).2.1
      (K.sp (hK.dws "SET" (by simp [dmlWords])) (q_pc K _ (b.q (lv_append _ _ |>.2 hl.2.2.2)) _ (K.joinLL2 _ (a.q hl.2.2.1))))))
  case delete t wh ob lm =>
    simp only [TDM.FragStmt, Bool.and_eq_true] at hs
    have b := sub_tail (K := K) wh ob lm hs.1.1.2 hs.1.2 hs.2
    refine ⟨by simp only [Any.stmtL, stmtL, b.mir], by simp [Any.leavesStmt, leavesStmt, b.lv], fun hl => ?_⟩
    simp only [leavesStmt, lv_cons] at hl
    have := q_pc K _ (b.q hl.2) _ (K.sp (hK.dws "DELETE" (by simp [dmlWords]))
      (K.sp (K.word "FROM" (mem_cw (by simp [clauseWords]))) (K.post K.s_sp (tbl_good _ _ hl.1.1 hl.1.2).2.1)))
    simpa [stmtL] using this

theorem dw_top : DW topKit := ⟨fun _ _ => trivial, fun _ _ _ _ => trivial⟩

/-- **the record of a statement** of `TDM.FragStmt`: the lexing and the printing do not mention the kit and are those of the record over the larger
query fragment at `topKit`; the kit's property is `Sub.q` (`QKit`: Lemmas/LexLinkQueryDefs.lean, `DW`: Lemmas/LexLinkDml0.lean) -/
theorem good_stmt (hK : DW K) (s : Stmt) (hs : TDM.FragStmt d s = true) (hp : printableStmt d s = true) (hl : Lv d K (leavesStmt s)) :
    GSt d K s := by
  obtain ⟨h2, ht⟩ := TDM2.fragStmt_sub d noX (d == .HIVE) s hs
  have a := stmt_sub hK s hs
  have g := @Any.good_stmt d topKit ⟨qw2_top⟩ dw_top s h2 hp (by rw [a.lv]; exact lv2_top hl)
  exact ⟨by rw [← a.mir]; unfold TDM.toksStmt; rw [← ht]; exact g.lx, by rw [← a.mir]; exact g.pr, a.q hl⟩

end
end LLD
