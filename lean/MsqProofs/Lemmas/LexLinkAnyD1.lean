import MsqProofs.Lemmas.LexLinkAnyD0
/-!
# The lexer link for data-change statements over `FragQ2`: the parts (WITH prefix, tail, SET list, rows)

What does not mention the fragment comes from `LLD` (`LexLinkPc.lean`, `LexLinkDml0–1.lean`).
-/
namespace LL2.Any
open Lex Spec C05 C06 C09 Ast TP TS LexLink TQ2
open LLD (lx_nlpre lx_cnl ps pc pc_append seg_sp sp q_cnl dmlWords lx_dw DW lx_qname eqTok_lx)

/-- the kit's property holds of the words of the larger query fragment (`LL2.QW2`), as a class: the derived lemmas need no extra argument -/
class QWc (K : QKit) : Prop where
  out : QW2 K

section
variable {d : Gen.D} {K : QKit} [QWc K]

/-! ## records of members, without sizes (through the recursion lemmas of the Q2 link) -/

theorem list_good (ps : List Expr) (hf : FragL4 d ps = true) (hl : Lv2 d K (leavesL4 ps)) : ∀ a ∈ ps, GE4 d K a :=
  list_rec (n := szL4 ps) QWc.out (fun e _ => good_expr d K QWc.out e) (fun q _ => good_query d K QWc.out q) ps (Nat.le_refl _) hf hl

theorem ords_good (os : List OrderItem) (hf : ordTailOK4 d os = true) (hl : Lv2 d K (leavesOrdL4 os)) : ∀ o ∈ os, GO4 d K o :=
  ords_rec (n := szOrdL os) QWc.out (fun e _ => good_expr d K QWc.out e) (fun q _ => good_query d K QWc.out q) os (Nat.le_refl _) hf hl

theorem opt_good (o : Option Expr) (hf : FragO4 d o = true) (hl : Lv2 d K (leavesO4 o)) : ∀ y, o = some y → GE4 d K y := by
  intro y hy
  subst hy
  exact good_expr d K QWc.out y (by simpa [FragO4] using hf) (by simpa [leavesO4] using hl)

end

section
variable {d : Gen.D} {K : QKit} [QWc K]

structure GW (d : Gen.D) (K : QKit) (w : WithTable) : Prop where
  lx : Lx (withItemL d w) (TDM2.toksWith d noX w)
  q : K.Q (withItemL d w)
  nm : ∃ n q, w = .mk n q ∧ GQ4 d K q

theorem gw_item (n : String) (q : Query) (hn : nameLex n) (hqn : K.Q n.toList) (hq : GQ4 d K q) : GW d K (.mk n q) where
  lx := by
    have := Lx.sep (lx_qname n hn) (Lx.sep (lx_cw "AS" (by simp [clauseWords])) (Lx.paren hq.lx))
    exact Lx.congr this (by simp [withItemL]) (by simp [TDM2.toksWith, grp_eq])
  q := K.sp (q_qname n hqn) (K.sp (K.word "AS" (mem_cw (by simp [clauseWords]))) (K.paren hq.q))
  nm := ⟨n, q, rfl, hq⟩

theorem withs_good (ws : List WithTable) : ws.all (TDM2.withOK d) = true → Lv2 d K (leavesWL ws) → ∀ w ∈ ws, GW d K w := by
  induction ws with
  | nil => intro _ _ a ha; cases ha
  | cons w r ih =>
    obtain ⟨n, q⟩ := w
    intro hf hl
    simp only [List.all_cons, Bool.and_eq_true, TDM2.withOK] at hf
    simp only [leavesWL, lv2_cons, lv2_append] at hl
    intro x hx
    rcases List.mem_cons.mp hx with rfl | hx
    · exact gw_item n q hl.1.1 (hl.1.2 n (by simp [strs])) (good_query d K QWc.out q hf.1.2 hl.2.1)
    · exact ih hf.2 hl.2.2 x hx

theorem pr_withTables (ws : List WithTable) : (∀ w ∈ ws, GW d K w) →
    PR.prWithTables d ws = .ok ((ws.map (withItemL d)).map String.ofList) := by
  induction ws with
  | nil => intro _; rfl
  | cons w r ih =>
    intro h
    obtain ⟨n', q', he, hq⟩ := (h w (by simp)).nm
    subst he
    have h2 := ih fun y hy => h y (by simp [hy])
    simp only [PR.prWithTables, hq.pr, h2, bind, Except.bind, pure, Except.pure, List.map_cons]
    refine congrArg Except.ok ?_
    congr 1
    apply ofList_eq
    simp [toString, String.toList_append, String.toList_ofList, quoteName_toList, withItemL]

theorem toksWithsTail_eq : ∀ (x : WithTable) (xs : List WithTable),
    TDM2.toksWithsTail d noX (x :: xs) = TS.commaTok :: (TDM2.toksWith d noX x ++ TDM2.toksWithsTail d noX xs) := fun _ _ => rfl

/-- the prefix in front of a text: `sep` is one line break (queries, INSERT) or two (UPDATE) -/
theorem lx_withPre (sep : List Char) (hsep : sep = ['\n'] ∨ sep = ['\n', '\n']) (ws : Option (List WithTable))
    (h : ∀ l, ws = some l → ∀ w ∈ l, GW d K w) {b : List Char} {tb : List Tok} (hb : Lx b tb) :
    Lx (withPrefixL d sep ws ++ b) (TDM2.toksWiths d noX ws ++ tb) := by
  cases ws with
  | none => simpa [withPrefixL, TDM2.toksWiths] using hb
  | some l =>
    cases l with
    | nil => simpa [withPrefixL, TDM2.toksWiths] using hb
    | cons w r =>
      have hall := h _ rfl
      have hJ := lx_cnl (withItemL d) (TDM2.toksWith d noX) (TDM2.toksWithsTail d noX) rfl toksWithsTail_eq r w
        (hall w (by simp)).lx (fun y hy => (hall y (by simp [hy])).lx)
      have hW := lx_dw "WITH" (by simp [dmlWords])
      rcases hsep with rfl | rfl
      · exact Lx.congr (Lx.sep hW (Lx.line hJ hb)) (by simp [withPrefixL]) (by simp [TDM2.toksWiths])
      · exact Lx.congr (Lx.sep hW (Lx.line hJ (lx_nlpre hb))) (by simp [withPrefixL]) (by simp [TDM2.toksWiths])

theorem q_withPre (hK : DW K) (sep : List Char) (hsep : sep = ['\n'] ∨ sep = ['\n', '\n']) (ws : Option (List WithTable))
    (h : ∀ l, ws = some l → ∀ w ∈ l, GW d K w) {b : List Char} (hb : K.Q b) : K.Q (withPrefixL d sep ws ++ b) := by
  cases ws with
  | none => simpa [withPrefixL] using hb
  | some l =>
    cases l with
    | nil => simpa [withPrefixL] using hb
    | cons w r =>
      have hall := h _ rfl
      have hJ := q_cnl K ((w :: r).map (withItemL d)) (by
        intro x hx; obtain ⟨y, hy, rfl⟩ := List.mem_map.mp hx; exact (hall y hy).q)
      have hW := hK.dws "WITH" (by simp [dmlWords])
      rcases hsep with rfl | rfl
      · have := K.sp hW (K.sep _ _ '\n' K.s_nl hJ hb)
        simpa [withPrefixL] using this
      · have := K.sp hW (K.sep _ _ '\n' K.s_nl hJ (K.pre K.s_nl hb))
        simpa [withPrefixL] using this

theorem pc_withPre (hK : DW K) (sep : List Char) (hsep : sep = ['\n'] ∨ sep = ['\n', '\n']) (ws : Option (List WithTable))
    (h : ∀ l, ws = some l → ∀ w ∈ l, GW d K w) {b : List Char} {tb : List Tok} (hb : LexLink.Pc K b tb) :
    LexLink.Pc K (withPrefixL d sep ws ++ b) (TDM2.toksWiths d noX ws ++ tb) := ⟨lx_withPre sep hsep ws h hb.lx, q_withPre hK sep hsep ws h hb.q⟩

theorem pr_withPre (sep : String) (ws : List WithTable) (h : ∀ w ∈ ws, GW d K w) :
    PR.prWithPrefix d sep (some ws) = .ok (String.ofList (withPrefixL d sep.toList (some ws))) := by
  cases ws with
  | nil => simp [PR.prWithPrefix, withPrefixL]
  | cons w r =>
    simp only [PR.prWithPrefix, List.isEmpty_cons, Bool.false_eq_true, if_false, pr_withTables (w :: r) h, Except.map]
    refine congrArg Except.ok ?_
    apply ofList_eq
    have e1 : ("WITH " : String).toList = "WITH".toList ++ [' '] := rfl
    have e2 : (", \n" : String).toList = [',', ' ', '\n'] := rfl
    rw [String.toList_append, String.toList_append, toList_joinS, e1, e2, map_map_ofList]
    simp [withPrefixL]

theorem tail_good (wh : Option Expr) (ob : Option (List OrderItem)) (lm : Option (Int × Option Int))
    (hwh : FragO4 d wh = true) (hob : orderOK4 d ob = true) (hlm : limitOK lm = true)
    (lwh : Lv2 d K (leavesO4 wh)) (lob : Lv2 d K (leavesOrder4 ob)) :
    Seg ' ' (tailPieces d wh ob lm) (TDM2.toksTail d noX wh ob lm) ∧ (∀ x ∈ tailPieces d wh ob lm, K.Q x) ∧
      PR.prTail d wh ob lm = .ok (String.ofList (pc (tailPieces d wh ob lm))) := by
  have cwh := cl_where (K := K) wh (opt_good wh hwh lwh)
  have hord : ∀ l, ob = some l → ∀ o ∈ l, GO4 d K o := by
    intro l hl o ho
    subst hl
    cases l with
    | nil => cases ho
    | cons o0 os =>
      simp only [orderOK4] at hob
      exact ords_good (o0 :: os) (by simpa [ordTailOK4] using hob) (by simpa [leavesOrder4] using lob) o ho
  have cob := cl_order (K := K) ob (by intro e; subst e; simp [orderOK4] at hob) hord
  have clm := cl_limit (K := K) lm hlm
  have l1 : (opt4LL d "WHERE" wh).length ≤ 1 := by cases wh <;> simp [opt4LL]
  have l2 : (order4LL d "ORDER" ob).length ≤ 1 := by
    cases ob with
    | none => simp [order4LL]
    | some l => cases l <;> simp [order4LL]
  have l3 : ((limitC lm).map (·.1)).length ≤ 1 := by
    cases lm with
    | none => simp [limitC]
    | some p => obtain ⟨n, m⟩ := p; cases m <;> simp [limitC]
  refine ⟨?_, ?_, ?_⟩
  · exact Seg.append sp (seg_sp cwh.seg l1) (Seg.append sp (seg_sp cob.seg l2) (seg_sp clm.seg l3))
  · intro x hx
    simp only [tailPieces, List.mem_append] at hx
    rcases hx with hx | hx | hx
    · exact cwh.q x hx
    · exact cob.q x hx
    · exact clm.q x hx
  · have hl : (match lm with | some l => " " ++ PR.limitSrc l | none => "").toList = pc ((limitC lm).map (·.1)) := by
      cases lm with
      | none => rfl
      | some pr =>
        have := congrArg (List.map String.toList) (limit_eq (some pr))
        simp only [List.map_cons, List.map_nil, List.map_map, Function.comp_def, String.toList_ofList] at this
        have e1 : (" " : String).toList = [' '] := rfl
        simp only [String.toList_append, e1]
        obtain ⟨n, m⟩ := pr
        cases m <;> simp only [limitC, List.map_cons, List.map_nil, List.cons.injEq, and_true] at this ⊢ <;> rw [this] <;> simp [pc]
    have hw : PR.prOptWhereS d wh = .ok (String.ofList (pc (opt4LL d "WHERE" wh))) := by
      cases wh with
      | none => rfl
      | some e =>
        have he := opt_good (K := K) (some e) hwh lwh e rfl
        simp only [PR.prOptWhereS, he.pr, Except.map, opt4LL]
        refine congrArg Except.ok ?_
        apply ofList_eq
        simp [toString, String.toList_append, String.toList_ofList, pc]
    have ho : PR.prOptOrderS d ob = .ok (String.ofList (pc (order4LL d "ORDER" ob))) := by
      cases ob with
      | none => rfl
      | some l =>
        cases l with
        | nil => simp [orderOK4] at hob
        | cons o os =>
          simp only [PR.prOptOrderS, pr_ordList (o :: os) (hord _ rfl), Except.map, order4LL]
          refine congrArg Except.ok ?_
          apply ofList_eq
          have e1 : (" ORDER BY " : String).toList = ' ' :: ("ORDER".toList ++ ' ' :: ("BY".toList ++ [' '])) := rfl
          have e3 : (", " : String).toList = [',', ' '] := rfl
          rw [String.toList_append, toList_joinS, e1, e3, map_map_ofList]
          simp [pc, ord4LL_eq, byL]
    rw [PR.prTail_eq]
    simp only [hw, ho, bind, Except.bind, pure, Except.pure]
    refine congrArg Except.ok ?_
    apply ofList_eq
    rw [String.toList_append, String.toList_append, String.toList_ofList, String.toList_ofList]
    simp only [tailPieces, pc_append, List.append_assoc, List.append_cancel_left_eq]
    exact hl

theorem asg_good (p : String × Expr) (hn : nameLex p.1) (hqn : K.Q p.1.toList) (hK : DW K) (he : GE4 d K p.2) :
    Lx (setL d p) (TDM2.toksSet d noX p) ∧ K.Q (setL d p) := by
  refine ⟨?_, ?_⟩
  · have := Lx.sep (lx_name p.1.toList fun x hx => (hn x hx).1) (Lx.sep eqTok_lx he.lx)
    exact Lx.congr this (by simp [setL]) (by simp [TDM2.toksSet, nameTok_eq])
  · have := K.sp (K.bq hqn) (K.sp (hK.dws "=" (by simp [dmlWords])) he.q)
    simpa [setL] using this

theorem asgs_good (_ : DW K) (sets : List (String × Expr)) : sets.all (TDM2.setOK d) = true → Lv2 d K (leavesSets sets) →
    ∀ p ∈ sets, nameLex p.1 ∧ K.Q p.1.toList ∧ GE4 d K p.2 := by
  induction sets with
  | nil => intro _ _ a ha; cases ha
  | cons p r ih =>
    obtain ⟨c, e⟩ := p
    intro hf hl
    simp only [List.all_cons, Bool.and_eq_true, TDM2.setOK] at hf
    simp only [leavesSets, lv2_cons, lv2_append] at hl
    intro x hx
    rcases List.mem_cons.mp hx with rfl | hx
    · exact ⟨hl.1.1, hl.1.2 c (by simp [strs]), good_expr d K QWc.out e hf.1.2 hl.2.1⟩
    · exact ih hf.2 hl.2.2 x hx

theorem toksSets_joinC : ∀ (sets : List (String × Expr)), TDM2.toksSets d noX sets = TDM2.joinC (sets.map (TDM2.toksSet d noX))
  | [] => rfl
  | [p] => by simp [TDM2.toksSets, TDM2.toksSetsTail, TDM2.joinC]
  | p :: q :: r => by
    have := toksSets_joinC (q :: r)
    simp only [TDM2.toksSets, TDM2.toksSetsTail, List.map_cons, TDM2.joinC] at this ⊢
    rw [← this]

theorem pr_asgs (sets : List (String × Expr)) : (∀ p ∈ sets, GE4 d K p.2) →
    PR.mapM' (fun (cv : String × Expr) => (PR.prE d cv.2).map fun x => s!"`{cv.1}` = {x}") sets =
      .ok ((sets.map (setL d)).map String.ofList) := by
  induction sets with
  | nil => intro _; rfl
  | cons p r ih =>
    intro h
    have h1 := (h p (by simp)).pr
    have h2 := ih fun y hy => h y (by simp [hy])
    simp only [PR.mapM', h2, h1]
    simp only [Except.map, bind, Except.bind, pure, Except.pure, List.map_cons]
    refine congrArg Except.ok ?_
    congr 1
    apply ofList_eq
    simp [toString, String.toList_append, String.toList_ofList, setL]

theorem toksArgs_joinC (k : Nat) : ∀ (vs : List Expr), toksArgs4 d noX k vs = TDM2.joinC (vs.map (fun e => W4 d noX e k))
  | [] => rfl
  | [a] => by simp [toksArgs4, toksArgsTail4, TDM2.joinC, W4]
  | a :: b :: r => by
    have := toksArgs_joinC k (b :: r)
    simp only [toksArgs4, toksArgsTail4, List.map_cons, TDM2.joinC, W4] at this ⊢
    rw [← this]
    rfl

theorem row_tok (r : List Expr) : toksE4 d noX (.subValue r) = [TDM2.toksRow d noX r] := by
  simp only [toksE4, TDM2.toksRow, toksArgs_joinC]

theorem vrows_good : ∀ (vs : List (List Expr)), vs.all (FragL4 d) = true → Lv2 d K (leavesRows vs) → ∀ r ∈ vs, GE4 d K (.subValue r)
  | [], _, _ => fun a ha => by cases ha
  | r :: rs, hf, hl => by
    simp only [List.all_cons, Bool.and_eq_true] at hf
    simp only [leavesRows, lv2_append] at hl
    intro x hx
    rcases List.mem_cons.mp hx with rfl | hx
    · exact ge_subValue x (list_good x hf.1 hl.1)
    · exact vrows_good rs hf.2 hl.2 x hx

theorem toksRows_joinC : ∀ (vs : List (List Expr)), TDM2.toksRows d noX vs = TDM2.joinC (vs.map (fun r => [TDM2.toksRow d noX r]))
  | [] => rfl
  | [p] => by simp [TDM2.toksRows, TDM2.toksRowsTail, TDM2.joinC]
  | p :: q :: r => by
    have := toksRows_joinC (q :: r)
    simp only [TDM2.toksRows, TDM2.toksRowsTail, List.map_cons, TDM2.joinC] at this ⊢
    rw [← this]
    rfl

theorem pr_rows (vs : List (List Expr)) : (∀ r ∈ vs, GE4 d K (.subValue r)) →
    PR.mapM' (fun r => (PR.prList8 d r).map fun p => s!"({PR.joinS ", " p})") vs = .ok ((vs.map (vrowL d)).map String.ofList) := by
  induction vs with
  | nil => intro _; rfl
  | cons p r ih =>
    intro h
    have h1 := (h p (by simp)).pr
    have h2 := ih fun y hy => h y (by simp [hy])
    simp only [PR.prE] at h1
    simp only [PR.mapM', h2, h1]
    simp only [bind, Except.bind, pure, Except.pure, List.map_cons, vrowL]

end
end LL2.Any
