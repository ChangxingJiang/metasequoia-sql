import MsqProofs.Lemmas.ParseFrameDefs
/-! GENERATED by tools/gen_frame.py — C10: frame lemmas for the mutual block of MsqModel/Parse/Expr.lean: the fuel step, the induction on the fuel, the plain forms -/
set_option linter.unusedVariables false
open Lex PM
namespace PM
variable {semi : Tok} (hs : IsSemi semi) (Y : List Tok) (d : Gen.D)
include hs

theorem frameF_succ (n m : Nat) (hm : n < m) (ih : FrameF (semi :: Y) d n m) : FrameF (semi :: Y) d (n+1) (m+1) := by
  have hX : SemiHead (semi :: Y) := SemiHead.mk' hs Y
  have hN := hs.name; have hP := hs.paren; have hL := hs.literal; have hA := hs.array
  have hS := hs.src; have hU := hs.upSrc; have hC := hs.children
  constructor
  case le => omega
  case pElement =>
    intro ts v r h
    unfold pElement at h ⊢
    grind -funext (splits := 60) (gen := 40) (instances := 20000) [closed_ok]
  case pParen =>
    intro x0 ts v r h
    unfold pParen at h ⊢
    grind -funext (splits := 60) (gen := 40) (instances := 20000) [closed_ok]
  case pNamed =>
    intro x0 r0 ts v r h
    unfold pNamed at h ⊢
    grind -funext (splits := 60) (gen := 40) (instances := 20000) [closed_ok]
  case pQualified =>
    intro x0 r0 ts v r h
    unfold pQualified at h ⊢
    grind -funext (splits := 60) (gen := 40) (instances := 20000) [closed_ok]
  case pIndex =>
    intro x0 ts v r h
    unfold pIndex at h ⊢
    grind -funext (splits := 60) (gen := 40) (instances := 20000) [closed_ok]
  case pFuncIdx =>
    intro ts v r h
    unfold pFuncIdx at h ⊢
    grind -funext (splits := 60) (gen := 40) (instances := 20000) [closed_ok]
  case pFunc =>
    intro ts v r h
    unfold pFunc at h ⊢
    grind -funext (splits := 60) (gen := 40) (instances := 20000) [closed_ok]
  case pIfCall =>
    intro ts v r h
    unfold pIfCall at h ⊢
    grind -funext (splits := 60) (gen := 40) (instances := 20000) [closed_ok]
  case pCall =>
    intro x0 x1 ts v r h
    unfold pCall at h ⊢
    grind -funext (splits := 60) (gen := 40) (instances := 20000) [closed_ok]
  case pCase =>
    intro ts v r h
    unfold pCase at h ⊢
    grind -funext (splits := 60) (gen := 40) (instances := 20000) [closed_ok]
  case pElseEnd =>
    intro ts v r h
    unfold pElseEnd at h ⊢
    grind -funext (splits := 60) (gen := 40) (instances := 20000) [closed_ok]
  case pWhens =>
    intro x0 ts v r h
    unfold pWhens at h ⊢
    grind -funext (splits := 60) (gen := 40) (instances := 20000) [closed_ok]
  case pUnary =>
    intro ts v r h
    have hT1 := computeOp_semi
    have hT4 := unarySet_semi d
    unfold pUnary at h ⊢
    grind -funext (splits := 60) (gen := 40) (instances := 20000) [closed_ok]
  case pCompute =>
    intro ts v r h
    unfold pCompute at h ⊢
    grind -funext (splits := 60) (gen := 40) (instances := 20000) [closed_ok]
  case pComputeLoop =>
    intro x0 x1 ts v r h
    have hT1 := computeOp_semi
    unfold pComputeLoop at h ⊢
    grind -funext (splits := 60) (gen := 40) (instances := 20000) [closed_ok]
  case pKeyword =>
    intro x0 ts v r h
    unfold pKeyword at h ⊢
    grind -funext (splits := 60) (gen := 40) (instances := 20000) [closed_ok]
  case pKwFirst =>
    intro x0 ts v r h
    unfold pKwFirst at h ⊢
    grind -funext (splits := 60) (gen := 40) (instances := 20000) [closed_ok]
  case pKwRest =>
    intro x0 x1 ts v r h
    obtain ⟨m, rfl⟩ : ∃ k, m = k + 1 := ⟨m - 1, by omega⟩
    have hB : ∀ isNot bv r2, pKwBody d (m+1) ";" isNot bv r2 = .ok none := by
      intro isNot bv r2; simp [pKwBody]
    unfold pKwRest at h ⊢
    grind -funext (splits := 60) (gen := 40) (instances := 20000) [closed_ok]
  case pKwBody =>
    intro x0 x1 x2 ts
    constructor
    · intro v r h
      unfold pKwBody at h ⊢
      grind -funext (splits := 60) (gen := 40) (instances := 20000) [closed_ok]
    · intro h
      unfold pKwBody at h ⊢
      grind -funext (splits := 60) (gen := 40) (instances := 20000) [closed_ok]
  case pBetween =>
    intro x0 x1 ts
    constructor
    · intro v r h
      unfold pBetween at h ⊢
      grind -funext (splits := 60) (gen := 40) (instances := 20000) [closed_ok]
    · intro h
      unfold pBetween at h ⊢
      grind -funext (splits := 60) (gen := 40) (instances := 20000) [closed_ok]
  case pInBody =>
    intro x0 x1 ts
    constructor
    · intro v r h
      unfold pInBody at h ⊢
      grind -funext (splits := 60) (gen := 40) (instances := 20000) [closed_ok]
    · intro h
      unfold pInBody at h ⊢
      grind -funext (splits := 60) (gen := 40) (instances := 20000) [closed_ok]
  case pCompare =>
    intro ts v r h
    unfold pCompare at h ⊢
    grind -funext (splits := 60) (gen := 40) (instances := 20000) [closed_ok]
  case pCompareLoop =>
    intro x0 ts v r h
    have hT2 := compareOp_semi
    unfold pCompareLoop at h ⊢
    grind -funext (splits := 60) (gen := 40) (instances := 20000) [closed_ok]
  case pNot =>
    intro ts v r h
    have hT3 := notSet_semi d
    unfold pNot at h ⊢
    grind -funext (splits := 60) (gen := 40) (instances := 20000) [closed_ok]
  case pAnd =>
    intro ts v r h
    unfold pAnd at h ⊢
    grind -funext (splits := 60) (gen := 40) (instances := 20000) [closed_ok]
  case pAndLoop =>
    intro x0 ts v r h
    unfold pAndLoop at h ⊢
    grind -funext (splits := 60) (gen := 40) (instances := 20000) [closed_ok]
  case pXor =>
    intro ts v r h
    unfold pXor at h ⊢
    grind -funext (splits := 60) (gen := 40) (instances := 20000) [closed_ok]
  case pXorLoop =>
    intro x0 ts v r h
    unfold pXorLoop at h ⊢
    grind -funext (splits := 60) (gen := 40) (instances := 20000) [closed_ok]
  case pOr =>
    intro ts v r h
    unfold pOr at h ⊢
    grind -funext (splits := 60) (gen := 40) (instances := 20000) [closed_ok]
  case pOrLoop =>
    intro x0 ts v r h
    unfold pOrLoop at h ⊢
    grind -funext (splits := 60) (gen := 40) (instances := 20000) [closed_ok]
  case pSubQuery =>
    intro ts v r h
    unfold pSubQuery at h ⊢
    grind -funext (splits := 60) (gen := 40) (instances := 20000) [closed_ok]
  case pCast =>
    intro ts v r h
    unfold pCast at h ⊢
    grind -funext (splits := 60) (gen := 40) (instances := 20000) [closed_ok]
  case pExtract =>
    intro ts v r h
    unfold pExtract at h ⊢
    grind -funext (splits := 60) (gen := 40) (instances := 20000) [closed_ok]
  case pWindow =>
    intro ts v r h
    unfold pWindow at h ⊢
    grind -funext (splits := 60) (gen := 40) (instances := 20000) [closed_ok]
  case pComputeList =>
    intro x0 ts v r h
    unfold pComputeList at h ⊢
    grind -funext (splits := 60) (gen := 40) (instances := 20000) [closed_ok]
  case pOrderItem =>
    intro ts v r h
    unfold pOrderItem at h ⊢
    grind -funext (splits := 60) (gen := 40) (instances := 20000) [closed_ok]
  case pOrderList =>
    intro x0 ts v r h
    unfold pOrderList at h ⊢
    grind -funext (splits := 60) (gen := 40) (instances := 20000) [closed_ok]
  case pOrderByOpt =>
    intro ts v r h
    unfold pOrderByOpt at h ⊢
    grind -funext (splits := 60) (gen := 40) (instances := 20000) [closed_ok]
  case pSelectCol =>
    intro ts v r h
    unfold pSelectCol at h ⊢
    grind -funext (splits := 60) (gen := 40) (instances := 20000) [closed_ok]
  case pSelectCols =>
    intro x0 ts v r h
    unfold pSelectCols at h ⊢
    grind -funext (splits := 60) (gen := 40) (instances := 20000) [closed_ok]
  case pTableExpr =>
    intro ts v r h
    unfold pTableExpr at h ⊢
    grind -funext (splits := 60) (gen := 40) (instances := 20000) [closed_ok]
  case pFromTable =>
    intro ts v r h
    unfold pFromTable at h ⊢
    grind -funext (splits := 60) (gen := 40) (instances := 20000) [closed_ok]
  case pFromTables =>
    intro x0 ts v r h
    unfold pFromTables at h ⊢
    grind -funext (splits := 60) (gen := 40) (instances := 20000) [closed_ok]
  case pJoin =>
    intro ts v r h
    have hT5 := joinTypes_noSemi
    unfold pJoin at h ⊢
    grind -funext (splits := 60) (gen := 40) (instances := 20000) [closed_ok]
  case pJoinRule =>
    intro x0 x1 ts v r h
    unfold pJoinRule at h ⊢
    grind -funext (splits := 60) (gen := 40) (instances := 20000) [closed_ok]
  case pJoins_A =>
    intro outer acc inner v r h
    unfold pJoins at h ⊢
    grind -funext (splits := 60) (gen := 40) (instances := 20000) [closed_ok]
  case pJoins_B =>
    intro outer acc inner r h
    unfold pJoins at h ⊢
    grind -funext (splits := 60) (gen := 40) (instances := 20000) [closed_ok]
  case pOptOr =>
    intro x0 ts hk v r h
    unfold pOptOr at h ⊢
    grind -funext (splits := 60) (gen := 40) (instances := 20000) [closed_ok]
  case pGroupingSets =>
    intro ts v r h
    unfold pGroupingSets at h ⊢
    grind -funext (splits := 60) (gen := 40) (instances := 20000) [closed_ok]
  case pGroupBy =>
    intro ts v r h
    unfold pGroupBy at h ⊢
    grind -funext (splits := 60) (gen := 40) (instances := 20000) [closed_ok]
  case pGroupCols =>
    intro ts v r h
    unfold pGroupCols at h ⊢
    grind -funext (splits := 60) (gen := 40) (instances := 20000) [closed_ok]
  case pGroupSetsOpt =>
    intro ts v r h
    unfold pGroupSetsOpt at h ⊢
    grind -funext (splits := 60) (gen := 40) (instances := 20000) [closed_ok]
  case pWithTable =>
    intro ts v r h
    unfold pWithTable at h ⊢
    grind -funext (splits := 60) (gen := 40) (instances := 20000) [closed_ok]
  case pWithBody =>
    intro x0 ts v r h
    unfold pWithBody at h ⊢
    grind -funext (splits := 60) (gen := 40) (instances := 20000) [closed_ok]
  case pWithTables =>
    intro x0 ts v r h
    unfold pWithTables at h ⊢
    grind -funext (splits := 60) (gen := 40) (instances := 20000) [closed_ok]
  case pWith =>
    intro ts v r h
    unfold pWith at h ⊢
    grind -funext (splits := 60) (gen := 40) (instances := 20000) [closed_ok]
  case pSelectBody_A =>
    intro w outer inner v r h
    unfold pSelectBody at h ⊢
    grind -funext (splits := 60) (gen := 40) (instances := 20000) [closed_ok]
  case pSelectBody_B =>
    intro w outer inner r h
    unfold pSelectBody at h ⊢
    grind -funext (splits := 60) (gen := 40) (instances := 20000) [closed_ok]
  case pFromOpt =>
    intro ts v r h
    unfold pFromOpt at h ⊢
    grind -funext (splits := 60) (gen := 40) (instances := 20000) [closed_ok]
  case pSelectRest_A =>
    intro w di co outer inner v r h
    unfold pSelectRest at h ⊢
    grind -funext (splits := 60) (gen := 40) (instances := 20000) [closed_ok]
  case pSelectRest_B =>
    intro w di co outer inner r h
    unfold pSelectRest at h ⊢
    grind -funext (splits := 60) (gen := 40) (instances := 20000) [closed_ok]
  case pSelectTail =>
    intro x0 x1 x2 x3 x4 x5 ts v r h
    unfold pSelectTail at h ⊢
    grind -funext (splits := 60) (gen := 40) (instances := 20000) [closed_ok]
  case pWhereGroup =>
    intro ts v r h
    unfold pWhereGroup at h ⊢
    grind -funext (splits := 60) (gen := 40) (instances := 20000) [closed_ok]
  case pHavingOrder =>
    intro ts v r h
    unfold pHavingOrder at h ⊢
    grind -funext (splits := 60) (gen := 40) (instances := 20000) [closed_ok]
  case pHiveClauses =>
    intro ts v r h
    unfold pHiveClauses at h ⊢
    grind -funext (splits := 60) (gen := 40) (instances := 20000) [closed_ok]
  case pSortBy =>
    intro ts v r h
    unfold pSortBy at h ⊢
    grind -funext (splits := 60) (gen := 40) (instances := 20000) [closed_ok]
  case pByList =>
    intro x0 ts hk v r h
    unfold pByList at h ⊢
    grind -funext (splits := 60) (gen := 40) (instances := 20000) [closed_ok]
  case pLateral =>
    intro ts v r h
    unfold pLateral at h ⊢
    grind -funext (splits := 60) (gen := 40) (instances := 20000) [closed_ok]
  case pLaterals_A =>
    intro outer acc inner v r h
    unfold pLaterals at h ⊢
    grind -funext (splits := 60) (gen := 40) (instances := 20000) [closed_ok]
  case pLaterals_B =>
    intro outer acc inner r h
    unfold pLaterals at h ⊢
    grind -funext (splits := 60) (gen := 40) (instances := 20000) [closed_ok]
  case pSingle =>
    intro x0 ts v r h
    unfold pSingle at h ⊢
    grind -funext (splits := 60) (gen := 40) (instances := 20000) [closed_ok]
  case pSingleParen =>
    intro w outer st inner v r h
    unfold pSingleParen at h ⊢
    grind -funext (splits := 60) (gen := 40) (instances := 20000) [closed_ok]
  case pSelectStmt =>
    intro x0 ts v r h
    unfold pSelectStmt at h ⊢
    grind -funext (splits := 60) (gen := 40) (instances := 20000) [closed_ok]
  case pUnions =>
    intro x0 x1 ts v r h
    have hT6 := unionTypes_noSemi
    unfold pUnions at h ⊢
    grind -funext (splits := 60) (gen := 40) (instances := 20000) [closed_ok]

/-- what every function of the expression / SELECT parser parses does not depend on what follows a separator -/
theorem frameF_all : ∀ n m, n < m → FrameF (semi :: Y) d n m := by
  intro n
  induction n with
  | zero =>
    intro m hm
    constructor <;> first | omega | (intros; simp [FrameRel, FrameRelO, MonoRel, pAnd, pAndLoop, pBetween, pByList, pCall, pCase, pCast, pCompare, pCompareLoop, pCompute, pComputeList, pComputeLoop, pElement, pElseEnd, pExtract, pFromOpt, pFromTable, pFromTables, pFunc, pFuncIdx, pGroupBy, pGroupCols, pGroupSetsOpt, pGroupingSets, pHavingOrder, pHiveClauses, pIfCall, pInBody, pIndex, pJoin, pJoinRule, pJoins, pKeyword, pKwBody, pKwFirst, pKwRest, pLateral, pLaterals, pNamed, pNot, pOptOr, pOr, pOrLoop, pOrderByOpt, pOrderItem, pOrderList, pParen, pQualified, pSelectBody, pSelectCol, pSelectCols, pSelectRest, pSelectStmt, pSelectTail, pSingle, pSingleParen, pSortBy, pSubQuery, pTableExpr, pUnary, pUnions, pWhens, pWhereGroup, pWindow, pWith, pWithBody, pWithTable, pWithTables, pXor, pXorLoop])
  | succ n ih =>
    intro m hm
    obtain ⟨k, rfl⟩ : ∃ k, m = k + 1 := ⟨m - 1, by omega⟩
    exact frameF_succ hs Y d n k (by omega) (ih k (by omega))

/-! ### the same, function by function, in plain form -/
theorem pElement_framed (n m : Nat) (hnm : n < m) : ∀ ts v r, PM.pElement d n ts = .ok (v, r) → PM.pElement d m (ts ++ (semi :: Y)) = .ok (v, r ++ semi :: Y) :=
  fun ts v r h => (frameF_all hs Y d n m hnm).pElement ts v r h
theorem pParen_framed (n m : Nat) (hnm : n < m) : ∀ x0 ts v r, PM.pParen d n x0 ts = .ok (v, r) → PM.pParen d m x0 (ts ++ (semi :: Y)) = .ok (v, r ++ semi :: Y) :=
  fun x0 ts v r h => (frameF_all hs Y d n m hnm).pParen x0 ts v r h
theorem pNamed_framed (n m : Nat) (hnm : n < m) : ∀ x0 r0 ts v r, PM.pNamed d n x0 r0 ts = .ok (v, r) → PM.pNamed d m x0 (r0 ++ (semi :: Y)) (ts ++ (semi :: Y)) = .ok (v, r ++ semi :: Y) :=
  fun x0 r0 ts v r h => (frameF_all hs Y d n m hnm).pNamed x0 r0 ts v r h
theorem pQualified_framed (n m : Nat) (hnm : n < m) : ∀ x0 r0 ts v r, PM.pQualified d n x0 r0 ts = .ok (v, r) → PM.pQualified d m x0 (r0 ++ (semi :: Y)) (ts ++ (semi :: Y)) = .ok (v, r ++ semi :: Y) :=
  fun x0 r0 ts v r h => (frameF_all hs Y d n m hnm).pQualified x0 r0 ts v r h
theorem pIndex_framed (n m : Nat) (hnm : n < m) : ∀ x0 ts v r, PM.pIndex d n x0 ts = .ok (v, r) → PM.pIndex d m x0 (ts ++ (semi :: Y)) = .ok (v, r ++ semi :: Y) :=
  fun x0 ts v r h => (frameF_all hs Y d n m hnm).pIndex x0 ts v r h
theorem pFuncIdx_framed (n m : Nat) (hnm : n < m) : ∀ ts v r, PM.pFuncIdx d n ts = .ok (v, r) → PM.pFuncIdx d m (ts ++ (semi :: Y)) = .ok (v, r ++ semi :: Y) :=
  fun ts v r h => (frameF_all hs Y d n m hnm).pFuncIdx ts v r h
theorem pFunc_framed (n m : Nat) (hnm : n < m) : ∀ ts v r, PM.pFunc d n ts = .ok (v, r) → PM.pFunc d m (ts ++ (semi :: Y)) = .ok (v, r ++ semi :: Y) :=
  fun ts v r h => (frameF_all hs Y d n m hnm).pFunc ts v r h
theorem pIfCall_framed (n m : Nat) (hnm : n < m) : ∀ ts v r, PM.pIfCall d n ts = .ok (v, r) → PM.pIfCall d m (ts ++ (semi :: Y)) = .ok (v, r ++ semi :: Y) :=
  fun ts v r h => (frameF_all hs Y d n m hnm).pIfCall ts v r h
theorem pCall_framed (n m : Nat) (hnm : n < m) : ∀ x0 x1 ts v r, PM.pCall d n x0 x1 ts = .ok (v, r) → PM.pCall d m x0 x1 (ts ++ (semi :: Y)) = .ok (v, r ++ semi :: Y) :=
  fun x0 x1 ts v r h => (frameF_all hs Y d n m hnm).pCall x0 x1 ts v r h
theorem pCase_framed (n m : Nat) (hnm : n < m) : ∀ ts v r, PM.pCase d n ts = .ok (v, r) → PM.pCase d m (ts ++ (semi :: Y)) = .ok (v, r ++ semi :: Y) :=
  fun ts v r h => (frameF_all hs Y d n m hnm).pCase ts v r h
theorem pElseEnd_framed (n m : Nat) (hnm : n < m) : ∀ ts v r, PM.pElseEnd d n ts = .ok (v, r) → PM.pElseEnd d m (ts ++ (semi :: Y)) = .ok (v, r ++ semi :: Y) :=
  fun ts v r h => (frameF_all hs Y d n m hnm).pElseEnd ts v r h
theorem pWhens_framed (n m : Nat) (hnm : n < m) : ∀ x0 ts v r, PM.pWhens d n x0 ts = .ok (v, r) → PM.pWhens d m x0 (ts ++ (semi :: Y)) = .ok (v, r ++ semi :: Y) :=
  fun x0 ts v r h => (frameF_all hs Y d n m hnm).pWhens x0 ts v r h
theorem pUnary_framed (n m : Nat) (hnm : n < m) : ∀ ts v r, PM.pUnary d n ts = .ok (v, r) → PM.pUnary d m (ts ++ (semi :: Y)) = .ok (v, r ++ semi :: Y) :=
  fun ts v r h => (frameF_all hs Y d n m hnm).pUnary ts v r h
theorem pCompute_framed (n m : Nat) (hnm : n < m) : ∀ ts v r, PM.pCompute d n ts = .ok (v, r) → PM.pCompute d m (ts ++ (semi :: Y)) = .ok (v, r ++ semi :: Y) :=
  fun ts v r h => (frameF_all hs Y d n m hnm).pCompute ts v r h
theorem pComputeLoop_framed (n m : Nat) (hnm : n < m) : ∀ x0 x1 ts v r, PM.pComputeLoop d n x0 x1 ts = .ok (v, r) → PM.pComputeLoop d m x0 x1 (ts ++ (semi :: Y)) = .ok (v, r ++ semi :: Y) :=
  fun x0 x1 ts v r h => (frameF_all hs Y d n m hnm).pComputeLoop x0 x1 ts v r h
theorem pKeyword_framed (n m : Nat) (hnm : n < m) : ∀ x0 ts v r, PM.pKeyword d n x0 ts = .ok (v, r) → PM.pKeyword d m x0 (ts ++ (semi :: Y)) = .ok (v, r ++ semi :: Y) :=
  fun x0 ts v r h => (frameF_all hs Y d n m hnm).pKeyword x0 ts v r h
theorem pKwFirst_framed (n m : Nat) (hnm : n < m) : ∀ x0 ts v r, PM.pKwFirst d n x0 ts = .ok (v, r) → PM.pKwFirst d m x0 (ts ++ (semi :: Y)) = .ok (v, r ++ semi :: Y) :=
  fun x0 ts v r h => (frameF_all hs Y d n m hnm).pKwFirst x0 ts v r h
theorem pKwRest_framed (n m : Nat) (hnm : n < m) : ∀ x0 x1 ts v r, PM.pKwRest d n x0 x1 ts = .ok (v, r) → PM.pKwRest d m x0 x1 (ts ++ (semi :: Y)) = .ok (v, r ++ semi :: Y) :=
  fun x0 x1 ts v r h => (frameF_all hs Y d n m hnm).pKwRest x0 x1 ts v r h
theorem pKwBody_framed (n m : Nat) (hnm : n < m) : ∀ x0 x1 x2 ts,
    (∀ v r, PM.pKwBody d n x0 x1 x2 ts = .ok (some (v, r)) → PM.pKwBody d m x0 x1 x2 (ts ++ (semi :: Y)) = .ok (some (v, r ++ semi :: Y))) ∧ (PM.pKwBody d n x0 x1 x2 ts = .ok none → PM.pKwBody d m x0 x1 x2 (ts ++ (semi :: Y)) = .ok none) :=
  fun x0 x1 x2 ts => (frameF_all hs Y d n m hnm).pKwBody x0 x1 x2 ts
theorem pBetween_framed (n m : Nat) (hnm : n < m) : ∀ x0 x1 ts,
    (∀ v r, PM.pBetween d n x0 x1 ts = .ok (some (v, r)) → PM.pBetween d m x0 x1 (ts ++ (semi :: Y)) = .ok (some (v, r ++ semi :: Y))) ∧ (PM.pBetween d n x0 x1 ts = .ok none → PM.pBetween d m x0 x1 (ts ++ (semi :: Y)) = .ok none) :=
  fun x0 x1 ts => (frameF_all hs Y d n m hnm).pBetween x0 x1 ts
theorem pInBody_framed (n m : Nat) (hnm : n < m) : ∀ x0 x1 ts,
    (∀ v r, PM.pInBody d n x0 x1 ts = .ok (some (v, r)) → PM.pInBody d m x0 x1 (ts ++ (semi :: Y)) = .ok (some (v, r ++ semi :: Y))) ∧ (PM.pInBody d n x0 x1 ts = .ok none → PM.pInBody d m x0 x1 (ts ++ (semi :: Y)) = .ok none) :=
  fun x0 x1 ts => (frameF_all hs Y d n m hnm).pInBody x0 x1 ts
theorem pCompare_framed (n m : Nat) (hnm : n < m) : ∀ ts v r, PM.pCompare d n ts = .ok (v, r) → PM.pCompare d m (ts ++ (semi :: Y)) = .ok (v, r ++ semi :: Y) :=
  fun ts v r h => (frameF_all hs Y d n m hnm).pCompare ts v r h
theorem pCompareLoop_framed (n m : Nat) (hnm : n < m) : ∀ x0 ts v r, PM.pCompareLoop d n x0 ts = .ok (v, r) → PM.pCompareLoop d m x0 (ts ++ (semi :: Y)) = .ok (v, r ++ semi :: Y) :=
  fun x0 ts v r h => (frameF_all hs Y d n m hnm).pCompareLoop x0 ts v r h
theorem pNot_framed (n m : Nat) (hnm : n < m) : ∀ ts v r, PM.pNot d n ts = .ok (v, r) → PM.pNot d m (ts ++ (semi :: Y)) = .ok (v, r ++ semi :: Y) :=
  fun ts v r h => (frameF_all hs Y d n m hnm).pNot ts v r h
theorem pAnd_framed (n m : Nat) (hnm : n < m) : ∀ ts v r, PM.pAnd d n ts = .ok (v, r) → PM.pAnd d m (ts ++ (semi :: Y)) = .ok (v, r ++ semi :: Y) :=
  fun ts v r h => (frameF_all hs Y d n m hnm).pAnd ts v r h
theorem pAndLoop_framed (n m : Nat) (hnm : n < m) : ∀ x0 ts v r, PM.pAndLoop d n x0 ts = .ok (v, r) → PM.pAndLoop d m x0 (ts ++ (semi :: Y)) = .ok (v, r ++ semi :: Y) :=
  fun x0 ts v r h => (frameF_all hs Y d n m hnm).pAndLoop x0 ts v r h
theorem pXor_framed (n m : Nat) (hnm : n < m) : ∀ ts v r, PM.pXor d n ts = .ok (v, r) → PM.pXor d m (ts ++ (semi :: Y)) = .ok (v, r ++ semi :: Y) :=
  fun ts v r h => (frameF_all hs Y d n m hnm).pXor ts v r h
theorem pXorLoop_framed (n m : Nat) (hnm : n < m) : ∀ x0 ts v r, PM.pXorLoop d n x0 ts = .ok (v, r) → PM.pXorLoop d m x0 (ts ++ (semi :: Y)) = .ok (v, r ++ semi :: Y) :=
  fun x0 ts v r h => (frameF_all hs Y d n m hnm).pXorLoop x0 ts v r h
theorem pOr_framed (n m : Nat) (hnm : n < m) : ∀ ts v r, PM.pOr d n ts = .ok (v, r) → PM.pOr d m (ts ++ (semi :: Y)) = .ok (v, r ++ semi :: Y) :=
  fun ts v r h => (frameF_all hs Y d n m hnm).pOr ts v r h
theorem pOrLoop_framed (n m : Nat) (hnm : n < m) : ∀ x0 ts v r, PM.pOrLoop d n x0 ts = .ok (v, r) → PM.pOrLoop d m x0 (ts ++ (semi :: Y)) = .ok (v, r ++ semi :: Y) :=
  fun x0 ts v r h => (frameF_all hs Y d n m hnm).pOrLoop x0 ts v r h
theorem pSubQuery_framed (n m : Nat) (hnm : n < m) : ∀ ts v r, PM.pSubQuery d n ts = .ok (v, r) → PM.pSubQuery d m (ts ++ (semi :: Y)) = .ok (v, r ++ semi :: Y) :=
  fun ts v r h => (frameF_all hs Y d n m hnm).pSubQuery ts v r h
theorem pCast_framed (n m : Nat) (hnm : n < m) : ∀ ts v r, PM.pCast d n ts = .ok (v, r) → PM.pCast d m (ts ++ (semi :: Y)) = .ok (v, r ++ semi :: Y) :=
  fun ts v r h => (frameF_all hs Y d n m hnm).pCast ts v r h
theorem pExtract_framed (n m : Nat) (hnm : n < m) : ∀ ts v r, PM.pExtract d n ts = .ok (v, r) → PM.pExtract d m (ts ++ (semi :: Y)) = .ok (v, r ++ semi :: Y) :=
  fun ts v r h => (frameF_all hs Y d n m hnm).pExtract ts v r h
theorem pWindow_framed (n m : Nat) (hnm : n < m) : ∀ ts v r, PM.pWindow d n ts = .ok (v, r) → PM.pWindow d m (ts ++ (semi :: Y)) = .ok (v, r ++ semi :: Y) :=
  fun ts v r h => (frameF_all hs Y d n m hnm).pWindow ts v r h
theorem pComputeList_framed (n m : Nat) (hnm : n < m) : ∀ x0 ts v r, PM.pComputeList d n x0 ts = .ok (v, r) → PM.pComputeList d m x0 (ts ++ (semi :: Y)) = .ok (v, r ++ semi :: Y) :=
  fun x0 ts v r h => (frameF_all hs Y d n m hnm).pComputeList x0 ts v r h
theorem pOrderItem_framed (n m : Nat) (hnm : n < m) : ∀ ts v r, PM.pOrderItem d n ts = .ok (v, r) → PM.pOrderItem d m (ts ++ (semi :: Y)) = .ok (v, r ++ semi :: Y) :=
  fun ts v r h => (frameF_all hs Y d n m hnm).pOrderItem ts v r h
theorem pOrderList_framed (n m : Nat) (hnm : n < m) : ∀ x0 ts v r, PM.pOrderList d n x0 ts = .ok (v, r) → PM.pOrderList d m x0 (ts ++ (semi :: Y)) = .ok (v, r ++ semi :: Y) :=
  fun x0 ts v r h => (frameF_all hs Y d n m hnm).pOrderList x0 ts v r h
theorem pOrderByOpt_framed (n m : Nat) (hnm : n < m) : ∀ ts v r, PM.pOrderByOpt d n ts = .ok (v, r) → PM.pOrderByOpt d m (ts ++ (semi :: Y)) = .ok (v, r ++ semi :: Y) :=
  fun ts v r h => (frameF_all hs Y d n m hnm).pOrderByOpt ts v r h
theorem pSelectCol_framed (n m : Nat) (hnm : n < m) : ∀ ts v r, PM.pSelectCol d n ts = .ok (v, r) → PM.pSelectCol d m (ts ++ (semi :: Y)) = .ok (v, r ++ semi :: Y) :=
  fun ts v r h => (frameF_all hs Y d n m hnm).pSelectCol ts v r h
theorem pSelectCols_framed (n m : Nat) (hnm : n < m) : ∀ x0 ts v r, PM.pSelectCols d n x0 ts = .ok (v, r) → PM.pSelectCols d m x0 (ts ++ (semi :: Y)) = .ok (v, r ++ semi :: Y) :=
  fun x0 ts v r h => (frameF_all hs Y d n m hnm).pSelectCols x0 ts v r h
theorem pTableExpr_framed (n m : Nat) (hnm : n < m) : ∀ ts v r, PM.pTableExpr d n ts = .ok (v, r) → PM.pTableExpr d m (ts ++ (semi :: Y)) = .ok (v, r ++ semi :: Y) :=
  fun ts v r h => (frameF_all hs Y d n m hnm).pTableExpr ts v r h
theorem pFromTable_framed (n m : Nat) (hnm : n < m) : ∀ ts v r, PM.pFromTable d n ts = .ok (v, r) → PM.pFromTable d m (ts ++ (semi :: Y)) = .ok (v, r ++ semi :: Y) :=
  fun ts v r h => (frameF_all hs Y d n m hnm).pFromTable ts v r h
theorem pFromTables_framed (n m : Nat) (hnm : n < m) : ∀ x0 ts v r, PM.pFromTables d n x0 ts = .ok (v, r) → PM.pFromTables d m x0 (ts ++ (semi :: Y)) = .ok (v, r ++ semi :: Y) :=
  fun x0 ts v r h => (frameF_all hs Y d n m hnm).pFromTables x0 ts v r h
theorem pJoin_framed (n m : Nat) (hnm : n < m) : ∀ ts v r, PM.pJoin d n ts = .ok (v, r) → PM.pJoin d m (ts ++ (semi :: Y)) = .ok (v, r ++ semi :: Y) :=
  fun ts v r h => (frameF_all hs Y d n m hnm).pJoin ts v r h
theorem pJoinRule_framed (n m : Nat) (hnm : n < m) : ∀ x0 x1 ts v r, PM.pJoinRule d n x0 x1 ts = .ok (v, r) → PM.pJoinRule d m x0 x1 (ts ++ (semi :: Y)) = .ok (v, r ++ semi :: Y) :=
  fun x0 x1 ts v r h => (frameF_all hs Y d n m hnm).pJoinRule x0 x1 ts v r h
theorem pJoins_A_framed (n m : Nat) (hnm : n < m) : ∀ outer acc inner v r, PM.pJoins d n true outer acc inner = .ok (v, r) → PM.pJoins d m true outer acc (inner ++ (semi :: Y)) = .ok (v, r ++ semi :: Y) :=
  fun outer acc inner v r h => (frameF_all hs Y d n m hnm).pJoins_A outer acc inner v r h
theorem pJoins_B_framed (n m : Nat) (hnm : n < m) : ∀ outer acc inner x, PM.pJoins d n false outer acc inner = .ok x → PM.pJoins d m false (outer ++ (semi :: Y)) acc inner = .ok x :=
  fun outer acc inner x h => (frameF_all hs Y d n m hnm).pJoins_B outer acc inner x h
theorem pOptOr_framed (n m : Nat) (hnm : n < m) : ∀ x0 ts v r, x0 ≠ ";" → PM.pOptOr d n x0 ts = .ok (v, r) → PM.pOptOr d m x0 (ts ++ (semi :: Y)) = .ok (v, r ++ semi :: Y) :=
  fun x0 ts v r hk h => (frameF_all hs Y d n m hnm).pOptOr x0 ts hk v r h
theorem pGroupingSets_framed (n m : Nat) (hnm : n < m) : ∀ ts v r, PM.pGroupingSets d n ts = .ok (v, r) → PM.pGroupingSets d m (ts ++ (semi :: Y)) = .ok (v, r ++ semi :: Y) :=
  fun ts v r h => (frameF_all hs Y d n m hnm).pGroupingSets ts v r h
theorem pGroupBy_framed (n m : Nat) (hnm : n < m) : ∀ ts v r, PM.pGroupBy d n ts = .ok (v, r) → PM.pGroupBy d m (ts ++ (semi :: Y)) = .ok (v, r ++ semi :: Y) :=
  fun ts v r h => (frameF_all hs Y d n m hnm).pGroupBy ts v r h
theorem pGroupCols_framed (n m : Nat) (hnm : n < m) : ∀ ts v r, PM.pGroupCols d n ts = .ok (v, r) → PM.pGroupCols d m (ts ++ (semi :: Y)) = .ok (v, r ++ semi :: Y) :=
  fun ts v r h => (frameF_all hs Y d n m hnm).pGroupCols ts v r h
theorem pGroupSetsOpt_framed (n m : Nat) (hnm : n < m) : ∀ ts v r, PM.pGroupSetsOpt d n ts = .ok (v, r) → PM.pGroupSetsOpt d m (ts ++ (semi :: Y)) = .ok (v, r ++ semi :: Y) :=
  fun ts v r h => (frameF_all hs Y d n m hnm).pGroupSetsOpt ts v r h
theorem pWithTable_framed (n m : Nat) (hnm : n < m) : ∀ ts v r, PM.pWithTable d n ts = .ok (v, r) → PM.pWithTable d m (ts ++ (semi :: Y)) = .ok (v, r ++ semi :: Y) :=
  fun ts v r h => (frameF_all hs Y d n m hnm).pWithTable ts v r h
theorem pWithBody_framed (n m : Nat) (hnm : n < m) : ∀ x0 ts v r, PM.pWithBody d n x0 ts = .ok (v, r) → PM.pWithBody d m x0 (ts ++ (semi :: Y)) = .ok (v, r ++ semi :: Y) :=
  fun x0 ts v r h => (frameF_all hs Y d n m hnm).pWithBody x0 ts v r h
theorem pWithTables_framed (n m : Nat) (hnm : n < m) : ∀ x0 ts v r, PM.pWithTables d n x0 ts = .ok (v, r) → PM.pWithTables d m x0 (ts ++ (semi :: Y)) = .ok (v, r ++ semi :: Y) :=
  fun x0 ts v r h => (frameF_all hs Y d n m hnm).pWithTables x0 ts v r h
theorem pWith_framed (n m : Nat) (hnm : n < m) : ∀ ts v r, PM.pWith d n ts = .ok (v, r) → PM.pWith d m (ts ++ (semi :: Y)) = .ok (v, r ++ semi :: Y) :=
  fun ts v r h => (frameF_all hs Y d n m hnm).pWith ts v r h
theorem pSelectBody_A_framed (n m : Nat) (hnm : n < m) : ∀ w outer inner v r, PM.pSelectBody d n w true outer inner = .ok (v, r) → PM.pSelectBody d m w true outer (inner ++ (semi :: Y)) = .ok (v, r ++ semi :: Y) :=
  fun w outer inner v r h => (frameF_all hs Y d n m hnm).pSelectBody_A w outer inner v r h
theorem pSelectBody_B_framed (n m : Nat) (hnm : n < m) : ∀ w outer inner x, PM.pSelectBody d n w false outer inner = .ok x → PM.pSelectBody d m w false (outer ++ (semi :: Y)) inner = .ok x :=
  fun w outer inner x h => (frameF_all hs Y d n m hnm).pSelectBody_B w outer inner x h
theorem pFromOpt_framed (n m : Nat) (hnm : n < m) : ∀ ts v r, PM.pFromOpt d n ts = .ok (v, r) → PM.pFromOpt d m (ts ++ (semi :: Y)) = .ok (v, r ++ semi :: Y) :=
  fun ts v r h => (frameF_all hs Y d n m hnm).pFromOpt ts v r h
theorem pSelectRest_A_framed (n m : Nat) (hnm : n < m) : ∀ w di co outer inner v r, PM.pSelectRest d n w di co true outer inner = .ok (v, r) → PM.pSelectRest d m w di co true outer (inner ++ (semi :: Y)) = .ok (v, r ++ semi :: Y) :=
  fun w di co outer inner v r h => (frameF_all hs Y d n m hnm).pSelectRest_A w di co outer inner v r h
theorem pSelectRest_B_framed (n m : Nat) (hnm : n < m) : ∀ w di co outer inner x, PM.pSelectRest d n w di co false outer inner = .ok x → PM.pSelectRest d m w di co false (outer ++ (semi :: Y)) inner = .ok x :=
  fun w di co outer inner x h => (frameF_all hs Y d n m hnm).pSelectRest_B w di co outer inner x h
theorem pSelectTail_framed (n m : Nat) (hnm : n < m) : ∀ x0 x1 x2 x3 x4 x5 ts v r, PM.pSelectTail d n x0 x1 x2 x3 x4 x5 ts = .ok (v, r) → PM.pSelectTail d m x0 x1 x2 x3 x4 x5 (ts ++ (semi :: Y)) = .ok (v, r ++ semi :: Y) :=
  fun x0 x1 x2 x3 x4 x5 ts v r h => (frameF_all hs Y d n m hnm).pSelectTail x0 x1 x2 x3 x4 x5 ts v r h
theorem pWhereGroup_framed (n m : Nat) (hnm : n < m) : ∀ ts v r, PM.pWhereGroup d n ts = .ok (v, r) → PM.pWhereGroup d m (ts ++ (semi :: Y)) = .ok (v, r ++ semi :: Y) :=
  fun ts v r h => (frameF_all hs Y d n m hnm).pWhereGroup ts v r h
theorem pHavingOrder_framed (n m : Nat) (hnm : n < m) : ∀ ts v r, PM.pHavingOrder d n ts = .ok (v, r) → PM.pHavingOrder d m (ts ++ (semi :: Y)) = .ok (v, r ++ semi :: Y) :=
  fun ts v r h => (frameF_all hs Y d n m hnm).pHavingOrder ts v r h
theorem pHiveClauses_framed (n m : Nat) (hnm : n < m) : ∀ ts v r, PM.pHiveClauses d n ts = .ok (v, r) → PM.pHiveClauses d m (ts ++ (semi :: Y)) = .ok (v, r ++ semi :: Y) :=
  fun ts v r h => (frameF_all hs Y d n m hnm).pHiveClauses ts v r h
theorem pSortBy_framed (n m : Nat) (hnm : n < m) : ∀ ts v r, PM.pSortBy d n ts = .ok (v, r) → PM.pSortBy d m (ts ++ (semi :: Y)) = .ok (v, r ++ semi :: Y) :=
  fun ts v r h => (frameF_all hs Y d n m hnm).pSortBy ts v r h
theorem pByList_framed (n m : Nat) (hnm : n < m) : ∀ x0 ts v r, x0 ≠ ";" → PM.pByList d n x0 ts = .ok (v, r) → PM.pByList d m x0 (ts ++ (semi :: Y)) = .ok (v, r ++ semi :: Y) :=
  fun x0 ts v r hk h => (frameF_all hs Y d n m hnm).pByList x0 ts hk v r h
theorem pLateral_framed (n m : Nat) (hnm : n < m) : ∀ ts v r, PM.pLateral d n ts = .ok (v, r) → PM.pLateral d m (ts ++ (semi :: Y)) = .ok (v, r ++ semi :: Y) :=
  fun ts v r h => (frameF_all hs Y d n m hnm).pLateral ts v r h
theorem pLaterals_A_framed (n m : Nat) (hnm : n < m) : ∀ outer acc inner v r, PM.pLaterals d n true outer acc inner = .ok (v, r) → PM.pLaterals d m true outer acc (inner ++ (semi :: Y)) = .ok (v, r ++ semi :: Y) :=
  fun outer acc inner v r h => (frameF_all hs Y d n m hnm).pLaterals_A outer acc inner v r h
theorem pLaterals_B_framed (n m : Nat) (hnm : n < m) : ∀ outer acc inner x, PM.pLaterals d n false outer acc inner = .ok x → PM.pLaterals d m false (outer ++ (semi :: Y)) acc inner = .ok x :=
  fun outer acc inner x h => (frameF_all hs Y d n m hnm).pLaterals_B outer acc inner x h
theorem pSingle_framed (n m : Nat) (hnm : n < m) : ∀ x0 ts v r, PM.pSingle d n x0 ts = .ok (v, r) → PM.pSingle d m x0 (ts ++ (semi :: Y)) = .ok (v, r ++ semi :: Y) :=
  fun x0 ts v r h => (frameF_all hs Y d n m hnm).pSingle x0 ts v r h
theorem pSingleParen_framed (n m : Nat) (hnm : n < m) : ∀ w outer st inner v r, PM.pSingleParen d n w outer st inner = .ok (v, r) → PM.pSingleParen d m w (outer ++ (semi :: Y)) st inner = .ok (v, r ++ semi :: Y) :=
  fun w outer st inner v r h => (frameF_all hs Y d n m hnm).pSingleParen w outer st inner v r h
theorem pSelectStmt_framed (n m : Nat) (hnm : n < m) : ∀ x0 ts v r, PM.pSelectStmt d n x0 ts = .ok (v, r) → PM.pSelectStmt d m x0 (ts ++ (semi :: Y)) = .ok (v, r ++ semi :: Y) :=
  fun x0 ts v r h => (frameF_all hs Y d n m hnm).pSelectStmt x0 ts v r h
theorem pUnions_framed (n m : Nat) (hnm : n < m) : ∀ x0 x1 ts v r, PM.pUnions d n x0 x1 ts = .ok (v, r) → PM.pUnions d m x0 x1 (ts ++ (semi :: Y)) = .ok (v, r ++ semi :: Y) :=
  fun x0 x1 ts v r h => (frameF_all hs Y d n m hnm).pUnions x0 x1 ts v r h

end PM
