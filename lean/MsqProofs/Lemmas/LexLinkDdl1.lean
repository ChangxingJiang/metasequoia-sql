import MsqProofs.Lemmas.LexLinkDdl0
/-!
# The lexer link for CREATE TABLE: the `List Char` mirror of the two printers, the leaf payloads, and the link in context

The mirrors write what the printers write as a first piece and blank-separated further pieces (`tailL`), optional pieces as empty lists, the
column list on lines of its own with a two-blank indentation.  The link (`pc_createMy`, `pc_createHive`) is ONE walk over the pieces, for any kit
`K` with `KD K`: it proves the lexing and the kit's property together.
-/
namespace LD
open Lex Spec C05 C06 C09 Ast TP TS TD LexLink

abbrev P := List (List Char)
def wordsP (ws : List String) : P := ws.map String.toList
def flagP (b : Bool) (ws : List String) : P := if b then wordsP ws else []
def srcP (kws : List String) : Option String → P
  | some s => wordsP kws ++ [s.toList]
  | none => []
def bqL (n : String) : List Char := '`' :: (n.toList ++ ['`'])
def parenL (a : List Char) : List Char := '(' :: (a ++ [')'])

section
variable (d : Gen.D)

def typeL (t : ColType) : List Char :=
  match t.params with
  | none => t.name.toList
  | some ps => if hiveDrops d t then t.name.toList else t.name.toList ++ parenL (joinLL [','] (ps.map (keyL d)))
def genP : Option GenCol → P
  | some ⟨e, some m⟩ => wordsP ["GENERATED", "ALWAYS", "AS"] ++ [parenL (keyL d e), m.toList]
  | _ => []
def dfltP : Option Expr → P
  | some e => ["DEFAULT".toList, keyL d e]
  | none => []
def onUpP : Option Expr → P
  | some e => ["ON".toList, "UPDATE".toList, keyL d e]
  | none => []
def myAttrsP (c : DefCol) (tail : P) : P :=
  flagP c.unsigned ["UNSIGNED"] ++ (flagP c.zerofill ["ZEROFILL"] ++ (srcP ["CHARACTER", "SET"] c.charset ++ (srcP ["COLLATE"] c.collate ++
    (genP d c.generated ++ (flagP c.allowNull ["NULL"] ++ (flagP c.notNull ["NOT", "NULL"] ++ (flagP c.autoInc ["AUTO_INCREMENT"] ++
      (dfltP d c.default ++ (onUpP d c.onUpdate ++ tail)))))))))
def attrsP (c : DefCol) : P := if d == .MYSQL then myAttrsP d c (srcP ["COMMENT"] c.comment) else srcP ["COMMENT"] c.comment
/-- `PR.prDefCol d c` -/
def defColL (c : DefCol) : List Char := bqL c.name ++ tailL (typeL d c.type :: attrsP d c)
end

def idxColL (c : IndexCol) : List Char :=
  match c.maxLen with | none => bqL c.name | some n => bqL c.name ++ parenL (toString n).toList
def kindL : IndexKind → List Char
  | .primary => "PRIMARY KEY".toList | .unique => "UNIQUE KEY".toList | .normal => "KEY".toList | .fulltext => "FULLTEXT KEY".toList
def optIntP (kw : String) : Option Int → P
  | some n => [kw.toList ++ '=' :: (toString n).toList]
  | none => []
def idxNameP : Option String → P
  | some n => [n.toList]
  | none => []
/-- `PR.prIndex i` -/
def indexL (i : Index) : List Char :=
  kindL i.kind ++ tailL (idxNameP i.name ++ (parenL (joinLL [','] (i.cols.map idxColL)) ::
    (srcP ["USING"] i.usingMethod ++ (srcP ["COMMENT"] i.comment ++ optIntP "KEY_BLOCK_SIZE" i.keyBlockSize))))
def actP (b : String) : Option String → P
  | some s => ["ON".toList, b.toList, s.toList]
  | none => []
def namesL (ns : List String) : List Char := parenL (joinLL [',', ' '] (ns.map String.toList))
/-- `PR.prForeignKey k` -/
def fkL (k : ForeignKey) : List Char :=
  "CONSTRAINT".toList ++ tailL (k.constraint.toList :: "FOREIGN".toList :: "KEY".toList :: namesL k.slave :: "REFERENCES".toList ::
    k.master.toList :: namesL k.masterCols :: (actP "DELETE" k.onDelete ++ actP "UPDATE" k.onUpdate))

def optEqP (pre : List String) (kw : String) : Option String → P
  | some s => wordsP pre ++ [kw.toList ++ '=' :: s.toList]
  | none => []
def myOptsP (c : CreateTable) : P :=
  optEqP [] "ENGINE" c.engine ++ (optIntP "AUTO_INCREMENT" c.autoIncrement ++ (optEqP ["DEFAULT"] "CHARSET" c.defaultCharset ++
    (optEqP [] "COLLATE" c.collate ++ (optEqP [] "ROW_FORMAT" c.rowFormat ++ (optEqP [] "STATS_PERSISTENT" c.statesPersistent ++
      optEqP [] "COMMENT" c.comment)))))
def propL (p : ConfigStr) : List Char := p.name.toList ++ '=' :: p.value.toList

section
variable (d : Gen.D)
def partP (ps : List DefCol) : P :=
  if ps.isEmpty then [] else ["PARTITIONED".toList, "BY".toList, parenL (joinLL [',', ' '] (ps.map (defColL d)))]
def propsP (ps : List ConfigStr) : P :=
  if ps.isEmpty then [] else ["TBLPROPERTIES".toList, parenL (joinLL [',', ' '] (ps.map propL))]
def hiveOptsP (c : CreateTable) : P :=
  srcP ["COMMENT"] c.comment ++ (partP d c.partitionedBy ++ (srcP ["ROW", "FORMAT", "SERDE"] c.rowFormatSerde ++
    (srcP ["ROW", "FORMAT", "DELIMITED", "FIELDS", "TERMINATED", "BY"] c.rowFormatDelimited ++
      (srcP ["STORED", "AS", "INPUTFORMAT"] c.storedAsInputformat ++ (flagP c.storedAsTextfile ["STORED", "AS", "TEXTFILE"] ++
        (srcP ["OUTPUTFORMAT"] c.outputformat ++ (srcP ["LOCATION"] c.location ++ propsP c.tblproperties)))))))
def linesL (c : CreateTable) : P :=
  c.columns.map (defColL d) ++
    (if d == .MYSQL then
      (optList c.primaryKey).map indexL ++ (c.uniqueKey.map indexL ++ (c.key.map indexL ++ (c.fulltextKey.map indexL ++ c.foreignKey.map fkL)))
     else [])
def groupL (ls : P) : List Char := parenL ('\n' :: (joinLL [',', '\n'] (ls.map fun l => ' ' :: ' ' :: l) ++ ['\n']))
def tblL (t : TableName) : List Char := bqL (tblStr t)
/-- **the text of CREATE TABLE**: `PR.prCreateMysql c` for `d = MYSQL`, `PR.prCreateHive c` otherwise (leading blank, the bracket glued
to the table name) -/
def createL (c : CreateTable) : List Char :=
  if d == .MYSQL then
    "CREATE".toList ++ tailL ("TABLE".toList :: (flagP c.ifNotExists ["IF", "NOT", "EXISTS"] ++ ([tblL c.table, groupL (linesL d c)] ++ myOptsP c)))
  else
    ' ' :: ("CREATE".toList ++ tailL ("TABLE".toList :: (flagP c.ifNotExists ["IF", "NOT", "EXISTS"] ++
      ([tblL c.table ++ groupL (linesL d c)] ++ hiveOptsP d c))))
end

/-! ## the leaf payloads -/

def optNameLex : Option String → Prop
  | none => True
  | some s => nameLex s
section
variable (d : Gen.D)
def LeafType (t : ColType) : Prop := plainL t.name.toList = true ∧ ∀ ps, t.params = some ps → ∀ e ∈ ps, Leaf d e
def genLeaf : Option GenCol → Prop
  | some g => Leaf d g.e
  | none => True
/-- a column definition: the name without back-quote / pre-pass characters, the type, raw-source charset / collation / comment, the
expressions of GENERATED / DEFAULT / ON UPDATE with lexable leaves -/
structure LeafCol (c : DefCol) : Prop where
  name : nameLex c.name
  type : LeafType d c.type
  charset : optSrcLex c.charset
  collate : optSrcLex c.collate
  gen : genLeaf d c.generated
  dflt : optLeaf d c.default
  onUp : optLeaf d c.onUpdate
  comment : optSrcLex c.comment
end
structure LeafIdx (i : Index) : Prop where
  name : optSrcLex i.name
  cols : ∀ c ∈ i.cols, nameLex c.name
  using_ : optSrcLex i.usingMethod
  comment : optSrcLex i.comment
structure LeafFk (k : ForeignKey) : Prop where
  constraint : srcLex k.constraint
  slave : ∀ n ∈ k.slave, srcLex n
  master : srcLex k.master
  masterCols : ∀ n ∈ k.masterCols, srcLex n
def LeafProp (p : ConfigStr) : Prop := srcLex p.name ∧ srcLex p.value
structure LeafC (d : Gen.D) (c : CreateTable) : Prop where
  schema : optNameLex c.table.schema
  table : nameLex c.table.name
  cols : ∀ x ∈ c.columns, LeafCol d x
  pk : ∀ i, c.primaryKey = some i → LeafIdx i
  uk : ∀ i ∈ c.uniqueKey, LeafIdx i
  key : ∀ i ∈ c.key, LeafIdx i
  ft : ∀ i ∈ c.fulltextKey, LeafIdx i
  fk : ∀ k ∈ c.foreignKey, LeafFk k
  parts : ∀ x ∈ c.partitionedBy, LeafCol d x
  comment : optSrcLex c.comment
  engine : optSrcLex c.engine
  charset : optSrcLex c.defaultCharset
  collate : optSrcLex c.collate
  rowFormat : optSrcLex c.rowFormat
  stats : optSrcLex c.statesPersistent
  serde : optSrcLex c.rowFormatSerde
  delimited : optSrcLex c.rowFormatDelimited
  inputformat : optSrcLex c.storedAsInputformat
  outputformat : optSrcLex c.outputformat
  location : optSrcLex c.location
  props : ∀ p ∈ c.tblproperties, LeafProp p

open LLD (sp)

/-! ## what the link needs of a kit and of the payloads under it -/

/-- beyond `QKit`: the kit's property holds of every plain word (all keywords are), and of `a=b` when `a` does not end and `b` does not
begin with `=` -/
structure KD (K : QKit) : Prop where
  plainw : ∀ a, plainL a = true → K.Q a
  eq : ∀ a b, K.Q a → K.Q b → (∀ x, a.getLast? = some x → x ≠ '=') → (∀ x, b.head? = some x → x ≠ '=') → K.Q (a ++ '=' :: b)

def optQ (K : QKit) : Option String → Prop
  | none => True
  | some s => K.Q s.toList
/-- the kit's property on the payloads of an operator expression, in the form `good_frag` takes it -/
def QE (K : QKit) (d : Gen.D) (e : Expr) : Prop := On (leafOK d) (leavesE e) → On K.item (leavesE e)
def optQE (K : QKit) (d : Gen.D) : Option Expr → Prop
  | none => True
  | some e => QE K d e
/-- a column definition: the Hive printer writes name, type and comment only -/
structure QCol (K : QKit) (d : Gen.D) (c : DefCol) : Prop where
  name : K.Q c.name.toList
  params : ∀ ps, c.type.params = some ps → ∀ e ∈ ps, QE K d e
  comment : optQ K c.comment
  charset : d = .MYSQL → optQ K c.charset
  collate : d = .MYSQL → optQ K c.collate
  gen : d = .MYSQL → ∀ g, c.generated = some g → QE K d g.e
  dflt : d = .MYSQL → optQE K d c.default
  onUp : d = .MYSQL → optQE K d c.onUpdate
structure QIdx (K : QKit) (i : Index) : Prop where
  name : optQ K i.name
  cols : ∀ c ∈ i.cols, K.Q c.name.toList
  using_ : optQ K i.usingMethod
  comment : optQ K i.comment
structure QFk (K : QKit) (k : ForeignKey) : Prop where
  constraint : K.Q k.constraint.toList
  slave : ∀ n ∈ k.slave, K.Q n.toList
  master : K.Q k.master.toList
  masterCols : ∀ n ∈ k.masterCols, K.Q n.toList

structure LLP (K : QKit) (us : P) (tss : List (List Tok)) : Prop where
  ll : LL us tss
  q : ∀ u ∈ us, K.Q u

section
variable {K : QKit}

theorem LLP.nil : LLP K [] [] := ⟨LL.nil, fun _ h => by cases h⟩
theorem LLP.append {us vs : P} {ts tv : List (List Tok)} (h1 : LLP K us ts) (h2 : LLP K vs tv) : LLP K (us ++ vs) (ts ++ tv) :=
  ⟨LL.append h1.ll h2.ll, fun x hx => (List.mem_append.mp hx).elim (h1.q x) (h2.q x)⟩
theorem LLP.map {α : Type} (f : α → List Char) (g : α → List Tok) (xs : List α) (h : ∀ x ∈ xs, Pc K (f x) (g x)) :
    LLP K (xs.map f) (xs.map g) :=
  ⟨LL.map f g xs fun x hx => (h x hx).lx, fun u hu => by obtain ⟨x, hx, rfl⟩ := List.mem_map.mp hu; exact (h x hx).q⟩

theorem q_gap : ∀ (gap : List Char), (∀ x ∈ gap, K.safe x) → ∀ {b : List Char}, K.Q b → K.Q (gap ++ b)
  | [], _, _, hb => hb
  | c :: g, h, _, hb => K.pre (h c (by simp)) (q_gap g (fun x hx => h x (by simp [hx])) hb)

theorem q_sepAll (gap : List Char) (hs : ∀ x ∈ gap, K.safe x) : ∀ (us : P), (∀ u ∈ us, K.Q u) → K.Q (joinLL (',' :: gap) us)
  | [], _ => K.nil
  | [a], h => h a (by simp)
  | a :: b :: r, h => by
    have ih := q_sepAll gap hs (b :: r) fun x hx => h x (by simp [hx])
    have e : joinLL (',' :: gap) (a :: b :: r) = a ++ ',' :: (gap ++ joinLL (',' :: gap) (b :: r)) := by simp [joinLL]
    rw [e]; exact K.sep _ _ _ K.s_cm (h a (by simp)) (q_gap gap hs ih)

theorem pc_sepAll (gap : List Char) (hgap : ∀ {b : List Char} {tb : List Tok}, Lx b tb → Lx (gap ++ b) tb) (hs : ∀ x ∈ gap, K.safe x)
    {us : P} {tss : List (List Tok)} (h : LLP K us tss) : Pc K (joinLL (',' :: gap) us) (sepAll tss) :=
  ⟨lx_sepAll gap hgap us tss h.ll, q_sepAll gap hs us h.q⟩

theorem pc_paren {a : List Char} {ta : List Tok} (ha : Pc K a ta) : Pc K (parenL a) [grp ta] := ha.paren

theorem pc_src (s : String) (h : srcLex s) (hq : K.Q s.toList) : Pc K s.toList [srcTok s] := ⟨lx_src s h, hq⟩

theorem bq_no (n : String) (h : nameLex n) : ∀ x ∈ n.toList, x ≠ '`' := fun x hx => (h x hx).1

theorem tk_bqn (n : String) (h : nameLex n) (d : Char) : Tk (bqL n) (nameTok n) d := by
  have := tk_bq n.toList (bq_no n h) d
  simpa [nameTok, Lex.NAME, bqL] using this

theorem pc_bq (n : String) (h : nameLex n) (hq : K.Q n.toList) : Pc K (bqL n) [nameTok n] :=
  ⟨Lx.congr (lx_name n.toList (bq_no n h)) rfl (by simp [nameTok, Lex.NAME]), K.bq hq⟩

theorem pc_int (n : Int) (h : 0 ≤ n) : Pc K (toString n).toList [intTok n] := ⟨lx_intTok n h, K.num n h⟩

theorem pc_key (d : Gen.D) (e : Expr) (hf : Frag d e = true) (hl : Leaf d e) (hq : QE K d e) : Pc K (keyL d e) (W d noX e 8) :=
  have g := good_frag d K e hf hl hq
  Pc.wrap e 8 ⟨g.1, g.2.2⟩

end

theorem flat_single {α : Type} (f : α → Tok) : ∀ (l : List α), (l.map fun x => [f x]).flatten = l.map f
  | [] => rfl
  | a :: r => by simp [flat_single f r]

theorem intOK_nonneg (n : Int) (h : intOK n = true) : 0 ≤ n := by
  simp only [intOK, Bool.and_eq_true, decide_eq_true_eq] at h; exact h.1

theorem mode_plain : Gen.genColSaveModes.all (fun sm => plainL sm.2.toList) = true := by decide +kernel

theorem mode_src (m : String) (h : modeOK m = true) : plainL m.toList = true := by
  unfold modeOK at h
  cases hf : Gen.genColSaveModes.find? (·.1 == up m) with
  | none => rw [hf] at h; cases h
  | some sm =>
    rw [hf] at h
    simp only [beq_iff_eq] at h
    exact h ▸ (List.all_eq_true.mp mode_plain) sm (List.mem_of_find?_eq_some hf)

theorem toList_tblStr (t : TableName) :
    (tblStr t).toList = match t.schema with | some s => s.toList ++ '.' :: t.name.toList | none => t.name.toList := by
  obtain ⟨s, n⟩ := t
  cases s with
  | none => rfl
  | some s =>
    have e : (".": String).toList = ['.'] := rfl
    simp [tblStr, String.toList_append, e]

theorem nameLex_tbl (t : TableName) (h1 : optNameLex t.schema) (h2 : nameLex t.name) : nameLex (tblStr t) := by
  intro x hx
  rw [toList_tblStr] at hx
  obtain ⟨s, n⟩ := t
  cases s with
  | none => exact h2 x hx
  | some s =>
    simp only [List.mem_append, List.mem_cons] at hx
    rcases hx with hx | rfl | hx
    · exact h1 x hx
    · exact ⟨by decide, by decide⟩
    · exact h2 x hx

theorem idxOK_parts {k : IndexKind} {i : Index} (h : idxOK k i = true) : i.cols.all idxColOK = true ∧ optIntOK i.keyBlockSize = true := by
  simp only [idxOK, Bool.and_eq_true] at h
  exact ⟨h.1.2, h.2⟩

/-! ## the walk: every piece with both facts, for any kit -/

section
variable {K : QKit} (hK : KD K)
include hK

theorem pc_w (k : String) (hk : k ∈ ddlWords) : Pc K k.toList [opTok k] :=
  ⟨lx_w k hk, hK.plainw _ ((List.all_eq_true.mp ddl_words_plainL) k hk)⟩

theorem segp_words (ws : List String) (h : ∀ w ∈ ws, w ∈ ddlWords) : SegP K ' ' (wordsP ws) (ws.map opTok) := by
  have := SegP.map (K := K) (c := ' ') sp String.toList (fun w => [opTok w]) ws fun w hw => pc_w hK w (h w hw)
  rw [flat_single] at this
  exact this

theorem segp_flag (b : Bool) (ws : List String) (h : ∀ w ∈ ws, w ∈ ddlWords) : SegP K ' ' (flagP b ws) (flag b (ws.map opTok)) := by
  cases b
  · exact SegP.nil _
  · exact segp_words hK ws h

theorem segp_src (kws : List String) (hk : ∀ w ∈ kws, w ∈ ddlWords) (o : Option String) (ho : optSrcLex o) (hq : optQ K o)
    (tk : Option String → List Tok) (h0 : tk none = []) (h1 : ∀ s, tk (some s) = kws.map opTok ++ [srcTok s]) :
    SegP K ' ' (srcP kws o) (tk o) := by
  cases o with
  | none => rw [h0]; exact SegP.nil _
  | some s => rw [h1]; exact SegP.append sp (segp_words hK kws hk) (SegP.one _ (pc_src s ho hq))

theorem pc_eqJoin {a b : List Char} {ta : Tok} {tb : List Tok} (ha : Tk a ta '=') (hqa : K.Q a) (hb : Pc K b tb) (hne : b ≠ [])
    (hla : ∀ x, a.getLast? = some x → x ≠ '=') (hhb : ∀ x, b.head? = some x → x ≠ '=') : Pc K (a ++ '=' :: b) (ta :: eqTok :: tb) :=
  ⟨Lx.eqJoin ha hb.lx hne, hK.eq a b hqa hb.q hla hhb⟩

theorem pc_type (d : Gen.D) (t : ColType) (hf : typeOK d t = true) (hl : LeafType d t)
    (hq : ∀ ps, t.params = some ps → ∀ e ∈ ps, QE K d e) : Pc K (typeL d t) (toksType d t) := by
  obtain ⟨tn, ps⟩ := t
  obtain ⟨hp, hps⟩ := hl
  cases ps with
  | none =>
    have : Pc K tn.toList [.single tn.toList (wmL tn.toList)] := ⟨lx_plain tn.toList hp, hK.plainw _ hp⟩
    simpa [typeL, toksType, toksParams, opTok_eq] using this
  | some ps =>
    simp only [typeOK, Bool.and_eq_true, Bool.not_eq_eq_eq_not, Bool.not_true, List.all_eq_true] at hf
    have hg := pc_sepAll [] (fun h => h) (by simp) (LLP.map (keyL d) (fun e => W d noX e 8) ps fun e he =>
      pc_key d e (hf.1.2 e he) (hps ps rfl e he) (hq ps rfl e he))
    have := Pc.call (tk_plain tn.toList hp '(' (Or.inl rfl)) (hK.plainw _ hp) hg
    simp only [typeL, toksType, toksParams, hf.1.1, Bool.false_eq_true, if_false, parenL, opTok_eq]
    exact this

theorem segp_gen (d : Gen.D) (g : Option GenCol) (hf : genOK d g = true) (hl : genLeaf d g) (hq : ∀ x, g = some x → QE K d x.e) :
    SegP K ' ' (genP d g) (toksGenerated d g) := by
  cases g with
  | none => exact SegP.nil _
  | some g =>
    obtain ⟨e, m⟩ := g
    cases m with
    | none => simp [genOK] at hf
    | some m =>
      simp only [genOK, Bool.and_eq_true] at hf
      have hm := mode_src m hf.2
      exact (SegP.append sp (segp_words hK ["GENERATED", "ALWAYS", "AS"] (by simp [ddlWords]))
        (SegP.cons sp (pc_paren (pc_key d e hf.1 hl (hq _ rfl)))
          (SegP.one _ (pc_src m (Or.inr (Or.inr (Or.inr hm))) (hK.plainw _ hm))))).congr rfl rfl

theorem segp_dflt (d : Gen.D) (o : Option Expr) (hf : optFragE d o = true) (hl : optLeaf d o) (hq : optQE K d o) :
    SegP K ' ' (dfltP d o) (toksDefault d o) := by
  cases o with
  | none => exact SegP.nil _
  | some e =>
    exact (SegP.cons sp (pc_w hK "DEFAULT" (by simp [ddlWords])) (SegP.one _ (pc_key d e hf hl hq))).congr rfl rfl

theorem segp_onUp (d : Gen.D) (o : Option Expr) (hf : optFragE d o = true) (hl : optLeaf d o) (hq : optQE K d o) :
    SegP K ' ' (onUpP d o) (toksOnUpdate d o) := by
  cases o with
  | none => exact SegP.nil _
  | some e =>
    exact (SegP.cons sp (pc_w hK "ON" (by simp [ddlWords])) (SegP.cons sp (pc_w hK "UPDATE" (by simp [ddlWords]))
      (SegP.one _ (pc_key d e hf hl hq)))).congr rfl rfl

theorem segp_comment (o : Option String) (ho : optSrcLex o) (hq : optQ K o) : SegP K ' ' (srcP ["COMMENT"] o) (toksComment o) :=
  segp_src hK ["COMMENT"] (by simp [ddlWords]) o ho hq toksComment rfl (fun s => rfl)

theorem segp_attrs (d : Gen.D) (c : DefCol) (hf : TD.colOK d c = true) (hl : LeafCol d c) (hq : QCol K d c) :
    SegP K ' ' (attrsP d c) (toksAttrs d c) := by
  simp only [TD.colOK, Bool.and_eq_true] at hf
  have hc := segp_comment hK c.comment hl.comment hq.comment
  cases hd : d == Gen.D.MYSQL with
  | true =>
    have hm : d = .MYSQL := by simpa using hd
    simp only [hd, if_true, Bool.and_eq_true] at hf
    simp only [attrsP, toksAttrs, hd, if_true]
    exact SegP.append sp (segp_flag hK _ ["UNSIGNED"] (by simp [ddlWords])) (SegP.append sp (segp_flag hK _ ["ZEROFILL"] (by simp [ddlWords]))
      (SegP.append sp (segp_src hK ["CHARACTER", "SET"] (by simp [ddlWords]) c.charset hl.charset (hq.charset hm) toksCharset rfl (fun s => rfl))
      (SegP.append sp (segp_src hK ["COLLATE"] (by simp [ddlWords]) c.collate hl.collate (hq.collate hm) toksCollate rfl (fun s => rfl))
      (SegP.append sp (segp_gen hK d c.generated hf.2.2 hl.gen (hq.gen hm)) (SegP.append sp (segp_flag hK _ ["NULL"] (by simp [ddlWords]))
      (SegP.append sp (segp_flag hK _ ["NOT", "NULL"] (by simp [ddlWords])) (SegP.append sp (segp_flag hK _ ["AUTO_INCREMENT"] (by simp [ddlWords]))
      (SegP.append sp (segp_dflt hK d c.default hf.2.1.1 hl.dflt (hq.dflt hm))
      (SegP.append sp (segp_onUp hK d c.onUpdate hf.2.1.2 hl.onUp (hq.onUp hm)) hc)))))))))
  | false =>
    simp only [attrsP, toksAttrs, hd, Bool.false_eq_true, if_false]
    exact hc

theorem pc_defCol (d : Gen.D) (c : DefCol) (hf : TD.colOK d c = true) (hl : LeafCol d c) (hq : QCol K d c) :
    Pc K (defColL d c) (toksDefCol d c) := by
  have ht : typeOK d c.type = true := by simp only [TD.colOK, Bool.and_eq_true] at hf; exact hf.1.2
  exact Pc.tail (pc_bq c.name hl.name hq.name) (SegP.cons sp (pc_type hK d c.type ht hl.type hq.params) (segp_attrs hK d c hf hl hq))

omit hK in
theorem pc_idxCol (c : IndexCol) (hf : idxColOK c = true) (hl : nameLex c.name) (hq : K.Q c.name.toList) : Pc K (idxColL c) (toksIdxCol c) := by
  obtain ⟨n, ml⟩ := c
  cases ml with
  | none => simpa [idxColL, toksIdxCol] using pc_bq (K := K) n hl hq
  | some k =>
    simp only [idxColOK, Bool.and_eq_true] at hf
    exact (Pc.call (tk_bqn n hl '(') (K.bq hq) (pc_int k (intOK_nonneg k hf.2))).congr (by simp [idxColL, parenL, bqL]) rfl

theorem pc_kind (k : IndexKind) : Pc K (kindL k) (kindToks k) := by
  have key := pc_w hK "KEY" (by simp [ddlWords])
  cases k
  · exact (pc_w hK "PRIMARY" (by simp [ddlWords])).sep key
  · exact (pc_w hK "UNIQUE" (by simp [ddlWords])).sep key
  · exact key
  · exact (pc_w hK "FULLTEXT" (by simp [ddlWords])).sep key

theorem segp_optInt (kw : String) (hkw : kw ∈ eqWords) (o : Option Int) (ho : optIntOK o = true) (tk : Option Int → List Tok)
    (h0 : tk none = []) (h1 : ∀ n, tk (some n) = [opTok kw, eqTok, intTok n]) : SegP K ' ' (optIntP kw o) (tk o) := by
  cases o with
  | none => rw [h0]; exact SegP.nil _
  | some n =>
    have hn := intOK_nonneg n ho
    have hp := (List.all_eq_true.mp eq_words_plainL) kw hkw
    rw [h1]
    exact SegP.one _ (pc_eqJoin hK (tk_w_eq kw hkw) (hK.plainw _ hp) (pc_int n hn) (toString_nonneg n hn).1 (plain_last _ hp) (int_head n hn))

omit hK in
theorem segp_idxName (o : Option String) (ho : optSrcLex o) (hq : optQ K o) : SegP K ' ' (idxNameP o) (toksIdxName o) := by
  cases o with
  | none => exact SegP.nil _
  | some n => exact SegP.one _ (pc_src n ho hq)

theorem pc_index (i : Index) (hc : i.cols.all idxColOK = true) (hk : optIntOK i.keyBlockSize = true) (hl : LeafIdx i) (hq : QIdx K i) :
    Pc K (indexL i) (toksIndex i) := by
  simp only [List.all_eq_true] at hc
  have hg : Pc K (parenL (joinLL [','] (i.cols.map idxColL))) [grp (sepAll (i.cols.map toksIdxCol))] :=
    pc_paren (pc_sepAll [] (fun h => h) (by simp) (LLP.map idxColL toksIdxCol i.cols fun c hm =>
      pc_idxCol c (hc c hm) (hl.cols c hm) (hq.cols c hm)))
  have := Pc.tail (pc_kind hK i.kind) (SegP.append sp (segp_idxName i.name hl.name hq.name) (SegP.cons sp hg
    (SegP.append sp (segp_src hK ["USING"] (by simp [ddlWords]) i.usingMethod hl.using_ hq.using_ (optKw "USING") rfl (fun s => rfl))
      (SegP.append sp (segp_src hK ["COMMENT"] (by simp [ddlWords]) i.comment hl.comment hq.comment (optKw "COMMENT") rfl (fun s => rfl))
        (segp_optInt hK "KEY_BLOCK_SIZE" (by simp [eqWords]) i.keyBlockSize hk toksKbs rfl (fun n => rfl))))))
  exact this.congr rfl (by simp [toksIndex, toksIdxTail])

theorem pc_act (s : String) (h : actOK (some s) = true) : Pc K s.toList (actToks s) := by
  simp only [actOK, List.contains_eq_mem, List.mem_cons, List.mem_nil_iff, or_false, decide_eq_true_eq] at h
  rcases h with rfl | rfl | rfl | rfl
  · exact ((pc_w hK "NO" (by simp [ddlWords])).sep (pc_w hK "ACTION" (by simp [ddlWords]))).congr rfl (by simp [actToks])
  · exact ((pc_w hK "SET" (by simp [ddlWords])).sep (pc_w hK "NULL" (by simp [ddlWords]))).congr rfl (by simp [actToks])
  · exact (pc_w hK "CASCADE" (by simp [ddlWords])).congr rfl (by simp [actToks])
  · exact (pc_w hK "RESTRICT" (by simp [ddlWords])).congr rfl (by simp [actToks])

theorem segp_act (bw : String) (hb : bw ∈ ddlWords) (o : Option String) (ho : actOK o = true) : SegP K ' ' (actP bw o) (toksFkAct bw o) := by
  cases o with
  | none => exact SegP.nil _
  | some s =>
    exact (SegP.cons sp (pc_w hK "ON" (by simp [ddlWords])) (SegP.cons sp (pc_w hK bw hb)
      (SegP.one _ (pc_act hK s ho)))).congr rfl rfl

omit hK in
theorem pc_names (ns : List String) (h : ∀ n ∈ ns, srcLex n) (hq : ∀ n ∈ ns, K.Q n.toList) : Pc K (namesL ns) [toksNames ns] :=
  pc_paren (pc_sepAll [' '] (fun h => Lx.blank h) (by simpa using K.s_sp)
    (LLP.map String.toList (fun n => [srcTok n]) ns fun n hn => pc_src n (h n hn) (hq n hn)))

theorem pc_fk (k : ForeignKey) (hf : fkOK k = true) (hl : LeafFk k) (hq : QFk K k) : Pc K (fkL k) (toksFk k) := by
  simp only [fkOK, Bool.and_eq_true] at hf
  have w : ∀ k : String, k ∈ ddlWords → Pc K k.toList [opTok k] := pc_w hK
  have := Pc.tail (w "CONSTRAINT" (by simp [ddlWords])) (SegP.cons sp (pc_src _ hl.constraint hq.constraint) (SegP.cons sp (w "FOREIGN" (by simp [ddlWords]))
    (SegP.cons sp (w "KEY" (by simp [ddlWords])) (SegP.cons sp (pc_names k.slave hl.slave hq.slave) (SegP.cons sp (w "REFERENCES" (by simp [ddlWords]))
      (SegP.cons sp (pc_src _ hl.master hq.master) (SegP.cons sp (pc_names k.masterCols hl.masterCols hq.masterCols)
        (SegP.append sp (segp_act hK "DELETE" (by simp [ddlWords]) k.onDelete hf.1.2) (segp_act hK "UPDATE" (by simp [ddlWords]) k.onUpdate hf.2)))))))))
  exact this.congr rfl (by simp [toksFk])

theorem segp_optEq (pre : List String) (hpre : ∀ w ∈ pre, w ∈ ddlWords) (kw : String) (hkw : kw ∈ eqWords) (o : Option String)
    (ho : optSrcLex o) (hq : optQ K o) : SegP K ' ' (optEqP pre kw o) (optEq (pre.map opTok ++ [opTok kw]) o) := by
  cases o with
  | none => exact SegP.nil _
  | some s =>
    have hp := (List.all_eq_true.mp eq_words_plainL) kw hkw
    exact (SegP.append sp (segp_words hK pre hpre) (SegP.one _ (pc_eqJoin hK (tk_w_eq kw hkw) (hK.plainw _ hp) (pc_src s ho hq)
      (src_ne_nil s ho) (plain_last _ hp) (src_head s ho)))).congr rfl (by simp [optEq])

theorem pc_prop (p : ConfigStr) (hl : LeafProp p) (hq : K.Q p.name.toList ∧ K.Q p.value.toList) : Pc K (propL p) (toksProp p) :=
  pc_eqJoin hK (tk_src_eq p.name hl.1) hq.1 (pc_src p.value hl.2 hq.2) (src_ne_nil p.value hl.2) (src_last _ hl.1) (src_head _ hl.2)

theorem segp_part (d : Gen.D) (ps : List DefCol) (hf : ps.all (TD.colOK d) = true) (hl : ∀ x ∈ ps, LeafCol d x) (hq : ∀ x ∈ ps, QCol K d x) :
    SegP K ' ' (partP d ps) (toksPartitioned d ps) := by
  simp only [List.all_eq_true] at hf
  cases he : ps.isEmpty with
  | true => simp only [partP, toksPartitioned, he, if_true]; exact SegP.nil _
  | false =>
    simp only [partP, toksPartitioned, he, Bool.false_eq_true, if_false]
    have hg := pc_paren (pc_sepAll [' '] (fun h => Lx.blank h) (by simpa using K.s_sp)
      (LLP.map (defColL d) (toksDefCol d) ps fun x hx => pc_defCol hK d x (hf x hx) (hl x hx) (hq x hx)))
    exact (SegP.cons sp (pc_w hK "PARTITIONED" (by simp [ddlWords])) (SegP.cons sp (pc_w hK "BY" (by simp [ddlWords]))
      (SegP.one _ hg))).congr rfl rfl

theorem segp_props (ps : List ConfigStr) (hl : ∀ p ∈ ps, LeafProp p) (hq : ∀ p ∈ ps, K.Q p.name.toList ∧ K.Q p.value.toList) :
    SegP K ' ' (propsP ps) (toksProps ps) := by
  cases he : ps.isEmpty with
  | true => simp only [propsP, toksProps, he, if_true]; exact SegP.nil _
  | false =>
    simp only [propsP, toksProps, he, Bool.false_eq_true, if_false]
    have hg := pc_paren (pc_sepAll [' '] (fun h => Lx.blank h) (by simpa using K.s_sp)
      (LLP.map propL toksProp ps fun p hp => pc_prop hK p (hl p hp) (hq p hp)))
    exact (SegP.cons sp (pc_w hK "TBLPROPERTIES" (by simp [ddlWords])) (SegP.one _ hg)).congr rfl rfl

omit hK in
theorem pc_group {us : P} {tss : List (List Tok)} (h : LLP K us tss) : Pc K (groupL us) [grp (sepAll tss)] :=
  ⟨Lx.paren (Lx.nl (Lx.nlTrail (lx_sepAll ['\n'] (fun h => Lx.nl h) _ _
      (LL.mapL (us := us) (ts := tss) (fun l => ' ' :: ' ' :: l) (fun h => Lx.blank (Lx.blank h)) h.ll)))),
    K.paren (K.pre K.s_nl (K.post K.s_nl (q_sepAll ['\n'] (by simpa using K.s_nl) _ fun u hu => by
      obtain ⟨l, hl, rfl⟩ := List.mem_map.mp hu
      exact K.pre K.s_sp (K.pre K.s_sp (h.q l hl)))))⟩

theorem llp_idx (k : IndexKind) (l : List Index) (hf : l.all (idxOK k) = true) (hl : ∀ i ∈ l, LeafIdx i) (hq : ∀ i ∈ l, QIdx K i) :
    LLP K (l.map indexL) (l.map toksIndex) := by
  simp only [List.all_eq_true] at hf
  exact LLP.map indexL toksIndex l fun i hi => pc_index hK i (idxOK_parts (hf i hi)).1 (idxOK_parts (hf i hi)).2 (hl i hi) (hq i hi)

end

structure QMy (K : QKit) (c : CreateTable) : Prop where
  table : K.Q (tblStr c.table).toList
  cols : ∀ x ∈ c.columns, QCol K .MYSQL x
  pk : ∀ i, c.primaryKey = some i → QIdx K i
  uk : ∀ i ∈ c.uniqueKey, QIdx K i
  key : ∀ i ∈ c.key, QIdx K i
  ft : ∀ i ∈ c.fulltextKey, QIdx K i
  fk : ∀ k ∈ c.foreignKey, QFk K k
  engine : optQ K c.engine
  charset : optQ K c.defaultCharset
  collate : optQ K c.collate
  rowFormat : optQ K c.rowFormat
  stats : optQ K c.statesPersistent
  comment : optQ K c.comment
structure QHive (K : QKit) (c : CreateTable) : Prop where
  table : K.Q (tblStr c.table).toList
  cols : ∀ x ∈ c.columns, QCol K .HIVE x
  parts : ∀ x ∈ c.partitionedBy, QCol K .HIVE x
  comment : optQ K c.comment
  serde : optQ K c.rowFormatSerde
  delimited : optQ K c.rowFormatDelimited
  inputformat : optQ K c.storedAsInputformat
  outputformat : optQ K c.outputformat
  location : optQ K c.location
  props : ∀ p ∈ c.tblproperties, K.Q p.name.toList ∧ K.Q p.value.toList

section
variable {K : QKit} (hK : KD K)
include hK

theorem pc_createMy (c : CreateTable) (hf : FragCreate .MYSQL c = true) (hl : LeafC .MYSQL c) (hq : QMy K c) :
    Pc K (createL .MYSQL c) (toksCreate .MYSQL c) := by
  have hm : (Gen.D.MYSQL == Gen.D.MYSQL) = true := rfl
  simp only [FragCreate, hm, if_true, Bool.and_eq_true, List.all_eq_true] at hf
  obtain ⟨⟨⟨htbl, hcols⟩, _⟩, ⟨⟨⟨⟨⟨⟨⟨⟨⟨⟨⟨⟨⟨hfk, hpk⟩, huk⟩, hkey⟩, hft⟩, hai⟩, _⟩, _⟩, _⟩, _⟩, _⟩, _⟩, _⟩, _⟩⟩ := hf
  have hpkl : LLP K ((optList c.primaryKey).map indexL) ((optList c.primaryKey).map toksIndex) := by
    cases hp : c.primaryKey with
    | none => exact LLP.nil
    | some i =>
      rw [hp] at hpk
      simp only [optIdxOK] at hpk
      exact LLP.map indexL toksIndex [i] fun j hj => by
        rw [List.mem_singleton.mp hj]; exact pc_index hK i (idxOK_parts hpk).1 (idxOK_parts hpk).2 (hl.pk i hp) (hq.pk i hp)
  have hlines : LLP K (linesL .MYSQL c) (toksLines .MYSQL c) := by
    simp only [linesL, toksLines, hm, if_true]
    exact LLP.append (LLP.map _ _ c.columns fun x hx => pc_defCol hK .MYSQL x (hcols x hx) (hl.cols x hx) (hq.cols x hx))
      (LLP.append hpkl (LLP.append (llp_idx hK .unique c.uniqueKey (List.all_eq_true.mpr huk) hl.uk hq.uk)
        (LLP.append (llp_idx hK .normal c.key (List.all_eq_true.mpr hkey) hl.key hq.key)
          (LLP.append (llp_idx hK .fulltext c.fulltextKey (List.all_eq_true.mpr hft) hl.ft hq.ft)
            (LLP.map fkL toksFk c.foreignKey fun k hk => pc_fk hK k (hfk k hk) (hl.fk k hk) (hq.fk k hk))))))
  have htb : Pc K (tblL c.table) [tblTok c.table] := pc_bq _ (nameLex_tbl c.table hl.schema hl.table) hq.table
  have hopts : SegP K ' ' (myOptsP c) (toksMyOpts c) :=
    SegP.append sp (segp_optEq hK [] (by simp) "ENGINE" (by simp [eqWords]) c.engine hl.engine hq.engine)
      (SegP.append sp (segp_optInt hK "AUTO_INCREMENT" (by simp [eqWords]) c.autoIncrement hai toksAutoInc rfl (fun n => rfl))
      (SegP.append sp (segp_optEq hK ["DEFAULT"] (by simp [ddlWords]) "CHARSET" (by simp [eqWords]) c.defaultCharset hl.charset hq.charset)
      (SegP.append sp (segp_optEq hK [] (by simp) "COLLATE" (by simp [eqWords]) c.collate hl.collate hq.collate)
      (SegP.append sp (segp_optEq hK [] (by simp) "ROW_FORMAT" (by simp [eqWords]) c.rowFormat hl.rowFormat hq.rowFormat)
      (SegP.append sp (segp_optEq hK [] (by simp) "STATS_PERSISTENT" (by simp [eqWords]) c.statesPersistent hl.stats hq.stats)
        (segp_optEq hK [] (by simp) "COMMENT" (by simp [eqWords]) c.comment hl.comment hq.comment))))))
  have := Pc.tail (pc_w hK "CREATE" (by simp [ddlWords])) (SegP.cons sp (pc_w hK "TABLE" (by simp [ddlWords]))
    (SegP.append sp (segp_flag hK c.ifNotExists ["IF", "NOT", "EXISTS"] (by simp [ddlWords]))
      (SegP.append sp (SegP.cons sp htb (SegP.one _ (pc_group hlines))) hopts)))
  exact this.congr (by simp only [createL, hm, if_true]; rfl) (by simp [toksCreate, toksOpts])

theorem pc_createHive (c : CreateTable) (hf : FragCreate .HIVE c = true) (hl : LeafC .HIVE c) (hq : QHive K c) :
    Pc K (createL .HIVE c) (toksCreate .HIVE c) := by
  have hm : (Gen.D.HIVE == Gen.D.MYSQL) = false := rfl
  simp only [FragCreate, hm, Bool.false_eq_true, if_false, Bool.and_eq_true] at hf
  have hcols := hf.1.1.2
  have hparts := hf.2.1.1.1.1.1.1.1.1.2   -- the conjunct on `partitionedBy` of `FragCreate`
  simp only [List.all_eq_true] at hcols
  have hlines : LLP K (linesL .HIVE c) (toksLines .HIVE c) := by
    simp only [linesL, toksLines, hm, Bool.false_eq_true, if_false, List.append_nil]
    exact LLP.map _ _ c.columns fun x hx => pc_defCol hK .HIVE x (hcols x hx) (hl.cols x hx) (hq.cols x hx)
  have hn := nameLex_tbl c.table hl.schema hl.table
  have hg := pc_group hlines
  have htb : Pc K (tblL c.table ++ groupL (linesL .HIVE c)) [tblTok c.table, grp (sepAll (toksLines .HIVE c))] :=
    ⟨Lx.prefix hg.lx rfl (tk_bqn _ hn '('), by
      have := K.sep _ _ '`' K.s_bq (K.pre K.s_bq hq.table) hg.q
      simpa [tblL, bqL] using this⟩
  have hopts : SegP K ' ' (hiveOptsP .HIVE c) (toksHiveOpts .HIVE c) :=
    SegP.append sp (segp_src hK ["COMMENT"] (by simp [ddlWords]) c.comment hl.comment hq.comment (optSp [opTok "COMMENT"]) rfl (fun s => rfl))
      (SegP.append sp (segp_part hK .HIVE c.partitionedBy hparts hl.parts hq.parts)
      (SegP.append sp (segp_src hK ["ROW", "FORMAT", "SERDE"] (by simp [ddlWords]) c.rowFormatSerde hl.serde hq.serde
        (optSp [opTok "ROW", opTok "FORMAT", opTok "SERDE"]) rfl (fun s => rfl))
      (SegP.append sp (segp_src hK ["ROW", "FORMAT", "DELIMITED", "FIELDS", "TERMINATED", "BY"] (by simp [ddlWords]) c.rowFormatDelimited hl.delimited
        hq.delimited (optSp [opTok "ROW", opTok "FORMAT", opTok "DELIMITED", opTok "FIELDS", opTok "TERMINATED", opTok "BY"]) rfl (fun s => rfl))
      (SegP.append sp (segp_src hK ["STORED", "AS", "INPUTFORMAT"] (by simp [ddlWords]) c.storedAsInputformat hl.inputformat hq.inputformat
        (optSp [opTok "STORED", opTok "AS", opTok "INPUTFORMAT"]) rfl (fun s => rfl))
      (SegP.append sp (segp_flag hK _ ["STORED", "AS", "TEXTFILE"] (by simp [ddlWords]))
      (SegP.append sp (segp_src hK ["OUTPUTFORMAT"] (by simp [ddlWords]) c.outputformat hl.outputformat hq.outputformat (optSp [opTok "OUTPUTFORMAT"]) rfl
        (fun s => rfl))
      (SegP.append sp (segp_src hK ["LOCATION"] (by simp [ddlWords]) c.location hl.location hq.location (optSp [opTok "LOCATION"]) rfl (fun s => rfl))
        (segp_props hK c.tblproperties hl.props hq.props))))))))
  have := Pc.tail (pc_w hK "CREATE" (by simp [ddlWords])) (SegP.cons sp (pc_w hK "TABLE" (by simp [ddlWords]))
    (SegP.append sp (segp_flag hK c.ifNotExists ["IF", "NOT", "EXISTS"] (by simp [ddlWords])) (SegP.append sp (SegP.one _ htb) hopts)))
  refine ⟨Lx.congr (Lx.blank this.lx) (by simp only [createL, hm, Bool.false_eq_true, if_false]; rfl) (by simp [toksCreate, toksOpts]), ?_⟩
  simp only [createL, hm, Bool.false_eq_true, if_false]
  exact K.pre K.s_sp this.q

end

end LD
