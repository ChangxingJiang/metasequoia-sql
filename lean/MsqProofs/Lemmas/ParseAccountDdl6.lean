import MsqProofs.Lemmas.ParseAccountDdl5
/-!
# C08, general accounting for the DDL classes — part 6: CREATE TABLE, ALTER TABLE, SET

`ddlRunOK used` (Bool, on the token run of ONE CREATE TABLE statement as the parser delimits it) collects the hypotheses of the
loops: no text-bearing attribute keyword twice in a comma piece of a top-level bracket group (`segsOKb`: the column definitions of
the element list and of `PARTITIONED BY`), at most one `PRIMARY KEY` element (`pkOnce`), no text-bearing option keyword twice among
the top-level tokens (`NoRepO`), a bracket group after `PARTITIONED BY` / `TBLPROPERTIES` (`groupAt`).
`alterOK d f ts` (Bool): the ALTER TABLE statement at the cursor `ts` is followed only to DELIMIT its operations; the token run of
every operation satisfies `NoRep` (the column definition of ADD / MODIFY / CHANGE has no text-bearing attribute keyword twice).
-/
set_option linter.unusedVariables false
open Lex PM Ast

namespace PA
namespace Ddl

def segsOKb (us : List Tok) : Bool := us.all fun g => (splitBy "," g.children [] []).all NoRep
def pkOnce (us : List Tok) : Bool := us.all fun g => decide (pkCnt (splitBy "," g.children [] []) ≤ 1)
def ddlRunOK (us : List Tok) : Bool := segsOKb us && (pkOnce us && (NoRepO us && groupAt us))
theorem segsOKb_iff (us : List Tok) : segsOKb us = true ↔ SegsOK us := by
  simp only [segsOKb, SegsOK, List.all_eq_true]

def FullDAO : AlterOp → Bool
  | .add x => FullCOI x | .modify x => FullCOI x | .change _ x => FullCOI x
  | .addPartition b p => FullAO (.addPartition b p) | .dropPartition b p => FullAO (.dropPartition b p)
  | .renameColumn a b => true | .dropColumn a => true
def FullDAOs : List AlterOp → Bool | [] => true | o :: l => FullDAO o && FullDAOs l
/-- the fragment of results of the combined theorem: `FullStmt` for the classes it covers, plus CREATE TABLE (`FullCT`: indexes
and foreign keys with at least one column, at least one element), SET, ALTER … ADD / MODIFY / CHANGE -/
def FullDStmt : Stmt → Bool
  | .createTable c => FullCT c | .set _ => true | .alter _ ops => FullDAOs ops
  | .select q => FullStmt (.select q) | .insertValues h vs => FullStmt (.insertValues h vs) | .insertSelect h q => FullStmt (.insertSelect h q)
  | .update a b c d e f => FullStmt (.update a b c d e f) | .delete a b c d => FullStmt (.delete a b c d)
  | .createTableAs a b c => FullStmt (.createTableAs a b c) | .dropTable a b => true | .analyze a b c d e => FullStmt (.analyze a b c d e)
  | .msck _ => true | .use _ => true | .truncate _ => true | .showDatabases => true | .showTables => true
  | .showColumns a b => FullStmt (.showColumns a b)
def FullDStmts : List Stmt → Bool | [] => true | s :: l => FullDStmt s && FullDStmts l
theorem FullDStmts_append (a b : List Stmt) : FullDStmts (a ++ b) = (FullDStmts a && FullDStmts b) := by
  induction a with
  | nil => simp [FullDStmts]
  | cons x a ih => simp [FullDStmts, ih, Bool.and_assoc]

theorem groupAt_pfx {a b : List Tok} (h : groupAt (a ++ b) = true) : groupAt a = true := by
  induction a with
  | nil => rfl
  | cons t a ih =>
    simp only [List.cons_append, groupAt, Bool.and_eq_true] at h ⊢
    refine ⟨?_, ?_, ih h.2.2⟩
    · cases a <;> simp_all [headG]
    · rcases a with _ | ⟨x, _ | ⟨y, a⟩⟩ <;> simp_all [headG]
theorem cntO_empty (t : TableName) (ine : Bool) {a uO b : List Tok} (h : NoRepO (a ++ (uO ++ b)) = true) : CntO (emptyCreate t ine) uO := by
  simp only [NoRepO, Bool.and_eq_true, decide_eq_true_eq, cnt_append] at h
  simp only [CntO, emptyCreate, Option.isSome_none, b2n]
  simp; omega
theorem tCTb_empty (t : TableName) (ine : Bool) : tCTb (emptyCreate t ine) = tTN t := by
  rw [tCTb_eq]; simp [emptyCreate, tDCs_nil, tOIdx_none, tIdxs_nil, tFKs_nil, tOS_none, tOI_none, tCSs_nil]
theorem hasElem_empty (t : TableName) (ine : Bool) : HasElem (emptyCreate t ine) = false := by simp [HasElem, emptyCreate]

def outsideFullStmt : Stmt → Bool | .createTable _ => true | .alter _ _ => true | .set _ => true | _ => false
theorem fullD_eq_full (s : Stmt) (h : outsideFullStmt s = false) : FullDStmt s = FullStmt s := by
  cases s <;> simp [outsideFullStmt, FullDStmt, FullStmt] at h ⊢

/-- the tokens consumed between the cursor `ts` and its rest `r` -/
def run (ts r : List Tok) : List Tok := ts.take (ts.length - r.length)
theorem run_append (u r : List Tok) : run (u ++ r) r = u := by simp [run]
/-- the operations after the first one, as `alterLoop` delimits them: each run satisfies `NoRep` -/
def alterRunsOK (d : Gen.D) (f : Nat) : Nat → List Tok → Bool
  | 0, _ => true
  | g+1, ts =>
    if searchStr ts "," then
      (match pAlterExpr d f (ts.drop 1) with
       | .ok (_, r) => NoRep (run (ts.drop 1) r) && alterRunsOK d f g r
       | .error _ => true)
    else true
/-- every operation of the ALTER TABLE statement at the cursor `ts` (delimited by the parser) satisfies `NoRep` -/
def alterOK (d : Gen.D) (f : Nat) (ts : List Tok) : Bool :=
  match matchSeq ts ["ALTER", "TABLE"] with
  | .error _ => true
  | .ok (_, r0) => match pTblName r0 with
    | .error _ => true
    | .ok (_, r1) => match pAlterExpr d f r1 with
      | .error _ => true
      | .ok (_, r2) => NoRep (run r1 r2) && alterRunsOK d f (r2.length + 1) r2
/-- the token hypothesis of one statement: by the class of the RESULT -/
def stmtOK (d : Gen.D) (f : Nat) (ts : List Tok) (s : Stmt) (used : List Tok) : Bool :=
  match s with
  | .createTable _ => ddlRunOK used
  | .alter _ _ => alterOK d f ts
  | _ => true

/-! ### CREATE TABLE -/
theorem pCreateTable_acc (T : List String) (d : Gen.D) (f : Nat) (ts : List Tok) (s : Stmt) (r : List Tok) (h : pCreateTable d f ts = .ok (s, r)) :
    ∃ used, ts = used ++ r ∧ (stmtOK d f ts s used = true → FullDStmt s = true → Sub (tStmt s) T → AccAllD T used) := by
  have kCT : allKw ["CREATE", "TABLE"] = true := by simp [allKw, kwOk_CREATE, kwOk_TABLE]
  have kIF := kwOk_IF
  have kNOT := kwOk_NOT
  have kEX := kwOk_EXISTS
  have kSEMI := kwOk_semi
  have h0 := h
  unfold pCreateTable at h
  split at h
  · simp at h
  · rename_i u r0 hm
    split at h
    · simp at h
    · rename_i tbl r1 ht
      peel_if h with hcnd
      · split at h
        · rename_i q r2 hq; simp at h; obtain ⟨rfl, rfl⟩ := h
          obtain ⟨u1, e, ha⟩ := ar_used (accS_pCreateTable T d f ts) h0 (pCreateTable_consumes d f _ _ _ h0)
          exact ⟨u1, e, fun _ hf hs => accAllD_of_acc (ha hf hs)⟩
        · simp at h
      · split at h
        · simp at h
        · rename_i segs r2 hp
          obtain ⟨g, e1, rfl⟩ := popSplit_ok _ _ _ hp
          split at h
          · simp at h
          · rename_i c hc
            split at h
            · simp at h
            · rename_i c' r3 ho
              simp at h; obtain ⟨rfl, rfl⟩ := h
              obtain ⟨u0, e0, k0⟩ := matchSeq_kw _ ts kCT _ _ hm
              obtain ⟨uI, eI, kI⟩ := moveThreeUp_kw r0 "IF" "NOT" "EXISTS" kIF kNOT kEX
              obtain ⟨uT, eT, kT⟩ := ar_used (accS_pTblName T _) ht (pTblName_consumes _ _ _ ht)
              obtain ⟨uO, eO, kO⟩ := createOpts_acc T d f _ _ _ _ _ ho
              obtain ⟨uS, eS, kS⟩ := moveStr_kw r3 ";" kSEMI
              obtain ⟨o1, o2, kE⟩ := createElems_acc T d f _ _ _ hc
              have E := e0.trans (congrArg (u0 ++ ·) (eI.trans (congrArg (uI ++ ·) (eT.trans (congrArg (uT ++ ·) (e1.trans
                (congrArg (g :: ·) (eO.trans (congrArg (uO ++ ·) eS)))))))))
              refine ⟨u0 ++ (uI ++ (uT ++ (g :: (uO ++ uS)))), by simpa using E, fun hok hf hs => ?_⟩
              have hok : ddlRunOK (u0 ++ (uI ++ (uT ++ (g :: (uO ++ uS))))) = true := hok
              simp only [ddlRunOK, Bool.and_eq_true] at hok
              obtain ⟨hseg, hpk, hno, hga⟩ := hok
              have hseg := (segsOKb_iff _).1 hseg
              have hg : g ∈ u0 ++ (uI ++ (uT ++ (g :: (uO ++ uS)))) := by simp
              have hOpt : OptOK c uO := by
                refine ⟨cntO_of_opts o1 (cntO_empty _ _ (a := u0 ++ (uI ++ (uT ++ [g]))) (b := uS) (by simpa using hno)), ?_, ?_⟩
                · exact groupAt_pfx (b := uS) (groupAt_sfx (a := u0 ++ (uI ++ (uT ++ [g]))) (by simpa using hga))
                · intro x hx; exact hseg x (by simp [hx])
              have hf : FullCT c' = true := hf
              have hs : Sub (tCTb c') T := hs
              obtain ⟨fc, k1⟩ := kO hOpt hf
              obtain ⟨aO, s1⟩ := k1 hs
              rw [FullCT_eq, Bool.and_eq_true] at fc
              have hpk1 : pkCnt (splitBy "," g.children [] []) ≤ 1 := by
                simp only [pkOnce, List.all_eq_true, decide_eq_true_eq] at hpk; exact hpk g hg
              obtain ⟨_, k2⟩ := kE (hseg g hg) (by simp [emptyCreate, b2n]; exact hpk1) fc.1
              obtain ⟨aE, s2⟩ := k2 s1
              rw [tCTb_empty] at s2
              have hgr : Groupish g = true := by
                rcases splitBy_nil_or g.children with hne | he
                · cases hc2 : g.children with
                  | nil => exact absurd hc2 hne
                  | cons a b => simp [Groupish, hc2]
                · have := o2 he; rw [this, hasElem_empty] at fc; simp at fc
              have aG : AccAllD T [g] := accAllD_one (.group hgr (accAll_splitBy T g.children aE))
              exact accAllD_append (accAllD_of_acc (accAll_kws k0)) (accAllD_append (accAllD_of_acc (accAll_kws kI))
                (accAllD_append (accAllD_of_acc (kT rfl s2)) (accAllD_append aG (accAllD_append aO (accAllD_of_acc (accAll_kws kS))))))

/-! ### ALTER TABLE … ADD / MODIFY / CHANGE -/
theorem tAO_add (x : ColOrIdx) : tAO (.add x) = tCOI x := by simp [tAO, AlterOp.toVal, tCOI, Val.texts, Val.textsF]
theorem tAO_modify (x : ColOrIdx) : tAO (.modify x) = tCOI x := by simp [tAO, AlterOp.toVal, tCOI, Val.texts, Val.textsF]
theorem tAO_change (n : String) (x : ColOrIdx) : tAO (.change n x) = n :: tCOI x := by simp [tAO, AlterOp.toVal, tCOI, Val.texts, Val.textsF]
theorem FullDAOs_append (a b : List AlterOp) : FullDAOs (a ++ b) = (FullDAOs a && FullDAOs b) := by
  induction a with
  | nil => simp [FullDAOs]
  | cons x a ih => simp [FullDAOs, ih, Bool.and_assoc]

theorem pAlterExpr_acc (T : List String) (d : Gen.D) (f : Nat) (ts : List Tok) (x : AlterOp) (r : List Tok) (h : pAlterExpr d f ts = .ok (x, r)) :
    ∃ used, ts = used ++ r ∧ (NoRep used = true → FullDAO x = true → Sub (tAO x) T → AccAll T used) := by
  have h0 := h
  -- the operations of the fragment `FullAO`
  have inFullAO : FullDAO x = FullAO x → ∃ used, ts = used ++ r ∧ (NoRep used = true → FullDAO x = true → Sub (tAO x) T → AccAll T used) := fun hx => by
    obtain ⟨u1, e, ha⟩ := ar_used (accS_pAlterExpr T d f ts) h0 (pAlterExpr_consumes d f _ _ _ h0)
    exact ⟨u1, e, fun _ hf hs => ha (hx ▸ hf) hs⟩
  -- ADD / MODIFY / CHANGE: the words `kws`, then a column definition or an index
  have colOp : ∀ {kws cur : List Tok} {y : ColOrIdx}, ts = kws ++ cur → pColOrIdx d f cur = .ok (y, r) →
      ∃ used, ts = used ++ r ∧ (NoRep used = true → FullCOI y = true → AccAll T kws → Sub (tCOI y) T → AccAll T used) := fun e hp => by
    obtain ⟨u1, e1, ha⟩ := pColOrIdx_acc T d f _ _ _ hp
    exact ⟨_, by rw [e, e1]; simp, fun hr hf hk hs => accAll_app _ _ hk (ha (NoRep_sfx hr) hf hs)⟩
  unfold pAlterExpr at h
  peel_if h with hcnd
  · split_run <;> first | (simp at h; done) | (simp at h; obtain ⟨rfl, rfl⟩ := h; exact inFullAO rfl)
  peel_if h with hcnd
  · split_run <;> first | (simp at h; done) | (simp at h; obtain ⟨rfl, rfl⟩ := h; exact inFullAO rfl)
  peel_if h with hcnd
  · obtain ⟨t, e, ht⟩ := searchStrUp_head hcnd
    split at h
    · rename_i y r1 hp; simp at h; obtain ⟨rfl, rfl⟩ := h
      obtain ⟨u, e2, k⟩ := colOp (kws := [t]) e hp
      exact ⟨u, e2, fun hr hf hs => k hr hf (accAll_kws (by simp; exact srcEqUp_kw ht kwOk_ADD)) (by simpa [tAO_add] using hs)⟩
    · simp at h
  peel_if h with hcnd
  · obtain ⟨t, e, ht⟩ := searchStrUp_head hcnd
    split at h
    · rename_i y r1 hp; simp at h; obtain ⟨rfl, rfl⟩ := h
      obtain ⟨u, e2, k⟩ := colOp (kws := [t]) e hp
      exact ⟨u, e2, fun hr hf hs => k hr hf (accAll_kws (by simp; exact srcEqUp_kw ht kwOk_MODIFY)) (by simpa [tAO_modify] using hs)⟩
    · simp at h
  peel_if h with hcnd
  · obtain ⟨t, e, ht⟩ := searchStrUp_head hcnd
    split at h
    · simp at h
    · rename_i n r0 hn
      obtain ⟨tn, en, rfl⟩ := popSrc_ok hn
      split at h
      · rename_i y r1 hp; simp at h; obtain ⟨rfl, rfl⟩ := h
        obtain ⟨u, e2, k⟩ := colOp (kws := [t, tn]) (by rw [e, en]; rfl) hp
        refine ⟨u, e2, fun hr hf hs => ?_⟩
        rw [tAO_change, sub_cons] at hs
        exact k hr hf (by simp only [accAll_cons, accAll_nil, and_true]; exact ⟨.kw (srcEqUp_kw ht kwOk_CHANGE), .name hs.1⟩) hs.2
      · simp at h
  all_goals (split_run <;> first | (simp at h; done) | (simp at h; obtain ⟨rfl, rfl⟩ := h; exact inFullAO rfl))

theorem alterLoop_acc (T : List String) (d : Gen.D) (f : Nat) : ∀ g acc ts v r, alterLoop d f g acc ts = .ok (v, r) →
    ∃ used, ts = used ++ r ∧ (alterRunsOK d f g ts = true → FullDAOs v = true →
      FullDAOs acc = true ∧ (Sub (tAOs v) T → AccAll T used ∧ Sub (tAOs acc) T)) := by
  have kC := kwOk_comma
  intro g
  induction g with
  | zero => intro acc ts v r h; simp [alterLoop] at h
  | succ g ih =>
    intro acc ts v r h
    unfold alterLoop at h
    peel_if h with hcnd
    · obtain ⟨t, r0, rfl, ht⟩ := searchStr_head hcnd
      simp only [List.drop_succ_cons, List.drop_zero] at h
      split at h
      · rename_i x r1 hp
        obtain ⟨u1, e1, ha⟩ := pAlterExpr_acc T d f _ _ _ hp
        obtain ⟨u2, e2, k⟩ := ih _ _ _ _ h
        refine ⟨t :: (u1 ++ u2), by rw [e1, e2]; simp, fun hr hf => ?_⟩
        unfold alterRunsOK at hr
        rw [if_pos hcnd] at hr
        simp only [List.drop_succ_cons, List.drop_zero, hp, Bool.and_eq_true] at hr
        have hr2 : alterRunsOK d f g r1 = true := hr.2
        have hr1 : NoRep u1 = true := by have := hr.1; rw [e1, run_append] at this; exact this
        obtain ⟨f1, k1⟩ := k hr2 hf
        rw [FullDAOs_append] at f1
        simp only [FullDAOs, Bool.and_true, Bool.and_eq_true] at f1
        refine ⟨f1.1, fun hs => ?_⟩
        obtain ⟨a2, s2⟩ := k1 hs
        rw [tAOs_append, tAOs_one, sub_append] at s2
        refine ⟨?_, s2.1⟩
        have : t :: (u1 ++ u2) = [t] ++ (u1 ++ u2) := rfl
        rw [this, accAll_append, accAll_append]
        exact ⟨accAll_kws (by simp; exact srcEq_kw (by simpa [Tok.srcEq] using ht) kC), ha hr1 f1.2 s2.2, a2⟩
      · simp at h
    · simp at h; obtain ⟨rfl, rfl⟩ := h
      exact ⟨[], by simp, fun _ hf => ⟨hf, fun hs => ⟨by simp [AccAll], hs⟩⟩⟩

theorem pAlter_acc (T : List String) (d : Gen.D) (f : Nat) (ts : List Tok) (s : Stmt) (r : List Tok) (h : pAlter d f ts = .ok (s, r)) :
    ∃ used, ts = used ++ r ∧ (stmtOK d f ts s used = true → FullDStmt s = true → Sub (tStmt s) T → AccAllD T used) := by
  have kAT : allKw ["ALTER", "TABLE"] = true := by simp [allKw, kwOk_ALTER, kwOk_TABLE]
  unfold pAlter at h
  split at h
  · simp at h
  · rename_i u r0 hm
    split at h
    · simp at h
    · rename_i tbl r1 ht
      split at h
      · simp at h
      · rename_i x r2 hx
        split at h
        · rename_i xs r3 hl
          simp at h; obtain ⟨rfl, rfl⟩ := h
          obtain ⟨u0, e0, k0⟩ := matchSeq_kw _ ts kAT _ _ hm
          obtain ⟨uT, eT, kT⟩ := ar_used (accS_pTblName T _) ht (pTblName_consumes _ _ _ ht)
          obtain ⟨u1, e1, k1⟩ := pAlterExpr_acc T d f _ _ _ hx
          obtain ⟨u2, e2, k2⟩ := alterLoop_acc T d f _ _ _ _ _ hl
          have E := e0.trans (congrArg (u0 ++ ·) (eT.trans (congrArg (uT ++ ·) (e1.trans (congrArg (u1 ++ ·) e2)))))
          refine ⟨u0 ++ (uT ++ (u1 ++ u2)), by simpa using E, fun hok hf hs => ?_⟩
          have hok : alterOK d f ts = true := hok
          unfold alterOK at hok
          simp only [hm, ht, hx, Bool.and_eq_true] at hok
          have hnr2 : alterRunsOK d f (r2.length + 1) r2 = true := hok.2
          have hnr1 : NoRep u1 = true := by have := hok.1; rw [e1, run_append] at this; exact this
          have hf : FullDAOs xs = true := hf
          rw [tStmt_alter, sub_append] at hs
          obtain ⟨f1, k3⟩ := k2 hnr2 hf
          obtain ⟨a2, s2⟩ := k3 hs.2
          simp only [FullDAOs, Bool.and_true] at f1
          rw [tAOs_one] at s2
          exact accAllD_of_acc (by
            rw [accAll_append, accAll_append, accAll_append]
            exact ⟨accAll_kws k0, kT rfl hs.1, k1 hnr1 f1 s2, a2⟩)
        · simp at h

/-! ### SET -/
theorem tStmt_set (c : ConfigStr) : tStmt (.set c) = tCS c := by simp [tStmt, Stmt.toVal, ConfigStr.toVal, tCS, Val.texts, Val.textsF]
theorem pSet_acc (T : List String) (ts : List Tok) (s : Stmt) (r : List Tok) (h : pSet ts = .ok (s, r)) :
    ∃ used, ts = used ++ r ∧ (Sub (tStmt s) T → AccAllD T used) := by
  have kSET := kwOk_SET
  unfold pSet at h
  split at h
  · simp at h
  · rename_i u r0 hm
    split at h
    · rename_i c r1 hc
      simp at h; obtain ⟨rfl, rfl⟩ := h
      obtain ⟨t, rfl, ht⟩ := matchKw_ok hm
      obtain ⟨u1, e1⟩ := pConfigStrExpr_consumes _ _ _ hc
      refine ⟨t :: u1, by rw [e1]; simp, fun hs => ?_⟩
      rw [tStmt_set] at hs
      have h3 := pConfigStrExpr_acc T hc hs
      obtain ⟨w, ew, hw⟩ := h3
      have : w = u1 := List.append_cancel_right (ew.symm.trans e1)
      subst this
      exact accAllD_append (accAllD_one (.kw (equalsStr_kw ht kSET))) hw
    · simp at h

end Ddl
end PA
