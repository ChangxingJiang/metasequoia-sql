import MsqProofs.Lemmas.LexLinkQueryMain
import MsqProofs.Lemmas.LexLinkSelectHive
import MsqProofs.Props.C03Q
/-!
# The two kits of the text level, the leaf hypotheses of the nested fragment, the operator fragment as a part of it

`frag_bridge`, `noEq_bridge`: on the operator fragment `TP.Frag` the mirror `prEL` of `LexLinkPrint.lean` is the mirror `prE3L`, its leaf
hypotheses `Leaf` / `C01.noEqEq` give those of the nested fragment; hence `good_frag`: the record of an operator expression on ITS mirror
and rendering, from `good_expr` — `lx_prE`, `prE_eq`, `plain_prEL`, `C01.occ_prEL` are its fields at the two kits.
-/
open Lex PM Ast TP TS TQ LexLink

namespace LexLink

theorem all_words_plain : allWords.all (fun k => allP k.toList) = true := by decide +kernel
theorem all_words_occ : allWords.all (fun k => !C01.occ k.toList) = true := by decide +kernel

/-- "no character the lexer's pre-pass rewrites" -/
def plainKit : QKit where
  Q := fun l => allP l = true
  safe := fun c => C05.plain c = true
  nil := rfl
  sep := by
    intro a b c hc ha hb
    simp only [allP, List.all_append, List.all_cons, Bool.and_eq_true] at ha hb ⊢
    exact ⟨ha, hc, hb⟩
  s_sp := by decide
  s_cm := by decide
  s_nl := by decide
  s_lp := by decide
  s_rp := by decide
  s_bq := by decide
  s_dot := by decide
  s_un := by decide
  num := allP_numeral
  words := fun k hk => (List.all_eq_true.mp all_words_plain) k hk
  cops := fun e he => (List.all_eq_true.mp compute_ops_plain) e he
  cmps := by
    intro e he x hx
    have := (List.all_eq_true.mp compare_ops_plain) e he
    rw [hx] at this
    exact this
  jws := fun e he w hw => plainL_allP _ ((List.all_eq_true.mp ((List.all_eq_true.mp join_words_plainL) e he)) w hw)
  uws := fun e he w hw => plainL_allP _ ((List.all_eq_true.mp ((List.all_eq_true.mp union_words_plainL) e he)) w hw)

/-- "`==` does not occur" -/
def occKit : QKit where
  Q := fun l => C01.occ l = false
  safe := fun c => c ≠ '='
  nil := rfl
  sep := by
    intro a b c hc ha hb
    rw [C01.occ_sep _ _ _ hc, ha, hb]; rfl
  s_sp := by decide
  s_cm := by decide
  s_nl := by decide
  s_lp := by decide
  s_rp := by decide
  s_bq := by decide
  s_dot := by decide
  s_un := by decide
  num := by
    intro n hn
    apply C01.occ_none
    intro x hx e; subst e
    have := (toString_nonneg n hn).2 '=' hx
    revert this; decide
  words := fun k hk => by simpa using (List.all_eq_true.mp all_words_occ) k hk
  cops := fun e he => by simpa using (List.all_eq_true.mp C01.compute_ops_occ) e he
  cmps := by
    intro e he x hx
    have := (List.all_eq_true.mp C01.compare_ops_occ) e he
    rw [hx] at this
    simpa using this
  jws := fun e he w hw => occ_plainL _ ((List.all_eq_true.mp ((List.all_eq_true.mp join_words_plainL) e he)) w hw)
  uws := fun e he w hw => occ_plainL _ ((List.all_eq_true.mp ((List.all_eq_true.mp union_words_plainL) e he)) w hw)

def LeafQ (d : Gen.D) (q : Query) : Prop := On (leafOK d) (leavesQ q)
def LeafE3 (d : Gen.D) (e : Expr) : Prop := On (leafOK d) (leavesE e)
def noEqItem (x : LeafItem) : Prop := ∀ s ∈ strs x, C01.occ s.toList = false
def NoEqQ (q : Query) : Prop := On noEqItem (leavesQ q)
def NoEqE3 (e : Expr) : Prop := On noEqItem (leavesE e)

theorem nameLex_allP {n : String} (h : nameLex n) : allP n.toList = true := List.all_eq_true.mpr fun x hx => (h x hx).2
theorem optNameLex_allP {s : Option String} (h : optNameLex s) : ∀ y, s = some y → allP y.toList = true := by
  intro y hy; subst hy; exact nameLex_allP h

theorem litLex_allP {v : String} (hl : litLex v) : allP v.toList = true := by
  simp only [allP, List.all_eq_true]
  rcases hl with ⟨_, hd⟩ | ⟨k, body, hk, hv, _, hp⟩ | ⟨_, hp⟩
  · exact fun x hx => C05.digit_plain x (hd x hx)
  · rw [hv]
    intro x hx
    simp only [C06.QK.wrap, List.mem_cons, List.mem_append, List.mem_nil_iff, or_false] at hx
    have hq : C05.plain k.ch = true := by cases k <;> decide
    rcases hx with rfl | hx | rfl
    · exact hq
    · exact hp x hx
    · exact hq
  · exact hp

theorem plain_item (d : Gen.D) (x : LeafItem) (h : leafOK d x) : plainKit.item x := by
  intro s hs
  show allP s.toList = true
  cases x with
  | col t c =>
    cases t with
    | none =>
      simp only [strs, List.mem_singleton] at hs; subst hs
      exact List.all_eq_true.mpr fun x hx => (h.2 x hx).2
    | some t =>
      simp only [strs, List.mem_cons, List.mem_nil_iff, or_false] at hs
      rcases hs with rfl | rfl
      · exact nameLex_allP h.2.1
      · exact nameLex_allP h.2.2
  | lit v => simp only [strs, List.mem_singleton] at hs; subst hs; exact litLex_allP h
  | wild t => simp only [strs, List.mem_singleton] at hs; subst hs; exact nameLex_allP h
  | fn s0 n =>
    cases s0 with
    | none => simp only [strs, List.mem_singleton] at hs; subst hs; exact nameLex_allP h.2
    | some s0 =>
      simp only [strs, List.mem_cons, List.mem_nil_iff, or_false] at hs
      rcases hs with rfl | rfl
      · exact nameLex_allP h.1
      · exact nameLex_allP h.2
  | agg n =>
    simp only [strs, List.mem_singleton] at hs; subst hs
    exact plainL_allP _ (by rw [← isPlainName_plainL]; exact h)
  | alias a =>
    simp only [strs, List.mem_singleton] at hs; subst hs
    exact plainL_allP _ (by rw [← isPlainName_plainL]; exact h.1)
  | tbl s0 n =>
    cases s0 with
    | none => simp only [strs, List.mem_singleton] at hs; subst hs; exact nameLex_allP h.2
    | some s0 =>
      simp only [strs, List.mem_cons, List.mem_nil_iff, or_false] at hs
      rcases hs with rfl | rfl
      · exact nameLex_allP h.1
      · exact nameLex_allP h.2

theorem lv_plain {d : Gen.D} {l : List LeafItem} (h : On (leafOK d) l) : Lv d plainKit l :=
  fun x hx => ⟨h x hx, plain_item d x (h x hx)⟩
theorem lv_occ {d : Gen.D} {l : List LeafItem} (h : On (leafOK d) l) (h2 : On noEqItem l) : Lv d occKit l :=
  fun x hx => ⟨h x hx, h2 x hx⟩

theorem frag_bridge (d : Gen.D) : ∀ (n : Nat) (e : Expr), TP.sz e ≤ n → Frag d e = true → Leaf d e →
    prE3L d e = prEL d e ∧ On (leafOK d) (leavesE e) := by
  intro n
  induction n with
  | zero => intro e he; cases e <;> simp [TP.sz] at he
  | succ n ih =>
    intro e he hf hl
    cases e <;> simp only [TP.sz] at he <;> (try simp only [Frag, Bool.and_eq_true] at hf) <;> (try simp only [Leaf] at hl) <;>
      try (cases hf; done)
    case column t c =>
      cases t with
      | some t => simp [Frag] at hf
      | none => exact ⟨rfl, by simpa [leavesE, leafOK] using hl⟩
    case literal v => exact ⟨rfl, by simpa [leavesE, leafOK] using hl⟩
    case unary o y =>
      obtain ⟨h1, h2⟩ := ih y (by omega) hf.2 hl
      exact ⟨by simp only [prE3L, prEL, h1], by simpa [leavesE] using h2⟩
    case compute l o r =>
      obtain ⟨h1, h2⟩ := ih l (by omega) hf.1.2 hl.1
      obtain ⟨h3, h4⟩ := ih r (by omega) hf.2 hl.2
      exact ⟨by simp only [prE3L, prEL, h1, h3], by simp only [leavesE, on_append]; exact ⟨h2, h4⟩⟩
    case kw k n0 l r =>
      obtain ⟨h1, h2⟩ := ih l (by omega) hf.1.2 hl.1
      obtain ⟨h3, h4⟩ := ih r (by omega) hf.2 hl.2
      exact ⟨by simp only [prE3L, prEL, h1, h3], by simp only [leavesE, on_append]; exact ⟨h2, h4⟩⟩
    case between n0 b f t =>
      obtain ⟨h1, h2⟩ := ih b (by omega) hf.1.1 hl.1
      obtain ⟨h3, h4⟩ := ih f (by omega) hf.1.2 hl.2.1
      obtain ⟨h5, h6⟩ := ih t (by omega) hf.2 hl.2.2
      exact ⟨by simp only [prE3L, prEL, h1, h3, h5], by simp only [leavesE, on_append]; exact ⟨h2, h4, h6⟩⟩
    case compare o l r =>
      obtain ⟨h1, h2⟩ := ih l (by omega) hf.1.2 hl.1
      obtain ⟨h3, h4⟩ := ih r (by omega) hf.2 hl.2
      exact ⟨by simp only [prE3L, prEL, h1, h3], by simp only [leavesE, on_append]; exact ⟨h2, h4⟩⟩
    case not_ y =>
      obtain ⟨h1, h2⟩ := ih y (by omega) hf hl
      exact ⟨by simp only [prE3L, prEL, h1], by simpa [leavesE] using h2⟩
    case and_ l r =>
      obtain ⟨h1, h2⟩ := ih l (by omega) hf.1 hl.1
      obtain ⟨h3, h4⟩ := ih r (by omega) hf.2 hl.2
      exact ⟨by simp only [prE3L, prEL, h1, h3], by simp only [leavesE, on_append]; exact ⟨h2, h4⟩⟩
    case xor l r =>
      obtain ⟨h1, h2⟩ := ih l (by omega) hf.1 hl.1
      obtain ⟨h3, h4⟩ := ih r (by omega) hf.2 hl.2
      exact ⟨by simp only [prE3L, prEL, h1, h3], by simp only [leavesE, on_append]; exact ⟨h2, h4⟩⟩
    case or_ l r =>
      obtain ⟨h1, h2⟩ := ih l (by omega) hf.1 hl.1
      obtain ⟨h3, h4⟩ := ih r (by omega) hf.2 hl.2
      exact ⟨by simp only [prE3L, prEL, h1, h3], by simp only [leavesE, on_append]; exact ⟨h2, h4⟩⟩


theorem noEq_bridge {d : Gen.D} (e : Expr) (hf : Frag d e = true) (hq : C01.noEqEq e) : On noEqItem (leavesE e) := by
  cases e <;> (try simp only [Frag, Bool.and_eq_true] at hf) <;> (try simp only [C01.noEqEq] at hq) <;> try (cases hf; done)
  case column t c =>
    cases t with
    | some t => simp [Frag] at hf
    | none => simpa [leavesE, noEqItem, strs] using hq
  case literal v => simpa [leavesE, noEqItem, strs] using hq
  case unary o y => simpa [leavesE] using noEq_bridge y hf.2 hq
  case compute l o r => simp only [leavesE, on_append]; exact ⟨noEq_bridge l hf.1.2 hq.1, noEq_bridge r hf.2 hq.2⟩
  case kw k n0 l r => simp only [leavesE, on_append]; exact ⟨noEq_bridge l hf.1.2 hq.1, noEq_bridge r hf.2 hq.2⟩
  case between n0 b f t =>
    simp only [leavesE, on_append]; exact ⟨noEq_bridge b hf.1.1 hq.1, noEq_bridge f hf.1.2 hq.2.1, noEq_bridge t hf.2 hq.2.2⟩
  case compare o l r => simp only [leavesE, on_append]; exact ⟨noEq_bridge l hf.1.2 hq.1, noEq_bridge r hf.2 hq.2⟩
  case not_ y => simpa [leavesE] using noEq_bridge y hf hq
  case and_ l r => simp only [leavesE, on_append]; exact ⟨noEq_bridge l hf.1 hq.1, noEq_bridge r hf.2 hq.2⟩
  case xor l r => simp only [leavesE, on_append]; exact ⟨noEq_bridge l hf.1 hq.1, noEq_bridge r hf.2 hq.2⟩
  case or_ l r => simp only [leavesE, on_append]; exact ⟨noEq_bridge l hf.1 hq.1, noEq_bridge r hf.2 hq.2⟩

/-- **the record of an operator expression** at the kit `K`, on its own mirror `prEL` and rendering `toksE`: `good_expr` (Lemmas/LexLinkQueryMain.lean)
through `TP.Frag ⊆ TP2.Frag2 ⊆ TQ.FragE3` (`TP2.frag_sub`, Lemmas/TParse2_0.lean; `frag2_sub_all`, Props/C03Q.lean) and `frag_bridge` -/
theorem good_frag (d : Gen.D) (K : QKit) (e : Expr) (hf : Frag d e = true) (hl : Leaf d e)
    (hK : On (leafOK d) (leavesE e) → On K.item (leavesE e)) :
    Lx (prEL d e) (toksE d noX e) ∧ PR.prE d e = .ok (String.ofList (prEL d e)) ∧ K.Q (prEL d e) := by
  obtain ⟨hm, hlv⟩ := frag_bridge d (TP.sz e) e (Nat.le_refl _) hf hl
  obtain ⟨h3, ht⟩ := frag2_sub_all d noX e (TP2.frag_sub d (TP.sz e) e (Nat.le_refl _) hf)
  have g := good_expr d K e h3 fun x hx => ⟨hlv x hx, hK hlv x hx⟩
  rw [← hm, ← TP2.toksE2_eq d noX (TP.sz e) e (Nat.le_refl _) hf, ← ht]
  exact ⟨g.lx, g.pr, g.q⟩

theorem plain_items {d : Gen.D} {l : List LeafItem} (h : On (leafOK d) l) : On plainKit.item l := fun x hx => plain_item d x (h x hx)

theorem lx_prE (d : Gen.D) (e : Expr) (hf : Frag d e = true) (hl : Leaf d e) : Lx (prEL d e) (toksE d noX e) :=
  (good_frag d plainKit e hf hl plain_items).1
theorem prE_eq (d : Gen.D) (e : Expr) (hf : Frag d e = true) (hl : Leaf d e) : PR.prE d e = .ok (String.ofList (prEL d e)) :=
  (good_frag d plainKit e hf hl plain_items).2.1
theorem plain_prEL (d : Gen.D) (e : Expr) (hf : Frag d e = true) (hl : Leaf d e) : (prEL d e).all C05.plain = true :=
  (good_frag d plainKit e hf hl plain_items).2.2

theorem prList8_eq (d : Gen.D) : ∀ (l : List Expr), (∀ e ∈ l, Frag d e = true ∧ Leaf d e) →
    PR.prList8 d l = .ok (l.map fun e => String.ofList (keyL d e))
  | [], _ => rfl
  | e :: r, h => by
    have h1 := prE_eq d e (h e (by simp)).1 (h e (by simp)).2
    have h2 := prList8_eq d r fun x hx => h x (by simp [hx])
    simp only [PR.prList8, h1, h2, bind, Except.bind, pure, Except.pure, List.map_cons, wrap_ofList, keyL]

end LexLink

theorem C01.occ_prEL (d : Gen.D) (e : Expr) (hf : Frag d e = true) (hl : Leaf d e) (hq : C01.noEqEq e) : C01.occ (prEL d e) = false :=
  (good_frag d occKit e hf hl fun _ => noEq_bridge e hf hq).2.2
