import MsqProofs.Lemmas.ParseKCaseDefs
import MsqProofs.Lemmas.ParseKCase4
import MsqProofs.Lemmas.ParseRelEntries
/-!
# C09, parser half: the relational family of `ParseRel*.lean` read at the case theory `kcaseT`
-/
open Lex Ast
namespace PM

variable (d : Gen.D)

/-- **Reserved-word case invariance of the expression / SELECT parser, sharp form** -/
theorem kcaseF_all : ∀ n, KCaseF d n := by
  intro n
  have G := Rel.genF_all (T := kcaseT) d n
  have G' := G
  cases G'
  constructor <;> simp only [kel_eq, kell_eq, ker_eq, kex_eq, keOpt_eq, ceq_eq, km_maps.E, km_maps.O, km_maps.TR, km_maps.FT, km_maps.J, km_maps.G, km_maps.Lat, km_maps.W, km_maps.S, km_maps.Q, kmSt_map] <;> first
    | assumption
    | exact fun x0 x1 y0 y1 h0 h1 => Rel.GenF.pOptOr (T := kcaseT) G x0 x1 y0 y1 h0 rfl h1
    | exact fun x0 x1 y0 y1 h0 h1 => Rel.GenF.pByList (T := kcaseT) G x0 x1 y0 y1 h0 rfl h1
    | exact fun x0 x1 x2 y0 y1 y2 h0 h1 h2 => Rel.GenF.pCall (T := kcaseT) G x0 x1 x2 y0 y1 y2 (by subst h0 h1; rfl) h2

theorem pElement_ke (d : Gen.D) (f : Nat) : ∀ x0 y0, KEL x0 y0 → KER (ceq kmE) (pElement d f x0) (pElement d f y0) := (kcaseF_all d f).pElement
theorem pParen_ke (d : Gen.D) (f : Nat) : ∀ x0 x1 y0 y1, KE x0 y0 → KEL x1 y1 → KER (ceq kmE) (pParen d f x0 x1) (pParen d f y0 y1) := (kcaseF_all d f).pParen
theorem pNamed_ke (d : Gen.D) (f : Nat) : ∀ x0 x1 x2 y0 y1 y2, KE x0 y0 → KEL x1 y1 → KEL x2 y2 → KER (ceq kmE) (pNamed d f x0 x1 x2) (pNamed d f y0 y1 y2) := (kcaseF_all d f).pNamed
theorem pQualified_ke (d : Gen.D) (f : Nat) : ∀ x0 x1 x2 y0 y1 y2, KE x0 y0 → KEL x1 y1 → KEL x2 y2 → KER (ceq kmE) (pQualified d f x0 x1 x2) (pQualified d f y0 y1 y2) := (kcaseF_all d f).pQualified
theorem pIndex_ke (d : Gen.D) (f : Nat) : ∀ x0 x1 y0 y1, ceq kmE x0 y0 → KEL x1 y1 → KER (ceq kmE) (pIndex d f x0 x1) (pIndex d f y0 y1) := (kcaseF_all d f).pIndex
theorem pFuncIdx_ke (d : Gen.D) (f : Nat) : ∀ x0 y0, KEL x0 y0 → KER (ceq kmE) (pFuncIdx d f x0) (pFuncIdx d f y0) := (kcaseF_all d f).pFuncIdx
theorem pFunc_ke (d : Gen.D) (f : Nat) : ∀ x0 y0, KEL x0 y0 → KER (ceq kmE) (pFunc d f x0) (pFunc d f y0) := (kcaseF_all d f).pFunc
theorem pIfCall_ke (d : Gen.D) (f : Nat) : ∀ x0 y0, KEL x0 y0 → KER (ceq kmE) (pIfCall d f x0) (pIfCall d f y0) := (kcaseF_all d f).pIfCall
theorem pFirstDiscard_ke (d : Gen.D) (f : Nat) : ∀ x0 y0, KEL x0 y0 → KEX KEL (pFirstDiscard d f x0) (pFirstDiscard d f y0) := (kcaseF_all d f).pFirstDiscard
theorem pFirstArg_ke (d : Gen.D) (f : Nat) : ∀ x0 y0, KEL x0 y0 → KER (ceq (List.map kmE)) (pFirstArg d f x0) (pFirstArg d f y0) := (kcaseF_all d f).pFirstArg
theorem pCall_ke (d : Gen.D) (f : Nat) : ∀ x0 x1 x2 y0 y1 y2, x0 = y0 → x1 = y1 → KEL x2 y2 → KER (ceq kmE) (pCall d f x0 x1 x2) (pCall d f y0 y1 y2) := (kcaseF_all d f).pCall
theorem pArgs_ke (d : Gen.D) (f : Nat) : ∀ x0 x1 y0 y1, ceq (List.map kmE) x0 y0 → KEL x1 y1 → KER (ceq (List.map kmE)) (pArgs d f x0 x1) (pArgs d f y0 y1) := (kcaseF_all d f).pArgs
theorem pCase_ke (d : Gen.D) (f : Nat) : ∀ x0 y0, KEL x0 y0 → KER (ceq kmE) (pCase d f x0) (pCase d f y0) := (kcaseF_all d f).pCase
theorem pElseEnd_ke (d : Gen.D) (f : Nat) : ∀ x0 y0, KEL x0 y0 → KER (ceq (Option.map kmE)) (pElseEnd d f x0) (pElseEnd d f y0) := (kcaseF_all d f).pElseEnd
theorem pWhens_ke (d : Gen.D) (f : Nat) : ∀ x0 x1 y0 y1, ceq (List.map (Prod.map kmE kmE)) x0 y0 → KEL x1 y1 → KER (ceq (List.map (Prod.map kmE kmE))) (pWhens d f x0 x1) (pWhens d f y0 y1) := (kcaseF_all d f).pWhens
theorem pUnary_ke (d : Gen.D) (f : Nat) : ∀ x0 y0, KEL x0 y0 → KER (ceq kmE) (pUnary d f x0) (pUnary d f y0) := (kcaseF_all d f).pUnary
theorem pCompute_ke (d : Gen.D) (f : Nat) : ∀ x0 y0, KEL x0 y0 → KER (ceq kmE) (pCompute d f x0) (pCompute d f y0) := (kcaseF_all d f).pCompute
theorem pComputeLoop_ke (d : Gen.D) (f : Nat) : ∀ x0 x1 x2 y0 y1 y2, ceq kmSt x0 y0 → ceq kmE x1 y1 → KEL x2 y2 → KER (ceq kmE) (pComputeLoop d f x0 x1 x2) (pComputeLoop d f y0 y1 y2) := (kcaseF_all d f).pComputeLoop
theorem pKeyword_ke (d : Gen.D) (f : Nat) : ∀ x0 x1 y0 y1, ceq (Option.map kmE) x0 y0 → KEL x1 y1 → KER (ceq kmE) (pKeyword d f x0 x1) (pKeyword d f y0 y1) := (kcaseF_all d f).pKeyword
theorem pKwFirst_ke (d : Gen.D) (f : Nat) : ∀ x0 x1 y0 y1, ceq (Option.map kmE) x0 y0 → KEL x1 y1 → KER (ceq kmE) (pKwFirst d f x0 x1) (pKwFirst d f y0 y1) := (kcaseF_all d f).pKwFirst
theorem pKwRest_ke (d : Gen.D) (f : Nat) : ∀ x0 x1 x2 y0 y1 y2, ceq kmE x0 y0 → x1 = y1 → KEL x2 y2 → KER (ceq kmE) (pKwRest d f x0 x1 x2) (pKwRest d f y0 y1 y2) := (kcaseF_all d f).pKwRest
theorem pKwBody_ke (d : Gen.D) (f : Nat) : ∀ x0 x1 x2 x3 y0 y1 y2 y3, x0 = y0 → x1 = y1 → ceq kmE x2 y2 → KEL x3 y3 → KEX (keOpt (ceq kmE)) (pKwBody d f x0 x1 x2 x3) (pKwBody d f y0 y1 y2 y3) := (kcaseF_all d f).pKwBody
theorem pBetween_ke (d : Gen.D) (f : Nat) : ∀ x0 x1 x2 y0 y1 y2, x0 = y0 → ceq kmE x1 y1 → KEL x2 y2 → KEX (keOpt (ceq kmE)) (pBetween d f x0 x1 x2) (pBetween d f y0 y1 y2) := (kcaseF_all d f).pBetween
theorem pInBody_ke (d : Gen.D) (f : Nat) : ∀ x0 x1 x2 y0 y1 y2, x0 = y0 → ceq kmE x1 y1 → KEL x2 y2 → KEX (keOpt (ceq kmE)) (pInBody d f x0 x1 x2) (pInBody d f y0 y1 y2) := (kcaseF_all d f).pInBody
theorem pSplit_ke (d : Gen.D) (f : Nat) : ∀ x0 x1 x2 y0 y1 y2, ceq (List.map kmE) x0 y0 → KEL x1 y1 → KEL x2 y2 → KEX (ceq (List.map kmE)) (pSplit d f x0 x1 x2) (pSplit d f y0 y1 y2) := (kcaseF_all d f).pSplit
theorem pCompare_ke (d : Gen.D) (f : Nat) : ∀ x0 y0, KEL x0 y0 → KER (ceq kmE) (pCompare d f x0) (pCompare d f y0) := (kcaseF_all d f).pCompare
theorem pCompareLoop_ke (d : Gen.D) (f : Nat) : ∀ x0 x1 y0 y1, ceq kmE x0 y0 → KEL x1 y1 → KER (ceq kmE) (pCompareLoop d f x0 x1) (pCompareLoop d f y0 y1) := (kcaseF_all d f).pCompareLoop
theorem pNot_ke (d : Gen.D) (f : Nat) : ∀ x0 y0, KEL x0 y0 → KER (ceq kmE) (pNot d f x0) (pNot d f y0) := (kcaseF_all d f).pNot
theorem pAnd_ke (d : Gen.D) (f : Nat) : ∀ x0 y0, KEL x0 y0 → KER (ceq kmE) (pAnd d f x0) (pAnd d f y0) := (kcaseF_all d f).pAnd
theorem pAndLoop_ke (d : Gen.D) (f : Nat) : ∀ x0 x1 y0 y1, ceq kmE x0 y0 → KEL x1 y1 → KER (ceq kmE) (pAndLoop d f x0 x1) (pAndLoop d f y0 y1) := (kcaseF_all d f).pAndLoop
theorem pXor_ke (d : Gen.D) (f : Nat) : ∀ x0 y0, KEL x0 y0 → KER (ceq kmE) (pXor d f x0) (pXor d f y0) := (kcaseF_all d f).pXor
theorem pXorLoop_ke (d : Gen.D) (f : Nat) : ∀ x0 x1 y0 y1, ceq kmE x0 y0 → KEL x1 y1 → KER (ceq kmE) (pXorLoop d f x0 x1) (pXorLoop d f y0 y1) := (kcaseF_all d f).pXorLoop
theorem pOr_ke (d : Gen.D) (f : Nat) : ∀ x0 y0, KEL x0 y0 → KER (ceq kmE) (pOr d f x0) (pOr d f y0) := (kcaseF_all d f).pOr
theorem pOrLoop_ke (d : Gen.D) (f : Nat) : ∀ x0 x1 y0 y1, ceq kmE x0 y0 → KEL x1 y1 → KER (ceq kmE) (pOrLoop d f x0 x1) (pOrLoop d f y0 y1) := (kcaseF_all d f).pOrLoop
theorem pSubQuery_ke (d : Gen.D) (f : Nat) : ∀ x0 y0, KEL x0 y0 → KER (ceq kmE) (pSubQuery d f x0) (pSubQuery d f y0) := (kcaseF_all d f).pSubQuery
theorem pCast_ke (d : Gen.D) (f : Nat) : ∀ x0 y0, KEL x0 y0 → KER (ceq kmE) (pCast d f x0) (pCast d f y0) := (kcaseF_all d f).pCast
theorem pExtract_ke (d : Gen.D) (f : Nat) : ∀ x0 y0, KEL x0 y0 → KER (ceq kmE) (pExtract d f x0) (pExtract d f y0) := (kcaseF_all d f).pExtract
theorem pExtractTail_ke (d : Gen.D) (f : Nat) : ∀ x0 x1 y0 y1, ceq kmE x0 y0 → KEL x1 y1 → KEX (ceq kmE) (pExtractTail d f x0 x1) (pExtractTail d f y0 y1) := (kcaseF_all d f).pExtractTail
theorem pWindow_ke (d : Gen.D) (f : Nat) : ∀ x0 y0, KEL x0 y0 → KER (ceq kmE) (pWindow d f x0) (pWindow d f y0) := (kcaseF_all d f).pWindow
theorem pWindowBody_ke (d : Gen.D) (f : Nat) : ∀ x0 x1 y0 y1, ceq kmE x0 y0 → KEL x1 y1 → KEX (ceq kmE) (pWindowBody d f x0 x1) (pWindowBody d f y0 y1) := (kcaseF_all d f).pWindowBody
theorem pPartitionBy_ke (d : Gen.D) (f : Nat) : ∀ x0 y0, KEL x0 y0 → KER (ceq (List.map kmE)) (pPartitionBy d f x0) (pPartitionBy d f y0) := (kcaseF_all d f).pPartitionBy
theorem pComputeList_ke (d : Gen.D) (f : Nat) : ∀ x0 x1 y0 y1, ceq (List.map kmE) x0 y0 → KEL x1 y1 → KER (ceq (List.map kmE)) (pComputeList d f x0 x1) (pComputeList d f y0 y1) := (kcaseF_all d f).pComputeList
theorem pOrderItem_ke (d : Gen.D) (f : Nat) : ∀ x0 y0, KEL x0 y0 → KER (ceq kmO) (pOrderItem d f x0) (pOrderItem d f y0) := (kcaseF_all d f).pOrderItem
theorem pOrderList_ke (d : Gen.D) (f : Nat) : ∀ x0 x1 y0 y1, ceq (List.map kmO) x0 y0 → KEL x1 y1 → KER (ceq (List.map kmO)) (pOrderList d f x0 x1) (pOrderList d f y0 y1) := (kcaseF_all d f).pOrderList
theorem pOrderByOpt_ke (d : Gen.D) (f : Nat) : ∀ x0 y0, KEL x0 y0 → KER (ceq (Option.map (List.map kmO))) (pOrderByOpt d f x0) (pOrderByOpt d f y0) := (kcaseF_all d f).pOrderByOpt
theorem pSelectCol_ke (d : Gen.D) (f : Nat) : ∀ x0 y0, KEL x0 y0 → KER (ceq (Prod.map kmE (Option.map km))) (pSelectCol d f x0) (pSelectCol d f y0) := (kcaseF_all d f).pSelectCol
theorem pSelectCols_ke (d : Gen.D) (f : Nat) : ∀ x0 x1 y0 y1, ceq (List.map (Prod.map kmE (Option.map km))) x0 y0 → KEL x1 y1 → KER (ceq (List.map (Prod.map kmE (Option.map km)))) (pSelectCols d f x0 x1) (pSelectCols d f y0 y1) := (kcaseF_all d f).pSelectCols
theorem pTableExpr_ke (d : Gen.D) (f : Nat) : ∀ x0 y0, KEL x0 y0 → KER (ceq kmTR) (pTableExpr d f x0) (pTableExpr d f y0) := (kcaseF_all d f).pTableExpr
theorem pFromTable_ke (d : Gen.D) (f : Nat) : ∀ x0 y0, KEL x0 y0 → KER (ceq kmFT) (pFromTable d f x0) (pFromTable d f y0) := (kcaseF_all d f).pFromTable
theorem pFromTables_ke (d : Gen.D) (f : Nat) : ∀ x0 x1 y0 y1, ceq (List.map kmFT) x0 y0 → KEL x1 y1 → KER (ceq (List.map kmFT)) (pFromTables d f x0 x1) (pFromTables d f y0 y1) := (kcaseF_all d f).pFromTables
theorem pJoin_ke (d : Gen.D) (f : Nat) : ∀ x0 y0, KEL x0 y0 → KER (ceq kmJ) (pJoin d f x0) (pJoin d f y0) := (kcaseF_all d f).pJoin
theorem pJoinRule_ke (d : Gen.D) (f : Nat) : ∀ x0 x1 x2 y0 y1 y2, ceq km x0 y0 → ceq kmFT x1 y1 → KEL x2 y2 → KER (ceq kmJ) (pJoinRule d f x0 x1 x2) (pJoinRule d f y0 y1 y2) := (kcaseF_all d f).pJoinRule
theorem pJoins_ke (d : Gen.D) (f : Nat) : ∀ x0 x1 x2 x3 y0 y1 y2 y3, x0 = y0 → KEL x1 y1 → ceq (List.map kmJ) x2 y2 → KEL x3 y3 → KER (ceq (List.map kmJ)) (pJoins d f x0 x1 x2 x3) (pJoins d f y0 y1 y2 y3) := (kcaseF_all d f).pJoins
theorem pOptOr_ke (d : Gen.D) (f : Nat) : ∀ x0 x1 y0 y1, x0 = y0 → KEL x1 y1 → KER (ceq (Option.map kmE)) (pOptOr d f x0 x1) (pOptOr d f y0 y1) := (kcaseF_all d f).pOptOr
theorem pGroupingElem_ke (d : Gen.D) (f : Nat) : ∀ x0 y0, KEL x0 y0 → KEX (ceq (List.map kmE)) (pGroupingElem d f x0) (pGroupingElem d f y0) := (kcaseF_all d f).pGroupingElem
theorem pClosedEach_ke (d : Gen.D) (f : Nat) : ∀ x0 x1 y0 y1, ceq (List.map kmE) x0 y0 → KELL x1 y1 → KEX (ceq (List.map kmE)) (pClosedEach d f x0 x1) (pClosedEach d f y0 y1) := (kcaseF_all d f).pClosedEach
theorem pGroupingElems_ke (d : Gen.D) (f : Nat) : ∀ x0 x1 y0 y1, ceq (List.map (List.map kmE)) x0 y0 → KELL x1 y1 → KEX (ceq (List.map (List.map kmE))) (pGroupingElems d f x0 x1) (pGroupingElems d f y0 y1) := (kcaseF_all d f).pGroupingElems
theorem pGroupingSets_ke (d : Gen.D) (f : Nat) : ∀ x0 y0, KEL x0 y0 → KER (ceq (List.map (List.map kmE))) (pGroupingSets d f x0) (pGroupingSets d f y0) := (kcaseF_all d f).pGroupingSets
theorem pGroupBy_ke (d : Gen.D) (f : Nat) : ∀ x0 y0, KEL x0 y0 → KER (ceq (Option.map kmG)) (pGroupBy d f x0) (pGroupBy d f y0) := (kcaseF_all d f).pGroupBy
theorem pGroupCols_ke (d : Gen.D) (f : Nat) : ∀ x0 y0, KEL x0 y0 → KER (ceq (List.map kmE)) (pGroupCols d f x0) (pGroupCols d f y0) := (kcaseF_all d f).pGroupCols
theorem pGroupSetsOpt_ke (d : Gen.D) (f : Nat) : ∀ x0 y0, KEL x0 y0 → KER (ceq (Option.map (List.map (List.map kmE)))) (pGroupSetsOpt d f x0) (pGroupSetsOpt d f y0) := (kcaseF_all d f).pGroupSetsOpt
theorem pWithTable_ke (d : Gen.D) (f : Nat) : ∀ x0 y0, KEL x0 y0 → KER (ceq kmW) (pWithTable d f x0) (pWithTable d f y0) := (kcaseF_all d f).pWithTable
theorem pWithBody_ke (d : Gen.D) (f : Nat) : ∀ x0 x1 y0 y1, ceq km x0 y0 → KEL x1 y1 → KER (ceq kmW) (pWithBody d f x0 x1) (pWithBody d f y0 y1) := (kcaseF_all d f).pWithBody
theorem pWithTables_ke (d : Gen.D) (f : Nat) : ∀ x0 x1 y0 y1, ceq (List.map kmW) x0 y0 → KEL x1 y1 → KER (ceq (List.map kmW)) (pWithTables d f x0 x1) (pWithTables d f y0 y1) := (kcaseF_all d f).pWithTables
theorem pWith_ke (d : Gen.D) (f : Nat) : ∀ x0 y0, KEL x0 y0 → KER (ceq (List.map kmW)) (pWith d f x0) (pWith d f y0) := (kcaseF_all d f).pWith
theorem pSelectBody_ke (d : Gen.D) (f : Nat) : ∀ x0 x1 x2 x3 y0 y1 y2 y3, ceq (List.map kmW) x0 y0 → x1 = y1 → KEL x2 y2 → KEL x3 y3 → KER (ceq kmS) (pSelectBody d f x0 x1 x2 x3) (pSelectBody d f y0 y1 y2 y3) := (kcaseF_all d f).pSelectBody
theorem pFromOpt_ke (d : Gen.D) (f : Nat) : ∀ x0 y0, KEL x0 y0 → KER (ceq (Option.map (List.map kmFT))) (pFromOpt d f x0) (pFromOpt d f y0) := (kcaseF_all d f).pFromOpt
theorem pSelectRest_ke (d : Gen.D) (f : Nat) : ∀ x0 x1 x2 x3 x4 x5 y0 y1 y2 y3 y4 y5, ceq (List.map kmW) x0 y0 → x1 = y1 → ceq (List.map (Prod.map kmE (Option.map km))) x2 y2 → x3 = y3 → KEL x4 y4 → KEL x5 y5 → KER (ceq kmS) (pSelectRest d f x0 x1 x2 x3 x4 x5) (pSelectRest d f y0 y1 y2 y3 y4 y5) := (kcaseF_all d f).pSelectRest
theorem pSelectTail_ke (d : Gen.D) (f : Nat) : ∀ x0 x1 x2 x3 x4 x5 x6 y0 y1 y2 y3 y4 y5 y6, ceq (List.map kmW) x0 y0 → x1 = y1 → ceq (List.map (Prod.map kmE (Option.map km))) x2 y2 → ceq (Option.map (List.map kmFT)) x3 y3 → ceq (List.map kmLat) x4 y4 → ceq (List.map kmJ) x5 y5 → KEL x6 y6 → KER (ceq kmS) (pSelectTail d f x0 x1 x2 x3 x4 x5 x6) (pSelectTail d f y0 y1 y2 y3 y4 y5 y6) := (kcaseF_all d f).pSelectTail
theorem pWhereGroup_ke (d : Gen.D) (f : Nat) : ∀ x0 y0, KEL x0 y0 → KER (ceq (Prod.map (Option.map kmE) (Option.map kmG))) (pWhereGroup d f x0) (pWhereGroup d f y0) := (kcaseF_all d f).pWhereGroup
theorem pHavingOrder_ke (d : Gen.D) (f : Nat) : ∀ x0 y0, KEL x0 y0 → KER (ceq (Prod.map (Option.map kmE) (Option.map (List.map kmO)))) (pHavingOrder d f x0) (pHavingOrder d f y0) := (kcaseF_all d f).pHavingOrder
theorem pHiveClauses_ke (d : Gen.D) (f : Nat) : ∀ x0 y0, KEL x0 y0 → KER (ceq (Prod.map (Option.map (List.map kmO)) (Prod.map (Option.map (List.map kmE)) (Option.map (List.map kmE))))) (pHiveClauses d f x0) (pHiveClauses d f y0) := (kcaseF_all d f).pHiveClauses
theorem pSortBy_ke (d : Gen.D) (f : Nat) : ∀ x0 y0, KEL x0 y0 → KER (ceq (Option.map (List.map kmO))) (pSortBy d f x0) (pSortBy d f y0) := (kcaseF_all d f).pSortBy
theorem pByList_ke (d : Gen.D) (f : Nat) : ∀ x0 x1 y0 y1, x0 = y0 → KEL x1 y1 → KER (ceq (Option.map (List.map kmE))) (pByList d f x0 x1) (pByList d f y0 y1) := (kcaseF_all d f).pByList
theorem pLateral_ke (d : Gen.D) (f : Nat) : ∀ x0 y0, KEL x0 y0 → KER (ceq kmLat) (pLateral d f x0) (pLateral d f y0) := (kcaseF_all d f).pLateral
theorem pLaterals_ke (d : Gen.D) (f : Nat) : ∀ x0 x1 x2 x3 y0 y1 y2 y3, x0 = y0 → KEL x1 y1 → ceq (List.map kmLat) x2 y2 → KEL x3 y3 → KER (ceq (List.map kmLat)) (pLaterals d f x0 x1 x2 x3) (pLaterals d f y0 y1 y2 y3) := (kcaseF_all d f).pLaterals
theorem pSingle_ke (d : Gen.D) (f : Nat) : ∀ x0 x1 y0 y1, ceq (List.map kmW) x0 y0 → KEL x1 y1 → KER (ceq kmS) (pSingle d f x0 x1) (pSingle d f y0 y1) := (kcaseF_all d f).pSingle
theorem pSingleParen_ke (d : Gen.D) (f : Nat) : ∀ x0 x1 x2 x3 y0 y1 y2 y3, ceq (List.map kmW) x0 y0 → KEL x1 y1 → KELL x2 y2 → KEL x3 y3 → KER (ceq kmS) (pSingleParen d f x0 x1 x2 x3) (pSingleParen d f y0 y1 y2 y3) := (kcaseF_all d f).pSingleParen
theorem pSelectStmt_ke (d : Gen.D) (f : Nat) : ∀ x0 x1 y0 y1, ceq (Option.map (List.map kmW)) x0 y0 → KEL x1 y1 → KER (ceq kmQ) (pSelectStmt d f x0 x1) (pSelectStmt d f y0 y1) := (kcaseF_all d f).pSelectStmt
theorem pUnions_ke (d : Gen.D) (f : Nat) : ∀ x0 x1 x2 y0 y1 y2, ceq (List.map kmW) x0 y0 → ceq (List.map (Prod.map km kmS)) x1 y1 → KEL x2 y2 → KER (ceq (List.map (Prod.map km kmS))) (pUnions d f x0 x1 x2) (pUnions d f y0 y1 y2) := (kcaseF_all d f).pUnions

theorem pop_ke : ∀ x0 y0, KEL x0 y0 → KER KE (pop x0) (pop y0) := by
  simp only [kel_eq, ker_eq]; exact Rel.pop_rel (T := kcaseT)

/-! ### the cursor primitives, the helpers outside the block and the DDL / DML parsers -/
theorem kmJR_map : kmJR = Rel.mapJR km := funext km_map.2.2.2.2.2.2.2.2.2.2.2.2.2.2.2.1
theorem closed_ke {α : Type} {rv : α → α → Prop} {a b : R α} (h : KER rv a b) : KEX rv (closed a) (closed b) := by
  rw [ker_eq] at h; rw [kex_eq]; exact Rel.closed_rel h
theorem eachClosed_ke {α β : Type} (f : α → β) (p p' : List Tok → R α) (hp : ∀ sg sg', KEL sg sg' → KER (ceq f) (p sg) (p' sg')) :
    ∀ segs segs', KELL segs segs' → KEX (ceq (List.map f)) (eachClosed p segs) (eachClosed p' segs') := by
  simp only [kel_eq, kell_eq, ker_eq, kex_eq, ceq_eq] at hp ⊢; exact Rel.eachClosed_rel (T := kcaseT) f p p' hp
theorem matchSeq_ke' {ts ts' : List Tok} (h : KEL ts ts') (ks : List String) : KER Eq (matchSeq ts ks) (matchSeq ts' ks) := by
  rw [kel_eq] at h; rw [ker_eq]; exact Rel.matchSeq_rel (T := kcaseT) h ks (all_plain_kcaseT ks)
theorem reduceWhile_ke (lvl : Nat) : ∀ (st st' : List (Expr × String × Nat)) (top top' : Expr), kmSt st = kmSt st' → kmE top = kmE top' →
    kmSt (reduceWhile lvl st top).1 = kmSt (reduceWhile lvl st' top').1 ∧ kmE (reduceWhile lvl st top).2 = kmE (reduceWhile lvl st' top').2 := by
  rw [kmSt_map, km_maps.E]; exact Rel.reduceWhile_rel (T := kcaseT) lvl
theorem collapse_ke : ∀ (st st' : List (Expr × String × Nat)) (top top' : Expr), kmSt st = kmSt st' → kmE top = kmE top' →
    kmE (collapse st top) = kmE (collapse st' top') := by
  rw [kmSt_map, km_maps.E]; exact Rel.collapse_rel (T := kcaseT)
theorem setWiths_ke {s s' : Select} (h : kmS s = kmS s') : kmS (setWiths s) = kmS (setWiths s') := by
  rw [km_maps.S] at h ⊢; exact Rel.setWiths_rel (T := kcaseT) h
theorem emptyCreate_ke (t t' : TableName) (b : Bool) (h : kmTN t = kmTN t') : kmCR (emptyCreate t b) = kmCR (emptyCreate t' b) := by
  rw [kmTN_map] at h; rw [kmCR_map]; exact Rel.emptyCreate_rel (T := kcaseT) t t' b h
theorem castTail_ke : ∀ x0 x1 y0 y1, ceq kmE x0 y0 → KEL x1 y1 → KEX (ceq kmE) (castTail x0 x1) (castTail y0 y1) := by
  simp only [kel_eq, kex_eq, ceq_eq, km_maps.E]; exact Rel.castTail_rel (T := kcaseT)
theorem headChildren_ke : ∀ x0 y0, KEL x0 y0 → KEX KEL (headChildren x0) (headChildren y0) := by
  simp only [kel_eq, kex_eq]; exact Rel.headChildren_rel (T := kcaseT)
theorem matchKw_ke : ∀ x0 x1 y0 y1, KEL x0 y0 → x1 = y1 → KER Eq (matchKw x0 x1) (matchKw y0 y1) := by
  simp only [kel_eq, ker_eq]; exact fun x0 x1 y0 y1 h e => e ▸ Rel.matchKw_rel (T := kcaseT) h x1 rfl
theorem optEqSrc_ke : ∀ x0 y0, KEL x0 y0 → KER (ceq km) (optEqSrc x0) (optEqSrc y0) := by
  simp only [kel_eq, ker_eq, ceq_eq]; exact Rel.optEqSrc_rel (T := kcaseT)
theorem orderTail_ke : ∀ x0 x1 y0 y1, ceq kmE x0 y0 → KEL x1 y1 → KER (ceq kmO) (orderTail x0 x1) (orderTail y0 y1) := by
  simp only [kel_eq, ker_eq, ceq_eq, km_maps.E, km_maps.O]; exact Rel.orderTail_rel (T := kcaseT)
theorem pAlias_ke : ∀ x0 y0, KEL x0 y0 → KER (ceq (Option.map km)) (pAlias x0) (pAlias y0) := by
  simp only [kel_eq, ker_eq, ceq_eq]; exact Rel.pAlias_rel (T := kcaseT)
theorem pAlterExpr_ke (d : Gen.D) (f : Nat) : ∀ x0 y0, KEL x0 y0 → KER (ceq kmAO) (pAlterExpr d f x0) (pAlterExpr d f y0) := by
  simp only [kel_eq, ker_eq, ceq_eq, kmAO_map]; exact Rel.pAlterExpr_rel (T := kcaseT) d f
theorem pAlter_ke (d : Gen.D) (f : Nat) : ∀ x0 y0, KEL x0 y0 → KER (ceq kmSt0) (pAlter d f x0) (pAlter d f y0) := by
  simp only [kel_eq, ker_eq, ceq_eq, kmSt0_map]; exact Rel.pAlter_rel (T := kcaseT) d f
theorem pAnalyze_ke (d : Gen.D) (f : Nat) : ∀ x0 y0, KEL x0 y0 → KER (ceq kmSt0) (pAnalyze d f x0) (pAnalyze d f y0) := by
  simp only [kel_eq, ker_eq, ceq_eq, kmSt0_map]; exact Rel.pAnalyze_rel (T := kcaseT) d f
theorem pCastDataType_ke : ∀ x0 y0, KEL x0 y0 → KER Eq (pCastDataType x0) (pCastDataType y0) := by
  simp only [kel_eq, ker_eq]; exact Rel.pCastDataType_rel (T := kcaseT)
theorem pColOrIdx_ke (d : Gen.D) (f : Nat) : ∀ x0 y0, KEL x0 y0 → KER (ceq kmCI) (pColOrIdx d f x0) (pColOrIdx d f y0) := by
  simp only [kel_eq, ker_eq, ceq_eq, kmCI_map]; exact Rel.pColOrIdx_rel (T := kcaseT) d f
theorem pColType_ke (d : Gen.D) (f : Nat) : ∀ x0 y0, KEL x0 y0 → KER (ceq kmCT) (pColType d f x0) (pColType d f y0) := by
  simp only [kel_eq, ker_eq, ceq_eq, kmCT_map]; exact Rel.pColType_rel (T := kcaseT) d f
theorem pColumnName_ke : ∀ x0 y0, KEL x0 y0 → KER (ceq (Prod.map (Option.map km) km)) (pColumnName x0) (pColumnName y0) := by
  simp only [kel_eq, ker_eq, ceq_eq]; exact Rel.pColumnName_rel (T := kcaseT)
theorem pCompareOp_ke : ∀ x0 y0, KEL x0 y0 → KER Eq (pCompareOp x0) (pCompareOp y0) := by
  simp only [kel_eq, ker_eq]; exact Rel.pCompareOp_rel (T := kcaseT)
theorem pComputeOp_ke : ∀ x0 y0, KEL x0 y0 → KER Eq (pComputeOp x0) (pComputeOp y0) := by
  simp only [kel_eq, ker_eq]; exact Rel.pComputeOp_rel (T := kcaseT)
theorem pConfigStrExpr_ke : ∀ x0 y0, KEL x0 y0 → KER (ceq kmCS) (pConfigStrExpr x0) (pConfigStrExpr y0) := by
  simp only [kel_eq, ker_eq, ceq_eq, kmCS_map]; exact Rel.pConfigStrExpr_rel (T := kcaseT)
theorem pCreateTable_ke (d : Gen.D) (f : Nat) : ∀ x0 y0, KEL x0 y0 → KER (ceq kmSt0) (pCreateTable d f x0) (pCreateTable d f y0) := by
  simp only [kel_eq, ker_eq, ceq_eq, kmSt0_map]; exact Rel.pCreateTable_rel (T := kcaseT) d f
theorem pDefCol_ke (d : Gen.D) (f : Nat) : ∀ x0 y0, KEL x0 y0 → KER (ceq kmDC) (pDefCol d f x0) (pDefCol d f y0) := by
  simp only [kel_eq, ker_eq, ceq_eq, kmDC_map]; exact Rel.pDefCol_rel (T := kcaseT) d f
theorem pDelete_ke (d : Gen.D) (f : Nat) : ∀ x0 y0, KEL x0 y0 → KER (ceq kmSt0) (pDelete d f x0) (pDelete d f y0) := by
  simp only [kel_eq, ker_eq, ceq_eq, kmSt0_map]; exact Rel.pDelete_rel (T := kcaseT) d f
theorem pDropTable_ke : ∀ x0 y0, KEL x0 y0 → KER (ceq kmSt0) (pDropTable x0) (pDropTable y0) := by
  simp only [kel_eq, ker_eq, ceq_eq, kmSt0_map]; exact Rel.pDropTable_rel (T := kcaseT)
theorem pForeignKey_ke : ∀ x0 y0, KEL x0 y0 → KER (ceq kmFK) (pForeignKey x0) (pForeignKey y0) := by
  simp only [kel_eq, ker_eq, ceq_eq, kmFK_map]; exact Rel.pForeignKey_rel (T := kcaseT)
theorem pFromClause_ke (d : Gen.D) (f : Nat) : ∀ x0 y0, KEL x0 y0 → KER (ceq (List.map kmFT)) (pFromClause d f x0) (pFromClause d f y0) := by
  simp only [kel_eq, ker_eq, ceq_eq, km_maps.FT]; exact Rel.pFromClause_rel (T := kcaseT) d f
theorem pFulltextIndex_ke : ∀ x0 y0, KEL x0 y0 → KER (ceq kmIx) (pFulltextIndex x0) (pFulltextIndex y0) := by
  simp only [kel_eq, ker_eq, ceq_eq, kmIx_map]; exact Rel.pFulltextIndex_rel (T := kcaseT)
theorem pFuncName_ke : ∀ x0 y0, KEL x0 y0 → KER Eq (pFuncName x0) (pFuncName y0) := by
  simp only [kel_eq, ker_eq]; exact Rel.pFuncName_rel (T := kcaseT)
theorem pIndexCol_ke : ∀ x0 y0, KEL x0 y0 → KER (ceq kmIC) (pIndexCol x0) (pIndexCol y0) := by
  simp only [kel_eq, ker_eq, ceq_eq, kmIC_map]; exact Rel.pIndexCol_rel (T := kcaseT)
theorem pInsertType_ke : ∀ x0 y0, KEL x0 y0 → KER (ceq km) (pInsertType x0) (pInsertType y0) := by
  simp only [kel_eq, ker_eq, ceq_eq]; exact Rel.pInsertType_rel (T := kcaseT)
theorem pInsert_ke (d : Gen.D) (f : Nat) : ∀ x0 x1 y0 y1, ceq (Option.map (List.map kmW)) x0 y0 → KEL x1 y1 → KER (ceq kmSt0) (pInsert d f x0 x1) (pInsert d f y0 y1) := by
  simp only [kel_eq, ker_eq, ceq_eq, km_maps.W, kmSt0_map]; exact Rel.pInsert_rel (T := kcaseT) d f
theorem pJoinExpr_ke (d : Gen.D) (f : Nat) : ∀ x0 y0, KEL x0 y0 → KER (ceq kmJR) (pJoinExpr d f x0) (pJoinExpr d f y0) := by
  simp only [kel_eq, ker_eq, ceq_eq, kmJR_map]; exact Rel.pJoinExpr_rel (T := kcaseT) d f
theorem pJoinOn_ke (d : Gen.D) (f : Nat) : ∀ x0 y0, KEL x0 y0 → KER (ceq kmJR) (pJoinOn d f x0) (pJoinOn d f y0) := by
  simp only [kel_eq, ker_eq, ceq_eq, kmJR_map]; exact Rel.pJoinOn_rel (T := kcaseT) d f
theorem pJoinType_ke : ∀ x0 y0, KEL x0 y0 → KER Eq (pJoinType x0) (pJoinType y0) := by
  simp only [kel_eq, ker_eq]; exact Rel.pJoinType_rel (T := kcaseT)
theorem pJoinUsing_ke (d : Gen.D) (f : Nat) : ∀ x0 y0, KEL x0 y0 → KER (ceq kmJR) (pJoinUsing d f x0) (pJoinUsing d f y0) := by
  simp only [kel_eq, ker_eq, ceq_eq, kmJR_map]; exact Rel.pJoinUsing_rel (T := kcaseT) d f
theorem pLimit_ke : ∀ x0 y0, KEL x0 y0 → KER Eq (pLimit x0) (pLimit y0) := by
  simp only [kel_eq, ker_eq]; exact Rel.pLimit_rel (T := kcaseT)
theorem pMsck_ke : ∀ x0 y0, KEL x0 y0 → KER (ceq kmSt0) (pMsck x0) (pMsck y0) := by
  simp only [kel_eq, ker_eq, ceq_eq, kmSt0_map]; exact Rel.pMsck_rel (T := kcaseT)
theorem pMultiAlias_ke : ∀ x0 y0, KEL x0 y0 → KER (ceq (List.map km)) (pMultiAlias x0) (pMultiAlias y0) := by
  simp only [kel_eq, ker_eq, ceq_eq]; exact Rel.pMultiAlias_rel (T := kcaseT)
theorem pNormalIndex_ke : ∀ x0 y0, KEL x0 y0 → KER (ceq kmIx) (pNormalIndex x0) (pNormalIndex y0) := by
  simp only [kel_eq, ker_eq, ceq_eq, kmIx_map]; exact Rel.pNormalIndex_rel (T := kcaseT)
theorem pOptPartition_ke (d : Gen.D) (f : Nat) : ∀ x0 y0, KEL x0 y0 → KER (ceq (Option.map (List.map kmE))) (pOptPartition d f x0) (pOptPartition d f y0) := by
  simp only [kel_eq, ker_eq, ceq_eq, km_maps.E]; exact Rel.pOptPartition_rel (T := kcaseT) d f
theorem pOrderType_ke : ∀ x0 y0, KEL x0 y0 → KER Eq (pOrderType x0) (pOrderType y0) := by
  simp only [kel_eq, ker_eq]; exact Rel.pOrderType_rel (T := kcaseT)
theorem pPartition_ke (d : Gen.D) (f : Nat) : ∀ x0 x1 y0 y1, x0 = y0 → KEL x1 y1 → KER (ceq (List.map kmE)) (pPartition d f x0 x1) (pPartition d f y0 y1) := by
  simp only [kel_eq, ker_eq, ceq_eq, km_maps.E]; exact Rel.pPartition_rel (T := kcaseT) d f
theorem pPrimaryIndex_ke : ∀ x0 y0, KEL x0 y0 → KER (ceq kmIx) (pPrimaryIndex x0) (pPrimaryIndex y0) := by
  simp only [kel_eq, ker_eq, ceq_eq, kmIx_map]; exact Rel.pPrimaryIndex_rel (T := kcaseT)
theorem pRowItem_ke : ∀ x0 y0, KEL x0 y0 → KER Eq (pRowItem x0) (pRowItem y0) := by
  simp only [kel_eq, ker_eq]; exact Rel.pRowItem_rel (T := kcaseT)
theorem pSelectClause_ke (d : Gen.D) (f : Nat) : ∀ x0 y0, KEL x0 y0 →
    KER (ceq (Prod.map id (List.map (Prod.map kmE (Option.map km))))) (pSelectClause d f x0) (pSelectClause d f y0) := by
  simp only [kel_eq, ker_eq, ceq_eq, km_maps.E]; exact Rel.pSelectClause_rel (T := kcaseT) d f
theorem pSet_ke : ∀ x0 y0, KEL x0 y0 → KER (ceq kmSt0) (pSet x0) (pSet y0) := by
  simp only [kel_eq, ker_eq, ceq_eq, kmSt0_map]; exact Rel.pSet_rel (T := kcaseT)
theorem pShowColumns_ke (d : Gen.D) (f : Nat) : ∀ x0 y0, KEL x0 y0 → KER (ceq kmSt0) (pShowColumns d f x0) (pShowColumns d f y0) := by
  simp only [kel_eq, ker_eq, ceq_eq, kmSt0_map]; exact Rel.pShowColumns_rel (T := kcaseT) d f
theorem pSubValue_ke (d : Gen.D) (f : Nat) : ∀ x0 y0, KEL x0 y0 → KER (ceq kmE) (pSubValue d f x0) (pSubValue d f y0) := by
  simp only [kel_eq, ker_eq, ceq_eq, km_maps.E]; exact Rel.pSubValue_rel (T := kcaseT) d f
theorem pTableName_ke : ∀ x0 y0, KEL x0 y0 → KER (ceq kmTR) (pTableName x0) (pTableName y0) := by
  simp only [kel_eq, ker_eq, ceq_eq, km_maps.TR]; exact Rel.pTableName_rel (T := kcaseT)
theorem pTblName_ke : ∀ x0 y0, KEL x0 y0 → KER (ceq kmTN) (pTblName x0) (pTblName y0) := by
  simp only [kel_eq, ker_eq, ceq_eq, kmTN_map]; exact Rel.pTblName_rel (T := kcaseT)
theorem pTruncate_ke : ∀ x0 y0, KEL x0 y0 → KER (ceq kmSt0) (pTruncate x0) (pTruncate y0) := by
  simp only [kel_eq, ker_eq, ceq_eq, kmSt0_map]; exact Rel.pTruncate_rel (T := kcaseT)
theorem pUnionType_ke : ∀ x0 y0, KEL x0 y0 → KER Eq (pUnionType x0) (pUnionType y0) := by
  simp only [kel_eq, ker_eq]; exact Rel.pUnionType_rel (T := kcaseT)
theorem pUniqueIndex_ke : ∀ x0 y0, KEL x0 y0 → KER (ceq kmIx) (pUniqueIndex x0) (pUniqueIndex y0) := by
  simp only [kel_eq, ker_eq, ceq_eq, kmIx_map]; exact Rel.pUniqueIndex_rel (T := kcaseT)
theorem pUpdateSetCol_ke (d : Gen.D) (f : Nat) : ∀ x0 y0, KEL x0 y0 → KER (ceq (Prod.map km kmE)) (pUpdateSetCol d f x0) (pUpdateSetCol d f y0) := by
  simp only [kel_eq, ker_eq, ceq_eq, km_maps.E]; exact Rel.pUpdateSetCol_rel (T := kcaseT) d f
theorem pUpdateSet_ke (d : Gen.D) (f : Nat) : ∀ x0 y0, KEL x0 y0 → KER (ceq (List.map (Prod.map km kmE))) (pUpdateSet d f x0) (pUpdateSet d f y0) := by
  simp only [kel_eq, ker_eq, ceq_eq, km_maps.E]; exact Rel.pUpdateSet_rel (T := kcaseT) d f
theorem pUpdate_ke (d : Gen.D) (f : Nat) : ∀ x0 x1 y0 y1, ceq (Option.map (List.map kmW)) x0 y0 → KEL x1 y1 → KER (ceq kmSt0) (pUpdate d f x0 x1) (pUpdate d f y0 y1) := by
  simp only [kel_eq, ker_eq, ceq_eq, km_maps.W, kmSt0_map]; exact Rel.pUpdate_rel (T := kcaseT) d f
theorem pUse_ke : ∀ x0 y0, KEL x0 y0 → KER (ceq kmSt0) (pUse x0) (pUse y0) := by
  simp only [kel_eq, ker_eq, ceq_eq, kmSt0_map]; exact Rel.pUse_rel (T := kcaseT)
theorem pWhereOrderLimit_ke (d : Gen.D) (f : Nat) : ∀ x0 y0, KEL x0 y0 → KER (ceq (Prod.map (Option.map kmE) (Prod.map (Option.map (List.map kmO)) id))) (pWhereOrderLimit d f x0) (pWhereOrderLimit d f y0) := by
  simp only [kel_eq, ker_eq, ceq_eq, km_maps.E, km_maps.O]; exact Rel.pWhereOrderLimit_rel (T := kcaseT) d f
theorem pWildcard_ke : ∀ x0 y0, KEL x0 y0 → KER (ceq (Option.map km)) (pWildcard x0) (pWildcard y0) := by
  simp only [kel_eq, ker_eq, ceq_eq]; exact Rel.pWildcard_rel (T := kcaseT)
theorem pWindowRow_ke : ∀ x0 y0, KEL x0 y0 → KER Eq (pWindowRow x0) (pWindowRow y0) := by
  simp only [kel_eq, ker_eq]; exact Rel.pWindowRow_rel (T := kcaseT)
theorem popInt_ke : ∀ x0 y0, KEL x0 y0 → KER Eq (popInt x0) (popInt y0) := by
  simp only [kel_eq, ker_eq]; exact Rel.popInt_rel (T := kcaseT)
theorem popSplit_ke : ∀ x0 y0, KEL x0 y0 → KER KELL (popSplit x0) (popSplit y0) := by
  simp only [kel_eq, kell_eq, ker_eq]; exact Rel.popSplit_rel (T := kcaseT)
theorem popSrc_ke : ∀ x0 y0, KEL x0 y0 → KER (ceq km) (popSrc x0) (popSrc y0) := by
  simp only [kel_eq, ker_eq, ceq_eq]; exact Rel.popSrc_rel (T := kcaseT)

/-! ### the statement level -/
theorem pStatement_ke (d : Gen.D) (f : Nat) : ∀ x0 y0, KEL x0 y0 → KER (ceq kmSt0) (pStatement d f x0) (pStatement d f y0) := by
  simp only [kel_eq, ker_eq, ceq_eq, kmSt0_map]; exact Rel.pStatement_rel (T := kcaseT) d f
theorem statementsLoop_ke (d : Gen.D) (f : Nat) : ∀ x0 x1 x2 y0 y1 y2, x0 = y0 → ceq (List.map kmSt0) x1 y1 → KEL x2 y2 → KEX (ceq (List.map kmSt0)) (statementsLoop d f x0 x1 x2) (statementsLoop d f y0 y1 y2) := by
  simp only [kel_eq, kex_eq, ceq_eq, kmSt0_map]; exact Rel.statementsLoop_rel (T := kcaseT) d f
theorem pStatements_ke (d : Gen.D) (f : Nat) : ∀ x0 y0, KEL x0 y0 → KEX (ceq (List.map kmSt0)) (pStatements d f x0) (pStatements d f y0) := by
  simp only [kel_eq, kex_eq, ceq_eq, kmSt0_map]; exact Rel.pStatements_rel (T := kcaseT) d f

end PM
