import MsqProofs.Lemmas.LexLinkPrint
import MsqProofs.Lemmas.TSelect0
/-!
# The lexer link for the single SELECT, lexer side

What the SELECT printer emits beyond expressions: the line break between clauses (dropped like a blank), the comma of
lists (`a, b`: directly after a token, followed by a blank) — each a gap `LxAny` put between two texts by `Lx.cat` —, the clause keywords (`lx_cw`, from the table obligation
`clause_words_lex`) and the words of every join type of `Gen.joinTypes` (plain words: `lx_kwd`, `join_words_plainL`), bare aliases (plain names: also those beginning with `b B x X`,
which the lexer first suspects to be a bit / hex literal), back-quoted table names, the decimal numerals of `LIMIT`.
-/
namespace LexLink
open Lex Spec C05 C06 C09 Ast TP TS

theorem gap_nl : LxAny ['\n'] [] := fun T pre rest f fs _ _ => by
  have : runTail Gen.cfgS T ('\n' :: rest) ⟨pre.length, pre.length, .WAIT, f :: fs⟩ =
      runTail Gen.cfgS T rest ⟨pre.length + 1, pre.length + 1, .WAIT, f :: fs⟩ := by
    rw [runTail_cons_wait, handle_skip shipped_code (m := ⟨pre.length, pre.length, .WAIT, f :: fs⟩) wait_newline]
    rfl
  simpa using this

theorem wmL_comma : wmL [','] = 0 := by decide +kernel

theorem commaTok_eq : commaTok = .single [','] 0 := by
  simp only [commaTok, opTok_eq]
  have : (",": String).toList = [','] := rfl
  rw [this, wmL_comma]

theorem gap_comma : LxAny [','] [commaTok] :=
  commaTok_eq ▸ LxAny.of_feed (feed_of_complete (ur := []) rfl (Or.inr ⟨look (by decide +kernel), rfl⟩))

theorem lx_nil : Lx [] [] := fun _ _ _ _ _ _ _ => by simp

/-- a blank before a text; `Lx.nl`: a line break before it; `Lx.trail`, `Lx.nlTrail`: the same after it -/
theorem Lx.blank {b : List Char} {tb : List Tok} (hb : Lx b tb) : Lx (' ' :: b) tb := LxD.append gap_blank hb fun _ _ => trivial
theorem Lx.nl {b : List Char} {tb : List Tok} (hb : Lx b tb) : Lx ('\n' :: b) tb := LxD.append gap_nl hb fun _ _ => trivial
theorem Lx.trail {a : List Char} {ta : List Tok} (ha : Lx a ta) : Lx (a ++ [' ']) ta :=
  List.append_nil ta ▸ LxD.append ha gap_blank.lx fun _ _ => delim_hd (.inl rfl)
theorem Lx.nlTrail {a : List Char} {ta : List Tok} (ha : Lx a ta) : Lx (a ++ ['\n']) ta :=
  List.append_nil ta ▸ LxD.append ha gap_nl.lx fun _ _ => delim_hd (.inr (.inr (.inr rfl)))

theorem Lx.line {a b : List Char} {ta tb : List Tok} (ha : Lx a ta) (hb : Lx b tb) : Lx (a ++ '\n' :: b) (ta ++ tb) :=
  Lx.cat ha gap_nl (fun _ => delim_hd (.inr (.inr (.inr rfl)))) hb

theorem Lx.comma0 {a b : List Char} {ta tb : List Tok} (ha : Lx a ta) (hb : Lx b tb) :
    Lx (a ++ ',' :: b) (ta ++ commaTok :: tb) :=
  Lx.cat ha gap_comma (fun _ => delim_hd (.inr (.inr (.inl rfl)))) hb

theorem Lx.comma {a b : List Char} {ta tb : List Tok} (ha : Lx a ta) (hb : Lx b tb) :
    Lx (a ++ ',' :: ' ' :: b) (ta ++ commaTok :: tb) := Lx.comma0 ha hb.blank

def alnumU (c : Char) : Bool := c.isAlphanum || c == '_'
/-- `PR.isPlainName` on character lists -/
def plainL : List Char → Bool
  | [] => false
  | c :: r => (c.isAlpha || c == '_') && r.all alnumU

def alnumN (n : Nat) : Bool :=
  (Nat.ble 65 n && Nat.ble n 90) || (Nat.ble 97 n && Nat.ble n 122) || (Nat.ble 48 n && Nat.ble n 57) || Nat.beq n 95

theorem alnumU_code (c : Char) (h : alnumU c = true) : alnumN c.toNat = true ∧ c.toNat < 128 := by
  have key : (65 ≤ c.toNat ∧ c.toNat ≤ 90) ∨ (97 ≤ c.toNat ∧ c.toNat ≤ 122) ∨ (48 ≤ c.toNat ∧ c.toNat ≤ 57) ∨ c.toNat = 95 := by
    simp only [alnumU, Char.isAlphanum, Char.isAlpha, Char.isUpper, Char.isLower, Char.isDigit, Bool.or_eq_true, Bool.and_eq_true,
      decide_eq_true_eq, ge_iff_le, UInt32.le_iff_toNat_le, beq_iff_eq] at h
    simp only [Char.toNat]
    rcases h with ((h | h) | h) | h
    · exact Or.inl h
    · exact Or.inr (Or.inl h)
    · exact Or.inr (Or.inr (Or.inl h))
    · subst h; exact Or.inr (Or.inr (Or.inr rfl))
  constructor
  · simp only [alnumN, Bool.or_eq_true, Bool.and_eq_true, Nat.ble_eq, Nat.beq_eq]
    rcases key with h | h | h | h
    · exact Or.inl (Or.inl (Or.inl h))
    · exact Or.inl (Or.inl (Or.inr h))
    · exact Or.inl (Or.inr h)
    · exact Or.inr h
  · omega

theorem alphaU_code (c : Char) (h : (c.isAlpha || c == '_') = true) :
    (65 ≤ c.toNat ∧ c.toNat ≤ 90) ∨ (97 ≤ c.toNat ∧ c.toNat ≤ 122) ∨ c.toNat = 95 := by
  simp only [Char.isAlpha, Char.isUpper, Char.isLower, Bool.or_eq_true, Bool.and_eq_true,
    decide_eq_true_eq, ge_iff_le, UInt32.le_iff_toNat_le, beq_iff_eq] at h
  simp only [Char.toNat]
  rcases h with (h | h) | h
  · exact Or.inl h
  · exact Or.inr (Or.inl h)
  · subst h; exact Or.inr (Or.inr rfl)

/-- facts about all of `[A-Za-z0-9_]`, decided below 128 -/
theorem alnum_facts : ∀ n, n < 128 → alnumN n = true →
    isWordChar n = true ∧ cellD 7 .AFTER_B n = some (addTo .IN_WORD) ∧ cellD 7 .AFTER_X n = some (addTo .IN_WORD) := by
  decide +kernel

theorem alnum_wordChar (c : Char) (h : alnumU c = true) : wordChar c = true :=
  (alnum_facts c.toNat (alnumU_code c h).2 (alnumU_code c h).1).1

theorem plainL_head (c : Char) (h : (c.isAlpha || c == '_') = true) : alnumU c = true := by
  simp only [alnumU, Char.isAlphanum, Bool.or_eq_true] at h ⊢
  rcases h with h | h
  · exact Or.inl (Or.inl h)
  · exact Or.inr h

theorem wordMark_alpha (l : List Char) (h : l.head?.any (fun c => c.isAlpha || c == '_') = true) : C05.wordMark l = wmL l := by
  cases hf : Gen.wordMarks.find? (fun e => e.1.toList == Gen.pyUpper l) with
  | some p => exact wordMark_found l (by rw [hf]; rfl)
  | none =>
    simp only [C05.wordMark, resolveMarks, wmL]
    show (match Gen.wordMarks.find? (fun e => e.1.toList == Gen.pyUpper l) with | some e => e.2 | none => _) = _
    rw [hf]
    simp [h]

/-- the one-letter names `b B x X` are pending in `AFTER_B` / `AFTER_X`: they may still begin a bit / hex literal -/
theorem bx_path (c : Char) (hc : c = 'b' ∨ c = 'B' ∨ c = 'x' ∨ c = 'X') :
    ∃ p, (p = S.AFTER_B ∨ p = S.AFTER_X) ∧ addPath Gen.cfgS .WAIT [c] = some p := by
  rcases hc with rfl | rfl | rfl | rfl
  · exact ⟨.AFTER_B, Or.inl rfl, by decide +kernel⟩
  · exact ⟨.AFTER_B, Or.inl rfl, by decide +kernel⟩
  · exact ⟨.AFTER_X, Or.inr rfl, by decide +kernel⟩
  · exact ⟨.AFTER_X, Or.inr rfl, by decide +kernel⟩

theorem lx_bx (c : Char) (hc : c = 'b' ∨ c = 'B' ∨ c = 'x' ∨ c = 'X') : Lx [c] [.single [c] Gen.mark_NAME] := by
  obtain ⟨p, hpp, hap⟩ := bx_path c hc
  refine lx_of_pending ⟨p, hap, fun d hdd => ⟨emitBefore mName, ?_, rfl, rfl⟩, emitAtEnd mName, ?_, rfl, rfl⟩
  · rcases hpp with rfl | rfl <;> rcases hdd with rfl | rfl | rfl | rfl <;> exact look (by decide +kernel)
  · rcases hpp with rfl | rfl <;> exact lookEnd (by decide +kernel)

theorem wmL_bx : wmL ['b'] = Gen.mark_NAME ∧ wmL ['B'] = Gen.mark_NAME ∧ wmL ['x'] = Gen.mark_NAME ∧ wmL ['X'] = Gen.mark_NAME := by
  decide +kernel

theorem wordMark_plain (a : List Char) (h : plainL a = true) : C05.wordMark a = wmL a := by
  cases a with
  | nil => cases h
  | cons c r =>
    simp only [plainL, Bool.and_eq_true] at h
    exact wordMark_alpha (c :: r) (by simpa using h.1)

theorem wmL_of_bx {c : Char} (hbx : c = 'b' ∨ c = 'B' ∨ c = 'x' ∨ c = 'X') : wmL [c] = Gen.mark_NAME := by
  rcases hbx with rfl | rfl | rfl | rfl
  · exact wmL_bx.1
  · exact wmL_bx.2.1
  · exact wmL_bx.2.2.1
  · exact wmL_bx.2.2.2

theorem alpha_not_digit (c : Char) (h : (c.isAlpha || c == '_') = true) : c.isDigit = false := by
  have hr := alphaU_code c h
  have h0 : '0'.toNat = 48 := by decide
  have h9 : '9'.toNat = 57 := by decide
  rw [charIsDigit]
  cases hd : isDigit c.toNat with
  | false => rfl
  | true =>
    simp only [isDigit, between, Bool.and_eq_true, Nat.ble_eq, h0, h9] at hd
    omega


/-- a plain name read from between tokens is pending in `IN_WORD` — unless it is one of the lone letters `b B x X`, which
may still begin a bit / hex literal -/
theorem plain_path (a : List Char) (h : plainL a = true) :
    addPath Gen.cfgS .WAIT a = some .IN_WORD ∨ ∃ c, a = [c] ∧ (c = 'b' ∨ c = 'B' ∨ c = 'x' ∨ c = 'X') := by
  cases a with
  | nil => cases h
  | cons c r =>
    simp only [plainL, Bool.and_eq_true, List.all_eq_true] at h
    by_cases hbx : c = 'b' ∨ c = 'B' ∨ c = 'x' ∨ c = 'X'
    · cases r with
      | nil => exact .inr ⟨c, rfl, hbx⟩
      | cons y r' =>
        left
        have hp : ∃ p, (p = S.AFTER_B ∨ p = S.AFTER_X) ∧ Gen.cfgS.lookup .WAIT (.ch c) = some (addTo p) := by
          rcases hbx with rfl | rfl | rfl | rfl
          · exact ⟨.AFTER_B, Or.inl rfl, look (by decide +kernel)⟩
          · exact ⟨.AFTER_B, Or.inl rfl, look (by decide +kernel)⟩
          · exact ⟨.AFTER_X, Or.inr rfl, look (by decide +kernel)⟩
          · exact ⟨.AFTER_X, Or.inr rfl, look (by decide +kernel)⟩
        obtain ⟨p, hpp, hl1⟩ := hp
        have hy := alnumU_code y (h.2 y (by simp))
        have hf := alnum_facts y.toNat hy.2 hy.1
        have hl2 : Gen.cfgS.lookup p (.ch y) = some (addTo .IN_WORD) := by
          rcases hpp with rfl | rfl
          · exact look hf.2.1
          · exact look hf.2.2
        rw [addPath_cons hl1, addPath_cons hl2]
        exact addPath_loop word_next r' fun x hx => alnum_wordChar x (h.2 x (by simp [hx]))
    · -- an ordinary word
      left
      have hsw : startsWord c = true := by
        have hc := alnumU_code c (plainL_head c h.1)
        have hwc := (alnum_facts c.toNat hc.2 hc.1).1
        have hnd : isDigit c.toNat = false := charIsDigit c ▸ alpha_not_digit c h.1
        have hnb : isBitPrefix c.toNat = false ∧ isHexPrefix c.toNat = false := by
          simp only [isBitPrefix, isHexPrefix, isCh_toNat, Bool.or_eq_false_iff, decide_eq_false_iff_not]
          exact ⟨⟨fun e => hbx (Or.inl e), fun e => hbx (Or.inr (Or.inl e))⟩,
            ⟨fun e => hbx (Or.inr (Or.inr (Or.inl e))), fun e => hbx (Or.inr (Or.inr (Or.inr e)))⟩⟩
        simp [startsWord, hwc, hnd, hnb.1, hnb.2]
      exact word_path (c :: r) (by
        simp only [isWord, Bool.and_eq_true, List.all_eq_true]
        exact ⟨hsw, fun x hx => alnum_wordChar x (h.2 x hx)⟩)

theorem lx_plain (a : List Char) (h : plainL a = true) : Lx a [.single a (wmL a)] := by
  rcases plain_path a h with hp | ⟨c, rfl, hbx⟩
  · rw [← wordMark_plain a h]; exact lx_of_inword a hp
  · rw [wmL_of_bx hbx]; exact lx_bx c hbx

/-! ## clause keywords; a keyword is a plain word

Closed words reach `Lx` in two ways.  By `lxIs`, decided on the lexer table for a whole list (`*_words_lex` with `lx_kw`, `lx_cw`, `lx_qw`, `lx_dw`:
`keywords`, `clauseWords`, `queryWords`, `dmlWords`) — the only way for the entries that are not words (`*`, `=`).  Or as plain words, by `lx_kwd`
from a `*_plainL` fact about the list (the join, union, insert, cast, DDL and rest-of-statement word tables: `lx_w`, `lx_w2`). -/

def clauseWords : List String :=
  ["SELECT", "DISTINCT", "FROM", "ON", "WHERE", "GROUP", "BY", "HAVING", "ORDER", "DESC", "LIMIT", "AS"]

theorem lx_kwd {k : String} (h : plainL k.toList = true) : Lx k.toList [opTok k] := by
  rw [opTok_eq]; exact lx_plain _ h

/-- table obligations: the clause keywords and every word of every join-type phrase of the regenerated table, on the lexer table -/
theorem clause_words_lex : clauseWords.all (fun k => lxIs k.toList (ctok k.toList)) = true := by decide +kernel
theorem join_words_lex : Gen.joinTypes.all (fun e => e.2.all fun w => lxIs w.toList (ctok w.toList)) = true := by
  decide +kernel
theorem join_words_plainL : Gen.joinTypes.all (fun e => e.2.all fun w => plainL w.toList) = true := by decide +kernel

theorem lx_cw (k : String) (hk : k ∈ clauseWords) : Lx k.toList [opTok k] := by
  rw [opTok_eq]; exact lx_of_is ((List.all_eq_true.mp clause_words_lex) k hk)

theorem lx_numeral (v : String) (hne : v.toList ≠ []) (hd : ∀ x ∈ v.toList, isDigit x.toNat = true) : Lx v.toList [litTok v] :=
  litTok_digits v hne hd ▸ lx_int v.toList hne hd

theorem toString_nonneg (n : Int) (h : 0 ≤ n) :
    (toString n).toList ≠ [] ∧ ∀ x ∈ (toString n).toList, isDigit x.toNat = true := by
  obtain ⟨m, rfl⟩ := Int.eq_ofNat_of_zero_le h
  have e : toString (m : Int) = m.repr := rfl
  rw [e, Nat.toList_repr]
  exact ⟨Nat.toDigits_ne_nil, fun x hx => by rw [← charIsDigit]; exact Nat.isDigit_of_mem_toDigits (by decide) (by decide) hx⟩

theorem lx_intTok (n : Int) (h : 0 ≤ n) : Lx (toString n).toList [intTok n] :=
  lx_numeral (toString n) (toString_nonneg n h).1 (toString_nonneg n h).2

end LexLink
