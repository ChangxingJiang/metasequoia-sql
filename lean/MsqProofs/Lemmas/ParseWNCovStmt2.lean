import MsqProofs.Lemmas.ParseWNCovStmt
/-!
# C02 at the statement level, part 2: CREATE TABLE, ALTER TABLE, ANALYZE, SHOW COLUMNS, the statement dispatch and the statement loop
-/
open Lex
namespace WNG
open PM Ast
variable {d : Gen.D} {f : Nat}

/-- coverage of the column definitions of a CREATE TABLE under construction -/
def CovCreate (d : Gen.D) (T : List Tok) (c : CreateTable) : Prop :=
  (∀ col ∈ c.columns, CovDC d T col) ∧ (∀ col ∈ c.partitionedBy, CovDC d T col)
theorem CovCreate.covL {T : List Tok} {c : CreateTable} (h : CovCreate d T c) : CovL d T (exprsCreate c) :=
  CovL.append (CovL.flatMap fun a ha => (h.1 a ha).covL) (CovL.flatMap fun a ha => (h.2 a ha).covL)

theorem cv_createElems {T : List Tok} : ∀ (segs : List (List Tok)) (c v : CreateTable), (∀ sg ∈ segs, Sub T sg) → CovCreate d T c →
    createElems d f segs c = .ok v → CovCreate d T v := by
  intro segs
  induction segs with
  | nil => intro c v _ hc h; simp only [createElems, Except.ok.injEq] at h; exact h ▸ hc
  | cons sg rest ih =>
    intro c v hss hc h
    have hr : ∀ s ∈ rest, Sub T s := fun s hm => hss s (by simp [hm])
    unfold createElems at h
    peel_if h with hcnd
    · split at h
      · refine ih _ v hr ?_ h; exact ⟨hc.1, hc.2⟩
      · cases h
    peel_if h with hcnd
    · split at h
      · refine ih _ v hr ?_ h; exact ⟨hc.1, hc.2⟩
      · cases h
    peel_if h with hcnd
    · split at h
      · refine ih _ v hr ?_ h; exact ⟨hc.1, hc.2⟩
      · cases h
    peel_if h with hcnd
    · split at h
      · refine ih _ v hr ?_ h; exact ⟨hc.1, hc.2⟩
      · cases h
    peel_if h with hcnd
    · split at h
      · refine ih _ v hr ?_ h; exact ⟨hc.1, hc.2⟩
      · cases h
    · split at h
      · rename_i col hcol
        rw [closed_ok] at hcol
        have hdc := cv_pDefCol (hss sg (by simp)) hcol
        refine ih _ v hr ?_ h
        refine ⟨?_, hc.2⟩
        intro x hx
        simp only [List.mem_append, List.mem_cons, List.not_mem_nil, or_false] at hx
        rcases hx with hx | rfl
        · exact hc.1 x hx
        · exact hdc
      · cases h

theorem cv_createOpts {T : List Tok} : ∀ (g : Nat) (c : CreateTable) (ts : List Tok) (v : CreateTable) (r : List Tok), Sub T ts →
    CovCreate d T c → createOpts d f g c ts = .ok (v, r) → CovCreate d T v := by
  intro g
  induction g with
  | zero => intro c ts v r _ _ h; simp [createOpts] at h
  | succ g ih =>
    intro c ts v r hs hc h
    have eqStep : ∀ {k : Nat} {s : String} {r0 : List Tok}, optEqSrc (ts.drop k) = .ok (s, r0) → Sub T r0 :=
      fun hp => (hs.drop _).of_cons (cons_optEqSrc _ _ _ hp)
    unfold createOpts at h
    peel_if h with hcnd
    · obtain ⟨rfl, rfl⟩ := ret2 h; exact hc
    peel_if h with hcnd
    · split at h
      · rename_i s r0 hq; refine ih _ _ v r ?_ ?_ h; exact eqStep hq; exact ⟨hc.1, hc.2⟩
      · cases h
    peel_if h with hcnd
    · split at h
      · rename_i s r0 hq
        refine ih _ _ v r ?_ ?_ h
        · exact ((hs.drop 1).of_cons (moveStr_sfx _ _)).of_cons (popInt_cons _ _ _ hq)
        · exact ⟨hc.1, hc.2⟩
      · cases h
    peel_if h with hcnd
    · split at h
      · rename_i s r0 hq; refine ih _ _ v r ?_ ?_ h; exact eqStep hq; exact ⟨hc.1, hc.2⟩
      · cases h
    peel_if h with hcnd
    · split at h
      · rename_i s r0 hq; refine ih _ _ v r ?_ ?_ h; exact eqStep hq; exact ⟨hc.1, hc.2⟩
      · cases h
    peel_if h with hcnd
    · split at h
      · rename_i s r0 hq; refine ih _ _ v r ?_ ?_ h; exact eqStep hq; exact ⟨hc.1, hc.2⟩
      · cases h
    peel_if h with hcnd
    · split at h
      · rename_i s r0 hq; refine ih _ _ v r ?_ ?_ h; exact eqStep hq; exact ⟨hc.1, hc.2⟩
      · cases h
    peel_if h with hcnd
    · split at h
      · rename_i s r0 hq; refine ih _ _ v r ?_ ?_ h; exact eqStep hq; exact ⟨hc.1, hc.2⟩
      · cases h
    peel_if h with hcnd
    · split at h
      · cases h
      · rename_i segs r0 hsp
        obtain ⟨hsegs, hs0⟩ := popSplit_sub (hs.drop 2) hsp
        split at h
        · rename_i cs hcs
          have hall := eachClosed_all (P := fun (c : DefCol) => CovDC d T c)
            (fun sg a hsg ha => by rw [closed_ok] at ha; exact cv_pDefCol hsg ha) segs cs hsegs hcs
          refine ih _ _ v r hs0 ?_ h
          refine ⟨hc.1, ?_⟩
          intro x hx
          simp only [List.mem_append] at hx
          rcases hx with hx | hx
          · exact hc.2 x hx
          · exact hall x hx
        · cases h
    peel_if h with hcnd
    · split at h
      · rename_i s r0 hq; refine ih _ _ v r ?_ ?_ h; exact eqStep hq; exact ⟨hc.1, hc.2⟩
      · cases h
    peel_if h with hcnd
    · split at h
      · rename_i s r0 hq; refine ih _ _ v r ?_ ?_ h; exact eqStep hq; exact ⟨hc.1, hc.2⟩
      · cases h
    peel_if h with hcnd
    · split at h
      · rename_i s r0 hq; refine ih _ _ v r ?_ ?_ h; exact eqStep hq; exact ⟨hc.1, hc.2⟩
      · cases h
    peel_if h with hcnd
    · refine ih _ _ v r (hs.drop 3) ?_ h; exact ⟨hc.1, hc.2⟩
    peel_if h with hcnd
    · split at h
      · rename_i s r0 hq; refine ih _ _ v r ?_ ?_ h; exact eqStep hq; exact ⟨hc.1, hc.2⟩
      · cases h
    peel_if h with hcnd
    · split at h
      · rename_i s r0 hq; refine ih _ _ v r ?_ ?_ h; exact eqStep hq; exact ⟨hc.1, hc.2⟩
      · cases h
    peel_if h with hcnd
    · split at h
      · cases h
      · rename_i segs r0 hsp
        obtain ⟨_, hs0⟩ := popSplit_sub (hs.drop 1) hsp
        split at h
        · refine ih _ _ v r hs0 ?_ h; exact ⟨hc.1, hc.2⟩
        · cases h
    · cases h

theorem cv_pCreateTable {T ts r : List Tok} {v : Stmt} (hs : Sub T ts) (h : pCreateTable d f ts = .ok (v, r)) : CovL d T (exprsStmt v) := by
  unfold pCreateTable at h
  split at h
  · cases h
  · rename_i r0 hm
    have hs0 : Sub T r0 := hs.of_cons (matchSeq_cons _ _ _ _ hm)
    split at h
    · cases h
    · rename_i tbl r1 ht
      have hs1 : Sub T r1 := (hs0.of_cons (moveThreeUp_sfx _ _ _ _)).of_cons (cons_pTblName _ _ _ ht)
      split at h
      · split at h
        · rename_i q r2 hq
          obtain ⟨rfl, rfl⟩ := ret2 h
          simpa [exprsStmt] using (cv_all d f).pSelectStmt T none _ q r2 (hs1.drop 1) (by simpa [exprsOW] using CovL.nil) hq
        · cases h
      · split at h
        · cases h
        · rename_i segs r2 hsp
          obtain ⟨hsegs, hs2⟩ := popSplit_sub hs1 hsp
          split at h
          · cases h
          · rename_i c hce
            have hc0 : CovCreate d T (emptyCreate tbl (moveThreeUp r0 "IF" "NOT" "EXISTS").1) :=
              ⟨fun x hx => by simp [emptyCreate] at hx, fun x hx => by simp [emptyCreate] at hx⟩
            have hc1 := cv_createElems segs _ c hsegs hc0 hce
            split at h
            · cases h
            · rename_i c' r3 hco
              have hc2 := cv_createOpts _ c r2 c' r3 hs2 hc1 hco
              obtain ⟨rfl, rfl⟩ := ret2 h
              simpa [exprsStmt] using hc2.covL

theorem cv_pAnalyze {T ts r : List Tok} {v : Stmt} (hs : Sub T ts) (h : pAnalyze d f ts = .ok (v, r)) : CovL d T (exprsStmt v) := by
  unfold pAnalyze at h
  split at h
  · cases h
  · rename_i r0 hm
    have hs0 : Sub T r0 := hs.of_cons (matchSeq_cons _ _ _ _ hm)
    split at h
    · cases h
    · rename_i t r1 ht
      have hs1 : Sub T r1 := hs0.of_cons (cons_pTblName _ _ _ ht)
      split at h
      · cases h
      · rename_i part r2 hp
        have c := cv_pOptPartition hs1 hp
        simp only at h
        obtain ⟨rfl, rfl⟩ := ret2 h
        simpa [exprsStmt] using c

theorem cv_pAlterExpr {T ts r : List Tok} {v : AlterOp} (hs : Sub T ts) (h : pAlterExpr d f ts = .ok (v, r)) : CovL d T (exprsAO v) := by
  unfold pAlterExpr at h
  peel_if h with hcnd
  · split at h
    · rename_i p r0 hp; obtain ⟨rfl, rfl⟩ := ret2 h; simpa [exprsAO] using cv_pPartition (hs.drop 2) hp
    · cases h
  peel_if h with hcnd
  · split at h
    · rename_i p r0 hp; obtain ⟨rfl, rfl⟩ := ret2 h; simpa [exprsAO] using cv_pPartition (hs.drop 5) hp
    · cases h
  peel_if h with hcnd
  · split at h
    · rename_i x r0 hp; obtain ⟨rfl, rfl⟩ := ret2 h; simpa [exprsAO] using cv_pColOrIdx (hs.drop 1) hp
    · cases h
  peel_if h with hcnd
  · split at h
    · rename_i x r0 hp; obtain ⟨rfl, rfl⟩ := ret2 h; simpa [exprsAO] using cv_pColOrIdx (hs.drop 1) hp
    · cases h
  peel_if h with hcnd
  · split at h
    · cases h
    · rename_i nm r0 hq
      split at h
      · rename_i x r1 hp
        obtain ⟨rfl, rfl⟩ := ret2 h
        simpa [exprsAO] using cv_pColOrIdx ((hs.drop 1).of_cons (popSrc_cons _ _ _ hq)) hp
      · cases h
  peel_if h with hcnd
  · repeat' split at h
    all_goals first | (obtain ⟨rfl, rfl⟩ := ret2 h; simpa [exprsAO] using CovL.nil) | cases h
  peel_if h with hcnd
  · repeat' split at h
    all_goals first | (obtain ⟨rfl, rfl⟩ := ret2 h; simpa [exprsAO] using CovL.nil) | cases h
  peel_if h with hcnd
  · split at h
    · rename_i p r0 hp; obtain ⟨rfl, rfl⟩ := ret2 h; simpa [exprsAO] using cv_pPartition (hs.drop 2) hp
    · cases h
  peel_if h with hcnd
  · split at h
    · rename_i p r0 hp; obtain ⟨rfl, rfl⟩ := ret2 h; simpa [exprsAO] using cv_pPartition (hs.drop 4) hp
    · cases h
  · cases h

theorem cv_alterLoop {T : List Tok} : ∀ (g : Nat) (acc : List AlterOp) (ts : List Tok) (v : List AlterOp) (r : List Tok),
    Sub T ts → CovL d T (acc.flatMap exprsAO) → alterLoop d f g acc ts = .ok (v, r) → CovL d T (v.flatMap exprsAO) := by
  intro g
  induction g with
  | zero => intro acc ts v r _ _ h; simp [alterLoop] at h
  | succ g ih =>
    intro acc ts v r hs ha h
    unfold alterLoop at h
    split at h
    · split at h
      · rename_i x r1 h1
        have hc := cv_pAlterExpr (hs.drop 1) h1
        exact ih _ r1 v r ((hs.drop 1).of_cons (cons_pAlterExpr d f _ _ _ h1)) (by simpa using ha.append hc) h
      · cases h
    · obtain ⟨rfl, rfl⟩ := ret2 h; exact ha

theorem cv_pAlter {T ts r : List Tok} {v : Stmt} (hs : Sub T ts) (h : pAlter d f ts = .ok (v, r)) : CovL d T (exprsStmt v) := by
  unfold pAlter at h
  split at h
  · cases h
  · rename_i r0 hm
    have hs0 : Sub T r0 := hs.of_cons (matchSeq_cons _ _ _ _ hm)
    split at h
    · cases h
    · rename_i t r1 ht
      have hs1 : Sub T r1 := hs0.of_cons (cons_pTblName _ _ _ ht)
      split at h
      · cases h
      · rename_i x r2 hx
        have c := cv_pAlterExpr hs1 hx
        split at h
        · rename_i xs r3 hl
          obtain ⟨rfl, rfl⟩ := ret2 h
          simpa [exprsStmt] using cv_alterLoop _ [x] r2 xs r3 (hs1.of_cons (cons_pAlterExpr d f _ _ _ hx)) (by simpa using c) hl
        · cases h

theorem cv_pShowColumns {T ts r : List Tok} {v : Stmt} (hs : Sub T ts) (h : pShowColumns d f ts = .ok (v, r)) : CovL d T (exprsStmt v) := by
  unfold pShowColumns at h
  split at h
  · cases h
  · rename_i r0 hm
    have hs0 : Sub T r0 := hs.of_cons (matchSeq_cons _ _ _ _ hm)
    split at h
    · cases h
    · rename_i fr r1 hf
      have hs1 : Sub T r1 := hs0.of_cons (cons_pFromClause d f _ _ _ hf)
      have cf : CovL d T (exprsFs fr) := by
        unfold pFromClause at hf
        split at hf
        · cases hf
        · rename_i r0' hm'
          have hs0' : Sub T r0' := hs0.of_cons (matchKw_cons _ _ _ _ hm')
          split at hf
          · cases hf
          · rename_i t r1' ht
            have ct := (cv_all d f).pFromTable T r0' t r1' hs0' ht
            exact (cv_all d f).pFromTables T [t] r1' fr r1 (hs0'.of_cons (PM.pFromTable_consumes d f _ t r1' ht))
              (by simpa [exprsFs] using ct) hf
      split at h
      · rename_i wh r2 hw
        obtain ⟨rfl, rfl⟩ := ret2 h
        simp only [exprsStmt]
        exact cf.append ((cv_all d f).pOptOr T _ r1 wh r2 hs1 hw)
      · cases h

/-- statements without expressions -/
theorem nil_pSet {ts r : List Tok} {v : Stmt} (h : pSet ts = .ok (v, r)) : exprsStmt v = [] := by
  unfold pSet at h
  repeat' split at h
  all_goals (cases h <;> simp [exprsStmt])
theorem nil_pDropTable {ts r : List Tok} {v : Stmt} (h : pDropTable ts = .ok (v, r)) : exprsStmt v = [] := by
  unfold pDropTable at h
  repeat' split at h
  all_goals (cases h <;> simp [exprsStmt])
theorem nil_pMsck {ts r : List Tok} {v : Stmt} (h : pMsck ts = .ok (v, r)) : exprsStmt v = [] := by
  unfold pMsck pKwTable at h
  repeat' split at h
  all_goals (cases h <;> simp [exprsStmt])
theorem nil_pTruncate {ts r : List Tok} {v : Stmt} (h : pTruncate ts = .ok (v, r)) : exprsStmt v = [] := by
  unfold pTruncate pKwTable at h
  repeat' split at h
  all_goals (cases h <;> simp [exprsStmt])
theorem nil_pUse {ts r : List Tok} {v : Stmt} (h : pUse ts = .ok (v, r)) : exprsStmt v = [] := by
  unfold pUse at h
  repeat' split at h
  all_goals (cases h <;> simp [exprsStmt])

/-- **every statement**: `pStatement` (one iteration of `parse_statements`) -/
theorem cv_pStatement {T ts r : List Tok} {v : Stmt} (hs : Sub T ts) (h : pStatement d f ts = .ok (v, r)) : CovL d T (exprsStmt v) := by
  unfold pStatement at h
  peel_if h with hcnd
  · rw [nil_pSet h]; exact .nil
  peel_if h with hcnd
  · exact cv_pDelete hs h
  peel_if h with hcnd
  · rw [nil_pDropTable h]; exact .nil
  peel_if h with hcnd
  · exact cv_pCreateTable hs h
  peel_if h with hcnd
  · exact cv_pAnalyze hs h
  peel_if h with hcnd
  · exact cv_pAlter hs h
  peel_if h with hcnd
  · rw [nil_pMsck h]; exact .nil
  peel_if h with hcnd
  · rw [nil_pUse h]; exact .nil
  peel_if h with hcnd
  · rw [nil_pTruncate h]; exact .nil
  peel_if h with hcnd
  · obtain ⟨rfl, rfl⟩ := ret2 h; simpa [exprsStmt] using CovL.nil
  peel_if h with hcnd
  · obtain ⟨rfl, rfl⟩ := ret2 h; simpa [exprsStmt] using CovL.nil
  peel_if h with hcnd
  · exact cv_pShowColumns hs h
  · split at h
    · cases h
    · rename_i withs r0 hw
      have cw := (cv_all d f).pWith T ts withs r0 hs hw
      have hs0 : Sub T r0 := hs.of_cons (PM.pWith_consumes d f _ withs r0 hw)
      peel_if h with hcnd
      · split at h
        · rename_i q r1 hq
          obtain ⟨rfl, rfl⟩ := ret2 h
          simpa [exprsStmt] using (cv_all d f).pSelectStmt T (some withs) r0 q r1 hs0 (by simpa [exprsOW] using cw) hq
        · cases h
      peel_if h with hcnd
      · exact cv_pInsert hs0 (by simpa [exprsOW] using cw) h
      peel_if h with hcnd
      · exact cv_pUpdate hs0 (by simpa [exprsOW] using cw) h
      · cases h

theorem cv_statementsLoop {T : List Tok} : ∀ (g : Nat) (acc : List Stmt) (ts : List Tok) (v : List Stmt), Sub T ts →
    (∀ s ∈ acc, CovL d T (exprsStmt s)) → statementsLoop d f g acc ts = .ok v → ∀ s ∈ v, CovL d T (exprsStmt s) := by
  intro g
  induction g with
  | zero => intro acc ts v _ _ h; simp [statementsLoop] at h
  | succ g ih =>
    intro acc ts v hs ha h
    unfold statementsLoop at h
    split at h
    · simp only [Except.ok.injEq] at h; exact h ▸ ha
    · split at h
      · cases h
      · rename_i s r hst
        have c := cv_pStatement hs hst
        refine ih _ _ v ((hs.of_cons (cons_pStatement d f _ _ _ hst)).of_cons (moveStr_sfx _ _)) ?_ h
        intro x hx
        simp only [List.mem_append, List.mem_cons, List.not_mem_nil, or_false] at hx
        rcases hx with hx | rfl
        · exact ha x hx
        · exact c

end WNG
