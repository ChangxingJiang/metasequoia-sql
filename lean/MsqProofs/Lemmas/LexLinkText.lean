import MsqProofs.Lemmas.LexLinkPrint
import MsqProofs.Lemmas.ParseTextInv
/-!
# The text level without a printer mirror: the dialect pre-pass, the lexer on a complete text, the steps every `*_text` theorem shares

`hivePre_no_occ` goes through `C13.replace_noOcc` of Lemmas/ParseTextInv.lean (where `C01.dialectPre_id` is too); `40` in `expr_text` is the
additive constant of `PM.fuelFor`.
-/
open Lex PM Ast TP LexLink

namespace C01

theorem colLex_of_plain (d : Gen.D) (c : String) (hd : d ≠ .DB2) (hp : PR.isPlainName c = true)
    (hs : ["*", "CURRENT_DATE", "CURRENT_TIME", "CURRENT_TIMESTAMP"].contains c = false) : colLex d c := by
  constructor
  · have hd' : (d == Gen.D.DB2) = false := by cases d <;> first | rfl | exact absurd rfl hd
    have : PR.columnSrc d none c = s!"`{c}`" := by
      unfold PR.columnSrc
      simp only [hs, hd', Bool.false_eq_true, if_false]
    rw [this]
    simp only [toString, String.toList_append]
    rfl
  · intro x hx
    unfold PR.isPlainName at hp
    cases hc : c.toList with
    | nil => rw [hc] at hx; cases hx
    | cons a r =>
      rw [hc] at hp hx
      simp only [Bool.and_eq_true, List.all_eq_true] at hp
      have key : ∀ y : Char, (y.isAlphanum || y == '_') = true → y ≠ '`' ∧ C05.plain y = true := by
        intro y hy
        have h1 : y ≠ '`' := by intro e; subst e; revert hy; decide
        have h2 : y ≠ '\t' ∧ y ≠ '\r' ∧ y ≠ Char.ofNat 12288 := by
          refine ⟨?_, ?_, ?_⟩ <;> intro e <;> subst e <;> revert hy <;> decide
        refine ⟨h1, ?_⟩
        simp only [C05.plain, Lex.Plain, Gen.preChain, List.all_cons, List.all_nil, Bool.and_true, Bool.and_eq_true, bne_iff_ne,
          ne_eq]
        exact ⟨fun e => h2.2.1 e.symm, fun e => h2.1 e.symm, fun e => h2.2.2 e.symm⟩
      rcases List.mem_cons.mp hx with rfl | hx
      · apply key
        rcases Bool.or_eq_true _ _ ▸ hp.1 with h | h
        · simp [Char.isAlphanum, h]
        · simp [h]
      · exact key x (hp.2 x hx)

theorem lexText_of_lx {u : List Char} {ts : List Tok} (h : Lx u ts) : lexText Gen.cfgS u = .ok ts := by
  have := h u [] [] [] [] (by simp) (Or.inl rfl)
  simp only [List.append_nil, List.length_nil, Nat.zero_add, List.nil_append] at this
  rw [lexText_eq_runTail]
  show runTail Gen.cfgS u u ⟨0, 0, .WAIT, [[]]⟩ = _
  rw [this, runTail_nil_wait]
  exact finish_end _ C05.shipped_depth C05.shipped_end _ _ _

theorem lex_printed {r : PR.P} {l : List Char} {ts : List Tok} (hpr : r = .ok (String.ofList l)) (hq : l.all C05.plain = true) (hlx : Lx l ts) :
    ∃ s : String, r = .ok s ∧ s.toList = l ∧ Lex.lex Gen.cfgS s.toList = .ok ts := by
  refine ⟨String.ofList l, hpr, String.toList_ofList, ?_⟩
  rw [String.toList_ofList, Lex.lex_plain _ _ (fun c hc => (List.all_eq_true.mp hq) c hc)]
  exact lexText_of_lx hlx

theorem lex_pre {d : Gen.D} {s : String} {l : List Char} {ts : List Tok} (hsl : s.toList = l) (hpre : dialectPre d l = l)
    (hlex : Lex.lex Gen.cfgS s.toList = .ok ts) : Lex.lex Gen.cfgS (dialectPre d s.toList) = .ok ts := by
  rw [hsl, hpre, ← hsl]; exact hlex

/-- a parser run has one result (both runs are known to leave the same rest `r`, so only the value is compared) -/
theorem same_of_ok {ε α β : Type} {p : Except ε (α × β)} {x x' : α} {r : β} (h : p = .ok (x, r)) (h' : p = .ok (x', r)) : x' = x := by
  rw [h] at h'; cases h'; rfl

theorem stmts_print {d : Gen.D} {t : List Char} {st : Stmt} {r : PR.P} (h : parseStatementsText d t = .ok [st]) (hr : PR.prStmt d st = r) :
    ∀ sts, parseStatementsText d t = .ok sts → sts.map (PR.prStmt d) = [r] := by
  intro sts hs
  rw [h] at hs; cases hs
  simp [hr]

theorem entry_or : (PM.entries.find? (·.1 == "logical_or_level_expression")).map (·.2) = some (PM.exprEntry PM.pOr) := by
  simp [PM.entries, List.find?]

/-- the model of the public entry point `parse_logical_or_level_expression(text, dialect)` on a text that lexes to `ts`, on which `pOr` with
the entry point's fuel gives `e`: the tree (as the generic value the driver compares with the implementation) and `0` unconsumed tokens -/
theorem entry_or_text {d : Gen.D} {t : List Char} {ts : List Tok} {e : Expr} (hlex : Lex.lex Gen.cfgS (dialectPre d t) = .ok ts)
    (hp : pOr d (fuelFor ts) ts = .ok (e, [])) : PM.parseText "logical_or_level_expression" d t = .ok (e.toVal, 0) :=
  PM.parseText_of_entry (v := e.toVal) (rest := []) entry_or hlex (by simp only [PM.exprEntry, hp])

end C01

/-! ## the Hive pre-pass (`==` → `=`, a whole-text replacement) leaves the printed text alone unless a literal contains `==` -/
namespace C01

/-- `==` occurs in the text: what the Hive pre-pass would rewrite -/
def occ : List Char → Bool
  | [] => false
  | c :: r => (c == '=' && r.head? == some '=') || occ r

theorem occ_cons2 (x y : Char) (r : List Char) : occ (x :: y :: r) = ((x == '=' && y == '=') || occ (y :: r)) := by
  simp [occ]

theorem occ_sep (a b : List Char) (c : Char) (hc : c ≠ '=') : occ (a ++ c :: b) = (occ a || occ b) := by
  have hc' : (c == '=') = false := by simpa using hc
  induction a with
  | nil => simp [occ, hc']
  | cons x a' ih =>
    cases a' with
    | nil =>
      have : (some c == some '=') = false := by simpa using hc
      simp [occ, hc', this]
    | cons y a'' =>
      simp only [List.cons_append] at ih ⊢
      rw [occ_cons2, occ_cons2, ih, Bool.or_assoc]

theorem occ_none (l : List Char) (h : ∀ x ∈ l, x ≠ '=') : occ l = false := by
  induction l with
  | nil => rfl
  | cons x r ih =>
    have hx : (x == '=') = false := by simpa using h x (by simp)
    simp [occ, hx, ih fun y hy => h y (by simp [hy])]

/-- … in the terms of `C13.noOccP` (Lemmas/ParseTextInv.lean) -/
theorem noOcc_of_occ : ∀ t : List Char, occ t = false → C13.noOccP ['=', '='] t = true
  | [], _ => rfl
  | c :: r, h => by
    simp only [occ, Bool.or_eq_false_iff] at h
    simp only [C13.noOccP, Bool.and_eq_true, Bool.not_eq_true']
    refine ⟨?_, noOcc_of_occ r h.2⟩
    have := h.1
    cases r with
    | nil => simp [List.isPrefixOf]
    | cons y r' =>
      simp only [List.isPrefixOf, Bool.and_true, Bool.and_eq_false_imp, beq_iff_eq]
      rintro rfl
      simp only [beq_self_eq_true, List.head?_cons, Bool.true_and, beq_eq_false_iff_ne, ne_eq, Option.some.injEq] at this
      simp only [beq_eq_false_iff_ne, ne_eq]
      exact fun e => this e.symm

theorem hivePre_no_occ (t : List Char) (h : occ t = false) : dialectPre .HIVE t = t := by
  have : dialectPre .HIVE t = Py.replace "==".toList "=".toList t := by simp [dialectPre]
  rw [this]; exact C13.replace_noOcc _ _ t (noOcc_of_occ t h)

def noEqEq : Expr → Prop
  | .column _ c => occ c.toList = false
  | .literal v => occ v.toList = false
  | .unary _ e => noEqEq e
  | .compute l _ r => noEqEq l ∧ noEqEq r
  | .kw _ _ l r => noEqEq l ∧ noEqEq r
  | .between _ b f t => noEqEq b ∧ noEqEq f ∧ noEqEq t
  | .compare _ l r => noEqEq l ∧ noEqEq r
  | .not_ e => noEqEq e
  | .and_ l r => noEqEq l ∧ noEqEq r
  | .xor l r => noEqEq l ∧ noEqEq r
  | .or_ l r => noEqEq l ∧ noEqEq r
  | _ => True

theorem compute_ops_occ : Gen.computeEnum.all (fun e => !occ e.2.1.toList) = true := by decide +kernel
theorem compare_ops_occ : Gen.compareEnum.all (fun e => match e.2 with | [x] => !occ x.toList | _ => false) = true := by
  decide +kernel

end C01

namespace C01

def specialsL : List (List Char) := ["*".toList, "CURRENT_DATE".toList, "CURRENT_TIME".toList, "CURRENT_TIMESTAMP".toList]
def colLexB (d : Gen.D) (c : String) : Bool := PR.isPlainName c && !specialsL.contains c.toList && d != .DB2
def litLexB (v : String) : Bool :=
  (!v.toList.isEmpty && v.toList.all fun x => Spec.isDigit x.toNat) ||
  (match v.toList with
    | q :: r => (q == '\'' || q == '"') && r.getLast? == some q && C06.strBody q r.dropLast && r.dropLast.all C05.plain
    | [] => false) ||
  (C05.isWord v.toList && v.toList.all C05.plain)
def leafB (d : Gen.D) : Expr → Bool
  | .column _ c => colLexB d c
  | .literal v => litLexB v
  | .unary _ e => leafB d e
  | .compute l _ r => leafB d l && leafB d r
  | .kw _ _ l r => leafB d l && leafB d r
  | .between _ b f t => leafB d b && leafB d f && leafB d t
  | .compare _ l r => leafB d l && leafB d r
  | .not_ e => leafB d e
  | .and_ l r => leafB d l && leafB d r
  | .xor l r => leafB d l && leafB d r
  | .or_ l r => leafB d l && leafB d r
  | _ => true

theorem colLex_of_B (d : Gen.D) (c : String) (h : colLexB d c = true) : colLex d c := by
  simp only [colLexB, Bool.and_eq_true, Bool.not_eq_eq_eq_not, Bool.not_true, bne_iff_ne, ne_eq] at h
  refine colLex_of_plain d c h.2 h.1.1 ?_
  have hn := h.1.2
  simp only [List.contains_eq_mem, decide_eq_false_iff_not] at hn ⊢
  intro hm
  apply hn
  simp only [specialsL, List.mem_cons, List.mem_nil_iff, or_false] at hm ⊢
  rcases hm with e | e | e | e <;> simp [e]

theorem dropLast_getLast : ∀ (r : List Char) (q : Char), r.getLast? = some q → r = r.dropLast ++ [q]
  | [], _, h => by cases h
  | [a], q, h => by simp only [List.getLast?_singleton, Option.some.injEq] at h; subst h; rfl
  | a :: b :: r, q, h => by
    rw [List.getLast?_cons_cons] at h
    have := dropLast_getLast (b :: r) q h
    simp only [List.dropLast_cons_cons, List.cons_append]
    exact congrArg _ this

theorem litLex_of_B (v : String) (h : litLexB v = true) : litLex v := by
  simp only [litLexB, Bool.or_eq_true, Bool.and_eq_true, Bool.not_eq_eq_eq_not, Bool.not_true, List.isEmpty_eq_false_iff,
    List.all_eq_true] at h
  rcases h with (h | h) | h
  · exact Or.inl h
  · right; left
    cases hv : v.toList with
    | nil => rw [hv] at h; cases h
    | cons q r =>
      rw [hv] at h
      simp only [Bool.and_eq_true, Bool.or_eq_true, beq_iff_eq, List.all_eq_true] at h
      obtain ⟨⟨⟨hq, hlast⟩, hb⟩, hp⟩ := h
      have hr : r = r.dropLast ++ [q] := dropLast_getLast r q hlast
      rcases hq with rfl | rfl
      · exact ⟨.sq, r.dropLast, by decide, by rw [C06.QK.wrap]; exact congrArg _ hr, hb, hp⟩
      · exact ⟨.dq, r.dropLast, by decide, by rw [C06.QK.wrap]; exact congrArg _ hr, hb, hp⟩
  · exact Or.inr (Or.inr h)

theorem leaf_of_B (d : Gen.D) : ∀ (n : Nat) (e : Expr), sz e ≤ n → leafB d e = true → Leaf d e := by
  intro n
  induction n with
  | zero => intro e he; cases e <;> simp [sz] at he
  | succ n ih =>
    intro e he h
    cases e <;> simp only [sz] at he <;> simp only [leafB, Bool.and_eq_true] at h <;> simp only [Leaf] <;> try trivial
    case column t c => exact colLex_of_B d c h
    case literal v => exact litLex_of_B v h
    case unary o y => exact ih y (by omega) h
    case compute l o r => exact ⟨ih l (by omega) h.1, ih r (by omega) h.2⟩
    case kw k n0 l r => exact ⟨ih l (by omega) h.1, ih r (by omega) h.2⟩
    case between n0 b f t => exact ⟨ih b (by omega) h.1.1, ih f (by omega) h.1.2, ih t (by omega) h.2⟩
    case compare o l r => exact ⟨ih l (by omega) h.1, ih r (by omega) h.2⟩
    case not_ y => exact ih y (by omega) h
    case and_ l r => exact ⟨ih l (by omega) h.1, ih r (by omega) h.2⟩
    case xor l r => exact ⟨ih l (by omega) h.1, ih r (by omega) h.2⟩
    case or_ l r => exact ⟨ih l (by omega) h.1, ih r (by omega) h.2⟩

end C01

namespace C01

/-- from the link of a printed expression (`PR.prE d e` prints a text with the characters `l`, which lexes to `ts`), the dialect pre-pass
leaving `l` alone, and the token-level T-parse of `ts` from a bound below the entry point's fuel on: the text pipeline of the public entry
point reads `e` back, and whatever it reads prints as the same text -/
theorem expr_text {d : Gen.D} {e : Expr} {l : List Char} {ts : List Tok} {n : Nat}
    (hlink : ∃ s : String, PR.prE d e = .ok s ∧ s.toList = l ∧ Lex.lex Gen.cfgS s.toList = .ok ts) (hpre : dialectPre d l = l)
    (hp : ∀ fuel, 20 * sizeL ts + n ≤ fuel → pOr d fuel (ts ++ []) = .ok (e, [])) (hn : n ≤ 40) :
    ∃ (s : String) (ts' : List Tok), PR.prE d e = .ok s ∧ Lex.lex Gen.cfgS (dialectPre d s.toList) = .ok ts' ∧ ts' = ts ∧
      pOr d (fuelFor ts') ts' = .ok (e, []) ∧
      PM.parseText "logical_or_level_expression" d s.toList = .ok (e.toVal, 0) ∧
      (∀ e', pOr d (fuelFor ts') ts' = .ok (e', []) → PR.prE d e' = .ok s) := by
  obtain ⟨s, hs, hsl, hlex⟩ := hlink
  have hlex2 := lex_pre hsl hpre hlex
  have hp' : pOr d (fuelFor ts) ts = .ok (e, []) := by simpa using hp (fuelFor ts) (by simp only [fuelFor]; omega)
  exact ⟨s, ts, hs, hlex2, rfl, hp', entry_or_text hlex2 hp', fun e' he' => by rw [same_of_ok hp' he']; exact hs⟩

end C01
