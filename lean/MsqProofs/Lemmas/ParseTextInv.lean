import MsqModel.Parse.Entry
/-! What an answer of the text entry points `PM.parseStatementsText` / `PM.parseText` says about the answers of the lexer and
of the parser on tokens: the text entry points are the lexer, then the parser with the fuel `PM.fuelFor` of the token list.
First the facts about runs that do not depend on the parser (`C01.eq_of_read_back`, `C01.read_back_only`, `C01.toks_of_same_text`, `PM.det_of_mono`) and
about the dialect pre-pass (`C01.dialectPre_id`; `C13.replace_noOcc`: `str.replace` is the identity where the pattern does not occur). -/
open Lex

namespace C01
/-- what is read back from a rendering determines it: two values that are both read back, each from its bound `n` / `n'` on, from equal
token lists are equal — whatever `p` is -/
theorem eq_of_read_back {α ρ : Type} {p : Nat → List Tok → Except Err (α × ρ)} {ts ts' : List Tok} {x x' : α} {r r' : ρ} {n n' : Nat}
    (a : ∀ f, n ≤ f → p f ts = .ok (x, r)) (b : ∀ f, n' ≤ f → p f ts' = .ok (x', r')) (h : ts = ts') : x = x' := by
  subst h
  have := (a (max n n') (Nat.le_max_left ..)).symm.trans (b (max n n') (Nat.le_max_right ..))
  cases this; rfl

/-- a run that reads `x` back reads nothing else back: whatever it returns has the rendering of `x`, and the same rest -/
theorem read_back_only {ε α ρ τ : Type} {run : Except ε (α × ρ)} {x : α} {r₀ : ρ} (toks : α → τ) (h : run = .ok (x, r₀)) :
    run = .ok (x, r₀) ∧ ∀ p r, run = .ok (p, r) → toks p = toks x ∧ r = r₀ :=
  ⟨h, fun p r hp => by rw [h] at hp; cases hp; exact ⟨rfl, rfl⟩⟩

theorem toks_of_same_text {ε : Type} {P P' : Except ε String} {s s' : String} {ts ts' : List Tok}
    (hs : P = .ok s) (hs' : P' = .ok s') (hl : lex Gen.cfgS s.toList = .ok ts) (hl' : lex Gen.cfgS s'.toList = .ok ts')
    (h : P = P') : ts = ts' := by
  rw [hs, hs'] at h; cases h; rw [hl] at hl'; cases hl'; rfl
/-- the dialect pre-pass does nothing for five of the seven dialects -/
theorem dialectPre_id (d : Gen.D) (h1 : d ≠ .DB2) (h2 : d ≠ .HIVE) (t : List Char) : PM.dialectPre d t = t := by
  cases d <;> simp_all [PM.dialectPre]
end C01

/-! `str.replace` on a text in which the pattern does not occur -/
namespace C13
def noOccP (pat : List Char) : List Char → Bool
  | [] => !pat.isPrefixOf []
  | c :: r => !pat.isPrefixOf (c :: r) && noOccP pat r
theorem replaceGo_noOcc (pat rep : List Char) : ∀ (f : Nat) (t : List Char), noOccP pat t = true → Py.replaceGo pat rep f t = t := by
  intro f
  induction f with
  | zero => intro t _; rfl
  | succ f ih =>
    intro t h
    cases t with
    | nil => rfl
    | cons c r =>
      simp only [noOccP, Bool.and_eq_true, Bool.not_eq_true'] at h
      simp [Py.replaceGo, h.1, ih r h.2]
theorem replace_noOcc (pat rep t : List Char) (h : noOccP pat t = true) : Py.replace pat rep t = t := by
  unfold Py.replace; split
  · rfl
  · exact replaceGo_noOcc pat rep _ t h
end C13

namespace PM

/-- a run whose result every larger budget reproduces has one result, whatever the budgets -/
theorem det_of_mono {ε α : Type} {run : Nat → Except ε α} (hmono : ∀ f f' r, f ≤ f' → run f = .ok r → run f' = .ok r)
    {f₁ f₂ : Nat} {r₁ r₂ : α} (h₁ : run f₁ = .ok r₁) (h₂ : run f₂ = .ok r₂) : r₁ = r₂ :=
  Except.ok.inj ((hmono f₁ (max f₁ f₂) r₁ (Nat.le_max_left _ _) h₁).symm.trans (hmono f₂ (max f₁ f₂) r₂ (Nat.le_max_right _ _) h₂))

variable {d : Gen.D} {text : List Char}

theorem parseStatementsText_lex_ok {ts : List Tok} (h : lex Gen.cfgS (dialectPre d text) = .ok ts) :
    parseStatementsText d text = pStatements d (fuelFor ts) ts := by
  unfold parseStatementsText
  rw [h]

theorem parseStatementsText_lex_error {e : Err} (h : lex Gen.cfgS (dialectPre d text) = .error e) :
    parseStatementsText d text = .error e := by
  unfold parseStatementsText
  rw [h]

theorem parseStatementsText_ok {ss : List Ast.Stmt} (h : parseStatementsText d text = .ok ss) :
    ∃ ts, lex Gen.cfgS (dialectPre d text) = .ok ts ∧ pStatements d (fuelFor ts) ts = .ok ss := by
  cases hl : lex Gen.cfgS (dialectPre d text) with
  | error e => rw [parseStatementsText_lex_error hl] at h; cases h
  | ok ts => exact ⟨ts, rfl, parseStatementsText_lex_ok hl ▸ h⟩

theorem parseStatementsText_error {x : Err} (h : parseStatementsText d text = .error x) :
    lex Gen.cfgS (dialectPre d text) = .error x ∨
      ∃ ts, lex Gen.cfgS (dialectPre d text) = .ok ts ∧ pStatements d (fuelFor ts) ts = .error x := by
  cases hl : lex Gen.cfgS (dialectPre d text) with
  | error e => rw [parseStatementsText_lex_error hl] at h; cases h; exact .inl rfl
  | ok ts => exact .inr ⟨ts, rfl, parseStatementsText_lex_ok hl ▸ h⟩

variable {entry : String}

/-- the text entry point `entry` when the table holds `p` under that name: the lexer, then `p` with the fuel of the token list -/
theorem parseText_find {p : Entry} (hf : (entries.find? (·.1 == entry)).map (·.2) = some p) :
    parseText entry d text =
      match lex Gen.cfgS (dialectPre d text) with
      | .error e => .error e
      | .ok ts => match p d (fuelFor ts) ts with
        | .ok (v, r) => .ok (v, r.length)
        | .error e => .error e := by
  unfold parseText
  cases hfd : entries.find? (·.1 == entry) with
  | none => rw [hfd] at hf; cases hf
  | some q => rw [hfd] at hf; cases hf; rfl

theorem parseText_of_entry {p : Entry} (hf : (entries.find? (·.1 == entry)).map (·.2) = some p) {ts rest : List Tok} {v : Val}
    (hl : lex Gen.cfgS (dialectPre d text) = .ok ts) (hp : p d (fuelFor ts) ts = .ok (v, rest)) :
    parseText entry d text = .ok (v, rest.length) := by
  simp only [parseText_find hf, hl, hp]

theorem parseText_find_ok {p : Entry} (hf : (entries.find? (·.1 == entry)).map (·.2) = some p) {v : Val} {n : Nat}
    (h : parseText entry d text = .ok (v, n)) :
    ∃ ts rest, lex Gen.cfgS (dialectPre d text) = .ok ts ∧ p d (fuelFor ts) ts = .ok (v, rest) ∧ rest.length = n := by
  rw [parseText_find hf] at h
  cases hl : lex Gen.cfgS (dialectPre d text) with
  | error e => simp only [hl] at h; cases h
  | ok ts =>
    simp only [hl] at h
    cases hp : p d (fuelFor ts) ts with
    | error e => simp only [hp] at h; cases h
    | ok r => simp only [hp] at h; cases h; exact ⟨ts, r.2, rfl, hp, rfl⟩

theorem parseText_find_error {p : Entry} (hf : (entries.find? (·.1 == entry)).map (·.2) = some p) {x : Err}
    (h : parseText entry d text = .error x) :
    lex Gen.cfgS (dialectPre d text) = .error x ∨
      ∃ ts, lex Gen.cfgS (dialectPre d text) = .ok ts ∧ p d (fuelFor ts) ts = .error x := by
  rw [parseText_find hf] at h
  cases hl : lex Gen.cfgS (dialectPre d text) with
  | error e => simp only [hl] at h; cases h; exact .inl rfl
  | ok ts =>
    simp only [hl] at h
    cases hp : p d (fuelFor ts) ts with
    | error e => simp only [hp] at h; cases h; exact .inr ⟨ts, rfl, hp⟩
    | ok r => simp only [hp] at h; cases h

theorem mem_of_find {q : String × Entry} (hf : entries.find? (·.1 == entry) = some q) : (entry, q.2) ∈ entries := by
  have hname : q.1 = entry := by simpa using List.find?_some hf
  exact hname ▸ List.mem_of_find?_eq_some hf

theorem parseText_ok {v : Val} {n : Nat} (h : parseText entry d text = .ok (v, n)) :
    ∃ p ts rest, (entry, p) ∈ entries ∧ lex Gen.cfgS (dialectPre d text) = .ok ts ∧
      p d (fuelFor ts) ts = .ok (v, rest) ∧ rest.length = n := by
  cases hf : entries.find? (·.1 == entry) with
  | none => unfold parseText at h; rw [hf] at h; cases h
  | some q =>
    obtain ⟨ts, rest, hl, hp, hn⟩ := parseText_find_ok (congrArg (Option.map (·.2)) hf) h
    exact ⟨q.2, ts, rest, mem_of_find hf, hl, hp, hn⟩

theorem parseText_error {x : Err} (h : parseText entry d text = .error x) :
    x = .unmodelled ("entry point " ++ entry) ∨ ∃ p, (entry, p) ∈ entries ∧
      (lex Gen.cfgS (dialectPre d text) = .error x ∨
        ∃ ts, lex Gen.cfgS (dialectPre d text) = .ok ts ∧ p d (fuelFor ts) ts = .error x) := by
  cases hf : entries.find? (·.1 == entry) with
  | none => unfold parseText at h; rw [hf] at h; cases h; exact .inl rfl
  | some q => exact .inr ⟨q.2, mem_of_find hf, parseText_find_error (congrArg (Option.map (·.2)) hf) h⟩

end PM
