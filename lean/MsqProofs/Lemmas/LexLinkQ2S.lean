import MsqProofs.Lemmas.LexLinkQ2N
/-!
# The lexer link for the larger fragment: select items, FROM items, WHERE / HAVING, set operations

What does not mention the mirror, the rendering or the records is reused from `LexLink` (`LexLinkQuery*.lean`).
-/
namespace LL2
open Lex Spec C05 C06 C09 Ast TP TS LexLink TQ2
open TQ (unionWords)

section
variable {d : Gen.D} {K : QKit}

structure GS4 (d : Gen.D) (K : QKit) (s : Select) : Prop where
  lx : Lx (prS4L d s) (toksS4 d noX s)
  pr : PR.prS d s = .ok (String.ofList (prS4L d s))
  q : K.Q (prS4L d s)

theorem prCols4LL_eq (cols : List (Expr × Option String)) : prCols4LL d cols = cols.map (fun c => prE4L d c.1 ++ aliasL c.2) := by
  induction cols with
  | nil => simp [prCols4LL]
  | cons c cs ih => obtain ⟨e, a⟩ := c; simp [prCols4LL, ih]

theorem cols_all (cols : List (Expr × Option String)) (hne : cols ≠ [])
    (h : ∀ c ∈ cols, GE4 d K c.1 ∧ optAliasLex c.2 ∧ ∀ y, c.2 = some y → K.Q y.toList) :
    Lx (joinLL [',', ' '] (prCols4LL d cols)) (toksCols4 d noX cols) ∧
    PR.prCols d cols = .ok ((prCols4LL d cols).map String.ofList) ∧ K.Q (joinLL [',', ' '] (prCols4LL d cols)) := by
  have hp : Pc K (joinLL [',', ' '] (prCols4LL d cols)) (toksCols4 d noX cols) := by
    cases cols with
    | nil => exact absurd rfl hne
    | cons c cs =>
      have := Pc.commaList (K := K) (fun c : Expr × Option String => prE4L d c.1 ++ aliasL c.2) (fun c => toksE4 d noX c.1 ++ aliasToks c.2)
        (toksColsTail4 d noX) (by simp [toksColsTail4]) (by intro x xs; obtain ⟨e, a⟩ := x; simp [toksColsTail4]) cs c
        fun x hx => (h x hx).1.pc.alias x.2 (h x hx).2.1 (h x hx).2.2
      obtain ⟨e, a⟩ := c
      exact this.congr (by rw [prCols4LL_eq]) (by simp [toksCols4])
  refine ⟨hp.lx, ?_, hp.q⟩
  clear hne hp
  induction cols with
  | nil => rfl
  | cons c cs ih =>
    obtain ⟨e, a⟩ := c
    have h1 := (h (e, a) (by simp)).1.pr
    have h2 := ih fun y hy => h y (by simp [hy])
    simp only at h1
    have hal := (h (e, a) (by simp)).2.1
    simp only [PR.prCols, h1, h2, bind, Except.bind, pure, Except.pure, prCols4LL, List.map_cons]
    cases a with
    | none => simp only [← pr_alias_none]
    | some a => simp only [pr_alias_some _ a hal]

structure GT4 (d : Gen.D) (K : QKit) (t : FromTable) : Prop where
  lx : Lx (table4L d t) (toksTable4 d noX t)
  pr : PR.prFrom d t = .ok (String.ofList (table4L d t))
  q : K.Q (table4L d t)

theorem GT4.of {t : FromTable} (h : Pc K (table4L d t) (toksTable4 d noX t)) (pr : PR.prFrom d t = .ok (String.ofList (table4L d t))) :
    GT4 d K t := ⟨h.lx, pr, h.q⟩

theorem gt_table (s : Option String) (n : String) (a : Option String) (hl : optNameLex s ∧ nameLex n) (hq : K.item (.tbl s n))
    (ha : optAliasLex a) (hqa : ∀ y, a = some y → K.Q y.toList) : GT4 d K (.mk (.table s n) a) := by
  obtain ⟨t1, t2, t3⟩ := LLD.tbl_good (K := K) s n hl hq
  refine GT4.of ((Pc.alias ⟨t1, t2⟩ a ha hqa).congr (by simp [table4L, ref4L]) (by simp [toksTable4, toksRef4])) ?_
  simp only [PR.prFrom, PR.prTableRef, bind, Except.bind, pure, Except.pure, t3, table4L, ref4L]
  cases a with
  | none => simp only [← pr_alias_none]
  | some a => simp only [pr_alias_some _ a ha]

theorem gt_sub (q : Query) (a : Option String) (hq : GQ4 d K q) (ha : optAliasLex a) (hqa : ∀ y, a = some y → K.Q y.toList) :
    GT4 d K (.mk (.sub q) a) := by
  refine GT4.of ((hq.pc.paren.alias a ha hqa).congr (by simp [table4L, ref4L]) (by simp [toksTable4, toksRef4, grp_eq])) ?_
  have e : (s!"({String.ofList (prQ2L d q)})" : String) = String.ofList ('(' :: (prQ2L d q ++ [')'])) :=
    ofList_eq (by simp [toString, String.toList_append, String.toList_ofList])
  simp only [PR.prFrom, PR.prTableRef, hq.pr, Except.map, bind, Except.bind, pure, Except.pure, e, table4L, ref4L]
  cases a with
  | none => simp only [← pr_alias_none]
  | some a => simp only [pr_alias_some _ a ha]

theorem tablesLL_eq (ts : List FromTable) : tables4LL d ts = ts.map (table4L d) := by
  induction ts with
  | nil => simp [tables4LL]
  | cons t r ih => simp [tables4LL, ih]

theorem pr_fromList : ∀ (ts : List FromTable), (∀ t ∈ ts, GT4 d K t) → PR.prFromList d ts = .ok ((ts.map (table4L d)).map String.ofList)
  | [], _ => rfl
  | t :: r, h => by
    have h1 := (h t (by simp)).pr
    have h2 := pr_fromList r fun y hy => h y (by simp [hy])
    simp only [PR.prFromList, h1, h2, bind, Except.bind, pure, Except.pure, List.map_cons]

theorem cl_from (fr : Option (List FromTable)) (hne : fr ≠ some []) (h : ∀ l, fr = some l → ∀ t ∈ l, GT4 d K t) :
    CL K (PR.prOptFrom d fr) (from4LL d fr) (toksFrom4 d noX fr) := by
  cases fr with
  | none => exact CL.of (SegP.nil _) rfl
  | some l =>
    cases l with
    | nil => exact absurd rfl hne
    | cons t ts =>
      have hall := h _ rfl
      have hp := Pc.commaList (K := K) (table4L d) (toksTable4 d noX) (toksTablesTail4 d noX) (by simp [toksTablesTail4])
        (by intro x xs; simp [toksTablesTail4]) ts t fun y hy => ⟨(hall y hy).lx, (hall y hy).q⟩
      refine CL.of (SegP.one _ (((pc_cw "FROM" (by simp [clauseWords])).sep hp).congr (by simp [tablesLL_eq]) (by simp [toksFrom4]))) ?_
      simp only [PR.prOptFrom, pr_fromList (t :: ts) hall, Except.map, from4LL, List.map_cons, List.map_nil]
      refine congrArg Except.ok ?_
      congr 1
      apply ofList_eq
      have e1 : ("FROM " : String).toList = "FROM".toList ++ [' '] := rfl
      have e3 : (", " : String).toList = [',', ' '] := rfl
      rw [String.toList_append, toList_joinS, e1, e3, ← List.map_cons, ← List.map_cons, map_map_ofList, tablesLL_eq]
      simp only [List.append_assoc, List.singleton_append, List.map_cons]

theorem cl_opt (kw : String) (hkw : kw ∈ clauseWords) (o : Option Expr) (h : ∀ e, o = some e → GE4 d K e)
    (p : Option Expr → Except Err (List String)) (hnone : p none = pure [])
    (hsome : ∀ e, p (some e) = (PR.prE d e).map fun x => [kw ++ " " ++ x]) :
    CL K (p o) (opt4LL d kw o) (toksOptE4 d noX kw o) := by
  cases o with
  | none => exact CL.of (SegP.nil _) (by rw [hnone]; rfl)
  | some e =>
    have he := h e rfl
    refine CL.of (SegP.one _ (((pc_cw kw hkw).sep he.pc).congr (by simp) (by simp [toksOptE4]))) ?_
    rw [hsome, he.pr]
    simp only [Except.map, opt4LL, List.map_cons, List.map_nil]
    refine congrArg Except.ok ?_
    congr 1
    apply ofList_eq
    have e1 : (" " : String).toList = [' '] := rfl
    simp [String.toList_append, String.toList_ofList, e1]

theorem cl_where (o : Option Expr) (h : ∀ e, o = some e → GE4 d K e) : CL K (PR.prOptWhere d o) (opt4LL d "WHERE" o) (toksOptE4 d noX "WHERE" o) :=
  cl_opt "WHERE" (by simp [clauseWords]) o h (PR.prOptWhere d) rfl (fun e => by
    simp only [PR.prOptWhere]
    have : ∀ x : String, s!"WHERE {x}" = "WHERE" ++ " " ++ x := by
      intro x; apply String.toList_inj.mp; simp [toString, String.toList_append]
    simp only [this])

theorem cl_having (o : Option Expr) (h : ∀ e, o = some e → GE4 d K e) : CL K (PR.prOptHaving d o) (opt4LL d "HAVING" o) (toksOptE4 d noX "HAVING" o) :=
  cl_opt "HAVING" (by simp [clauseWords]) o h (PR.prOptHaving d) rfl (fun e => by
    simp only [PR.prOptHaving]
    have : ∀ x : String, s!"HAVING {x}" = "HAVING" ++ " " ++ x := by
      intro x; apply String.toList_inj.mp; simp [toString, String.toList_append]
    simp only [this])

theorem gq_single (s : Select) (h : GS4 d K s) : GQ4 d K (.single s) where
  lx := by simpa [prQ2L, toksQ2] using h.lx
  pr := by simpa [PR.prQ, prQ2L] using h.pr
  q := by simpa [prQ2L] using h.q

theorem unionWords_good (ty : String) (h : unionTyOK4 d ty = true) :
    Pc K (unionWordsL ty) (unionWords ty) ∧ ∃ s, PR.wordsSrc Gen.unionTypes ty = .ok s ∧ s.toList = unionWordsL ty := by
  cases hf : Gen.unionTypes.find? (·.1 == ty) with
  | none =>
    simp only [unionTyOK4, unionWords, hf, Bool.and_eq_true] at h
    exact absurd h.2 (by simp)
  | some e =>
    simp only [unionWordsL, unionWords, hf]
    refine phrase_good union_words_plainL K.uws hf fun he => ?_
    simp only [unionTyOK4, unionWords, hf, he, List.map_nil, Bool.and_eq_true] at h
    exact absurd h.2 (by simp)

theorem un_all : ∀ (us : List (String × Select)), (∀ p ∈ us, unionTyOK4 d p.1 = true ∧ GS4 d K p.2) →
    SegP K '\n' (prUn2LL d us) (toksUn2 d noX us) ∧ PR.prUnions d us = .ok ((prUn2LL d us).map String.ofList)
  | [], _ => ⟨SegP.nil _, rfl⟩
  | (t, s) :: r, h => by
    have ht := (h (t, s) (by simp)).1
    have hs := (h (t, s) (by simp)).2
    simp only at ht hs
    obtain ⟨ih1, ih2⟩ := un_all r fun y hy => h y (by simp [hy])
    obtain ⟨hw, u, hu, hul⟩ := unionWords_good (d := d) (K := K) t ht
    refine ⟨?_, ?_⟩
    · have := SegP.cons nl hw (SegP.cons nl ⟨hs.lx, hs.q⟩ ih1)
      simpa [prUn2LL, toksUn2] using this
    · simp only [PR.prUnions, hu, hs.pr, ih2, bind, Except.bind, pure, Except.pure, prUn2LL, List.map_cons]
      rw [← hul, String.ofList_toList]

theorem gq_union (s : Select) (us : List (String × Select)) (hs : GS4 d K s) (hus : ∀ p ∈ us, unionTyOK4 d p.1 = true ∧ GS4 d K p.2) :
    GQ4 d K (.union (some []) s us) := by
  obtain ⟨u1, u2⟩ := un_all us hus
  have hp := (SegP.cons nl ⟨hs.lx, hs.q⟩ u1).pc nl
  refine ⟨by simpa [prQ2L, toksQ2] using hp.lx, ?_, by simpa [prQ2L] using hp.q⟩
  simp only [PR.prQ, PR.prWithPrefix, List.isEmpty_nil, if_true, hs.pr, u2, bind, Except.bind, pure, Except.pure, prQ2L]
  refine ok_ofList ?_
  have e0 : ("" : String).toList = [] := rfl
  rw [String.toList_append, e0, List.nil_append, toList_joinS]
  simp [String.toList_ofList]

end
end LL2
