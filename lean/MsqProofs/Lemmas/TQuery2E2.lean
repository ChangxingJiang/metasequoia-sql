import MsqProofs.Lemmas.TQuery2_0
/-! Larger nested fragment (TQ2), expression layer: record and node lemmas of the operator productions -/
open Lex PM Ast SR TP TP2
open TQ (tblTok unionWords lvlH isExists lvlH_eq lvlH_ge lvlH_of_le8 isOkPair tblOK)
namespace TQ2
variable (d : Gen.D) (ch : Expr → Bool)

def Head2 (e : Expr) (ts : List Tok) : Prop :=
  ∃ t ts', ts = t :: ts' ∧ hdTok t = true ∧ (lvlH e ≤ 10 → operandTok d t = true)
def NoComma (ts : List Tok) : Prop := ∀ t ∈ ts, t.equalsStr "," = false

structure RT4 (e : Expr) : Prop where
  own : Tower2 d (PR.lvl e) (toksE4 d ch e) e
  wrapped : Tower2 d 2 [grp (toksE4 d ch e)] e
  head : Head2 d e (toksE4 d ch e)
  nocomma : NoComma (toksE4 d ch e)
  len : (toksE4 d ch e).length ≤ tl4 e

variable {d} {ch}
theorem stop2_of {L : Nat} {t : Tok} (x : List Tok) (h : stopTok d L t = true) (ho : t.srcEqUp "OVER" = false) :
    stopLE2 d L (t :: x) = true := by
  simp only [stopLE2, stopLE, h, headIsOver, ho]; rfl
theorem grp_hdTok (cs : List Tok) : hdTok (grp cs) = true := TP2.grp_hdTok cs
theorem grp_nocomma (cs : List Tok) : NoComma [grp cs] := by
  intro t ht; simp only [List.mem_singleton] at ht; subst ht; rfl
theorem NoComma.append {a b : List Tok} (ha : NoComma a) (hb : NoComma b) : NoComma (a ++ b) := by
  intro t ht; rcases List.mem_append.1 ht with h | h; exact ha t h; exact hb t h

theorem RT4.at {e : Expr} (h : RT4 d ch e) (L : Nat) (hL : 2 ≤ L) : Tower2 d L (W4 d ch e L) e :=
  Tower2.at h.own h.wrapped _ L hL

theorem RT4.headW {e : Expr} (h : RT4 d ch e) (L : Nat) :
    ∃ t ts', W4 d ch e L = t :: ts' ∧ hdTok t = true ∧ ((lvlH e ≤ 10 ∨ L < PR.lvl e) → operandTok d t = true) :=
  TP2.headW h.head _ L






end TQ2
