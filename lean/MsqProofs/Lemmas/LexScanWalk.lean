import MsqProofs.Lemmas.LexRetain2Defs
import MsqProofs.Lemmas.LexWalk
/-!
# The scanner obligation, arranged for the kernel

`simCheckW` checks that the keys of every row ascend and runs the pass `walk` of `LexWalk.lean` over it;
`simCheckW_sound`: it implies `simCheck`.
-/
namespace Lex
open Spec

/-- `lookupN` for the second lookup of a retry, which in the generated tables is always in the row of `WAIT`.  The
kernel remembers what a closed term evaluates to: with the constant state written out, that lookup is evaluated once
for each code and not once for each cell. -/
noncomputable def lookupRetry (cfg : Cfg Gen.Cls) : S → Nat → Option Op
  | .WAIT, n => lookupF cfg .WAIT n
  | s, n => lookupF cfg s n

theorem lookupRetry_eq (cfg : Cfg Gen.Cls) (s : S) (n : Nat) : lookupRetry cfg s n = lookupN cfg s n := by
  unfold lookupRetry
  split <;> exact lookupF_eq ..

end Lex

namespace Scan
open Lex Spec

/-- `traceFeedN?` with the operation of the first lookup passed in -/
noncomputable def feedOp (cfg : Cfg Gen.Cls) (s : S) (o : Option Op) (n : Nat) : Option (S × List Ev) :=
  match opInfo cfg s o with
  | none => none
  | some (s1, true, e1) => some (s1, e1)
  | some (s1, false, e1) =>
    match opInfo cfg s1 (lookupRetry cfg s1 n) with
    | none => none
    | some (s2, _, e2) => some (s2, e1 ++ e2)

theorem feedOp_eq (cfg : Cfg Gen.Cls) (s : S) (n : Nat) :
    feedOp cfg s (lk (cfg.dflt s) (cfg.rows s) n) n = traceFeedN? cfg s n := by
  simp only [feedOp, lookupRetry_eq]
  rfl

/-- the cell of `simCheck` for every mode of `rho s`; the scanner's step is evaluated once -/
noncomputable def simCellW (cfg : Cfg Gen.Cls) (s : S) (o : Option Op) (n : Nat) : Bool :=
  match feedOp cfg s o n with
  | none => true
  | some (s', e) => (rho s).all fun μ =>
    match step μ n with
    | (μ', e') => e' == e && (rho s').contains μ'

noncomputable def simCheckW (cfg : Cfg Gen.Cls) : Bool :=
  allS.all fun s =>
    ascending ((cfg.rows s).map (·.1)) && walk (simCellW cfg s) (cfg.dflt s) codesAsc (cfg.rows s) &&
    (match stepInfo cfg s .eof with
      | none => true
      | some (_, _, e) => e == [])

theorem simCheckW_sound (cfg : Cfg Gen.Cls) (h : simCheckW cfg = true) : simCheck cfg = true := by
  simp only [simCheck, List.all_eq_true, Bool.and_eq_true]
  intro s hs
  have h1 := List.all_eq_true.mp h s hs
  simp only [Bool.and_eq_true] at h1
  obtain ⟨⟨hasc, hw⟩, he⟩ := h1
  refine ⟨fun μ hμ n hn => ?_, he⟩
  have hc := walk_sound _ _ codesAsc (cfg.rows s) codesAsc_asc hasc hw n (mem_codesAsc hn)
  rw [simCellW, feedOp_eq] at hc
  cases hf : traceFeedN? cfg s n with
  | none => rfl
  | some r =>
    rw [hf] at hc
    exact List.all_eq_true.mp hc μ hμ

end Scan
