import MsqProofs.Lemmas.TDmlR2
/-!
# T-parse for data-change statements: INSERT assembled, the WITH clause, queries under a WITH clause (C03 / C01)

* `insert_values_ok`, `insert_query_ok`: `pInsert` with the WITH slot already consumed;
* `with_ok`: `_parse_with_clause` on `WITH name AS (q), …` (every body a fragment query, parsed in its own closed child cursor);
* `single_w`: `_parse_single_select_statement` is parametric in the WITH clause it is handed (it only stores it), hence
  `query_ws`: `_parse_select_statement` with a WITH clause already consumed, on the rendering of a fragment query (`TC.stmt_core`) — the
  clause is recorded once: on the single SELECT, or on the union (whose branches keep the empty clause).
-/
open Lex PM Ast TP TS
open TP2 (qTok fnOK nmOK nm2OK isOkNoneS fnNameOK aggOK dotTok starTok)
open TQ (tblTok unionWords lvlH isExists isOkPair tblOK)
open TQ3
namespace TDM3
variable {d : Gen.D} {ch : Expr → Bool}

theorem kw_values : (opTok "VALUES").srcEqUp "PARTITION" = false ∧ (opTok "VALUES").has PAREN = false ∧ (opTok "VALUES").srcEq "." = false ∧
    (opTok "VALUES").srcEqUp "VALUES" = true ∧ (opTok "VALUES").size = 1 := by decide
theorem kw_select : (opTok "SELECT").srcEqUp "PARTITION" = false ∧ (opTok "SELECT").has PAREN = false ∧ (opTok "SELECT").srcEq "." = false ∧
    (opTok "SELECT").srcEqUp "VALUES" = false ∧ (opTok "SELECT").srcEqUp "SELECT" = true := by decide
theorem sizeL_target_part (tb : Bool) (h : InsertHead) : sizeL (toksPart d ch h.partition) ≤ sizeL (toksTarget d ch tb h) := by
  simp only [toksTarget, sizeL_append, sizeL_cons]; omega
theorem insert_values_ok (tb : Bool) (h : InsertHead) (ws : List WithTable) (hw : h.withs = some ws) (hh : HeadRec d ch h)
    (rows : List (List Expr)) (hrows : ∀ r ∈ rows, ∀ e ∈ r, RT4 d ch e) (rest : List Tok) (hr : Bd4 d 11 rest = true) :
    OkAt (fun f => pInsert d f (some ws) (toksTarget d ch tb h ++ opTok "VALUES" :: (toksRows d ch rows ++ rest)))
      (20 * sizeL (toksTarget d ch tb h ++ opTok "VALUES" :: toksRows d ch rows) + 2) (.insertValues h rows, rest) := by
  obtain ⟨k1, k2, k3, k4, k5⟩ := kw_values
  intro f hf'
  simp only [sizeL_append, sizeL_cons, k5] at hf'
  have hp := sizeL_target_part (d := d) (ch := ch) tb h
  have h1 := insert_target tb h ws hw hh (opTok "VALUES" :: (toksRows d ch rows ++ rest))
    (by simpa [searchStrUp] using k1) (by simpa [searchMark] using k2) (by simpa [searchStr] using k3) f (by omega)
  have h2 := valuesLoop_ok rest hr rows hrows [] f ((opTok "VALUES" :: (toksRows d ch rows ++ rest)).length + 1) (by omega)
    (by have := length_rows (d := d) (ch := ch) rows; simp only [List.length_cons, List.length_append]; omega)
  have hs : searchStrUp (opTok "VALUES" :: (toksRows d ch rows ++ rest)) "VALUES" = true := by simpa [searchStrUp] using k4
  show pInsert d f (some ws) _ = _
  rw [h1]
  unfold insertBody
  simp only [hs, if_true, List.drop_succ_cons, List.drop_zero, h2, List.nil_append]
theorem insert_query_ok (tb : Bool) (h : InsertHead) (ws : List WithTable) (hw : h.withs = some ws) (hh : HeadRec d ch h)
    (q : Query) (hq : FragQ3 d q = true) (rest : List Tok) (hr : stopsQ3 d rest = true) :
    OkAt (fun f => pInsert d f (some ws) (toksTarget d ch tb h ++ (toksQ3 d ch q ++ rest)))
      (20 * sizeL (toksTarget d ch tb h ++ toksQ3 d ch q) + 9) (.insertSelect h q, rest) := by
  obtain ⟨k1, k2, k3, k4, k5⟩ := kw_select
  obtain ⟨x, hx⟩ := toksQ3_head (ch := ch) q hq
  intro f hf'
  simp only [sizeL_append] at hf'
  have hp := sizeL_target_part (d := d) (ch := ch) tb h
  have h1 := insert_target tb h ws hw hh (toksQ3 d ch q ++ rest)
    (by simpa [hx, searchStrUp] using k1) (by simpa [hx, searchMark] using k2) (by simpa [hx, searchStr] using k3) f (by omega)
  have h2 := stmt_some (ch := ch) q hq rest hr f (by omega)
  have hs1 : searchStrUp (toksQ3 d ch q ++ rest) "VALUES" = false := by simpa [hx, searchStrUp] using k4
  have hs2 : searchStrUp (toksQ3 d ch q ++ rest) "SELECT" = true := by simpa [hx, searchStrUp] using k5
  simp only at h2
  show pInsert d f (some ws) _ = _
  rw [h1]
  unfold insertBody
  simp only [hs1, Bool.false_eq_true, if_false, hs2, if_true, h2]

/-! ### the WITH clause -/
theorem kw_with : (opTok "WITH").srcEqUp "WITH" = true ∧ (opTok "AS").equalsStr "AS" = true ∧ (opTok "WITH").size = 1 ∧ (opTok "AS").size = 1 := by decide
theorem withTable_ok (w : WithTable) (hw : withOK d w = true) (x : List Tok) :
    OkAt (fun f => pWithTable d f (toksWith d ch w ++ x)) (20 * sizeL (toksWith d ch w)) (w, x) := by
  obtain ⟨n, q⟩ := w
  obtain ⟨_, k2, _, k4⟩ := kw_with
  simp only [withOK, Bool.and_eq_true, beq_iff_eq] at hw
  obtain ⟨hn, hq⟩ := hw
  intro f hf'
  simp only [toksWith, sizeL_cons, size_grp, k4, sizeL] at hf'
  have := tok_size_pos (qTok n)
  obtain ⟨g, rfl⟩ : ∃ g, f = g + 2 := ⟨f - 2, by omega⟩
  have h1 := stmt_some (ch := ch) q hq [] rfl g (by omega)
  simp only [List.append_nil] at h1
  unfold pWithTable
  simp only [toksWith, List.cons_append, List.nil_append, matchSeq, k2, if_true]
  unfold pWithBody
  simp only [children_grp, h1, closed, hn]
theorem toksWithsTail_eq (ws : List WithTable) : toksWithsTail d ch ws = TC.commaTail (toksWith d ch) ws := by
  induction ws with
  | nil => rfl
  | cons w r ih => simp only [toksWithsTail, TC.commaTail, ih]
theorem withTables_ok (fol : List Tok) (hc : searchStr fol "," = false) :
    ∀ (ws : List WithTable), (∀ w ∈ ws, withOK d w = true) → ∀ acc,
    OkAt (fun f => pWithTables d f acc (toksWithsTail d ch ws ++ fol)) (20 * sizeL (toksWithsTail d ch ws) + 1) (acc ++ ws, fol) := by
  intro ws hws acc
  rw [toksWithsTail_eq]
  exact TC.commaLoop_sz (fun _ _ _ h => by simp [pWithTables, h]) (fun _ _ _ _ _ h h' => by rw [pWithTables, if_pos h, h'])
    (C := fun _ => True) (fun _ => trivial) (toksWith d ch) 0 fol trivial hc ws (fun w hw fol' _ => withTable_ok w (hws w hw) fol') acc
/-- `_parse_with_clause`: the tables in order; `fol` (the statement proper) starts neither with `,` nor with `WITH` -/
theorem with_ok (ws : List WithTable) (hws : withsOK d (some ws) = true) (fol : List Tok)
    (hc : searchStr fol "," = false) (hw : searchStrUp fol "WITH" = false) :
    OkAt (fun f => pWith d f (toksWiths d ch (some ws) ++ fol)) (20 * sizeL (toksWiths d ch (some ws)) + 1) (ws, fol) := by
  obtain ⟨k1, _, k3, _⟩ := kw_with
  simp only [withsOK, List.all_eq_true] at hws
  intro f hf'
  obtain ⟨g, rfl⟩ : ∃ g, f = g + 1 := ⟨f - 1, by omega⟩
  cases ws with
  | nil => simp [toksWiths, pWith, hw]
  | cons w r =>
    simp only [toksWiths, sizeL_cons, sizeL_append, k3] at hf'
    have h1 := withTable_ok (ch := ch) w (hws w (by simp)) (toksWithsTail d ch r ++ fol) g (by omega)
    have h2 := withTables_ok (ch := ch) fol hc r (fun u hu => hws u (by simp [hu])) [w] g (by omega)
    have hs : searchStrUp (opTok "WITH" :: (toksWith d ch w ++ (toksWithsTail d ch r ++ fol))) "WITH" = true := by simpa [searchStrUp] using k1
    simp only at h1 h2
    unfold pWith
    simp only [toksWiths, List.cons_append, List.append_assoc, hs, if_true, List.drop_succ_cons, List.drop_zero, h1]
    simpa using h2

/-! ### `_parse_single_select_statement` only stores the WITH clause it is handed -/
def mapR {α β : Type} (g : α → β) : R α → R β
  | .ok (a, r) => .ok (g a, r)
  | .error e => .error e
theorem selectTail_w (ws : List WithTable) (f : Nat) (dist : Bool) (cols : List (Expr × Option String)) (fr : Option (List FromTable))
    (lats : List Lateral) (js : List Join) (ts : List Tok) :
    pSelectTail d f ws dist cols fr lats js ts = mapR (setW ws) (pSelectTail d f [] dist cols fr lats js ts) := by
  cases f with
  | zero => rfl
  | succ g =>
    simp only [pSelectTail]
    cases pWhereGroup d g ts with
    | error e => rfl
    | ok p1 =>
      obtain ⟨⟨wh, gb⟩, r2⟩ := p1
      simp only []
      cases pHavingOrder d g r2 with
      | error e => rfl
      | ok p2 =>
        obtain ⟨⟨hv, ob⟩, r4⟩ := p2
        simp only []
        cases pHiveClauses d g r4 with
        | error e => rfl
        | ok p3 =>
          obtain ⟨⟨sb, db, cb⟩, r4'⟩ := p3
          simp only []
          cases pLimit r4' with
          | error e => rfl
          | ok p4 => obtain ⟨lm, r5⟩ := p4; rfl
theorem selectRest_w (ws : List WithTable) (f : Nat) (dist : Bool) (cols : List (Expr × Option String)) (same : Bool) (outer inner : List Tok) :
    pSelectRest d f ws dist cols same outer inner = mapR (setW ws) (pSelectRest d f [] dist cols same outer inner) := by
  cases f with
  | zero => rfl
  | succ g =>
    simp only [pSelectRest]
    cases pFromOpt d g inner with
    | error e => rfl
    | ok p1 =>
      obtain ⟨fr, r1⟩ := p1
      simp only []
      cases pLaterals d g same outer [] r1 with
      | error e => rfl
      | ok p2 =>
        obtain ⟨lats, r1'⟩ := p2
        simp only []
        cases pJoins d g same outer [] r1' with
        | error e => rfl
        | ok p3 =>
          obtain ⟨js, r2⟩ := p3
          simp only []
          exact selectTail_w ws g dist cols fr lats js r2
theorem selectBody_w (ws : List WithTable) (f : Nat) (same : Bool) (outer inner : List Tok) :
    pSelectBody d f ws same outer inner = mapR (setW ws) (pSelectBody d f [] same outer inner) := by
  cases f with
  | zero => rfl
  | succ g =>
    simp only [pSelectBody]
    cases matchSeq inner ["SELECT"] with
    | error e => rfl
    | ok p0 =>
      obtain ⟨u, r0⟩ := p0
      simp only []
      cases pSelectCol d g (moveStrUp r0 "DISTINCT").2 with
      | error e => rfl
      | ok p1 =>
        obtain ⟨c, r1⟩ := p1
        simp only []
        cases pSelectCols d g [c] r1 with
        | error e => rfl
        | ok p2 =>
          obtain ⟨cols, r2⟩ := p2
          simp only []
          exact selectRest_w ws g _ cols same outer r2
/-- only the unbracketed branch of `pSingle` is walked (`hts`; not `pSingleParen`): enough, a fragment rendering starts with `SELECT` -/
theorem single_w (ws : List WithTable) (f : Nat) (ts : List Tok) (hts : searchMark ts PAREN = false) :
    pSingle d f ws ts = mapR (setW ws) (pSingle d f [] ts) := by
  cases f with
  | zero => rfl
  | succ g =>
    simp only [pSingle, hts, Bool.not_false, if_true]
    exact selectBody_w ws g true [] ts

theorem selOK_w (ws : List WithTable) {s : Select} (hs : SRec d ch s) : TC.SelOK d (Bd4 d 11 · = true) ws (setW ws s) (toksS5 d ch s) := by
  obtain ⟨x, hx⟩ := hs.head
  refine ⟨fun rest hr f hf => ?_, x, hx⟩
  have hp : searchMark (toksS5 d ch s ++ rest) PAREN = false := by simpa [hx, searchMark] using kw_select.2.1
  have h : pSingle d f [] (toksS5 d ch s ++ rest) = .ok (s, rest) := hs.parse rest hr f hf
  show pSingle d f ws _ = _
  rw [single_w ws f _ hp, h]
  rfl
theorem setWiths_setW (ws : List WithTable) {s : Select} (hs : SRec d ch s) : setWiths (setW ws s) = s := by
  obtain ⟨dist, c, cs, fr, lats, js, wh, gb, hv, ob, sb, db, cb, lm, rfl, _⟩ := hs
  rfl
theorem branches_w (ws : List WithTable) : ∀ {us : List (String × Select)}, UnRec d ch us →
    TC.Branches d (Bd4 d 11 · = true) ws (us.map fun p => (p.1, setW ws p.2)) (toksUn2 d ch us)
  | [], _ => .nil
  | (_, _) :: _, h => .cons (setOp h.1) (selOK_w ws h.2.1) (branches_w ws h.2.2)
theorem unrec_setWiths (ws : List WithTable) : ∀ {us : List (String × Select)}, UnRec d ch us →
    (us.map (fun p => (p.1, setW ws p.2))).map (fun p => (p.1, PM.setWiths p.2)) = us
  | [], _ => rfl
  | (t, s) :: r, h => by
    simp only [List.map_cons, setWiths_setW ws h.2.1, unrec_setWiths ws h.2.2]
/-- `_parse_select_statement` with a WITH clause already consumed -/
theorem stmt_w (ws : List WithTable) (s : Select) (us : List (String × Select))
    (hs : SRec d ch s) (hus : UnRec d ch us) (rest : List Tok) (hr : stopsQ3 d rest = true) :
    OkAt (fun f => pSelectStmt d f (some ws) (toksS5 d ch s ++ (toksUn2 d ch us ++ rest))) (20 * sizeL (toksS5 d ch s ++ toksUn2 d ch us) + 9)
      (if us.isEmpty then .single (setW ws s) else .union (some ws) s us, rest) := by
  simp only [stopsQ3, Bool.and_eq_true, Bool.not_eq_true'] at hr
  have := TC.stmt_core (some ws) rfl (selOK_w ws hs) (branches_w ws hus) hr.1 hr.2
  rwa [setWiths_setW ws hs, unrec_setWiths ws hus, List.isEmpty_map] at this
theorem query_ws (ws : List WithTable) (q : Query) (hq : FragQ3 d q = true) (rest : List Tok) (hr : stopsQ3 d rest = true) :
    OkAt (fun f => pSelectStmt d f (some ws) (toksQ3 d ch q ++ rest)) (20 * sizeL (toksQ3 d ch q) + 9) (setQW ws q, rest) := by
  cases q with
  | single s =>
    simp only [FragQ3] at hq
    have := stmt_w ws s [] (srec_of (ch := ch) s hq) trivial rest hr
    simpa [toksQ3, toksUn2, setQW] using this
  | union w s us =>
    cases w with
    | none => simp [FragQ3] at hq
    | some l =>
      cases l with
      | cons _ _ => simp [FragQ3] at hq
      | nil =>
        simp only [FragQ3, Bool.and_eq_true, Bool.not_eq_true', Bool.true_and] at hq
        have := stmt_w ws s us (srec_of (ch := ch) s hq.1.1) (unrec_of us hq.1.2) rest hr
        simpa [toksQ3, hq.2, setQW] using this

theorem toksQ_stripW (q : Query) : toksQ3 d ch (stripW q) = toksQ3 d ch q := by
  cases q with
  | single s => obtain ⟨w, dist, cols, fr, lats, js, wh, gb, hv, ob, sb, db, cb, lm⟩ := s; simp only [stripW, setQW, setW, toksQ3, toksS5]
  | union w s us => simp only [stripW, setQW, toksQ3]
theorem setQW_stripW (q : Query) (ws : List WithTable) (h : withsOf q = some ws) : setQW ws (stripW q) = q := by
  cases q with
  | single s =>
    obtain ⟨w, dist, cols, fr, lats, js, wh, gb, hv, ob, sb, db, cb, lm⟩ := s
    simp only [withsOf] at h; subst h
    rfl
  | union w s us =>
    simp only [withsOf] at h; subst h
    rfl

end TDM3
